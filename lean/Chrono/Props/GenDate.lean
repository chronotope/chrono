/-
  C01, code translation tie: the definitions that tools/extractors/rust2lean.py regenerates on every run from
  src/naive/internals.rs, src/naive/date/mod.rs, src/naive/isoweek.rs and src/traits.rs
  (lean/Chrono/Extracted/Gen.lean, `Chrono.Gen.naive_internals.*`, `naive_date.*`, `naive_isoweek.*`, `traits.*`)
  equal the hand-written model lean/Chrono/Model/Date.lean for all arguments of the machine types.  The
  hypotheses state the argument ranges (`u32` / `i32` / 4-bit year flags) and, for `from_yof`, the one region
  where the model is deliberately stricter than the source.  A `NaiveDate` is its packed word `yof`
  (`Date.yof` in the model); `rmap` maps a `Res` result, `Option.map` an `Option` result.
-/
import Chrono.Proofs.GenDateL
namespace Chrono.Props.GenDate
open Chrono Chrono.M Chrono.Extracted Chrono.Extracted.DateOps Chrono.Proofs.GenL Chrono.Proofs.GenDateL

theorem gen_from_year_mod_400_eq (ym : Int) (h : 0 ≤ ym ∧ ym < 400) :
    Gen.naive_internals.YearFlags.from_year_mod_400 ym = .ok (YearFlags.from_year_mod_400 ym : Nat) := by
  unfold Gen.naive_internals.YearFlags.from_year_mod_400
  have e : GenRt.asUsize ym = ym := by unfold GenRt.asUsize GenRt.asU64; omega
  have hl : YEAR_TO_FLAGS.length = 400 := by decide +kernel
  rw [e, idxN_ok (by omega)]
  rfl

theorem gen_from_year_eq (year : Int) :
    Gen.naive_internals.YearFlags.from_year year = .ok (YearFlags.from_year year : Nat) :=
  gen_from_year_mod_400_eq (year % 400) (by omega)

theorem gen_ndays_eq : ∀ f : Nat, f < 256 →
    Gen.naive_internals.YearFlags.ndays f = .ok (YearFlags.ndays f : Nat) := by decide +kernel

theorem gen_isoweek_delta_eq : ∀ f : Nat, f < 256 →
    Gen.naive_internals.YearFlags.isoweek_delta f = .ok (YearFlags.isoweek_delta f : Nat) := by decide +kernel

theorem gen_nisoweeks_eq : ∀ f : Nat, f < 32 →
    Gen.naive_internals.YearFlags.nisoweeks f = .ok (YearFlags.nisoweeks f : Nat) := by decide +kernel

theorem gen_mdf_new_eq (month day flags : Nat) (hm : month ≤ 4294967295) (hd : day ≤ 4294967295) (hf : flags < 16) :
    Gen.naive_internals.Mdf.new month day flags = (Mdf.new month day flags).map Int.ofNat := by
  unfold Gen.naive_internals.Mdf.new Mdf.new
  refine ite_rmap (by omega) (fun h => ?_) fun _ => rfl
  have e1 : GenRt.lorU ((month : Int) * 512 % 4294967296) ((day : Int) * 16 % 4294967296) = month * 512 + day * 16 := by
    rw [lorU_field 4 5 _ _ (by omega) (by omega) (by omega) (by omega) (by omega)]; omega
  rw [e1, lorU_field 0 4 _ _ (by omega) (by omega) (by omega) (by omega) (by omega)]
  simp only [Option.map]
  congr 1

theorem gen_mdf_from_ol_eq (ol : Int) (flags : Nat) (hf : flags < 16) :
    Gen.naive_internals.Mdf.from_ol ol flags = rmap Int.ofNat (Mdf.from_ol ol.toNat flags) := by
  unfold Gen.naive_internals.Mdf.from_ol Mdf.from_ol
  have hM : MAX_OL = 732 := rfl
  by_cases h : 1 < ol ∧ ol ≤ 732
  · have hl := tbl_ol.1
    have hv := tbl_ol.2 ol.toNat (by omega)
    have e : GenRt.asUsize ol = ol := by unfold GenRt.asUsize GenRt.asU64; omega
    rw [if_neg (by omega), if_pos (by omega), e, idxN_ok (by omega), bind_ok,
      Proofs.asU32_id (by omega) (by omega)]
    generalize OL_TO_MDL.getD ol.toNat 0 = v at hv
    have e2 : ol + Int.ofNat v = ((ol.toNat + v : Nat) : Int) := by simp only [Int.ofNat_eq_natCast]; omega
    rw [e2, ckU32_ok (by omega), bind_ok, lorU_bit3 _ _ (by omega) hf]
    rfl
  · rw [if_pos (by omega), if_neg (by omega)]; rfl

theorem gen_mdf_month_eq (mdf : Nat) : Gen.naive_internals.Mdf.month mdf = (Mdf.month mdf : Nat) := by
  unfold Gen.naive_internals.Mdf.month Mdf.month
  show (mdf : Int) / 512 = ((mdf / 512 : Nat) : Int)
  omega

theorem gen_mdf_day_eq (mdf : Nat) : Gen.naive_internals.Mdf.day mdf = (Mdf.day mdf : Nat) := by
  unfold Gen.naive_internals.Mdf.day Mdf.day
  show ((mdf : Int) / 16) % 32 = ((mdf / 16 % 32 : Nat) : Int)
  omega

theorem gen_mdf_with_month_eq (mdf month : Nat) (h2 : month ≤ 4294967295) :
    Gen.naive_internals.Mdf.with_month mdf month = (Mdf.with_month mdf month).map Int.ofNat := by
  unfold Gen.naive_internals.Mdf.with_month Mdf.with_month
  refine ite_rmap (by omega) (fun _ => rfl) fun h => ?_
  simp only [Option.map]
  rw [lorU_field 9 4 _ _ (by omega) (by omega) (by omega) (by omega) (by omega)]
  congr 1; simp only [Int.ofNat_eq_natCast]; omega

theorem gen_mdf_with_day_eq (mdf day : Nat) (h1 : mdf ≤ 4294967295) (h2 : day ≤ 4294967295) :
    Gen.naive_internals.Mdf.with_day mdf day = (Mdf.with_day mdf day).map Int.ofNat := by
  unfold Gen.naive_internals.Mdf.with_day Mdf.with_day
  refine ite_rmap (by omega) (fun _ => rfl) fun h => ?_
  simp only [Option.map]
  rw [lorU_field 4 5 _ _ (by omega) (by omega) (by omega) (by omega) (by omega)]
  congr 1; simp only [Int.ofNat_eq_natCast]; omega

theorem gen_mdf_with_flags_eq (mdf flags : Nat) (h1 : mdf ≤ 4294967295) (hf : flags < 16) :
    Gen.naive_internals.Mdf.with_flags mdf flags = (Mdf.with_flags mdf flags : Nat) := by
  unfold Gen.naive_internals.Mdf.with_flags Mdf.with_flags
  simp only []
  rw [lorU_field 0 4 _ _ (by omega) (by omega) (by omega) (by omega) (by omega)]
  omega

theorem gen_mdf_year_flags_eq (mdf : Nat) :
    Gen.naive_internals.Mdf.year_flags mdf = (Mdf.year_flags mdf : Nat) := by
  unfold Gen.naive_internals.Mdf.year_flags Mdf.year_flags asU8; omega

theorem gen_mdf_ordinal_eq (mdf : Nat) (h1 : mdf ≤ 4294967295) :
    Gen.naive_internals.Mdf.ordinal mdf = rmap (Option.map Int.ofNat) (Mdf.ordinal mdf) := by
  unfold Gen.naive_internals.Mdf.ordinal Mdf.ordinal
  refine mdl_lookup mdf _ (fun v => (mdf / 8 - v) / 2) fun v hz hv => ?_
  dsimp only
  rw [show asU8 (v : Int) = v by unfold asU8; omega, ckU32_ok (by omega), bind_ok]
  congr 2; omega

theorem gen_mdf_ordinal_and_flags_eq (mdf : Nat) (h1 : mdf ≤ 4294967295) :
    Gen.naive_internals.Mdf.ordinal_and_flags mdf = rmap (Option.map Int.ofNat) (Mdf.ordinal_and_flags mdf) := by
  unfold Gen.naive_internals.Mdf.ordinal_and_flags Mdf.ordinal_and_flags
  refine mdl_lookup mdf _ (fun v => mdf - v * 8) fun v hz hv => ?_
  dsimp only
  rw [Proofs.asI32_id (by omega) (by omega), Proofs.asI32_id (by omega) (by omega), ckI32_ok (by omega)]
  show Res.ok (some _) = Res.ok (some ((mdf - v * 8 : Nat) : Int))
  congr 2; omega
theorem gen_cycle_to_yo_eq (cycle : Nat) (h : cycle < 146097) :
    Gen.naive_date.cycle_to_yo cycle =
      .ok (((Date.cycle_to_yo cycle).1 : Nat), ((Date.cycle_to_yo cycle).2 : Nat)) := by
  unfold Gen.naive_date.cycle_to_yo Date.cycle_to_yo
  obtain ⟨hl, h0, hb⟩ := tbl_yd
  have hv := hb (cycle / 365) (by omega)
  simp only []
  rw [idxN_ok (by omega), bind_ok, show ((cycle : Int) / 365).toNat = cycle / 365 by omega]
  by_cases hc : cycle % 365 < YEAR_DELTAS.getD (cycle / 365) 0
  · have hne : cycle / 365 ≠ 0 := by
      intro hz; rw [hz, h0] at hc; omega
    have hv2 := hb (cycle / 365 - 1) (by omega)
    rw [if_pos (by simp only [Int.ofNat_eq_natCast]; omega), if_pos hc, ckU32_ok (by omega), bind_ok,
      idxN_ok (by omega), bind_ok, show ((cycle : Int) / 365 - 1).toNat = cycle / 365 - 1 by omega]
    generalize YEAR_DELTAS.getD (cycle / 365 - 1) 0 = v2 at hv2
    simp only [Int.ofNat_eq_natCast]
    rw [ckU32_ok (by omega), bind_ok, ckU32_ok (by omega), bind_ok, ckU32_ok (by omega), bind_ok]
    congr 2 <;> omega
  · rw [if_neg (by simp only [Int.ofNat_eq_natCast]; omega), if_neg hc]
    generalize YEAR_DELTAS.getD (cycle / 365) 0 = v at hv hc
    simp only [Int.ofNat_eq_natCast]
    rw [ckU32_ok (by omega), bind_ok, ckU32_ok (by omega), bind_ok]
    congr 2 <;> omega

theorem gen_yo_to_cycle_eq (ym ordinal : Nat) (h1 : ym ≤ 400) (h2 : 1 ≤ ordinal) (h3 : ordinal ≤ 4294000000) :
    Gen.naive_date.yo_to_cycle ym ordinal = .ok (Date.yo_to_cycle ym ordinal : Nat) := by
  unfold Gen.naive_date.yo_to_cycle Date.yo_to_cycle
  obtain ⟨hl, h0, hb⟩ := tbl_yd
  have hv := hb ym (by omega)
  rw [ckU32_ok (by omega), bind_ok, idxN_ok (by omega), bind_ok, Int.toNat_natCast]
  generalize YEAR_DELTAS.getD ym 0 = v at hv
  simp only [Int.ofNat_eq_natCast]
  rw [ckU32_ok (by omega), bind_ok, ckU32_ok (by omega), bind_ok, ckU32_ok (by omega)]
  congr 1; omega

/-- `div_mod_floor(val, div)` for a positive divisor is Lean's `(/, %)`; never panics -/
theorem gen_div_mod_floor_eq (a b : Int) (hb : 0 < b) (ha : -2147483648 ≤ a ∧ a ≤ 2147483647) :
    Gen.naive_date.div_mod_floor a b = .ok (a / b, a % b) := by
  unfold Gen.naive_date.div_mod_floor
  have h1 : a / b ≤ 2147483647 := by
    by_cases h : a < 0
    · have := Int.ediv_neg_of_neg_of_pos h hb; omega
    · have := Int.ediv_le_self b (Int.not_lt.mp h); omega
  have h2 : -2147483648 ≤ a / b := by
    by_cases h : a < 0
    · have h3 : a * b ≤ a := by
        have := Int.mul_le_mul_of_nonpos_left (a := a) (b := b) (c := 1) (by omega) (by omega)
        rwa [Int.mul_one] at this
      have := Int.le_ediv_of_mul_le hb h3; omega
    · have := Int.ediv_nonneg (Int.not_lt.mp h) (Int.le_of_lt hb); omega
  rw [edivCk_ok (by omega) ⟨h2, h1⟩, bind_ok, emodCk_ok (by omega) (by omega), bind_ok]
theorem gen_from_yof_eq (yof : Int) (h : yof / 8 % 1024 ≤ 732) :
    Gen.naive_date.NaiveDate.from_yof yof = rmap Date.yof (Date.from_yof yof) := by
  unfold Gen.naive_date.NaiveDate.from_yof Date.from_yof
  have hM : MAX_OL = 732 := rfl
  simp only []
  repeat' split
  all_goals (first | rfl | (exfalso; omega))

/-- outside that hypothesis the hand-written model is stricter than the source: the second assertion of
`from_yof` compares `(yof & OL_MASK) >> 3` (at most 1023) with the date module's `MAX_OL = 366 << 4`, so it
never fires; the model asserts `ol ≤ 732`. -/
theorem gen_from_yof_model_stricter :
    Gen.naive_date.NaiveDate.from_yof 5865 = .ok 5865 ∧ Date.from_yof 5865 = .panic := by decide

theorem gen_yof_eq (d : Date) : Gen.naive_date.NaiveDate.yof d.yof = d.yof := rfl

theorem gen_year_eq (d : Date) : Gen.naive_date.NaiveDate.year d.yof = d.year := rfl

theorem gen_ordinal_eq (d : Date) : Gen.naive_date.NaiveDate.ordinal d.yof = d.ordinal := by
  unfold Gen.naive_date.NaiveDate.ordinal Gen.naive_date.NaiveDate.yof Date.ordinal asU32; omega

theorem gen_leap_year_eq (d : Date) : Gen.naive_date.NaiveDate.leap_year d.yof = d.leap_year := by
  unfold Gen.naive_date.NaiveDate.leap_year Gen.naive_date.NaiveDate.yof Date.leap_year
  by_cases h : d.yof / 8 % 2 = 0
  · simp [h]
  · have : ¬ (d.yof / 8 % 2 * 8 = 0) := by omega
    simp [h, this]

theorem gen_year_flags_eq (d : Date) : Gen.naive_date.NaiveDate.year_flags d.yof = (d.year_flags : Nat) := by
  unfold Gen.naive_date.NaiveDate.year_flags Gen.naive_date.NaiveDate.yof Date.year_flags Date.flags asU8
  omega

theorem gen_weekday_eq (d : Date) :
    Gen.naive_date.NaiveDate.weekday d.yof = .ok (d.weekday.toNat : Nat) := by
  unfold Gen.naive_date.NaiveDate.weekday Gen.naive_date.NaiveDate.yof Date.weekday Date.ordinal
  rw [ckI32_ok (by omega), bind_ok]
  have e : Int.tmod (d.yof / 16 % 512 * 16 / 16 + d.yof % 8) 7 = (d.yof / 16 % 512 + d.yof % 8) % 7 := by
    rw [Proofs.tmod_eq]; omega
  simp only [e]
  generalize hn : (d.yof / 16 % 512 + d.yof % 8) % 7 = n
  have : n = 0 ∨ n = 1 ∨ n = 2 ∨ n = 3 ∨ n = 4 ∨ n = 5 ∨ n = 6 := by omega
  rcases this with h | h | h | h | h | h | h <;> subst h <;> rfl

theorem gen_mdf_eq (d : Date) : Gen.naive_date.NaiveDate.mdf d.yof = rmap Int.ofNat d.mdf := by
  unfold Gen.naive_date.NaiveDate.mdf Date.mdf
  rw [gen_year_flags_eq]
  have e : Gen.naive_date.NaiveDate.yof d.yof / 8 % 1024 * 8 / 8 = (d.ol : Nat) := by
    unfold Gen.naive_date.NaiveDate.yof Date.ol; omega
  rw [e]
  have := gen_mdf_from_ol_eq (d.ol : Nat) d.year_flags (by unfold Date.year_flags Date.flags; omega)
  rwa [Int.toNat_natCast] at this

theorem gen_month_eq (d : Date) : Gen.naive_date.NaiveDate.month d.yof = rmap Int.ofNat d.month := by
  unfold Gen.naive_date.NaiveDate.month Date.month
  rw [gen_mdf_eq]
  cases d.mdf with
  | panic => rfl
  | ok m => exact congrArg Res.ok (gen_mdf_month_eq m)

theorem gen_day_eq (d : Date) : Gen.naive_date.NaiveDate.day d.yof = rmap Int.ofNat d.day := by
  unfold Gen.naive_date.NaiveDate.day Date.day
  rw [gen_mdf_eq]
  cases d.mdf with
  | panic => rfl
  | ok m => exact congrArg Res.ok (gen_mdf_day_eq m)
theorem gen_from_ordinal_and_flags_eq (year : Int) (ordinal flags : Nat) (ho : ordinal ≤ 4294967295) :
    Gen.naive_date.NaiveDate.from_ordinal_and_flags year ordinal flags =
      rmap (Option.map Date.yof) (Date.from_ordinal_and_flags year ordinal flags) := by
  unfold Gen.naive_date.NaiveDate.from_ordinal_and_flags Date.from_ordinal_and_flags
  have hF := from_year_lt year
  have hD : DATE_MAX_OL = 5856 := rfl
  refine ite_rmap Iff.rfl (fun _ => rfl) fun h1 => ?_
  refine ite_rmap (by omega) (fun _ => rfl) fun h2 => ?_
  rw [gen_from_year_eq, bind_ok]
  refine ite_rmap (by omega) (fun _ => rfl) fun h3 => ?_
  dsimp only
  rw [yof_pack year ordinal flags (by omega) (by omega) (by omega)]
  refine ite_rmap (by omega) (fun h4 => ?_) (fun _ => rfl)
  rw [gen_from_yof_eq _ (by omega)]
  cases Date.from_yof (year * 8192 + ↑ordinal * 16 + ↑flags) <;> rfl
theorem gen_from_yo_opt_eq (year : Int) (ordinal : Nat) (ho : ordinal ≤ 4294967295) :
    Gen.naive_date.NaiveDate.from_yo_opt year ordinal =
      rmap (Option.map Date.yof) (Date.from_yo_opt year ordinal) := by
  unfold Gen.naive_date.NaiveDate.from_yo_opt Date.from_yo_opt
  rw [gen_from_year_eq, bind_ok]
  exact gen_from_ordinal_and_flags_eq year ordinal _ ho

theorem gen_from_mdf_eq (year : Int) (mdf : Nat) (hm : mdf ≤ 4294967295) :
    Gen.naive_date.NaiveDate.from_mdf year mdf = rmap (Option.map Date.yof) (Date.from_mdf year mdf) := by
  unfold Gen.naive_date.NaiveDate.from_mdf Date.from_mdf
  refine ite_rmap Iff.rfl (fun _ => rfl) fun h1 => ?_
  rw [gen_mdf_ordinal_and_flags_eq mdf hm]
  cases hq : Mdf.ordinal_and_flags mdf with
  | panic => rfl
  | ok o =>
    cases o with
    | none => rfl
    | some oaf =>
      have hr := mdf_oaf_range mdf oaf hq
      show Res.bind (Gen.naive_date.NaiveDate.from_yof (GenRt.lorI 32 asI32 (asI32 (year * 8192)) (oaf : Int)))
        (fun r3 => Res.ok (some r3)) = rmap (Option.map Date.yof)
          (match Date.from_yof (year * 8192 + oaf) with | .ok d => .ok (some d) | .panic => .panic)
      rw [Proofs.asI32_id (by omega) (by omega),
        lorI_field 0 13 _ _ (by omega) (by omega) (by omega) (by omega) (by omega) (by omega),
        gen_from_yof_eq _ (by omega)]
      cases Date.from_yof (year * 8192 + ↑oaf) <;> rfl

theorem gen_from_ymd_opt_eq (year : Int) (month day : Nat) (hm : month ≤ 4294967295) (hd : day ≤ 4294967295) :
    Gen.naive_date.NaiveDate.from_ymd_opt year month day =
      rmap (Option.map Date.yof) (Date.from_ymd_opt year month day) := by
  unfold Gen.naive_date.NaiveDate.from_ymd_opt Date.from_ymd_opt
  have hF := from_year_lt year
  rw [gen_from_year_eq, bind_ok, gen_mdf_new_eq month day _ hm hd hF]
  simp only []
  cases hq : Mdf.new month day (YearFlags.from_year year) with
  | none => rfl
  | some mdf =>
    have := mdf_new_range _ _ _ _ hF hq
    exact gen_from_mdf_eq year mdf (by omega)
theorem gen_from_num_days_from_ce_opt_eq (days : Int) (hd : -2147483648 ≤ days ∧ days ≤ 2147483647) :
    Gen.naive_date.NaiveDate.from_num_days_from_ce_opt days =
      rmap (Option.map Date.yof) (Date.from_num_days_from_ce_opt days) := by
  unfold Gen.naive_date.NaiveDate.from_num_days_from_ce_opt Date.from_num_days_from_ce_opt
  rw [optI32_def]
  by_cases h : -2147483648 ≤ days + 365 ∧ days + 365 ≤ 2147483647
  · rw [if_pos h]
    simp only []
    have hc : ((days + 365) % 146097).toNat < 146097 := by omega
    have hr := cycle_to_yo_range _ hc
    rw [Proofs.asU32_id (by omega) (by omega),
      show (days + 365) % 146097 = (((days + 365) % 146097).toNat : Nat) by omega,
      gen_cycle_to_yo_eq _ hc, bind_ok, Int.toNat_natCast]
    generalize Date.cycle_to_yo ((days + 365) % 146097).toNat = p at hr
    obtain ⟨ym, ord⟩ := p
    simp only [] at hr ⊢
    rw [Proofs.asI32_id (by omega) (by omega), gen_from_year_mod_400_eq _ (by omega), bind_ok,
      ckI32_ok (by omega), bind_ok]
    cases ckI32 ((days + 365) / 146097 * 400 + ↑ym) with
    | panic => rfl
    | ok y => exact gen_from_ordinal_and_flags_eq y ord _ (by omega)
  · rw [if_neg h]; rfl
theorem gen_succ_opt_eq (d : Date) (hd : -2147483648 ≤ d.yof ∧ d.yof ≤ 2147483647) :
    Gen.naive_date.NaiveDate.succ_opt d.yof = rmap (Option.map Date.yof) d.succ_opt := by
  unfold Gen.naive_date.NaiveDate.succ_opt Date.succ_opt Gen.naive_date.NaiveDate.year
    Gen.naive_date.NaiveDate.yof Date.year
  rw [ckI32_ok (by omega), bind_ok]
  simp only []
  refine ite_rmap Iff.rfl (fun h => ?_) fun _ => ?_
  · rw [lorI_field 3 10 _ _ (by omega) (by omega) (by omega) (by omega) (by omega) (by omega),
      gen_from_yof_eq _ (by omega)]
    cases Date.from_yof (d.yof - d.yof / 8 % 1024 * 8 + (d.yof / 8 % 1024 * 8 + 16)) <;> rfl
  · cases ckI32 (d.yof / 8192 + 1) with
    | panic => rfl
    | ok y => exact gen_from_yo_opt_eq y 1 (by omega)

theorem gen_pred_opt_eq (d : Date) (hd : -2147483648 ≤ d.yof ∧ d.yof ≤ 2147483647)
    (hol : d.yof / 8 % 1024 ≤ 732) :
    Gen.naive_date.NaiveDate.pred_opt d.yof = rmap (Option.map Date.yof) d.pred_opt := by
  unfold Gen.naive_date.NaiveDate.pred_opt Date.pred_opt Gen.naive_date.NaiveDate.year
    Gen.naive_date.NaiveDate.yof Date.year Date.ordinal
  rw [ckI32_ok (by omega), bind_ok]
  simp only []
  refine ite_rmap Iff.rfl (fun h => ?_) fun _ => ?_
  · rw [lor_ordinal d.yof _ hd (by omega) (by omega), gen_from_yof_eq _ (by omega)]
    cases Date.from_yof (d.yof - d.yof / 16 % 512 * 16 + (d.yof / 16 % 512 * 16 - 16)) <;> rfl
  · cases ckI32 (d.yof / 8192 - 1) with
    | panic => rfl
    | ok y => exact gen_from_ymd_opt_eq y 12 31 (by omega) (by omega)
theorem gen_num_days_from_ce_eq (d : Date) (hd : -2147483648 ≤ d.yof ∧ d.yof ≤ 2147483647) :
    Gen.naive_date.NaiveDate.num_days_from_ce d.yof = d.num_days_from_ce := by
  unfold Gen.naive_date.NaiveDate.num_days_from_ce Date.num_days_from_ce
  rw [gen_ordinal_eq, gen_year_eq]
  have ho : 0 ≤ d.ordinal ∧ d.ordinal ≤ 511 := by unfold Date.ordinal; omega
  have hy : -262144 ≤ d.year ∧ d.year ≤ 262143 := by unfold Date.year; omega
  rw [Proofs.asI32_id (by omega) (by omega)]
  generalize d.ordinal = o at ho
  generalize d.year = y at hy
  rw [ckI32_ok (show -2147483648 ≤ y - 1 ∧ y - 1 ≤ 2147483647 by omega)]
  simp only [bind_ok, Res.bind_ok]
  by_cases hneg : y - 1 < 0
  · rw [if_pos hneg, if_pos hneg]
    have e1 : Int.tdiv (-(y - 1)) 400 = (-(y - 1)) / 400 := by rw [Proofs.tdiv_eq]; omega
    rw [ckI32_ok (show -2147483648 ≤ -(y - 1) ∧ -(y - 1) ≤ 2147483647 by omega), bind_ok, e1]
    simp only [bind_assoc_res, Res.pure_eq, Res.bind_ok]
    rfl
  · rw [if_neg hneg, if_neg hneg]
    simp only [Res.pure_eq, Res.bind_ok]
    rfl

/-- the `Datelike::num_days_from_ce` default method, read at `Self = NaiveDate`, is the same code -/
theorem gen_datelike_num_days_from_ce_eq (d : Date) (hd : -2147483648 ≤ d.yof ∧ d.yof ≤ 2147483647) :
    Gen.traits.NaiveDate.Datelike.num_days_from_ce d.yof = d.num_days_from_ce :=
  gen_num_days_from_ce_eq d hd
theorem gen_isoweek_from_yof_eq (year : Int) (ordinal flags : Nat)
    (hy : -2097151 ≤ year ∧ year ≤ 2097150) (ho : ordinal ≤ 4294967000) (hf : flags < 16) :
    Gen.naive_isoweek.IsoWeek.from_yof year ordinal flags = IsoWeek.from_yof year ordinal flags := by
  unfold Gen.naive_isoweek.IsoWeek.from_yof IsoWeek.from_yof
  have hdl : YearFlags.isoweek_delta flags ≤ 9 := by unfold YearFlags.isoweek_delta; simp only []; split <;> omega
  have hnw := nisoweeks_range flags hf
  rw [gen_isoweek_delta_eq flags (by omega), bind_ok,
    ckU32_ok (show (0 : Int) ≤ ordinal + (YearFlags.isoweek_delta flags : Nat) ∧
      (ordinal : Int) + (YearFlags.isoweek_delta flags : Nat) ≤ 4294967295 by omega), bind_ok]
  simp only []
  by_cases h1 : (ordinal + YearFlags.isoweek_delta flags) / 7 < 1
  · rw [if_pos (show ((ordinal : Int) + (YearFlags.isoweek_delta flags : Nat)) / 7 < 1 by omega), if_pos h1,
      ckI32_ok (show -2147483648 ≤ year - 1 ∧ year - 1 ≤ 2147483647 by omega)]
    simp only [bind_ok]
    have hF := from_year_lt (year - 1)
    have hnw2 := nisoweeks_range _ hF
    rw [gen_from_year_eq, bind_ok, gen_nisoweeks_eq _ (by omega), bind_ok]
    simp only [bind_ok]
    exact congrArg Res.ok (ywf_pack (year - 1) _ _ (by omega) (by omega) hF)
  · rw [if_neg (show ¬ ((ordinal : Int) + (YearFlags.isoweek_delta flags : Nat)) / 7 < 1 by omega), if_neg h1,
      gen_nisoweeks_eq _ (by omega), bind_ok]
    by_cases h2 : (ordinal + YearFlags.isoweek_delta flags) / 7 > YearFlags.nisoweeks flags
    · rw [if_pos (show ((ordinal : Int) + (YearFlags.isoweek_delta flags : Nat)) / 7 >
          (YearFlags.nisoweeks flags : Nat) by omega), if_pos h2,
        ckI32_ok (show -2147483648 ≤ year + 1 ∧ year + 1 ≤ 2147483647 by omega)]
      simp only [bind_ok]
      have hF := from_year_lt (year + 1)
      rw [gen_from_year_eq, bind_ok]
      exact congrArg Res.ok (ywf_pack (year + 1) 1 _ (by omega) (by omega) hF)
    · rw [if_neg (show ¬ ((ordinal : Int) + (YearFlags.isoweek_delta flags : Nat)) / 7 >
          (YearFlags.nisoweeks flags : Nat) by omega), if_neg h2]
      have hF := from_year_lt year
      rw [gen_from_year_eq, bind_ok]
      have := ywf_pack year ((ordinal + YearFlags.isoweek_delta flags) / 7) _ (by omega) (by omega) hF
      simp only []
      rw [show ((ordinal : Int) + (YearFlags.isoweek_delta flags : Nat)) / 7 =
        (((ordinal + YearFlags.isoweek_delta flags) / 7 : Nat) : Int) by omega, this]
theorem gen_add_days_eq (d : Date) (days : Int) (hd : -2147483648 ≤ d.yof ∧ d.yof ≤ 2147483647)
    (hdays : -2147483648 ≤ days ∧ days ≤ 2147483647) (ho : 1 ≤ d.ordinal) :
    Gen.naive_date.NaiveDate.add_days d.yof days = rmap (Option.map Date.yof) (d.add_days days) := by
  have _ := hdays  -- not used: the code's own range tests cover every `days`
  have ho2 : d.ordinal ≤ 511 := by unfold Date.ordinal; omega
  have hy : -262144 ≤ d.year ∧ d.year ≤ 262143 := by unfold Date.year; omega
  have slow : genAddSlow d.yof days = rmap (Option.map Date.yof) (addSlow d days) := by
    unfold genAddSlow addSlow
    have hcb : Date.yo_to_cycle (d.year % 400).toNat d.ordinal.toNat ≤ 146608 := by
      unfold Date.yo_to_cycle
      have := tbl_yd.2.2 (d.year % 400).toNat (by omega)
      omega
    have hcyc := gen_yo_to_cycle_eq (d.year % 400).toNat d.ordinal.toNat (by omega) (by omega) (by omega)
    rw [show (((d.year % 400).toNat : Nat) : Int) = d.year % 400 by omega,
      show ((d.ordinal.toNat : Nat) : Int) = d.ordinal by omega] at hcyc
    rw [gen_year_eq, gen_ordinal_eq]
    dsimp only
    rw [gen_div_mod_floor_eq d.year 400 (by omega) (by omega), bind_ok]
    dsimp only
    rw [Proofs.asU32_id (by omega) (by omega), hcyc, bind_ok, Proofs.asI32_id (by omega) (by omega), optI32_def]
    generalize ((Date.yo_to_cycle (d.year % 400).toNat d.ordinal.toNat : Nat) : Int) = c0
    by_cases hc : -2147483648 ≤ c0 + days ∧ c0 + days ≤ 2147483647
    · rw [if_pos hc]
      dsimp only
      generalize c0 + days = cycle at hc
      have hlt : (cycle % 146097).toNat < 146097 := by omega
      have hr := cycle_to_yo_range _ hlt
      rw [gen_div_mod_floor_eq cycle 146097 (by omega) hc, bind_ok]
      dsimp only
      cases ckI32 (d.year / 400 + cycle / 146097) with
      | panic => rfl
      | ok yd =>
        rw [bind_ok, Proofs.asU32_id (by omega) (by omega),
          show cycle % 146097 = (((cycle % 146097).toNat : Nat) : Int) by omega,
          gen_cycle_to_yo_eq _ hlt, bind_ok, Int.toNat_natCast]
        generalize Date.cycle_to_yo (cycle % 146097).toNat = p at hr
        obtain ⟨ym, ord⟩ := p
        dsimp only at hr ⊢
        rw [Proofs.asI32_id (by omega) (by omega), gen_from_year_mod_400_eq _ (by omega), bind_ok]
        cases ckI32 (yd * 400) with
        | panic => rfl
        | ok y4 =>
          rw [bind_ok]
          dsimp only
          cases ckI32 (y4 + ↑ym) with
          | panic => rfl
          | ok y => exact gen_from_ordinal_and_flags_eq y ord _ (by omega)
    · rw [if_neg hc]; rfl
  rw [gen_add_days_unfold, add_days_unfold]
  simp only [gen_yof_eq, gen_leap_year_eq]
  have hLb : (if d.leap_year = true then (1 : Int) else 0) = 1 - d.yof / 8 % 2 := by
    unfold Date.leap_year
    by_cases h : d.yof / 8 % 2 = 0
    · simp [h]
    · have : d.yof / 8 % 2 = 1 := by omega
      simp [this]
  unfold Date.ordinal
  rw [Int.mul_ediv_cancel _ (by decide), hLb, optI32_def]
  generalize d.yof / 16 % 512 + days = o
  by_cases hA : -2147483648 ≤ o ∧ o ≤ 2147483647
  · rw [if_pos hA]
    dsimp only
    rw [ckI32_ok (show -2147483648 ≤ 365 + (1 - d.yof / 8 % 2) ∧ 365 + (1 - d.yof / 8 % 2) ≤ 2147483647 by omega)]
    by_cases hf : o > 0 ∧ o ≤ 365 + (1 - d.yof / 8 % 2)
    · obtain ⟨e, hol⟩ := add_days_fast d.yof o hd hf.1 hf.2
      rw [if_pos hf.1, if_pos hf]
      dsimp only [bind_ok]
      rw [if_pos (decide_eq_true hf.2), e, gen_from_yof_eq _ hol]
      cases Date.from_yof (d.yof - d.yof / 16 % 512 * 16 + o * 16) <;> rfl
    · rw [if_neg hf]
      dsimp only
      by_cases hp : o > 0
      · rw [if_pos hp]
        dsimp only [bind_ok]
        rw [if_neg (show ¬ decide (o ≤ 365 + (1 - d.yof / 8 % 2)) = true from fun h => hf ⟨hp, of_decide_eq_true h⟩)]
        exact slow
      · rw [if_neg hp]
        exact slow
  · rw [if_neg hA]
    exact slow
theorem gen_with_mdf_eq (d : Date) (mdf : Nat) (hd : -2147483648 ≤ d.yof ∧ d.yof ≤ 2147483647)
    (hm : mdf ≤ 4294967295) :
    Gen.naive_date.NaiveDate.with_mdf d.yof mdf = rmap (Option.map Date.yof) (d.with_mdf mdf) := by
  unfold Gen.naive_date.NaiveDate.with_mdf Date.with_mdf
  rw [gen_year_flags_eq, gen_mdf_year_flags_eq, gen_mdf_ordinal_eq mdf hm, gen_yof_eq]
  refine ite_rmap (by omega) (fun _ => rfl) fun hfl => ?_
  cases hq : Mdf.ordinal mdf with
  | panic => rfl
  | ok o =>
    cases o with
    | none => rfl
    | some ord =>
      have hr := mdf_ordinal_range mdf ord hq
      have hb : d.yof / 8 % 2 = (mdf / 8 % 2 : Nat) := by
        unfold Date.year_flags Date.flags Mdf.year_flags at hfl; omega
      show Res.bind (Gen.naive_date.NaiveDate.from_yof (GenRt.lorI 32 asI32 (d.yof - d.yof / 16 % 512 * 16)
        (asI32 ((ord : Int) * 16 % 4294967296)))) (fun r2 => Res.ok (some r2)) = rmap (Option.map Date.yof)
          (match Date.from_yof (d.yof - d.ordinal * 16 + (ord : Int) * 16) with
            | .ok r => .ok (some r) | .panic => .panic)
      rw [show (ord : Int) * 16 % 4294967296 = ord * 16 by omega, Proofs.asI32_id (by omega) (by omega),
        lor_ordinal d.yof _ hd (by omega) (by omega),
        show d.yof / 16 % 512 = d.ordinal from rfl,
        gen_from_yof_eq _ (by unfold Date.ordinal; omega)]
      cases Date.from_yof (d.yof - d.ordinal * 16 + ↑ord * 16) <;> rfl
theorem gen_diff_months_eq (d : Date) (months : Int) (hd : -2147483648 ≤ d.yof ∧ d.yof ≤ 2147483647) :
    Gen.naive_date.NaiveDate.diff_months d.yof months = rmap (Option.map Date.yof) (d.diff_months months) := by
  unfold Gen.naive_date.NaiveDate.diff_months Date.diff_months
  rw [gen_year_eq, gen_month_eq, gen_day_eq]
  have hy : -262144 ≤ d.year ∧ d.year ≤ 262143 := by unfold Date.year; omega
  rw [ckI32_ok (show -2147483648 ≤ d.year * 12 ∧ d.year * 12 ≤ 2147483647 by omega), bind_ok,
    show d.year * DM_MUL = d.year * 12 from rfl,
    ckI32_ok (show -2147483648 ≤ d.year * 12 ∧ d.year * 12 ≤ 2147483647 by omega)]
  have hmd : d.month = .panic ↔ d.day = .panic := by
    unfold Date.month Date.day; cases d.mdf <;> simp
  cases hm : d.month with
  | panic =>
    have := hmd.mp hm
    rw [this]; rfl
  | ok m =>
    cases hdy : d.day with
    | panic => have := hmd.mpr hdy; rw [hm] at this; cases this
    | ok day =>
      dsimp only [bind_ok]
      have hr := month_day_range d m day hm hdy
      rw [show Int.ofNat m = (m : Int) from rfl, Proofs.asI32_id (by omega) (by omega)]
      cases ckI32 (d.year * 12 + ↑m) with
      | panic => rfl
      | ok b =>
        dsimp only [bind_ok]
        rw [show b - DM_SUB = b - 1 from rfl]
        cases ckI32 (b - 1) with
        | panic => rfl
        | ok c =>
          dsimp only [bind_ok]
          rw [optI32_def]
          by_cases ht : -2147483648 ≤ c + months ∧ c + months ≤ 2147483647
          · rw [if_pos ht]
            dsimp only
            generalize c + months = t at ht
            have hF := from_year_lt (t / 12)
            rw [Proofs.asU32_id (by omega) (by omega), ckU32_ok (by omega), bind_ok, gen_from_year_eq, bind_ok,
              gen_ndays_eq _ (by omega), bind_ok, ckU32_ok (by omega), bind_ok]
            simp only [show t / DM_DIV = t / 12 from rfl]
            generalize YearFlags.ndays (YearFlags.from_year (t / 12)) = N
            have hk : (t % 12).toNat < 12 := by omega
            have hidx : (t % DM_REM).toNat + DM_ADD - 1 = (t % 12).toNat := by
              show (t % 12).toNat + 1 - 1 = (t % 12).toNat; omega
            have hmon : (t % DM_REM).toNat + DM_ADD = (t % 12).toNat + 1 := rfl
            rw [show t % 12 + 1 - 1 = (((t % 12).toNat : Nat) : Int) by omega, days_idx _ N hk, bind_ok, hidx, hmon,
              if_pos (show (t % 12).toNat < DM_DAYS.length from hk),
              show t % 12 + 1 = (((t % 12).toNat + 1 : Nat) : Int) by omega]
            generalize (if (t % 12).toNat = DM_FEB_INDEX then (if N = DM_NDAYS_LEAP then DM_FEB_LEAP else DM_FEB_COMMON)
              else DM_DAYS.getD (t % 12).toNat 0) = dm
            by_cases hgt : day > dm
            · rw [if_pos (show Int.ofNat day > (dm : Int) by simp only [Int.ofNat_eq_natCast]; omega), if_pos hgt]
              exact gen_from_ymd_opt_eq _ _ _ (by omega) (by omega)
            · rw [if_neg (show ¬ Int.ofNat day > (dm : Int) by simp only [Int.ofNat_eq_natCast]; omega), if_neg hgt]
              exact gen_from_ymd_opt_eq _ _ _ (by omega) (by omega)
          · rw [if_neg ht]; rfl

/-- the hypotheses are met by real dates: 1970-01-01 (`yof = 1970·8192 + 1·16 + 0o12`) and 2024-12-31 -/
example : Gen.naive_date.NaiveDate.from_ymd_opt 1970 1 1 = .ok (some 16138266)
    ∧ Gen.naive_date.NaiveDate.add_days 16138266 (-800000) = .ok (some (-1806469))
    ∧ Gen.naive_date.NaiveDate.num_days_from_ce 16138266 = .ok 719163
    ∧ Gen.naive_isoweek.IsoWeek.from_yof 2024 366 4 = .ok 2073414
    ∧ Gen.naive_date.NaiveDate.pred_opt 16138266 = .ok (some 16135897) := by decide +kernel

end Chrono.Props.GenDate