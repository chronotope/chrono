/-
  C14 — field resolution never returns a value that contradicts a supplied field.
  Property theorems.  Model: Model/ParsedCore.lean (record, setters) and
  Model/ParsedResolve.lean (resolution).  Specification: Spec/ParsedSpec.lean (namespace `Chrono.Spec.Fields`) — `DateAgrees`,
  `TimeAgrees`, `timestampIs` (what "agrees with every supplied field" means, read off the calendar
  specification of C01), `DateSufficient` / `TimeSufficient` (the documented combinations),
  `GroupCoherent` / `GroupDeterminate` (year groups).  Helper lemmas: Proofs/ParsedL.lean,
  Proofs/ParsedDateL.lean, Proofs/ParsedDtL.lean, Proofs/ParsedIsoL.lean (on C01's ISO-week theorems),
  Proofs/ParsedTsL.lean (on C02/C03), Proofs/ParsedTsCompleteL.lean (completeness of the timestamp
  fall-back), Proofs/ParsedZonedL.lean (on C04), Proofs/ParsedZoneL.lean
  (arbitrary zones: Model/ParsedZone.lean's `to_datetime_with_timezone_gen`, step zones).

  `InType p` says that every field holds a value of its Rust type (`i32`/`u32`/`i64`); it is the
  only restriction on the record — all 2^21 subsets and all values are covered by each statement.
  `VD Y o` = "the o-th day of year Y exists and Y is in the supported range"; `dateOfYo Y o` is its
  packed value (C01).
-/
import Chrono.Proofs.ParsedZonedL
import Chrono.Proofs.ParsedZoneL
import Chrono.Proofs.ParsedTsCompleteL
import Chrono.Proofs.ParsedZFieldsL
import Chrono.Proofs.ParsedKindsL
import Chrono.Proofs.ParsedLeapTsL
import Chrono.Proofs.ParsedIsoSpecL
import Chrono.Proofs.ParsedSettersL
import Chrono.Model.DateOps
import Chrono.Model.Format
import Chrono.Props.GenDateOps

namespace Chrono.Props.C14
open Chrono Chrono.M Chrono.Spec Chrono.Spec.Fields Chrono.Spec.Ts Chrono.Proofs Chrono.Proofs.ParsedRes Chrono.Extracted
open Chrono.Proofs.ParsedZone Chrono.M.TzL Chrono.Proofs.ParsedZF Chrono.Proofs.ParsedKinds Chrono.Proofs.ParsedLeap
open Chrono.Proofs.ParsedIsoSpec Chrono.Proofs.ParsedSetters Chrono.Spec.Strftime

attribute [local instance] exceptDecEq

/-- ALL 20 integer-valued setters against the ranges re-extracted from src/format/parsed.rs on every
run (Extracted/Setters.lean), for EVERY prior record and EVERY integer argument (negative values and
the `i64` extremes included): outside the range OUT_OF_RANGE; inside, accepted iff the field is unset
or already holds that value, storing it (for `set_hour12`: `v % 12`, i.e. 12 ↦ 0) and changing nothing
else; otherwise IMPOSSIBLE (`SetterSpec`).  `set_timestamp` has no range; `set_hour` stores `v / 12`
and `v % 12`. -/
theorem setter_ranges :
    SetterSpec SET_RANGE_year.1 SET_RANGE_year.2 (·.year) id Parsed.set_year (fun p f => { p with year := f }) ∧
    SetterSpec SET_RANGE_year_div_100.1 SET_RANGE_year_div_100.2 (·.year_div_100) id Parsed.set_year_div_100
      (fun p f => { p with year_div_100 := f }) ∧
    SetterSpec SET_RANGE_year_mod_100.1 SET_RANGE_year_mod_100.2 (·.year_mod_100) id Parsed.set_year_mod_100
      (fun p f => { p with year_mod_100 := f }) ∧
    SetterSpec SET_RANGE_isoyear.1 SET_RANGE_isoyear.2 (·.isoyear) id Parsed.set_isoyear
      (fun p f => { p with isoyear := f }) ∧
    SetterSpec SET_RANGE_isoyear_div_100.1 SET_RANGE_isoyear_div_100.2 (·.isoyear_div_100) id
      Parsed.set_isoyear_div_100 (fun p f => { p with isoyear_div_100 := f }) ∧
    SetterSpec SET_RANGE_isoyear_mod_100.1 SET_RANGE_isoyear_mod_100.2 (·.isoyear_mod_100) id
      Parsed.set_isoyear_mod_100 (fun p f => { p with isoyear_mod_100 := f }) ∧
    SetterSpec SET_RANGE_quarter.1 SET_RANGE_quarter.2 (·.quarter) id Parsed.set_quarter
      (fun p f => { p with quarter := f }) ∧
    SetterSpec SET_RANGE_month.1 SET_RANGE_month.2 (·.month) id Parsed.set_month
      (fun p f => { p with month := f }) ∧
    SetterSpec SET_RANGE_week_from_sun.1 SET_RANGE_week_from_sun.2 (·.week_from_sun) id Parsed.set_week_from_sun
      (fun p f => { p with week_from_sun := f }) ∧
    SetterSpec SET_RANGE_week_from_mon.1 SET_RANGE_week_from_mon.2 (·.week_from_mon) id Parsed.set_week_from_mon
      (fun p f => { p with week_from_mon := f }) ∧
    SetterSpec SET_RANGE_isoweek.1 SET_RANGE_isoweek.2 (·.isoweek) id Parsed.set_isoweek
      (fun p f => { p with isoweek := f }) ∧
    SetterSpec SET_RANGE_ordinal.1 SET_RANGE_ordinal.2 (·.ordinal) id Parsed.set_ordinal
      (fun p f => { p with ordinal := f }) ∧
    SetterSpec SET_RANGE_day.1 SET_RANGE_day.2 (·.day) id Parsed.set_day (fun p f => { p with day := f }) ∧
    SetterSpec SET_RANGE_hour12.1 SET_RANGE_hour12.2 (·.hour_mod_12) (fun v => v % 12) Parsed.set_hour12
      (fun p f => { p with hour_mod_12 := f }) ∧
    SetterSpec SET_RANGE_minute.1 SET_RANGE_minute.2 (·.minute) id Parsed.set_minute
      (fun p f => { p with minute := f }) ∧
    SetterSpec SET_RANGE_second.1 SET_RANGE_second.2 (·.second) id Parsed.set_second
      (fun p f => { p with second := f }) ∧
    SetterSpec SET_RANGE_nanosecond.1 SET_RANGE_nanosecond.2 (·.nanosecond) id Parsed.set_nanosecond
      (fun p f => { p with nanosecond := f }) ∧
    SetterSpec SET_RANGE_offset.1 SET_RANGE_offset.2 (·.offset) id Parsed.set_offset
      (fun p f => { p with offset := f }) :=
  ⟨i32_spec _ _, range_spec _ _ _ _, range_spec _ _ _ _, i32_spec _ _, range_spec _ _ _ _,
    range_spec _ _ _ _, range_spec _ _ _ _, range_spec _ _ _ _, range_spec _ _ _ _, range_spec _ _ _ _,
    range_spec _ _ _ _, range_spec _ _ _ _, range_spec _ _ _ _,
    shape_spec _ _ _ _ (fun x => if x = 12 then 0 else x) _ (Parsed.inRange · 1 12)
      (fun v => inRange_out v 1 12) (fun v => inRange_in v 1 12)
      (fun v (h : (1 : Int) ≤ v ∧ v ≤ 12) => by split <;> omega),
    range_spec _ _ _ _, range_spec _ _ _ _, range_spec _ _ _ _, i32_spec _ _⟩

/-! ### setting a field twice -/

/-- every integer-valued setter: after a successful `set_x a`, a second `set_x b` is accepted
exactly when `b = a` (an out-of-range `b` can never equal the accepted `a`) -/
theorem set_twice (p p1 : Parsed) (a b : Int) :
    (p.set_year a = .ok p1 → ((∃ p2, p1.set_year b = .ok p2) ↔ a = b)) ∧
    (p.set_year_div_100 a = .ok p1 → ((∃ p2, p1.set_year_div_100 b = .ok p2) ↔ a = b)) ∧
    (p.set_year_mod_100 a = .ok p1 → ((∃ p2, p1.set_year_mod_100 b = .ok p2) ↔ a = b)) ∧
    (p.set_isoyear a = .ok p1 → ((∃ p2, p1.set_isoyear b = .ok p2) ↔ a = b)) ∧
    (p.set_isoyear_div_100 a = .ok p1 → ((∃ p2, p1.set_isoyear_div_100 b = .ok p2) ↔ a = b)) ∧
    (p.set_isoyear_mod_100 a = .ok p1 → ((∃ p2, p1.set_isoyear_mod_100 b = .ok p2) ↔ a = b)) ∧
    (p.set_quarter a = .ok p1 → ((∃ p2, p1.set_quarter b = .ok p2) ↔ a = b)) ∧
    (p.set_month a = .ok p1 → ((∃ p2, p1.set_month b = .ok p2) ↔ a = b)) ∧
    (p.set_week_from_sun a = .ok p1 → ((∃ p2, p1.set_week_from_sun b = .ok p2) ↔ a = b)) ∧
    (p.set_week_from_mon a = .ok p1 → ((∃ p2, p1.set_week_from_mon b = .ok p2) ↔ a = b)) ∧
    (p.set_isoweek a = .ok p1 → ((∃ p2, p1.set_isoweek b = .ok p2) ↔ a = b)) ∧
    (p.set_ordinal a = .ok p1 → ((∃ p2, p1.set_ordinal b = .ok p2) ↔ a = b)) ∧
    (p.set_day a = .ok p1 → ((∃ p2, p1.set_day b = .ok p2) ↔ a = b)) ∧
    (p.set_minute a = .ok p1 → ((∃ p2, p1.set_minute b = .ok p2) ↔ a = b)) ∧
    (p.set_second a = .ok p1 → ((∃ p2, p1.set_second b = .ok p2) ↔ a = b)) ∧
    (p.set_nanosecond a = .ok p1 → ((∃ p2, p1.set_nanosecond b = .ok p2) ↔ a = b)) ∧
    (p.set_offset a = .ok p1 → ((∃ p2, p1.set_offset b = .ok p2) ↔ a = b)) ∧
    (p.set_timestamp a = .ok p1 → ((∃ p2, p1.set_timestamp b = .ok p2) ↔ a = b)) ∧
    (p.set_hour12 a = .ok p1 → ((∃ p2, p1.set_hour12 b = .ok p2) ↔ a = b)) ∧
    (p.set_hour a = .ok p1 → ((∃ p2, p1.set_hour b = .ok p2) ↔ a = b)) := by
  obtain ⟨s1, s2, s3, s4, s5, s6, s7, s8, s9, s10, s11, s12, s13, s14, s15, s16, s17, s18⟩ := setter_ranges
  -- a setter that stores its argument
  have tw : ∀ {lo hi : Int} {get : Parsed → Option Int} {set : Parsed → Int → PRes Parsed}
      {upd : Parsed → Option Int → Parsed}, SetterSpec lo hi get id set upd → (∀ p f, get (upd p f) = f) →
      set p a = .ok p1 → ((∃ p2, set p1 b = .ok p2) ↔ a = b) :=
    fun hs hget => twice_of_spec hs hget (fun _ _ _ _ => id) b
  exact ⟨tw s1 fun _ _ => rfl, tw s2 fun _ _ => rfl, tw s3 fun _ _ => rfl, tw s4 fun _ _ => rfl,
    tw s5 fun _ _ => rfl, tw s6 fun _ _ => rfl, tw s7 fun _ _ => rfl, tw s8 fun _ _ => rfl,
    tw s9 fun _ _ => rfl, tw s10 fun _ _ => rfl, tw s11 fun _ _ => rfl, tw s12 fun _ _ => rfl,
    tw s13 fun _ _ => rfl, tw s15 fun _ _ => rfl, tw s16 fun _ _ => rfl, tw s17 fun _ _ => rfl,
    tw s18 fun _ _ => rfl, twice_timestamp p p1 a b,
    -- `set_hour12` stores `v % 12`, injective on 1..=12
    twice_of_spec s14 (fun _ _ => rfl) (fun x y (hx : (1 : Int) ≤ x ∧ x ≤ 12) (hy : (1 : Int) ≤ y ∧ y ≤ 12)
      (e : x % 12 = y % 12) => by omega) b,
    twice_hour p p1 a b⟩

/-- the two setters with non-integer arguments -/
theorem set_twice_weekday_ampm (p p1 : Parsed) :
    (∀ a b : Weekday, p.set_weekday a = .ok p1 → ((∃ p2, p1.set_weekday b = .ok p2) ↔ a = b)) ∧
    (∀ a b : Bool, p.set_ampm a = .ok p1 → ((∃ p2, p1.set_ampm b = .ok p2) ↔ a = b)) :=
  ⟨fun a b => twice_weekday p p1 a b, fun a b => twice_ampm p p1 a b⟩

/-- non-vacuity: a first set succeeds, the same value again succeeds, another value is refused with
IMPOSSIBLE, an out-of-range value with OUT_OF_RANGE -/
example : (∃ p1, Parsed.new.set_month 2 = .ok p1 ∧ p1.set_month 2 = .ok p1 ∧
    p1.set_month 3 = .error .impossible ∧ p1.set_month 13 = .error .outOfRange) :=
  ⟨{ month := some 2 }, rfl, rfl, rfl, rfl⟩

/-! ### times -/

/-- a resolved time is a value the public constructors can build and agrees with every supplied
time field (12-hour clock halves, minute, second incl. 60 = leap second, nanosecond); an omitted
second / nanosecond is zero in the result; resolution succeeded only on a sufficient set of
in-range fields -/
theorem time_sound (p : Parsed) (t : Time) (h : Parsed.to_naive_time p = .ok t) :
    TStrict t ∧ TimeAgrees p t ∧ TimeSufficient p ∧ TimeInRange p := time_sound' p t h

/-- completeness: fields that agree with a real time of day and contain the documented sufficient
combination resolve to exactly that time -/
theorem time_complete (p : Parsed) (t : Time) (ht : TStrict t) (ha : TimeAgrees p t)
    (hs : TimeSufficient p) : Parsed.to_naive_time p = .ok t := time_complete' p t ht ha hs

/-- error kinds of the time resolver: only NOT_ENOUGH and OUT_OF_RANGE occur; OUT_OF_RANGE only
with an out-of-range field; for in-range fields NOT_ENOUGH is reported exactly for insufficient sets.
(The resolver cannot panic: its model is `PRes`-valued, no machine arithmetic can overflow.) -/
theorem time_error_kinds (p : Parsed) :
    (∀ e, Parsed.to_naive_time p = .error e → e = .notEnough ∨ e = .outOfRange) ∧
    (Parsed.to_naive_time p = .error .outOfRange → ¬ TimeInRange p) ∧
    (Parsed.to_naive_time p = .error .notEnough → ¬ TimeSufficient p) ∧
    (TimeInRange p → (Parsed.to_naive_time p = .error .notEnough ↔ ¬ TimeSufficient p)) := by
  refine ⟨fun e h => ?_, fun h => ?_, fun h => ?_, fun hr => ⟨fun h => ?_, fun hns => ?_⟩⟩
  · rcases time_err' p e h with ⟨h1, _⟩ | ⟨h1, _⟩ <;> simp [h1]
  · rcases time_err' p _ h with ⟨h1, _⟩ | ⟨_, h2⟩
    · cases h1
    · exact h2
  · rcases time_err' p _ h with ⟨_, h2⟩ | ⟨h1, _⟩
    · exact h2
    · cases h1
  · rcases time_err' p _ h with ⟨_, h2⟩ | ⟨h1, _⟩
    · exact h2
    · cases h1
  · cases hres : Parsed.to_naive_time p with
    | ok t => exact absurd (time_sound' p t hres).2.2.1 hns
    | error e =>
      rcases time_err' p e hres with ⟨h1, _⟩ | ⟨_, h2⟩
      · rw [h1]
      · exact absurd hr h2

/-- non-vacuity: 23:59:60.5 (a leap second) from the 12-hour fields, an insufficient set, an
out-of-range minute -/
example :
    Parsed.to_naive_time {
      hour_div_12 := some 1, hour_mod_12 := some 11, minute := some 59,
      second := some 60, nanosecond := some 500000000 } = .ok ⟨86399, 1500000000⟩ ∧
    Parsed.to_naive_time { hour_div_12 := some 1, minute := some 59 } = .error .notEnough ∧
    Parsed.to_naive_time { hour_div_12 := some 1, hour_mod_12 := some 11, minute := some 60 }
      = .error .outOfRange := by decide +kernel

/-! ### dates -/

/-- the date resolver never panics: for every record of in-type field values it returns a date or
an error kind -/
theorem date_no_panic (p : Parsed) (hp : InType p) : ∃ r, Parsed.to_naive_date p = .ok r := by
  obtain ⟨r, hr, _⟩ := date_main p hp
  exact ⟨r, hr⟩

/-- soundness, EVERY record (all 2^21 subsets, whichever combination the resolver uses — calendar,
ordinal, Sunday/Monday week, or ISO week date): a successful result is an existing day of the
supported range and agrees with every supplied date field — full year, century, two-digit year,
quarter, month, both week numbers, weekday, ordinal, day, and the three ISO-week fields.
(The ISO combination rests on C01's `isoywd_roundtrip`.) -/
theorem date_sound (p : Parsed) (hp : InType p) (d : Date)
    (h : Parsed.to_naive_date p = .ok (.ok d)) :
    ∃ Y o, VD Y o ∧ d = dateOfYo Y o ∧ DateAgrees p Y o := by
  obtain ⟨r, hr, hok, _⟩ := date_main p hp
  rw [hr] at h
  cases h
  obtain ⟨Y, o, hvd, hd, hag⟩ := hok d rfl
  exact ⟨Y, o, hvd, hd, hag (Or.inl isoCtorSpec_holds)⟩

/-- every successful result is an existing day of the supported range -/
theorem date_result_valid (p : Parsed) (hp : InType p) (d : Date)
    (h : Parsed.to_naive_date p = .ok (.ok d)) : ∃ Y o, VD Y o ∧ d = dateOfYo Y o := by
  obtain ⟨r, hr, hok, _⟩ := date_main p hp
  rw [hr] at h
  cases h
  obtain ⟨Y, o, hvd, hd, _⟩ := hok d rfl
  exact ⟨Y, o, hvd, hd⟩

/-- completeness for dates: fields that all agree with one real day `(Y, o)` of the supported
range, with each year group determinate (full year, or century + two-digit year, or the two-digit
year alone with the real year in 1970–2069; the ISO group likewise w.r.t. the day's ISO year) and
one of the documented combinations present (year with month+day, ordinal, Sunday/Monday week
number with weekday — `UsesCalendar` — or ISO year with ISO week and weekday — `UsesIso`) resolve
to exactly that day, whichever combination the resolver happens to pick first. -/
theorem date_complete (p : Parsed) (hp : InType p) (Y : Int) (o : Nat) (hvd : VD Y o)
    (hag : DateAgrees p Y o)
    (hdY : GroupDeterminate p.year p.year_div_100 p.year_mod_100 Y)
    (hdI : ∀ w, (dateOfYo Y o).iso_week = .ok w →
      GroupDeterminate p.isoyear p.isoyear_div_100 p.isoyear_mod_100 (IsoWeek.year w))
    (hc : UsesCalendar p ∨ UsesIso p) :
    Parsed.to_naive_date p = .ok (.ok (dateOfYo Y o)) := date_complete_full p hp Y o hvd hag hdY hdI hc

/-- non-vacuity for the ISO combination: 2020-W53-5 is 2021-01-01 (ISO year ≠ calendar year) -/
example : UsesIso { isoyear := some 2020, isoweek := some 53, weekday := some .fri } ∧
    Parsed.to_naive_date { isoyear := some 2020, isoweek := some 53, weekday := some .fri }
      = .ok (.ok (dateOfYo 2021 1)) ∧
    Parsed.to_naive_date { isoyear := some 2020, isoweek := some 53, weekday := some .fri, year := some 2020 }
      = .ok (.error .impossible) := by
  refine ⟨⟨Or.inl (by simp), by simp, by simp⟩, by decide +kernel, by decide +kernel⟩

/-- non-vacuity of the hypotheses of `date_complete`: a two-digit year alone (pivot), a week number
and a weekday describe 1999-12-31 (day 365, a Friday in Sunday-week 52) -/
example : VD 1999 365 ∧ UsesCalendar { year_mod_100 := some 99, week_from_sun := some 52, weekday := some .fri } ∧
    GroupDeterminate none none (some 99) 1999 ∧ weekNo 1999 365 6 = 52 ∧ weekdayOf (dayNumYo 1999 365) = 4 ∧
    Parsed.to_naive_date { year_mod_100 := some 99, week_from_sun := some 52, weekday := some .fri }
      = .ok (.ok (dateOfYo 1999 365)) := by
  refine ⟨by unfold VD; decide, ⟨Or.inr (by simp), Or.inr (Or.inr (Or.inl ⟨by simp, by simp⟩))⟩,
    ⟨by simp [GroupUsable], fun _ _ _ => by omega⟩, by decide, by decide, by decide +kernel⟩

/-- error kinds of the date resolver: only NOT_ENOUGH, IMPOSSIBLE, OUT_OF_RANGE occur; NOT_ENOUGH
only for sets that contain none of the documented combinations (or a century without two-digit
year); and when the two year groups are coherent (no contradicting or out-of-range member),
NOT_ENOUGH is reported exactly for the insufficient sets -/
theorem date_error_kinds (p : Parsed) (hp : InType p) :
    (∀ e, Parsed.to_naive_date p = .ok (.error e) → e = .notEnough ∨ e = .impossible ∨ e = .outOfRange) ∧
    (Parsed.to_naive_date p = .ok (.error .notEnough) → ¬ DateSufficient p) ∧
    (GroupCoherent p.year p.year_div_100 p.year_mod_100 →
      GroupCoherent p.isoyear p.isoyear_div_100 p.isoyear_mod_100 →
      (Parsed.to_naive_date p = .ok (.error .notEnough) ↔ ¬ DateSufficient p)) := by
  obtain ⟨r, hr, _, hk, hne⟩ := date_main p hp
  refine ⟨fun e h => ?_, fun h => ?_, fun h1 h2 => date_not_enough_iff p hp h1 h2⟩
  · rw [hr] at h; cases h; exact hk e rfl
  · rw [hr] at h; cases h; exact hne rfl

/-- the year group alone: a resolved year agrees with full year, century and two-digit year; a
lone two-digit year is read with the 1970–2069 pivot; a lone century is NOT_ENOUGH -/
theorem year_group (y q r : Option Int) :
    (∀ g, Parsed.resolve_year y q r = .ok g →
      (g = none ∧ y = none ∧ q = none ∧ r = none) ∨
      (∃ Y, g = some Y ∧ optIs y Y ∧ centIs q r Y ∧ GroupHasYear y r)) ∧
    (∀ rv, 0 ≤ rv → rv ≤ 99 →
      Parsed.resolve_year none none (some rv) = .ok (some (if rv < 70 then 2000 + rv else 1900 + rv))) ∧
    (∀ qv, Parsed.resolve_year none (some qv) none = .error .notEnough) := by
  refine ⟨fun g h => resolve_year_ok y q r g h, fun rv h0 h1 => ?_, fun qv => rfl⟩
  unfold Parsed.resolve_year
  simp only []
  rw [if_pos ⟨h0, h1⟩]
  congr 2
  split <;> omega

/-- non-vacuity: a 9-field record (2024-02-29 with consistent week fields and quarter) resolves;
changing the quarter makes it IMPOSSIBLE; a non-existent day is OUT_OF_RANGE; a lone century is
NOT_ENOUGH; week 53 + Sunday of a year whose last week is shorter is IMPOSSIBLE -/
example :
    Parsed.to_naive_date {
      year_div_100 := some 20, year_mod_100 := some 24, quarter := some 1,
      month := some 2, day := some 29, weekday := some .thu, ordinal := some 60, isoweek := some 9,
      week_from_mon := some 9 } = .ok (.ok (dateOfYo 2024 60)) ∧
    Parsed.to_naive_date { year := some 2024, quarter := some 2, month := some 2, day := some 29 }
      = .ok (.error .impossible) ∧
    Parsed.to_naive_date { year := some 2023, month := some 2, day := some 29 } = .ok (.error .outOfRange) ∧
    Parsed.to_naive_date { year_div_100 := some 20, month := some 2, day := some 28 }
      = .ok (.error .notEnough) ∧
    Parsed.to_naive_date { year := some 2023, week_from_sun := some 53, weekday := some .mon }
      = .ok (.error .impossible) := by
  decide +kernel

/-! ### date-times -/

/-- the field path of `to_naive_datetime_with_offset` (date and time both resolve): no panic, the
result is exactly (date, time), and it is returned iff the supplied timestamp — if any — is the
timestamp of that local reading minus the offset, with the documented allowance of one second when
the result is a leap second; otherwise IMPOSSIBLE.  With `date_sound`/`time_sound` this is the
soundness of the date-time resolver on this path: date fields, time fields and timestamp all agree. -/
theorem datetime_sound_fields (p : Parsed) (hp : InType p) (off : Int)
    (hoff : -2147483648 ≤ off ∧ off ≤ 2147483647) (d : Date) (t : Time)
    (hd : Parsed.to_naive_date p = .ok (.ok d)) (ht : Parsed.to_naive_time p = .ok t) :
    (∃ r, Parsed.to_naive_datetime_with_offset p off = .ok r ∧
      (∀ dt, r = .ok dt → dt = ⟨d, t⟩ ∧ timestampIs p.timestamp dt off) ∧
      (∀ e, r = .error e → e = .impossible ∧ ¬ timestampIs p.timestamp ⟨d, t⟩ off) ∧
      (timestampIs p.timestamp ⟨d, t⟩ off → r = .ok ⟨d, t⟩)) := by
  obtain ⟨Y, o, hvd, rfl⟩ := date_result_valid p hp d hd
  have htv := (time_sound' p t ht).1.1
  rw [dt_fields_path p off hoff Y o t hvd htv hd ht]
  refine ⟨_, rfl, ?_⟩
  unfold timestampIs
  cases hts : p.timestamp with
  | none =>
    dsimp only
    exact ⟨(fun dt h => by cases h; exact ⟨rfl, fun g hg => by cases hg⟩), (fun e h => by cases h),
      fun _ => rfl⟩
  | some g =>
    dsimp only
    split
    · rename_i hc
      refine ⟨(fun dt h => by cases h), fun e h => ?_, fun h => ?_⟩
      · cases h
        refine ⟨rfl, fun hh => ?_⟩
        rcases hh g rfl with h1 | h1
        · exact hc.1 h1
        · exact hc.2 h1
      · rcases h g rfl with h1 | h1
        · exact absurd h1 hc.1
        · exact absurd h1 hc.2
    · rename_i hc
      refine ⟨fun dt h => ?_, (fun e h => by cases h), fun _ => rfl⟩
      cases h
      refine ⟨rfl, fun g' hg' => ?_⟩
      cases hg'
      by_cases h1 : g = timestampIs.instSecsLocal ⟨dateOfYo Y o, t⟩ - off
      · exact Or.inl h1
      · right
        have : ¬ ¬ (t.frac ≥ 1000000000 ∧ g = timestampIs.instSecsLocal ⟨dateOfYo Y o, t⟩ - off + 1) :=
          fun hn => hc ⟨h1, hn⟩
        exact Decidable.not_not.mp this

/-- completeness for date-times on the field path: date fields as in `date_complete`, time fields
agreeing with a real time of day and sufficient, and a timestamp field (if supplied) that is the
timestamp of that local reading at the given offset (or one more for a leap second) ⇒ exactly that
date-time.  The fall-back path that reconstructs year, ordinal, hour, minute and second from the
timestamp when the other fields are insufficient has its own completeness theorem:
`datetime_complete_timestamp` below (non-leap readings; a record with second 60 on that path is covered
by soundness and no-panic only: `datetime_sound`). -/
theorem datetime_complete_fields (p : Parsed) (hp : InType p) (off : Int)
    (hoff : -2147483648 ≤ off ∧ off ≤ 2147483647) (Y : Int) (o : Nat) (t : Time) (hvd : VD Y o)
    (hag : DateAgrees p Y o)
    (hdY : GroupDeterminate p.year p.year_div_100 p.year_mod_100 Y)
    (hdI : ∀ w, (dateOfYo Y o).iso_week = .ok w →
      GroupDeterminate p.isoyear p.isoyear_div_100 p.isoyear_mod_100 (IsoWeek.year w))
    (hc : UsesCalendar p ∨ UsesIso p) (ht : TStrict t) (hta : TimeAgrees p t) (hts : TimeSufficient p)
    (hstamp : timestampIs p.timestamp ⟨dateOfYo Y o, t⟩ off) :
    Parsed.to_naive_datetime_with_offset p off = .ok (.ok ⟨dateOfYo Y o, t⟩) := by
  have hd := date_complete_full p hp Y o hvd hag hdY hdI hc
  have htt := time_complete' p t ht hta hts
  obtain ⟨r, hr, _, _, hfin⟩ := datetime_sound_fields p hp off hoff _ t hd htt
  rw [hr, hfin hstamp]

/-- non-vacuity: the leap second 2016-12-31T23:59:60 with either of the two admissible timestamps,
and a contradicting one -/
example :
    Parsed.to_naive_datetime_with_offset {
      year := some 2016, month := some 12, day := some 31,
      hour_div_12 := some 1, hour_mod_12 := some 11, minute := some 59, second := some 60,
      timestamp := some 1483228799 } 0 = .ok (.ok ⟨dateOfYo 2016 366, ⟨86399, 1000000000⟩⟩) ∧
    Parsed.to_naive_datetime_with_offset {
      year := some 2016, month := some 12, day := some 31,
      hour_div_12 := some 1, hour_mod_12 := some 11, minute := some 59, second := some 60,
      timestamp := some 1483228800 } 0 = .ok (.ok ⟨dateOfYo 2016 366, ⟨86399, 1000000000⟩⟩) ∧
    Parsed.to_naive_datetime_with_offset {
      year := some 2016, month := some 12, day := some 31,
      hour_div_12 := some 1, hour_mod_12 := some 11, minute := some 59, second := some 60,
      timestamp := some 1483228801 } 0 = .ok (.error .impossible) := by
  decide +kernel

/-- soundness of `to_naive_datetime_with_offset`, EVERY record and every `i32` offset, BOTH paths
(fields, and the fall-back that reconstructs year, ordinal, hour, minute, second from the timestamp,
with the second-60 handling): never panics; errors are one of the three documented kinds; a result is
an existing day and a constructible time of day that agree with every supplied date field and every
supplied time field, and its own timestamp at the given offset is the supplied timestamp — or one
less when the result is a leap second.  (Rests on C02's `from_timestamp` and C03's checked
subtraction theorems; includes the repaired second-60-at-the-minimum case, which is OUT_OF_RANGE.) -/
theorem datetime_sound (p : Parsed) (hp : InType p) (off : Int)
    (hoff : -2147483648 ≤ off ∧ off ≤ 2147483647) :
    ∃ r, Parsed.to_naive_datetime_with_offset p off = .ok r ∧
      (∀ e, r = .error e → e = .notEnough ∨ e = .impossible ∨ e = .outOfRange) ∧
      (∀ dt, r = .ok dt → ∃ Y o, VD Y o ∧ dt.date = dateOfYo Y o ∧ DateAgrees p Y o ∧
        TStrict dt.time ∧ TimeAgreesSupplied p dt.time ∧ timestampIs p.timestamp dt off) :=
  dt_main' p hp off hoff

/-- non-vacuity of the fall-back path: a lone timestamp; a timestamp with second 60 one second after
a :59 (the leap second is the previous second); finding #7's input — second 60 at the minimum
timestamp — is OUT_OF_RANGE, not a panic; a timestamp contradicting a supplied minute -/
example :
    Parsed.to_naive_datetime_with_offset { timestamp := some 86399 } 0
      = .ok (.ok ⟨dateOfYo 1970 1, ⟨86399, 0⟩⟩) ∧
    Parsed.to_naive_datetime_with_offset { timestamp := some 86400, second := some 60 } 0
      = .ok (.ok ⟨dateOfYo 1970 1, ⟨86399, 1000000000⟩⟩) ∧
    Parsed.to_naive_datetime_with_offset { timestamp := some (-8334601228800), second := some 60 } 0
      = .ok (.error .outOfRange) ∧
    Parsed.to_naive_datetime_with_offset { timestamp := some 86399, minute := some 58 } 0
      = .ok (.error .impossible) := by
  decide +kernel

/-! ### completeness of the timestamp fall-back -/

/-- completeness of `to_naive_datetime_with_offset` THROUGH THE TIMESTAMP (the fall-back path: date
or time fields are insufficient, so year, ordinal, hour, minute and second are reconstructed from the
timestamp): for every existing day `(Y, o)`, every non-leap time of day `t` and every offset `off`
(no restriction on `off`), a record
  * whose timestamp field is the timestamp of that local reading at `off`
    (`instSecsLocal ⟨(Y, o), t⟩ − off`),
  * whose other supplied date and time fields — any subset — agree with that reading
    (`DateAgrees`, `TimeAgreesSupplied`), with determinate year groups,
  * whose nanosecond field, if supplied, is the sub-second part of `t` (`hta`), and `t` has a zero
    sub-second part if it is not supplied (`hnano`),
  * and that does not contain a sufficient date combination together with a sufficient time
    combination (`hfb`; that case is `datetime_complete_fields`)
resolves to exactly `⟨(Y, o), t⟩`: the seconds of the timestamp plus the nanosecond field.
(Rests on C02's `Ts.from_timestamp_spec` and `inst_inj`, and on `date_complete` / `time_complete` for the
record with the five reconstructed fields filled in.) -/
theorem datetime_complete_timestamp (p : Parsed) (hp : InType p) (off : Int) (Y : Int) (o : Nat) (t : Time)
    (hvd : VD Y o) (ht : TValid t) (hnl : t.frac < 1000000000)
    (hag : DateAgrees p Y o)
    (hdY : GroupDeterminate p.year p.year_div_100 p.year_mod_100 Y)
    (hdI : ∀ w, (dateOfYo Y o).iso_week = .ok w →
      GroupDeterminate p.isoyear p.isoyear_div_100 p.isoyear_mod_100 (IsoWeek.year w))
    (hta : TimeAgreesSupplied p t) (hnano : p.nanosecond = none → t.frac = 0)
    (hts : p.timestamp = some (timestampIs.instSecsLocal ⟨dateOfYo Y o, t⟩ - off))
    (hfb : ¬ (DateSufficient p ∧ TimeSufficient p)) :
    Parsed.to_naive_datetime_with_offset p off = .ok (.ok ⟨dateOfYo Y o, t⟩) :=
  dt_complete_ts p hp off Y o t hvd ht (.inr hnl) hag hdY hdI hta (fun h => by rw [hnano h]; rfl) _ hts
    (.inl rfl) hfb

/-- the record that holds only a timestamp and, optionally, a nanosecond and an offset field: for
EVERY existing day, every non-leap time of day and every offset it resolves to that local reading —
all hypotheses of `datetime_complete_timestamp` are met (non-vacuity, and the form C13 uses) -/
theorem datetime_complete_timestamp_only (off : Int) (hoff : -2147483648 ≤ off ∧ off ≤ 2147483647)
    (Y : Int) (o : Nat) (t : Time) (hvd : VD Y o) (ht : TValid t) (hnl : t.frac < 1000000000) (nano offset : Option Int)
    (hn : nano = some t.frac ∨ (nano = none ∧ t.frac = 0))
    (ho : ∀ x, offset = some x → -2147483648 ≤ x ∧ x ≤ 2147483647) :
    Parsed.to_naive_datetime_with_offset
      { timestamp := some (timestampIs.instSecsLocal ⟨dateOfYo Y o, t⟩ - off), nanosecond := nano,
        offset := offset } off = .ok (.ok ⟨dateOfYo Y o, t⟩) := by
  obtain ⟨_, hb1, hb2⟩ := timestamp_spec Y o t hvd ht
  obtain ⟨t0, t1, f0, f1⟩ := id ht
  have hno : ∀ x, (none : Option Int) = some x → False := fun x h => by cases h
  refine datetime_complete_timestamp _ ?_ off Y o t hvd ht hnl ?_ ?_ ?_ ?_ ?_ rfl ?_
  · refine ⟨optIn_none _ _, optIn_none _ _, optIn_none _ _, optIn_none _ _, optIn_none _ _, optIn_none _ _, optIn_none _ _, optIn_none _ _, optIn_none _ _, optIn_none _ _, optIn_none _ _, optIn_none _ _, optIn_none _ _,
      optIn_none _ _, optIn_none _ _, optIn_none _ _, optIn_none _ _, fun x h => ?_, fun x h => ?_, ho⟩
    · rcases hn with h' | ⟨h', _⟩
      · rw [h'] at h; cases h; omega
      · rw [h'] at h; cases h
    · cases h; omega
  · exact dateAgrees_of_no_date _ Y o hvd ⟨rfl, rfl, rfl, rfl, rfl, rfl, rfl, rfl, rfl, rfl, rfl, rfl, rfl, rfl⟩
  · exact groupDeterminate_none _
  · exact fun _ _ => groupDeterminate_none _
  · refine ⟨fun x h => (hno x h).elim, fun x h => (hno x h).elim, fun x h => (hno x h).elim,
      fun x h => (hno x h).elim, fun x h => ?_⟩
    rcases hn with h' | ⟨h', _⟩
    · rw [h'] at h; cases h; omega
    · rw [h'] at h; cases h
  · intro h
    rcases hn with h' | ⟨_, h'⟩
    · rw [h'] at h; cases h
    · exact h'
  · intro h; exact h.2.1 rfl

/-- `to_fixed_offset`: the supplied offset iff it is a valid `FixedOffset` (strictly between −24 h
and +24 h); NOT_ENOUGH iff no offset is supplied; otherwise OUT_OF_RANGE.  Cannot panic. -/
theorem fixed_offset_sound (p : Parsed) :
    (∀ o, Parsed.to_fixed_offset p = .ok o ↔ (p.offset = some o ∧ OffValid o)) ∧
    (Parsed.to_fixed_offset p = .error .notEnough ↔ p.offset = none) ∧
    (∀ e, Parsed.to_fixed_offset p = .error e → e = .notEnough ∨ e = .outOfRange) := by
  unfold Parsed.to_fixed_offset Zoned.east_opt OffValid
  cases p.offset with
  | none => simp
  | some x =>
    by_cases hx : -86400 < x ∧ x < 86400
    · simp [hx]
    · simp [hx]
      intro o; omega

/-- `to_datetime`, every record: never panics; errors by value; NOT_ENOUGH when neither offset nor
timestamp is supplied; a result is a well-formed zone-aware value whose offset is the supplied
offset (0 when only a timestamp is supplied) and whose wall clock (`naive_local`) is a naive
date-time that agrees with every supplied date/time field and with the supplied timestamp at that
offset (`ZonedOk`).  (Rests on C04's `fromLocal_fails_iff` / `local_of_fromLocal`.) -/
theorem to_datetime_sound (p : Parsed) (hp : InType p) :
    ∃ r, Parsed.to_datetime p = .ok r ∧
      (∀ e, r = .error e → e = .notEnough ∨ e = .impossible ∨ e = .outOfRange) ∧
      (p.offset = none → p.timestamp = none → r = .error .notEnough) ∧
      (∀ z, r = .ok z → (p.offset = none → z.off = 0) ∧ ZonedOk p z z.off) :=
  to_datetime_spec p hp

/-- `to_datetime_with_timezone` for a fixed-offset zone (`FixedOffset`, `Utc` = 0), every record:
never panics; errors by value; a result carries the zone's offset, a supplied offset field equals
it, and its wall clock agrees with every supplied field and the timestamp at the zone's offset -/
theorem to_datetime_with_timezone_sound (p : Parsed) (hp : InType p) (zone : Int) (hz : OffValid zone) :
    ∃ r, Parsed.to_datetime_with_timezone p zone = .ok r ∧
      (∀ e, r = .error e → e = .notEnough ∨ e = .impossible ∨ e = .outOfRange) ∧
      (∀ z, r = .ok z → ZonedOk p z zone) :=
  to_datetime_tz_spec p hp zone hz

/-- non-vacuity with further fields: for EVERY existing day, non-leap time of day and offset, the
record holding the timestamp, the minute and the 12-hour-clock hour (no date field, no am/pm: neither
resolver has enough) resolves to the reading, sub-second part from the nanosecond field -/
example (off : Int) (hoff : -2147483648 ≤ off ∧ off ≤ 2147483647) (Y : Int) (o : Nat) (t : Time)
    (hvd : VD Y o) (ht : TValid t) (hnl : t.frac < 1000000000) :
    Parsed.to_naive_datetime_with_offset
      { timestamp := some (timestampIs.instSecsLocal ⟨dateOfYo Y o, t⟩ - off), nanosecond := some t.frac,
        minute := some (minuteOf t), hour_mod_12 := some (hourOf t % 12) } off =
      .ok (.ok ⟨dateOfYo Y o, t⟩) := by
  obtain ⟨_, hb1, hb2⟩ := timestamp_spec Y o t hvd ht
  obtain ⟨t0, t1, f0, f1⟩ := id ht
  have hno : ∀ x, (none : Option Int) = some x → False := fun x h => by cases h
  refine datetime_complete_timestamp _ ?_ off Y o t hvd ht hnl ?_ ?_ ?_ ?_ ?_ rfl ?_
  · refine ⟨optIn_none _ _, optIn_none _ _, optIn_none _ _, optIn_none _ _, optIn_none _ _, optIn_none _ _, optIn_none _ _, optIn_none _ _, optIn_none _ _, optIn_none _ _, optIn_none _ _, optIn_none _ _, optIn_none _ _,
      optIn_none _ _, fun x h => ?_, fun x h => ?_, optIn_none _ _, fun x h => ?_, fun x h => ?_, optIn_none _ _⟩
    · cases h; unfold hourOf; omega
    · cases h; unfold minuteOf; omega
    · cases h; omega
    · cases h; omega
  · exact dateAgrees_of_no_date _ Y o hvd ⟨rfl, rfl, rfl, rfl, rfl, rfl, rfl, rfl, rfl, rfl, rfl, rfl, rfl, rfl⟩
  · exact groupDeterminate_none _
  · exact fun _ _ => groupDeterminate_none _
  · exact ⟨fun x h => (hno x h).elim, fun x h => (by cases h; rfl), fun x h => (by cases h; rfl),
      fun x h => (hno x h).elim, fun x h => (by cases h; omega)⟩
  · intro h; cases h
  · intro h; exact h.2.1 rfl

/-- completeness of `to_datetime` through the timestamp: for every well-formed zone-aware value `z`
whose wall clock is the existing day `(Y, o)` at the non-leap time `t`, a record whose timestamp field
is the instant of `z`, whose offset field is `z`'s offset (or is absent, `z` being at UTC), whose
other fields agree with that wall clock (as in `datetime_complete_timestamp`) and are not sufficient
on their own resolves to exactly `z`: that instant at that offset.  (On C04's `utc_of_fromUtc` /
`local_of_fromLocal`.) -/
theorem to_datetime_complete_timestamp (p : Parsed) (hp : InType p) (z : Zoned) (hz : ZInv z)
    (Y : Int) (o : Nat) (t : Time) (hvd : VD Y o) (ht : TValid t) (hnl : t.frac < 1000000000)
    (hl : Zoned.naive_local z = .ok ⟨dateOfYo Y o, t⟩)
    (hag : DateAgrees p Y o)
    (hdY : GroupDeterminate p.year p.year_div_100 p.year_mod_100 Y)
    (hdI : ∀ w, (dateOfYo Y o).iso_week = .ok w →
      GroupDeterminate p.isoyear p.isoyear_div_100 p.isoyear_mod_100 (IsoWeek.year w))
    (hta : TimeAgreesSupplied p t) (hnano : p.nanosecond = none → t.frac = 0)
    (hts : p.timestamp = some (instSecs z.utc))
    (hoff : p.offset = some z.off ∨ (p.offset = none ∧ z.off = 0))
    (hfb : ¬ (DateSufficient p ∧ TimeSufficient p)) :
    Parsed.to_datetime p = .ok (.ok z) :=
  to_datetime_complete_ts p hp z hz Y o t hvd ht (.inr hnl) hl hag hdY hdI hta (fun h => by rw [hnano h]; rfl) _ hts
    (.inl rfl) hoff hfb

/-- completeness of `to_datetime_with_timezone` for the fixed zone `z.off` (`Utc`: 0) through the
timestamp: as above; an offset field, if supplied, is the zone's offset -/
theorem to_datetime_with_timezone_complete_timestamp (p : Parsed) (hp : InType p) (z : Zoned) (hz : ZInv z)
    (Y : Int) (o : Nat) (t : Time) (hvd : VD Y o) (ht : TValid t) (hnl : t.frac < 1000000000)
    (hl : Zoned.naive_local z = .ok ⟨dateOfYo Y o, t⟩)
    (hag : DateAgrees p Y o)
    (hdY : GroupDeterminate p.year p.year_div_100 p.year_mod_100 Y)
    (hdI : ∀ w, (dateOfYo Y o).iso_week = .ok w →
      GroupDeterminate p.isoyear p.isoyear_div_100 p.isoyear_mod_100 (IsoWeek.year w))
    (hta : TimeAgreesSupplied p t) (hnano : p.nanosecond = none → t.frac = 0)
    (hts : p.timestamp = some (instSecs z.utc))
    (hoff : ∀ x, p.offset = some x → x = z.off)
    (hfb : ¬ (DateSufficient p ∧ TimeSufficient p)) :
    Parsed.to_datetime_with_timezone p z.off = .ok (.ok z) :=
  to_datetime_tz_complete_ts p hp z hz Y o t hvd ht (.inr hnl) hl hag hdY hdI hta (fun h => by rw [hnano h]; rfl) _
    hts (.inl rfl) hoff hfb

/-- the record holding only the timestamp and the offset of a zone-aware value `z` (whole second, wall
clock in range) — what `%s %z` reads — resolves to `z` through `to_datetime` and through
`to_datetime_with_timezone(&z.offset())`; without the offset field, `to_datetime` gives the same
instant at UTC -/
theorem to_datetime_complete_timestamp_only (z : Zoned) (hz : ZInv z) (Y : Int) (o : Nat) (t : Time)
    (hvd : VD Y o) (ht : TValid t) (hf : t.frac = 0)
    (hl : Zoned.naive_local z = .ok ⟨dateOfYo Y o, t⟩) :
    Parsed.to_datetime { timestamp := some (instSecs z.utc), offset := some z.off } = .ok (.ok z) ∧
    Parsed.to_datetime_with_timezone { timestamp := some (instSecs z.utc), offset := some z.off } z.off
      = .ok (.ok z) ∧
    Parsed.to_datetime_with_timezone { timestamp := some (instSecs z.utc) } z.off = .ok (.ok z) ∧
    (z.off = 0 → Parsed.to_datetime { timestamp := some (instSecs z.utc) } = .ok (.ok z)) := by
  have hr := Chrono.Proofs.Ts.instSecs_range z.utc hz.1
  rw [Chrono.Proofs.Ts.ts_min_val, Chrono.Proofs.Ts.ts_max_val] at hr
  have hzo := hz.2
  unfold OffValid at hzo
  have hno : ∀ x, (none : Option Int) = some x → False := fun x h => by cases h
  have hIT : ∀ off : Option Int, (∀ x, off = some x → x = z.off) →
      InType { timestamp := some (instSecs z.utc), offset := off } := fun off ho =>
    ⟨optIn_none _ _, optIn_none _ _, optIn_none _ _, optIn_none _ _, optIn_none _ _, optIn_none _ _, optIn_none _ _, optIn_none _ _, optIn_none _ _, optIn_none _ _, optIn_none _ _, optIn_none _ _, optIn_none _ _,
      optIn_none _ _, optIn_none _ _, optIn_none _ _, optIn_none _ _, optIn_none _ _, fun x h => (by cases h; omega),
      fun x h => (by rw [ho x h]; omega)⟩
  have hDA : ∀ off : Option Int,
      DateAgrees { timestamp := some (instSecs z.utc), offset := off } Y o := fun off =>
    dateAgrees_of_no_date _ Y o hvd ⟨rfl, rfl, rfl, rfl, rfl, rfl, rfl, rfl, rfl, rfl, rfl, rfl, rfl, rfl⟩
  have hGD := groupDeterminate_none
  have hTA : ∀ off : Option Int,
      TimeAgreesSupplied { timestamp := some (instSecs z.utc), offset := off } t := fun off =>
    ⟨fun x h => (hno x h).elim, fun x h => (hno x h).elim, fun x h => (hno x h).elim,
      fun x h => (hno x h).elim, fun x h => (hno x h).elim⟩
  have hsome : ∀ x, some z.off = some x → x = z.off := fun x h => by cases h; rfl
  refine ⟨?_, ?_, ?_, fun h0 => ?_⟩
  · exact to_datetime_complete_timestamp _ (hIT _ hsome) z hz Y o t hvd ht (by omega) hl (hDA _) (hGD _)
      (fun _ _ => hGD _) (hTA _) (fun _ => hf) rfl (Or.inl rfl) (fun h => h.1.2.2.elim
        (fun h' => h'.2.elim (fun a => a.1 rfl) (fun a => a.elim (fun b => b rfl)
          (fun b => b.elim (fun c => c.1 rfl) (fun c => c.1 rfl)))) (fun h' => h'.2.1 rfl))
  · exact to_datetime_with_timezone_complete_timestamp _ (hIT _ hsome) z hz Y o t hvd ht (by omega) hl
      (hDA _) (hGD _) (fun _ _ => hGD _) (hTA _) (fun _ => hf) rfl hsome (fun h => h.2.1 rfl)
  · exact to_datetime_with_timezone_complete_timestamp _ (hIT _ (fun x h => (hno x h).elim)) z hz Y o t
      hvd ht (by omega) hl (hDA _) (hGD _) (fun _ _ => hGD _) (hTA _) (fun _ => hf) rfl
      (fun x h => (hno x h).elim) (fun h => h.2.1 rfl)
  · exact to_datetime_complete_timestamp _ (hIT _ (fun x h => (hno x h).elim)) z hz Y o t hvd ht
      (by omega) hl (hDA _) (hGD _) (fun _ _ => hGD _) (hTA _) (fun _ => hf) rfl (Or.inr ⟨rfl, h0⟩)
      (fun h => h.2.1 rfl)

/-- non-vacuity: 2024-02-29T12:00:00+01:00 (11:00:00Z = 1709204400) from the timestamp and the offset
alone; the same timestamp without offset is read at UTC; with a fixed zone of −05:00 it is that instant
at −05:00; a contradicting minute is IMPOSSIBLE -/
example :
    Parsed.to_datetime { timestamp := some 1709204400, offset := some 3600 }
      = .ok (.ok ⟨⟨dateOfYo 2024 60, ⟨39600, 0⟩⟩, 3600⟩) ∧
    Parsed.to_datetime { timestamp := some 1709204400 } = .ok (.ok ⟨⟨dateOfYo 2024 60, ⟨39600, 0⟩⟩, 0⟩) ∧
    Parsed.to_datetime_with_timezone { timestamp := some 1709204400, nanosecond := some 5 } (-18000)
      = .ok (.ok ⟨⟨dateOfYo 2024 60, ⟨39600, 5⟩⟩, -18000⟩) ∧
    Parsed.to_datetime { timestamp := some 1709204400, offset := some 3600, minute := some 1 }
      = .ok (.error .impossible) := by
  decide +kernel

/-- non-vacuity: 2024-02-29T12:00 at +01:00 (UTC reading 11:00), a contradicting zone, a missing
offset, an offset of a full day -/
example :
    Parsed.to_datetime {
      year := some 2024, ordinal := some 60, hour_div_12 := some 1, hour_mod_12 := some 0,
      minute := some 0, offset := some 3600 } = .ok (.ok ⟨⟨dateOfYo 2024 60, ⟨39600, 0⟩⟩, 3600⟩) ∧
    Parsed.to_datetime_with_timezone {
      year := some 2024, ordinal := some 60, hour_div_12 := some 1, hour_mod_12 := some 0,
      minute := some 0, offset := some 3600 } 0 = .ok (.error .impossible) ∧
    Parsed.to_datetime {
      year := some 2024, ordinal := some 60, hour_div_12 := some 1, hour_mod_12 := some 0,
      minute := some 0 } = .ok (.error .notEnough) ∧
    Parsed.to_datetime {
      year := some 2024, ordinal := some 60, hour_div_12 := some 1, hour_mod_12 := some 0,
      minute := some 0, offset := some 86400 } = .ok (.error .outOfRange) := by
  decide +kernel

/-! ### `to_datetime_with_timezone` for an ARBITRARY time zone

The zone enters through the two functions the Rust code calls: `ofu` = `offset_from_utc_datetime`
(then `.fix().local_minus_utc()`) and `fl` = `from_local_datetime` (None | Single | Ambiguous).
Assumptions, stated explicitly in each theorem — all of them are facts the Rust types guarantee or
the `TimeZone` contract demands:
  * `hofu`: a reported offset is an `i32` (the return type of `local_minus_utc`);
  * `hcand`: a candidate returned for a valid local date-time is a well-formed `DateTime`
    (`ZInv`: valid UTC reading, |offset| < 24 h — the type invariant of `DateTime<Tz>`);
  * `hloc` (only for field agreement): a candidate returned for `l` reads `l` on its own wall clock.
Nothing else is assumed about the zone: the two functions need not be coherent with each other.
`GuessIs p ofu g`: `g` is 0 without a timestamp field, else `ofu` of the UTC date-time of the
timestamp.  `Consistent p c`: `c` carries the supplied offset field and its instant is the supplied
timestamp field (or one less, when `c` is a leap second).  `consistent p m`: the consistent ones
among the candidates `m`, in order. -/

/-- nothing already proved is lost: for every record and every valid fixed offset, the fixed-zone
model used by `to_datetime_with_timezone_sound` is the generic model at the constant zone -/
theorem tz_fixed_is_instance (p : Parsed) (hp : InType p) (zone : Int) (hz : OffValid zone) :
    Parsed.to_datetime_with_timezone p zone =
      Parsed.to_datetime_with_timezone_gen p (Parsed.fixed_offset_from_utc zone)
        (Parsed.fixed_from_local zone) := fixed_is_instance p hp zone hz

/-- soundness, EVERY zone, every record: a successful result `z`
(a) is one of the candidates `from_local_datetime` returned for the resolved naive date-time `dt`;
(b) carries exactly the supplied offset field;
(b') its instant is exactly the supplied timestamp field (one less is allowed for a leap-second
    result) — whichever side of a fold the other fields would allow;
(c) `dt` is an existing day and time that agree with every supplied date field, every supplied time
    field and the timestamp at the guessed offset (`NaiveOk`, i.e. `datetime_sound` through `dt`);
and it is the ONLY candidate consistent with the offset and timestamp fields. -/
theorem tz_gen_sound (p : Parsed) (hp : InType p) (ofu : NaiveDT → Res Int)
    (fl : NaiveDT → Res (Mapped Zoned))
    (hofu : ∀ u o, NDTInv u → ofu u = .ok o → -2147483648 ≤ o ∧ o ≤ 2147483647)
    (hcand : ∀ l m c, NDTInv l → fl l = .ok m → c ∈ m.toList → ZInv c)
    (z : Zoned) (h : Parsed.to_datetime_with_timezone_gen p ofu fl = .ok (.ok z)) :
    ∃ g dt m, GuessIs p ofu g ∧ Parsed.to_naive_datetime_with_offset p g = .ok (.ok dt) ∧
      NaiveOk p dt g ∧ fl dt = .ok m ∧
      z ∈ m.toList ∧
      (∀ x, p.offset = some x → z.off = x) ∧
      (∀ ts, p.timestamp = some ts →
        ts = instSecs z.utc ∨ (1000000000 ≤ z.utc.time.frac ∧ ts = instSecs z.utc + 1)) ∧
      consistent p m = [z] := by
  rcases gen_reach p hp ofu fl hofu hcand _ h with ⟨_, _, _, h3⟩ | ⟨_, _, _, _, _, h3⟩ |
    ⟨g, dt, m, hg, hdt, hn, hm, h3⟩
  · cases h3
  · cases h3
  · have hl := (choose_ok _ z).mp h3.symm
    obtain ⟨hmem, hoff, hts⟩ := consistent_mem p m z (by rw [hl]; simp)
    exact ⟨g, dt, m, hg, hdt, hn, hm, hmem, hoff, hts, hl⟩

/-- field agreement, EVERY zone whose candidates read the requested local time: the wall clock
(`naive_local`) of a successful result is a date-time that agrees with every supplied date field
and time field (the sense of `date_sound` / `time_sound` / `datetime_sound`) -/
theorem tz_gen_fields_agree (p : Parsed) (hp : InType p) (ofu : NaiveDT → Res Int)
    (fl : NaiveDT → Res (Mapped Zoned))
    (hofu : ∀ u o, NDTInv u → ofu u = .ok o → -2147483648 ≤ o ∧ o ≤ 2147483647)
    (hcand : ∀ l m c, NDTInv l → fl l = .ok m → c ∈ m.toList → ZInv c)
    (hloc : ∀ l m c, NDTInv l → fl l = .ok m → c ∈ m.toList → Zoned.naive_local c = .ok l)
    (z : Zoned) (h : Parsed.to_datetime_with_timezone_gen p ofu fl = .ok (.ok z)) :
    ∃ dt, Zoned.naive_local z = .ok dt ∧ ∃ Y o, VD Y o ∧ dt.date = dateOfYo Y o ∧ DateAgrees p Y o ∧
      TStrict dt.time ∧ TimeAgreesSupplied p dt.time := by
  obtain ⟨g, dt, m, _, _, hn, hm, hmem, _⟩ := tz_gen_sound p hp ofu fl hofu hcand z h
  refine ⟨dt, hloc dt m z (naiveOk_inv p dt g hn) hm hmem, ?_⟩
  obtain ⟨Y, o, h1, h2, h3, h4, h5, _⟩ := hn
  exact ⟨Y, o, h1, h2, h3, h4, h5⟩

/-- error kinds, EVERY zone: an error is one of the three documented kinds, and it arises in exactly
one of three ways — the timestamp field is not a representable instant (OUT_OF_RANGE); the naive
resolution at the guessed offset fails (its kind, see `datetime_sound`); or the zone's candidates
for the resolved local date-time contain no consistent one (IMPOSSIBLE — in particular when there
is no candidate at all: a gap) or two consistent ones (NOT_ENOUGH: an `Ambiguous` pair both of which
carry the supplied offset and timestamp, e.g. neither field is supplied) -/
theorem tz_gen_error_kinds (p : Parsed) (hp : InType p) (ofu : NaiveDT → Res Int)
    (fl : NaiveDT → Res (Mapped Zoned))
    (hofu : ∀ u o, NDTInv u → ofu u = .ok o → -2147483648 ≤ o ∧ o ≤ 2147483647)
    (hcand : ∀ l m c, NDTInv l → fl l = .ok m → c ∈ m.toList → ZInv c)
    (e : PErr) (h : Parsed.to_datetime_with_timezone_gen p ofu fl = .ok (.error e)) :
    (e = .notEnough ∨ e = .impossible ∨ e = .outOfRange) ∧
    ((e = .outOfRange ∧ ∃ ts, p.timestamp = some ts ∧ ¬ tsOk ts (p.nanosecond.getD 0)) ∨
     (∃ g, GuessIs p ofu g ∧ Parsed.to_naive_datetime_with_offset p g = .ok (.error e)) ∨
     (∃ g dt m, GuessIs p ofu g ∧ Parsed.to_naive_datetime_with_offset p g = .ok (.ok dt) ∧
        fl dt = .ok m ∧
        ((e = .impossible ∧ consistent p m = []) ∨
         (e = .notEnough ∧ ∃ a b, m = .ambiguous a b ∧ Consistent p a ∧ Consistent p b)))) := by
  rcases gen_reach p hp ofu fl hofu hcand _ h with ⟨ts, h1, h2, h3⟩ | ⟨g, e', hg, hdt, hk, h3⟩ |
    ⟨g, dt, m, hg, hdt, hn, hm, h3⟩
  · cases h3
    exact ⟨Or.inr (Or.inr rfl), Or.inl ⟨rfl, ts, h1, h2⟩⟩
  · cases h3
    exact ⟨hk, Or.inr (Or.inl ⟨g, hg, hdt⟩)⟩
  · rcases choose_err _ e h3.symm with ⟨rfl, hl⟩ | ⟨rfl, hl⟩
    · exact ⟨Or.inr (Or.inl rfl), Or.inr (Or.inr ⟨g, dt, m, hg, hdt, hm, Or.inl ⟨rfl, hl⟩⟩)⟩
    · obtain ⟨a, b, hab, ha, hb⟩ := consistent_two p m hl
      exact ⟨Or.inl rfl, Or.inr (Or.inr ⟨g, dt, m, hg, hdt, hm, Or.inr ⟨rfl, a, b, hab, ha, hb⟩⟩)⟩

/-- resolution, EVERY zone: once the naive date-time `dt` is resolved (at the guessed offset) and
the zone has answered with well-formed candidates `m`, the outcome is determined by the consistent
candidates: no candidate → IMPOSSIBLE; none consistent → IMPOSSIBLE; exactly one consistent → that
one (whether it is the first or the second of an `Ambiguous` pair); both of an `Ambiguous` pair
consistent → NOT_ENOUGH -/
theorem tz_gen_resolution (p : Parsed) (hp : InType p) (ofu : NaiveDT → Res Int)
    (fl : NaiveDT → Res (Mapped Zoned)) (g : Int) (dt : NaiveDT) (m : Mapped Zoned)
    (hg : GuessIs p ofu g) (hdt : Parsed.to_naive_datetime_with_offset p g = .ok (.ok dt))
    (hm : fl dt = .ok m) (hc : ∀ c ∈ m.toList, ZInv c) :
    (m = .none → Parsed.to_datetime_with_timezone_gen p ofu fl = .ok (.error .impossible)) ∧
    (consistent p m = [] → Parsed.to_datetime_with_timezone_gen p ofu fl = .ok (.error .impossible)) ∧
    (∀ c, consistent p m = [c] → Parsed.to_datetime_with_timezone_gen p ofu fl = .ok (.ok c)) ∧
    (∀ a b, m = .ambiguous a b → Consistent p a → ¬ Consistent p b →
      Parsed.to_datetime_with_timezone_gen p ofu fl = .ok (.ok a)) ∧
    (∀ a b, m = .ambiguous a b → ¬ Consistent p a → Consistent p b →
      Parsed.to_datetime_with_timezone_gen p ofu fl = .ok (.ok b)) ∧
    (∀ a b, m = .ambiguous a b → Consistent p a → Consistent p b →
      Parsed.to_datetime_with_timezone_gen p ofu fl = .ok (.error .notEnough)) := by
  have hres := gen_resolution p hp ofu fl g dt m hg hdt hm hc
  refine ⟨fun h => ?_, fun h => ?_, fun c h => ?_, fun a b h ha hb => ?_, fun a b h ha hb => ?_,
    fun a b h ha hb => ?_⟩
  · rw [hres, h]; rfl
  · rw [hres, h]; rfl
  · rw [hres, h]; rfl
  · rw [hres, h, consistent_pair p a b, (consistentB_iff p a).mpr ha, consistentB_false p b hb]; rfl
  · rw [hres, h, consistent_pair p a b, consistentB_false p a ha, (consistentB_iff p b).mpr hb]; rfl
  · rw [hres, h, consistent_pair p a b, (consistentB_iff p a).mpr ha, (consistentB_iff p b).mpr hb]; rfl

/-- no panic, EVERY zone whose two functions do not panic on valid arguments and return what their
types promise: the resolver returns a value or an error kind -/
theorem tz_gen_no_panic (p : Parsed) (hp : InType p) (ofu : NaiveDT → Res Int)
    (fl : NaiveDT → Res (Mapped Zoned))
    (hofu : ∀ u, NDTInv u → ∃ o, ofu u = .ok o ∧ -2147483648 ≤ o ∧ o ≤ 2147483647)
    (hfl : ∀ l, NDTInv l → ∃ m, fl l = .ok m ∧ ∀ c ∈ m.toList, ZInv c) :
    ∃ r, Parsed.to_datetime_with_timezone_gen p ofu fl = .ok r := gen_total p hp ofu fl hofu hfl

/-! ### step zones: one transition, `o1` before the instant `T`, `o2` from `T` on -/

/-- the step zone's local-time lookup from first principles: the instants that read `s` on the
zone's clock are exactly `s − o` for the listed offsets `o`; a listed pair is in order of instants -/
theorem step_zone_candidates (z : StepZone) (s : Int) :
    (∀ u, u + z.offset_at u = s ↔ (s - u) ∈ (z.local_offsets s).toList) ∧
    (∀ a b, z.local_offsets s = .ambiguous a b → s - a < s - b) :=
  ⟨fun u => candidates_iff z s u, fun a b h => (ambiguous_order z s a b h).2.2.2.2⟩

/-- the step zones meet every assumption of the generic theorems: for valid offsets and valid
arguments neither function panics, the reported offset is the zone's offset at that instant, and
every candidate for `l` is well formed, reads `l` on its wall clock, and carries the zone's offset
at its own instant; an `Ambiguous` pair is in order of instants -/
theorem step_zone_is_zone (z : StepZone) (h1 : OffValid z.o1) (h2 : OffValid z.o2) :
    (∀ u, NDTInv u → z.offset_from_utc_datetime u = .ok (z.offset_at (instSecs u)) ∧
      OffValid (z.offset_at (instSecs u))) ∧
    (∀ l, NDTInv l → ∃ m, z.from_local_datetime l = .ok m ∧
      (∀ c ∈ m.toList, StepCandidate z l c) ∧
      (∀ a b, m = .ambiguous a b → instSecs a.utc < instSecs b.utc)) := by
  refine ⟨fun u hu => step_ofu_spec z h1 h2 u hu, fun l hl => ?_⟩
  obtain ⟨m, hm, hc, ho⟩ := step_from_local_spec z h1 h2 l hl
  exact ⟨m, hm, fun c hcm => (hc c hcm).1, ho⟩

/-- `to_datetime_with_timezone(&StepZone)`, every record, every step zone with valid offsets (fold,
gap or none): never panics; errors are of the three documented kinds; a successful result is a
well-formed value whose offset is the zone's offset at its own instant, that carries the supplied
offset field, whose instant is the supplied timestamp field (one less allowed for a leap second),
and whose wall clock is a date-time agreeing with every supplied date and time field -/
theorem step_zone_sound (p : Parsed) (hp : InType p) (z : StepZone) (h1 : OffValid z.o1)
    (h2 : OffValid z.o2) :
    ∃ r, Parsed.to_datetime_with_step_zone p z = .ok r ∧
      (∀ e, r = .error e → e = .notEnough ∨ e = .impossible ∨ e = .outOfRange) ∧
      (∀ v, r = .ok v → Consistent p v ∧ ∃ g dt, NaiveOk p dt g ∧ StepCandidate z dt v) := by
  unfold Parsed.to_datetime_with_step_zone
  have hcand : ∀ l m c, NDTInv l → z.from_local_datetime l = .ok m → c ∈ m.toList → ZInv c :=
    fun l m c hl hm hc => (step_hcand z h1 h2 l m c hl hm hc).1.1
  obtain ⟨r, hr⟩ := gen_total p hp z.offset_from_utc_datetime z.from_local_datetime
    (fun u hu => ⟨_, (step_ofu_spec z h1 h2 u hu).1, offValid_i32 _ (step_ofu_spec z h1 h2 u hu).2⟩)
    (fun l hl => by
      obtain ⟨m, hm, hcs, _⟩ := step_from_local_spec z h1 h2 l hl
      exact ⟨m, hm, fun c hc => (hcs c hc).1.1⟩)
  refine ⟨r, hr, fun e he => ?_, fun v hv => ?_⟩
  · subst he
    exact (tz_gen_error_kinds p hp _ _ (step_hofu z h1 h2) hcand e hr).1
  · subst hv
    obtain ⟨g, dt, m, _, _, hn, hm, hmem, ho, hts, _⟩ := tz_gen_sound p hp _ _ (step_hofu z h1 h2) hcand v hr
    exact ⟨⟨ho, hts⟩, g, dt, hn, (step_hcand z h1 h2 dt m v (naiveOk_inv p dt g hn) hm hmem).1⟩

/-- a timestamp field decides a fold: in a step zone whose fold is not exactly one second wide, a
record with a timestamp field is never refused as NOT_ENOUGH because of the zone — NOT_ENOUGH can
only come from the naive resolution (too few date/time fields) -/
theorem step_zone_timestamp_decides (p : Parsed) (hp : InType p) (z : StepZone) (h1 : OffValid z.o1)
    (h2 : OffValid z.o2) (hw : z.o1 - z.o2 ≠ 1) (ts : Int) (hts : p.timestamp = some ts)
    (h : Parsed.to_datetime_with_step_zone p z = .ok (.error .notEnough)) :
    ∃ g, GuessIs p z.offset_from_utc_datetime g ∧
      Parsed.to_naive_datetime_with_offset p g = .ok (.error .notEnough) := by
  unfold Parsed.to_datetime_with_step_zone at h
  have hcand : ∀ l m c, NDTInv l → z.from_local_datetime l = .ok m → c ∈ m.toList → ZInv c :=
    fun l m c hl hm hc => (step_hcand z h1 h2 l m c hl hm hc).1.1
  rcases gen_reach p hp _ _ (step_hofu z h1 h2) hcand _ h with ⟨_, _, _, h3⟩ | ⟨g, e', hg, hdt, _, h3⟩ |
    ⟨g, dt, m, hg, hdt, hn, hm, h3⟩
  · cases h3
  · cases h3
    exact ⟨g, hg, hdt⟩
  · exfalso
    rcases choose_err _ _ h3.symm with ⟨hh, _⟩ | ⟨_, hl⟩
    · cases hh
    · obtain ⟨a, b, hab, ha, hb⟩ := consistent_two p m hl
      subst hab
      have hdi := naiveOk_inv p dt g hn
      obtain ⟨⟨_, _, ea, _, ca⟩, ma⟩ := step_hcand z h1 h2 dt _ a hdi hm (by simp [Mapped.toList])
      obtain ⟨⟨_, _, eb, _, cb⟩, mb⟩ := step_hcand z h1 h2 dt _ b hdi hm (by simp [Mapped.toList])
      obtain ⟨m', hm', _, hord⟩ := step_from_local_spec z h1 h2 dt hdi
      rw [hm] at hm'
      cases hm'
      have hlt := hord a b rfl
      have oa := (local_offsets_mem z _ _ ma).1
      have ob := (local_offsets_mem z _ _ mb).1
      have hta := ha.2 ts hts
      have htb := hb.2 ts hts
      unfold StepZone.offset_at at ca cb
      omega

/-- the zone of the examples: +02:00 until 2021-10-31T01:00:00Z (= 1635642000), +01:00 from then on;
the local times 02:00:00 ..< 03:00:00 of that day occur twice -/
def foldZone : StepZone := ⟨1635642000, 7200, 3600⟩
/-- 2021-10-31 02:30:00, the middle of the fold -/
def inFold : Parsed :=
  { year := some 2021, month := some 10, day := some 31, hour_div_12 := some 0, hour_mod_12 := some 2,
    minute := some 30, second := some 0 }

/-- non-vacuity, the fold: the offset field +01:00 picks the SECOND candidate (01:30Z), +02:00 the
FIRST (00:30Z); without offset and timestamp the local time is ambiguous: NOT_ENOUGH; an offset that
matches neither side: IMPOSSIBLE -/
example :
    Parsed.to_datetime_with_step_zone { inFold with offset := some 3600 } foldZone
      = .ok (.ok ⟨⟨dateOfYo 2021 304, ⟨5400, 0⟩⟩, 3600⟩) ∧
    Parsed.to_datetime_with_step_zone { inFold with offset := some 7200 } foldZone
      = .ok (.ok ⟨⟨dateOfYo 2021 304, ⟨1800, 0⟩⟩, 7200⟩) ∧
    Parsed.to_datetime_with_step_zone inFold foldZone = .ok (.error .notEnough) ∧
    Parsed.to_datetime_with_step_zone { inFold with offset := some 0 } foldZone
      = .ok (.error .impossible) := by
  decide +kernel

/-- the timestamp field inside the fold (repaired finding F26; before the repair the first two
inputs returned 02:30+01:00 = 1635643800 resp. 02:30+02:00 = 1635640200, contradicting the supplied
timestamp): a timestamp on the +02:00 side with the offset field +01:00, and the mirror case, are
IMPOSSIBLE; the timestamp alone resolves to the candidate at that instant (first resp. second);
timestamp and matching offset likewise; date/time fields of the fold with a timestamp pick the side
of the timestamp -/
example :
    Parsed.to_datetime_with_step_zone { timestamp := some 1635640200, offset := some 3600 } foldZone
      = .ok (.error .impossible) ∧
    Parsed.to_datetime_with_step_zone { timestamp := some 1635643800, offset := some 7200 } foldZone
      = .ok (.error .impossible) ∧
    Parsed.to_datetime_with_step_zone { timestamp := some 1635640200 } foldZone
      = .ok (.ok ⟨⟨dateOfYo 2021 304, ⟨1800, 0⟩⟩, 7200⟩) ∧
    Parsed.to_datetime_with_step_zone { timestamp := some 1635643800 } foldZone
      = .ok (.ok ⟨⟨dateOfYo 2021 304, ⟨5400, 0⟩⟩, 3600⟩) ∧
    Parsed.to_datetime_with_step_zone { timestamp := some 1635643800, offset := some 3600 } foldZone
      = .ok (.ok ⟨⟨dateOfYo 2021 304, ⟨5400, 0⟩⟩, 3600⟩) ∧
    Parsed.to_datetime_with_step_zone { inFold with timestamp := some 1635643800 } foldZone
      = .ok (.ok ⟨⟨dateOfYo 2021 304, ⟨5400, 0⟩⟩, 3600⟩) := by
  decide +kernel

/-- non-vacuity, a gap (+01:00 → +02:00 at 2021-03-28T01:00:00Z = 1616893200: local 02:00 ..< 03:00
do not exist): a local time in the gap is IMPOSSIBLE, the seconds around it resolve -/
example :
    Parsed.to_datetime_with_step_zone
      { year := some 2021, month := some 3, day := some 28, hour_div_12 := some 0, hour_mod_12 := some 2,
        minute := some 30 } ⟨1616893200, 3600, 7200⟩ = .ok (.error .impossible) ∧
    Parsed.to_datetime_with_step_zone
      { year := some 2021, month := some 3, day := some 28, hour_div_12 := some 0, hour_mod_12 := some 1,
        minute := some 59, second := some 59 } ⟨1616893200, 3600, 7200⟩
      = .ok (.ok ⟨⟨dateOfYo 2021 87, ⟨3599, 0⟩⟩, 3600⟩) ∧
    Parsed.to_datetime_with_step_zone
      { year := some 2021, month := some 3, day := some 28, hour_div_12 := some 0, hour_mod_12 := some 3,
        minute := some 0 } ⟨1616893200, 3600, 7200⟩
      = .ok (.ok ⟨⟨dateOfYo 2021 87, ⟨3600, 0⟩⟩, 7200⟩) := by
  decide +kernel

/-! ### field-path completeness of the zone-aware resolvers (audit gap MEDIUM-1) -/

/-- completeness of `to_datetime` on the FIELD path (what `%Y-%m-%d %H:%M:%S %z` reads): for every
well-formed zone-aware value `z` whose wall clock is the existing day `(Y, o)` at the time of day `t`
(leap seconds included), a record
  * whose date fields — any subset containing a documented combination — agree with the day, with
    determinate year groups (as in `date_complete`),
  * whose time fields agree with `t` and are sufficient (as in `time_complete`),
  * whose offset field is `z`'s offset — or is absent while a timestamp is supplied and `z` is at UTC,
  * and whose timestamp field, if supplied, is the instant of `z` (or one more when `z` is a leap
    second, the documented allowance)
resolves to exactly `z`.  (On `date_complete`, `time_complete`, C04's `utc_of_fromUtc` /
`local_of_fromLocal`.) -/
theorem to_datetime_complete_fields (p : Parsed) (hp : InType p) (z : Zoned) (hz : ZInv z)
    (Y : Int) (o : Nat) (t : Time) (hvd : VD Y o) (ht : TStrict t)
    (hl : Zoned.naive_local z = .ok ⟨dateOfYo Y o, t⟩)
    (hag : DateAgrees p Y o)
    (hdY : GroupDeterminate p.year p.year_div_100 p.year_mod_100 Y)
    (hdI : ∀ w, (dateOfYo Y o).iso_week = .ok w →
      GroupDeterminate p.isoyear p.isoyear_div_100 p.isoyear_mod_100 (IsoWeek.year w))
    (hc : UsesCalendar p ∨ UsesIso p) (hta : TimeAgrees p t) (hts : TimeSufficient p)
    (hoff : p.offset = some z.off ∨ (p.offset = none ∧ p.timestamp ≠ none ∧ z.off = 0))
    (hstamp : ∀ g, p.timestamp = some g →
      g = instSecs z.utc ∨ (1000000000 ≤ z.utc.time.frac ∧ g = instSecs z.utc + 1)) :
    Parsed.to_datetime p = .ok (.ok z) :=
  to_datetime_complete_fields' p hp z hz Y o t hvd ht hl hag hdY hdI hc hta hts hoff hstamp

/-- completeness of `to_datetime_with_timezone` for the fixed zone `z.off` (`Utc`: 0) on the FIELD
path: as above; an offset field, if supplied, is the zone's offset.  `hrep`: a supplied timestamp is
not beyond the last representable second — this can only fail for the `+1` reading of a leap second
in the last second of the representable range, where this resolver (unlike `to_datetime`) answers
OUT_OF_RANGE because it first converts the timestamp to a date-time: `tz_leap_at_max` below. -/
theorem to_datetime_with_timezone_complete_fields (p : Parsed) (hp : InType p) (z : Zoned) (hz : ZInv z)
    (Y : Int) (o : Nat) (t : Time) (hvd : VD Y o) (ht : TStrict t)
    (hl : Zoned.naive_local z = .ok ⟨dateOfYo Y o, t⟩)
    (hag : DateAgrees p Y o)
    (hdY : GroupDeterminate p.year p.year_div_100 p.year_mod_100 Y)
    (hdI : ∀ w, (dateOfYo Y o).iso_week = .ok w →
      GroupDeterminate p.isoyear p.isoyear_div_100 p.isoyear_mod_100 (IsoWeek.year w))
    (hc : UsesCalendar p ∨ UsesIso p) (hta : TimeAgrees p t) (hts : TimeSufficient p)
    (hoff : ∀ x, p.offset = some x → x = z.off)
    (hstamp : ∀ g, p.timestamp = some g →
      g = instSecs z.utc ∨ (1000000000 ≤ z.utc.time.frac ∧ g = instSecs z.utc + 1))
    (hrep : ∀ g, p.timestamp = some g → g ≤ TS_MAX) :
    Parsed.to_datetime_with_timezone p z.off = .ok (.ok z) :=
  to_datetime_tz_complete_fields p hp z hz Y o t hvd ht hl hag hdY hdI hc hta hts hoff hstamp hrep

/-- when the timestamp field is exactly the instant of `z` (what a record derived from `z` holds),
`hrep` is automatic -/
theorem to_datetime_with_timezone_complete_fields_exact (p : Parsed) (hp : InType p) (z : Zoned)
    (hz : ZInv z) (Y : Int) (o : Nat) (t : Time) (hvd : VD Y o) (ht : TStrict t)
    (hl : Zoned.naive_local z = .ok ⟨dateOfYo Y o, t⟩)
    (hag : DateAgrees p Y o)
    (hdY : GroupDeterminate p.year p.year_div_100 p.year_mod_100 Y)
    (hdI : ∀ w, (dateOfYo Y o).iso_week = .ok w →
      GroupDeterminate p.isoyear p.isoyear_div_100 p.isoyear_mod_100 (IsoWeek.year w))
    (hc : UsesCalendar p ∨ UsesIso p) (hta : TimeAgrees p t) (hts : TimeSufficient p)
    (hoff : ∀ x, p.offset = some x → x = z.off)
    (hstamp : ∀ g, p.timestamp = some g → g = instSecs z.utc) :
    Parsed.to_datetime_with_timezone p z.off = .ok (.ok z) :=
  to_datetime_tz_complete_fields p hp z hz Y o t hvd ht hl hag hdY hdI hc hta hts hoff
    (fun g hg => Or.inl (hstamp g hg))
    (fun g hg => by rw [hstamp g hg]; exact (Chrono.Proofs.Ts.instSecs_range z.utc hz.1).2)

/-- the excluded input of `to_datetime_with_timezone_complete_fields` (kernel-checked): the leap
second 23:59:60 of the last representable day, timestamp field = its instant + 1 = `TS_MAX + 1`.
`to_naive_datetime_with_offset` and `to_datetime` accept it (the documented allowance),
`to_datetime_with_timezone(&Utc)` reports OUT_OF_RANGE (it converts the timestamp first); with the
exact timestamp `TS_MAX` all three resolve. -/
theorem tz_leap_at_max :
    let p : Parsed := {
      year := some 262142, month := some 12, day := some 31, hour_div_12 := some 1,
      hour_mod_12 := some 11, minute := some 59, second := some 60, offset := some 0,
      timestamp := some 8210266876800 }
    TS_MAX + 1 = 8210266876800 ∧
    Parsed.to_naive_datetime_with_offset p 0 = .ok (.ok ⟨dateOfYo 262142 365, ⟨86399, 1000000000⟩⟩) ∧
    Parsed.to_datetime p = .ok (.ok ⟨⟨dateOfYo 262142 365, ⟨86399, 1000000000⟩⟩, 0⟩) ∧
    Parsed.to_datetime_with_timezone p 0 = .ok (.error .outOfRange) ∧
    Parsed.to_datetime_with_timezone { p with timestamp := some 8210266876799 } 0
      = .ok (.ok ⟨⟨dateOfYo 262142 365, ⟨86399, 1000000000⟩⟩, 0⟩) := by
  decide +kernel

/-- non-vacuity of the two theorems: 2024-02-29T12:00:00.5+01:00, all hypotheses that are not
computations exhibited, both resolvers evaluated -/
example :
    let p : Parsed := {
      year := some 2024, month := some 2, day := some 29, hour_div_12 := some 1,
      hour_mod_12 := some 0, minute := some 0, second := some 0, nanosecond := some 500000000,
      offset := some 3600, timestamp := some 1709204400 }
    let z : Zoned := ⟨⟨dateOfYo 2024 60, ⟨39600, 500000000⟩⟩, 3600⟩
    ZInv z ∧ VD 2024 60 ∧ TStrict ⟨43200, 500000000⟩ ∧
    Zoned.naive_local z = .ok ⟨dateOfYo 2024 60, ⟨43200, 500000000⟩⟩ ∧
    UsesCalendar p ∧ TimeSufficient p ∧ p.offset = some z.off ∧ p.timestamp = some (instSecs z.utc) ∧
    Parsed.to_datetime p = .ok (.ok z) ∧ Parsed.to_datetime_with_timezone p 3600 = .ok (.ok z) := by
  refine ⟨by decide +kernel, by unfold VD; decide, by decide, by decide +kernel,
    ⟨Or.inl (by simp), Or.inl ⟨by simp, by simp⟩⟩, ⟨by simp, by simp, by simp, fun _ => by simp⟩, rfl,
    by decide +kernel, by decide +kernel, by decide +kernel⟩

/-- completeness for ANY time zone on the field path: `z` is a well-formed value whose wall clock is
the day `(Y, o)` at `t`; date and time fields agree with it and are sufficient; the zone's guessed
offset (`GuessIs`) is `z`'s offset whenever a timestamp is supplied; the zone answers the wall clock
with well-formed, pairwise different candidates `m` among which `z` is the only one consistent with
the offset and timestamp fields ⇒ exactly `z`.  (Compared with `tz_gen_resolution`, the naive
resolution is no longer a hypothesis: it follows from field agreement.) -/
theorem tz_gen_complete_fields (p : Parsed) (hp : InType p) (ofu : NaiveDT → Res Int)
    (fl : NaiveDT → Res (Mapped Zoned)) (z : Zoned) (hz : ZInv z)
    (Y : Int) (o : Nat) (t : Time) (hvd : VD Y o) (ht : TStrict t)
    (hl : Zoned.naive_local z = .ok ⟨dateOfYo Y o, t⟩)
    (hag : DateAgrees p Y o)
    (hdY : GroupDeterminate p.year p.year_div_100 p.year_mod_100 Y)
    (hdI : ∀ w, (dateOfYo Y o).iso_week = .ok w →
      GroupDeterminate p.isoyear p.isoyear_div_100 p.isoyear_mod_100 (IsoWeek.year w))
    (hc : UsesCalendar p ∨ UsesIso p) (hta : TimeAgrees p t) (hts : TimeSufficient p)
    (g : Int) (hg : GuessIs p ofu g) (hgz : p.timestamp ≠ none → g = z.off)
    (m : Mapped Zoned) (hm : fl ⟨dateOfYo Y o, t⟩ = .ok m) (hcand : ∀ c ∈ m.toList, ZInv c)
    (hmem : z ∈ m.toList) (hcons : Consistent p z) (hnd : ∀ a b, m = .ambiguous a b → a ≠ b)
    (hother : ∀ c ∈ m.toList, c ≠ z → ¬ Consistent p c) :
    Parsed.to_datetime_with_timezone_gen p ofu fl = .ok (.ok z) :=
  gen_complete_fields p hp ofu fl z hz Y o t hvd ht hl hag hdY hdI hc hta hts g hg hgz m hm hcand hmem
    hcons hnd hother

/-- completeness for the STEP ZONES on the field path: `z` is a value of the step zone `zn` reading
the day `(Y, o)` at `t` on the zone's wall clock (`StepCandidate`: well formed, that wall clock, the
zone's offset at its own instant); date and time fields agree and are sufficient; `z` is consistent
with the offset and timestamp fields and no other value of the zone with that wall clock is — outside
a fold there is no other one, inside a fold the offset field or the timestamp field must single `z`
out ⇒ `to_datetime_with_timezone(&zn)` returns exactly `z`.
`hq` concerns only a timestamp field that is not the instant of `z`, i.e. the `+1` reading of a leap
second: that instant is representable and on `z`'s side of the transition.  `hrep`: every UTC reading
the zone lists for the wall clock is representable (chrono's provided `from_local_datetime` answers
`None` for the whole lookup otherwise; only within a day of the ends of the range). -/
theorem step_zone_complete (p : Parsed) (hp : InType p) (zn : StepZone) (h1 : OffValid zn.o1)
    (h2 : OffValid zn.o2) (z : Zoned) (Y : Int) (o : Nat) (t : Time) (hvd : VD Y o) (ht : TStrict t)
    (hag : DateAgrees p Y o)
    (hdY : GroupDeterminate p.year p.year_div_100 p.year_mod_100 Y)
    (hdI : ∀ w, (dateOfYo Y o).iso_week = .ok w →
      GroupDeterminate p.isoyear p.isoyear_div_100 p.isoyear_mod_100 (IsoWeek.year w))
    (hc : UsesCalendar p ∨ UsesIso p) (hta : TimeAgrees p t) (hts : TimeSufficient p)
    (hcand : StepCandidate zn ⟨dateOfYo Y o, t⟩ z) (hcons : Consistent p z)
    (hq : ∀ ts, p.timestamp = some ts → ts ≠ instSecs z.utc → ts ≤ TS_MAX ∧ zn.offset_at ts = z.off)
    (hrep : ∀ o' ∈ (zn.local_offsets (instSecs ⟨dateOfYo Y o, t⟩)).toList,
      InRangeSecs (instSecs ⟨dateOfYo Y o, t⟩ - o'))
    (hother : ∀ c, StepCandidate zn ⟨dateOfYo Y o, t⟩ c → c ≠ z → ¬ Consistent p c) :
    Parsed.to_datetime_with_step_zone p zn = .ok (.ok z) := by
  obtain ⟨v1, v2, v3, v4⟩ := id hvd
  obtain ⟨i1, _⟩ := Ts.dateInv_of_yo Y o ⟨v1, v2⟩ ⟨v3, v4⟩
  have hdi : NDTInv ⟨dateOfYo Y o, t⟩ := ⟨i1, ht.1⟩
  have hz := hcand.1
  obtain ⟨m, hm, hmem, hnd⟩ := step_candidate_mem zn h1 h2 _ hdi z hcand hrep
  have hrange := Ts.instSecs_range z.utc hz.1
  have hguess : ∃ g, GuessIs p zn.offset_from_utc_datetime g ∧ (p.timestamp ≠ none → g = z.off) := by
    cases hts' : p.timestamp with
    | none => exact ⟨0, Or.inl ⟨hts', rfl⟩, fun h => absurd rfl h⟩
    | some ts =>
      have hts2 : ts ≤ TS_MAX ∧ zn.offset_at ts = z.off := by
        by_cases he : ts = instSecs z.utc
        · rw [he]; exact ⟨hrange.2, hcand.2.2.2.2⟩
        · exact hq ts hts' he
      have hlo : TS_MIN ≤ ts := by
        rcases hcons.2 ts hts' with h | ⟨_, h⟩ <;> omega
      obtain ⟨u, hu, hui, hus, _⟩ := from_ts_some ts (p.nanosecond.getD 0) ⟨hlo, hts2.1⟩
        (nano_of_agrees p t hta)
      refine ⟨z.off, Or.inr ⟨ts, u, hts', hu, hui, hus, ?_⟩, fun _ => rfl⟩
      rw [(step_ofu_spec zn h1 h2 u hui).1, hus, hts2.2]
  obtain ⟨g, hg, hgz⟩ := hguess
  unfold Parsed.to_datetime_with_step_zone
  exact gen_complete_fields p hp _ _ z hz Y o t hvd ht hcand.2.1 hag hdY hdI hc hta hts g hg hgz m hm
    (fun c hc' => (step_hcand zn h1 h2 _ m c hdi hm hc').1.1) hmem hcons hnd
    (fun c hc' hne => hother c (step_hcand zn h1 h2 _ m c hdi hm hc').1 hne)

/-- every value of a step zone is found by the zone's local-time lookup: a `StepCandidate` for the
local date-time `l` is among the candidates `from_local_datetime` returns for `l` (and the candidates
are pairwise different), provided all listed UTC readings are representable -/
theorem step_zone_lookup_complete (zn : StepZone) (h1 : OffValid zn.o1) (h2 : OffValid zn.o2)
    (l : NaiveDT) (hl : NDTInv l) (c : Zoned) (hc : StepCandidate zn l c)
    (hrep : ∀ o ∈ (zn.local_offsets (instSecs l)).toList, InRangeSecs (instSecs l - o)) :
    ∃ m, zn.from_local_datetime l = .ok m ∧ c ∈ m.toList ∧ (∀ a b, m = .ambiguous a b → a ≠ b) :=
  step_candidate_mem zn h1 h2 l hl c hc hrep

/-- non-vacuity of `step_zone_complete` in the fold of `foldZone` (02:30 local occurs twice): the
second pass `z₂ = 01:30Z +01:00` is a `StepCandidate`, the record `inFold` + offset 3600 is consistent
with it and not with the first pass `z₁ = 00:30Z +02:00` (also a `StepCandidate`); the listed readings
are representable -/
example :
    let l : NaiveDT := ⟨dateOfYo 2021 304, ⟨9000, 0⟩⟩
    let z1 : Zoned := ⟨⟨dateOfYo 2021 304, ⟨1800, 0⟩⟩, 7200⟩
    let z2 : Zoned := ⟨⟨dateOfYo 2021 304, ⟨5400, 0⟩⟩, 3600⟩
    foldZone.local_offsets (instSecs l) = .ambiguous 7200 3600 ∧
    InRangeSecs (instSecs l - 7200) ∧ InRangeSecs (instSecs l - 3600) ∧
    consistentB { inFold with offset := some 3600 } z2 = true ∧
    consistentB { inFold with offset := some 3600 } z1 = false ∧
    Zoned.naive_local z1 = .ok l ∧ Zoned.naive_local z2 = .ok l ∧
    foldZone.offset_at (instSecs z1.utc) = z1.off ∧ foldZone.offset_at (instSecs z2.utc) = z2.off ∧
    Parsed.to_datetime_with_step_zone { inFold with offset := some 3600 } foldZone = .ok (.ok z2) := by
  decide +kernel

/-! ### which error the combined resolvers report (audit gap MEDIUM-2) -/

/-- the decision table of `to_naive_datetime_with_offset`, EVERY record and `i32` offset, in terms of
the two component resolvers (whose own kinds are `date_error_kinds` / `time_error_kinds`):
* both resolve: the pair, or IMPOSSIBLE iff the timestamp field contradicts it (`datetime_sound_fields`);
* otherwise, WITHOUT a timestamp field: the date resolver's error, else the time resolver's error;
* otherwise, WITH a timestamp field: OUT_OF_RANGE if either resolver reports OUT_OF_RANGE, else
  IMPOSSIBLE if either reports IMPOSSIBLE, else whatever the fall-back path yields — and that is
  NOT_ENOUGH only for a century-only ISO year group.
In every case NOT_ENOUGH implies that the record does not hold a sufficient date and a sufficient
time combination.
(The last timestamp clause is stated RELATIVE TO THE MODEL function `from_timestamp_path` — it says which
branch runs, not what the branch yields; what it yields is stated against the specification in
`datetime_fallback_outcome`, `datetime_sound` and `datetime_complete_timestamp(_leap)`.  Which of
IMPOSSIBLE / OUT_OF_RANGE the fall-back reports is not characterised.) -/
theorem datetime_error_kinds (p : Parsed) (hp : InType p) (off : Int)
    (hoff : -2147483648 ≤ off ∧ off ≤ 2147483647) :
    ∃ rd, Parsed.to_naive_date p = .ok rd ∧
      (p.timestamp = none →
        Parsed.to_naive_datetime_with_offset p off = .ok (match rd, Parsed.to_naive_time p with
          | .error e, _ => .error e
          | .ok _, .error e => .error e
          | .ok d, .ok t => .ok ⟨d, t⟩)) ∧
      (∀ ts, p.timestamp = some ts →
        (¬ ∃ d t, rd = .ok d ∧ Parsed.to_naive_time p = .ok t) →
        ((rd = .error .outOfRange ∨ Parsed.to_naive_time p = .error .outOfRange) →
          Parsed.to_naive_datetime_with_offset p off = .ok (.error .outOfRange)) ∧
        (¬ (rd = .error .outOfRange ∨ Parsed.to_naive_time p = .error .outOfRange) →
          (rd = .error .impossible ∨ Parsed.to_naive_time p = .error .impossible) →
          Parsed.to_naive_datetime_with_offset p off = .ok (.error .impossible)) ∧
        (¬ (rd = .error .outOfRange ∨ Parsed.to_naive_time p = .error .outOfRange) →
          ¬ (rd = .error .impossible ∨ Parsed.to_naive_time p = .error .impossible) →
          Parsed.to_naive_datetime_with_offset p off = Parsed.from_timestamp_path p off ts)) ∧
      (Parsed.to_naive_datetime_with_offset p off = .ok (.error .notEnough) →
        ¬ (DateSufficient p ∧ TimeSufficient p) ∧
        (p.timestamp ≠ none → ¬ GroupUsable p.isoyear p.isoyear_div_100 p.isoyear_mod_100)) := by
  obtain ⟨rd, hrd, _⟩ := date_main p hp
  refine ⟨rd, hrd, fun hts => ?_, fun ts hts hnb => ?_, dt_not_enough_only p hp off hoff⟩
  · obtain ⟨rd', hrd', h⟩ := dt_no_timestamp p hp off hoff hts
    rw [hrd] at hrd'; cases hrd'; exact h
  · obtain ⟨rd', hrd', h⟩ := dt_with_timestamp' p hp off ts hts (by
      rintro ⟨d, t, hd, ht⟩
      rw [hrd] at hd; cases hd
      exact hnb ⟨d, t, rfl, ht⟩)
    rw [hrd] at hrd'; cases hrd'; exact h

/-- NOT_ENOUGH of `to_naive_datetime_with_offset`, exactly, for a record WITHOUT a timestamp field
whose year groups are coherent and whose time fields are in range: reported iff the record does not
hold a sufficient date AND a sufficient time combination — unless the date resolver itself reports
IMPOSSIBLE / OUT_OF_RANGE (a contradicting or non-existent date is reported first).
(The audit's proposed form `… ↔ ¬(DateSufficient ∧ TimeSufficient) ∧ timestamp = none` is false as
it stands: `{year 2023, month 2, day 30}` is OUT_OF_RANGE (the date resolver's error comes first)
although the time is missing, and `{timestamp, isoyear_div_100}` is NOT_ENOUGH although a timestamp is present — see the
example below; for records DERIVED from a value it is true: `datetime_not_enough_iff_derived`.) -/
theorem datetime_not_enough_iff (p : Parsed) (hp : InType p) (off : Int)
    (hoff : -2147483648 ≤ off ∧ off ≤ 2147483647)
    (hcY : GroupCoherent p.year p.year_div_100 p.year_mod_100)
    (hcI : GroupCoherent p.isoyear p.isoyear_div_100 p.isoyear_mod_100) (hr : TimeInRange p)
    (hts : p.timestamp = none) :
    Parsed.to_naive_datetime_with_offset p off = .ok (.error .notEnough) ↔
      (¬ (DateSufficient p ∧ TimeSufficient p) ∧
        ¬ ∃ e, e ≠ .notEnough ∧ Parsed.to_naive_date p = .ok (.error e)) := by
  obtain ⟨rd, hrd, hres⟩ := dt_no_timestamp p hp off hoff hts
  have hdne := date_not_enough_iff p hp hcY hcI
  constructor
  · intro h
    refine ⟨(dt_not_enough_only p hp off hoff h).1, ?_⟩
    rintro ⟨e, hne, he⟩
    rw [hrd] at he; cases he
    rw [hres] at h
    simp only [] at h
    cases h
    exact hne rfl
  · rintro ⟨hns, hnd⟩
    rw [hres]
    cases rd with
    | error e =>
      simp only []
      by_cases he : e = .notEnough
      · rw [he]
      · exact absurd ⟨e, he, hrd⟩ hnd
    | ok d =>
      have hds : DateSufficient p := by
        by_contra hc
        have := hdne.mpr hc
        rw [hrd] at this; cases this
      have hnt : ¬ TimeSufficient p := fun ht => hns ⟨hds, ht⟩
      cases htm : Parsed.to_naive_time p with
      | ok t => exact absurd (time_sound' p t htm).2.2.1 hnt
      | error e =>
        simp only []
        rcases time_err' p e htm with ⟨h1, _⟩ | ⟨_, h2⟩
        · rw [h1]
        · exact absurd hr h2

/-- NOT_ENOUGH on fields DERIVED from one local reading — any subset of the 20 date/time/timestamp
fields agreeing with the existing day `(Y, o)` and the time of day `t` (leap second or not), year
groups determinate: reported exactly when there is no timestamp field and the record does not hold
a sufficient date and a sufficient time combination.  (So a derived record never yields IMPOSSIBLE
or OUT_OF_RANGE instead of NOT_ENOUGH, and a timestamp field always suffices.) -/
theorem datetime_not_enough_iff_derived (p : Parsed) (hp : InType p) (off : Int)
    (hoff : -2147483648 ≤ off ∧ off ≤ 2147483647) (Y : Int) (o : Nat) (t : Time) (hvd : VD Y o)
    (ht : TValid t) (hag : DateAgrees p Y o)
    (hdY : GroupDeterminate p.year p.year_div_100 p.year_mod_100 Y)
    (hdI : ∀ w, (dateOfYo Y o).iso_week = .ok w →
      GroupDeterminate p.isoyear p.isoyear_div_100 p.isoyear_mod_100 (IsoWeek.year w))
    (hta : TimeAgreesSupplied p t) :
    Parsed.to_naive_datetime_with_offset p off = .ok (.error .notEnough) ↔
      (p.timestamp = none ∧ ¬ (DateSufficient p ∧ TimeSufficient p)) := by
  have hMIN : MIN_YEAR = -262143 := rfl
  have hMAX : MAX_YEAR = 262142 := rfl
  obtain ⟨v1, v2, _, _⟩ := id hvd
  obtain ⟨a1, a2, _, _, _, _, _, _, _, ⟨w, hw, j1, j2, _⟩⟩ := id hag
  have hib := iso_year_bound Y o hvd w hw
  constructor
  · intro h
    obtain ⟨h1, h2⟩ := dt_not_enough_only p hp off hoff h
    refine ⟨?_, h1⟩
    by_contra hc
    exact h2 hc (hdI w hw).1
  · rintro ⟨hts, hns⟩
    refine (datetime_not_enough_iff p hp off hoff (coherent_of_agrees _ _ _ Y (by omega) a1 a2)
      (coherent_of_agrees _ _ _ _ (by omega) j1 j2) (timeInRange_of_supplied p t ht hta) hts).mpr
      ⟨hns, ?_⟩
    rintro ⟨e, hne, he⟩
    rcases date_of_derived p hp Y o hvd hag hdY hdI with ⟨h, _⟩ | ⟨h, _⟩
    · rw [h] at he; cases he
    · rw [h] at he; cases he; exact hne rfl

/-- non-vacuity / the corner cases: no timestamp and no time → NOT_ENOUGH; a non-existent date
without time → the date's OUT_OF_RANGE comes first; a timestamp with a century-only ISO year group →
NOT_ENOUGH; a timestamp with a century-only calendar year group resolves (the century is checked
against the reconstructed year); an out-of-range minute beside a timestamp → OUT_OF_RANGE; a
contradicting date beside a timestamp → IMPOSSIBLE -/
example :
    Parsed.to_naive_datetime_with_offset { year := some 2023, month := some 2, day := some 28 } 0
      = .ok (.error .notEnough) ∧
    Parsed.to_naive_datetime_with_offset { year := some 2023, month := some 2, day := some 30 } 0
      = .ok (.error .outOfRange) ∧
    Parsed.to_naive_datetime_with_offset { timestamp := some 0, isoyear_div_100 := some 19 } 0
      = .ok (.error .notEnough) ∧
    Parsed.to_naive_datetime_with_offset { timestamp := some 0, year_div_100 := some 19 } 0
      = .ok (.ok ⟨dateOfYo 1970 1, ⟨0, 0⟩⟩) ∧
    Parsed.to_naive_datetime_with_offset
      { timestamp := some 0, hour_div_12 := some 0, hour_mod_12 := some 0, minute := some 60 } 0
      = .ok (.error .outOfRange) ∧
    Parsed.to_naive_datetime_with_offset
      { timestamp := some 0, year := some 1970, month := some 1, day := some 1, ordinal := some 2 } 0
      = .ok (.error .impossible) := by
  decide +kernel

/-- `to_datetime`, EVERY record, stage by stage — which error kind and when:
* neither offset nor timestamp field: NOT_ENOUGH;
* otherwise the naive stage runs at the supplied offset (0 without one) and its error is passed on
  (`datetime_error_kinds`);
* the naive stage succeeded with `dt`: OUT_OF_RANGE iff the offset is not strictly within ±24 h;
  else IMPOSSIBLE iff the UTC reading `dt − offset` is not representable; else the value with that
  offset and wall clock `dt`. -/
theorem to_datetime_error_kinds (p : Parsed) (hp : InType p) :
    (p.offset = none → p.timestamp = none → Parsed.to_datetime p = .ok (.error .notEnough)) ∧
    ((p.offset ≠ none ∨ p.timestamp ≠ none) →
      ∃ r, Parsed.to_naive_datetime_with_offset p (p.offset.getD 0) = .ok r ∧
        (∀ e, r = .error e → Parsed.to_datetime p = .ok (.error e)) ∧
        (∀ dt, r = .ok dt →
          (¬ OffValid (p.offset.getD 0) → Parsed.to_datetime p = .ok (.error .outOfRange)) ∧
          (OffValid (p.offset.getD 0) → ¬ InRangeSecs (instSecs dt - p.offset.getD 0) →
            Parsed.to_datetime p = .ok (.error .impossible)) ∧
          (OffValid (p.offset.getD 0) → InRangeSecs (instSecs dt - p.offset.getD 0) →
            ∃ z, Parsed.to_datetime p = .ok (.ok z) ∧ z.off = p.offset.getD 0 ∧
              Zoned.naive_local z = .ok dt))) := by
  have hoffT := hp.2.2.2.2.2.2.2.2.2.2.2.2.2.2.2.2.2.2.2
  -- `T` stands for `to_datetime p` once the offset to use is known
  have core : ∀ (offset : Int), (-2147483648 ≤ offset ∧ offset ≤ 2147483647) → ∀ T : Parsed.RP Zoned,
      T = (Parsed.RP.bind (Parsed.to_naive_datetime_with_offset p offset) fun datetime =>
            match Zoned.east_opt offset with
            | none => .ok (.error .outOfRange)
            | some off =>
              match Zoned.from_local_datetime off datetime with
              | .panic => .panic
              | .ok none => .ok (.error .impossible)
              | .ok (some t) => .ok (.ok t)) →
      ∃ r, Parsed.to_naive_datetime_with_offset p offset = .ok r ∧
        (∀ e, r = .error e → T = .ok (.error e)) ∧
        (∀ dt, r = .ok dt →
          (¬ OffValid offset → T = .ok (.error .outOfRange)) ∧
          (OffValid offset → ¬ InRangeSecs (instSecs dt - offset) → T = .ok (.error .impossible)) ∧
          (OffValid offset → InRangeSecs (instSecs dt - offset) →
            ∃ z, T = .ok (.ok z) ∧ z.off = offset ∧ Zoned.naive_local z = .ok dt)) := by
    rintro offset hoff _ rfl
    obtain ⟨r, hr, _, hok⟩ := dt_main' p hp offset hoff
    refine ⟨r, hr, ?_, ?_⟩
    · intro e he; subst he; rw [hr]; rfl
    · intro dt hdt
      subst hdt
      rw [hr, bind_okok]
      have hdi := naiveOk_inv p dt offset (hok dt rfl)
      unfold Zoned.east_opt OffValid
      refine ⟨fun hv => by rw [if_neg hv], fun hv hnr => ?_, fun hv hir => ?_⟩
      · rw [if_pos hv]
        obtain ⟨r2, hr2, hnone⟩ := Chrono.Props.C04.fromLocal_fails_iff offset dt hv hdi
        simp only [hr2, hnone.mpr hnr]
      · rw [if_pos hv]
        obtain ⟨r2, hr2, hnone⟩ := Chrono.Props.C04.fromLocal_fails_iff offset dt hv hdi
        cases r2 with
        | none => exact absurd hir (hnone.mp rfl)
        | some z =>
          obtain ⟨a, _, c, _⟩ := Chrono.Props.C04.local_of_fromLocal offset dt hv hdi z hr2
          simp only [hr2]
          exact ⟨z, rfl, a, c⟩
  refine ⟨fun h1 h2 => by simp only [Parsed.to_datetime, h1, h2], fun hsome => ?_⟩
  cases hoffs : p.offset with
  | some off =>
    rw [Option.getD_some]
    exact core off (hoffT off hoffs) _ (by simp only [Parsed.to_datetime, hoffs]; rfl)
  | none =>
    obtain ⟨g, hg⟩ := Option.ne_none_iff_exists'.mp (hsome.resolve_left fun h => h hoffs)
    rw [Option.getD_none]
    exact core 0 (by omega) _ (by simp only [Parsed.to_datetime, hoffs, hg]; rfl)

/-- NOT_ENOUGH of `to_datetime`, exactly, EVERY record: neither offset nor timestamp is supplied, or
the naive stage reports NOT_ENOUGH (`datetime_not_enough_iff…`) -/
theorem to_datetime_not_enough_iff (p : Parsed) (hp : InType p) :
    Parsed.to_datetime p = .ok (.error .notEnough) ↔
      ((p.offset = none ∧ p.timestamp = none) ∨
       Parsed.to_naive_datetime_with_offset p (p.offset.getD 0) = .ok (.error .notEnough)) := by
  obtain ⟨h0, h1⟩ := to_datetime_error_kinds p hp
  by_cases hn : p.offset = none ∧ p.timestamp = none
  · exact ⟨fun _ => Or.inl hn, fun _ => h0 hn.1 hn.2⟩
  · have hsome : p.offset ≠ none ∨ p.timestamp ≠ none := by
      by_cases ho : p.offset = none
      · exact Or.inr (fun h => hn ⟨ho, h⟩)
      · exact Or.inl ho
    obtain ⟨r, hr, he, hok⟩ := h1 hsome
    rw [not_enough_passed_on _ _ r hr he fun dt hdt h => ?_]
    · exact ⟨Or.inr, fun h => h.resolve_left hn⟩
    · obtain ⟨a, b, c⟩ := hok dt hdt
      by_cases hv : OffValid (p.offset.getD 0)
      · by_cases hir : InRangeSecs (instSecs dt - p.offset.getD 0)
        · obtain ⟨z, hz, _⟩ := c hv hir
          rw [hz] at h; cases h
        · rw [b hv hir] at h; cases h
      · rw [a hv] at h; cases h

/-- `to_datetime_with_timezone` for a fixed zone, EVERY record, stage by stage: a timestamp field
that is no representable instant (with the nanosecond field) is OUT_OF_RANGE; otherwise the naive
stage runs at the guessed offset `g` (0 without timestamp, else the zone's offset) and its error is
passed on; on success with `dt`: IMPOSSIBLE iff the UTC reading `dt − zone` is not representable or
the offset field differs from the zone's offset; else the value at the zone's offset with wall
clock `dt`.  (Zone-generic analogue: `tz_gen_error_kinds` / `tz_gen_resolution`.) -/
theorem to_datetime_with_timezone_error_kinds (p : Parsed) (hp : InType p) (zone : Int)
    (hz : OffValid zone) :
    (∀ ts, p.timestamp = some ts → ¬ tsOk ts (p.nanosecond.getD 0) →
      Parsed.to_datetime_with_timezone p zone = .ok (.error .outOfRange)) ∧
    (∀ g, (p.timestamp = none ∧ g = 0) ∨
        (∃ ts, p.timestamp = some ts ∧ tsOk ts (p.nanosecond.getD 0) ∧ g = zone) →
      ∃ r, Parsed.to_naive_datetime_with_offset p g = .ok r ∧
        (∀ e, r = .error e → Parsed.to_datetime_with_timezone p zone = .ok (.error e)) ∧
        (∀ dt, r = .ok dt →
          ((¬ InRangeSecs (instSecs dt - zone) ∨ ∃ x, p.offset = some x ∧ x ≠ zone) →
            Parsed.to_datetime_with_timezone p zone = .ok (.error .impossible)) ∧
          (InRangeSecs (instSecs dt - zone) → (∀ x, p.offset = some x → x = zone) →
            ∃ z, Parsed.to_datetime_with_timezone p zone = .ok (.ok z) ∧ z.off = zone ∧
              Zoned.naive_local z = .ok dt))) := by
  have hnT := hp.2.2.2.2.2.2.2.2.2.2.2.2.2.2.2.2.2.1
  have htT := hp.2.2.2.2.2.2.2.2.2.2.2.2.2.2.2.2.2.2.1
  have hzr := offValid_i32 zone hz
  -- `T` stands for `to_datetime_with_timezone p zone` once the guessed offset is known
  have tail : ∀ g, (-2147483648 ≤ g ∧ g ≤ 2147483647) → ∀ T : Parsed.RP Zoned,
      T = (Parsed.RP.bind (Parsed.to_naive_datetime_with_offset p g) fun datetime =>
            match Zoned.from_local_datetime zone datetime with
            | .panic => .panic
            | .ok none => .ok (.error .impossible)
            | .ok (some t) =>
              let check_offset : Bool := match p.offset with
                | some offset => t.off == offset
                | none => true
              if check_offset then .ok (.ok t) else .ok (.error .impossible)) →
      ∃ r, Parsed.to_naive_datetime_with_offset p g = .ok r ∧
        (∀ e, r = .error e → T = .ok (.error e)) ∧
        (∀ dt, r = .ok dt →
          ((¬ InRangeSecs (instSecs dt - zone) ∨ ∃ x, p.offset = some x ∧ x ≠ zone) →
            T = .ok (.error .impossible)) ∧
          (InRangeSecs (instSecs dt - zone) → (∀ x, p.offset = some x → x = zone) →
            ∃ z, T = .ok (.ok z) ∧ z.off = zone ∧ Zoned.naive_local z = .ok dt)) := by
    rintro g hg _ rfl
    obtain ⟨r, hr, _, hok⟩ := dt_main' p hp g hg
    refine ⟨r, hr, ?_, ?_⟩
    · intro e he; subst he; rw [hr]; rfl
    · intro dt hdt
      subst hdt
      rw [hr, bind_okok]
      have hdi := naiveOk_inv p dt g (hok dt rfl)
      obtain ⟨r2, hr2, hnone⟩ := Chrono.Props.C04.fromLocal_fails_iff zone dt hz hdi
      rw [hr2]
      cases r2 with
      | none =>
        refine ⟨fun _ => rfl, fun hir _ => absurd hir (hnone.mp rfl)⟩
      | some z =>
        obtain ⟨a, _, c, _⟩ := Chrono.Props.C04.local_of_fromLocal zone dt hz hdi z hr2
        have hir : InRangeSecs (instSecs dt - zone) := by
          by_contra hc
          have := hnone.mpr hc
          cases this
        simp only []
        refine ⟨fun hbad => ?_, fun _ hoffs => ?_⟩
        · rcases hbad with hbad | ⟨x, hx, hne⟩
          · exact absurd hir hbad
          · rw [hx]
            simp only []
            have : (z.off == x) = false := by rw [a]; simp; exact fun h => hne h.symm
            simp [this]
        · refine ⟨z, ?_, a, c⟩
          cases hpo : p.offset with
          | none => rfl
          | some x =>
            simp only []
            have : (z.off == x) = true := by rw [a, hoffs x hpo]; simp
            simp [this]
  refine ⟨fun ts hts hbad => ?_, fun g hg => ?_⟩
  · obtain ⟨r0, hr0, hnone, _⟩ := Ts.from_timestamp_spec ts (p.nanosecond.getD 0)
      (by have := htT ts hts; unfold isI64; exact this) (nano_nonneg p hp)
    have : r0 = none := hnone.mpr hbad
    subst this
    simp only [Parsed.to_datetime_with_timezone, hts, hr0, okOr_none, bind_err]
  · rcases hg with ⟨hts, rfl⟩ | ⟨ts, hts, hok, rfl⟩
    · exact tail 0 (by omega) _ (by simp only [Parsed.to_datetime_with_timezone, hts, bind_okok]; rfl)
    · obtain ⟨r0, hr0, hnone, _⟩ := Ts.from_timestamp_spec ts (p.nanosecond.getD 0)
        (by have := htT ts hts; unfold isI64; exact this) (nano_nonneg p hp)
      obtain ⟨d0, rfl⟩ : ∃ d0, r0 = some d0 := by
        cases r0 with
        | some d0 => exact ⟨d0, rfl⟩
        | none => exact absurd hok (hnone.mp rfl)
      exact tail g hzr _
        (by simp only [Parsed.to_datetime_with_timezone, hts, hr0, okOr_some, bind_okok]; rfl)

/-- NOT_ENOUGH of `to_datetime_with_timezone` (fixed zone), exactly: the naive stage at the guessed
offset reports it — a missing offset FIELD is never a reason here (the zone supplies the offset) -/
theorem to_datetime_with_timezone_not_enough_iff (p : Parsed) (hp : InType p) (zone : Int)
    (hz : OffValid zone) :
    Parsed.to_datetime_with_timezone p zone = .ok (.error .notEnough) ↔
      ((p.timestamp = none ∧ Parsed.to_naive_datetime_with_offset p 0 = .ok (.error .notEnough)) ∨
       (∃ ts, p.timestamp = some ts ∧ tsOk ts (p.nanosecond.getD 0) ∧
         Parsed.to_naive_datetime_with_offset p zone = .ok (.error .notEnough))) := by
  obtain ⟨h0, h1⟩ := to_datetime_with_timezone_error_kinds p hp zone hz
  have fin : ∀ g, ((p.timestamp = none ∧ g = 0) ∨
      (∃ ts, p.timestamp = some ts ∧ tsOk ts (p.nanosecond.getD 0) ∧ g = zone)) →
      (Parsed.to_datetime_with_timezone p zone = .ok (.error .notEnough) ↔
        Parsed.to_naive_datetime_with_offset p g = .ok (.error .notEnough)) := by
    intro g hg
    obtain ⟨r, hr, he, hok⟩ := h1 g hg
    refine not_enough_passed_on _ _ r hr he fun dt hdt h => ?_
    obtain ⟨a, b⟩ := hok dt hdt
    by_cases hbad : ¬ InRangeSecs (instSecs dt - zone) ∨ ∃ x, p.offset = some x ∧ x ≠ zone
    · rw [a hbad] at h; cases h
    · obtain ⟨z, hz', _⟩ := b (by_contra fun hc => hbad (Or.inl hc))
        (fun x hx => by_contra fun hc => hbad (Or.inr ⟨x, hx, hc⟩))
      rw [hz'] at h; cases h
  cases hts : p.timestamp with
  | none =>
    rw [fin 0 (Or.inl ⟨hts, rfl⟩)]
    constructor
    · intro h; exact Or.inl ⟨rfl, h⟩
    · rintro (⟨_, h⟩ | ⟨ts, h, _⟩)
      · exact h
      · cases h
  | some ts =>
    by_cases hok : tsOk ts (p.nanosecond.getD 0)
    · rw [fin zone (Or.inr ⟨ts, hts, hok, rfl⟩)]
      constructor
      · intro h; exact Or.inr ⟨ts, rfl, hok, h⟩
      · rintro (⟨h, _⟩ | ⟨_, _, _, h⟩)
        · cases h
        · exact h
    · rw [h0 ts hts hok]
      constructor
      · intro h; cases h
      · rintro (⟨h, _⟩ | ⟨ts', h, hok', _⟩)
        · cases h
        · cases h; exact absurd hok' hok

/-- non-vacuity of the zone-aware tables: no offset and no timestamp; date and offset but no time
(naive NOT_ENOUGH passed on); an offset of a whole day (OUT_OF_RANGE after a successful naive stage);
the first representable second at +01:00 (UTC reading not representable: IMPOSSIBLE); a timestamp
beyond the range in a fixed zone (OUT_OF_RANGE before anything else); an offset field contradicting
the zone (IMPOSSIBLE); a fixed zone needs no offset field -/
example :
    Parsed.to_datetime { year := some 2024, ordinal := some 60 } = .ok (.error .notEnough) ∧
    Parsed.to_datetime { year := some 2024, ordinal := some 60, offset := some 0 } = .ok (.error .notEnough) ∧
    Parsed.to_datetime { timestamp := some 0, offset := some 86400 } = .ok (.error .outOfRange) ∧
    Parsed.to_datetime {
      year := some (-262143), ordinal := some 1, hour_div_12 := some 0, hour_mod_12 := some 0,
      minute := some 0, offset := some 3600 } = .ok (.error .impossible) ∧
    Parsed.to_datetime_with_timezone { timestamp := some 8210266876800 } 0 = .ok (.error .outOfRange) ∧
    Parsed.to_datetime_with_timezone { timestamp := some 0, offset := some 3600 } 0
      = .ok (.error .impossible) ∧
    Parsed.to_datetime_with_timezone { timestamp := some 0 } 3600
      = .ok (.ok ⟨⟨dateOfYo 1970 1, ⟨0, 0⟩⟩, 3600⟩) := by
  decide +kernel

/-! ### leap-second readings through the timestamp fall-back (audit gap LOW-MEDIUM-3) -/

/-- completeness of `to_naive_datetime_with_offset` THROUGH THE TIMESTAMP for a LEAP-SECOND reading
(the case `datetime_complete_timestamp` excludes by `hnl`): for every existing day `(Y, o)`, every
leap reading `t` (`t.frac ≥ 10⁹` on a second :59 — any minute, as `NaiveTime` allows) and every offset,
a record
  * whose second field is 60,
  * whose timestamp field `g` is the timestamp of the reading at `off` (that of its second :59), or
    one more (that of the following second, the documented allowance) — in which case the following
    second must itself be a representable local date-time (`g + off ≤ TS_MAX`; see the example below),
  * whose other supplied fields — any subset — agree with the reading, year groups determinate, the
    nanosecond field (if any) being the sub-second part and the sub-second part being zero without it,
  * and that does not hold a sufficient date together with a sufficient time combination
resolves to exactly `⟨(Y, o), t⟩`. -/
theorem datetime_complete_timestamp_leap (p : Parsed) (hp : InType p) (off : Int) (Y : Int) (o : Nat)
    (t : Time) (hvd : VD Y o) (ht : TValid t) (hleap : 1000000000 ≤ t.frac) (h59 : t.secs % 60 = 59)
    (hag : DateAgrees p Y o)
    (hdY : GroupDeterminate p.year p.year_div_100 p.year_mod_100 Y)
    (hdI : ∀ w, (dateOfYo Y o).iso_week = .ok w →
      GroupDeterminate p.isoyear p.isoyear_div_100 p.isoyear_mod_100 (IsoWeek.year w))
    (hta : TimeAgreesSupplied p t) (hnano : p.nanosecond = none → t.frac = 1000000000)
    (h60 : p.second = some 60) (g : Int) (hts : p.timestamp = some g)
    (hg : g = timestampIs.instSecsLocal ⟨dateOfYo Y o, t⟩ - off ∨
      (g = timestampIs.instSecsLocal ⟨dateOfYo Y o, t⟩ - off + 1 ∧ g + off ≤ TS_MAX))
    (hfb : ¬ (DateSufficient p ∧ TimeSufficient p)) :
    Parsed.to_naive_datetime_with_offset p off = .ok (.ok ⟨dateOfYo Y o, t⟩) :=
  dt_complete_ts p hp off Y o t hvd ht (.inl h60) hag hdY hdI hta (fun h => by rw [hnano h]; rfl) g hts
    (hg.imp_right fun h => ⟨h60, h⟩) hfb

/-- the same for `to_datetime`: the timestamp of a leap-second value `z` (or one more), second 60,
`z`'s offset as offset field (or none, `z` at UTC), agreeing insufficient other fields ⇒ exactly `z` -/
theorem to_datetime_complete_timestamp_leap (p : Parsed) (hp : InType p) (z : Zoned) (hz : ZInv z)
    (Y : Int) (o : Nat) (t : Time) (hvd : VD Y o) (ht : TValid t) (hleap : 1000000000 ≤ t.frac)
    (h59 : t.secs % 60 = 59)
    (hl : Zoned.naive_local z = .ok ⟨dateOfYo Y o, t⟩)
    (hag : DateAgrees p Y o)
    (hdY : GroupDeterminate p.year p.year_div_100 p.year_mod_100 Y)
    (hdI : ∀ w, (dateOfYo Y o).iso_week = .ok w →
      GroupDeterminate p.isoyear p.isoyear_div_100 p.isoyear_mod_100 (IsoWeek.year w))
    (hta : TimeAgreesSupplied p t) (hnano : p.nanosecond = none → t.frac = 1000000000)
    (h60 : p.second = some 60) (g : Int) (hts : p.timestamp = some g)
    (hg : g = instSecs z.utc ∨ (g = instSecs z.utc + 1 ∧ g + z.off ≤ TS_MAX))
    (hoff : p.offset = some z.off ∨ (p.offset = none ∧ z.off = 0))
    (hfb : ¬ (DateSufficient p ∧ TimeSufficient p)) :
    Parsed.to_datetime p = .ok (.ok z) :=
  to_datetime_complete_ts p hp z hz Y o t hvd ht (.inl h60) hl hag hdY hdI hta (fun h => by rw [hnano h]; rfl) g hts
    (hg.imp_right fun h => ⟨h60, h⟩) hoff hfb

/-- the same for `to_datetime_with_timezone` in the fixed zone `z.off`; for the `+1` timestamp the
following second must be representable both as a local date-time and as an instant -/
theorem to_datetime_with_timezone_complete_timestamp_leap (p : Parsed) (hp : InType p) (z : Zoned)
    (hz : ZInv z) (Y : Int) (o : Nat) (t : Time) (hvd : VD Y o) (ht : TValid t)
    (hleap : 1000000000 ≤ t.frac) (h59 : t.secs % 60 = 59)
    (hl : Zoned.naive_local z = .ok ⟨dateOfYo Y o, t⟩)
    (hag : DateAgrees p Y o)
    (hdY : GroupDeterminate p.year p.year_div_100 p.year_mod_100 Y)
    (hdI : ∀ w, (dateOfYo Y o).iso_week = .ok w →
      GroupDeterminate p.isoyear p.isoyear_div_100 p.isoyear_mod_100 (IsoWeek.year w))
    (hta : TimeAgreesSupplied p t) (hnano : p.nanosecond = none → t.frac = 1000000000)
    (h60 : p.second = some 60) (g : Int) (hts : p.timestamp = some g)
    (hg : g = instSecs z.utc ∨ (g = instSecs z.utc + 1 ∧ g + z.off ≤ TS_MAX ∧ g ≤ TS_MAX))
    (hoff : ∀ x, p.offset = some x → x = z.off)
    (hfb : ¬ (DateSufficient p ∧ TimeSufficient p)) :
    Parsed.to_datetime_with_timezone p z.off = .ok (.ok z) :=
  to_datetime_tz_complete_ts p hp z hz Y o t hvd ht (.inl h60) hl hag hdY hdI hta (fun h => by rw [hnano h]; rfl) g
    hts (hg.imp_right fun h => ⟨h60, h⟩) hoff hfb

/-- non-vacuity, for EVERY leap reading: the record holding the timestamp (either of the two), second
60 and the sub-second part as nanosecond field meets all hypotheses of
`datetime_complete_timestamp_leap` -/
theorem datetime_complete_timestamp_leap_only (off : Int) (hoff : -2147483648 ≤ off ∧ off ≤ 2147483647)
    (Y : Int) (o : Nat) (t : Time) (hvd : VD Y o) (ht : TValid t) (hleap : 1000000000 ≤ t.frac)
    (h59 : t.secs % 60 = 59) (g : Int)
    (hg : g = timestampIs.instSecsLocal ⟨dateOfYo Y o, t⟩ - off ∨
      (g = timestampIs.instSecsLocal ⟨dateOfYo Y o, t⟩ - off + 1 ∧ g + off ≤ TS_MAX)) :
    Parsed.to_naive_datetime_with_offset
      { timestamp := some g, second := some 60, nanosecond := some (t.frac - 1000000000) } off
      = .ok (.ok ⟨dateOfYo Y o, t⟩) := by
  obtain ⟨_, hb1, hb2⟩ := timestamp_spec Y o t hvd ht
  obtain ⟨t0, t1, f0, f1⟩ := id ht
  have hno : ∀ x, (none : Option Int) = some x → False := fun x h => by cases h
  refine datetime_complete_timestamp_leap _ ?_ off Y o t hvd ht hleap h59 ?_ ?_ ?_ ?_ ?_ rfl g rfl hg ?_
  · refine ⟨optIn_none _ _, optIn_none _ _, optIn_none _ _, optIn_none _ _, optIn_none _ _, optIn_none _ _, optIn_none _ _, optIn_none _ _, optIn_none _ _, optIn_none _ _, optIn_none _ _, optIn_none _ _, optIn_none _ _,
      optIn_none _ _, optIn_none _ _, optIn_none _ _, fun x h => ?_, fun x h => ?_, fun x h => ?_, optIn_none _ _⟩
    · cases h; omega
    · cases h; omega
    · cases h
      rcases hg with rfl | ⟨rfl, _⟩ <;> omega
  · exact dateAgrees_of_no_date _ Y o hvd ⟨rfl, rfl, rfl, rfl, rfl, rfl, rfl, rfl, rfl, rfl, rfl, rfl, rfl, rfl⟩
  · exact groupDeterminate_none _
  · exact fun _ _ => groupDeterminate_none _
  · refine ⟨fun x h => (hno x h).elim, fun x h => (hno x h).elim, fun x h => (hno x h).elim,
      fun x h => ?_, fun x h => ?_⟩
    · cases h
      rw [if_pos rfl]
      exact ⟨h59, hleap⟩
    · cases h; omega
  · intro h; cases h
  · intro h; exact h.2.1 rfl

/-- kernel-checked instances: 2016-12-31T23:59:60.25 from either timestamp with second 60; at the
last representable second the `+1` timestamp is beyond the range on this path: OUT_OF_RANGE (the
FIELD path accepts it, `tz_leap_at_max`) — the hypothesis `g + off ≤ TS_MAX` cannot be dropped -/
example :
    Parsed.to_naive_datetime_with_offset
      { timestamp := some 1483228799, second := some 60, nanosecond := some 250000000 } 0
      = .ok (.ok ⟨dateOfYo 2016 366, ⟨86399, 1250000000⟩⟩) ∧
    Parsed.to_naive_datetime_with_offset
      { timestamp := some 1483228800, second := some 60, nanosecond := some 250000000 } 0
      = .ok (.ok ⟨dateOfYo 2016 366, ⟨86399, 1250000000⟩⟩) ∧
    Parsed.to_datetime { timestamp := some 1483225200, second := some 60, offset := some 3600 }
      = .ok (.ok ⟨⟨dateOfYo 2016 366, ⟨82799, 1000000000⟩⟩, 3600⟩) ∧
    Parsed.to_naive_datetime_with_offset { timestamp := some 8210266876799, second := some 60 } 0
      = .ok (.ok ⟨dateOfYo 262142 365, ⟨86399, 1000000000⟩⟩) ∧
    Parsed.to_naive_datetime_with_offset { timestamp := some 8210266876800, second := some 60 } 0
      = .ok (.error .outOfRange) := by
  decide +kernel

/-! ### LOW gaps of the audit: ISO fields through the calendar specification, setters, empty record -/

/-- `date_sound` with the ISO-week fields read off the CALENDAR specification (`isoYear` / `isoWeek`
of Spec/StrftimeSpec.lean: year and week number of the Thursday of the day's Monday-based week)
instead of the model's `iso_week` accessor: a successful result agrees with every supplied date field
in the sense of `DateAgreesSpec`.  (The two readings coincide by C12's `iso_week_spec`.) -/
theorem date_sound_spec (p : Parsed) (hp : InType p) (d : Date)
    (h : Parsed.to_naive_date p = .ok (.ok d)) :
    ∃ Y o, VD Y o ∧ d = dateOfYo Y o ∧ DateAgreesSpec p Y o := by
  obtain ⟨Y, o, hvd, hd, hag⟩ := date_sound p hp d h
  exact ⟨Y, o, hvd, hd, (dateAgrees_iff_spec p Y o hvd).mp hag⟩

/-- `date_complete` likewise: agreement and determinacy of the ISO year group stated against the
calendar specification's ISO year -/
theorem date_complete_spec (p : Parsed) (hp : InType p) (Y : Int) (o : Nat) (hvd : VD Y o)
    (hag : DateAgreesSpec p Y o)
    (hdY : GroupDeterminate p.year p.year_div_100 p.year_mod_100 Y)
    (hdI : GroupDeterminate p.isoyear p.isoyear_div_100 p.isoyear_mod_100 (isoYear Y o))
    (hc : UsesCalendar p ∨ UsesIso p) :
    Parsed.to_naive_date p = .ok (.ok (dateOfYo Y o)) :=
  date_complete p hp Y o hvd ((dateAgrees_iff_spec p Y o hvd).mpr hag) hdY
    (fun w hw => by rw [iso_year_of Y o hvd w hw]; exact hdI) hc

/-- non-vacuity: 2021-01-01 lies in ISO week 53 of ISO year 2020 by the calendar specification, and
the ISO combination resolves to it -/
example : isoYear 2021 1 = 2020 ∧ isoWeek 2021 1 = 53 ∧
    IsoIsSpec { isoyear := some 2020, isoweek := some 53, weekday := some .fri } 2021 1 ∧
    Parsed.to_naive_date { isoyear := some 2020, isoweek := some 53, weekday := some .fri }
      = .ok (.ok (dateOfYo 2021 1)) := by
  refine ⟨by decide, by decide, ⟨?_, ⟨?_, ?_⟩, ?_⟩, by decide +kernel⟩
  · intro x h; cases h; decide
  · intro x h; cases h
  · intro x h; cases h
  · intro x h; cases h; decide

/-- the two remaining integer setters: `set_timestamp` accepts every `i64` (its extracted range is all
of `i64`); `set_hour` accepts exactly its extracted range and stores `v / 12`, `v % 12` — accepted
iff both halves are unset or already hold those values -/
theorem setter_ranges_timestamp_hour (p p1 : Parsed) (v : Int) :
    (SET_RANGE_timestamp = (-9223372036854775808, 9223372036854775807) ∧
     ((p.timestamp = none ∨ p.timestamp = some v) → p.set_timestamp v = .ok { p with timestamp := some v }) ∧
     (¬ (p.timestamp = none ∨ p.timestamp = some v) → p.set_timestamp v = .error .impossible)) ∧
    (¬ (SET_RANGE_hour.1 ≤ v ∧ v ≤ SET_RANGE_hour.2) → p.set_hour v = .error .outOfRange) ∧
    (p.set_hour v = .ok p1 ↔ (SET_RANGE_hour.1 ≤ v ∧ v ≤ SET_RANGE_hour.2) ∧
      (p.hour_div_12 = none ∨ p.hour_div_12 = some (v / 12)) ∧
      (p.hour_mod_12 = none ∨ p.hour_mod_12 = some (v % 12)) ∧
      p1 = { p with hour_div_12 := some (v / 12), hour_mod_12 := some (v % 12) }) := by
  have e1 : ∀ (h : (0 : Int) ≤ v ∧ v ≤ 23), (if v ≤ 11 then (0 : Int) else 1) = v / 12 := by
    intro h; split <;> omega
  have e2 : ∀ (h : (0 : Int) ≤ v ∧ v ≤ 23), (if v ≤ 11 then v else v - 12) = v % 12 := by
    intro h; split <;> omega
  refine ⟨⟨rfl, fun hc => ?_, fun hc => ?_⟩, fun h => ?_, ?_⟩
  · simp only [Parsed.set_timestamp, setIf_eq, if_pos hc, bind, Except.bind]
    rfl
  · simp only [Parsed.set_timestamp, setIf_eq, if_neg hc, bind, Except.bind]
  · have h' : ¬ ((0 : Int) ≤ v ∧ v ≤ 23) := h
    simp only [Parsed.set_hour, inRange_out v 0 23 h', bind, Except.bind]
  · rw [set_hour_ok]
    constructor
    · rintro ⟨h, a, b, c⟩
      rw [e1 h] at a c
      rw [e2 h] at b c
      exact ⟨h, a, b, c⟩
    · rintro ⟨h, a, b, c⟩
      have h' : (0 : Int) ≤ v ∧ v ≤ 23 := h
      rw [e1 h', e2 h']
      exact ⟨h', a, b, c⟩

/-- non-vacuity and the extremes: the extracted ranges are the documented ones; `i64::MIN`, `i64::MAX`
and `u32::MAX + 1` are OUT_OF_RANGE for a `u32` field, `i32::MAX + 1` for an `i32` field; a negative
year is accepted, a negative century is not -/
example :
    SET_RANGE_month = (1, 12) ∧ SET_RANGE_second = (0, 60) ∧ SET_RANGE_year_div_100 = (0, 2147483647) ∧
    Parsed.new.set_month (-9223372036854775808) = .error .outOfRange ∧
    Parsed.new.set_month 9223372036854775807 = .error .outOfRange ∧
    Parsed.new.set_month 4294967297 = .error .outOfRange ∧
    Parsed.new.set_year 2147483648 = .error .outOfRange ∧
    Parsed.new.set_year (-2147483648) = .ok { year := some (-2147483648) } ∧
    Parsed.new.set_year_div_100 (-1) = .error .outOfRange ∧
    Parsed.new.set_hour12 12 = .ok { hour_mod_12 := some 0 } ∧
    Parsed.new.set_timestamp (-9223372036854775808) = .ok { timestamp := some (-9223372036854775808) } := by
  decide

/-- cross-setter consistency of the hour fields: after `set_hour h` succeeded, `set_ampm pm` is
accepted iff `pm ↔ 12 ≤ h` and `set_hour12 v` iff `v ∈ 1..=12` is the 12-hour-clock reading of `h`
(`v % 12 = h % 12`) — and an accepted call leaves the record unchanged; the two stored halves are
`h / 12` and `h % 12`, which denote `h` -/
theorem hour_setters_consistent (p p1 : Parsed) (h : Int) (hs : p.set_hour h = .ok p1) :
    (∀ pm : Bool, (∃ p2, p1.set_ampm pm = .ok p2) ↔ (pm = true ↔ 12 ≤ h)) ∧
    (∀ pm p2, p1.set_ampm pm = .ok p2 → p2 = p1) ∧
    (∀ v : Int, (∃ p2, p1.set_hour12 v = .ok p2) ↔ (1 ≤ v ∧ v ≤ 12 ∧ v % 12 = h % 12)) ∧
    (∀ v p2, p1.set_hour12 v = .ok p2 → p2 = p1) ∧
    p1.hour_div_12 = some (h / 12) ∧ p1.hour_mod_12 = some (h % 12) ∧
    hourOfFields (h / 12) (h % 12) = h := by
  obtain ⟨hr, _, _, rfl⟩ := (setter_ranges_timestamp_hour p p1 h).2.2.mp hs
  have hr' : (0 : Int) ≤ h ∧ h ≤ 23 := hr
  have h12 := setter_ranges.2.2.2.2.2.2.2.2.2.2.2.2.2.1
  refine ⟨fun pm => ?_, fun pm p2 h2 => ?_, fun v => ?_, fun v p2 h2 => ?_, rfl, rfl, ?_⟩
  · unfold Parsed.set_ampm
    simp only [ebind_ok, setIf_ok, pure, Except.pure, Except.ok.injEq]
    constructor
    · rintro ⟨p2, f, ⟨h1, _⟩, _⟩
      try dsimp only at h1
      rcases h1 with h1 | h1
      · cases h1
      · have := Option.some.inj h1
        cases pm <;> simp at this ⊢ <;> omega
    · intro hpm
      refine ⟨_, _, ⟨Or.inr ?_, rfl⟩, rfl⟩
      try dsimp only
      congr 1
      cases pm
      · have : ¬ 12 ≤ h := fun c => by have := hpm.mpr c; cases this
        simp; omega
      · have := hpm.mp rfl
        simp; omega
  · unfold Parsed.set_ampm at h2
    simp only [ebind_ok, setIf_ok, pure, Except.pure, Except.ok.injEq] at h2
    obtain ⟨f, ⟨h1, rfl⟩, rfl⟩ := h2
    try dsimp only at h1
    rcases h1 with h1 | h1
    · cases h1
    · rw [← h1]
  · constructor
    · rintro ⟨p2, h2⟩
      obtain ⟨⟨a, b⟩, hc | hc, _⟩ := (setter_ok_iff h12 _ p2 v).mp h2
      · cases hc
      · exact ⟨a, b, (Option.some.inj hc).symm⟩
    · rintro ⟨a, b, c⟩
      exact ⟨_, (setter_ok_iff h12 _ _ v).mpr ⟨⟨a, b⟩, Or.inr (by rw [c]), rfl⟩⟩
  · obtain ⟨_, hc | hc, rfl⟩ := (setter_ok_iff h12 _ p2 v).mp h2
    · cases hc
    · rw [← hc]
  · unfold hourOfFields; omega

/-- the converse order: after `set_ampm pm` and `set_hour12 v` succeeded, `set_hour h` is accepted iff
`h = (if pm then 12 else 0) + v % 12`, and then leaves the record unchanged -/
theorem hour_setters_consistent_conv (p p1 p2 : Parsed) (pm : Bool) (v : Int)
    (h1 : p.set_ampm pm = .ok p1) (h2 : p1.set_hour12 v = .ok p2) (h : Int) :
    ((∃ p3, p2.set_hour h = .ok p3) ↔ h = (if pm then 12 else 0) + v % 12) ∧
    (∀ p3, p2.set_hour h = .ok p3 → p3 = p2) := by
  unfold Parsed.set_ampm at h1
  simp only [ebind_ok, setIf_ok, pure, Except.pure, Except.ok.injEq] at h1
  obtain ⟨f, ⟨_, rfl⟩, rfl⟩ := h1
  obtain ⟨hin, _, rfl⟩ := (setter_ok_iff setter_ranges.2.2.2.2.2.2.2.2.2.2.2.2.2.1 _ p2 v).mp h2
  have hin : (1 : Int) ≤ v ∧ v ≤ 12 := hin
  have hR2 : SET_RANGE_hour = (0, 23) := rfl
  constructor
  · constructor
    · rintro ⟨p3, h3⟩
      obtain ⟨hr, a, b, _⟩ := (setter_ranges_timestamp_hour _ p3 h).2.2.mp h3
      rw [hR2] at hr
      dsimp only at a b hr
      rcases a with a | a
      · cases a
      rcases b with b | b
      · cases b
      have a := Option.some.inj a
      have b := Option.some.inj b
      cases pm <;> simp at a ⊢ <;> omega
    · intro hh
      have hr : (0 : Int) ≤ h ∧ h ≤ 23 := by cases pm <;> simp at hh <;> omega
      refine ⟨_, (setter_ranges_timestamp_hour _ _ h).2.2.mpr ⟨by rw [hR2]; exact hr, Or.inr ?_, Or.inr ?_, rfl⟩⟩
      · dsimp only; congr 1; cases pm <;> simp at hh ⊢ <;> omega
      · dsimp only; congr 1; cases pm <;> simp at hh <;> omega
  · intro p3 h3
    obtain ⟨hr, a, b, rfl⟩ := (setter_ranges_timestamp_hour _ p3 h).2.2.mp h3
    dsimp only at a b
    rcases a with a | a
    · cases a
    rcases b with b | b
    · cases b
    rw [← a, ← b]

/-- non-vacuity: 23 = pm + 11 o'clock; 12 o'clock pm is hour 12; 12 o'clock am is hour 0 -/
example :
    (∃ p1, Parsed.new.set_hour 23 = .ok p1 ∧ p1.set_ampm true = .ok p1 ∧ p1.set_hour12 11 = .ok p1 ∧
      p1.set_ampm false = .error .impossible ∧ p1.set_hour12 12 = .error .impossible) ∧
    (∃ p1 p2, Parsed.new.set_ampm true = .ok p1 ∧ p1.set_hour12 12 = .ok p2 ∧ p2.set_hour 12 = .ok p2 ∧
      p2.set_hour 0 = .error .impossible) :=
  ⟨⟨{ hour_div_12 := some 1, hour_mod_12 := some 11 }, rfl, rfl, rfl, rfl, rfl⟩,
   ⟨{ hour_div_12 := some 1 }, { hour_div_12 := some 1, hour_mod_12 := some 0 }, rfl, rfl, rfl, rfl⟩⟩

/-- `Parsed::new()` / `Parsed::default()` (no field set) is NOT_ENOUGH for every resolver: every offset
argument, every fixed zone, every step zone -/
theorem new_resolves_not_enough (off zone : Int) (z : StepZone) :
    Parsed.to_naive_date Parsed.new = .ok (.error .notEnough) ∧
    Parsed.to_naive_time Parsed.new = .error .notEnough ∧
    Parsed.to_naive_datetime_with_offset Parsed.new off = .ok (.error .notEnough) ∧
    Parsed.to_fixed_offset Parsed.new = .error .notEnough ∧
    Parsed.to_datetime Parsed.new = .ok (.error .notEnough) ∧
    Parsed.to_datetime_with_timezone Parsed.new zone = .ok (.error .notEnough) ∧
    Parsed.to_datetime_with_step_zone Parsed.new z = .ok (.error .notEnough) :=
  ⟨rfl, rfl, rfl, rfl, rfl, rfl, rfl⟩

/-- the quarter field is a pure cross-check, EVERY record: resolve the record without its quarter
field; an error is passed on unchanged (a quarter never makes a set sufficient and never changes
the kind); a resolved day `(Y, o)` is returned iff the quarter field — if supplied — is the quarter
of its month, otherwise IMPOSSIBLE -/
theorem date_quarter (p : Parsed) (hp : InType p) :
    ∃ r0, Parsed.to_naive_date { p with quarter := none } = .ok r0 ∧
      (∀ e, r0 = .error e → Parsed.to_naive_date p = .ok (.error e)) ∧
      (∀ Y o, VD Y o → r0 = .ok (dateOfYo Y o) →
        (optIs p.quarter (quarterOfMonth (monthOfYo Y o)) →
          Parsed.to_naive_date p = .ok (.ok (dateOfYo Y o))) ∧
        (¬ optIs p.quarter (quarterOfMonth (monthOfYo Y o)) →
          Parsed.to_naive_date p = .ok (.error .impossible))) := by
  have hp0 : InType { p with quarter := none } := by
    obtain ⟨h1, h2, h3, h4, h5, h6, _, h8⟩ := hp
    exact ⟨h1, h2, h3, h4, h5, h6, (fun x h => by cases h), h8⟩
  obtain ⟨r0, hr0, _⟩ := date_main _ hp0
  refine ⟨r0, hr0, fun e he => ?_, fun Y o hvd hd => ?_⟩
  · rw [date_quarter_factor, hr0, he]; rfl
  · obtain ⟨_, _, _, hm, _⟩ := vd_fields Y o hvd
    obtain ⟨_, _, hval, _⟩ := month_day_spec Y o hvd.2.2.1 hvd.2.2.2
    have hm1 : 1 ≤ monthOfYo Y o := by
      unfold validYmd at hval; simp at hval; omega
    rw [date_quarter_factor, hr0, hd]
    simp only [Parsed.RP.bind]
    cases hq : p.quarter with
    | none => exact ⟨fun _ => rfl, fun h => absurd (fun x hx => by cases hx) h⟩
    | some q =>
      simp only [hm, quarter_eq _ hm1]
      constructor
      · intro h
        rw [if_neg (by intro hne; exact hne (h q rfl))]
      · intro h
        rw [if_pos (by intro he; apply h; intro x hx; cases hx; exact he)]

/-- non-vacuity: year + quarter alone is NOT_ENOUGH (the quarter is no date combination); a matching
and a contradicting quarter beside a full date -/
example :
    Parsed.to_naive_date { year := some 2024, quarter := some 1 } = .ok (.error .notEnough) ∧
    Parsed.to_naive_date { year := some 2024, ordinal := some 91, quarter := some 1 }
      = .ok (.ok (dateOfYo 2024 91)) ∧
    Parsed.to_naive_date { year := some 2024, ordinal := some 92, quarter := some 1 }
      = .ok (.error .impossible) := by
  decide +kernel

/-- the year groups and NEGATIVE years: a negative year has neither century nor two-digit year, so a
negative full year beside a century or two-digit-year field is refused, and so is a negative century
(IMPOSSIBLE; OUT_OF_RANGE when the two-digit year is outside 0..=99 — that is checked first); a full
year alone is taken as it is, negative or not.  (In `date_sound` the same rule is the clause `centIs`:
a supplied century / two-digit year agrees only with a non-negative year.) -/
theorem year_group_negative (y qv rv : Int) (q r : Option Int) :
    (y < 0 → (q ≠ none ∨ r ≠ none) →
      Parsed.resolve_year (some y) q r = .error (if Parsed.modOk r then .impossible else .outOfRange)) ∧
    (qv < 0 →
      Parsed.resolve_year none (some qv) (some rv) =
        .error (if 0 ≤ rv ∧ rv ≤ 99 then .impossible else .outOfRange)) ∧
    (0 ≤ y → Parsed.resolve_year (some y) none none = .ok (some y)) ∧
    (y < 0 → Parsed.resolve_year (some y) none none = .ok (some y)) := by
  refine ⟨fun hy hqr => ?_, fun hq => ?_, fun _ => rfl, fun _ => rfl⟩
  · unfold Parsed.resolve_year
    simp only []
    rw [if_neg (by
      rintro ⟨h1, h2⟩
      rcases hqr with h | h
      · exact h h1
      · exact h h2)]
    cases hm : Parsed.modOk r with
    | true => simp [hy]
    | false => simp
  · unfold Parsed.resolve_year
    simp only []
    by_cases hr : 0 ≤ rv ∧ rv ≤ 99
    · rw [if_pos hr, if_pos hr, if_pos hq]
    · rw [if_neg hr, if_neg hr]

/-- non-vacuity at the resolver: year −1 with ordinal resolves; with a two-digit year 99 or century 0
beside it IMPOSSIBLE (−1 is not 0·100 + 99) -/
example :
    Parsed.to_naive_date { year := some (-1), ordinal := some 1 } = .ok (.ok (dateOfYo (-1) 1)) ∧
    Parsed.to_naive_date { year := some (-1), year_mod_100 := some 99, ordinal := some 1 }
      = .ok (.error .impossible) ∧
    Parsed.to_naive_date { year := some (-1), year_div_100 := some 0, ordinal := some 1 }
      = .ok (.error .impossible) ∧
    Parsed.to_naive_date { year_div_100 := some (-1), year_mod_100 := some 99, ordinal := some 1 }
      = .ok (.error .impossible) := by
  decide +kernel

/-- reading back what was set (the accessor methods `Parsed::year()` … are plain reads of these
fields): after a successful set the field holds the stored value — the argument itself, for
`set_hour12` `v % 12`, for `set_hour` the two halves `v / 12`, `v % 12` — whatever the prior record -/
theorem set_then_get (p p1 : Parsed) (v : Int) :
    (p.set_year v = .ok p1 → p1.year = some v) ∧
    (p.set_year_div_100 v = .ok p1 → p1.year_div_100 = some v) ∧
    (p.set_year_mod_100 v = .ok p1 → p1.year_mod_100 = some v) ∧
    (p.set_isoyear v = .ok p1 → p1.isoyear = some v) ∧
    (p.set_isoyear_div_100 v = .ok p1 → p1.isoyear_div_100 = some v) ∧
    (p.set_isoyear_mod_100 v = .ok p1 → p1.isoyear_mod_100 = some v) ∧
    (p.set_quarter v = .ok p1 → p1.quarter = some v) ∧
    (p.set_month v = .ok p1 → p1.month = some v) ∧
    (p.set_week_from_sun v = .ok p1 → p1.week_from_sun = some v) ∧
    (p.set_week_from_mon v = .ok p1 → p1.week_from_mon = some v) ∧
    (p.set_isoweek v = .ok p1 → p1.isoweek = some v) ∧
    (p.set_ordinal v = .ok p1 → p1.ordinal = some v) ∧
    (p.set_day v = .ok p1 → p1.day = some v) ∧
    (p.set_hour12 v = .ok p1 → p1.hour_mod_12 = some (v % 12)) ∧
    (p.set_minute v = .ok p1 → p1.minute = some v) ∧
    (p.set_second v = .ok p1 → p1.second = some v) ∧
    (p.set_nanosecond v = .ok p1 → p1.nanosecond = some v) ∧
    (p.set_offset v = .ok p1 → p1.offset = some v) ∧
    (p.set_timestamp v = .ok p1 → p1.timestamp = some v) ∧
    (p.set_hour v = .ok p1 → p1.hour_div_12 = some (v / 12) ∧ p1.hour_mod_12 = some (v % 12)) := by
  obtain ⟨a1, a2, a3, a4, a5, a6, a7, a8, a9, a10, a11, a12, a13, a14, a15, a16, a17, a18⟩ := setter_ranges
  refine ⟨get_after_set a1 fun _ _ => rfl,
    get_after_set a2 fun _ _ => rfl,
    get_after_set a3 fun _ _ => rfl,
    get_after_set a4 fun _ _ => rfl,
    get_after_set a5 fun _ _ => rfl,
    get_after_set a6 fun _ _ => rfl,
    get_after_set a7 fun _ _ => rfl,
    get_after_set a8 fun _ _ => rfl,
    get_after_set a9 fun _ _ => rfl,
    get_after_set a10 fun _ _ => rfl,
    get_after_set a11 fun _ _ => rfl,
    get_after_set a12 fun _ _ => rfl,
    get_after_set a13 fun _ _ => rfl,
    get_after_set a14 fun _ _ => rfl,
    get_after_set a15 fun _ _ => rfl,
    get_after_set a16 fun _ _ => rfl,
    get_after_set a17 fun _ _ => rfl,
    get_after_set a18 fun _ _ => rfl,
    fun h => ?_, fun h => ?_⟩
  · obtain ⟨_, s2, s3⟩ := (setter_ranges_timestamp_hour p p1 v).1
    by_cases hc : p.timestamp = none ∨ p.timestamp = some v
    · rw [s2 hc] at h; cases h; rfl
    · rw [s3 hc] at h; cases h
  · obtain ⟨_, _, _, rfl⟩ := (setter_ranges_timestamp_hour p p1 v).2.2.mp h
    exact ⟨rfl, rfl⟩

/-- no resolver panics: for every record of in-type field values, every `i32` offset argument and
every fixed-offset zone, each of the six resolvers returns a value or an error kind
(`to_naive_time` and `to_fixed_offset` are `ParseResult`-valued in the model: they contain no
operation that could panic) -/
theorem no_panic (p : Parsed) (hp : InType p) (off zone : Int)
    (hoff : -2147483648 ≤ off ∧ off ≤ 2147483647) (hz : OffValid zone) :
    (∃ r, Parsed.to_naive_date p = .ok r) ∧
    (∃ r, (.ok (Parsed.to_naive_time p) : Parsed.RP Time) = .ok r) ∧
    (∃ r, Parsed.to_naive_datetime_with_offset p off = .ok r) ∧
    (∃ r, (.ok (Parsed.to_fixed_offset p) : Parsed.RP Int) = .ok r) ∧
    (∃ r, Parsed.to_datetime p = .ok r) ∧
    (∃ r, Parsed.to_datetime_with_timezone p zone = .ok r) := by
  obtain ⟨r1, h1, _⟩ := date_main p hp
  obtain ⟨r3, h3, _⟩ := dt_main' p hp off hoff
  obtain ⟨r5, h5, _⟩ := to_datetime_spec p hp
  obtain ⟨r6, h6, _⟩ := to_datetime_tz_spec p hp zone hz
  exact ⟨⟨r1, h1⟩, ⟨_, rfl⟩, ⟨r3, h3⟩, ⟨_, rfl⟩, ⟨r5, h5⟩, ⟨r6, h6⟩⟩

/-! ### round 2 (audit2/C14.md): links between the callee models, exports, spec-level fall-back clause -/

open Chrono.Extracted.DateOps in
/-- MEDIUM-2: the resolver's inline model of `NaiveDate::with_ordinal` IS the model C03/C08 use (and
`GenDateOps.gen_with_ordinal_eq` translates), for every date word and every `u32` ordinal -/
theorem parsed_with_ordinal_eq (d : Date) (n : Nat) :
    Parsed.date_with_ordinal d (n : Int) = d.with_ordinal n := by
  unfold Parsed.date_with_ordinal Date.with_ordinal
  have h1 : WO_ZERO = 0 := rfl
  have h2 : WO_MAX = 366 := rfl
  by_cases hc : (n : Int) = 0 ∨ (n : Int) > 366
  · rw [if_pos hc, if_pos (show n = WO_ZERO ∨ n > WO_MAX by omega)]
  · rw [if_neg hc, if_neg (show ¬ (n = WO_ZERO ∨ n > WO_MAX) by omega)]
    have e : (n : Int) * 16 + ((d.flags / 8 : Nat) : Int) * 8
        = (d.yof - d.ordinal * 16 + (n : Int) * 16) / 8 % 1024 * 8 := by
      unfold Date.flags Date.ordinal
      omega
    dsimp only
    rw [e]
    rfl

/-- end to end: the code translation of `NaiveDate::with_ordinal` (regenerated from the Rust text on
every run) equals the function the week-date resolver of C14 calls -/
theorem gen_with_ordinal_eq_parsed (d : Date) (n : Nat) (hd : -2147483648 ≤ d.yof ∧ d.yof ≤ 2147483647)
    (hn : n ≤ 4294967295) :
    Gen.naive_date.NaiveDate.Datelike.with_ordinal d.yof n
      = Proofs.GenL.rmap (Option.map Date.yof) (Parsed.date_with_ordinal d (n : Int)) := by
  rw [parsed_with_ordinal_eq]; exact GenDateOps.gen_with_ordinal_eq d n hd hn

/-- MEDIUM-2: the two models of `NaiveDate::weeks_from` (C14's verifier, C12's formatter) are one function -/
theorem parsed_weeks_from_eq : Parsed.weeks_from = Format.weeks_from := rfl

open Chrono.Extracted.DateOps in
/-- MEDIUM-2: the resolver's `quarter_of` is `Datelike::quarter` as modelled for C08 from the EXTRACTED
constants `Q_SUB / Q_DIV / Q_ADD` (a month is at least 1, so the `u32` subtraction cannot underflow) -/
theorem parsed_quarter_of_eq (d : Date) (m : Nat) (hm : d.month = .ok m) (h1 : 1 ≤ m) :
    d.quarter = .ok ((m - Q_SUB) / Q_DIV + Q_ADD) ∧
    Parsed.quarter_of m = (((m - Q_SUB) / Q_DIV + Q_ADD : Nat) : Int) ∧
    Parsed.quarter_of m = Format.quarter m := by
  have a : Q_SUB = 1 := rfl
  have b : Q_DIV = 3 := rfl
  have c : Q_ADD = 1 := rfl
  refine ⟨?_, ?_, rfl⟩
  · unfold Date.quarter
    rw [hm]
    dsimp only
    rw [if_neg (by omega)]
  · unfold Parsed.quarter_of
    rw [a, b, c]
    omega

/-- non-vacuity: 2024-02-29 moved to ordinal 366 / 367 / 0; its quarter -/
example :
    Parsed.date_with_ordinal (dateOfYo 2024 60) 366 = .ok (some (dateOfYo 2024 366)) ∧
    Parsed.date_with_ordinal (dateOfYo 2023 60) 366 = .ok none ∧
    Parsed.date_with_ordinal (dateOfYo 2024 60) 0 = .ok none ∧
    (dateOfYo 2024 60).month = .ok 2 ∧ (dateOfYo 2024 60).quarter = .ok 1 ∧ Parsed.quarter_of 2 = 1 := by
  decide +kernel

/-- LOW-4: the date resolver on fields DERIVED from one existing day with determinate year groups —
exactly that day when the record holds a documented sufficient combination, NOT_ENOUGH otherwise;
never IMPOSSIBLE / OUT_OF_RANGE -/
theorem date_derived_outcome (p : Parsed) (hp : InType p) (Y : Int) (o : Nat) (hvd : VD Y o)
    (hag : DateAgrees p Y o)
    (hdY : GroupDeterminate p.year p.year_div_100 p.year_mod_100 Y)
    (hdI : ∀ w, (dateOfYo Y o).iso_week = .ok w →
      GroupDeterminate p.isoyear p.isoyear_div_100 p.isoyear_mod_100 (IsoWeek.year w)) :
    (Parsed.to_naive_date p = .ok (.ok (dateOfYo Y o)) ∧ DateSufficient p) ∨
    (Parsed.to_naive_date p = .ok (.error .notEnough) ∧ ¬ DateSufficient p) :=
  date_of_derived p hp Y o hvd hag hdY hdI

/-- LOW-4: the time resolver on fields DERIVED from one constructible time of day: exactly that time
when hour halves and minute are present (and the second wherever the nanosecond is), NOT_ENOUGH
otherwise; never OUT_OF_RANGE -/
theorem time_derived_outcome (p : Parsed) (t : Time) (ht : TStrict t) (ha : TimeAgrees p t) :
    (Parsed.to_naive_time p = .ok t ∧ TimeSufficient p) ∨
    (Parsed.to_naive_time p = .error .notEnough ∧ ¬ TimeSufficient p) := by
  by_cases hs : TimeSufficient p
  · exact Or.inl ⟨time_complete' p t ht ha hs, hs⟩
  · right
    refine ⟨?_, hs⟩
    cases hres : Parsed.to_naive_time p with
    | ok t' => exact absurd (time_sound' p t' hres).2.2.1 hs
    | error e =>
      rcases time_err' p e hres with ⟨h1, _⟩ | ⟨_, h2⟩
      · rw [h1]
      · exact absurd (timeInRange_of_supplied p t ht.1
          ⟨ha.1, ha.2.1, ha.2.2.1, ha.2.2.2.1.1, ha.2.2.2.2.1⟩) h2

/-- LOW-5: the timestamp branches of `datetime_error_kinds` against the SPECIFICATION (that theorem's
third timestamp clause ends in the model function `from_timestamp_path`).  EVERY record with a
timestamp field — in particular one whose date and time fields do not both resolve and none of whose
component resolvers reports OUT_OF_RANGE / IMPOSSIBLE, i.e. the fall-back: no panic; a value is an
existing day and a constructible time that agree with every supplied date and time field and whose
timestamp at `off` is the supplied one (one less allowed for a leap second); an error is one of the
three kinds, and NOT_ENOUGH only for a century-only ISO year group.  WHICH of IMPOSSIBLE /
OUT_OF_RANGE the fall-back reports is not characterised (the property statement does not ask). -/
theorem datetime_fallback_outcome (p : Parsed) (hp : InType p) (off : Int)
    (hoff : -2147483648 ≤ off ∧ off ≤ 2147483647) (ts : Int) (hts : p.timestamp = some ts) :
    ∃ r, Parsed.to_naive_datetime_with_offset p off = .ok r ∧
      (∀ dt, r = .ok dt → ∃ Y o, VD Y o ∧ dt.date = dateOfYo Y o ∧ DateAgrees p Y o ∧
        TStrict dt.time ∧ TimeAgreesSupplied p dt.time ∧ timestampIs (some ts) dt off) ∧
      (∀ e, r = .error e → (e = .notEnough ∨ e = .impossible ∨ e = .outOfRange) ∧
        (e = .notEnough → ¬ GroupUsable p.isoyear p.isoyear_div_100 p.isoyear_mod_100)) := by
  obtain ⟨r, hr, he, hv⟩ := dt_main' p hp off hoff
  refine ⟨r, hr, fun dt hdt => ?_, fun e hre => ⟨he e hre, fun hne => ?_⟩⟩
  · have := hv dt hdt
    unfold NaiveOk at this
    rw [hts] at this
    exact this
  · subst hne
    subst hre
    exact (dt_not_enough_only p hp off hoff hr).2 (by rw [hts]; exact fun h => by cases h)

/-- non-vacuity of `datetime_fallback_outcome`: a lone timestamp resolves; with a century-only ISO group
it is NOT_ENOUGH; with a contradicting minute (only hour half missing, so the fall-back runs) IMPOSSIBLE -/
example :
    Parsed.to_naive_datetime_with_offset { timestamp := some 86399 } 3600
      = .ok (.ok ⟨dateOfYo 1970 2, ⟨3599, 0⟩⟩) ∧
    Parsed.to_naive_datetime_with_offset { timestamp := some 86399, isoyear_div_100 := some 19 } 0
      = .ok (.error .notEnough) ∧
    Parsed.to_naive_datetime_with_offset { timestamp := some 86399, minute := some 58 } 0
      = .ok (.error .impossible) := by
  decide +kernel

/-- LOW-7 / audit-2 section 2: a DIRECT instance of `tz_gen_complete_fields` for a zone that is neither
fixed nor a step zone (it answers every wall clock with the same two candidates and every instant with
+02:00): the hypotheses that are computations exhibited, the generic resolver evaluated.  `z1` is the
only candidate consistent with the offset field. -/
example :
    let p : Parsed := {
      year := some 2021, month := some 10, day := some 31, hour_div_12 := some 0,
      hour_mod_12 := some 2, minute := some 30, offset := some 3600 }
    let l : NaiveDT := ⟨dateOfYo 2021 304, ⟨9000, 0⟩⟩
    let z0 : Zoned := ⟨⟨dateOfYo 2021 304, ⟨1800, 0⟩⟩, 7200⟩
    let z1 : Zoned := ⟨⟨dateOfYo 2021 304, ⟨5400, 0⟩⟩, 3600⟩
    let ofu : NaiveDT → Res Int := fun _ => .ok 7200
    let fl : NaiveDT → Res (Mapped Zoned) := fun _ => .ok (.ambiguous z0 z1)
    ZInv z0 ∧ ZInv z1 ∧ VD 2021 304 ∧ TStrict ⟨9000, 0⟩ ∧ Zoned.naive_local z1 = .ok l ∧
    UsesCalendar p ∧ TimeSufficient p ∧ z1 ∈ (Mapped.ambiguous z0 z1).toList ∧ z0 ≠ z1 ∧
    consistentB p z1 = true ∧ consistentB p z0 = false ∧
    Parsed.to_datetime_with_timezone_gen p ofu fl = .ok (.ok z1) := by
  refine ⟨by decide +kernel, by decide +kernel, by unfold VD; decide, by decide, by decide +kernel,
    ⟨Or.inl (by simp), Or.inl ⟨by simp, by simp⟩⟩, ⟨by simp, by simp, by simp, fun h => by simp at h⟩,
    by simp [Mapped.toList], by decide, by decide +kernel, by decide +kernel, by decide +kernel⟩

end Chrono.Props.C14
