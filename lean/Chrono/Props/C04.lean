/-
  C04 — zone-aware date-times: one instant, many wall clocks.
  Property statements only (helper lemmas: Proofs/ZonedL.lean, Proofs/ZonedDateL.lean,
  Proofs/ZonedStepL.lean, on top of the proved packed-date specification of C01 — Proofs/DateL.lean —,
  the proved offset shift of C07 — Proofs/TimeL.lean —, the proved day arithmetic of C03 —
  Proofs/DateArithL.lean — and the proved month stepping / field replacement of C08 —
  Proofs/DateOpsL.lean; the latter two are extended to the two headroom years in ZonedDateL).

  Vocabulary (Spec/InstantSpec.lean, Spec/ZonedSpec.lean):
    `instSecs dt`      whole seconds since 1970-01-01T00:00:00 of a naive reading, through the
                       closed-form day number of Spec/Calendar.lean (independent of chrono's tables);
    `wallSecs z`       `instSecs z.utc + z.off` — the wall clock of a zone-aware value;
    `ExtNDTInv`        a well-formed reading of the calendar *extended by one year at each end*
                       (year, existing ordinal, the flags — leap bit and weekday — of that year);
    `NDTInv`/`DateInv` the same inside the supported range;  `ZInv z` = `NDTInv z.utc ∧ |off| < 86400`;
    `InRangeSecs s`    the date of second `s` lies in `[NaiveDate::MIN, NaiveDate::MAX]`;
    `InUtcRange s f`   `MIN_UTC ≤ (s, f) ≤ MAX_UTC` in `NaiveDateTime`'s derived order;
    `cmpKey`           lexicographic three-way comparison of (second, nanosecond field);
    `GeMinUtc`/`LeMaxUtc`  the two halves of `InUtcRange` (`utc_range_halves`);
    `ActsOnWall z t r` "`r` is the value at `z`'s offset whose wall clock is the target reading `t`,
                       filtered to `MIN_UTC ..= MAX_UTC`" (`ActsOnWallWith ok` for another filter);
    `ymdReading?`/`yoReading?`/`yearReading?`  target readings of the calendar-field replacements;
    `SteppedDays z l z' k`  `z'` is `z` with its wall clock `l` moved by `k` whole days;
    `addMonths?` (C08) month stepping with clamped day; `dayNumOf` (C01) day number of a date.
  `Zoned` is `DateTime<FixedOffset>`; `DateTime<Utc>` is the case `off = 0`.

  Added by the audit of 2026-09-30 (helper lemmas Proofs/ZonedFormatL.lean, ZonedRuleL.lean,
  ZonedViewsL.lean; model Model/ZonedDerived.lean): `format_reads_wall_clock` (every text writer reads
  `overflowing_naive_local`, text of `Debug` / `Display` also in the headroom day), the stepping failure set
  against the rule "stepped instant in `MIN_UTC ..= MAX_UTC` and stepped wall clock in the nominal range"
  with its exceptions (`day_stepping_vs_rule`, `month_stepping_vs_rule`, `…_exceptions`, `…_partial`),
  `iso_week_reads_wall_clock`, `derived_accessors_read_wall_clock`, `zone_change_views`.
-/
import Chrono.Proofs.ZonedStepL
import Chrono.Proofs.ZonedFormatL
import Chrono.Proofs.ZonedRuleL
import Chrono.Proofs.ZonedViewsL
import Chrono.Proofs.ZonedConvL
import Chrono.Extracted.ZonedShape

namespace Chrono.Props.C04
open Chrono Chrono.M Chrono.Spec Chrono.Proofs Chrono.Proofs.ZN Chrono.Extracted

/-! ### Offsets -/

/-- `FixedOffset::east_opt` / `west_opt` accept exactly the offsets strictly between −24 h and +24 h
(every integer argument); `west` stores the negated value -/
theorem east_opt_iff (s : Int) :
    (Zoned.east_opt s = if -86400 < s ∧ s < 86400 then some s else none) ∧
    (Zoned.west_opt s = if -86400 < s ∧ s < 86400 then some (-s) else none) ∧
    (∀ o, Zoned.east_opt s = some o → OffValid o) ∧ (∀ o, Zoned.west_opt s = some o → OffValid o) := by
  refine ⟨rfl, rfl, ?_, ?_⟩
  · intro o h
    unfold Zoned.east_opt at h
    unfold OffValid
    split at h <;> simp at h
    omega
  · intro o h
    unfold Zoned.west_opt at h
    unfold OffValid
    split at h <;> simp at h
    omega

example : Zoned.east_opt 86399 = some 86399 ∧ Zoned.east_opt 86400 = none ∧
    Zoned.west_opt (-86399) = some 86399 ∧ Zoned.east_opt (-86400) = none := by decide

/-! ### The headroom day at each end of the range -/

/-- the two constants that stand for "one day before MIN" and "one day after MAX" are the
calendar's own days: last day (ordinal 366) of the leap year `MIN_YEAR − 1` and first day of
`MAX_YEAR + 1`, with the flags (leap bit, weekday) of those years, adjacent in day number to the range
ends, with the right weekday -/
theorem headroom_dates :
    Date.BEFORE_MIN = dateOfYo (MIN_YEAR - 1) 366 ∧ Date.AFTER_MAX = dateOfYo (MAX_YEAR + 1) 1 ∧
    ExtDateInv Date.BEFORE_MIN ∧ ExtDateInv Date.AFTER_MAX ∧
    dayNumOf Date.BEFORE_MIN = DAY_MIN - 1 ∧ dayNumOf Date.AFTER_MAX = DAY_MAX + 1 ∧
    yearLen (MIN_YEAR - 1) = 366 ∧ Date.BEFORE_MIN.leap_year = true ∧ Date.AFTER_MAX.leap_year = false ∧
    (Date.BEFORE_MIN.weekday.toNat : Int) = weekdayOf (DAY_MIN - 1) ∧
    (Date.AFTER_MAX.weekday.toNat : Int) = weekdayOf (DAY_MAX + 1) ∧
    instSecs NaiveDT.MIN = SECS_MIN ∧ instSecs NaiveDT.MAX = SECS_MAX := by decide

/-- **headroom_sound.**  For every in-range UTC reading and every offset of less than a day,
`overflowing_naive_local` never panics and is *the* wall clock: a well-formed reading of the extended
calendar whose second count is `instant + offset` and whose nanosecond field (hence a leap second) is
untouched.  `naive_local` returns the same reading when its date is in the supported range and panics
exactly otherwise. -/
theorem headroom_sound (z : Zoned) (hz : ZInv z) :
    ∃ l, Zoned.overflowing_naive_local z = .ok l ∧ ExtNDTInv l ∧ instSecs l = wallSecs z ∧
      l.time.frac = z.utc.time.frac ∧
      Zoned.naive_local z = (if InRangeSecs (wallSecs z) then .ok l else .panic) ∧
      (DateInv l.date ↔ InRangeSecs (wallSecs z)) :=
  naive_local_spec z hz

/-- a reading of the extended calendar is determined by its second count and nanosecond field, so
`headroom_sound` characterises the wall clock uniquely -/
theorem reading_unique (a b : NaiveDT) (ha : ExtNDTInv a) (hb : ExtNDTInv b)
    (hs : instSecs a = instSecs b) (hf : a.time.frac = b.time.frac) : a = b :=
  ndt_unique a b ha hb hs hf

/-- **Field accessors read the wall clock** (also in the headroom day): with `n` the day number and
`s` the second of day of `instant + offset`, the year/ordinal are the unique pair with that day
number, month and day its calendar form, the weekday that of `n`, the `Datelike` day count is `n`
(no `i32` overflow), hour/minute/second decompose `s`, the nanosecond field is the stored one. -/
theorem accessors_read_wall_clock (z : Zoned) (hz : ZInv z) :
    ∃ (y : Int) (o : Nat), MIN_YEAR - 1 ≤ y ∧ y ≤ MAX_YEAR + 1 ∧ 1 ≤ o ∧ o ≤ yearLen y ∧
      dayNumYo y o = EPOCH_DAY + wallSecs z / 86400 ∧
      Zoned.year z = .ok y ∧ Zoned.ordinal z = .ok o ∧
      Zoned.month z = .ok (monthOfYo y o) ∧ Zoned.day z = .ok (dayOfYo y o) ∧
      (∃ w, Zoned.weekday z = .ok w ∧ (w.toNat : Int) = weekdayOf (EPOCH_DAY + wallSecs z / 86400)) ∧
      Zoned.num_days_from_ce z = .ok (EPOCH_DAY + wallSecs z / 86400) ∧
      Zoned.hour z = .ok (wallSecs z % 86400 / 3600) ∧
      Zoned.minute z = .ok (wallSecs z % 86400 / 60 % 60) ∧
      Zoned.second z = .ok (wallSecs z % 86400 % 60) ∧
      Zoned.nanosecond z = .ok z.utc.time.frac := by
  obtain ⟨l, h1, h2, h3, h4, _, _⟩ := naive_local_spec z hz
  obtain ⟨e, v1, v2, v3, v4⟩ := ext_eq l.date h2.1
  obtain ⟨hday, hsod⟩ := reading_split l h2
  rw [h3] at hday hsod
  have ho : l.date.ordinal.toNat < 512 ∧ (0 : Int) ≤ l.date.ordinal.toNat ∧ (l.date.ordinal.toNat : Int) ≤ 366 := by
    have := yearLen_ge l.date.year; omega
  obtain ⟨f1, f2, _⟩ := dateOfYo_fields l.date.year l.date.ordinal.toNat ho.1
  obtain ⟨m1, m2, _, _⟩ := month_day_spec l.date.year l.date.ordinal.toNat v3 v4
  have hw := weekday_spec l.date.year l.date.ordinal.toNat ho.1
  rw [← e] at m1 m2 hw
  have hyr : -262145 ≤ l.date.year ∧ l.date.year ≤ 262144 := by
    rw [show MIN_YEAR = -262143 from rfl] at v1; rw [show MAX_YEAR = 262142 from rfl] at v2; omega
  have hn := num_days_spec (dateOfYo l.date.year l.date.ordinal.toNat) (by rw [f1]; exact hyr.1)
    (by rw [f1]; exact hyr.2) (by rw [f2]; exact ho.2)
  rw [f1, f2] at hn
  obtain ⟨a1, a2, a3, a4, _⟩ := accessors' l.time h2.2
  refine ⟨l.date.year, l.date.ordinal.toNat, v1, v2, v3, v4, hday, ?_, ?_, ?_, ?_, ?_, ?_, ?_, ?_, ?_, ?_⟩
  · unfold Zoned.year; rw [h1]; rfl
  · unfold Zoned.ordinal; rw [h1]
    show Res.ok l.date.ordinal = _
    rw [Int.toNat_of_nonneg (by have := h2.1.2.2.1; omega)]
  · unfold Zoned.month; rw [h1]; exact m1
  · unfold Zoned.day; rw [h1]; exact m2
  · refine ⟨l.date.weekday, ?_, ?_⟩
    · unfold Zoned.weekday; rw [h1]; rfl
    · rw [← hday]; exact hw
  · unfold Zoned.num_days_from_ce; rw [h1]; show l.date.num_days_from_ce = _; rw [e, hn, hday]
  · unfold Zoned.hour; rw [h1]; show Res.ok l.time.hour = _; rw [a1, ← hsod]; rfl
  · unfold Zoned.minute; rw [h1]; show Res.ok l.time.minute = _; rw [a2, ← hsod]; rfl
  · unfold Zoned.second; rw [h1]; show Res.ok l.time.second = _; rw [a3, ← hsod]; rfl
  · unfold Zoned.nanosecond; rw [h1]; show Res.ok l.time.nanosecond = _; rw [a4, h4]

/-- non-vacuity of `headroom_sound` / `accessors_read_wall_clock`: `MIN_UTC` seen at −01:00 reads
Dec 31 of the year before, 23:00, and `naive_local` panics; `MAX_UTC` at +00:00:01 reads Jan 1 -/
example :
    ZInv ⟨NaiveDT.MIN, -3600⟩ ∧
    Zoned.overflowing_naive_local ⟨NaiveDT.MIN, -3600⟩ = .ok ⟨Date.BEFORE_MIN, ⟨82800, 0⟩⟩ ∧
    Zoned.naive_local ⟨NaiveDT.MIN, -3600⟩ = .panic ∧
    Zoned.month ⟨NaiveDT.MIN, -3600⟩ = .ok 12 ∧ Zoned.day ⟨NaiveDT.MIN, -3600⟩ = .ok 31 ∧
    Zoned.overflowing_naive_local ⟨NaiveDT.MAX, 1⟩ = .ok ⟨Date.AFTER_MAX, ⟨0, 999999999⟩⟩ ∧
    Zoned.naive_local ⟨NaiveDT.MAX, 0⟩ = .ok NaiveDT.MAX := by decide +kernel

/-! ### Construction from a wall clock / from UTC -/

/-- **fromLocal_fails_iff.**  `from_local_datetime` (for any offset of less than a day and any
in-range wall clock) never panics and fails exactly when `wall clock − offset`, the UTC reading,
would leave the supported range. -/
theorem fromLocal_fails_iff (off : Int) (ℓ : NaiveDT) (ho : OffValid off) (hℓ : NDTInv ℓ) :
    ∃ r, Zoned.from_local_datetime off ℓ = .ok r ∧
      (r = none ↔ ¬ InRangeSecs (instSecs ℓ - off)) := by
  have hext : ExtNDTInv ℓ := ⟨((dateInv_iff ℓ.date).mp hℓ.1).1, hℓ.2⟩
  obtain ⟨r, h1, _, h3, h4⟩ := from_local_spec off ℓ ho hext
  refine ⟨r, h1, h3, ?_⟩
  intro hn
  by_contra hne
  exact hn (h4 hℓ.1 hne)

/-- **local_of_fromLocal.**  Building from a wall clock and reading the wall clock back is the
identity; the value carries the given offset, is well formed, and denotes the instant
`wall clock − offset`. -/
theorem local_of_fromLocal (off : Int) (ℓ : NaiveDT) (ho : OffValid off) (hℓ : NDTInv ℓ) (z : Zoned)
    (h : Zoned.from_local_datetime off ℓ = .ok (some z)) :
    z.off = off ∧ ZInv z ∧ Zoned.naive_local z = .ok ℓ ∧ Zoned.overflowing_naive_local z = .ok ℓ ∧
    instSecs z.utc = instSecs ℓ - off ∧ z.utc.time.frac = ℓ.time.frac := by
  have hext : ExtNDTInv ℓ := ⟨((dateInv_iff ℓ.date).mp hℓ.1).1, hℓ.2⟩
  obtain ⟨r, h1, h2, _, _⟩ := from_local_spec off ℓ ho hext
  rw [h] at h1
  obtain ⟨a, b, c, d, e⟩ := h2 z (by injection h1 with h1; exact h1.symm)
  have hzi : ZInv z := ⟨⟨e hℓ.1, b.2⟩, by rw [a]; exact ho⟩
  have hback := local_back z hzi ℓ hext (by rw [a]; exact c) d
  obtain ⟨-, -, -, l5, l6⟩ := naive_local_of z hzi ℓ hback
  refine ⟨a, hzi, ?_, hback, c, d⟩
  rw [l5, if_pos (l6.mp hℓ.1)]

/-- **utc_of_fromUtc.**  Building from a UTC reading and reading UTC back is the identity (and cannot
fail); moreover, whenever the wall clock of that value is in range, building from that wall clock
gives the same value back. -/
theorem utc_of_fromUtc (off : Int) (u : NaiveDT) (ho : OffValid off) (hu : NDTInv u) :
    (Zoned.from_utc_datetime off u).naive_utc = u ∧ (Zoned.from_utc_datetime off u).off = off ∧
    ∀ l, Zoned.naive_local (Zoned.from_utc_datetime off u) = .ok l →
      Zoned.from_local_datetime off l = .ok (some (Zoned.from_utc_datetime off u)) := by
  refine ⟨rfl, rfl, ?_⟩
  intro l hl
  have hzi : ZInv (Zoned.from_utc_datetime off u) := ⟨hu, ho⟩
  obtain ⟨l', l1, -, -, -, l5, -⟩ := naive_local_spec _ hzi
  rw [l5] at hl
  split at hl
  · cases hl; exact from_local_of_wall _ hzi _ l1
  · cases hl

/-- non-vacuity: 1970-01-01T00:30 at +01:00 is 1969-12-31T23:30Z and reads back; `MIN` as a wall
clock at +00:00:01 has no UTC reading, at −00:00:01 it has -/
example :
    Zoned.from_local_datetime 3600 ⟨dateOfYo 1970 1, ⟨1800, 7⟩⟩ = .ok (some ⟨⟨dateOfYo 1969 365, ⟨84600, 7⟩⟩, 3600⟩) ∧
    Zoned.naive_local ⟨⟨dateOfYo 1969 365, ⟨84600, 7⟩⟩, 3600⟩ = .ok ⟨dateOfYo 1970 1, ⟨1800, 7⟩⟩ ∧
    Zoned.from_local_datetime 1 NaiveDT.MIN = .ok none ∧
    Zoned.from_local_datetime (-1) NaiveDT.MIN = .ok (some ⟨⟨Date.MIN, ⟨1, 0⟩⟩, -1⟩) ∧
    NDTInv NaiveDT.MIN ∧ ¬ InRangeSecs (instSecs NaiveDT.MIN - 1) := by decide +kernel

/-! ### Equality, ordering, hashing; changing the zone -/

/-- **cmp_by_instant.**  Equality, ordering and hashing of zone-aware values are functions of the
UTC readings alone (the offsets do not enter), and on well-formed values they are equality / order
of the instants: the comparison is the lexicographic comparison of (second, nanosecond field), two
values are equal iff both agree, and the hashed words agree iff the values are equal. -/
theorem cmp_by_instant (a b : Zoned) (ha : ZInv a) (hb : ZInv b) :
    (∀ oa ob, Zoned.cmp ⟨a.utc, oa⟩ ⟨b.utc, ob⟩ = Zoned.cmp a b ∧
              Zoned.eq ⟨a.utc, oa⟩ ⟨b.utc, ob⟩ = Zoned.eq a b ∧
              Zoned.hashWords ⟨a.utc, oa⟩ = Zoned.hashWords a) ∧
    Zoned.cmp a b = cmpKey (instSecs a.utc) a.utc.time.frac (instSecs b.utc) b.utc.time.frac ∧
    (Zoned.eq a b = true ↔ instSecs a.utc = instSecs b.utc ∧ a.utc.time.frac = b.utc.time.frac) ∧
    (Zoned.eq a b = true ↔ Zoned.cmp a b = 0) ∧
    (Zoned.hashWords a = Zoned.hashWords b ↔ Zoned.eq a b = true) := by
  have ea : ExtNDTInv a.utc := ⟨((dateInv_iff a.utc.date).mp ha.1.1).1, ha.1.2⟩
  have eb : ExtNDTInv b.utc := ⟨((dateInv_iff b.utc.date).mp hb.1.1).1, hb.1.2⟩
  have hcmp : Zoned.cmp a b = cmpKey (instSecs a.utc) a.utc.time.frac (instSecs b.utc) b.utc.time.frac :=
    cmp_spec a.utc b.utc ea eb
  have heq : Zoned.eq a b = true ↔ instSecs a.utc = instSecs b.utc ∧ a.utc.time.frac = b.utc.time.frac := by
    unfold Zoned.eq
    simp only [decide_eq_true_eq]
    constructor
    · intro h; rw [h]; exact ⟨rfl, rfl⟩
    · intro h; exact ndt_unique _ _ ea eb h.1 h.2
  refine ⟨fun _ _ => ⟨rfl, rfl, rfl⟩, hcmp, heq, ?_, ?_⟩
  · rw [heq, hcmp]; unfold cmpKey
    constructor
    · intro h; rw [h.1, h.2]; simp
    · intro h; constructor <;> omega
  · unfold Zoned.hashWords NaiveDT.hashWords Zoned.eq
    simp only [decide_eq_true_eq]
    constructor
    · intro h
      simp only [List.cons.injEq, and_true] at h
      obtain ⟨h1, h2, h3⟩ := h
      cases a with | mk au ao => cases b with | mk bu bo =>
        cases au with | mk ad at_ => cases bu with | mk bd bt =>
          cases ad; cases bd; cases at_; cases bt
          simp_all
    · intro h; rw [h]

/-- **with_timezone_keeps_instant.**  Converting to another zone keeps the stored UTC reading, hence
the instant; the new value compares equal to the old one, hashes the same, and its wall clock moves by
exactly the offset difference. -/
theorem with_timezone_keeps_instant (z : Zoned) (off' : Int) :
    (Zoned.with_timezone z off').utc = z.utc ∧ (Zoned.with_timezone z off').off = off' ∧
    zonedInstNs (Zoned.with_timezone z off') = zonedInstNs z ∧
    wallSecs (Zoned.with_timezone z off') = wallSecs z - z.off + off' ∧
    Zoned.eq (Zoned.with_timezone z off') z = true ∧ Zoned.cmp (Zoned.with_timezone z off') z = 0 ∧
    Zoned.hashWords (Zoned.with_timezone z off') = Zoned.hashWords z ∧
    (Zoned.to_utc z).utc = z.utc ∧ (Zoned.fixed_offset z) = z := by
  refine ⟨rfl, rfl, rfl, ?_, ?_, ?_, rfl, rfl, rfl⟩
  · unfold wallSecs Zoned.with_timezone; dsimp only; omega
  · unfold Zoned.eq Zoned.with_timezone; simp
  · unfold Zoned.cmp Zoned.with_timezone NaiveDT.cmp Date.cmp Time.cmp; simp

example : Zoned.cmp ⟨⟨dateOfYo 2024 60, ⟨0, 0⟩⟩, 3600⟩ ⟨⟨dateOfYo 2024 60, ⟨0, 0⟩⟩, -7200⟩ = 0 ∧
    Zoned.cmp ⟨⟨dateOfYo 2024 60, ⟨0, 0⟩⟩, 3600⟩ ⟨⟨dateOfYo 2024 59, ⟨86399, 1999999999⟩⟩, 0⟩ = 1 ∧
    Zoned.eq ⟨⟨dateOfYo 2024 60, ⟨0, 1⟩⟩, 0⟩ ⟨⟨dateOfYo 2024 60, ⟨0, 0⟩⟩, 0⟩ = false ∧
    Zoned.hashWords ⟨⟨dateOfYo 2024 60, ⟨5, 6⟩⟩, 3600⟩ = [(dateOfYo 2024 60).yof, 5, 6] := by decide +kernel

/-! ### Field replacement acts on the wall clock -/

/-- **map_local_spec.**  Let `l` be the wall clock of a well-formed `z` and let the replacement `f`
turn it into `r0` (a well-formed reading of the extended calendar, or a refusal).  Then `map_local`
never panics; a result has the same offset, is well formed and inside `MIN_UTC ..= MAX_UTC`, denotes
the instant `new wall clock − offset`, and its wall clock *is* the reading `f` produced; and there is
no result exactly when `f` refused or that instant is outside `MIN_UTC ..= MAX_UTC`. -/
theorem map_local_spec (z : Zoned) (hz : ZInv z) (f : NaiveDT → Res (Option NaiveDT)) (l : NaiveDT)
    (r0 : Option NaiveDT) (hl : Zoned.overflowing_naive_local z = .ok l) (hf : f l = .ok r0)
    (hv : ∀ nl, r0 = some nl → ExtNDTInv nl) :
    ∃ r, Zoned.map_local z f = .ok r ∧
      (∀ z', r = some z' → ∃ nl, r0 = some nl ∧ z'.off = z.off ∧ ZInv z' ∧
        Zoned.overflowing_naive_local z' = .ok nl ∧ instSecs z'.utc = instSecs nl - z.off ∧
        z'.utc.time.frac = nl.time.frac ∧ InUtcRange (instSecs z'.utc) z'.utc.time.frac) ∧
      (r = none ↔ (r0 = none ∨ ∃ nl, r0 = some nl ∧ ¬ InUtcRange (instSecs nl - z.off) nl.time.frac)) :=
  map_local_acts z hz f l r0 hl hf hv

/-- **with_time_spec** (the code after the repair of finding #14).  `with_time t` replaces the time
of day of the wall clock (keeping its date, also a headroom date) and filters the result to
`MIN_UTC ..= MAX_UTC`: never panics, fails exactly when `(wall-clock date, t) − offset` is outside. -/
theorem with_time_spec (z : Zoned) (hz : ZInv z) (t : Time) (ht : TValid t) :
    ∃ l, Zoned.overflowing_naive_local z = .ok l ∧ ExtNDTInv l ∧ instSecs l = wallSecs z ∧
    ∃ r, Zoned.with_time z t = .ok r ∧
      (∀ z', r = some z' → z'.off = z.off ∧ ZInv z' ∧
        Zoned.overflowing_naive_local z' = .ok ⟨l.date, t⟩ ∧
        instSecs z'.utc = instSecs ⟨l.date, t⟩ - z.off ∧ z'.utc.time.frac = t.frac ∧
        InUtcRange (instSecs z'.utc) z'.utc.time.frac) ∧
      (r = none ↔ ¬ InUtcRange (instSecs ⟨l.date, t⟩ - z.off) t.frac) := by
  obtain ⟨l, h1, h2, h3, _⟩ := naive_local_spec z hz
  refine ⟨l, h1, h2, h3, ?_⟩
  obtain ⟨r, a, b, c⟩ := back_filtered z hz ⟨l.date, t⟩ ⟨h2.1, ht⟩
  refine ⟨r, ?_, b, c⟩
  unfold Zoned.with_time
  rw [h1, rbind_ok]
  exact a

/-- the time-field replacements are `with_time` with that one field of the wall-clock time changed
(`ofFields`, `hourOf`, … are C07's field vocabulary), refused when the field is out of range -/
theorem with_time_field_spec (z : Zoned) (hz : ZInv z) (v : Int) (hv : 0 ≤ v) :
    ∃ l, Zoned.overflowing_naive_local z = .ok l ∧ TValid l.time ∧
    Zoned.with_hour z v = (if v < 24 then
      Zoned.with_time z (ofFields v (minuteOf l.time) (secondOf l.time) l.time.frac) else .ok none) ∧
    Zoned.with_minute z v = (if v < 60 then
      Zoned.with_time z (ofFields (hourOf l.time) v (secondOf l.time) l.time.frac) else .ok none) ∧
    Zoned.with_second z v = (if v < 60 then
      Zoned.with_time z (ofFields (hourOf l.time) (minuteOf l.time) v l.time.frac) else .ok none) ∧
    Zoned.with_nanosecond z v = (if v < 2000000000 then
      Zoned.with_time z (ofFields (hourOf l.time) (minuteOf l.time) (secondOf l.time) v) else .ok none) := by
  obtain ⟨l, h1, h2, _⟩ := naive_local_spec z hz
  obtain ⟨w1, w2, w3, w4⟩ := with_field' l.time v h2.2 hv
  exact ⟨l, h1, h2.2, map_local_time z l h1 (fun t => t.with_hour v) _ _ w1,
    map_local_time z l h1 (fun t => t.with_minute v) _ _ w2,
    map_local_time z l h1 (fun t => t.with_second v) _ _ w3,
    map_local_time z l h1 (fun t => t.with_nanosecond v) _ _ w4⟩

/-- non-vacuity, and the two inputs of finding #14 on the repaired code: `MAX_UTC` seen at +01:00,
`with_time(23:00:00)` would be 22:00 UTC on the day after MAX — refused; `MIN_UTC` at −01:00,
`with_time(00:00:00)` would be 01:00 UTC on the day before MIN — refused; `with_time(23:30)` on the
latter is in range; `with_hour(0)` on a headroom wall clock is refused, `with_hour(23)` keeps it -/
example :
    Zoned.with_time ⟨NaiveDT.MAX, 3600⟩ ⟨82800, 0⟩ = .ok none ∧
    Zoned.with_time ⟨NaiveDT.MIN, -3600⟩ ⟨0, 0⟩ = .ok none ∧
    Zoned.with_time ⟨NaiveDT.MIN, -3600⟩ ⟨84600, 0⟩ = .ok (some ⟨⟨Date.MIN, ⟨1800, 0⟩⟩, -3600⟩) ∧
    Zoned.with_hour ⟨NaiveDT.MIN, -3600⟩ 0 = .ok none ∧
    Zoned.with_hour ⟨NaiveDT.MIN, -3600⟩ 23 = .ok (some ⟨NaiveDT.MIN, -3600⟩) ∧
    Zoned.with_time ⟨⟨dateOfYo 2024 60, ⟨3600, 0⟩⟩, 7200⟩ ⟨0, 5⟩ = .ok (some ⟨⟨dateOfYo 2024 59, ⟨79200, 5⟩⟩, 7200⟩) := by
  decide +kernel

/-! ### Calendar-field replacement -/

/-- what the target readings of the calendar-field replacements are: `ymdReading? y m d t` exists
exactly when (m, d) is a date of year `y` (any year of the extended calendar) and then has exactly
those fields and the time `t`; `yoReading? y o t` likewise for the ordinal -/
theorem reading_fields (y : Int) (m d o : Nat) (t : Time) :
    (ymdReading? y m d t = none ↔ ¬ (1 ≤ m ∧ m ≤ 12 ∧ 1 ≤ d ∧ d ≤ monthLen y m)) ∧
    (∀ nl, ymdReading? y m d t = some nl →
      nl.date.year = y ∧ nl.date.month = .ok m ∧ nl.date.day = .ok d ∧ nl.time = t) ∧
    (yoReading? y o t = none ↔ ¬ (1 ≤ o ∧ o ≤ yearLen y)) ∧
    (∀ nl, yoReading? y o t = some nl → nl.date.year = y ∧ nl.date.ordinal = o ∧ nl.time = t) := by
  have hyl := yearLen_ge y
  unfold ymdReading? yoReading?
  rw [← valid_iff]
  refine ⟨⟨fun h hc => ?_, ite_neg' _ _⟩, fun nl h => ?_, ⟨fun h hc => ?_, ite_neg' _ _⟩, fun nl h => ?_⟩
  · rw [if_pos hc] at h; cases h
  · by_cases hc : validYmd y m d = true
    · rw [if_pos hc] at h
      cases h
      obtain ⟨f1, f2, f3, _⟩ := ymd_fields y m d hc
      exact ⟨f1, f2, f3, rfl⟩
    · rw [if_neg hc] at h; cases h
  · rw [if_pos hc] at h; cases h
  · by_cases hc : 1 ≤ o ∧ o ≤ yearLen y
    · rw [if_pos hc] at h
      cases h
      obtain ⟨f1, f2, _⟩ := dateOfYo_fields y o (by omega)
      exact ⟨f1, f2, rfl⟩
    · rw [if_neg hc] at h; cases h

/-- **with_date_field_spec.**  `with_year / with_month(0) / with_day(0) / with_ordinal(0)` are instances
of `map_local_spec` with C08's calendar meaning.  With `l` the wall clock of `z` (possibly in a headroom
day), `y` its year, `m`, `d` its month and day: the target reading keeps the time of day and all
calendar fields but the named one (`ymdReading?` / `yoReading?`, see `reading_fields`; the 0-based forms
aim at `v + 1`, and `u32::MAX` has no target); `with_year` keeps the wall clock itself when the year
is unchanged — also a headroom year — and otherwise accepts only years of the supported range
(`yearReading?`).  `ActsOnWall z target r` says: a result keeps the offset, is well formed, lies in
`MIN_UTC ..= MAX_UTC`, denotes `target − offset` and its wall clock IS the target; `None` exactly when
there is no such date or that instant is outside `MIN_UTC ..= MAX_UTC`.  Never a panic, every `u32`
(indeed every natural) argument, every `i32` (indeed every integer) year. -/
theorem with_date_field_spec (z : Zoned) (hz : ZInv z) (v : Nat) (y' : Int) :
    ∃ l, Zoned.overflowing_naive_local z = .ok l ∧ ExtNDTInv l ∧ instSecs l = wallSecs z ∧
    (∃ r, Zoned.with_year z y' = .ok r ∧ ActsOnWall z (yearReading? l y') r) ∧
    (∃ r, Zoned.with_month z v = .ok r ∧ ActsOnWall z
      (ymdReading? l.date.year v (dayOfYo l.date.year l.date.ordinal.toNat) l.time) r) ∧
    (∃ r, Zoned.with_month0 z v = .ok r ∧ ActsOnWall z
      (ymdReading? l.date.year (v + 1) (dayOfYo l.date.year l.date.ordinal.toNat) l.time) r) ∧
    (∃ r, Zoned.with_day z v = .ok r ∧ ActsOnWall z
      (ymdReading? l.date.year (monthOfYo l.date.year l.date.ordinal.toNat) v l.time) r) ∧
    (∃ r, Zoned.with_day0 z v = .ok r ∧ ActsOnWall z
      (ymdReading? l.date.year (monthOfYo l.date.year l.date.ordinal.toNat) (v + 1) l.time) r) ∧
    (∃ r, Zoned.with_ordinal z v = .ok r ∧ ActsOnWall z (yoReading? l.date.year v l.time) r) ∧
    (∃ r, Zoned.with_ordinal0 z v = .ok r ∧ ActsOnWall z (yoReading? l.date.year (v + 1) l.time) r) := by
  obtain ⟨l, h1, h2, h3, _⟩ := naive_local_spec z hz
  exact ⟨l, h1, h2, h3, zoned_with_date_fields z hz l h1 v y'⟩

/-- the wall clock's own month and day are `monthOfYo` / `dayOfYo` of its year and ordinal (C01), so
the targets above are "same month", "same day" -/
theorem wall_month_day (z : Zoned) (hz : ZInv z) (l : NaiveDT)
    (hl : Zoned.overflowing_naive_local z = .ok l) :
    l.date.month = .ok (monthOfYo l.date.year l.date.ordinal.toNat) ∧
    l.date.day = .ok (dayOfYo l.date.year l.date.ordinal.toNat) := by
  obtain ⟨hext, _⟩ := wall_date_cases z hz l hl
  obtain ⟨el, vl⟩ := ext_eq l.date hext.1
  obtain ⟨m1, m2, _, _⟩ := month_day_spec l.date.year l.date.ordinal.toNat vl.2.2.1 vl.2.2.2
  rw [← el] at m1 m2
  exact ⟨m1, m2⟩

/-- non-vacuity: leap day → `with_year` to a common year has no target; Jan 31 → `with_month(2)` has
none; replacement across midnight at +02:00 (28 Feb 23:00Z is 29 Feb 01:00 local; day 1 gives 1 Feb 01:00 local = 31 Jan 23:00Z); headroom wall clock: `with_ordinal(366)` keeps it,
`with_ordinal(365)` and `with_month(11)` leave the range, `with_year(MIN_YEAR − 1)` (unchanged year)
keeps the value, `with_year(MIN_YEAR)` moves into the range; `u32::MAX` -/
example :
    Zoned.with_year ⟨⟨dateOfYo 2024 60, ⟨0, 0⟩⟩, 0⟩ 2023 = .ok none ∧
    Zoned.with_year ⟨⟨dateOfYo 2024 60, ⟨0, 0⟩⟩, 0⟩ 2028 = .ok (some ⟨⟨dateOfYo 2028 60, ⟨0, 0⟩⟩, 0⟩) ∧
    Zoned.with_month ⟨⟨dateOfYo 2024 31, ⟨0, 0⟩⟩, 0⟩ 2 = .ok none ∧
    Zoned.with_day ⟨⟨dateOfYo 2024 59, ⟨82800, 0⟩⟩, 7200⟩ 1 = .ok (some ⟨⟨dateOfYo 2024 31, ⟨82800, 0⟩⟩, 7200⟩) ∧
    Zoned.with_ordinal ⟨NaiveDT.MIN, -3600⟩ 366 = .ok (some ⟨NaiveDT.MIN, -3600⟩) ∧
    Zoned.with_ordinal ⟨NaiveDT.MIN, -3600⟩ 365 = .ok none ∧
    Zoned.with_month ⟨NaiveDT.MIN, -3600⟩ 11 = .ok none ∧
    Zoned.with_year ⟨NaiveDT.MIN, -3600⟩ (MIN_YEAR - 1) = .ok (some ⟨NaiveDT.MIN, -3600⟩) ∧
    Zoned.with_year ⟨NaiveDT.MIN, -3600⟩ MIN_YEAR = .ok (some ⟨⟨dateOfYo (MIN_YEAR + 1) 1, ⟨0, 0⟩⟩, -3600⟩) ∧
    Zoned.with_month0 ⟨⟨dateOfYo 2024 31, ⟨0, 0⟩⟩, 0⟩ 4294967295 = .ok none ∧
    Zoned.with_day0 ⟨⟨dateOfYo 2024 31, ⟨0, 0⟩⟩, 0⟩ 0 = .ok (some ⟨⟨dateOfYo 2024 1, ⟨0, 0⟩⟩, 0⟩) := by
  decide +kernel

/-! ### Day and month stepping -/

/-- **stepping_spec.**  With `l` the wall clock of a well-formed `z` (possibly in a headroom day):

* `checked_add_days(Days(0))` returns `z`.  For `n > 0` the wall-clock *date* moves by `n` days, time of
  day and offset are kept (`SteppedDays`: the instant moves by `n·86400` s).  It succeeds exactly when
  (a) the stepped wall-clock date is itself a date of the supported range — a result whose own wall
  clock would fall in the headroom day is refused, because `NaiveDate::add_days` validates the year —
  and (b) the stepped instant is `≤ MAX_UTC` (the only filter this operation applies; `≥ MIN_UTC`
  holds automatically).
* `checked_sub_days(Days(n))`, every `n ≥ 0` (the code has no short cut for 0, `Days(0)` goes through the
  wall clock and back and returns `z`, also from a headroom wall clock): succeeds exactly when
  (a) `n = 0` or the stepped wall-clock date is a date of the supported range, and (b) the stepped
  instant is `≥ MIN_UTC` (the only filter applied; a leap-second reading in the last second of MAX
  is not filtered here).
* `checked_add_months` / `checked_sub_months`: `Months(0)` returns `z`; otherwise the wall-clock date
  is stepped by C08's `addMonths?` (year-month index moved by `k`, day clamped to the target month,
  `None` when the target year leaves the supported range — C08 `months_target`), the time of day is
  kept, and the result exists exactly when that date exists and `new wall clock − offset` is
  representable (`InRangeSecs`; no `MIN_UTC ..= MAX_UTC` filter is applied).

Counts: all of `u64` for days, all of `u32` (indeed every natural) for months.  Never a panic. -/
theorem stepping_spec (z : Zoned) (hz : ZInv z) :
    ∃ l, Zoned.overflowing_naive_local z = .ok l ∧ ExtNDTInv l ∧ instSecs l = wallSecs z ∧
    Zoned.checked_add_days z 0 = .ok (some z) ∧
    (∀ n : Int, 0 < n → n ≤ 18446744073709551615 →
      ∃ r, Zoned.checked_add_days z n = .ok r ∧
        (r = none ↔ ¬ ((DAY_MIN ≤ dayNumOf l.date + n ∧ dayNumOf l.date + n ≤ DAY_MAX) ∧
                       LeMaxUtc (instSecs z.utc + n * 86400) z.utc.time.frac)) ∧
        ∀ z', r = some z' → SteppedDays z l z' n) ∧
    (∀ n : Int, 0 ≤ n → n ≤ 18446744073709551615 →
      ∃ r, Zoned.checked_sub_days z n = .ok r ∧
        (r = none ↔ ¬ ((n = 0 ∨ (DAY_MIN ≤ dayNumOf l.date - n ∧ dayNumOf l.date - n ≤ DAY_MAX)) ∧
                       GeMinUtc (instSecs z.utc - n * 86400))) ∧
        ∀ z', r = some z' → SteppedDays z l z' (-n)) ∧
    (∀ k : Nat,
      (∃ r, Zoned.checked_add_months z k = .ok r ∧ (k = 0 → r = some z) ∧
        (0 < k → ActsOnWallWith (fun s _ => InRangeSecs s) z
          ((addMonths? l.date.year (monthOfYo l.date.year l.date.ordinal.toNat)
              (dayOfYo l.date.year l.date.ordinal.toNat) k).map fun nd => ⟨nd, l.time⟩) r)) ∧
      (∃ r, Zoned.checked_sub_months z k = .ok r ∧ (k = 0 → r = some z) ∧
        (0 < k → ActsOnWallWith (fun s _ => InRangeSecs s) z
          ((addMonths? l.date.year (monthOfYo l.date.year l.date.ordinal.toNat)
              (dayOfYo l.date.year l.date.ordinal.toNat) (-(k : Int))).map fun nd => ⟨nd, l.time⟩) r))) := by
  obtain ⟨l, h1, h2, h3, _⟩ := naive_local_spec z hz
  refine ⟨l, h1, h2, h3, rfl, ?_, ?_, ?_⟩
  · intro n hn1 hn2; exact zoned_add_days z hz l h1 n ⟨hn1, hn2⟩
  · intro n hn1 hn2; exact zoned_sub_days z hz l h1 n ⟨hn1, hn2⟩
  · intro k; exact zoned_months z hz l h1 k

/-- the range filter splits into the two one-sided filters used by the day steppers -/
theorem utc_range_halves (s f : Int) : InUtcRange s f ↔ GeMinUtc s ∧ LeMaxUtc s f := inUtc_iff s f

/-- non-vacuity and the boundary cases: from a headroom wall clock forwards into the range and with
`Days(0)` backwards; a step that would land in the headroom day is refused although the instant is in
range (`MIN+2d 01:00Z` at −02:00, minus 2 days); `MAX_UTC` reached exactly and missed by a day;
`2³²` and `u64::MAX` days are not folded; month stepping clamps the day (wall clock Jan 30 23:00 →
Feb 29 23:00) and `Months(0)` returns the value -/
example :
    Zoned.checked_sub_days ⟨NaiveDT.MIN, -3600⟩ 0 = .ok (some ⟨NaiveDT.MIN, -3600⟩) ∧
    Zoned.checked_add_days ⟨NaiveDT.MIN, -3600⟩ 1 = .ok (some ⟨⟨dateOfYo MIN_YEAR 2, ⟨0, 0⟩⟩, -3600⟩) ∧
    Zoned.checked_sub_days ⟨NaiveDT.MIN, -3600⟩ 1 = .ok none ∧
    Zoned.checked_sub_days ⟨⟨dateOfYo MIN_YEAR 3, ⟨3600, 0⟩⟩, -7200⟩ 2 = .ok none ∧
    Zoned.checked_sub_days ⟨⟨dateOfYo MIN_YEAR 3, ⟨3600, 0⟩⟩, 0⟩ 2 = .ok (some ⟨⟨dateOfYo MIN_YEAR 1, ⟨3600, 0⟩⟩, 0⟩) ∧
    Zoned.checked_add_days ⟨⟨dateOfYo MAX_YEAR 364, ⟨86399, 999999999⟩⟩, -3600⟩ 1 = .ok (some ⟨NaiveDT.MAX, -3600⟩) ∧
    Zoned.checked_add_days ⟨NaiveDT.MAX, 3600⟩ 1 = .ok none ∧
    Zoned.checked_add_days ⟨NaiveDT.MIN, 0⟩ 4294967296 = .ok none ∧
    Zoned.checked_sub_days ⟨NaiveDT.MAX, 0⟩ 18446744073709551615 = .ok none ∧
    Zoned.checked_add_days ⟨NaiveDT.MIN, 0⟩ 191491528 = .ok (some ⟨⟨Date.MAX, ⟨0, 0⟩⟩, 0⟩) ∧
    Zoned.checked_add_months ⟨⟨dateOfYo 2024 31, ⟨0, 0⟩⟩, -3600⟩ 1 =
      .ok (some ⟨⟨dateOfYo 2024 61, ⟨0, 0⟩⟩, -3600⟩) ∧
    Zoned.checked_sub_months ⟨NaiveDT.MIN, -3600⟩ 0 = .ok (some ⟨NaiveDT.MIN, -3600⟩) ∧
    Zoned.checked_sub_months ⟨NaiveDT.MIN, 0⟩ 1 = .ok none ∧
    Zoned.checked_add_months ⟨NaiveDT.MIN, -3600⟩ 1 = .ok (some ⟨⟨dateOfYo MIN_YEAR 32, ⟨0, 0⟩⟩, -3600⟩) := by
  decide +kernel

/-! ### `with_ymd_and_hms` -/

/-- **with_ymd_and_hms_spec.**  `TimeZone::with_ymd_and_hms` for a fixed offset (`Utc`: offset 0), every
`i32` year and every `u32` (indeed every natural / non-negative) month, day, hour, minute, second:
never panics; there is a result exactly when the year is in the supported range, (month, day) is a
date of that year, hour < 24, minute < 60, second < 60 (no leap second through this constructor) and
`wall clock − offset` is representable; the result has the given offset, is well formed, denotes
`wall clock − offset`, and `naive_local` reads the wall clock — that calendar date at that time, nanosecond
0 — back. -/
theorem with_ymd_and_hms_spec (off : Int) (ho : OffValid off) (y : Int) (m d : Nat) (h mi s : Int)
    (hh : 0 ≤ h) (hmi : 0 ≤ mi) (hs : 0 ≤ s) :
    ∃ r, Zoned.with_ymd_and_hms off y m d h mi s = .ok r ∧
      (r = none ↔ ¬ ((MIN_YEAR ≤ y ∧ y ≤ MAX_YEAR ∧ validYmd y m d = true ∧ h < 24 ∧ mi < 60 ∧ s < 60) ∧
        InRangeSecs (instSecs ⟨dateOfYo y (ordinalOf y m d), ofFields h mi s 0⟩ - off))) ∧
      ∀ z, r = some z →
        (MIN_YEAR ≤ y ∧ y ≤ MAX_YEAR ∧ validYmd y m d = true ∧ h < 24 ∧ mi < 60 ∧ s < 60) ∧
        z.off = off ∧ ZInv z ∧
        Zoned.naive_local z = .ok ⟨dateOfYo y (ordinalOf y m d), ofFields h mi s 0⟩ ∧
        instSecs z.utc = instSecs ⟨dateOfYo y (ordinalOf y m d), ofFields h mi s 0⟩ - off ∧
        z.utc.time.frac = 0 := by
  unfold Zoned.with_ymd_and_hms
  rw [ctor_ymd', rbind_ok, hms_iff']
  by_cases hd : MIN_YEAR ≤ y ∧ y ≤ MAX_YEAR ∧ validYmd y m d = true
  · rw [if_pos hd]
    by_cases ht : h < 24 ∧ mi < 60 ∧ s < 60
    · rw [if_pos ht]
      dsimp only
      have hb := ordinal_bounds_c08 y m d hd.2.2
      have hn : NDTInv ⟨dateOfYo y (ordinalOf y m d), ofFields h mi s 0⟩ :=
        ⟨(inv_of_yo y _ ⟨hd.1, hd.2.1⟩ hb).1,
         (ofFields_valid h mi s 0 ⟨hh, ht.1⟩ ⟨hmi, ht.2.1⟩ ⟨hs, ht.2.2⟩ (by omega)).1⟩
      obtain ⟨r, a, b⟩ := fromLocal_fails_iff off _ ho hn
      refine ⟨r, a, ?_, ?_⟩
      · rw [b]
        constructor
        · intro h1 h2; exact h1 h2.2
        · intro h1 h2; exact h1 ⟨⟨hd.1, hd.2.1, hd.2.2, ht⟩, h2⟩
      · intro z hz
        rw [hz] at a
        obtain ⟨c1, c2, c3, _, c5, c6⟩ := local_of_fromLocal off _ ho hn z a
        exact ⟨⟨hd.1, hd.2.1, hd.2.2, ht⟩, c1, c2, c3, c5, c6⟩
    · rw [if_neg ht]
      refine ⟨none, rfl, ?_, by intro z h; cases h⟩
      simp only [true_iff]
      intro h1; exact ht h1.1.2.2.2
  · rw [if_neg hd]
    refine ⟨none, rfl, ?_, by intro z h; cases h⟩
    simp only [true_iff]
    intro h1; exact hd ⟨h1.1.1, h1.1.2.1, h1.1.2.2.1⟩

example : Zoned.with_ymd_and_hms 3600 1970 1 1 0 30 0 = .ok (some ⟨⟨dateOfYo 1969 365, ⟨84600, 0⟩⟩, 3600⟩) ∧
    Zoned.with_ymd_and_hms 0 2023 2 29 0 0 0 = .ok none ∧ Zoned.with_ymd_and_hms 0 2024 2 29 23 59 60 = .ok none ∧
    Zoned.with_ymd_and_hms 1 MIN_YEAR 1 1 0 0 0 = .ok none ∧
    Zoned.with_ymd_and_hms (-1) MIN_YEAR 1 1 0 0 0 = .ok (some ⟨⟨Date.MIN, ⟨1, 0⟩⟩, -1⟩) ∧
    Zoned.with_ymd_and_hms 0 (MAX_YEAR + 1) 1 1 0 0 0 = .ok none := by decide +kernel

/-! ### Formatting acts on the wall clock (also in the headroom day) -/

/-- **format_reads_wall_clock.**  Let `l` be THE wall clock of a well-formed `z` (`headroom_sound` +
`reading_unique`: the reading of `instant + offset` in the extended calendar — `naive_local` would panic
on it in a headroom day).  Every text writer of the zone-aware value is the writer of the naive value
applied to `l`, and none of them panics on account of the wall clock:

* `to_rfc3339_opts` (every precision, with and without `Z`), `to_rfc3339` and `Serialize` return the text
  `write_rfc3339` produces for `l` and the value's offset (it always produces one);
* `to_rfc2822` is `write_rfc2822` of `l` under `expect` (it panics exactly when the wall-clock year is
  outside 0–9999: C11 `writer_shape`, C15 `documented_panics`);
* `Debug` / `Display` (any offset text: `+hh:mm[:ss]` for `FixedOffset`, `Z` / `UTC` for `Utc`) are the
  specification text of the reading `l` — signed year, month and day of the wall-clock ordinal, clock
  fields of the wall-clock second, shortest lossless fraction (`Spec.Text.naiveText`, C09) — followed by
  the offset text, also when `l` lies in a headroom day;
* `format` / `format_with_items` hand `l`'s date and time of day and the value's offset to the item
  formatter of C12 (`Format.formatItemsR`). -/
theorem format_reads_wall_clock (z : Zoned) (hz : ZInv z) :
    ∃ l, Zoned.overflowing_naive_local z = .ok l ∧ ExtNDTInv l ∧ instSecs l = wallSecs z ∧
      l.time.frac = z.utc.time.frac ∧
      (∀ sf use_z, ∃ t, Format.write_rfc3339 l z.off sf use_z = .ok (some t) ∧
        Rfc3339.to_rfc3339_opts z sf use_z = .ok t) ∧
      (∃ t, Format.write_rfc3339 l z.off .autoSi false = .ok (some t) ∧ Rfc3339.to_rfc3339 z = .ok t) ∧
      (∃ t, Format.write_rfc3339 l z.off .autoSi true = .ok (some t) ∧
        Serde.DateTimeStr.serialize z = .ok (some t)) ∧
      Rfc2822.to_rfc2822 z = Rfc3339.expectText (Format.write_rfc2822 l z.off) ∧
      (∀ offText, TextForms.zoned_debug z offText = Format.wok (Text.naiveText 84 l ++ offText) ∧
        TextForms.zoned_display z offText = Format.wok (Text.naiveText 32 l ++ 32 :: offText)) ∧
      (∀ items, ParseFrom.formatItemsOf (.zoned z) items =
        Format.formatItemsR (some l.date) (some l.time) (some (Format.fixedOffsetName z.off, z.off)) items) ∧
      (∀ fmt, ParseFrom.format (.zoned z) fmt =
        Format.formatItemsR (some l.date) (some l.time) (some (Format.fixedOffsetName z.off, z.off))
          (Strftime.items fmt)) := by
  obtain ⟨l, h1, h2, h3, h4, _, _⟩ := naive_local_spec z hz
  obtain ⟨_, _, _, hho, _⟩ := wall_date_cases z hz l h1
  obtain ⟨w1, w2, w3, w4, w5, w6, w7, w8⟩ := ZNF.writers_of_wall z l h1
  obtain ⟨nd, ns⟩ := ZNF.naive_text_wall l hho h2.2
  refine ⟨l, h1, h2, h3, h4, ?_, ?_, ?_, w3, ?_, w7, w8⟩
  · intro sf use_z
    obtain ⟨t, ht⟩ := C15Render.write_rfc3339_ok l h2 z.off hz.2 sf use_z
    exact ⟨t, ht, by rw [w1, ht]; rfl⟩
  · obtain ⟨t, ht⟩ := C15Render.write_rfc3339_ok l h2 z.off hz.2 .autoSi false
    exact ⟨t, ht, by rw [w2, ht]; rfl⟩
  · obtain ⟨t, ht⟩ := C15Render.write_rfc3339_ok l h2 z.off hz.2 .autoSi true
    exact ⟨t, ht, by rw [w4, ht]; rfl⟩
  · intro o
    constructor
    · rw [w5, nd]; rfl
    · rw [w6, ns]
      show Format.wok (Text.naiveText 32 l ++ ([32] ++ o)) = _
      rfl

/-- non-vacuity, and the inputs of the fixed findings F04 / F06 (`MAX_UTC` seen at +01:00, `MIN_UTC` at
−01:00): `naive_local` panics, every writer shows the headroom reading; a leap second in the headroom
day; `Utc` -/
example :
    ZInv ⟨NaiveDT.MAX, 3600⟩ ∧ Zoned.naive_local ⟨NaiveDT.MAX, 3600⟩ = .panic ∧
    Rfc3339.to_rfc3339 ⟨NaiveDT.MAX, 3600⟩ = .ok (asciiBytes "+262143-01-01T00:59:59.999999999+01:00") ∧
    Rfc3339.to_rfc3339_opts ⟨NaiveDT.MIN, -3600⟩ .secs true = .ok (asciiBytes "-262144-12-31T23:00:00-01:00") ∧
    TextForms.fixed_debug ⟨NaiveDT.MAX, 3600⟩ = Format.wok (asciiBytes "+262143-01-01T00:59:59.999999999+01:00") ∧
    TextForms.fixed_display ⟨NaiveDT.MIN, -3600⟩ = Format.wok (asciiBytes "-262144-12-31 23:00:00 -01:00") ∧
    TextForms.fixed_display ⟨⟨Date.MAX, ⟨86399, 1500000000⟩⟩, 60⟩ =
      Format.wok (asciiBytes "+262143-01-01 00:00:60.500 +00:01") ∧
    Serde.DateTimeStr.serialize ⟨NaiveDT.MAX, 3600⟩ =
      Format.wok (asciiBytes "+262143-01-01T00:59:59.999999999+01:00") ∧
    Rfc2822.to_rfc2822 ⟨NaiveDT.MAX, 3600⟩ = .panic ∧
    Rfc2822.to_rfc2822 ⟨⟨dateOfYo 1970 1, ⟨0, 0⟩⟩, 3600⟩ = .ok (asciiBytes "Thu, 1 Jan 1970 01:00:00 +0100") ∧
    TextForms.utc_dt_debug ⟨dateOfYo 1970 1, ⟨1, 0⟩⟩ = Format.wok (asciiBytes "1970-01-01T00:00:01Z") := by
  decide +kernel

/-! ### The stepping failure set against an independent rule -/

/-- **day_stepping_vs_rule.**  For every count `0 < n ≤ u64::MAX`: `checked_add_days` /
`checked_sub_days` return a value exactly when BOTH the stepped instant (`instant ± n·86400 s`) lies in
`MIN_UTC ..= MAX_UTC` AND the stepped wall clock (`wall clock ± n·86400 s`) is a reading of the nominal
range — neither side mentions which one-sided filter the code applies.  (What a returned value is:
`stepping_spec`, `SteppedDays`.)  So, measured against the pure instant rule "exists iff the stepped
instant is in `MIN_UTC ..= MAX_UTC`", the exceptions are exactly the steps whose result would have its own
wall clock in a headroom day: `day_stepping_exceptions`, `day_stepping_instant_rule_partial`. -/
theorem day_stepping_vs_rule (z : Zoned) (hz : ZInv z) (n : Int) (hn1 : 0 < n)
    (hn2 : n ≤ 18446744073709551615) :
    (∃ r, Zoned.checked_add_days z n = .ok r ∧
      (r = none ↔ ¬ (InUtcRange (instSecs z.utc + n * 86400) z.utc.time.frac ∧
                     InRangeSecs (wallSecs z + n * 86400)))) ∧
    (∃ r, Zoned.checked_sub_days z n = .ok r ∧
      (r = none ↔ ¬ (InUtcRange (instSecs z.utc - n * 86400) z.utc.time.frac ∧
                     InRangeSecs (wallSecs z - n * 86400)))) := by
  obtain ⟨l, h1, _⟩ := naive_local_spec z hz
  obtain ⟨r, a, b, _⟩ := zoned_add_days z hz l h1 n ⟨hn1, hn2⟩
  obtain ⟨r', a', b', _⟩ := zoned_sub_days z hz l h1 n ⟨by omega, hn2⟩
  exact ⟨⟨r, a, by rw [b, ZNR.add_days_rule z hz l h1 n hn1]⟩,
         ⟨r', a', by rw [b', ZNR.sub_days_rule z hz l h1 n hn1]⟩⟩

/-- `Days(0)` returns the value itself in both directions — also from a headroom wall clock, and also
the one kind of well-formed value that compares greater than `MAX_UTC` (a leap-second representation in the
last second of the range) -/
theorem day_stepping_zero (z : Zoned) (hz : ZInv z) :
    Zoned.checked_add_days z 0 = .ok (some z) ∧ Zoned.checked_sub_days z 0 = .ok (some z) :=
  ⟨rfl, sub_zero_days z hz⟩

/-- **the pure instant rule is false for day stepping** (real crate: same answers, see the harness counters
`EXCEPTION …` and audit/C04.md): the stepped instant is inside `MIN_UTC ..= MAX_UTC`, the stepped value
exists (it is `from_utc_datetime` of an in-range reading), yet the step is refused because the RESULT's
wall clock would lie in a headroom day.  Forwards: `MAX−1d 23:30Z` at +01:00 plus one day; backwards:
`MIN+2d 01:00Z` at −02:00 minus two days. -/
theorem day_stepping_exceptions :
    (ZInv ⟨⟨dateOfYo MAX_YEAR 364, ⟨84600, 0⟩⟩, 3600⟩ ∧
      InUtcRange (instSecs (⟨dateOfYo MAX_YEAR 364, ⟨84600, 0⟩⟩ : NaiveDT) + 1 * 86400) 0 ∧
      ZInv ⟨⟨dateOfYo MAX_YEAR 365, ⟨84600, 0⟩⟩, 3600⟩ ∧
      Zoned.checked_add_days ⟨⟨dateOfYo MAX_YEAR 364, ⟨84600, 0⟩⟩, 3600⟩ 1 = .ok none) ∧
    (ZInv ⟨⟨dateOfYo MIN_YEAR 3, ⟨3600, 0⟩⟩, -7200⟩ ∧
      InUtcRange (instSecs (⟨dateOfYo MIN_YEAR 3, ⟨3600, 0⟩⟩ : NaiveDT) - 2 * 86400) 0 ∧
      ZInv ⟨⟨dateOfYo MIN_YEAR 1, ⟨3600, 0⟩⟩, -7200⟩ ∧
      Zoned.checked_sub_days ⟨⟨dateOfYo MIN_YEAR 3, ⟨3600, 0⟩⟩, -7200⟩ 2 = .ok none) := by
  decide +kernel

/-- **day_stepping_instant_rule_partial** — the pure instant rule with the excluded inputs as an explicit
hypothesis (`hw`: the stepped wall clock is a reading of the nominal range; MISSING for the full rule: the
steps whose result would read a headroom day, on which `day_stepping_headroom_refused` says what happens) -/
theorem day_stepping_instant_rule_partial (z : Zoned) (hz : ZInv z) (n : Int) (hn1 : 0 < n)
    (hn2 : n ≤ 18446744073709551615) :
    (InRangeSecs (wallSecs z + n * 86400) →
      ∃ r, Zoned.checked_add_days z n = .ok r ∧
        (r = none ↔ ¬ InUtcRange (instSecs z.utc + n * 86400) z.utc.time.frac)) ∧
    (InRangeSecs (wallSecs z - n * 86400) →
      ∃ r, Zoned.checked_sub_days z n = .ok r ∧
        (r = none ↔ ¬ InUtcRange (instSecs z.utc - n * 86400) z.utc.time.frac)) := by
  obtain ⟨⟨r, a, b⟩, ⟨r', a', b'⟩⟩ := day_stepping_vs_rule z hz n hn1 hn2
  refine ⟨fun hw => ⟨r, a, ?_⟩, fun hw => ⟨r', a', ?_⟩⟩
  · rw [b]; constructor
    · intro h hc; exact h ⟨hc, hw⟩
    · intro h hc; exact h hc.1
  · rw [b']; constructor
    · intro h hc; exact h ⟨hc, hw⟩
    · intro h hc; exact h hc.1

/-- what happens on the excluded inputs, universally: a day step whose result would read a headroom day is
refused (`None`, no panic), whatever its instant; and such a step with the instant inside
`MIN_UTC ..= MAX_UTC` exists only within a day of a range end with the offset pointing outwards
(forwards: offset > 0, stepped wall clock in the day after MAX; backwards: offset < 0, the day before MIN) -/
theorem day_stepping_headroom_refused (z : Zoned) (hz : ZInv z) (n : Int) (hn1 : 0 < n)
    (hn2 : n ≤ 18446744073709551615) :
    (¬ InRangeSecs (wallSecs z + n * 86400) → Zoned.checked_add_days z n = .ok none ∧
      (InUtcRange (instSecs z.utc + n * 86400) z.utc.time.frac →
        0 < z.off ∧ SECS_MAX < wallSecs z + n * 86400 ∧ wallSecs z + n * 86400 ≤ SECS_MAX + 86399)) ∧
    (¬ InRangeSecs (wallSecs z - n * 86400) → Zoned.checked_sub_days z n = .ok none ∧
      (InUtcRange (instSecs z.utc - n * 86400) z.utc.time.frac →
        z.off < 0 ∧ wallSecs z - n * 86400 < SECS_MIN ∧ SECS_MIN - 86399 ≤ wallSecs z - n * 86400)) := by
  obtain ⟨⟨r, a, b⟩, ⟨r', a', b'⟩⟩ := day_stepping_vs_rule z hz n hn1 hn2
  have hur := inrange_of_inv z.utc hz.1
  exact ⟨fun hw => ⟨by rw [a, b.mpr (fun hc => hw hc.2)],
      fun hi => ZNR.exception_fwd _ _ _ n hz.2 hur.1 hn1 hi hw⟩,
    fun hw => ⟨by rw [a', b'.mpr (fun hc => hw hc.2)],
      fun hi => ZNR.exception_bwd _ _ _ n hz.2 hur.2 hn1 hi hw⟩⟩

/-- **month_stepping_vs_rule.**  For every count `k > 0` (all of `u32` and beyond), with `l` the wall clock
of `z` and `(Y, M, D)` its calendar date stepped by `±k` months with the day clamped (C08 `stepYear`,
`stepMonth`, `stepDay`): there is a result exactly when the stepped wall-clock year `Y` is a year of the
nominal range AND the stepped instant `(Y-M-D, time of l) − offset` is in `MIN_UTC ..= MAX_UTC` — or is the
one reading just above it, a leap-second representation in the last second of the range (the month
steppers apply no `≤ MAX_UTC` filter; `month_stepping_exceptions`). -/
theorem month_stepping_vs_rule (z : Zoned) (hz : ZInv z) (k : Nat) (hk : 0 < k) :
    ∃ l, Zoned.overflowing_naive_local z = .ok l ∧ ExtNDTInv l ∧ instSecs l = wallSecs z ∧
      ∀ (add : Bool),
        let n : Int := if add then (k : Int) else -(k : Int)
        let y := l.date.year
        let m := monthOfYo l.date.year l.date.ordinal.toNat
        let d := dayOfYo l.date.year l.date.ordinal.toNat
        ∃ r, (if add then Zoned.checked_add_months z k else Zoned.checked_sub_months z k) = .ok r ∧
          (r = none ↔
            ((stepYear y m n < MIN_YEAR ∨ stepYear y m n > MAX_YEAR) ∨
             ∃ nd, addMonths? y m d n = some nd ∧
               ¬ (InUtcRange (instSecs ⟨nd, l.time⟩ - z.off) l.time.frac ∨
                  (instSecs ⟨nd, l.time⟩ - z.off = SECS_MAX ∧ l.time.frac ≥ 1000000000)))) := by
  obtain ⟨l, h1, h2, h3, _⟩ := naive_local_spec z hz
  refine ⟨l, h1, h2, h3, ?_⟩
  obtain ⟨el, vl⟩ := ext_eq l.date h2.1
  obtain ⟨_, _, m3, _⟩ := month_day_spec l.date.year l.date.ordinal.toNat vl.2.2.1 vl.2.2.2
  have hd1 := ((valid_iff _ _ _).mp m3).2.2.1
  obtain ⟨⟨ra, a1, _, a3⟩, ⟨rs, s1, _, s3⟩⟩ := zoned_months z hz l h1 k
  intro add
  cases add with
  | true =>
    refine ⟨ra, a1, ?_⟩
    rw [(a3 hk).2, ZNR.refused_iff, addMonths_none_iff _ _ _ _ hd1]; rfl
  | false =>
    refine ⟨rs, s1, ?_⟩
    rw [(s3 hk).2, ZNR.refused_iff, addMonths_none_iff _ _ _ _ hd1]; rfl

/-- **the exceptions of month stepping against the pure instant rule** (real crate: same answers):
(a) a result ABOVE `MAX_UTC` is returned — `MAX_YEAR-10-31T23:59:60.5Z` plus two months is
`MAX_YEAR-12-31T23:59:60.5Z`, which compares greater than `MAX_UTC` (`checked_add_days` filters exactly this
value: second line); (b) a step whose result would read a headroom day is refused although its instant is
in range — `MIN_YEAR-02-01T01:00Z` at −02:00 (wall clock Jan 31 23:00) minus one month, and
`MAX_YEAR-11-30T23:30Z` at +01:00 (wall clock Dec 1 00:30) plus one month. -/
theorem month_stepping_exceptions :
    (Zoned.checked_add_months ⟨⟨dateOfYo MAX_YEAR 304, ⟨86399, 1500000000⟩⟩, 0⟩ 2 =
        .ok (some ⟨⟨Date.MAX, ⟨86399, 1500000000⟩⟩, 0⟩) ∧
      ¬ InUtcRange (instSecs (⟨Date.MAX, ⟨86399, 1500000000⟩⟩ : NaiveDT)) 1500000000 ∧
      Zoned.checked_add_days ⟨⟨dateOfYo MAX_YEAR 364, ⟨86399, 1500000000⟩⟩, 0⟩ 1 = .ok none) ∧
    (Zoned.checked_sub_months ⟨⟨dateOfYo MIN_YEAR 32, ⟨3600, 0⟩⟩, -7200⟩ 1 = .ok none ∧
      InUtcRange (instSecs (⟨dateOfYo MIN_YEAR 1, ⟨3600, 0⟩⟩ : NaiveDT)) 0 ∧
      Zoned.overflowing_naive_local ⟨⟨dateOfYo MIN_YEAR 1, ⟨3600, 0⟩⟩, -7200⟩ = .ok ⟨Date.BEFORE_MIN, ⟨82800, 0⟩⟩) ∧
    (Zoned.checked_add_months ⟨⟨dateOfYo MAX_YEAR 334, ⟨84600, 0⟩⟩, 3600⟩ 1 = .ok none ∧
      InUtcRange (instSecs (⟨dateOfYo MAX_YEAR 365, ⟨84600, 0⟩⟩ : NaiveDT)) 0 ∧
      Zoned.overflowing_naive_local ⟨⟨dateOfYo MAX_YEAR 365, ⟨84600, 0⟩⟩, 3600⟩ = .ok ⟨Date.AFTER_MAX, ⟨1800, 0⟩⟩) := by
  decide +kernel

/-- **month_stepping_instant_rule_partial** — the pure instant rule for month steps on the inputs that
are not excluded (`hy`: the stepped wall-clock year is a year of the nominal range; `hleap`: the value is
not a leap-second representation — MISSING: those two classes, see `month_stepping_exceptions`) -/
theorem month_stepping_instant_rule_partial (z : Zoned) (hz : ZInv z) (k : Nat) (hk : 0 < k)
    (hleap : z.utc.time.frac < 1000000000) :
    ∃ l, Zoned.overflowing_naive_local z = .ok l ∧
      ∀ (add : Bool),
        let n : Int := if add then (k : Int) else -(k : Int)
        let y := l.date.year
        let m := monthOfYo l.date.year l.date.ordinal.toNat
        let d := dayOfYo l.date.year l.date.ordinal.toNat
        (MIN_YEAR ≤ stepYear y m n ∧ stepYear y m n ≤ MAX_YEAR) →
        ∃ r nd, (if add then Zoned.checked_add_months z k else Zoned.checked_sub_months z k) = .ok r ∧
          addMonths? y m d n = some nd ∧
          (r = none ↔ ¬ InUtcRange (instSecs ⟨nd, l.time⟩ - z.off) l.time.frac) := by
  obtain ⟨l, h1, h2, h3, hrule⟩ := month_stepping_vs_rule z hz k hk
  have hfr' : l.time.frac = z.utc.time.frac := (naive_local_of z hz l h1).2.2.1
  refine ⟨l, h1, ?_⟩
  intro add
  obtain ⟨r, hr, hiff⟩ := hrule add
  dsimp only at hr hiff ⊢
  intro hy
  obtain ⟨el, vl⟩ := ext_eq l.date h2.1
  obtain ⟨_, _, m3, _⟩ := month_day_spec l.date.year l.date.ordinal.toNat vl.2.2.1 vl.2.2.2
  have hd1 := ((valid_iff _ _ _).mp m3).2.2.1
  cases hq : addMonths? l.date.year (monthOfYo l.date.year l.date.ordinal.toNat)
      (dayOfYo l.date.year l.date.ordinal.toNat) (if add = true then (k : Int) else -(k : Int)) with
  | none =>
    exfalso
    have := (addMonths_none_iff _ _ _ _ hd1).mp hq
    omega
  | some nd =>
    refine ⟨r, nd, hr, rfl, ?_⟩
    rw [hiff]
    constructor
    · rintro (h | ⟨nd', h, hn⟩)
      · omega
      · rw [hq] at h; injection h with h; subst h
        intro hc; exact hn (Or.inl hc)
    · intro h
      right
      refine ⟨nd, hq, ?_⟩
      rintro (hc | hc)
      · exact h hc
      · omega

/-! ### ISO week and the derived accessors -/

/-- **iso_week_reads_wall_clock.**  `iso_week()` of a zone-aware value never panics and is the ISO 8601
week of the wall-clock day `n = EPOCH_DAY + ⌊(instant + offset)/86400⌋`, also in a headroom day: the
Thursday `isoThursday n` of `n`'s Monday-based week is the `ot`-th day of calendar year `Y` (that pair is
unique: C01 `yo_form_unique`); the ISO year is `Y`, the week number `(ot − 1)/7 + 1`, the 0-based week
`(ot − 1)/7`, and the low four bits are the flags of `Y`.  (`Y` can be `MAX_YEAR + 1`: the day after MAX
is a Tuesday in week 1 of the following year; the day before MIN is a Wednesday in week 1 of `MIN_YEAR`.) -/
theorem iso_week_reads_wall_clock (z : Zoned) (hz : ZInv z) :
    ∃ (ywf Y : Int) (ot : Nat), Zoned.iso_week z = .ok ywf ∧ 1 ≤ ot ∧ ot ≤ yearLen Y ∧
      dayNumYo Y ot = isoThursday (EPOCH_DAY + wallSecs z / 86400) ∧
      IsoWeek.year ywf = Y ∧ IsoWeek.week ywf = ((ot - 1) / 7 + 1 : Nat) ∧
      IsoWeek.week0 ywf = ((ot - 1) / 7 : Nat) ∧ ywf % 16 = flagsOf Y := by
  obtain ⟨l, h1, h2, h3, _⟩ := naive_local_spec z hz
  obtain ⟨_, _, _, hho, _⟩ := wall_date_cases z hz l h1
  obtain ⟨Y, ot, i1, i2, i3, i4⟩ := ZNV.iso_week_wall l.date hho
  have hday : dayNumOf l.date = EPOCH_DAY + wallSecs z / 86400 := by
    rw [dayNumOf_ext l.date h2.1, (reading_split l h2).1, h3]
  have hl := yearLen_ge Y
  have hf := (flagsOf_facts Y).1
  obtain ⟨f1, f2⟩ := ywf_fields Y ((ot - 1) / 7 + 1) (flagsOf Y) (by omega) hf
  refine ⟨_, Y, ot, ?_, i1, i2, by rw [← hday]; exact i3, f1, f2, ?_, by omega⟩
  · unfold Zoned.iso_week; rw [h1]; exact i4
  · unfold IsoWeek.week0; unfold IsoWeek.week at f2; rw [f2]; push_cast; omega

/-- non-vacuity: the two headroom days and a year-end inside the range (2014-12-29 is in 2015-W01) -/
example :
    Zoned.iso_week ⟨NaiveDT.MIN, -3600⟩ = .ok (MIN_YEAR * 1024 + 1 * 16 + flagsOf MIN_YEAR) ∧
    Zoned.iso_week ⟨NaiveDT.MAX, 1⟩ = .ok ((MAX_YEAR + 1) * 1024 + 1 * 16 + flagsOf (MAX_YEAR + 1)) ∧
    Zoned.iso_week ⟨⟨dateOfYo 2014 362, ⟨82800, 0⟩⟩, 3600⟩ = .ok (2015 * 1024 + 1 * 16 + flagsOf 2015) ∧
    Zoned.iso_week ⟨⟨dateOfYo 2014 362, ⟨82800, 0⟩⟩, 0⟩ = .ok (2014 * 1024 + 52 * 16 + flagsOf 2014) := by
  decide +kernel

/-- **derived_accessors_read_wall_clock.**  The remaining `Datelike` / `Timelike` views of a zone-aware
value are those of the wall clock too, also in a headroom day and without `u32` / `i32` overflow: with
`(y, o)` the year and ordinal of `accessors_read_wall_clock` and `s` the wall-clock second of day,
`month0 / day0 / ordinal0` are the 1-based fields minus one, `quarter` is `(month − 1)/3 + 1`, `year_ce`
is `(false, 1 − y)` before year 1 and `(true, y)` from year 1, `hour12` is `(hour ≥ 12, 12-hour clock)`,
and the `Timelike` default `num_seconds_from_midnight` (hour·3600 + minute·60 + second) is `s`. -/
theorem derived_accessors_read_wall_clock (z : Zoned) (hz : ZInv z) :
    ∃ (y : Int) (o : Nat), MIN_YEAR - 1 ≤ y ∧ y ≤ MAX_YEAR + 1 ∧ 1 ≤ o ∧ o ≤ yearLen y ∧
      dayNumYo y o = EPOCH_DAY + wallSecs z / 86400 ∧
      Zoned.month0 z = .ok ((monthOfYo y o : Int) - 1) ∧ Zoned.day0 z = .ok ((dayOfYo y o : Int) - 1) ∧
      Zoned.ordinal0 z = .ok ((o : Int) - 1) ∧
      Zoned.quarter_v z = .ok (((monthOfYo y o : Int) - 1) / 3 + 1) ∧
      Zoned.year_ce_v z = .ok (if y < 1 then (false, 1 - y) else (true, y)) ∧
      Zoned.hour12 z = .ok (decide (wallSecs z % 86400 / 3600 ≥ 12),
        if wallSecs z % 86400 / 3600 % 12 = 0 then 12 else wallSecs z % 86400 / 3600 % 12) ∧
      Zoned.num_seconds_from_midnight z = .ok (wallSecs z % 86400) := by
  obtain ⟨l, h1, h2, h3, _⟩ := naive_local_spec z hz
  obtain ⟨e, v1, v2, v3, v4⟩ := ext_eq l.date h2.1
  obtain ⟨hday, hsod⟩ := reading_split l h2
  rw [h3] at hday hsod
  obtain ⟨m1, m2, m3, _⟩ := month_day_spec l.date.year l.date.ordinal.toNat v3 v4
  rw [← e] at m1 m2
  obtain ⟨b1, b2⟩ := valid_bounds _ _ _ m3
  obtain ⟨b3, _, b4, _⟩ := (valid_iff _ _ _).mp m3
  obtain ⟨a1, a2, a3, _, c1, c2, c3, c4, c5, c6, c7, _⟩ := accessors' l.time h2.2
  have hord : l.date.ordinal = (l.date.ordinal.toNat : Int) :=
    (Int.toNat_of_nonneg (Int.le_trans (by decide) h2.1.2.2.1)).symm
  have hyr : -262144 ≤ l.date.year ∧ l.date.year ≤ 262143 := by
    rw [show MIN_YEAR = -262143 from rfl] at v1; rw [show MAX_YEAR = 262142 from rfl] at v2; omega
  have hob : 1 ≤ l.date.ordinal ∧ l.date.ordinal ≤ 366 := by
    have := yearLen_ge l.date.year; rw [hord]; omega
  obtain ⟨d1, d2, d3, d4, d5, d6, d7⟩ := ZNV.derived_views z l h1 l.date.year _ _ l.date.ordinal
    (hourOf l.time) (minuteOf l.time) (secondOf l.time) rfl m1 m2 rfl a1 a2 a3
    hyr ⟨b3, b1⟩ ⟨b4, b2⟩ hob ⟨c1, c2⟩ ⟨c3, c4⟩ ⟨c5, c6⟩
  have hh : hourOf l.time = wallSecs z % 86400 / 3600 := by unfold hourOf; rw [hsod]
  refine ⟨l.date.year, l.date.ordinal.toNat, v1, v2, v3, v4, hday, d1, d2, ?_, d4, d5, ?_, ?_⟩
  · rw [d3, hord]; simp
  · rw [d6, hh]
  · rw [d7, c7, hsod]

/-- non-vacuity on the headroom readings: Dec 31 of year −262144 (year_ce: 262145 BCE), 23:00 -/
example :
    Zoned.month0 ⟨NaiveDT.MIN, -3600⟩ = .ok 11 ∧ Zoned.day0 ⟨NaiveDT.MIN, -3600⟩ = .ok 30 ∧
    Zoned.ordinal0 ⟨NaiveDT.MIN, -3600⟩ = .ok 365 ∧ Zoned.quarter_v ⟨NaiveDT.MIN, -3600⟩ = .ok 4 ∧
    Zoned.year_ce_v ⟨NaiveDT.MIN, -3600⟩ = .ok (false, 262145) ∧
    Zoned.year_ce_v ⟨NaiveDT.MAX, 3600⟩ = .ok (true, 262143) ∧
    Zoned.hour12 ⟨NaiveDT.MIN, -3600⟩ = .ok (true, 11) ∧ Zoned.hour12 ⟨NaiveDT.MAX, 3600⟩ = .ok (false, 12) ∧
    Zoned.num_seconds_from_midnight ⟨NaiveDT.MIN, -3600⟩ = .ok 82800 := by decide +kernel

/-! ### Changing the zone: the views of the result -/

/-- **zone_change_views** — what `with_timezone_keeps_instant` leaves definitional, given content.  For a
well-formed `z` and any offset `o'` a `FixedOffset` can hold: `with_timezone z o'` (=
`from_naive_utc_and_offset` / `from_utc_datetime` of the stored UTC reading) is well formed and its wall
clock is THE reading of `instant + o'` — the old wall clock moved by `o' − offset` seconds — in the
extended calendar; chains collapse (`with_timezone` twice = once, so a round trip through any zone gives
the value back); `to_utc` is the view whose wall clock is the UTC reading itself (`naive_local` returns
it, never panics) and `fixed_offset` is the identity; whenever the new wall clock is in range, building
from it at `o'` returns the converted value. -/
theorem zone_change_views (z : Zoned) (hz : ZInv z) (o' : Int) (ho : OffValid o') :
    ZInv (Zoned.with_timezone z o') ∧
    Zoned.with_timezone z o' = Zoned.from_naive_utc_and_offset z.naive_utc o' ∧
    Zoned.with_timezone z o' = Zoned.from_utc_datetime o' z.naive_utc ∧
    (∃ l', Zoned.overflowing_naive_local (Zoned.with_timezone z o') = .ok l' ∧ ExtNDTInv l' ∧
      instSecs l' = wallSecs z + (o' - z.off) ∧ l'.time.frac = z.utc.time.frac ∧
      (∀ l, Zoned.naive_local (Zoned.with_timezone z o') = .ok l →
        Zoned.from_local_datetime o' l = .ok (some (Zoned.with_timezone z o')))) ∧
    (∀ o'', Zoned.with_timezone (Zoned.with_timezone z o') o'' = Zoned.with_timezone z o'') ∧
    Zoned.with_timezone (Zoned.with_timezone z o') z.off = z ∧
    Zoned.to_utc z = Zoned.with_timezone z 0 ∧ ZInv (Zoned.to_utc z) ∧
    Zoned.naive_local (Zoned.to_utc z) = .ok z.utc ∧
    Zoned.overflowing_naive_local (Zoned.to_utc z) = .ok z.utc ∧
    Zoned.fixed_offset z = z ∧ Zoned.eq (Zoned.to_utc z) z = true := by
  have hzi : ZInv (Zoned.with_timezone z o') := ⟨hz.1, ho⟩
  have h0 : OffValid 0 := by unfold OffValid; omega
  have hzu : ZInv (Zoned.to_utc z) := ⟨hz.1, h0⟩
  have hext : ExtNDTInv z.utc := ⟨((dateInv_iff z.utc.date).mp hz.1.1).1, hz.1.2⟩
  have hov : Zoned.overflowing_naive_local (Zoned.to_utc z) = .ok z.utc :=
    local_back (Zoned.to_utc z) hzu z.utc hext (by show instSecs z.utc = instSecs z.utc - 0; omega) rfl
  obtain ⟨l', a1, a2, a3, a4, _, _⟩ := naive_local_spec _ hzi
  obtain ⟨-, -, -, u5, u6⟩ := naive_local_of _ hzu _ hov
  refine ⟨hzi, rfl, rfl, ⟨l', a1, a2, ?_, a4, ?_⟩, fun _ => rfl, by cases z; rfl, rfl, hzu, ?_, hov,
    by cases z; rfl, by unfold Zoned.eq Zoned.to_utc; simp⟩
  · rw [a3]; unfold wallSecs Zoned.with_timezone; dsimp only; omega
  · exact (utc_of_fromUtc o' z.utc ho hz.1).2.2
  · rw [u5, if_pos (u6.mp hz.1.1)]

/-- non-vacuity: `MAX_UTC` moved from +01:00 (headroom wall clock) to −01:00 (in range) and to UTC -/
example :
    ZInv ⟨NaiveDT.MAX, 3600⟩ ∧ OffValid (-3600) ∧
    Zoned.overflowing_naive_local (Zoned.with_timezone ⟨NaiveDT.MAX, 3600⟩ (-3600)) =
      .ok ⟨Date.MAX, ⟨82799, 999999999⟩⟩ ∧
    Zoned.naive_local ⟨NaiveDT.MAX, 3600⟩ = .panic ∧
    Zoned.naive_local (Zoned.to_utc ⟨NaiveDT.MAX, 3600⟩) = .ok NaiveDT.MAX ∧
    Zoned.from_local_datetime (-3600) ⟨Date.MAX, ⟨82799, 999999999⟩⟩ = .ok (some ⟨NaiveDT.MAX, -3600⟩) := by
  decide +kernel

/-! ## Second audit (2026-09-30) -/

/-! ### The shape of the types eq / ord / hash rest on (source facts no body pin sees) -/

/-- **shape_pins.**  Re-extracted from /repo on every run (tools/extractors/zoned_shape.py): `NaiveDateTime`,
`NaiveDate`, `NaiveTime` DERIVE `PartialEq, Eq, Hash, PartialOrd, Ord` (no hand-written impl of any of them in
their files), with the fields `date, time` / `yof` / `secs, frac` in this order — what `NaiveDT.cmp` (date, then
time), `Time.cmp` (secs, then frac) and `NaiveDT.hashWords` (`[yof, secs, frac]`) were written from; `DateTime`
derives none of them and implements all five by hand (the pinned `impl PartialEq / PartialOrd / Ord / Hash for
DateTime` bodies, which look at `self.datetime` only), its fields are `datetime` (the UTC reading), `offset`. -/
theorem shape_pins :
    ZonedShape.NaiveDateTime_DERIVE = ["PartialEq", "Eq", "Hash", "PartialOrd", "Ord", "Copy", "Clone"] ∧
    ZonedShape.NaiveDateTime_FIELDS = [("date", "NaiveDate"), ("time", "NaiveTime")] ∧
    ZonedShape.NaiveDateTime_IMPLS = [] ∧
    ZonedShape.NaiveDate_DERIVE = ["PartialEq", "Eq", "Hash", "PartialOrd", "Ord", "Copy", "Clone"] ∧
    ZonedShape.NaiveDate_FIELDS = [("yof", "NonZeroI32")] ∧ ZonedShape.NaiveDate_IMPLS = [] ∧
    ZonedShape.NaiveTime_DERIVE = ["PartialEq", "Eq", "Hash", "PartialOrd", "Ord", "Copy", "Clone"] ∧
    ZonedShape.NaiveTime_FIELDS = [("secs", "u32"), ("frac", "u32")] ∧ ZonedShape.NaiveTime_IMPLS = [] ∧
    ZonedShape.DateTime_DERIVE = ["Clone"] ∧
    ZonedShape.DateTime_FIELDS = [("datetime", "NaiveDateTime"), ("offset", "Tz::Offset")] ∧
    ZonedShape.DateTime_IMPLS = ["PartialEq", "Eq", "PartialOrd", "Ord", "Hash"] := by decide

/-- the model side of `shape_pins`: the derived order is lexicographic in declaration order — a difference in
the date decides whatever the times are, then the second, then the nanosecond field; the hash words are the
three fields in declaration order -/
theorem derived_order_shape (a b : NaiveDT) :
    (Date.cmp a.date b.date ≠ 0 → NaiveDT.cmp a b = Date.cmp a.date b.date) ∧
    (Date.cmp a.date b.date = 0 → NaiveDT.cmp a b = Time.cmp a.time b.time) ∧
    NaiveDT.hashWords a = [a.date.yof, a.time.secs, a.time.frac] := by
  refine ⟨?_, ?_, rfl⟩
  · intro h; unfold NaiveDT.cmp; simp only [h, ne_eq, not_false_eq_true, if_true]
  · intro h; unfold NaiveDT.cmp; simp only [h, ne_eq, not_true_eq_false, if_false]

example : NaiveDT.cmp ⟨dateOfYo 2024 59, ⟨86399, 1999999999⟩⟩ ⟨dateOfYo 2024 60, ⟨0, 0⟩⟩ = -1 ∧
    NaiveDT.cmp ⟨dateOfYo 2024 60, ⟨5, 999999999⟩⟩ ⟨dateOfYo 2024 60, ⟨6, 0⟩⟩ = -1 ∧
    NaiveDT.cmp ⟨dateOfYo 2024 60, ⟨5, 1⟩⟩ ⟨dateOfYo 2024 60, ⟨5, 0⟩⟩ = 1 := by decide +kernel

/-- **eq_hash_by_instant** (the observable form of "offsets do not enter"): two well-formed values — whatever
their offsets — that denote the same instant (same nanosecond count) with the same nanosecond field are equal,
compare `Equal` and hash the same words. -/
theorem eq_hash_by_instant (a b : Zoned) (ha : ZInv a) (hb : ZInv b)
    (hi : instSecs a.utc = instSecs b.utc) (hf : a.utc.time.frac = b.utc.time.frac) :
    Zoned.eq a b = true ∧ Zoned.cmp a b = 0 ∧ Zoned.hashWords a = Zoned.hashWords b := by
  obtain ⟨_, _, h3, h4, h5⟩ := cmp_by_instant a b ha hb
  have he : Zoned.eq a b = true := h3.mpr ⟨hi, hf⟩
  exact ⟨he, h4.mp he, h5.mpr he⟩

example : ZInv ⟨⟨dateOfYo 2024 60, ⟨0, 7⟩⟩, 3600⟩ ∧ ZInv ⟨⟨dateOfYo 2024 60, ⟨0, 7⟩⟩, -7200⟩ := by decide +kernel

/-! ### `date_naive()` / deprecated `date()` -/

/-- **date_naive_spec.**  `date_naive()` (and the deprecated `date()`, which also carries the offset) returns the
DATE of the wall clock — the date whose day number is that of `instant + offset` — when that date lies in the
supported range, and PANICS exactly when the wall clock lies in a headroom day (it is the one remaining public
caller of the panicking `naive_local()`; the non-panicking accessors of `accessors_read_wall_clock` read the same
date). -/
theorem date_naive_spec (z : Zoned) (hz : ZInv z) :
    ∃ l, Zoned.overflowing_naive_local z = .ok l ∧ ExtNDTInv l ∧ instSecs l = wallSecs z ∧
      Zoned.date_naive z = (if InRangeSecs (wallSecs z) then .ok l.date else .panic) ∧
      Zoned.date_deprecated z = (if InRangeSecs (wallSecs z) then .ok (l.date, z.off) else .panic) ∧
      (DateInv l.date ↔ InRangeSecs (wallSecs z)) ∧
      l.date = dateOfYo l.date.year l.date.ordinal.toNat ∧
      dayNumYo l.date.year l.date.ordinal.toNat = EPOCH_DAY + wallSecs z / 86400 := by
  obtain ⟨l, h1, h2, h3, _, h5, h6⟩ := naive_local_spec z hz
  obtain ⟨e, -⟩ := ext_eq l.date h2.1
  refine ⟨l, h1, h2, h3, ?_, ?_, h6, e, h3 ▸ (reading_split l h2).1⟩
  · unfold Zoned.date_naive; rw [h5]
    split <;> rfl
  · unfold Zoned.date_deprecated; rw [h5]
    split <;> rfl

/-- non-vacuity: 23:30Z on 2024-02-28 at +01:00 is the 29th; `MIN_UTC` at −01:00 and `MAX_UTC` at +00:00:01 panic,
`MAX_UTC` at offset 0 does not -/
example :
    Zoned.date_naive ⟨⟨dateOfYo 2024 59, ⟨84600, 0⟩⟩, 3600⟩ = .ok (dateOfYo 2024 60) ∧
    Zoned.date_naive ⟨NaiveDT.MIN, -3600⟩ = .panic ∧ Zoned.date_naive ⟨NaiveDT.MAX, 1⟩ = .panic ∧
    Zoned.date_deprecated ⟨NaiveDT.MAX, 1⟩ = .panic ∧
    Zoned.date_naive ⟨NaiveDT.MAX, 0⟩ = .ok Date.MAX ∧ Zoned.date_deprecated ⟨NaiveDT.MIN, 60⟩ = .ok (Date.MIN, 60) := by
  decide +kernel

/-! ### Conversions between `DateTime<Utc>` and `DateTime<FixedOffset>`, `and_utc`, `from_utc` -/

/-- **conversions_spec.**  `From<DateTime<Utc>> for DateTime<FixedOffset>` (never panics: `east_opt(0)` exists),
`From<DateTime<FixedOffset>> for DateTime<Utc>`, `NaiveDateTime::and_utc()` and the deprecated
`DateTime::from_utc(naive, offset)`: each keeps the stored UTC reading — hence the instant —, the results at offset
0 are well formed, equal to the original, hash the same, and their wall clock IS the UTC reading (`naive_local`
returns it and never panics); `from_utc` is `from_utc_datetime`. -/
theorem conversions_spec (z : Zoned) (hz : ZInv z) :
    Zoned.fixed_from_utc (Zoned.to_utc z) = .ok ⟨z.utc, 0⟩ ∧
    Zoned.utc_from_fixed z = ⟨z.utc, 0⟩ ∧ Zoned.and_utc z.utc = ⟨z.utc, 0⟩ ∧
    ZInv (Zoned.utc_from_fixed z) ∧ zonedInstNs (Zoned.utc_from_fixed z) = zonedInstNs z ∧
    Zoned.eq (Zoned.utc_from_fixed z) z = true ∧ Zoned.cmp (Zoned.utc_from_fixed z) z = 0 ∧
    Zoned.hashWords (Zoned.utc_from_fixed z) = Zoned.hashWords z ∧
    Zoned.overflowing_naive_local (Zoned.and_utc z.utc) = .ok z.utc ∧
    Zoned.naive_local (Zoned.and_utc z.utc) = .ok z.utc ∧
    (∀ off, Zoned.from_utc_deprecated z.utc off = Zoned.from_utc_datetime off z.utc ∧
      (Zoned.from_utc_deprecated z.utc off).naive_utc = z.utc) := by
  obtain ⟨_, _, _, _, _, _, _, c8, c9, c10, _, c12⟩ := zone_change_views z hz 0 (by unfold OffValid; omega)
  obtain ⟨_, _, _, _, w5, w6, w7, _, _⟩ := with_timezone_keeps_instant z 0
  exact ⟨rfl, rfl, rfl, c8, rfl, w5, w6, w7, c10, c9, fun _ => ⟨rfl, rfl⟩⟩

example : ZInv ⟨NaiveDT.MAX, 3600⟩ ∧ Zoned.naive_local ⟨NaiveDT.MAX, 3600⟩ = .panic ∧
    Zoned.naive_local (Zoned.utc_from_fixed ⟨NaiveDT.MAX, 3600⟩) = .ok NaiveDT.MAX ∧
    Zoned.fixed_from_utc ⟨NaiveDT.MIN, 0⟩ = .ok ⟨NaiveDT.MIN, 0⟩ := by decide +kernel

/-! ### Building from a wall clock: `and_local_timezone`, deprecated (panicking) `DateTime::from_local` -/

/-- **from_local_forms.**  `NaiveDateTime::and_local_timezone(offset)` is `from_local_datetime` (so
`fromLocal_fails_iff` / `local_of_fromLocal` speak about it).  The deprecated `DateTime::from_local(wall clock,
offset)` (`datetime - offset.fix()`, an `expect`) PANICS exactly when `wall clock − offset` leaves the supported
range, and otherwise returns exactly the value `from_local_datetime` returns — offset kept, well formed, instant
`wall clock − offset`, `naive_local` reads the wall clock back. -/
theorem from_local_forms (off : Int) (ℓ : NaiveDT) (ho : OffValid off) (hℓ : NDTInv ℓ) :
    Zoned.and_local_timezone ℓ off = Zoned.from_local_datetime off ℓ ∧
    (Zoned.from_local_deprecated ℓ off = .panic ↔ ¬ InRangeSecs (instSecs ℓ - off)) ∧
    (∀ z, Zoned.from_local_deprecated ℓ off = .ok z ↔ Zoned.from_local_datetime off ℓ = .ok (some z)) ∧
    (∀ z, Zoned.from_local_deprecated ℓ off = .ok z →
      z.off = off ∧ ZInv z ∧ Zoned.naive_local z = .ok ℓ ∧ instSecs z.utc = instSecs ℓ - off ∧
      z.utc.time.frac = ℓ.time.frac) := by
  obtain ⟨r, hr, hiff⟩ := fromLocal_fails_iff off ℓ ho hℓ
  have key : (Zoned.from_local_deprecated ℓ off = .panic ↔ r = none) ∧
      (∀ z, Zoned.from_local_deprecated ℓ off = .ok z ↔ r = some z) := by
    obtain ⟨o, hc, rfl⟩ := from_local_ok off ℓ r hr
    unfold Zoned.from_local_deprecated
    rw [hc]
    cases o with
    | none => exact ⟨⟨fun _ => rfl, fun _ => rfl⟩, fun z => ⟨nofun, nofun⟩⟩
    | some u =>
      exact ⟨⟨nofun, nofun⟩, fun z =>
        ⟨fun h => congrArg some (Res.ok.inj h), fun h => congrArg Res.ok (Option.some.inj h)⟩⟩
  refine ⟨rfl, by rw [key.1, hiff], ?_, ?_⟩
  · intro z; rw [key.2 z, hr, Res.ok.injEq]
  · intro z h
    have hz : Zoned.from_local_datetime off ℓ = .ok (some z) := by rw [hr, (key.2 z).mp h]
    obtain ⟨a, b, c, _, e, f⟩ := local_of_fromLocal off ℓ ho hℓ z hz
    exact ⟨a, b, c, e, f⟩

example : Zoned.from_local_deprecated NaiveDT.MIN 1 = .panic ∧ Zoned.and_local_timezone NaiveDT.MIN 1 = .ok none ∧
    Zoned.from_local_deprecated NaiveDT.MIN (-1) = .ok ⟨⟨Date.MIN, ⟨1, 0⟩⟩, -1⟩ ∧
    NDTInv NaiveDT.MIN ∧ ¬ InRangeSecs (instSecs NaiveDT.MIN - 1) := by decide +kernel

/-! ### `DateTime + Days`, `DateTime - Days` -/

/-- **days_operators_spec.**  The operators are `expect` of the checked forms: `Days(0)` returns the value; for
`0 < n ≤ u64::MAX` they PANIC exactly when the rule of `day_stepping_vs_rule` has no result (stepped instant outside
`MIN_UTC ..= MAX_UTC` or stepped wall clock outside the nominal range) and otherwise return exactly the value the
checked form returns (`stepping_spec`: wall clock moved by `n` whole days). -/
theorem days_operators_spec (z : Zoned) (hz : ZInv z) :
    Zoned.add_days_op z 0 = .ok z ∧ Zoned.sub_days_op z 0 = .ok z ∧
    ∀ n : Int, 0 < n → n ≤ 18446744073709551615 →
      (Zoned.add_days_op z n = .panic ↔ ¬ (InUtcRange (instSecs z.utc + n * 86400) z.utc.time.frac ∧
                                            InRangeSecs (wallSecs z + n * 86400))) ∧
      (∀ z', Zoned.add_days_op z n = .ok z' ↔ Zoned.checked_add_days z n = .ok (some z')) ∧
      (Zoned.sub_days_op z n = .panic ↔ ¬ (InUtcRange (instSecs z.utc - n * 86400) z.utc.time.frac ∧
                                            InRangeSecs (wallSecs z - n * 86400))) ∧
      (∀ z', Zoned.sub_days_op z n = .ok z' ↔ Zoned.checked_sub_days z n = .ok (some z')) := by
  obtain ⟨z0, z1⟩ := day_stepping_zero z hz
  refine ⟨by unfold Zoned.add_days_op; rw [z0]; rfl, by unfold Zoned.sub_days_op; rw [z1]; rfl, ?_⟩
  intro n hn1 hn2
  obtain ⟨⟨r, a, b⟩, ⟨r', a', b'⟩⟩ := day_stepping_vs_rule z hz n hn1 hn2
  obtain ⟨p1, p2⟩ := ZNC.expectSome_ok _ r a
  obtain ⟨q1, q2⟩ := ZNC.expectSome_ok _ r' a'
  refine ⟨by unfold Zoned.add_days_op; rw [p1, b], ?_, by unfold Zoned.sub_days_op; rw [q1, b'], ?_⟩
  · intro z'; unfold Zoned.add_days_op; rw [p2 z', a, Res.ok.injEq]
  · intro z'; unfold Zoned.sub_days_op; rw [q2 z', a', Res.ok.injEq]

example : Zoned.add_days_op ⟨NaiveDT.MAX, 3600⟩ 1 = .panic ∧ Zoned.sub_days_op ⟨NaiveDT.MIN, -3600⟩ 1 = .panic ∧
    Zoned.sub_days_op ⟨NaiveDT.MIN, -3600⟩ 0 = .ok ⟨NaiveDT.MIN, -3600⟩ ∧
    Zoned.add_days_op ⟨NaiveDT.MIN, -3600⟩ 1 = .ok ⟨⟨dateOfYo MIN_YEAR 2, ⟨0, 0⟩⟩, -3600⟩ := by decide +kernel

/-! ### RFC 3339 / Serialize text in the headroom day -/

/-- **rfc3339_headroom_text.**  For EVERY well-formed value whose wall clock lies in a headroom day (where C10's
field theorem `writer_fields_exact`, stated for wall-clock years 0–9999, does not apply), every precision, with and
without `Z`: `to_rfc3339_opts`, `to_rfc3339` and `Serialize` return exactly `ZNC.headRfcText`: the calendar's own
date of that day — `-262144-12-31` when the wall clock is before the range, `+262143-01-01` when after —, `T`,
the two-digit hour / minute / second of `(instant + offset) mod 86400` (second + 1 for a leap-second representation),
the fraction of the sub-second nanoseconds at the requested precision (C10's `fracText`), and the offset text
(C10's `offText`).  With `format_reads_wall_clock` (Debug / Display) this puts every text writer except the
`strftime` items under a theorem in the headroom day (`to_rfc2822` panics there: wall-clock year outside 0–9999). -/
theorem rfc3339_headroom_text (z : Zoned) (hz : ZInv z) (hh : ¬ InRangeSecs (wallSecs z)) :
    (∀ sf use_z, Rfc3339.to_rfc3339_opts z sf use_z = .ok (ZNC.headRfcText z sf use_z)) ∧
    Rfc3339.to_rfc3339 z = .ok (ZNC.headRfcText z .autoSi false) ∧
    Serde.DateTimeStr.serialize z = Format.wok (ZNC.headRfcText z .autoSi true) ∧
    Rfc2822.to_rfc2822 z = .panic ∧ Zoned.naive_local z = .panic := by
  obtain ⟨l, h1, h2, h3, _, h5, h6⟩ := naive_local_spec z hz
  obtain ⟨w1, w2, w3, w4, _⟩ := ZNF.writers_of_wall z l h1
  have hw := ZNC.head_rfc3339 z hz hh l h1
  refine ⟨fun sf use_z => by rw [w1, hw]; rfl, by rw [w2, hw]; rfl, by rw [w4, hw], ?_, by rw [h5, if_neg hh]⟩
  rw [w3]
  obtain ⟨_, _, _, hho, _⟩ := wall_date_cases z hz l h1
  have hnd : ¬ DateInv l.date := fun h => hh (h6.mp h)
  obtain ⟨_, _, y1, _, _, y2, _⟩ := ZNC.headroom_ymd
  have hy : ¬ (0 ≤ l.date.year ∧ l.date.year ≤ 9999) := by
    rcases hho with h | h | h
    · exact absurd h hnd
    · rw [h, y1]; omega
    · rw [h, y2]; omega
  unfold Format.write_rfc2822
  simp only [hy, not_false_eq_true, if_true]
  rfl

/-- non-vacuity and what the text is on the inputs of the fixed findings F04 / F06, a leap second in the headroom
day, millisecond precision with `Z` -/
example :
    ZInv ⟨NaiveDT.MAX, 3600⟩ ∧ ¬ InRangeSecs (wallSecs ⟨NaiveDT.MAX, 3600⟩) ∧
    ZNC.headRfcText ⟨NaiveDT.MAX, 3600⟩ .autoSi false = asciiBytes "+262143-01-01T00:59:59.999999999+01:00" ∧
    ZNC.headRfcText ⟨NaiveDT.MIN, -3600⟩ .secs true = asciiBytes "-262144-12-31T23:00:00-01:00" ∧
    ZNC.headRfcText ⟨⟨Date.MAX, ⟨86399, 1500000000⟩⟩, 60⟩ .millis true = asciiBytes "+262143-01-01T00:00:60.500+00:01" := by
  decide +kernel

/-! ### `format` / `format_with_items`: the date specifiers on the two headroom days -/

/-- **format_headroom_dates.**  C12's `numeric_ok` speaks about years `MIN_YEAR ..= MAX_YEAR`; in the headroom day
the wall-clock date handed to the item formatter (`format_reads_wall_clock`, last two conjuncts) is one of the two
constants, so every date specifier is settled by kernel evaluation: the item formatter, given `BEFORE_MIN` resp.
`AFTER_MAX`, prints the text of the calendar's own day — signed year `-262144` / `+262143`, century by floored
division (`-2622`), two-digit year by Euclidean remainder (`56`), month, day, day of year `366` / `001`, ISO year and
week (`-262143`-W01 / `+262143`-W01), weekday (Wednesday / Tuesday), Sunday- and Monday-based week numbers, `%F`,
`%D`, `%x`.  (The expected texts were also observed on the real crate, and the harness oracle `znf.fmt` compares
them on sampled headroom values; the time and offset specifiers do not look at the date.) -/
theorem format_headroom_dates :
    (∀ p ∈ ([("%Y", "-262144"), ("%C", "-2622"), ("%y", "56"), ("%m", "12"), ("%d", "31"), ("%e", "31"), ("%j", "366"), ("%G", "-262143"), ("%g", "57"), ("%V", "01"), ("%u", "3"), ("%w", "3"), ("%a", "Wed"), ("%A", "Wednesday"), ("%b", "Dec"), ("%B", "December"), ("%h", "Dec"), ("%U", "52"), ("%W", "52"), ("%F", "-262144-12-31"), ("%D", "12/31/56"), ("%x", "12/31/56")] : List (String × String)),
      Format.formatItemsR (some Date.BEFORE_MIN) none none (Strftime.items (asciiBytes p.1)) = Format.wok (asciiBytes p.2)) ∧
    (∀ p ∈ ([("%Y", "+262143"), ("%C", "2621"), ("%y", "43"), ("%m", "01"), ("%d", "01"), ("%e", " 1"), ("%j", "001"), ("%G", "+262143"), ("%g", "43"), ("%V", "01"), ("%u", "2"), ("%w", "2"), ("%a", "Tue"), ("%A", "Tuesday"), ("%b", "Jan"), ("%B", "January"), ("%h", "Jan"), ("%U", "00"), ("%W", "00"), ("%F", "+262143-01-01"), ("%D", "01/01/43"), ("%x", "01/01/43")] : List (String × String)),
      Format.formatItemsR (some Date.AFTER_MAX) none none (Strftime.items (asciiBytes p.1)) = Format.wok (asciiBytes p.2)) := by
  decide +kernel

/-! ### End to end: translated code = specification -/

/-- **gen_wall_clock_sound.**  Composition of the code-translation theorems of Props/GenDateTime.lean (Lean text
generated from the Rust source = model) with `headroom_sound` (model = specification).  The bodies of
`DateTime::overflowing_naive_local` / `naive_local` are `self.datetime.overflowing_add_offset(self.offset.fix())` /
`self.datetime.checked_add_offset(self.offset.fix()).expect(..)` (pinned; `fix` of a `FixedOffset` is the identity,
pinned as `impl Offset for FixedOffset`): the TRANSLATED `NaiveDateTime::overflowing_add_offset` applied to the
stored UTC reading and the offset returns THE reading of `instant + offset` in the extended calendar, and the
translated `checked_add_offset` returns it exactly when it lies in the nominal range (`None`, i.e. the panic of
`naive_local` / `date_naive`, exactly in the headroom day). -/
theorem gen_wall_clock_sound (z : Zoned) (hz : ZInv z) :
    ∃ l, ExtNDTInv l ∧ instSecs l = wallSecs z ∧ l.time.frac = z.utc.time.frac ∧
      Gen.naive_datetime.NaiveDateTime.overflowing_add_offset (GenDateTime.ndtG z.utc) z.off
        = .ok (GenDateTime.ndtG l) ∧
      Gen.naive_datetime.NaiveDateTime.checked_add_offset (GenDateTime.ndtG z.utc) z.off
        = .ok (if InRangeSecs (wallSecs z) then some (GenDateTime.ndtG l) else none) := by
  obtain ⟨l, h1, h2, h3, h4, h5, _⟩ := shiftOverflowing_spec z.utc z.off hz.1 hz.2
  obtain ⟨hd, hol⟩ := ZNC.dateOk_of_inv z.utc.date hz.1.1
  refine ⟨l, h2, h3, h4, ?_, ?_⟩
  · rw [GenDateTime.gen_overflowing_add_offset_eq z.utc z.off hd hol,
      overflowing_add_offset_eq _ _ hz.1.2 hz.2, h1]; rfl
  · rw [GenDateTime.gen_checked_add_offset_eq z.utc z.off hd hol,
      checked_add_offset_eq _ _ hz.1.2 hz.2, h5]
    unfold wallSecs
    split <;> rfl

/-- **gen_from_local_sound.**  Likewise for construction from a wall clock: `TimeZone::from_local_datetime` for a
`FixedOffset` is `local.checked_sub_offset(offset)` mapped into a `DateTime` (`offset_from_local_datetime =
Single(*self)`, pinned as `impl TimeZone for FixedOffset`); the TRANSLATED `NaiveDateTime::checked_sub_offset` fails
exactly when `wall clock − offset` leaves the supported range and otherwise returns the UTC reading of the value
`local_of_fromLocal` speaks about. -/
theorem gen_from_local_sound (off : Int) (ℓ : NaiveDT) (ho : OffValid off) (hℓ : NDTInv ℓ) :
    ∃ r, Gen.naive_datetime.NaiveDateTime.checked_sub_offset (GenDateTime.ndtG ℓ) off
        = .ok (r.map fun (z : Zoned) => GenDateTime.ndtG z.utc) ∧
      Zoned.from_local_datetime off ℓ = .ok r ∧ (r = none ↔ ¬ InRangeSecs (instSecs ℓ - off)) ∧
      ∀ z, r = some z → z.off = off ∧ ZInv z ∧ instSecs z.utc = instSecs ℓ - off ∧
        z.utc.time.frac = ℓ.time.frac := by
  obtain ⟨r, hr, hiff⟩ := fromLocal_fails_iff off ℓ ho hℓ
  obtain ⟨hd, hol⟩ := ZNC.dateOk_of_inv ℓ.date hℓ.1
  refine ⟨r, ?_, hr, hiff, ?_⟩
  · rw [GenDateTime.gen_checked_sub_offset_eq ℓ off hd hol]
    obtain ⟨o, hc, rfl⟩ := from_local_ok off ℓ r hr
    rw [hc]
    cases o <;> rfl
  · intro z hz'
    obtain ⟨a, b, _, _, e, f⟩ := local_of_fromLocal off ℓ ho hℓ z (by rw [hr, hz'])
    exact ⟨a, b, e, f⟩

/-- the translated offset constructors and accessors are the model's (`east_opt_iff` speaks about them) -/
theorem gen_offsets_sound (s : Int) (hs : -2147483648 ≤ s ∧ s ≤ 2147483647) :
    Gen.offset_fixed.FixedOffset.east_opt s = (if -86400 < s ∧ s < 86400 then some s else none) ∧
    Gen.offset_fixed.FixedOffset.west_opt s = .ok (if -86400 < s ∧ s < 86400 then some (-s) else none) :=
  ⟨GenDateTime.gen_east_opt_eq s, GenDateTime.gen_west_opt_eq s hs⟩

/-! ### Identity replacement on the one well-formed value class above `MAX_UTC` (audit 2, L2) -/

/-- `x = +262142-12-31T23:59:60.5Z` (well formed, compares greater than `MAX_UTC`): replacing a field by its own
value is REFUSED (the `MIN_UTC ..= MAX_UTC` filter of `map_local` / `with_time`; inside `map_local_spec`), while
`Days(0)` / `Months(0)` return the value -/
example :
    ZInv ⟨⟨Date.MAX, ⟨86399, 1500000000⟩⟩, 0⟩ ∧
    Zoned.with_year ⟨⟨Date.MAX, ⟨86399, 1500000000⟩⟩, 0⟩ MAX_YEAR = .ok none ∧
    Zoned.with_second ⟨⟨Date.MAX, ⟨86399, 1500000000⟩⟩, 0⟩ 59 = .ok none ∧
    Zoned.with_day ⟨⟨Date.MAX, ⟨86399, 1500000000⟩⟩, 0⟩ 31 = .ok none ∧
    Zoned.with_time ⟨⟨Date.MAX, ⟨86399, 1500000000⟩⟩, 0⟩ ⟨86399, 1500000000⟩ = .ok none ∧
    Zoned.checked_add_days ⟨⟨Date.MAX, ⟨86399, 1500000000⟩⟩, 0⟩ 0 = .ok (some ⟨⟨Date.MAX, ⟨86399, 1500000000⟩⟩, 0⟩) ∧
    Zoned.checked_sub_days ⟨⟨Date.MAX, ⟨86399, 1500000000⟩⟩, 0⟩ 0 = .ok (some ⟨⟨Date.MAX, ⟨86399, 1500000000⟩⟩, 0⟩) ∧
    Zoned.checked_add_months ⟨⟨Date.MAX, ⟨86399, 1500000000⟩⟩, 0⟩ 0 = .ok (some ⟨⟨Date.MAX, ⟨86399, 1500000000⟩⟩, 0⟩) := by
  decide +kernel

end Chrono.Props.C04
