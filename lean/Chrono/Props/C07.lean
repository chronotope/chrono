/-
  C07 — Time-of-day arithmetic wraps by whole days and honours leap-second operands.
  The property statements; lemmas with more than one use are in Proofs/TimeL.lean (the time of
  day) and Proofs/TimeCarryL.lean (date-times, resting on C01/C03's packed-date lemmas via
  Proofs/DateTimeArithL.lean).

  `M.Time` = `NaiveTime` `(secs, frac)`; `Spec.TValid` = the representation invariant the arithmetic
  sees (leap representation `frac ≥ 10⁹` on *any* second), `Spec.TStrict` = what the constructors
  build (leap only on second 59); `Spec.addLeap` / `Spec.diffLeap` = the extended-line reading of
  the documented leap-second rules; `Spec.ns`, `Spec.DInv` = C06's duration semantics;
  `M.NaiveDT` = `NaiveDateTime` (packed `NaiveDate` + `NaiveTime`), `Spec.NDTInv` its invariant,
  `Spec.dayNumOf`, `Spec.IsDayShift`, `Spec.DN_MIN/DN_MAX` = C03's day-number vocabulary;
  `Spec.dtDiffLine`, `Spec.crossErr`, `Spec.diffAddErr` (Spec/TimeDiffSpec.lean) = the extended-line
  reading of a date-time difference and the error terms of the implementation against it.
  The theorems added for the statement-level audit (audit/C07.md §6, G1–G8) carry the gap number
  in their doc comment; their helper lemmas are in Proofs/TimeGapsL.lean, TimeCarryGapsL.lean,
  TimeOpsL.lean.
-/
import Chrono.Proofs.TimeL
import Chrono.Proofs.TimeCarryL
import Chrono.Proofs.TimeCarryGapsL
import Chrono.Proofs.TimeOpsL
import Chrono.Proofs.TimeClosureL
import Chrono.Extracted.TimeLits

namespace Chrono.Props.C07
open Chrono Chrono.M Chrono.Spec Chrono.Proofs Chrono.Extracted

/-! ### Tie to the source text: the literals of the mirrored functions -/

/-- the integer literals of each mirrored function body, re-extracted from src/naive/time/mod.rs and
src/traits.rs on every run (tools/extractors/time.py), are the limits and units the model uses -/
theorem literals_ok :
    TIME_LITS_from_hms_milli_opt = [1000000] ∧ TIME_LITS_from_hms_micro_opt = [1000] ∧
    TIME_LITS_from_hms_nano_opt = [24, 60, 60, 1000000000, 59, 2000000000, 3600, 60] ∧
    TIME_LITS_from_num_seconds_from_midnight_opt = [86400, 2000000000, 1000000000, 60, 59] ∧
    TIME_LITS_overflowing_add_signed =
      [1000000000, 0, 0, 2000000000, 1000000000, 0, 1000000000, 1, 0, 0, 1000000000, 1,
       1000000000, 1000000000, 1, 86400] ∧
    TIME_LITS_signed_duration_since = [1000000000, 1, 1000000000, 1, 1000000000, 1000000000] ∧
    TIME_LITS_overflowing_add_offset = [86400, 86400] ∧
    TIME_LITS_overflowing_sub_offset = [86400, 86400] ∧
    TIME_LITS_hms = [60, 60, 60, 60] ∧ TIME_LITS_MAX = [23, 3600, 59, 60, 59, 999999999] ∧
    TIME_LITS_with_hour = [24, 3600, 3600] ∧ TIME_LITS_with_minute = [60, 3600, 3600, 60, 60] ∧
    TIME_LITS_with_second = [60, 60, 60] ∧ TIME_LITS_with_nanosecond = [2000000000] ∧
    TIME_LITS_add_std_duration = [86400, 86400, 86400] ∧
    TIME_LITS_sub_std_duration = [86400, 86400, 86400] ∧
    TIME_LITS_hour12 = [12, 0, 12, 12] ∧ TIME_LITS_num_seconds_from_midnight_default = [3600, 60] ∧
    Time.MAX = ⟨86399, 999999999⟩ := by decide

/-! ### Validity: the four constructors accept exactly the stated set -/

/-- `from_hms_nano_opt`: accepted iff hour < 24, minute < 60, second < 60 and nanosecond < 10⁹,
or < 2·10⁹ on second 59 (all integer arguments, in particular all `u32`) -/
theorem valid_iff_hms_nano (h m s n : Int) :
    Time.from_hms_nano_opt h m s n = if okFields h m s n then some (ofFields h m s n) else none :=
  hms_nano_iff' h m s n

theorem valid_iff_hms (h m s : Int) :
    Time.from_hms_opt h m s =
      if h < 24 ∧ m < 60 ∧ s < 60 then some (ofFields h m s 0) else none :=
  hms_iff' h m s

/-- milliseconds: the `u32` multiplication overflow (`checked_mul`) coincides with rejection -/
theorem valid_iff_hms_milli (h m s ms : Int) (h0 : 0 ≤ ms) :
    Time.from_hms_milli_opt h m s ms =
      if h < 24 ∧ m < 60 ∧ s < 60 ∧ (ms < 1000 ∨ (s = 59 ∧ ms < 2000))
      then some (ofFields h m s (ms * 1000000)) else none := by
  refine (hms_opt_nano h m s (ms * 1000000) (by omega)).trans ?_
  apply ite_same
  unfold okFields
  omega

theorem valid_iff_hms_micro (h m s us : Int) (h0 : 0 ≤ us) :
    Time.from_hms_micro_opt h m s us =
      if h < 24 ∧ m < 60 ∧ s < 60 ∧ (us < 1000000 ∨ (s = 59 ∧ us < 2000000))
      then some (ofFields h m s (us * 1000)) else none := by
  refine (hms_opt_nano h m s (us * 1000) (by omega)).trans ?_
  apply ite_same
  unfold okFields
  omega

theorem valid_iff_num_seconds (secs nano : Int) :
    Time.from_num_seconds_from_midnight_opt secs nano =
      if secs < 86400 ∧ (nano < 1000000000 ∨ (secs % 60 = 59 ∧ nano < 2000000000))
      then some ⟨secs, nano⟩ else none :=
  nsfm_iff' secs nano

/-- an accepted tuple of (unsigned) fields is what the accessors return, and the value built
satisfies the strict invariant -/
theorem ctor_reads_back (h m s n : Int) (h0 : 0 ≤ h) (m0 : 0 ≤ m) (s0 : 0 ≤ s) (n0 : 0 ≤ n)
    (hok : okFields h m s n) :
    TStrict (ofFields h m s n) ∧ (ofFields h m s n).hour = h ∧ (ofFields h m s n).minute = m ∧
    (ofFields h m s n).second = s ∧ (ofFields h m s n).nanosecond = n :=
  ofFields_ok h m s n h0 m0 s0 n0 hok

example : okFields 23 59 59 1999999999 ∧
    Time.from_hms_nano_opt 23 59 59 1999999999 = some ⟨86399, 1999999999⟩ ∧
    Time.from_hms_nano_opt 23 59 58 1000000000 = none ∧
    Time.from_hms_nano_opt 23 59 59 2000000000 = none ∧
    Time.from_hms_nano_opt 24 0 0 0 = none ∧
    Time.from_hms_milli_opt 23 59 59 1999 = some ⟨86399, 1999000000⟩ ∧
    Time.from_hms_milli_opt 23 59 59 4295 = none ∧          -- 4295·10⁶ overflows `u32`
    Time.from_hms_micro_opt 23 59 59 4294968 = none ∧
    Time.from_num_seconds_from_midnight_opt 119 1000000000 = some ⟨119, 1000000000⟩ ∧
    Time.from_num_seconds_from_midnight_opt 120 1000000000 = none ∧
    Time.from_num_seconds_from_midnight_opt 86400 0 = none := by decide

/-! ### Accessors and single-field replacement -/

/-- the accessors return the unique (hour, minute, second) with
`hour·3600 + minute·60 + second = secs`; the `Timelike` default for
`num_seconds_from_midnight` agrees with the stored value and cannot overflow; `hour12` -/
theorem accessors_spec (t : Time) (ht : TValid t) :
    t.hour = hourOf t ∧ t.minute = minuteOf t ∧ t.second = secondOf t ∧ t.nanosecond = t.frac ∧
    0 ≤ hourOf t ∧ hourOf t < 24 ∧ 0 ≤ minuteOf t ∧ minuteOf t < 60 ∧ 0 ≤ secondOf t ∧
    secondOf t < 60 ∧ hourOf t * 3600 + minuteOf t * 60 + secondOf t = t.secs ∧
    t.num_seconds_from_midnight = t.secs ∧ t.num_seconds_from_midnight_default = .ok t.secs ∧
    t.hour12 = (decide (12 ≤ hourOf t), if hourOf t % 12 = 0 then 12 else hourOf t % 12) :=
  accessors' t ht

/-- single-field replacement: accepted iff the new field is in range, and then the result is the
time with exactly that field replaced (`with_nanosecond` admits leap values on any second, as the
code does) -/
theorem with_field (t : Time) (v : Int) (ht : TValid t) (hv : 0 ≤ v) :
    t.with_hour v =
      (if v < 24 then some (ofFields v (minuteOf t) (secondOf t) t.frac) else none) ∧
    t.with_minute v =
      (if v < 60 then some (ofFields (hourOf t) v (secondOf t) t.frac) else none) ∧
    t.with_second v =
      (if v < 60 then some (ofFields (hourOf t) (minuteOf t) v t.frac) else none) ∧
    t.with_nanosecond v =
      (if v < 2000000000 then some (ofFields (hourOf t) (minuteOf t) (secondOf t) v) else none) :=
  with_field' t v ht hv

/-- `ofFields` of in-range fields is valid and has exactly those fields (so the results of
`with_field` differ from `t` in the named field only) -/
theorem with_field_reads_back (h m s n : Int) (hh : 0 ≤ h ∧ h < 24) (hm : 0 ≤ m ∧ m < 60)
    (hs : 0 ≤ s ∧ s < 60) (hn : 0 ≤ n ∧ n < 2000000000) :
    TValid (ofFields h m s n) ∧ hourOf (ofFields h m s n) = h ∧ minuteOf (ofFields h m s n) = m ∧
    secondOf (ofFields h m s n) = s ∧ (ofFields h m s n).frac = n :=
  ofFields_valid h m s n hh hm hs hn

example : TValid ⟨86399, 1500000000⟩ ∧
    (⟨86399, 1500000000⟩ : Time).with_second 30 = some ⟨86370, 1500000000⟩ ∧
    (⟨86399, 1500000000⟩ : Time).with_hour 24 = none ∧
    (⟨3723, 5⟩ : Time).with_minute 59 = some ⟨7143, 5⟩ ∧
    (⟨3723, 5⟩ : Time).with_nanosecond 1999999999 = some ⟨3723, 1999999999⟩ ∧
    (⟨86399, 0⟩ : Time).hour12 = (true, 11) ∧ (⟨0, 0⟩ : Time).hour12 = (false, 12) := by decide

/-- (audit G5) the acceptance rule as a property of VALUES: for a valid time the strict invariant
`TStrict` is the statement's rule `okFields` on its four fields, and holds exactly when the
constructor, fed the four fields the accessors return, gives the time back — the "accepted set" is
`TStrict` -/
theorem accepted_set_is_strict (t : Time) (ht : TValid t) :
    (TStrict t ↔ okFields (hourOf t) (minuteOf t) (secondOf t) t.frac) ∧
    (TStrict t ↔ Time.from_hms_nano_opt t.hour t.minute t.second t.nanosecond = some t) := by
  obtain ⟨e1, e2, e3, e4, _⟩ := accessors' t ht
  rw [e1, e2, e3, e4]
  exact ⟨Proofs.TimeGaps.strict_iff_ok t ht, Proofs.TimeGaps.strict_iff_ctor t ht⟩

/-- (audit G5) single-field replacement against the acceptance rule: `with_hour` and `with_minute`
keep an accepted time accepted; `with_second` does so iff the time is not a leap second or the new
second is 59; `with_nanosecond` iff the new value is below 10⁹ or the second is 59.  So the
replacements CAN leave the accepted set (next theorem), which is why every arithmetic theorem of
this file is stated for `TValid` (leap representation on any second). -/
theorem with_field_strict (t : Time) (v : Int) (ht : TStrict t) (hv : 0 ≤ v) :
    (∀ r, t.with_hour v = some r → TStrict r) ∧
    (∀ r, t.with_minute v = some r → TStrict r) ∧
    (∀ r, t.with_second v = some r → (TStrict r ↔ (t.frac < 1000000000 ∨ v = 59))) ∧
    (∀ r, t.with_nanosecond v = some r → (TStrict r ↔ (v < 1000000000 ∨ secondOf t = 59))) := by
  simp only [TStrict, TValid] at ht
  unfold Time.with_hour Time.with_minute Time.with_second Time.with_nanosecond secondOf
  refine ⟨fun r h => ?_, fun r h => ?_, fun r h => ?_, fun r h => ?_⟩
  all_goals
    obtain ⟨c, e⟩ := Option.ite_none_left_eq_some.mp h
    rw [← Option.some.inj e]
    unfold TStrict TValid
    dsimp only
    omega

/-- (audit G5) kernel-checked: replacement of the second of an accepted leap second, and of the
nanosecond of an accepted ordinary time, return values that no constructor accepts -/
theorem with_field_leaves_accepted_set :
    TStrict ⟨86399, 1500000000⟩ ∧
    (⟨86399, 1500000000⟩ : Time).with_second 30 = some ⟨86370, 1500000000⟩ ∧
    ¬ TStrict ⟨86370, 1500000000⟩ ∧ TValid ⟨86370, 1500000000⟩ ∧
    Time.from_hms_nano_opt 23 59 30 1500000000 = none ∧
    TStrict ⟨3723, 5⟩ ∧ (⟨3723, 5⟩ : Time).with_nanosecond 1999999999 = some ⟨3723, 1999999999⟩ ∧
    ¬ TStrict ⟨3723, 1999999999⟩ ∧ TValid ⟨3723, 1999999999⟩ ∧
    Time.from_hms_nano_opt 1 2 3 1999999999 = none ∧
    Time.from_num_seconds_from_midnight_opt 3723 1999999999 = none := by decide

/-- (audit G6) "single-field replacement changes exactly the named field", read through the accessors
in one statement: each `with_*` is refused exactly when the new value is out of range, and an
accepted result is valid, returns the new value for the named field and the old values for the
other three -/
theorem with_field_exactly_named (t : Time) (v : Int) (ht : TValid t) (hv : 0 ≤ v) :
    ((t.with_hour v = none ↔ 24 ≤ v) ∧
      ∀ r, t.with_hour v = some r → TValid r ∧ r.hour = v ∧ r.minute = t.minute ∧
        r.second = t.second ∧ r.nanosecond = t.nanosecond) ∧
    ((t.with_minute v = none ↔ 60 ≤ v) ∧
      ∀ r, t.with_minute v = some r → TValid r ∧ r.hour = t.hour ∧ r.minute = v ∧
        r.second = t.second ∧ r.nanosecond = t.nanosecond) ∧
    ((t.with_second v = none ↔ 60 ≤ v) ∧
      ∀ r, t.with_second v = some r → TValid r ∧ r.hour = t.hour ∧ r.minute = t.minute ∧
        r.second = v ∧ r.nanosecond = t.nanosecond) ∧
    ((t.with_nanosecond v = none ↔ 2000000000 ≤ v) ∧
      ∀ r, t.with_nanosecond v = some r → TValid r ∧ r.hour = t.hour ∧ r.minute = t.minute ∧
        r.second = t.second ∧ r.nanosecond = v) := by
  obtain ⟨w1, w2, w3, w4⟩ := with_field' t v ht hv
  obtain ⟨a1, a2, a3, a4, b1, b2, b3, b4, b5, b6, _⟩ := accessors' t ht
  have hf : 0 ≤ t.frac ∧ t.frac < 2000000000 := ⟨ht.2.2.1, ht.2.2.2⟩
  rw [w1, w2, w3, w4, a1, a2, a3, a4]
  refine ⟨⟨(Proofs.TimeGaps.refused_iff _).trans (by omega), fun r h => ?_⟩,
    ⟨(Proofs.TimeGaps.refused_iff _).trans (by omega), fun r h => ?_⟩,
    ⟨(Proofs.TimeGaps.refused_iff _).trans (by omega), fun r h => ?_⟩,
    ⟨(Proofs.TimeGaps.refused_iff _).trans (by omega), fun r h => ?_⟩⟩
  all_goals
    obtain ⟨c, e⟩ := Option.ite_none_right_eq_some.mp h
    rw [← Option.some.inj e]
  · exact Proofs.TimeGaps.acc_ofFields v _ _ _ ⟨hv, c⟩ ⟨b3, b4⟩ ⟨b5, b6⟩ hf
  · exact Proofs.TimeGaps.acc_ofFields _ v _ _ ⟨b1, b2⟩ ⟨hv, c⟩ ⟨b5, b6⟩ hf
  · exact Proofs.TimeGaps.acc_ofFields _ _ v _ ⟨b1, b2⟩ ⟨b3, b4⟩ ⟨hv, c⟩ hf
  · exact Proofs.TimeGaps.acc_ofFields _ _ _ v ⟨b1, b2⟩ ⟨b3, b4⟩ ⟨b5, b6⟩ ⟨hv, c⟩

example : TStrict ⟨86399, 1500000000⟩ ∧ TStrict ⟨3723, 5⟩ ∧
    (⟨86399, 1500000000⟩ : Time).with_second 59 = some ⟨86399, 1500000000⟩ ∧
    (⟨86399, 1500000000⟩ : Time).with_minute 7 = some ⟨83279, 1500000000⟩ ∧
    TStrict ⟨83279, 1500000000⟩ ∧
    (⟨83279, 1500000000⟩ : Time).minute = 7 ∧ (⟨83279, 1500000000⟩ : Time).hour = 23 ∧
    (⟨83279, 1500000000⟩ : Time).second = 59 := by decide

/-- `hour12` without the model's arithmetic: the 12-hour value lies in 1..12, the flag says "hour ≥ 12",
and the two determine the hour -/
theorem hour12_spec (t : Time) (ht : TValid t) :
    1 ≤ t.hour12.2 ∧ t.hour12.2 ≤ 12 ∧ (t.hour12.1 = true ↔ 12 ≤ t.hour) ∧
    t.hour = t.hour12.2 % 12 + (if t.hour12.1 = true then 12 else 0) := by
  obtain ⟨e, _, _, _, b1, b2, _, _, _, _, _, _, _, h12⟩ := accessors' t ht
  rw [e, h12]
  simp only [decide_eq_true_eq]
  refine ⟨?_, ?_, trivial, ?_⟩ <;> (repeat' split) <;> omega

/-- seconds-from-midnight form: the constructor applied to what the two accessors return gives the
time back exactly for accepted (`TStrict`) times and refuses every other valid representation; and
whatever it accepts is an accepted time that reads back -/
theorem num_seconds_round_trip (t : Time) (ht : TValid t) :
    Time.from_num_seconds_from_midnight_opt t.num_seconds_from_midnight t.nanosecond =
      (if TStrict t then some t else none) := by
  unfold Time.num_seconds_from_midnight Time.nanosecond
  rw [nsfm_iff']
  apply ite_same
  unfold TStrict TValid at *
  omega

theorem num_seconds_reads_back (secs nano : Int) (h0 : 0 ≤ secs) (n0 : 0 ≤ nano) (r : Time)
    (h : Time.from_num_seconds_from_midnight_opt secs nano = some r) :
    TStrict r ∧ r.num_seconds_from_midnight = secs ∧ r.nanosecond = nano := by
  rw [nsfm_iff'] at h
  obtain ⟨c, e⟩ := Option.ite_none_right_eq_some.mp h
  rw [← Option.some.inj e]
  unfold TStrict TValid Time.num_seconds_from_midnight Time.nanosecond
  dsimp only
  omega

/-- `NaiveTime::MIN` is 00:00:00 and sorts first; `NaiveTime::MAX` is 23:59:59.999999999 and sorts
after every valid time except the leap second 23:59:60.x -/
theorem min_max (t : Time) (ht : TValid t) :
    Time.MIN = ⟨0, 0⟩ ∧ TStrict Time.MIN ∧ TStrict Time.MAX ∧ Time.cmp Time.MIN t ≤ 0 ∧
    (Time.cmp t Time.MAX ≤ 0 ↔ ¬ (t.secs = 86399 ∧ t.frac ≥ 1000000000)) := by
  refine ⟨rfl, by decide, by decide, ?_⟩
  unfold TValid at ht
  unfold Time.cmp Time.MIN Time.MAX
  dsimp only
  constructor <;> (repeat' split) <;> omega

example : (⟨86399, 0⟩ : Time).hour12 = (true, 11) ∧ (⟨43200, 0⟩ : Time).hour12 = (true, 12) ∧
    Time.from_num_seconds_from_midnight_opt 86399 1999999999 = some ⟨86399, 1999999999⟩ ∧
    Time.cmp ⟨86399, 1000000000⟩ Time.MAX = 1 := by decide

/-! ### Addition -/

/-- `overflowing_add_signed` never panics and equals the extended-line semantics, for every valid
time (leap representation on any second) and every duration -/
theorem add_spec (t : Time) (d : Delta) (ht : TValid t) (hd : DInv d) :
    Time.overflowing_add_signed t d = .ok (addLeap t (ns d)) :=
  add_spec' t d ht hd

/-- what the extended-line result looks like: a valid time; the carry is a whole number of days;
without a leap operand it is plain addition modulo one day and never produces a leap second; the
result is a leap second exactly when the sum stays inside the operand's own leap second -/
theorem add_result (t : Time) (δ : Int) (ht : TValid t) :
    TValid (addLeap t δ).1 ∧ (addLeap t δ).2 % 86400 = 0 ∧
    (t.frac < 1000000000 →
      (addLeap t δ).1.frac < 1000000000 ∧
      pos (addLeap t δ).1 + (addLeap t δ).2 * 1000000000 = pos t + δ) ∧
    ((addLeap t δ).1.frac ≥ 1000000000 ↔
      (t.frac ≥ 1000000000 ∧ (t.secs + 1) * 1000000000 ≤ pos t + δ ∧
        pos t + δ < (t.secs + 2) * 1000000000)) :=
  addLeap_facts t δ ht

theorem add_zero (t : Time) (ht : TValid t) : addLeap t 0 = (t, 0) := by
  by_cases hl : t.frac < 1000000000
  · rw [addLeap_plain t 0 (Or.inl hl)]
    exact wrap_unique _ t 0 ht hl rfl (by omega)
  · rw [addLeap_inside t 0 (by omega) (by unfold TValid at ht; unfold pos; omega), Int.add_zero]

/-- documented law: two additions of the same sign equal one addition of the sum -/
theorem add_assoc_same_sign (t : Time) (a b ab : Delta) (ht : TValid t) (ha : DInv a)
    (hb : DInv b) (hab : DInv ab) (hsum : ns ab = ns a + ns b)
    (hsign : (0 ≤ ns a ∧ 0 ≤ ns b) ∨ (ns a ≤ 0 ∧ ns b ≤ 0)) :
    ∃ r1 c1 r2 c2, Time.overflowing_add_signed t a = .ok (r1, c1) ∧
      Time.overflowing_add_signed r1 b = .ok (r2, c2) ∧
      Time.overflowing_add_signed t ab = .ok (r2, c1 + c2) := by
  have hv := (addLeap_facts t (ns a) ht).1
  refine ⟨(addLeap t (ns a)).1, (addLeap t (ns a)).2, (addLeap (addLeap t (ns a)).1 (ns b)).1,
    (addLeap (addLeap t (ns a)).1 (ns b)).2, add_spec' t a ht ha, add_spec' _ b hv hb, ?_⟩
  rw [add_spec' t ab ht hab, hsum, addLeap_assoc' t (ns a) (ns b) ht hsign]

/-- non-vacuity, and the boundary cases the doc tests do not contain: exactly reaching :60.0 and
:61.0 from inside a leap second, 1 ns before, a negative fractional step out of it, TimeDelta::MAX -/
example : TValid ⟨10859, 1100000000⟩ ∧ DInv ⟨0, 900000000⟩ ∧
    Time.overflowing_add_signed ⟨10859, 1100000000⟩ ⟨0, 899999999⟩ = .ok (⟨10859, 1999999999⟩, 0) ∧
    Time.overflowing_add_signed ⟨10859, 1100000000⟩ ⟨0, 900000000⟩ = .ok (⟨10860, 0⟩, 0) ∧
    Time.overflowing_add_signed ⟨10859, 1100000000⟩ ⟨-1, 900000000⟩ = .ok (⟨10859, 1000000000⟩, 0) ∧
    Time.overflowing_add_signed ⟨10859, 1100000000⟩ ⟨-1, 899999999⟩ = .ok (⟨10859, 999999999⟩, 0) ∧
    Time.overflowing_add_signed ⟨86399, 1999999999⟩ ⟨0, 1⟩ = .ok (⟨0, 0⟩, 86400) ∧
    Time.overflowing_add_signed ⟨0, 0⟩ ⟨-1, 999999999⟩ = .ok (⟨86399, 999999999⟩, -86400) ∧
    Time.overflowing_add_signed ⟨86399, 1999999999⟩ Delta.MAX =
      .ok (⟨25975, 806999999⟩, 9223372036915200) ∧
    Time.overflowing_add_signed ⟨0, 1000000000⟩ Delta.MIN =
      .ok (⟨60425, 193000000⟩, -9223372036915200) := by decide

/-- (audit G3) a LEAP-SECOND operand, the three documented cases spelled out.  With `p` the sum on
the operand's extended line and `L = (secs+1)·10⁹` the start of its own leap second:
left backwards (`p < L`) — an ordinary time at exactly `p`, wrapped by whole days; skipped forwards
(`p ≥ L + 10⁹`) — an ordinary time at `p − 10⁹` (the leap second is removed from the reading),
wrapped by whole days; stayed in (`L ≤ p < L + 10⁹`) — the same second with fraction `frac + δ`,
no carry.  Together with `add_result` (non-leap operand) this determines `addLeap` completely. -/
theorem add_leap_cases (t : Time) (δ : Int) (ht : TValid t) (hl : t.frac ≥ 1000000000) :
    (pos t + δ < (t.secs + 1) * 1000000000 →
      (addLeap t δ).1.frac < 1000000000 ∧
      pos (addLeap t δ).1 + (addLeap t δ).2 * 1000000000 = pos t + δ) ∧
    ((t.secs + 2) * 1000000000 ≤ pos t + δ →
      (addLeap t δ).1.frac < 1000000000 ∧
      pos (addLeap t δ).1 + (addLeap t δ).2 * 1000000000 = pos t + δ - 1000000000) ∧
    ((t.secs + 1) * 1000000000 ≤ pos t + δ ∧ pos t + δ < (t.secs + 2) * 1000000000 →
      addLeap t δ = (⟨t.secs, t.frac + δ⟩, 0)) := by
  refine ⟨fun h => ?_, fun h => ?_, addLeap_inside t δ hl⟩
  · rw [addLeap_plain t δ (Or.inr h)]
    exact ⟨(wrap_spec _).2.1, (wrap_spec _).2.2.2⟩
  · rw [addLeap_after t δ hl h]
    exact ⟨(wrap_spec _).2.1, (wrap_spec _).2.2.2⟩

/-- "wraps modulo 24 hours" in closed form: without a leap operand the result is the sum modulo one
day (and the carry the rest, by `add_result`) -/
theorem add_wraps (t : Time) (δ : Int) (ht : TValid t) (hl : t.frac < 1000000000) :
    pos (addLeap t δ).1 = (pos t + δ) % 86400000000000 := by
  rw [addLeap_plain t δ (Or.inl hl)]
  generalize pos t + δ = q
  obtain ⟨v, hf, hc, hp⟩ := wrap_spec q
  unfold TValid at v
  unfold pos at hp ⊢
  omega

example : TValid ⟨10859, 1500000000⟩ ∧
    addLeap ⟨10859, 1500000000⟩ (-500000001) = (⟨10859, 999999999⟩, 0) ∧        -- left backwards
    addLeap ⟨10859, 1500000000⟩ 500000000 = (⟨10860, 0⟩, 0) ∧                    -- skipped forwards
    addLeap ⟨10859, 1500000000⟩ 499999999 = (⟨10859, 1999999999⟩, 0) ∧          -- stayed in
    addLeap ⟨10859, 1500000000⟩ (-500000000) = (⟨10859, 1000000000⟩, 0) ∧
    addLeap ⟨86399, 1500000000⟩ 500000000 = (⟨0, 0⟩, 86400) ∧
    addLeap ⟨0, 1500000000⟩ (-2000000000) = (⟨86399, 500000000⟩, -86400) := by decide

/-! ### The operator forms `+`, `-`, `+=`, `-=` (audit G7) -/

/-- `impl Add / Sub / AddAssign / SubAssign <TimeDelta> for NaiveTime`: for every valid time (leap
representation on any second) and every `TimeDelta` the four operators never panic and return the
time component of the extended-line result — they wrap around and drop the carry; the result is a
valid time -/
theorem operators_spec (t : Time) (d : Delta) (ht : TValid t) (hd : DInv d) :
    Time.add t d = .ok (addLeap t (ns d)).1 ∧ Time.sub t d = .ok (addLeap t (-(ns d))).1 ∧
    Time.add_assign t d = .ok (addLeap t (ns d)).1 ∧
    Time.sub_assign t d = .ok (addLeap t (-(ns d))).1 ∧
    TValid (addLeap t (ns d)).1 ∧ TValid (addLeap t (-(ns d))).1 :=
  ⟨Proofs.TimeGaps.op_add t d ht hd, Proofs.TimeGaps.op_sub t d ht hd,
   Proofs.TimeGaps.op_add t d ht hd, Proofs.TimeGaps.op_sub t d ht hd,
   (addLeap_facts t (ns d) ht).1, (addLeap_facts t (-(ns d)) ht).1⟩

/-- `impl AddAssign / SubAssign <core::time::Duration> for NaiveTime` are the `+` / `-` forms of
`std_duration_spec`; `impl Add / Sub <FixedOffset> for NaiveTime` move the second of the day by the
offset modulo one day and keep the fraction (`offset_shift_keeps_frac`) -/
theorem operators_std_offset_spec (t : Time) (secs nanos off : Int) (ht : TValid t) (hs : 0 ≤ secs)
    (hn : 0 ≤ nanos ∧ nanos < 1000000000) (ho : -86400 < off ∧ off < 86400) :
    Time.add_assign_std t secs nanos = .ok (addLeap t (secs * 1000000000 + nanos)).1 ∧
    Time.sub_assign_std t secs nanos = .ok (addLeap t (-(secs * 1000000000 + nanos))).1 ∧
    Time.add_offset t off = .ok ⟨(t.secs + off) % 86400, t.frac⟩ ∧
    Time.sub_offset t off = .ok ⟨(t.secs - off) % 86400, t.frac⟩ := by
  obtain ⟨h1, h2, _⟩ := offset' t off ht ho
  unfold Time.add_offset Time.sub_offset
  rw [h1, h2, rbind_ok, rbind_ok]
  exact ⟨(time_std_spec' t secs nanos ht hs hn).1, (time_std_spec' t secs nanos ht hs hn).2, rfl, rfl⟩

example : TValid ⟨86399, 1500000000⟩ ∧ DInv ⟨86400, 0⟩ ∧
    Time.add ⟨86399, 1500000000⟩ ⟨86400, 0⟩ = .ok ⟨86399, 500000000⟩ ∧
    Time.sub_assign ⟨0, 0⟩ ⟨0, 1⟩ = .ok ⟨86399, 999999999⟩ ∧
    Time.add_assign_std ⟨10859, 1500000000⟩ 172800 0 = .ok ⟨10859, 500000000⟩ ∧
    Time.add_offset ⟨86399, 1000000000⟩ 1 = .ok ⟨0, 1000000000⟩ ∧
    Time.sub_offset ⟨0, 1999999999⟩ 86399 = .ok ⟨1, 1999999999⟩ := by decide

/-! ### Subtraction equals addition of the negated duration -/

theorem sub_is_add_neg (t : Time) (d : Delta) (ht : TValid t) (hd : DInv d) :
    (∃ n, Delta.neg d = .ok n ∧ DInv n ∧ ns n = -(ns d) ∧
      Time.overflowing_sub_signed t d =
        (Time.overflowing_add_signed t n).bind (fun p => .ok (p.1, -p.2))) ∧
    Time.overflowing_sub_signed t d =
      .ok ((addLeap t (-(ns d))).1, -(addLeap t (-(ns d))).2) :=
  ⟨sub_is_add_neg' t d ht hd, sub_spec' t d ht hd⟩

example : Time.overflowing_sub_signed ⟨10859, 1700000000⟩ ⟨0, 900000000⟩ = .ok (⟨10859, 800000000⟩, 0) ∧
    Time.overflowing_sub_signed ⟨0, 0⟩ Delta.MIN = .ok (⟨25975, 807000000⟩, -9223372036828800) := by
  decide

/-! ### `std::time::Duration` operands (`impl Add/Sub<Duration> for NaiveTime`) -/

/-- for EVERY valid time (leap-second representations included), every `u64` number of seconds and
every nanosecond part below 10⁹, the operators never panic and return the time component of the
extended-line sum with the exact, unreduced amount — the same time `overflowing_add_signed` /
`overflowing_sub_signed` give for that amount as a `TimeDelta` (`add_spec`, `sub_is_add_neg`) -/
theorem std_duration_spec (t : Time) (secs nanos : Int) (ht : TValid t) (hs : 0 ≤ secs)
    (hn : 0 ≤ nanos ∧ nanos < 1000000000) :
    Time.add_std t secs nanos = .ok (addLeap t (secs * 1000000000 + nanos)).1 ∧
    Time.sub_std t secs nanos = .ok (addLeap t (-(secs * 1000000000 + nanos))).1 :=
  time_std_spec' t secs nanos ht hs hn

/-- HISTORY, not a statement about the present crate (audit2 L5): `add_std_pinned` models code that no longer
exists in /repo; the theorem is kept as the record of the one C07 defect found and repaired, and is listed as such
in props/C07.json.  What holds of the present code is `std_duration_spec`.
The PINNED code (before the repair `ecbcee6`, model `add_std_pinned`) reduced the seconds modulo
*two days* before the leap-second rules were applied, so a leap-second operand plus exactly two
days stayed inside its leap second, whereas the documented rules leave it.  03:00:60.5 + 172800 s:
pinned `+ Duration` gave 03:00:60.5; `+ TimeDelta`, the specification and the repaired operator give
03:00:59.5 (two days later). -/
theorem std_duration_pinned_leap_counterexample :
    Time.add_std_pinned ⟨10859, 1500000000⟩ 172800 0 = .ok ⟨10859, 1500000000⟩ ∧
    Time.add ⟨10859, 1500000000⟩ ⟨172800, 0⟩ = .ok ⟨10859, 500000000⟩ ∧
    (addLeap ⟨10859, 1500000000⟩ (172800 * 1000000000)).1 = ⟨10859, 500000000⟩ ∧
    Time.add_std ⟨10859, 1500000000⟩ 172800 0 = .ok ⟨10859, 500000000⟩ := by decide

example : TValid ⟨10859, 1500000000⟩ ∧
    Time.add_std ⟨86399, 999999999⟩ 18446744073709551615 1 = .ok ⟨25215, 0⟩ ∧
    Time.sub_std ⟨10859, 1500000000⟩ 345600 892734244 = .ok ⟨10859, 607265756⟩ ∧
    Time.add_std ⟨10859, 1500000000⟩ 0 400000000 = .ok ⟨10859, 1900000000⟩ := by decide

/-! ### Difference -/

/-- the difference never panics, is the distance on the line that holds exactly the operands' own
leap seconds, and lies strictly within ±(1 day + 1 s) -/
theorem diff_spec (a b : Time) (ha : TValid a) (hb : TValid b) :
    Time.signed_duration_since a b = .ok (ofNs (diffLeap a b)) ∧ DInv (ofNs (diffLeap a b)) ∧
    -86401000000000 < diffLeap a b ∧ diffLeap a b < 86401000000000 :=
  diff_spec' a b ha hb

/-- `Time1 - Time2 = -(Time2 - Time1)`, on the implementation model -/
theorem diff_antisym (a b : Time) (ha : TValid a) (hb : TValid b) :
    ∃ x y, Time.signed_duration_since a b = .ok x ∧ Time.signed_duration_since b a = .ok y ∧
      DInv x ∧ DInv y ∧ ns x = -(ns y) ∧ Delta.neg y = .ok x := by
  have h1 := diff_spec' a b ha hb
  have h2 := diff_spec' b a hb ha
  have hr1 : nsInRange (diffLeap a b) := by simp only [nsInRange, NS_MAX]; omega
  have hr2 : nsInRange (diffLeap b a) := by simp only [nsInRange, NS_MAX]; omega
  refine ⟨_, _, h1.1, h2.1, h1.2.1, h2.2.1, ?_, ?_⟩
  · rw [(ofNs_spec' _ hr1).2, (ofNs_spec' _ hr2).2, diffLeap_antisym]
  · rw [(neg_abs_exact' _ h2.2.1).1, (ofNs_spec' _ hr2).2, ← diffLeap_antisym]

example : TValid ⟨14459, 1900000000⟩ ∧
    Time.signed_duration_since ⟨14459, 1900000000⟩ ⟨10859, 1100000000⟩ = .ok ⟨3601, 800000000⟩ ∧
    Time.signed_duration_since ⟨10859, 1100000000⟩ ⟨14459, 1900000000⟩ = .ok ⟨-3602, 200000000⟩ := by
  decide

/-- the derived order of `NaiveTime` is the order of positions on the line holding the operands'
leap seconds (so a leap second sorts after every instant of the second it follows and before the
next second) -/
theorem order_is_line_order (a b : Time) (ha : TValid a) (hb : TValid b) :
    Time.cmp a b = (if diffLeap a b < 0 then -1 else if diffLeap a b > 0 then 1 else 0) := by
  unfold Time.cmp
  rcases Int.lt_trichotomy a.secs b.secs with h | h | h
  · have : diffLeap a b < 0 := Int.sub_neg_of_lt (line_lt _ _ _ _ ha.2.2.2 hb.2.2.1 h)
    rw [if_pos h, if_pos this]
  · have e : diffLeap a b = a.frac - b.frac := by
      unfold diffLeap linePos pos
      rw [if_neg (by omega), if_neg (by omega)]
      omega
    rw [if_neg (by omega), if_neg (by omega), e]
    (repeat' split) <;> omega
  · have : 0 < diffLeap a b := Int.sub_pos_of_lt (line_lt _ _ _ _ hb.2.2.2 ha.2.2.1 h)
    rw [if_neg (by omega), if_pos h, if_neg (by omega), if_pos this]

example : Time.cmp ⟨10859, 1500000000⟩ ⟨10860, 200000000⟩ = -1 ∧
    Time.cmp ⟨10859, 1500000000⟩ ⟨10859, 999999999⟩ = 1 := by decide

/-- `impl Sub<NaiveTime> for NaiveTime` is `signed_duration_since` -/
theorem time_minus_time (a b : Time) (ha : TValid a) (hb : TValid b) :
    Time.sub_time a b = .ok (ofNs (diffLeap a b)) :=
  (diff_spec' a b ha hb).1

/-- (audit G2) the two specifications linked: adding `δ` by the extended-line rule `addLeap` and
then measuring the distance back by `diffLeap` returns `δ` whenever no day boundary was crossed — in
all four cases (ordinary operand; leap second stayed in, left backwards, skipped forwards).  This
is the cross-check between the addition rules and the difference rules of the documentation that
neither `add_spec` nor `diff_spec` gives alone. -/
theorem diff_inverts_add_same_day (t : Time) (δ : Int) (ht : TValid t)
    (h0 : (addLeap t δ).2 = 0) : diffLeap (addLeap t δ).1 t = δ := by
  have h := Proofs.TimeGaps.diff_after_add t δ ht
  rw [h0, Proofs.TimeGaps.diffAddErr_same_day t δ h0] at h
  omega

/-- (audit G2, general form) with a carry: distance back + carry = `δ` + `diffAddErr`, where the
error is 0 for an ordinary operand and for a leap operand within the day, +1 s for a leap second
left backwards across midnight onto a later second of the day, −1 s for one skipped forwards
across midnight onto a second of the day that is not later (`Spec.diffAddErr`) -/
theorem diff_after_add (t : Time) (δ : Int) (ht : TValid t) :
    diffLeap (addLeap t δ).1 t + (addLeap t δ).2 * 1000000000 = δ + diffAddErr t δ ∧
    (t.frac < 1000000000 → diffAddErr t δ = 0) ∧ ((addLeap t δ).2 = 0 → diffAddErr t δ = 0) :=
  ⟨Proofs.TimeGaps.diff_after_add t δ ht, Proofs.TimeGaps.diffAddErr_nonleap t δ,
   Proofs.TimeGaps.diffAddErr_same_day t δ⟩

example : TValid ⟨10859, 1500000000⟩ ∧ (addLeap ⟨10859, 1500000000⟩ 3600500000000).2 = 0 ∧
    diffLeap (addLeap ⟨10859, 1500000000⟩ 3600500000000).1 ⟨10859, 1500000000⟩ = 3600500000000 ∧
    diffLeap (addLeap ⟨10859, 1500000000⟩ (-700000000)).1 ⟨10859, 1500000000⟩ = -700000000 ∧
    diffAddErr ⟨86399, 1500000000⟩ 500000000 = -1000000000 ∧
    diffAddErr ⟨0, 1500000000⟩ (-2000000000) = 1000000000 := by decide

/-- (audit G4) `diffLeap` is pinned down by the independent addition rule, not only by its own
definition: `b + (a − b) = a` without carry whenever `a` can be reached from `b` at all (an ordinary
`a`, or a leap `a` inside `b`'s own leap second); with `diff_inverts_add_same_day` (injectivity) the
distance is THE `δ` with `addLeap b δ = (a, 0)`.  For a leap `a` and an ordinary `b` use
antisymmetry (`diff_antisym`); for two leap seconds on different seconds the distance splits at the
start of the later second into two such one-leap distances. -/
theorem add_of_diff (a b : Time) (ha : TValid a) (hb : TValid b)
    (h : a.frac < 1000000000 ∨ (a.secs = b.secs ∧ b.frac ≥ 1000000000)) :
    addLeap b (diffLeap a b) = (a, 0) ∧
    (∀ δ, addLeap b δ = (a, 0) → δ = diffLeap a b) := by
  refine ⟨?_, ?_⟩
  · have pa : pos a = a.secs * 1000000000 + a.frac := rfl
    have pb : pos b = b.secs * 1000000000 + b.frac := rfl
    unfold TValid at ha hb
    unfold diffLeap linePos
    by_cases hl : a.frac < 1000000000
    · -- an ordinary `a`: wherever it lies relative to `b`'s leap second, it is read back from `pos a`
      have fin : wrap (pos a) = (a, 0) := wrap_unique _ a 0 ha hl rfl (by omega)
      rw [if_neg (show ¬ (a.frac ≥ 1000000000 ∧ a.secs < b.secs) by omega), ← fin]
      by_cases hlb : b.frac ≥ 1000000000 ∧ b.secs < a.secs
      · rw [if_pos hlb, addLeap_after b _ hlb.1 (by omega)]
        exact congrArg wrap (by omega)
      · rw [if_neg hlb, addLeap_plain b _ (by omega)]
        exact congrArg wrap (by omega)
    · rw [if_neg (show ¬ (a.frac ≥ 1000000000 ∧ a.secs < b.secs) by omega),
        if_neg (show ¬ (b.frac ≥ 1000000000 ∧ b.secs < a.secs) by omega),
        addLeap_inside b _ (by omega) (by omega)]
      obtain ⟨s1, f1⟩ := a
      simp only [Prod.mk.injEq, Time.mk.injEq, and_true]
      dsimp only at *
      omega
  · intro δ hδ
    have h0 : (addLeap b δ).2 = 0 := by rw [hδ]
    have := diff_inverts_add_same_day b δ hb h0
    rw [hδ] at this
    exact this.symm

theorem diff_two_leaps_split (a b : Time) (h : a.secs < b.secs) :
    diffLeap b a = diffLeap b ⟨b.secs, 0⟩ + diffLeap ⟨b.secs, 0⟩ a := by
  unfold diffLeap linePos pos
  dsimp only
  -- what is left is `a`'s leap second, counted once on either side
  rw [if_neg (show ¬ (b.frac ≥ 1000000000 ∧ b.secs < a.secs) by omega),
    if_neg (show ¬ ((0 : Int) ≥ 1000000000 ∧ b.secs < b.secs) by omega),
    if_neg (show ¬ (b.frac ≥ 1000000000 ∧ b.secs < b.secs) by omega),
    if_neg (show ¬ ((0 : Int) ≥ 1000000000 ∧ b.secs < a.secs) by omega)]
  omega

example : addLeap ⟨10859, 1500000000⟩ (diffLeap ⟨10860, 0⟩ ⟨10859, 1500000000⟩) = (⟨10860, 0⟩, 0) ∧
    diffLeap ⟨10860, 0⟩ ⟨10859, 1500000000⟩ = 500000000 ∧
    addLeap ⟨10859, 1500000000⟩ (diffLeap ⟨10859, 1000000001⟩ ⟨10859, 1500000000⟩) =
      (⟨10859, 1000000001⟩, 0) ∧
    diffLeap ⟨14459, 1900000000⟩ ⟨10859, 1100000000⟩ =
      diffLeap ⟨14459, 1900000000⟩ ⟨14459, 0⟩ + diffLeap ⟨14459, 0⟩ ⟨10859, 1100000000⟩ := by decide

/-! ### Offset shifts keep the fraction (and with it the leap second) -/

theorem offset_shift_keeps_frac (t : Time) (off : Int) (ht : TValid t)
    (ho : -86400 < off ∧ off < 86400) :
    Time.overflowing_add_offset t off = .ok (shiftOff t off) ∧
    Time.overflowing_sub_offset t off = .ok (shiftOff t (-off)) ∧
    (shiftOff t off).1.frac = t.frac ∧ TValid (shiftOff t off).1 ∧
    (-1 ≤ (shiftOff t off).2 ∧ (shiftOff t off).2 ≤ 1) ∧
    (shiftOff t off).1.secs + (shiftOff t off).2 * 86400 = t.secs + off :=
  offset' t off ht ho

example : Time.overflowing_add_offset ⟨86399, 1000000000⟩ (-13236) = .ok (⟨73163, 1000000000⟩, 0) ∧
    Time.overflowing_add_offset ⟨86399, 1000000000⟩ 1 = .ok (⟨0, 1000000000⟩, 1) ∧
    Time.overflowing_sub_offset ⟨0, 5⟩ 86399 = .ok (⟨1, 5⟩, -1) := by decide

/-! ### Date-times: the carry is applied to the date -/

/-- `NaiveDateTime::checked_add_signed / checked_sub_signed` on the packed model
(`Model/DateTime.lean`, the model the harness ops `ar.dtadd` / `ar.dtsub` compare against the crate),
for EVERY valid date-time — the time may be a leap-second representation on any second — and every
`TimeDelta`.  Never panics.  The time part is `addLeap` (the extended-line rule of `add_spec`); the
date moves by exactly `carry / 86400` days (`carry % 86400 = 0` by `add_result`) in the sense of
`IsDayShift`: refused exactly when day number + carry days lies outside
`[NaiveDate::MIN, NaiveDate::MAX]`, otherwise a valid packed date with exactly that day number.  Nothing
is lost in `try_seconds`, `num_days`, the `i32` guard of `NaiveDate::checked_add_signed` or
`add_days`'s fast path / 400-year cycle path (C01/C03's `add_days_exact`).  A result is a valid
date-time. -/
theorem datetime_leap_carry (dt : NaiveDT) (δ : Delta) (hdt : NDTInv dt) (hδ : DInv δ) :
    (∃ r, NaiveDT.checked_add_signed dt δ = .ok r ∧
      IsDayShift dt.date ((addLeap dt.time (ns δ)).2 / 86400) (r.map (·.date)) ∧
      ∀ x, r = some x → x.time = (addLeap dt.time (ns δ)).1 ∧ NDTInv x) ∧
    (∃ r, NaiveDT.checked_sub_signed dt δ = .ok r ∧
      IsDayShift dt.date ((addLeap dt.time (-(ns δ))).2 / 86400) (r.map (·.date)) ∧
      ∀ x, r = some x → x.time = (addLeap dt.time (-(ns δ))).1 ∧ NDTInv x) :=
  ⟨Proofs.TimeCarry.add_outcome dt δ hdt hδ, Proofs.TimeCarry.sub_outcome dt δ hdt hδ⟩

/-- `NaiveDateTime::signed_duration_since` on the packed model, every pair of valid date-times
(leap-second representations included): never panics (neither `expect` fires), and the result is
whole days between the dates · 86400·10⁹ plus the time-of-day distance `diffLeap` (`diff_spec`); it
is a valid `TimeDelta` with exactly that reading, and `a − b = −(b − a)`. -/
theorem datetime_diff (a b : NaiveDT) (ha : NDTInv a) (hb : NDTInv b) :
    NaiveDT.signed_duration_since a b =
      .ok (ofNs ((dayNumOf a.date - dayNumOf b.date) * 86400000000000 + diffLeap a.time b.time)) ∧
    DInv (ofNs ((dayNumOf a.date - dayNumOf b.date) * 86400000000000 + diffLeap a.time b.time)) ∧
    ns (ofNs ((dayNumOf a.date - dayNumOf b.date) * 86400000000000 + diffLeap a.time b.time)) =
      (dayNumOf a.date - dayNumOf b.date) * 86400000000000 + diffLeap a.time b.time ∧
    (dayNumOf b.date - dayNumOf a.date) * 86400000000000 + diffLeap b.time a.time =
      -((dayNumOf a.date - dayNumOf b.date) * 86400000000000 + diffLeap a.time b.time) := by
  obtain ⟨h1, h2⟩ := dt_diff_general a b ha hb
  have hN : NS_PER_DAY = 86400000000000 := rfl
  rw [hN] at h1 h2
  refine ⟨h1, (ofNs_spec' _ h2).1, (ofNs_spec' _ h2).2, ?_⟩
  unfold diffLeap
  omega

/-- non-vacuity and the range ends: a leap second at 23:59:60.5 crossing into the next year, staying
inside its leap second on `NaiveDate::MAX`, refused when it leaves `NaiveDate::MAX`; a leap second
following 00:00:00 on `NaiveDate::MIN` stepped back across midnight is refused, stepped back inside
the day is not; a carry of many days; differences across a leap second and across the whole range -/
example : NDTInv ⟨dateOfYo 2016 366, ⟨86399, 1500000000⟩⟩ ∧ NDTInv ⟨Date.MAX, ⟨86399, 1500000000⟩⟩ ∧
    NDTInv ⟨Date.MIN, ⟨0, 1000000000⟩⟩ ∧ DInv ⟨0, 500000000⟩ ∧ DInv ⟨-2, 999999999⟩ ∧
    NaiveDT.checked_add_signed ⟨dateOfYo 2016 366, ⟨86399, 1500000000⟩⟩ ⟨0, 500000000⟩ =
      .ok (some ⟨dateOfYo 2017 1, ⟨0, 0⟩⟩) ∧
    NaiveDT.checked_add_signed ⟨dateOfYo 2016 366, ⟨86399, 1500000000⟩⟩ ⟨0, 499999999⟩ =
      .ok (some ⟨dateOfYo 2016 366, ⟨86399, 1999999999⟩⟩) ∧
    NaiveDT.checked_sub_signed ⟨dateOfYo 2016 366, ⟨86399, 1500000000⟩⟩ ⟨86400 * 366, 0⟩ =
      .ok (some ⟨dateOfYo 2016 1, ⟨0, 500000000⟩⟩) ∧                -- 23:59:60.5 is 86400.5 s into the day
    NaiveDT.checked_add_signed ⟨Date.MAX, ⟨86399, 1500000000⟩⟩ ⟨0, 499999999⟩ =
      .ok (some ⟨Date.MAX, ⟨86399, 1999999999⟩⟩) ∧
    NaiveDT.checked_add_signed ⟨Date.MAX, ⟨86399, 1500000000⟩⟩ ⟨0, 500000000⟩ = .ok none ∧
    NaiveDT.checked_sub_signed ⟨Date.MAX, ⟨86399, 1500000000⟩⟩ ⟨-1, 500000000⟩ = .ok none ∧
    NaiveDT.checked_add_signed ⟨Date.MIN, ⟨0, 1000000000⟩⟩ ⟨-2, 999999999⟩ = .ok none ∧
    NaiveDT.checked_sub_signed ⟨Date.MIN, ⟨0, 1000000000⟩⟩ ⟨1, 0⟩ = .ok (some ⟨Date.MIN, ⟨0, 0⟩⟩) ∧
    NaiveDT.checked_add_signed ⟨Date.MIN, ⟨0, 1000000000⟩⟩ Delta.MAX = .ok none ∧
    NaiveDT.signed_duration_since ⟨dateOfYo 2017 1, ⟨0, 0⟩⟩ ⟨dateOfYo 2016 366, ⟨86399, 500000000⟩⟩ =
      .ok ⟨0, 500000000⟩ ∧
    NaiveDT.signed_duration_since ⟨dateOfYo 2016 366, ⟨86399, 1500000000⟩⟩ ⟨dateOfYo 2016 366, ⟨0, 0⟩⟩ =
      .ok ⟨86400, 500000000⟩ ∧
    NaiveDT.signed_duration_since ⟨dateOfYo 2016 366, ⟨0, 0⟩⟩ ⟨dateOfYo 2016 366, ⟨86399, 1500000000⟩⟩ =
      .ok ⟨-86401, 500000000⟩ ∧
    NaiveDT.signed_duration_since ⟨Date.MAX, ⟨86399, 1999999999⟩⟩ ⟨Date.MIN, ⟨0, 0⟩⟩ =
      .ok ⟨16544868105600, 999999999⟩ := by decide +kernel

/-- OBSERVATION (crate and model agree; confirmed on the pinned crate): the time-of-day distance
`diffLeap` places both operands in ONE day, so a leap second at the very end of a day is *later* than
the 00:00:00 it is compared with, and adding the whole days does not undo that: although
2016-12-31T23:59:60.5 + 0.5 s = 2017-01-01T00:00:00 and the derived order says the latter is greater,
`2017-01-01T00:00:00 − 2016-12-31T23:59:60.5` is −0.5 s (and the reverse +0.5 s).  `datetime_diff`
states exactly this closed form; antisymmetry holds. -/
example :
    NaiveDT.checked_add_signed ⟨dateOfYo 2016 366, ⟨86399, 1500000000⟩⟩ ⟨0, 500000000⟩ =
      .ok (some ⟨dateOfYo 2017 1, ⟨0, 0⟩⟩) ∧
    NaiveDT.cmp ⟨dateOfYo 2017 1, ⟨0, 0⟩⟩ ⟨dateOfYo 2016 366, ⟨86399, 1500000000⟩⟩ = 1 ∧
    NaiveDT.signed_duration_since ⟨dateOfYo 2017 1, ⟨0, 0⟩⟩ ⟨dateOfYo 2016 366, ⟨86399, 1500000000⟩⟩ =
      .ok ⟨-1, 500000000⟩ ∧
    NaiveDT.signed_duration_since ⟨dateOfYo 2016 366, ⟨86399, 1500000000⟩⟩ ⟨dateOfYo 2017 1, ⟨0, 0⟩⟩ =
      .ok ⟨0, 500000000⟩ := by decide +kernel

/-! ### Date-time difference after date-time addition (audit G1) -/

/-- (audit G1, universal) if `b = a + d` was accepted, then `b − a` never panics and is `d` plus
`diffAddErr` of the time of day (0, +1 s or −1 s), and `a − b` is its negation.  The error is
non-zero only for a leap-second `a` that was left across a day boundary (see `Spec.diffAddErr`). -/
theorem datetime_diff_after_add (a b : NaiveDT) (d : Delta) (ha : NDTInv a) (hd : DInv d)
    (h : NaiveDT.checked_add_signed a d = .ok (some b)) :
    NDTInv b ∧
    NaiveDT.signed_duration_since b a = .ok (ofNs (ns d + diffAddErr a.time (ns d))) ∧
    NaiveDT.signed_duration_since a b = .ok (ofNs (-(ns d + diffAddErr a.time (ns d)))) := by
  obtain ⟨r, h0, hs, hx⟩ := Proofs.TimeCarry.add_outcome a d ha hd
  rw [h] at h0
  have hr : r = some b := (Res.ok.inj h0).symm
  obtain ⟨ht, hb⟩ := hx b hr
  have hday : dayNumOf b.date = dayNumOf a.date + (addLeap a.time (ns d)).2 / 86400 :=
    (hs.2 b.date (by rw [hr]; rfl)).2
  have hm := (addLeap_facts a.time (ns d) ha.2).2.1
  have key := Proofs.TimeGaps.diff_after_add a.time (ns d) ha.2
  obtain ⟨f1, _, _, f4⟩ := datetime_diff b a hb ha
  obtain ⟨g1, _⟩ := datetime_diff a b ha hb
  have e1 : (dayNumOf b.date - dayNumOf a.date) * 86400000000000 + diffLeap b.time a.time =
      ns d + diffAddErr a.time (ns d) := by
    rw [ht]; omega
  exact ⟨hb, by rw [f1, e1], by rw [g1, f4, e1]⟩

/-- (audit G1, the positive law on the domain where it holds) `(a + d) − a = d` for every ordinary
`a`, and for a leap-second `a` whenever the time-of-day addition did not cross a day boundary -/
theorem datetime_diff_inverts_add (a b : NaiveDT) (d : Delta) (ha : NDTInv a) (hd : DInv d)
    (h : NaiveDT.checked_add_signed a d = .ok (some b))
    (hdom : a.time.frac < 1000000000 ∨ (addLeap a.time (ns d)).2 = 0) :
    NaiveDT.signed_duration_since b a = .ok d := by
  have e : diffAddErr a.time (ns d) = 0 := by
    rcases hdom with h1 | h1
    · exact Proofs.TimeGaps.diffAddErr_nonleap _ _ h1
    · exact Proofs.TimeGaps.diffAddErr_same_day _ _ h1
  rw [(datetime_diff_after_add a b d ha hd h).2.1, e, Int.add_zero, ofNs_ns d hd]

/-- (audit G1, outside that domain; kernel-checked, confirmed on the real crate) a leap second at the
end of a day: 2016-12-31T23:59:60.5 + 0.5 s = 2017-01-01T00:00:00, the derived order says the sum
is later, yet `(a + d) − a` is −0.5 s, not +0.5 s; and 2016-12-31T23:59:60.5 + 1 day
= 2017-01-01T23:59:59.5 but the difference back is 86399 s.  Backwards: a leap representation
following 00:00:00, minus 2 s, lands on the previous day and the difference back is −1 s.
The crate's own doc test of `NaiveDateTime::signed_duration_since` asserts a value of this kind
(2015-07-01T01:00:00 − 2015-06-30T23:59:60.5 = 3599.5 s, last conjunct), so this is documented
behaviour; the property statement asks of differences only antisymmetry, which holds. -/
theorem datetime_diff_not_line_distance :
    NaiveDT.checked_add_signed ⟨dateOfYo 2016 366, ⟨86399, 1500000000⟩⟩ ⟨0, 500000000⟩ =
      .ok (some ⟨dateOfYo 2017 1, ⟨0, 0⟩⟩) ∧
    NaiveDT.cmp ⟨dateOfYo 2017 1, ⟨0, 0⟩⟩ ⟨dateOfYo 2016 366, ⟨86399, 1500000000⟩⟩ = 1 ∧
    NaiveDT.signed_duration_since ⟨dateOfYo 2017 1, ⟨0, 0⟩⟩ ⟨dateOfYo 2016 366, ⟨86399, 1500000000⟩⟩ =
      .ok ⟨-1, 500000000⟩ ∧
    dtDiffLine ⟨dateOfYo 2017 1, ⟨0, 0⟩⟩ ⟨dateOfYo 2016 366, ⟨86399, 1500000000⟩⟩ = 500000000 ∧
    NaiveDT.checked_add_signed ⟨dateOfYo 2016 366, ⟨86399, 1500000000⟩⟩ ⟨86400, 0⟩ =
      .ok (some ⟨dateOfYo 2017 1, ⟨86399, 500000000⟩⟩) ∧
    NaiveDT.signed_duration_since ⟨dateOfYo 2017 1, ⟨86399, 500000000⟩⟩
      ⟨dateOfYo 2016 366, ⟨86399, 1500000000⟩⟩ = .ok ⟨86399, 0⟩ ∧
    NaiveDT.checked_add_signed ⟨dateOfYo 2017 1, ⟨0, 1500000000⟩⟩ ⟨-2, 0⟩ =
      .ok (some ⟨dateOfYo 2016 366, ⟨86399, 500000000⟩⟩) ∧
    NaiveDT.signed_duration_since ⟨dateOfYo 2016 366, ⟨86399, 500000000⟩⟩
      ⟨dateOfYo 2017 1, ⟨0, 1500000000⟩⟩ = .ok ⟨-1, 0⟩ ∧
    NaiveDT.signed_duration_since ⟨dateOfYo 2015 182, ⟨3600, 0⟩⟩ ⟨dateOfYo 2015 181, ⟨86399, 1500000000⟩⟩ =
      .ok ⟨3599, 500000000⟩ := by decide +kernel

/-- (audit G1, against an independent reading) `Spec.dtDiffLine` is the distance on the line of all
date-times that holds exactly the two operands' leap seconds — the rule of `diffLeap` with "earlier
second of the day" replaced by "earlier second of the time line".  For EVERY pair of valid
date-times the implementation returns that distance plus `crossErr a b − crossErr b a`; a cross
term is non-zero exactly for a leap-second operand on another date whose second of the day is
ordered against the other operand's the opposite way to the dates (−1 s / +1 s).
READ WITH CARE (audit2 §2 / L4): `Spec.crossErr` is DEFINED as (leap count of the day-plus-time-of-day
decomposition) − (leap count of the line), so the first conjunct is an algebraic identity once `datetime_diff` is
known; the content is in the second conjunct (the case form).  `datetime_diff_vs_line_cases` below states the
same with the case form as the definition (`Spec.crossCase`), so that nothing in the statement refers to what the
implementation counts. -/
theorem datetime_diff_vs_line (a b : NaiveDT) (ha : NDTInv a) (hb : NDTInv b) :
    NaiveDT.signed_duration_since a b = .ok (ofNs (dtDiffLine a b + crossErr a b - crossErr b a)) ∧
    crossErr a b =
      (if b.time.frac ≥ 1000000000 ∧ dayNumOf b.date < dayNumOf a.date ∧ a.time.secs ≤ b.time.secs
       then -1000000000
       else if b.time.frac ≥ 1000000000 ∧ dayNumOf a.date < dayNumOf b.date ∧
         b.time.secs < a.time.secs
       then 1000000000 else 0) := by
  refine ⟨?_, Proofs.TimeGaps.crossErr_cases a b ha.2 hb.2⟩
  rw [(datetime_diff a b ha hb).1, Proofs.TimeGaps.dt_diff_vs_line a b]

/-- (audit G1) the derived ORDER of date-times is the order on that extended line for every pair of
valid date-times, leap-second operands included — so on the inputs of
`datetime_diff_not_line_distance` it is the difference, not the order, that departs from the line
(`order_is_line_order` lifted to date-times; C03's `order_follows_diff` covers non-leap operands) -/
theorem datetime_order_is_line_order (a b : NaiveDT) (ha : NDTInv a) (hb : NDTInv b) :
    NaiveDT.cmp a b = sgn (dtDiffLine a b) := by
  -- on one date it is the order of the times of day (`order_is_line_order`; the two lines agree
  -- there); on different dates the date decides, on the line as well (`line_lt`)
  have ta := ha.2
  have tb := hb.2
  unfold TValid at ta tb
  unfold NaiveDT.cmp
  dsimp only
  rw [date_cmp_spec a.date b.date ha.1 hb.1]
  rcases Int.lt_trichotomy (dayNumOf a.date) (dayNumOf b.date) with h | h | h
  · have hd : sgn (dayNumOf a.date - dayNumOf b.date) = -1 := by unfold sgn; rw [if_pos (by omega)]
    have : dtDiffLine a b < 0 :=
      Int.sub_neg_of_lt (line_lt _ _ _ _ ta.2.2.2 tb.2.2.1 (by unfold instSecs; omega))
    rw [hd, if_pos (by decide)]
    unfold sgn
    rw [if_pos this]
  · have hd : sgn (dayNumOf a.date - dayNumOf b.date) = 0 := by
      unfold sgn; rw [if_neg (by omega), if_neg (by omega)]
    have e : dtDiffLine a b = diffLeap a.time b.time := by
      have := Proofs.TimeGaps.dt_diff_vs_line a b
      rw [Proofs.TimeGaps.crossErr_zero a b (Or.inr h),
        Proofs.TimeGaps.crossErr_zero b a (Or.inr h.symm)] at this
      omega
    rw [hd, if_neg (by decide), order_is_line_order _ _ ha.2 hb.2, e]
    rfl
  · have hd : sgn (dayNumOf a.date - dayNumOf b.date) = 1 := by
      unfold sgn; rw [if_neg (by omega), if_pos (by omega)]
    have : 0 < dtDiffLine a b :=
      Int.sub_pos_of_lt (line_lt _ _ _ _ tb.2.2.2 ta.2.2.1 (by unfold instSecs; omega))
    rw [hd, if_pos (by decide)]
    unfold sgn
    rw [if_neg (by omega), if_pos this]

example : NaiveDT.cmp ⟨dateOfYo 2017 1, ⟨0, 0⟩⟩ ⟨dateOfYo 2016 366, ⟨86399, 1500000000⟩⟩ = 1 ∧
    sgn (dtDiffLine ⟨dateOfYo 2017 1, ⟨0, 0⟩⟩ ⟨dateOfYo 2016 366, ⟨86399, 1500000000⟩⟩) = 1 ∧
    NaiveDT.cmp ⟨dateOfYo 2016 366, ⟨86399, 1500000000⟩⟩ ⟨dateOfYo 2016 366, ⟨86399, 999999999⟩⟩ = 1 := by
  decide +kernel

/-- (audit G1) the date-time difference IS the extended-line distance `dtDiffLine` when the two
operands lie on one date or neither is a leap second.  `_partial`: for a leap-second operand on
another date the full statement is false (`datetime_diff_not_line_distance`); what holds there is
`datetime_diff_vs_line`. -/
theorem datetime_diff_is_line_distance_partial (a b : NaiveDT) (ha : NDTInv a) (hb : NDTInv b)
    (hdom : dayNumOf a.date = dayNumOf b.date ∨
      (a.time.frac < 1000000000 ∧ b.time.frac < 1000000000)) :
    NaiveDT.signed_duration_since a b = .ok (ofNs (dtDiffLine a b)) := by
  have e1 : crossErr a b = 0 := Proofs.TimeGaps.crossErr_zero a b (by
    rcases hdom with h | h
    · exact Or.inr h
    · exact Or.inl h.2)
  have e2 : crossErr b a = 0 := Proofs.TimeGaps.crossErr_zero b a (by
    rcases hdom with h | h
    · exact Or.inr h.symm
    · exact Or.inl h.1)
  rw [(datetime_diff_vs_line a b ha hb).1, e1, e2]
  exact congrArg _ (congrArg _ (by omega))

/-- (audit2 L4) `datetime_diff_vs_line` with the cross term given by its CASE definition `Spec.crossCase`
(earlier date and not-earlier second of the day: −1 s; later date and earlier second of the day: +1 s; else 0)
instead of by the implementation's own count: for every pair of valid date-times the difference is the
extended-line distance plus `crossCase a b − crossCase b a` -/
theorem datetime_diff_vs_line_cases (a b : NaiveDT) (ha : NDTInv a) (hb : NDTInv b) :
    NaiveDT.signed_duration_since a b =
      .ok (ofNs (dtDiffLine a b + crossCase a b - crossCase b a)) := by
  rw [(datetime_diff a b ha hb).1, Proofs.TimeGaps.dt_diff_vs_line a b,
    Proofs.TimeClosure.crossCase_eq a b ha.2 hb.2, Proofs.TimeClosure.crossCase_eq b a hb.2 ha.2]

example : NDTInv ⟨dateOfYo 2016 366, ⟨86399, 1500000000⟩⟩ ∧ DInv ⟨-3600, 0⟩ ∧
    crossCase ⟨dateOfYo 2017 1, ⟨0, 0⟩⟩ ⟨dateOfYo 2016 366, ⟨86399, 1500000000⟩⟩ = -1000000000 ∧
    crossCase ⟨dateOfYo 2016 366, ⟨86399, 500000000⟩⟩ ⟨dateOfYo 2017 1, ⟨0, 1500000000⟩⟩ = 1000000000 ∧
    (addLeap ⟨86399, 1500000000⟩ (ns ⟨-3600, 0⟩)).2 = 0 ∧
    NaiveDT.checked_add_signed ⟨dateOfYo 2016 366, ⟨86399, 1500000000⟩⟩ ⟨-3600, 0⟩ =
      .ok (some ⟨dateOfYo 2016 366, ⟨82800, 500000000⟩⟩) ∧
    NaiveDT.signed_duration_since ⟨dateOfYo 2016 366, ⟨82800, 500000000⟩⟩
      ⟨dateOfYo 2016 366, ⟨86399, 1500000000⟩⟩ = .ok ⟨-3600, 0⟩ ∧
    dtDiffLine ⟨dateOfYo 2016 366, ⟨86399, 1500000000⟩⟩ ⟨dateOfYo 2016 366, ⟨0, 0⟩⟩ = 86400500000000 ∧
    crossErr ⟨dateOfYo 2017 1, ⟨0, 0⟩⟩ ⟨dateOfYo 2016 366, ⟨86399, 1500000000⟩⟩ = -1000000000 := by
  decide +kernel

/-! ### Date-time subtraction is addition of the negated duration (audit2 L1) -/

/-- clause "subtraction equals addition of the negated duration" at DATE-TIME level: for every valid date-time
(leap representation on any second) and every `TimeDelta`, the negation never overflows and
`checked_sub_signed dt d` IS `checked_add_signed dt (−d)` — same refusal, same date, same time -/
theorem datetime_sub_is_add_neg (dt : NaiveDT) (d : Delta) (hdt : NDTInv dt) (hd : DInv d) :
    ∃ n, Delta.neg d = .ok n ∧ DInv n ∧ ns n = -(ns d) ∧
      NaiveDT.checked_sub_signed dt d = NaiveDT.checked_add_signed dt n :=
  Proofs.TimeClosure.dt_sub_is_add_neg dt d hdt hd

example : NDTInv ⟨Date.MIN, ⟨0, 1000000000⟩⟩ ∧ DInv ⟨1, 1⟩ ∧ Delta.neg ⟨1, 1⟩ = .ok ⟨-2, 999999999⟩ ∧
    NaiveDT.checked_sub_signed ⟨Date.MIN, ⟨0, 1000000000⟩⟩ ⟨1, 1⟩ = .ok none ∧
    NaiveDT.checked_add_signed ⟨Date.MIN, ⟨0, 1000000000⟩⟩ ⟨-2, 999999999⟩ = .ok none ∧
    NaiveDT.checked_sub_signed ⟨dateOfYo 2017 1, ⟨0, 1500000000⟩⟩ ⟨2, 0⟩ =
      .ok (some ⟨dateOfYo 2016 366, ⟨86399, 500000000⟩⟩) ∧
    NaiveDT.checked_add_signed ⟨dateOfYo 2017 1, ⟨0, 1500000000⟩⟩ ⟨-2, 0⟩ =
      .ok (some ⟨dateOfYo 2016 366, ⟨86399, 500000000⟩⟩) := by decide +kernel

/-! ### The operator forms of `NaiveDateTime` (audit2 L2) -/

/-- `impl Add / Sub / AddAssign / SubAssign <TimeDelta> for NaiveDateTime` (`Model/ArithOps.lean`: `expect` of the
checked form; harness ops `ar.dtopadd` / `ar.dtopsub`): for every valid date-time (leap representation on any
second) and every `TimeDelta` the operator PANICS exactly when day number + carry days lies outside
`[NaiveDate::MIN, NaiveDate::MAX]` — never for another reason — and otherwise returns what the checked form
returns (`datetime_leap_carry` says what that is) -/
theorem datetime_operators_spec (dt : NaiveDT) (d : Delta) (hdt : NDTInv dt) (hd : DInv d) :
    ((NaiveDT.add dt d = .panic ↔
        (dayNumOf dt.date + (addLeap dt.time (ns d)).2 / 86400 < DN_MIN ∨
         DN_MAX < dayNumOf dt.date + (addLeap dt.time (ns d)).2 / 86400)) ∧
      ∀ x, NaiveDT.add dt d = .ok x ↔ NaiveDT.checked_add_signed dt d = .ok (some x)) ∧
    ((NaiveDT.sub dt d = .panic ↔
        (dayNumOf dt.date + (addLeap dt.time (-(ns d))).2 / 86400 < DN_MIN ∨
         DN_MAX < dayNumOf dt.date + (addLeap dt.time (-(ns d))).2 / 86400)) ∧
      ∀ x, NaiveDT.sub dt d = .ok x ↔ NaiveDT.checked_sub_signed dt d = .ok (some x)) := by
  obtain ⟨⟨r1, e1, s1, _⟩, ⟨r2, e2, s2, _⟩⟩ := datetime_leap_carry dt d hdt hd
  exact ⟨Proofs.TimeClosure.expect_char dt _ _ r1 e1 s1, Proofs.TimeClosure.expect_char dt _ _ r2 e2 s2⟩

example : NDTInv ⟨Date.MAX, ⟨86399, 1500000000⟩⟩ ∧ DInv ⟨0, 500000000⟩ ∧
    NaiveDT.add ⟨Date.MAX, ⟨86399, 1500000000⟩⟩ ⟨0, 500000000⟩ = .panic ∧
    NaiveDT.add ⟨Date.MAX, ⟨86399, 1500000000⟩⟩ ⟨0, 499999999⟩ = .ok ⟨Date.MAX, ⟨86399, 1999999999⟩⟩ ∧
    NaiveDT.sub ⟨Date.MIN, ⟨0, 1000000000⟩⟩ ⟨1, 1⟩ = .panic ∧
    NaiveDT.sub ⟨Date.MIN, ⟨0, 1000000000⟩⟩ ⟨1, 0⟩ = .ok ⟨Date.MIN, ⟨0, 0⟩⟩ := by decide +kernel

/-! ### `TValid` is exactly the set of values the public API produces (audit2 M3) -/

/-- (audit2 M3 a) REACHABILITY: every representation the arithmetic theorems quantify over — a second of the day
with a fraction below 2·10⁹, i.e. a leap representation on ANY second — is built by two public calls:
`from_num_seconds_from_midnight_opt(secs, 0)` then `with_nanosecond(frac)`.  So `TValid` is not wider than what
user code can hold. -/
theorem tvalid_reachable (t : Time) (ht : TValid t) :
    (Time.from_num_seconds_from_midnight_opt t.secs 0).bind (fun u => u.with_nanosecond t.frac) = some t :=
  Proofs.TimeClosure.reachable t ht

/-- (audit2 M3 b) CLOSURE: whatever the five constructors accept (unsigned arguments) is an accepted time
(`TStrict`, hence `TValid`); from a valid time every `with_*`, `overflowing_add_signed / overflowing_sub_signed`
(carry a whole number of days), the operators `+ - += -=` with `TimeDelta` and with `core::time::Duration`, and
the offset shifts (fraction kept) return a valid time; `MIN` and `MAX` are accepted times.  For date-times the
closure is the last clause of `datetime_leap_carry` (`NDTInv` of every result).  With `tvalid_reachable`: the
quantifier "all times of day" of the arithmetic theorems is exactly {t | TValid t} = the values the public API
can produce — neither wider nor narrower. -/
theorem tvalid_closed :
    (∀ h m s n r, 0 ≤ h → 0 ≤ m → 0 ≤ s → 0 ≤ n →
      (Time.from_hms_nano_opt h m s n = some r ∨ Time.from_hms_milli_opt h m s n = some r ∨
       Time.from_hms_micro_opt h m s n = some r ∨ Time.from_hms_opt h m s = some r ∨
       Time.from_num_seconds_from_midnight_opt s n = some r) → TStrict r) ∧
    (∀ t v r, TValid t → 0 ≤ v →
      (t.with_hour v = some r ∨ t.with_minute v = some r ∨ t.with_second v = some r ∨
       t.with_nanosecond v = some r) → TValid r) ∧
    (∀ t d p, TValid t → DInv d →
      (Time.overflowing_add_signed t d = .ok p ∨ Time.overflowing_sub_signed t d = .ok p) →
      TValid p.1 ∧ p.2 % 86400 = 0) ∧
    (∀ t d r, TValid t → DInv d →
      (Time.add t d = .ok r ∨ Time.sub t d = .ok r ∨ Time.add_assign t d = .ok r ∨
       Time.sub_assign t d = .ok r) → TValid r) ∧
    (∀ t secs nanos r, TValid t → 0 ≤ secs → 0 ≤ nanos ∧ nanos < 1000000000 →
      (Time.add_std t secs nanos = .ok r ∨ Time.sub_std t secs nanos = .ok r) → TValid r) ∧
    (∀ t off p, TValid t → -86400 < off ∧ off < 86400 →
      (Time.overflowing_add_offset t off = .ok p ∨ Time.overflowing_sub_offset t off = .ok p) →
      TValid p.1 ∧ p.1.frac = t.frac) ∧
    TStrict Time.MIN ∧ TStrict Time.MAX := by
  refine ⟨?_, ?_, ?_, ?_, ?_, ?_, by decide, by decide⟩
  · intro h m s n r h0 m0 s0 n0 e
    rcases e with e | e | e | e | e
    · exact Proofs.TimeClosure.ctor_strict _ h m s n r h0 m0 s0 n0 (hms_nano_iff' h m s n) id e
    · exact Proofs.TimeClosure.ctor_strict _ h m s (n * 1000000) r h0 m0 s0 (by omega)
        (valid_iff_hms_milli h m s n n0) (by unfold okFields; omega) e
    · exact Proofs.TimeClosure.ctor_strict _ h m s (n * 1000) r h0 m0 s0 (by omega)
        (valid_iff_hms_micro h m s n n0) (by unfold okFields; omega) e
    · exact Proofs.TimeClosure.ctor_strict _ h m s 0 r h0 m0 s0 (by omega) (hms_iff' h m s)
        (by unfold okFields; omega) e
    · exact (num_seconds_reads_back s n s0 n0 r e).1
  · intro t v r ht hv e
    obtain ⟨⟨_, w1⟩, ⟨_, w2⟩, ⟨_, w3⟩, ⟨_, w4⟩⟩ := with_field_exactly_named t v ht hv
    rcases e with e | e | e | e
    exacts [(w1 r e).1, (w2 r e).1, (w3 r e).1, (w4 r e).1]
  · intro t d p ht hd e
    have fa := addLeap_facts t (ns d) ht
    have fs := addLeap_facts t (-(ns d)) ht
    rcases e with e | e
    · rw [add_spec' t d ht hd] at e; cases e
      exact ⟨fa.1, fa.2.1⟩
    · rw [sub_spec' t d ht hd] at e; cases e
      exact ⟨fs.1, by have := fs.2.1; show (-(addLeap t (-(ns d))).2) % 86400 = 0; omega⟩
  · intro t d r ht hd e
    have a : Time.add t d = .ok (addLeap t (ns d)).1 := Proofs.TimeGaps.op_add t d ht hd
    have s : Time.sub t d = .ok (addLeap t (-(ns d))).1 := Proofs.TimeGaps.op_sub t d ht hd
    have a' : Time.add_assign t d = .ok (addLeap t (ns d)).1 := a
    have s' : Time.sub_assign t d = .ok (addLeap t (-(ns d))).1 := s
    rcases e with e | e | e | e
    · rw [a] at e; cases e; exact (addLeap_facts t (ns d) ht).1
    · rw [s] at e; cases e; exact (addLeap_facts t (-(ns d)) ht).1
    · rw [a'] at e; cases e; exact (addLeap_facts t (ns d) ht).1
    · rw [s'] at e; cases e; exact (addLeap_facts t (-(ns d)) ht).1
  · intro t secs nanos r ht hs hn e
    obtain ⟨a, s⟩ := time_std_spec' t secs nanos ht hs hn
    rcases e with e | e
    · rw [a] at e; cases e; exact (addLeap_facts t _ ht).1
    · rw [s] at e; cases e; exact (addLeap_facts t _ ht).1
  · intro t off p ht ho e
    obtain ⟨a, s, f, v, _⟩ := offset' t off ht ho
    obtain ⟨_, _, f', v', _⟩ := offset' t (-off) ht (by omega)
    rcases e with e | e
    · rw [a] at e; cases e; exact ⟨v, f⟩
    · rw [s] at e; cases e; exact ⟨v', f'⟩

/-- non-vacuity: a leap representation on an ordinary second (which no constructor accepts) is reached by the two
calls, and arithmetic on it stays inside `TValid` -/
example : TValid ⟨3723, 1999999999⟩ ∧ ¬ TStrict ⟨3723, 1999999999⟩ ∧
    (Time.from_num_seconds_from_midnight_opt 3723 0).bind (fun u => u.with_nanosecond 1999999999) =
      some ⟨3723, 1999999999⟩ ∧
    Time.overflowing_sub_signed ⟨3723, 1999999999⟩ ⟨0, 999999999⟩ = .ok (⟨3723, 1000000000⟩, 0) ∧
    Time.overflowing_add_offset ⟨3723, 1999999999⟩ (-3724) = .ok (⟨86399, 1999999999⟩, -1) := by decide

/-- the day-number contract used before the packed date existed (`Model/TimeCarry.lean`:
`NaiveDate::add_days` replaced by "day + n, refused outside a window `[lo, hi]`", the date
difference by a subtraction of day numbers), in closed form, for every window inside ±10⁸ days.
Full-strength statements about that abstract model; `daynumber_model_is_image` ties it to the packed
model.  The harness ops `tm.dtadd` / `tm.dtsub` / `tm.dtdiff` run this model. -/
theorem daynumber_carry (lo hi day : Int) (t : Time) (d : Delta) (ht : TValid t)
    (hd : DInv d) (hw : -100000000 ≤ lo ∧ hi ≤ 100000000 ∧ lo ≤ day ∧ day ≤ hi) :
    TimeCarry.checked_add_signed lo hi day t d =
      .ok (if lo ≤ day + (addLeap t (ns d)).2 / 86400 ∧ day + (addLeap t (ns d)).2 / 86400 ≤ hi
           then some (day + (addLeap t (ns d)).2 / 86400, (addLeap t (ns d)).1) else none) ∧
    TimeCarry.checked_sub_signed lo hi day t d =
      .ok (if lo ≤ day + (addLeap t (-(ns d))).2 / 86400 ∧ day + (addLeap t (-(ns d))).2 / 86400 ≤ hi
           then some (day + (addLeap t (-(ns d))).2 / 86400, (addLeap t (-(ns d))).1) else none) := by
  unfold TimeCarry.checked_add_signed TimeCarry.checked_sub_signed
  rw [add_spec' t d ht hd, sub_spec' t d ht hd, rbind_ok, rbind_ok]
  dsimp only
  have hm := (addLeap_facts t (-(ns d)) ht).2.1
  constructor
  · rcases carry_whole_days _ (addLeap_facts t (ns d) ht).2.1 with ⟨e, hbig⟩ | ⟨e, hdays⟩
    · rw [e, if_neg (by omega)]
    · rw [e]
      dsimp only
      rw [hdays]
      exact days_guard lo hi day _ _ hw
  · rcases carry_whole_days (-(addLeap t (-(ns d))).2) (by omega) with ⟨e, hbig⟩ | ⟨e, hdays⟩
    · rw [e, if_neg (by omega)]
    · have hb := addLeap_carry_bound t (-(ns d)) ht (by
        have := hd.2.2
        simp only [nsInRange, NS_MAX] at this
        omega)
      rw [e]
      dsimp only
      rw [hdays, ckI64_ok (by omega) (by omega), rbind_ok,
        (by omega : -(-(addLeap t (-(ns d))).2 / 86400) = (addLeap t (-(ns d))).2 / 86400)]
      exact days_guard lo hi day _ _ hw

theorem daynumber_diff (dayA dayB : Int) (ta tb : Time) (ha : TValid ta) (hb : TValid tb)
    (hw : -200000000 ≤ dayA - dayB ∧ dayA - dayB ≤ 200000000) :
    TimeCarry.signed_duration_since dayA ta dayB tb =
      .ok (ofNs ((dayA - dayB) * 86400000000000 + diffLeap ta tb)) := by
  unfold TimeCarry.signed_duration_since Delta.try_days
  rw [try_unit_exact' SECS_PER_DAY (dayA - dayB) (by right; right; right; left; rfl) (by omega)]
  have hS : SECS_PER_DAY = 86400 := rfl
  have hd := diff_spec' ta tb ha hb
  have hr1 : nsInRange ((dayA - dayB) * SECS_PER_DAY * 1000000000) := by
    simp only [nsInRange, NS_MAX, hS]; omega
  have hr2 : nsInRange (diffLeap ta tb) := by simp only [nsInRange, NS_MAX]; omega
  have hr3 : nsInRange ((dayA - dayB) * SECS_PER_DAY * 1000000000 + diffLeap ta tb) := by
    simp only [nsInRange, NS_MAX, hS]; omega
  have e : (dayA - dayB) * SECS_PER_DAY * 1000000000 = (dayA - dayB) * 86400000000000 := by
    rw [hS]; omega
  rw [if_pos hr1]
  dsimp only
  rw [hd.1, rbind_ok, add_exact' _ _ (ofNs_spec' _ hr1).1 hd.2.1, rbind_ok, (ofNs_spec' _ hr1).2,
    (ofNs_spec' _ hr2).2, if_pos hr3]
  dsimp only
  rw [e]

/-- the day-number model, run on the day numbers of real dates with the window
`[dayNum NaiveDate::MIN, dayNum NaiveDate::MAX]`, returns exactly the image (date ↦ day number) of
what the packed model returns — the abstraction of the date loses nothing -/
theorem daynumber_model_is_image (dt b : NaiveDT) (δ : Delta) (hdt : NDTInv dt) (hb : NDTInv b)
    (hδ : DInv δ) :
    (∃ r, NaiveDT.checked_add_signed dt δ = .ok r ∧
      TimeCarry.checked_add_signed DN_MIN DN_MAX (dayNumOf dt.date) dt.time δ =
        .ok (r.map (fun x => (dayNumOf x.date, x.time)))) ∧
    (∃ r, NaiveDT.checked_sub_signed dt δ = .ok r ∧
      TimeCarry.checked_sub_signed DN_MIN DN_MAX (dayNumOf dt.date) dt.time δ =
        .ok (r.map (fun x => (dayNumOf x.date, x.time)))) ∧
    TimeCarry.signed_duration_since (dayNumOf dt.date) dt.time (dayNumOf b.date) b.time =
      NaiveDT.signed_duration_since dt b := by
  obtain ⟨r1, a0, a1⟩ := Proofs.TimeCarry.add_outcome dt δ hdt hδ
  obtain ⟨r2, s0, s1⟩ := Proofs.TimeCarry.sub_outcome dt δ hdt hδ
  have hw := Proofs.TimeCarry.window_ok dt.date hdt.1
  have ba := dn_bounds dt.date hdt.1
  have bb := dn_bounds b.date hb.1
  refine ⟨⟨r1, a0, ?_⟩, ⟨r2, s0, ?_⟩, ?_⟩
  · rw [(daynumber_carry DN_MIN DN_MAX (dayNumOf dt.date) dt.time δ hdt.2 hδ hw).1]
    exact congrArg _ (Proofs.TimeCarry.outcome_image dt (ns δ) r1 a1)
  · rw [(daynumber_carry DN_MIN DN_MAX (dayNumOf dt.date) dt.time δ hdt.2 hδ hw).2]
    exact congrArg _ (Proofs.TimeCarry.outcome_image dt (-(ns δ)) r2 s1)
  · rw [daynumber_diff _ _ dt.time b.time hdt.2 hb.2 (by omega), (dt_diff_general dt b hdt hb).1]
    rfl

example : DN_MIN = -95746129 ∧ DN_MAX = 95745399 ∧
    TimeCarry.checked_add_signed DN_MIN DN_MAX 735779 ⟨86399, 1500000000⟩ ⟨0, 500000000⟩ =
      .ok (some (735780, ⟨0, 0⟩)) ∧
    TimeCarry.checked_add_signed DN_MIN DN_MAX DN_MAX ⟨86399, 1500000000⟩ ⟨0, 500000000⟩ =
      .ok none := by decide

/-! ### The documented examples -/

/-- doc comment of `overflowing_add_signed` / `overflowing_sub_signed` (from_hms(3,4,5) ± hours) -/
example :
    Time.overflowing_add_signed (ofFields 3 4 5 0) ⟨11 * 3600, 0⟩ = .ok (ofFields 14 4 5 0, 0) ∧
    Time.overflowing_add_signed (ofFields 3 4 5 0) ⟨23 * 3600, 0⟩ = .ok (ofFields 2 4 5 0, 86400) ∧
    Time.overflowing_add_signed (ofFields 3 4 5 0) ⟨-7 * 3600, 0⟩ = .ok (ofFields 20 4 5 0, -86400) ∧
    Time.overflowing_sub_signed (ofFields 3 4 5 0) ⟨2 * 3600, 0⟩ = .ok (ofFields 1 4 5 0, 0) ∧
    Time.overflowing_sub_signed (ofFields 3 4 5 0) ⟨17 * 3600, 0⟩ = .ok (ofFields 10 4 5 0, 86400) ∧
    Time.overflowing_sub_signed (ofFields 3 4 5 0) ⟨-22 * 3600, 0⟩ = .ok (ofFields 1 4 5 0, -86400) := by
  decide

/-- doc comment of `signed_duration_since`: the eight plain and the five leap-second cases -/
example :
    let t := ofFields 3 5 7 900000000
    Time.signed_duration_since t (ofFields 3 5 7 900000000) = .ok ⟨0, 0⟩ ∧
    Time.signed_duration_since t (ofFields 3 5 7 875000000) = .ok ⟨0, 25000000⟩ ∧
    Time.signed_duration_since t (ofFields 3 5 6 925000000) = .ok ⟨0, 975000000⟩ ∧
    Time.signed_duration_since t (ofFields 3 5 0 900000000) = .ok ⟨7, 0⟩ ∧
    Time.signed_duration_since t (ofFields 3 0 7 900000000) = .ok ⟨300, 0⟩ ∧
    Time.signed_duration_since t (ofFields 0 5 7 900000000) = .ok ⟨10800, 0⟩ ∧
    Time.signed_duration_since t (ofFields 4 5 7 900000000) = .ok ⟨-3600, 0⟩ ∧
    Time.signed_duration_since t (ofFields 2 4 6 800000000) = .ok ⟨3661, 100000000⟩ ∧
    Time.signed_duration_since (ofFields 3 0 59 1000000000) (ofFields 3 0 59 0) = .ok ⟨1, 0⟩ ∧
    Time.signed_duration_since (ofFields 3 0 59 1500000000) (ofFields 3 0 59 0) = .ok ⟨1, 500000000⟩ ∧
    Time.signed_duration_since (ofFields 3 0 59 1000000000) (ofFields 3 0 0 0) = .ok ⟨60, 0⟩ ∧
    Time.signed_duration_since (ofFields 3 0 0 0) (ofFields 2 59 59 1000000000) = .ok ⟨1, 0⟩ ∧
    Time.signed_duration_since (ofFields 3 0 59 1000000000) (ofFields 2 59 59 1000000000) = .ok ⟨61, 0⟩ := by
  decide

/-- the rule list of the type's documentation ("03:00:60 and 04:00:60 are leap seconds"):
`Time + TimeDelta` -/
example :
    Time.add (ofFields 3 0 0 0) ⟨1, 0⟩ = .ok (ofFields 3 0 1 0) ∧
    Time.add (ofFields 3 0 59 0) ⟨60, 0⟩ = .ok (ofFields 3 1 59 0) ∧
    Time.add (ofFields 3 0 59 0) ⟨61, 0⟩ = .ok (ofFields 3 2 0 0) ∧
    Time.add (ofFields 3 0 59 0) ⟨1, 0⟩ = .ok (ofFields 3 1 0 0) ∧
    Time.add (ofFields 3 0 59 1000000000) ⟨1, 0⟩ = .ok (ofFields 3 1 0 0) ∧
    Time.add (ofFields 3 0 59 1000000000) ⟨60, 0⟩ = .ok (ofFields 3 1 59 0) ∧
    Time.add (ofFields 3 0 59 1000000000) ⟨61, 0⟩ = .ok (ofFields 3 2 0 0) ∧
    Time.add (ofFields 3 0 59 1100000000) ⟨0, 800000000⟩ = .ok (ofFields 3 0 59 1900000000) := by
  decide

/-- `Time - TimeDelta` -/
example :
    Time.sub (ofFields 3 0 0 0) ⟨1, 0⟩ = .ok (ofFields 2 59 59 0) ∧
    Time.sub (ofFields 3 1 0 0) ⟨1, 0⟩ = .ok (ofFields 3 0 59 0) ∧
    Time.sub (ofFields 3 1 0 0) ⟨60, 0⟩ = .ok (ofFields 3 0 0 0) ∧
    Time.sub (ofFields 3 0 59 1000000000) ⟨60, 0⟩ = .ok (ofFields 3 0 0 0) ∧
    Time.sub (ofFields 3 0 59 1700000000) ⟨0, 400000000⟩ = .ok (ofFields 3 0 59 1300000000) ∧
    Time.sub (ofFields 3 0 59 1700000000) ⟨0, 900000000⟩ = .ok (ofFields 3 0 59 800000000) := by
  decide

/-- `Time - Time` -/
example :
    Time.signed_duration_since (ofFields 4 0 0 0) (ofFields 3 0 0 0) = .ok ⟨3600, 0⟩ ∧
    Time.signed_duration_since (ofFields 3 1 0 0) (ofFields 3 0 0 0) = .ok ⟨60, 0⟩ ∧
    Time.signed_duration_since (ofFields 3 0 59 1000000000) (ofFields 3 0 0 0) = .ok ⟨60, 0⟩ ∧
    Time.signed_duration_since (ofFields 3 0 59 1600000000) (ofFields 3 0 59 400000000) = .ok ⟨1, 200000000⟩ ∧
    Time.signed_duration_since (ofFields 3 1 0 0) (ofFields 3 0 59 800000000) = .ok ⟨0, 200000000⟩ ∧
    Time.signed_duration_since (ofFields 3 1 0 0) (ofFields 3 0 59 1500000000) = .ok ⟨0, 500000000⟩ ∧
    Time.signed_duration_since (ofFields 4 0 59 1900000000) (ofFields 3 0 59 1100000000) =
      .ok ⟨3601, 800000000⟩ := by
  decide

/-- the documented non-law: `(Time + d) - d` need not be `Time` -/
example : ∃ r c, Time.overflowing_add_signed (ofFields 3 0 59 1000000000) ⟨1, 0⟩ = .ok (r, c) ∧
    Time.sub r ⟨1, 0⟩ = .ok (ofFields 3 0 59 0) ∧ ofFields 3 0 59 0 ≠ ofFields 3 0 59 1000000000 :=
  ⟨ofFields 3 1 0 0, 0, by decide⟩

end Chrono.Props.C07
