/-
  C05 — Local time follows the zone data: offsets, gaps and folds.
  Property statements; the lemmas behind them are in Proofs/TzLookupL.lean (TzLookupM.lean: what holds
  without separation; TzYearlyL.lean: the 400-year check of the year-by-year hypotheses and the
  seven-day windows of rule days; TzSeqL.lean: the transition-sequence reading; TzGlueL.lean: the
  user-visible layer; TzLocalL.lean: `Local` over a parsed file; TzBridgeL.lean: the tie to C04's offset shift).

  Domain of the wall-clock clauses.  They are proved exactly on `WellSeparated ∧ JoinSeparated` zones with
  `RuleYearly` rules (all decidable per zone; `ruleYearly_of_B`) for every reading but the property's
  excepted seconds (`NoBoundary'`).  Outside `WellSeparated` they are FALSE, in the model and in the real
  crate (`not_separated_counterexample`, `not_separated_second_candidate_counterexample`); what survives
  there is `from_local_earliest_sound`.  The harness judges those zones under a distinct message prefix.

  Rule half of the instant specification.  `offAt` decides an instant under a rule by the two rule
  transitions of its calendar year (the code's and glibc's convention).  `ruleDstSeq`
  (Spec/ZoneSeqSpec.lean) is the independent transition-sequence reading; `ruleDst_eq_seq` proves the two
  equal exactly on `OrderStable` rules, `order_flip_characterised` / `order_flip_phantom` say what the
  per-year convention does where the order flips (finding F30, widened to the lookup by instant).

  Model: `Chrono.M.TzL` (Model/TzLookup.lean) mirrors timezone.rs / rule.rs / the glue of unix.rs.
  Specification: `Chrono.Spec.Zone` (Spec/ZoneSpec.lean): proleptic Gregorian day count, POSIX rule
  days, the zone as a step function `ltAt`/`offAt`, `Classifies` (0/1/2 occurrences of a wall-clock
  reading, earliest first), `wallSet`.
  Instants are bounded by ±2^55 s (≈ ±1.1·10⁹ years) where the second calendar is involved: beyond the
  `i32` year range the code answers `Err`, which the correspondence covers.
-/
import Chrono.Proofs.TzLookupL
import Chrono.Proofs.TzLookupM
import Chrono.Proofs.TzYearlyL
import Chrono.Proofs.TzGlueL
import Chrono.Proofs.TzLocalL
import Chrono.Proofs.TzSeqL
import Chrono.Proofs.TzBridgeL

namespace Chrono.Props.C05
open Chrono Chrono.M.Tz Chrono.M.TzL Chrono.Spec.Zone Chrono.Extracted.TzL Chrono.Proofs.TzL

/-! ### data re-extracted from the Rust source on every run -/

/-- constants of the second calendar (`UNIX_OFFSET_SECS` is 2000-03-01 in the specification's day count) -/
theorem consts_ok :
    SECONDS_PER_DAY = 86400 ∧ DAYS_PER_WEEK = 7 ∧ SECONDS_PER_HOUR = 3600 ∧ SECONDS_PER_MINUTE = 60 ∧
    MINUTES_PER_HOUR = 60 ∧ MONTHS_PER_YEAR = 12 ∧ DAYS_PER_NORMAL_YEAR = 365 ∧ DAYS_PER_4_YEARS = 1461 ∧
    DAYS_PER_100_YEARS = 36524 ∧ DAYS_PER_400_YEARS = 146097 ∧ OFFSET_YEAR = 2000 ∧
    UNIX_OFFSET_SECS = Spec.Zone.dayNum 2000 3 1 * 86400 := consts_ok'

/-- every cell of the three month tables is what the calendar specification says -/
theorem tables_ok :
    (∀ m, m < 13 → 1 ≤ m → DAY_IN_MONTHS_NORMAL_YEAR.getD (m - 1) 0 = monthLen false m) ∧
    DAY_IN_MONTHS_NORMAL_YEAR.length = 12 ∧
    (∀ m, m < 13 → 1 ≤ m → CUMUL_DAY_IN_MONTHS_NORMAL_YEAR.getD (m - 1) 0 = daysBeforeMonth false m) ∧
    CUMUL_DAY_IN_MONTHS_NORMAL_YEAR.length = 12 ∧
    (∀ k, k < 12 → DAY_IN_MONTHS_LEAP_YEAR_FROM_MARCH.getD k 0 = monthLen true ((k + 2) % 12 + 1)) ∧
    DAY_IN_MONTHS_LEAP_YEAR_FROM_MARCH.length = 12 := tables_ok'

/-! ### the specification's calendar is the textbook one (validation of the spec, not of chrono) -/

theorem spec_calendar_recurrence (y : Int) :
    daysBeforeYear 1970 = 0 ∧ daysBeforeYear (y + 1) = daysBeforeYear y + (if leap y then 366 else 365) :=
  daysBeforeYear_rec y

/-- every day lies in exactly one calendar year, and `yearOf` computes it -/
theorem spec_year_unique (d y y' : Int) (h : IsYearOf d y) (h' : IsYearOf d y') :
    y = y' ∧ IsYearOf d (yearOf d) := ⟨isYearOf_unique d y y' h h', yearOf_spec d⟩

/-! ### the second calendar (rule.rs) -/

/-- `is_leap_year` and `days_since_unix_epoch` agree with the calendar for EVERY integer year -/
theorem second_calendar_days (y : Int) (m : Nat) (d : Int) (h1 : 1 ≤ m) (h2 : m ≤ 12) :
    M.TzL.is_leap_year y = leap y ∧ M.TzL.days_since_unix_epoch y m d = dayNum y m d :=
  ⟨is_leap_year_eq y, dse_eq y m d h1 h2⟩

/-- `UtcDateTime::from_timespec` inverts the day count: the fields it returns are a calendar date whose
day number is `⌊t/86400⌋` and a time of day worth `t mod 86400`; its year is the calendar year of `t` -/
theorem second_calendar_from_timespec (t : Int) (h : -36028797018963968 ≤ t ∧ t ≤ 36028797018963968) :
    ∃ dt, from_timespec t = some dt ∧ IsYearOf (t / 86400) dt.year ∧
      1 ≤ dt.month ∧ dt.month ≤ 12 ∧ 1 ≤ dt.month_day ∧
      dayNum dt.year dt.month.toNat dt.month_day = t / 86400 ∧
      dt.hour * 3600 + dt.minute * 60 + dt.second = t % 86400 ∧
      0 ≤ dt.hour ∧ dt.hour < 24 ∧ 0 ≤ dt.minute ∧ dt.minute < 60 ∧ 0 ≤ dt.second ∧ dt.second < 60 :=
  from_timespec_ok' t h

example : from_timespec 951868799 = some ⟨2000, 2, 29, 23, 59, 59⟩ := by decide
example : from_timespec (-1) = some ⟨1969, 12, 31, 23, 59, 59⟩ := by decide

/-- `RuleDay::{transition_date, unix_time}`: the three POSIX day forms, for every year -/
theorem rule_day_ok (d : RuleDay) (hv : ValidDay d) (y dt : Int) :
    unix_time d y dt = ruleDayNum d y * 86400 + dt ∧
    1 ≤ (transition_date d y).1 ∧ (transition_date d y).1 ≤ 12 :=
  ⟨unix_time_eq d hv y dt, transition_date_month d hv y⟩

-- second Sunday of March 2024 is March 10; J60 is March 1 in leap and common years alike
example : transition_date (.mwd 3 2 0) 2024 = (3, 10) ∧ transition_date (.julian1 60) 2024 = (3, 1) ∧
    transition_date (.julian1 60) 2023 = (3, 1) ∧ transition_date (.julian0 59) 2024 = (2, 29) ∧
    transition_date (.mwd 2 5 4) 2024 = (2, 29) := by decide

/-! ### lookup by instant -/

/-- the transition table: the type of the last transition at or before `t`, the first type before the
first transition; the rule is consulted exactly from the last transition on.  Any sorted table
(`binary_search_by_key` enters through its contract, see the model's header). -/
theorem offAt_table (z : Zone) (t : Int) (hs : Sorted z.transitions) (hl : z.leaps = []) :
    z.find_local_time_type t =
      (if afterLast z t then
        match z.rule with
        | some r => r.find_local_time_type t
        | none => some (tableAt z t)
      else some (tableAt z t)) := find_table' z t hs hl

/-- the rule: for rules whose transitions lie more than a day inside the year, the
previous/current/next-year cascade is the rule of the calendar year containing `t` -/
theorem rule_instant_ok (a : Alt) (hvS : ValidDay a.dstStart) (hvE : ValidDay a.dstEnd) (t : Int)
    (hin : InsideYear a) (h : -36028797018963968 ≤ t ∧ t ≤ 36028797018963968) :
    a.find_local_time_type t = some (ruleOff (.alt a) t) ∧
    ∃ Y, IsYearOf (t / 86400) Y ∧ ruleOff (.alt a) t = (if ruleDstIn a Y t then a.dst else a.std) := by
  refine ⟨alt_find_ruleOff a hvS hvE t hin h, ?_⟩
  obtain ⟨Y, hY, hf⟩ := alt_find' a hvS hvE t hin h
  refine ⟨Y, hY, ?_⟩
  have := alt_find_ruleOff a hvS hvE t hin h
  rw [hf] at this
  exact (Option.some.inj this).symm

/-- lookup by instant = the zone's step function, for any sorted zone without leap-second records -/
theorem offAt_ok (z : Zone) (t : Int) (hs : Sorted z.transitions) (hl : z.leaps = [])
    (hr : RuleOk z.rule) (h : -36028797018963968 ≤ t ∧ t ≤ 36028797018963968) :
    z.find_local_time_type t = some (ltAt z t) := by
  rw [find_table' z t hs hl]
  unfold ltAt
  cases hrule : z.rule with
  | none => simp
  | some r =>
    cases r with
    | fixed l =>
      simp only [Rule.find_local_time_type, ruleOff]
      split <;> rfl
    | alt a =>
      rw [hrule] at hr
      obtain ⟨h1, h2, h3⟩ := hr
      simp only [Rule.find_local_time_type, alt_find_ruleOff a h1 h2 t h3 h]
      split <;> rfl

/-- non-vacuity: a zone with a table, a footer rule `CST6CDT,J60,J300` and every hypothesis met -/
def exRule : Alt := ⟨⟨-21600, false, none⟩, ⟨-18000, true, none⟩, .julian1 60, 7200, .julian1 300, 7200⟩
def exZone : Zone :=
  ⟨[⟨-1633276800, 1⟩, ⟨-1615136400, 0⟩, ⟨1710000000, 1⟩], [⟨-21600, false, none⟩, ⟨-18000, true, none⟩], [],
   some (.alt exRule)⟩

theorem exRule_inside : InsideYear exRule :=
  (yearly_of_windows exRule _ _ (fun y => ⟨julian1_window y 60 (by decide), julian1_window y 300 (by decide)⟩)
    (by decide) (by decide) (by decide)).1

example : exZone.find_local_time_type 1720000000 = some (ltAt exZone 1720000000) :=
  offAt_ok exZone 1720000000 (by unfold Sorted exZone; decide) rfl
    ⟨by unfold ValidDay exRule; decide, by unfold ValidDay exRule; decide, exRule_inside⟩ (by omega)
example : (ltAt exZone 1720000000).off = -18000 ∧ (ltAt exZone 0).off = -21600 := by decide

/-! ### lookup by wall clock -/

/-- the rule code, all four hemisphere/sign branches and the equal-offset case: whenever the two rule
transitions of the year are further apart than twice the offset jump, every wall-clock reading other
than the two excepted boundary seconds is classified exactly (0, 1 or 2 occurrences under the
year's step function; the two candidates distinct and earliest first).  The two seconds are excepted
only when the rule changes the offset (`std.off ≠ dst.off`): a rule that changes only the
abbreviation / DST flag ends no skipped or repeated interval and has no excepted second. -/
theorem rule_from_local_classifies (a : Alt) (hvS : ValidDay a.dstStart) (hvE : ValidDay a.dstEnd)
    (y ℓ : Int) (hsep : RuleSeparated a (wallStart a y) (wallEnd a y))
    (hS : a.std.off ≠ a.dst.off → ℓ ≠ wallStart a y) (hE : a.std.off ≠ a.dst.off → ℓ ≠ wallEnd a y) :
    Classifies (yearOff a (wallStart a y) (wallEnd a y)) ℓ (a.find_local_time_type_from_local y ℓ) ∧
    ∀ t, yearOff a (wallStart a y) (wallEnd a y) t = (if ruleDstIn a y t then a.dst else a.std).off :=
  ⟨rule_from_local_classifies' a hvS hvE y ℓ hsep hS hE, fun t => yearOff_eq a y t hsep⟩

/-- round trip under a rule: the offset in force at `t` is among the candidates of `t`'s wall clock -/
theorem rule_roundtrip (a : Alt) (hvS : ValidDay a.dstStart) (hvE : ValidDay a.dstEnd)
    (y t : Int) (hsep : RuleSeparated a (wallStart a y) (wallEnd a y))
    (hS : a.std.off ≠ a.dst.off → t + yearOff a (wallStart a y) (wallEnd a y) t ≠ wallStart a y)
    (hE : a.std.off ≠ a.dst.off → t + yearOff a (wallStart a y) (wallEnd a y) t ≠ wallEnd a y) :
    yearOff a (wallStart a y) (wallEnd a y) t ∈
      (a.find_local_time_type_from_local y (t + yearOff a (wallStart a y) (wallEnd a y) t)).toList.map (·.off) :=
  classifies_roundtrip _ _ _ (rule_from_local_classifies' a hvS hvE y _ hsep hS hE) t rfl

-- US-style fold of 2024 under `exRule` (J300 = Oct 27): 01:30 local occurs twice, daylight time first
example : exRule.find_local_time_type_from_local 2024 1729992600 = .ambiguous exRule.dst exRule.std ∧
    RuleSeparated exRule (wallStart exRule 2024) (wallEnd exRule 2024) := by
  constructor
  · decide
  · unfold RuleSeparated; decide

/-- the pinned 0.4.40 behaviour (finding F16, repaired in /repo): with DST start and end in the same
month (`AAA0BBB-1,M3.1.0,M3.4.0`) the month-only hemisphere test answered daylight time for a
mid-January wall clock, although the instant lookup says standard time; the repaired test does not -/
theorem same_month_rule_pinned_counterexample :
    let a : Alt := ⟨⟨0, false, none⟩, ⟨3600, true, none⟩, .mwd 3 1 0, 7200, .mwd 3 4 0, 7200⟩
    alt_from_local_pinned_month_only a 1970 1209600 = .single a.dst ∧
    a.find_local_time_type_from_local 1970 1209600 = .single a.std ∧
    a.find_local_time_type 1209600 = some a.std := by decide

/-- the transition table (zones without a rule), ANY number of transitions: for a sorted table whose
wall-clock windows are `WellSeparated`, every wall-clock reading other than the excepted boundary
seconds yields None / Single / Ambiguous exactly when 0 / 1 / 2 instants of the zone's
step function `offAt` read it, with the right offsets, the two candidates distinct and earliest first.
The excepted seconds (`NoBoundary'`) are exactly the property's: `T + prevOff` of the transitions that
CHANGE the offset.  A transition that changes only the abbreviation or DST flag has no excepted second:
the statement covers the very second at which it happens.
(`InRange`: offsets are `i32`, transition times within ±2^62 so that no window saturates.) -/
theorem from_local_classifies (z : Zone) (ℓ : Int) (hrule : z.rule = none) (hs : Sorted z.transitions)
    (hsep : WellSeparated z) (hnb : NoBoundary' z (typeAt z 0).off z.transitions ℓ)
    (hr : InRange z z.transitions) :
    Classifies (offAt z) ℓ (z.find_local_time_type_from_local ℓ) :=
  from_local_classifies' z ℓ hrule hs hsep hnb hr

/-- round trip on such a zone: converting an instant to wall-clock time and back returns it -/
theorem roundtrip (z : Zone) (t : Int) (hrule : z.rule = none) (hs : Sorted z.transitions)
    (hsep : WellSeparated z) (hnb : NoBoundary' z (typeAt z 0).off z.transitions (t + offAt z t))
    (hr : InRange z z.transitions) :
    offAt z t ∈ (z.find_local_time_type_from_local (t + offAt z t)).toList.map (·.off) :=
  classifies_roundtrip _ _ _ (from_local_classifies' z _ hrule hs hsep hnb hr) t rfl

/-- non-vacuity: New-York-like table (gap 1918-03-31, fold 1918-10-27, gap 2024-03-10) -/
def exTable : Zone :=
  ⟨[⟨-1633280400, 1⟩, ⟨-1615140000, 0⟩, ⟨1710054000, 1⟩], [⟨-18000, false, none⟩, ⟨-14400, true, none⟩], [], none⟩

example : Classifies (offAt exTable) (-1615140000 - 18000 + 1800) (.ambiguous ⟨-14400, true, none⟩ ⟨-18000, false, none⟩) := by
  have h := from_local_classifies exTable (-1615140000 - 18000 + 1800) rfl (by unfold Sorted exTable; decide)
    (by unfold WellSeparated; decide) (by unfold exTable NoBoundary' NoBoundary' NoBoundary' NoBoundary'; decide)
    (inRange_of_all _ rfl rfl)
  have e : exTable.find_local_time_type_from_local (-1615140000 - 18000 + 1800) =
      .ambiguous ⟨-14400, true, none⟩ ⟨-18000, false, none⟩ := by decide
  rw [e] at h; exact h

/-! #### outside `WellSeparated`: the clause is FALSE (model and real crate), and what still holds -/

/-- two transitions 600 s apart, `+0 → +1 h → +0`: the wall-clock window `[T₁, T₁+3600]` of the first
contains the window `{T₂}` … of the second -/
def nsZone : Zone :=
  ⟨[⟨1000000, 1⟩, ⟨1000600, 0⟩], [⟨0, false, none⟩, ⟨3600, true, none⟩], [], none⟩

/-- the step function of `nsZone`, spelled out -/
theorem nsZone_offAt (t : Int) :
    offAt nsZone t = if t < 1000000 then 0 else if t < 1000600 then 3600 else 0 := by
  rw [offAt_table_stepOff nsZone t rfl (by unfold Sorted nsZone; decide)]
  have e0 : (typeAt nsZone 0).off = 0 := by decide
  have e1 : (typeAt nsZone 1).off = 3600 := by decide
  show stepOff nsZone (typeAt nsZone 0).off [⟨1000000, 1⟩, ⟨1000600, 0⟩] t = _
  simp only [stepOff, e0, e1]
  split <;> split <;> (try split) <;> omega

/-- COUNTEREXAMPLE (confirmed on the real crate: `TZ=:<this zone as a TZif file>`,
`Local.from_local_datetime(1970-01-12 14:16:40)` is `None`, while `Local.timestamp_opt(1001800, 0)`
reads exactly that wall clock).  The zone is sorted and in range, the reading is no boundary second,
it occurs EXACTLY ONCE — and the lookup answers `None`.  So without `WellSeparated` the clause "a
wall-clock time that occurs exactly once yields exactly one result" and the round trip are false. -/
theorem not_separated_counterexample :
    ¬ WellSeparated nsZone ∧ Sorted nsZone.transitions ∧
    NoBoundary nsZone (typeAt nsZone 0).off nsZone.transitions 1001800 ∧
    wallSet nsZone 1001800 = [1001800] ∧ (∀ t, t + offAt nsZone t = 1001800 ↔ t = 1001800) ∧
    nsZone.find_local_time_type_from_local 1001800 = .none ∧
    ¬ Classifies (offAt nsZone) 1001800 (nsZone.find_local_time_type_from_local 1001800) ∧
    offAt nsZone 1001800 ∉ (nsZone.find_local_time_type_from_local (1001800 + offAt nsZone 1001800)).toList.map (·.off) := by
  have once : ∀ t, t + offAt nsZone t = 1001800 ↔ t = 1001800 := by
    intro t; rw [nsZone_offAt]; split <;> (try split) <;> omega
  have e : nsZone.find_local_time_type_from_local 1001800 = .none := by decide
  refine ⟨by unfold WellSeparated; decide, by unfold Sorted nsZone; decide,
    by unfold nsZone NoBoundary NoBoundary NoBoundary; decide, by decide, once, e, ?_, ?_⟩
  · rw [e]; intro h; exact h 1001800 ((once 1001800).mpr rfl)
  · have o : offAt nsZone 1001800 = 0 := by decide
    rw [o]; decide

/-- a fold whose window runs over the next transition: `+1 h → +0` at `T₁`, `→ +2 h` 600 s later -/
def nsZone2 : Zone :=
  ⟨[⟨1000000, 1⟩, ⟨1000600, 2⟩], [⟨3600, true, none⟩, ⟨0, false, none⟩, ⟨7200, true, none⟩], [], none⟩

/-- COUNTEREXAMPLE for the second candidate: the reading occurs exactly once (at `999400`), the
lookup answers `Ambiguous`; its FIRST candidate is that instant, its second (`1003000`, offset 0) is not
a reading at all: the zone prescribes `+2 h` there. -/
theorem not_separated_second_candidate_counterexample :
    ¬ WellSeparated nsZone2 ∧ wallSet nsZone2 1003000 = [999400] ∧
    nsZone2.find_local_time_type_from_local 1003000 = .ambiguous ⟨3600, true, none⟩ ⟨0, false, none⟩ ∧
    offAt nsZone2 (1003000 - 0) = 7200 := by
  refine ⟨by unfold WellSeparated; decide, by decide, by decide, by decide⟩

/-- WHAT HOLDS WITHOUT ANY SEPARATION HYPOTHESIS (sorted table of any length, no rule, any spacing of
the transitions): the earliest candidate the lookup reports — the value of `Single`, the first of
`Ambiguous` — is always a genuine reading: the instant `ℓ - x.off` has offset `x.off` under the zone's
step function.  What is lost outside `WellSeparated` is completeness (`None` or `Single` although
(more) instants read `ℓ`: `not_separated_counterexample`) and the second candidate of `Ambiguous`
(`not_separated_second_candidate_counterexample`).  The excepted seconds are only those of
offset-changing transitions (`NoBoundary'`). -/
theorem from_local_earliest_sound (z : Zone) (ℓ : Int) (hrule : z.rule = none) (hs : Sorted z.transitions)
    (hnb : NoBoundary' z (typeAt z 0).off z.transitions ℓ) (hr : InRange z z.transitions) :
    ∀ x, (z.find_local_time_type_from_local ℓ).earliest = some x →
      (ℓ - x.off) + offAt z (ℓ - x.off) = ℓ := by
  intro x hx
  rw [from_local_no_rule z ℓ hrule] at hx
  have := loop_earliest_sound z ℓ z.transitions (typeAt z 0) hs hnb hr (hr.1 0) x hx
  rw [offAt_table_stepOff z _ hrule hs, this]
  omega
/-- in particular every `Single` answer is a genuine reading, separated zone or not -/
theorem from_local_single_sound (z : Zone) (ℓ : Int) (x : Ltt) (hrule : z.rule = none) (hs : Sorted z.transitions)
    (hnb : NoBoundary' z (typeAt z 0).off z.transitions ℓ) (hr : InRange z z.transitions)
    (h : z.find_local_time_type_from_local ℓ = .single x) : (ℓ - x.off) + offAt z (ℓ - x.off) = ℓ :=
  from_local_earliest_sound z ℓ hrule hs hnb hr x (by rw [h]; rfl)

theorem nsZone_inRange : InRange nsZone nsZone.transitions ∧ InRange nsZone2 nsZone2.transitions :=
  ⟨inRange_of_all _ rfl rfl, inRange_of_all _ rfl rfl⟩

-- the hypotheses are met by the non-separated zones themselves: first candidate of the `Ambiguous` answer
example : (1003000 - 3600) + offAt nsZone2 (1003000 - 3600) = 1003000 :=
  from_local_earliest_sound nsZone2 1003000 rfl (by unfold Sorted nsZone2; decide)
    (by unfold nsZone2 NoBoundary' NoBoundary' NoBoundary'; decide) nsZone_inRange.2 ⟨3600, true, none⟩ (by decide)

/-! #### zones that have BOTH a transition table and a footer rule (every current system zone) -/

/-- THE COMPOSED STATEMENT.  For a zone with a transition table followed by an alternate-time footer
rule, under
* `WellSeparated z` — the wall-clock windows of consecutive table transitions are disjoint and in order,
* `RuleYearly a` — every rule transition and its two wall-clock images lie inside the calendar year,
  the start/end order is the same year after year, and the two transitions of a year are
  `RuleSeparated` (further apart than twice the offset jump),
* `JoinSeparated z` — DECIDABLE per zone (`joinSeparatedB`; the harness evaluates it and compares its
  own evaluation with the model's through op `tzl.sep`): at the last table transition `T` the rule
  prescribes the type the table switches to (what `TimeZone::new` validates), and every rule
  transition of the years around `T` is either at or before `T` with its window not above the last
  table window, or after `T` with its window strictly above it,
`find_local_time_type_from_local` classifies every wall-clock reading other than the excepted
boundary seconds (`T + prevOff` of each table transition that changes the offset; the rule's own
start/end wall-clock second of the reading's year, when the rule changes the offset AND the reading lies
beyond the last table window, `hiLast … < ℓ`: in the table era the rule's seconds are ordinary readings —
the loop answers them without consulting the rule — and the theorem covers them, see the `exZoneUS`
example at 1950-03-12 02:00 below) exactly as the zone's step function `offAt` demands: None / Single / Ambiguous
when 0 / 1 / 2 instants read it, with the right offsets, the two candidates distinct and earliest first.
`offAt` is the same function the composed lookup by instant is proved against (`offAt_ok` covers
table, rule and the hand-over at the last transition in one statement). -/
theorem from_local_classifies_composed (z : Zone) (a : Alt) (last : Transition) (ℓ : Int)
    (hrule : z.rule = some (.alt a)) (hl : z.transitions.getLast? = some last)
    (hs : Sorted z.transitions) (hsep : WellSeparated z) (hj : JoinSeparated z)
    (hvS : ValidDay a.dstStart) (hvE : ValidDay a.dstEnd) (hy : RuleYearly a)
    (hnb : NoBoundary' z (typeAt z 0).off z.transitions ℓ)
    (hS : a.std.off ≠ a.dst.off → hiLast z (typeAt z 0).off z.transitions < ℓ → ℓ ≠ wallStart a (naiveYear ℓ))
    (hE : a.std.off ≠ a.dst.off → hiLast z (typeAt z 0).off z.transitions < ℓ → ℓ ≠ wallEnd a (naiveYear ℓ))
    (hr : InRange z z.transitions) (hℓ : -36028797018963968 ≤ ℓ ∧ ℓ ≤ 36028797018963968) :
    Classifies (offAt z) ℓ (z.find_local_time_type_from_local ℓ) :=
  composed_alt_guarded' z a last ℓ hrule hl hs hsep hj hvS hvE hy hnb hS hE hr hℓ

/-- the round trip for such a zone: converting an instant to wall-clock time and back returns it -/
theorem roundtrip_composed (z : Zone) (a : Alt) (last : Transition) (t : Int)
    (hrule : z.rule = some (.alt a)) (hl : z.transitions.getLast? = some last)
    (hs : Sorted z.transitions) (hsep : WellSeparated z) (hj : JoinSeparated z)
    (hvS : ValidDay a.dstStart) (hvE : ValidDay a.dstEnd) (hy : RuleYearly a)
    (hnb : NoBoundary' z (typeAt z 0).off z.transitions (t + offAt z t))
    (hS : a.std.off ≠ a.dst.off → hiLast z (typeAt z 0).off z.transitions < t + offAt z t →
      t + offAt z t ≠ wallStart a (naiveYear (t + offAt z t)))
    (hE : a.std.off ≠ a.dst.off → hiLast z (typeAt z 0).off z.transitions < t + offAt z t →
      t + offAt z t ≠ wallEnd a (naiveYear (t + offAt z t)))
    (hr : InRange z z.transitions)
    (hℓ : -36028797018963968 ≤ t + offAt z t ∧ t + offAt z t ≤ 36028797018963968) :
    offAt z t ∈ (z.find_local_time_type_from_local (t + offAt z t)).toList.map (·.off) :=
  classifies_roundtrip _ _ _ (composed_alt_guarded' z a last _ hrule hl hs hsep hj hvS hvE hy hnb hS hE hr hℓ) t rfl

/-- the same with a fixed footer rule (`JoinSeparated` then says: the rule's offset is the one the
table ends on) -/
theorem from_local_classifies_fixed_rule (z : Zone) (l : Ltt) (last : Transition) (ℓ : Int)
    (hrule : z.rule = some (.fixed l)) (hl : z.transitions.getLast? = some last)
    (hs : Sorted z.transitions) (hsep : WellSeparated z) (hj : JoinSeparated z)
    (hnb : NoBoundary' z (typeAt z 0).off z.transitions ℓ) (hr : InRange z z.transitions) :
    Classifies (offAt z) ℓ (z.find_local_time_type_from_local ℓ) := by
  have hjo : l.off = (typeAt z last.idx).off := by
    unfold JoinSeparated joinSeparatedB at hj
    rw [hrule, hl] at hj
    simpa using hj
  rw [from_local_with_rule z (.fixed l) last ℓ hrule hl]
  have hc := compose z ℓ (fun _ => l.off) (.single l) last hl hs hsep hnb hr
    (fun _ _ => Or.inl hjo) (fun _ _ => Or.inl hjo)
    (fun _ => by simp only [Classifies]; intro t; omega)
  apply classifies_congr _ _ ℓ _ _ hc
  intro t
  rw [offAt_with_rule z (.fixed l) last t hrule hl hs]
  rfl
/-- the round trip with a fixed footer rule -/
theorem roundtrip_fixed_rule (z : Zone) (l : Ltt) (last : Transition) (t : Int)
    (hrule : z.rule = some (.fixed l)) (hl : z.transitions.getLast? = some last)
    (hs : Sorted z.transitions) (hsep : WellSeparated z) (hj : JoinSeparated z)
    (hnb : NoBoundary' z (typeAt z 0).off z.transitions (t + offAt z t)) (hr : InRange z z.transitions) :
    offAt z t ∈ (z.find_local_time_type_from_local (t + offAt z t)).toList.map (·.off) :=
  classifies_roundtrip _ _ _ (from_local_classifies_fixed_rule z l last _ hrule hl hs hsep hj hnb hr) t rfl

/-- the trivial zone shape: no transitions and a fixed rule (`TZ=UTC0`, `TZ=XXX-5:30`, the Etc/* files).
No hypothesis at all: one type, every reading occurs exactly once.  (No transitions and NO rule is
`from_local_classifies` with an empty table: all its hypotheses are trivially true, see the example.) -/
theorem from_local_classifies_fixed_only (z : Zone) (l : Ltt) (ℓ : Int)
    (hrule : z.rule = some (.fixed l)) (ht : z.transitions = []) :
    z.find_local_time_type_from_local ℓ = .single l ∧ (∀ t, z.find_local_time_type t = some l) ∧
    (∀ t, offAt z t = l.off) ∧ Classifies (offAt z) ℓ (z.find_local_time_type_from_local ℓ) := by
  have e1 : z.find_local_time_type_from_local ℓ = .single l := by
    unfold Zone.find_local_time_type_from_local; rw [hrule, ht]; rfl
  have e2 : ∀ t, offAt z t = l.off := by
    intro t; unfold offAt ltAt afterLast; rw [hrule, ht]; rfl
  refine ⟨e1, ?_, e2, ?_⟩
  · intro t; unfold Zone.find_local_time_type; rw [hrule, ht]; rfl
  · rw [e1]; intro t; rw [e2 t]; omega

theorem roundtrip_fixed_only (z : Zone) (l : Ltt) (t : Int)
    (hrule : z.rule = some (.fixed l)) (ht : z.transitions = []) :
    offAt z t ∈ (z.find_local_time_type_from_local (t + offAt z t)).toList.map (·.off) :=
  classifies_roundtrip _ _ _ (from_local_classifies_fixed_only z l _ hrule ht).2.2.2 t rfl

-- `TZ=XXX-5:30`
example : Classifies (offAt ⟨[], [⟨19800, false, none⟩], [], some (.fixed ⟨19800, false, none⟩)⟩) 0
    (Zone.find_local_time_type_from_local ⟨[], [⟨19800, false, none⟩], [], some (.fixed ⟨19800, false, none⟩)⟩ 0) :=
  (from_local_classifies_fixed_only _ ⟨19800, false, none⟩ 0 rfl rfl).2.2.2

-- a TZif file with one type, no transitions and no footer: `from_local_classifies` on the empty table
example (o : Int) (ho : -2147483648 ≤ o ∧ o ≤ 2147483647) (ℓ : Int) :
    Classifies (offAt ⟨[], [⟨o, false, none⟩], [], none⟩) ℓ
      (Zone.find_local_time_type_from_local ⟨[], [⟨o, false, none⟩], [], none⟩ ℓ) :=
  from_local_classifies _ ℓ rfl List.Pairwise.nil rfl trivial
    (inRange_of_all _ (by simpa using ho) rfl)

/-- a zone that is a POSIX rule only (`TZ=EST5EDT,M3.2.0,M11.1.0`): the statement against the rule's
step function over ALL years (not per calendar year) -/
theorem from_local_classifies_rule_only (z : Zone) (a : Alt) (ℓ : Int) (hrule : z.rule = some (.alt a))
    (ht : z.transitions = []) (hvS : ValidDay a.dstStart) (hvE : ValidDay a.dstEnd) (hy : RuleYearly a)
    (hS : a.std.off ≠ a.dst.off → ℓ ≠ wallStart a (naiveYear ℓ))
    (hE : a.std.off ≠ a.dst.off → ℓ ≠ wallEnd a (naiveYear ℓ))
    (hℓ : -36028797018963968 ≤ ℓ ∧ ℓ ≤ 36028797018963968) :
    Classifies (offAt z) ℓ (z.find_local_time_type_from_local ℓ) := by
  have e1 : z.find_local_time_type_from_local ℓ = a.find_local_time_type_from_local (naiveYear ℓ) ℓ := by
    unfold Zone.find_local_time_type_from_local
    rw [hrule, ht]; rfl
  have e2 : ∀ t, offAt z t = ruleG a t := by
    intro t
    unfold offAt ltAt afterLast ruleG
    rw [hrule, ht]; rfl
  rw [e1]
  apply classifies_congr _ _ ℓ _ _ (rule_from_local_global a hvS hvE hy ℓ hℓ hS hE)
  intro t; rw [e2 t]
/-- the round trip for a rule-only zone -/
theorem roundtrip_rule_only (z : Zone) (a : Alt) (t : Int) (hrule : z.rule = some (.alt a))
    (ht : z.transitions = []) (hvS : ValidDay a.dstStart) (hvE : ValidDay a.dstEnd) (hy : RuleYearly a)
    (hS : a.std.off ≠ a.dst.off → t + offAt z t ≠ wallStart a (naiveYear (t + offAt z t)))
    (hE : a.std.off ≠ a.dst.off → t + offAt z t ≠ wallEnd a (naiveYear (t + offAt z t)))
    (hℓ : -36028797018963968 ≤ t + offAt z t ∧ t + offAt z t ≤ 36028797018963968) :
    offAt z t ∈ (z.find_local_time_type_from_local (t + offAt z t)).toList.map (·.off) :=
  classifies_roundtrip _ _ _ (from_local_classifies_rule_only z a _ hrule ht hvS hvE hy hS hE hℓ) t rfl

/-- non-vacuity of `RuleYearly`: `CST6CDT,J60,J300` is regular in every year -/
theorem exRule_yearly : RuleYearly exRule :=
  (yearly_of_windows exRule _ _ (fun y => ⟨julian1_window y 60 (by decide), julian1_window y 300 (by decide)⟩)
    (by decide) (by decide) (by decide)).2 (by decide)

/-! #### the year-by-year hypotheses are decidable: one Gregorian cycle (400 years = 20871 weeks) -/

/-- `RuleYearly a` (a statement about EVERY integer year) holds iff it holds on the 400 years
2000 … 2399: every rule day — also the weekday-dependent `Mm.w.d` form — falls exactly 146097 days
later 400 years later.  The harness evaluates the same check per zone with its own calendar and
compares it with this definition (op `tzl.yearly`). -/
theorem ruleYearly_of_B (a : Alt) : ruleYearlyB a = true ↔ RuleYearly a :=
  ⟨ruleYearly_of_B' a, ruleYearlyB_of a⟩

/-- the same for `InsideYear`, the hypothesis of the lookup by instant (`rule_instant_ok`, `offAt_ok`) -/
theorem insideYear_of_B (a : Alt) : insideYearB a = true ↔ InsideYear a :=
  ⟨insideYear_of_B' a, insideYearB_of a⟩

/-- `EST5EDT,M3.2.0,M11.1.0` (every current US zone) and `CET-1CEST,M3.5.0,M10.5.0/3` (every current EU zone) -/
def usRule : Alt := ⟨⟨-18000, false, none⟩, ⟨-14400, true, none⟩, .mwd 3 2 0, 7200, .mwd 11 1 0, 7200⟩
def euRule : Alt := ⟨⟨3600, false, none⟩, ⟨7200, true, none⟩, .mwd 3 5 0, 7200, .mwd 10 5 0, 10800⟩

-- second Sunday of March = March 8 … 14, first Sunday of November = November 1 … 7
theorem usRule_yearly : RuleYearly usRule ∧ InsideYear usRule :=
  have h := yearly_of_windows usRule _ _
    (fun y => ⟨mwd_window y 3 2 0 (by decide) (by decide), mwd_window y 11 1 0 (by decide) (by decide)⟩)
    (by decide) (by decide) (by decide)
  ⟨h.2 (by decide), h.1⟩

-- last Sunday of March = March 25 … 31, last Sunday of October = October 25 … 31
theorem euRule_yearly : RuleYearly euRule ∧ InsideYear euRule :=
  have h := yearly_of_windows euRule _ _
    (fun y => ⟨mwd_window y 3 5 0 (by decide) (by decide), mwd_window y 10 5 0 (by decide) (by decide)⟩)
    (by decide) (by decide) (by decide)
  ⟨h.2 (by decide), h.1⟩

-- `TZ=EST5EDT,M3.2.0,M11.1.0`: the instant 2024-07-04 12:00 UTC comes back from its wall clock
example : offAt ⟨[], [⟨-18000, false, none⟩], [], some (.alt usRule)⟩ 1720094400 ∈
    (Zone.find_local_time_type_from_local ⟨[], [⟨-18000, false, none⟩], [], some (.alt usRule)⟩
      (1720094400 + offAt ⟨[], [⟨-18000, false, none⟩], [], some (.alt usRule)⟩ 1720094400)).toList.map (·.off) :=
  roundtrip_rule_only _ usRule 1720094400 rfl rfl (by unfold ValidDay usRule; decide) (by unfold ValidDay usRule; decide)
    usRule_yearly.1 (fun _ => by decide) (fun _ => by decide) (by decide)

-- a rule that is NOT yearly-regular is recognised as such: start/end order flips from year to year
example : ¬ RuleYearly ⟨⟨0, false, none⟩, ⟨3600, true, none⟩, .mwd 6 2 0, 7200, .julian1 162, 7200⟩ :=
  fun h => absurd (h 1969).2.2.2.2.2.2.1 (by decide)

/-- America/New_York as it is today: the table up to the 2024 spring transition, then the US footer rule -/
def exZoneUS : Zone :=
  ⟨[⟨-1633280400, 1⟩, ⟨-1615140000, 0⟩, ⟨1710054000, 1⟩], [⟨-18000, false, none⟩, ⟨-14400, true, none⟩], [],
   some (.alt usRule)⟩

-- every hypothesis of the composed theorem is met by a zone with a real `Mm.w.d` footer rule; the 2024
-- fold (November 3, 01:30 local) is read as two instants, daylight time first
example : Classifies (offAt exZoneUS) 1730597400 (.ambiguous usRule.dst usRule.std) := by
  have h := from_local_classifies_composed exZoneUS usRule ⟨1710054000, 1⟩ 1730597400 rfl (by decide)
    (by unfold Sorted exZoneUS; decide) (by unfold WellSeparated; decide) (by unfold JoinSeparated; decide)
    (by unfold ValidDay usRule; decide) (by unfold ValidDay usRule; decide) usRule_yearly.1
    (by unfold exZoneUS NoBoundary' NoBoundary' NoBoundary' NoBoundary'; decide) (by decide) (by decide)
    (inRange_of_all _ rfl rfl) (by omega)
  have e : exZoneUS.find_local_time_type_from_local 1730597400 = .ambiguous usRule.dst usRule.std := by decide
  rw [e] at h; exact h

example : exZoneUS.find_local_time_type 1720000000 = some (ltAt exZoneUS 1720000000) :=
  offAt_ok exZoneUS 1720000000 (by unfold Sorted exZoneUS; decide) rfl
    ⟨by unfold ValidDay usRule; decide, by unfold ValidDay usRule; decide, usRule_yearly.2⟩ (by omega)

-- second review, gap 3: 1950-03-12 02:00 local IS `wallStart usRule 1950`, one of the footer rule's two
-- boundary seconds of its year, but it lies in the table era (far below the last table window): the
-- table loop answers it without consulting the rule, it is an ordinary reading (exactly one instant,
-- 07:00 UTC), and the composed theorem now covers it (its `hS`/`hE` bind only beyond the last window)
example : (-625096800 : Int) = wallStart usRule (naiveYear (-625096800)) ∧
    Classifies (offAt exZoneUS) (-625096800) (.single ⟨-18000, false, none⟩) ∧
    wallSet exZoneUS (-625096800) = [-625078800] := by
  have h := from_local_classifies_composed exZoneUS usRule ⟨1710054000, 1⟩ (-625096800) rfl (by decide)
    (by unfold Sorted exZoneUS; decide) (by unfold WellSeparated; decide) (by unfold JoinSeparated; decide)
    (by unfold ValidDay usRule; decide) (by unfold ValidDay usRule; decide) usRule_yearly.1
    (by unfold exZoneUS NoBoundary' NoBoundary' NoBoundary' NoBoundary'; decide) (by decide) (by decide)
    (inRange_of_all _ rfl rfl) (by omega)
  have e : exZoneUS.find_local_time_type_from_local (-625096800) = .single ⟨-18000, false, none⟩ := by decide
  rw [e] at h
  exact ⟨by decide, h, by decide⟩

/-! #### the rule half of the instant specification: per-year decision vs. transition sequence

`offAt` (through `ruleDst`) judges an instant by the two rule transitions of the calendar year that
contains it — the code's own decision procedure (and glibc's).  The independent reading of a POSIX rule
is the SEQUENCE of all its start and end instants: `ruleDstSeq` (Spec/ZoneSeqSpec.lean).  The two agree
exactly when the start/end order is the same every year (`OrderStable`, decidable: `orderStable_of_B`;
true of every footer rule under /usr/share/zoneinfo, all of which are even `RuleYearly`).  `InsideYear`
(the property's restriction) does NOT imply it: `order_flip_phantom`. -/

/-- for a rule inside the quantifier whose start/end order is the same every year, the per-year decision
is the transition-sequence reading: daylight time is in force at `t` iff the latest rule transition of
ANY year at or before `t` is a start -/
theorem ruleDst_eq_seq (a : Alt) (hin : InsideYear a) (ho : OrderStable a) (t : Int) :
    ruleDst a t = true ↔ ruleDstSeq a t := by
  have hY := yearOf_spec (t / 86400)
  unfold ruleDst
  generalize yearOf (t / 86400) = Y at *
  have bt := bounds_of_isYearOf t Y hY
  have iY := hin Y
  have o := ho (Y - 1)
  rw [(by omega : Y - 1 + 1 = Y)] at o
  rw [ruleDstSeq_in_year a hin Y t ⟨by omega, by omega⟩]
  unfold ruleDstIn
  split
  · rw [decide_eq_true_eq]; omega
  · rw [Bool.not_eq_true', decide_eq_false_iff_not]; omega

/-- `ruleDstSeq` really is a step function of the rule's transitions (no hypothesis on the rule): it does
not change between two instants with no start or end of any year in `(u, v]` -/
theorem ruleDstSeq_step (a : Alt) (u v : Int) (huv : u ≤ v)
    (hS : ∀ y, ¬ (u < startAt a y ∧ startAt a y ≤ v)) (hE : ∀ y, ¬ (u < endAt a y ∧ endAt a y ≤ v)) :
    ruleDstSeq a u ↔ ruleDstSeq a v := by
  unfold ruleDstSeq
  constructor
  · rintro ⟨y, h1, h2⟩
    refine ⟨y, by omega, ?_⟩
    intro y' hy'
    have := hE y'
    exact h2 y' (by omega)
  · rintro ⟨y, h1, h2⟩
    have := hS y
    refine ⟨y, by omega, ?_⟩
    intro y' hy'
    exact h2 y' (by omega)

/-- `OrderStable` is decidable: one Gregorian cycle; and it is part of `RuleYearly` -/
theorem orderStable_of_B (a : Alt) : orderStableB a = true ↔ OrderStable a := by
  constructor
  · intro h y
    show OrderStableAt a y
    apply all_years (OrderStableAt a) (orderStableAt_add400 a)
    intro k hk
    exact of_decide_eq_true (List.all_eq_true.mp h k (List.mem_range.mpr hk))
  · intro h
    unfold orderStableB
    rw [List.all_eq_true]
    intro k _
    exact decide_eq_true (h _)

theorem orderStable_of_ruleYearly (a : Alt) (h : RuleYearly a) : OrderStable a :=
  fun y => (h y).2.2.2.2.2.2.1

/-- the lookup by instant against the transition-sequence specification, end to end: from the last
table transition on, a zone whose footer rule is `InsideYear` and `OrderStable` answers the daylight
type iff the latest rule transition at or before `t` is a start, else the standard type -/
theorem rule_instant_seq_ok (z : Zone) (a : Alt) (t : Int) (hrule : z.rule = some (.alt a))
    (hs : Sorted z.transitions) (hl : z.leaps = [])
    (hvS : ValidDay a.dstStart) (hvE : ValidDay a.dstEnd) (hin : InsideYear a) (ho : OrderStable a)
    (hafter : afterLast z t = true) (h : -36028797018963968 ≤ t ∧ t ≤ 36028797018963968) :
    (ruleDstSeq a t → z.find_local_time_type t = some a.dst) ∧
    (¬ ruleDstSeq a t → z.find_local_time_type t = some a.std) := by
  have e : z.find_local_time_type t = some (if ruleDst a t then a.dst else a.std) := by
    rw [offAt_ok z t hs hl (by rw [hrule]; exact ⟨hvS, hvE, hin⟩) h]
    unfold ltAt
    rw [hafter, hrule]
    rfl
  have k := ruleDst_eq_seq a hin ho t
  constructor
  · intro hq; rw [e, if_pos (k.mpr hq)]
  · intro hq
    have : ¬ ruleDst a t = true := fun hh => hq (k.mp hh)
    rw [e, if_neg this]

-- the US rule is order-stable (it is `RuleYearly`); New York on 2024-07-04 12:00 UTC, by the sequence reading
example : exZoneUS.find_local_time_type 1720094400 = some usRule.dst ↔ ruleDstSeq usRule 1720094400 := by
  have h := rule_instant_seq_ok exZoneUS usRule 1720094400 rfl (by unfold Sorted exZoneUS; decide) rfl
    (by unfold ValidDay usRule; decide) (by unfold ValidDay usRule; decide) usRule_yearly.2
    (orderStable_of_ruleYearly usRule usRule_yearly.1) (by decide) (by omega)
  constructor
  · intro e
    by_cases c : ruleDstSeq usRule 1720094400
    · exact c
    · have := h.2 c
      rw [e] at this
      exact absurd this (by decide)
  · exact h.1

/-- `TZ=AAA0BBB-1,M6.2.0/2,J162/2`: daylight time starts on the second Sunday of June (June 8 … 14) and
ends on June 11: start before end in 1969 (June 8), end before start in 1970 (June 14) -/
def irr : Alt := ⟨⟨0, false, none⟩, ⟨3600, true, none⟩, .mwd 6 2 0, 7200, .julian1 162, 7200⟩
def irrZ : Zone := ⟨[], [⟨0, false, none⟩], [], some (.alt irr)⟩

/-- WHAT HAPPENS WHEN THE ORDER FLIPS (any rule inside the quantifier; north-shaped year `Y-1`, south-shaped
year `Y`): the per-year decision — the code's, `offAt`'s — is standard time in the last second of `Y-1`
and daylight time in the first second of `Y`, a change of offset at the year boundary although no rule
transition of any year lies within a day of it; the transition sequence says standard time at both -/
theorem order_flip_characterised (a : Alt) (hin : InsideYear a) (Y : Int)
    (h1 : startAt a (Y - 1) ≤ endAt a (Y - 1)) (h2 : ¬ startAt a Y ≤ endAt a Y) :
    ruleDst a (daysBeforeYear Y * 86400 - 1) = false ∧ ruleDst a (daysBeforeYear Y * 86400) = true ∧
    ¬ ruleDstSeq a (daysBeforeYear Y * 86400 - 1) ∧ ¬ ruleDstSeq a (daysBeforeYear Y * 86400) ∧
    ∀ y, ¬ (daysBeforeYear Y * 86400 - 86400 ≤ startAt a y ∧ startAt a y ≤ daysBeforeYear Y * 86400 + 86400) ∧
         ¬ (daysBeforeYear Y * 86400 - 86400 ≤ endAt a y ∧ endAt a y ≤ daysBeforeYear Y * 86400 + 86400) := by
  obtain ⟨b1, b2⟩ := ruleDst_at_boundary a hin Y
  rw [decide_eq_true h1] at b1
  rw [decide_eq_false h2] at b2
  exact ⟨b1, b2, fun h => (ruleDstSeq_at_boundary a hin Y _ ⟨by omega, by omega⟩).mp h h1,
    fun h => (ruleDstSeq_at_boundary a hin Y _ ⟨by omega, by omega⟩).mp h h1,
    fun y => inside_no_transition_near_boundary a hin Y y⟩

/-- the mirror image (south-shaped `Y-1`, north-shaped `Y`): the per-year decision drops from daylight to
standard time at the year boundary; the transition sequence says daylight time at both -/
theorem order_flip_characterised_south_north (a : Alt) (hin : InsideYear a) (Y : Int)
    (h1 : ¬ startAt a (Y - 1) ≤ endAt a (Y - 1)) (h2 : startAt a Y ≤ endAt a Y) :
    ruleDst a (daysBeforeYear Y * 86400 - 1) = true ∧ ruleDst a (daysBeforeYear Y * 86400) = false ∧
    ruleDstSeq a (daysBeforeYear Y * 86400 - 1) ∧ ruleDstSeq a (daysBeforeYear Y * 86400) := by
  obtain ⟨b1, b2⟩ := ruleDst_at_boundary a hin Y
  rw [decide_eq_false h1] at b1
  rw [decide_eq_true h2] at b2
  exact ⟨b1, b2, (ruleDstSeq_at_boundary a hin Y _ ⟨by omega, by omega⟩).mpr h1,
    (ruleDstSeq_at_boundary a hin Y _ ⟨by omega, by omega⟩).mpr h1⟩

/-- KERNEL-CHECKED WITNESS that widens finding F30 to the lookup by INSTANT (confirmed on the real crate
through `Local` with `TZ=AAA0BBB-1,M6.2.0/2,J162/2`: `timestamp_opt(-1, 0)` reads 23:59:59 +00:00,
`timestamp_opt(0, 0)` reads 01:00:00 +01:00; glibc does the same).  The rule is inside the property's
quantifier (`InsideYear`, valid days) but not `OrderStable`; the model of the code — and `offAt`, which
follows the code's per-year convention, so `offAt_ok` holds here by construction — changes the offset
from 0 to +1 h between 1969-12-31T23:59:59Z and 1970-01-01T00:00:00Z, where no rule transition of any
year lies within a day; by the transition sequence daylight time is in force at neither instant. -/
theorem order_flip_phantom :
    InsideYear irr ∧ ValidDay irr.dstStart ∧ ValidDay irr.dstEnd ∧ ¬ OrderStable irr ∧
    irrZ.find_local_time_type (-1) = some irr.std ∧ irrZ.find_local_time_type 0 = some irr.dst ∧
    offAt irrZ (-1) = 0 ∧ offAt irrZ 0 = 3600 ∧
    (∀ y, ¬ (-86400 ≤ startAt irr y ∧ startAt irr y ≤ 86400) ∧ ¬ (-86400 ≤ endAt irr y ∧ endAt irr y ≤ 86400)) ∧
    ¬ ruleDstSeq irr (-1) ∧ ¬ ruleDstSeq irr 0 := by
  -- second Sunday of June = June 8 … 14; J162 = June 11
  have hin : InsideYear irr :=
    (yearly_of_windows irr _ _ (fun y => ⟨mwd_window y 6 2 0 (by decide) (by decide), julian1_window y 162 (by decide)⟩)
      (by decide) (by decide) (by decide)).1
  have e : daysBeforeYear 1970 = 0 := by decide
  obtain ⟨_, _, s1, s2, nb⟩ := order_flip_characterised irr hin 1970 (by decide) (by decide)
  rw [e] at s1 s2 nb
  refine ⟨hin, by unfold ValidDay irr; decide, by unfold ValidDay irr; decide,
    fun h => absurd (h 1969) (by decide), by decide, by decide, by decide, by decide, ?_, s1, s2⟩
  intro y
  have := nb y
  constructor <;> omega

/-- KERNEL-CHECKED COUNTEREXAMPLE for finding F30 (the wall-clock direction; F29 has
`not_separated_counterexample`): the same rule is inside the quantifier (`InsideYear`) but not
`RuleYearly`; the reading 1970-01-01T00:00:00 is answered `Single(+01:00)` — the instant
1969-12-31T23:00:00Z, whose own offset is +00:00 — although NO instant reads it: the wall clock jumps
from 23:59:59 to 01:00:00 at the phantom change of `order_flip_phantom`.  Confirmed on the real crate
(`Local.from_local_datetime(1970-01-01T00:00:00)` = `Single(1970-01-01T00:00:00+01:00)`). -/
theorem irregular_rule_counterexample :
    insideYearB irr = true ∧ ruleYearlyB irr = false ∧
    irrZ.find_local_time_type_from_local 0 = .single irr.dst ∧ wallSet irrZ 0 = [] ∧
    offAt irrZ (0 - irr.dst.off) = 0 ∧
    ¬ Classifies (offAt irrZ) 0 (irrZ.find_local_time_type_from_local 0) := by
  have e : irrZ.find_local_time_type_from_local 0 = .single irr.dst := by decide
  have o : offAt irrZ (0 - irr.dst.off) = 0 := by decide
  refine ⟨insideYearB_of irr order_flip_phantom.1,
    Bool.eq_false_iff.mpr fun h => absurd (ruleYearly_of_B' irr h 1969).2.2.2.2.2.2.1 (by decide),
    e, by decide, o, ?_⟩
  rw [e]
  intro h
  have := (h (0 - irr.dst.off)).mpr rfl
  rw [o] at this
  revert this
  decide

-- `exZone` (table + footer rule) meets every hypothesis; the 2024 fold is read as two instants, DST first
example : Classifies (offAt exZone) 1729992600 (.ambiguous exRule.dst exRule.std) := by
  have h := from_local_classifies_composed exZone exRule ⟨1710000000, 1⟩ 1729992600 rfl (by decide)
    (by unfold Sorted exZone; decide) (by unfold WellSeparated; decide) (by unfold JoinSeparated; decide)
    (by unfold ValidDay exRule; decide) (by unfold ValidDay exRule; decide) exRule_yearly
    (by unfold exZone NoBoundary' NoBoundary' NoBoundary' NoBoundary'; decide) (by decide) (by decide)
    (inRange_of_all _ rfl rfl) (by omega)
  have e : exZone.find_local_time_type_from_local 1729992600 = .ambiguous exRule.dst exRule.std := by decide
  rw [e] at h; exact h

/-- London-like table: GMT → BST 1968-02-18, BST → BST (British Standard Time: same offset, DST flag and
abbreviation change only) 1968-10-27, → GMT 1971-10-31 -/
def lonZone : Zone :=
  ⟨[⟨-59004000, 1⟩, ⟨-37242000, 2⟩, ⟨57722400, 0⟩], [⟨0, false, none⟩, ⟨3600, true, none⟩, ⟨3600, false, none⟩], [], none⟩

-- London 1968-10-27: the theorem covers the very second `T + prevOff` of the offset-preserving
-- transition (it is no excepted second under `NoBoundary'`): one result, the NEW type, not two
example : Classifies (offAt lonZone) (-37242000 + 3600) (.single ⟨3600, false, none⟩) := by
  have h := from_local_classifies lonZone (-37242000 + 3600) rfl (by unfold Sorted lonZone; decide)
    (by unfold WellSeparated; decide) (by unfold lonZone NoBoundary' NoBoundary' NoBoundary' NoBoundary'; decide)
    (inRange_of_all _ rfl rfl)
  have e : lonZone.find_local_time_type_from_local (-37242000 + 3600) = .single ⟨3600, false, none⟩ := by decide
  rw [e] at h; exact h

-- the strict exclusion of every `T + prevOff` implies the property's (so the earlier, narrower form follows)
example (z : Zone) (ℓ : Int) (h : NoBoundary z (typeAt z 0).off z.transitions ℓ) :
    NoBoundary' z (typeAt z 0).off z.transitions ℓ := noBoundary'_of z ℓ _ _ h

/-- a rule that changes only the abbreviation and DST flag (`AAA3BBB3,J60,J300`: equal offsets) -/
def sameOffRule : Alt := ⟨⟨-10800, false, none⟩, ⟨-10800, true, none⟩, .julian1 60, 7200, .julian1 300, 7200⟩

-- … has no excepted second at all: EVERY reading of the year is classified
example (ℓ : Int) : Classifies (yearOff sameOffRule (wallStart sameOffRule 2024) (wallEnd sameOffRule 2024)) ℓ
    (sameOffRule.find_local_time_type_from_local 2024 ℓ) :=
  (rule_from_local_classifies sameOffRule (by unfold ValidDay sameOffRule; decide) (by unfold ValidDay sameOffRule; decide)
    2024 ℓ (by unfold RuleSeparated; decide) (fun h => absurd rfl h) (fun h => absurd rfl h)).1

/-! ### the user-visible layer: `Local` → `Cache::offset` → zone lookups, and the result contract -/

/-- `Local.offset_from_utc_datetime` (through `Cache::offset(d, false)`): the offset the zone data
prescribe for the instant — `offAt`, the function every statement above is about — as long as
`FixedOffset` can hold it (strictly within ±24 h); otherwise the glue answers `None`, which
`offset_from_utc_datetime` then unwraps: a panic.  That was finding F32: such zones were NOT only
synthetic — `TZ=AAA24` is a plain POSIX value and the readers accepted it.  Since the repair
(770977e) the readers refuse every zone with such an offset (`Props.C16.accepted_offsets_representable`),
so for a zone that comes from the readers the `None` branch is unreachable: `cache_offset_ok_accepted`
below.  This theorem is about ANY zone value, hence keeps the branch. -/
theorem cache_offset_ok (z : Zone) (t : Int) (hs : Sorted z.transitions) (hl : z.leaps = [])
    (hr : RuleOk z.rule) (h : -36028797018963968 ≤ t ∧ t ≤ 36028797018963968) :
    cache_offset z t false =
      .ok (if -86400 < offAt z t ∧ offAt z t < 86400 then Mapped.single (offAt z t) else Mapped.none) := by
  unfold cache_offset
  simp only [Bool.not_false, if_true]
  rw [offAt_ok z t hs hl hr h]
  show (match east_opt (offAt z t) with
        | some o => Res.ok (Mapped.single o) | none => Res.ok (Mapped.none : Mapped Int)) = _
  by_cases c : -86400 < offAt z t ∧ offAt z t < 86400
  · rw [east_opt_some _ c, if_pos c]
  · rw [east_opt_none _ c, if_neg c]

/-- `cache_offset_ok` for a zone that comes from the TZif reader, the representability hypothesis
DISCHARGED (F32 repaired): for every instant a `NaiveDateTime` can hold the glue answers
`Single(offAt z t)`, that offset is strictly within 24 h, and `Local::offset_from_utc_datetime`
(`local_offset_from_utc_datetime`: the `unwrap` modelled as a panic) returns it.  Remaining
hypotheses are C05's own scope (no leap-second records, `RuleOk`), not representability. -/
theorem cache_offset_ok_accepted (bytes : List Nat) (z : Zone) (h : parse bytes = .ok z) (t : Int)
    (hl : z.leaps = []) (hr : RuleOk z.rule) (ht : NDT_MIN_TS ≤ t ∧ t ≤ NDT_MAX_TS) :
    cache_offset z t false = .ok (.single (offAt z t))
      ∧ (-86400 < offAt z t ∧ offAt z t < 86400)
      ∧ local_offset_from_utc_datetime z t = .ok (offAt z t) := by
  have hw := Chrono.Proofs.TzValid.parsed_zone_wellformed' bytes z h
  have ht' := ht
  simp only [NDT_MIN_TS, NDT_MAX_TS] at ht'
  have e1 := cache_offset_ok z t hw.2.1 hl hr (by omega)
  obtain ⟨o, h1, h2, -, -⟩ := Chrono.Proofs.TzLocal.local_offset_ok z
    (Chrono.Proofs.TzLocal.parsed_instantSafe bytes z h) (Chrono.Proofs.TzLocal.parsed_within bytes z h) t ht
  rw [e1] at h2
  by_cases c : -86400 < offAt z t ∧ offAt z t < 86400
  · rw [if_pos c] at h2
    have e : offAt z t = o := by
      injection h2 with h2
      injection h2
    rw [e1, if_pos c]
    exact ⟨rfl, c, by rw [e]; exact h1⟩
  · rw [if_neg c] at h2
    injection h2 with h2
    cases h2

/-- the wall-clock direction for a zone from the readers: every candidate offset fits `FixedOffset`
(the hypothesis `ho` of `cache_local_ok` / `from_local_datetime_contract`), so the glue never drops a
candidate (`cache_local_drops` is unreachable) -/
theorem cache_local_candidates_fit (bytes : List Nat) (z : Zone) (h : parse bytes = .ok z)
    (x : Ltt) (hx : x ∈ Chrono.Proofs.TzLocal.zoneTypes z) : -86400 < x.off ∧ x.off < 86400 :=
  Chrono.Proofs.TzLocal.parsed_within bytes z h x hx

/-- `Local.offset_from_local_datetime` (through `Cache::offset(d, true)`): whenever the zone lookup
classifies the reading (the conclusion of `from_local_classifies`, `…_composed`, `…_fixed_rule`,
`…_rule_only`, `…_fixed_only`) and every candidate offset fits `FixedOffset`, the user-visible
`MappedLocalTime<FixedOffset>` carries exactly the candidates' offsets and classifies the reading in
the same sense: 0 / 1 / 2 instants, right offsets, distinct, earliest first -/
theorem cache_local_ok (z : Zone) (ℓ : Int)
    (hc : Classifies (offAt z) ℓ (z.find_local_time_type_from_local ℓ))
    (ho : ∀ x ∈ (z.find_local_time_type_from_local ℓ).toList, -86400 < x.off ∧ x.off < 86400) :
    ∃ m, cache_offset z ℓ true = .ok m ∧ m = (z.find_local_time_type_from_local ℓ).map (·.off) ∧
      ClassifiesOff (offAt z) ℓ m :=
  ⟨_, cache_offset_local z ℓ ho, rfl, (classifiesOff_map _ _ _).mpr hc⟩

/-- … and what happens otherwise: one candidate offset outside ±24 h drops the whole answer -/
theorem cache_local_drops (z : Zone) (ℓ : Int) (x : Ltt)
    (hx : x ∈ (z.find_local_time_type_from_local ℓ).toList) (hbad : ¬ (-86400 < x.off ∧ x.off < 86400)) :
    cache_offset z ℓ true = .ok .none := by
  unfold cache_offset
  simp only [Bool.not_true, Bool.false_eq_true, if_false]
  congr 1
  generalize z.find_local_time_type_from_local ℓ = r at *
  cases r with
  | none => rfl
  | single a =>
    have e : x = a := by simpa [Mapped.toList] using hx
    subst e
    simp only [Mapped.and_then, east_opt_none _ hbad]
  | ambiguous a b =>
    have e : x = a ∨ x = b := by simpa [Mapped.toList] using hx
    rcases e with e | e <;> subst e
    · simp only [Mapped.and_then, east_opt_none _ hbad]
    · simp only [Mapped.and_then, east_opt_none _ hbad]
      cases east_opt a.off <;> rfl

/-- the `MappedLocalTime` contract: of a result that classifies the reading, `earliest()` is the LEAST
instant whose wall clock reads `ℓ`, `latest()` the GREATEST, and both are `None` exactly when no
instant reads `ℓ` -/
theorem mapped_contract (off : Int → Int) (ℓ : Int) (m : Mapped Int) (h : ClassifiesOff off ℓ m) :
    (m.earliest = none ↔ ∀ t, t + off t ≠ ℓ) ∧ (m.latest = none ↔ ∀ t, t + off t ≠ ℓ) ∧
    (∀ o, m.earliest = some o → (ℓ - o) + off (ℓ - o) = ℓ ∧ ∀ t, t + off t = ℓ → ℓ - o ≤ t) ∧
    (∀ o, m.latest = some o → (ℓ - o) + off (ℓ - o) = ℓ ∧ ∀ t, t + off t = ℓ → t ≤ ℓ - o) := by
  cases m with
  | none => exact ⟨⟨fun _ => h, fun _ => rfl⟩, ⟨fun _ => h, fun _ => rfl⟩, nofun, nofun⟩
  | single x =>
    have hx : (ℓ - x) + off (ℓ - x) = ℓ := (h (ℓ - x)).mpr rfl
    have hu : ∀ t, t + off t = ℓ → t = ℓ - x := fun t ht => (h t).mp ht
    refine ⟨⟨nofun, fun hn => absurd hx (hn _)⟩, ⟨nofun, fun hn => absurd hx (hn _)⟩, ?_, ?_⟩ <;>
      (intro o ho; cases ho; exact ⟨hx, fun t ht => by have := hu t ht; omega⟩)
  | ambiguous x y =>
    have hx : (ℓ - x) + off (ℓ - x) = ℓ := (h.2 (ℓ - x)).mpr (Or.inl rfl)
    have hy : (ℓ - y) + off (ℓ - y) = ℓ := (h.2 (ℓ - y)).mpr (Or.inr rfl)
    have hu : ∀ t, t + off t = ℓ → ℓ - x ≤ t ∧ t ≤ ℓ - y := fun t ht => by
      have := (h.2 t).mp ht; have := h.1; omega
    refine ⟨⟨nofun, fun hn => absurd hx (hn _)⟩, ⟨nofun, fun hn => absurd hx (hn _)⟩, ?_, ?_⟩
    · intro o ho; cases ho; exact ⟨hx, fun t ht => (hu t ht).1⟩
    · intro o ho; cases ho; exact ⟨hy, fun t ht => (hu t ht).2⟩

theorem ndt_range_ok : NDT_MIN_TS = daysBeforeYear (-262143) * 86400 ∧
    NDT_MAX_TS = daysBeforeYear 262143 * 86400 - 1 := by decide

/-- `Local.from_local_datetime(local)` — the `MappedLocalTime<DateTime<Local>>` the user gets; a
`DateTime` is (instant, offset).  Under the same two hypotheses and with every candidate instant
inside the `NaiveDateTime` range: each value returned is an instant whose wall clock in the zone reads
`ℓ`, carries the offset the zone prescribes at that instant, `earliest()` is the least such instant,
`latest()` the greatest, and the result is `None` exactly when no instant reads `ℓ`. -/
theorem from_local_datetime_contract (z : Zone) (ℓ : Int)
    (hc : Classifies (offAt z) ℓ (z.find_local_time_type_from_local ℓ))
    (ho : ∀ x ∈ (z.find_local_time_type_from_local ℓ).toList, -86400 < x.off ∧ x.off < 86400)
    (hg : ∀ x ∈ (z.find_local_time_type_from_local ℓ).toList, NDT_MIN_TS ≤ ℓ - x.off ∧ ℓ - x.off ≤ NDT_MAX_TS) :
    ∃ m, local_from_local_datetime z ℓ = .ok m ∧
      (m.earliest = none ↔ ∀ t, t + offAt z t ≠ ℓ) ∧ (m.latest = none ↔ ∀ t, t + offAt z t ≠ ℓ) ∧
      (∀ d, m.earliest = some d → d.1 + offAt z d.1 = ℓ ∧ d.2 = offAt z d.1 ∧ ∀ t, t + offAt z t = ℓ → d.1 ≤ t) ∧
      (∀ d, m.latest = some d → d.1 + offAt z d.1 = ℓ ∧ d.2 = offAt z d.1 ∧ ∀ t, t + offAt z t = ℓ → t ≤ d.1) := by
  refine ⟨_, local_from_local_eq z ℓ ho hg, ?_⟩
  obtain ⟨h1, h2, h3, h4⟩ := mapped_contract (offAt z) ℓ _ ((classifiesOff_map _ _ _).mpr hc)
  rw [earliest_map, latest_map, Option.map_eq_none_iff, Option.map_eq_none_iff]
  -- a candidate offset `o` is returned as the pair (instant `ℓ - o`, offset `o`)
  refine ⟨h1, h2, fun d hd => ?_, fun d hd => ?_⟩
  · obtain ⟨o, ho', rfl⟩ := Option.map_eq_some_iff.mp hd
    have a := h3 o ho'
    exact ⟨a.1, by have := a.1; dsimp only at this ⊢; omega, a.2⟩
  · obtain ⟨o, ho', rfl⟩ := Option.map_eq_some_iff.mp hd
    have b := h4 o ho'
    exact ⟨b.1, by have := b.1; dsimp only at this ⊢; omega, b.2⟩

-- New York, 2024-11-03 01:30 local through the glue: Ambiguous(-04:00, -05:00); `earliest()` is the
-- daylight-time instant 05:30 UTC, `latest()` the standard-time instant 06:30 UTC
example : cache_offset exZoneUS 1730597400 true = .ok (.ambiguous (-14400) (-18000)) ∧
    local_from_local_datetime exZoneUS 1730597400 = .ok (.ambiguous (1730611800, -14400) (1730615400, -18000)) ∧
    (Mapped.ambiguous (1730611800, -14400) (1730615400, (-18000 : Int))).earliest = some (1730611800, -14400) ∧
    cache_offset exZoneUS 1720000000 false = .ok (.single (-14400)) := by decide

-- an offset `FixedOffset` cannot hold (a zone VALUE the readers no longer produce, F32): the glue answers `None`
example : cache_offset ⟨[], [⟨86400, false, none⟩], [], none⟩ 0 true = .ok .none ∧
    cache_offset ⟨[], [⟨86400, false, none⟩], [], none⟩ 0 false = .ok .none := by decide

/-! ### the glue's helper functions are the ones tied to the source text elsewhere (second review §3) -/

/-- the glue model's `east_opt` is the C04 model's, hence (code translation, `GenDateTime.gen_east_opt_eq`)
the function regenerated from src/offset/fixed.rs on every run -/
theorem east_opt_tied (secs : Int) :
    M.TzL.east_opt secs = M.Zoned.east_opt secs ∧
    Gen.offset_fixed.FixedOffset.east_opt secs = M.TzL.east_opt secs :=
  ⟨congrFun Chrono.Proofs.TzBridge.east_opt_bridge secs,
   (Chrono.Props.GenDateTime.gen_east_opt_eq secs).trans (congrFun Chrono.Proofs.TzBridge.east_opt_bridge secs).symm⟩

/-- the glue model's `checked_sub_offset` (on timestamps) is the C04 model `NaiveDT.checked_sub_offset`
read in seconds: on a well-formed wall clock `l` and an offset below a day the structured function never
panics, is `None` exactly when the timestamp function is, and otherwise a well-formed date-time whose
second count is the timestamp function's value -/
theorem checked_sub_offset_tied (l : M.NaiveDT) (o : Int) (ho : Spec.OffValid o) (hl : Spec.NDTInv l) :
    ∃ r, l.checked_sub_offset o = .ok r ∧
      r.map Spec.instSecs = M.TzL.checked_sub_offset (Spec.instSecs l) o ∧
      (∀ u, r = some u → Spec.NDTInv u ∧ u.time.frac = l.time.frac) :=
  Chrono.Proofs.TzBridge.checked_sub_offset_bridge l o ho hl

/-- … and composed with the code translation (`GenDateTime.gen_checked_sub_offset_eq`): the function
regenerated from src/naive/datetime/mod.rs, read in seconds, is the glue model's -/
theorem gen_checked_sub_offset_tied (l : M.NaiveDT) (o : Int) (ho : Spec.OffValid o) (hl : Spec.NDTInv l)
    (hd : Chrono.Props.GenDateTime.DateOk l.date) (hol : l.date.yof / 8 % 1024 ≤ 732) :
    ∃ r : Option M.NaiveDT, Gen.naive_datetime.NaiveDateTime.checked_sub_offset (Chrono.Props.GenDateTime.ndtG l) o
          = .ok (r.map Chrono.Props.GenDateTime.ndtG) ∧
      r.map Spec.instSecs = M.TzL.checked_sub_offset (Spec.instSecs l) o := by
  obtain ⟨r, h1, h2, _⟩ := checked_sub_offset_tied l o ho hl
  refine ⟨r, ?_, h2⟩
  rw [Chrono.Props.GenDateTime.gen_checked_sub_offset_eq l o hd hol, h1]
  rfl

-- 2024-11-03 01:30:00 local minus (-4 h): both functions answer 05:30:00 UTC
example : M.TzL.checked_sub_offset 1730597400 (-14400) = some 1730611800 ∧
    M.TzL.checked_sub_offset M.TzL.NDT_MIN_TS 1 = none := by decide

/-- `wallSet` (the brute-force specification the harness mirrors) is exactly the set of instants
whose wall-clock reading is `ℓ` -/
theorem wallSet_mem (z : Zone) (ℓ t : Int) :
    t ∈ wallSet z ℓ ↔ (t + offAt z t = ℓ ∧ ∃ o ∈ offsets z, t = ℓ - o) := by
  unfold wallSet
  have : ∀ l : List Int, t ∈ l.foldr insertU [] ↔ t ∈ l := by
    intro l
    induction l with
    | nil => simp
    | cons a as ih => simp [List.foldr, mem_insertU, ih]
  rw [this]
  simp only [List.mem_filter, List.mem_map, decide_eq_true_eq]
  constructor
  · rintro ⟨⟨o, ho, rfl⟩, h⟩; exact ⟨h, o, ho, rfl⟩
  · rintro ⟨h, o, ho, rfl⟩; exact ⟨⟨o, ho, rfl⟩, h⟩

example : wallSet exZone (1729992600) = [1730010600, 1730014200] := by decide

end Chrono.Props.C05
