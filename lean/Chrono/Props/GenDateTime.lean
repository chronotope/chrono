/-
  C03 / C04 / C08, code translation tie for `NaiveDateTime` (src/naive/datetime/mod.rs) and `FixedOffset`
  (src/offset/fixed.rs): the definitions that tools/extractors/rust2lean.py regenerates from the Rust source text
  on every run equal the hand-written models (lean/Chrono/Model/DateTime.lean, ArithOps.lean, ZonedOps.lean) for
  all arguments of the machine types.  `ndtG` maps the model's `NaiveDT` to the generated structure (packed date
  word, generated `NaiveTime`); a `FixedOffset` is its only field `local_minus_utc : i32`.  Hypotheses: the date
  word is an `i32` with ordinal ≥ 1 (`DateOk`; what `add_days` relies on), for `pred_opt` additionally the
  ordinal-and-leap field is ≤ 732 (the region where the model's `from_yof` assertion is the source's, see
  `gen_from_yof_model_stricter`), the time fields are `u32`s, the `TimeDelta` fields an `i64` and an `i32`.
-/
import Chrono.Props.GenTime
import Chrono.Props.GenDateOps
import Chrono.Model.DateTime
import Chrono.Model.ArithOps
import Chrono.Model.ZonedOps

namespace Chrono.Props.GenDateTime
open Chrono Chrono.M Chrono.Extracted Chrono.Proofs.GenL Chrono.Proofs.GenTimeL

/-- the generated `NaiveDateTime` of a model value -/
abbrev ndtG (dt : NaiveDT) : Gen.naive_datetime.NaiveDateTime := ⟨dt.date.yof, tG dt.time⟩

/-- the packed date word is an `i32` whose ordinal field is not 0 -/
def DateOk (d : Date) : Prop := (-2147483648 ≤ d.yof ∧ d.yof ≤ 2147483647) ∧ 1 ≤ d.ordinal

/-! ### `FixedOffset` -/

theorem gen_east_opt_eq (secs : Int) : Gen.offset_fixed.FixedOffset.east_opt secs = Zoned.east_opt secs := rfl

theorem gen_west_opt_eq (secs : Int) (_h : -2147483648 ≤ secs ∧ secs ≤ 2147483647) :
    Gen.offset_fixed.FixedOffset.west_opt secs = .ok (Zoned.west_opt secs) := by
  unfold Gen.offset_fixed.FixedOffset.west_opt Zoned.west_opt
  split
  · rw [ckI32_ok (by omega)]; rfl
  · rfl

theorem gen_local_minus_utc_eq (off : Int) :
    Gen.offset_fixed.FixedOffset.local_minus_utc off = Zoned.local_minus_utc off := rfl

/-- `-self.local_minus_utc` cannot overflow for a valid offset (`|off| < 86400`) -/
theorem gen_utc_minus_local_eq (off : Int) (h : -2147483648 < off ∧ off ≤ 2147483647) :
    Gen.offset_fixed.FixedOffset.utc_minus_local off = .ok (Zoned.utc_minus_local off) := by
  unfold Gen.offset_fixed.FixedOffset.utc_minus_local Zoned.utc_minus_local
  rw [ckI32_ok (by omega)]

/-! ### operations that act on the date part only -/

theorem gen_checked_add_days_eq (dt : NaiveDT) (days : Int) (hd : DateOk dt.date) :
    Gen.naive_datetime.NaiveDateTime.checked_add_days (ndtG dt) days
      = rmap (Option.map ndtG) (dt.checked_add_days days) :=
  bind_rmap (GenDateOps.gen_checked_add_days_eq dt.date days hd.1 hd.2) fun o => by cases o <;> rfl

theorem gen_checked_sub_days_eq (dt : NaiveDT) (days : Int) (hd : DateOk dt.date) :
    Gen.naive_datetime.NaiveDateTime.checked_sub_days (ndtG dt) days
      = rmap (Option.map ndtG) (dt.checked_sub_days days) :=
  bind_rmap (GenDateOps.gen_checked_sub_days_eq dt.date days hd.1 hd.2) fun o => by cases o <;> rfl

theorem gen_checked_add_months_eq (dt : NaiveDT) (n : Nat) (hd : DateOk dt.date) :
    Gen.naive_datetime.NaiveDateTime.checked_add_months (ndtG dt) n
      = rmap (Option.map ndtG) (dt.checked_add_months n) :=
  bind_rmap (GenDateOps.gen_checked_add_months_eq dt.date n hd.1) fun o => by cases o <;> rfl

theorem gen_checked_sub_months_eq (dt : NaiveDT) (n : Nat) (hd : DateOk dt.date) :
    Gen.naive_datetime.NaiveDateTime.checked_sub_months (ndtG dt) n
      = rmap (Option.map ndtG) (dt.checked_sub_months n) :=
  bind_rmap (GenDateOps.gen_checked_sub_months_eq dt.date n hd.1) fun o => by cases o <;> rfl

/-! ### `TimeDelta` arithmetic -/

theorem try_seconds_fields (s : Int) (r : Delta) (h : Delta.try_seconds s = some r) : DFields r := by
  unfold Delta.try_seconds Delta.new at h
  have hMAX : Delta.MAX.secs = 9223372036854775 := rfl
  have hMIN : Delta.MIN.secs = -9223372036854776 := rfl
  split at h
  · exact absurd h (by simp)
  · cases h; unfold DFields; dsimp only; omega

theorem gen_checked_add_signed_eq (dt : NaiveDT) (rhs : Delta) (hd : DateOk dt.date) (hr : DFields rhs) :
    Gen.naive_datetime.NaiveDateTime.checked_add_signed (ndtG dt) (dG rhs)
      = rmap (Option.map ndtG) (dt.checked_add_signed rhs) := by
  refine bind_rmap (GenTime.gen_overflowing_add_signed_eq dt.time rhs hr) fun p => ?_
  dsimp only
  rw [GenDelta.gen_try_seconds_eq]
  cases hts : Delta.try_seconds p.2 with
  | none => rfl
  | some rem =>
    exact bind_rmap (GenDateOps.gen_checked_add_signed_eq dt.date rem hd.1 hd.2 (try_seconds_fields _ _ hts))
      fun o => by cases o <;> rfl

theorem gen_checked_sub_signed_eq (dt : NaiveDT) (rhs : Delta) (hd : DateOk dt.date) :
    Gen.naive_datetime.NaiveDateTime.checked_sub_signed (ndtG dt) (dG rhs)
      = rmap (Option.map ndtG) (dt.checked_sub_signed rhs) := by
  refine bind_rmap (GenTime.gen_overflowing_sub_signed_eq dt.time rhs) fun p => ?_
  dsimp only
  rw [GenDelta.gen_try_seconds_eq]
  cases hts : Delta.try_seconds p.2 with
  | none => rfl
  | some rem =>
    exact bind_rmap (GenDateOps.gen_checked_sub_signed_eq dt.date rem hd.1 hd.2 (try_seconds_fields _ _ hts))
      fun o => by cases o <;> rfl

/-! ### offsets (the day carry of the time part is −1, 0 or 1) -/

theorem offset_tail (d : Date) (p : Time × Int) (hd : DateOk d) (hol : d.yof / 8 % 1024 ≤ 732) :
    (if p.2 = -1 then
      Res.bind (Gen.naive_date.NaiveDate.pred_opt d.yof) fun r2 =>
        match r2 with
        | some r3 => Res.ok (some (Gen.naive_datetime.NaiveDateTime.mk r3 (tG p.1)))
        | none => Res.ok none
    else if p.2 = 1 then
      Res.bind (Gen.naive_date.NaiveDate.succ_opt d.yof) fun r4 =>
        match r4 with
        | some r5 => Res.ok (some (Gen.naive_datetime.NaiveDateTime.mk r5 (tG p.1)))
        | none => Res.ok none
    else Res.ok (some (Gen.naive_datetime.NaiveDateTime.mk d.yof (tG p.1))))
    = rmap (Option.map ndtG)
      (if p.2 = -1 then (d.pred_opt).bind fun r => .ok (r.map fun d => ⟨d, p.1⟩)
       else if p.2 = 1 then (d.succ_opt).bind fun r => .ok (r.map fun d => ⟨d, p.1⟩)
       else .ok (some ⟨d, p.1⟩)) := by
  refine ite_rmap Iff.rfl (fun _ => ?_) fun _ => ite_rmap Iff.rfl (fun _ => ?_) fun _ => rfl
  · exact bind_rmap (GenDate.gen_pred_opt_eq d hd.1 hol) fun o => by cases o <;> rfl
  · exact bind_rmap (GenDate.gen_succ_opt_eq d hd.1) fun o => by cases o <;> rfl

theorem gen_checked_add_offset_eq (dt : NaiveDT) (off : Int) (hd : DateOk dt.date)
    (hol : dt.date.yof / 8 % 1024 ≤ 732) :
    Gen.naive_datetime.NaiveDateTime.checked_add_offset (ndtG dt) off
      = rmap (Option.map ndtG) (dt.checked_add_offset off) :=
  bind_rmap (GenTime.gen_overflowing_add_offset_eq dt.time off) fun p => offset_tail dt.date p hd hol

theorem gen_checked_sub_offset_eq (dt : NaiveDT) (off : Int) (hd : DateOk dt.date)
    (hol : dt.date.yof / 8 % 1024 ≤ 732) :
    Gen.naive_datetime.NaiveDateTime.checked_sub_offset (ndtG dt) off
      = rmap (Option.map ndtG) (dt.checked_sub_offset off) :=
  bind_rmap (GenTime.gen_overflowing_sub_offset_eq dt.time off) fun p => offset_tail dt.date p hd hol

/-- the constants `NaiveDate::BEFORE_MIN` / `AFTER_MAX` (initialised through the `const fn from_yof`) -/
theorem gen_before_min_eq : Gen.naive_date.NaiveDate.BEFORE_MIN = .ok Date.BEFORE_MIN.yof := by decide
theorem gen_after_max_eq : Gen.naive_date.NaiveDate.AFTER_MAX = .ok Date.AFTER_MAX.yof := by decide

theorem overflowing_offset_tail (d : Date) (p : Time × Int) (hd : DateOk d) (hol : d.yof / 8 % 1024 ≤ 732) :
    (if p.2 = -1 then
      Res.bind (Gen.naive_date.NaiveDate.pred_opt d.yof) fun r2 =>
      Res.bind (Gen.naive_date.NaiveDate.BEFORE_MIN) fun r3 =>
        Res.ok (Gen.naive_datetime.NaiveDateTime.mk (r2.getD r3) (tG p.1))
    else if p.2 = 1 then
      Res.bind (Gen.naive_date.NaiveDate.succ_opt d.yof) fun r4 =>
      Res.bind (Gen.naive_date.NaiveDate.AFTER_MAX) fun r5 =>
        Res.ok (Gen.naive_datetime.NaiveDateTime.mk (r4.getD r5) (tG p.1))
    else Res.ok (Gen.naive_datetime.NaiveDateTime.mk d.yof (tG p.1)))
    = rmap ndtG
      (if p.2 = -1 then (d.pred_opt).bind fun r => .ok ⟨r.getD Date.BEFORE_MIN, p.1⟩
       else if p.2 = 1 then (d.succ_opt).bind fun r => .ok ⟨r.getD Date.AFTER_MAX, p.1⟩
       else .ok ⟨d, p.1⟩) := by
  refine ite_rmap Iff.rfl (fun _ => ?_) fun _ => ite_rmap Iff.rfl (fun _ => ?_) fun _ => rfl
  · exact bind_rmap (GenDate.gen_pred_opt_eq d hd.1 hol) fun o => by rw [gen_before_min_eq]; cases o <;> rfl
  · exact bind_rmap (GenDate.gen_succ_opt_eq d hd.1) fun o => by rw [gen_after_max_eq]; cases o <;> rfl

theorem gen_overflowing_add_offset_eq (dt : NaiveDT) (off : Int) (hd : DateOk dt.date)
    (hol : dt.date.yof / 8 % 1024 ≤ 732) :
    Gen.naive_datetime.NaiveDateTime.overflowing_add_offset (ndtG dt) off
      = rmap ndtG (dt.overflowing_add_offset off) :=
  bind_rmap (GenTime.gen_overflowing_add_offset_eq dt.time off) fun p => overflowing_offset_tail dt.date p hd hol

theorem gen_overflowing_sub_offset_eq (dt : NaiveDT) (off : Int) (hd : DateOk dt.date)
    (hol : dt.date.yof / 8 % 1024 ≤ 732) :
    Gen.naive_datetime.NaiveDateTime.overflowing_sub_offset (ndtG dt) off
      = rmap ndtG (dt.overflowing_sub_offset off) :=
  bind_rmap (GenTime.gen_overflowing_sub_offset_eq dt.time off) fun p => overflowing_offset_tail dt.date p hd hol

/-! ### difference -/

theorem gen_signed_duration_since_eq (a b : NaiveDT) (ha : DateOk a.date) (hb : DateOk b.date)
    (hta : U32Fields a.time) (htb : U32Fields b.time) :
    Gen.naive_datetime.NaiveDateTime.signed_duration_since (ndtG a) (ndtG b)
      = rmap dG (a.signed_duration_since b) := by
  refine bind_rmap (GenDateOps.gen_date_signed_duration_since_eq a.date b.date ha.1 hb.1 ha.2 hb.2) fun dd => ?_
  refine bind_rmap (GenTime.gen_signed_duration_since_eq a.time b.time hta htb) fun td => ?_
  exact bind_rmap (GenDelta.gen_checked_add_eq dd td) fun o => by cases o <;> rfl

/-- non-trivial values: 2020-02-29 (leap day, ordinal 60, flags 0o14+…) 23:59:59.5 plus 1 s lands on 1 March;
an offset of −1 s before midnight of `NaiveDate::MIN` leaves the range by one day -/
example : Gen.naive_datetime.NaiveDateTime.checked_add_signed ⟨2020 * 8192 + 60 * 16 + 12, ⟨86399, 500000000⟩⟩ ⟨1, 0⟩
      = .ok (some ⟨2020 * 8192 + 61 * 16 + 12, ⟨0, 500000000⟩⟩)
    ∧ Gen.naive_datetime.NaiveDateTime.overflowing_sub_offset ⟨Date.MIN.yof, ⟨0, 0⟩⟩ 1
      = .ok ⟨Date.BEFORE_MIN.yof, ⟨86399, 0⟩⟩
    ∧ Gen.naive_datetime.NaiveDateTime.checked_sub_offset ⟨Date.MIN.yof, ⟨0, 0⟩⟩ 1 = .ok none := by decide +kernel

end Chrono.Props.GenDateTime
