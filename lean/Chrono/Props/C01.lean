/-
  C01 — calendar, ordinal, ISO-week and day-count forms of a date agree.
  Helper lemmas: Proofs/DateFin.lean (the four tables, by kernel evaluation), Proofs/DateL.lean,
  Proofs/IsoL.lean, Proofs/C01GapsL.lean, Proofs/C01Round2L.lean.  Specification: Spec/Calendar.lean
  (leap rule, month lengths, closed-form day number with 0001-01-01 = day 1, weekday of a day
  number), independent of chrono's tables.
  `dateOfYo y o` is the packed word `y·8192 + o·16 + flagsOf y` of the o-th day of year y.
-/
import Chrono.Proofs.DateL
import Chrono.Proofs.IsoL
import Chrono.Proofs.C01GapsL
import Chrono.Proofs.C01Round2L
import Chrono.Props.GenDate

namespace Chrono.Props.C01
open Chrono Chrono.M Chrono.Spec Chrono.Proofs Chrono.Extracted Chrono.Proofs.C01Gaps
  Chrono.Proofs.C01R2

/-- the four lookup tables, as re-extracted from the Rust source on this run, are exactly what the
independent calendar specification prescribes (every cell) -/
theorem tables_ok :
    YEAR_TO_FLAGS.length = 400 ∧ (∀ i < 400, YEAR_TO_FLAGS.getD i 0 = flagsOf i) ∧
    MDL_TO_OL.length = 832 ∧ (∀ i < 832, MDL_TO_OL.getD i 0 = mdlDelta i) ∧
    OL_TO_MDL.length = 733 ∧ (∀ i < 733, 1 < i → OL_TO_MDL.getD i 0 = olDelta i) ∧
    YEAR_DELTAS.length = 401 ∧ (∀ i < 401, YEAR_DELTAS.getD i 0 = leapsBefore i) :=
  tables_ok'

/-- the extracted range constants and the packed range ends -/
theorem consts_ok :
    MIN_YEAR = -262143 ∧ MAX_YEAR = 262142 ∧ MAX_OL = 732 ∧ DATE_MAX_OL = 5856 ∧
    Date.MIN = dateOfYo MIN_YEAR 1 ∧ Date.MAX = dateOfYo MAX_YEAR 365 ∧
    dayNumYo MIN_YEAR 1 = -95746129 ∧ dayNumYo MAX_YEAR 365 = 95745399 ∧
    dayNum 1970 1 1 = 719163 ∧ weekdayOf 719163 = 3 := by decide

/-- the literals inside `YearFlags::{ndays, isoweek_delta, nisoweeks}`, re-extracted from the source
on this run, are the ones the model's definitions were written against (`366 − flags>>3`, the
weekday mask 7 with "< 3 ⇒ + 7", and the 53-week mask `0b0000_0100_0000_0110`) -/
theorem year_flag_literals_ok :
    NDAYS_BASE = 366 ∧ NDAYS_SHIFT = 3 ∧ ISOWEEK_DELTA_MASK = 7 ∧ ISOWEEK_DELTA_MIN = 3 ∧
    ISOWEEK_DELTA_ADD = 7 ∧ NISOWEEKS_MASK = 1030 ∧
    (∀ f < 16, YearFlags.ndays f = (NDAYS_BASE - (f / 2 ^ NDAYS_SHIFT.toNat : Nat)).toNat) ∧
    (∀ f < 16, (YearFlags.nisoweeks f : Int) = 52 + (NISOWEEKS_MASK / 2 ^ f) % 2) := by decide

/-- year flags of **every** year (400-year periodicity of the leap rule and of the weekday):
the table lookup yields the leap status and the weekday of Dec 31 of the previous year -/
theorem year_flags_spec (y : Int) :
    YearFlags.from_year y = flagsOf y ∧ YearFlags.ndays (flagsOf y) = yearLen y ∧
    (flagsOf y / 8 = if isLeap y then 0 else 1) :=
  ⟨from_year_spec y, ndays_spec y, (flagsOf_facts y).2.2.1⟩

/-- year-month-day constructor, every argument tuple: yields the date for exactly the tuples that
denote an existing date of the supported range, nothing otherwise, never panics -/
theorem ctor_ymd (y : Int) (m d : Nat) :
    Date.from_ymd_opt y m d =
      .ok (if MIN_YEAR ≤ y ∧ y ≤ MAX_YEAR ∧ validYmd y m d = true
           then some (dateOfYo y (ordinalOf y m d)) else none) := ctor_ymd' y m d

/-- year-ordinal constructor, every argument tuple -/
theorem ctor_yo (y : Int) (o : Nat) :
    Date.from_yo_opt y o =
      .ok (if MIN_YEAR ≤ y ∧ y ≤ MAX_YEAR ∧ 1 ≤ o ∧ o ≤ yearLen y then some (dateOfYo y o) else none) :=
  ctor_yo' y o

/-- day-number constructor, every `i32`: never panics, fails exactly outside the range, and the
result is a date of the range whose day number is the argument -/
theorem ctor_days (n : Int) (hn : -2147483648 ≤ n ∧ n ≤ 2147483647) :
    ∃ r, Date.from_num_days_from_ce_opt n = .ok r ∧
      (∀ d, r = some d → ∃ y o, d = dateOfYo y o ∧ MIN_YEAR ≤ y ∧ y ≤ MAX_YEAR ∧ 1 ≤ o ∧ o ≤ yearLen y ∧
        dayNumYo y o = n) ∧
      (r = none ↔ (n < dayNumYo MIN_YEAR 1 ∨ n > dayNumYo MAX_YEAR 365)) := ctor_days' n hn

/-- accessors of the o-th day of year y: year, ordinal, leap flag; month and day are the unique
valid calendar form with that ordinal; the day number is the closed form; the weekday is the
weekday of the day number -/
theorem accessors_ok (y : Int) (o : Nat) (hy : MIN_YEAR ≤ y ∧ y ≤ MAX_YEAR)
    (ho : 1 ≤ o ∧ o ≤ yearLen y) :
    (dateOfYo y o).year = y ∧ (dateOfYo y o).ordinal = o ∧ (dateOfYo y o).leap_year = isLeap y ∧
    (dateOfYo y o).month = .ok (monthOfYo y o) ∧ (dateOfYo y o).day = .ok (dayOfYo y o) ∧
    validYmd y (monthOfYo y o) (dayOfYo y o) = true ∧ ordinalOf y (monthOfYo y o) (dayOfYo y o) = o ∧
    (dateOfYo y o).num_days_from_ce = .ok (dayNumYo y o) ∧
    ((dateOfYo y o).weekday.toNat : Int) = weekdayOf (dayNumYo y o) := by
  have hyl := yearLen_ge y
  have hMIN : MIN_YEAR = -262143 := rfl
  have hMAX : MAX_YEAR = 262142 := rfl
  obtain ⟨h1, h2, _, _, _, h6⟩ := dateOfYo_fields y o (by omega)
  obtain ⟨m1, m2, m3, m4⟩ := month_day_spec y o ho.1 ho.2
  refine ⟨h1, h2, h6, m1, m2, m3, m4, ?_, weekday_spec y o (by omega)⟩
  have := num_days_spec (dateOfYo y o) (by rw [h1]; omega) (by rw [h1]; omega) (by rw [h2]; omega)
  rw [h1, h2] at this
  exact this

/-- exactly one calendar form: a valid (month, day) is recovered from its ordinal -/
theorem ymd_form_unique (y : Int) (m d : Nat) (h : validYmd y m d = true) :
    monthOfYo y (ordinalOf y m d) = m ∧ dayOfYo y (ordinalOf y m d) = d := ymd_unique y m d h

/-- date order (derived comparison of the packed word) equals day-number order, and two dates are
equal exactly when their day numbers are (one day number per date) -/
theorem order_iso (y1 y2 : Int) (o1 o2 : Nat) (h1 : 1 ≤ o1 ∧ o1 ≤ yearLen y1)
    (h2 : 1 ≤ o2 ∧ o2 ≤ yearLen y2) :
    ((dateOfYo y1 o1).yof < (dateOfYo y2 o2).yof ↔ dayNumYo y1 o1 < dayNumYo y2 o2) ∧
    ((dateOfYo y1 o1).yof = (dateOfYo y2 o2).yof ↔ dayNumYo y1 o1 = dayNumYo y2 o2) :=
  order_spec y1 y2 o1 o2 h1 h2

/-- the successor is the next day (day number + 1, next weekday) and exists unless the date is MAX -/
theorem succ_ok (y : Int) (o : Nat) (hy : MIN_YEAR ≤ y ∧ y ≤ MAX_YEAR) (ho : 1 ≤ o ∧ o ≤ yearLen y) :
    ∃ r, Date.succ_opt (dateOfYo y o) = .ok r ∧
      (r = none ↔ dateOfYo y o = Date.MAX) ∧
      (∀ d, r = some d → ∃ y' o', d = dateOfYo y' o' ∧ MIN_YEAR ≤ y' ∧ y' ≤ MAX_YEAR ∧ 1 ≤ o' ∧
        o' ≤ yearLen y' ∧ dayNumYo y' o' = dayNumYo y o + 1 ∧
        weekdayOf (dayNumYo y' o') = (weekdayOf (dayNumYo y o) + 1) % 7) :=
  succ_ok' y o hy ho

/-- the predecessor is the previous day and exists unless the date is MIN -/
theorem pred_ok (y : Int) (o : Nat) (hy : MIN_YEAR ≤ y ∧ y ≤ MAX_YEAR) (ho : 1 ≤ o ∧ o ≤ yearLen y) :
    ∃ r, Date.pred_opt (dateOfYo y o) = .ok r ∧
      (r = none ↔ dateOfYo y o = Date.MIN) ∧
      (∀ d, r = some d → ∃ y' o', d = dateOfYo y' o' ∧ MIN_YEAR ≤ y' ∧ y' ≤ MAX_YEAR ∧ 1 ≤ o' ∧
        o' ≤ yearLen y' ∧ dayNumYo y' o' = dayNumYo y o - 1) :=
  pred_ok' y o hy ho

/-- non-vacuity: a leap day, both range ends, a non-existent and an out-of-range tuple -/
example : Date.from_ymd_opt 2024 2 29 = .ok (some (dateOfYo 2024 60)) ∧
    Date.from_ymd_opt 2023 2 29 = .ok none ∧ Date.from_ymd_opt 262143 1 1 = .ok none ∧
    Date.from_yo_opt (-262143) 1 = .ok (some Date.MIN) ∧
    Date.succ_opt Date.MAX = .ok none ∧ (yearLen 2024 = 366 ∧ validYmd 2024 2 29 = true) := by
  decide +kernel

/-! ### ISO 8601 week dates (specification: Spec/IsoSpec.lean and `isoThursday` of Spec/Calendar.lean,
written with day numbers only; helper lemmas: Proofs/IsoFin.lean, Proofs/IsoL.lean) -/

/-- exactly one year-ordinal form per day number: a (year, ordinal) pair with an existing ordinal is
determined by its day number (so the `(Y, ot)` of `iso_week_spec` below is unique) -/
theorem yo_form_unique (y1 y2 : Int) (o1 o2 : Nat) (h1 : 1 ≤ o1 ∧ o1 ≤ yearLen y1)
    (h2 : 1 ≤ o2 ∧ o2 ≤ yearLen y2) (h : dayNumYo y1 o1 = dayNumYo y2 o2) : y1 = y2 ∧ o1 = o2 :=
  yo_unique y1 y2 o1 o2 h1 h2 h

/-- ISO-week accessor, every date of the range: `iso_week` never panics and returns the ISO 8601
week of the date's day number `n`: the Thursday `isoThursday n` of `n`'s Monday-based week is the
`ot`-th day of calendar year `Y`; the ISO year is `Y` and the week number is `(ot − 1)/7 + 1`
(so week 1 is the week with the year's first Thursday, i.e. the week containing 4 January).  The low
four bits of the packed value are the flags of `Y`.  Last conjunct (audit2 gap 6): `IsoWeek::week0` with
its `u32` subtraction as the source has it (`IsoWeek.week0r`, Model/DateViews.lean — `.panic` on a week
field of 0) returns `.ok`, i.e. the subtraction never underflows on the ISO week of a date. -/
theorem iso_week_spec (y : Int) (o : Nat) (hy : MIN_YEAR ≤ y ∧ y ≤ MAX_YEAR)
    (ho : 1 ≤ o ∧ o ≤ yearLen y) :
    ∃ (ywf Y : Int) (ot : Nat), Date.iso_week (dateOfYo y o) = .ok ywf ∧
      1 ≤ ot ∧ ot ≤ yearLen Y ∧ dayNumYo Y ot = isoThursday (dayNumYo y o) ∧
      IsoWeek.year ywf = Y ∧ IsoWeek.week ywf = ((ot - 1) / 7 + 1 : Nat) ∧
      IsoWeek.week0 ywf = ((ot - 1) / 7 : Nat) ∧ ywf % 16 = flagsOf Y ∧
      IsoWeek.week0r ywf = .ok ((ot - 1) / 7) := by
  obtain ⟨Y, ot, h1, h2, h3, h4⟩ := iso_week_spec' y o hy ho
  have hl := yearLen_ge Y
  have hf := (flagsOf_facts Y).1
  obtain ⟨f1, f2⟩ := ywf_fields Y ((ot - 1) / 7 + 1) (flagsOf Y) (by omega) hf
  refine ⟨_, Y, ot, h4, h1, h2, h3, f1, f2, ?_, by omega,
    week0r_spec Y ((ot - 1) / 7 + 1) (flagsOf Y) (by omega) (by omega) hf⟩
  unfold IsoWeek.week0; unfold IsoWeek.week at f2; rw [f2]; push_cast; omega

/-- the number of ISO weeks of **every** year: week `w` exists in ISO year `y` (its Thursday is a
day of calendar year `y`) exactly for `1 ≤ w ≤ 52` or `53` as the calendar rule says, and chrono's
bit mask `nisoweeks` applied to the looked-up flags is that number -/
theorem iso_weeks_in_year (y : Int) (w : Nat) :
    (isoWeekExists y w ↔ (1 ≤ w ∧ w ≤ isoWeeksInYear y)) ∧
    YearFlags.nisoweeks (YearFlags.from_year y) = isoWeeksInYear y := by
  rw [from_year_spec, ← nisoweeks_spec]
  exact ⟨isoWeekExists_iff y w, rfl⟩

/-- ISO year-week-weekday constructor, every argument tuple (all integers `y` including `i32::MIN`
and `i32::MAX`, all naturals `w`, all weekdays): never panics; returns nothing exactly when ISO year
`y` has no week `w` or the denoted day `isoDayNum y w wd` (Monday of week 1 = Monday of the week
containing 4 January, plus `7·(w−1) + wd`) lies outside [MIN, MAX]; otherwise returns the date of
the range with that day number -/
theorem ctor_isoywd (y : Int) (w : Nat) (wd : Weekday) :
    ∃ r, Date.from_isoywd_opt y w wd = .ok r ∧
      (∀ d, r = some d → ∃ Y o, d = dateOfYo Y o ∧ MIN_YEAR ≤ Y ∧ Y ≤ MAX_YEAR ∧ 1 ≤ o ∧
        o ≤ yearLen Y ∧ dayNumYo Y o = isoDayNum y w wd.toNat) ∧
      (r = none ↔ ¬ (isoWeekExists y w ∧ dayNumYo MIN_YEAR 1 ≤ isoDayNum y w wd.toNat ∧
        isoDayNum y w wd.toNat ≤ dayNumYo MAX_YEAR 365)) := ctor_isoywd' y w wd

/-- the constructed date has exactly the requested ISO week date: accessor and constructor agree -/
theorem isoywd_roundtrip (y : Int) (w : Nat) (wd : Weekday) (d : Date)
    (h : Date.from_isoywd_opt y w wd = .ok (some d)) :
    ∃ ywf, d.iso_week = .ok ywf ∧ IsoWeek.year ywf = y ∧ IsoWeek.week ywf = w ∧ d.weekday = wd :=
  isoywd_roundtrip' y w wd d h

/-- ISO weeks compare (derived order on the packed `ywf`) in chronological order: monotone in the
day number, strictly increasing only with the day number, and equal exactly for days of the same
Monday-based week -/
theorem iso_week_order (y1 y2 : Int) (o1 o2 : Nat) (hy1 : MIN_YEAR ≤ y1 ∧ y1 ≤ MAX_YEAR)
    (hy2 : MIN_YEAR ≤ y2 ∧ y2 ≤ MAX_YEAR) (h1 : 1 ≤ o1 ∧ o1 ≤ yearLen y1)
    (h2 : 1 ≤ o2 ∧ o2 ≤ yearLen y2) :
    ∃ a b, Date.iso_week (dateOfYo y1 o1) = .ok a ∧ Date.iso_week (dateOfYo y2 o2) = .ok b ∧
      (dayNumYo y1 o1 ≤ dayNumYo y2 o2 → a ≤ b) ∧
      (a < b → dayNumYo y1 o1 < dayNumYo y2 o2) ∧
      (a = b ↔ isoThursday (dayNumYo y1 o1) = isoThursday (dayNumYo y2 o2)) := by
  obtain ⟨a, b, ha, hb, l1, l2⟩ := iso_week_le_iff y1 y2 o1 o2 hy1 hy2 h1 h2
  have t1 := isoThursday_mono (dayNumYo y1 o1) (dayNumYo y2 o2)
  have t2 := isoThursday_mono (dayNumYo y2 o2) (dayNumYo y1 o1)
  exact ⟨a, b, ha, hb, fun h => l1.mpr (t1 h), fun h => by omega, by omega⟩

/-- finding #1 (repaired in the tree under test): with the pinned source's plain `year - 1` the
constructor panics at `i32::MIN` (whose week 1 starts in the previous year), where the repaired code
returns `None`; elsewhere the two agree.  (`year + 1` cannot overflow: `i32::MAX` is a 52-week common
year starting on a Monday, so none of its weeks reaches into the next year.) -/
theorem isoywd_pinned_overflow :
    isoywdPinned (-2147483648) 1 .mon = .panic ∧ Date.from_isoywd_opt (-2147483648) 1 .mon = .ok none ∧
    isoywdPinned 2147483647 52 .sun = .ok none ∧ Date.from_isoywd_opt 2147483647 52 .sun = .ok none ∧
    isoywdPinned 2015 1 .mon = Date.from_isoywd_opt 2015 1 .mon := by decide +kernel

/-- non-vacuity: 2015-W01-Mon is 2014-12-29 (previous calendar year), 2020 has a week 53 reaching
into 2021, 2021 has none; MIN is the Thursday of week 1 of MIN_YEAR (Monday..Wednesday of that week
are out of range) and MAX is the Monday of week 1 of ISO year MAX_YEAR + 1 -/
example : Date.from_isoywd_opt 2015 1 .mon = .ok (some (dateOfYo 2014 363)) ∧
    Date.iso_week (dateOfYo 2014 363) = .ok (2015 * 1024 + 1 * 16 + flagsOf 2015) ∧
    Date.from_isoywd_opt 2020 53 .sun = .ok (some (dateOfYo 2021 3)) ∧
    Date.from_isoywd_opt 2021 53 .mon = .ok none ∧ Date.from_isoywd_opt 2021 0 .mon = .ok none ∧
    isoWeeksInYear 2020 = 53 ∧ isoWeeksInYear 2021 = 52 ∧
    isoDayNum 2015 1 0 = dayNumYo 2014 363 ∧ isoThursday (dayNumYo 2014 363) = dayNumYo 2015 1 ∧
    Date.from_isoywd_opt MIN_YEAR 1 .thu = .ok (some Date.MIN) ∧
    Date.from_isoywd_opt MIN_YEAR 1 .wed = .ok none ∧
    Date.from_isoywd_opt (MAX_YEAR + 1) 1 .mon = .ok (some Date.MAX) ∧
    Date.from_isoywd_opt (MAX_YEAR + 1) 1 .tue = .ok none ∧
    (Date.iso_week Date.MAX).isOk = true ∧
    Date.from_isoywd_opt MAX_YEAR 53 .mon = .ok none := by
  decide +kernel

/-! ### Audit gaps (audit/C01.md, closed 2026-09-30; helper lemmas: Proofs/C01GapsL.lean)

Accessor → constructor direction: every date of the range is in the image of each of the four
constructors, reached from the fields its own accessors report (so each date *has* a form of each
kind; `ymd_form_unique`, `yo_form_unique`, `isoywd_roundtrip` and `order_iso` say it has only one). -/

/-- the specification-level core of `iso_form_exists`, for **every** day number `n` (no range): when
the Thursday of `n`'s Monday-based week is the `ot`-th day of calendar year `Y`, ISO year `Y` has week
`(ot − 1)/7 + 1` and the day of that week with `n`'s weekday is `n` -/
theorem iso_specs_agree (Y : Int) (ot : Nat) (n : Int) (h1 : 1 ≤ ot) (h2 : ot ≤ yearLen Y)
    (h : dayNumYo Y ot = isoThursday n) :
    isoWeekExists Y (((ot - 1) / 7 + 1 : Nat) : Int) ∧
    isoDayNum Y (((ot - 1) / 7 + 1 : Nat) : Int) (weekdayOf n) = n := by
  have hs := dby_step Y
  have hl := yearLen_ge Y
  unfold isoWeekExists isoDayNum isoWeek1Monday
  rw [hs]
  unfold dayNumYo isoThursday weekdayOf at *
  generalize daysBeforeYear Y = D at *
  generalize yearLen Y = L at *
  push_cast
  omega

/-- **ISO week-date form exists** (audit gap MEDIUM): for every date of the range, `iso_week` succeeds
and `from_isoywd_opt` applied to the date's own ISO year, ISO week number and weekday returns exactly
that date.  With `isoywd_roundtrip` (constructor → accessor) this makes `from_isoywd_opt` and
`(iso_week, weekday)` mutually inverse on the whole range, and ties the accessor's specification
(`isoThursday`) to the constructor's (`isoDayNum` / `isoWeekExists`) on every date, not only on the
constructor's image. -/
theorem iso_form_exists (y : Int) (o : Nat) (hy : MIN_YEAR ≤ y ∧ y ≤ MAX_YEAR)
    (ho : 1 ≤ o ∧ o ≤ yearLen y) :
    ∃ ywf, Date.iso_week (dateOfYo y o) = .ok ywf ∧
      Date.from_isoywd_opt (IsoWeek.year ywf) (IsoWeek.week ywf).toNat (dateOfYo y o).weekday =
        .ok (some (dateOfYo y o)) := by
  obtain ⟨Y, ot, t1, t2, t3, t4⟩ := iso_week_spec' y o hy ho
  have hl := yearLen_ge Y
  have hly := yearLen_ge y
  have hf := (flagsOf_facts Y).1
  obtain ⟨f1, f2⟩ := ywf_fields Y ((ot - 1) / 7 + 1) (flagsOf Y) (by omega) hf
  refine ⟨_, t4, ?_⟩
  rw [f1, f2, Int.toNat_natCast]
  have hwd := weekday_spec y o (by omega)
  obtain ⟨e1, e2⟩ := iso_specs_agree Y ot _ t1 t2 t3
  obtain ⟨r, hr, hsome, hnone⟩ := ctor_isoywd' Y ((ot - 1) / 7 + 1) (dateOfYo y o).weekday
  rw [hwd, e2] at hsome hnone
  have hrange := (range_iff_iso y o ho).mp hy
  rw [hr]
  cases r with
  | none => exact absurd ⟨e1, hrange⟩ (hnone.mp rfl)
  | some d =>
    obtain ⟨Y', o', hd, _, _, p1, p2, hdn⟩ := hsome d rfl
    obtain ⟨u1, u2⟩ := yo_unique Y' y o' o ⟨p1, p2⟩ ho hdn
    subst u1 u2
    rw [hd]

/-- year-month-day form exists: `from_ymd_opt (year d) (month d) (day d) = d` for every date -/
theorem ymd_form_exists (y : Int) (o : Nat) (hy : MIN_YEAR ≤ y ∧ y ≤ MAX_YEAR)
    (ho : 1 ≤ o ∧ o ≤ yearLen y) :
    ∃ m dd, (dateOfYo y o).month = .ok m ∧ (dateOfYo y o).day = .ok dd ∧
      Date.from_ymd_opt (dateOfYo y o).year m dd = .ok (some (dateOfYo y o)) := by
  have hly := yearLen_ge y
  obtain ⟨h1, _, _, _, _, _⟩ := dateOfYo_fields y o (by omega)
  obtain ⟨m1, m2, m3, m4⟩ := month_day_spec y o ho.1 ho.2
  refine ⟨_, _, m1, m2, ?_⟩
  rw [h1, ctor_ymd', if_pos ⟨hy.1, hy.2, m3⟩, m4]

/-- year-ordinal form exists: `from_yo_opt (year d) (ordinal d) = d` for every date -/
theorem yo_form_exists (y : Int) (o : Nat) (hy : MIN_YEAR ≤ y ∧ y ≤ MAX_YEAR)
    (ho : 1 ≤ o ∧ o ≤ yearLen y) :
    Date.from_yo_opt (dateOfYo y o).year (dateOfYo y o).ordinal.toNat = .ok (some (dateOfYo y o)) := by
  have hly := yearLen_ge y
  obtain ⟨h1, h2, _, _, _, _⟩ := dateOfYo_fields y o (by omega)
  rw [h1, h2, Int.toNat_natCast, ctor_yo', if_pos ⟨hy.1, hy.2, ho.1, ho.2⟩]

/-- day-number form exists: `from_num_days_from_ce_opt (num_days_from_ce d) = d` for every date -/
theorem days_form_exists (y : Int) (o : Nat) (hy : MIN_YEAR ≤ y ∧ y ≤ MAX_YEAR)
    (ho : 1 ≤ o ∧ o ≤ yearLen y) :
    ∃ n, (dateOfYo y o).num_days_from_ce = .ok n ∧
      Date.from_num_days_from_ce_opt n = .ok (some (dateOfYo y o)) := by
  have hMIN : MIN_YEAR = -262143 := rfl
  have hMAX : MAX_YEAR = 262142 := rfl
  have hly := yearLen_ge y
  obtain ⟨h1, h2, _, _, _, _⟩ := dateOfYo_fields y o (by omega)
  have hn := num_days_spec (dateOfYo y o) (by rw [h1]; omega) (by rw [h1]; omega) (by rw [h2]; omega)
  rw [h1, h2] at hn
  refine ⟨_, hn, ?_⟩
  have hrange := (range_iff_iso y o ho).mp hy
  have c1 : dayNumYo MIN_YEAR 1 = -95746129 := by decide
  have c2 : dayNumYo MAX_YEAR 365 = 95745399 := by decide
  obtain ⟨r, hr, hsome, hnone⟩ := ctor_days' (dayNumYo y o) (by omega)
  rw [hr]
  cases r with
  | none => exact absurd (hnone.mp rfl) (by omega)
  | some d =>
    obtain ⟨Y', o', hd, _, _, p1, p2, hdn⟩ := hsome d rfl
    obtain ⟨u1, u2⟩ := yo_unique Y' y o' o ⟨p1, p2⟩ ho hdn
    subst u1 u2
    rw [hd]

/-- non-vacuity of the round trips: a date whose ISO year is the previous calendar year
(2021-01-03 is 2020-W53-Sun), one whose ISO year is the next (2014-12-29 is 2015-W01-Mon), a leap
day, and both range ends (MIN is the Thursday of W01 of MIN_YEAR, MAX the Monday of W01 of MAX_YEAR+1) -/
example : Date.iso_week (dateOfYo 2021 3) = .ok (2020 * 1024 + 53 * 16 + flagsOf 2020) ∧
    (dateOfYo 2021 3).weekday = .sun ∧
    Date.from_isoywd_opt 2020 53 .sun = .ok (some (dateOfYo 2021 3)) ∧
    Date.from_isoywd_opt 2015 1 .mon = .ok (some (dateOfYo 2014 363)) ∧
    (dateOfYo 2024 60).month = .ok 2 ∧ (dateOfYo 2024 60).day = .ok 29 ∧
    Date.from_ymd_opt 2024 2 29 = .ok (some (dateOfYo 2024 60)) ∧
    Date.iso_week Date.MIN = .ok (MIN_YEAR * 1024 + 1 * 16 + flagsOf MIN_YEAR) ∧ Date.MIN.weekday = .thu ∧
    Date.iso_week Date.MAX = .ok ((MAX_YEAR + 1) * 1024 + 1 * 16 + flagsOf (MAX_YEAR + 1)) ∧
    Date.MAX.weekday = .mon ∧
    Date.MAX.num_days_from_ce = .ok 95745399 ∧
    Date.from_num_days_from_ce_opt 95745399 = .ok (some Date.MAX) := by decide +kernel

/-- **date order on `Date.cmp`** (audit gap LOW; `Date.cmp` is the derived `Ord` the driver op `d.cmp`
evaluates): the comparison of two dates is the comparison of their day numbers -/
theorem order_cmp (y1 y2 : Int) (o1 o2 : Nat) (h1 : 1 ≤ o1 ∧ o1 ≤ yearLen y1)
    (h2 : 1 ≤ o2 ∧ o2 ≤ yearLen y2) :
    Date.cmp (dateOfYo y1 o1) (dateOfYo y2 o2) =
      (if dayNumYo y1 o1 < dayNumYo y2 o2 then -1 else if dayNumYo y1 o1 > dayNumYo y2 o2 then 1 else 0) :=
  cmp_spec y1 y2 o1 o2 h1 h2

/-- **ISO-week order on `IsoWeek.cmp`** (audit gap LOW; `Date.isocmp a b` models
`a.iso_week().cmp(&b.iso_week())`, the function the driver op `di.isocmp` evaluates): never panics,
and the ISO weeks of two dates compare exactly like the Thursdays of their Monday-based weeks — i.e.
chronologically, with equality exactly for days of the same week -/
theorem iso_week_cmp (y1 y2 : Int) (o1 o2 : Nat) (hy1 : MIN_YEAR ≤ y1 ∧ y1 ≤ MAX_YEAR)
    (hy2 : MIN_YEAR ≤ y2 ∧ y2 ≤ MAX_YEAR) (h1 : 1 ≤ o1 ∧ o1 ≤ yearLen y1)
    (h2 : 1 ≤ o2 ∧ o2 ≤ yearLen y2) :
    Date.isocmp (dateOfYo y1 o1) (dateOfYo y2 o2) =
      .ok (if isoThursday (dayNumYo y1 o1) < isoThursday (dayNumYo y2 o2) then -1
           else if isoThursday (dayNumYo y1 o1) > isoThursday (dayNumYo y2 o2) then 1 else 0) := by
  obtain ⟨a, b, ha, hb, l1, l2⟩ := iso_week_le_iff y1 y2 o1 o2 hy1 hy2 h1 h2
  have e1 : a < b ↔ isoThursday (dayNumYo y1 o1) < isoThursday (dayNumYo y2 o2) := by omega
  have e2 : a > b ↔ isoThursday (dayNumYo y1 o1) > isoThursday (dayNumYo y2 o2) := by omega
  unfold Date.isocmp
  rw [ha, hb]
  dsimp only
  unfold IsoWeek.cmp
  rw [ite_same (-1) _ e1, ite_same 1 0 e2]

/-- non-vacuity: all three outcomes of both comparisons (2021-01-03 and 2020-12-28 are different
days of the same ISO week 2020-W53) -/
example : Date.cmp (dateOfYo 2021 3) (dateOfYo 2020 363) = 1 ∧
    Date.isocmp (dateOfYo 2021 3) (dateOfYo 2020 363) = .ok 0 ∧
    Date.isocmp (dateOfYo 2021 4) (dateOfYo 2021 3) = .ok 1 ∧
    Date.isocmp Date.MIN Date.MAX = .ok (-1) ∧ Date.cmp Date.MIN Date.MAX = -1 ∧
    Date.cmp Date.MAX Date.MAX = 0 := by decide +kernel

/-- **`year_ce`** (audit gap LOW; "year 0 = 1 BCE" in its user-visible form, `Datelike::year_ce` of
src/traits.rs, model in Model/DateOps.lean shared with C08): for every date of the range the
common-era view is `(true, y)` from year 1 on and `(false, 1 − y)` before, so year 0 is 1 BCE and
year −1 is 2 BCE; never panics -/
theorem year_ce_ok (y : Int) (o : Nat) (hy : MIN_YEAR ≤ y ∧ y ≤ MAX_YEAR) (ho : 1 ≤ o ∧ o ≤ yearLen y) :
    (dateOfYo y o).year_ce = .ok (if y < 1 then (false, 1 - y) else (true, y)) :=
  year_ce_spec y o hy (by have := yearLen_ge y; omega)

example : (dateOfYo 0 366).year_ce = .ok (false, 1) ∧ (dateOfYo (-1) 1).year_ce = .ok (false, 2) ∧
    (dateOfYo 1 1).year_ce = .ok (true, 1) ∧ Date.MIN.year_ce = .ok (false, 262144) ∧
    isLeap 0 = true ∧ dayNumYo 0 366 = 0 := by decide +kernel

/-- **`isoweek_delta` literals** (audit gap LOW): the model's `isoweek_delta` is the source's
`let mut delta = flags & MASK; if delta < MIN { delta += ADD }` with the three literals as
re-extracted on this run, on every flags value -/
theorem isoweek_delta_literals_ok :
    ∀ f < 16, (YearFlags.isoweek_delta f : Int) =
      (if ((f &&& ISOWEEK_DELTA_MASK.toNat : Nat) : Int) < ISOWEEK_DELTA_MIN
       then ((f &&& ISOWEEK_DELTA_MASK.toNat : Nat) : Int) + ISOWEEK_DELTA_ADD
       else ((f &&& ISOWEEK_DELTA_MASK.toNat : Nat) : Int)) := by decide

/-- **range ends** (`NaiveDate::MIN` / `NaiveDate::MAX`): no date of the range lies before MIN or
after MAX; conversely every day number between the two is the day number of a date of the range; and
there are exactly 191,491,529 of them (the count in the property's quantifier) -/
theorem range_ends_ok :
    (∀ (y : Int) (o : Nat), MIN_YEAR ≤ y ∧ y ≤ MAX_YEAR → 1 ≤ o ∧ o ≤ yearLen y →
      dayNumYo MIN_YEAR 1 ≤ dayNumYo y o ∧ dayNumYo y o ≤ dayNumYo MAX_YEAR 365) ∧
    (∀ n : Int, dayNumYo MIN_YEAR 1 ≤ n ∧ n ≤ dayNumYo MAX_YEAR 365 →
      ∃ y o, MIN_YEAR ≤ y ∧ y ≤ MAX_YEAR ∧ 1 ≤ o ∧ o ≤ yearLen y ∧ dayNumYo y o = n) ∧
    dayNumYo MAX_YEAR 365 - dayNumYo MIN_YEAR 1 + 1 = 191491529 ∧
    Date.MIN.num_days_from_ce = .ok (dayNumYo MIN_YEAR 1) ∧
    Date.MAX.num_days_from_ce = .ok (dayNumYo MAX_YEAR 365) ∧
    yearLen MAX_YEAR = 365 :=
  ⟨range_ends, range_onto, by decide, by decide +kernel, by decide +kernel, by decide⟩

/-- **`add_days`** in C01's vocabulary (the proof is C03's `add_days_yo`, Proofs/DateArithL.lean —
referenced, not duplicated): for every date of the range and every `i32` count, never panics; refused
exactly when day `n + k` is outside [MIN, MAX]; otherwise the date of the range with day number
`n + k` -/
theorem add_days_ok (y : Int) (o : Nat) (k : Int) (hy : MIN_YEAR ≤ y ∧ y ≤ MAX_YEAR)
    (ho : 1 ≤ o ∧ o ≤ yearLen y) (hk : -2147483648 ≤ k ∧ k ≤ 2147483647) :
    ∃ r, Date.add_days (dateOfYo y o) k = .ok r ∧
      (r = none ↔ (dayNumYo y o + k < dayNumYo MIN_YEAR 1 ∨ dayNumYo MAX_YEAR 365 < dayNumYo y o + k)) ∧
      (∀ d, r = some d → ∃ y' o', d = dateOfYo y' o' ∧ MIN_YEAR ≤ y' ∧ y' ≤ MAX_YEAR ∧ 1 ≤ o' ∧
        o' ≤ yearLen y' ∧ dayNumYo y' o' = dayNumYo y o + k) := by
  obtain ⟨r, h1, h2⟩ := add_days_spec (dateOfYo y o) k (inv_of_yo y o hy ho).1 hk
  exact ⟨r, h1, shift_yo y o k r hy ho h2⟩

/-- `checked_add_days` / `checked_sub_days` (every `u64` count), same vocabulary; proofs are C03's
`checked_add_days_spec` / `checked_sub_days_spec` -/
theorem checked_days_ok (y : Int) (o : Nat) (c : Int) (hy : MIN_YEAR ≤ y ∧ y ≤ MAX_YEAR)
    (ho : 1 ≤ o ∧ o ≤ yearLen y) (hc : 0 ≤ c ∧ c ≤ 18446744073709551615) :
    (∃ r, Date.checked_add_days (dateOfYo y o) c = .ok r ∧
      (r = none ↔ (dayNumYo y o + c < dayNumYo MIN_YEAR 1 ∨ dayNumYo MAX_YEAR 365 < dayNumYo y o + c)) ∧
      (∀ d, r = some d → ∃ y' o', d = dateOfYo y' o' ∧ MIN_YEAR ≤ y' ∧ y' ≤ MAX_YEAR ∧ 1 ≤ o' ∧
        o' ≤ yearLen y' ∧ dayNumYo y' o' = dayNumYo y o + c)) ∧
    (∃ r, Date.checked_sub_days (dateOfYo y o) c = .ok r ∧
      (r = none ↔ (dayNumYo y o + -c < dayNumYo MIN_YEAR 1 ∨ dayNumYo MAX_YEAR 365 < dayNumYo y o + -c)) ∧
      (∀ d, r = some d → ∃ y' o', d = dateOfYo y' o' ∧ MIN_YEAR ≤ y' ∧ y' ≤ MAX_YEAR ∧ 1 ≤ o' ∧
        o' ≤ yearLen y' ∧ dayNumYo y' o' = dayNumYo y o + -c)) := by
  have hinv := (inv_of_yo y o hy ho).1
  obtain ⟨r1, a1, a2⟩ := checked_add_days_spec (dateOfYo y o) c hinv hc
  obtain ⟨r2, b1, b2⟩ := checked_sub_days_spec (dateOfYo y o) c hinv hc
  exact ⟨⟨r1, a1, shift_yo y o c r1 hy ho a2⟩, ⟨r2, b1, shift_yo y o (-c) r2 hy ho b2⟩⟩

example : Date.add_days (dateOfYo 2023 365) 1 = .ok (some (dateOfYo 2024 1)) ∧
    Date.add_days Date.MAX 1 = .ok none ∧ Date.add_days Date.MIN 191491528 = .ok (some Date.MAX) ∧
    Date.checked_sub_days (dateOfYo 2024 60) 60 = .ok (some (dateOfYo 2023 365)) ∧
    Date.checked_add_days Date.MIN 4294967296 = .ok none := by decide +kernel

/-- **0-based twins** (`Datelike::{month0, day0, ordinal0}` of `NaiveDate`, each "the 1-based accessor
minus one" on `u32`): for every date (any year) none of the subtractions underflows (no panic) and
the results are one less than the calendar form's month, day and ordinal -/
theorem zero_based_ok (y : Int) (o : Nat) (ho : 1 ≤ o ∧ o ≤ yearLen y) :
    (dateOfYo y o).month0 = .ok (monthOfYo y o - 1) ∧ (dateOfYo y o).day0 = .ok (dayOfYo y o - 1) ∧
    (dateOfYo y o).ordinal0 = .ok (o - 1) ∧ 1 ≤ monthOfYo y o ∧ 1 ≤ dayOfYo y o := by
  have hly := yearLen_ge y
  obtain ⟨_, h2, _, _, _, _⟩ := dateOfYo_fields y o (by omega)
  obtain ⟨m1, m2, m3, _⟩ := month_day_spec y o ho.1 ho.2
  obtain ⟨v1, _, v3, _⟩ := (valid_iff y _ _).mp m3
  unfold Date.month0 Date.day0 Date.ordinal0 Date.subOne
  rw [m1, m2, h2, Int.toNat_natCast]
  dsimp only
  rw [if_neg (by omega), if_neg (by omega), if_neg (by omega)]
  exact ⟨rfl, rfl, rfl, v1, v3⟩

example : (dateOfYo 2024 60).month0 = .ok 1 ∧ (dateOfYo 2024 60).day0 = .ok 28 ∧
    (dateOfYo 2024 60).ordinal0 = .ok 59 ∧ Date.MIN.month0 = .ok 0 ∧ Date.MAX.day0 = .ok 30 ∧
    Date.month0 ⟨0⟩ = .panic := by decide +kernel

/-- **the domain device is the representation invariant**: a packed word satisfies `DateInv` (year in
range, ordinal exists in that year, low bits are the year's flags — Spec/DateSpec.lean) exactly when it
is `dateOfYo y o` for a year of the range and an existing ordinal.  So the theorems of this file,
quantified over `dateOfYo y o`, are about exactly the values with the invariant (which C15 proves every
constructor and operation returns). -/
theorem date_invariant_iff (d : Date) :
    DateInv d ↔ ∃ (y : Int) (o : Nat), d = dateOfYo y o ∧ MIN_YEAR ≤ y ∧ y ≤ MAX_YEAR ∧ 1 ≤ o ∧
      o ≤ yearLen y := by
  constructor
  · intro h
    obtain ⟨he, p1, p2, _⟩ := inv_eq d h
    exact ⟨_, _, he, h.1, h.2.1, p1, p2⟩
  · rintro ⟨y, o, rfl, a, b, c, e⟩
    exact (inv_of_yo y o ⟨a, b⟩ ⟨c, e⟩).1

example : DateInv Date.MIN ∧ DateInv Date.MAX ∧ ¬ DateInv Date.BEFORE_MIN ∧ ¬ DateInv Date.AFTER_MAX ∧
    ¬ DateInv ⟨2023 * 8192 + 366 * 16 + flagsOf 2023⟩ ∧ ¬ DateInv ⟨2024 * 8192 + 60 * 16 + 0⟩ := by
  decide +kernel

/-- **week 1 contains 4 January** on the accessor itself: for every year of the range, 4 January has
ISO year = calendar year and ISO week 1 (the clause of the statement, read off `iso_week` directly) -/
theorem jan4_in_week1 (y : Int) (hy : MIN_YEAR ≤ y ∧ y ≤ MAX_YEAR) :
    ∃ ywf, Date.iso_week (dateOfYo y 4) = .ok ywf ∧ IsoWeek.year ywf = y ∧ IsoWeek.week ywf = 1 := by
  have hl := yearLen_ge y
  obtain ⟨ywf, Y, ot, h1, h2, h3, h4, h5, h6, _, _⟩ := iso_week_spec y 4 hy ⟨by omega, by omega⟩
  have hk : ∃ k : Nat, 1 ≤ k ∧ k ≤ 7 ∧ dayNumYo y k = isoThursday (dayNumYo y ((4 : Nat) : Int)) := by
    unfold isoThursday weekdayOf dayNumYo
    generalize daysBeforeYear y = D
    refine ⟨(7 - ((D + 4 + 6) % 7)).toNat, ?_, ?_, ?_⟩ <;> omega
  obtain ⟨k, k1, k2, k3⟩ := hk
  obtain ⟨u1, u2⟩ := yo_form_unique Y y ot k ⟨h2, h3⟩ ⟨k1, by omega⟩ (by rw [h4, k3])
  subst u1 u2
  refine ⟨ywf, h1, h5, ?_⟩
  rw [h6]
  have : (ot - 1) / 7 + 1 = 1 := by omega
  rw [this]; rfl

example : Date.iso_week (dateOfYo 2021 4) = .ok (2021 * 1024 + 1 * 16 + flagsOf 2021) ∧
    Date.iso_week (dateOfYo 2021 3) = .ok (2020 * 1024 + 53 * 16 + flagsOf 2020) ∧
    IsoWeek.week (2021 * 1024 + 1 * 16 + flagsOf 2021) = 1 := by decide +kernel

/-- **successor on the user-visible accessors**: when `succ_opt` returns a date, its `weekday()` is the
`Weekday::succ` of the date's and it compares greater (`Date.cmp = -1`); `succ_ok` gives the day number -/
theorem succ_weekday (y : Int) (o : Nat) (hy : MIN_YEAR ≤ y ∧ y ≤ MAX_YEAR) (ho : 1 ≤ o ∧ o ≤ yearLen y)
    (d' : Date) (h : Date.succ_opt (dateOfYo y o) = .ok (some d')) :
    d'.weekday = (dateOfYo y o).weekday.succ ∧ Date.cmp (dateOfYo y o) d' = -1 := by
  obtain ⟨r, hr, _, hs⟩ := succ_ok' y o hy ho
  rw [hr] at h
  obtain ⟨y', o', hd, _, _, p1, p2, hdn, _⟩ := hs d' (Res.ok.inj h)
  have hl := yearLen_ge y
  have hl' := yearLen_ge y'
  have w1 := weekday_spec y o (by omega)
  have w2 := weekday_spec y' o' (by omega)
  subst hd
  refine ⟨?_, ?_⟩
  · apply wd_toNat_inj
    have := wd_succ_toNat (dateOfYo y o).weekday
    rw [hdn] at w2
    unfold weekdayOf at w1 w2
    omega
  · rw [cmp_spec y y' o o' ho ⟨p1, p2⟩, if_pos (by omega)]

/-- the predecessor has the previous weekday and compares smaller -/
theorem pred_weekday (y : Int) (o : Nat) (hy : MIN_YEAR ≤ y ∧ y ≤ MAX_YEAR) (ho : 1 ≤ o ∧ o ≤ yearLen y)
    (d' : Date) (h : Date.pred_opt (dateOfYo y o) = .ok (some d')) :
    d'.weekday = (dateOfYo y o).weekday.pred ∧ Date.cmp (dateOfYo y o) d' = 1 := by
  obtain ⟨r, hr, _, hs⟩ := pred_ok' y o hy ho
  rw [hr] at h
  obtain ⟨y', o', hd, _, _, p1, p2, hdn⟩ := hs d' (Res.ok.inj h)
  have hl := yearLen_ge y
  have hl' := yearLen_ge y'
  have w1 := weekday_spec y o (by omega)
  have w2 := weekday_spec y' o' (by omega)
  subst hd
  refine ⟨?_, ?_⟩
  · apply wd_toNat_inj
    have := pred_toNat (dateOfYo y o).weekday
    rw [hdn] at w2
    unfold weekdayOf at w1 w2
    omega
  · rw [cmp_spec y y' o o' ho ⟨p1, p2⟩, if_neg (by omega), if_pos (by omega)]

example : Date.succ_opt (dateOfYo 2023 365) = .ok (some (dateOfYo 2024 1)) ∧
    (dateOfYo 2023 365).weekday = .sun ∧ (dateOfYo 2024 1).weekday = .mon ∧
    Date.pred_opt (dateOfYo 2024 1) = .ok (some (dateOfYo 2023 365)) := by decide +kernel

/-! ### Second audit (audit2/C01.md, closed 2026-09-30; helper lemmas: Proofs/C01Round2L.lean) -/

/-- **the calendar specification is coherent** (audit2 gap 2a), for **every** integer year (negative
years and year 0 included): the closed-form day number advances from one 1 January to the next by
exactly the length the leap rule gives the year, and by 146097 days over 400 years; the ordinal of
1 January is 1, the first day of each month follows the last day (by `monthLen`) of the month before,
and 31 December is day `yearLen`.  Together with the anchor `consts_ok` (1970-01-01 = day 719163, a
Thursday) this derives the closed form `daysBeforeYear` and the cumulative table inside `ordinalOf`
from the leap rule and the month lengths alone — a table with two months swapped, or a closed form
that drifts in negative years, would satisfy the bijection theorems (`ymd_form_unique`,
`accessors_ok`) but not this one.  (The external validation against Python / GNU date covers
years 1..9999 only; this theorem is what carries it to every other year.) -/
theorem spec_coherent (y : Int) :
    daysBeforeYear (y + 1) = daysBeforeYear y + yearLen y ∧
    daysBeforeYear (y + 400) = daysBeforeYear y + 146097 ∧
    ordinalOf y 1 1 = 1 ∧
    (∀ m, 1 ≤ m → m < 12 → ordinalOf y (m + 1) 1 = ordinalOf y m (monthLen y m) + 1) ∧
    ordinalOf y 12 31 = yearLen y ∧
    (∀ m d, validYmd y m d = true → 1 ≤ ordinalOf y m d ∧ ordinalOf y m d ≤ yearLen y) :=
  ⟨dby_step y, dby_400 y, ordinalOf_jan1 y, ordinalOf_month_step y, (ordinalOf_dec31 y).1,
    valid_ordinal_bounds y⟩

/-- non-vacuity: a leap year, a common century, year 0 (leap) and a negative leap year -/
example : yearLen 2024 = 366 ∧ yearLen 1900 = 365 ∧ yearLen 0 = 366 ∧ yearLen (-4) = 366 ∧
    daysBeforeYear 1 = 0 ∧ daysBeforeYear 0 = -366 ∧ daysBeforeYear (-399) = -146097 ∧
    ordinalOf 2024 3 1 = ordinalOf 2024 2 29 + 1 ∧ ordinalOf 2023 3 1 = ordinalOf 2023 2 28 + 1 ∧
    monthLen (-4) 2 = 29 := by decide

/-- **exactly one year-month-day form, at the user level** (audit2 gap 3): two argument tuples for
which `from_ymd_opt` returns the same date are the same tuple -/
theorem ymd_inj (y y' : Int) (m d m' d' : Nat) (x : Date)
    (h : Date.from_ymd_opt y m d = .ok (some x)) (h' : Date.from_ymd_opt y' m' d' = .ok (some x)) :
    y = y' ∧ m = m' ∧ d = d' := by
  rw [ctor_ymd'] at h h'
  obtain ⟨c, e⟩ := Option.ite_none_right_eq_some.mp (Res.ok.inj h)
  obtain ⟨c', e'⟩ := Option.ite_none_right_eq_some.mp (Res.ok.inj h')
  obtain ⟨u1, u2⟩ := dateOfYo_inj y y' _ _ (valid_ordinal_bounds y m d c.2.2)
    (valid_ordinal_bounds y' m' d' c'.2.2) (Option.some.inj (e.trans e'.symm))
  subst u1
  obtain ⟨a1, a2⟩ := ymd_unique y m d c.2.2
  obtain ⟨b1, b2⟩ := ymd_unique y m' d' c'.2.2
  rw [u2] at a1 a2
  exact ⟨rfl, a1.symm.trans b1, a2.symm.trans b2⟩

/-- exactly one year-ordinal form: `from_yo_opt` is injective on the tuples it accepts -/
theorem yo_inj (y y' : Int) (o o' : Nat) (x : Date)
    (h : Date.from_yo_opt y o = .ok (some x)) (h' : Date.from_yo_opt y' o' = .ok (some x)) :
    y = y' ∧ o = o' := by
  rw [ctor_yo'] at h h'
  obtain ⟨c, e⟩ := Option.ite_none_right_eq_some.mp (Res.ok.inj h)
  obtain ⟨c', e'⟩ := Option.ite_none_right_eq_some.mp (Res.ok.inj h')
  exact dateOfYo_inj y y' o o' c.2.2 c'.2.2 (Option.some.inj (e.trans e'.symm))

/-- exactly one ISO week-date form: `from_isoywd_opt` is injective on the tuples it accepts (all
integers `y`, all naturals `w`, no range hypothesis) -/
theorem isoywd_inj (y y' : Int) (w w' : Nat) (wd wd' : Weekday) (x : Date)
    (h : Date.from_isoywd_opt y w wd = .ok (some x))
    (h' : Date.from_isoywd_opt y' w' wd' = .ok (some x)) : y = y' ∧ w = w' ∧ wd = wd' := by
  obtain ⟨a, a1, a2, a3, a4⟩ := isoywd_roundtrip' y w wd x h
  obtain ⟨b, b1, b2, b3, b4⟩ := isoywd_roundtrip' y' w' wd' x h'
  have e : a = b := Res.ok.inj (a1.symm.trans b1)
  subst e
  refine ⟨a2.symm.trans b2, ?_, a4.symm.trans b4⟩
  have : (w : Int) = (w' : Int) := a3.symm.trans b3
  omega

/-- exactly one day number: `from_num_days_from_ce_opt` is injective on the `i32`s it accepts -/
theorem days_inj (n n' : Int) (hn : -2147483648 ≤ n ∧ n ≤ 2147483647)
    (hn' : -2147483648 ≤ n' ∧ n' ≤ 2147483647) (x : Date)
    (h : Date.from_num_days_from_ce_opt n = .ok (some x))
    (h' : Date.from_num_days_from_ce_opt n' = .ok (some x)) : n = n' := by
  obtain ⟨r, hr, hs, _⟩ := ctor_days' n hn
  obtain ⟨r', hr', hs', _⟩ := ctor_days' n' hn'
  rw [hr] at h; rw [hr'] at h'
  obtain ⟨y, o, e, _, _, o1, o2, dn⟩ := hs x (Res.ok.inj h)
  obtain ⟨y', o', e', _, _, o1', o2', dn'⟩ := hs' x (Res.ok.inj h')
  obtain ⟨u1, u2⟩ := dateOfYo_inj y y' o o' ⟨o1, o2⟩ ⟨o1', o2'⟩ (e.symm.trans e')
  subst u1 u2
  omega

/-- non-vacuity: the hypotheses are met (one date, its four accepted tuples), and the checked `week0`
does panic on a packed word whose week field is 0 while the ISO week of a date never has one -/
example : Date.from_ymd_opt 2024 2 29 = .ok (some (dateOfYo 2024 60)) ∧
    Date.from_yo_opt 2024 60 = .ok (some (dateOfYo 2024 60)) ∧
    Date.from_isoywd_opt 2024 9 .thu = .ok (some (dateOfYo 2024 60)) ∧
    Date.from_num_days_from_ce_opt 738945 = .ok (some (dateOfYo 2024 60)) ∧
    IsoWeek.week0r (2024 * 1024 + 0 * 16 + 6) = .panic ∧
    IsoWeek.week0r (2024 * 1024 + 9 * 16 + 6) = .ok 8 := by decide +kernel

/-! ### End to end: translated source text = specification

`Chrono.Props.GenDate.gen_*_eq` prove the definitions that tools/extractors/rust2lean.py regenerates from the
Rust source text on every run (lean/Chrono/Extracted/Gen.lean) equal to the hand-written model; the theorems
above prove the model equal to the specification.  Composed here, so that the statement about the
translated code does not mention the model at all.  A `NaiveDate` is its packed word (`Date.yof`).
Not composable yet: `from_isoywd_opt`, `iso_week`, the 0-based twins (no `gen_*_eq`, see audit2/C01.md gap 1). -/

/-- `NaiveDate::from_ymd_opt` as translated from the source, every `i32`/`u32` argument tuple -/
theorem code_from_ymd_opt (y : Int) (m d : Nat) (hm : m ≤ 4294967295) (hd : d ≤ 4294967295) :
    Gen.naive_date.NaiveDate.from_ymd_opt y m d =
      .ok (if MIN_YEAR ≤ y ∧ y ≤ MAX_YEAR ∧ validYmd y m d = true
           then some (dateOfYo y (ordinalOf y m d)).yof else none) := by
  rw [GenDate.gen_from_ymd_opt_eq y m d hm hd, ctor_ymd]
  by_cases c : MIN_YEAR ≤ y ∧ y ≤ MAX_YEAR ∧ validYmd y m d = true
  · rw [if_pos c, if_pos c]; rfl
  · rw [if_neg c, if_neg c]; rfl

/-- `NaiveDate::from_yo_opt` as translated from the source -/
theorem code_from_yo_opt (y : Int) (o : Nat) (ho : o ≤ 4294967295) :
    Gen.naive_date.NaiveDate.from_yo_opt y o =
      .ok (if MIN_YEAR ≤ y ∧ y ≤ MAX_YEAR ∧ 1 ≤ o ∧ o ≤ yearLen y then some (dateOfYo y o).yof else none) := by
  rw [GenDate.gen_from_yo_opt_eq y o ho, ctor_yo]
  by_cases c : MIN_YEAR ≤ y ∧ y ≤ MAX_YEAR ∧ 1 ≤ o ∧ o ≤ yearLen y
  · rw [if_pos c, if_pos c]; rfl
  · rw [if_neg c, if_neg c]; rfl

/-- `NaiveDate::from_num_days_from_ce_opt` as translated from the source, every `i32` -/
theorem code_from_num_days_from_ce_opt (n : Int) (hn : -2147483648 ≤ n ∧ n ≤ 2147483647) :
    ∃ r, Gen.naive_date.NaiveDate.from_num_days_from_ce_opt n = .ok r ∧
      (∀ w, r = some w → ∃ y o, w = (dateOfYo y o).yof ∧ MIN_YEAR ≤ y ∧ y ≤ MAX_YEAR ∧ 1 ≤ o ∧
        o ≤ yearLen y ∧ dayNumYo y o = n) ∧
      (r = none ↔ (n < dayNumYo MIN_YEAR 1 ∨ n > dayNumYo MAX_YEAR 365)) := by
  obtain ⟨r, h1, h2, h3⟩ := ctor_days n hn
  refine ⟨r.map Date.yof, ?_, map_yof h2, Option.map_eq_none_iff.trans h3⟩
  rw [GenDate.gen_from_num_days_from_ce_opt_eq n hn, h1]; rfl

/-- the translated accessors on the packed word of the o-th day of year y: the calendar form, the
closed-form day number, the weekday of the day number -/
theorem code_accessors (y : Int) (o : Nat) (hy : MIN_YEAR ≤ y ∧ y ≤ MAX_YEAR) (ho : 1 ≤ o ∧ o ≤ yearLen y) :
    Gen.naive_date.NaiveDate.year (dateOfYo y o).yof = y ∧
    Gen.naive_date.NaiveDate.ordinal (dateOfYo y o).yof = o ∧
    Gen.naive_date.NaiveDate.leap_year (dateOfYo y o).yof = isLeap y ∧
    Gen.naive_date.NaiveDate.month (dateOfYo y o).yof = .ok (monthOfYo y o : Int) ∧
    Gen.naive_date.NaiveDate.day (dateOfYo y o).yof = .ok (dayOfYo y o : Int) ∧
    Gen.naive_date.NaiveDate.num_days_from_ce (dateOfYo y o).yof = .ok (dayNumYo y o) ∧
    Gen.traits.NaiveDate.Datelike.num_days_from_ce (dateOfYo y o).yof = .ok (dayNumYo y o) ∧
    (∃ w : Nat, Gen.naive_date.NaiveDate.weekday (dateOfYo y o).yof = .ok w ∧
      (w : Int) = weekdayOf (dayNumYo y o)) := by
  obtain ⟨a1, a2, a3, a4, a5, _, _, a8, a9⟩ := accessors_ok y o hy ho
  have hw := yof_i32 y o hy (by have := yearLen_ge y; omega)
  refine ⟨?_, ?_, ?_, ?_, ?_, ?_, ?_, ?_⟩
  · rw [GenDate.gen_year_eq, a1]
  · rw [GenDate.gen_ordinal_eq, a2]
  · rw [GenDate.gen_leap_year_eq, a3]
  · rw [GenDate.gen_month_eq, a4]; rfl
  · rw [GenDate.gen_day_eq, a5]; rfl
  · rw [GenDate.gen_num_days_from_ce_eq _ hw, a8]
  · rw [GenDate.gen_datelike_num_days_from_ce_eq _ hw, a8]
  · exact ⟨_, GenDate.gen_weekday_eq _, a9⟩

/-- `NaiveDate::succ_opt` as translated from the source: the next day, `None` exactly at MAX -/
theorem code_succ_opt (y : Int) (o : Nat) (hy : MIN_YEAR ≤ y ∧ y ≤ MAX_YEAR) (ho : 1 ≤ o ∧ o ≤ yearLen y) :
    ∃ r, Gen.naive_date.NaiveDate.succ_opt (dateOfYo y o).yof = .ok r ∧
      (r = none ↔ dateOfYo y o = Date.MAX) ∧
      (∀ w, r = some w → ∃ y' o', w = (dateOfYo y' o').yof ∧ MIN_YEAR ≤ y' ∧ y' ≤ MAX_YEAR ∧ 1 ≤ o' ∧
        o' ≤ yearLen y' ∧ dayNumYo y' o' = dayNumYo y o + 1) := by
  obtain ⟨r, h1, h2, h3⟩ := succ_ok y o hy ho
  have hw := yof_i32 y o hy (by have := yearLen_ge y; omega)
  refine ⟨r.map Date.yof, ?_, Option.map_eq_none_iff.trans h2, map_yof fun d hd => ?_⟩
  · rw [GenDate.gen_succ_opt_eq _ hw, h1]; rfl
  · obtain ⟨y', o', e, b1, b2, b3, b4, b5, _⟩ := h3 d hd
    exact ⟨y', o', e, b1, b2, b3, b4, b5⟩

/-- `NaiveDate::pred_opt` as translated from the source: the previous day, `None` exactly at MIN -/
theorem code_pred_opt (y : Int) (o : Nat) (hy : MIN_YEAR ≤ y ∧ y ≤ MAX_YEAR) (ho : 1 ≤ o ∧ o ≤ yearLen y) :
    ∃ r, Gen.naive_date.NaiveDate.pred_opt (dateOfYo y o).yof = .ok r ∧
      (r = none ↔ dateOfYo y o = Date.MIN) ∧
      (∀ w, r = some w → ∃ y' o', w = (dateOfYo y' o').yof ∧ MIN_YEAR ≤ y' ∧ y' ≤ MAX_YEAR ∧ 1 ≤ o' ∧
        o' ≤ yearLen y' ∧ dayNumYo y' o' = dayNumYo y o - 1) := by
  obtain ⟨r, h1, h2, h3⟩ := pred_ok y o hy ho
  have hl := yearLen_ge y
  have hw := yof_i32 y o hy (by omega)
  have hol : (dateOfYo y o).yof / 8 % 1024 ≤ 732 := by
    have := yearLen_add_bit y _ (flagsOf_facts y).2.2.1
    rw [ol_word y o (by omega)]; omega
  refine ⟨r.map Date.yof, ?_, Option.map_eq_none_iff.trans h2, map_yof h3⟩
  rw [GenDate.gen_pred_opt_eq _ hw hol, h1]; rfl

/-- non-vacuity on the translated code itself -/
example : Gen.naive_date.NaiveDate.from_ymd_opt 2024 2 29 = .ok (some (dateOfYo 2024 60).yof) ∧
    Gen.naive_date.NaiveDate.from_ymd_opt 2023 2 29 = .ok none ∧
    Gen.naive_date.NaiveDate.from_yo_opt (-262143) 1 = .ok (some Date.MIN.yof) ∧
    Gen.naive_date.NaiveDate.succ_opt Date.MAX.yof = .ok none ∧
    Gen.naive_date.NaiveDate.pred_opt Date.MIN.yof = .ok none := by decide +kernel

end Chrono.Props.C01
