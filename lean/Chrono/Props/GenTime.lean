/-
  C07, code translation tie: the definitions that tools/extractors/rust2lean.py regenerates from
  src/naive/time/mod.rs, src/offset/fixed.rs and the `Timelike` default methods of src/traits.rs (read at
  `Self = NaiveTime`) on every run (lean/Chrono/Extracted/Gen.lean, `Chrono.Gen.naive_time.*`,
  `Chrono.Gen.offset_fixed.*`, `Chrono.Gen.traits.NaiveTime.*`) equal the hand-written model
  lean/Chrono/Model/Time.lean for all arguments of the machine types.  Hypotheses state the ranges of the
  parameter types (`u32` fields: `U32Fields`; `TimeDelta` fields: `DFields`) and, only where the code itself
  relies on it, the type invariant of `NaiveTime` (`Inv`).  `tG` maps the model's `Time` to the generated
  two-field structure, `pG` a `(Time, carry)` pair, `dG` a `Delta`, `rmap` a `Res` result.
-/
import Chrono.Proofs.GenTimeL
import Chrono.Props.GenDelta

namespace Chrono.Props.GenTime
open Chrono Chrono.M Chrono.Extracted Chrono.Proofs.GenL Chrono.Proofs.GenTimeL

/-! ### constructors -/

theorem gen_from_hms_nano_opt_eq (hour min sec nano : Int)
    (hh : 0 ≤ hour ∧ hour ≤ 4294967295) (hm : 0 ≤ min ∧ min ≤ 4294967295)
    (hs : 0 ≤ sec ∧ sec ≤ 4294967295) (_hn : 0 ≤ nano ∧ nano ≤ 4294967295) :
    Gen.naive_time.NaiveTime.from_hms_nano_opt hour min sec nano
      = .ok ((Time.from_hms_nano_opt hour min sec nano).map tG) := by
  unfold Gen.naive_time.NaiveTime.from_hms_nano_opt Time.from_hms_nano_opt
  by_cases h : (hour ≥ 24 ∨ min ≥ 60 ∨ sec ≥ 60) ∨ (nano ≥ 1000000000 ∧ sec ≠ 59) ∨ nano ≥ 2000000000
  · rw [if_pos h, if_pos (by omega)]; rfl
  · rw [if_neg h, if_neg (by omega)]
    rw [ckU32_ok (by omega), bind_ok, ckU32_ok (by omega), bind_ok, ckU32_ok (by omega), bind_ok,
      ckU32_ok (by omega), bind_ok]
    rfl

theorem gen_from_hms_opt_eq (hour min sec : Int)
    (hh : 0 ≤ hour ∧ hour ≤ 4294967295) (hm : 0 ≤ min ∧ min ≤ 4294967295)
    (hs : 0 ≤ sec ∧ sec ≤ 4294967295) :
    Gen.naive_time.NaiveTime.from_hms_opt hour min sec = .ok ((Time.from_hms_opt hour min sec).map tG) :=
  gen_from_hms_nano_opt_eq hour min sec 0 hh hm hs (by omega)

theorem gen_from_hms_milli_opt_eq (hour min sec milli : Int)
    (hh : 0 ≤ hour ∧ hour ≤ 4294967295) (hm : 0 ≤ min ∧ min ≤ 4294967295)
    (hs : 0 ≤ sec ∧ sec ≤ 4294967295) (_hn : 0 ≤ milli ∧ milli ≤ 4294967295) :
    Gen.naive_time.NaiveTime.from_hms_milli_opt hour min sec milli
      = .ok ((Time.from_hms_milli_opt hour min sec milli).map tG) := by
  unfold Gen.naive_time.NaiveTime.from_hms_milli_opt Time.from_hms_milli_opt
  rw [optU32_def]
  by_cases h : 0 ≤ milli * 1000000 ∧ milli * 1000000 ≤ 4294967295
  · rw [if_pos h]; exact gen_from_hms_nano_opt_eq hour min sec _ hh hm hs h
  · rw [if_neg h]; rfl

theorem gen_from_hms_micro_opt_eq (hour min sec micro : Int)
    (hh : 0 ≤ hour ∧ hour ≤ 4294967295) (hm : 0 ≤ min ∧ min ≤ 4294967295)
    (hs : 0 ≤ sec ∧ sec ≤ 4294967295) (_hn : 0 ≤ micro ∧ micro ≤ 4294967295) :
    Gen.naive_time.NaiveTime.from_hms_micro_opt hour min sec micro
      = .ok ((Time.from_hms_micro_opt hour min sec micro).map tG) := by
  unfold Gen.naive_time.NaiveTime.from_hms_micro_opt Time.from_hms_micro_opt
  rw [optU32_def]
  by_cases h : 0 ≤ micro * 1000 ∧ micro * 1000 ≤ 4294967295
  · rw [if_pos h]; exact gen_from_hms_nano_opt_eq hour min sec _ hh hm hs h
  · rw [if_neg h]; rfl

theorem gen_from_num_seconds_from_midnight_opt_eq (secs nano : Int) :
    Gen.naive_time.NaiveTime.from_num_seconds_from_midnight_opt secs nano
      = (Time.from_num_seconds_from_midnight_opt secs nano).map tG := by
  unfold Gen.naive_time.NaiveTime.from_num_seconds_from_midnight_opt Time.from_num_seconds_from_midnight_opt
  split <;> rfl

/-! ### accessors -/

theorem gen_hms_eq (t : Time) : Gen.naive_time.NaiveTime.hms (tG t) = t.hms := rfl
theorem gen_hour_eq (t : Time) : Gen.naive_time.NaiveTime.Timelike.hour (tG t) = t.hour := rfl
theorem gen_minute_eq (t : Time) : Gen.naive_time.NaiveTime.Timelike.minute (tG t) = t.minute := rfl
theorem gen_second_eq (t : Time) : Gen.naive_time.NaiveTime.Timelike.second (tG t) = t.second := rfl
theorem gen_nanosecond_eq (t : Time) :
    Gen.naive_time.NaiveTime.Timelike.nanosecond (tG t) = t.nanosecond
    ∧ Gen.naive_time.NaiveTime.nanosecond (tG t) = t.nanosecond := ⟨rfl, rfl⟩
theorem gen_num_seconds_from_midnight_eq (t : Time) :
    Gen.naive_time.NaiveTime.Timelike.num_seconds_from_midnight (tG t) = t.num_seconds_from_midnight
    ∧ Gen.naive_time.NaiveTime.num_seconds_from_midnight (tG t) = t.num_seconds_from_midnight := ⟨rfl, rfl⟩
/-- the `Timelike` default body (not the override) read at `Self = NaiveTime` -/
theorem gen_num_seconds_from_midnight_default_eq (t : Time) :
    Gen.traits.NaiveTime.Timelike.num_seconds_from_midnight (tG t) = t.num_seconds_from_midnight_default := rfl
theorem gen_hour12_eq (t : Time) : Gen.traits.NaiveTime.Timelike.hour12 (tG t) = t.hour12 := by
  unfold Gen.traits.NaiveTime.Timelike.hour12 Time.hour12
  generalize he : Gen.naive_time.NaiveTime.Timelike.hour (tG t) = x
  have hx : t.hour = x := he
  rw [hx]
  dsimp only
  split <;> rfl

/-! ### single-field replacement -/

theorem gen_with_hour_eq (t : Time) (hour : Int) (ht : U32Fields t) (hh : 0 ≤ hour ∧ hour ≤ 4294967295) :
    Gen.naive_time.NaiveTime.Timelike.with_hour (tG t) hour = .ok ((t.with_hour hour).map tG) := by
  unfold Gen.naive_time.NaiveTime.Timelike.with_hour Time.with_hour
  obtain ⟨hs, _⟩ := ht
  split
  · rfl
  · dsimp only
    rw [ckU32_ok (by omega), bind_ok, ckU32_ok (by omega), bind_ok]; rfl

theorem gen_with_minute_eq (t : Time) (min : Int) (ht : Inv t) (hm : 0 ≤ min ∧ min ≤ 4294967295) :
    Gen.naive_time.NaiveTime.Timelike.with_minute (tG t) min = .ok ((t.with_minute min).map tG) := by
  unfold Gen.naive_time.NaiveTime.Timelike.with_minute Time.with_minute
  obtain ⟨hs, _⟩ := ht
  split
  · rfl
  · dsimp only
    rw [ckU32_ok (by omega), bind_ok, ckU32_ok (by omega), bind_ok, ckU32_ok (by omega), bind_ok,
      ckU32_ok (by omega), bind_ok]; rfl

theorem gen_with_second_eq (t : Time) (sec : Int) (ht : Inv t) (hm : 0 ≤ sec ∧ sec ≤ 4294967295) :
    Gen.naive_time.NaiveTime.Timelike.with_second (tG t) sec = .ok ((t.with_second sec).map tG) := by
  unfold Gen.naive_time.NaiveTime.Timelike.with_second Time.with_second
  obtain ⟨hs, _⟩ := ht
  split
  · rfl
  · dsimp only
    rw [ckU32_ok (by omega), bind_ok, ckU32_ok (by omega), bind_ok]; rfl

theorem gen_with_nanosecond_eq (t : Time) (nano : Int) :
    Gen.naive_time.NaiveTime.Timelike.with_nanosecond (tG t) nano = (t.with_nanosecond nano).map tG := by
  unfold Gen.naive_time.NaiveTime.Timelike.with_nanosecond Time.with_nanosecond
  split <;> rfl

/-! ### arithmetic -/

theorem gen_overflowing_add_signed_eq (t : Time) (rhs : Delta) (hd : DFields rhs) :
    Gen.naive_time.NaiveTime.overflowing_add_signed (tG t) (dG rhs)
      = rmap pG (t.overflowing_add_signed rhs) := by
  rw [gen_oas_unfold]
  unfold Time.overflowing_add_signed
  rw [GenDelta.gen_num_seconds_eq rhs hd.1, GenDelta.gen_subsec_nanos_eq rhs hd.2]
  simp only [bind_ok, genTail_eq, leap_test _ _ _ (subsec_nanos_range rhs hd.2), decide_eq_true_eq, rmap_ite,
    rmap_bind]

theorem gen_overflowing_sub_signed_eq (t : Time) (rhs : Delta) :
    Gen.naive_time.NaiveTime.overflowing_sub_signed (tG t) (dG rhs)
      = rmap pG (t.overflowing_sub_signed rhs) := by
  unfold Gen.naive_time.NaiveTime.overflowing_sub_signed Time.overflowing_sub_signed
  rw [GenDelta.gen_neg_eq]
  cases hneg : Delta.neg rhs with
  | panic => rfl
  | ok n =>
    simp only [rmap, bind_ok]
    exact bind_rmap (gen_overflowing_add_signed_eq t n (neg_fields rhs n hneg)) fun p =>
      bind_congr_rmap fun _ => rfl

theorem sds_tail (s fr : Int) (hs : -9223372036854775808 ≤ s + fr / 1000000000 ∧ s + fr / 1000000000 ≤ 9223372036854775807) :
    (Res.bind (ckI64 (s + fr / 1000000000)) fun r =>
      match Gen.time_delta.TimeDelta.new r (asU32 (fr % 1000000000)) with
      | some r2 => Res.ok r2
      | none => Res.panic)
    = rmap dG (match Delta.new (s + fr / 1000000000) (asU32 (fr % 1000000000)) with
      | some d => Res.ok d
      | none => Res.panic) := by
  rw [ckI64_ok hs, bind_ok, GenDelta.gen_new_eq _ _ (asU32_range _).1 (asU32_range _).2]
  cases Delta.new (s + fr / 1000000000) (asU32 (fr % 1000000000)) <;> rfl

theorem gen_signed_duration_since_eq (a b : Time) (ha : U32Fields a) (hb : U32Fields b) :
    Gen.naive_time.NaiveTime.signed_duration_since (tG a) (tG b)
      = rmap dG (a.signed_duration_since b) := by
  unfold Gen.naive_time.NaiveTime.signed_duration_since Time.signed_duration_since
  obtain ⟨⟨a1, a2⟩, ⟨a3, a4⟩⟩ := ha
  obtain ⟨⟨b1, b2⟩, ⟨b3, b4⟩⟩ := hb
  dsimp only
  rw [ckI64_ok (by omega), bind_ok, ckI64_ok (by omega), bind_ok]
  by_cases h1 : a.secs > b.secs ∧ b.frac ≥ 1000000000
  · rw [if_pos h1, if_pos h1, ckI64_ok (by omega), bind_ok]
    exact sds_tail _ _ (by omega)
  · rw [if_neg h1, if_neg h1]
    by_cases h2 : a.secs < b.secs ∧ a.frac ≥ 1000000000
    · rw [if_pos h2, if_pos h2, ckI64_ok (by omega), bind_ok]
      exact sds_tail _ _ (by omega)
    · rw [if_neg h2, if_neg h2]
      exact sds_tail _ _ (by omega)

/-- `off` is the `FixedOffset` argument, represented by its only field `local_minus_utc : i32` -/
theorem gen_overflowing_add_offset_eq (t : Time) (off : Int) :
    Gen.naive_time.NaiveTime.overflowing_add_offset (tG t) off = rmap pG (t.overflowing_add_offset off) := by
  unfold Gen.naive_time.NaiveTime.overflowing_add_offset Time.overflowing_add_offset
    Gen.offset_fixed.FixedOffset.local_minus_utc
  dsimp only
  cases ckI32 (asI32 t.secs + off) <;> rfl

theorem gen_overflowing_sub_offset_eq (t : Time) (off : Int) :
    Gen.naive_time.NaiveTime.overflowing_sub_offset (tG t) off = rmap pG (t.overflowing_sub_offset off) := by
  unfold Gen.naive_time.NaiveTime.overflowing_sub_offset Time.overflowing_sub_offset
    Gen.offset_fixed.FixedOffset.local_minus_utc
  dsimp only
  cases ckI32 (asI32 t.secs - off) <;> rfl

/-- the theorems are about non-trivial values: 23:59:59 plus 1.5 s wraps with a day of carry; a leap second
minus half a second stays inside it; the leap second counts in a difference -/
example : Gen.naive_time.NaiveTime.overflowing_add_signed ⟨86399, 0⟩ ⟨1, 500000000⟩ = .ok (⟨0, 500000000⟩, 86400)
    ∧ Gen.naive_time.NaiveTime.overflowing_sub_signed ⟨86399, 1700000000⟩ ⟨0, 500000000⟩ = .ok (⟨86399, 1200000000⟩, 0)
    ∧ Gen.naive_time.NaiveTime.signed_duration_since ⟨3600, 0⟩ ⟨3599, 1500000000⟩ = .ok ⟨0, 500000000⟩
    ∧ Gen.naive_time.NaiveTime.from_hms_milli_opt 23 59 59 1999 = .ok (some ⟨86399, 1999000000⟩)
    ∧ Gen.naive_time.NaiveTime.Timelike.with_minute ⟨86399, 7⟩ 30 = .ok (some ⟨84659, 7⟩) := by decide

end Chrono.Props.GenTime
