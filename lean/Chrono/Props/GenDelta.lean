/-
  C06, code translation tie: the definitions that tools/extractors/rust2lean.py regenerates from
  src/time_delta.rs on every run (lean/Chrono/Extracted/Gen.lean, `Chrono.Gen.time_delta.*`) equal the
  hand-written model lean/Chrono/Model/Delta.lean for all arguments of the machine types (hypotheses state the
  ranges; `dG` maps the model's `Delta` to the generated two-field structure, `rmap` maps a `Res` result).
-/
import Chrono.Proofs.GenL

namespace Chrono.Props.GenDelta
open Chrono Chrono.M Chrono.Extracted Chrono.Proofs.GenL

theorem gen_new_eq (secs nanos : Int) (h0 : 0 ≤ nanos) (h1 : nanos ≤ 4294967295) :
    Gen.time_delta.TimeDelta.new secs nanos = (Delta.new secs nanos).map dG := by
  unfold Gen.time_delta.TimeDelta.new Delta.new
  rw [apply_ite (Option.map dG)]
  -- the two conditions are the same once the model's constants are unfolded; where they fail
  -- `nanos < 10^9`, so the cast to `i32` does nothing
  refine ite_congr rfl (fun _ => rfl) (fun h => ?_)
  rw [Proofs.asI32_id (by omega) (by omega)]; rfl

theorem gen_try_seconds_eq (s : Int) :
    Gen.time_delta.TimeDelta.try_seconds s = (Delta.try_seconds s).map dG := by
  unfold Gen.time_delta.TimeDelta.try_seconds Delta.try_seconds
  exact gen_new_eq s 0 (by omega) (by omega)

theorem try_unit_aux (u n : Int) :
    (match optI64 (n * u) with
      | some r1 => Gen.time_delta.TimeDelta.try_seconds r1
      | none => none) = (Delta.try_unit u n).map dG := by
  unfold Delta.try_unit
  cases optI64 (n * u) with
  | none => rfl
  | some s => exact gen_try_seconds_eq s

theorem gen_try_weeks_eq (n : Int) :
    Gen.time_delta.TimeDelta.try_weeks n = (Delta.try_weeks n).map dG := try_unit_aux 604800 n
theorem gen_try_days_eq (n : Int) :
    Gen.time_delta.TimeDelta.try_days n = (Delta.try_days n).map dG := try_unit_aux 86400 n
theorem gen_try_hours_eq (n : Int) :
    Gen.time_delta.TimeDelta.try_hours n = (Delta.try_hours n).map dG := try_unit_aux 3600 n
theorem gen_try_minutes_eq (n : Int) :
    Gen.time_delta.TimeDelta.try_minutes n = (Delta.try_minutes n).map dG := try_unit_aux 60 n

/-- `div_mod_floor_64(this, other)` for a positive divisor is Lean's `(/, %)`; never panics -/
theorem gen_div_mod_floor_64_eq (a b : Int) (hb : 0 < b)
    (ha : -9223372036854775808 ≤ a ∧ a ≤ 9223372036854775807) :
    Gen.time_delta.div_mod_floor_64 a b = .ok (a / b, a % b) := by
  unfold Gen.time_delta.div_mod_floor_64
  have h1 : a / b ≤ 9223372036854775807 := by
    by_cases h : a < 0
    · have := Int.ediv_neg_of_neg_of_pos h hb; omega
    · have := Int.ediv_le_self b (Int.not_lt.mp h); omega
  have h2 : -9223372036854775808 ≤ a / b := by
    by_cases h : a < 0
    · have h3 : a * b ≤ a := by
        have := Int.mul_le_mul_of_nonpos_left (a := a) (b := b) (c := 1) (by omega) (by omega)
        rwa [Int.mul_one] at this
      have := Int.le_ediv_of_mul_le hb h3; omega
    · have := Int.ediv_nonneg (Int.not_lt.mp h) (Int.le_of_lt hb); omega
  rw [edivCk_ok (by omega) ⟨h2, h1⟩, bind_ok, emodCk_ok (by omega) (by omega), bind_ok]

theorem gen_try_milliseconds_eq (ms : Int) (h : -9223372036854775808 ≤ ms ∧ ms ≤ 9223372036854775807) :
    Gen.time_delta.TimeDelta.try_milliseconds ms = .ok ((Delta.try_milliseconds ms).map dG) := by
  unfold Gen.time_delta.TimeDelta.try_milliseconds Delta.try_milliseconds
  have hI : I64_MAX = 9223372036854775807 := rfl
  split
  · rw [Proofs.ite_pos' _ _ (by omega)]; rfl
  · rw [Proofs.ite_neg' _ _ (by omega)]
    simp only [gen_div_mod_floor_64_eq ms 1000 (by omega) h, bind_ok]
    rw [Proofs.asI32_id (by omega) (by omega), ckI32_ok (by omega), bind_ok]
    rfl

theorem gen_microseconds_eq (us : Int) (h : -9223372036854775808 ≤ us ∧ us ≤ 9223372036854775807) :
    Gen.time_delta.TimeDelta.microseconds us = .ok (dG (Delta.microseconds us)) := by
  unfold Gen.time_delta.TimeDelta.microseconds Delta.microseconds
  simp only [gen_div_mod_floor_64_eq us 1000000 (by omega) h, bind_ok]
  rw [Proofs.asI32_id (by omega) (by omega), ckI32_ok (by omega), bind_ok]
  rfl

theorem gen_nanoseconds_eq (ns : Int) (h : -9223372036854775808 ≤ ns ∧ ns ≤ 9223372036854775807) :
    Gen.time_delta.TimeDelta.nanoseconds ns = .ok (dG (Delta.nanoseconds ns)) := by
  unfold Gen.time_delta.TimeDelta.nanoseconds Delta.nanoseconds
  simp only [gen_div_mod_floor_64_eq ns 1000000000 (by omega) h, bind_ok]
  rw [Proofs.asI32_id (by omega) (by omega)]
  rfl

theorem gen_num_seconds_eq (d : Delta) (hs : -9223372036854775808 ≤ d.secs ∧ d.secs ≤ 9223372036854775807) :
    Gen.time_delta.TimeDelta.num_seconds (dG d) = .ok d.num_seconds := by
  unfold Gen.time_delta.TimeDelta.num_seconds Delta.num_seconds
  dsimp only
  by_cases h : d.secs < 0 ∧ d.nanos > 0
  · rw [if_pos h, if_pos h, ckI64_ok (by omega)]
  · rw [if_neg h, if_neg h]

theorem gen_subsec_nanos_eq (d : Delta) (hn : -2147483648 ≤ d.nanos ∧ d.nanos ≤ 2147483647) :
    Gen.time_delta.TimeDelta.subsec_nanos (dG d) = .ok d.subsec_nanos := by
  unfold Gen.time_delta.TimeDelta.subsec_nanos Delta.subsec_nanos
  dsimp only
  by_cases h : d.secs < 0 ∧ d.nanos > 0
  · rw [if_pos h, if_pos h, ckI32_ok (by omega)]; rfl
  · rw [if_neg h, if_neg h]

theorem gen_num_minutes_eq (d : Delta) (hs : -9223372036854775808 ≤ d.secs ∧ d.secs ≤ 9223372036854775807) :
    Gen.time_delta.TimeDelta.num_minutes (dG d) = .ok d.num_minutes := by
  unfold Gen.time_delta.TimeDelta.num_minutes Delta.num_minutes
  rw [gen_num_seconds_eq d hs]; rfl
theorem gen_num_hours_eq (d : Delta) (hs : -9223372036854775808 ≤ d.secs ∧ d.secs ≤ 9223372036854775807) :
    Gen.time_delta.TimeDelta.num_hours (dG d) = .ok d.num_hours := by
  unfold Gen.time_delta.TimeDelta.num_hours Delta.num_hours
  rw [gen_num_seconds_eq d hs]; rfl
theorem gen_num_days_eq (d : Delta) (hs : -9223372036854775808 ≤ d.secs ∧ d.secs ≤ 9223372036854775807) :
    Gen.time_delta.TimeDelta.num_days (dG d) = .ok d.num_days := by
  unfold Gen.time_delta.TimeDelta.num_days Delta.num_days
  rw [gen_num_seconds_eq d hs]; rfl
theorem gen_num_weeks_eq (d : Delta) (hs : -9223372036854775808 ≤ d.secs ∧ d.secs ≤ 9223372036854775807) :
    Gen.time_delta.TimeDelta.num_weeks (dG d) = .ok d.num_weeks := by
  unfold Gen.time_delta.TimeDelta.num_weeks Delta.num_weeks
  rw [gen_num_days_eq d hs]; rfl
theorem gen_subsec_millis_eq (d : Delta) (hn : -2147483648 ≤ d.nanos ∧ d.nanos ≤ 2147483647) :
    Gen.time_delta.TimeDelta.subsec_millis (dG d) = .ok d.subsec_millis := by
  unfold Gen.time_delta.TimeDelta.subsec_millis Delta.subsec_millis
  rw [gen_subsec_nanos_eq d hn]; rfl
theorem gen_subsec_micros_eq (d : Delta) (hn : -2147483648 ≤ d.nanos ∧ d.nanos ≤ 2147483647) :
    Gen.time_delta.TimeDelta.subsec_micros (dG d) = .ok d.subsec_micros := by
  unfold Gen.time_delta.TimeDelta.subsec_micros Delta.subsec_micros
  rw [gen_subsec_nanos_eq d hn]; rfl

theorem gen_num_milliseconds_eq (d : Delta) (hs : -9223372036854775808 ≤ d.secs ∧ d.secs ≤ 9223372036854775807)
    (hn : -2147483648 ≤ d.nanos ∧ d.nanos ≤ 2147483647) :
    Gen.time_delta.TimeDelta.num_milliseconds (dG d) = d.num_milliseconds := by
  unfold Gen.time_delta.TimeDelta.num_milliseconds Delta.num_milliseconds
  rw [gen_num_seconds_eq d hs, gen_subsec_nanos_eq d hn]
  rfl

theorem gen_num_microseconds_eq (d : Delta) (hs : -9223372036854775808 ≤ d.secs ∧ d.secs ≤ 9223372036854775807)
    (hn : -2147483648 ≤ d.nanos ∧ d.nanos ≤ 2147483647) :
    Gen.time_delta.TimeDelta.num_microseconds (dG d) = .ok d.num_microseconds := by
  unfold Gen.time_delta.TimeDelta.num_microseconds Delta.num_microseconds
  rw [gen_num_seconds_eq d hs, gen_subsec_nanos_eq d hn, bind_ok]
  simp only [show MICROS_PER_SEC = 1000000 from rfl, show NANOS_PER_MICRO = 1000 from rfl]
  cases optI64 (d.num_seconds * 1000000) <;> rfl

theorem gen_num_nanoseconds_eq (d : Delta) (hs : -9223372036854775808 ≤ d.secs ∧ d.secs ≤ 9223372036854775807)
    (hn : -2147483648 ≤ d.nanos ∧ d.nanos ≤ 2147483647) :
    Gen.time_delta.TimeDelta.num_nanoseconds (dG d) = .ok d.num_nanoseconds := by
  unfold Gen.time_delta.TimeDelta.num_nanoseconds Delta.num_nanoseconds
  rw [gen_num_seconds_eq d hs, gen_subsec_nanos_eq d hn, bind_ok]
  simp only [show NANOS_PER_SEC = 1000000000 from rfl]
  cases optI64 (d.num_seconds * 1000000000) <;> rfl

/-- `new` after an `as u32` cast: the argument is a `u32` whatever it was cast from -/
theorem new_asU32 (s x : Int) :
    Gen.time_delta.TimeDelta.new s (asU32 x) = Option.map dG (Delta.new s (asU32 x)) :=
  gen_new_eq _ _ (asU32_range _).1 (asU32_range _).2

theorem gen_checked_add_eq (a b : Delta) :
    Gen.time_delta.TimeDelta.checked_add (dG a) (dG b) = rmap (Option.map dG) (Delta.checked_add a b) := by
  unfold Gen.time_delta.TimeDelta.checked_add Delta.checked_add
  simp only [bind_eq, rmap_bind, rmap_ite, new_asU32]
  rfl

theorem gen_checked_sub_eq (a b : Delta) :
    Gen.time_delta.TimeDelta.checked_sub (dG a) (dG b) = rmap (Option.map dG) (Delta.checked_sub a b) := by
  unfold Gen.time_delta.TimeDelta.checked_sub Delta.checked_sub
  simp only [bind_eq, rmap_bind, rmap_ite, new_asU32]
  rfl

theorem gen_neg_eq (a : Delta) :
    Gen.time_delta.TimeDelta.neg (dG a) = rmap dG (Delta.neg a) := by
  unfold Gen.time_delta.TimeDelta.neg Delta.neg
  simp only [bind_eq, rmap_bind, rmap_ite]
  split
  · -- the code subtracts `secs_diff = 0` with a second check, which the first one has already passed
    refine ckI64_bind_congr fun h => ?_
    rw [Int.sub_zero, ckI64_ok h]; rfl
  · -- the code checks the nanoseconds first, the model last
    rw [show NANOS_PER_SEC = 1000000000 from rfl]
    cases ckI32 (1000000000 - a.nanos) with
    | ok n => rfl
    | panic => simp only [bind_panic, bind_panic_right]

theorem gen_abs_eq (a : Delta) :
    Gen.time_delta.TimeDelta.abs (dG a) = rmap dG (Delta.abs a) := by
  unfold Gen.time_delta.TimeDelta.abs Delta.abs
  simp only [bind_eq, rmap_bind, rmap_ite, absCk_eq]
  rfl

theorem gen_is_zero_eq (a : Delta) :
    Gen.time_delta.TimeDelta.is_zero (dG a) = a.is_zero := by
  unfold Gen.time_delta.TimeDelta.is_zero Delta.is_zero
  by_cases h1 : a.secs = 0 <;> by_cases h2 : a.nanos = 0 <;> simp [h1, h2]

theorem gen_checked_div_eq (a : Delta) (rhs : Int)
    (hn : -2147483648 < a.nanos ∧ a.nanos ≤ 2147483647)
    (hs : -9223372036854775808 ≤ a.secs ∧ a.secs ≤ 9223372036854775807) :
    Gen.time_delta.TimeDelta.checked_div (dG a) rhs = rmap (Option.map dG) (Delta.checked_div a rhs) := by
  unfold Gen.time_delta.TimeDelta.checked_div Delta.checked_div
  simp only [bind_eq, rmap_ite, rmap_bind]
  split
  · rfl
  next h0 =>
  -- the checked divisions of the code: the first is the model's `ckI64`, the others cannot fail, since a
  -- quotient is no larger than its dividend and `i64::MIN` is not a multiple of 10^9
  have _ := hs
  have h2 := Int.natAbs_tdiv_le_natAbs a.nanos rhs
  rw [tdivCk64_eq _ _ h0]
  refine ckI64_bind_congr fun hq => ?_
  have h4 : rhs = -1 → Int.tdiv a.secs rhs = -a.secs := by intro h; subst h; simp
  rw [tmodCk_ok h0 (by omega), bind_ok]
  refine ckI64_bind_congr fun hp => ?_
  have h3 := Int.natAbs_tdiv_le_natAbs (Int.tmod a.secs rhs * 1000000000) rhs
  rw [tdivCk_ok h0 (by omega), bind_ok, tdivCk_ok h0 (by omega), bind_ok]
  -- the sum is an `i32`, so the range tests of the code are the sign tests of the model
  refine ckI32_bind_congr fun hx => ?_
  generalize Int.tdiv a.nanos rhs + asI32 (Int.tdiv (Int.tmod a.secs rhs * 1000000000) rhs) = x at hx
  have e1 : (-2147483648 ≤ x ∧ x ≤ -1) = (x < 0) := propext (by omega)
  have e2 : (1000000000 ≤ x ∧ x ≤ 2147483647) = (x ≥ 1000000000) := propext (by omega)
  simp only [e1, e2]
  rfl

theorem gen_checked_mul_eq (a : Delta) (rhs : Int)
    (hs : -9223372036854775808 ≤ a.secs ∧ a.secs ≤ 9223372036854775807)
    (hr : -2147483648 ≤ rhs ∧ rhs ≤ 2147483647) :
    Gen.time_delta.TimeDelta.checked_mul (dG a) rhs = rmap (Option.map dG) (Delta.checked_mul a rhs) := by
  unfold Gen.time_delta.TimeDelta.checked_mul Delta.checked_mul
  simp only [bind_eq, rmap_bind, rmap_ite]
  refine ckI64_bind_congr fun hp => ?_
  rw [gen_div_mod_floor_64_eq _ 1000000000 (by omega) hp, bind_ok]
  -- the two `i128` operations cannot overflow: |secs * rhs| ≤ 2^63 * 2^31
  have hb := mul_bound a.secs rhs 9223372036854775808 2147483648 (by omega) (by omega)
  generalize a.nanos * rhs = p at hp ⊢
  generalize a.secs * rhs = m at hb ⊢
  rw [ckI128_ok (by omega), bind_ok, ckI128_ok (by omega), bind_ok]
  -- where the range test fails the sum is an `i64`, so the cast back does nothing
  refine ite_congr rfl (fun _ => rfl) (fun h => ?_)
  replace h : ¬(m + p / 1000000000 ≤ -9223372036854775808 ∨ m + p / 1000000000 ≥ 9223372036854775807) := h
  have e : asI64 (m + p / 1000000000) = m + p / 1000000000 := by
    unfold asI64; simp only; split <;> omega
  rw [e, new_asU32]; rfl

/-- the theorems are about non-trivial values: −1.5 s plus itself, divided by 4, negated -/
example : Gen.time_delta.TimeDelta.checked_add ⟨-2, 500000000⟩ ⟨-2, 500000000⟩ = .ok (some ⟨-3, 0⟩)
    ∧ Gen.time_delta.TimeDelta.checked_div ⟨-2, 500000000⟩ 4 = .ok (some ⟨-1, 625000000⟩)
    ∧ Gen.time_delta.TimeDelta.neg ⟨-2, 500000000⟩ = .ok ⟨1, 500000000⟩ := by decide

end Chrono.Props.GenDelta
