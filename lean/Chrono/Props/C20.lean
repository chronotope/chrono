/-
  C20 — serialized forms deserialize to the same value.
  Property statements only (helper lemmas: Proofs/SerdeL.lean, on top of Proofs/TimestampL.lean (C02),
  Proofs/DeltaL.lean (C06), Props/C19.lean (names); Proofs/SerdeStrL.lean for the string forms, on top of
  Props/C09.lean (default text forms: `Debug` writers, `FromStr` readers) and Proofs/Rfc3339WriteL.lean,
  Proofs/RenderScanL.lean (the `write_rfc3339` text, C10)).

  Model: Model/SerdeTs.lean — the sixteen timestamp helper modules `{chrono::serde, chrono::naive::serde}::
  ts_{seconds, milliseconds, microseconds, nanoseconds}{, _option}` (`serialize`, `deserialize`, the visitors'
  `visit_i64` / `visit_u64`, the option visitors, `invalid_ts`) and the `TimeDelta` tuple form; weekday / month
  names: Model/Weekday.lean.  `serialize tg u`, `deserialize tg u`, `serialize_option tg u`,
  `deserialize_option tg u` select the module by target type `tg` (`DateTime<Utc>` / `NaiveDateTime`) and
  unit `u`; a `DateTime<Utc>` is its UTC reading.  `Res` = ok | panic, `SR` = Ok | Err.
  Specification: Spec/SerdeSpec.lean — `tsOf u dt = ⌊instNs dt / nsPer u⌋` (the exact integer timestamp),
  `truncTo u dt` (the value at the module's precision), `mustWrite` (the integer, or an error when it does not
  fit `i64`), data formats as parameters with the trusted behaviour `Faithful`; instants: Spec/InstantSpec.lean,
  Spec/TimestampSpec.lean (`NDTInv` = representation invariant, `NonLeap` = no leap-second representation,
  `TS_MIN/TS_MAX` = first/last representable second).  `/`, `%` on `Int` are floor division and its remainder.
  String forms: Model/SerdeStr.lean names, per type, the writer `collect_str` runs and the reader `visit_str`
  calls (`NaiveDateStr`, `NaiveTimeStr`, `NaiveDateTimeStr`, `DateTimeStr`: `.serialize`, `.visit_str`,
  `deserialize_fixed` / `deserialize_utc`); Spec/SerdeStrSpec.lean sends them through a text format
  (`strSerializeW`, `strDeserializeV`, `strRoundTrip`; `zoneText off` = `Z` for zero, else `+hh:mm`);
  Spec/TextFormsSpec.lean is the text of each value (`dateTextOf`, `timeText`, `naiveText 84` = date `T` time,
  `WholeMinute`); `DateInv` / `TStrict` (a leap second only on second :59) / `ZInv` are the invariants of C09.
  Whole domain (section "the whole domain of the string forms"): Spec/SerdeStrAnySpec.lean (`roundMin`,
  `zoneTextAny`, `shownTime`, `shownWallSecs`), Spec/ZonedSpec.lean (`wallSecs`, `InRangeSecs`); helper lemmas
  Proofs/SerdeAnyFin.lean, SerdeAnyL.lean, SerdeAnyZonedL.lean, SerdeVisitL.lean.
-/
import Chrono.Proofs.SerdeL
import Chrono.Proofs.SerdeStrL
import Chrono.Proofs.SerdeLocalL
import Chrono.Model.SerdeStr
import Chrono.Extracted.SerdeLits
import Chrono.Props.C19
import Chrono.Proofs.SerdeAnyZonedL
import Chrono.Proofs.SerdeVisitL
import Chrono.Proofs.SerdeTsBodiesL

namespace Chrono.Props.C20
open Chrono Chrono.M Chrono.M.Serde Chrono.Spec Chrono.Spec.Ts Chrono.Spec.Serde Chrono.Proofs.Serde
open Chrono.Proofs.Ts Chrono.Extracted Chrono.Spec.Text Chrono.Proofs.SerdeStr Chrono.Proofs.SerdeAny

/-! ## data tie -/

/-- what the sixteen modules call, and with which literals, as re-extracted from src/datetime/serde.rs and
src/naive/datetime/serde.rs on this run (tools/extractors/serde_ts.py), is what the model was written
against: `_ser` = the accessor `serialize` calls (0 timestamp, 1 _millis, 2 _micros, 3 _nanos_opt); `_i64` /
`_u64` = the constructor `visit_i64` / `visit_u64` calls (0 from_timestamp, 1 _millis, 2 _micros), whether it
divides the Euclidean way, and its integer literals in source order; `_some` = the inner visitor of the
`_option` module (0 Seconds … 3 NanoSeconds) -/
theorem literals_ok :
    SD_utc_ts_seconds_ser = [0] ∧
    SD_utc_ts_seconds_i64 = [0, 0, 0] ∧
    SD_utc_ts_seconds_u64 = [0, 0, 9223372036854775807, 0] ∧
    SD_utc_ts_seconds_option_ser = [0] ∧
    SD_utc_ts_seconds_option_some = [0] ∧
    SD_utc_ts_milliseconds_ser = [1] ∧
    SD_utc_ts_milliseconds_i64 = [1, 0] ∧
    SD_utc_ts_milliseconds_u64 = [0, 0, 1000, 1000, 1000000] ∧
    SD_utc_ts_milliseconds_option_ser = [1] ∧
    SD_utc_ts_milliseconds_option_some = [1] ∧
    SD_utc_ts_microseconds_ser = [2] ∧
    SD_utc_ts_microseconds_i64 = [0, 1, 1000000, 1000000, 1000] ∧
    SD_utc_ts_microseconds_u64 = [0, 0, 1000000, 1000000, 1000] ∧
    SD_utc_ts_microseconds_option_ser = [2] ∧
    SD_utc_ts_microseconds_option_some = [2] ∧
    SD_utc_ts_nanoseconds_ser = [3] ∧
    SD_utc_ts_nanoseconds_i64 = [0, 1, 1000000000, 1000000000] ∧
    SD_utc_ts_nanoseconds_u64 = [0, 0, 1000000000, 1000000000] ∧
    SD_utc_ts_nanoseconds_option_ser = [3] ∧
    SD_utc_ts_nanoseconds_option_some = [3] ∧
    SD_naive_ts_seconds_ser = [0] ∧
    SD_naive_ts_seconds_i64 = [0, 0, 0] ∧
    SD_naive_ts_seconds_u64 = [0, 0, 9223372036854775807, 0] ∧
    SD_naive_ts_seconds_option_ser = [0] ∧
    SD_naive_ts_seconds_option_some = [0] ∧
    SD_naive_ts_milliseconds_ser = [1] ∧
    SD_naive_ts_milliseconds_i64 = [1, 0] ∧
    SD_naive_ts_milliseconds_u64 = [0, 0, 1000, 1000, 1000000] ∧
    SD_naive_ts_milliseconds_option_ser = [1] ∧
    SD_naive_ts_milliseconds_option_some = [1] ∧
    SD_naive_ts_microseconds_ser = [2] ∧
    SD_naive_ts_microseconds_i64 = [2, 0] ∧
    SD_naive_ts_microseconds_u64 = [0, 0, 1000000, 1000000, 1000] ∧
    SD_naive_ts_microseconds_option_ser = [2] ∧
    SD_naive_ts_microseconds_option_some = [2] ∧
    SD_naive_ts_nanoseconds_ser = [3] ∧
    SD_naive_ts_nanoseconds_i64 = [0, 1, 1000000000, 1000000000] ∧
    SD_naive_ts_nanoseconds_u64 = [0, 0, 1000000000, 1000000000] ∧
    SD_naive_ts_nanoseconds_option_ser = [3] ∧
    SD_naive_ts_nanoseconds_option_some = [3] := by
  decide

/-- TIE OF THE SIXTEEN MODULES TO THE SOURCE (audit2 gap 2).  tools/extractors/serde_ts.py parses every body of
every `ts_*` module on every run into a term (Extracted/SerdeBodies.lean; types in Model/SerdeTsCode.lean) that
records each operator (`/` vs `%` vs `*`, `div_euclid` vs `rem_euclid`), each cast (`as i64` / `as u32` /
`as u64`), the comparison (`>`), the `from_timestamp*` constructor and whether `.map(|dt| dt.naive_utc())`
follows, the accessor `serialize` calls, `.and_utc()`, `.ok_or(..)?`, the `serialize_*` / `deserialize_*` method
requested, the visitor handed over and the `.map(..)` that follows.  Model/SerdeTsEval.lean is a generic
evaluator of such terms (Rust's debug integer semantics: truncating `/ %` with their panics, checked `*`,
wrapping `as`), knowing nothing of a particular module.  For all sixteen modules the evaluator applied to the
EXTRACTED terms is the model function the theorems below are about:
`serialize` on every value, `deserialize` on every wire integer whose payload fits the visitor method's
parameter type (`i64` for `visit_i64`, `u64` for `visit_u64`; for `u64` the truncating operators of the source
coincide with the Euclidean ones of the model), the `_option` modules on every wire option; and each
`deserialize` asks for `deserialize_i64` / `deserialize_option`, each `visit_some` for `deserialize_i64`
(what `WInt` / `WOpt` of the model stand for).  Visitor names are resolved through the extracted
`impl de::Visitor for …` rows, so a body that names another unit's visitor selects that unit's bodies. -/
theorem ts_bodies_ok (tg : Target) (u : TsUnit) :
    (∀ dt, Chrono.Proofs.SerdeTsBodies.genSerialize tg u dt = serialize tg u dt) ∧
    (∀ o, Chrono.Proofs.SerdeTsBodies.genSerializeOption tg u o = serialize_option tg u o) ∧
    ((Chrono.Proofs.SerdeTsBodies.deRow tg u).m = .deserialize_i64 ∧
      (Chrono.Proofs.SerdeTsBodies.deOptRow tg u).m = .deserialize_option ∧
      (Chrono.Proofs.SerdeTsBodies.someRow tg u).m = .deserialize_i64) ∧
    (∀ w, Chrono.Proofs.SerdeTsBodies.WIntOk w →
      Chrono.Proofs.SerdeTsBodies.genDeserialize tg u w = deserialize tg u w) ∧
    (∀ w, Chrono.Proofs.SerdeTsBodies.WOptOk w →
      Chrono.Proofs.SerdeTsBodies.genDeserializeOption tg u w = deserialize_option tg u w) :=
  ⟨Chrono.Proofs.SerdeTsBodies.gen_serialize_eq tg u, Chrono.Proofs.SerdeTsBodies.gen_serialize_option_eq tg u,
   Chrono.Proofs.SerdeTsBodies.methods_ok tg u, Chrono.Proofs.SerdeTsBodies.gen_deserialize_eq tg u,
   Chrono.Proofs.SerdeTsBodies.gen_deserialize_option_eq tg u⟩

/-- the 32 visitor bodies one by one: extracted term, evaluated = the model's method (for `visit_i64` on every
integer; for `visit_u64` on every `u64`) -/
theorem ts_visit_bodies_ok (v : Int) :
    Chrono.Proofs.SerdeTsBodies.evalVisitRows v = Chrono.Proofs.SerdeTsBodies.modelVisitRows v ∧
    (isU64 v → Chrono.Proofs.SerdeTsBodies.evalVisitRowsU v = Chrono.Proofs.SerdeTsBodies.modelVisitRowsU v) :=
  Chrono.Proofs.SerdeTsBodies.visit_rows_eq v

/-- non-vacuity and sensitivity of `ts_bodies_ok`: the evaluator does distinguish the operators — the
extracted `visit_u64` of `ts_milliseconds` with `/` and `%` exchanged, or with `as u32` dropped to the wrong
place, is a different function (it panics / answers differently on 1500), and the real one reads 1500 ms as
1.5 s after the epoch -/
example :
    Code.evalVisit .u64 1500 SB_utc_ts_milliseconds_u64 = Utc.MilliSecondsTimestampVisitor.visit_u64 1500 ∧
    Code.evalVisit .u64 1500 SB_utc_ts_milliseconds_u64 = .ok (.ok ⟨dateOfYo 1970 1, ⟨1, 500000000⟩⟩) ∧
    Code.evalVisit .u64 1500
      (.build .from_timestamp [(.cast (.rem .value (.lit 1000)) .i64),
        (.cast (.mul (.div .value (.lit 1000)) (.lit 1000000)) .u32)] false)
      ≠ Utc.MilliSecondsTimestampVisitor.visit_u64 1500 ∧
    Code.evalVisit .i64 (-1) (.build .from_timestamp [(.div .value (.lit 1000000)),
        (.cast (.mul (.rem .value (.lit 1000000)) (.lit 1000)) .u32)] false)
      ≠ Utc.MicroSecondsTimestampVisitor.visit_i64 (-1) := by
  decide +kernel

/-! ## the sixteen timestamp modules: what is written -/

/-- every module, every valid non-leap value: the module writes exactly the integer timestamp in its unit
(with `serialize_i64`, resp. `serialize_some` of that `i64` in the `_option` modules; `None` is written with
`serialize_none`), no intermediate overflow, no panic; only when that integer does not fit `i64` — which can
happen for the nanosecond modules alone — serialization returns an error instead -/
theorem ts_exact (tg : Target) (u : TsUnit) (dt : NaiveDT) (h : NDTInv dt) (hl : NonLeap dt) :
    serialize tg u dt = .ok ((mustWrite u dt).map .i64) ∧
    serialize_option tg u (some dt) = .ok ((mustWrite u dt).map .some) ∧
    serialize_option tg u none = .ok (.ok .none) ∧
    (u ≠ .nanos → mustWrite u dt = .ok (tsOf u dt)) := by
  obtain ⟨s1, s2⟩ := serialize_eq tg u dt
  have hw := written_nonleap u dt h hl
  have mw : ok_or (if isI64 (tsOf u dt) then some (tsOf u dt) else none) = mustWrite u dt := by
    unfold mustWrite; split <;> rfl
  refine ⟨by rw [s1, hw, ← mw]; rfl, by rw [s2, hw, ← mw]; rfl, by cases tg <;> cases u <;> rfl, fun hu => ?_⟩
  unfold mustWrite
  rw [if_pos ((tsOf_bounds u dt h hl).2.2.2.2.1 hu)]

/-- leap-second representations (nanosecond field ≥ 10⁹), which a timestamp cannot carry: the seconds
modules write the second the representation is attached to, the milli/microsecond modules continue
counting into the following second; nothing overflows or panics -/
theorem ts_exact_leap (tg : Target) (dt : NaiveDT) (h : NDTInv dt) :
    serialize tg .secs dt = .ok (.ok (.i64 (instSecs dt))) ∧
    serialize tg .millis dt = .ok (.ok (.i64 (instNs dt / 1000000))) ∧
    serialize tg .micros dt = .ok (.ok (.i64 (instNs dt / 1000))) := by
  obtain ⟨w1, w2, w3, _⟩ := written_vals dt h
  exact ⟨by rw [(serialize_eq tg .secs dt).1, w1]; rfl, by rw [(serialize_eq tg .millis dt).1, w2]; rfl,
    by rw [(serialize_eq tg .micros dt).1, w3]; rfl⟩

/-- leap-second representations, the remaining modules (audit LOW-2): the nanosecond modules write the
position on the nanosecond line `instNs` (the fraction field ≥ 10⁹ counted as it is) when it fits `i64` and
refuse otherwise; every `_option` module writes `Some` of what its plain module writes; never a panic -/
theorem ts_exact_leap_full (tg : Target) (dt : NaiveDT) (h : NDTInv dt) :
    serialize tg .nanos dt = .ok ((if isI64 (instNs dt) then SR.ok (instNs dt) else SR.err).map .i64) ∧
    serialize_option tg .secs (some dt) = .ok (.ok (.some (instSecs dt))) ∧
    serialize_option tg .millis (some dt) = .ok (.ok (.some (instNs dt / 1000000))) ∧
    serialize_option tg .micros (some dt) = .ok (.ok (.some (instNs dt / 1000))) ∧
    serialize_option tg .nanos (some dt) =
      .ok ((if isI64 (instNs dt) then SR.ok (instNs dt) else SR.err).map .some) ∧
    serialize_option tg .nanos none = .ok (.ok .none) := by
  obtain ⟨w1, w2, w3, w4⟩ := written_vals dt h
  have mw : ok_or (if isI64 (instNs dt) then some (instNs dt) else none) =
      (if isI64 (instNs dt) then SR.ok (instNs dt) else SR.err) := by split <;> rfl
  exact ⟨by rw [(serialize_eq tg .nanos dt).1, w4, ← mw]; rfl, by rw [(serialize_eq tg .secs dt).2, w1]; rfl,
    by rw [(serialize_eq tg .millis dt).2, w2]; rfl, by rw [(serialize_eq tg .micros dt).2, w3]; rfl,
    by rw [(serialize_eq tg .nanos dt).2, w4, ← mw]; rfl, by cases tg <;> rfl⟩

/-- non-vacuity: the leap second 2015-06-30T23:59:60.5 in the nanosecond modules and an option module; a leap
representation in the last second before the 64-bit nanosecond window closes is refused -/
example :
    NDTInv ⟨dateOfYo 2015 181, ⟨86399, 1500000000⟩⟩ ∧
    serialize .utc .nanos ⟨dateOfYo 2015 181, ⟨86399, 1500000000⟩⟩ = .ok (.ok (.i64 1435708800500000000)) ∧
    serialize_option .naive .millis (some ⟨dateOfYo 2015 181, ⟨86399, 1500000000⟩⟩) = .ok (.ok (.some 1435708800500)) ∧
    serialize_option .utc .nanos (some ⟨dateOfYo 2262 101, ⟨85636, 1854775808⟩⟩) = .ok .err := by
  unfold NDTInv
  decide +kernel

/-! ## the sixteen timestamp modules: what is read -/

/-- every module, every `i64` handed to `visit_i64` and every `u64` handed to `visit_u64`: never a panic;
an error exactly when the floor second `v div (units per second)` lies outside the representable range
(in particular for every `u64` above `i64::MAX` in the seconds modules, which is refused before the
narrowing cast); otherwise the valid non-leap value exactly `v` units after the epoch (negative
fractional counts round toward −∞).  Anything that is not an integer is an error. -/
theorem ts_rejects (tg : Target) (u : TsUnit) (v : Int) :
    (isI64 v → ∃ r, deserialize tg u (.i64 v) = .ok r ∧
      (r = .err ↔ (v / perSec u < TS_MIN ∨ v / perSec u > TS_MAX)) ∧
      (∀ dt, r = .ok dt → NDTInv dt ∧ NonLeap dt ∧ instNs dt = v * nsPer u)) ∧
    (isU64 v → ∃ r, deserialize tg u (.u64 v) = .ok r ∧
      (r = .err ↔ v / perSec u > TS_MAX) ∧
      (∀ dt, r = .ok dt → NDTInv dt ∧ NonLeap dt ∧ instNs dt = v * nsPer u)) ∧
    deserialize tg u .other = .ok .err := by
  have hmin := ts_min_val
  have hmax := ts_max_val
  refine ⟨?_, ?_, de_other tg u⟩
  · intro hv
    rw [de_i64]
    have hp := (perSec_ge u).1
    unfold isI64 at hv
    exact canon_spec u v (ediv_mem v (perSec u) _ _ (by omega) (by omega) (by omega))
  · intro hv
    rw [de_u64 tg u v hv]
    unfold isU64 at hv
    obtain ⟨hp1, hp2⟩ := perSec_ge u
    by_cases hs : u = .secs ∧ 9223372036854775807 < v
    · rw [if_pos hs]
      refine ⟨.err, rfl, ?_, fun dt hdt => by cases hdt⟩
      obtain ⟨hu, hv2⟩ := hs
      subst hu
      constructor
      · intro _; show v / 1 > TS_MAX; omega
      · intro _; rfl
    · rw [if_neg hs]
      have hb : v ≤ 9223372036854775807 * perSec u := by
        by_cases hu : u = .secs
        · have : ¬ 9223372036854775807 < v := fun h => hs ⟨hu, h⟩
          omega
        · have := hp2 hu
          omega
      obtain ⟨q0, q1⟩ := ediv_mem v (perSec u) 0 9223372036854775807 (by omega) (by omega) hb
      obtain ⟨r, r1, r2, r3⟩ := canon_spec u v ⟨by omega, q1⟩
      refine ⟨r, r1, ?_, r3⟩
      rw [r2]
      exact ⟨fun hh => hh.resolve_left (by omega), Or.inr⟩

/-- the eight `_option` modules read `Some(integer)` with the visitor of the plain module of the *same*
target and unit, `None` (and the unit value) as `None`, and refuse everything else -/
theorem ts_option_reads (tg : Target) (u : TsUnit) :
    (∀ x, deserialize_option tg u (.some x) = (deserialize tg u x).bind fun r => .ok (r.map some)) ∧
    deserialize_option tg u .none = .ok (.ok none) ∧ deserialize_option tg u .unit = .ok (.ok none) ∧
    deserialize_option tg u .other = .ok .err :=
  ⟨fun x => de_option_eq tg u (.some x), de_option_eq tg u .none, de_option_eq tg u .unit,
    de_option_eq tg u .other⟩

/-! ## the sixteen timestamp modules: round trip -/

/-- every module, every valid non-leap value whose integer timestamp fits `i64` (always, except for the
nanosecond modules outside 1677-09-21 … 2262-04-11): the integer the module writes, handed back as `i64`
or — when non-negative — as `u64`, is read as the same instant at the module's precision: the value with
its sub-second part cut down to a whole number of units (the value itself for nanoseconds) -/
theorem ts_roundtrip (tg : Target) (u : TsUnit) (dt : NaiveDT) (h : NDTInv dt) (hl : NonLeap dt)
    (hf : isI64 (tsOf u dt)) :
    deserialize tg u (.i64 (tsOf u dt)) = .ok (.ok (truncTo u dt)) ∧
    (0 ≤ tsOf u dt → deserialize tg u (.u64 (tsOf u dt)) = .ok (.ok (truncTo u dt))) ∧
    instNs (truncTo u dt) = tsOf u dt * nsPer u ∧ instNs dt - nsPer u < instNs (truncTo u dt) ∧
    instNs (truncTo u dt) ≤ instNs dt ∧ truncTo .nanos dt = dt := by
  obtain ⟨b1, b2, b3, b4, _, b6⟩ := tsOf_bounds u dt h hl
  unfold isI64 at hf
  -- both inputs reach the canonical form, which builds the non-leap value at `tsOf u dt` units
  have hc : canon u (tsOf u dt) = .ok (.ok (truncTo u dt)) := by
    obtain ⟨d, d1, c1, c2, c3⟩ := canon_ok u (tsOf u dt) (by rw [b1]; exact instSecs_range dt h)
    rw [d1, nonleap_unique d (truncTo u dt) c1 b3 c2 b4 (by rw [c3, b2])]
  refine ⟨by rw [de_i64, hc], fun h0 => ?_, b2, ?_, ?_, b6⟩
  · rw [de_u64 tg u _ (by unfold isU64; omega), if_neg (fun hh => by omega), hc]
  · have := Int.lt_ediv_add_one_mul_self (instNs dt) (units u).1
    rw [Int.add_mul, Int.one_mul] at this
    rw [b2]; unfold tsOf; omega
  · rw [b2]; exact Int.ediv_mul_le _ (by have := (units u).1; omega)

/-- end to end through any data format with the trusted behaviour (`Faithful`: an `i64` comes back as the
same integer, signed or — if non-negative — unsigned; `None` comes back as `None` or as the unit value), all
sixteen modules, every valid non-leap value: serialize, encode, decode, deserialize yields the value at the
module's precision; where the nanosecond count does not fit `i64` the module refuses to serialize (an error,
not a panic); `None` comes back as `None` -/
theorem ts_module_roundtrip (F : IntFormat) (hF : F.Faithful) (tg : Target) (u : TsUnit) (dt : NaiveDT)
    (h : NDTInv dt) (hl : NonLeap dt) :
    roundTrip F tg u dt = .ok (if isI64 (tsOf u dt) then .ok (truncTo u dt) else .err) ∧
    roundTripOpt F tg u (some dt) = .ok (if isI64 (tsOf u dt) then .ok (some (truncTo u dt)) else .err) ∧
    roundTripOpt F tg u none = .ok (.ok none) := by
  obtain ⟨e1, e2, e3, _⟩ := ts_exact tg u dt h hl
  obtain ⟨f1, f2, f3⟩ := hF
  obtain ⟨o1, o2, o3, _⟩ := ts_option_reads tg u
  unfold roundTrip roundTripOpt
  rw [e1, e2, e3]
  unfold mustWrite
  have hnone : deserialize_option tg u (F.getOpt (F.put .none)) = .ok (.ok none) := by
    rcases f3 with g | g
    · rw [g, o2]
    · rw [g, o3]
  by_cases hf : isI64 (tsOf u dt)
  · obtain ⟨r1, r2, _⟩ := ts_roundtrip tg u dt h hl hf
    simp only [if_pos hf]
    refine ⟨?_, ?_, hnone⟩
    · show deserialize tg u (F.getInt (F.put (.i64 (tsOf u dt)))) = _
      rcases f1 _ hf with g | ⟨g0, g⟩
      · rw [g, r1]
      · rw [g, r2 g0]
    · show deserialize_option tg u (F.getOpt (F.put (.some (tsOf u dt)))) = _
      rcases f2 _ hf with g | ⟨g0, g⟩
      · rw [g, o1, r1]; rfl
      · rw [g, o1, r2 g0]; rfl
  · simp only [if_neg hf]
    exact ⟨rfl, rfl, hnone⟩

/-- the other direction, every module: an integer that a module accepts (from signed or unsigned input) is
exactly what the module writes for the value it built — so distinct accepted integers denote distinct values;
an accepted `u64` above `i64::MAX` (possible in the nanosecond modules only: years 2262 … 2554) is a value
the module then refuses to write -/
theorem ts_roundtrip_from (tg : Target) (u : TsUnit) (v : Int) (dt : NaiveDT) :
    (isI64 v → deserialize tg u (.i64 v) = .ok (.ok dt) → serialize tg u dt = .ok (.ok (.i64 v))) ∧
    (isU64 v → deserialize tg u (.u64 v) = .ok (.ok dt) →
      serialize tg u dt = .ok (if v ≤ 9223372036854775807 then .ok (.i64 v) else .err)) := by
  obtain ⟨ti, tu, _⟩ := ts_rejects tg u v
  have fin : NDTInv dt ∧ NonLeap dt ∧ instNs dt = v * nsPer u →
      serialize tg u dt = .ok ((if isI64 v then SR.ok v else SR.err).map .i64) := by
    intro ⟨c1, c2, c3⟩
    rw [(ts_exact tg u dt c1 c2).1]
    have e : tsOf u dt = v := by unfold tsOf; rw [c3]; exact Int.mul_ediv_cancel v (by have := (units u).1; omega)
    unfold mustWrite; rw [e]
  constructor
  · intro hv hd
    obtain ⟨r, r1, _, r3⟩ := ti hv
    rw [r1] at hd; injection hd with hd
    rw [fin (r3 dt hd), if_pos hv]; rfl
  · intro hv hd
    obtain ⟨r, r1, _, r3⟩ := tu hv
    rw [r1] at hd; injection hd with hd
    rw [fin (r3 dt hd)]
    unfold isU64 at hv
    by_cases hm : v ≤ 9223372036854775807
    · rw [if_pos (by unfold isI64; omega), if_pos hm]; rfl
    · rw [if_neg (by unfold isI64; omega), if_neg hm]; rfl

/-- a leap second does not survive a timestamp (the property excepts it): 2015-06-30T23:59:60.5 is written as
second 1435708799 / millisecond 1435708800500 and read back as 23:59:59 resp. 00:00:00.5 of the next day -/
theorem leap_second_not_carried :
    let dt : NaiveDT := ⟨dateOfYo 2015 181, ⟨86399, 1500000000⟩⟩
    NDTInv dt ∧ ¬ NonLeap dt ∧
    roundTrip binLike .utc .secs dt = .ok (.ok ⟨dateOfYo 2015 181, ⟨86399, 0⟩⟩) ∧
    roundTrip jsonLike .naive .millis dt = .ok (.ok ⟨dateOfYo 2015 182, ⟨0, 500000000⟩⟩) := by
  decide +kernel

/-- LEAP VALUES THROUGH EVERY TIMESTAMP MODULE, universally (audit2 LOW-3; `leap_second_not_carried` is one
instance).  For every valid leap-second representation `dt` (nanosecond field in 10⁹..2·10⁹−1, on any second),
both targets:
* seconds modules — the integer written is the count of the second the representation is attached to (second
  :59 for everything the public constructors build), the SAME integer the non-leap value on that second with the
  fraction reduced by 10⁹ writes (the leap second collapses onto second :59's count); reading it always
  succeeds and gives the START of that second: leap second and fraction are both lost;
* milli- and microsecond modules — the fraction survives at the module's precision, counted INTO THE FOLLOWING
  second: the integer is `instNs / unit`, reading it gives the non-leap value at `instNs` cut down to the unit,
  which lies in the second after the one `dt` is attached to — or an error exactly when `dt` sits on the last
  second of the range (writable, not readable); never a panic.
The nanosecond modules are `ts_exact_leap_full` + `ts_rejects` (`instNs` itself, read back one second later). -/
theorem ts_leap_roundtrip (tg : Target) (dt : NaiveDT) (h : NDTInv dt) (hl : ¬ NonLeap dt) :
    (∃ dt', serialize tg .secs dt = .ok (.ok (.i64 (instSecs dt))) ∧
        serialize tg .secs ⟨dt.date, ⟨dt.time.secs, dt.time.frac - 1000000000⟩⟩ = serialize tg .secs dt ∧
        deserialize tg .secs (.i64 (instSecs dt)) = .ok (.ok dt') ∧ NDTInv dt' ∧ NonLeap dt' ∧
        instNs dt' = instSecs dt * 1000000000) ∧
    (∀ u, u = TsUnit.millis ∨ u = TsUnit.micros →
      ∃ r, serialize tg u dt = .ok (.ok (.i64 (instNs dt / nsPer u))) ∧
        deserialize tg u (.i64 (instNs dt / nsPer u)) = .ok r ∧
        (r = .err ↔ instSecs dt = TS_MAX) ∧
        ∀ dt', r = .ok dt' → NDTInv dt' ∧ NonLeap dt' ∧ instNs dt' = instNs dt / nsPer u * nsPer u ∧
          instSecs dt' = instSecs dt + 1) := by
  have hmin := ts_min_val
  have hmax := ts_max_val
  obtain ⟨w1, w2, w3⟩ := ts_exact_leap tg dt h
  have hr := instSecs_range dt h
  have hf : 1000000000 ≤ dt.time.frac ∧ dt.time.frac < 2000000000 := by
    unfold NonLeap at hl
    have := h.2
    unfold TValid at this
    omega
  have hns : instNs dt = instSecs dt * 1000000000 + dt.time.frac := rfl
  refine ⟨?_, ?_⟩
  · obtain ⟨dt', d1, a, b, c⟩ := canon_ok .secs (instSecs dt) (by
      show _ ≤ instSecs dt / 1 ∧ instSecs dt / 1 ≤ _
      rw [Int.ediv_one]; exact hr)
    have h' : NDTInv (⟨dt.date, ⟨dt.time.secs, dt.time.frac - 1000000000⟩⟩ : NaiveDT) := by
      refine ⟨h.1, ?_⟩
      have := h.2
      unfold TValid at this ⊢
      dsimp only
      omega
    exact ⟨dt', w1, by rw [(ts_exact_leap tg _ h').1, w1]; rfl, by rw [de_i64, d1], a, b, by rw [c]; rfl⟩
  · intro u hu
    -- `instNs dt` lies in the second after the one `dt` is attached to
    obtain ⟨hn, hnp⟩ := units u
    obtain ⟨a1, a2⟩ := units_arith (instSecs dt + 1) (dt.time.frac - 1000000000) (nsPer u) (perSec u) hn hnp
      (by omega) (by omega)
    have e : (instSecs dt + 1) * 1000000000 + (dt.time.frac - 1000000000) = instNs dt := by rw [hns]; omega
    rw [e] at a1 a2
    have hle : (dt.time.frac - 1000000000) / nsPer u * nsPer u ≤ dt.time.frac - 1000000000 :=
      Int.ediv_mul_le _ (by omega)
    have h0 : 0 ≤ (dt.time.frac - 1000000000) / nsPer u * nsPer u :=
      Int.mul_nonneg (Int.ediv_nonneg (by omega) (by omega)) (by omega)
    have hw : serialize tg u dt = .ok (.ok (.i64 (instNs dt / nsPer u))) := by
      rcases hu with rfl | rfl
      exacts [w2, w3]
    obtain ⟨r, r1, r2, r3⟩ := canon_spec u (instNs dt / nsPer u) (by rw [a1]; unfold isI64; omega)
    refine ⟨r, hw, by rw [de_i64, r1], ?_, ?_⟩
    · rw [r2, a1]; omega
    · intro dt' hd
      obtain ⟨a, b, c⟩ := r3 dt' hd
      refine ⟨a, b, c, ?_⟩
      have e' : instNs dt' = instSecs dt' * 1000000000 + dt'.time.frac := rfl
      have := a.2.2.2.1
      unfold NonLeap at b
      omega

/-- non-vacuity of `ts_leap_roundtrip`: 2015-06-30T23:59:60.5 and a leap representation on the last second
of the range (where the milli/microsecond modules write but cannot read) satisfy its hypotheses -/
example :
    (NDTInv ⟨dateOfYo 2015 181, ⟨86399, 1500000000⟩⟩ ∧ ¬ NonLeap ⟨dateOfYo 2015 181, ⟨86399, 1500000000⟩⟩) ∧
    (NDTInv ⟨dateOfYo 262142 365, ⟨86399, 1999999999⟩⟩ ∧ ¬ NonLeap ⟨dateOfYo 262142 365, ⟨86399, 1999999999⟩⟩ ∧
      instSecs ⟨dateOfYo 262142 365, ⟨86399, 1999999999⟩⟩ = TS_MAX) := by
  decide +kernel

/-- both shapes of real formats satisfy the trusted behaviour as modelled: positional (`bincode`: the integer
comes back signed) and self-describing (`serde_json`: a non-negative integer comes back unsigned, `Some(n)`
and `n` share one text) -/
theorem formats_faithful : binLike.Faithful ∧ jsonLike.Faithful := by
  refine ⟨⟨fun n _ => Or.inl rfl, fun n _ => Or.inl rfl, Or.inl rfl⟩, ⟨?_, ?_, Or.inl rfl⟩⟩
  · intro n _
    by_cases hn : n < 0
    · exact Or.inl (if_pos hn)
    · exact Or.inr ⟨by omega, if_neg hn⟩
  · intro n _
    by_cases hn : n < 0
    · exact Or.inl (congrArg WOpt.some (if_pos hn))
    · exact Or.inr ⟨by omega, congrArg WOpt.some (if_neg hn)⟩

/-- non-vacuity for the timestamp families: a negative sub-second count in every unit through both format
shapes; the ends of the 64-bit nanosecond window and the first value beyond each; the range ends and the first
integers beyond them from signed and unsigned input; `u64` above `i64::MAX` -/
example :
    let dt : NaiveDT := ⟨dateOfYo 1969 365, ⟨86399, 999999999⟩⟩
    NDTInv dt ∧ NonLeap dt ∧
    serialize .utc .millis dt = .ok (.ok (.i64 (-1))) ∧ serialize .naive .nanos dt = .ok (.ok (.i64 (-1))) ∧
    deserialize .utc .micros (.i64 (-1)) = .ok (.ok ⟨dateOfYo 1969 365, ⟨86399, 999999000⟩⟩) ∧
    roundTrip jsonLike .naive .micros dt = .ok (.ok ⟨dateOfYo 1969 365, ⟨86399, 999999000⟩⟩) ∧
    roundTrip binLike .utc .secs dt = .ok (.ok ⟨dateOfYo 1969 365, ⟨86399, 0⟩⟩) ∧
    roundTripOpt jsonLike .utc .nanos (some dt) = .ok (.ok (some dt)) ∧
    roundTripOpt binLike .naive .millis none = .ok (.ok none) := by
  decide +kernel
example :
    serialize .utc .nanos ⟨dateOfYo 1677 264, ⟨763, 145224192⟩⟩ = .ok (.ok (.i64 (-9223372036854775808))) ∧
    serialize .utc .nanos ⟨dateOfYo 1677 264, ⟨763, 145224191⟩⟩ = .ok .err ∧
    serialize .naive .nanos ⟨dateOfYo 2262 101, ⟨85636, 854775807⟩⟩ = .ok (.ok (.i64 9223372036854775807)) ∧
    serialize_option .naive .nanos (some ⟨dateOfYo 2262 101, ⟨85636, 854775808⟩⟩) = .ok .err ∧
    roundTrip jsonLike .utc .nanos NaiveDT.MAX = .ok .err ∧
    roundTrip jsonLike .utc .micros NaiveDT.MAX = .ok (.ok ⟨Date.MAX, ⟨86399, 999999000⟩⟩) ∧
    deserialize .utc .secs (.i64 TS_MAX) = .ok (.ok ⟨Date.MAX, ⟨86399, 0⟩⟩) ∧
    deserialize .utc .secs (.u64 (TS_MAX + 1)) = .ok .err ∧
    deserialize .naive .secs (.i64 TS_MIN) = .ok (.ok NaiveDT.MIN) ∧
    deserialize .naive .secs (.i64 (TS_MIN - 1)) = .ok .err ∧
    deserialize .naive .millis (.i64 (TS_MIN * 1000 - 1)) = .ok .err ∧
    deserialize .utc .secs (.u64 18446744073709551615) = .ok .err ∧
    deserialize .naive .secs (.u64 9223372036854775808) = .ok .err ∧
    deserialize .utc .micros (.u64 18446744073709551615) = .ok .err ∧
    deserialize .utc .nanos (.u64 18446744073709551615) = .ok (.ok ⟨dateOfYo 2554 202, ⟨84873, 709551615⟩⟩) ∧
    deserialize .naive .millis (.i64 (-9223372036854775808)) = .ok .err := by
  decide +kernel

/-! ## durations: the `(i64, i32)` tuple -/

/-- every valid duration is written as a pair that fits `(i64, i32)` and is read back as itself -/
theorem delta_roundtrip (d : Delta) (h : DInv d) :
    isI64 (TimeDelta.serialize d).1 ∧ isI32 (TimeDelta.serialize d).2 ∧
    TimeDelta.deserialize (TimeDelta.serialize d) = .ok d := by
  obtain ⟨h0, h1, h2, h3⟩ := h
  unfold ns NS_MAX at h2 h3
  refine ⟨?_, ?_, ?_⟩
  · unfold TimeDelta.serialize isI64; dsimp only; omega
  · unfold TimeDelta.serialize isI32; dsimp only; omega
  · show TimeDelta.deserialize (d.secs, d.nanos) = .ok d
    rw [delta_de_eq d.secs d.nanos (by unfold isI32; omega), if_pos ⟨h0, h1, by unfold nsInRange NS_MAX; omega⟩]


/-- the same end to end through ANY tuple format that hands a pair fitting `(i64, i32)` back unchanged
(audit LOW-4: the carrier is now a parameter with a stated trusted behaviour, like the integer and text
formats): every valid duration comes back as itself -/
theorem delta_format_roundtrip (F : PairFormat) (hF : F.Faithful) (d : Delta) (h : DInv d) :
    deltaRoundTrip F d = .ok d := by
  obtain ⟨a, b, c⟩ := delta_roundtrip d h
  unfold deltaRoundTrip
  have : F.getPair (F.putPair (TimeDelta.serialize d)) = some (TimeDelta.serialize d) := hF _ _ a b
  rw [this]
  exact c

example : (⟨Int × Int, id, some⟩ : PairFormat).Faithful := fun _ _ _ _ => rfl

/-- reading any `(i64, i32)` pair: accepted exactly when the nanosecond field is in `0 .. 10⁹` and the
value lies within ±(2⁶³−1) ms, then it is that value and valid; otherwise an error (never a panic: the
result type has no such case; a negative `i32` nanosecond field becomes a large `u32` and is refused) -/
theorem delta_rejects_out_of_range (s n : Int) (hn : isI32 n) :
    TimeDelta.deserialize (s, n) =
      (if 0 ≤ n ∧ n < 1000000000 ∧ nsInRange (s * 1000000000 + n) then .ok ⟨s, n⟩ else .err) ∧
    (∀ d, TimeDelta.deserialize (s, n) = .ok d → DInv d) := by
  refine ⟨delta_de_eq s n hn, ?_⟩
  intro d hd
  rw [delta_de_eq s n hn] at hd
  split at hd
  · rename_i h
    injection hd with hd
    subst hd
    exact ⟨h.1, h.2.1, h.2.2⟩
  · cases hd

/-! ## weekday and month names -/

/-- a weekday is written as its `Display` text and read back by `FromStr`; a month as `name()` -/
theorem names_roundtrip (F : StrFormat) (hF : F.Faithful) :
    (∀ w : Weekday, strDeserialize F Weekday.parse (strSerialize F Weekday.display w) = .ok w) ∧
    (∀ m : Month, strDeserialize F Month.parse (strSerialize F Month.name m) = .ok m) :=
  ⟨fun w => glue_pure F hF Weekday.display Weekday.parse (fun _ => True)
      (fun v _ => C19.weekday_parse_display v) w trivial,
    fun m => glue_pure F hF Month.name Month.parse (fun _ => True) (fun v _ => C19.month_parse_name v) m trivial⟩

/-- reading weekday / month names from ARBITRARY text through any faithful text format (`Deserialize for
Weekday` / `Month` = `visit_str` = `FromStr`): accepted as `w` exactly when the text, lower-cased, is the
three-letter or the full English name of `w` (`Spec.weekdayShort/Long`, `monthShort/Long`; so `"MONDAY"`,
`"mon"`, `"Mon"` all read as Monday and `"Mo"`, `"Mond"`, `" Mon"` are refused); what `Serialize` writes is one
of these (`names_roundtrip`).  The result type has no panic. -/
theorem names_deserialize_iff (F : StrFormat) (hF : F.Faithful) (s : List Nat) :
    (∀ w : Weekday, strDeserialize F Weekday.parse (F.putStr s) = .ok w ↔
      (lowerS s = weekdayShort w ∨ lowerS s = weekdayLong w)) ∧
    (∀ m : Month, strDeserialize F Month.parse (F.putStr s) = .ok m ↔
      (lowerS s = monthShort m ∨ lowerS s = monthLong m)) :=
  ⟨fun w => (glue_parse_iff F hF Weekday.parse s w).trans (C19.weekday_parse_iff s w),
    fun m => (glue_parse_iff F hF Month.parse s m).trans (C19.month_parse_iff s m)⟩

example : lowerS (asciiBytes "MONDAY") = weekdayLong .mon ∧ lowerS (asciiBytes "sEp") = monthShort .sep ∧
    lowerS (asciiBytes "Mond") ≠ weekdayLong .mon ∧ lowerS (asciiBytes "Mond") ≠ weekdayShort .mon := by
  decide

/-! ## zone-aware date-times: what the writer cannot express (witnesses of the known findings) -/

/-- Kernel-checked witnesses of the known findings F20 and F22, independent of any reader: the text written
for a zone-aware value does not determine the instant.  (F20) 12:34:06 at +01:00:50 and 12:34:06 at +01:01 —
ten seconds apart — are both written "2014-07-24T12:34:06+01:01": the offset is rounded to whole minutes, the
wall clock kept.  (F22) 00:00:30 with nanosecond field 1.5·10⁹ (a leap-second representation on a second
other than :59) and the ordinary 00:00:31.5 are both written "1970-01-01T00:00:31.500Z".  So no reader can
restore the instant for offsets with a seconds part, nor such leap representations; for whole-minute offsets
and leap seconds on :59 the round trip is `string_forms_roundtrip_datetime` below. -/
theorem datetime_text_collisions :
    DateTimeStr.serialize ⟨⟨dateOfYo 2014 205, ⟨41596, 0⟩⟩, 3650⟩ = .ok (some [50, 48, 49, 52, 45, 48, 55, 45, 50, 52, 84, 49, 50, 58, 51, 52, 58, 48, 54, 43, 48, 49, 58, 48, 49]) ∧
    DateTimeStr.serialize ⟨⟨dateOfYo 2014 205, ⟨41586, 0⟩⟩, 3660⟩ = .ok (some [50, 48, 49, 52, 45, 48, 55, 45, 50, 52, 84, 49, 50, 58, 51, 52, 58, 48, 54, 43, 48, 49, 58, 48, 49]) ∧
    zonedInstNs ⟨⟨dateOfYo 2014 205, ⟨41596, 0⟩⟩, 3650⟩ - zonedInstNs ⟨⟨dateOfYo 2014 205, ⟨41586, 0⟩⟩, 3660⟩
      = 10 * 1000000000 ∧
    DateTimeStr.serialize ⟨⟨dateOfYo 1970 1, ⟨30, 1500000000⟩⟩, 0⟩ = .ok (some [49, 57, 55, 48, 45, 48, 49, 45, 48, 49, 84, 48, 48, 58, 48, 48, 58, 51, 49, 46, 53, 48, 48, 90]) ∧
    DateTimeStr.serialize ⟨⟨dateOfYo 1970 1, ⟨31, 500000000⟩⟩, 0⟩ = .ok (some [49, 57, 55, 48, 45, 48, 49, 45, 48, 49, 84, 48, 48, 58, 48, 48, 58, 51, 49, 46, 53, 48, 48, 90]) := by
  decide +kernel

/-- Kernel-checked witnesses of the known findings F21, F23, F24 on the writer side (that the reader refuses
these texts is compared with the crate on every run, ops `sd.dt.de`): serializing never fails or panics at
the range ends (finding F06, repaired), but (F21) `MAX_UTC` seen at +01:00 is written with the year +262143,
which is no `NaiveDate`; (F23) an offset of +23:59:59 is written "+24:00", outside the reader's ±23:59;
(F24) `MIN_UTC` seen at +00:00:31 is written "…T00:00:31+00:01", i.e. as an instant 29 s before `MIN_UTC`. -/
theorem datetime_text_beyond_reader :
    DateTimeStr.serialize ⟨NaiveDT.MAX, 3600⟩ = .ok (some [43, 50, 54, 50, 49, 52, 51, 45, 48, 49, 45, 48, 49, 84, 48, 48, 58, 53, 57, 58, 53, 57, 46, 57, 57, 57, 57, 57, 57, 57, 57, 57, 43, 48, 49, 58, 48, 48]) ∧
    DateTimeStr.serialize ⟨NaiveDT.MIN, -3600⟩ = .ok (some [45, 50, 54, 50, 49, 52, 52, 45, 49, 50, 45, 51, 49, 84, 50, 51, 58, 48, 48, 58, 48, 48, 45, 48, 49, 58, 48, 48]) ∧
    DateTimeStr.serialize ⟨⟨dateOfYo 1970 2, ⟨0, 0⟩⟩, 86399⟩ = .ok (some [49, 57, 55, 48, 45, 48, 49, 45, 48, 50, 84, 50, 51, 58, 53, 57, 58, 53, 57, 43, 50, 52, 58, 48, 48]) ∧
    DateTimeStr.serialize ⟨NaiveDT.MIN, 31⟩ = .ok (some [45, 50, 54, 50, 49, 52, 51, 45, 48, 49, 45, 48, 49, 84, 48, 48, 58, 48, 48, 58, 51, 49, 43, 48, 48, 58, 48, 49]) := by
  decide +kernel

/-! ## string forms of dates, times and date-times -/

/-- **NaiveDate** through any faithful text format.  `Serialize for NaiveDate` is `collect_str` of the
`Debug` form (`TextForms.date_debug`), `Deserialize` is `visit_str` = `FromStr` (`TextForms.date_from_str`),
both the functions Props/C09 is about.  For every date of the supported range: serializing succeeds and
stores the text `[sign]YYYY-MM-DD` of Spec/TextFormsSpec.lean, and deserializing what was stored gives the
date back (no error, no panic).  No restriction beyond validity. -/
theorem string_forms_roundtrip_date (F : StrFormat) (hF : F.Faithful) (d : Date) (hd : DateInv d) :
    strSerializeW F NaiveDateStr.serialize d = .ok (.ok (F.putStr (dateTextOf d))) ∧
    strRoundTrip F NaiveDateStr.serialize NaiveDateStr.visit_str d = .ok (.ok d) := by
  obtain ⟨hw, hr⟩ := C09.roundtrip_NaiveDate d hd
  obtain ⟨a, _, c⟩ := glue_roundtrip F hF NaiveDateStr.serialize NaiveDateStr.visit_str d d _ hw
    (visitOf_ok _ _ hr)
  exact ⟨a, c⟩

/-- **NaiveTime** through any faithful text format (`collect_str(&self)`: `Display`, which forwards to
`Debug` = `TextForms.time_debug`; `visit_str` = `FromStr` = `TextForms.time_from_str`).  Domain: every time
of day whose leap-second representation, if any, sits on a second :59 (`TStrict`, the domain of C09: what
`from_hms_nano_opt` and the parsers build; `Timelike::with_nanosecond` can put a nanosecond field ≥ 10⁹ on any
second).  Such a value prints as the following second and does not come back — known finding F22, excluded
here by `TStrict` and characterised for every such value by `time_roundtrip_nonstrict` / `time_roundtrip_any`. -/
theorem string_forms_roundtrip_time (F : StrFormat) (hF : F.Faithful) (t : Time) (ht : TStrict t) :
    strSerializeW F NaiveTimeStr.serialize t = .ok (.ok (F.putStr (timeText t))) ∧
    strRoundTrip F NaiveTimeStr.serialize NaiveTimeStr.visit_str t = .ok (.ok t) := by
  obtain ⟨hw, hr⟩ := C09.roundtrip_NaiveTime t ht
  obtain ⟨a, _, c⟩ := glue_roundtrip F hF NaiveTimeStr.serialize NaiveTimeStr.visit_str t t _ hw
    (visitOf_ok (.ok (TextForms.time_from_str (timeText t))) t (by rw [hr]))
  exact ⟨a, c⟩

/-- **NaiveDateTime** through any faithful text format (`collect_str` of the `Debug` form, date `T` time =
`TextForms.naive_debug`; `visit_str` = `FromStr` = `TextForms.naive_from_str`).  Domain: every valid value
with a leap second only on second :59 (F22 as for `NaiveTime`).  The `Display` form, which `FromStr` refuses
(known finding F13), is not what serde writes. -/
theorem string_forms_roundtrip_naive (F : StrFormat) (hF : F.Faithful) (dt : NaiveDT) (h : NDTInv dt)
    (hs : TStrict dt.time) :
    strSerializeW F NaiveDateTimeStr.serialize dt = .ok (.ok (F.putStr (naiveText 84 dt))) ∧
    strRoundTrip F NaiveDateTimeStr.serialize NaiveDateTimeStr.visit_str dt = .ok (.ok dt) := by
  obtain ⟨hw, hr⟩ := C09.roundtrip_NaiveDateTime_debug dt h hs
  obtain ⟨a, _, c⟩ := glue_roundtrip F hF NaiveDateTimeStr.serialize NaiveDateTimeStr.visit_str dt dt _ hw
    (visitOf_ok _ _ hr)
  exact ⟨a, c⟩

/-- **DateTime<Tz>** (given by its UTC reading and its fixed offset `offset.fix()`) through any faithful text
format.  The writer is `write_rfc3339(overflowing_naive_local, offset, AutoSi, use_z = true)`
(`DateTimeStr.serialize`), the reader `FromStr for DateTime<FixedOffset>` (`TextForms.fixed_from_str`, the
relaxed reader of C09 — not `parse_from_rfc3339`), followed by `with_timezone(&Utc)` when the target is
`DateTime<Utc>`.  Domain = the domain of `C09.roundtrip_DateTime_FixedOffset`:
  * the offset is a whole number of minutes, less than a day (`WholeMinute`; otherwise F20: the offset is
    rounded and the instant moves, F23: ±23:59:30 and beyond is written `24:00`, F24);
  * a leap second sits on second :59 (`TStrict`; otherwise F22);
  * the wall clock is inside `NaiveDate`'s range (`naive_local z = .ok l`; otherwise F21 / F25: written, but
    refused by the reader).
Then: serializing succeeds and stores the wall clock as date `T` time followed by `Z` (offset zero) or
`+hh:mm` / `-hh:mm`; read as `DateTime<FixedOffset>` it is the same value (same instant, same offset); read
as `DateTime<Utc>` it is the same instant at offset zero. -/
theorem string_forms_roundtrip_datetime (F : StrFormat) (hF : F.Faithful) (z : Zoned) (hz : ZInv z)
    (hm : WholeMinute z.off) (hs : TStrict z.utc.time) (l : NaiveDT) (hl : Zoned.naive_local z = .ok l) :
    strSerializeW F DateTimeStr.serialize z = .ok (.ok (F.putStr (naiveText 84 l ++ zoneText z.off))) ∧
    strRoundTrip F DateTimeStr.serialize DateTimeStr.deserialize_fixed z = .ok (.ok z) ∧
    strRoundTrip F DateTimeStr.serialize DateTimeStr.deserialize_utc z = .ok (.ok ⟨z.utc, 0⟩) := by
  have hw := serde_datetime_text z hz hm hs l hl
  have hr := serde_datetime_read z hz hm hs l hl
  have hv : DateTimeStr.visit_str (naiveText 84 l ++ zoneText z.off) = .ok (.ok z) := visitOf_ok _ _ hr
  obtain ⟨a, _, c⟩ := glue_roundtrip F hF DateTimeStr.serialize DateTimeStr.deserialize_fixed z z _ hw hv
  obtain ⟨_, _, e⟩ := glue_roundtrip F hF DateTimeStr.serialize DateTimeStr.deserialize_utc z ⟨z.utc, 0⟩ _ hw
    (by unfold DateTimeStr.deserialize_utc; rw [hv]; rfl)
  exact ⟨a, c, e⟩

/-- **DateTime<Utc>** (its UTC reading `u`): every valid value with a leap second only on :59 is stored as
date `T` time `Z` and comes back as itself, into `DateTime<Utc>` and into `DateTime<FixedOffset>` (offset
zero).  No range restriction: the wall clock of a UTC value is the value. -/
theorem string_forms_roundtrip_datetime_utc (F : StrFormat) (hF : F.Faithful) (u : NaiveDT) (hu : NDTInv u)
    (hs : TStrict u.time) :
    strSerializeW F DateTimeStr.serialize ⟨u, 0⟩ = .ok (.ok (F.putStr (naiveText 84 u ++ [90]))) ∧
    strRoundTrip F DateTimeStr.serialize DateTimeStr.deserialize_utc ⟨u, 0⟩ = .ok (.ok ⟨u, 0⟩) ∧
    strRoundTrip F DateTimeStr.serialize DateTimeStr.deserialize_fixed ⟨u, 0⟩ = .ok (.ok ⟨u, 0⟩) := by
  obtain ⟨hz, _, hl⟩ := Chrono.Proofs.TextForms.utc_local u hu
  obtain ⟨a, b, c⟩ := string_forms_roundtrip_datetime F hF ⟨u, 0⟩ hz (by show WholeMinute 0; unfold WholeMinute; omega)
    hs u hl
  exact ⟨a, c, b⟩

/-- The restrictions are needed, reader included (known findings F20 and F22 end to end on the models): the
value 12:34:06 at +01:00:50 is read back as the *different* value 12:34:06 at +01:01 (ten seconds earlier),
and 00:00:30 with nanosecond field 1.5·10⁹ as the ordinary 00:00:31.5 — both because the text written
coincides with the text of that other value (`datetime_text_collisions`), which is in the domain of
`string_forms_roundtrip_datetime` and therefore read back as itself. -/
theorem datetime_outside_domain_comes_back_different :
    DateTimeStr.roundTrip ⟨⟨dateOfYo 2014 205, ⟨41596, 0⟩⟩, 3650⟩ = .ok (.ok ⟨⟨dateOfYo 2014 205, ⟨41586, 0⟩⟩, 3660⟩) ∧
    DateTimeStr.roundTrip ⟨⟨dateOfYo 1970 1, ⟨30, 1500000000⟩⟩, 0⟩ = .ok (.ok ⟨⟨dateOfYo 1970 1, ⟨31, 500000000⟩⟩, 0⟩) := by
  obtain ⟨c1, c2, _, c4, c5⟩ := datetime_text_collisions
  have key : ∀ (bad good : Zoned) (text : List Nat), DateTimeStr.serialize bad = .ok (some text) →
      DateTimeStr.serialize good = .ok (some text) → ZInv good → WholeMinute good.off → TStrict good.utc.time →
      (∃ l, Zoned.naive_local good = .ok l) → DateTimeStr.roundTrip bad = .ok (.ok good) := by
    intro bad good text hb hg hz hm hs ⟨l, hl⟩
    have hw := serde_datetime_text good hz hm hs l hl
    rw [hg] at hw
    injection hw with hw; injection hw with hw
    unfold DateTimeStr.roundTrip
    rw [hb]
    show DateTimeStr.visit_str text = _
    rw [hw]
    exact visitOf_ok _ _ (serde_datetime_read good hz hm hs l hl)
  refine ⟨key _ _ _ c1 c2 ?_ ?_ ?_ ⟨⟨dateOfYo 2014 205, ⟨45246, 0⟩⟩, ?_⟩,
    key _ _ _ c4 c5 ?_ ?_ ?_ ⟨⟨dateOfYo 1970 1, ⟨31, 500000000⟩⟩, ?_⟩⟩
  · unfold ZInv NDTInv OffValid; decide +kernel
  · unfold WholeMinute; decide
  · decide +kernel
  · decide +kernel
  · unfold ZInv NDTInv OffValid; decide +kernel
  · unfold WholeMinute; decide
  · decide +kernel
  · decide +kernel


/-! ## the whole domain of the string forms (audit gaps HIGH-1, MEDIUM-1, MEDIUM-2, LOW-1)

Vocabulary (Spec/SerdeStrAnySpec.lean): `shownTime t` = `t`, except that a leap-second representation on a
second other than :59 (only `with_nanosecond` builds one) is the following second with the fraction reduced by
10⁹ — the same point of the nanosecond line; `roundMin off` = the offset with its magnitude rounded to whole
minutes (half up); `zoneTextAny off` = `Z` for zero, else the sign of `off` and `hh:mm` of `roundMin off`;
`shownWallSecs z` / `shownWallFrac z` = the wall-clock second / fraction field as shown (`shownTime`);
`wallSecs`, `InRangeSecs`, `ZInv`, `wallNs`, `zonedInstNs`: Spec/ZonedSpec.lean, Spec/InstantSpec.lean. -/

/-- **NaiveTime, every well-formed value** (leap representation on any second): serializing stores the text of
the time as shown, and the round trip gives `shownTime t` — `t` itself exactly when `t` is in the domain of
`string_forms_roundtrip_time`, and in every case the same position on the nanosecond line of the day -/
theorem time_roundtrip_any (F : StrFormat) (hF : F.Faithful) (t : Time) (ht : TValid t) :
    strSerializeW F NaiveTimeStr.serialize t = .ok (.ok (F.putStr (timeText (shownTime t)))) ∧
    strRoundTrip F NaiveTimeStr.serialize NaiveTimeStr.visit_str t = .ok (.ok (shownTime t)) ∧
    pos (shownTime t) = pos t ∧ (shownTime t = t ↔ TStrict t) := by
  have hw : NaiveTimeStr.serialize t = Format.wok (timeText (shownTime t)) := by
    rw [← timeText_shown t ht]; exact Chrono.Proofs.TextForms.time_debug_text t ht
  have hr := Chrono.Proofs.TextForms.time_roundtrip (shownTime t) (shownTime_strict t ht)
  obtain ⟨a, _, c⟩ := glue_roundtrip F hF NaiveTimeStr.serialize NaiveTimeStr.visit_str t (shownTime t) _ hw
    (visitOf_ok (.ok (TextForms.time_from_str (timeText (shownTime t)))) _ (by rw [hr]))
  refine ⟨a, c, ?_, ⟨fun h => by rw [← h]; exact shownTime_strict t ht, shownTime_of_strict t⟩⟩
  obtain ⟨ss, sf⟩ := shown_secs_frac t
  unfold pos
  rw [ss, sf]
  split <;> omega

/-- **F22 characterised (NaiveTime)**: a leap-second representation on a second other than :59 is read back
as the following second with the fraction reduced by 10⁹ — a different value (the finding), the same position
on the line.  Together with `string_forms_roundtrip_time` this covers every `NaiveTime`. -/
theorem time_roundtrip_nonstrict (F : StrFormat) (hF : F.Faithful) (t : Time) (ht : TValid t)
    (hn : ¬ TStrict t) :
    strRoundTrip F NaiveTimeStr.serialize NaiveTimeStr.visit_str t =
      .ok (.ok ⟨t.secs + 1, t.frac - 1000000000⟩) ∧
    (⟨t.secs + 1, t.frac - 1000000000⟩ : Time) ≠ t ∧ TStrict ⟨t.secs + 1, t.frac - 1000000000⟩ := by
  obtain ⟨_, b, _, _⟩ := time_roundtrip_any F hF t ht
  have hs := shownTime_strict t ht
  rw [shownTime_nonstrict t ht hn] at b hs
  refine ⟨b, ?_, hs⟩
  intro h
  have : t.secs + 1 = t.secs := congrArg Time.secs h
  omega

/-- **NaiveDateTime, every valid value**: the round trip gives the same date with the time as shown; the same
instant (`instNs`) in every case, the same value exactly when the leap condition `TStrict` holds -/
theorem naive_roundtrip_any (F : StrFormat) (hF : F.Faithful) (dt : NaiveDT) (h : NDTInv dt) :
    strSerializeW F NaiveDateTimeStr.serialize dt = .ok (.ok (F.putStr (naiveText 84 dt))) ∧
    strRoundTrip F NaiveDateTimeStr.serialize NaiveDateTimeStr.visit_str dt =
      .ok (.ok ⟨dt.date, shownTime dt.time⟩) ∧
    instNs ⟨dt.date, shownTime dt.time⟩ = instNs dt ∧
    ((⟨dt.date, shownTime dt.time⟩ : NaiveDT) = dt ↔ TStrict dt.time) := by
  obtain ⟨hvd, he, ht, _⟩ := Chrono.Proofs.TextForms.naive_of_inv dt h
  have hw : NaiveDateTimeStr.serialize dt = Format.wok (naiveText 84 dt) :=
    (Chrono.Proofs.ZNF.naive_text_wall dt (Or.inl h.1) h.2).1
  have hr : NaiveDateTimeStr.visit_str (naiveText 84 dt) = .ok (.ok ⟨dt.date, shownTime dt.time⟩) := by
    rw [ht, timeText_shown dt.time h.2]
    have hd : dt.date = dateOfYo dt.date.year dt.date.ordinal.toNat := congrArg NaiveDT.date he
    conv => rhs; rw [hd]
    exact visitOf_ok _ _ (Chrono.Proofs.TextForms.naive_debug_roundtrip _ _ hvd _ (shownTime_strict dt.time h.2))
  obtain ⟨a, _, c⟩ := glue_roundtrip F hF NaiveDateTimeStr.serialize NaiveDateTimeStr.visit_str dt _ _ hw hr
  obtain ⟨ss, sf⟩ := shown_secs_frac dt.time
  refine ⟨a, c, ?_, ⟨fun hh => ?_, fun hh => ?_⟩⟩
  · unfold instNs instSecs
    dsimp only
    rw [ss, sf]
    split <;> omega
  · have := congrArg NaiveDT.time hh
    dsimp only at this
    rw [← this]; exact shownTime_strict dt.time h.2
  · rw [shownTime_of_strict dt.time hh]

/-- **F22 characterised (NaiveDateTime)** -/
theorem naive_roundtrip_nonstrict (F : StrFormat) (hF : F.Faithful) (dt : NaiveDT) (h : NDTInv dt)
    (hn : ¬ TStrict dt.time) :
    strRoundTrip F NaiveDateTimeStr.serialize NaiveDateTimeStr.visit_str dt =
      .ok (.ok ⟨dt.date, ⟨dt.time.secs + 1, dt.time.frac - 1000000000⟩⟩) ∧
    instNs ⟨dt.date, ⟨dt.time.secs + 1, dt.time.frac - 1000000000⟩⟩ = instNs dt := by
  obtain ⟨_, b, c, _⟩ := naive_roundtrip_any F hF dt h
  rw [shownTime_nonstrict dt.time h.2 hn] at b c
  exact ⟨b, c⟩

/-- **DateTime<Tz>, every value whose wall clock is inside `NaiveDate`'s range — ANY offset of less than a
day (seconds part included), ANY well-formed time of day.**  This is what the round trip does where
`string_forms_roundtrip_datetime` is silent (known findings F20, F22, F23, F24 as one universal statement):
  * serializing succeeds (no error, no panic) and stores the wall clock `l` (the valid naive date-time
    `wallSecs z` seconds after the epoch with `z`'s fraction field) as date `T` time, then `zoneTextAny`;
  * deserializing never panics; it answers `Err` EXACTLY when the rounded offset is a whole day (`±24:00`,
    F23) or the shown wall clock minus the rounded offset leaves the representable range (F24);
  * otherwise the value read as `DateTime<FixedOffset>` has the ROUNDED offset and the SAME wall clock
    (`wallNs`), hence an instant moved by exactly `off − roundMin off` seconds — at most 30 s either way, zero
    when the offset is a whole number of minutes; it is the unique valid value with that offset whose UTC
    reading is at second `shownWallSecs z − roundMin off` with fraction field `shownWallFrac z`;
  * read as `DateTime<Utc>` it is that instant at offset zero. -/
theorem datetime_roundtrip_any_offset (F : StrFormat) (hF : F.Faithful) (z : Zoned) (hz : ZInv z)
    (hw : InRangeSecs (wallSecs z)) :
    (∃ l, NDTInv l ∧ instSecs l = wallSecs z ∧ l.time.frac = z.utc.time.frac ∧
      strSerializeW F DateTimeStr.serialize z = .ok (.ok (F.putStr (naiveText 84 l ++ zoneTextAny z.off)))) ∧
    (∃ r, strRoundTrip F DateTimeStr.serialize DateTimeStr.deserialize_fixed z = .ok r ∧
      strRoundTrip F DateTimeStr.serialize DateTimeStr.deserialize_utc z =
        .ok (r.map fun z' => z'.with_timezone 0) ∧
      (r = .err ↔ (86400 ≤ (roundMin z.off).natAbs ∨ ¬ InRangeSecs (shownWallSecs z - roundMin z.off))) ∧
      (∀ z', r = .ok z' → z'.off = roundMin z.off ∧ ZInv z' ∧
        instSecs z'.utc = shownWallSecs z - roundMin z.off ∧ z'.utc.time.frac = shownWallFrac z ∧
        wallNs z' = wallNs z ∧
        zonedInstNs z' = zonedInstNs z + (z.off - roundMin z.off) * 1000000000)) ∧
    (-30 ≤ z.off - roundMin z.off ∧ z.off - roundMin z.off ≤ 30 ∧ (z.off % 60 = 0 → roundMin z.off = z.off)) := by
  obtain ⟨l, text, l1, l2, l3, _, hser, htext, r, hr, riff, rok⟩ := serde_rt_in_range z hz hw
  obtain ⟨b1, b2, _, b4, b5⟩ := roundMin_bounds z.off hz.2
  obtain ⟨h1, h2⟩ := glue_text (β := Zoned) F hF DateTimeStr.serialize z text hser
  refine ⟨⟨l, l1, l2, l3, by rw [h1, htext]⟩, ⟨r, ?_, ?_, riff, ?_⟩, b4, b5, roundMin_whole z.off⟩
  · rw [h2]; exact hr
  · rw [h2]; unfold DateTimeStr.deserialize_utc; rw [hr]; rfl
  · intro z' hz'
    obtain ⟨c1, c2, c3, c4⟩ := rok z' hz'
    have hoff : OffValid z'.off := by
      rw [c1]
      by_contra hc
      have : r = .err := riff.mpr (Or.inl ((offValid_natAbs _).mp hc))
      rw [this] at hz'; cases hz'
    have hshown : shownWallSecs z * 1000000000 + shownWallFrac z = wallSecs z * 1000000000 + z.utc.time.frac := by
      unfold shownWallSecs shownWallFrac
      split <;> omega
    unfold wallSecs at hshown
    refine ⟨c1, ⟨c2, hoff⟩, c3, c4, ?_, ?_⟩
    · unfold wallNs instNs
      rw [c3, c4, c1]
      omega
    · unfold zonedInstNs instNs
      rw [c3, c4]
      omega

/-- **the instant clause of the property for whole-minute offsets, WITHOUT the leap condition**: for every
zone-aware value with a whole-minute offset whose wall clock is inside `NaiveDate`'s range — leap
representation on any second — the round trip succeeds and gives the same instant (`zonedInstNs`) with the
same offset, into both targets.  So a leap representation off second :59 (F22) violates only the clause
"the original value" of the naive types, not the zone-aware clause "the same instant". -/
theorem datetime_roundtrip_instant (F : StrFormat) (hF : F.Faithful) (z : Zoned) (hz : ZInv z)
    (hm : z.off % 60 = 0) (hw : InRangeSecs (wallSecs z)) :
    ∃ z', strRoundTrip F DateTimeStr.serialize DateTimeStr.deserialize_fixed z = .ok (.ok z') ∧
      strRoundTrip F DateTimeStr.serialize DateTimeStr.deserialize_utc z = .ok (.ok ⟨z'.utc, 0⟩) ∧
      z'.off = z.off ∧ ZInv z' ∧ zonedInstNs z' = zonedInstNs z ∧
      (TStrict z.utc.time → z' = z) := by
  obtain ⟨_, ⟨r, r1, r2, riff, rok⟩, _, _, hwm⟩ := datetime_roundtrip_any_offset F hF z hz hw
  have hR := hwm hm
  have hzo : OffValid z.off := hz.2
  unfold OffValid at hzo
  obtain ⟨hu1, hu2, hu3, hu4⟩ := hz.1.2
  -- the shown wall clock minus the offset is the UTC second (or the one after, same minute): in range
  have hin : InRangeSecs (shownWallSecs z - roundMin z.off) := by
    rw [hR]
    have hur := instSecs_range z.utc hz.1
    have hsm : Chrono.Spec.SECS_MIN = TS_MIN * 1 ∧ Chrono.Spec.SECS_MAX = TS_MAX * 1 := by decide +kernel
    rw [ts_min_val, ts_max_val] at hur hsm
    unfold shownWallSecs wallSecs InRangeSecs
    split <;> omega
  cases r with
  | err =>
    exfalso
    rcases riff.mp rfl with h | h
    · rw [hR] at h; exact (offValid_natAbs _).mpr h hz.2
    · exact h hin
  | ok z' =>
    obtain ⟨c1, c2, c3, c4, _, c6⟩ := rok z' rfl
    refine ⟨z', r1, by rw [r2]; rfl, by rw [c1, hR], c2, by rw [c6, hR]; omega, ?_⟩
    intro hs
    have hsw : shownWallSecs z = wallSecs z ∧ shownWallFrac z = z.utc.time.frac := by
      unfold shownWallSecs shownWallFrac wallSecs
      have h60 := Chrono.Proofs.Ts.instSecs_mod60 z.utc
      have : ¬ (z.utc.time.frac ≥ 1000000000 ∧ (instSecs z.utc + z.off) % 60 ≠ 59) := by
        rcases hs.2 with h | h <;> omega
      rw [if_neg this, if_neg this]; exact ⟨by omega, rfl⟩
    have hu : z'.utc = z.utc :=
      Chrono.Proofs.ndt_unique z'.utc z.utc ⟨((Chrono.Proofs.dateInv_iff _).mp c2.1.1).1, c2.1.2⟩
        ⟨((Chrono.Proofs.dateInv_iff _).mp hz.1.1).1, hz.1.2⟩
        (by rw [c3, hsw.1, hR]; unfold wallSecs; omega) (by rw [c4, hsw.2])
    cases z' with
    | mk u o => cases z with
      | mk u2 o2 =>
        dsimp only at hu c1 hR
        rw [hu, c1, hR]

/-- **wall clock outside `NaiveDate`'s range** (values within a day of `MIN_UTC` / `MAX_UTC` seen through a
non-zero offset; known finding F21), every such value, any offset, any time of day: serializing succeeds
(finding F06, repaired) and deserializing the stored text answers `Err` — never a value, never a panic — for
both targets.  With `datetime_roundtrip_any_offset` this decides the round trip of every well-formed
zone-aware value. -/
theorem datetime_roundtrip_wall_out_of_range (F : StrFormat) (hF : F.Faithful) (z : Zoned) (hz : ZInv z)
    (ho : ¬ InRangeSecs (wallSecs z)) :
    (∃ e, strSerializeW F DateTimeStr.serialize z = .ok (.ok e)) ∧
    strRoundTrip F DateTimeStr.serialize DateTimeStr.deserialize_fixed z = .ok .err ∧
    strRoundTrip F DateTimeStr.serialize DateTimeStr.deserialize_utc z = .ok .err := by
  obtain ⟨text, hser, hread⟩ := serde_rt_out_of_range z hz ho
  obtain ⟨h1, h2⟩ := glue_text (β := Zoned) F hF DateTimeStr.serialize z text hser
  refine ⟨⟨_, h1⟩, ?_, ?_⟩
  · rw [h2]; exact hread
  · rw [h2]; unfold DateTimeStr.deserialize_utc; rw [hread]; rfl


/-- **target `DateTime<Local>`** (`Deserialize for DateTime<Local>` = the same visitor followed by
`with_timezone(&Local)`; `tzOff` = the offset the process time zone prescribes at a UTC instant, ANY function),
every well-formed zone-aware value: the result is the result for the target `DateTime<FixedOffset>` with the
UTC reading kept and the offset replaced by the local one — an error or a panic exactly where that one is;
and on the domain of the property's instant clause (whole-minute offset, wall clock inside the range; leap
representation on any second) it is a value with the SAME INSTANT at the local offset — the original UTC
reading itself when the leap condition holds.  A `DateTime<Local>` *source* is the generic
`Serialize for DateTime<Tz>` on `offset.fix()`, i.e. `DateTimeStr.serialize` on its fixed offset (which may
carry seconds for local-mean-time eras: `datetime_roundtrip_any_offset`). -/
theorem datetime_roundtrip_local (F : StrFormat) (hF : F.Faithful) (tzOff : NaiveDT → Int) (z : Zoned)
    (hz : ZInv z) :
    (∃ r, strRoundTrip F DateTimeStr.serialize DateTimeStr.deserialize_fixed z = .ok r ∧
      strRoundTrip F DateTimeStr.serialize (DateTimeStr.deserialize_local tzOff) z =
        .ok (r.map fun z' => ⟨z'.utc, tzOff z'.utc⟩)) ∧
    (z.off % 60 = 0 → InRangeSecs (wallSecs z) →
      ∃ z', strRoundTrip F DateTimeStr.serialize (DateTimeStr.deserialize_local tzOff) z = .ok (.ok z') ∧
        z'.off = tzOff z'.utc ∧ zonedInstNs z' = zonedInstNs z ∧
        (TStrict z.utc.time → z' = ⟨z.utc, tzOff z.utc⟩)) := by
  have hmap := strRoundTrip_map F DateTimeStr.serialize DateTimeStr.visit_str
    (fun z' : Zoned => z'.with_timezone (tzOff z'.utc)) z
  have hloc : ∀ r, strRoundTrip F DateTimeStr.serialize DateTimeStr.deserialize_fixed z = .ok r →
      strRoundTrip F DateTimeStr.serialize (DateTimeStr.deserialize_local tzOff) z =
        .ok (r.map fun z' => ⟨z'.utc, tzOff z'.utc⟩) := by
    intro r hr
    have hr' : strRoundTrip F DateTimeStr.serialize DateTimeStr.visit_str z = .ok r := hr
    show strRoundTrip F DateTimeStr.serialize (fun s => (DateTimeStr.visit_str s).bind fun r => .ok (r.map _)) z = _
    rw [hmap, hr']
    rfl
  constructor
  · by_cases hw : InRangeSecs (wallSecs z)
    · obtain ⟨_, ⟨r, r1, _⟩, _⟩ := datetime_roundtrip_any_offset F hF z hz hw
      exact ⟨r, r1, hloc r r1⟩
    · obtain ⟨_, r1, _⟩ := datetime_roundtrip_wall_out_of_range F hF z hz hw
      exact ⟨.err, r1, hloc _ r1⟩
  · intro hm hw
    obtain ⟨z', r1, _, c1, c2, c3, c4⟩ := datetime_roundtrip_instant F hF z hz hm hw
    refine ⟨⟨z'.utc, tzOff z'.utc⟩, hloc _ r1, rfl, c3, ?_⟩
    intro hs
    rw [c4 hs]

/-- **`string_forms_roundtrip_datetime` restated with Spec predicates only** (audit LOW-1): the hypothesis is
`InRangeSecs (wallSecs z)` instead of the model call `Zoned.naive_local z = .ok l`, and the stored text is that
of the valid naive date-time `l` at second `wallSecs z` with `z`'s fraction field. -/
theorem string_forms_roundtrip_datetime_spec (F : StrFormat) (hF : F.Faithful) (z : Zoned) (hz : ZInv z)
    (hm : WholeMinute z.off) (hs : TStrict z.utc.time) (hw : InRangeSecs (wallSecs z)) :
    (∃ l, NDTInv l ∧ instSecs l = wallSecs z ∧ l.time.frac = z.utc.time.frac ∧
      strSerializeW F DateTimeStr.serialize z = .ok (.ok (F.putStr (naiveText 84 l ++ zoneText z.off)))) ∧
    strRoundTrip F DateTimeStr.serialize DateTimeStr.deserialize_fixed z = .ok (.ok z) ∧
    strRoundTrip F DateTimeStr.serialize DateTimeStr.deserialize_utc z = .ok (.ok ⟨z.utc, 0⟩) := by
  obtain ⟨l, g1, g2, g3, g4, g5, g6⟩ := Chrono.Proofs.naive_local_spec z hz
  rw [if_pos hw] at g5
  obtain ⟨a, b, c⟩ := string_forms_roundtrip_datetime F hF z hz hm hs l g5
  exact ⟨⟨l, ⟨g6.mpr hw, g2.2⟩, g3, g4, a⟩, b, c⟩

/-- non-vacuity of the whole-domain theorems, and their agreement with the recorded witnesses: the F20 value
(offset +01:00:50: rounded to +01:01, instant 10 s earlier), an offset that rounds to zero but is not written
`Z`, the F23 offset (rounded to a whole day: `Err`), the F24 value (`MIN_UTC` at +00:00:31: the shown wall
clock minus the rounded offset is before `MIN_UTC`), a leap representation on second :30, and `MAX_UTC` at
+01:00 whose wall clock is outside the range -/
example :
    ZInv ⟨⟨dateOfYo 2014 205, ⟨41596, 0⟩⟩, 3650⟩ ∧ InRangeSecs (wallSecs ⟨⟨dateOfYo 2014 205, ⟨41596, 0⟩⟩, 3650⟩) ∧
    roundMin 3650 = 3660 ∧ zoneTextAny 3650 = asciiBytes "+01:01" ∧
    roundMin 29 = 0 ∧ zoneTextAny 29 = asciiBytes "+00:00" ∧ zoneTextAny (-29) = asciiBytes "-00:00" ∧
    zoneTextAny 0 = asciiBytes "Z" ∧ roundMin (-30) = -60 ∧
    roundMin 86399 = 86400 ∧ zoneTextAny (-86370) = asciiBytes "-24:00" ∧
    ZInv ⟨NaiveDT.MIN, 31⟩ ∧ InRangeSecs (wallSecs ⟨NaiveDT.MIN, 31⟩) ∧
    ¬ InRangeSecs (shownWallSecs ⟨NaiveDT.MIN, 31⟩ - roundMin 31) ∧
    shownTime ⟨30, 1500000000⟩ = ⟨31, 500000000⟩ ∧ TValid ⟨30, 1500000000⟩ ∧ ¬ TStrict ⟨30, 1500000000⟩ ∧
    shownWallSecs ⟨⟨dateOfYo 1970 1, ⟨30, 1500000000⟩⟩, 0⟩ = 31 ∧
    ZInv ⟨NaiveDT.MAX, 3600⟩ ∧ ¬ InRangeSecs (wallSecs ⟨NaiveDT.MAX, 3600⟩) := by
  unfold ZInv NDTInv OffValid InRangeSecs
  decide +kernel


/-- **`visit_str` on ARBITRARY text** (audit LOW-5; not only on text a writer produced): for every byte
string, each of the four string-form visitors — and the `DateTime<Utc>` / `DateTime<Local>` targets built on
`DateTimeVisitor` — answers an error or a VALID value, never a panic; and so does `Deserialize` through ANY
text format (faithful or not), whatever it stored.  (Parser totality: Proofs/C15TotalL.lean, property C15.) -/
theorem visit_str_never_panics (s : List Nat) (tzOff : NaiveDT → Int) (htz : ∀ u, OffValid (tzOff u)) :
    (∃ r, NaiveDateStr.visit_str s = .ok r ∧ ∀ d, r = .ok d → DateInv d) ∧
    (∃ r, NaiveTimeStr.visit_str s = .ok r ∧ ∀ t, r = .ok t → TValid t) ∧
    (∃ r, NaiveDateTimeStr.visit_str s = .ok r ∧ ∀ dt, r = .ok dt → NDTInv dt) ∧
    (∃ r, DateTimeStr.deserialize_fixed s = .ok r ∧ ∀ z, r = .ok z → ZInv z) ∧
    (∃ r, DateTimeStr.deserialize_utc s = .ok r ∧ ∀ z, r = .ok z → ZInv z ∧ z.off = 0) ∧
    (∃ r, DateTimeStr.deserialize_local tzOff s = .ok r ∧ ∀ z, r = .ok z → ZInv z ∧ z.off = tzOff z.utc) :=
  ⟨Chrono.Proofs.SerdeVisit.date_total s, Chrono.Proofs.SerdeVisit.time_total s,
    Chrono.Proofs.SerdeVisit.naive_total s, Chrono.Proofs.SerdeVisit.fixed_total s,
    Chrono.Proofs.SerdeVisit.mapped_total s (fun _ => 0) (fun _ => by unfold OffValid; omega),
    Chrono.Proofs.SerdeVisit.mapped_total s tzOff htz⟩

/-- … through any text format, whatever was stored -/
theorem deserialize_str_never_panics (F : StrFormat) (e : F.E) (tzOff : NaiveDT → Int)
    (htz : ∀ u, OffValid (tzOff u)) :
    (∃ r, strDeserializeV F NaiveDateStr.visit_str e = .ok r ∧ ∀ d, r = .ok d → DateInv d) ∧
    (∃ r, strDeserializeV F NaiveTimeStr.visit_str e = .ok r ∧ ∀ t, r = .ok t → TValid t) ∧
    (∃ r, strDeserializeV F NaiveDateTimeStr.visit_str e = .ok r ∧ ∀ dt, r = .ok dt → NDTInv dt) ∧
    (∃ r, strDeserializeV F DateTimeStr.deserialize_fixed e = .ok r ∧ ∀ z, r = .ok z → ZInv z) ∧
    (∃ r, strDeserializeV F DateTimeStr.deserialize_utc e = .ok r ∧ ∀ z, r = .ok z → ZInv z ∧ z.off = 0) ∧
    (∃ r, strDeserializeV F (DateTimeStr.deserialize_local tzOff) e = .ok r ∧
      ∀ z, r = .ok z → ZInv z ∧ z.off = tzOff z.utc) := by
  unfold strDeserializeV
  cases F.getStr e with
  | none =>
    have e : ∀ {α} (Q : α → Prop), ∃ r : SR α, Res.ok SR.err = Res.ok r ∧ ∀ d, r = .ok d → Q d :=
      fun _ => ⟨_, rfl, fun _ h => by cases h⟩
    exact ⟨e _, e _, e _, e _, e _, e _⟩
  | some s => exact visit_str_never_panics s tzOff htz

/-- **`Deserialize for DateTime<Local>` with the REAL zone behind it** (audit 2, F32 repaired by
770977e): `DateTimeStr.deserialize_local_zone zn` (Model/SerdeLocal.lean) takes the process zone as a
zone VALUE and its answer as `Res` — `Local::offset_from_utc_datetime` with the `unwrap` modelled as a
panic — instead of the total function `tzOff` above.  For EVERY zone the readers accept — TZif bytes
(`parse`), or a `TZ` rule text (`from_tz_string`, zone built as `TimeZone::from_posix_tz` does) — and
EVERY byte string: an error or a valid value carrying the offset the zone prescribes at its instant,
never a panic.  The hypothesis `htz` of `visit_str_never_panics` is thereby discharged for zones that
come from the readers (`Props.C16.accepted_offsets_representable`, `local_offset_total`).  Before the
repair this was false: `TZ=XXX-24` was accepted and every input panicked
(`Props.C16.local_panics_pinned_before_F32`). -/
theorem deserialize_local_accepted_never_panics :
    (∀ (bytes : List Nat) (zn : Tz.Zone), Tz.parse bytes = .ok zn → ∀ s : List Nat,
      ∃ r, DateTimeStr.deserialize_local_zone zn s = .ok r ∧
        ∀ z, r = .ok z → ZInv z ∧ TzL.local_offset_from_utc_datetime zn (instSecs z.utc) = .ok z.off)
    ∧ (∀ (text : List Nat) (ext : Bool) (rule : Tz.Rule), Tz.from_tz_string text ext = .ok rule →
      ∀ s : List Nat,
      ∃ r, DateTimeStr.deserialize_local_zone (Chrono.Proofs.TzValid.zoneOfRule rule) s = .ok r ∧
        ∀ z, r = .ok z → ZInv z ∧
          TzL.local_offset_from_utc_datetime (Chrono.Proofs.TzValid.zoneOfRule rule) (instSecs z.utc) = .ok z.off) :=
  ⟨fun bytes zn h s => Chrono.Proofs.SerdeLocal.local_zone_total zn
      (Chrono.Proofs.TzLocal.parsed_instantSafe bytes zn h) (Chrono.Proofs.TzLocal.parsed_within bytes zn h) s,
   fun text ext rule h s => Chrono.Proofs.SerdeLocal.local_zone_total _
      (Chrono.Proofs.TzLocal.zoneOfRule_instantSafe rule)
      (fun t ht => Chrono.Proofs.TzLocal.rule_within text ext rule h t
        (Chrono.Proofs.TzLocal.zoneOfRule_types rule t ht)) s⟩

/-- non-vacuity: the zone of `TZ=XXX-23:59:59` (the largest offset there is) is accepted, so the theorem
applies to it; `TZ=XXX-24` is refused by the reader (and `Local` falls back, property C18) -/
example : Tz.from_tz_string (Chrono.Proofs.Tz.asc "XXX-23:59:59") false
      = .ok (.fixed ⟨86399, false, some (Chrono.Proofs.Tz.asc "XXX")⟩)
    ∧ Tz.from_tz_string (Chrono.Proofs.Tz.asc "XXX-24") false = .err := by
  refine ⟨by decide +kernel, by decide +kernel⟩

/-- non-vacuity: the hypotheses are met by a non-UTF-8 byte string and a local zone at +05:30 (the parsers
are defined by well-founded recursion, so concrete readings are compared with the crate, ops `sd.*.de`, not
evaluated in the kernel) -/
example : ∃ r, DateTimeStr.deserialize_local (fun _ => 19800) [0xff, 0x00, 0x3a] = .ok r ∧
    ∀ z, r = .ok z → ZInv z ∧ z.off = 19800 :=
  (visit_str_never_panics [0xff, 0x00, 0x3a] (fun _ => 19800) (fun _ => by unfold OffValid; omega)).2.2.2.2.2

/-- non-vacuity of the string-form theorems: the first date of the range (signed six-digit year), a leap
second with a fraction, the last representable naive value, and the leap second 2016-12-31T23:59:60.5Z seen
at +05:30 (wall clock in the next year) meet the hypotheses; the texts the modelled writers produce for them -/
example :
    DateInv (dateOfYo (-262143) 1) ∧
    NaiveDateStr.serialize (dateOfYo (-262143) 1) = .ok (some (asciiBytes "-262143-01-01")) ∧
    TStrict ⟨86399, 1500000000⟩ ∧
    NaiveTimeStr.serialize ⟨86399, 1500000000⟩ = .ok (some (asciiBytes "23:59:60.500")) ∧
    NDTInv NaiveDT.MAX ∧ TStrict NaiveDT.MAX.time ∧
    NaiveDateTimeStr.serialize NaiveDT.MAX = .ok (some (asciiBytes "+262142-12-31T23:59:59.999999999")) := by
  unfold NDTInv
  decide +kernel
example :
    let z : Zoned := ⟨⟨dateOfYo 2016 366, ⟨86399, 1500000000⟩⟩, 19800⟩
    ZInv z ∧ WholeMinute z.off ∧ TStrict z.utc.time ∧
    Zoned.naive_local z = .ok ⟨dateOfYo 2017 1, ⟨19799, 1500000000⟩⟩ ∧
    DateTimeStr.serialize z = .ok (some (asciiBytes "2017-01-01T05:29:60.500+05:30")) ∧
    DateTimeStr.serialize ⟨z.utc, 0⟩ = .ok (some (asciiBytes "2016-12-31T23:59:60.500Z")) ∧
    NDTInv NaiveDT.MIN ∧ TStrict NaiveDT.MIN.time ∧
    DateTimeStr.serialize ⟨NaiveDT.MIN, 0⟩ = .ok (some (asciiBytes "-262143-01-01T00:00:00Z")) := by
  unfold ZInv NDTInv OffValid WholeMinute
  decide +kernel

/-- non-vacuity: the range ends of `TimeDelta`, a negative nanosecond field, the first pair out of range;
a faithful text format exists -/
example :
    DInv Delta.MAX ∧ DInv Delta.MIN ∧
    TimeDelta.deserialize (TimeDelta.serialize Delta.MIN) = .ok Delta.MIN ∧
    TimeDelta.deserialize (5, -1) = .err ∧ TimeDelta.deserialize (9223372036854775, 807000001) = .err ∧
    TimeDelta.deserialize (-9223372036854776, 192999999) = .err ∧
    TimeDelta.deserialize (9223372036854775807, 0) = .err := by decide +kernel
example : (⟨List Nat, id, some⟩ : StrFormat).Faithful := fun _ => rfl

end Chrono.Props.C20
