/-
  C15 — fallible operations fail by value, not by panic or hang.
  This file collects the "returns normally" (`… = .ok r`, i.e. no panic, no trapped overflow, no
  failed debug assertion) and "never builds an invalid value" halves of the other properties'
  theorems, as corollaries stated for every argument of the machine domain — constructors, checked
  arithmetic, field replacement (naive and zone-aware), rounding, every parser and field-resolution
  method, the RFC 3339 renderers, serde — plus three things of its own: every record the parser can
  build is in type (so `parse_from_str` is total for arbitrary text × arbitrary format string), the
  byte-level boundary theorems (every `&str` slice of the scanners is at a char boundary), and the
  sharp linear bound on `StrftimeItems`.  props/C15.json lists which entry points have a theorem here
  and which are covered by the extremes sweep only.
-/
import Chrono.Props.C01
import Chrono.Props.C06
import Chrono.Props.C07
import Chrono.Props.C16
import Chrono.Props.C19
import Chrono.Props.C02
import Chrono.Props.C03
import Chrono.Props.C04
import Chrono.Props.C08
import Chrono.Props.C12
import Chrono.Props.C17
import Chrono.Props.C09
import Chrono.Props.C10
import Chrono.Props.C11
import Chrono.Props.C13
import Chrono.Props.C14
import Chrono.Props.C20
import Chrono.Proofs.C15TotalL
import Chrono.Proofs.C15RenderL
import Chrono.Proofs.C15SerdeL
import Chrono.Proofs.C15ZonedL
import Chrono.Proofs.ScanBoundaryL
import Chrono.Proofs.C15ArithL
import Chrono.Proofs.StrftimeBoundL
import Chrono.Proofs.StrftimeUtf8L
import Chrono.Proofs.C15Round3L
import Chrono.Proofs.ScanSlicesL
import Chrono.Proofs.StrftimeLenientL

namespace Chrono.Props.C15
open Chrono Chrono.M Chrono.Spec Chrono.Proofs Chrono.Extracted
open Chrono.Spec.Fields Chrono.Proofs.C15Total Chrono.Proofs.C15Zoned Chrono.Proofs.C15Arith

/-- the calendar constructors return normally for every argument, and a returned date satisfies the
representation invariant -/
theorem date_ctors_total (y : Int) (m d o : Nat) :
    (∃ r, Date.from_ymd_opt y m d = .ok r ∧ ∀ x, r = some x → DateInv x) ∧
    (∃ r, Date.from_yo_opt y o = .ok r ∧ ∀ x, r = some x → DateInv x) :=
  ⟨⟨_, C01.ctor_ymd y m d, ymdDate_inv y m d⟩, ⟨_, C01.ctor_yo y o, yoDate_inv y o⟩⟩

/-- the day-number constructor returns normally for every `i32`, the ISO week-date constructor for every
`i32` year (including `i32::MIN` / `i32::MAX`: the `year ± 1` steps are checked), every week number and
weekday; a returned date satisfies the representation invariant -/
theorem date_from_days_total (n : Int) (hn : -2147483648 ≤ n ∧ n ≤ 2147483647) (y : Int) (w : Nat)
    (wd : Weekday) :
    OkAnd (Date.from_num_days_from_ce_opt n) DateInv ∧ OkAnd (Date.from_isoywd_opt y w wd) DateInv :=
  ⟨from_days n hn, from_isoywd y w wd⟩

/-- successor / predecessor return normally on every date of the range, and what they return is a date
of the range -/
theorem date_succ_pred_total (d : Date) (hd : DateInv d) :
    OkAnd d.succ_opt DateInv ∧ OkAnd d.pred_opt DateInv := by
  obtain ⟨a, b, _⟩ := date_ops d hd 0 0 0 0 ⟨0, 0⟩ 0 (by omega) (by decide) (by omega)
  exact ⟨a, b⟩

/-- duration arithmetic returns normally on all valid operands and every `i32` factor / divisor, and
whatever it returns is inside the range -/
theorem delta_ops_total (a b : Delta) (k : Int) (ha : DInv a) (hb : DInv b)
    (hk : -2147483648 ≤ k ∧ k ≤ 2147483647) :
    (∃ r, Delta.checked_add a b = .ok r ∧ ∀ x, r = some x → DInv x) ∧
    (∃ r, Delta.checked_sub a b = .ok r ∧ ∀ x, r = some x → DInv x) ∧
    (∃ r, Delta.checked_mul a k = .ok r ∧ ∀ x, r = some x → DInv x) ∧
    (∃ r, Delta.checked_div a k = .ok r ∧ ∀ x, r = some x → DInv x) ∧
    (∃ r, Delta.neg a = .ok r ∧ DInv r) ∧ (∃ r, Delta.abs a = .ok r) := by
  refine ⟨⟨_, C06.add_exact a b ha hb, ofNs_inv _⟩, ⟨_, C06.sub_exact a b ha hb, ofNs_inv _⟩,
    ⟨_, C06.mul_exact a k ha hk, ofNs_inv _⟩, ?_, ?_, ⟨_, (C06.neg_abs_exact a ha).2⟩⟩
  · by_cases hk0 : k = 0
    · subst hk0
      exact ⟨none, C06.div_zero a, by intro x hx; cases hx⟩
    · obtain ⟨r, h1, h2, _⟩ := C06.div_spec a k ha hk hk0
      exact ⟨some r, h1, by intro x hx; rw [← Option.some.inj hx]; exact h2⟩
  · refine ⟨_, (C06.neg_abs_exact a ha).1, ?_⟩
    have hr : nsInRange (-(ns a)) := by
      have := ha.2.2; unfold nsInRange at *; omega
    exact (C06.ofNs_spec _ hr).1

/-- time of day: arithmetic returns normally for every valid time (leap representations on any second)
and every duration, the time part of the result is valid and the difference is inside the `TimeDelta`
range; what the single-field replacements and the `u32`-argument constructors return is a valid time
(those models are `Option`-valued: they contain no operation that could panic — every `u32` product is a
`checked_mul`) -/
theorem time_ops_total (t u : Time) (d : Delta) (v : Int) (ht : TValid t) (hu : TValid u) (hd : DInv d)
    (hv : 0 ≤ v) (h m s n : Int) (h0 : 0 ≤ h) (m0 : 0 ≤ m) (s0 : 0 ≤ s) (n0 : 0 ≤ n) (x : Time) :
    ((∃ r, Time.overflowing_add_signed t d = .ok r ∧ TValid r.1) ∧
     (∃ r, Time.overflowing_sub_signed t d = .ok r ∧ TValid r.1) ∧
     (∃ r, Time.signed_duration_since t u = .ok r ∧ DInv r) ∧
     (∀ x, t.with_hour v = some x → TValid x) ∧ (∀ x, t.with_minute v = some x → TValid x) ∧
     (∀ x, t.with_second v = some x → TValid x) ∧ (∀ x, t.with_nanosecond v = some x → TValid x)) ∧
    ((Time.from_hms_opt h m s = some x → TValid x) ∧ (Time.from_hms_milli_opt h m s n = some x → TValid x) ∧
     (Time.from_hms_micro_opt h m s n = some x → TValid x) ∧ (Time.from_hms_nano_opt h m s n = some x → TValid x) ∧
     (Time.from_num_seconds_from_midnight_opt s n = some x → TValid x)) := by
  refine ⟨time_ops t u d v ht hu hd hv, ?_⟩
  rw [C07.valid_iff_hms, C07.valid_iff_hms_milli h m s n n0, C07.valid_iff_hms_micro h m s n n0,
    C07.valid_iff_hms_nano, C07.valid_iff_num_seconds]
  refine ⟨fun hx => of_ite_some hx fun hc => ?_, fun hx => of_ite_some hx fun hc => ?_,
    fun hx => of_ite_some hx fun hc => ?_, fun hx => of_ite_some hx (ofFields_valid_of_ok h m s n h0 m0 s0 n0),
    fun hx => of_ite_some hx fun hc => ?_⟩
  · exact ofFields_valid_of_ok h m s 0 h0 m0 s0 (by omega) ⟨hc.1, hc.2.1, hc.2.2, Or.inl (by omega)⟩
  · exact ofFields_valid_of_ok h m s _ h0 m0 s0 (by omega) ⟨hc.1, hc.2.1, hc.2.2.1, by omega⟩
  · exact ofFields_valid_of_ok h m s _ h0 m0 s0 (by omega) ⟨hc.1, hc.2.1, hc.2.2.1, by omega⟩
  · exact ⟨s0, hc.1, n0, show n < 2000000000 by omega⟩

/-- the TZif reader and the TZ-rule reader never panic, on any byte string -/
theorem tz_readers_total (bytes : List Nat) (ext : Bool) :
    Tz.parse bytes ≠ .panic ∧ Tz.from_tz_string bytes ext ≠ .panic :=
  ⟨C16.parse_total bytes, C16.rule_total bytes ext⟩

/-- **the `MappedLocalTime`-typed entry points of `Local`** (audit 2; F32 repaired by 770977e):
`Local.timestamp_opt` / `timestamp_millis_opt` / `timestamp_micros` / `timestamp_nanos` /
`from_utc_datetime` / `Local::now()` — all of them `Local.from_utc_datetime` of an instant, i.e. the
`unwrap` of `<Local as TimeZone>::offset_from_utc_datetime` (`TzL.local_offset_from_utc_datetime`,
`TzL.local_timestamp_opt`, Model/TzLocal.lean) — return normally for EVERY zone the readers accept
(TZif bytes or a `TZ` rule text) and EVERY second count: outside the `NaiveDateTime` range `None` by
value, inside it `Single` with an offset strictly within 24 h.  The zone comes from the environment,
not from an argument; before the repair `TZ=XXX24` made every one of these calls panic
(`C16.local_panics_pinned_before_F32`). -/
theorem local_entry_points_total :
    (∀ (bytes : List Nat) (z : Tz.Zone), Tz.parse bytes = .ok z → ∀ secs : Int,
        TzL.local_timestamp_opt z secs ≠ .panic ∧
        (TzL.NDT_MIN_TS ≤ secs ∧ secs ≤ TzL.NDT_MAX_TS →
          ∃ o, TzL.local_offset_from_utc_datetime z secs = .ok o ∧ -86400 < o ∧ o < 86400))
    ∧ (∀ (text : List Nat) (ext : Bool) (r : Tz.Rule), Tz.from_tz_string text ext = .ok r → ∀ secs : Int,
        TzL.NDT_MIN_TS ≤ secs ∧ secs ≤ TzL.NDT_MAX_TS →
          ∃ o, TzL.local_offset_from_utc_datetime (Proofs.TzValid.zoneOfRule r) secs = .ok o
            ∧ -86400 < o ∧ o < 86400) := by
  refine ⟨fun bytes z h secs => ⟨C16.local_timestamp_total bytes z h secs, fun hs => ?_⟩,
    fun text ext r h secs hs => ?_⟩
  · obtain ⟨o, h1, -, h3, -⟩ := C16.local_offset_total bytes z h secs hs
    exact ⟨o, h1, h3.1, h3.2⟩
  · obtain ⟨o, h1, -, h3, -⟩ := C16.local_offset_total_tz_string text ext r h secs hs
    exact ⟨o, h1, h3.1, h3.2⟩

/-- iterating a weekday set in any interleaving of front and back pulls never hits the `expect`s -/
theorem weekday_iter_total (sched : List Bool) (s : Nat) (start : Weekday) (hs : s < 128) :
    ∃ r, WeekdaySet.runSchedule sched ⟨s, start⟩ = .ok r := by
  obtain ⟨fs, ks, s', h, _⟩ := C19.iter_interleaved_spec sched s start hs
  exact ⟨_, h⟩

/-- the timestamp constructor returns normally for every `i64` second count and every `u32`
nanosecond field, and what it returns is a valid date-time -/
theorem from_timestamp_total (secs nsecs : Int) (hs : Spec.Ts.isI64 secs) (hn : Spec.Ts.isU32 nsecs) :
    ∃ r, NaiveDT.from_timestamp secs nsecs = .ok r ∧ ∀ dt, r = some dt → NDTInv dt := by
  obtain ⟨r, h, hv⟩ := C02.from_ts_meaning secs nsecs hs hn
  exact ⟨r, h, fun dt hd => (hv dt hd).1⟩

/-- date-time ± duration returns normally on EVERY valid date-time — leap-second representations
included (C03 `add_with_leap_operand`) — and every duration, for both `checked_add_signed` and
`checked_sub_signed`, and what is returned is a valid date-time -/
theorem datetime_arith_total (dt : NaiveDT) (δ : Delta) (hdt : NDTInv dt) (hδ : DInv δ) :
    OkAnd (NaiveDT.checked_add_signed dt δ) NDTInv ∧ OkAnd (NaiveDT.checked_sub_signed dt δ) NDTInv :=
  datetime_arith dt δ hdt hδ

/-- non-vacuity: a leap second crossing midnight; the range ends -/
example : NDTInv ⟨dateOfYo 2016 366, ⟨86399, 1500000000⟩⟩ ∧
    NaiveDT.checked_add_signed ⟨dateOfYo 2016 366, ⟨86399, 1500000000⟩⟩ ⟨0, 500000000⟩ =
      .ok (some ⟨dateOfYo 2017 1, ⟨0, 0⟩⟩) ∧
    NaiveDT.checked_sub_signed NaiveDT.MIN ⟨0, 1⟩ = .ok none ∧
    NaiveDT.checked_add_signed NaiveDT.MAX ⟨0, 1⟩ = .ok none := by decide +kernel

/-- zone-aware values: building from a wall clock and reading the wall clock (with the one-day
headroom) return normally for every valid value and every offset a `FixedOffset` can hold; a value built
is well formed (UTC reading inside the range, the given offset), the wall clock read is a well-formed
reading of the calendar extended by one day at each end -/
theorem zoned_total (off : Int) (ℓ : NaiveDT) (z : Zoned) (ho : OffValid off) (hℓ : NDTInv ℓ)
    (hz : ZInv z) :
    (∃ r, Zoned.from_local_datetime off ℓ = .ok r ∧ ∀ x, r = some x → ZInv x ∧ x.off = off) ∧
    (∃ l, Zoned.overflowing_naive_local z = .ok l ∧ ExtNDTInv l) := by
  obtain ⟨r, h, _⟩ := C04.fromLocal_fails_iff off ℓ ho hℓ
  obtain ⟨l, h2, h3, _⟩ := C04.headroom_sound z hz
  refine ⟨⟨r, h, fun x hx => ?_⟩, ⟨l, h2, h3⟩⟩
  obtain ⟨a, b, _⟩ := C04.local_of_fromLocal off ℓ ho hℓ x (by rw [h, hx])
  exact ⟨b, a⟩

/-- every date-level stepping and replacement — `succ/pred`, `checked_add/sub_months` (any count),
`diff_months` (every `i32`), the seven field replacements (arguments of any size, `u32::MAX` included),
`add_days` (every `i32`), `checked_add/sub_days` (every `u64`), `checked_add/sub_signed` (every duration)
— on every date of the range: returns normally, and what it returns is a date of the range -/
theorem date_ops_total (d : Date) (hd : DateInv d) (n v : Nat) (y' k : Int) (δ : Delta) (c : Int)
    (hk : -2147483648 ≤ k ∧ k ≤ 2147483647) (hδ : DInv δ) (hc : 0 ≤ c ∧ c ≤ 18446744073709551615) :
    OkAnd d.succ_opt DateInv ∧ OkAnd d.pred_opt DateInv ∧
    OkAnd (d.checked_add_months n) DateInv ∧ OkAnd (d.checked_sub_months n) DateInv ∧
    OkAnd (d.diff_months k) DateInv ∧
    OkAnd (d.with_year y') DateInv ∧ OkAnd (d.with_month v) DateInv ∧ OkAnd (d.with_month0 v) DateInv ∧
    OkAnd (d.with_day v) DateInv ∧ OkAnd (d.with_day0 v) DateInv ∧ OkAnd (d.with_ordinal v) DateInv ∧
    OkAnd (d.with_ordinal0 v) DateInv ∧
    OkAnd (Date.add_days d k) DateInv ∧ OkAnd (Date.checked_add_days d c) DateInv ∧
    OkAnd (Date.checked_sub_days d c) DateInv ∧ OkAnd (Date.checked_add_signed d δ) DateInv ∧
    OkAnd (Date.checked_sub_signed d δ) DateInv :=
  date_ops d hd n v y' k δ c hk hδ hc

/-- non-vacuity at the range ends and the integer extremes -/
example : DateInv Date.MAX ∧ DateInv Date.MIN ∧ Date.MAX.with_ordinal0 4294967295 = .ok none ∧
    Date.MIN.diff_months (-2147483648) = .ok none ∧
    Date.checked_sub_days Date.MAX 18446744073709551615 = .ok none ∧
    Date.from_isoywd_opt (-2147483648) 1 .mon = .ok none ∧ Date.from_isoywd_opt 2147483647 53 .sun = .ok none := by
  decide +kernel

/-- the `TimeDelta` constructors `new`, `try_weeks/days/hours/minutes/seconds` (`try_unit`),
`try_milliseconds`, `microseconds`, `nanoseconds` on every `i64` (any `u32` nanosecond field for `new`):
whatever they return is inside the range (`Option`-valued models: the products are `checked_mul`) -/
theorem delta_ctors_total (secs nanos n unit : Int) (hn0 : 0 ≤ nanos)
    (hu : unit = 1 ∨ unit = 60 ∨ unit = 3600 ∨ unit = 86400 ∨ unit = 604800)
    (hn : -9223372036854775808 ≤ n ∧ n ≤ 9223372036854775807) (x : Delta) :
    (Delta.new secs nanos = some x → DInv x) ∧ (Delta.try_unit unit n = some x → DInv x) ∧
    (Delta.try_milliseconds n = some x → DInv x) ∧ DInv (Delta.microseconds n) ∧ DInv (Delta.nanoseconds n) := by
  obtain ⟨_, m2, _, m4⟩ := Chrono.Props.C06.micro_nano_exact n hn
  refine ⟨?_, ?_, ?_, m2, m4⟩
  · intro h
    rw [Chrono.Props.C06.new_iff secs nanos hn0] at h
    exact of_ite_some h fun hc => ⟨hn0, hc.1, hc.2⟩
  · intro h; rw [Chrono.Props.C06.try_unit_exact unit n hu hn] at h; exact ofNs_inv _ x h
  · intro h; rw [Chrono.Props.C06.try_milliseconds_exact n hn] at h; exact ofNs_inv _ x h

/-- rounding never panics: every failure is reported by value -/
theorem rounding_total (op : Round.Op) (stamp span : Option Int)
    (hspan : ∀ p, span = some p → p ≤ 9223372036854775807) : Round.run op stamp span ≠ .panic :=
  (C17.err_iff op stamp span hspan).2.2.2.1

/-- **rounding at the entry points** (audit 2, MEDIUM-4): the whole calls
`DurationRound::duration_round / duration_trunc / duration_round_up` of `NaiveDateTime` and of
`DateTime<FixedOffset>` (`Round.naive_duration` / `Round.zoned_duration`, Model/RoundDT.lean: span guard,
`timestamp_nanos_opt` of the (wall-clock) reading, the integer part, and the PANICKING operators
`original + TimeDelta` / `original - TimeDelta`) return normally — `Ok(v)` or `Err(RoundingError)` — on
EVERY valid value (leap-second representations included) and every valid `TimeDelta`; a returned value
is valid, a zone-aware one keeps its offset.  From C17 `naive_result` / `zoned_result` (outside a leap
second) and `naive_result_leap` / `zoned_result_leap` (inside one), by cases on the span guard and on
the stamp being an `i64`. -/
theorem rounding_entry_total (op : Round.Op) (dt : NaiveDT) (z : Zoned) (dur : Delta) (hdt : NDTInv dt)
    (hz : ZInv z) (hd : DInv dur) :
    (∃ r, Round.naive_duration op dt dur = .ok r ∧ ∀ v, r = .ok v → NDTInv v) ∧
    (∃ r, Round.zoned_duration op z dur = .ok r ∧ ∀ v, r = .ok v → ZInv v ∧ v.off = z.off) := by
  constructor
  · by_cases hnl : NonLeap dt
    · obtain ⟨e1, e2, e3⟩ := C17.naive_result op dt dur hdt hnl hd
      exact C15Round3.rres_total (fun hg => e1 (by omega)) e2 fun hg hin => (e3 hg hin).imp fun _ h => ⟨h.1, h.2.1⟩
    · obtain ⟨e1, e2, e3⟩ := C17.naive_result_leap op dt dur hdt hnl hd
      exact C15Round3.rres_total (fun hg => e1 (by omega)) e2 fun hg hin => (e3 hg hin).imp fun _ h => ⟨h.1, h.2.1⟩
  · by_cases hnl : NonLeap z.utc
    · obtain ⟨e1, e2, e3⟩ := C17.zoned_result op z dur hz hnl hd
      exact C15Round3.rres_total (fun hg => e1 (by omega)) e2 fun hg hin =>
        (e3 hg hin).imp fun _ h => ⟨h.1, h.2.2.1, h.2.1⟩
    · obtain ⟨e1, e2, e3⟩ := C17.zoned_result_leap op z dur hz hnl hd
      exact C15Round3.rres_total (fun hg => e1 (by omega)) e2 fun hg hin =>
        (e3 hg hin).imp fun _ h => ⟨h.1, h.2.2.1, h.2.1⟩

/-- non-vacuity (the inputs the operators would panic on if the guards were missing, and a leap second):
the last instant rounded up by a day is refused by value (`TimestampExceedsLimit`), `MIN_UTC` viewed at
−00:00:01 likewise, a zero span is `DurationExceedsLimit`, a leap second rounded up crosses midnight -/
example : NDTInv NaiveDT.MAX ∧ ZInv ⟨NaiveDT.MIN, -1⟩ ∧ DInv ⟨86400, 0⟩ ∧
    Round.naive_duration .up NaiveDT.MAX ⟨86400, 0⟩ = .ok (.err .TimestampExceedsLimit) ∧
    Round.zoned_duration .trunc ⟨NaiveDT.MIN, -1⟩ ⟨1, 0⟩ = .ok (.err .TimestampExceedsLimit) ∧
    Round.naive_duration .trunc NaiveDT.MAX ⟨0, 0⟩ = .ok (.err .DurationExceedsLimit) ∧
    NDTInv ⟨dateOfYo 2016 366, ⟨86399, 1500000000⟩⟩ ∧
    Round.naive_duration .up ⟨dateOfYo 2016 366, ⟨86399, 1500000000⟩⟩ ⟨1, 0⟩ =
      .ok (.ok ⟨dateOfYo 2017 1, ⟨0, 0⟩⟩) := by decide +kernel

/-- iterating the items of ANY format string terminates, in strict and in lenient mode (`l`): each
`parse_next_item` step consumes at least one byte and queues at most 12 further items, and a step that
queues anything (a composite specifier) has consumed at least two bytes; so TWICE THE NUMBER OF ITEMS IS
AT MOST 13 TIMES THE BYTE LENGTH (sharp: `%c` = 13 items from 2 bytes; the harness enforces exactly this
bound), and the `next` iterator ends within 13·len + 1 calls.  (The property text's bound "one item per
input byte plus a constant" is not met by composite specifiers: known finding F18; this linear bound is
what holds.) -/
theorem strftime_terminates (l : Bool) (s : List Nat) :
    2 * (Strftime.itemsAux l (s.length + 1) s).length ≤ 13 * s.length ∧
    (∀ n, 13 * s.length < n → Strftime.drain l n ⟨s, []⟩ = Strftime.itemsAux l (s.length + 1) s) := by
  obtain ⟨_, _, _, h4⟩ := C12.strftime_terminates l s
  exact ⟨StrftimeBound.itemsAux_length2 l _ s, h4⟩

/-- the bound is attained, and the literal bound of the property text fails (F18) -/
example : (Strftime.items [37, 99]).length = 13 ∧ 2 * 13 = 13 * [37, 99].length ∧
    ¬ (Strftime.items [37, 99]).length ≤ [37, 99].length + 10 := by decide +kernel

/-- **the documented panics, and only they.**  The operations the property lists as panicking do panic
in the models, exactly on the documented inputs: the `+` operator of `NaiveDateTime` panics exactly when the
exact sum is not representable (C03 `operator_exact`); `naive_local` of a well-formed value panics exactly
when the wall clock lies outside the range, while `overflowing_naive_local` never does (C04
`headroom_sound`); `to_rfc2822` panics exactly when the wall-clock year is outside 0–9999 (C11
`writer_shape`). -/
theorem documented_panics (dt : NaiveDT) (δ : Delta) (hdt : NDTInv dt) (hnl : NonLeap dt) (hδ : DInv δ)
    (z : Zoned) (hz : ZInv z) (Y : Int) (o : Nat) (hw : Spec.Rfc2822.WallDate z Y o) :
    (NaiveDT.add dt δ = .panic ↔ ¬ (NS_MIN ≤ instNs dt + ns δ ∧ instNs dt + ns δ ≤ NS_MAX_DT)) ∧
    (Zoned.naive_local z = .panic ↔ ¬ InRangeSecs (wallSecs z)) ∧
    (Rfc2822.to_rfc2822 z = .panic ↔ ¬ (0 ≤ Y ∧ Y ≤ 9999)) := by
  obtain ⟨a1, a2⟩ := C03.operator_exact dt δ hdt hnl hδ
  obtain ⟨l, _, _, _, _, hn, _⟩ := C04.headroom_sound z hz
  exact ⟨C15Round3.panic_iff_of_exact a1 a2, C15Round3.ite_panic_iff hn,
    C15Round3.ite_panic_iff (C11.writer_shape z hz Y o hw)⟩

/-- the documented panics are real: operator subtraction on the minimum duration overflows (checked form
says `none`), the `+` operator at the range end, `naive_local` of `MAX_UTC` viewed at `+01:00` (while the
headroom view succeeds), `to_rfc2822` in year 10000 -/
example : Delta.checked_sub Delta.MIN ⟨0, 1⟩ = .ok none ∧ NaiveDT.add NaiveDT.MAX ⟨0, 1⟩ = .panic ∧
    Zoned.naive_local ⟨NaiveDT.MAX, 3600⟩ = .panic ∧
    (Zoned.overflowing_naive_local ⟨NaiveDT.MAX, 3600⟩).isOk = true ∧
    Rfc2822.to_rfc2822 ⟨⟨dateOfYo 10000 1, ⟨0, 0⟩⟩, 0⟩ = .panic := by decide +kernel

/-! ## parsers and field resolution -/

/-- **every record the parser can build is in type.**  Whatever the text (any byte string, so any
Unicode text), whatever the items (every format string's items, the `RFC2822` / `RFC3339` items, error
items) and from whatever in-type record it starts: a record returned by `parse_internal` (the engine of
`parse` / `parse_and_remainder`), by the RFC 2822 scanner, by the relaxed and by the strict RFC 3339
scanner holds only values of the Rust field types (`i32` years and offset, `u32` calendar and clock
fields, `i64` timestamp).  This is the hypothesis of every C14 resolver theorem. -/
theorem parser_builds_in_type (items : List Item) (p : Parsed) (s : List Nat) (p' : Parsed) (s' : List Nat)
    (hp : InType p) :
    (Parse.parse_internal p s items = .ok (p', s') → InType p') ∧
    (Parse.parse p s items = .ok p' → InType p') ∧
    (Parse.parse_rfc2822 p s = .ok (p', s') → InType p') ∧
    (Parse.parse_rfc3339_relaxed p s = .ok (p', s') → InType p') ∧
    (Parse.parse_rfc3339 p s = .ok (p', s') → InType p') ∧ InType Parsed.new :=
  ⟨fun h => (ScanBoundary.parse_internal_adv items p s _ h).1 hp, ScanBoundary.parse_inType items p s p' hp,
   fun h => (ScanBoundary.parse_rfc2822_adv p s _ h).1 hp, fun h => (ScanBoundary.parse_rfc3339_relaxed_adv p s _ h).1 hp,
   fun h => (ScanBoundary.parse_rfc3339_adv (v := false) p s _ h).1 hp, ParseInType.inType_new⟩

/-- **field resolution.**  On every record of in-type field values, for every `i32` offset argument and
every fixed-offset zone, each of the six `Parsed::to_*` resolvers returns a value or an error kind, never
panics (C14 `no_panic`), and a value it returns satisfies the representation invariant of its type
(`to_naive_time`, `to_fixed_offset` are `ParseResult`-valued in the model: no operation in them can
panic). -/
theorem resolvers_total (p : Parsed) (hp : InType p) (off zone : Int)
    (hoff : -2147483648 ≤ off ∧ off ≤ 2147483647) (hz : OffValid zone) :
    (∃ r, Parsed.to_naive_date p = .ok r ∧ ∀ d, r = .ok d → DateInv d) ∧
    (∃ r, (.ok (Parsed.to_naive_time p) : Parsed.RP Time) = .ok r ∧ ∀ t, r = .ok t → TValid t) ∧
    (∃ r, Parsed.to_naive_datetime_with_offset p off = .ok r ∧ ∀ dt, r = .ok dt → NDTInv dt) ∧
    (∃ r, (.ok (Parsed.to_fixed_offset p) : Parsed.RP Int) = .ok r ∧ ∀ o, r = .ok o → OffValid o) ∧
    (∃ r, Parsed.to_datetime p = .ok r ∧ ∀ z, r = .ok z → ZInv z) ∧
    (∃ r, Parsed.to_datetime_with_timezone p zone = .ok r ∧ ∀ z, r = .ok z → ZInv z) :=
  ⟨date_total p hp, ⟨_, rfl, fun t ht => (C14.time_sound p t ht).1.1⟩, naive_total p hp off hoff,
    ⟨_, rfl, fun o ho => (((C14.fixed_offset_sound p).1 o).mp ho).2⟩, C15Total.zoned_total p hp,
    zoned_tz_total p hp zone hz⟩

/-- **`parse_from_str` / `parse_and_remainder`, all four target types** (`NaiveDate`, `NaiveTime`,
`NaiveDateTime`, `DateTime<FixedOffset>`), ARBITRARY text × ARBITRARY format string (any two byte
strings: ASCII, multi-byte, truncated specifiers): the call returns `Ok` or `Err(kind)`, never panics,
and an `Ok` value is of the target type and satisfies its invariant. -/
theorem parse_from_str_total (t : ParseFrom.Target) (s fmt : List Nat) :
    (∃ r, ParseFrom.parse_from_str t s fmt = .ok r ∧ ∀ v, r = .ok v → ValueValid v ∧ v.target = t) ∧
    (∃ r, ParseFrom.parse_and_remainder t s fmt = .ok r ∧
      ∀ v rest, r = .ok (v, rest) → ValueValid v ∧ v.target = t) :=
  ⟨C15Total.parse_from_str_total t s fmt, C15Total.parse_and_remainder_total t s fmt⟩

/-- non-vacuity: U+2212, a digit and a lone lead byte against `%Y%` (a truncated specifier); a timestamp
beyond the range with an offset; both are errors by value -/
example :
    (∃ r, ParseFrom.parse_from_str .naive [0xE2, 0x88, 0x92, 0x31, 0xC3] [37, 89, 37] = .ok r) ∧
    (∃ r, ParseFrom.parse_from_str .zoned (asciiBytes "9223372036854775807 +00:00") (asciiBytes "%s %z") = .ok r) :=
  ⟨by obtain ⟨r, h, _⟩ := (parse_from_str_total .naive _ _).1; exact ⟨r, h⟩,
   by obtain ⟨r, h, _⟩ := (parse_from_str_total .zoned _ _).1; exact ⟨r, h⟩⟩

/-- **the RFC 2822 / RFC 3339 readers**, every byte string: `Ok` or `Err`, never a panic (C11
`reader_total`; C10 `reader_accepts_iff` + `reader_total_rejects`), and an `Ok` value is well formed. -/
theorem rfc_readers_total (s : List Nat) :
    (∃ r, Rfc2822.parse_from_rfc2822 s = .ok r ∧ ∀ z, r = .ok z → ZInv z) ∧
    (∃ r, Rfc3339.parse_from_rfc3339 s = .ok r ∧ ∀ z, r = .ok z → ZInv z) :=
  ⟨rfc2822_total s, rfc3339_total s⟩

/-- **the `FromStr` impls** of `NaiveDate`, `NaiveTime`, `NaiveDateTime`, `DateTime<FixedOffset>`,
`DateTime<Utc>`, `FixedOffset`, every byte string: `Ok` or `Err`, never a panic, `Ok` values valid
(`NaiveTime` / `FixedOffset`: `ParseResult`-valued models; `Weekday` / `Month`: `Option`-valued, C09). -/
theorem from_str_total (s : List Nat) :
    (∃ r, TextForms.date_from_str s = .ok r ∧ ∀ d, r = .ok d → DateInv d) ∧
    (∃ r, (.ok (TextForms.time_from_str s) : Parsed.RP Time) = .ok r ∧ ∀ t, r = .ok t → TValid t) ∧
    (∃ r, TextForms.naive_from_str s = .ok r ∧ ∀ dt, r = .ok dt → NDTInv dt) ∧
    (∃ r, TextForms.fixed_from_str s = .ok r ∧ ∀ z, r = .ok z → ZInv z) ∧
    (∃ r, TextForms.utc_from_str s = .ok r ∧ ∀ z, r = .ok z → ZInv z ∧ z.off = 0) ∧
    (∃ r, (.ok (TextForms.offset_from_str s) : Parsed.RP Int) = .ok r ∧ ∀ o, r = .ok o → OffValid o) := by
  obtain ⟨r, hr, hv⟩ := fixed_from_str_total s
  refine ⟨date_from_str_total s, ⟨_, rfl, time_from_str_valid s⟩, naive_from_str_total s,
    ⟨r, hr, hv⟩, ?_, ⟨_, rfl, offset_from_str_valid s⟩⟩
  unfold TextForms.utc_from_str
  rw [hr]
  cases r with
  | error e => exact ⟨_, rfl, fun z hz => by cases hz⟩
  | ok a =>
    refine ⟨_, rfl, fun z hz => ?_⟩
    injection hz with hz; subst hz
    have := hv a rfl
    exact ⟨⟨this.1, by unfold OffValid Zoned.with_timezone; dsimp only; omega⟩, rfl⟩

/-! ## RFC 3339 renderers and serde -/

/-- **`to_rfc3339` / `to_rfc3339_opts`** return the text — no panic from the wall-clock view, no
`expect` on a formatter error — for EVERY well-formed zone-aware value, every `SecondsFormat`, with and
without `Z`: also when the wall clock lies in the headroom day beyond a range end (`MAX_UTC` at `+01:00`)
and for wall-clock years outside 0..=9999 (signed five-digit form; C10's `writer_in_grammar` covers
0..=9999 only).  Rests on C04 `headroom_sound`. -/
theorem rfc3339_render_total (z : Zoned) (hz : ZInv z) (sf : Format.SecondsFormat) (use_z : Bool) :
    (∃ t, Rfc3339.to_rfc3339_opts z sf use_z = .ok t) ∧ (∃ t, Rfc3339.to_rfc3339 z = .ok t) :=
  ⟨C15Render.to_rfc3339_opts_total z hz sf use_z, C15Render.to_rfc3339_opts_total z hz .autoSi false⟩

/-- non-vacuity at the range ends (finding #4's input): `MAX_UTC` viewed at `+01:00` and `MIN_UTC` at
`−01:00` are well formed and render as `+262143-01-01T00:59:59+01:00` / `-262144-12-31T23:00:00-01:00` -/
example :
    ZInv ⟨NaiveDT.MAX, 3600⟩ ∧ ZInv ⟨NaiveDT.MIN, -3600⟩ ∧
    Rfc3339.to_rfc3339_opts ⟨NaiveDT.MAX, 3600⟩ .secs true = .ok (asciiBytes "+262143-01-01T00:59:59+01:00") ∧
    Rfc3339.to_rfc3339 ⟨NaiveDT.MIN, -3600⟩ = .ok (asciiBytes "-262144-12-31T23:00:00-01:00") := by
  decide +kernel

/-- **`Serialize for DateTime<Tz>`** (fixed offset / UTC) hands the serializer a text for every
well-formed value (the wall clock is read with the one-day headroom; finding #6 repaired); the four
string visitors (`NaiveDate`, `NaiveTime`, `NaiveDateTime`, `DateTime<FixedOffset>` / `DateTime<Utc>`)
answer `Ok` / `Err` on every text, never panic, and `Ok` values are valid. -/
theorem serde_str_total (z : Zoned) (hz : ZInv z) (s : List Nat) :
    (∃ t, Serde.DateTimeStr.serialize z = .ok (some t)) ∧
    (∃ r, Serde.NaiveDateStr.visit_str s = .ok r ∧ ∀ d, r = .ok d → DateInv d) ∧
    (∃ r, Serde.NaiveTimeStr.visit_str s = .ok r ∧ ∀ t, r = .ok t → TValid t) ∧
    (∃ r, Serde.NaiveDateTimeStr.visit_str s = .ok r ∧ ∀ dt, r = .ok dt → NDTInv dt) ∧
    (∃ r, Serde.DateTimeStr.deserialize_fixed s = .ok r ∧ ∀ z, r = .ok z → ZInv z) ∧
    (∃ r, Serde.DateTimeStr.deserialize_utc s = .ok r ∧ ∀ z, r = .ok z → ZInv z ∧ z.off = 0) := by
  obtain ⟨a, b, c, d, e, _⟩ := C20.visit_str_never_panics s (fun _ => 0) fun _ => by unfold OffValid; omega
  exact ⟨C15Render.serialize_total z hz, a, b, c, d, e⟩

/-- **the sixteen serde timestamp modules** (`ts_seconds` … `ts_nanoseconds`, `_option` forms, for
`DateTime<Utc>` and `NaiveDateTime`): serialization returns normally on every valid value (leap-second
representations included; the nanosecond modules answer an error by value outside the `i64` window);
every visitor returns normally on everything a data format can deliver (`visit_i64` of any `i64`,
`visit_u64` of any `u64`, anything else; `None`, unit, `Some(..)`) and a value it returns is valid
(C20 `ts_rejects`, `ts_option_reads`). -/
theorem serde_ts_total (tg : Serde.Target) (u : Serde.TsUnit) (dt : NaiveDT) (h : NDTInv dt)
    (w : Serde.WInt) (hw : C15Serde.WIntOk w) (wo : Serde.WOpt) (hwo : C15Serde.WOptOk wo) :
    (∃ r, Serde.serialize tg u dt = .ok r) ∧ (∃ r, Serde.serialize_option tg u (some dt) = .ok r) ∧
    (∃ r, Serde.serialize_option tg u none = .ok r) ∧
    (∃ r, Serde.deserialize tg u w = .ok r ∧ ∀ x, r = .ok x → NDTInv x) ∧
    (∃ r, Serde.deserialize_option tg u wo = .ok r ∧ ∀ x, r = .ok (some x) → NDTInv x) := by
  obtain ⟨a, b, c⟩ := C15Serde.ts_serialize_total tg u dt h
  exact ⟨a, b, c, C15Serde.ts_deserialize_total tg u w hw, C15Serde.ts_deserialize_option_total tg u wo hwo⟩

/-- non-vacuity: the last representable instant as a leap second, `u64::MAX` handed to `visit_u64`,
`i64::MIN` inside `Some` -/
example : NDTInv ⟨NaiveDT.MAX.date, ⟨86399, 1999999999⟩⟩ ∧ C15Serde.WIntOk (.u64 18446744073709551615) ∧
    C15Serde.WOptOk (.some (.i64 (-9223372036854775808))) :=
  ⟨by decide, by show Serde.isU64 _; unfold Serde.isU64; omega, by show Ts.isI64 _; unfold Ts.isI64; omega⟩

/-! ## zone-aware field replacement and checked stepping -/

/-- **`DateTime::with_*`, `with_time`, `checked_add/sub_months`, `checked_add/sub_days`** on every
well-formed zone-aware value (any offset of less than a day; wall clock possibly in a headroom day) and
every argument (`u32` / `i32` fields of any size, every valid time of day, every `u32` month count and
every `u64` day count): the call returns normally — never the `naive_local` panic, no overflow — and a
value it returns is well formed, keeps the offset and passes the range filter the code applies
(`MIN_UTC ..= MAX_UTC` for the replacements and `with_time`; representable for the month steppers;
`≤ MAX_UTC` resp. `≥ MIN_UTC` for the day steppers — `Days(0)` added returns the value itself).
Collected from C08 `zoned_ops_spec`, C04 `with_time_spec` and `stepping_spec`. -/
theorem zoned_ops_total (z : Zoned) (hz : ZInv z) (v k : Nat) (y' w : Int) (hw : 0 ≤ w)
    (t : Time) (ht : TValid t) (n : Int) (hn : 0 ≤ n ∧ n ≤ 18446744073709551615) :
    (∃ r, Zoned.with_year z y' = .ok r ∧ ZRes InUtcRange z r) ∧
    (∃ r, Zoned.with_month z v = .ok r ∧ ZRes InUtcRange z r) ∧
    (∃ r, Zoned.with_month0 z v = .ok r ∧ ZRes InUtcRange z r) ∧
    (∃ r, Zoned.with_day z v = .ok r ∧ ZRes InUtcRange z r) ∧
    (∃ r, Zoned.with_day0 z v = .ok r ∧ ZRes InUtcRange z r) ∧
    (∃ r, Zoned.with_ordinal z v = .ok r ∧ ZRes InUtcRange z r) ∧
    (∃ r, Zoned.with_ordinal0 z v = .ok r ∧ ZRes InUtcRange z r) ∧
    (∃ r, Zoned.with_hour z w = .ok r ∧ ZRes InUtcRange z r) ∧
    (∃ r, Zoned.with_minute z w = .ok r ∧ ZRes InUtcRange z r) ∧
    (∃ r, Zoned.with_second z w = .ok r ∧ ZRes InUtcRange z r) ∧
    (∃ r, Zoned.with_nanosecond z w = .ok r ∧ ZRes InUtcRange z r) ∧
    (∃ r, Zoned.checked_add_months z k = .ok r ∧ ZRes (fun s _ => InRangeSecs s) z r) ∧
    (∃ r, Zoned.checked_sub_months z k = .ok r ∧ ZRes (fun s _ => InRangeSecs s) z r) ∧
    (∃ r, Zoned.with_time z t = .ok r ∧ ZRes InUtcRange z r) ∧
    (∃ r, Zoned.checked_add_days z n = .ok r ∧ ZRes (fun s f => n = 0 ∨ LeMaxUtc s f) z r) ∧
    (∃ r, Zoned.checked_sub_days z n = .ok r ∧ ZRes (fun s _ => GeMinUtc s) z r) := by
  obtain ⟨a1, a2, a3, a4, a5, a6, a7, a8, a9, a10, a11, a12, a13⟩ := replace_total z hz v k y' w hw
  obtain ⟨d1, d2⟩ := days_total z hz n hn
  exact ⟨a1, a2, a3, a4, a5, a6, a7, a8, a9, a10, a11, a12, a13, with_time_total z hz t ht, d1, d2⟩

/-- non-vacuity (finding #14's input): `MAX_UTC` at `+01:00` with the time of day replaced by 23:00 would
denote an instant beyond `MAX_UTC`: `None`, not an out-of-range value and not a panic -/
example : Zoned.with_time ⟨NaiveDT.MAX, 3600⟩ ⟨82800, 0⟩ = .ok none ∧
    Zoned.checked_add_days ⟨NaiveDT.MAX, 3600⟩ 18446744073709551615 = .ok none ∧
    Zoned.with_month ⟨NaiveDT.MAX, 3600⟩ 4294967295 = .ok none := by decide +kernel

/-! ## byte level: `&str` slices are taken at char boundaries

The scanner models work on byte lists and return the unconsumed suffix; Rust slices the `&str` at the
number of bytes consumed (`&s[k..]`), which panics unless `k` is a char boundary.  `validUtf8` is the
model of `str::from_utf8` (Model/TzParse.lean), `isCharBoundary` is `str::is_char_boundary`,
`BoundarySuffix s rest` says that what was consumed is itself well-formed UTF-8 (Spec/Utf8Spec.lean). -/

open Chrono.M.Tz Chrono.Spec.Utf8 Chrono.M.Scan in
/-- **a boundary suffix is a legal slice.**  For a well-formed `s` and a suffix `rest` after a
well-formed consumed part, with `k = s.len() − rest.len()` the number of bytes consumed: `k ≤ s.len()`,
`rest` is `&s[k..]`, `s.is_char_boundary(k)` holds — the slice cannot panic — and `rest` is again
well-formed (a `&str` for the next primitive). -/
theorem boundary_suffix_is_char_boundary (s rest : List Nat) (hv : validUtf8 s = true)
    (h : BoundarySuffix s rest) :
    s.length - rest.length ≤ s.length ∧ rest = s.drop (s.length - rest.length) ∧
    isCharBoundary s (s.length - rest.length) = true ∧ validUtf8 rest = true :=
  Utf8.bs_boundary hv h

open Chrono.M.Tz Chrono.Spec.Utf8 Chrono.M.Scan in
/-- **slicing only after an ASCII match** (the anchored mechanism, in general form; it covers every
slice site also inside a run that fails later): in a well-formed string, the position after any run of
matched ASCII bytes, and the position right after ANY ASCII byte (whatever precedes it — `comment_2822`'s
`&s[i + 1..]` after `)`), is a char boundary with a well-formed rest. -/
theorem slice_after_ascii (pre rest : List Nat) (c : Nat) :
    ((∀ b ∈ pre, b < 128) → validUtf8 (pre ++ rest) = true →
      isCharBoundary (pre ++ rest) pre.length = true ∧ validUtf8 rest = true) ∧
    (c < 128 → validUtf8 (pre ++ c :: rest) = true →
      isCharBoundary (pre ++ c :: rest) (pre.length + 1) = true ∧ validUtf8 rest = true) := by
  refine ⟨fun ha hv => Utf8.boundary_of_append pre rest hv (Utf8.valid_ascii pre ha), fun hc hv => ?_⟩
  have hp := Utf8.valid_upto_ascii _ pre c rest (Nat.le_refl _) hv hc
  have e : pre ++ c :: rest = (pre ++ [c]) ++ rest := by simp
  have := Utf8.boundary_of_append (pre ++ [c]) rest (e ▸ hv) hp
  rwa [← e, List.length_append] at this

open Chrono.M.Tz Chrono.Spec.Utf8 Chrono.M.Scan in
/-- **scan_prim_boundary.**  Every scanning primitive of src/format/scan.rs that returns a rest, on any
input: what it consumed is well-formed UTF-8 — digits; matched ASCII letters (`| 32` comparisons and
`eq_ignore_ascii_case` against ASCII tables match ASCII bytes only); whole white-space characters; `:`;
`+`, `-` or the three bytes of U+2212; for `comment_2822` everything up to and including the closing `)`
of a well-formed input — so by `boundary_suffix_is_char_boundary` the byte offset it slices at is a char
boundary of every `&str`.  `number` is called with `min ≤ max` (asserted in the Rust code), `char` with an
ASCII byte (all call sites pass `b':'`, `b'-'`). -/
theorem scan_prim_boundary (s rest : List Nat) (v : Int) (k : Nat) (mx : Option Nat) (c : Nat) (i : Nat)
    (w : Weekday) (cm : ColonMode) (z mm ms : Bool) :
    (number s k mx = .ok (rest, v) → (∀ m, mx = some m → k ≤ m) → BoundarySuffix s rest) ∧
    (nanosecond s = .ok (rest, v) → BoundarySuffix s rest) ∧
    (nanosecond_fixed s k = .ok (rest, v) → BoundarySuffix s rest) ∧
    (Scan.char s c = .ok rest → c < 128 → BoundarySuffix s rest) ∧
    (space s = .ok rest → BoundarySuffix s rest) ∧
    BoundarySuffix s (trimStart s) ∧ BoundarySuffix s (colon_or_space s) ∧
    (short_month0 s = .ok (rest, i) → BoundarySuffix s rest) ∧
    (short_weekday s = .ok (rest, w) → BoundarySuffix s rest) ∧
    (short_or_long_month0 s = .ok (rest, i) → BoundarySuffix s rest) ∧
    (short_or_long_weekday s = .ok (rest, w) → BoundarySuffix s rest) ∧
    (timezone_offset s cm z mm ms = .ok (rest, v) → BoundarySuffix s rest) ∧
    (timezone_offset_2822 s = .ok (rest, v) → BoundarySuffix s rest) ∧
    (comment_2822 s = .ok rest → validUtf8 s = true → BoundarySuffix s rest) :=
  ⟨fun h hm => ScanBoundary.number_bs s k mx rest v hm h, ScanBoundary.nanosecond_bs s rest v,
   ScanBoundary.nanosecond_fixed_bs s k rest v, fun h hc => ScanBoundary.char_bs s rest c hc h,
   ScanBoundary.space_bs s rest, ScanBoundary.trimStart_bs s, ScanBoundary.colon_or_space_bs s,
   ScanBoundary.short_month0_bs s rest i, ScanBoundary.short_weekday_bs s rest w,
   ScanBoundary.short_or_long_month0_bs s rest i, ScanBoundary.short_or_long_weekday_bs s rest w,
   ScanBoundary.timezone_offset_bs s cm z mm ms rest v, ScanBoundary.timezone_offset_2822_bs s rest v,
   fun h hv => ScanBoundary.comment_2822_bs s rest hv h⟩

open Chrono.M.Tz Chrono.Spec.Utf8 Chrono.M.Scan in
/-- **the slicing steps of src/format/parse.rs.**  On a well-formed text: one item of `parse_internal`
(a literal `&str` prefix, a white-space item, a numeric item with its sign, `AM`/`PM` — two bytes
matched with `| 32` —, `.` before a fraction, names, offsets, `%Z`'s run of whole non-space characters),
the RFC 2822 scanner (`,` after the weekday, folding white space, legacy zones, trailing comments), the
strict and the relaxed RFC 3339 scanner (`T`/`t`/space, `UTC` matched case-insensitively), and the whole
item-driven parser for ANY item list whose literals are `&str`s (`ItemsUtf8`; true of every `Item` by its
Rust type): what is consumed is well-formed UTF-8, so every slice is at a char boundary and the rest
handed on (or returned by `parse_and_remainder`) is a `&str`. -/
theorem parser_slices_at_boundaries (items : List Item) (it : Item) (p : Parsed) (s : List Nat) (p' : Parsed)
    (s' : List Nat) (hv : validUtf8 s = true) :
    (Parse.parseItemBase p s it = .ok (p', s') → (∀ lit, it = .literal lit → validUtf8 lit = true) →
      BoundarySuffix s s') ∧
    (Parse.parse_rfc2822 p s = .ok (p', s') → BoundarySuffix s s') ∧
    (Parse.parse_rfc3339 p s = .ok (p', s') → BoundarySuffix s s') ∧
    (Parse.parse_rfc3339_relaxed p s = .ok (p', s') → BoundarySuffix s s') ∧
    (Parse.parse_internal p s items = .ok (p', s') → ScanBoundary.ItemsUtf8 items → BoundarySuffix s s') :=
  ⟨fun h hl => (ScanBoundary.parseItemBase_adv p s it _ h).2 hl hv,
   fun h => (ScanBoundary.parse_rfc2822_adv p s _ h).2 fun _ => hv, ScanBoundary.parse_rfc3339_bs p s p' s',
   fun h => (ScanBoundary.parse_rfc3339_relaxed_adv p s _ h).2 fun _ => hv,
   fun h hl => ScanBoundary.parse_internal_bs items p s p' s' hv hl h⟩

open Chrono.M.Tz Chrono.Spec.Utf8 Chrono.M.Scan in
/-- **end to end, `parse_from_str` / `parse_and_remainder` on `&str` text × `&str` format string** (any
two well-formed UTF-8 byte strings): every `parse_next_item` call of `StrftimeItems::new(fmt)` (strict
mode) slices the format string after whole characters, every literal it cuts out is well-formed UTF-8 —
so the items satisfy `ItemsUtf8` — and hence every slice the item-driven parser takes of the text is at a
char boundary; the remainder `parse_and_remainder` returns is a `&str`.  (Lenient mode, which
`parse_from_str` does not use, re-slices the format string at a byte count kept in `error_len`; that
count is not covered here.) -/
theorem parse_from_str_slices (s fmt : List Nat) (hs : validUtf8 s = true) (hf : validUtf8 fmt = true) :
    (∀ r, Strftime.parse_next_item false fmt = some r → BoundarySuffix fmt r.1) ∧
    ScanBoundary.ItemsUtf8 (Strftime.items fmt) ∧
    (∀ p rest, ParseFrom.fieldsRem s fmt = .ok (p, rest) → BoundarySuffix s rest ∧ validUtf8 rest = true) := by
  have hi := StrftimeUtf8.items_utf8 fmt hf
  refine ⟨fun r h => (StrftimeUtf8.parse_next_item_good fmt hf r h).1, hi, fun p rest h => ?_⟩
  have hb := ScanBoundary.parse_internal_bs _ _ s p rest hs hi h
  exact ⟨hb, Utf8.bs_valid_rest hs hb⟩

open Chrono.M.Tz Chrono.Spec.Utf8 Chrono.M.Scan in
/-- non-vacuity, multi-byte characters right after the match: `jAn` before `é` (slice at 3, a boundary;
4 is not); U+2212 as the sign of an offset followed by `é`; a comment containing `é` and an escaped `)`
followed by `€` -/
example :
    validUtf8 [106, 65, 110, 195, 169] = true ∧
    (short_month0 [106, 65, 110, 195, 169]).toOption = some ([195, 169], 0) ∧
    isCharBoundary [106, 65, 110, 195, 169] 3 = true ∧ isCharBoundary [106, 65, 110, 195, 169] 4 = false ∧
    (timezone_offset [226, 136, 146, 48, 49, 58, 48, 48, 195, 169] .colonOrSpace true false true).toOption
      = some ([195, 169], -3600) ∧
    (comment_2822 [32, 40, 195, 169, 92, 41, 41, 226, 130, 172]).toOption = some [226, 130, 172] := by
  decide

/-! ## round 3: the documented panics of the operators; more entry points collected -/

/-- **the documented panics of the operator impls, and exactly when** (audit 2, LOW-7).  Every operator that
has a `Res`-valued model with a panic branch (`expect` of its checked form: Model/ArithOps.lean,
MonthsOps.lean, DeltaOps.lean, ZonedOps.lean), on EVERY valid operand — leap-second representations
included, no `NonLeap` hypothesis — panics exactly when the result is not representable:
* `NaiveDateTime ± TimeDelta`: exactly when the checked form says `None`, i.e. exactly when day number +
  carry days of the time-of-day sum lies outside `[NaiveDate::MIN, NaiveDate::MAX]` (C07
  `datetime_operators_spec`, C03 `add_with_leap_operand` via `datetime_arith`); for a non-leap operand that
  is "instant ± ns δ not representable" (C03 `operator_exact(_sub)`; the first conjunct of
  `documented_panics` is the `+` case of this);
* `NaiveDateTime ± Days`: exactly when the day is outside the range (C03 `ndt_days_operator_exact`);
  `NaiveDateTime ± Months`: exactly when the checked form says `None`;
* `NaiveDate ± TimeDelta`, `NaiveDate ± Days`: exactly when the day that many whole days away is outside
  the range (C03 `date_operator_exact`); `NaiveDate ± Months`: exactly when the checked form says `None`
  (target year outside the range: C08 `months_op_spec`);
* `DateTime<Tz> ± TimeDelta`: exactly when the checked form says `None`, which is exactly when the operator
  of the UTC value panics — the offset does not enter; `DateTime<Tz> ± Days` for a non-zero count: exactly
  when the stepped instant is outside `MIN_UTC ..= MAX_UTC` or the stepped wall clock outside the nominal
  range (C04 `days_operators_spec`; `Days(0)` returns the value); `DateTime<Tz> ± Months`: exactly when the
  checked form says `None`;
* `TimeDelta + - *`: exactly when the exact result is out of range; `/`: exactly when the divisor is zero;
  unary `-` never (C06 `op_add_exact`, `op_sub_exact`, `op_mul_exact`, `op_div_spec`, `neg_abs_exact`).
Documented-panic operations that have a model but no conjunct here: the panicking `TimeDelta` constructors
`weeks … milliseconds` (C06 `unit_panicking`), `Add/Sub<core::time::Duration>` (C03 `std_operator_exact`
family), the deprecated `from_local` / `timestamp*` / `from_timestamp` forms (C02, C04), `Sum` (C06),
`naive_local`, `to_rfc2822` (in `documented_panics`).  Documented-panic operations with NO model: the
deprecated calendar constructors (`from_ymd`, `from_yo`, `from_isoywd`, `from_num_days_from_ce`,
`from_hms*`, `and_hms*`, `FixedOffset::east/west`, `ymd`, `yo`, …: `expect` of the `_opt` form),
`DelayedFormat::to_string` / `Display` on `Item::Error` (`Format.*` models return the `fmt::Error` by value,
the `ToString` panic on it is not modelled), `DateTime<Local>` operators. -/
theorem documented_panics_ops (dt : NaiveDT) (δ : Delta) (d : Date) (z : Zoned) (a b : Delta) (k c : Int)
    (n : Nat) (hdt : NDTInv dt) (hδ : DInv δ) (hd : DateInv d) (hz : ZInv z) (ha : DInv a) (hb : DInv b)
    (hk : -2147483648 ≤ k ∧ k ≤ 2147483647) (hc : 0 ≤ c ∧ c ≤ 18446744073709551615) :
    ((NaiveDT.add dt δ = .panic ↔ NaiveDT.checked_add_signed dt δ = .ok none) ∧
     (NaiveDT.add dt δ = .panic ↔
        ¬ (DN_MIN ≤ dayNumOf dt.date + (addLeap dt.time (ns δ)).2 / 86400 ∧
           dayNumOf dt.date + (addLeap dt.time (ns δ)).2 / 86400 ≤ DN_MAX)) ∧
     (NaiveDT.sub dt δ = .panic ↔ NaiveDT.checked_sub_signed dt δ = .ok none) ∧
     (NaiveDT.sub dt δ = .panic ↔
        ¬ (DN_MIN ≤ dayNumOf dt.date + (addLeap dt.time (-(ns δ))).2 / 86400 ∧
           dayNumOf dt.date + (addLeap dt.time (-(ns δ))).2 / 86400 ≤ DN_MAX)) ∧
     (NonLeap dt → (NaiveDT.add dt δ = .panic ↔
        ¬ (NS_MIN ≤ instNs dt + ns δ ∧ instNs dt + ns δ ≤ NS_MAX_DT))) ∧
     (NonLeap dt → (NaiveDT.sub dt δ = .panic ↔
        ¬ (NS_MIN ≤ instNs dt + -(ns δ) ∧ instNs dt + -(ns δ) ≤ NS_MAX_DT))) ∧
     (NaiveDT.add_days_op dt c = .panic ↔ ¬ (DN_MIN ≤ dayNumOf dt.date + c ∧ dayNumOf dt.date + c ≤ DN_MAX)) ∧
     (NaiveDT.sub_days_op dt c = .panic ↔ ¬ (DN_MIN ≤ dayNumOf dt.date + -c ∧ dayNumOf dt.date + -c ≤ DN_MAX)) ∧
     (NaiveDT.add_months_op dt n = .panic ↔ NaiveDT.checked_add_months dt n = .ok none) ∧
     (NaiveDT.sub_months_op dt n = .panic ↔ NaiveDT.checked_sub_months dt n = .ok none)) ∧
    ((Date.add d δ = .panic ↔
        ¬ (DN_MIN ≤ dayNumOf d + wholeDays (ns δ) ∧ dayNumOf d + wholeDays (ns δ) ≤ DN_MAX)) ∧
     (Date.sub d δ = .panic ↔
        ¬ (DN_MIN ≤ dayNumOf d + -(wholeDays (ns δ)) ∧ dayNumOf d + -(wholeDays (ns δ)) ≤ DN_MAX)) ∧
     (Date.add_days_op d c = .panic ↔ ¬ (DN_MIN ≤ dayNumOf d + c ∧ dayNumOf d + c ≤ DN_MAX)) ∧
     (Date.sub_days_op d c = .panic ↔ ¬ (DN_MIN ≤ dayNumOf d + -c ∧ dayNumOf d + -c ≤ DN_MAX)) ∧
     (Date.add_months_op d n = .panic ↔ Date.checked_add_months d n = .ok none) ∧
     (Date.sub_months_op d n = .panic ↔ Date.checked_sub_months d n = .ok none)) ∧
    ((Zoned.add z δ = .panic ↔ Zoned.checked_add_signed z δ = .ok none) ∧
     (Zoned.add z δ = .panic ↔ NaiveDT.add z.utc δ = .panic) ∧
     (Zoned.sub z δ = .panic ↔ Zoned.checked_sub_signed z δ = .ok none) ∧
     (Zoned.sub z δ = .panic ↔ NaiveDT.sub z.utc δ = .panic) ∧
     (0 < c → (Zoned.add_days_op z c = .panic ↔
        ¬ (InUtcRange (instSecs z.utc + c * 86400) z.utc.time.frac ∧ InRangeSecs (wallSecs z + c * 86400)))) ∧
     (0 < c → (Zoned.sub_days_op z c = .panic ↔
        ¬ (InUtcRange (instSecs z.utc - c * 86400) z.utc.time.frac ∧ InRangeSecs (wallSecs z - c * 86400)))) ∧
     (Zoned.add_months_op z n = .panic ↔ Zoned.checked_add_months z n = .ok none) ∧
     (Zoned.sub_months_op z n = .panic ↔ Zoned.checked_sub_months z n = .ok none)) ∧
    ((Delta.add a b = .panic ↔ ¬ nsInRange (ns a + ns b)) ∧
     (Delta.sub a b = .panic ↔ ¬ nsInRange (ns a - ns b)) ∧
     (Delta.mul a k = .panic ↔ ¬ nsInRange (ns a * k)) ∧
     (Delta.div a k = .panic ↔ k = 0) ∧ Delta.neg a ≠ .panic) := by
  obtain ⟨ar1, ar2⟩ := datetime_arith dt δ hdt hδ
  obtain ⟨⟨c1, _⟩, ⟨c2, _⟩⟩ := C07.datetime_operators_spec dt δ hdt hδ
  obtain ⟨nd1, nd2, nd3, nd4⟩ := C03.ndt_days_operator_exact dt c hdt hc
  obtain ⟨nm1, nm2, _⟩ := C15Round3.naive_ops dt hdt 0 n 0 0 0 (by omega) (by omega)
  obtain ⟨⟨da1, da2⟩, ⟨ds1, ds2⟩, ⟨dd1, dd2⟩, ⟨de1, de2⟩⟩ := C03.date_operator_exact d δ c hd hδ hc
  obtain ⟨_, _, dm1, dm2, _⟩ := date_ops d hd n 0 0 0 ⟨0, 0⟩ 0 (by omega) (by decide) (by omega)
  obtain ⟨zs1, zs2⟩ := C15Round3.zoned_signed_okAnd z δ hz hδ
  obtain ⟨zp1, zp2⟩ := C15Round3.zoned_add_panic_iff z δ
  obtain ⟨_, _, zdays⟩ := C04.days_operators_spec z hz
  obtain ⟨_, _, _, _, _, _, _, _, _, _, _, zm1, zm2⟩ := replace_total z hz 0 n 0 0 (by omega)
  refine ⟨⟨?_, ?_, ?_, ?_, ?_, ?_, ?_, ?_, ?_, ?_⟩, ⟨?_, ?_, ?_, ?_, ?_, ?_⟩, ⟨?_, zp1, ?_, zp2, ?_, ?_, ?_, ?_⟩,
    ⟨?_, ?_, ?_, ?_, ?_⟩⟩
  · exact C15Round3.expectSome_panic_iff ar1
  · rw [c1]; omega
  · exact C15Round3.expectSome_panic_iff ar2
  · rw [c2]; omega
  · intro hnl
    obtain ⟨p, q⟩ := C03.operator_exact dt δ hdt hnl hδ
    exact C15Round3.panic_iff_of_exact p q
  · intro hnl
    obtain ⟨p, q⟩ := C03.operator_exact_sub dt δ hdt hnl hδ
    exact C15Round3.panic_iff_of_exact p q
  · exact C15Round3.panic_iff_of_exact nd1 nd2
  · exact C15Round3.panic_iff_of_exact nd3 nd4
  · exact C15Round3.expectSome_panic_iff nm1
  · exact C15Round3.expectSome_panic_iff nm2
  · exact C15Round3.panic_iff_of_exact da1 da2
  · exact C15Round3.panic_iff_of_exact ds1 ds2
  · exact C15Round3.panic_iff_of_exact dd1 dd2
  · exact C15Round3.panic_iff_of_exact de1 de2
  · exact C15Round3.expectSome_panic_iff dm1
  · exact C15Round3.expectSome_panic_iff dm2
  · exact C15Round3.expectSome_panic_iff zs1
  · exact C15Round3.expectSome_panic_iff zs2
  · intro h0; exact (zdays c h0 hc.2).1
  · intro h0; exact (zdays c h0 hc.2).2.2.1
  · exact C15Round3.expectSome_panic_iff zm1
  · exact C15Round3.expectSome_panic_iff zm2
  · exact C15Round3.ite_panic_iff (C06.op_add_exact a b ha hb).1
  · exact C15Round3.ite_panic_iff (C06.op_sub_exact a b ha hb).1
  · exact C15Round3.ite_panic_iff (C06.op_mul_exact a k ha hk)
  · obtain ⟨q1, q2⟩ := C06.op_div_spec a k ha hk
    constructor
    · intro hp
      by_cases hk0 : k = 0
      · exact hk0
      · obtain ⟨r, hr, _⟩ := q2 hk0; rw [hr] at hp; cases hp
    · exact q1
  · rw [(C06.neg_abs_exact a ha).1]; intro h; cases h

/-- non-vacuity: each family at a range end, on a leap-second operand where there is one -/
example : NDTInv ⟨Date.MAX, ⟨86399, 1500000000⟩⟩ ∧
    NaiveDT.add ⟨Date.MAX, ⟨86399, 1500000000⟩⟩ ⟨0, 500000000⟩ = .panic ∧
    NaiveDT.checked_add_signed ⟨Date.MAX, ⟨86399, 1500000000⟩⟩ ⟨0, 500000000⟩ = .ok none ∧
    NaiveDT.sub ⟨Date.MIN, ⟨0, 1000000000⟩⟩ ⟨1, 1⟩ = .panic ∧
    NaiveDT.add_months_op NaiveDT.MAX 1 = .panic ∧ NaiveDT.sub_days_op NaiveDT.MIN 1 = .panic ∧
    Date.add Date.MAX ⟨86400, 0⟩ = .panic ∧ Date.sub_months_op Date.MIN 1 = .panic ∧
    ZInv ⟨⟨Date.MAX, ⟨86399, 1500000000⟩⟩, 3600⟩ ∧
    Zoned.add ⟨⟨Date.MAX, ⟨86399, 1500000000⟩⟩, 3600⟩ ⟨0, 500000000⟩ = .panic ∧
    Zoned.add_days_op ⟨NaiveDT.MAX, 3600⟩ 1 = .panic ∧ Zoned.add_months_op ⟨NaiveDT.MAX, 3600⟩ 1 = .panic ∧
    Delta.add Delta.MAX ⟨0, 1⟩ = .panic ∧ Delta.mul Delta.MAX 2 = .panic ∧ Delta.div Delta.MAX 0 = .panic ∧
    Delta.neg Delta.MIN = .ok Delta.MAX := by decide +kernel

/-- **collected_total** (audit 2, MEDIUM-6): the fallible entry points that had a theorem in another property
but no statement here.  On every valid value and every argument of the machine domain the call returns
normally and a returned value satisfies the representation invariant of its type:
`NaiveDateTime::checked_add/sub_months` (every `u32`), `checked_add/sub_days` (every `u64`), the eleven
`NaiveDateTime::with_*` (arguments of any size) — the date-level / time-level operation on one part with
the other kept (C08 `naive_datetime_delegates`, C03 `ndt_days_exact`) —, `checked_add/sub_offset` (every
offset a `FixedOffset` holds; `ZonedL.shiftChecked_spec`, the engine of C04 `fromLocal_fails_iff`),
`from_timestamp_millis / _micros / _nanos` (every `i64`; C02 `from_millis_floor`, `from_micros_floor`,
`from_nanos_exact`), `FixedOffset::east_opt / west_opt` (every integer; `Option`-valued models; C04
`east_opt_iff`), `NaiveDate::from_weekday_of_month_opt` (every year, month, weekday, `n`; C08
`nth_weekday_spec`), `TimeDelta::abs` with its result invariant (C06 `neg_abs_exact`), and
`DateTime::checked_add/sub_signed` (result well formed, offset kept; from `datetime_arith_total`). -/
theorem collected_total (dt : NaiveDT) (hdt : NDTInv dt) (v k : Nat) (y' w c off x s : Int) (hw : 0 ≤ w)
    (hc : 0 ≤ c ∧ c ≤ 18446744073709551615) (ho : OffValid off) (hx : Spec.Ts.isI64 x)
    (y : Int) (m : Nat) (wd : Weekday) (n : Nat) (a δ : Delta) (ha : DInv a) (hδ : DInv δ)
    (z : Zoned) (hz : ZInv z) :
    (OkAnd (dt.checked_add_months k) NDTInv ∧ OkAnd (dt.checked_sub_months k) NDTInv ∧
     OkAnd (NaiveDT.checked_add_days dt c) NDTInv ∧ OkAnd (NaiveDT.checked_sub_days dt c) NDTInv ∧
     OkAnd (dt.with_year y') NDTInv ∧ OkAnd (dt.with_month v) NDTInv ∧ OkAnd (dt.with_month0 v) NDTInv ∧
     OkAnd (dt.with_day v) NDTInv ∧ OkAnd (dt.with_day0 v) NDTInv ∧ OkAnd (dt.with_ordinal v) NDTInv ∧
     OkAnd (dt.with_ordinal0 v) NDTInv ∧
     OkAnd (dt.with_hour w) NDTInv ∧ OkAnd (dt.with_minute w) NDTInv ∧ OkAnd (dt.with_second w) NDTInv ∧
     OkAnd (dt.with_nanosecond w) NDTInv) ∧
    (OkAnd (dt.checked_add_offset off) NDTInv ∧ OkAnd (dt.checked_sub_offset off) NDTInv) ∧
    (OkAnd (NaiveDT.from_timestamp_millis x) NDTInv ∧ OkAnd (NaiveDT.from_timestamp_micros x) NDTInv ∧
     ∃ r, NaiveDT.from_timestamp_nanos x = .ok r ∧ NDTInv r) ∧
    ((∀ o, Zoned.east_opt s = some o → OffValid o) ∧ (∀ o, Zoned.west_opt s = some o → OffValid o)) ∧
    OkAnd (Date.from_weekday_of_month_opt y m wd n) DateInv ∧
    (∃ r, Delta.abs a = .ok r ∧ DInv r) ∧
    (OkAnd (Zoned.checked_add_signed z δ) (fun r => ZInv r ∧ r.off = z.off) ∧
     OkAnd (Zoned.checked_sub_signed z δ) (fun r => ZInv r ∧ r.off = z.off)) := by
  refine ⟨C15Round3.naive_ops dt hdt v k y' w c hw hc, C15Round3.offset_ops dt off hdt ho, ⟨?_, ?_, ?_⟩,
    ⟨(C04.east_opt_iff s).2.2.1, (C04.east_opt_iff s).2.2.2⟩, ?_, ?_, C15Round3.zoned_signed_okAnd z δ hz hδ⟩
  · obtain ⟨r, h1, _, h3⟩ := C02.from_millis_floor x hx
    exact ⟨r, h1, fun q hq => (h3 q hq).1⟩
  · obtain ⟨r, h1, _, h3⟩ := C02.from_micros_floor x hx
    exact ⟨r, h1, fun q hq => (h3 q hq).1⟩
  · obtain ⟨r, h1, h2, _⟩ := C02.from_nanos_exact x hx
    exact ⟨r, h1, h2⟩
  · refine ⟨_, (C08.nth_weekday_spec y m wd n).1, fun q hq => ?_⟩
    split at hq
    · cases hq
    · exact ymdDate_inv _ _ _ q hq
  · refine ⟨_, (C06.neg_abs_exact a ha).2, ?_⟩
    have hr : nsInRange (if ns a < 0 then -(ns a) else ns a) := by
      have := ha.2.2; unfold nsInRange at *; omega
    exact (C06.ofNs_spec _ hr).1

/-- non-vacuity at the range ends and the integer extremes: refusals by value, and values -/
example : NDTInv NaiveDT.MAX ∧ NDTInv NaiveDT.MIN ∧ OffValid 86399 ∧ Spec.Ts.isI64 (-9223372036854775808) ∧
    NaiveDT.checked_add_months NaiveDT.MAX 4294967295 = .ok none ∧
    NaiveDT.checked_sub_days NaiveDT.MAX 18446744073709551615 = .ok none ∧
    NaiveDT.with_ordinal0 NaiveDT.MAX 4294967295 = .ok none ∧
    NaiveDT.checked_add_offset NaiveDT.MAX 86399 = .ok none ∧
    NaiveDT.checked_sub_offset NaiveDT.MIN 86399 = .ok none ∧
    NaiveDT.from_timestamp_millis (-9223372036854775808) = .ok none ∧
    (NaiveDT.from_timestamp_nanos (-9223372036854775808)).isOk = true ∧
    Zoned.east_opt 86400 = none ∧ Zoned.west_opt (-86399) = some 86399 ∧
    Date.from_weekday_of_month_opt 262142 12 .sun 6 = .ok none ∧
    (Date.from_weekday_of_month_opt 262142 12 .sun 5).isOk = true ∧
    Date.from_weekday_of_month_opt 2147483647 4294967295 .mon 255 = .ok none ∧
    Delta.abs Delta.MIN = .ok Delta.MAX ∧
    Zoned.checked_add_signed ⟨NaiveDT.MAX, 3600⟩ ⟨0, 1⟩ = .ok none := by decide +kernel

/-! ## byte level, second review gap 2: EVERY `&str` slice site, failing paths included

`scan_prim_boundary` / `parser_slices_at_boundaries` above constrain only the suffix a scanner RETURNS on
its `Ok` path.  The theorems below are about the slice-recording copies of Model/Rfc3339Slices.lean (C10)
and Model/ScanSlices.lean: the same computations, recording every `&str` index expression `&src[k..]`
the Rust code evaluates, in statement order, also when the run fails afterwards (a slice taken before a
comparison, before a failing `scan::number`, before a failing setter).  `Spec.StrSlice.sliceFrom` is the
`Res`-valued `&s[k..]` (`.panic` unless `k ≤ len` and `is_char_boundary(k)`); `evalSlices` replays a
recorded run: `.panic` iff one of its index expressions panics. -/

open Chrono.M.Tz Chrono.Spec.Utf8 Chrono.M.Scan Chrono.M.Rfc3339Slices Chrono.M.ScanSlices Chrono.Spec.StrSlice in
/-- **scanners_never_panic** (scan.rs).  For every scanner of src/format/scan.rs that slices its `&str`
argument — `number`, `nanosecond`, `nanosecond_fixed`, `char`, `short_month0`, `short_weekday`,
`short_or_long_month0`, `short_or_long_weekday`, `timezone_offset` (every colon mode and flag combination),
`timezone_offset_2822`, `comment_2822` (`space`, `colon_or_space` only call std's `trim_start*`) — on EVERY
well-formed UTF-8 argument: the recording copy returns exactly what the plain model returns (`Ok` or `Err`),
and replaying its slice record never panics — whether the scanner ends in `Ok` or in `Err`.  `number` is
called with `min ≤ max` (asserted in the Rust code), `char` with an ASCII byte. -/
theorem scanners_never_panic (s : List Nat) (hv : validUtf8 s = true) (k : Nat) (mx : Option Nat)
    (hk : ∀ m, mx = some m → k ≤ m) (c : Nat) (hc : c < 128) (cm : ColonMode) (z mm ms : Bool) :
    evalSlices (numberT s k mx) = .ok (number s k mx) ∧
    evalSlices (nanosecondT s) = .ok (nanosecond s) ∧
    evalSlices (nanosecond_fixedT s k) = .ok (nanosecond_fixed s k) ∧
    evalSlices (charT s c) = .ok (Scan.char s c) ∧
    evalSlices (short_month0T s) = .ok ((short_month0 s).mapError convE) ∧
    evalSlices (short_weekdayT s) = .ok ((short_weekday s).mapError convE) ∧
    evalSlices (short_or_long_month0T s) = .ok ((short_or_long_month0 s).mapError convE) ∧
    evalSlices (short_or_long_weekdayT s) = .ok ((short_or_long_weekday s).mapError convE) ∧
    evalSlices (timezone_offsetT s cm z mm ms) = .ok (timezone_offset s cm z mm ms) ∧
    evalSlices (timezone_offset_2822T s) = .ok (timezone_offset_2822 s) ∧
    evalSlices (comment_2822T s) = .ok (comment_2822 s) := by
  refine ⟨?_, ?_, ?_, ?_, ?_, ?_, ?_, ?_, ?_, ?_, ?_⟩
  · rw [ScanSlices.eval_of_good _ _ (Rfc3339Slices.numberT_good s k mx hv hk), Rfc3339Slices.numberT_fst]
  · rw [ScanSlices.eval_of_good _ _ (Rfc3339Slices.nanosecondT_good s hv), Rfc3339Slices.nanosecondT_fst]
  · rw [ScanSlices.eval_of_good _ _ (ScanSlices.nanosecond_fixedT_good s k hv), ScanSlices.nanosecond_fixedT_fst]
  · rw [ScanSlices.eval_of_good _ _ (Rfc3339Slices.charT_good s c hc hv), Rfc3339Slices.charT_fst]
  · rw [ScanSlices.eval_of_good _ _ (ScanSlices.short_month0T_good s hv), ScanSlices.short_month0T_fst]
  · rw [ScanSlices.eval_of_good _ _ (ScanSlices.short_weekdayT_good s hv), ScanSlices.short_weekdayT_fst]
  · rw [ScanSlices.eval_of_good _ _ (ScanSlices.short_or_long_month0T_good s hv),
      ScanSlices.short_or_long_month0T_fst]
  · rw [ScanSlices.eval_of_good _ _ (ScanSlices.short_or_long_weekdayT_good s hv),
      ScanSlices.short_or_long_weekdayT_fst]
  · rw [ScanSlices.eval_of_good _ _ (Rfc3339Slices.timezone_offsetT_good s cm z mm ms hv),
      Rfc3339Slices.timezone_offsetT_fst]
  · rw [ScanSlices.eval_of_good _ _ (ScanSlices.timezone_offset_2822T_good s hv),
      ScanSlices.timezone_offset_2822T_fst]
  · rw [ScanSlices.eval_of_good _ _ (ScanSlices.comment_2822T_good s hv), ScanSlices.comment_2822T_fst]

open Chrono.M.Tz Chrono.Spec.Utf8 Chrono.M.Parse Chrono.M.Rfc3339Slices Chrono.M.ScanSlices Chrono.Spec.StrSlice in
/-- **parser_never_panics** (parse.rs).  `parse_internal` for ANY item list whose literals are `&str`s, on
ANY `&str` text and any record — with its `&s[prefix.len()..]` (:312/:323), `&s[1..]` after a sign (:369,
:372, taken before `scan::number` runs), `&s[2..]` after AM/PM (:417), `&s[1..]` after `.` (:422) — and
`parse_rfc2822` (`&s_[1..]` after `,` :106), `parse_rfc3339` (:199, :210), `parse_rfc3339_relaxed` (:570,
:578): the recording copy returns exactly what the plain model returns, and replaying its slice record
never panics, ALSO ON RUNS ENDING IN `Err`; every recorded slice was taken of a well-formed string after
whole characters. -/
theorem parser_never_panics (p : Parsed) (s : List Nat) (hv : validUtf8 s = true) (items : List Item)
    (hi : ScanBoundary.ItemsUtf8 items) :
    evalSlices (parse_internalT p s items) = .ok (parse_internal p s items) ∧
    evalSlices (parse_rfc2822T p s) = .ok (parse_rfc2822 p s) ∧
    evalSlices (parse_rfc3339T p s) = .ok (parse_rfc3339 p s) ∧
    evalSlices (parse_rfc3339_relaxedT p s) = .ok (parse_rfc3339_relaxed p s) ∧
    (∀ e ∈ (parse_internalT p s items).2, validUtf8 e.src = true ∧ BoundarySuffix e.src e.rest ∧
      StrSlice.sliceFrom e.src e.k = .ok e.rest) := by
  have g := ScanSlices.parse_internalT_good items p s hv hi
  refine ⟨?_, ?_, ?_, ?_, ?_⟩
  · rw [ScanSlices.eval_of_good _ _ g, ScanSlices.parse_internalT_fst]
  · rw [ScanSlices.eval_of_good _ _ (ScanSlices.parse_rfc2822T_good p s hv), ScanSlices.parse_rfc2822T_fst]
  · rw [ScanSlices.eval_of_good _ _ (Rfc3339Slices.parse_rfc3339T_good p s hv), Rfc3339Slices.parse_rfc3339T_fst]
  · rw [ScanSlices.eval_of_good _ _ (ScanSlices.parse_rfc3339_relaxedT_good p s hv),
      ScanSlices.parse_rfc3339_relaxedT_fst]
  · intro e he
    have ge := g.1 e he
    refine ⟨ge.1, ge.2, ?_⟩
    have := ScanSlices.good_sliceOk e ge
    unfold sliceOk at this
    exact eq_of_beq this

open Chrono.M.Tz Chrono.M.Scan Chrono.M.Parse Chrono.M.Rfc3339Slices Chrono.M.ScanSlices Chrono.Spec.StrSlice in
/-- non-vacuity, multi-byte characters where it matters, failing runs included: `"Junéx"` through
`short_or_long_month0` (one slice, at 3; the suffix `e` does not match `é`'s lead byte, no second slice);
`"ABé"` through `timezone_offset_2822` (`&s[2..]` is recorded although the name lookup then fails with
`Invalid`); the items `Literal("é"), ShortMonthName` on `"éJu"` (the literal's `&s[2..]` is recorded, then
`TooShort`); and `evalSlices` does report a panic for a record with an off-boundary slice. -/
example :
    validUtf8 [74, 117, 110, 195, 169, 120] = true ∧
    short_or_long_month0T [74, 117, 110, 195, 169, 120] =
      (.ok ([195, 169, 120], 5), [⟨[74, 117, 110, 195, 169, 120], [195, 169, 120]⟩]) ∧
    timezone_offset_2822T [65, 66, 195, 169] = (.error .invalid, [⟨[65, 66, 195, 169], [195, 169]⟩]) ∧
    parse_internalT Parsed.new [195, 169, 74, 117] [.literal [195, 169], .fixed .shortMonthName] =
      (.error .tooShort, [⟨[195, 169, 74, 117], [74, 117]⟩]) ∧
    evalSlices ((.ok (), [⟨[195, 169, 120], [169, 120]⟩]) : T Unit) = .panic := by
  refine ⟨by decide, by decide +kernel, by decide +kernel, by decide +kernel, by decide⟩

open Chrono.M.Tz Chrono.Spec.Utf8 Chrono.Spec.StrSlice in
/-- **seed R4-C15-b, the distinction.**  The suffix test of `short_or_long_month0` / `short_or_long_weekday`
(scan.rs:137, :155) reads `s.as_bytes()[..suffix.len()]`: a BYTE slice, which panics only for an index
beyond the length (`bytesTo`) — excluded by the guard `s.len() >= suffix.len()` — and the `&str` slice
`&s[suffix.len()..]` is taken only after the ASCII comparison succeeded.  So the lines as they are
(`eatSuffixAsIs`) never panic, for ANY `&str` and any ASCII suffix, and compute the model's `eatSuffix`.
The seed replaces the byte slice by the `&str` prefix slice `s[..suffix.len()]` (`sliceTo`, needs a char
boundary, evaluated BEFORE the comparison): `eatSuffixSeeded` panics on `"éx"` with suffix `"e"`, i.e.
`short_or_long_month0("Junéx")` — an input on which the plain model, the returned-suffix theorems and the
function's result (`Ok(("éx", 5))`) are all unremarkable. -/
theorem seed_R4_C15_b_distinction :
    (∀ s k, k ≤ s.length → bytesTo s k = .ok (s.take k)) ∧
    (∀ s suffix, validUtf8 s = true → (∀ b ∈ suffix, b < 128) →
      eatSuffixAsIs s suffix = .ok (eatSuffix s suffix)) ∧
    (validUtf8 [195, 169, 120] = true ∧ bytesTo [195, 169, 120] 1 = .ok [195] ∧
      sliceTo [195, 169, 120] 1 = .panic ∧ eatSuffixSeeded [195, 169, 120] [101] = .panic ∧
      eatSuffixAsIs [195, 169, 120] [101] = .ok [195, 169, 120]) := by
  refine ⟨fun s k h => by unfold bytesTo; rw [if_pos h], ?_, by decide⟩
  intro s suffix hv hs
  have hb := ScanBoundary.eatSuffix_bs s suffix hs
  unfold eatSuffixAsIs bytesTo
  unfold eatSuffix at hb ⊢
  by_cases hl : s.length ≥ suffix.length
  · rw [if_pos hl, if_pos hl]
    dsimp only
    by_cases hc : lowerS (s.take suffix.length) = lowerS suffix
    · rw [if_pos hc, if_pos ⟨hl, hc⟩]
      rw [if_pos ⟨hl, hc⟩] at hb
      obtain ⟨h1, h2, h3, _⟩ := Utf8.bs_boundary hv hb
      have hk : s.length - (s.drop suffix.length).length = suffix.length := by
        rw [List.length_drop]; omega
      rw [hk] at h3
      unfold StrSlice.sliceFrom
      rw [if_pos ⟨hl, h3⟩]
    · rw [if_neg hc, if_neg (fun h => hc h.2)]
  · rw [if_neg hl, if_neg (fun h => hl h.1)]

/-! ## lenient `StrftimeItems`: the `error_len` arithmetic and the slices of `StrftimeItems::error` -/

open Chrono.M.Tz Chrono.Spec.Utf8 in
/-- **lenient_error_len_ok** (audit2/C15.md MEDIUM-3, arithmetic + slices inside `StrftimeItems::error`).
`Strftime.parse_next_itemR` (Model/StrftimeLenient.lean) is `parse_next_item` with `error` replaced by
`errorR`: `*error_len -= c.len_utf8()` is a checked subtraction and `&original[*error_len..]`,
`&original[..*error_len]` (strict mode: `&original[original.len()..]`) panic unless the index is
`≤ original.len()` and on a char boundary.  On every well-formed UTF-8 format string, in lenient and in
strict mode, no call site of `error` panics, for one call and for the whole drained iterator; and `errorR`
is `.ok` exactly when the subtraction does not underflow and the index is a legal slice index.
(The `usize` additions `error_len += …` are not modelled as checked: they are bounded by the string length.) -/
theorem lenient_error_len_ok (s : List Nat) (hv : validUtf8 s = true) :
    (∀ l, Strftime.parse_next_itemR l s = .ok (Strftime.parse_next_item l s)) ∧
    Strftime.itemsLenientR s = .ok (Strftime.itemsLenient s) ∧
    Strftime.itemsR s = .ok (Strftime.items s) ∧
    (∀ el ch, Strftime.errorR true s el ch = .ok (Strftime.error true s el ch) ↔
      (ch.getD 0 ≤ el ∧ el - ch.getD 0 ≤ s.length ∧ isCharBoundary s (el - ch.getD 0) = true)) :=
  ⟨fun l => StrftimeLenient.parse_next_itemR_ok l s hv, StrftimeLenient.itemsLenientR_ok s hv,
   StrftimeLenient.itemsR_ok s hv, fun el ch => StrftimeLenient.errorR_ok_iff s el ch⟩

open Chrono.M.Tz in
/-- non-vacuity: "%é", "%-é", "%:é", "%.3é", "%#é", "%" in lenient mode: the literal ends before the
offending character; the checks of `errorR` are real (underflow, index inside `é`, index past the end);
without `validUtf8` the lenient `error` does slice inside a character (`%:` + stray continuation byte) -/
example :
    Strftime.parse_next_itemR true [37, 195, 169] = .ok (some ([195, 169], .literal [37], [])) ∧
    Strftime.parse_next_itemR true [37, 45, 195, 169] = .ok (some ([195, 169], .literal [37, 45], [])) ∧
    Strftime.parse_next_itemR true [37, 58, 195, 169] = .ok (some ([195, 169], .literal [37, 58], [])) ∧
    Strftime.parse_next_itemR true [37, 46, 51, 195, 169] = .ok (some ([195, 169], .literal [37, 46, 51], [])) ∧
    Strftime.parse_next_itemR true [37, 35, 195, 169] = .ok (some ([195, 169], .literal [37, 35], [])) ∧
    Strftime.parse_next_itemR true [37] = .ok (some ([], .literal [37], [])) ∧
    Strftime.errorR true [37, 195, 169] 2 (some 3) = .panic ∧
    Strftime.errorR true [37, 195, 169] 2 none = .panic ∧
    Strftime.errorR true [37, 195, 169] 4 none = .panic ∧
    (validUtf8 [37, 58, 169] = false ∧ Strftime.parse_next_itemR true [37, 58, 169] = .panic) :=
  ⟨by decide, by decide, by decide, by decide, by decide, by decide, by decide, by decide, by decide, by decide⟩

open Chrono.M.Tz Chrono.Spec.Utf8 in
/-- **lenient_slices** (audit2/C15.md MEDIUM-3).  One `parse_next_item` call of
`StrftimeItems::new_lenient(fmt)` on a well-formed UTF-8 remainder: the new remainder starts after whole
characters (`&original[*error_len..]` included), the literal cut out (`&original[..*error_len]`, or a
text run) is well-formed UTF-8, and so are the queued literals. -/
theorem lenient_slices (s : List Nat) (hv : validUtf8 s = true) :
    ∀ r, Strftime.parse_next_item true s = some r →
      BoundarySuffix s r.1 ∧ (∀ lit, r.2.1 = .literal lit → validUtf8 lit = true) ∧
      ScanBoundary.ItemsUtf8 r.2.2 :=
  StrftimeLenient.lenient_slices s hv

open Chrono.M.Tz in
/-- **lenient_items_utf8.**  Every `Item::Literal` of `StrftimeItems::new_lenient(fmt)` is a `&str`. -/
theorem lenient_items_utf8 (s : List Nat) (hv : validUtf8 s = true) :
    ScanBoundary.ItemsUtf8 (Strftime.itemsLenient s) :=
  StrftimeLenient.lenient_items_utf8 s hv

open Chrono.M.Tz in
/-- non-vacuity: "%.3é%-é%" is well formed and lenient mode turns all three bad specifiers into literals -/
example : validUtf8 [37, 46, 51, 195, 169, 37, 45, 195, 169, 37] = true ∧
    Strftime.itemsLenient [37, 46, 51, 195, 169, 37, 45, 195, 169, 37] =
      [.literal [37, 46, 51], .literal [195, 169], .literal [37, 45], .literal [195, 169], .literal [37]] ∧
    Strftime.parse_next_item true [37, 45, 195, 169] = some ([195, 169], .literal [37, 45], []) :=
  ⟨by decide, by decide, by decide⟩

end Chrono.Props.C15
