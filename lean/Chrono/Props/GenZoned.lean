/-
  C02 / C03 / C04, code translation tie for `DateTime<Tz>` (src/datetime/mod.rs), read by
  tools/extractors/rust2lean.py at the two instantiations `Tz = Utc` (the offset is the unit value, `fix()` is
  `FixedOffset::east_opt(0).unwrap()`) and `Tz = FixedOffset` (`Tz::Offset = FixedOffset`, `fix()` and
  `from_offset` are the identity): the definitions regenerated from the Rust source text on every run equal the
  hand-written models (lean/Chrono/Model/DateTime.lean `NaiveDT.*timestamp*` / `Zoned.*`, Model/Timestamp.lean,
  TimestampMore.lean) for all arguments of the machine types.  `zU` maps the model's UTC reading to the generated
  `DateTime<Utc>` structure, `zF` a model `Zoned` to the generated `DateTime<FixedOffset>`.  Hypotheses: the
  packed date word is an `i32` (`DateOk` where the date arithmetic needs the ordinal ≥ 1), the `TimeDelta` fields
  an `i64` and an `i32`, the timestamp arguments `i64`s.
-/
import Chrono.Props.GenDateTime
import Chrono.Model.Timestamp
import Chrono.Model.TimestampMore

namespace Chrono.Props.GenZoned
open Chrono Chrono.M Chrono.Extracted Chrono.Proofs.GenL Chrono.Proofs.GenTimeL Chrono.Props.GenDateTime

/-- the generated `DateTime<Utc>` of a model UTC reading -/
abbrev zU (dt : NaiveDT) : Gen.datetime.DateTime_Utc := ⟨ndtG dt, ()⟩
/-- the generated `DateTime<FixedOffset>` of a model zone-aware value -/
abbrev zF (z : Zoned) : Gen.datetime.DateTime_FixedOffset := ⟨ndtG z.utc, z.off⟩

def I32 (x : Int) : Prop := -2147483648 ≤ x ∧ x ≤ 2147483647
def I64 (x : Int) : Prop := -9223372036854775808 ≤ x ∧ x ≤ 9223372036854775807

/-! ### constructors and plain accessors -/

theorem gen_and_utc_eq (dt : NaiveDT) : Gen.naive_datetime.NaiveDateTime.and_utc (ndtG dt) = zU dt := rfl
theorem gen_from_naive_utc_and_offset_eq (dt : NaiveDT) (off : Int) :
    Gen.datetime.DateTime_FixedOffset.from_naive_utc_and_offset (ndtG dt) off = zF ⟨dt, off⟩
    ∧ Gen.datetime.DateTime_Utc.from_naive_utc_and_offset (ndtG dt) () = zU dt := ⟨rfl, rfl⟩
theorem gen_naive_utc_eq (z : Zoned) :
    Gen.datetime.DateTime_FixedOffset.naive_utc (zF z) = ndtG (Ts.naive_utc z)
    ∧ Gen.datetime.DateTime_Utc.naive_utc (zU z.utc) = ndtG (Ts.naive_utc z) := ⟨rfl, rfl⟩
theorem gen_to_utc_eq (z : Zoned) :
    Gen.datetime.DateTime_FixedOffset.to_utc (zF z) = zU z.utc
    ∧ Gen.datetime.DateTime_Utc.to_utc (zU z.utc) = zU z.utc := ⟨rfl, rfl⟩
/-- `timezone()`: `TimeZone::from_offset(&self.offset)` — the stored offset for `FixedOffset`, the unit for `Utc` -/
theorem gen_timezone_eq (z : Zoned) :
    Gen.datetime.DateTime_FixedOffset.timezone (zF z) = z.off
    ∧ Gen.datetime.DateTime_Utc.timezone (zU z.utc) = () := ⟨rfl, rfl⟩
/-- `TimeZone::from_utc_datetime` (trait default body) read at `Self = FixedOffset` / `Self = Utc` -/
theorem gen_from_utc_datetime_eq (off : Int) (dt : NaiveDT) :
    Gen.offset.FixedOffset.TimeZone.from_utc_datetime off (ndtG dt) = zF (Zoned.from_utc_datetime off dt)
    ∧ Gen.offset.Utc.TimeZone.from_utc_datetime () (ndtG dt) = zU dt := ⟨rfl, rfl⟩
/-- `Offset::fix`: the identity on a `FixedOffset`; `FixedOffset::east_opt(0).unwrap()` for `Utc` -/
theorem gen_fix_eq (off : Int) :
    Gen.offset_fixed.FixedOffset.Offset.fix off = off ∧ Gen.offset_utc.Utc.Offset.fix () = .ok 0 := ⟨rfl, rfl⟩

/-! ### timestamps of the UTC reading (the offset does not enter) -/

theorem gen_timestamp_subsec_eq (z : Zoned) :
    Gen.datetime.DateTime_FixedOffset.timestamp_subsec_nanos (zF z) = Ts.ztimestamp_subsec_nanos z
    ∧ Gen.datetime.DateTime_FixedOffset.timestamp_subsec_micros (zF z) = Ts.ztimestamp_subsec_micros z
    ∧ Gen.datetime.DateTime_FixedOffset.timestamp_subsec_millis (zF z) = Ts.ztimestamp_subsec_millis z
    ∧ Gen.datetime.DateTime_Utc.timestamp_subsec_nanos (zU z.utc) = NaiveDT.timestamp_subsec_nanos z.utc
    ∧ Gen.datetime.DateTime_Utc.timestamp_subsec_micros (zU z.utc) = NaiveDT.timestamp_subsec_micros z.utc
    ∧ Gen.datetime.DateTime_Utc.timestamp_subsec_millis (zU z.utc) = NaiveDT.timestamp_subsec_millis z.utc :=
  ⟨rfl, rfl, rfl, rfl, rfl, rfl⟩

theorem gen_timestamp_utc_eq (dt : NaiveDT) (hd : I32 dt.date.yof) :
    Gen.datetime.DateTime_Utc.timestamp (zU dt) = NaiveDT.timestamp dt := by
  unfold Gen.datetime.DateTime_Utc.timestamp NaiveDT.timestamp Gen.naive_datetime.NaiveDateTime.date_fn
    Gen.naive_datetime.NaiveDateTime.time_fn
  dsimp only
  rw [GenDate.gen_num_days_from_ce_eq dt.date hd]
  rfl

theorem gen_timestamp_eq (z : Zoned) (hd : I32 z.utc.date.yof) :
    Gen.datetime.DateTime_FixedOffset.timestamp (zF z) = Ts.ztimestamp z := by
  unfold Gen.datetime.DateTime_FixedOffset.timestamp Ts.ztimestamp NaiveDT.timestamp
    Gen.naive_datetime.NaiveDateTime.date_fn Gen.naive_datetime.NaiveDateTime.time_fn
  dsimp only
  rw [GenDate.gen_num_days_from_ce_eq z.utc.date hd]
  rfl

theorem gen_timestamp_millis_utc_eq (dt : NaiveDT) (hd : I32 dt.date.yof) :
    Gen.datetime.DateTime_Utc.timestamp_millis (zU dt) = NaiveDT.timestamp_millis dt := by
  unfold Gen.datetime.DateTime_Utc.timestamp_millis NaiveDT.timestamp_millis
  rw [gen_timestamp_utc_eq dt hd]; rfl
theorem gen_timestamp_millis_eq (z : Zoned) (hd : I32 z.utc.date.yof) :
    Gen.datetime.DateTime_FixedOffset.timestamp_millis (zF z) = Ts.ztimestamp_millis z := by
  unfold Gen.datetime.DateTime_FixedOffset.timestamp_millis Ts.ztimestamp_millis NaiveDT.timestamp_millis
  rw [gen_timestamp_eq z hd]; rfl
theorem gen_timestamp_micros_utc_eq (dt : NaiveDT) (hd : I32 dt.date.yof) :
    Gen.datetime.DateTime_Utc.timestamp_micros (zU dt) = NaiveDT.timestamp_micros dt := by
  unfold Gen.datetime.DateTime_Utc.timestamp_micros NaiveDT.timestamp_micros
  rw [gen_timestamp_utc_eq dt hd]; rfl
theorem gen_timestamp_micros_eq (z : Zoned) (hd : I32 z.utc.date.yof) :
    Gen.datetime.DateTime_FixedOffset.timestamp_micros (zF z) = Ts.ztimestamp_micros z := by
  unfold Gen.datetime.DateTime_FixedOffset.timestamp_micros Ts.ztimestamp_micros NaiveDT.timestamp_micros
  rw [gen_timestamp_eq z hd]; rfl

/-- a timestamp is an `i64` (it went through `ckI64`) -/
theorem timestamp_range (dt : NaiveDT) (ts : Int) (h : NaiveDT.timestamp dt = .ok ts) : I64 ts := by
  unfold NaiveDT.timestamp at h
  obtain ⟨g, _, h⟩ := bind_eq_ok h
  obtain ⟨d, _, h⟩ := bind_eq_ok h
  obtain ⟨s, _, h⟩ := bind_eq_ok h
  exact ckI64_range h

/-- the 128-bit sum followed by the `i64` range test and the cast back is `optI64` of the exact sum -/
theorem nanos_tail (ts sub : Int) (hts : I64 ts) (hs : 0 ≤ sub ∧ sub ≤ 4294967295) :
    (Res.bind (GenRt.ckI128 (ts * 1000000000)) fun r2 =>
      Res.bind (GenRt.ckI128 (r2 + sub)) fun nanos =>
      if nanos < (-9223372036854775808) ∨ nanos > 9223372036854775807 then Res.ok none
      else Res.ok (some (asI64 nanos)))
    = .ok (optI64 (ts * 1000000000 + sub)) := by
  unfold I64 at hts
  rw [ckI128_ok (by omega)]
  simp only [bind_ok]
  rw [ckI128_ok (by omega)]
  simp only [bind_ok]
  rw [optI64_def]
  split
  · rw [if_neg (by omega)]
  · rw [if_pos (by omega)]
    have : asI64 (ts * 1000000000 + sub) = ts * 1000000000 + sub := by
      generalize ts * 1000000000 + sub = x at *
      unfold asI64; simp only; split <;> omega
    rw [this]

theorem gen_timestamp_nanos_opt_utc_eq (dt : NaiveDT) (hd : I32 dt.date.yof) (ht : U32Fields dt.time) :
    Gen.datetime.DateTime_Utc.timestamp_nanos_opt (zU dt) = NaiveDT.timestamp_nanos_opt dt := by
  unfold Gen.datetime.DateTime_Utc.timestamp_nanos_opt NaiveDT.timestamp_nanos_opt
  rw [gen_timestamp_utc_eq dt hd]
  cases hts : NaiveDT.timestamp dt with
  | panic => rfl
  | ok ts =>
    simp only [bind_ok]
    exact nanos_tail ts _ (timestamp_range dt ts hts) (by
      show 0 ≤ dt.time.frac ∧ dt.time.frac ≤ 4294967295
      unfold U32Fields at ht; omega)

theorem gen_timestamp_nanos_opt_eq (z : Zoned) (hd : I32 z.utc.date.yof) (ht : U32Fields z.utc.time) :
    Gen.datetime.DateTime_FixedOffset.timestamp_nanos_opt (zF z) = Ts.ztimestamp_nanos_opt z := by
  unfold Gen.datetime.DateTime_FixedOffset.timestamp_nanos_opt Ts.ztimestamp_nanos_opt NaiveDT.timestamp_nanos_opt
  rw [gen_timestamp_eq z hd]
  unfold Ts.ztimestamp
  cases hts : NaiveDT.timestamp z.utc with
  | panic => rfl
  | ok ts =>
    simp only [bind_ok]
    exact nanos_tail ts _ (timestamp_range z.utc ts hts) (by
      show 0 ≤ z.utc.time.frac ∧ z.utc.time.frac ≤ 4294967295
      unfold U32Fields at ht; omega)

/-! ### `DateTime::<Utc>::from_timestamp*` -/

theorem gen_from_timestamp_eq (secs nsecs : Int) :
    Gen.datetime.DateTime_Utc.from_timestamp secs nsecs
      = rmap (Option.map zU) (NaiveDT.from_timestamp secs nsecs) := by
  unfold Gen.datetime.DateTime_Utc.from_timestamp NaiveDT.from_timestamp
  have hE : UNIX_EPOCH_DAY = 719163 := rfl
  have hmin : I32_MIN = -2147483648 := rfl
  have hmax : I32_MAX = 2147483647 := rfl
  rw [hE, hmin, hmax]
  refine bind_congr_rmap fun days => ite_rmap Iff.rfl (fun _ => rfl) fun hc => ?_
  rw [Proofs.asI32_id (by omega) (by omega), Proofs.asU32_id (by omega) (by omega),
    GenTime.gen_from_num_seconds_from_midnight_opt_eq]
  refine bind_rmap (GenDate.gen_from_num_days_from_ce_opt_eq days (by omega)) fun od => ?_
  cases od with
  | none => rfl
  | some d => cases Time.from_num_seconds_from_midnight_opt (secs % 86400) nsecs <;> rfl

theorem gen_from_timestamp_millis_eq (ms : Int) :
    Gen.datetime.DateTime_Utc.from_timestamp_millis ms
      = rmap (Option.map zU) (NaiveDT.from_timestamp_millis ms) := by
  unfold Gen.datetime.DateTime_Utc.from_timestamp_millis NaiveDT.from_timestamp_millis
  dsimp only
  rw [Proofs.asU32_id (by omega) (by omega)]
  exact bind_congr_rmap fun ns => gen_from_timestamp_eq _ _

theorem gen_from_timestamp_micros_eq (us : Int) :
    Gen.datetime.DateTime_Utc.from_timestamp_micros us
      = rmap (Option.map zU) (NaiveDT.from_timestamp_micros us) := by
  unfold Gen.datetime.DateTime_Utc.from_timestamp_micros NaiveDT.from_timestamp_micros
  dsimp only
  rw [Proofs.asU32_id (by omega) (by omega)]
  exact bind_congr_rmap fun ns => gen_from_timestamp_eq _ _

theorem gen_from_timestamp_nanos_eq (ns : Int) :
    Gen.datetime.DateTime_Utc.from_timestamp_nanos ns = rmap zU (NaiveDT.from_timestamp_nanos ns) := by
  unfold Gen.datetime.DateTime_Utc.from_timestamp_nanos NaiveDT.from_timestamp_nanos
  dsimp only
  rw [Proofs.asU32_id (by omega) (by omega)]
  exact bind_rmap (gen_from_timestamp_eq _ _) fun o => by cases o <;> rfl

/-! ### the local reading -/

theorem gen_overflowing_naive_local_eq (z : Zoned) (hd : DateOk z.utc.date) (hol : z.utc.date.yof / 8 % 1024 ≤ 732) :
    Gen.datetime.DateTime_FixedOffset.overflowing_naive_local (zF z) = rmap ndtG (Zoned.overflowing_naive_local z) :=
  gen_overflowing_add_offset_eq z.utc z.off hd hol

/-- at `Tz = Utc` the offset added is `Utc.fix()` = `FixedOffset::east_opt(0).unwrap()` = 0 -/
theorem gen_overflowing_naive_local_utc_eq (dt : NaiveDT) (hd : DateOk dt.date) (hol : dt.date.yof / 8 % 1024 ≤ 732) :
    Gen.datetime.DateTime_Utc.overflowing_naive_local (zU dt) = rmap ndtG (Zoned.overflowing_naive_local ⟨dt, 0⟩) :=
  gen_overflowing_add_offset_eq dt 0 hd hol

theorem gen_naive_local_eq (z : Zoned) (hd : DateOk z.utc.date) (hol : z.utc.date.yof / 8 % 1024 ≤ 732) :
    Gen.datetime.DateTime_FixedOffset.naive_local (zF z) = rmap ndtG (Zoned.naive_local z) :=
  bind_rmap (gen_checked_add_offset_eq z.utc z.off hd hol) fun o => by cases o <;> rfl

theorem gen_naive_local_utc_eq (dt : NaiveDT) (hd : DateOk dt.date) (hol : dt.date.yof / 8 % 1024 ≤ 732) :
    Gen.datetime.DateTime_Utc.naive_local (zU dt) = rmap ndtG (Zoned.naive_local ⟨dt, 0⟩) := by
  show Res.bind (Gen.naive_datetime.NaiveDateTime.checked_add_offset (ndtG dt) 0) _ = _
  exact bind_rmap (gen_checked_add_offset_eq dt 0 hd hol) fun o => by cases o <;> rfl

/-! ### `checked_add_signed` / `checked_sub_signed`: the UTC reading moves, the zone is rebuilt from the offset -/

theorem gen_checked_add_signed_eq (z : Zoned) (rhs : Delta) (hd : DateOk z.utc.date) (hr : DFields rhs) :
    Gen.datetime.DateTime_FixedOffset.checked_add_signed (zF z) (dG rhs)
      = rmap (Option.map zF) (Zoned.checked_add_signed z rhs) :=
  bind_rmap (GenDateTime.gen_checked_add_signed_eq z.utc rhs hd hr) fun o => by cases o <;> rfl

theorem gen_checked_sub_signed_eq (z : Zoned) (rhs : Delta) (hd : DateOk z.utc.date) :
    Gen.datetime.DateTime_FixedOffset.checked_sub_signed (zF z) (dG rhs)
      = rmap (Option.map zF) (Zoned.checked_sub_signed z rhs) :=
  bind_rmap (GenDateTime.gen_checked_sub_signed_eq z.utc rhs hd) fun o => by cases o <;> rfl

theorem gen_checked_add_signed_utc_eq (dt : NaiveDT) (rhs : Delta) (hd : DateOk dt.date) (hr : DFields rhs) :
    Gen.datetime.DateTime_Utc.checked_add_signed (zU dt) (dG rhs)
      = rmap (Option.map fun z : Zoned => zU z.utc) (Zoned.checked_add_signed ⟨dt, 0⟩ rhs) :=
  bind_rmap (GenDateTime.gen_checked_add_signed_eq dt rhs hd hr) fun o => by cases o <;> rfl

theorem gen_checked_sub_signed_utc_eq (dt : NaiveDT) (rhs : Delta) (hd : DateOk dt.date) :
    Gen.datetime.DateTime_Utc.checked_sub_signed (zU dt) (dG rhs)
      = rmap (Option.map fun z : Zoned => zU z.utc) (Zoned.checked_sub_signed ⟨dt, 0⟩ rhs) :=
  bind_rmap (GenDateTime.gen_checked_sub_signed_eq dt rhs hd) fun o => by cases o <;> rfl

/-- non-trivial values: the epoch; 1 s and 5 ns after it (the count formed in 128 bits, fix 32de816); one second
after 2020-02-29T23:59:59.5 UTC kept at +01:00; its local reading -/
example : Gen.datetime.DateTime_Utc.from_timestamp 0 0 = .ok (some ⟨⟨16138266, ⟨0, 0⟩⟩, ()⟩)
    ∧ Gen.datetime.DateTime_Utc.timestamp ⟨⟨16138266, ⟨0, 0⟩⟩, ()⟩ = .ok 0
    ∧ Gen.datetime.DateTime_Utc.timestamp_nanos_opt ⟨⟨16138266, ⟨1, 5⟩⟩, ()⟩ = .ok (some 1000000005)
    ∧ Gen.datetime.DateTime_FixedOffset.checked_add_signed ⟨⟨16548801, ⟨86399, 500000000⟩⟩, 3600⟩ ⟨1, 0⟩
      = .ok (some ⟨⟨16548817, ⟨0, 500000000⟩⟩, 3600⟩)
    ∧ Gen.datetime.DateTime_FixedOffset.naive_local ⟨⟨16548801, ⟨86399, 0⟩⟩, 3600⟩
      = .ok ⟨16548817, ⟨3599, 0⟩⟩ := by decide +kernel

end Chrono.Props.GenZoned
