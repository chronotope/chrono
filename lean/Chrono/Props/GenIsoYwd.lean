/-
  C01, code translation tie, `NaiveDate::from_isoywd_opt` (src/naive/date/mod.rs): the definition that
  tools/extractors/rust2lean.py regenerates from the Rust source text on every run
  (`Chrono.Gen.naive_date.NaiveDate.from_isoywd_opt`, lean/Chrono/Extracted/Gen.lean) equals the hand-written model
  `Chrono.M.Date.from_isoywd_opt` (lean/Chrono/Model/Date.lean) for every `year : i32`, every `week : u32` and every
  `Weekday` (passed to the generated code as its discriminant, Monday = 0).  The checked `u32` arithmetic of the
  source (`week * 7 + weekday`, `weekord + ndays - delta`, `weekord - delta`, `ordinal - ndays`) never overflows
  or underflows once `1 ≤ week ≤ nisoweeks ≤ 53`; for other weeks both sides answer `None` before any arithmetic.
  A `NaiveDate` is its packed word (`Date.yof`); `rmap` maps a `Res` result, `Option.map` an `Option` result.
-/
import Chrono.Props.GenDate

namespace Chrono.Props.GenIsoYwd
open Chrono Chrono.M Chrono.Extracted Chrono.Proofs.GenL Chrono.Proofs.GenDateL Chrono.Props.GenDate

def I32 (x : Int) : Prop := -2147483648 ≤ x ∧ x ≤ 2147483647

/-! ### ranges of the year-flag views used by the arithmetic -/

theorem wd_toNat_le (wd : Weekday) : wd.toNat ≤ 6 := by cases wd <;> decide

theorem isoweek_delta_range (f : Nat) : 3 ≤ YearFlags.isoweek_delta f ∧ YearFlags.isoweek_delta f ≤ 9 := by
  unfold YearFlags.isoweek_delta
  simp only []
  split <;> omega

theorem ndays_range (f : Nat) (hf : f < 16) : 365 ≤ YearFlags.ndays f ∧ YearFlags.ndays f ≤ 366 := by
  unfold YearFlags.ndays; omega

/-! ### the two year-crossing tails -/

/-- the `weekord ≤ delta` branch: the date lies in the previous year -/
theorem prev_branch (year : Int) (weekord delta : Nat) (hw : weekord ≤ delta) (hd : delta ≤ 9) :
    (match optI32 (year - 1) with
      | some prevyear =>
        Res.bind (Gen.naive_internals.YearFlags.from_year prevyear) fun prevflags =>
        Res.bind (Gen.naive_internals.YearFlags.ndays prevflags) fun r2 =>
        Res.bind (ckU32 ((weekord : Int) + r2)) fun r3 =>
        Res.bind (ckU32 (r3 - (delta : Int))) fun r4 =>
        Gen.naive_date.NaiveDate.from_ordinal_and_flags prevyear r4 prevflags
      | none => .ok none)
    = rmap (Option.map Date.yof)
      (match optI32 (year - 1) with
        | none => .ok none
        | some py =>
          Date.from_ordinal_and_flags py (weekord + YearFlags.ndays (YearFlags.from_year py) - delta)
            (YearFlags.from_year py)) := by
  cases optI32 (year - 1) with
  | none => rfl
  | some py =>
    simp only []
    have hF := from_year_lt py
    have hD := ndays_range _ hF
    rw [gen_from_year_eq, bind_ok, gen_ndays_eq _ (by omega), bind_ok, ckU32_ok (by omega), bind_ok,
      ckU32_ok (by omega), bind_ok]
    have e : (weekord : Int) + (YearFlags.ndays (YearFlags.from_year py) : Nat) - (delta : Int)
        = ((weekord + YearFlags.ndays (YearFlags.from_year py) - delta : Nat) : Int) := by omega
    rw [e]
    exact gen_from_ordinal_and_flags_eq py _ _ (by omega)

/-- the `ordinal > ndays` branch: the date lies in the next year -/
theorem next_branch (year : Int) (ordinal ndays : Nat) (h : ndays < ordinal) (ho : ordinal ≤ 4294967295) :
    (match optI32 (year + 1) with
      | some nextyear =>
        Res.bind (Gen.naive_internals.YearFlags.from_year nextyear) fun nextflags =>
        Res.bind (ckU32 ((ordinal : Int) - (ndays : Int))) fun r7 =>
        Gen.naive_date.NaiveDate.from_ordinal_and_flags nextyear r7 nextflags
      | none => .ok none)
    = rmap (Option.map Date.yof)
      (match optI32 (year + 1) with
        | none => .ok none
        | some ny => Date.from_ordinal_and_flags ny (ordinal - ndays) (YearFlags.from_year ny)) := by
  cases optI32 (year + 1) with
  | none => rfl
  | some ny =>
    simp only []
    rw [gen_from_year_eq, bind_ok, ckU32_ok (by omega), bind_ok]
    have e : (ordinal : Int) - (ndays : Int) = ((ordinal - ndays : Nat) : Int) := by omega
    rw [e]
    exact gen_from_ordinal_and_flags_eq ny _ _ (by omega)

/-! ### the tie -/

/-- `from_isoywd_opt`, for every `Int` year and every `Nat` week: neither range hypothesis is needed, because the
`i32` steps `year ± 1` are the same `optI32` on both sides and a week above `nisoweeks ≤ 53` is refused before any
`u32` arithmetic. -/
theorem gen_from_isoywd_opt_eq_unbounded (year : Int) (week : Nat) (wd : Weekday) :
    Gen.naive_date.NaiveDate.from_isoywd_opt year week (wd.toNat : Nat)
      = rmap (Option.map Date.yof) (Date.from_isoywd_opt year week wd) := by
  unfold Gen.naive_date.NaiveDate.from_isoywd_opt Date.from_isoywd_opt
  have hF := from_year_lt year
  have hN := nisoweeks_range _ hF
  have hD := isoweek_delta_range (YearFlags.from_year year)
  have hY := ndays_range _ hF
  have hW := wd_toNat_le wd
  rw [gen_from_year_eq, bind_ok, gen_nisoweeks_eq _ (by omega), bind_ok]
  simp only []
  refine ite_rmap (by omega) (fun _ => rfl) fun h0 => ?_
  rw [ckU32_ok (by omega), bind_ok, ckU32_ok (by omega), bind_ok, gen_isoweek_delta_eq _ (by omega), bind_ok]
  have ew : (week : Int) * 7 + (wd.toNat : Nat) = ((week * 7 + wd.toNat : Nat) : Int) := by omega
  rw [ew]
  refine ite_rmap (by omega) (fun h1 => prev_branch year _ _ (by omega) hD.2) fun h1 => ?_
  rw [ckU32_ok (by omega), bind_ok, gen_ndays_eq _ (by omega), bind_ok]
  have eo : ((week * 7 + wd.toNat : Nat) : Int) - (YearFlags.isoweek_delta (YearFlags.from_year year) : Nat)
      = ((week * 7 + wd.toNat - YearFlags.isoweek_delta (YearFlags.from_year year) : Nat) : Int) := by omega
  rw [eo]
  refine ite_rmap (by omega) (fun h2 => ?_) fun h2 => ?_
  · exact gen_from_ordinal_and_flags_eq year _ _ (by omega)
  · exact next_branch year _ _ (by omega) (by omega)

/-- `NaiveDate::from_isoywd_opt(year: i32, week: u32, weekday: Weekday)`: generated code = model, for all
arguments of the machine types (the two range hypotheses are the argument types; the proof does not use them, see
`gen_from_isoywd_opt_eq_unbounded`). -/
theorem gen_from_isoywd_opt_eq (year : Int) (week : Nat) (wd : Weekday) (_hy : I32 year)
    (_hw : (week : Int) ≤ 4294967295) :
    Gen.naive_date.NaiveDate.from_isoywd_opt year week (wd.toNat : Nat)
      = rmap (Option.map Date.yof) (Date.from_isoywd_opt year week wd) :=
  gen_from_isoywd_opt_eq_unbounded year week wd

/-! ### non-vacuity: the hypotheses are satisfiable and every branch of the source is reached with a date -/

/-- the tie instantiated at in-range arguments -/
example : Gen.naive_date.NaiveDate.from_isoywd_opt 2020 53 3
    = rmap (Option.map Date.yof) (Date.from_isoywd_opt 2020 53 .thu) :=
  gen_from_isoywd_opt_eq 2020 53 .thu (by unfold I32; omega) (by omega)

/-- same-year branch: 2020-W53-4 is 2020-12-31 (ordinal 366, year flags 0b0001) -/
example : Gen.naive_date.NaiveDate.from_isoywd_opt 2020 53 3 = .ok (some (2020 * 8192 + 366 * 16 + 1))
    ∧ Date.from_isoywd_opt 2020 53 .thu = .ok (some ⟨2020 * 8192 + 366 * 16 + 1⟩) := by decide +kernel

/-- `weekord ≤ delta` (previous-year branch): 2020-W01-1 is 2019-12-30 (ordinal 364) -/
example : Gen.naive_date.NaiveDate.from_isoywd_opt 2020 1 0 = .ok (some 16545487)
    ∧ Date.from_isoywd_opt 2020 1 .mon = .ok (some ⟨16545487⟩)
    ∧ (16545487 : Int) / 8192 = 2019 ∧ (16545487 : Int) / 16 % 512 = 364 := by decide +kernel

/-- `ordinal > ndays` (next-year branch): 2020-W53-7 is 2021-01-03 (ordinal 3) -/
example : Gen.naive_date.NaiveDate.from_isoywd_opt 2020 53 6 = .ok (some 16556091)
    ∧ Date.from_isoywd_opt 2020 53 .sun = .ok (some ⟨16556091⟩)
    ∧ (16556091 : Int) / 8192 = 2021 ∧ (16556091 : Int) / 16 % 512 = 3 := by decide +kernel

/-- the edges of the date range: the last ISO week of `MAX_YEAR` exists, the first ISO week of `MAX_YEAR + 1` starts
in `MAX_YEAR` (previous-year branch), the first ISO week of `MIN_YEAR` would start in `MIN_YEAR - 1`, a week number
above `nisoweeks` and week 0 are refused, and at `i32::MAX` / `i32::MIN` both sides answer `None` without a panic -/
example : Gen.naive_date.NaiveDate.from_isoywd_opt 262142 52 6 = .ok (some 2147473102)
    ∧ Date.from_isoywd_opt 262142 52 .sun = .ok (some ⟨2147473102⟩)
    ∧ Gen.naive_date.NaiveDate.from_isoywd_opt 262143 1 0 = .ok (some 2147473118)
    ∧ Date.from_isoywd_opt 262143 1 .mon = .ok (some ⟨2147473118⟩)
    ∧ Gen.naive_date.NaiveDate.from_isoywd_opt (-262143) 1 0 = .ok none
    ∧ Date.from_isoywd_opt (-262143) 1 .mon = .ok none
    ∧ Gen.naive_date.NaiveDate.from_isoywd_opt 2021 53 0 = .ok none
    ∧ Date.from_isoywd_opt 2021 53 .mon = .ok none
    ∧ Gen.naive_date.NaiveDate.from_isoywd_opt 2021 0 0 = .ok none
    ∧ Gen.naive_date.NaiveDate.from_isoywd_opt 2021 4294967295 6 = .ok none
    ∧ Date.from_isoywd_opt 2021 4294967295 .sun = .ok none
    ∧ Gen.naive_date.NaiveDate.from_isoywd_opt 2147483647 52 6 = .ok none
    ∧ Date.from_isoywd_opt 2147483647 52 .sun = .ok none
    ∧ Gen.naive_date.NaiveDate.from_isoywd_opt (-2147483648) 1 0 = .ok none
    ∧ Date.from_isoywd_opt (-2147483648) 1 .mon = .ok none := by decide +kernel

end Chrono.Props.GenIsoYwd
