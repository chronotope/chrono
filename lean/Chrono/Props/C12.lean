/-
  C12 — every strftime specifier renders the documented field.

  Property theorems.  Models: Model/Strftime.lean (`StrftimeItems`), Model/Format.lean
  (`DelayedFormat::write_to` …).  Specification: Spec/StrftimeSpec.lean (`renderNumeric`,
  `renderFixed`, `renderOffset`: the documentation table over the independent calendar of
  Spec/Calendar.lean; numerals are core's `Nat.toDigits 10`).  Lemmas: Proofs/FormatL.lean,
  Proofs/FormatIsoL.lean (ISO week), Proofs/StrftimeL.lean (the format-string iterator), Proofs/StrftimeDocL.lean and
  StrftimeHeadroomL.lean (items on any date the calendar can show), StrftimeAppendL / NoRfcL / TextL (format strings).
  `%+`/RFC 3339 and the RFC 2822 item are proved equal to their expansions into the specifiers above
  (`rfc3339_item_is_expansion`, `rfc2822_item_text`; Proofs/FormatRfcL.lean).  A date is `dateOfYo y o` (the `o`-th day of year `y`) as in C01, a time any
  `TValid` value (leap-second representation allowed on any second), an offset any `|off| < 86400`.

  `wok text` = the text was written; `werr` = `Err(fmt::Error)`.
-/
import Chrono.Proofs.FormatL
import Chrono.Proofs.StrftimeL
import Chrono.Proofs.FormatIsoL
import Chrono.Proofs.FormatRfcL
import Chrono.Extracted.SpecTable
import Chrono.Extracted.DocTable
import Chrono.Proofs.StrftimeDocL
import Chrono.Proofs.StrftimeAppendL
import Chrono.Proofs.StrftimeNoRfcL
import Chrono.Proofs.StrftimeTextL
import Chrono.Proofs.StrftimeHeadroomL
import Chrono.Proofs.ZonedDateL
import Chrono.Model.ParseFrom
import Chrono.Model.FormatUtc

namespace Chrono.Props.C12
open Chrono Chrono.M Chrono.M.Format Chrono.M.Strftime Chrono.Spec Chrono.Spec.Strftime Chrono.Extracted
open Chrono.Proofs Chrono.Spec.StrftimeDoc Chrono.M.ParseFrom

/-! ### the specifier table is the one in the source -/

/-- the model's letter → item table, `z` arm, padding modifiers and composite slices are exactly what
the translator reads from strftime.rs on this run (every byte value, so also: no other letter has an
arm) -/
theorem spec_table_ok :
    (∀ c < 256, specTable c = match SPEC_TABLE.lookup c with | some (it :: q) => some (it, q) | _ => none) ∧
    SPEC_Z = [(true, zItem true), (false, zItem false)] ∧
    SPEC_COLON = [([58, 58, 122], fixed .timezoneOffsetTripleColon), ([58, 122], fixed .timezoneOffsetDoubleColon),
                  ([122], fixed .timezoneOffsetColon)] ∧
    SPEC_DOT = [(51, fixed .nanosecond3), (54, fixed .nanosecond6), (57, fixed .nanosecond9), (102, fixed .nanosecond)] ∧
    SPEC_FRAC = [(51, fixed .nanosecond3NoDot), (54, fixed .nanosecond6NoDot), (57, fixed .nanosecond9NoDot)] ∧
    (∀ c < 256, padOf c = SPEC_PAD.lookup c) ∧ SPEC_ALTERNATES = [122] ∧
    SPEC_SLICES.map (·.2) = [D_FMT, D_T_FMT, T_FMT, T_FMT_AMPM] :=
  ⟨by decide +kernel, rfl, rfl, rfl, rfl, by decide +kernel, rfl, rfl⟩

/-- every specifier of the documentation table is accepted (no `Item::Error`), and the padding
modifiers `-`, `0`, `_` in front of a numeric specifier replace its padding and nothing else -/
theorem documented_accepted :
    (∀ s ∈ documented, Item.error ∉ items (37 :: str s)) ∧
    (∀ c < 256, ∀ n p, items [37, c] = [Item.numeric n p] →
      items [37, 45, c] = [Item.numeric n .none] ∧ items [37, 48, c] = [Item.numeric n .zero] ∧
      items [37, 95, c] = [Item.numeric n .space]) := by
  refine ⟨by decide +kernel, fun c hc n p h => ?_⟩
  -- one evaluation of the four format strings per byte value
  have key : ∀ c < 256,
      (match items [37, c] with
       | [Item.numeric n _] =>
         decide (items [37, 45, c] = [Item.numeric n .none] ∧ items [37, 48, c] = [Item.numeric n .zero] ∧
           items [37, 95, c] = [Item.numeric n .space])
       | _ => true) = true := by decide +kernel
  have k := key c hc
  rw [h] at k
  exact of_decide_eq_true k

/-! ### numeric specifiers -/

/-- `%Y %C %y %q %m %d %w %u %j` (with any padding modifier) show the documented calendar field of
every date: sign and width rule of `%Y`, floor division for `%C`, `%y` for years ≥ 0.  The `as u8`
narrowings lose nothing because month ≤ 12, day ≤ 31, … (C01). -/
theorem numeric_ok_calendar (y : Int) (o : Nat) (hy : MIN_YEAR ≤ y ∧ y ≤ MAX_YEAR) (ho : 1 ≤ o ∧ o ≤ yearLen y)
    (t : Option Time) (off : Option Int) (tt : Time) (oo : Int) (pad : Pad) (n : Numeric)
    (hn : n ∈ [Numeric.year, .yearDiv100, .yearMod100, .quarter, .month, .day, .numDaysFromSun,
               .weekdayFromMon, .ordinal])
    (_hy0 : n = .yearMod100 → 0 ≤ y) :
    format_numeric (some (dateOfYo y o)) t off n pad = wok (renderNumeric n pad y o tt oo) :=
  StrftimeHeadroom.numeric_date y o hy ho n (by clear _hy0; revert n; decide) pad t off tt oo

/-- `NaiveDate::weeks_from`: the number of `day`-weekdays among the days 1..o of the year (so week 0
is the days before the first one) -/
theorem weeks_from_spec (y : Int) (o : Nat) (hy : MIN_YEAR ≤ y ∧ y ≤ MAX_YEAR) (ho : 1 ≤ o ∧ o ≤ yearLen y)
    (day : Weekday) : weeks_from (dateOfYo y o) day = (countStarts y o day.toNat : Int) :=
  FormatL.weeks_from_closed y o hy ho day

/-- `%U %W` -/
theorem numeric_ok_weeks (y : Int) (o : Nat) (hy : MIN_YEAR ≤ y ∧ y ≤ MAX_YEAR) (ho : 1 ≤ o ∧ o ≤ yearLen y)
    (t : Option Time) (off : Option Int) (tt : Time) (oo : Int) (pad : Pad) (n : Numeric)
    (hn : n ∈ [Numeric.weekFromSun, .weekFromMon]) :
    format_numeric (some (dateOfYo y o)) t off n pad = wok (renderNumeric n pad y o tt oo) :=
  StrftimeHeadroom.numeric_date y o hy ho n (by revert n; decide) pad t off tt oo

/-- `NaiveDate::iso_week` (flag-bit arithmetic on the packed word) is the ISO 8601 week date: the
year and the week number of the Thursday of the date's Monday-based week; never panics -/
theorem iso_week_spec (y : Int) (o : Nat) (hy : MIN_YEAR ≤ y ∧ y ≤ MAX_YEAR) (ho : 1 ≤ o ∧ o ≤ yearLen y) :
    ∃ ywf, (dateOfYo y o).iso_week = .ok ywf ∧ IsoWeek.year ywf = isoYear y o ∧
      IsoWeek.week ywf = isoWeek y o :=
  FormatIsoL.iso_week_spec y o hy ho

/-- `%G %g %V` (and the ISO century item): `%g` for ISO years ≥ 0 -/
theorem numeric_ok_iso (y : Int) (o : Nat) (hy : MIN_YEAR ≤ y ∧ y ≤ MAX_YEAR) (ho : 1 ≤ o ∧ o ≤ yearLen y)
    (t : Option Time) (off : Option Int) (tt : Time) (oo : Int) (pad : Pad) (n : Numeric)
    (hn : n ∈ [Numeric.isoYear, .isoYearDiv100, .isoYearMod100, .isoWeek])
    (_hy0 : n = .isoYearMod100 → 0 ≤ isoYear y o) :
    format_numeric (some (dateOfYo y o)) t off n pad = wok (renderNumeric n pad y o tt oo) :=
  StrftimeHeadroom.numeric_date y o hy ho n (by clear _hy0; revert n; decide) pad t off tt oo

/-- `%H %k %I %l %M %S %f`: 12-hour clock 12,1,…,11; second 60 for a leap second; nanoseconds since
the last whole second -/
theorem numeric_ok_clock (t : Time) (ht : TValid t) (d : Option Date) (off : Option Int) (y : Int) (o : Nat)
    (oo : Int) (pad : Pad) (n : Numeric) (hn : n ∈ [Numeric.hour, .hour12, .minute, .second, .nanosecond]) :
    format_numeric d (some t) off n pad = wok (renderNumeric n pad y o t oo) :=
  FormatL.numeric_clock t ht d off y o oo pad n hn

/-- `%s`: seconds since 1970-01-01T00:00 UTC of the local date and time at the given offset (UTC if
the value has no offset); no intermediate `i64` overflow -/
theorem numeric_ok_timestamp (y : Int) (o : Nat) (hy : MIN_YEAR ≤ y ∧ y ≤ MAX_YEAR) (ho : 1 ≤ o ∧ o ≤ yearLen y)
    (t : Time) (ht : TValid t) (off : Option Int) (hoff : ∀ v, off = some v → -86400 < v ∧ v < 86400) (pad : Pad) :
    format_numeric (some (dateOfYo y o)) (some t) off .timestamp pad =
      wok (renderNumeric .timestamp pad y o t (off.getD 0)) :=
  have hd := StrftimeHeadroom.dateOk_range y o hy ho
  FormatL.timestamp_of_days _ _ hd.ndays hd.bound t ht off hoff pad

/-- **every numeric item, every padding, every value**: a zone-aware date-time (any date of the
range, any time incl. leap seconds, any offset) formatted with any of the 21 numeric items and any
padding modifier gives exactly the documented text (`%y`/`%g` stated for years ≥ 0 as in the
property) — the five families above in one statement -/
theorem numeric_ok (y : Int) (o : Nat) (hy : MIN_YEAR ≤ y ∧ y ≤ MAX_YEAR) (ho : 1 ≤ o ∧ o ≤ yearLen y)
    (t : Time) (ht : TValid t) (off : Option Int) (hoff : ∀ v, off = some v → -86400 < v ∧ v < 86400)
    (n : Numeric) (pad : Pad) (_h1 : n = .yearMod100 → 0 ≤ y) (_h2 : n = .isoYearMod100 → 0 ≤ isoYear y o) :
    format_numeric (some (dateOfYo y o)) (some t) off n pad = wok (renderNumeric n pad y o t (off.getD 0)) := by
  have hd := StrftimeHeadroom.dateOk_range y o hy ho
  cases n
  case timestamp => exact FormatL.timestamp_of_days _ _ hd.ndays hd.bound t ht off hoff pad
  case hour | hour12 | minute | second | nanosecond => exact FormatL.numeric_clock t ht _ off y o _ pad _ (by decide)
  all_goals exact hd.num _ (by decide) pad _ off t _

/-! ### fixed specifiers -/

/-- `%b %h %B %a %A`, `%P %p`, `%.f %.3f %.6f %.9f %3f %6f %9f` -/
theorem fixed_ok :
    (∀ (y : Int) (o : Nat), MIN_YEAR ≤ y ∧ y ≤ MAX_YEAR → 1 ≤ o ∧ o ≤ yearLen y →
      ∀ (t : Option Time) (off : Option (List Nat × Int)) (tt : Time) (oo : Int) (f : Fixed),
      f ∈ [Fixed.shortMonthName, .longMonthName, .shortWeekdayName, .longWeekdayName] →
      some (format_fixed (some (dateOfYo y o)) t off f) = (renderFixed f y o tt oo).map wok) ∧
    (∀ (t : Time), TValid t → ∀ (d : Option Date) (off : Option (List Nat × Int)) (y : Int) (o : Nat) (oo : Int)
      (f : Fixed),
      f ∈ [Fixed.lowerAmPm, .upperAmPm, .nanosecond, .nanosecond3, .nanosecond6, .nanosecond9,
           .nanosecond3NoDot, .nanosecond6NoDot, .nanosecond9NoDot] →
      some (format_fixed d (some t) off f) = (renderFixed f y o t oo).map wok) :=
  ⟨fun y o hy ho t off tt oo f hf => FormatL.fixed_names y o hy ho f hf t off tt oo,
   fun t ht d off y o oo f hf => FormatL.fixed_clock t ht d off y o oo f hf⟩

/-- `%z %:z %::z %:::z` (and the `Z`-for-zero variants used by RFC 3339 output) for every offset a
`FixedOffset` can hold, including offsets with seconds: `%z`/`%:z` round to the nearest minute (ties
away from zero), `%::z` shows the seconds, `%:::z` truncates to the hour -/
theorem offset_ok (off : Int) (h : -86400 < off ∧ off < 86400) (d : Option Date) (t : Option Time) (name : List Nat)
    (y : Int) (o : Nat) (tt : Time) (f : Fixed)
    (hf : f ∈ [Fixed.timezoneOffset, .timezoneOffsetColon, .timezoneOffsetDoubleColon, .timezoneOffsetTripleColon,
               .timezoneOffsetZ, .timezoneOffsetColonZ]) :
    some (format_fixed d t (some (name, off)) f) = (renderFixed f y o tt off).map wok :=
  FormatL.offset_ok off h d t name y o tt f hf

/-- `%Z` prints the zone's name as given -/
theorem zone_name_ok (d : Option Date) (t : Option Time) (name : List Nat) (off : Int) :
    format_fixed d t (some (name, off)) .timezoneName = wok name := by
  cases d <;> cases t <;> rfl

/-! ### composite specifiers, literals, failure -/

/-- every composite specifier yields the same items as its documented expansion, hence the same
text (or the same failure) for every value -/
theorem composite_eq_expansion :
    (∀ e ∈ expansions, items (str e.1) = items (str e.2)) ∧
    (∀ e ∈ expansions, ∀ d t off, formatItems d t off (items (str e.1)) = formatItems d t off (items (str e.2))) := by
  have h : ∀ e ∈ expansions, items (str e.1) = items (str e.2) := by decide +kernel
  exact ⟨h, fun e he d t off => by rw [h e he]⟩

/-- `%t %n %%` are a tab, a newline and a percent sign -/
theorem special_specifiers (d : Option Date) (t : Option Time) (off : Option (List Nat × Int)) :
    formatItems d t off (items [37, 116]) = some [9] ∧ formatItems d t off (items [37, 110]) = some [10] ∧
    formatItems d t off (items [37, 37]) = some [37] := by
  refine ⟨?_, ?_, ?_⟩ <;> rfl

/-- literal text (anything without `%`: any Unicode, any white space) is copied unchanged, in strict
and in lenient mode, whatever the value is -/
theorem literal_copied (s : List Nat) (hs : ∀ b ∈ s, b ≠ 37) (d : Option Date) (t : Option Time)
    (off : Option (List Nat × Int)) :
    formatItems d t off (items s) = some s ∧ formatItems d t off (itemsLenient s) = some s := by
  unfold formatItems itemsLenient
  rw [FormatL.items_literal s hs, FormatL.literal_copied_aux true d t off _ s (by omega) hs]
  exact ⟨rfl, rfl⟩

/-- an unknown specifier or a field the value does not have makes formatting fail:
(1) a letter without an arm (and a bare modifier) is `Item::Error` in strict mode;
(2) a list containing `Item::Error` is never formatted;
(3) date specifiers fail without a date, clock specifiers without a time, offset specifiers without
an offset, `%s`/`%+` without any of the views they need -/
theorem unknown_or_missing_fails :
    (∀ c < 256, specTable c = none → c ≠ 122 → items [37, c] = [Item.error]) ∧
    (∀ d t off (is : List Item), Item.error ∈ is → formatItems d t off is = none) ∧
    (∀ t off n pad, n ∉ [Numeric.hour, .hour12, .minute, .second, .nanosecond] →
      format_numeric none t off n pad = werr) ∧
    (∀ d off n pad, n ∈ [Numeric.hour, .hour12, .minute, .second, .nanosecond, .timestamp] →
      format_numeric d none off n pad = werr) ∧
    (∀ t off f, f ∈ [Fixed.shortMonthName, .longMonthName, .shortWeekdayName, .longWeekdayName, .rfc2822, .rfc3339] →
      format_fixed none t off f = werr) ∧
    (∀ d off f, f ∈ [Fixed.lowerAmPm, .upperAmPm, .nanosecond, .nanosecond3, .nanosecond6, .nanosecond9,
        .nanosecond3NoDot, .nanosecond6NoDot, .nanosecond9NoDot, .rfc2822, .rfc3339] →
      format_fixed d none off f = werr) ∧
    (∀ d t f, f ∈ [Fixed.timezoneName, .timezoneOffset, .timezoneOffsetColon, .timezoneOffsetDoubleColon,
        .timezoneOffsetTripleColon, .timezoneOffsetZ, .timezoneOffsetColonZ, .rfc2822, .rfc3339] →
      format_fixed d t none f = werr) ∧
    (∀ d t off, format_fixed d t off .timezoneOffsetPermissive = werr) := by
  refine ⟨fun c _ hs hz => ?_, fun d t off is h => FormatL.formatItems_error d t off is h, ?_, ?_, ?_, ?_, ?_, ?_⟩
  · -- the bytes with an arm of their own in `parse_next_item` are evaluated; every other one is an unknown letter
    by_cases hm : c ∈ [45, 48, 95, 35, 58, 46, 51, 54, 57]
    · exact (by decide +kernel : ∀ c ∈ [45, 48, 95, 35, 58, 46, 51, 54, 57], items [37, c] = [Item.error]) c hm
    · refine StrftimeAppend.unknown_letter c [] hs ?_
      simp only [List.mem_cons, List.mem_nil_iff, or_false, not_or] at hm ⊢
      omega
  · intro t off n pad hn
    cases n <;> first | rfl | (exfalso; apply hn; decide)
  · intro d off n pad hn
    simp only [List.mem_cons, List.mem_nil_iff, or_false] at hn
    rcases hn with rfl | rfl | rfl | rfl | rfl | rfl <;> cases d <;> rfl
  · intro t off f hf
    simp only [List.mem_cons, List.mem_nil_iff, or_false] at hf
    rcases hf with rfl | rfl | rfl | rfl | rfl | rfl <;> rfl
  · intro d off f hf
    simp only [List.mem_cons, List.mem_nil_iff, or_false] at hf
    rcases hf with rfl | rfl | rfl | rfl | rfl | rfl | rfl | rfl | rfl | rfl | rfl <;> cases d <;> rfl
  · intro d t f hf
    simp only [List.mem_cons, List.mem_nil_iff, or_false] at hf
    rcases hf with rfl | rfl | rfl | rfl | rfl | rfl | rfl | rfl | rfl <;> cases d <;> cases t <;> rfl
  · intro d t off
    cases d <;> cases t <;> cases off <;> rfl

/-! ### the two composite fixed items: `%+` (RFC 3339) and RFC 2822 -/

/-- **`%+` is its documented expansion `%Y-%m-%dT%H:%M:%S%.f%:z`**, for EVERY zone-aware value: any
date of the range (negative and five/six-digit years: both print a sign and at least four digits),
any time incl. the leap-second representation (`:60`, fraction taken modulo one second), and ANY
offset incl. offsets with seconds (both round to the nearest minute).  Same bytes, same `Err`, same
panic (`formatItemsR` keeps the three apart; `formatItems` is the `Option` the harness observes).
No exception was found: the two year writers (`{:+05}` outside 0..=9999 versus `write_n(4, …,
always_sign)`), the two fraction selectors and the two offset formats coincide everywhere. -/
theorem rfc3339_item_is_expansion (y : Int) (o : Nat) (hy : MIN_YEAR ≤ y ∧ y ≤ MAX_YEAR)
    (ho : 1 ≤ o ∧ o ≤ yearLen y) (t : Time) (ht : TValid t) (name : List Nat) (off : Int) :
    items (str "%+") = [.fixed .rfc3339] ∧
    formatItemsR (some (dateOfYo y o)) (some t) (some (name, off)) (items (str "%+")) =
      formatItemsR (some (dateOfYo y o)) (some t) (some (name, off)) (items (str "%Y-%m-%dT%H:%M:%S%.f%:z")) ∧
    formatItems (some (dateOfYo y o)) (some t) (some (name, off)) (items (str "%+")) =
      formatItems (some (dateOfYo y o)) (some t) (some (name, off)) (items (str "%Y-%m-%dT%H:%M:%S%.f%:z")) := by
  obtain ⟨_, _, _, hm, hd, hv, _, _, _⟩ := Props.C01.accessors_ok y o hy ho
  have hb := Proofs.valid_bounds y _ _ hv
  have h := FormatRfc.rfc3339_expansion (dateOfYo y o) t name off _ _ hm hd (by omega) (by omega) ht
  rw [FormatRfc.items_fin.1, FormatRfc.items_fin.2.1]
  refine ⟨rfl, h, ?_⟩
  unfold formatItems
  rw [h]

/-- **the RFC 2822 item** (`Fixed::RFC2822`, what `to_rfc2822` writes) is the text of
`%a, %-d %b %Y %H:%M:%S %z` — day of month WITHOUT padding, four-digit year, seconds `60` on a leap
second, offset `±hhmm` rounded to the minute — exactly on years 0..=9999; on every other year it is
`Err(fmt::Error)` while the expansion would still print -/
theorem rfc2822_item_text (y : Int) (o : Nat) (hy : MIN_YEAR ≤ y ∧ y ≤ MAX_YEAR)
    (ho : 1 ≤ o ∧ o ≤ yearLen y) (t : Time) (ht : TValid t) (name : List Nat) (off : Int) :
    (0 ≤ y ∧ y ≤ 9999 →
      formatItemsR (some (dateOfYo y o)) (some t) (some (name, off)) [.fixed .rfc2822] =
        formatItemsR (some (dateOfYo y o)) (some t) (some (name, off)) (items (str "%a, %-d %b %Y %H:%M:%S %z")) ∧
      formatItems (some (dateOfYo y o)) (some t) (some (name, off)) [.fixed .rfc2822] =
        formatItems (some (dateOfYo y o)) (some t) (some (name, off)) (items (str "%a, %-d %b %Y %H:%M:%S %z"))) ∧
    (¬ (0 ≤ y ∧ y ≤ 9999) →
      formatItems (some (dateOfYo y o)) (some t) (some (name, off)) [.fixed .rfc2822] = none) := by
  obtain ⟨hyr, _, _, hm, hd, hv, _, _, _⟩ := Props.C01.accessors_ok y o hy ho
  have hb := Proofs.valid_bounds y _ _ hv
  constructor
  · intro h09
    have h := FormatRfc.rfc2822_expansion (dateOfYo y o) t name off _ _ hm hd (by omega) ht (by rw [hyr]; exact h09)
    rw [FormatRfc.items_fin.2.2]
    refine ⟨h, ?_⟩
    unfold formatItems
    rw [h]
  · intro h09
    unfold formatItems
    rw [FormatRfc.rfc2822_out_of_range (dateOfYo y o) t name off (by rw [hyr]; exact h09)]
    rfl

/-- non-vacuity (kernel evaluation; the three texts are what the crate itself prints for these values):
year 12345 with a leap second and a half-hour offset; year −5 with an offset that rounds to 24:00
(RFC 2822 refuses the year); the documentation's leap-second example in RFC 2822 form -/
example :
    let t : Time := ⟨2099, 1026490000⟩
    formatItems (some (dateOfYo 12345 189)) (some t) (some ([], 34200)) (items (str "%+"))
      = some (str "+12345-07-08T00:34:60.026490+09:30") ∧
    formatItems (some (dateOfYo (-5) 63)) (some ⟨2099, 0⟩) (some ([], -86370)) (items (str "%+"))
      = some (str "-0005-03-04T00:34:59-24:00") ∧
    formatItems (some (dateOfYo (-5) 63)) (some ⟨2099, 0⟩) (some ([], -86370)) [.fixed .rfc2822] = none ∧
    formatItems (some (dateOfYo 2001 189)) (some ⟨2099, 1000000000⟩) (some ([], 3600)) [.fixed .rfc2822]
      = some (str "Sun, 8 Jul 2001 00:34:60 +0100") := by
  decide +kernel

/-! ### the item iterator ends (also used by C15) -/

/-- for every format byte string, strict or lenient: each `parse_next_item` call consumes at least
one byte and queues at most 12 items; so the fuel `byte length + 1` of `items` is never exhausted
(more fuel changes nothing), there are at most 13·len items (`%c` = 13 items from 2 bytes), and the
real iterator (`next` on remainder + queue) yields exactly these items and then ends within
13·len + 1 calls -/
theorem strftime_terminates (l : Bool) (s : List Nat) :
    (∀ r, parse_next_item l s = some r → r.1.length < s.length ∧ r.2.2.length ≤ 12) ∧
    (∀ k, itemsAux l (s.length + 1 + k) s = itemsAux l (s.length + 1) s) ∧
    (itemsAux l (s.length + 1) s).length ≤ 13 * s.length ∧
    (∀ n, 13 * s.length < n → drain l n ⟨s, []⟩ = itemsAux l (s.length + 1) s) := by
  refine ⟨fun r h => StrftimeL.parse_next_item_progress l s r h,
    fun k => StrftimeL.itemsAux_fuel l _ _ s (by omega) (by omega),
    StrftimeL.itemsAux_length l _ s, fun n hn => ?_⟩
  have := StrftimeL.drain_eq l n ⟨s, []⟩ (by simpa using hn)
  simpa using this

/-- the error path ends the iteration: in strict mode an unknown specifier yields `Item::Error` and
nothing after it (finding #3 repaired), in lenient mode the text is kept as literals -/
example : items (str "%Y%Qabc %d") = [.numeric .year .zero, .error] ∧
    itemsLenient (str "%Y%Qabc %d") = [.numeric .year .zero, .literal (str "%"), .literal (str "Qabc"),
      .space (str " "), .numeric .day .zero] ∧
    drain false 200 ⟨str "%c", []⟩ = items (str "%c") ∧ (items (str "%c")).length = 13 := by decide +kernel

/-! ### non-vacuity -/

/-- 2001-07-08 (a Sunday, day 189) 00:34:60.026490 +09:30, the example row of the documentation -/
example :
    let d := dateOfYo 2001 189
    let t : Time := ⟨2099, 1026490000⟩
    let off : Option (List Nat × Int) := some (fixedOffsetName 34200, 34200)
    (MIN_YEAR ≤ 2001 ∧ (2001 : Int) ≤ MAX_YEAR) ∧ (1 ≤ 189 ∧ 189 ≤ yearLen 2001) ∧ TValid t ∧
    formatItems (some d) (some t) off (items (str "%Y-%m-%d %U %W %j %a %b %e %I:%M:%S%.f %p %z %:::z %s %%"))
      = some (str "2001-07-08 27 27 189 Sun Jul  8 12:34:60.026490 AM +0930 +09 994518299 %") ∧
    renderNumeric .weekFromSun .zero 2001 189 t 0 = str "27" ∧
    renderFixed .timezoneOffset 2001 189 t (-86370) = some (str "-2400") ∧
    formatItems (some (dateOfYo (-99) 1)) none none (items (str "%Y %C %-C %_m")) = some (str "-0099 -1 -1  1") ∧
    formatItems (some d) none none (items (str "%H")) = none ∧
    formatItems (some d) (some t) off (items (str "%Q")) = none ∧
    items (str "%-D") = [Item.error, .literal [47], .numeric .day .zero, .literal [47], .numeric .yearMod100 .zero] := by
  decide +kernel

/-! ### the documentation table: specifier TEXT → documented text (audit gap HIGH-1) -/

/-- the Spec's transcription of the documentation (`docRows`: specifier, example cell, description cell,
each with its formal reading) is character for character the table that the translator reads from the
module doc comment of strftime.rs on this run — rows, order, examples, sentences; likewise the
padding-modifier table; the documentation's own "Same as `…`." sentences (and footnote 5 for `%+`)
are among the readings; the older name list `documented` is the first column; footnote 7's example -/
theorem doc_table_is_source :
    DOC_TABLE = docRows.map (fun r => (r.spec, r.ex, r.descr)) ∧
    DOC_MODIFIERS.map (fun m => (str m.1, m.2)) = docModifiers.map (fun m => ([m.1], m.2.2)) ∧
    (∀ e ∈ DOC_SAME_AS, e ∈ docComposites ∨ e ∈ expansions ∨ e = ("%+", "%Y-%m-%dT%H:%M:%S%.f%:z")) ∧
    (∀ e ∈ docComposites, e ∈ expansions) ∧
    documented = docRows.map (·.spec) ∧ DOC_FOOTNOTE7 = footnote7 :=
  ⟨rfl, rfl, by decide +kernel, by decide +kernel, rfl, rfl⟩

/-- **the tokenizer gives every documented specifier TEXT the item of its documentation row**:
`items "%m" = [Numeric Month, zero-padded]`, `items "%e" = [Day, space-padded]`, `%P` lower / `%p`
upper, `%U` Sunday / `%W` Monday, `%.3f` …; a composite row yields exactly the items of the format
string it is documented to be the same as (none of them `Item::Error`).  Exchanging two arms of
`parse_next_item` breaks this theorem (the Spec side does not move with the source). -/
theorem documented_items :
    (∀ e ∈ docTable, items (37 :: str e.1) = [e.2]) ∧
    (∀ e ∈ docComposites, items (str e.1) = items (str e.2) ∧ Item.error ∉ items (str e.2)) := by
  decide +kernel

/-- **`%<specifier>` prints the documented text** — the statement is about the format string, not
about an item: for every row of the documentation table that describes one field (all but the nine
composites, which `documented_items`/`composite_eq_expansion` reduce to these), every date of the
range, every time incl. leap seconds, every offset: formatting a zone-aware value with the
two-to-five-byte format string `%…` gives exactly `renderItem` of the row's reading (`renderNumeric`,
`renderFixed`, `zoneText` for `%Z`, `rfc3339Text` for `%+`; failure for the parsing-only `%#z`).
`%y`/`%g` as in the property for years ≥ 0 (the hypotheses are not used: the text is `year mod 100`
with floor semantics on every year, which is what footnote 1 says and its example contradicts). -/
theorem specifier_ok (e : String × Item) (he : e ∈ docTable)
    (y : Int) (o : Nat) (hy : MIN_YEAR ≤ y ∧ y ≤ MAX_YEAR) (ho : 1 ≤ o ∧ o ≤ yearLen y)
    (t : Time) (ht : TValid t) (off : Int) (hoff : -86400 < off ∧ off < 86400)
    (_h1 : e.1 = "y" → 0 ≤ y) (_h2 : e.1 = "g" → 0 ≤ isoYear y o) :
    formatItems (some (dateOfYo y o)) (some t) (some (fixedOffsetName off, off)) (items (37 :: str e.1)) =
      renderItem e.2 y o t off := by
  rw [documented_items.1 e he]
  unfold formatItems
  rw [StrftimeDoc.single]
  rw [StrftimeHeadroom.item_full _ y o (StrftimeHeadroom.dateOk_range y o hy ho) t ht off hoff e.2 (StrftimeDoc.docTable_no_rfc2822 e he)]
  cases renderItem e.2 y o t off <;> rfl

/-- **padding modifiers** (`%-?`, `%_?`, `%0?` of the documentation's modifier table): in front of a
numeric specifier the modifier replaces the padding and nothing else — items and text; in front of
any other documented specifier (names, am/pm, fractions, offsets, `%+`, `%t %n %%`, composites) the
result is `Item::Error` ("This is not allowed for other specifiers and will result in the
`BAD_FORMAT` error") -/
theorem specifier_pad_ok :
    (∀ e ∈ docTable, ∀ m ∈ docModifiers, ∀ n p, e.2 = Item.numeric n p →
      items (37 :: m.1 :: str e.1) = [Item.numeric n m.2.1] ∧
      ∀ (y : Int) (o : Nat), MIN_YEAR ≤ y ∧ y ≤ MAX_YEAR → 1 ≤ o ∧ o ≤ yearLen y →
      ∀ (t : Time), TValid t → ∀ (off : Int), -86400 < off ∧ off < 86400 →
        formatItems (some (dateOfYo y o)) (some t) (some (fixedOffsetName off, off)) (items (37 :: m.1 :: str e.1)) =
          some (renderNumeric n m.2.1 y o t off)) ∧
    (∀ e ∈ docTable, ∀ m ∈ docModifiers, (∀ n p, e.2 ≠ Item.numeric n p) →
      Item.error ∈ items (37 :: m.1 :: str e.1)) ∧
    (∀ e ∈ docComposites, ∀ m ∈ docModifiers, Item.error ∈ items (37 :: m.1 :: (str e.1).tail)) := by
  have key : ∀ e ∈ docTable, ∀ m ∈ docModifiers,
      (match e.2 with
       | .numeric n _ => decide (items (37 :: m.1 :: str e.1) = [Item.numeric n m.2.1])
       | _ => decide (Item.error ∈ items (37 :: m.1 :: str e.1))) = true := by decide +kernel
  refine ⟨fun e he m hm n p hn => ?_, fun e he m hm hn => ?_, by decide +kernel⟩
  · have k := key e he m hm
    rw [hn] at k
    have hi : items (37 :: m.1 :: str e.1) = [Item.numeric n m.2.1] := of_decide_eq_true k
    refine ⟨hi, fun y o hy ho t ht off hoff => ?_⟩
    rw [hi]
    unfold formatItems
    rw [StrftimeDoc.single]
    rw [StrftimeHeadroom.item_full _ y o (StrftimeHeadroom.dateOk_range y o hy ho) t ht off hoff _ (by simp)]
    rfl
  · have k := key e he m hm
    cases h : e.2 <;> rw [h] at k
    case numeric n p => exact absurd h (hn n p)
    all_goals exact of_decide_eq_true k

/-- **the Example column of the documentation is what formatting prints**: for the documentation's
example value 2001-07-08T00:34:60.026490+09:30 EVERY row's specifier prints exactly its Example cell
(rows with a non-empty cell; `%t %n %%` have none) — with the two exceptions the documentation itself
explains: `%Z` (cell `ACST`; footnote 8: only the offset is printed, "identical to `%:z`": `+09:30`) and
the parsing-only `%#z` (cannot be formatted).  Footnote 7's example (7 µs with `%f` and `%.f`, as read
from the source on this run, `doc_table_is_source`) is what the model prints too.  Full statement
since the repair of finding F31 (/repo 9d96a4b); before it the cells of `%q %U %f` were wrong, see
`doc_examples_pinned_before_F31`. -/
theorem doc_examples_ok :
    (∀ r ∈ docRows, r.ex ≠ "" → r.spec ∉ exampleDivergent.map (·.1) → r.spec ∉ exampleParsingOnly →
      formatItems (some (dateOfYo exYear exOrdinal)) (some exTime) (some (fixedOffsetName exOff, exOff))
        (items (37 :: str r.spec)) = some (str r.ex)) ∧
    (∀ x ∈ exampleDivergent,
      formatItems (some (dateOfYo exYear exOrdinal)) (some exTime) (some (fixedOffsetName exOff, exOff))
        (items (37 :: str x.1)) = some (str x.2) ∧
      formatItems (some (dateOfYo exYear exOrdinal)) (some exTime) (some (fixedOffsetName exOff, exOff))
        (items (str "%:z")) = some (str x.2)) ∧
    (∀ s ∈ exampleParsingOnly,
      formatItems (some (dateOfYo exYear exOrdinal)) (some exTime) (some (fixedOffsetName exOff, exOff))
        (items (37 :: str s)) = none) ∧
    formatItems none (some ⟨0, 7000⟩) none (items (str "%f")) = some (str DOC_FOOTNOTE7.1) ∧
    formatItems none (some ⟨0, 7000⟩) none (items (str "%.f")) = some (str DOC_FOOTNOTE7.2) := by
  decide +kernel

/-- PINNED PRE-FIX DOCUMENTATION (finding F31, repaired by /repo 9d96a4b): the Example cells `%q` = `1`,
`%U` = `28`, `%f` = `26490000` and footnote 7's `7000` of the documentation before the repair are not
what formatting prints (July is quarter 3; 2001-07-08 is the 27th Sunday of 2001; `%f` is zero-padded
to nine digits) — and they are no longer in the table -/
theorem doc_examples_pinned_before_F31 :
    (∀ x ∈ exampleBeforeF31,
      formatItems (some (dateOfYo exYear exOrdinal)) (some exTime) (some (fixedOffsetName exOff, exOff))
        (items (37 :: str x.1)) ≠ some (str x.2) ∧ ∀ r ∈ docRows, r.spec = x.1 → r.ex ≠ x.2) ∧
    formatItems none (some ⟨0, 7000⟩) none (items (str "%f")) ≠ some (str footnote7BeforeF31) := by
  decide +kernel

/-! ### the entry points `NaiveDate / NaiveTime / NaiveDateTime / DateTime ::format` (audit gap MEDIUM-3) -/

/-- **`value.format(fmt)` for each of the four types** (`ParseFrom.format`, the model of
`format_with_items(StrftimeItems::new(fmt))` written into a `String`, compared with the crate by C13's
`pf.f` / `pf.rt` ops): a `NaiveDate` is shown with the date view only, a `NaiveTime` with
the time view only, a `NaiveDateTime` with both, a `DateTime` through its wall clock
(`overflowing_naive_local`) with its offset, the zone name being the offset's `Display`.  The result is
the concatenation of the documented texts of the items of `fmt` (`renderItemsOn`), and
`Err(fmt::Error)` as soon as one item reads a view the type does not have (e.g. `%H` on a `NaiveDate`,
`%z` on a `NaiveDateTime`) — never a panic, never other text.  `%s` on a `NaiveDateTime` counts from
UTC.  (`hf`: the RFC 2822 item is not produced by any specifier; it is decidable for a given `fmt`
and holds for every string of `format_string_items`.) -/
theorem entry_points_ok (fmt : List Nat) (hf : Item.fixed .rfc2822 ∉ items fmt)
    (Y : Int) (o : Nat) (hY : MIN_YEAR ≤ Y ∧ Y ≤ MAX_YEAR) (ho : 1 ≤ o ∧ o ≤ yearLen Y) (t : Time) (ht : TValid t)
    (off : Int) (hoff : -86400 < off ∧ off < 86400) :
    ParseFrom.format (.date (dateOfYo Y o)) fmt = (renderItemsOn dateViews (items fmt) Y o t off).elim werr wok ∧
    ParseFrom.format (.time t) fmt = (renderItemsOn timeViews (items fmt) Y o t off).elim werr wok ∧
    ParseFrom.format (.naive ⟨dateOfYo Y o, t⟩) fmt = (renderItemsOn naiveViews (items fmt) Y o t off).elim werr wok ∧
    (∀ z : Zoned, z.overflowing_naive_local = .ok ⟨dateOfYo Y o, t⟩ → z.off = off →
      ParseFrom.format (.zoned z) fmt = (renderItemsOn zonedViews (items fmt) Y o t off).elim werr wok) := by
  have h := fun hv => StrftimeDoc.items_on _ Y o (StrftimeHeadroom.dateOk_range Y o hY ho) t ht off hoff hv (items fmt) hf
  refine ⟨?_, ?_, ?_, fun z hl hz => ?_⟩
  · rw [← StrftimeDoc.toW_elim, ← h dateViews]; rfl
  · rw [← StrftimeDoc.toW_elim, ← h timeViews]; rfl
  · rw [← StrftimeDoc.toW_elim, ← h naiveViews]; rfl
  · exact hz ▸ StrftimeHeadroom.format_zoned z _ Y o (StrftimeHeadroom.dateOk_range Y o hY ho) t ht (hz ▸ hoff) hl fmt hf

/-- **one documented specifier on each type, and which specifiers each type can print**: the text is
`renderItemOn`; the specifiers a `NaiveDate` prints are exactly the DATE SPECIFIERS (and `%t %n %%`),
a `NaiveTime` the TIME SPECIFIERS, a `NaiveDateTime` both plus `%s`, a `DateTime` everything except
the parsing-only `%#z`; every other documented specifier fails on that type -/
theorem entry_point_specifier (e : String × Item) (he : e ∈ docTable)
    (Y : Int) (o : Nat) (hY : MIN_YEAR ≤ Y ∧ Y ≤ MAX_YEAR) (ho : 1 ≤ o ∧ o ≤ yearLen Y) (t : Time) (ht : TValid t)
    (off : Int) (hoff : -86400 < off ∧ off < 86400) :
    (ParseFrom.format (.date (dateOfYo Y o)) (37 :: str e.1) = (renderItemOn dateViews e.2 Y o t off).elim werr wok ∧
     ParseFrom.format (.time t) (37 :: str e.1) = (renderItemOn timeViews e.2 Y o t off).elim werr wok ∧
     ParseFrom.format (.naive ⟨dateOfYo Y o, t⟩) (37 :: str e.1) = (renderItemOn naiveViews e.2 Y o t off).elim werr wok ∧
     (∀ z : Zoned, z.overflowing_naive_local = .ok ⟨dateOfYo Y o, t⟩ → z.off = off →
       ParseFrom.format (.zoned z) (37 :: str e.1) = (renderItemOn zonedViews e.2 Y o t off).elim werr wok)) ∧
    ((renderItemOn dateViews e.2 Y o t off).isSome ↔
       e.1 ∈ ["Y", "C", "y", "q", "m", "b", "B", "h", "d", "e", "a", "A", "w", "u", "U", "W", "G", "g", "V", "j", "t", "n", "%"]) ∧
    ((renderItemOn timeViews e.2 Y o t off).isSome ↔
       e.1 ∈ ["H", "k", "I", "l", "P", "p", "M", "S", "f", ".f", ".3f", ".6f", ".9f", "3f", "6f", "9f", "t", "n", "%"]) ∧
    ((renderItemOn naiveViews e.2 Y o t off).isSome ↔ e.1 ∉ ["Z", "z", ":z", "::z", ":::z", "#z", "+"]) ∧
    ((renderItemOn zonedViews e.2 Y o t off).isSome ↔ e.1 ≠ "#z") := by
  have hne := StrftimeDoc.docTable_no_rfc2822 e he
  have h : ∀ hv, formatItemsR (StrftimeDoc.dOf hv (dateOfYo Y o)) (StrftimeDoc.tOf hv t) (StrftimeDoc.oOf hv off)
      (items (37 :: str e.1)) = (renderItemOn hv e.2 Y o t off).elim werr wok := fun hv => by
    rw [documented_items.1 e he, StrftimeDoc.single,
      StrftimeDoc.item_on _ Y o (StrftimeHeadroom.dateOk_range Y o hY ho) t ht off hoff hv e.2 hne, StrftimeDoc.toW_elim]
  refine ⟨⟨h dateViews, h timeViews, h naiveViews, fun z hl hz => ?_⟩, ?_⟩
  · simp only [ParseFrom.format, formatItemsOf, hl, hz, W.ofRes]
    exact h zonedViews
  · -- the views an item reads, row by row; the parsing-only `%#z` is the one row that never prints
    have key : ∀ e ∈ docTable,
        ((viewsOf e.2).le dateViews = true ∧ e.2 ≠ .fixed .timezoneOffsetPermissive ↔
          e.1 ∈ ["Y", "C", "y", "q", "m", "b", "B", "h", "d", "e", "a", "A", "w", "u", "U", "W", "G", "g", "V", "j", "t", "n", "%"]) ∧
        ((viewsOf e.2).le timeViews = true ∧ e.2 ≠ .fixed .timezoneOffsetPermissive ↔
          e.1 ∈ ["H", "k", "I", "l", "P", "p", "M", "S", "f", ".f", ".3f", ".6f", ".9f", "3f", "6f", "9f", "t", "n", "%"]) ∧
        ((viewsOf e.2).le naiveViews = true ∧ e.2 ≠ .fixed .timezoneOffsetPermissive ↔
          e.1 ∉ ["Z", "z", ":z", "::z", ":::z", "#z", "+"]) ∧
        ((viewsOf e.2).le zonedViews = true ∧ e.2 ≠ .fixed .timezoneOffsetPermissive ↔ e.1 ≠ "#z") ∧
        e.2 ≠ .error := by
      decide +kernel
    obtain ⟨k1, k2, k3, k4, k5⟩ := key e he
    have some_iff : ∀ hv : Views, (renderItemOn hv e.2 Y o t off).isSome ↔
        ((viewsOf e.2).le hv = true ∧ e.2 ≠ .fixed .timezoneOffsetPermissive) := by
      intro hv
      unfold renderItemOn
      cases hle : (viewsOf e.2).le hv
      · simp
      · simp only [if_true, true_and]
        cases h2 : e.2 with
        | literal s => simp [renderItem]
        | space s => simp [renderItem]
        | numeric n p => simp [renderItem]
        | error => exact absurd h2 k5
        | fixed f =>
          have : f ≠ .rfc2822 := fun hh => hne (by rw [h2, hh])
          cases f <;> simp [renderItem, renderFixed] <;> exact absurd rfl this
    exact ⟨(some_iff _).trans k1, (some_iff _).trans k2, (some_iff _).trans k3, (some_iff _).trans k4⟩

/-- non-vacuity of the documentation-table and entry-point families: the table has 47 single-item rows
and 9 composite rows; `%m`, `%e`, `%-j`, `%_j` as TEXT on 2001-01-12; a `NaiveDate` prints `%j` and
fails on `%H`; a `NaiveDateTime` prints `%s` from UTC and fails on `%z`; a `DateTime` whose hypotheses
are met (2024-01-31T23:59:50 UTC at +00:00:17 reads 2024-02-01T00:00:07) -/
example :
    docTable.length = 47 ∧ docComposites.length = 9 ∧ ("m", Item.numeric .month .zero) ∈ docTable ∧
    ("e", Item.numeric .day .space) ∈ docTable ∧
    renderItem (.numeric .day .space) 2001 12 ⟨0, 0⟩ 0 = str "12" ∧
    renderNumeric .ordinal .none 2001 12 ⟨0, 0⟩ 0 = str "12" ∧ renderNumeric .ordinal .space 2001 12 ⟨0, 0⟩ 0 = str " 12" ∧
    ParseFrom.format (.date (dateOfYo 2001 12)) (str "%j") = wok (str "012") ∧
    ParseFrom.format (.date (dateOfYo 2001 12)) (str "%H") = werr ∧
    ParseFrom.format (.naive ⟨dateOfYo 2001 189, ⟨2099, 1026490000⟩⟩) (str "%s") = wok (str "994552499") ∧
    ParseFrom.format (.naive ⟨dateOfYo 2001 189, ⟨2099, 0⟩⟩) (str "%z") = werr ∧
    Zoned.overflowing_naive_local ⟨⟨dateOfYo 2024 31, ⟨86390, 0⟩⟩, 17⟩ = .ok ⟨dateOfYo 2024 32, ⟨7, 0⟩⟩ ∧
    ParseFrom.format (.zoned ⟨⟨dateOfYo 2024 31, ⟨86390, 0⟩⟩, 17⟩) (str "%F %T %Z") =
      wok (str "2024-02-01 00:00:07 +00:00:17") ∧
    renderItemsOn zonedViews (items (str "%F %T %Z")) 2024 32 ⟨7, 0⟩ 17 = some (str "2024-02-01 00:00:07 +00:00:17") := by
  decide +kernel

/-! ### whole format strings (audit gap MEDIUM-2) and unknown specifiers (audit gap MEDIUM-4) -/

/-- **the tokenizer on `specifier ++ rest`**: for every complete documented specifier text `a`
(`specTexts`: `%` + a row of the table, or `%` + padding modifier + a numeric row; 125 strings) and
EVERY continuation `b`, the items are those of `a` followed by those of `b`, and so the text is the
text of `a` followed by the text of `b` (same failure, same panic) -/
theorem items_append (a b : List Nat) (ha : a ∈ specTexts) :
    items (a ++ b) = items a ++ items b ∧
    ∀ d t off, formatItemsR d t off (items (a ++ b)) =
      (formatItemsR d t off (items a)).seq (formatItemsR d t off (items b)) := by
  have h := StrftimeAppend.items_append a b ha
  exact ⟨h, fun d t off => by rw [h, FormatL.formatItemsR_append]⟩

/-- **format strings built from the documented specifiers**: a string that is any sequence of
complete specifier texts followed by `%`-free text `lit` tokenizes specifier by specifier, its text is
the concatenation of the specifier texts (each given by `specifier_ok` / `composite_eq_expansion`)
followed by `lit` unchanged, and no item is the RFC 2822 item (the hypothesis of `entry_points_ok`).
`_partial`: literal text BETWEEN two specifiers is not covered (only text after the last one; `%t %n
%%` and the composites do carry separators) — that needs the alignment of the literal / white-space
run scanners with the `%` that ends the run, which is not proved; the harness compares such strings
(oracle "text of a format string is not the concatenation of its items"). -/
theorem format_string_partial (chunks : List (List Nat)) (hc : ∀ a ∈ chunks, a ∈ specTexts)
    (lit : List Nat) (hl : ∀ b ∈ lit, b ≠ 37) :
    items (chunks.flatten ++ lit) = (chunks.map items).flatten ++ items lit ∧
    (∀ d t off, formatItemsR d t off (items (chunks.flatten ++ lit)) =
      chunks.foldr (fun a acc => (formatItemsR d t off (items a)).seq acc) (wok lit)) ∧
    Item.fixed .rfc2822 ∉ items chunks.flatten := by
  have h1 := StrftimeAppend.items_flatten chunks hc lit
  refine ⟨h1, fun d t off => ?_, ?_⟩
  · rw [h1]
    clear h1
    induction chunks with
    | nil => simpa using FormatL.items_literal lit hl d t off
    | cons a rest ih =>
      simp only [List.map_cons, List.flatten_cons, List.append_assoc, List.foldr_cons]
      rw [FormatL.formatItemsR_append, ih (fun x hx => hc x (List.mem_cons_of_mem _ hx))]
  · exact StrftimeNoRfc.no_rfc2822 false _ _

/-- **an unknown or malformed specifier makes formatting fail, wherever it stands** (strict mode,
the mode of every `format` method):
(1) a byte after `%` that has no arm and is not a modifier or one of `z : . 3 6 9` — every
undocumented letter and EVERY non-ASCII lead byte (any value ≥ 123) — turns the whole rest of the
string into one `Item::Error`, whatever follows;
(2) the same behind a padding modifier (`%-Q…`, `%0é…`);
(3) exhaustively over all byte values: the truncated specifiers (`%`, `%-`, `%.`, `%.3`, `%:`, `%::`,
`%#` … at the end of the string) and every one-byte continuation of `%`, `%-` `%0` `%_` `%#`, `%.`,
`%.3 %.6 %.9`, `%3 %6 %9`, `%:`, `%::`, `%:::` start with `Item::Error` unless the bytes are one of the
documented specifier texts — in particular a padding modifier on a non-numeric or composite specifier
(`%-a`, `%0Z`, `%-D`, `%_%`) and `#` on anything but `z`;
(4) after any sequence of complete specifiers the error is still there and nothing is formatted. -/
theorem unknown_fails :
    (∀ c rest, specTable c = none → c ∉ [45, 48, 95, 35, 122, 58, 46, 51, 54, 57] →
      items (37 :: c :: rest) = [Item.error]) ∧
    (∀ c rest, 123 ≤ c → items (37 :: c :: rest) = [Item.error]) ∧
    (∀ m ∈ [45, 48, 95], ∀ c rest, (specTable c = none ∧ c ∉ [122, 58, 46, 51, 54, 57] ∨ 123 ≤ c) →
      items (37 :: m :: c :: rest) = [Item.error]) ∧
    ((∀ a ∈ [[37], [37, 45], [37, 48], [37, 95], [37, 35], [37, 46], [37, 51], [37, 54], [37, 57], [37, 46, 51],
            [37, 46, 54], [37, 46, 57], [37, 58], [37, 58, 58], [37, 58, 58, 58], [37, 45, 46], [37, 35, 58],
            [37, 45, 51], [37, 45, 58]],
      (items a).head? = some Item.error) ∧
     (∀ c < 256, items [37, c] = [Item.error] ∨ [37, c] ∈ specTexts) ∧
     (∀ m ∈ [45, 48, 95, 35], ∀ c < 256, (items [37, m, c]).head? = some Item.error ∨ [37, m, c] ∈ specTexts) ∧
     (∀ c < 256, (items [37, 46, c]).head? = some Item.error ∨ [37, 46, c] ∈ specTexts) ∧
     (∀ d ∈ [51, 54, 57], ∀ c < 256,
       ((items [37, 46, d, c]).head? = some Item.error ∨ [37, 46, d, c] ∈ specTexts) ∧
       ((items [37, d, c]).head? = some Item.error ∨ [37, d, c] ∈ specTexts)) ∧
     (∀ c < 256, (items [37, 58, c]).head? = some Item.error ∨ [37, 58, c] ∈ specTexts) ∧
     (∀ c < 256, (items [37, 58, 58, c]).head? = some Item.error ∨ [37, 58, 58, c] ∈ specTexts) ∧
     (∀ c < 256, (items [37, 58, 58, 58, c]).head? = some Item.error ∨ [37, 58, 58, 58, c] ∈ specTexts)) ∧
    (∀ (chunks : List (List Nat)), (∀ a ∈ chunks, a ∈ specTexts) → ∀ bad, Item.error ∈ items bad →
      ∀ d t off, Item.error ∈ items (chunks.flatten ++ bad) ∧
        formatItems d t off (items (chunks.flatten ++ bad)) = none) := by
  have hbig : ∀ c, 123 ≤ c → specTable c = none ∧ c ∉ [45, 48, 95, 35, 122, 58, 46, 51, 54, 57] := by
    intro c hc
    refine ⟨StrftimeAppend.specTable_none_of_gt c (by omega), ?_⟩
    simp only [List.mem_cons, List.mem_nil_iff, or_false, not_or]
    omega
  refine ⟨fun c rest hs hc => StrftimeAppend.unknown_letter c rest hs hc,
    fun c rest hc => StrftimeAppend.unknown_letter c rest (hbig c hc).1 (hbig c hc).2, ?_, ?_, ?_⟩
  · intro m hm c rest h
    rcases h with ⟨hs, hc⟩ | hc
    · exact StrftimeAppend.unknown_after_modifier m c rest hm hs hc
    · refine StrftimeAppend.unknown_after_modifier m c rest hm (hbig c hc).1 ?_
      simp only [List.mem_cons, List.mem_nil_iff, or_false, not_or]
      omega
  · rw [StrftimeAppend.specTexts_eq]
    exact StrftimeAppend.unknown_fin
  · intro chunks hc bad hb d t off
    have h := StrftimeAppend.items_flatten chunks hc bad
    have hm : Item.error ∈ items (chunks.flatten ++ bad) := by
      rw [h]; exact List.mem_append_right _ hb
    exact ⟨hm, FormatL.formatItems_error d t off _ hm⟩

/-- non-vacuity: `%Y-%m-%d` is not in the chunk grammar (literal `-` between specifiers) but
`%Y%m%d`, `%F%t%T%n%-j%%` followed by trailing text are; `%-D`, `%0Z`, `%.3x`, `%é`, `%-é` fail, also
after `%Y%m` -/
example :
    [str "%F", str "%t", str "%T", str "%n", str "%-j", str "%%"].all (· ∈ specTexts) = true ∧
    items ([str "%F", str "%t", str "%T", str "%n", str "%-j", str "%%"].flatten ++ str " ok") =
      ([str "%F", str "%t", str "%T", str "%n", str "%-j", str "%%"].map items).flatten ++ items (str " ok") ∧
    formatItems (some (dateOfYo 2001 12)) (some ⟨2099, 0⟩) none (items (str "%F%t%T%n%-j%% ok")) =
      some (str "2001-01-12\t00:34:59\n12% ok") ∧
    items (str "%é") = [Item.error] ∧ items (str "%-é") = [Item.error] ∧ items (str "%.3x") = [Item.error] ∧
    Item.error ∈ items (str "%Y%m%0Z") ∧ specTable 81 = none ∧
    formatItems (some (dateOfYo 2001 12)) (some ⟨2099, 0⟩) none (items (str "%Y%m%-D")) = none := by
  decide +kernel

/-! ### round 3: arbitrary format strings -/

/-- **`StrftimeItems` never yields the RFC 2822 item** — for EVERY format string (any bytes, also
malformed specifiers and ill-formed UTF-8), strict (`StrftimeItems::new`, the mode of every `format`
method) and lenient: proved from the model of `parse_next_item` (every arm of the specifier table, the
`z : . 3 6 9` arms, the padding rewrite, the error path, the text arms; `Fixed::RFC2822` is only written
by `to_rfc2822`).  This is the hypothesis `hf` of `entry_points_ok`, now discharged for arbitrary
strings. -/
theorem strftime_never_rfc2822 (fmt : List Nat) :
    Item.fixed .rfc2822 ∉ items fmt ∧ Item.fixed .rfc2822 ∉ itemsLenient fmt ∧
    (∀ (l : Bool) (s : List Nat) r, parse_next_item l s = some r →
      r.2.1 ≠ Item.fixed .rfc2822 ∧ Item.fixed .rfc2822 ∉ r.2.2) := by
  refine ⟨StrftimeNoRfc.no_rfc2822 false _ fmt, StrftimeNoRfc.no_rfc2822 true _ fmt, fun l s r h => ?_⟩
  obtain ⟨h1, h2⟩ := StrftimeNoRfc.parse_next_item_ok l s r h
  refine ⟨(StrftimeNoRfc.okB_iff _).mp h1, fun hm => ?_⟩
  have := List.all_eq_true.mp h2 _ hm
  cases this

/-- **the entry points on ARBITRARY format strings**: `entry_points_ok` without its hypothesis on the
item list — for every byte string `fmt` whatsoever (unknown specifiers included: then `renderItemsOn`
is `none` and formatting fails) `value.format(fmt)` of a `NaiveDate`, `NaiveTime`, `NaiveDateTime`,
`DateTime` is the concatenation of the documented item texts on the views the type has, or
`Err(fmt::Error)`; never a panic, never other text -/
theorem entry_points_any_string (fmt : List Nat)
    (Y : Int) (o : Nat) (hY : MIN_YEAR ≤ Y ∧ Y ≤ MAX_YEAR) (ho : 1 ≤ o ∧ o ≤ yearLen Y) (t : Time) (ht : TValid t)
    (off : Int) (hoff : -86400 < off ∧ off < 86400) :
    ParseFrom.format (.date (dateOfYo Y o)) fmt = (renderItemsOn dateViews (items fmt) Y o t off).elim werr wok ∧
    ParseFrom.format (.time t) fmt = (renderItemsOn timeViews (items fmt) Y o t off).elim werr wok ∧
    ParseFrom.format (.naive ⟨dateOfYo Y o, t⟩) fmt = (renderItemsOn naiveViews (items fmt) Y o t off).elim werr wok ∧
    (∀ z : Zoned, z.overflowing_naive_local = .ok ⟨dateOfYo Y o, t⟩ → z.off = off →
      ParseFrom.format (.zoned z) fmt = (renderItemsOn zonedViews (items fmt) Y o t off).elim werr wok) :=
  entry_points_ok fmt (strftime_never_rfc2822 fmt).1 Y o hY ho t ht off hoff

/-- **format strings built from the documented specifiers, literal text and white space in any
order** (the property's "arbitrary format strings built from them"): a format string given as a list of
segments `(text, specifier)` — `text` any `%`-free run of well-formed UTF-8 (literal characters and white
space mixed, any Unicode, possibly empty), `specifier` a complete documented specifier text (`specTexts`,
125 strings: `%` + a row of the table or `%` + padding modifier + numeric row) — followed by trailing
`%`-free text `lit`:
(1) the tokenizer cuts it segment by segment: the items of each text run, then the items of the
    specifier (the run scanners `litSpan` / `wsSpan` stop at the `%`, the specifier reader consumes
    exactly the specifier);
(2) the formatted text is, for every value, each text run copied UNCHANGED followed by the text of its
    specifier (given by `specifier_ok` / `specifier_pad_ok` / `composite_eq_expansion`), then `lit`
    unchanged — with the same failure and the same panic behaviour (`W.seq`);
(3) no item is `Item::Error` and none is the RFC 2822 item, so `entry_points_ok` applies.
Well-formedness of the text runs is the only hypothesis beyond the grammar (a Rust `&str` cut at the
ASCII byte `%` always satisfies it); it is needed: after a stray lead byte the literal scanner would
step over the `%`.  Supersedes `format_string_partial` (text only after the last specifier). -/
theorem format_string_ok (segs : List (List Nat × List Nat)) (lit : List Nat)
    (hs : ∀ p ∈ segs, (∀ b ∈ p.1, b ≠ 37) ∧ Chrono.M.Tz.validUtf8 p.1 = true ∧ p.2 ∈ specTexts)
    (hl : ∀ b ∈ lit, b ≠ 37) :
    items ((segs.map fun p => p.1 ++ p.2).flatten ++ lit) =
      (segs.map fun p => items p.1 ++ items p.2).flatten ++ items lit ∧
    (∀ d t off, formatItemsR d t off (items ((segs.map fun p => p.1 ++ p.2).flatten ++ lit)) =
      segs.foldr (fun p acc => (wok p.1).seq ((formatItemsR d t off (items p.2)).seq acc)) (wok lit)) ∧
    Item.error ∉ items ((segs.map fun p => p.1 ++ p.2).flatten ++ lit) ∧
    Item.fixed .rfc2822 ∉ items ((segs.map fun p => p.1 ++ p.2).flatten ++ lit) := by
  have h1 := StrftimeText.items_segments segs hs lit
  refine ⟨h1, fun d t off => ?_, ?_, (strftime_never_rfc2822 _).1⟩
  · rw [h1]
    clear h1
    induction segs with
    | nil => simpa using FormatL.items_literal lit hl d t off
    | cons p rest ih =>
      simp only [List.map_cons, List.flatten_cons, List.append_assoc, List.foldr_cons]
      rw [FormatL.formatItemsR_append, FormatL.formatItemsR_append, FormatL.items_literal p.1 (hs p (by simp)).1,
        ih (fun x hx => hs x (List.mem_cons_of_mem _ hx))]
  · rw [h1]
    have hne : ∀ (s : List Nat), (∀ b ∈ s, b ≠ 37) → Item.error ∉ items s := by
      intro s hs hm
      have h := FormatL.items_literal s hs none none none
      have := FormatL.formatItems_error none none none _ hm
      unfold formatItems at this
      rw [h] at this
      cases this
    have key : ∀ a ∈ StrftimeAppend.specTextsLit, Item.error ∉ items a := by decide +kernel
    intro hm
    rw [List.mem_append, List.mem_flatten] at hm
    rcases hm with ⟨l, hl1, hl2⟩ | hm
    · rw [List.mem_map] at hl1
      obtain ⟨p, hp, rfl⟩ := hl1
      rw [List.mem_append] at hl2
      rcases hl2 with h | h
      · exact hne p.1 (hs p hp).1 h
      · exact key p.2 (by rw [← StrftimeAppend.specTexts_eq]; exact (hs p hp).2.2) h
    · exact hne lit hl hm

/-- non-vacuity of `format_string_ok`: `%Y-%m-%d` (literal `-` between specifiers), the documentation's
`%d/%m/%Y %H:%M`, and a string with Unicode text and mixed white space between specifiers (space, `é` =
C3 A9, U+3000 = E3 80 80, tab, ` x `) are in the grammar; the text is the concatenation -/
example :
    let u : List Nat := [32, 195, 169, 227, 128, 128, 9, 32, 120, 32]
    let segs : List (List Nat × List Nat) :=
      [([], str "%Y"), (str "-", str "%m"), (str "-", str "%d"), (u, str "%H"), (str ":", str "%-M")]
    (∀ p ∈ segs, (∀ b ∈ p.1, b ≠ 37) ∧ Chrono.M.Tz.validUtf8 p.1 = true ∧ p.2 ∈ specTexts) ∧
    (segs.map fun p => p.1 ++ p.2).flatten ++ str " h" = str "%Y-%m-%d" ++ u ++ str "%H:%-M h" ∧
    formatItems (some (dateOfYo 2001 12)) (some ⟨2099, 0⟩) none (items (str "%Y-%m-%d" ++ u ++ str "%H:%-M h")) =
      some (str "2001-01-12" ++ u ++ str "00:34 h") ∧
    items (str "%d" ++ u ++ str "%m") = [.numeric .day .zero, .space [32], .literal [195, 169], .space [227, 128, 128, 9, 32],
      .literal [120], .space [32], .numeric .month .zero] ∧
    items (str "%d/%m/%Y %H:%M") = [.numeric .day .zero, .literal [47], .numeric .month .zero, .literal [47],
      .numeric .year .zero, .space [32], .numeric .hour .zero, .literal [58], .numeric .minute .zero] ∧
    Item.fixed .rfc2822 ∉ items (str "%Q%") ∧
    -- ill-formed text: after the stray lead byte C3 the literal scanner steps over the `%`
    items ([195] ++ str "%d") = [.literal [195, 37, 100]] := by
  decide +kernel

/-! ### round 3: every wall clock a `DateTime` can have, and `DateTime<Utc>` -/

/-- **the two headroom wall-clock dates**: a `DateTime` whose wall clock (`overflowing_naive_local`)
lies one day outside the range — `Date.BEFORE_MIN` = -262144-12-31 for a value within |offset| of
`MIN_UTC` viewed at a negative offset, `Date.AFTER_MAX` = +262143-01-01 near `MAX_UTC` at a positive
offset — is formatted, for EVERY format string, as the calendar's own day 366 of year `MIN_YEAR − 1`
resp. day 1 of year `MAX_YEAR + 1`: the same `renderItemsOn` as inside the range (all numeric items
with all paddings, names, `%s`, `%+`, offsets), never a panic.  The date-only items are settled by
kernel evaluation against the Spec calendar (`StrftimeHeadroom.head_eval`; C04's
`format_headroom_dates` pins the same texts as literals for 22 specifiers), `%s` and `%+` by the
generic arguments (no `i64` overflow: |day number| ≤ 95 746 130). -/
theorem entry_points_headroom (fmt : List Nat) (t : Time) (ht : TValid t) (z : Zoned)
    (hoff : -86400 < z.off ∧ z.off < 86400) :
    (z.overflowing_naive_local = .ok ⟨Date.BEFORE_MIN, t⟩ →
      ParseFrom.format (.zoned z) fmt =
        (renderItemsOn zonedViews (items fmt) (MIN_YEAR - 1) 366 t z.off).elim werr wok) ∧
    (z.overflowing_naive_local = .ok ⟨Date.AFTER_MAX, t⟩ →
      ParseFrom.format (.zoned z) fmt =
        (renderItemsOn zonedViews (items fmt) (MAX_YEAR + 1) 1 t z.off).elim werr wok) := by
  have hf := (strftime_never_rfc2822 fmt).1
  exact ⟨fun hl => StrftimeHeadroom.format_zoned z _ _ _ StrftimeHeadroom.dateOk_before_min t ht hoff hl fmt hf,
    fun hl => StrftimeHeadroom.format_zoned z _ _ _ StrftimeHeadroom.dateOk_after_max t ht hoff hl fmt hf⟩

/-- **`DateTime::format` is total and documented on EVERY well-formed value and EVERY format string**:
for any `DateTime<FixedOffset>` satisfying the type's invariant (`ZInv`: UTC reading in the range, valid
time, |offset| < 86400) the wall clock exists, is a valid time on a date `(Y, o)` that is a date of the
range or one of the two headroom days, and `format(fmt)` is the concatenation of the documented item
texts for that date, time and offset — or `Err(fmt::Error)` exactly when `renderItemsOn` is `none`
(unknown specifier, parsing-only `%#z`); never a panic.  No hypothesis on `fmt`, none on the wall
clock. -/
theorem datetime_format_total (z : Zoned) (hz : ZInv z) (fmt : List Nat) :
    ∃ (l : NaiveDT) (Y : Int) (o : Nat), z.overflowing_naive_local = .ok l ∧ TValid l.time ∧
      ((MIN_YEAR ≤ Y ∧ Y ≤ MAX_YEAR) ∧ (1 ≤ o ∧ o ≤ yearLen Y) ∧ l.date = dateOfYo Y o ∨
       l.date = Date.BEFORE_MIN ∧ Y = MIN_YEAR - 1 ∧ o = 366 ∨
       l.date = Date.AFTER_MAX ∧ Y = MAX_YEAR + 1 ∧ o = 1) ∧
      ParseFrom.format (.zoned z) fmt = (renderItemsOn zonedViews (items fmt) Y o l.time z.off).elim werr wok := by
  obtain ⟨l, h1, h2, _⟩ := Proofs.naive_local_spec z hz
  obtain ⟨_, _, _, hho, _⟩ := Proofs.ZN.wall_date_cases z hz l h1
  obtain ⟨ld, lt⟩ := l
  have ht : TValid lt := h2.2
  have hoff : -86400 < z.off ∧ z.off < 86400 := hz.2
  rcases hho with hin | hb | ha
  · obtain ⟨o, he, _, hy1, hy2, ho1, ho2⟩ := Proofs.Ts.dateInv_repr ld hin
    try dsimp only at he
    refine ⟨⟨ld, lt⟩, ld.year, o, h1, ht, Or.inl ⟨⟨hy1, hy2⟩, ⟨ho1, ho2⟩, he⟩, ?_⟩
    exact (entry_points_any_string fmt ld.year o ⟨hy1, hy2⟩ ⟨ho1, ho2⟩ lt ht z.off hoff).2.2.2 z
      (by rw [h1, ← he]) rfl
  · try dsimp only at hb
    subst hb
    exact ⟨_, _, _, h1, ht, Or.inr (Or.inl ⟨rfl, rfl, rfl⟩), (entry_points_headroom fmt lt ht z hoff).1 h1⟩
  · try dsimp only at ha
    subst ha
    exact ⟨_, _, _, h1, ht, Or.inr (Or.inr ⟨rfl, rfl, rfl⟩), (entry_points_headroom fmt lt ht z hoff).2 h1⟩

/-- **`DateTime<Utc>`: `%Z` prints `UTC`** (`ParseFrom.formatUtc`: the name handed to the formatter is
`Utc`'s `Display`, the offset is 0).  For every date of the range, every time and EVERY format string
the text is `renderItemsNamed utcName`: `%Z` items print the three bytes `UTC`, every other item prints
what it prints for the offset `+00:00` (`%z` = `+0000`, `%:z` = `+00:00`, `%s` from UTC, `%+` with
`+00:00`); the wall clock of a `DateTime<Utc>` is its UTC reading (never a headroom day).
Note: the documentation row of `%Z` says "Identical to `%:z` when formatting" (footnote 8: "only prints
the offset"); that sentence describes `FixedOffset` (`specifier_ok`: `zoneText`), for `Utc` the code
prints the name `UTC`, not `+00:00` — stated here as what it is. -/
theorem utc_format_ok (fmt : List Nat) (t : Time) (ht : TValid t) :
    (∀ (Y : Int) (o : Nat), MIN_YEAR ≤ Y ∧ Y ≤ MAX_YEAR → 1 ≤ o ∧ o ≤ yearLen Y →
      ParseFrom.formatUtc ⟨dateOfYo Y o, t⟩ fmt = (renderItemsNamed utcName (items fmt) Y o t 0).elim werr wok) ∧
    (∀ d : Date, ParseFrom.formatUtc ⟨d, t⟩ (str "%Z") = wok (str "UTC")) ∧
    (∀ d : Date, Zoned.overflowing_naive_local ⟨⟨d, t⟩, 0⟩ = .ok ⟨d, t⟩) ∧
    TextForms.utc_display = utcName ∧ utcName = str "UTC" := by
  refine ⟨fun Y o hY ho => ?_, fun d => ?_, fun d => StrftimeHeadroom.utc_wall d t ht, by decide, by decide⟩
  · unfold ParseFrom.formatUtc
    rw [StrftimeHeadroom.utc_wall _ t ht]
    simp only [W.ofRes]
    rw [StrftimeHeadroom.items_named _ _ _ (StrftimeHeadroom.dateOk_range Y o hY ho) t ht 0 (by omega) _ _
      (strftime_never_rfc2822 fmt).1, StrftimeDoc.toW_elim]
    rfl
  · unfold ParseFrom.formatUtc
    rw [StrftimeHeadroom.utc_wall _ t ht]
    have : items (str "%Z") = [.fixed .timezoneName] := by decide
    simp only [W.ofRes, this]
    rfl

/-- non-vacuity of the round-3 entry-point families: `MAX_UTC` viewed at +01:00 reads
+262143-01-01T00:59:59 (the input of the fixed findings F04/F06), `MIN_UTC` at −00:00:01 reads
-262144-12-31T23:59:59; a `DateTime<Utc>` prints `UTC` for `%Z` where the same instant at
`FixedOffset` 0 prints `+00:00` -/
example :
    ZInv ⟨NaiveDT.MAX, 3600⟩ ∧
    Zoned.overflowing_naive_local ⟨NaiveDT.MAX, 3600⟩ = .ok ⟨Date.AFTER_MAX, ⟨3599, 999999999⟩⟩ ∧
    ParseFrom.format (.zoned ⟨NaiveDT.MAX, 3600⟩) (str "%Y-%m-%d %j %a %U %G-W%V %_C|%y %H:%M:%S %z") =
      wok (str "+262143-01-01 001 Tue 00 +262143-W01 2621|43 00:59:59 +0100") ∧
    renderItemsOn zonedViews (items (str "%F %A %-d %s")) (MAX_YEAR + 1) 1 ⟨3599, 0⟩ 3600 =
      some (str "+262143-01-01 Tuesday 1 8210266876799") ∧
    Zoned.overflowing_naive_local ⟨NaiveDT.MIN, -1⟩ = .ok ⟨Date.BEFORE_MIN, ⟨86399, 0⟩⟩ ∧
    ParseFrom.format (.zoned ⟨NaiveDT.MIN, -1⟩) (str "%F %j %A %W %G %g %C %Z") =
      wok (str "-262144-12-31 366 Wednesday 52 -262143 57 -2622 -00:00:01") ∧
    ParseFrom.formatUtc ⟨dateOfYo 2001 189, ⟨2099, 0⟩⟩ (str "%F %T %Z %z %:z") =
      wok (str "2001-07-08 00:34:59 UTC +0000 +00:00") ∧
    ParseFrom.format (.zoned ⟨⟨dateOfYo 2001 189, ⟨2099, 0⟩⟩, 0⟩) (str "%Z") = wok (str "+00:00") := by
  decide +kernel

end Chrono.Props.C12
