/-
  C11 — RFC 2822 output round-trips and obsolete forms are read as specified.
  Property statements only.  Specification: Spec/Rfc2822Spec.lean (the grammar relation `Rfc2822 s f`,
  `Valid`, `Denotes`, `stdText`); helper lemmas: Proofs/Rfc2822L.lean (scanning primitives),
  Proofs/Rfc2822ScanL.lean (the reader stage by stage), Proofs/Rfc2822ResL.lean (field resolution,
  on top of C14's completeness lemmas and C04's `from_local_spec`).
  Model: `Rfc2822.parse_from_rfc2822` = `DateTime::parse_from_rfc2822`, `Rfc2822.to_rfc2822` =
  `DateTime::to_rfc2822` (Model/Rfc2822.lean over Model/Parse, Scan, ParsedResolve, Format).
-/
import Chrono.Proofs.Rfc2822ScanSoundL
import Chrono.Proofs.ParsedZonedL
import Chrono.Proofs.Rfc2822InbandL
import Chrono.Proofs.Rfc2822ItemL
import Chrono.Proofs.Rfc2822RejectL
import Chrono.Proofs.Rfc2822UniqueL
import Chrono.Proofs.Rfc2822TrailL
import Chrono.Extracted.Rfc2822
import Chrono.Extracted.Rfc2822Rules
import Chrono.Proofs.Rfc2822TableL
import Chrono.Props.GenDate

namespace Chrono.Props.C11
open Chrono Chrono.M Chrono.Spec Chrono.Spec.Rfc2822 Chrono.Proofs.Rfc2822

/-! ## the reader accepts the grammar and returns exactly the denoted value -/

/-- `parse` with the single item `RFC2822` on a string of the grammar: the scanner consumes all of
it and yields exactly the spelled fields (`parsedOf f`) -/
theorem scanner_complete (s : List Nat) (f : Fields) (h : Rfc2822 s f) (hr : SetterRanges f) :
    Parse.parse Parsed.new s Rfc2822.ITEMS = .ok (parsedOf f) := by
  rw [parse_items_spec s f h, if_pos hr]

/-- `parse` with the single item `RFC2822` on a string of the grammar whose fields are NOT all inside
the setter ranges (day 0 or > 31, year beyond `i32`/`i64`, hour > 23, minute > 59, second > 60): the
scanner itself returns an error (the first out-of-range `Parsed::set_*`, or `scan::number`) -/
theorem scanner_rejects (s : List Nat) (f : Fields) (h : Rfc2822 s f) (hr : ¬ SetterRanges f) :
    ∃ e, Parse.parse Parsed.new s Rfc2822.ITEMS = .error e := by
  exact ⟨_, by rw [parse_items_spec s f h, if_neg hr]⟩

/-- **out_of_range_rejected.**  A string of the grammar spelling a field outside the setter ranges is
rejected by value by `parse_from_rfc2822` (`Err`, never a panic, never a value). -/
theorem out_of_range_rejected (s : List Nat) (f : Fields) (h : Rfc2822 s f) (hr : ¬ SetterRanges f) :
    ∃ e, Rfc2822.parse_from_rfc2822 s = .ok (.error e) := by
  obtain ⟨e, he⟩ := scanner_rejects s f h hr
  refine ⟨e, ?_⟩
  unfold Rfc2822.parse_from_rfc2822
  rw [he]

/-- on the grammar the scanner succeeds exactly inside the setter ranges -/
theorem scanner_ok_iff (s : List Nat) (f : Fields) (h : Rfc2822 s f) :
    (∃ p, Parse.parse Parsed.new s Rfc2822.ITEMS = .ok p) ↔ SetterRanges f := by
  rw [parse_items_spec s f h]
  constructor
  · rintro ⟨p, hp⟩
    exact (ok_of_ite hp).1
  · intro hr
    exact ⟨_, if_pos hr⟩

/-- **reader_accepts_spec** (completeness over the grammar).  Every string of the RFC 2822 date-time
syntax (optional day-name, one- or two-digit day, month name in any case, 2/3/4+-digit year,
optional seconds, `1*S` wherever the standard form has a space, numeric / named / military zone,
trailing comments with nesting and escapes) whose fields are valid parses — no error, no panic —
to a value that denotes exactly those fields: that offset, the instant `wall clock − offset`,
whole seconds, a leap second iff the seconds field is 60. -/
theorem reader_accepts_spec (s : List Nat) (f : Fields) (h : Rfc2822 s f) (hv : Valid f) :
    ∃ z, Rfc2822.parse_from_rfc2822 s = .ok (.ok z) ∧ Denotes f z := by
  obtain ⟨z, hz, hd⟩ := resolve_ok f hv
  refine ⟨z, ?_, hd⟩
  unfold Rfc2822.parse_from_rfc2822
  rw [scanner_complete s f h (setterRanges_of_valid f hv)]
  exact hz

/-- the denotation determines the value: "exactly the denoted instant" -/
theorem denotation_unique (f : Fields) (z z' : Zoned) (h : Denotes f z) (h' : Denotes f z') : z = z' := by
  obtain ⟨a1, a2, a3, a4, _⟩ := h
  obtain ⟨b1, b2, b3, b4, _⟩ := h'
  have hu : z.utc = z'.utc :=
    Chrono.Proofs.ndt_unique z.utc z'.utc ⟨((Chrono.Proofs.dateInv_iff _).mp a4.1).1, a4.2⟩
      ⟨((Chrono.Proofs.dateInv_iff _).mp b4.1).1, b4.2⟩ (by rw [a2, b2]) (by rw [a3, b3])
  cases z; cases z'
  simp only [] at hu a1 b1
  rw [hu, a1, b1]

/-- **reader_sound** (soundness).  Whatever `parse_from_rfc2822` accepts is a string of the RFC 2822
date-time grammar of the specification, its fields are valid (existing date in range, day-name — if
any — the weekday of the date, time fields and offset in range, UTC reading in range), and the
returned value is the one those fields denote.  With `reader_accepts_spec` and
`denotation_unique`: `parse_from_rfc2822 s = Ok z` exactly when `s` spells valid fields denoting
`z`; everything else is `Err` (`reader_total`: never a panic). -/
theorem reader_sound (s : List Nat) (z : Zoned) (h : Rfc2822.parse_from_rfc2822 s = .ok (.ok z)) :
    ∃ f, Rfc2822 s f ∧ Valid f ∧ Denotes f z := by
  unfold Rfc2822.parse_from_rfc2822 at h
  cases hp : Parse.parse Parsed.new s Rfc2822.ITEMS with
  | error e => rw [hp] at h; cases h
  | ok p =>
    rw [hp] at h
    simp only [] at h
    obtain ⟨f, hf, hr, hm, hy, rfl⟩ := parse_items_sound s p hp
    have hin := inType_parsedOf f hr hm (by omega)
    obtain ⟨hv, hd⟩ := resolve_sound f hin z h
    exact ⟨f, hf, hv, hd⟩

/-- **reader_total.**  For every byte string the reader returns `Ok` or `Err` — it cannot panic
(scanning is total by construction; field resolution of the scanned record by C14's `to_datetime`
theorem). -/
theorem reader_total (s : List Nat) : ∃ r, Rfc2822.parse_from_rfc2822 s = .ok r := by
  unfold Rfc2822.parse_from_rfc2822
  cases hp : Parse.parse Parsed.new s Rfc2822.ITEMS with
  | error e => exact ⟨_, rfl⟩
  | ok p =>
    simp only []
    obtain ⟨f, _, hr, hm, hy, rfl⟩ := parse_items_sound s p hp
    obtain ⟨r, hr', _⟩ := Chrono.Proofs.ParsedRes.to_datetime_spec _ (inType_parsedOf f hr hm (by omega))
    exact ⟨r, hr'⟩

/-- the fields a string of the grammar spells have month ≤ 12 and a non-negative year -/
theorem grammar_month_year (s : List Nat) (f : Fields) (h : Rfc2822 s f) : f.month ≤ 12 ∧ 0 ≤ f.year := by
  obtain ⟨_, _, _, _, _, _, _, yy, _, _, _, _, _, _, _, _, _, _, _, _, _, _, _, _, hmn, _, _, _, hyv, _⟩ := h
  obtain ⟨i, hi, _, hmi⟩ := hmn
  have := yearOf_ge yy
  omega

/-- **accepts_iff_valid.**  Acceptance is exactly validity on the grammar: a string spelling fields
`f` — ANY fields, no range hypothesis — is accepted iff `f` is valid. -/
theorem accepts_iff_valid (s : List Nat) (f : Fields) (h : Rfc2822 s f) :
    (∃ z, Rfc2822.parse_from_rfc2822 s = .ok (.ok z)) ↔ Valid f := by
  constructor
  · rintro ⟨z, hz⟩
    by_cases hr : SetterRanges f
    · have hm := grammar_month_year s f h
      have hin := inType_parsedOf f hr hm.1 (by omega)
      unfold Rfc2822.parse_from_rfc2822 at hz
      rw [scanner_complete s f h hr] at hz
      exact (resolve_sound f hin z hz).1
    · obtain ⟨e, he⟩ := out_of_range_rejected s f h hr
      rw [he] at hz
      cases hz
  · intro hv
    obtain ⟨z, hz, _⟩ := reader_accepts_spec s f h hv
    exact ⟨z, hz⟩

/-- **grammar_unambiguous.**  The specification relation is unambiguous: a byte string spells at most
one tuple of fields — ANY fields, in or out of any range (proved on the relation itself, piece by
piece: a white-space run ends where a byte that starts no white-space character begins, a digit string
at a non-digit, names and two-digit fields have a fixed length, a zone is followed by no letter).
Hence "the fields `s` spells" in `accepts_iff_valid`, `weekday_mismatch_rejected` and
`out_of_range_rejected` are THE fields of `s`: a string of the grammar is accepted iff its one reading
is valid. -/
theorem grammar_unambiguous (s : List Nat) (f f' : Fields) (h : Rfc2822 s f) (h' : Rfc2822 s f') : f = f' :=
  rfc2822_unambiguous s f f' h h'

/-- every accepted string has exactly one reading, and it is valid and denotes the returned value -/
theorem accepted_reading_unique (s : List Nat) (z : Zoned) (hz : Rfc2822.parse_from_rfc2822 s = .ok (.ok z)) :
    ∃ f, Rfc2822 s f ∧ Valid f ∧ Denotes f z ∧ ∀ f', Rfc2822 s f' → f' = f := by
  obtain ⟨f, hf, hv, hd⟩ := reader_sound s z hz
  exact ⟨f, hf, hv, hd, fun f' hf' => grammar_unambiguous s f' f hf' hf⟩

/-- rejection, stated on the string alone: a string of the grammar NONE of whose readings is valid
(equivalently, by `grammar_unambiguous`, whose one reading is not valid) is rejected by value -/
theorem invalid_rejected (s : List Nat) (f : Fields) (h : Rfc2822 s f) (hv : ¬ Valid f) :
    ∃ e, Rfc2822.parse_from_rfc2822 s = .ok (.error e) := by
  obtain ⟨r, hr⟩ := reader_total s
  cases r with
  | error e => exact ⟨e, hr⟩
  | ok z => exact absurd ((accepts_iff_valid s f h).mp ⟨z, hr⟩) hv

/-- **trailing_white_space_rejected** (the boundary of the specification, as a theorem about the code).
ANY text that ends in one of the 25 white-space characters is rejected by value: no string of the
relation ends in white space (each ends in the last digit / letter of its zone or the `)` of its last
comment), and the reader accepts nothing outside the relation (`reader_sound`).  This is the
observation recorded in the specification header — the grammar comment in parse.rs allows trailing
white space, the code does not, the property does not ask for it. -/
theorem trailing_white_space_rejected (s w : List Nat) (hw : w ∈ WS) :
    ∃ e, Rfc2822.parse_from_rfc2822 (s ++ w) = .ok (.error e) := by
  obtain ⟨r, hr⟩ := reader_total (s ++ w)
  cases r with
  | error e => exact ⟨e, hr⟩
  | ok z =>
    exfalso
    obtain ⟨f, hf, _, _⟩ := reader_sound (s ++ w) z hr
    obtain ⟨b, hb, he⟩ := rfc2822_last hf
    obtain ⟨b', hb', hne⟩ := ws_last_not_end w hw
    rw [getLast_append_some s w hb'] at hb
    injection hb with hb
    subst hb
    exact hne he

/-! ## the writer's standard form and the round trip -/

/-- **writer_form_in_grammar.**  The standard form `Www, D Mon YYYY HH:MM:SS +HHMM` of any fields
it can show (day-name, year 0–9999, seconds 00–60, whole-minute offset of less than a day) is a
string of the reader's grammar spelling exactly those fields. -/
theorem writer_form_in_grammar (f : Fields) (h : StdFields f) : Rfc2822 (stdText f) f := by
  obtain ⟨⟨w, hw⟩, d1, d2, m1, m2, y1, y2, h23, h59, ⟨sc, hsc, h60⟩, o1, o2, o3⟩ := h
  obtain ⟨wd, d, m, Y, hh, mi, sec, off⟩ := f
  simp only [] at hw d1 d2 m1 m2 y1 y2 h23 h59 hsc o1 o2 o3
  subst hw; subst hsc
  obtain ⟨y, rfl⟩ := Int.eq_ofNat_of_zero_le y1
  obtain ⟨c1, c2⟩ := cap_tables
  have hwi : w.toNat < 7 ∧ weekdays[w.toNat]? = some w := by cases w <;> decide
  obtain ⟨dd1, dd2, dd3⟩ := day_digits d (by omega)
  obtain ⟨q1, q2, q3⟩ := year_digits y (Int.ofNat_le.mp y2)
  obtain ⟨hd1, hd2, hd3⟩ := dec2_spec hh (by omega)
  obtain ⟨md1, md2, md3⟩ := dec2_spec mi (by omega)
  obtain ⟨sd1, sd2, sd3⟩ := dec2_spec sc (by omega)
  exact ⟨[], dayNamesCap.getD w.toNat [] ++ [44], [32], (if d < 10 then [48 + d] else dec2 d), [32],
    monthNamesCap.getD (m - 1) [], [32], dec2 (y / 100) ++ dec2 (y % 100), [32], dec2 hh, [], [],
    dec2 mi, 58 :: dec2 sc, [32],
    [if off < 0 then 45 else 43] ++ dec2 (off.natAbs / 3600) ++ dec2 (off.natAbs / 60 % 60), [],
    Ws.nil, Or.inr ⟨w.toNat, _, hwi.1, c1 _ hwi.1, rfl, hwi.2.symm⟩, ws_sp,
    dd1, dd2, dd3, ws1_sp, ⟨m - 1, by omega, c2 _ (by omega), (by show m = m - 1 + 1; omega)⟩,
    ws1_sp, q1, (by rw [q2]; decide), q3, ws1_sp,
    hd1, hd2, hd3, Ws.nil, Ws.nil, md1, md2, md3,
    Or.inr ⟨[], dec2 sc, Ws.nil, sd1, sd2, rfl, by rw [sd3]⟩, ws1_sp, zone_digits off o1 o2 o3,
    Comments.nil, by simp [stdText, secOf]⟩

/-- **wall_date_exists_unique.**  Every well-formed zone-aware value has exactly one wall-clock date
`(Y, o)` (year and day of the year of `instant + offset`) — the `(Y, o)` that `writer_shape`,
`item_shape` and the round-trip theorems quantify over is determined by `z`. -/
theorem wall_date_exists_unique (z : Zoned) (hz : ZInv z) :
    ∃ Y o, WallDate z Y o ∧ ∀ Y' o', WallDate z Y' o' → Y' = Y ∧ o' = o := by
  obtain ⟨Y, o, hw⟩ := wallDate_exists z hz
  exact ⟨Y, o, hw, fun Y' o' hw' => wallDate_unique z Y' Y o' o hw' hw⟩

/-- **writer_shape.**  For EVERY well-formed zone-aware value `z` (any sub-second part, any offset of
less than a day) with wall-clock date `(Y, o)`: if the wall-clock year is in 0–9999, `to_rfc2822 z`
is `Www, D Mon YYYY HH:MM:SS ` of the wall-clock fields — the day-name of the wall-clock date, the
day without padding, the month name, the four-digit year, the time with second 60 for a leap
second, sub-seconds dropped — followed by the zone as `shownZone z.off`: sign of the offset, then
`HHMM` of the offset rounded to the nearest minute, ties away from zero (so `-0000` for −00:00:20,
`+2400` for +23:59:40; for a whole-minute offset simply `±HHMM`).  Outside years 0–9999 the call
panics, as documented.  Every value has exactly one wall-clock date (`wallDate_exists`, C04's
`reading_unique`). -/
theorem writer_shape (z : Zoned) (hz : ZInv z) (Y : Int) (o : Nat) (hw : WallDate z Y o) :
    Rfc2822.to_rfc2822 z =
      if 0 ≤ Y ∧ Y ≤ 9999 then .ok (stdHead (fieldsOf z Y o) ++ shownZone z.off) else .panic := by
  obtain ⟨l, h1, h2⟩ := write_wall z hz Y o hw
  unfold Rfc2822.to_rfc2822
  rw [h1]
  simp only []
  rw [h2]
  by_cases hr : 0 ≤ Y ∧ Y ≤ 9999
  · rw [if_pos hr, if_pos hr]; rfl
  · rw [if_neg hr, if_neg hr]; rfl

/-- **writer_shape_total** (`writer_shape` without a wall-clock date handed in).  For every well-formed
value there is a wall-clock date — its only one — and `to_rfc2822` is the standard form of the
wall-clock fields at that date, or the documented panic outside years 0–9999. -/
theorem writer_shape_total (z : Zoned) (hz : ZInv z) :
    ∃ Y o, WallDate z Y o ∧
      Rfc2822.to_rfc2822 z =
        if 0 ≤ Y ∧ Y ≤ 9999 then .ok (stdHead (fieldsOf z Y o) ++ shownZone z.off) else .panic := by
  obtain ⟨Y, o, hw⟩ := wallDate_exists z hz
  exact ⟨Y, o, hw, writer_shape z hz Y o hw⟩

/-- **writer_panics_iff.**  `to_rfc2822` panics exactly when the wall-clock year is negative or has more
than four digits (there is NO lower limit at 1900: RFC 2822 forbids such years, chrono writes them). -/
theorem writer_panics_iff (z : Zoned) (hz : ZInv z) (Y : Int) (o : Nat) (hw : WallDate z Y o) :
    Rfc2822.to_rfc2822 z = .panic ↔ (Y < 0 ∨ 9999 < Y) := by
  rw [writer_shape z hz Y o hw]
  by_cases hr : 0 ≤ Y ∧ Y ≤ 9999
  · rw [if_pos hr]; constructor
    · intro h; cases h
    · intro h; omega
  · rw [if_neg hr]; constructor
    · intro _; omega
    · intro _; rfl

/-- the writer's year range on concrete values (kernel evaluation; the real crate gives the same):
1899-01-01 and 0000-01-01 are written; −0001-12-31, 10000-01-01, the first and the last representable
date panic in `to_rfc2822` and give `fmt::Error` through the item -/
example :
    Rfc2822.to_rfc2822 ⟨⟨dateOfYo 1899 1, ⟨0, 0⟩⟩, 0⟩ = .ok (stdText ⟨some .sun, 1, 1, 1899, 0, 0, some 0, 0⟩) ∧
    Rfc2822.to_rfc2822 ⟨⟨dateOfYo (-1) 365, ⟨86399, 0⟩⟩, 0⟩ = .panic ∧
    Rfc2822.to_rfc2822 ⟨⟨dateOfYo 10000 1, ⟨0, 0⟩⟩, 0⟩ = .panic ∧
    Rfc2822.to_rfc2822 ⟨⟨dateOfYo (-262143) 1, ⟨0, 0⟩⟩, 0⟩ = .panic ∧
    Rfc2822.to_rfc2822 ⟨⟨dateOfYo 262142 365, ⟨86399, 0⟩⟩, 0⟩ = .panic ∧
    Rfc2822.format_item_rfc2822 ⟨⟨dateOfYo (-1) 365, ⟨86399, 0⟩⟩, 0⟩ = .ok none ∧
    Rfc2822.format_item_rfc2822 ⟨⟨dateOfYo 262142 365, ⟨86399, 0⟩⟩, 0⟩ = .ok none := by
  decide +kernel

/-- for a whole-minute offset that text is the standard form `stdText` of the wall-clock fields -/
theorem writer_shape_whole_minute (z : Zoned) (hz : ZInv z) (Y : Int) (o : Nat) (hw : WallDate z Y o)
    (hr : 0 ≤ Y ∧ Y ≤ 9999) (hoff : z.off % 60 = 0) :
    Rfc2822.to_rfc2822 z = .ok (stdText (fieldsOf z Y o)) := by
  rw [writer_shape z hz Y o hw, if_pos hr, stdText_eq (fieldsOf z Y o) hoff]
  rfl

/-- the split is exhaustive: a well-formed value is constructor-built (`TStrict`, hypothesis of
`roundtrip`) exactly when it is not an in-band leap value (hypothesis of `roundtrip_inband_leap`) -/
theorem strict_or_inband (z : Zoned) (hz : ZInv z) : TStrict z.utc.time ↔ ¬ InbandLeap z := by
  obtain ⟨⟨_, hv⟩, _⟩ := hz
  unfold TStrict InbandLeap
  constructor
  · rintro ⟨_, h⟩; omega
  · intro h; exact ⟨hv, by omega⟩

/-- **roundtrip_all** (the property's round-trip clause on its WHOLE quantifier domain).  For every
well-formed value — any nanosecond field the type allows, the in-band leap representation included —
with wall-clock year 0–9999 and a whole-minute offset, `parse_from_rfc2822(&z.to_rfc2822())` is `Ok
(readBack z)`: never a panic, never `Err`; the same offset; `z` to whole seconds, a leap second on :59
kept, an in-band leap value read as the following second. -/
theorem roundtrip_all (z : Zoned) (hz : ZInv z) (Y : Int) (o : Nat)
    (hw : WallDate z Y o) (hr : 0 ≤ Y ∧ Y ≤ 9999) (hoff : z.off % 60 = 0) :
    Rfc2822.roundtrip z = .ok (.ok (.ok (readBack z))) := by
  obtain ⟨h1, h2, h3⟩ := fieldsOf_readBack z hz Y o hw hr hoff
  obtain ⟨z', p1, p2⟩ := reader_accepts_spec _ _ (writer_form_in_grammar _ h1) h2
  have := denotation_unique _ z' (readBack z) p2 h3
  subst this
  unfold Rfc2822.roundtrip
  rw [writer_shape_whole_minute z hz Y o hw hr hoff]
  simp only [p1]

/-- **roundtrip.**  Every well-formed value whose time of day is one the public constructors build
(leap-second representation only on second 59 of a minute), with wall-clock year 0–9999 and a
whole-minute offset: `parse_from_rfc2822(&z.to_rfc2822())` is `Ok` of `z` truncated to whole
seconds — same instant to the second, the leap second preserved, the same offset. -/
theorem roundtrip (z : Zoned) (hz : ZInv z) (hs : TStrict z.utc.time) (Y : Int) (o : Nat)
    (hw : WallDate z Y o) (hr : 0 ≤ Y ∧ Y ≤ 9999) (hoff : z.off % 60 = 0) :
    Rfc2822.roundtrip z = .ok (.ok (.ok (truncSecs z))) := by
  have h := roundtrip_all z hz Y o hw hr hoff
  rwa [readBack, if_neg ((strict_or_inband z hz).mp hs)] at h

/-- non-vacuity of `writer_shape` / `roundtrip`: the leap second 2016-12-31T23:59:60.5Z seen at +05:30
(wall clock 2017-01-01, day 1) meets every hypothesis; a value at −00:00:20 shows `-0000` -/
example : ZInv ⟨⟨dateOfYo 2016 366, ⟨86399, 1500000000⟩⟩, 19800⟩ ∧
    TStrict (⟨86399, 1500000000⟩ : Time) ∧
    WallDate ⟨⟨dateOfYo 2016 366, ⟨86399, 1500000000⟩⟩, 19800⟩ 2017 1 ∧
    shownZone (-20) = [45, 48, 48, 48, 48] ∧ shownZone 86380 = [43, 50, 52, 48, 48] := by
  unfold WallDate
  decide +kernel

/-- **roundtrip_inband_leap** (the complementary case of `roundtrip`).  A well-formed value that carries
the leap-second representation (nanosecond field ≥ 10⁹) on a second OTHER than :59 of a minute — only
`with_nanosecond` builds it — with wall-clock year 0–9999 and a whole-minute offset: the writer shows
`second + 1` (≤ 59), and `parse_from_rfc2822(&z.to_rfc2822())` is `Ok` of the FOLLOWING whole second
(`nextSec z`): same offset, instant `+1 s` in whole seconds, no sub-second part, no leap flag.  There
is no range caveat: the following second lies on the same UTC day (`secs % 60 ≠ 59` gives
`secs + 1 < 86400`), so the result is always a well-formed in-range value — the call never yields `Err`.
(Confirmed on the real crate: 2020-05-17T12:30:15 + 1.5 s at +01:00 → `Sun, 17 May 2020 13:30:16 +0100`
→ 13:30:16+01:00.)  The in-band value's instant is `secs + frac/10⁹ ≥ secs + 1`, so this IS "the same
instant to whole seconds" (`readBack_whole_seconds`). -/
theorem roundtrip_inband_leap (z : Zoned) (hz : ZInv z) (hl : InbandLeap z) (Y : Int) (o : Nat)
    (hw : WallDate z Y o) (hr : 0 ≤ Y ∧ Y ≤ 9999) (hoff : z.off % 60 = 0) :
    ∃ z', Rfc2822.roundtrip z = .ok (.ok (.ok z')) ∧ z' = nextSec z ∧ ZInv z' ∧ z'.off = z.off ∧
      instSecs z'.utc = instSecs z.utc + 1 ∧ z'.utc.time.frac = 0 := by
  obtain ⟨n1, n2, n3, n4, _⟩ := nextSec_facts z hz hl
  have h := roundtrip_all z hz Y o hw hr hoff
  rw [readBack, if_pos hl] at h
  exact ⟨nextSec z, h, rfl, n1, n4, n2, n3⟩

/-- **readBack_whole_seconds** (what `readBack` means, against the instant scale only).  Counting the
nanosecond field's overflow as one more second (`instSecs + frac / 10⁹`: chrono's reading of its leap
representation), `readBack z` is the same whole second as `z`, has no sub-second part, the same
offset and is well formed; and it is a leap-second value exactly when `z` is one on second :59. -/
theorem readBack_whole_seconds (z : Zoned) (hz : ZInv z) :
    instSecs (readBack z).utc + (readBack z).utc.time.frac / 1000000000 =
      instSecs z.utc + z.utc.time.frac / 1000000000 ∧
    (readBack z).utc.time.frac % 1000000000 = 0 ∧ (readBack z).off = z.off ∧ ZInv (readBack z) ∧
    ((readBack z).utc.time.frac ≥ 1000000000 ↔ (z.utc.time.frac ≥ 1000000000 ∧ z.utc.time.secs % 60 = 59)) := by
  obtain ⟨rz, roff, rsecs, rfrac⟩ := readBack_facts z hz
  obtain ⟨⟨_, _, _, f0, f1⟩, _⟩ := hz
  rw [rsecs, rfrac]
  by_cases h : z.utc.time.frac ≥ 1000000000 ∧ z.utc.time.secs % 60 = 59
  · rw [if_pos h, if_neg (fun h' : InbandLeap z => h'.2 h.2)]
    exact ⟨by omega, rfl, roff, rz, fun _ => h, fun _ => Int.le_refl _⟩
  · rw [if_neg h]
    refine ⟨?_, rfl, roff, rz, fun h' => absurd h' (by decide), fun h' => absurd h' h⟩
    by_cases hi : InbandLeap z
    · rw [if_pos hi]; obtain ⟨i1, _⟩ := hi; omega
    · rw [if_neg hi]; unfold InbandLeap at hi; omega

/-- non-vacuity of `roundtrip_inband_leap` / `roundtrip_all`: 2020-05-17T12:30:15 carrying 1.5 s in
its nanosecond field, seen at +01:00, meets every hypothesis; it reads back as 12:30:16 UTC -/
example : ZInv ⟨⟨dateOfYo 2020 138, ⟨45015, 1500000000⟩⟩, 3600⟩ ∧
    InbandLeap ⟨⟨dateOfYo 2020 138, ⟨45015, 1500000000⟩⟩, 3600⟩ ∧
    WallDate ⟨⟨dateOfYo 2020 138, ⟨45015, 1500000000⟩⟩, 3600⟩ 2020 138 ∧
    readBack ⟨⟨dateOfYo 2020 138, ⟨45015, 1500000000⟩⟩, 3600⟩ = ⟨⟨dateOfYo 2020 138, ⟨45016, 0⟩⟩, 3600⟩ := by
  unfold WallDate
  decide +kernel

/-! ## the same writer reached through the `Fixed::RFC2822` item -/

/-- **item_shape.**  `dt.format_with_items([Item::Fixed(Fixed::RFC2822)])` written into a `String`
(`DelayedFormat::write_to`), for EVERY well-formed zone-aware value with wall-clock date `(Y, o)`: the
same text as `writer_shape` states for `to_rfc2822` — `Www, D Mon YYYY HH:MM:SS ` of the wall-clock
fields (second 60 for a leap second) followed by `shownZone z.off` — when the wall-clock year is in
0–9999; otherwise `Err(fmt::Error)` (`.ok none`), never a panic and never a text. -/
theorem item_shape (z : Zoned) (hz : ZInv z) (Y : Int) (o : Nat) (hw : WallDate z Y o) :
    Rfc2822.format_item_rfc2822 z =
      if 0 ≤ Y ∧ Y ≤ 9999 then .ok (some (stdHead (fieldsOf z Y o) ++ shownZone z.off)) else .ok none := by
  obtain ⟨l, h1, h2⟩ := write_wall z hz Y o hw
  rw [format_item_eq, h1]
  exact h2

/-- **item_form.**  The item form and the method agree on every well-formed value: the item writes
exactly the text `to_rfc2822` returns, and fails with `fmt::Error` exactly where `to_rfc2822` panics
(its `expect` on that very error). -/
theorem item_form (z : Zoned) (hz : ZInv z) :
    Rfc2822.format_item_rfc2822 z =
      match Rfc2822.to_rfc2822 z with
      | .ok t => .ok (some t)
      | .panic => .ok none := by
  obtain ⟨Y, o, hw⟩ := wallDate_exists z hz
  rw [item_shape z hz Y o hw, writer_shape z hz Y o hw]
  by_cases hr : 0 ≤ Y ∧ Y ≤ 9999
  · rw [if_pos hr, if_pos hr]
  · rw [if_neg hr, if_neg hr]

/-- DEFINITIONAL (`rfl`: it restates the dispatch of the model `Format.format_item`, it is not a statement
about a value or an item list — those are `item_in_list` / `item_in_list_read` below): one `write_to` step
for the item on a wall-clock reading `l` at offset `off`, any zone name attached, is `write_rfc2822 l off` -/
theorem item_step (l : NaiveDT) (name : List Nat) (off : Int) :
    Format.format_item (some l.date) (some l.time) (some (name, off)) (.fixed .rfc2822) =
      Format.write_rfc2822 l off := rfl

/-- non-vacuity / kernel evaluation of the item form: the leap second 2016-12-31T23:59:60.5Z at +05:30
is written with second 60 (the text of `writer_shape_samples`); 9999-12-31T23:59:59Z at +00:01 (wall-clock
year 10000) is `Err`, not a panic -/
example :
    Rfc2822.format_item_rfc2822 ⟨⟨dateOfYo 2016 366, ⟨86399, 1500000000⟩⟩, 19800⟩
      = .ok (some (stdText ⟨some .sun, 1, 1, 2017, 5, 29, some 60, 19800⟩)) ∧
    Rfc2822.format_item_rfc2822 ⟨⟨dateOfYo 9999 365, ⟨86399, 0⟩⟩, 60⟩ = .ok none := by
  decide +kernel

/-- **writer_shape_samples** (kernel evaluation of the writer model on boundary values, not a
universal statement): 1970-01-01T00:00Z shown at +01:00; the leap second 2016-12-31T23:59:60Z shown at
+05:30 (next day, second 60 kept); the first and the last second the format can show (year 0000 at
+00:00, 9999-12-31 at −23:59); outside years 0–9999 the call panics, as documented. -/
theorem writer_shape_samples :
    Rfc2822.to_rfc2822 ⟨⟨dateOfYo 1970 1, ⟨0, 0⟩⟩, 3600⟩
      = .ok (stdText ⟨some .thu, 1, 1, 1970, 1, 0, some 0, 3600⟩) ∧
    Rfc2822.to_rfc2822 ⟨⟨dateOfYo 2016 366, ⟨86399, 1500000000⟩⟩, 19800⟩
      = .ok (stdText ⟨some .sun, 1, 1, 2017, 5, 29, some 60, 19800⟩) ∧
    Rfc2822.to_rfc2822 ⟨⟨dateOfYo 0 1, ⟨0, 999999999⟩⟩, 0⟩
      = .ok (stdText ⟨some .sat, 1, 1, 0, 0, 0, some 0, 0⟩) ∧
    Rfc2822.to_rfc2822 ⟨⟨dateOfYo 9999 365, ⟨86399, 0⟩⟩, -86340⟩
      = .ok (stdText ⟨some .fri, 31, 12, 9999, 0, 0, some 59, -86340⟩) ∧
    Rfc2822.to_rfc2822 ⟨⟨dateOfYo 9999 365, ⟨86399, 0⟩⟩, 60⟩ = .panic ∧
    Rfc2822.to_rfc2822 ⟨⟨dateOfYo 0 1, ⟨0, 0⟩⟩, -60⟩ = .panic := by
  decide +kernel

/-! ## a contradicting day-name is rejected -/

/-- **weekday_mismatch_rejected.**  A string of the grammar whose day-name is not the weekday of its
date is rejected by value (`Err`, never a panic, never a value) — whatever the other fields are, in
or out of any range (no hypothesis on them). -/
theorem weekday_mismatch_rejected (s : List Nat) (f : Fields) (h : Rfc2822 s f)
    (w : Weekday) (hw : f.weekday = some w)
    (hne : (w.toNat : Int) ≠ weekdayOf (dayNum f.year f.month f.day)) :
    ∃ e, Rfc2822.parse_from_rfc2822 s = .ok (.error e) := by
  by_cases hr : SetterRanges f
  · have hm := grammar_month_year s f h
    have hp := inType_parsedOf f hr hm.1 (by omega)
    obtain ⟨e, he⟩ := resolve_weekday_mismatch f hp w hw hne
    refine ⟨e, ?_⟩
    unfold Rfc2822.parse_from_rfc2822
    rw [scanner_complete s f h hr]
    exact he
  · exact out_of_range_rejected s f h hr

/-! ## the year rule -/

/-- **year_rule.**  What a year of 2, 3 or more digits denotes: 00–49 → 2000–2049, 50–99 → 1950–1999,
three digits → 1900 + value, four or more digits (leading zeros included) → the value itself.
(`reader_accepts_spec` returns the value whose year is `yearOf` of the year digits.) -/
theorem year_rule (yy : List Nat) (hd : Digits yy) :
    (yy.length = 2 → decVal yy ≤ 49 → yearOf yy = 2000 + decVal yy) ∧
    (yy.length = 2 → 50 ≤ decVal yy → yearOf yy = 1900 + decVal yy ∧ decVal yy ≤ 99) ∧
    (yy.length = 3 → yearOf yy = 1900 + decVal yy) ∧
    (4 ≤ yy.length → yearOf yy = decVal yy) := by
  unfold yearOf
  refine ⟨fun h2 h49 => ?_, fun h2 h50 => ?_, fun h3 => ?_, fun h4 => ?_⟩
  · rw [if_pos h2, if_pos h49]; omega
  · have := decVal_two yy hd h2
    rw [if_pos h2, if_neg (by omega)]; omega
  · rw [if_neg (by omega), if_pos h3]; omega
  · rw [if_neg (by omega), if_neg (by omega)]

/-! ## zones -/

/-- **zone_names.**  `timezone_offset_2822` reads every zone of the specification — `±HHMM` with
MM < 60, UT, GMT, EST…PDT in any letter case, any single letter but J (as +0000) — consumes exactly
the zone and returns its offset, whatever follows (nothing, white space, a comment). -/
theorem zone_names (zz : List Nat) (off : Int) (h : Zone zz off) (rest : List Nat) (hr : NoAlphaHead rest) :
    Scan.timezone_offset_2822 (zz ++ rest) = .ok (rest, off) := (tz_spec h rest hr).1

/-- **tables_ok** (re-checked on re-extracted data).  The zone table translated from the current
`scan::timezone_offset_2822` source is exactly the specification's table of RFC 2822 §4.3 plus `z`
(the same pairs, nothing else); the byte ranges of its single-letter arm are exactly the letters
other than J and Z; the model's `if` chain reads every table name as its hours; and the day / month
name tables extracted from the source are the specification's. -/
theorem tables_ok :
    (∀ e ∈ zoneTable, e ∈ Extracted.ZONE_2822) ∧
    (∀ e ∈ Extracted.ZONE_2822, e ∈ zoneTable ∨ e = ([122], 0)) ∧
    (∀ c < 256, (∃ r ∈ Extracted.MILITARY_2822, r.1 ≤ c ∧ c ≤ r.2) ↔
      (isAlpha c ∧ lower c ≠ 106 ∧ lower c ≠ 122)) ∧
    (∀ e ∈ Extracted.ZONE_2822, zoneSecs e.1 = some (e.2 * 3600)) ∧
    Extracted.SHORT_WEEKDAYS = dayNames ∧ Extracted.SHORT_MONTHS = monthNames := by
  refine ⟨by decide, by decide, by decide +kernel, by decide, name_tables.1, name_tables.2.1⟩

/-- **zone_names_sound.**  Conversely `timezone_offset_2822` reads NOTHING but the zones of the
specification: whatever it accepts is a zone `zz` of the relation (numeric with MM < 60, a table name,
a single letter other than J) in front of the returned rest, with the returned offset.  With
`zone_names`: the scanner's zones are exactly `Zone`. -/
theorem zone_names_sound (s rest : List Nat) (off : Int) (h : Scan.timezone_offset_2822 s = .ok (rest, off)) :
    ∃ zz, Zone zz off ∧ s = zz ++ rest := tz_inv s rest off h

/-- **obsolete_zone_table.**  The complete table of obsolete zones, on the names re-extracted from
`scan::timezone_offset_2822`: every extracted name in every letter case is read, alone or before white
space / a comment, as its RFC 2822 §4.3 hours (`z` as +0000); every single ASCII letter but `J`/`j` is read
as +0000 (RFC 2822 says −0000 = "unknown"; chrono's offset type has one zero), and `J`, `j` are rejected. -/
theorem obsolete_zone_table :
    (∀ e ∈ Extracted.ZONE_2822, ∀ v, CaseOf e.1 v → ∀ rest, NoAlphaHead rest →
      Scan.timezone_offset_2822 (v ++ rest) = .ok (rest, e.2 * 3600)) ∧
    (∀ c, isAlpha c → lower c ≠ 106 → ∀ rest, NoAlphaHead rest →
      Scan.timezone_offset_2822 (c :: rest) = .ok (rest, 0)) ∧
    (∀ c, lower c = 106 → ∀ rest, NoAlphaHead rest →
      ∀ r off, Scan.timezone_offset_2822 (c :: rest) ≠ .ok (r, off)) := by
  refine ⟨?_, ?_, ?_⟩
  · intro e he v hv rest hr
    rcases tables_ok.2.1 e he with hm | hz
    · exact zone_names v (e.2 * 3600) (Zone.name v e.1 e.2 hm hv) rest hr
    · subst hz
      have hl : v.map lower = [122] := hv
      have hlen : v.length = 1 := by rw [← List.length_map (f := lower), hl]; rfl
      match v, hlen, hl with
      | [c], _, hl =>
        simp only [List.map_cons, List.map_nil, List.cons.injEq, and_true] at hl
        have ha : isAlpha c := lower_alpha c 122 hl (by omega)
        have := zone_names [c] 0 (Zone.military c ha (by omega)) rest hr
        simpa using this
  · intro c ha hj rest hr
    exact zone_names [c] 0 (Zone.military c ha hj) rest hr
  · intro c hj rest hrest r off h
    -- `j` / `J` is a run of letters that is not in the name table and is left out of the single-letter arm
    have hc : c = 106 ∨ c = 74 := by unfold lower at hj; split at hj <;> omega
    have hn : zoneSecs (lowerS [c]) = none := by rcases hc with rfl | rfl <;> decide
    rw [show c :: rest = [c] ++ rest from rfl,
      tz_name [c] rest (by rcases hc with rfl | rfl <;> decide) (by simp) hrest, zoneName_eq, hn] at h
    rcases hc with rfl | rfl <;> simp [zoneOut, milRes] at h

/-! ## white space and comments -/

/-- **white_space_exact.**  What the reader takes as one white-space character (`Scan.wsLen`, the model
of `char::is_whitespace` on UTF-8, used by `trim_start` / `scan::space`) is exactly one of the 25
encodings of the specification's table `WS`, and that table is the UTF-8 encoding of the 25 code points
with the Unicode property `White_Space`. -/
theorem white_space_exact :
    (∀ s, Scan.wsLen s ≠ 0 ↔ ∃ w r, w ∈ WS ∧ s = w ++ r) ∧
    (∀ w ∈ WS, ∀ r, Scan.wsLen (w ++ r) = w.length ∧ 0 < w.length) ∧
    WS = WS_CODEPOINTS.map utf8Enc ∧ WS_CODEPOINTS.length = 25 ∧ WS_CODEPOINTS.Nodup := by
  refine ⟨fun s => ⟨fun h => ?_, fun h => ?_⟩, fun w hw r => wsLen_ws w hw r, by decide, by decide, by decide⟩
  · obtain ⟨w, r, hw, hs, _⟩ := wsLen_inv s h
    exact ⟨w, r, hw, hs⟩
  · obtain ⟨w, r, hw, rfl⟩ := h
    have := wsLen_ws w hw r
    omega

/-- **comment_exact.**  `scan::comment_2822` accepts exactly `*S "(" ctext ")"` of the specification —
any bytes but parentheses and backslash, `\` followed by any byte (an escaped parenthesis does not
nest or close), nested comments — and returns what follows the closing parenthesis. -/
theorem comment_exact (s rest : List Nat) :
    Scan.comment_2822 s = .ok rest ↔ ∃ w a, Ws w ∧ CText a ∧ s = w ++ (40 :: (a ++ 41 :: rest)) := by
  constructor
  · exact comment_inv s rest
  · rintro ⟨w, a, hw, ha, rfl⟩
    exact comment_one hw ha rest

/-- **comment_any_depth.**  There is no nesting limit: `n` comments inside each other are comment text
for every `n`, so `( (( … )) )` of any depth is read as one comment. -/
theorem comment_any_depth (n : Nat) (rest : List Nat) :
    CText (nestText n) ∧ Scan.comment_2822 (40 :: (nestText n ++ 41 :: rest)) = .ok rest := by
  have h : ∀ n, CText (nestText n) := by
    intro n
    induction n with
    | zero => exact CText.nil
    | succ k ih =>
      have := CText.nest (nestText k) [] ih CText.nil
      simpa [nestText] using this
  exact ⟨h n, (comment_exact _ rest).mpr ⟨[], nestText n, Ws.nil, h n, rfl⟩⟩

/-- an escaped closing parenthesis does not close, an escaped opening one does not nest:
`(a\)b\(c)` is one comment; `(a)b)` ends after `a` -/
example : Scan.comment_2822 [40, 97, 92, 41, 98, 92, 40, 99, 41, 120] = .ok [120] ∧
    Scan.comment_2822 [40, 97, 41, 98, 41] = .ok [98, 41] ∧
    nestText 2 = [40, 40, 41, 41] := by decide

/-! ## code re-extracted as data on every run (audit 2, G1 — data-extraction variant) -/

section Tables
open Chrono.Proofs.Rfc2822Table

/-- the extracted arms are the model's: for every `(yearlen, year)` they compute the `if` chain that stands
in the model `Parse.parse_rfc2822` between `number s 2 none` and `Parsed.set_year`; and the match is total
(the last extracted arm is the wildcard `(_, _)`) -/
theorem year_table_model (yearlen : Nat) (year : Int) :
    applyYearRule Extracted.YEAR_RULE_2822 yearlen year =
      (if yearlen = 2 ∧ 0 ≤ year ∧ year ≤ 49 then year + 2000
       else if yearlen = 2 ∧ 50 ≤ year ∧ year ≤ 99 then year + 1900
       else if yearlen = 3 then year + 1900
       else year) ∧
    ∃ arm ∈ Extracted.YEAR_RULE_2822, armMatches arm yearlen year = true := by
  refine ⟨?_, (none, none, 0), by decide, rfl⟩
  simp only [Extracted.YEAR_RULE_2822, applyYearRule, armMatches, Bool.and_eq_true, decide_eq_true_eq,
    Bool.and_true, if_true, Int.add_zero]

/-- **year_table_ok** (re-checked on re-extracted data).  The arms of `match (yearlen, year)` of the CURRENT
`parse_rfc2822` source (tools/extractors/rfc2822_rules.py → `Extracted.YEAR_RULE_2822`: digit-count pattern,
year-range pattern, `year += N`), applied Rust-`match`-wise (first matching arm) to the length and the value
of ANY digit string, give the year of the specification's rule `yearOf`: a changed arm (`50..=99 → 2000`),
bound or order breaks this theorem on the next run. -/
theorem year_table_ok (yy : List Nat) (hd : Digits yy) :
    applyYearRule Extracted.YEAR_RULE_2822 yy.length (decVal yy) = yearOf yy := by
  rw [(year_table_model _ _).1]
  exact year_rule_eq yy hd

/-- **writer_table_ok** (re-checked on re-extracted data).  The statements of the CURRENT `write_rfc2822`
source — the `0..=9999` guard and, in source order, every `write_str` / `write_char` literal, the
`day < 10` split, `year / 100`, `year % 100`, the `nanosecond() / 1_000_000_000` carried into the seconds,
the four fields of the `OffsetFormat` — interpreted statement by statement over the model's leaf writers,
are the hand-written model `Format.write_rfc2822` on every value: a changed literal, separator, divisor,
bound or statement order in the source breaks this theorem on the next run.  `hundreds_table_ok`: the same
for `write_hundreds` (`n >= 100`, `b'0' + n / 10`, `b'0' + n % 10`). -/
theorem writer_table_ok (dt : NaiveDT) (off : Int) :
    interpWrite Extracted.YEAR_GUARD_2822 Extracted.WRITE_2822 dt off = Format.write_rfc2822 dt off := rfl

theorem hundreds_table_ok (n : Int) :
    interpHundreds Extracted.WRITE_HUNDREDS n = Format.write_hundreds n := rfl

/-- **writer_extracted_shape** (extracted code = specification).  The re-extracted statements of
`write_rfc2822`, run on the wall-clock reading of ANY well-formed value, write exactly the text of
`writer_shape` / `item_shape` (`Www, D Mon YYYY HH:MM:SS ` of the wall-clock fields + the shown zone) inside
years 0–9999 and fail with `fmt::Error` outside. -/
theorem writer_extracted_shape (z : Zoned) (hz : ZInv z) (Y : Int) (o : Nat) (hw : WallDate z Y o) :
    (match Zoned.overflowing_naive_local z with
     | .panic => .panic
     | .ok l => interpWrite Extracted.YEAR_GUARD_2822 Extracted.WRITE_2822 l z.off : Format.W) =
      if 0 ≤ Y ∧ Y ≤ 9999 then .ok (some (stdHead (fieldsOf z Y o) ++ shownZone z.off)) else .ok none := by
  rw [← item_shape z hz Y o hw, format_item_eq]
  cases Zoned.overflowing_naive_local z with
  | panic => rfl
  | ok l => exact writer_table_ok l z.off

/-- non-vacuity: the extracted year rule on `03`, `50`, `103`, `0654`; the extracted statements on the leap
second 2016-12-31T23:59:60.5 read at the wall clock of +05:30 -/
example : applyYearRule Extracted.YEAR_RULE_2822 2 3 = 2003 ∧ applyYearRule Extracted.YEAR_RULE_2822 2 50 = 1950 ∧
    applyYearRule Extracted.YEAR_RULE_2822 3 103 = 2003 ∧ applyYearRule Extracted.YEAR_RULE_2822 4 654 = 654 ∧
    interpWrite Extracted.YEAR_GUARD_2822 Extracted.WRITE_2822 ⟨dateOfYo 2017 1, ⟨19799, 1500000000⟩⟩ 19800
      = .ok (some (stdText ⟨some .sun, 1, 1, 2017, 5, 29, some 60, 19800⟩)) := by
  decide +kernel

/-- **gen_wall_date_fields** (generated code = specification, for the writer's date accessors).  The code
that tools/extractors/rust2lean.py translates from the CURRENT source of `NaiveDate::{year, month, day,
weekday}` (`Chrono.Gen.naive_date.*`, tied to the model by `Props/GenDate.gen_*_eq`), run on the wall-clock
reading `overflowing_naive_local()` of ANY well-formed value, returns exactly the year, month, day and
day-name that `writer_shape` shows (`fieldsOf z Y o`): composition of `gen_year_eq` / `gen_month_eq` /
`gen_day_eq` / `gen_weekday_eq` with C01's calendar theorems and C04's wall-clock reading. -/
theorem gen_wall_date_fields (z : Zoned) (hz : ZInv z) (Y : Int) (o : Nat) (hw : WallDate z Y o) :
    ∃ l, Zoned.overflowing_naive_local z = .ok l ∧
      Gen.naive_date.NaiveDate.year l.date.yof = (fieldsOf z Y o).year ∧
      Gen.naive_date.NaiveDate.month l.date.yof = .ok ((fieldsOf z Y o).month : Int) ∧
      Gen.naive_date.NaiveDate.day l.date.yof = .ok ((fieldsOf z Y o).day : Int) ∧
      ∃ n : Nat, Gen.naive_date.NaiveDate.weekday l.date.yof = .ok n ∧
        weekdays[n]? = (fieldsOf z Y o).weekday := by
  obtain ⟨l, h1, h2, ⟨_, _, v3, v4⟩, _⟩ := wall_reading z hz Y o hw
  have hyl := Chrono.Proofs.yearLen_ge Y
  obtain ⟨fy, _⟩ := Chrono.Proofs.dateOfYo_fields Y o (by omega)
  obtain ⟨hm, hd, _⟩ := Chrono.Proofs.month_day_spec Y o v3 v4
  have hwd := Chrono.Proofs.weekday_spec Y o (by omega)
  refine ⟨l, h1, ?_, ?_, ?_, (dateOfYo Y o).weekday.toNat, ?_, ?_⟩
  · rw [Chrono.Props.GenDate.gen_year_eq, h2, fy]; rfl
  · rw [Chrono.Props.GenDate.gen_month_eq, h2, hm]; rfl
  · rw [Chrono.Props.GenDate.gen_day_eq, h2, hd]; rfl
  · rw [Chrono.Props.GenDate.gen_weekday_eq, h2]
  · show weekdays[(dateOfYo Y o).weekday.toNat]? = weekdayAt (dayNumYo Y o)
    unfold weekdayAt
    rw [← hwd, Int.toNat_natCast]

end Tables

/-! ## the `Fixed::RFC2822` item inside a longer item list (audit 2, G2) -/

/-- **item_in_list** (writing).  `dt.format_with_items(pre ++ [Fixed::RFC2822] ++ post)` with `pre`, `post`
made of `Literal` / `Space` items, written into a `String`, for EVERY well-formed value with wall-clock date
`(Y, o)`: the literal text of `pre`, the text of `writer_shape`, the literal text of `post` — inside years
0–9999; `Err(fmt::Error)` for the whole list outside (never a panic, never a partial text observed). -/
theorem item_in_list (z : Zoned) (hz : ZInv z) (Y : Int) (o : Nat) (hw : WallDate z Y o)
    (pre post : List Item) (hpre : LitsOnly pre) (hpost : LitsOnly post) :
    Rfc2822.format_with_items z (pre ++ [.fixed .rfc2822] ++ post) =
      if 0 ≤ Y ∧ Y ≤ 9999 then
        .ok (some (litText pre ++ (stdHead (fieldsOf z Y o) ++ shownZone z.off) ++ litText post))
      else .ok none := by
  rw [format_in_list z pre post hpre hpost, item_shape z hz Y o hw]
  by_cases hr : 0 ≤ Y ∧ Y ≤ 9999
  · rw [if_pos hr, if_pos hr]
  · rw [if_neg hr, if_neg hr]

/-- the single item is the list form with nothing around it -/
theorem item_single_is_list (z : Zoned) : Rfc2822.format_item_rfc2822 z = Rfc2822.format_with_items z [.fixed .rfc2822] := rfl

/-- **item_in_list_read** (reading).  `parse(&mut parsed, a ++ s ++ b, [Literal(a), Fixed::RFC2822, Literal(b)])`
followed by `to_datetime`, for ANY literal `a`, any string `s` of the grammar whose fields are inside the setter
ranges, and any literal `b` that starts neither with an ASCII letter nor with a comment (`*S "("` — the item
reads trailing comments greedily): the result is that of `parse_from_rfc2822 s` — the same value, or the same
resolution error. -/
theorem item_in_list_read (s : List Nat) (f : Fields) (h : Rfc2822 s f) (hr : SetterRanges f)
    (a b : List Nat) (hb : NoAlphaHead b) (hcb : ∃ e, Scan.comment_2822 b = .error e) :
    Rfc2822.parse_items_to_datetime (a ++ (s ++ b)) [.literal a, .fixed .rfc2822, .literal b] =
      Rfc2822.parse_from_rfc2822 s := by
  have h1 : Parse.parse Parsed.new (a ++ (s ++ b)) [.literal a, .fixed .rfc2822, .literal b] = .ok (parsedOf f) := by
    unfold Parse.parse
    rw [parse_internal_lit, Parse.parse_internal]
    simp only [parse_rfc2822_complete_rest s f h hr b hb hcb]
    have := parse_internal_lit (parsedOf f) b [] []
    rw [List.append_nil] at this
    rw [this, Parse.parse_internal]
  unfold Rfc2822.parse_items_to_datetime Rfc2822.parse_from_rfc2822
  rw [h1, scanner_complete s f h hr]

/-- hence, for valid fields: the value they denote -/
theorem item_in_list_read_valid (s : List Nat) (f : Fields) (h : Rfc2822 s f) (hv : Valid f)
    (a b : List Nat) (hb : NoAlphaHead b) (hcb : ∃ e, Scan.comment_2822 b = .error e) :
    ∃ z, Rfc2822.parse_items_to_datetime (a ++ (s ++ b)) [.literal a, .fixed .rfc2822, .literal b] = .ok (.ok z) ∧
      Denotes f z := by
  obtain ⟨z, hz, hd⟩ := reader_accepts_spec s f h hv
  exact ⟨z, by rw [item_in_list_read s f h (setterRanges_of_valid f hv) a b hb hcb, hz], hd⟩

/-- a `Literal` in front of the item, ANY text `s` (in or out of the grammar), any further items: accepted,
rejected and read exactly as without it -/
theorem item_behind_literal (a s : List Nat) (rest : List Item) :
    Rfc2822.parse_items_to_datetime (a ++ s) (.literal a :: rest) = Rfc2822.parse_items_to_datetime s rest := by
  unfold Rfc2822.parse_items_to_datetime Parse.parse
  rw [parse_internal_lit]

/-- non-vacuity: `<` … `>` around an item (`>` starts neither a letter nor a comment); `[Literal "<", RFC2822,
Literal ">"]` are literal items around the item -/
example : NoAlphaHead [62] ∧ (∃ e, Scan.comment_2822 [62] = .error e) ∧
    LitsOnly [.literal [60]] ∧ litText [.literal [60], .space [32]] = [60, 32] :=
  ⟨Or.inr ⟨62, [], rfl, by decide⟩, ⟨.invalid, by decide⟩,
   fun it hi => by simp at hi; exact Or.inl ⟨[60], hi⟩, rfl⟩

/-! ## what `Valid` excludes at the end of the range, and the in-band leap instant (audit 2, G3 / G4) -/

/-- **wall_year_beyond_max_rejected.**  `Valid` asks for a wall-clock year ≤ `MAX_YEAR` (the wall-clock date
is built as a `NaiveDate` before the offset is subtracted).  A string of the grammar with a larger year is
rejected by value — ALSO when the instant it denotes and its offset are representable (`1 Jan 262143 00:00
+0001` = UTC 262142-12-31T23:59, a legal `DateTime<FixedOffset>`; example below; the real crate:
`Err(OutOfRange)`).  The property's "denoted instant" clauses (`reader_accepts_spec`, `reader_sound`) are
silent on such strings by this exclusion; this theorem says what happens instead. -/
theorem wall_year_beyond_max_rejected (s : List Nat) (f : Fields) (h : Rfc2822 s f)
    (hy : Extracted.MAX_YEAR < f.year) : ∃ e, Rfc2822.parse_from_rfc2822 s = .ok (.error e) :=
  invalid_rejected s f h (fun hv => by have := hv.2.1; omega)

/-- `1 Jan 262143 00:00 +0001` -/
def exEdge : List Nat :=
  [49, 32, 74, 97, 110, 32, 50, 54, 50, 49, 52, 51, 32, 48, 48, 58, 48, 48, 32, 43, 48, 48, 48, 49]
def exEdgeFields : Fields := ⟨none, 1, 1, 262143, 0, 0, none, 60⟩

/-- the hypotheses of `wall_year_beyond_max_rejected` on that string; its instant is in range, its offset
valid, the value it would denote (UTC 262142-12-31T23:59:00 at +00:01) is well formed — and the reader
rejects it -/
example : Rfc2822 exEdge exEdgeFields ∧ Extracted.MAX_YEAR < exEdgeFields.year ∧
    InRangeSecs (localSecs exEdgeFields - exEdgeFields.off) ∧ OffValid exEdgeFields.off ∧
    ZInv ⟨⟨dateOfYo 262142 365, ⟨86340, 0⟩⟩, 60⟩ ∧
    ∃ e, Rfc2822.parse_from_rfc2822 exEdge = .ok (.error e) := by
  have hg : Rfc2822 exEdge exEdgeFields := ?_
  · exact ⟨hg, by decide +kernel, by decide +kernel, by decide +kernel, by decide +kernel,
      wall_year_beyond_max_rejected exEdge exEdgeFields hg (by decide +kernel)⟩
  exact ⟨[], [], [], [49], [32], [74, 97, 110], [32], [50, 54, 50, 49, 52, 51], [32], [48, 48], [],
    [], [48, 48], [], [32], [43, 48, 48, 48, 49], [],
    Ws.nil, Or.inl ⟨rfl, rfl⟩, Ws.nil, by decide, Or.inl rfl, by decide,
    ws1_sp, ⟨0, by decide, by decide, rfl⟩, ws1_sp, by decide, by decide, by decide, ws1_sp,
    by decide, rfl, by decide, Ws.nil, Ws.nil, by decide, rfl, by decide,
    Or.inl ⟨rfl, rfl⟩, ws1_sp,
    Zone.num false 48 48 48 49 (by decide) (by decide) (by decide) (by decide), Comments.nil, rfl⟩

/-- **inband_timestamp** (what "the same instant" means for the in-band leap representation).  In chrono's
own whole-second scale (`DateTime::timestamp()` = `instSecs`), the value read back from the text of an in-band
leap value is ONE SECOND LATER than the original; for every other value it is the same second.  The round-trip
theorems count the nanosecond field's overflow as that second (`readBack_whole_seconds`). -/
theorem inband_timestamp (z : Zoned) (hz : ZInv z) :
    instSecs (readBack z).utc = instSecs z.utc + (if InbandLeap z then 1 else 0) := by
  unfold readBack
  by_cases hl : InbandLeap z
  · rw [if_pos hl, if_pos hl]
    exact (nextSec_facts z hz hl).2.1
  · rw [if_neg hl, if_neg hl]
    unfold truncSecs instSecs
    simp

/-! ## non-vacuity: concrete strings of the grammar with valid fields -/

/-- `Tue, 1 Jul 2003 10:52:37 +0200` (the rustdoc example of `to_rfc2822`) -/
def exStd : List Nat :=
  [84, 117, 101, 44, 32, 49, 32, 74, 117, 108, 32, 50, 48, 48, 51, 32, 49, 48, 58, 53, 50, 58, 51, 55, 32,
   43, 48, 50, 48, 48]
def exStdFields : Fields := ⟨some .tue, 1, 7, 2003, 10, 52, some 37, 7200⟩

/-- an obsolete form: no day-name, two-digit year, no seconds, runs of white space (TAB, U+00A0,
U+3000), a zone name in mixed case, a nested comment with escapes:
`␠1␉jUL␠␠03 10 : 52 eSt (a(b\)) c\\)` -/
def exObs : List Nat :=
  [32, 49, 9, 106, 85, 76, 32, 32, 48, 51, 194, 160, 49, 48, 32, 58, 227, 128, 128, 53, 50, 32, 101, 83, 116,
   32, 40, 97, 40, 98, 92, 41, 41, 32, 99, 92, 92, 41]
def exObsFields : Fields := ⟨none, 1, 7, 2003, 10, 52, none, -18000⟩

example : Rfc2822 exStd exStdFields ∧ Valid exStdFields := by
  refine ⟨⟨[], [84, 117, 101, 44], [32], [49], [32], [74, 117, 108], [32], [50, 48, 48, 51], [32], [49, 48], [],
    [], [53, 50], [58, 51, 55], [32], [43, 48, 50, 48, 48], [],
    Ws.nil, Or.inr ⟨1, [84, 117, 101], by decide, by decide, rfl, rfl⟩, ws_sp, by decide, Or.inl rfl, by decide,
    ws1_sp, ⟨6, by decide, by decide, rfl⟩, ws1_sp, by decide, by decide, by decide, ws1_sp,
    by decide, rfl, by decide, Ws.nil, Ws.nil, by decide, rfl, by decide,
    Or.inr ⟨[], [51, 55], Ws.nil, by decide, rfl, rfl, rfl⟩, ws1_sp,
    Zone.num false 48 50 48 48 (by decide) (by decide) (by decide) (by decide), Comments.nil, rfl⟩, ?_⟩
  unfold Valid
  decide

example : Rfc2822 exObs exObsFields ∧ Valid exObsFields := by
  refine ⟨⟨[32], [], [], [49], [9], [106, 85, 76], [32, 32], [48, 51], [194, 160], [49, 48], [32],
    [227, 128, 128], [53, 50], [], [32], [101, 83, 116], [32, 40, 97, 40, 98, 92, 41, 41, 32, 99, 92, 92, 41],
    ws_sp, Or.inl ⟨rfl, rfl⟩, Ws.nil, by decide, Or.inl rfl, by decide,
    ⟨[9], [], by decide, Ws.nil, rfl⟩, ⟨6, by decide, by decide, rfl⟩,
    ⟨[32], [32], by decide, ws_sp, rfl⟩, by decide, by decide, by decide,
    ⟨[194, 160], [], by decide, Ws.nil, rfl⟩,
    by decide, rfl, by decide, ws_sp, Ws.cons [227, 128, 128] [] (by decide) Ws.nil, by decide, rfl, by decide,
    Or.inl ⟨rfl, rfl⟩, ws1_sp, (show Zone [101, 83, 116] (-18000) from
      (by decide : (-5 : Int) * 3600 = -18000) ▸ Zone.name [101, 83, 116] [101, 115, 116] (-5) (by decide) (by decide)),
    Comments.cons [32] [97, 40, 98, 92, 41, 41, 32, 99, 92, 92] [] ws_sp
      (CText.char 97 _ (by decide) (by decide) (by decide)
        (CText.nest [98, 92, 41] [32, 99, 92, 92]
          (CText.char 98 _ (by decide) (by decide) (by decide) (CText.esc 41 [] CText.nil))
          (CText.char 32 _ (by decide) (by decide) (by decide)
            (CText.char 99 _ (by decide) (by decide) (by decide) (CText.esc 92 [] CText.nil)))))
      Comments.nil, rfl⟩, ?_⟩
  unfold Valid
  decide

/-- a contradicting day-name: `Mon, 1 Jul 2003 10:52:37 +0200` (that day is a Tuesday) is a string of
the grammar and meets the hypotheses of `weekday_mismatch_rejected` -/
def exMon : List Nat :=
  [77, 111, 110, 44, 32, 49, 32, 74, 117, 108, 32, 50, 48, 48, 51, 32, 49, 48, 58, 53, 50, 58, 51, 55, 32,
   43, 48, 50, 48, 48]
example : Rfc2822 exMon { exStdFields with weekday := some .mon } ∧
    SetterRanges { exStdFields with weekday := some .mon } ∧
    ((Weekday.mon.toNat : Int) ≠ weekdayOf (dayNum 2003 7 1)) := by
  refine ⟨⟨[], [77, 111, 110, 44], [32], [49], [32], [74, 117, 108], [32], [50, 48, 48, 51], [32], [49, 48], [],
    [], [53, 50], [58, 51, 55], [32], [43, 48, 50, 48, 48], [],
    Ws.nil, Or.inr ⟨0, [77, 111, 110], by decide, by decide, rfl, rfl⟩, ws_sp, by decide, Or.inl rfl, by decide,
    ws1_sp, ⟨6, by decide, by decide, rfl⟩, ws1_sp, by decide, by decide, by decide, ws1_sp,
    by decide, rfl, by decide, Ws.nil, Ws.nil, by decide, rfl, by decide,
    Or.inr ⟨[], [51, 55], Ws.nil, by decide, rfl, rfl, rfl⟩, ws1_sp,
    Zone.num false 48 50 48 48 (by decide) (by decide) (by decide) (by decide), Comments.nil, rfl⟩, ?_, ?_⟩
  · unfold SetterRanges; decide
  · decide

/-- a contradicting day-name on fields OUTSIDE the setter ranges: `Mon, 32 Jul 2003 24:52:37 +0200` is a
string of the grammar (day 32, hour 24), meets the hypotheses of `weekday_mismatch_rejected` and of
`out_of_range_rejected` -/
def exBad : List Nat :=
  [77, 111, 110, 44, 32, 51, 50, 32, 74, 117, 108, 32, 50, 48, 48, 51, 32, 50, 52, 58, 53, 50, 58, 51, 55, 32,
   43, 48, 50, 48, 48]
def exBadFields : Fields := ⟨some .mon, 32, 7, 2003, 24, 52, some 37, 7200⟩
example : Rfc2822 exBad exBadFields ∧ ¬ SetterRanges exBadFields ∧
    ((Weekday.mon.toNat : Int) ≠ weekdayOf (dayNum 2003 7 32)) := by
  refine ⟨⟨[], [77, 111, 110, 44], [32], [51, 50], [32], [74, 117, 108], [32], [50, 48, 48, 51], [32], [50, 52], [],
    [], [53, 50], [58, 51, 55], [32], [43, 48, 50, 48, 48], [],
    Ws.nil, Or.inr ⟨0, [77, 111, 110], by decide, by decide, rfl, rfl⟩, ws_sp, by decide, Or.inr rfl, by decide,
    ws1_sp, ⟨6, by decide, by decide, rfl⟩, ws1_sp, by decide, by decide, by decide, ws1_sp,
    by decide, rfl, by decide, Ws.nil, Ws.nil, by decide, rfl, by decide,
    Or.inr ⟨[], [51, 55], Ws.nil, by decide, rfl, rfl, rfl⟩, ws1_sp,
    Zone.num false 48 50 48 48 (by decide) (by decide) (by decide) (by decide), Comments.nil, rfl⟩, ?_, ?_⟩
  · unfold SetterRanges; decide
  · decide

/-- the year rule on concrete digit strings: `03` → 2003, `50` → 1950, `103` → 2003, `0654` → 654 -/
example : yearOf [48, 51] = 2003 ∧ yearOf [53, 48] = 1950 ∧ yearOf [49, 48, 51] = 2003 ∧
    yearOf [48, 54, 53, 52] = 654 ∧ yearOf [48, 50, 48, 50, 52] = 2024 := by decide

/-- zones: `-0330`, `pDt`, the military letter `k`; `J` is no zone of the specification -/
example : Zone [45, 48, 51, 51, 48] (-12600) ∧ Zone [112, 68, 116] (-25200) ∧ Zone [107] 0 :=
  ⟨Zone.num true 48 51 51 48 (by decide) (by decide) (by decide) (by decide),
   (by decide : (-7 : Int) * 3600 = -25200) ▸ Zone.name [112, 68, 116] [112, 100, 116] (-7) (by decide) (by decide),
   Zone.military 107 (by decide) (by decide)⟩

end Chrono.Props.C11
