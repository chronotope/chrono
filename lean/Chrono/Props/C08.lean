/-
  C08 — month stepping, field replacement and week helpers follow calendar rules.
  First half: dates (helper lemmas: Proofs/DateOpsL.lean).  Model: Model/DateOps.lean on top of
  Model/Date.lean.  Specification: Spec/DateOpsSpec.lean on top of Spec/Calendar.lean (leap rule, month
  lengths, closed-form day number, weekday of a day number), independent of chrono's tables.

  A date of the supported range is `dateOfYo y o` with `MIN_YEAR ≤ y ≤ MAX_YEAR`, `1 ≤ o ≤ yearLen y`
  (C01: every value the constructors return has this form); its month and day are `monthOfYo y o`,
  `dayOfYo y o` (C01 `accessors_ok`).  `u32` arguments are natural numbers: every theorem below holds
  for EVERY natural argument, in particular for all of `0 ..= u32::MAX`.

  Second half (date-time forms; helper lemmas: Proofs/DateTimeOpsL.lean on top of C07's Proofs/TimeL.lean
  and C04's Proofs/Zoned*.lean; models: Model/Time.lean, Model/ZonedOps.lean, Model/DateTime.lean,
  Model/DateTimeOps.lean; vocabulary: Spec/DateTimeOpsSpec.lean, Spec/ZonedSpec.lean):
    `TValid t`         a well-formed time of day: `secs < 86400`, `frac < 2·10⁹` (leap representation
                       `frac ≥ 10⁹` on any second, as `with_nanosecond` can build it);
    `HasFields t' h m s n`  `t'` is well formed and shows hour `h`, minute `m`, second `s`, nanosecond `n`;
    `ZInv z`           a well-formed `DateTime<FixedOffset>` (`DateTime<Utc>`: offset 0): UTC reading in
                       range, |offset| < 86400;  `wallSecs z` = instant + offset;
    `ExtNDTInv l`      a reading of the calendar extended by one year at each end (a wall clock can lie
                       up to a day outside the range);
    `ActsOnWall z r0 r`  `r` is the value at `z`'s offset whose wall clock is the naive result `r0`, kept
                       only inside `MIN_UTC ..= MAX_UTC` (`ActsOnWallWith ok`: another filter).
-/
import Chrono.Proofs.DateTimeOpsL
import Chrono.Proofs.MonthsOpsL
import Chrono.Proofs.TimeStrictL

namespace Chrono.Props.C08
open Chrono Chrono.M Chrono.Spec Chrono.Proofs Chrono.Proofs.ZN Chrono.Proofs.DTO Chrono.Extracted
  Chrono.Extracted.DateOps Chrono.Proofs.MOps Chrono.Proofs.TStrictL

/-! ### data re-extracted from the source on this run -/

/-- the month-length array local to `diff_months`, the arms of `Month::num_days`, the February
literals and the split constants, as re-extracted from the Rust source, are what the calendar
prescribes (every cell, every year) -/
theorem month_data_ok (y : Int) :
    DM_DAYS.length = 12 ∧ MN_DAYS.length = 12 ∧
    (∀ k < 12, (if k = DM_FEB_INDEX then (if yearLen y = DM_NDAYS_LEAP then DM_FEB_LEAP else DM_FEB_COMMON)
                else DM_DAYS.getD k 0) = monthLen y (k + 1)) ∧
    (∀ k < 12, (if k = 1 then (if isLeap y then MN_FEB_TRUE else MN_FEB_FALSE) else MN_DAYS.getD k 0)
                = monthLen y (k + 1)) ∧
    (DM_DIV = 12 ∧ DM_REM = 12 ∧ DM_ADD = 1 ∧ DM_MUL = 12 ∧ DM_SUB = 1) ∧
    (MN_FEB_MONTH = 2 ∧ MN_FEB_DAY = 1 ∧ WO_ZERO = 0 ∧ WO_MAX = 366 ∧ Q_SUB = 1 ∧ Q_DIV = 3 ∧ Q_ADD = 1) := by
  refine ⟨rfl, rfl, fun k hk => dm_day_max y k hk, ?_, by decide, by decide⟩
  intro k hk
  match k, hk with
  | 1, _ => unfold monthLen; cases isLeap y <;> rfl
  | 0, _ | 2, _ | 3, _ | 4, _ | 5, _ | 6, _ | 7, _ | 8, _ | 9, _ | 10, _ | 11, _ => rfl

/-! ### month stepping -/

/-- adding and subtracting months, for every date of the range and EVERY month count (all of `u32`
and beyond): the result is the specification's `addMonths?`, never a panic -/
theorem months_spec (y : Int) (o : Nat) (hy : MIN_YEAR ≤ y ∧ y ≤ MAX_YEAR) (ho : 1 ≤ o ∧ o ≤ yearLen y)
    (n : Nat) :
    (dateOfYo y o).checked_add_months n = .ok (addMonths? y (monthOfYo y o) (dayOfYo y o) n) ∧
    (dateOfYo y o).checked_sub_months n = .ok (addMonths? y (monthOfYo y o) (dayOfYo y o) (-(n : Int))) :=
  ⟨add_months_spec y o hy ho n, sub_months_spec y o hy ho n⟩

/-- what `addMonths?` is (for a day `d ≥ 1`, any signed count `n`): the year-month index moves by
exactly `n` (Euclidean split, month in 1..12); the step fails exactly when the target year leaves
the supported range; otherwise the result is the date of the target year and month whose day is
`min d (monthLen …)`, i.e. the original day clamped to the last day of the target month -/
theorem months_target (y : Int) (m d : Nat) (n : Int) (hd : 1 ≤ d) :
    monthIndex (stepYear y m n) (stepMonth y m n) = monthIndex y m + n ∧
    1 ≤ stepMonth y m n ∧ stepMonth y m n ≤ 12 ∧
    (addMonths? y m d n = none ↔ (stepYear y m n < MIN_YEAR ∨ stepYear y m n > MAX_YEAR)) ∧
    (∀ r, addMonths? y m d n = some r →
      r.year = stepYear y m n ∧ r.month = .ok (stepMonth y m n) ∧
      r.day = .ok (min d (monthLen (stepYear y m n) (stepMonth y m n)))) := by
  obtain ⟨hv, h1, h12⟩ := step_valid y m d n hd
  refine ⟨?_, h1, h12, addMonths_none_iff y m d n hd, ?_⟩
  · have hk0 : 0 ≤ (monthIndex y m + n) % 12 := Int.emod_nonneg _ (by decide)
    unfold stepYear stepMonth
    generalize monthIndex y m + n = T at *
    unfold monthIndex
    omega
  · intro r hr
    unfold addMonths? ymdDate? at hr
    obtain ⟨-, rfl⟩ := ite_some_cases.2 r hr
    obtain ⟨f1, f2, f3, _⟩ := ymd_fields _ _ _ hv
    exact ⟨f1, f2, f3⟩

/-- a month count above `i32::MAX` is always refused — and the target year is then out of range
anyway, so this is no exception to "fails only when the target year is out of range" -/
theorem months_huge (y : Int) (o : Nat) (hy : MIN_YEAR ≤ y ∧ y ≤ MAX_YEAR) (ho : 1 ≤ o ∧ o ≤ yearLen y)
    (n : Nat) (hn : (n : Int) > I32_MAX) :
    (dateOfYo y o).checked_add_months n = .ok none ∧ (dateOfYo y o).checked_sub_months n = .ok none ∧
    stepYear y (monthOfYo y o) n > MAX_YEAR ∧ stepYear y (monthOfYo y o) (-(n : Int)) < MIN_YEAR := by
  have hI : I32_MAX = 2147483647 := rfl
  have hMIN : MIN_YEAR = -262143 := rfl
  have hMAX : MAX_YEAR = 262142 := rfl
  obtain ⟨_, _, m3, _⟩ := month_day_spec y o ho.1 ho.2
  obtain ⟨hm1, hm12, hd1, _⟩ := (valid_iff y _ _).mp m3
  have ha : stepYear y (monthOfYo y o) n > MAX_YEAR := by unfold stepYear monthIndex; omega
  have hs : stepYear y (monthOfYo y o) (-(n : Int)) < MIN_YEAR := by unfold stepYear monthIndex; omega
  obtain ⟨h1, h2⟩ := months_spec y o hy ho n
  rw [h1, h2, (addMonths_none_iff _ _ _ _ hd1).mpr (Or.inr ha), (addMonths_none_iff _ _ _ _ hd1).mpr (Or.inl hs)]
  exact ⟨rfl, rfl, ha, hs⟩

/-! ### field replacement -/

/-- replacing one field of a date, for every date of the range and EVERY argument (all of `i32` for
the year, all of `u32` and beyond for the others; the 0-based forms include `u32::MAX`, where the
`+ 1` is refused): the result is the date with that field changed and the others kept if that date
exists (`ymdDate?` / `yoDate?`), nothing otherwise; never a panic -/
theorem with_field_spec (y : Int) (o : Nat) (hy : MIN_YEAR ≤ y ∧ y ≤ MAX_YEAR) (ho : 1 ≤ o ∧ o ≤ yearLen y)
    (v : Nat) (y' : Int) :
    (dateOfYo y o).with_year y' = .ok (ymdDate? y' (monthOfYo y o) (dayOfYo y o)) ∧
    (dateOfYo y o).with_month v = .ok (ymdDate? y v (dayOfYo y o)) ∧
    (dateOfYo y o).with_month0 v = .ok (ymdDate? y (v + 1) (dayOfYo y o)) ∧
    (dateOfYo y o).with_day v = .ok (ymdDate? y (monthOfYo y o) v) ∧
    (dateOfYo y o).with_day0 v = .ok (ymdDate? y (monthOfYo y o) (v + 1)) ∧
    (dateOfYo y o).with_ordinal v = .ok (yoDate? y v) ∧
    (dateOfYo y o).with_ordinal0 v = .ok (yoDate? y (v + 1)) :=
  ⟨with_year_spec y o ho y', with_month_spec y o hy ho v, with_month0_spec y o hy ho v,
   with_day_spec y o hy ho v, with_day0_spec y o hy ho v, with_ordinal_spec y o hy ho v,
   with_ordinal0_spec y o hy ho v⟩

/-- what `ymdDate?` / `yoDate?` are: the value exists exactly when the year is in range and the
(month, day) resp. ordinal exists in that year, and then it has exactly those fields -/
theorem replaced_fields (y : Int) (m d o : Nat) :
    (ymdDate? y m d = none ↔ ¬ (MIN_YEAR ≤ y ∧ y ≤ MAX_YEAR ∧ 1 ≤ m ∧ m ≤ 12 ∧ 1 ≤ d ∧ d ≤ monthLen y m)) ∧
    (∀ r, ymdDate? y m d = some r → r.year = y ∧ r.month = .ok m ∧ r.day = .ok d) ∧
    (yoDate? y o = none ↔ ¬ (MIN_YEAR ≤ y ∧ y ≤ MAX_YEAR ∧ 1 ≤ o ∧ o ≤ yearLen y)) ∧
    (∀ r, yoDate? y o = some r → r.year = y ∧ r.ordinal = o) := by
  have hyl := yearLen_ge y
  refine ⟨?_, ?_, ?_, ?_⟩
  · unfold ymdDate?
    rw [ite_some_cases.1, valid_iff]
  · intro r hr
    unfold ymdDate? at hr
    obtain ⟨hc, rfl⟩ := ite_some_cases.2 r hr
    obtain ⟨f1, f2, f3, _⟩ := ymd_fields y m d hc.2.2
    exact ⟨f1, f2, f3⟩
  · unfold yoDate?
    exact ite_some_cases.1
  · intro r hr
    unfold yoDate? at hr
    obtain ⟨hc, rfl⟩ := ite_some_cases.2 r hr
    obtain ⟨f1, f2, _⟩ := dateOfYo_fields y o (by omega)
    exact ⟨f1, f2⟩

/-- at `u32::MAX` every 1- and 0-based replacement answers `None` (no wrap-around of the `+ 1`) -/
theorem with_field_u32max (y : Int) (o : Nat) (hy : MIN_YEAR ≤ y ∧ y ≤ MAX_YEAR) (ho : 1 ≤ o ∧ o ≤ yearLen y) :
    (dateOfYo y o).with_month 4294967295 = .ok none ∧ (dateOfYo y o).with_month0 4294967295 = .ok none ∧
    (dateOfYo y o).with_day 4294967295 = .ok none ∧ (dateOfYo y o).with_day0 4294967295 = .ok none ∧
    (dateOfYo y o).with_ordinal 4294967295 = .ok none ∧ (dateOfYo y o).with_ordinal0 4294967295 = .ok none := by
  obtain ⟨_, h1, h2, h3, h4, h5, h6⟩ := with_field_spec y o hy ho 4294967295 0
  have hyl := yearLen_ge y
  have hm : ∀ m d, 12 < m → ymdDate? y m d = none := by
    intro m d h; rw [(replaced_fields y m d 0).1]; intro hc; omega
  have hd : ∀ m d, 31 < d → ymdDate? y m d = none := by
    intro m d h; rw [(replaced_fields y m d 0).1]; intro hc
    have := monthLen_pos y m hc.2.2.1 hc.2.2.2.1; omega
  have hoo : ∀ o', 366 < o' → yoDate? y o' = none := by
    intro o' h; rw [(replaced_fields y 0 0 o').2.2.1]; intro hc; omega
  rw [h1, h2, h3, h4, h5, h6, hm _ _ (by omega), hm _ _ (by omega), hd _ _ (by omega), hd _ _ (by omega),
    hoo _ (by omega), hoo _ (by omega)]
  exact ⟨rfl, rfl, rfl, rfl, rfl, rfl⟩

/-! ### weeks -/

/-- the week containing a date, for every date of the range and every first weekday `s`:
with `n` the date's day number and `k = daysBack …` (0 ≤ k ≤ 6) the distance back to the most recent
`s`: the first day is the date with day number `n − k` — which falls on weekday `s` — or `None`
exactly when `n − k` precedes `NaiveDate::MIN`; the last day is the date with day number `n − k + 6`
or `None` exactly when that exceeds `NaiveDate::MAX`; `checked_days` is both or nothing; the
`expect`-ing forms panic exactly on `None`.  Never a panic in the checked forms. -/
theorem week_spec (y : Int) (o : Nat) (hy : MIN_YEAR ≤ y ∧ y ≤ MAX_YEAR) (ho : 1 ≤ o ∧ o ≤ yearLen y)
    (s : Weekday) :
    ∃ rf rl, ((dateOfYo y o).week s).checked_first_day = .ok rf ∧
      ((dateOfYo y o).week s).checked_last_day = .ok rl ∧
      (0 ≤ daysBack (weekdayOf (dayNumYo y o)) s.toNat ∧ daysBack (weekdayOf (dayNumYo y o)) s.toNat ≤ 6) ∧
      weekdayOf (dayNumYo y o - daysBack (weekdayOf (dayNumYo y o)) s.toNat) = s.toNat ∧
      IsDateOfDayNum rf (dayNumYo y o - daysBack (weekdayOf (dayNumYo y o)) s.toNat) ∧
      IsDateOfDayNum rl (dayNumYo y o - daysBack (weekdayOf (dayNumYo y o)) s.toNat + 6) ∧
      ((dateOfYo y o).week s).checked_days = .ok (bothDays rf rl) ∧
      ((dateOfYo y o).week s).first_day = (match rf with | some a => .ok a | none => .panic) ∧
      ((dateOfYo y o).week s).last_day = (match rl with | some a => .ok a | none => .panic) ∧
      ((dateOfYo y o).week s).days = (match bothDays rf rl with | some p => .ok p | none => .panic) := by
  obtain ⟨rf, hf, sf⟩ := week_first_spec y o hy ho s
  obtain ⟨rl, hl, sl⟩ := week_last_spec y o hy ho s
  have hs7 := weekday_toNat_lt s
  have hcd : ((dateOfYo y o).week s).checked_days = .ok (bothDays rf rl) := by
    unfold NaiveWeek.checked_days bothDays; rw [hf, hl]
    cases rf <;> cases rl <;> rfl
  refine ⟨rf, rl, hf, hl, daysBack_range _ _, daysBack_weekday _ _ ⟨by omega, by omega⟩, sf, sl, hcd, ?_, ?_, ?_⟩
  · unfold NaiveWeek.first_day; rw [hf]; cases rf <;> rfl
  · unfold NaiveWeek.last_day; rw [hl]; cases rl <;> rfl
  · unfold NaiveWeek.days; rw [hcd]; cases bothDays rf rl <;> rfl

/-! ### n-th weekday of a month -/

/-- `from_weekday_of_month_opt`, every `(year, month, weekday, n)` (all integers / naturals): `None`
for `n = 0`; otherwise the date `(year, month, D)` if it exists in the supported range, where `D` is
the n-th day of that month falling on the weekday: `D` lies in the n-th block of seven days, falls
on the weekday, and is the only such day of the block -/
theorem nth_weekday_spec (y : Int) (m : Nat) (w : Weekday) (n : Nat) :
    Date.from_weekday_of_month_opt y m w n =
      .ok (if n = 0 then none else ymdDate? y m (nthWeekdayDay y m w.toNat n)) ∧
    (1 ≤ n → 7 * (n - 1) + 1 ≤ nthWeekdayDay y m w.toNat n ∧ nthWeekdayDay y m w.toNat n ≤ 7 * n ∧
      weekdayOf (dayNum y m (nthWeekdayDay y m w.toNat n)) = w.toNat ∧
      ∀ D, 7 * (n - 1) + 1 ≤ D → D ≤ 7 * n → weekdayOf (dayNum y m D) = w.toNat →
        D = nthWeekdayDay y m w.toNat n) := by
  refine ⟨nth_weekday_eq y m w n, ?_⟩
  intro hn
  have hw7 := weekday_toNat_lt w
  have hlin : ∀ D : Nat, dayNum y m D = dayNum y m 1 + D - 1 := by
    intro D; unfold dayNum dayNumYo ordinalOf; push_cast; omega
  have hk0 : 0 ≤ ((w.toNat : Int) - weekdayOf (dayNum y m 1)) % 7 := Int.emod_nonneg _ (by decide)
  have hk1 : ((w.toNat : Int) - weekdayOf (dayNum y m 1)) % 7 < 7 := Int.emod_lt_of_pos _ (by decide)
  have hD : (nthWeekdayDay y m w.toNat n : Int)
      = 7 * ((n : Int) - 1) + ((w.toNat : Int) - weekdayOf (dayNum y m 1)) % 7 + 1 := by
    unfold nthWeekdayDay; omega
  refine ⟨by omega, by omega, ?_, ?_⟩
  · rw [hlin]; unfold weekdayOf at *; omega
  · intro D h1 h2 h3
    rw [hlin] at h3; unfold weekdayOf at *; omega

/-! ### whole years elapsed -/

/-- `years_since`, every pair of dates of the range: `Some k` exactly for the number `k ≥ 0` of whole
years elapsed (the k-th anniversary of `base` — same month and day, k years later — is not after
`self`, the next one is), `None` exactly when `base` is after `self`; never a panic -/
theorem years_since_spec (y1 y0 : Int) (o1 o0 : Nat) (hy1 : MIN_YEAR ≤ y1 ∧ y1 ≤ MAX_YEAR)
    (hy0 : MIN_YEAR ≤ y0 ∧ y0 ≤ MAX_YEAR) (ho1 : 1 ≤ o1 ∧ o1 ≤ yearLen y1) (ho0 : 1 ≤ o0 ∧ o0 ≤ yearLen y0) :
    ∃ r, (dateOfYo y1 o1).years_since (dateOfYo y0 o0) = .ok r ∧
      (∀ k, r = some k ↔
        WholeYears y0 (monthOfYo y0 o0) (dayOfYo y0 o0) y1 (monthOfYo y1 o1) (dayOfYo y1 o1) k) ∧
      (r = none ↔ ymdLt y1 (monthOfYo y1 o1) (dayOfYo y1 o1) y0 (monthOfYo y0 o0) (dayOfYo y0 o0)) ∧
      (r = none ↔ (dateOfYo y1 o1).yof < (dateOfYo y0 o0).yof) := by
  refine ⟨_, years_since_eq y1 y0 o1 o0 hy1 hy0 ho1 ho0, ?_⟩
  have ha := valid_bounds _ _ _ (month_day_spec y1 o1 ho1.1 ho1.2).2.2.1
  have hb := valid_bounds _ _ _ (month_day_spec y0 o0 ho0.1 ho0.2).2.2.1
  -- `month << 5 | day` orders (month, day) pairs because a day is below 32
  have hc : monthOfYo y1 o1 * 32 + dayOfYo y1 o1 < monthOfYo y0 o0 * 32 + dayOfYo y0 o0 ↔
      (monthOfYo y1 o1 < monthOfYo y0 o0 ∨
        (monthOfYo y1 o1 = monthOfYo y0 o0 ∧ dayOfYo y1 o1 < dayOfYo y0 o0)) := by omega
  have hw := fun k => whole_years y1 y0 _ _ hc k
  exact ⟨fun k => (hw k).1, (hw 0).2,
    (hw 0).2.trans ((ymd_daynum y1 y0 o1 o0 ho1 ho0).1.symm.trans (order_spec y1 y0 o1 o0 ho1 ho0).1.symm)⟩

/-! ### quarter, common-era year, days in month -/

/-- `quarter`, `year_ce`, `num_days_in_month` of every date of the range, and `Month::num_days` for
every month and EVERY year: quarter = ⌈month/3⌉, the common-era pair is (year ≥ 1, year counted from
1 within its era), the number of days is the calendar's month length; `Month::num_days` is `None`
only for February of a year outside the supported range; never a panic -/
theorem calendar_accessors (y : Int) (o : Nat) (hy : MIN_YEAR ≤ y ∧ y ≤ MAX_YEAR) (ho : 1 ≤ o ∧ o ≤ yearLen y)
    (mo : Month) (y' : Int) :
    (dateOfYo y o).quarter = .ok ((monthOfYo y o - 1) / 3 + 1) ∧
    (dateOfYo y o).year_ce = .ok (if y < 1 then (false, 1 - y) else (true, y)) ∧
    (dateOfYo y o).num_days_in_month = .ok (monthLen y (monthOfYo y o)) ∧
    mo.num_days y' = .ok (if mo = .feb ∧ (y' < MIN_YEAR ∨ y' > MAX_YEAR) then none
                          else some (monthLen y' (mo.toNat + 1))) := by
  have hyl := yearLen_ge y
  exact ⟨quarter_spec y o ho, year_ce_spec y o hy (by omega), num_days_in_month_spec y o hy ho,
    month_num_days_spec mo y'⟩

/-! ## Date-time forms -/

/-! ### time-of-day replacement (`NaiveTime`) -/

/-- `with_hour / with_minute / with_second / with_nanosecond`, every well-formed time of day (leap
representation on any second) and EVERY `u32` (indeed every non-negative) argument: `None` exactly when
hour ≥ 24 / minute ≥ 60 / second ≥ 60 / nanosecond ≥ 2·10⁹; otherwise the result is a well-formed time
that shows the new value in the named field and the old values in the three others (`with_hour`,
`with_minute`, `with_second` keep the nanosecond field and with it a leap-second representation;
`with_nanosecond` accepts the leap range 10⁹ ..< 2·10⁹ on any second, as the code does) -/
theorem time_with_field_spec (t : Time) (v : Int) (ht : TValid t) (hv : 0 ≤ v) :
    ((t.with_hour v = none ↔ 24 ≤ v) ∧
      ∀ t', t.with_hour v = some t' → HasFields t' v t.minute t.second t.nanosecond) ∧
    ((t.with_minute v = none ↔ 60 ≤ v) ∧
      ∀ t', t.with_minute v = some t' → HasFields t' t.hour v t.second t.nanosecond) ∧
    ((t.with_second v = none ↔ 60 ≤ v) ∧
      ∀ t', t.with_second v = some t' → HasFields t' t.hour t.minute v t.nanosecond) ∧
    ((t.with_nanosecond v = none ↔ 2000000000 ≤ v) ∧
      ∀ t', t.with_nanosecond v = some t' → HasFields t' t.hour t.minute t.second v) :=
  time_with_fields t v ht hv

/-- a well-formed time of day is determined by the four fields it shows, so `time_with_field_spec`
names *the* result; and the fields of a well-formed time are in range and compose `secs` -/
theorem time_fields_unique (a b : Time) (ha : TValid a) (hb : TValid b) :
    (a.hour = b.hour → a.minute = b.minute → a.second = b.second → a.nanosecond = b.nanosecond → a = b) ∧
    (0 ≤ a.hour ∧ a.hour < 24 ∧ 0 ≤ a.minute ∧ a.minute < 60 ∧ 0 ≤ a.second ∧ a.second < 60 ∧
      a.hour * 3600 + a.minute * 60 + a.second = a.secs ∧ a.nanosecond = a.frac) := by
  refine ⟨time_unique a b ha hb, ?_⟩
  obtain ⟨a1, a2, a3, a4, b1, b2, b3, b4, b5, b6, b7, _⟩ := accessors' a ha
  rw [a1, a2, a3, a4]
  exact ⟨b1, b2, b3, b4, b5, b6, b7, rfl⟩

/-! ### `NaiveDateTime` forms -/

/-- `NaiveDateTime`'s month stepping and eleven field replacements, EVERY naive date-time and every
argument: the date-level operation on the date part with the time of day kept, resp. the time-level
operation on the time part with the date kept (`None` / panic exactly as the part's operation) -/
theorem naive_datetime_delegates (dt : NaiveDT) (v k : Nat) (y' w : Int) :
    let keepTime : Res (Option Date) → Res (Option NaiveDT) :=
      fun r => r.bind fun o => .ok (o.map fun d => ⟨d, dt.time⟩)
    let keepDate : Option Time → Res (Option NaiveDT) := fun o => .ok (o.map fun t => ⟨dt.date, t⟩)
    dt.checked_add_months k = keepTime (dt.date.checked_add_months k) ∧
    dt.checked_sub_months k = keepTime (dt.date.checked_sub_months k) ∧
    dt.with_year y' = keepTime (dt.date.with_year y') ∧
    dt.with_month v = keepTime (dt.date.with_month v) ∧
    dt.with_month0 v = keepTime (dt.date.with_month0 v) ∧
    dt.with_day v = keepTime (dt.date.with_day v) ∧
    dt.with_day0 v = keepTime (dt.date.with_day0 v) ∧
    dt.with_ordinal v = keepTime (dt.date.with_ordinal v) ∧
    dt.with_ordinal0 v = keepTime (dt.date.with_ordinal0 v) ∧
    dt.with_hour w = keepDate (dt.time.with_hour w) ∧
    dt.with_minute w = keepDate (dt.time.with_minute w) ∧
    dt.with_second w = keepDate (dt.time.with_second w) ∧
    dt.with_nanosecond w = keepDate (dt.time.with_nanosecond w) :=
  ⟨rfl, rfl, rfl, rfl, rfl, rfl, rfl, rfl, rfl, rfl, rfl, rfl, rfl⟩

/-- the same with the date-level meaning filled in (`months_spec`, `with_field_spec`): for every naive
date-time whose date is a date of the range, every time of day `t` (no hypothesis on it) and every
argument, the result is the specification's date with `t` kept; never a panic -/
theorem naive_datetime_spec (y : Int) (o : Nat) (hy : MIN_YEAR ≤ y ∧ y ≤ MAX_YEAR) (ho : 1 ≤ o ∧ o ≤ yearLen y)
    (t : Time) (v k : Nat) (y' : Int) :
    let dt : NaiveDT := ⟨dateOfYo y o, t⟩
    let at_t : Option Date → Res (Option NaiveDT) := fun r => .ok (r.map fun d => ⟨d, t⟩)
    dt.checked_add_months k = at_t (addMonths? y (monthOfYo y o) (dayOfYo y o) k) ∧
    dt.checked_sub_months k = at_t (addMonths? y (monthOfYo y o) (dayOfYo y o) (-(k : Int))) ∧
    dt.with_year y' = at_t (ymdDate? y' (monthOfYo y o) (dayOfYo y o)) ∧
    dt.with_month v = at_t (ymdDate? y v (dayOfYo y o)) ∧
    dt.with_month0 v = at_t (ymdDate? y (v + 1) (dayOfYo y o)) ∧
    dt.with_day v = at_t (ymdDate? y (monthOfYo y o) v) ∧
    dt.with_day0 v = at_t (ymdDate? y (monthOfYo y o) (v + 1)) ∧
    dt.with_ordinal v = at_t (yoDate? y v) ∧
    dt.with_ordinal0 v = at_t (yoDate? y (v + 1)) := by
  obtain ⟨m1, m2⟩ := months_spec y o hy ho k
  obtain ⟨w1, w2, w3, w4, w5, w6, w7⟩ := with_field_spec y o hy ho v y'
  exact ⟨mapDate_ok _ m1, mapDate_ok _ m2, mapDate_ok _ w1, mapDate_ok _ w2, mapDate_ok _ w3, mapDate_ok _ w4,
    mapDate_ok _ w5, mapDate_ok _ w6, mapDate_ok _ w7⟩

/-! ### zone-aware forms (`DateTime<FixedOffset>`; `DateTime<Utc>` is offset 0) -/

/-- `DateTime::with_year` is `map_local` with a closure that short-cuts an unchanged year -/
theorem zoned_with_year_closure (z : Zoned) (y : Int) :
    Zoned.with_year z y = Zoned.map_local z (withYearLocal y) := rfl

/-- **Every zone-aware form is the naive form applied to the wall clock.**  For every well-formed
zone-aware value `z` (any offset of less than a day, sub-minute ones included) let `l` be its wall clock
(`overflowing_naive_local`; never a panic; `instant + offset`; possibly in a headroom day at a range
end).  Then for every argument:

* each of the eleven replacements `with_year/month/month0/day/day0/ordinal/ordinal0/hour/minute/second/
  nanosecond`: `NaiveDateTime`'s operation applied to `l` returns some `r0` without panicking (for
  `with_year` the closure `withYearLocal`, which keeps `l` when the year is unchanged), the zone-aware
  operation returns some `r` without panicking, and `ActsOnWall z r0 r`: a result has `z`'s offset, is
  well formed, lies in `MIN_UTC ..= MAX_UTC`, denotes the instant `r0 − offset`, and its wall clock IS
  `r0`; there is no result exactly when the naive operation refuses (`r0 = none`) or the instant
  `r0 − offset` is outside `MIN_UTC ..= MAX_UTC` (which includes a leap-second reading in the last
  second of `MAX_UTC`);
* `checked_add_months / checked_sub_months` (every `u32`, indeed every natural count; `Months(0)`
  returns the value itself): the same with the filter "the UTC reading `r0 − offset` is representable"
  (`InRangeSecs`) — this operation does not go through `map_local` and applies no `MIN_UTC ..= MAX_UTC`
  filter (so a leap-second reading in the very last second passes).

When the wall clock is inside the range, `l` is `⟨dateOfYo y o, l.time⟩` for a date of the range, so
`naive_datetime_spec` / `time_with_field_spec` say what `r0` is. -/
theorem zoned_ops_spec (z : Zoned) (hz : ZInv z) (v k : Nat) (y' w : Int) (hw : 0 ≤ w) :
    ∃ l, Zoned.overflowing_naive_local z = .ok l ∧ ExtNDTInv l ∧ instSecs l = wallSecs z ∧
      l.time.frac = z.utc.time.frac ∧
      (InRangeSecs (wallSecs z) → ∃ y o, (MIN_YEAR ≤ y ∧ y ≤ MAX_YEAR) ∧ (1 ≤ o ∧ o ≤ yearLen y) ∧
        l = ⟨dateOfYo y o, l.time⟩) ∧
      (∃ r0 r, withYearLocal y' l = .ok r0 ∧ Zoned.with_year z y' = .ok r ∧ ActsOnWall z r0 r) ∧
      (∃ r0 r, l.with_month v = .ok r0 ∧ Zoned.with_month z v = .ok r ∧ ActsOnWall z r0 r) ∧
      (∃ r0 r, l.with_month0 v = .ok r0 ∧ Zoned.with_month0 z v = .ok r ∧ ActsOnWall z r0 r) ∧
      (∃ r0 r, l.with_day v = .ok r0 ∧ Zoned.with_day z v = .ok r ∧ ActsOnWall z r0 r) ∧
      (∃ r0 r, l.with_day0 v = .ok r0 ∧ Zoned.with_day0 z v = .ok r ∧ ActsOnWall z r0 r) ∧
      (∃ r0 r, l.with_ordinal v = .ok r0 ∧ Zoned.with_ordinal z v = .ok r ∧ ActsOnWall z r0 r) ∧
      (∃ r0 r, l.with_ordinal0 v = .ok r0 ∧ Zoned.with_ordinal0 z v = .ok r ∧ ActsOnWall z r0 r) ∧
      (∃ r0 r, l.checked_add_months k = .ok r0 ∧ Zoned.checked_add_months z k = .ok r ∧
        ActsOnWallWith (fun s _ => InRangeSecs s) z r0 r) ∧
      (∃ r0 r, l.checked_sub_months k = .ok r0 ∧ Zoned.checked_sub_months z k = .ok r ∧
        ActsOnWallWith (fun s _ => InRangeSecs s) z r0 r) ∧
      (∃ r0 r, l.with_hour w = .ok r0 ∧ Zoned.with_hour z w = .ok r ∧ ActsOnWall z r0 r) ∧
      (∃ r0 r, l.with_minute w = .ok r0 ∧ Zoned.with_minute z w = .ok r ∧ ActsOnWall z r0 r) ∧
      (∃ r0 r, l.with_second w = .ok r0 ∧ Zoned.with_second z w = .ok r ∧ ActsOnWall z r0 r) ∧
      (∃ r0 r, l.with_nanosecond w = .ok r0 ∧ Zoned.with_nanosecond z w = .ok r ∧ ActsOnWall z r0 r) := by
  obtain ⟨l, h1, h2, h3, h4, _, h6⟩ := naive_local_spec z hz
  obtain ⟨d1, d2, d3, d4, d5, d6, d7, d8, d9⟩ := zoned_date_ops z hz l h1 v k y'
  obtain ⟨t1, t2, t3, t4⟩ := zoned_time_ops z hz l h1 w hw
  refine ⟨l, h1, h2, h3, h4, ?_, d1, d2, d3, d4, d5, d6, d7, d8, d9, t1, t2, t3, t4⟩
  intro hin
  have hd := (dateInv_iff l.date).mp (h6.mpr hin)
  obtain ⟨el, vl⟩ := ext_eq l.date hd.1
  refine ⟨l.date.year, l.date.ordinal.toNat, hd.2, ⟨vl.2.2.1, vl.2.2.2⟩, ?_⟩
  rw [← el]

/-- what the two filters are, in seconds since the epoch: representable = the date of the UTC reading
lies in `NaiveDate::MIN ..= NaiveDate::MAX`; `MIN_UTC ..= MAX_UTC` = that, minus the leap-second
readings of the very last second -/
theorem utc_filters (s f : Int) :
    (InRangeSecs s ↔ SECS_MIN ≤ s ∧ s ≤ SECS_MAX) ∧
    (InUtcRange s f ↔ InRangeSecs s ∧ ¬ (s = SECS_MAX ∧ f ≥ 1000000000)) ∧
    SECS_MIN = (dayNumYo MIN_YEAR 1 - EPOCH_DAY) * 86400 ∧
    SECS_MAX = (dayNumYo MAX_YEAR 365 - EPOCH_DAY) * 86400 + 86399 ∧
    instSecs NaiveDT.MIN = SECS_MIN ∧ instSecs NaiveDT.MAX = SECS_MAX :=
  ⟨Iff.rfl, Iff.rfl, rfl, rfl, instSecs_min_max.1, instSecs_min_max.2.1⟩

/-! ### whole years elapsed between two zone-aware values -/

/-- `DateTime::years_since`, every pair of well-formed zone-aware values (each at its own offset): with
`l1`, `l0` the wall clocks of `self` and `base` and (year, month, day, time of day) read from them —
`Some k` exactly for the number `k ≥ 0` of whole years elapsed with the time of day in the comparison
(the k-th anniversary of `base`'s wall clock — same month, day and time of day, k years later — is not
after `self`'s wall clock, the next one is; times compare by second of day, then the nanosecond field,
so a leap second sorts after :59.999999999); `None` exactly when `self`'s wall clock reads earlier than
`base`'s — in fields, and equivalently in wall-clock seconds `instant + offset` then nanosecond field
(the offsets enter: two values of the same instant at different offsets can be `None` one way);
never a panic, no `i32` overflow -/
theorem datetime_years_since_spec (z b : Zoned) (hz : ZInv z) (hb : ZInv b) :
    ∃ l1 l0 r, Zoned.overflowing_naive_local z = .ok l1 ∧ Zoned.overflowing_naive_local b = .ok l0 ∧
      Zoned.time z = .ok l1.time ∧ Zoned.time b = .ok l0.time ∧
      Zoned.month z = .ok (monthOfYo l1.date.year l1.date.ordinal.toNat) ∧
      Zoned.day z = .ok (dayOfYo l1.date.year l1.date.ordinal.toNat) ∧
      Zoned.month b = .ok (monthOfYo l0.date.year l0.date.ordinal.toNat) ∧
      Zoned.day b = .ok (dayOfYo l0.date.year l0.date.ordinal.toNat) ∧
      Zoned.years_since z b = .ok r ∧
      (∀ k, r = some k ↔
        WholeYearsT l0.date.year (monthOfYo l0.date.year l0.date.ordinal.toNat)
          (dayOfYo l0.date.year l0.date.ordinal.toNat) l0.time
          l1.date.year (monthOfYo l1.date.year l1.date.ordinal.toNat)
          (dayOfYo l1.date.year l1.date.ordinal.toNat) l1.time k) ∧
      (r = none ↔
        ymdtLt l1.date.year (monthOfYo l1.date.year l1.date.ordinal.toNat)
          (dayOfYo l1.date.year l1.date.ordinal.toNat) l1.time
          l0.date.year (monthOfYo l0.date.year l0.date.ordinal.toNat)
          (dayOfYo l0.date.year l0.date.ordinal.toNat) l0.time) ∧
      (r = none ↔ (wallSecs z < wallSecs b ∨
        (wallSecs z = wallSecs b ∧ z.utc.time.frac < b.utc.time.frac))) := by
  obtain ⟨l1, a1, a2, a3, a4, _⟩ := naive_local_spec z hz
  obtain ⟨l0, b1, b2, b3, b4, _⟩ := naive_local_spec b hb
  obtain ⟨ma, da⟩ := zoned_month_day z hz l1 a1
  obtain ⟨mb, db⟩ := zoned_month_day b hb l0 b1
  have ka := years_arith l1.date.year l0.date.year (monthOfYo l1.date.year l1.date.ordinal.toNat)
    (dayOfYo l1.date.year l1.date.ordinal.toNat) (monthOfYo l0.date.year l0.date.ordinal.toNat)
    (dayOfYo l0.date.year l0.date.ordinal.toNat) l1.time l0.time
  have hw := ymdt_wall l1 l0 a2 b2
  rw [a3, b3, a4, b4] at hw
  exact ⟨l1, l0, _, a1, b1, zoned_time_eq z l1 a1, zoned_time_eq b l0 b1, ma, da, mb, db,
    zoned_years_since_eq z b hz hb l1 l0 a1 b1, fun k => (ka k).1, (ka 0).2, (ka 0).2.trans hw⟩

/-! ## Audit gaps closed 2026-09-30 (audit/C08.md): operator forms, constructors' view of time-field
replacement, headroom wall clocks, inherited `Datelike` defaults, the month/day of a date -/

/-! ### the month and day of a date (discharges the hypothesis `1 ≤ d` of `months_target`) -/

/-- the (month, day) of every date `dateOfYo y o` (any year): month in 1..12, day in 1..month length,
and `(y, month, day)` is the `o`-th day of the year — so `months_target`, `replaced_fields` apply to
`monthOfYo y o`, `dayOfYo y o` without further hypotheses -/
theorem date_month_day (y : Int) (o : Nat) (ho : 1 ≤ o ∧ o ≤ yearLen y) :
    (dateOfYo y o).month = .ok (monthOfYo y o) ∧ (dateOfYo y o).day = .ok (dayOfYo y o) ∧
    1 ≤ monthOfYo y o ∧ monthOfYo y o ≤ 12 ∧ 1 ≤ dayOfYo y o ∧
    dayOfYo y o ≤ monthLen y (monthOfYo y o) ∧ ordinalOf y (monthOfYo y o) (dayOfYo y o) = o := by
  obtain ⟨m1, m2, m3, m4⟩ := month_day_spec y o ho.1 ho.2
  obtain ⟨a, b, c, d⟩ := (valid_iff y _ _).mp m3
  exact ⟨m1, m2, a, b, c, d, m4⟩

/-- `months_target` for the month and day of a date of the range, no side hypothesis left: the
year-month index moves by exactly `n`, the step fails exactly when the target year leaves the range,
and the result has the target year, target month and the day clamped to that month's length -/
theorem months_target_of_date (y : Int) (o : Nat) (ho : 1 ≤ o ∧ o ≤ yearLen y) (n : Int) :
    monthIndex (stepYear y (monthOfYo y o) n) (stepMonth y (monthOfYo y o) n) = monthIndex y (monthOfYo y o) + n ∧
    (addMonths? y (monthOfYo y o) (dayOfYo y o) n = none ↔
      (stepYear y (monthOfYo y o) n < MIN_YEAR ∨ stepYear y (monthOfYo y o) n > MAX_YEAR)) ∧
    (∀ r, addMonths? y (monthOfYo y o) (dayOfYo y o) n = some r →
      r.year = stepYear y (monthOfYo y o) n ∧ r.month = .ok (stepMonth y (monthOfYo y o) n) ∧
      r.day = .ok (min (dayOfYo y o) (monthLen (stepYear y (monthOfYo y o) n) (stepMonth y (monthOfYo y o) n)))) := by
  obtain ⟨_, _, _, _, hd, _⟩ := date_month_day y o ho
  obtain ⟨a, _, _, b, c⟩ := months_target y (monthOfYo y o) (dayOfYo y o) n hd
  exact ⟨a, b, c⟩

/-! ### operator forms `+ Months` / `- Months` (`expect` of the checked forms) -/

/-- `NaiveDate + Months(n)` / `NaiveDate - Months(n)`, every date of the range and EVERY `u32` (every
natural) count: the specification's `addMonths?` result, and a panic exactly when there is none — i.e.
exactly when the checked form answers `None`, i.e. exactly when the target year lies above `MAX_YEAR`
(resp. below `MIN_YEAR`); `Months::new` / `as_u32` carry the count unchanged -/
theorem months_op_spec (y : Int) (o : Nat) (hy : MIN_YEAR ≤ y ∧ y ≤ MAX_YEAR) (ho : 1 ≤ o ∧ o ≤ yearLen y)
    (n : Nat) :
    (dateOfYo y o).add_months_op n = orPanic (addMonths? y (monthOfYo y o) (dayOfYo y o) n) ∧
    (dateOfYo y o).sub_months_op n = orPanic (addMonths? y (monthOfYo y o) (dayOfYo y o) (-(n : Int))) ∧
    ((dateOfYo y o).add_months_op n = .panic ↔ (dateOfYo y o).checked_add_months n = .ok none) ∧
    ((dateOfYo y o).sub_months_op n = .panic ↔ (dateOfYo y o).checked_sub_months n = .ok none) ∧
    ((dateOfYo y o).add_months_op n = .panic ↔ stepYear y (monthOfYo y o) n > MAX_YEAR) ∧
    ((dateOfYo y o).sub_months_op n = .panic ↔ stepYear y (monthOfYo y o) (-(n : Int)) < MIN_YEAR) ∧
    Months.as_u32 (Months.new n) = n := by
  obtain ⟨a, s⟩ := date_months_op y o hy ho n
  obtain ⟨ca, cs⟩ := months_spec y o hy ho n
  obtain ⟨_, _, hm1, hm12, hd1, _⟩ := date_month_day y o ho
  have na := addMonths_none_iff y (monthOfYo y o) (dayOfYo y o) n hd1
  have ns := addMonths_none_iff y (monthOfYo y o) (dayOfYo y o) (-(n : Int)) hd1
  have hlo : ¬ stepYear y (monthOfYo y o) n < MIN_YEAR := by unfold stepYear monthIndex; omega
  have hhi : ¬ stepYear y (monthOfYo y o) (-(n : Int)) > MAX_YEAR := by unfold stepYear monthIndex; omega
  refine ⟨a, s, ?_, ?_, ?_, ?_, rfl⟩
  · rw [a, ca, orPanic_panic_iff]
    exact ⟨congrArg Res.ok, Res.ok.inj⟩
  · rw [s, cs, orPanic_panic_iff]
    exact ⟨congrArg Res.ok, Res.ok.inj⟩
  · rw [a, orPanic_panic_iff, na]
    exact ⟨fun h => h.resolve_left hlo, Or.inr⟩
  · rw [s, orPanic_panic_iff, ns]
    exact ⟨fun h => h.resolve_right hhi, Or.inl⟩

/-- `NaiveDateTime ± Months(n)`: the date-level result with the time of day kept, a panic exactly when
the date-level step has no result (every date of the range, every time of day, every count) -/
theorem naive_months_op_spec (y : Int) (o : Nat) (hy : MIN_YEAR ≤ y ∧ y ≤ MAX_YEAR) (ho : 1 ≤ o ∧ o ≤ yearLen y)
    (t : Time) (k : Nat) :
    let dt : NaiveDT := ⟨dateOfYo y o, t⟩
    dt.add_months_op k = orPanic ((addMonths? y (monthOfYo y o) (dayOfYo y o) k).map fun d => ⟨d, t⟩) ∧
    dt.sub_months_op k = orPanic ((addMonths? y (monthOfYo y o) (dayOfYo y o) (-(k : Int))).map fun d => ⟨d, t⟩) ∧
    (dt.add_months_op k = .panic ↔ (dateOfYo y o).add_months_op k = .panic) ∧
    (dt.sub_months_op k = .panic ↔ (dateOfYo y o).sub_months_op k = .panic) := by
  obtain ⟨m1, m2, _⟩ := naive_datetime_spec y o hy ho t 0 k 0
  obtain ⟨a, s⟩ := date_months_op y o hy ho k
  dsimp only at m1 m2 ⊢
  have e1 : NaiveDT.add_months_op ⟨dateOfYo y o, t⟩ k =
      orPanic ((addMonths? y (monthOfYo y o) (dayOfYo y o) k).map fun d => ⟨d, t⟩) := by
    unfold NaiveDT.add_months_op; rw [m1, expectSome_ok]
  have e2 : NaiveDT.sub_months_op ⟨dateOfYo y o, t⟩ k =
      orPanic ((addMonths? y (monthOfYo y o) (dayOfYo y o) (-(k : Int))).map fun d => ⟨d, t⟩) := by
    unfold NaiveDT.sub_months_op; rw [m2, expectSome_ok]
  refine ⟨e1, e2, ?_, ?_⟩
  · rw [e1, a, orPanic_panic_iff, orPanic_panic_iff, Option.map_eq_none_iff]
  · rw [e2, s, orPanic_panic_iff, orPanic_panic_iff, Option.map_eq_none_iff]

/-- `DateTime<FixedOffset> ± Months(k)` (`DateTime<Utc>`: offset 0), every well-formed value (wall clock
possibly in a headroom day), every count: with `l` the wall clock, `r0` what `NaiveDateTime`'s checked step
makes of `l` and `r` the checked zone-aware result (`ActsOnWallWith InRangeSecs`: `r0` at the same offset,
kept iff its UTC reading is representable; `Months(0)` returns the value itself), the operator returns
`r`'s value and panics exactly when `r` is `None`, i.e. exactly when the naive step refuses or the
stepped wall clock minus the offset is not representable -/
theorem zoned_months_op_spec (z : Zoned) (hz : ZInv z) (k : Nat) :
    ∃ l, Zoned.overflowing_naive_local z = .ok l ∧ ExtNDTInv l ∧ instSecs l = wallSecs z ∧
      (∃ r0 r, l.checked_add_months k = .ok r0 ∧ Zoned.checked_add_months z k = .ok r ∧
        ActsOnWallWith (fun s _ => InRangeSecs s) z r0 r ∧ (k = 0 → r = some z) ∧
        Zoned.add_months_op z k = orPanic r ∧
        (Zoned.add_months_op z k = .panic ↔
          (r0 = none ∨ ∃ nl, r0 = some nl ∧ ¬ InRangeSecs (instSecs nl - z.off)))) ∧
      (∃ r0 r, l.checked_sub_months k = .ok r0 ∧ Zoned.checked_sub_months z k = .ok r ∧
        ActsOnWallWith (fun s _ => InRangeSecs s) z r0 r ∧ (k = 0 → r = some z) ∧
        Zoned.sub_months_op z k = orPanic r ∧
        (Zoned.sub_months_op z k = .panic ↔
          (r0 = none ∨ ∃ nl, r0 = some nl ∧ ¬ InRangeSecs (instSecs nl - z.off)))) := by
  obtain ⟨l, h1, h2, h3, _⟩ := naive_local_spec z hz
  obtain ⟨a, s⟩ := zoned_months_op z hz l h1 k
  exact ⟨l, h1, h2, h3, a, s⟩

/-! ### headroom wall clocks: the calendar meaning of the naive operations on EVERY wall clock -/

/-- every reading `l` of the calendar extended by one year at each end — in particular every wall clock
of a well-formed zone-aware value (`zoned_ops_spec`: `ExtNDTInv l`), also one in the day before `MIN` /
after `MAX` — and every argument: the `NaiveDateTime` month steps and date-field replacements are the
specification's date (`addMonths?`, `ymdDate?`: in the supported range; `ymdReading?`, `yoReading?`: same
year, so possibly the headroom year) with the time of day kept; `Months(0)` keeps the reading; the
operator forms panic exactly on `None`.  This gives `r0` of `zoned_ops_spec` its calendar meaning without
the restriction `InRangeSecs (wallSecs z)`. -/
theorem wall_clock_ops_spec (l : NaiveDT) (hl : ExtNDTInv l) (v k : Nat) (y' : Int) :
    let y := l.date.year
    let m := monthOfYo l.date.year l.date.ordinal.toNat
    let d := dayOfYo l.date.year l.date.ordinal.toNat
    l.checked_add_months k = .ok ((if k = 0 then some l.date else addMonths? y m d k).map fun x => ⟨x, l.time⟩) ∧
    l.checked_sub_months k =
      .ok ((if k = 0 then some l.date else addMonths? y m d (-(k : Int))).map fun x => ⟨x, l.time⟩) ∧
    l.add_months_op k = orPanic ((if k = 0 then some l.date else addMonths? y m d k).map fun x => ⟨x, l.time⟩) ∧
    l.sub_months_op k =
      orPanic ((if k = 0 then some l.date else addMonths? y m d (-(k : Int))).map fun x => ⟨x, l.time⟩) ∧
    l.with_year y' = .ok ((ymdDate? y' m d).map fun x => ⟨x, l.time⟩) ∧
    l.with_month v = .ok (ymdReading? y v d l.time) ∧
    l.with_month0 v = .ok (ymdReading? y (v + 1) d l.time) ∧
    l.with_day v = .ok (ymdReading? y m v l.time) ∧
    l.with_day0 v = .ok (ymdReading? y m (v + 1) l.time) ∧
    l.with_ordinal v = .ok (yoReading? y v l.time) ∧
    l.with_ordinal0 v = .ok (yoReading? y (v + 1) l.time) ∧
    (MIN_YEAR - 1 ≤ y ∧ y ≤ MAX_YEAR + 1 ∧ 1 ≤ m ∧ m ≤ 12 ∧ 1 ≤ d ∧ d ≤ monthLen y m ∧
      l.date = dateOfYo y (ordinalOf y m d)) := by
  obtain ⟨n1, n2, n3, n4, n5, n6, n7, n8, n9⟩ := ndt_ops_ext l hl.1 v k y'
  obtain ⟨o1, o2⟩ := ndt_months_op l hl.1 k
  obtain ⟨el, vl⟩ := ext_eq l.date hl.1
  obtain ⟨_, _, a, b, c, d, e⟩ := date_month_day l.date.year l.date.ordinal.toNat ⟨vl.2.2.1, vl.2.2.2⟩
  dsimp only
  refine ⟨n8, n9, o1, o2, n1, n2, n3, n4, n5, n6, n7, vl.1, vl.2.1, a, b, c, d, ?_⟩
  rw [e]; exact el

/-- the closure `DateTime::with_year` hands to `map_local` (`withYearLocal`, which `zoned_ops_spec` names and
which is a copy of the model's) against the independent reading of Spec/ZonedSpec.lean, for every wall
clock `l` (headroom day included): the wall clock itself when the year is unchanged (also a headroom
year), otherwise the same month, day and time of day in year `y'` if `y'` is in the supported range and
that date exists, else nothing -/
theorem with_year_local_spec (l : NaiveDT) (hl : ExtNDTInv l) (y' : Int) :
    withYearLocal y' l = .ok (yearReading? l y') ∧
    (yearReading? l l.date.year = some l) ∧
    (y' ≠ l.date.year → yearReading? l y' =
      (ymdDate? y' (monthOfYo l.date.year l.date.ordinal.toNat)
        (dayOfYo l.date.year l.date.ordinal.toNat)).map fun d => ⟨d, l.time⟩) := by
  refine ⟨with_year_local l hl.1 y', ?_, ?_⟩
  · unfold yearReading?; rw [if_pos rfl]
  · intro hne
    have h1 := with_year_local l hl.1 y'
    obtain ⟨n1, _⟩ := ndt_ops_ext l hl.1 0 0 y'
    unfold withYearLocal at h1
    rw [if_neg (fun h => hne h.symm), n1] at h1
    injection h1 with h1
    exact h1.symm

/-! ### the `Datelike` defaults `quarter`, `year_ce`, `num_days_in_month` on date-times -/

/-- `NaiveDateTime` (every date of the range, every time of day) and `DateTime<FixedOffset>` /
`DateTime<Utc>` (every well-formed value, wall clock `l` possibly in a headroom day) inherit the three
`Datelike` default methods; they read the date part resp. the wall clock: quarter = ⌈month/3⌉, the
common-era pair, the calendar's month length; never a panic (a headroom wall clock is Dec 31 / Jan 1,
so `Month::num_days` never sees February of an out-of-range year) -/
theorem datelike_defaults_spec (y : Int) (o : Nat) (hy : MIN_YEAR ≤ y ∧ y ≤ MAX_YEAR) (ho : 1 ≤ o ∧ o ≤ yearLen y)
    (t : Time) (z : Zoned) (hz : ZInv z) :
    (NaiveDT.quarter ⟨dateOfYo y o, t⟩ = .ok ((monthOfYo y o - 1) / 3 + 1) ∧
      NaiveDT.year_ce ⟨dateOfYo y o, t⟩ = .ok (if y < 1 then (false, 1 - y) else (true, y)) ∧
      NaiveDT.num_days_in_month ⟨dateOfYo y o, t⟩ = .ok (monthLen y (monthOfYo y o))) ∧
    ∃ l, Zoned.overflowing_naive_local z = .ok l ∧ ExtNDTInv l ∧ instSecs l = wallSecs z ∧
      Zoned.quarter z = .ok ((monthOfYo l.date.year l.date.ordinal.toNat - 1) / 3 + 1) ∧
      Zoned.year_ce z = .ok (if l.date.year < 1 then (false, 1 - l.date.year) else (true, l.date.year)) ∧
      Zoned.num_days_in_month z = .ok (monthLen l.date.year (monthOfYo l.date.year l.date.ordinal.toNat)) := by
  obtain ⟨q, c, n, _⟩ := calendar_accessors y o hy ho .jan 0
  constructor
  · unfold NaiveDT.quarter NaiveDT.year_ce NaiveDT.num_days_in_month
    dsimp only
    rw [quarter_eq, year_ce_eq, num_days_in_month_eq]
    exact ⟨q, c, n⟩
  · obtain ⟨l, h1, _⟩ := naive_local_spec z hz
    obtain ⟨h2, h3, _, h5, _⟩ := wall_date_cases z hz l h1
    obtain ⟨a, b, d⟩ := datelike_ext l.date h5
    refine ⟨l, h1, h2, h3, ?_, ?_, ?_⟩
    · unfold Zoned.quarter Zoned.month; rw [h1, rbind_ok]; exact a
    · unfold Zoned.year_ce Zoned.year; rw [h1, rbind_ok]; exact b
    · unfold Zoned.num_days_in_month Zoned.month Zoned.year; rw [h1, rbind_ok, rbind_ok]; exact d

/-! ### the panicking alias `from_weekday_of_month` -/

/-- `NaiveDate::from_weekday_of_month` (deprecated): the value of `from_weekday_of_month_opt`
(`nth_weekday_spec`), a panic exactly when that is `None`; every `(year, month, weekday, n)` -/
theorem from_weekday_of_month_spec (y : Int) (m : Nat) (w : Weekday) (n : Nat) :
    Date.from_weekday_of_month y m w n =
      orPanic (if n = 0 then none else ymdDate? y m (nthWeekdayDay y m w.toNat n)) ∧
    (Date.from_weekday_of_month y m w n = .panic ↔ Date.from_weekday_of_month_opt y m w n = .ok none) := by
  have h := (nth_weekday_spec y m w n).1
  have e : Date.from_weekday_of_month y m w n =
      orPanic (if n = 0 then none else ymdDate? y m (nthWeekdayDay y m w.toNat n)) := by
    unfold Date.from_weekday_of_month; rw [h, expectSome_ok]
  refine ⟨e, ?_⟩
  rw [e, h, orPanic_panic_iff]
  exact ⟨congrArg Res.ok, Res.ok.inj⟩

/-! ### time-field replacement against the constructors' notion of an existing time -/

/-- **What holds exactly** (audit MEDIUM-2).  `TStrict`: the times the public constructors build (leap
representation `frac ≥ 10⁹` only on second :59).  For every such time and every `u32` (every
non-negative) argument: `with_hour` / `with_minute` always return a constructor-valid time;
`with_second v` does exactly when the time carries no leap representation or `v = 59`;
`with_nanosecond v` exactly when `v < 10⁹` or the time sits on second :59 -/
theorem time_with_field_strict (t : Time) (ht : TStrict t) (v : Int) (hv : 0 ≤ v) :
    (∀ t', t.with_nanosecond v = some t' → (TStrict t' ↔ (v < 1000000000 ∨ t.secs % 60 = 59))) ∧
    (∀ t', t.with_second v = some t' → (TStrict t' ↔ (t.frac < 1000000000 ∨ v = 59))) ∧
    (∀ t', t.with_minute v = some t' → TStrict t') ∧ (∀ t', t.with_hour v = some t' → TStrict t') := by
  obtain ⟨w1, w2, w3, w4⟩ := with_shown t v ht.1 hv
  obtain ⟨bh, bm, bs, bn, es, en⟩ := shown_bounds t ht.1
  have hleap : t.nanosecond < 1000000000 ∨ t.second = 59 := by rw [es, en]; exact ht.2
  rw [w1, w2, w3, w4, ← es, ← en]
  refine ⟨fun t' h => ?_, fun t' h => ?_, fun t' h => ?_, fun t' h => ?_⟩
  · obtain ⟨c, rfl⟩ := ite_some_cases.2 t' h
    exact strict_ofFields _ _ _ _ bh bm bs ⟨hv, c⟩
  · obtain ⟨c, rfl⟩ := ite_some_cases.2 t' h
    exact strict_ofFields _ _ _ _ bh bm ⟨hv, c⟩ bn
  · obtain ⟨c, rfl⟩ := ite_some_cases.2 t' h
    exact (strict_ofFields _ _ _ _ bh ⟨hv, c⟩ bs bn).mpr hleap
  · obtain ⟨c, rfl⟩ := ite_some_cases.2 t' h
    exact (strict_ofFields _ _ _ _ ⟨hv, c⟩ bm bs bn).mpr hleap

/-- "the value with that field changed and all others kept, or nothing if no such time exists", with
*exists* read as the constructors do (`ctorTime h m s n` = the answer of `from_hms_nano_opt`,
`ctorTime_is_constructor`): on every constructor-built time `with_hour` and `with_minute` ARE the
constructor applied to the new field and the three old ones, for every argument; `with_second` and
`with_nanosecond` are too — EXCEPT on the inputs excluded by hypothesis (a leap representation moved off
second :59; a leap-range nanosecond put on another second), where `time_with_field_off59` says what
happens instead.  Partial: the excluded inputs are in the property's quantifier. -/
theorem time_with_field_constructor_partial (t : Time) (ht : TStrict t) (v : Int) (hv : 0 ≤ v) :
    t.with_hour v = ctorTime v t.minute t.second t.nanosecond ∧
    t.with_minute v = ctorTime t.hour v t.second t.nanosecond ∧
    (¬ (1000000000 ≤ t.frac ∧ v < 59) → t.with_second v = ctorTime t.hour t.minute v t.nanosecond) ∧
    (¬ (1000000000 ≤ v ∧ v < 2000000000 ∧ t.secs % 60 ≠ 59) →
      t.with_nanosecond v = ctorTime t.hour t.minute t.second v) := by
  obtain ⟨w1, w2, w3, w4⟩ := with_shown t v ht.1 hv
  obtain ⟨bh, bm, bs, bn, es, en⟩ := shown_bounds t ht.1
  have hleap : t.nanosecond < 1000000000 ∨ t.second = 59 ∧ t.nanosecond < 2000000000 := by
    rw [es, en]; exact ht.2.imp_right fun e => ⟨e, ht.1.2.2.2⟩
  -- both sides are `some (ofFields …)` or nothing: a replacement accepts by the bound on `v` alone,
  -- the constructor looks at all four fields
  rw [w1, w2, w3, w4, ← es, ← en]
  unfold ctorTime
  refine ⟨if_congr ?_ rfl rfl, if_congr ?_ rfl rfl, fun hd => if_congr ?_ rfl rfl,
    fun hd => if_congr ?_ rfl rfl⟩
  · exact ⟨fun c => ⟨c, bm.2, bs.2, hleap⟩, fun h => h.1⟩
  · exact ⟨fun c => ⟨bh.2, c, bs.2, hleap⟩, fun h => h.2.1⟩
  · unfold okFields; omega
  · unfold okFields; omega

/-- `ctorTime` is the model of `NaiveTime::from_hms_nano_opt` (C07's, compared by C07's driver) -/
theorem ctorTime_is_constructor (h m s n : Int) : ctorTime h m s n = Time.from_hms_nano_opt h m s n := by
  unfold ctorTime Time.from_hms_nano_opt ofFields
  by_cases c : (h ≥ 24 ∨ m ≥ 60 ∨ s ≥ 60) ∨ (n ≥ 1000000000 ∧ s ≠ 59) ∨ n ≥ 2000000000
  · rw [if_pos c, if_neg (by unfold okFields; omega)]
  · rw [if_neg c, if_pos (by unfold okFields; omega)]

/-- the excluded inputs, universally: `with_second v` (v < 59) on a leap representation and
`with_nanosecond v` (10⁹ ≤ v < 2·10⁹) off second :59 return a value — the old `secs`/`frac` with the one
field replaced, as `time_with_field_spec` describes — although the constructor refuses those four
fields; the value is not constructor-valid (it is `TValid`: the documented "leap second on any second") -/
theorem time_with_field_off59 (t : Time) (ht : TStrict t) (v : Int) (hv : 0 ≤ v) :
    (1000000000 ≤ t.frac → v < 59 →
      t.with_second v = some ⟨t.secs / 60 * 60 + v, t.frac⟩ ∧
      ctorTime t.hour t.minute v t.nanosecond = none ∧ ¬ TStrict ⟨t.secs / 60 * 60 + v, t.frac⟩) ∧
    (1000000000 ≤ v → v < 2000000000 → t.secs % 60 ≠ 59 →
      t.with_nanosecond v = some ⟨t.secs, v⟩ ∧
      ctorTime t.hour t.minute t.second v = none ∧ ¬ TStrict ⟨t.secs, v⟩) := by
  obtain ⟨a, b⟩ := leap_off59 t ht.1 v hv
  exact ⟨fun x y => ⟨(a x y).1, (a x y).2.1, (a x y).2.2.1⟩,
    fun x y z => ⟨(b x y z).1, (b x y z).2.1, (b x y z).2.2.1⟩⟩

/-- kernel-checked instances of the deviation (observed on the real crate 2026-09-30):
`00:00:07 .with_nanosecond(1_500_000_000)` and `23:59:59 + leap .with_second(30)` return values that
`from_hms_nano_opt(0, 0, 7, 1_500_000_000)` / `(23, 59, 30, 1_500_000_000)` refuse -/
theorem time_with_field_off59_counterexample :
    TStrict ⟨7, 0⟩ ∧ (⟨7, 0⟩ : Time).with_nanosecond 1500000000 = some ⟨7, 1500000000⟩ ∧
    Time.from_hms_nano_opt 0 0 7 1500000000 = none ∧ ¬ TStrict ⟨7, 1500000000⟩ ∧
    TStrict ⟨86399, 1500000000⟩ ∧ (⟨86399, 1500000000⟩ : Time).with_second 30 = some ⟨86370, 1500000000⟩ ∧
    Time.from_hms_nano_opt 23 59 30 1500000000 = none ∧ ¬ TStrict ⟨86370, 1500000000⟩ := by decide

/-! ### `NaiveDateTime` time-field replacement in one statement; the `as u32` cast of `years_since`;
one month away is `Month::succ` / `Month::pred` -/

/-- `NaiveDateTime::with_hour / with_minute / with_second / with_nanosecond`, every date part (no
hypothesis on it), every well-formed time of day, every `u32` (non-negative) argument: no panic; `None`
exactly when hour ≥ 24 / minute ≥ 60 / second ≥ 60 / nanosecond ≥ 2·10⁹; otherwise the date is kept and
the time shows the new value in the named field and the old values in the other three -/
theorem naive_datetime_time_fields_spec (dt : NaiveDT) (ht : TValid dt.time) (v : Int) (hv : 0 ≤ v) :
    (∃ r, dt.with_hour v = .ok r ∧ (r = none ↔ 24 ≤ v) ∧ ∀ x, r = some x → x.date = dt.date ∧
      HasFields x.time v dt.time.minute dt.time.second dt.time.nanosecond) ∧
    (∃ r, dt.with_minute v = .ok r ∧ (r = none ↔ 60 ≤ v) ∧ ∀ x, r = some x → x.date = dt.date ∧
      HasFields x.time dt.time.hour v dt.time.second dt.time.nanosecond) ∧
    (∃ r, dt.with_second v = .ok r ∧ (r = none ↔ 60 ≤ v) ∧ ∀ x, r = some x → x.date = dt.date ∧
      HasFields x.time dt.time.hour dt.time.minute v dt.time.nanosecond) ∧
    (∃ r, dt.with_nanosecond v = .ok r ∧ (r = none ↔ 2000000000 ≤ v) ∧ ∀ x, r = some x → x.date = dt.date ∧
      HasFields x.time dt.time.hour dt.time.minute dt.time.second v) := by
  obtain ⟨⟨a1, a2⟩, ⟨b1, b2⟩, ⟨c1, c2⟩, ⟨d1, d2⟩⟩ := time_with_field_spec dt.time v ht hv
  have key : ∀ (o : Option Time) (P : Time → Prop), (∀ t', o = some t' → P t') →
      ∀ x, (o.map fun t => (⟨dt.date, t⟩ : NaiveDT)) = some x → x.date = dt.date ∧ P x.time := by
    intro o P hP x hx
    cases o with
    | none => cases hx
    | some t => cases hx; exact ⟨rfl, hP t rfl⟩
  exact ⟨⟨_, rfl, Option.map_eq_none_iff.trans a1, key _ _ a2⟩, ⟨_, rfl, Option.map_eq_none_iff.trans b1, key _ _ b2⟩,
    ⟨_, rfl, Option.map_eq_none_iff.trans c1, key _ _ c2⟩, ⟨_, rfl, Option.map_eq_none_iff.trans d1, key _ _ d2⟩⟩

/-- the count `years_since` returns fits `u32` (indeed `0 ≤ k ≤ MAX_YEAR − MIN_YEAR`), so the final
`as u32` cast — not modelled, `r : Option Int` — is the identity -/
theorem years_since_fits_u32 (y1 y0 : Int) (o1 o0 : Nat) (hy1 : MIN_YEAR ≤ y1 ∧ y1 ≤ MAX_YEAR)
    (hy0 : MIN_YEAR ≤ y0 ∧ y0 ≤ MAX_YEAR) (ho1 : 1 ≤ o1 ∧ o1 ≤ yearLen y1) (ho0 : 1 ≤ o0 ∧ o0 ≤ yearLen y0) :
    ∀ k, (dateOfYo y1 o1).years_since (dateOfYo y0 o0) = .ok (some k) →
      0 ≤ k ∧ k ≤ 524285 ∧ asU32 k = k := by
  intro k hk
  obtain ⟨r, h1, h2, _⟩ := years_since_spec y1 y0 o1 o0 hy1 hy0 ho1 ho0
  rw [h1] at hk
  injection hk with hk
  have hw := (h2 k).mp hk
  have hMIN : MIN_YEAR = -262143 := rfl
  have hMAX : MAX_YEAR = 262142 := rfl
  unfold WholeYears ymdLe ymdLt at hw
  have hb : 0 ≤ k ∧ k ≤ 524285 := by omega
  exact ⟨hb.1, hb.2, asU32_id (by omega) (by omega)⟩

/-- stepping by one month lands in `Month::succ` (December → January of the next year), by minus one in
`Month::pred` (January → December of the year before); `Month::February.num_days` is 29 exactly in the
leap years of the Gregorian rule, for every year of the range -/
theorem month_step_succ_pred (y : Int) (mo : Month) :
    stepMonth y (mo.toNat + 1) 1 = mo.succ.toNat + 1 ∧
    stepMonth y (mo.toNat + 1) (-1) = mo.pred.toNat + 1 ∧
    stepYear y (mo.toNat + 1) 1 = (if mo = .dec then y + 1 else y) ∧
    stepYear y (mo.toNat + 1) (-1) = (if mo = .jan then y - 1 else y) ∧
    (MIN_YEAR ≤ y ∧ y ≤ MAX_YEAR →
      Month.feb.num_days y = .ok (some (if y % 4 = 0 ∧ (y % 100 ≠ 0 ∨ y % 400 = 0) then 29 else 28))) := by
  obtain ⟨hs, hp, hys, hyp⟩ := step_one y (mo.toNat + 1) (by cases mo <;> decide)
  rw [hs, hp, hys, hyp]
  refine ⟨by cases mo <;> rfl, by cases mo <;> rfl, by cases mo <;> rfl, by cases mo <;> rfl, fun hy => ?_⟩
  rw [month_num_days_spec .feb y, if_neg (by intro hc; omega)]
  refine congrArg (fun x => Res.ok (some x)) ?_
  show (if isLeap y then 29 else 28) = _
  by_cases c : y % 4 = 0 ∧ (y % 100 ≠ 0 ∨ y % 400 = 0)
  · rw [if_pos c, if_pos ((isLeap_iff y).mpr c)]
  · rw [if_neg c, if_neg (fun h => c ((isLeap_iff y).mp h))]

/-! ### non-vacuity: the hypotheses are met, and the interesting branches are reached -/

/-- Jan 31 + 1 month clamps to Feb 29 in a leap year and Feb 28 otherwise; December rolls the year;
subtraction crosses year 0; both range ends refuse; huge counts refuse -/
example :
    Date.from_ymd_opt 2024 1 31 = .ok (some (dateOfYo 2024 31)) ∧
    (dateOfYo 2024 31).checked_add_months 1 = .ok (some (dateOfYo 2024 60)) ∧
    (dateOfYo 2023 31).checked_add_months 1 = .ok (some (dateOfYo 2023 59)) ∧
    (dateOfYo 2023 365).checked_add_months 2 = .ok (some (dateOfYo 2024 60)) ∧
    (dateOfYo 1 1).checked_sub_months 13 = .ok (some (dateOfYo (-1) 335)) ∧
    (dateOfYo 262142 335).checked_add_months 1 = .ok none ∧
    (dateOfYo (-262143) 31).checked_sub_months 1 = .ok none ∧
    (dateOfYo 2024 31).checked_add_months 4294967295 = .ok none ∧
    addMonths? 2024 1 31 1 = some (dateOfYo 2024 60) ∧ stepDay 2024 1 31 1 = 29 := by
  decide +kernel

/-- field replacement: existing and non-existing targets, 0-based forms, `u32::MAX` -/
example :
    (dateOfYo 2024 60).with_year 2023 = .ok none ∧
    (dateOfYo 2024 60).with_year 2028 = .ok (some (dateOfYo 2028 60)) ∧
    (dateOfYo 2024 31).with_month 4 = .ok none ∧
    (dateOfYo 2024 31).with_month0 2 = .ok (some (dateOfYo 2024 91)) ∧
    (dateOfYo 2023 32).with_day 29 = .ok none ∧
    (dateOfYo 2024 32).with_day0 28 = .ok (some (dateOfYo 2024 60)) ∧
    (dateOfYo 2023 1).with_ordinal 366 = .ok none ∧
    (dateOfYo 2024 1).with_ordinal0 365 = .ok (some (dateOfYo 2024 366)) ∧
    (dateOfYo 2024 1).with_ordinal0 4294967295 = .ok none ∧
    (dateOfYo 2024 60).with_year 262143 = .ok none ∧
    ymdDate? 2024 2 29 = some (dateOfYo 2024 60) ∧ yoDate? 2023 366 = none := by
  decide +kernel

/-- weeks: 1970-01-01 (Thursday) in a Sunday-based week; the first week of the range has no first
day for most first weekdays, the last week no last day -/
example :
    ((dateOfYo 1970 1).week .sun).checked_first_day = .ok (some (dateOfYo 1969 362)) ∧
    ((dateOfYo 1970 1).week .sun).checked_last_day = .ok (some (dateOfYo 1970 3)) ∧
    ((dateOfYo 1970 1).week .thu).checked_first_day = .ok (some (dateOfYo 1970 1)) ∧
    (Date.MIN.week .sun).checked_first_day = .ok none ∧ (Date.MIN.week .sun).first_day = .panic ∧
    (Date.MAX.week .mon).checked_last_day = .ok none ∧ (Date.MAX.week .mon).checked_days = .ok none ∧
    daysBack (weekdayOf (dayNumYo 1970 1)) 6 = 4 := by
  decide +kernel

/-- n-th weekday: the 2nd Friday of March 2017 is the 10th; April 2023 has no 5th Monday -/
example :
    Date.from_weekday_of_month_opt 2017 3 .fri 2 = Date.from_ymd_opt 2017 3 10 ∧
    Date.from_weekday_of_month_opt 2023 4 .mon 5 = .ok none ∧
    Date.from_weekday_of_month_opt 2023 4 .mon 0 = .ok none ∧
    Date.from_weekday_of_month_opt 2023 13 .mon 1 = .ok none ∧
    nthWeekdayDay 2017 3 4 2 = 10 := by
  decide +kernel

/-- whole years: the day before the anniversary, the anniversary, a later base -/
example :
    (dateOfYo 2024 59).years_since (dateOfYo 2000 60) = .ok (some 23) ∧
    (dateOfYo 2024 60).years_since (dateOfYo 2000 60) = .ok (some 24) ∧
    (dateOfYo 2000 60).years_since (dateOfYo 2000 61) = .ok none ∧
    (dateOfYo 2023 59).quarter = .ok 1 ∧ (dateOfYo 2023 335).quarter = .ok 4 ∧
    (dateOfYo 0 1).year_ce = .ok (false, 1) ∧ (dateOfYo 2024 32).num_days_in_month = .ok 29 ∧
    Month.feb.num_days 262143 = .ok none ∧ Month.jan.num_days 262143 = .ok (some 31) := by
  decide +kernel

/-- time-of-day replacement: `with_second(59)` / `with_minute(0)` on a leap-second representation keep
it; the bounds; `with_nanosecond` builds a leap representation on any second -/
example :
    TValid ⟨3570, 1500000000⟩ ∧
    (⟨3570, 1500000000⟩ : Time).with_second 59 = some ⟨3599, 1500000000⟩ ∧
    (⟨3599, 1500000000⟩ : Time).with_minute 0 = some ⟨59, 1500000000⟩ ∧
    (⟨3599, 1500000000⟩ : Time).with_hour 23 = some ⟨86399, 1500000000⟩ ∧
    (⟨3599, 1500000000⟩ : Time).with_hour 24 = none ∧ (⟨0, 0⟩ : Time).with_second 60 = none ∧
    (⟨0, 0⟩ : Time).with_minute 4294967295 = none ∧
    (⟨7, 0⟩ : Time).with_nanosecond 1999999999 = some ⟨7, 1999999999⟩ ∧
    (⟨7, 0⟩ : Time).with_nanosecond 2000000000 = none ∧
    HasFields ⟨3599, 1500000000⟩ 0 59 59 1500000000 := by decide

/-- `NaiveDateTime`: Jan 31 + 1 month keeps the time (leap representation included); `with_day(31)` in
February has no target; `with_hour` keeps the date -/
example :
    NaiveDT.checked_add_months ⟨dateOfYo 2024 31, ⟨86399, 1500000000⟩⟩ 1 =
      .ok (some ⟨dateOfYo 2024 60, ⟨86399, 1500000000⟩⟩) ∧
    NaiveDT.checked_sub_months ⟨dateOfYo 2024 91, ⟨5, 6⟩⟩ 1 = .ok (some ⟨dateOfYo 2024 60, ⟨5, 6⟩⟩) ∧
    NaiveDT.with_day ⟨dateOfYo 2024 32, ⟨5, 6⟩⟩ 31 = .ok none ∧
    NaiveDT.with_year ⟨dateOfYo 2024 60, ⟨5, 6⟩⟩ 2023 = .ok none ∧
    NaiveDT.with_ordinal0 ⟨dateOfYo 2024 60, ⟨5, 6⟩⟩ 365 = .ok (some ⟨dateOfYo 2024 366, ⟨5, 6⟩⟩) ∧
    NaiveDT.with_hour ⟨dateOfYo 2024 60, ⟨5, 6⟩⟩ 23 = .ok (some ⟨dateOfYo 2024 60, ⟨82805, 6⟩⟩) ∧
    NaiveDT.with_hour ⟨dateOfYo 2024 60, ⟨5, 6⟩⟩ 24 = .ok none := by decide +kernel

/-- zone-aware forms at the sub-minute offset +00:00:17: 2024-01-31T23:59:50Z reads Feb 1 00:00:07 on
the wall, plus one month is Mar 1 00:00:07 = Feb 29 23:59:50Z; at noon the wall clock reads Jan 31 and
clamps to Feb 29; `with_second(30)` acts on the wall clock (:16 wall → :30 wall = :13 UTC), not on the
UTC reading, and keeps a leap-second representation; a replacement whose naive result exists but whose
instant leaves the range (`with_day(31)` on Dec 30 21:30 at −03:00 = Jan 1 00:30Z of the year after
MAX) is refused; a leap-second reading in the last second of MAX_UTC is refused by `with_nanosecond`
(through `map_local`) but not by month stepping (no `MIN_UTC ..= MAX_UTC` filter there) -/
example :
    ZInv ⟨⟨dateOfYo 2024 31, ⟨86390, 0⟩⟩, 17⟩ ∧
    Zoned.overflowing_naive_local ⟨⟨dateOfYo 2024 31, ⟨86390, 0⟩⟩, 17⟩ = .ok ⟨dateOfYo 2024 32, ⟨7, 0⟩⟩ ∧
    NaiveDT.checked_add_months ⟨dateOfYo 2024 32, ⟨7, 0⟩⟩ 1 = .ok (some ⟨dateOfYo 2024 61, ⟨7, 0⟩⟩) ∧
    Zoned.checked_add_months ⟨⟨dateOfYo 2024 31, ⟨86390, 0⟩⟩, 17⟩ 1 =
      .ok (some ⟨⟨dateOfYo 2024 60, ⟨86390, 0⟩⟩, 17⟩) ∧
    Zoned.checked_add_months ⟨⟨dateOfYo 2024 31, ⟨43200, 0⟩⟩, 17⟩ 1 =
      .ok (some ⟨⟨dateOfYo 2024 60, ⟨43200, 0⟩⟩, 17⟩) ∧
    Zoned.with_second ⟨⟨dateOfYo 2016 366, ⟨86399, 1500000000⟩⟩, 17⟩ 30 =
      .ok (some ⟨⟨dateOfYo 2017 1, ⟨13, 1500000000⟩⟩, 17⟩) ∧
    Zoned.with_second ⟨⟨dateOfYo 2016 366, ⟨86399, 1500000000⟩⟩, 17⟩ 60 = .ok none ∧
    NaiveDT.with_day ⟨dateOfYo MAX_YEAR 364, ⟨77400, 0⟩⟩ 31 = .ok (some ⟨dateOfYo MAX_YEAR 365, ⟨77400, 0⟩⟩) ∧
    Zoned.with_day ⟨⟨dateOfYo MAX_YEAR 365, ⟨1800, 0⟩⟩, -10800⟩ 31 = .ok none ∧
    NaiveDT.with_nanosecond NaiveDT.MAX 1000000000 = .ok (some ⟨Date.MAX, ⟨86399, 1000000000⟩⟩) ∧
    Zoned.with_nanosecond ⟨NaiveDT.MAX, 0⟩ 1000000000 = .ok none ∧
    ¬ InUtcRange (instSecs ⟨Date.MAX, ⟨86399, 1000000000⟩⟩ - 0) 1000000000 ∧
    Zoned.checked_add_months ⟨⟨dateOfYo MAX_YEAR 304, ⟨86399, 1500000000⟩⟩, 0⟩ 2 =
      .ok (some ⟨⟨Date.MAX, ⟨86399, 1500000000⟩⟩, 0⟩) ∧
    Zoned.checked_add_months ⟨⟨dateOfYo MAX_YEAR 335, ⟨0, 0⟩⟩, 0⟩ 1 = .ok none := by decide +kernel

/-- whole years between zone-aware values: one nanosecond before the anniversary, on it; a leap second
sorts after :59.999999999; the wall clocks decide — the same instant at +00:00:01 and at +00:00:00 is
`None` one way and `Some(0)` the other; the widest pair -/
example :
    Zoned.years_since ⟨⟨dateOfYo 2024 60, ⟨43200, 0⟩⟩, 0⟩ ⟨⟨dateOfYo 2000 60, ⟨43200, 1⟩⟩, 0⟩ = .ok (some 23) ∧
    Zoned.years_since ⟨⟨dateOfYo 2024 60, ⟨43200, 0⟩⟩, 0⟩ ⟨⟨dateOfYo 2000 60, ⟨43200, 0⟩⟩, 0⟩ = .ok (some 24) ∧
    Zoned.years_since ⟨⟨dateOfYo 2017 365, ⟨86399, 1000000000⟩⟩, 0⟩ ⟨⟨dateOfYo 2016 366, ⟨86399, 999999999⟩⟩, 0⟩
      = .ok (some 1) ∧
    Zoned.years_since ⟨⟨dateOfYo 2017 365, ⟨86399, 999999999⟩⟩, 0⟩ ⟨⟨dateOfYo 2016 366, ⟨86399, 1000000000⟩⟩, 0⟩
      = .ok (some 0) ∧
    Zoned.years_since ⟨⟨dateOfYo 2024 60, ⟨43200, 0⟩⟩, 0⟩ ⟨⟨dateOfYo 2024 60, ⟨43200, 0⟩⟩, 1⟩ = .ok none ∧
    Zoned.years_since ⟨⟨dateOfYo 2024 60, ⟨43200, 0⟩⟩, 1⟩ ⟨⟨dateOfYo 2024 60, ⟨43200, 0⟩⟩, 0⟩ = .ok (some 0) ∧
    Zoned.years_since ⟨NaiveDT.MAX, 86399⟩ ⟨NaiveDT.MIN, -86399⟩ = .ok (some 524286) ∧
    Zoned.time ⟨⟨dateOfYo 2024 60, ⟨86390, 5⟩⟩, 17⟩ = .ok ⟨7, 5⟩ := by decide +kernel

/-- operator forms: Jan 31 + 1 month = Feb 29; the range ends panic; `Months(0)` never does; the
`NaiveDateTime` form keeps the time; the zone-aware form panics when the checked one refuses;
`from_weekday_of_month` panics on a missing 5th Monday; the inherited `Datelike` defaults on a headroom
wall clock (MAX_UTC viewed at +01:00 reads Jan 1 of the year after MAX_YEAR) -/
example :
    (dateOfYo 2024 31).add_months_op 1 = .ok (dateOfYo 2024 60) ∧
    (dateOfYo 2024 91).sub_months_op 1 = .ok (dateOfYo 2024 60) ∧
    Date.MAX.add_months_op 1 = .panic ∧ Date.MIN.sub_months_op 1 = .panic ∧
    Date.MAX.add_months_op 0 = .ok Date.MAX ∧
    (dateOfYo 2024 31).sub_months_op 4294967295 = .panic ∧
    NaiveDT.add_months_op ⟨dateOfYo 2024 31, ⟨86399, 1500000000⟩⟩ 1 = .ok ⟨dateOfYo 2024 60, ⟨86399, 1500000000⟩⟩ ∧
    NaiveDT.sub_months_op ⟨Date.MIN, ⟨0, 0⟩⟩ 1 = .panic ∧
    Zoned.add_months_op ⟨⟨dateOfYo 2024 31, ⟨86390, 0⟩⟩, 17⟩ 1 = .ok ⟨⟨dateOfYo 2024 60, ⟨86390, 0⟩⟩, 17⟩ ∧
    Zoned.add_months_op ⟨NaiveDT.MAX, 3600⟩ 0 = .ok ⟨NaiveDT.MAX, 3600⟩ ∧
    Zoned.add_months_op ⟨NaiveDT.MAX, 3600⟩ 1 = .panic ∧
    Zoned.sub_months_op ⟨NaiveDT.MAX, 3600⟩ 1 = .ok ⟨⟨dateOfYo MAX_YEAR 334, ⟨86399, 999999999⟩⟩, 3600⟩ ∧
    Date.from_weekday_of_month 2017 3 .fri 2 = .ok (dateOfYo 2017 69) ∧
    Date.from_weekday_of_month 2023 4 .mon 5 = .panic ∧
    Zoned.quarter ⟨NaiveDT.MAX, 3600⟩ = .ok 1 ∧ Zoned.year_ce ⟨NaiveDT.MAX, 3600⟩ = .ok (true, 262143) ∧
    Zoned.num_days_in_month ⟨NaiveDT.MAX, 3600⟩ = .ok 31 ∧
    Zoned.year_ce ⟨NaiveDT.MIN, -3600⟩ = .ok (false, 262145) ∧
    NaiveDT.num_days_in_month ⟨dateOfYo 2024 60, ⟨0, 0⟩⟩ = .ok 29 ∧
    ExtNDTInv ⟨Date.AFTER_MAX, ⟨3599, 0⟩⟩ ∧
    NaiveDT.checked_sub_months ⟨Date.AFTER_MAX, ⟨3599, 0⟩⟩ 1 = .ok (some ⟨dateOfYo MAX_YEAR 335, ⟨3599, 0⟩⟩) ∧
    NaiveDT.checked_add_months ⟨Date.AFTER_MAX, ⟨3599, 0⟩⟩ 0 = .ok (some ⟨Date.AFTER_MAX, ⟨3599, 0⟩⟩) := by
  decide +kernel

/-- constructors' view of time-field replacement: agreement off the deviation set, both kinds of
deviation, and a `TStrict` input for `time_with_field_strict` -/
example :
    TStrict ⟨86399, 1500000000⟩ ∧ ¬ TStrict ⟨3570, 1500000000⟩ ∧
    (⟨86399, 1500000000⟩ : Time).with_second 59 = ctorTime 23 59 59 1500000000 ∧
    (⟨86399, 1500000000⟩ : Time).with_minute 3 = ctorTime 23 3 59 1500000000 ∧
    ctorTime 23 3 59 1500000000 = some ⟨83039, 1500000000⟩ ∧
    (⟨86399, 0⟩ : Time).with_nanosecond 1999999999 = ctorTime 23 59 59 1999999999 ∧
    (⟨7, 5⟩ : Time).with_second 60 = ctorTime 0 0 60 5 ∧ ctorTime 0 0 60 5 = none ∧
    ctorTime 0 0 7 1500000000 = none := by decide

/-- `NaiveDateTime` time fields, the bound of `years_since`, one month away -/
example :
    TValid (⟨dateOfYo 2024 60, ⟨86399, 1500000000⟩⟩ : NaiveDT).time ∧
    NaiveDT.with_second ⟨dateOfYo 2024 60, ⟨86399, 1500000000⟩⟩ 60 = .ok none ∧
    NaiveDT.with_nanosecond ⟨dateOfYo 2024 60, ⟨7, 0⟩⟩ 1999999999 = .ok (some ⟨dateOfYo 2024 60, ⟨7, 1999999999⟩⟩) ∧
    Date.MAX.years_since Date.MIN = .ok (some 524285) ∧
    stepMonth 2024 12 1 = 1 ∧ stepYear 2024 12 1 = 2025 ∧ stepMonth 2024 1 (-1) = 12 ∧ stepYear 2024 1 (-1) = 2023 ∧
    Month.feb.num_days 1900 = .ok (some 28) ∧ Month.feb.num_days 2000 = .ok (some 29) ∧
    withYearLocal 262143 ⟨Date.AFTER_MAX, ⟨3599, 0⟩⟩ = .ok (some ⟨Date.AFTER_MAX, ⟨3599, 0⟩⟩) ∧
    withYearLocal 2024 ⟨Date.AFTER_MAX, ⟨3599, 0⟩⟩ = .ok (some ⟨dateOfYo 2024 1, ⟨3599, 0⟩⟩) ∧
    yearReading? ⟨Date.AFTER_MAX, ⟨3599, 0⟩⟩ 262144 = none := by decide +kernel

end Chrono.Props.C08
