/-
  C06, code translation tie, third part: the operator impls of `TimeDelta` — `impl Add`, `impl Sub` (the METHOD
  `Option::expect`), `impl AddAssign`, `impl SubAssign` (`&mut self`: read as the function from the old value of
  `*self` to the new one) and `impl Mul<i32>`, `impl Div<i32>` (impls whose only generic part is the trait's
  argument) — as regenerated from src/time_delta.rs on every run (lean/Chrono/Extracted/GenDeltaOps.lean) equal the
  hand-written model (Model/DeltaOps.lean) for all arguments of the machine types.  Nothing of the second target
  list is refused any more (`refused_ops_none`).
-/
import Chrono.Props.GenDeltaOps

namespace Chrono.Props.GenDeltaOps2
open Chrono Chrono.M Chrono.Extracted Chrono.Proofs.GenL Chrono.Props.GenDelta

theorem gen_op_add_eq (a b : Delta) :
    Gen.time_delta.TimeDelta.Add.add (dG a) (dG b) = rmap dG (Delta.add a b) :=
  bind_rmap (gen_checked_add_eq a b) fun o => by cases o <;> rfl

theorem gen_op_sub_eq (a b : Delta) :
    Gen.time_delta.TimeDelta.Sub.sub (dG a) (dG b) = rmap dG (Delta.sub a b) :=
  bind_rmap (gen_checked_sub_eq a b) fun o => by cases o <;> rfl

/-- `a += b`: the new value of `a` -/
theorem gen_op_add_assign_eq (a b : Delta) :
    Gen.time_delta.TimeDelta.AddAssign.add_assign (dG a) (dG b) = rmap dG (Delta.add_assign a b) :=
  bind_rmap (gen_checked_add_eq a b) fun o => by cases o <;> rfl

theorem gen_op_sub_assign_eq (a b : Delta) :
    Gen.time_delta.TimeDelta.SubAssign.sub_assign (dG a) (dG b) = rmap dG (Delta.sub_assign a b) :=
  bind_rmap (gen_checked_sub_eq a b) fun o => by cases o <;> rfl

theorem gen_op_mul_eq (a : Delta) (rhs : Int)
    (hs : -9223372036854775808 ≤ a.secs ∧ a.secs ≤ 9223372036854775807)
    (hr : -2147483648 ≤ rhs ∧ rhs ≤ 2147483647) :
    Gen.time_delta.TimeDelta.Mul.mul (dG a) rhs = rmap dG (Delta.mul a rhs) :=
  bind_rmap (gen_checked_mul_eq a rhs hs hr) fun o => by cases o <;> rfl

theorem gen_op_div_eq (a : Delta) (rhs : Int)
    (hn : -2147483648 < a.nanos ∧ a.nanos ≤ 2147483647)
    (hs : -9223372036854775808 ≤ a.secs ∧ a.secs ≤ 9223372036854775807) :
    Gen.time_delta.TimeDelta.Div.div (dG a) rhs = rmap dG (Delta.div a rhs) :=
  bind_rmap (gen_checked_div_eq a rhs hn hs) fun o => by cases o <;> rfl

/-- nothing of the second target list is outside the translated subset any more -/
theorem refused_ops_none : Gen.refusedDeltaOps = [] := by decide

/-- non-vacuity: `MAX + 1 ns` panics, `MAX − MAX` is zero, `x /= 0` panics, `(1 s) * -3` -/
example : Gen.time_delta.TimeDelta.Add.add ⟨9223372036854775, 807000000⟩ ⟨0, 1⟩ = .panic
    ∧ Gen.time_delta.TimeDelta.SubAssign.sub_assign ⟨9223372036854775, 807000000⟩ ⟨9223372036854775, 807000000⟩
      = .ok ⟨0, 0⟩
    ∧ Gen.time_delta.TimeDelta.Div.div ⟨1, 0⟩ 0 = .panic
    ∧ Gen.time_delta.TimeDelta.Mul.mul ⟨1, 0⟩ (-3) = .ok ⟨-3, 0⟩ := by decide

end Chrono.Props.GenDeltaOps2
