/-
  C06, code translation tie, second part (audit gap G1): the panicking constructors `weeks … milliseconds`,
  the constant functions `min_value` / `max_value` / `zero` and `impl Neg for TimeDelta`, as regenerated from
  src/time_delta.rs on every run by tools/extractors/rust2lean_delta_ops.py (translator: rust2lean.py;
  lean/Chrono/Extracted/GenDeltaOps.lean), equal the hand-written model (Model/DeltaOps.lean, Model/Delta.lean)
  for all arguments of the machine types.  The operator impls `Add`, `Sub`, `AddAssign`, `SubAssign`, `Mul<i32>`,
  `Div<i32>` of the same target list are tied in Props/GenDeltaOps2.lean; `refused_ops_within` states that nothing
  else of this list may be refused (`Chrono.Gen.refusedDeltaOps`).
-/
import Chrono.Props.GenDelta
import Chrono.Extracted.GenDeltaOps
import Chrono.Model.DeltaOps

namespace Chrono.Props.GenDeltaOps
open Chrono Chrono.M Chrono.Extracted Chrono.Proofs.GenL Chrono.Props.GenDelta

theorem expect_aux (o : Option Delta) :
    (match o.map dG with
      | some r1 => (Res.ok r1 : Res Gen.time_delta.TimeDelta)
      | none => .panic) = rmap dG (Delta.expect o) := by
  cases o <;> rfl

theorem gen_weeks_eq (n : Int) : Gen.time_delta.TimeDelta.weeks n = rmap dG (Delta.weeks n) := by
  unfold Gen.time_delta.TimeDelta.weeks Delta.weeks
  rw [gen_try_weeks_eq]; exact expect_aux _

theorem gen_days_eq (n : Int) : Gen.time_delta.TimeDelta.days n = rmap dG (Delta.days n) := by
  unfold Gen.time_delta.TimeDelta.days Delta.days
  rw [gen_try_days_eq]; exact expect_aux _

theorem gen_hours_eq (n : Int) : Gen.time_delta.TimeDelta.hours n = rmap dG (Delta.hours n) := by
  unfold Gen.time_delta.TimeDelta.hours Delta.hours
  rw [gen_try_hours_eq]; exact expect_aux _

theorem gen_minutes_eq (n : Int) : Gen.time_delta.TimeDelta.minutes n = rmap dG (Delta.minutes n) := by
  unfold Gen.time_delta.TimeDelta.minutes Delta.minutes
  rw [gen_try_minutes_eq]; exact expect_aux _

theorem gen_seconds_eq (n : Int) : Gen.time_delta.TimeDelta.seconds n = rmap dG (Delta.seconds n) := by
  unfold Gen.time_delta.TimeDelta.seconds Delta.seconds
  rw [gen_try_seconds_eq]; exact expect_aux _

theorem gen_milliseconds_eq (n : Int) (h : -9223372036854775808 ≤ n ∧ n ≤ 9223372036854775807) :
    Gen.time_delta.TimeDelta.milliseconds n = rmap dG (Delta.milliseconds n) := by
  unfold Gen.time_delta.TimeDelta.milliseconds Delta.milliseconds
  rw [gen_try_milliseconds_eq n h, bind_ok]; exact expect_aux _

theorem gen_consts_eq :
    Gen.time_delta.TimeDelta.min_value = dG Delta.min_value ∧
    Gen.time_delta.TimeDelta.max_value = dG Delta.max_value ∧
    Gen.time_delta.TimeDelta.zero = dG Delta.zero := by decide

/-- the trait impl `Neg` (the unary `-` the harness drives) has the body of the inherent `neg` -/
theorem gen_op_neg_eq (a : Delta) :
    Gen.time_delta.TimeDelta.Neg.neg (dG a) = rmap dG (Delta.neg a) :=
  GenDelta.gen_neg_eq a

/-- the only items of the second target list the translator may refuse are the six operator impls (the
constructs `Option::expect` as a method, `&mut self`, generic-trait impl); stated as an inclusion so that the
file holds whether or not the translator knows these constructs — today it does, the list is empty and
Props/GenDeltaOps2.lean ties the six; the constructors, the constants and `Neg` must stay translated, or the
theorems above stop compiling -/
theorem refused_ops_within :
    ∀ x ∈ Gen.refusedDeltaOps.map (·.1), x ∈
      ["src/time_delta.rs: <TimeDelta as Add>::add", "src/time_delta.rs: <TimeDelta as Sub>::sub",
       "src/time_delta.rs: <TimeDelta as AddAssign>::add_assign",
       "src/time_delta.rs: <TimeDelta as SubAssign>::sub_assign",
       "src/time_delta.rs: <TimeDelta as Mul>::mul", "src/time_delta.rs: <TimeDelta as Div>::div"] := by decide

/-- non-vacuity: the translated constructors at a threshold -/
example : Gen.time_delta.TimeDelta.seconds 9223372036854775 = .ok ⟨9223372036854775, 0⟩ ∧
    Gen.time_delta.TimeDelta.seconds 9223372036854776 = .panic ∧
    Gen.time_delta.TimeDelta.milliseconds (-9223372036854775808) = .panic := by decide

end Chrono.Props.GenDeltaOps
