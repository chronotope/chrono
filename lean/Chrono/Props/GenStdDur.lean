/-
  C06 / C07 (and C03 / C08), code translation tie for the `core::time::Duration` conversions and operators:
  `TimeDelta::from_std`, `TimeDelta::to_std` (src/time_delta.rs), `impl Add<Duration> / Sub<Duration> for NaiveTime`
  (src/naive/time/mod.rs — the bodies the std-Duration finding of C07 lived in), `impl Add/Sub<TimeDelta> for
  NaiveTime`, `impl Add/Sub<Duration>` and `impl Add/Sub<TimeDelta>` for `NaiveDateTime` (src/naive/datetime/mod.rs)
  and for `DateTime<FixedOffset>` (src/datetime/mod.rs, the generic impl read at `Tz = FixedOffset`), as regenerated
  from the Rust source text on every run (tools/extractors/rust2lean.py, lean/Chrono/Extracted/Gen.lean), equal the
  hand-written models (Model/Delta.lean, Model/Time.lean, Model/ArithOps.lean).  `core::time::Duration` is built into
  the translator as the pair `(secs : u64, nanos : u32)` with std's `Duration::new / as_secs / subsec_nanos`
  (`Gen.core_time.Duration.*`); the hypothesis `StdDur` is its type invariant (`nanos < 10^9`).  A `Result<T, E>` of
  the source is a `GenRt.Result`; the models return an `Option` (they do not distinguish error values: the only
  error value of `OutOfRangeError(())` is `()`), `resOpt` maps one to the other.
-/
import Chrono.Props.GenTime
import Chrono.Props.GenDateTime
import Chrono.Props.GenZoned
import Chrono.Proofs.GenStdDurL

namespace Chrono.Props.GenStdDur
open Chrono Chrono.M Chrono.Extracted Chrono.Proofs.GenL Chrono.Proofs.GenTimeL
open Chrono.Props.GenDateTime Chrono.Props.GenZoned Chrono.Proofs.GenStdDurL

/-- the machine ranges and the type invariant of a `core::time::Duration` -/
def StdDur (secs nanos : Int) : Prop := (0 ≤ secs ∧ secs ≤ 18446744073709551615) ∧ (0 ≤ nanos ∧ nanos < 1000000000)

/-- the generated value of a `core::time::Duration` -/
abbrev sG (secs nanos : Int) : Gen.core_time.Duration := ⟨secs, nanos⟩

/-- the model's `Option` as a `Result<_, OutOfRangeError>` -/
def resOpt {α β} (f : α → β) : Option α → GenRt.Result β Unit
  | some a => .ok (f a)
  | none => .err ()

/-! ### `TimeDelta::from_std`, `TimeDelta::to_std` -/

theorem gen_from_std_eq (secs nanos : Int) (h : StdDur secs nanos) :
    Gen.time_delta.TimeDelta.from_std (sG secs nanos) = resOpt dG (Delta.from_std secs nanos) := by
  unfold Gen.time_delta.TimeDelta.from_std Delta.from_std Gen.core_time.Duration.as_secs
    Gen.core_time.Duration.subsec_nanos
  have hM : Delta.MAX.secs = 9223372036854775 := rfl
  obtain ⟨⟨h1, h2⟩, h3, h4⟩ := h
  dsimp only
  rw [hM]
  by_cases hs : secs > 9223372036854775
  · rw [if_pos hs, if_pos hs]; rfl
  · rw [if_neg hs, if_neg hs, Proofs.Ts.asI64_id (by omega) (by omega), GenDelta.gen_new_eq secs nanos h3 (by omega)]
    cases Delta.new secs nanos <;> rfl

/-- the generated `Duration::new` on a nanosecond part below one second: no carry, no panic -/
theorem dur_new_ok (secs nanos : Int) (h : nanos < 1000000000) :
    Gen.core_time.Duration.new secs nanos = .ok (sG secs nanos) := by
  unfold Gen.core_time.Duration.new; rw [if_pos h]

/-- `to_std`, under the type invariant of `TimeDelta` (`0 ≤ nanos < 10^9`) and the `i64` range of `secs` -/
theorem gen_to_std_eq (d : Delta) (hs : -9223372036854775808 ≤ d.secs ∧ d.secs ≤ 9223372036854775807)
    (hn : 0 ≤ d.nanos ∧ d.nanos < 1000000000) :
    Gen.time_delta.TimeDelta.to_std (dG d) = .ok (resOpt (fun p : Int × Int => sG p.1 p.2) (Delta.to_std d)) := by
  unfold Gen.time_delta.TimeDelta.to_std Delta.to_std
  dsimp only
  by_cases h0 : d.secs < 0
  · rw [if_pos h0, if_pos h0]; rfl
  · rw [if_neg h0, if_neg h0]
    have e1 : GenRt.asU64 d.secs = d.secs := by unfold GenRt.asU64; omega
    have e2 : asU32 d.nanos = d.nanos := Proofs.asU32_id (by omega) (by omega)
    rw [e1, e2, dur_new_ok _ _ hn.2]; rfl

/-! ### `NaiveTime ± core::time::Duration` (and `± TimeDelta`) -/

theorem gen_time_add_eq (t : Time) (rhs : Delta) (hd : DFields rhs) :
    Gen.naive_time.NaiveTime.Add_TimeDelta.add (tG t) (dG rhs) = rmap tG (Time.add t rhs) :=
  bind_rmap (GenTime.gen_overflowing_add_signed_eq t rhs hd) fun _ => rfl

theorem gen_time_sub_eq (t : Time) (rhs : Delta) :
    Gen.naive_time.NaiveTime.Sub_TimeDelta.sub (tG t) (dG rhs) = rmap tG (Time.sub t rhs) :=
  bind_rmap (GenTime.gen_overflowing_sub_signed_eq t rhs) fun _ => rfl

theorem gen_time_add_std_eq (t : Time) (secs nanos : Int) (h : StdDur secs nanos) :
    Gen.naive_time.NaiveTime.Add_Duration.add (tG t) (sG secs nanos) = rmap tG (Time.add_std t secs nanos) := by
  unfold Gen.naive_time.NaiveTime.Add_Duration.add Gen.core_time.Duration.as_secs
    Gen.core_time.Duration.subsec_nanos Time.add_std
  exact std_body _ (Time.add t) (fun d hd => gen_time_add_eq t d hd) secs nanos h.1 h.2

theorem gen_time_sub_std_eq (t : Time) (secs nanos : Int) (h : StdDur secs nanos) :
    Gen.naive_time.NaiveTime.Sub_Duration.sub (tG t) (sG secs nanos) = rmap tG (Time.sub_std t secs nanos) := by
  unfold Gen.naive_time.NaiveTime.Sub_Duration.sub Gen.core_time.Duration.as_secs
    Gen.core_time.Duration.subsec_nanos Time.sub_std
  exact std_body _ (Time.sub t) (fun d _ => gen_time_sub_eq t d) secs nanos h.1 h.2

/-! ### `NaiveDateTime ± TimeDelta`, `NaiveDateTime ± core::time::Duration` -/

theorem gen_ndt_add_eq (dt : NaiveDT) (rhs : Delta) (hd : DateOk dt.date) (hr : DFields rhs) :
    Gen.naive_datetime.NaiveDateTime.Add_TimeDelta.add (ndtG dt) (dG rhs) = rmap ndtG (NaiveDT.add dt rhs) := by
  unfold Gen.naive_datetime.NaiveDateTime.Add_TimeDelta.add NaiveDT.add expectSome
  rw [GenDateTime.gen_checked_add_signed_eq dt rhs hd hr]
  cases NaiveDT.checked_add_signed dt rhs with
  | panic => rfl
  | ok o => cases o <;> rfl

theorem gen_ndt_sub_eq (dt : NaiveDT) (rhs : Delta) (hd : DateOk dt.date) :
    Gen.naive_datetime.NaiveDateTime.Sub_TimeDelta.sub (ndtG dt) (dG rhs) = rmap ndtG (NaiveDT.sub dt rhs) := by
  unfold Gen.naive_datetime.NaiveDateTime.Sub_TimeDelta.sub NaiveDT.sub expectSome
  rw [GenDateTime.gen_checked_sub_signed_eq dt rhs hd]
  cases NaiveDT.checked_sub_signed dt rhs with
  | panic => rfl
  | ok o => cases o <;> rfl

/-- a `Delta` produced by `from_std` has fields in the machine ranges -/
theorem from_std_fields {secs nanos : Int} {d : Delta} (h : StdDur secs nanos) (hd : Delta.from_std secs nanos = some d) :
    DFields d := by
  obtain ⟨⟨h1, h2⟩, h3, h4⟩ := h
  unfold Delta.from_std at hd
  have hM : Delta.MAX.secs = 9223372036854775 := rfl
  rw [hM] at hd
  split at hd
  · exact absurd hd (by simp)
  · exact new_fields hd (by omega) (by omega)

theorem gen_ndt_add_std_eq (dt : NaiveDT) (secs nanos : Int) (hd : DateOk dt.date) (h : StdDur secs nanos) :
    Gen.naive_datetime.NaiveDateTime.Add_Duration.add (ndtG dt) (sG secs nanos)
      = rmap ndtG (NaiveDT.add_std dt secs nanos) := by
  unfold Gen.naive_datetime.NaiveDateTime.Add_Duration.add NaiveDT.add_std
  rw [gen_from_std_eq secs nanos h]
  cases hf : Delta.from_std secs nanos with
  | none => rfl
  | some d => exact gen_ndt_add_eq dt d hd (from_std_fields h hf)

theorem gen_ndt_sub_std_eq (dt : NaiveDT) (secs nanos : Int) (hd : DateOk dt.date) (h : StdDur secs nanos) :
    Gen.naive_datetime.NaiveDateTime.Sub_Duration.sub (ndtG dt) (sG secs nanos)
      = rmap ndtG (NaiveDT.sub_std dt secs nanos) := by
  unfold Gen.naive_datetime.NaiveDateTime.Sub_Duration.sub NaiveDT.sub_std
  rw [gen_from_std_eq secs nanos h]
  cases hf : Delta.from_std secs nanos with
  | none => rfl
  | some d => exact gen_ndt_sub_eq dt d hd

/-! ### `DateTime<FixedOffset> ± TimeDelta`, `± core::time::Duration` (the generic impls read at `Tz = FixedOffset`) -/

theorem gen_zoned_add_eq (z : Zoned) (rhs : Delta) (hd : DateOk z.utc.date) (hr : DFields rhs) :
    Gen.datetime.DateTime_FixedOffset.Add_TimeDelta.add (zF z) (dG rhs) = rmap zF (Zoned.add z rhs) := by
  unfold Gen.datetime.DateTime_FixedOffset.Add_TimeDelta.add Zoned.add expectSome
  rw [GenZoned.gen_checked_add_signed_eq z rhs hd hr]
  cases Zoned.checked_add_signed z rhs with
  | panic => rfl
  | ok o => cases o <;> rfl

theorem gen_zoned_sub_eq (z : Zoned) (rhs : Delta) (hd : DateOk z.utc.date) :
    Gen.datetime.DateTime_FixedOffset.Sub_TimeDelta.sub (zF z) (dG rhs) = rmap zF (Zoned.sub z rhs) := by
  unfold Gen.datetime.DateTime_FixedOffset.Sub_TimeDelta.sub Zoned.sub expectSome
  rw [GenZoned.gen_checked_sub_signed_eq z rhs hd]
  cases Zoned.checked_sub_signed z rhs with
  | panic => rfl
  | ok o => cases o <;> rfl

theorem gen_zoned_add_std_eq (z : Zoned) (secs nanos : Int) (hd : DateOk z.utc.date) (h : StdDur secs nanos) :
    Gen.datetime.DateTime_FixedOffset.Add_Duration.add (zF z) (sG secs nanos)
      = rmap zF (Zoned.add_std z secs nanos) := by
  unfold Gen.datetime.DateTime_FixedOffset.Add_Duration.add Zoned.add_std
  rw [gen_from_std_eq secs nanos h]
  cases hf : Delta.from_std secs nanos with
  | none => rfl
  | some d => exact gen_zoned_add_eq z d hd (from_std_fields h hf)

theorem gen_zoned_sub_std_eq (z : Zoned) (secs nanos : Int) (hd : DateOk z.utc.date) (h : StdDur secs nanos) :
    Gen.datetime.DateTime_FixedOffset.Sub_Duration.sub (zF z) (sG secs nanos)
      = rmap zF (Zoned.sub_std z secs nanos) := by
  unfold Gen.datetime.DateTime_FixedOffset.Sub_Duration.sub Zoned.sub_std
  rw [gen_from_std_eq secs nanos h]
  cases hf : Delta.from_std secs nanos with
  | none => rfl
  | some d => exact gen_zoned_sub_eq z d hd

/-- non-vacuity: the largest convertible duration, the first that is not; `to_std` of a negative and of a
non-negative delta; a leap second 23:59:60.5 + 86400 s is 23:59:59.5 (the repair of the std-Duration finding: a day is added as a day, not as 0 s, which would leave the leap second in place);
the built-in `Duration::new` carries whole seconds out of the nanoseconds and panics when that overflows -/
example : Gen.time_delta.TimeDelta.from_std (sG 9223372036854775 807000000) = .ok ⟨9223372036854775, 807000000⟩
    ∧ Gen.time_delta.TimeDelta.from_std (sG 9223372036854775 807000001) = .err ()
    ∧ Gen.time_delta.TimeDelta.from_std (sG 9223372036854776 0) = .err ()
    ∧ Gen.time_delta.TimeDelta.to_std ⟨-1, 999999999⟩ = .ok (.err ())
    ∧ Gen.time_delta.TimeDelta.to_std ⟨5, 7⟩ = .ok (.ok (sG 5 7))
    ∧ Gen.naive_time.NaiveTime.Add_Duration.add ⟨86399, 1500000000⟩ (sG 86400 0) = .ok ⟨86399, 500000000⟩
    ∧ Gen.naive_time.NaiveTime.Add_Duration.add ⟨86399, 1500000000⟩ (sG 1 0) = .ok ⟨0, 500000000⟩
    ∧ Gen.naive_time.NaiveTime.Sub_Duration.sub ⟨0, 0⟩ (sG 18446744073709551615 1) = .ok ⟨61184, 999999999⟩
    ∧ Gen.core_time.Duration.new 1 2500000000 = .ok (sG 3 500000000)
    ∧ Gen.core_time.Duration.new 18446744073709551615 1000000000 = .panic := by decide +kernel

end Chrono.Props.GenStdDur
