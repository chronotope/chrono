/-
  C02 — Unix timestamps and UTC date-times correspond one-to-one.
  Property statements only (helper lemmas: Proofs/TimestampL.lean and Proofs/TimestampL2.lean, on top of
  Proofs/DateL.lean).

  Model: `NaiveDT.{from_timestamp, from_timestamp_millis/_micros/_nanos, timestamp, timestamp_millis/_micros,
  timestamp_nanos_opt, timestamp_subsec_*}` (Model/DateTime.lean) and the wrappers / `SystemTime` conversions of
  Model/Timestamp.lean; every machine step that could overflow goes through `ckI64/ckI32/ckU32/ckU64`, so
  "`= .ok …`" includes "no intermediate overflow, no panic".
  Specification (Spec/InstantSpec.lean, Spec/TimestampSpec.lean; nothing of chrono's code in it):
    `instSecs dt = (dayNum(date) − 719163)·86400 + seconds of day`, `instNs dt = instSecs dt·10⁹ + frac`
  with `dayNum` the closed-form proleptic-Gregorian day number of Spec/Calendar.lean;
  `NDTInv` = representation invariant (date of the supported range, time of day < 86400 s, frac < 2·10⁹),
  `TStrict` = leap-second representation (frac ≥ 10⁹) only on a second 59, `NonLeap` = frac < 10⁹;
  `TS_MIN/TS_MAX` = first/last representable second; `/` and `%` on `Int` are floor division and its
  non-negative remainder.
-/
import Chrono.Proofs.TimestampL2
import Chrono.Extracted.TsLits
import Chrono.Props.GenDate
import Chrono.Props.GenTime

namespace Chrono.Props.C02
open Chrono Chrono.M Chrono.Spec Chrono.Spec.Ts Chrono.Proofs Chrono.Proofs.Ts Chrono.Proofs.Ts2 Chrono.Extracted

/-! ## data tie -/

/-- the integer literals of the timestamp functions and the epoch day, as re-extracted from the Rust
source on this run, are the ones the model was written against -/
theorem literals_ok :
    UNIX_EPOCH_DAY = 719163 ∧
    TS_LITS_timestamp = [86400] ∧ TS_LITS_timestamp_millis = [1000] ∧ TS_LITS_timestamp_micros = [1000000] ∧
    TS_LITS_timestamp_nanos_opt = [1000000000] ∧
    TS_LITS_timestamp_subsec_millis = [1000000] ∧ TS_LITS_timestamp_subsec_micros = [1000] ∧
    TS_LITS_from_timestamp = [86400, 86400] ∧ TS_LITS_from_timestamp_millis = [1000, 1000, 1000000] ∧
    TS_LITS_from_timestamp_micros = [1000000, 1000000, 1000] ∧
    TS_LITS_from_timestamp_nanos = [1000000000, 1000000000] ∧
    TS_LITS_from_system_time = [0, 0, 1, 1000000000] ∧ TS_LITS_to_system_time = [0, 0, 0] ∧
    TS_LITS_naive_from_timestamp_micros = [1000000, 1000000, 1000] ∧
    TS_LITS_naive_from_timestamp_nanos = [1000000000, 1000000000] := by decide

/-- the epoch and the range: chrono's `UNIX_EPOCH_DAY` is the specification's day number of
1970-01-01; `NaiveDateTime::MIN/MAX` are valid and sit on the first/last representable second -/
theorem epoch_and_range :
    UNIX_EPOCH_DAY = EPOCH_DAY ∧ dayNum 1970 1 1 = EPOCH_DAY ∧
    instNs ⟨dateOfYo 1970 1, Time.MIN⟩ = 0 ∧
    TS_MIN = -8334601228800 ∧ TS_MAX = 8210266876799 ∧
    NDTInv NaiveDT.MIN ∧ NDTInv NaiveDT.MAX ∧ instSecs NaiveDT.MIN = TS_MIN ∧ instSecs NaiveDT.MAX = TS_MAX ∧
    NaiveDT.MAX.time.frac = 999999999 := by decide

/-! ## seconds: construction -/

/-- `from_timestamp`, every `i64` count and every `u32` nanosecond field: never panics; when it
yields a value, that value is valid, its calendar and clock fields lie exactly `secs` seconds from the
epoch, and its nanosecond field is `nsecs` (a leap-second representation only on a second 59) -/
theorem from_ts_meaning (secs nsecs : Int) (hs : isI64 secs) (hn : isU32 nsecs) :
    ∃ r, NaiveDT.from_timestamp secs nsecs = .ok r ∧
      ∀ dt, r = some dt →
        NDTInv dt ∧ TStrict dt.time ∧ instSecs dt = secs ∧ dt.time.frac = nsecs := by
  obtain ⟨r, h1, _, h3⟩ := from_timestamp_spec secs nsecs hs hn.1
  exact ⟨r, h1, h3⟩

/-- construction fails exactly when the instant is outside the representable range or the nanosecond
field is invalid (≥ 2·10⁹, or ≥ 10⁹ on a second other than 59) -/
theorem from_ts_fails_iff (secs nsecs : Int) (hs : isI64 secs) (hn : isU32 nsecs) :
    NaiveDT.from_timestamp secs nsecs = .ok none ↔
      (secs < TS_MIN ∨ secs > TS_MAX ∨ nsecs ≥ 2000000000 ∨ (nsecs ≥ 1000000000 ∧ secs % 60 ≠ 59)) := by
  obtain ⟨r, h1, h2, _⟩ := from_timestamp_spec secs nsecs hs hn.1
  rw [h1, Res.ok.injEq, h2]
  unfold tsOk nanosOk
  omega

/-- one value per instant: valid values with the same second count and the same nanosecond field are
the same value (so the value described by `from_ts_meaning` is unique) -/
theorem instant_unique (a b : NaiveDT) (ha : NDTInv a) (hb : NDTInv b)
    (h : instSecs a = instSecs b) (hf : a.time.frac = b.time.frac) : a = b := inst_inj a b ha hb h hf

/-! ## seconds: reading -/

/-- the accessors of every valid value (leap-second representations included): `timestamp` is the
second count, the sub-second accessors are the nanosecond field truncated to the unit, and
`timestamp_millis/_micros` are the floor of the exact nanosecond position in that unit — all without
intermediate overflow -/
theorem timestamp_meaning (dt : NaiveDT) (h : NDTInv dt) :
    NaiveDT.timestamp dt = .ok (instSecs dt) ∧
    NaiveDT.timestamp_subsec_nanos dt = dt.time.frac ∧
    NaiveDT.timestamp_subsec_micros dt = dt.time.frac / 1000 ∧
    NaiveDT.timestamp_subsec_millis dt = dt.time.frac / 1000000 ∧
    NaiveDT.timestamp_millis dt = .ok (instNs dt / 1000000) ∧
    NaiveDT.timestamp_micros dt = .ok (instNs dt / 1000) ∧
    TS_MIN ≤ instSecs dt ∧ instSecs dt ≤ TS_MAX :=
  ⟨timestamp_spec dt h, rfl, rfl, rfl, timestamp_millis_spec dt h, timestamp_micros_spec dt h,
    instSecs_range dt h⟩

/-- round trip, seconds, direction count → value → count: whatever `from_timestamp` builds reads back
as the same `(secs, nsecs)` -/
theorem ts_roundtrip_from (secs nsecs : Int) (hs : isI64 secs) (hn : isU32 nsecs) (dt : NaiveDT)
    (h : NaiveDT.from_timestamp secs nsecs = .ok (some dt)) :
    NaiveDT.timestamp dt = .ok secs ∧ NaiveDT.timestamp_subsec_nanos dt = nsecs := by
  obtain ⟨i1, _, i3, i4⟩ := of_ok_some (from_timestamp_spec secs nsecs hs hn.1) h
  exact ⟨by rw [timestamp_spec dt i1, i3], i4⟩

/-- round trip, seconds, direction value → count → value: every valid value as the constructors build
it (leap-second representation at most on a second 59) is rebuilt from its own `timestamp()` and
`timestamp_subsec_nanos()` -/
theorem ts_roundtrip_to (dt : NaiveDT) (h : NDTInv dt) (hs : TStrict dt.time) :
    ∃ s, NaiveDT.timestamp dt = .ok s ∧ isI64 s ∧ isU32 (NaiveDT.timestamp_subsec_nanos dt) ∧
      NaiveDT.from_timestamp s (NaiveDT.timestamp_subsec_nanos dt) = .ok (some dt) := by
  obtain ⟨b1, b2, t3, t4⟩ := inv_bounds dt h
  refine ⟨instSecs dt, timestamp_spec dt h, by unfold isI64; omega, ?_, from_timestamp_of_inv dt h hs⟩
  unfold isU32 NaiveDT.timestamp_subsec_nanos Time.nanosecond; omega

/-! ## milliseconds, microseconds, nanoseconds: floor semantics -/

/-- `from_timestamp_millis`, every `i64`: never panics; fails exactly when the floor second
`ms / 1000` is outside the range; otherwise the value is non-leap and lies exactly `ms` milliseconds
from the epoch (so a negative fractional count rounds toward −∞, not toward zero) -/
theorem from_millis_floor (ms : Int) (h : isI64 ms) :
    ∃ r, NaiveDT.from_timestamp_millis ms = .ok r ∧
      (r = none ↔ (ms / 1000 < TS_MIN ∨ ms / 1000 > TS_MAX)) ∧
      (∀ dt, r = some dt → NDTInv dt ∧ NonLeap dt ∧ instNs dt = ms * 1000000) := by
  unfold isI64 at h
  rw [from_millis_eq]
  exact from_split _ _ _ (by unfold isI64; omega) (by omega) (by omega) (by omega)

/-- `from_timestamp_micros`, every `i64` -/
theorem from_micros_floor (us : Int) (h : isI64 us) :
    ∃ r, NaiveDT.from_timestamp_micros us = .ok r ∧
      (r = none ↔ (us / 1000000 < TS_MIN ∨ us / 1000000 > TS_MAX)) ∧
      (∀ dt, r = some dt → NDTInv dt ∧ NonLeap dt ∧ instNs dt = us * 1000) := by
  unfold isI64 at h
  rw [from_micros_eq]
  exact from_split _ _ _ (by unfold isI64; omega) (by omega) (by omega) (by omega)

/-- `from_timestamp_nanos`, every `i64`: total (its `expect` never fires: the whole `i64` nanosecond
window lies inside the range) and exact -/
theorem from_nanos_exact (ns : Int) (h : isI64 ns) :
    ∃ dt, NaiveDT.from_timestamp_nanos ns = .ok dt ∧ NDTInv dt ∧ NonLeap dt ∧ instNs dt = ns :=
  from_nanos_total ns h

/-- round trip in the three sub-second units, direction count → value → count -/
theorem ts_roundtrip_units_from (x : Int) (h : isI64 x) :
    (∀ dt, NaiveDT.from_timestamp_millis x = .ok (some dt) → NaiveDT.timestamp_millis dt = .ok x) ∧
    (∀ dt, NaiveDT.from_timestamp_micros x = .ok (some dt) → NaiveDT.timestamp_micros dt = .ok x) ∧
    (∀ dt, NaiveDT.from_timestamp_nanos x = .ok dt → NaiveDT.timestamp_nanos_opt dt = .ok (some x)) := by
  refine ⟨?_, ?_, ?_⟩
  · intro dt hdt
    obtain ⟨i1, _, i3⟩ := of_ok_some (from_millis_floor x h) hdt
    rw [timestamp_millis_spec dt i1, i3]; congr 1; omega
  · intro dt hdt
    obtain ⟨i1, _, i3⟩ := of_ok_some (from_micros_floor x h) hdt
    rw [timestamp_micros_spec dt i1, i3]; congr 1; omega
  · intro dt hdt
    obtain ⟨dt', e1, i1, _, i3⟩ := from_nanos_total x h
    rw [e1] at hdt; injection hdt with hdt
    subst hdt
    rw [nanos_opt_spec_all dt' i1, i3, if_pos h]

/-- round trip in the three sub-second units, direction value → count → value, every valid non-leap
value: the count read in a unit rebuilds the value truncated to that unit (the value itself for
nanoseconds, whenever the nanosecond count exists) -/
theorem ts_roundtrip_units_to (dt : NaiveDT) (h : NDTInv dt) (hl : NonLeap dt) :
    (∃ m, NaiveDT.timestamp_millis dt = .ok m ∧ isI64 m ∧
      NaiveDT.from_timestamp_millis m = .ok (some (truncFrac dt 1000000))) ∧
    (∃ u, NaiveDT.timestamp_micros dt = .ok u ∧ isI64 u ∧
      NaiveDT.from_timestamp_micros u = .ok (some (truncFrac dt 1000))) ∧
    (∀ n, NaiveDT.timestamp_nanos_opt dt = .ok (some n) → isI64 n ∧ NaiveDT.from_timestamp_nanos n = .ok dt) := by
  obtain ⟨b1, b2, t3, t4⟩ := inv_bounds dt h
  refine ⟨⟨_, timestamp_millis_spec dt h, ?_, millis_back dt h hl⟩,
    ⟨_, timestamp_micros_spec dt h, ?_, micros_back dt h hl⟩, ?_⟩
  · unfold isI64 instNs; omega
  · unfold isI64 instNs; omega
  · intro n hn
    rw [nanos_opt_spec_all dt h] at hn
    injection hn with hn
    split at hn
    · injection hn with hn
      subst hn
      exact ⟨by assumption, nanos_back dt h hl⟩
    · cases hn

/-! ## the 64-bit nanosecond window -/

/-- `timestamp_nanos_opt` on every valid value as the constructors build it: the exact nanosecond
count when that count fits in `i64`, absence otherwise; no intermediate step overflows (the count is
formed in 128 bits: `ts·10⁹` alone would leave `i64` for counts just above `i64::MIN`) -/
theorem nanos_opt_exact (dt : NaiveDT) (h : NDTInv dt) (hs : TStrict dt.time) :
    NaiveDT.timestamp_nanos_opt dt =
      .ok (if -9223372036854775808 ≤ instNs dt ∧ instNs dt ≤ 9223372036854775807
           then some (instNs dt) else none) := nanos_opt_spec dt h hs

/-- absence exactly when the count does not fit in 64 bits -/
theorem nanos_opt_none_iff (dt : NaiveDT) (h : NDTInv dt) (hs : TStrict dt.time) :
    NaiveDT.timestamp_nanos_opt dt = .ok none ↔
      (instNs dt < -9223372036854775808 ∨ instNs dt > 9223372036854775807) := by
  rw [nanos_opt_spec dt h hs]
  constructor
  · intro hx
    injection hx with hx
    split at hx
    · cases hx
    · omega
  · intro hx
    rw [if_neg (by omega)]

/-- Regression witness of finding F27 (repaired by 32de816): a leap-second *representation* on a second
other than 59 — which only `with_nanosecond` can build — on the second -9223372038 has a count that
fits `i64`; the former negative-timestamp workaround `(ts+1)·10⁹` left `i64` there and `None` was
returned.  The count is now formed in 128 bits and the value is reported. -/
theorem nanos_opt_nonstrict_leap_witness :
    let dt : NaiveDT := ⟨⟨13742219⟩, ⟨762, 1500000000⟩⟩
    NDTInv dt ∧ ¬ TStrict dt.time ∧ isI64 (instNs dt) ∧ NaiveDT.timestamp_nanos_opt dt = .ok (some (instNs dt)) := by
  decide +kernel

/-! ## the system clock type -/

/-- `From<DateTime<Tz>> for SystemTime`, every valid value: no panic, and the result `(S, N)` is a
well-formed system time denoting the same instant (for a leap-second representation: `frac`
nanoseconds after the start of its second, i.e. inside the following second) -/
theorem to_system_time_exact (dt : NaiveDT) (h : NDTInv dt) :
    ∃ p, Ts.to_system_time dt = .ok p ∧ stValid p ∧ stNs p = instNs dt := by
  obtain ⟨b1, b2, t3, t4⟩ := inv_bounds dt h
  refine ⟨_, to_system_time_spec dt h, ?_, ?_⟩
  · unfold stValid isI64; dsimp only; omega
  · unfold stNs instNs; dsimp only; omega

/-- `From<SystemTime> for DateTime<Utc>`, every system time with `i64` seconds: inside the range the
result is the valid non-leap value at that instant; outside it the conversion panics (`unwrap`) -/
theorem from_system_time_exact (S N : Int) (hS : isI64 S) (hN : 0 ≤ N ∧ N < 1000000000) :
    (TS_MIN ≤ S ∧ S ≤ TS_MAX →
      ∃ dt, Ts.from_system_time S N = .ok dt ∧ NDTInv dt ∧ NonLeap dt ∧ instNs dt = stNs (S, N)) ∧
    (S < TS_MIN ∨ S > TS_MAX → Ts.from_system_time S N = .panic) := by
  rw [from_system_time_eq S N hS hN]
  obtain ⟨r, e1, e2, e3⟩ := from_sub_spec S N hS hN.1 hN.2
  rw [e1]
  constructor
  · intro hr
    cases r with
    | none => have := e2.1 rfl; omega
    | some dt => exact ⟨dt, rfl, e3 dt rfl⟩
  · intro hr
    rw [e2.2 hr]; rfl

/-- conversion to and from the system clock type preserves the instant, both directions -/
theorem systemtime_roundtrip :
    (∀ dt, NDTInv dt → NonLeap dt →
      ∃ p, Ts.to_system_time dt = .ok p ∧ Ts.from_system_time p.1 p.2 = .ok dt) ∧
    (∀ S N, isI64 S → 0 ≤ N ∧ N < 1000000000 → TS_MIN ≤ S ∧ S ≤ TS_MAX →
      ∃ dt, Ts.from_system_time S N = .ok dt ∧ Ts.to_system_time dt = .ok (S, N)) := by
  constructor
  · intro dt h hl
    obtain ⟨b1, b2, t3, _⟩ := inv_bounds dt h
    unfold NonLeap at hl
    refine ⟨_, to_system_time_spec dt h, ?_⟩
    dsimp only
    have e1 : instSecs dt + dt.time.frac / 1000000000 = instSecs dt := by omega
    have e2 : dt.time.frac % 1000000000 = dt.time.frac := by omega
    rw [e1, e2, from_system_time_eq _ _ (by unfold isI64; omega) (by omega),
      from_timestamp_of_inv dt h ⟨h.2, Or.inl hl⟩]
    rfl
  · intro S N hS hN hr
    obtain ⟨dt, e1, i1, i2, i3⟩ := (from_system_time_exact S N hS hN).1 hr
    refine ⟨dt, e1, ?_⟩
    rw [to_system_time_spec dt i1]
    obtain ⟨_, _, _, t3, _⟩ := id i1
    unfold NonLeap at i2
    unfold instNs stNs at i3
    dsimp only at i3
    congr 2 <;> omega

/-! ## wrappers -/

/-- the `TimeZone::timestamp*` wrappers for a fixed offset (`Utc` = offset 0) attach the offset to
what `DateTime::from_timestamp*` builds; `TimeZone::timestamp` is `unwrap` of `timestamp_opt` (when that
panics: `tz_timestamp_unwrap`); the accessors
of a zone-aware value do not look at the offset; `and_utc`/`naive_utc` are inverse; the deprecated
`NaiveDateTime` constructors (two of which repeat the Euclidean split) agree with the `DateTime` ones -/
theorem wrappers_ok (off : Int) :
    (∀ s n, Ts.timestamp_opt off s n = (NaiveDT.from_timestamp s n).bind fun o => .ok (o.map fun dt => ⟨dt, off⟩)) ∧
    (∀ x, Ts.timestamp_millis_opt off x = (NaiveDT.from_timestamp_millis x).bind fun o => .ok (o.map fun dt => ⟨dt, off⟩)) ∧
    (∀ x, Ts.timestamp_micros off x = (NaiveDT.from_timestamp_micros x).bind fun o => .ok (o.map fun dt => ⟨dt, off⟩)) ∧
    (∀ x, Ts.timestamp_nanos off x = (NaiveDT.from_timestamp_nanos x).bind fun dt => .ok ⟨dt, off⟩) ∧
    (∀ s n, Ts.timestamp off s n = Ts.unwrap (Ts.timestamp_opt off s n)) ∧
    (∀ dt : NaiveDT, Ts.ztimestamp ⟨dt, off⟩ = NaiveDT.timestamp dt ∧
      Ts.ztimestamp_millis ⟨dt, off⟩ = NaiveDT.timestamp_millis dt ∧
      Ts.ztimestamp_micros ⟨dt, off⟩ = NaiveDT.timestamp_micros dt ∧
      Ts.ztimestamp_nanos_opt ⟨dt, off⟩ = NaiveDT.timestamp_nanos_opt dt ∧
      Ts.naive_utc (Ts.and_utc dt) = dt) ∧
    (∀ s n, Ts.naive_from_timestamp_opt s n = NaiveDT.from_timestamp s n) ∧
    (∀ x, Ts.naive_from_timestamp_millis x = NaiveDT.from_timestamp_millis x) ∧
    (∀ x, Ts.naive_from_timestamp_micros x = NaiveDT.from_timestamp_micros x) ∧
    (∀ x, isI64 x → Ts.naive_from_timestamp_nanos x = (NaiveDT.from_timestamp_nanos x).bind fun dt => .ok (some dt)) := by
  have hmap : ∀ r : Res (Option NaiveDT),
      (r.bind fun o => Res.ok (o.map fun dt => Ts.naive_utc (Ts.and_utc dt))) = r := by
    intro r
    cases r with
    | panic => rfl
    | ok o => cases o <;> rfl
  refine ⟨fun _ _ => rfl, fun _ => rfl, fun _ => rfl, fun _ => rfl, fun _ _ => rfl,
    fun _ => ⟨rfl, rfl, rfl, rfl, rfl⟩, fun s n => hmap _, fun x => hmap _, ?_, ?_⟩
  · intro x
    unfold Ts.naive_from_timestamp_micros NaiveDT.from_timestamp_micros Ts.naive_from_timestamp_opt
    cases ckU32 (x % 1000000 * 1000) with
    | panic => rfl
    | ok n => exact hmap _
  · intro x hx
    obtain ⟨dt, e1, _⟩ := from_nanos_total x hx
    rw [e1]
    unfold NaiveDT.from_timestamp_nanos at e1
    unfold Ts.naive_from_timestamp_nanos Ts.naive_from_timestamp_opt
    rw [hmap]
    cases hft : NaiveDT.from_timestamp (x / 1000000000) (x % 1000000000) with
    | panic => rw [hft] at e1; cases e1
    | ok o =>
      rw [hft] at e1
      cases o with
      | none => cases e1
      | some d => injection e1 with e1; rw [e1]; rfl

/-! ## non-vacuity: the hypotheses are met by non-trivial values, and both outcomes occur -/

/-- one second and one nanosecond before the epoch; a leap second on :59 and its refusal on :58;
both range ends and the first second beyond each -/
example :
    NaiveDT.from_timestamp (-1) 999999999 = .ok (some ⟨dateOfYo 1969 365, ⟨86399, 999999999⟩⟩) ∧
    NaiveDT.from_timestamp 1435708799 1500000000 = .ok (some ⟨dateOfYo 2015 181, ⟨86399, 1500000000⟩⟩) ∧
    NaiveDT.from_timestamp 1435708798 1000000000 = .ok none ∧
    NaiveDT.from_timestamp 0 2000000000 = .ok none ∧
    NaiveDT.from_timestamp TS_MAX 1999999999 = .ok (some ⟨Date.MAX, ⟨86399, 1999999999⟩⟩) ∧
    NaiveDT.from_timestamp (TS_MAX + 1) 0 = .ok none ∧
    NaiveDT.from_timestamp TS_MIN 0 = .ok (some NaiveDT.MIN) ∧
    NaiveDT.from_timestamp (TS_MIN - 1) 0 = .ok none ∧
    NaiveDT.from_timestamp (-9223372036854775808) 0 = .ok none ∧
    isI64 TS_MAX ∧ isU32 1999999999 ∧ tsOk TS_MAX 1999999999 ∧ ¬ tsOk 1435708798 1000000000 := by
  decide +kernel

/-- floor, not truncation: −1 ms is 23:59:59.999 of 1969-12-31 and reads back as −1; −1 µs, −1 ns alike -/
example :
    NaiveDT.from_timestamp_millis (-1) = .ok (some ⟨dateOfYo 1969 365, ⟨86399, 999000000⟩⟩) ∧
    NaiveDT.timestamp_millis ⟨dateOfYo 1969 365, ⟨86399, 999000000⟩⟩ = .ok (-1) ∧
    NaiveDT.from_timestamp_micros (-1) = .ok (some ⟨dateOfYo 1969 365, ⟨86399, 999999000⟩⟩) ∧
    NaiveDT.timestamp_micros ⟨dateOfYo 1969 365, ⟨86399, 999999000⟩⟩ = .ok (-1) ∧
    NaiveDT.from_timestamp_nanos (-1) = .ok ⟨dateOfYo 1969 365, ⟨86399, 999999999⟩⟩ ∧
    NaiveDT.timestamp_nanos_opt ⟨dateOfYo 1969 365, ⟨86399, 999999999⟩⟩ = .ok (some (-1)) ∧
    NaiveDT.from_timestamp_millis 9223372036854775807 = .ok none ∧
    NaiveDT.from_timestamp_micros (-9223372036854775808) = .ok none := by
  decide +kernel

/-- both ends of the 64-bit nanosecond window (1677-09-21T00:12:43.145224192 and
2262-04-11T23:47:16.854775807): present at the end, absent one nanosecond beyond, no panic -/
example :
    NaiveDT.from_timestamp_nanos (-9223372036854775808) = .ok ⟨dateOfYo 1677 264, ⟨763, 145224192⟩⟩ ∧
    NaiveDT.timestamp_nanos_opt ⟨dateOfYo 1677 264, ⟨763, 145224192⟩⟩ = .ok (some (-9223372036854775808)) ∧
    NaiveDT.timestamp_nanos_opt ⟨dateOfYo 1677 264, ⟨763, 145224191⟩⟩ = .ok none ∧
    NaiveDT.from_timestamp_nanos 9223372036854775807 = .ok ⟨dateOfYo 2262 101, ⟨85636, 854775807⟩⟩ ∧
    NaiveDT.timestamp_nanos_opt ⟨dateOfYo 2262 101, ⟨85636, 854775807⟩⟩ = .ok (some 9223372036854775807) ∧
    NaiveDT.timestamp_nanos_opt ⟨dateOfYo 2262 101, ⟨85636, 854775808⟩⟩ = .ok none ∧
    NaiveDT.timestamp_nanos_opt NaiveDT.MIN = .ok none ∧ NaiveDT.timestamp_nanos_opt NaiveDT.MAX = .ok none ∧
    NDTInv ⟨dateOfYo 1677 264, ⟨763, 145224191⟩⟩ ∧ TStrict (⟨763, 145224191⟩ : Time) := by
  decide +kernel

/-- the system clock: half a second before the epoch takes the `Err` branch with a borrow; a leap
second lands in the following second; outside the range the conversion panics -/
example :
    Ts.from_system_time (-1) 500000000 = .ok ⟨dateOfYo 1969 365, ⟨86399, 500000000⟩⟩ ∧
    Ts.to_system_time ⟨dateOfYo 1969 365, ⟨86399, 500000000⟩⟩ = .ok (-1, 500000000) ∧
    Ts.to_system_time ⟨dateOfYo 2015 181, ⟨86399, 1500000000⟩⟩ = .ok (1435708800, 500000000) ∧
    Ts.from_system_time (TS_MAX + 1) 0 = .panic ∧
    Ts.from_system_time (-9223372036854775808) 0 = .panic ∧
    Ts.timestamp_opt 3600 0 0 = .ok (some ⟨⟨dateOfYo 1970 1, ⟨0, 0⟩⟩, 3600⟩) ∧
    Ts.timestamp 3600 0 2000000000 = .panic := by
  decide +kernel

/-! ## audit gaps (audit/C02.md), closed 2026-09-30 -/

/-! ### the 64-bit nanosecond window on the whole quantifier domain -/

/-- `timestamp_nanos_opt` on EVERY representable value (no assumption on where a leap-second
representation sits; this is `nanos_opt_exact` without its `TStrict` hypothesis): the exact nanosecond
count when that count fits in `i64`, absence otherwise, never a panic.  Holds since fix 32de816 (the
count is formed in 128 bits); for the former body see `nanos_opt_pinned_formula`. -/
theorem nanos_opt_exact_all (dt : NaiveDT) (h : NDTInv dt) :
    NaiveDT.timestamp_nanos_opt dt = .ok (if isI64 (instNs dt) then some (instNs dt) else none) :=
  nanos_opt_spec_all dt h

/-- absence exactly when the count does not fit in 64 bits; presence exactly with the count -/
theorem nanos_opt_none_iff_all (dt : NaiveDT) (h : NDTInv dt) :
    (NaiveDT.timestamp_nanos_opt dt = .ok none ↔ ¬ isI64 (instNs dt)) ∧
    (∀ n, NaiveDT.timestamp_nanos_opt dt = .ok (some n) ↔ (n = instNs dt ∧ isI64 n)) := by
  rw [nanos_opt_spec_all dt h]
  by_cases hi : isI64 (instNs dt)
  · rw [if_pos hi]
    refine ⟨iff_of_false nofun (fun hx => hx hi), fun n => ⟨fun hx => ?_, fun hx => by rw [hx.1]⟩⟩
    cases hx
    exact ⟨rfl, hi⟩
  · rw [if_neg hi]
    exact ⟨iff_of_true rfl hi, fun n => iff_of_false nofun (fun hx => hi (hx.1 ▸ hx.2))⟩

/-- The FORMER body of `timestamp_nanos_opt` (before 32de816; `nanosOptPinned` in
Proofs/TimestampL2.lean transcribes it: `if ts < 0 { sub -= 10⁹; ts += 1 }` then `checked_mul`,
`checked_add` in `i64`) — statement about the OLD formula only, kept as the record of finding F27: it
agrees with the present one on every representable value except those on the second -9223372038 with
a nanosecond field ≥ 1145224192 (necessarily a leap-second representation off second 59), where it
returned `None` although the count fits `i64`. -/
theorem nanos_opt_pinned_formula (dt : NaiveDT) (h : NDTInv dt) :
    (¬ (instSecs dt = -9223372038 ∧ dt.time.frac ≥ 1145224192) →
      nanosOptPinned dt = NaiveDT.timestamp_nanos_opt dt) ∧
    ((instSecs dt = -9223372038 ∧ dt.time.frac ≥ 1145224192) →
      nanosOptPinned dt = .ok none ∧ NaiveDT.timestamp_nanos_opt dt = .ok (some (instNs dt)) ∧
      ¬ TStrict dt.time) := by
  constructor
  · intro hx
    rw [nanosOptPinned_spec dt h hx, nanos_opt_spec_all dt h]
  · intro hx
    obtain ⟨e1, e2⟩ := nanosOptPinned_exceptional dt h hx
    refine ⟨e1, by rw [nanos_opt_spec_all dt h, if_pos e2], ?_⟩
    intro hs
    have h60 := instSecs_mod60 dt
    obtain ⟨_, hl⟩ := hs
    omega

/-- F27's input under the OLD formula (kernel-evaluated): `None`; compare
`nanos_opt_nonstrict_leap_witness` for the present code -/
theorem nanos_opt_pinned_formula_witness :
    nanosOptPinned ⟨⟨13742219⟩, ⟨762, 1500000000⟩⟩ = .ok none ∧
    NaiveDT.timestamp_nanos_opt ⟨⟨13742219⟩, ⟨762, 1500000000⟩⟩ = .ok (some (-9223372036500000000)) ∧
    nanosOptPinned ⟨⟨13742219⟩, ⟨762, 1145224192⟩⟩ = .ok none ∧
    nanosOptPinned ⟨⟨13742219⟩, ⟨762, 1145224191⟩⟩ = .ok none ∧
    NaiveDT.timestamp_nanos_opt ⟨⟨13742219⟩, ⟨762, 1145224192⟩⟩ = .ok (some (-9223372036854775808)) ∧
    NaiveDT.timestamp_nanos_opt ⟨⟨13742219⟩, ⟨762, 1145224191⟩⟩ = .ok none := by
  decide +kernel

/-! ### the reverse round trip has an exact boundary -/

/-- value → count → value holds EXACTLY for the values whose leap-second representation, if any, sits
on a second 59 (what every timestamp constructor builds); a value with a leap-second representation on
another second (only `with_nanosecond`/`with_second`/offset shifts build one) is refused by
`from_timestamp` on its own `(timestamp(), timestamp_subsec_nanos())`.  So the `TStrict` hypothesis of
`ts_roundtrip_to` is necessary, not a convenience. -/
theorem ts_roundtrip_to_iff (dt : NaiveDT) (h : NDTInv dt) :
    NaiveDT.timestamp dt = .ok (instSecs dt) ∧
    (NaiveDT.from_timestamp (instSecs dt) (NaiveDT.timestamp_subsec_nanos dt) = .ok (some dt) ↔
      TStrict dt.time) ∧
    (¬ TStrict dt.time →
      NaiveDT.from_timestamp (instSecs dt) (NaiveDT.timestamp_subsec_nanos dt) = .ok none) :=
  ⟨timestamp_spec dt h, from_timestamp_back_iff dt h, from_timestamp_of_nonstrict dt h⟩

/-- the nanosecond unit: value → count → value holds exactly for the non-leap values (a leap-second
value's count names the instant inside the following second, which `from_timestamp_nanos` builds as a
non-leap value); so the `NonLeap` hypothesis of `ts_roundtrip_units_to` is necessary -/
theorem ts_roundtrip_nanos_to_iff (dt : NaiveDT) (h : NDTInv dt) (n : Int)
    (hn : NaiveDT.timestamp_nanos_opt dt = .ok (some n)) :
    n = instNs dt ∧ (NaiveDT.from_timestamp_nanos n = .ok dt ↔ NonLeap dt) ∧
    (∃ dt', NaiveDT.from_timestamp_nanos n = .ok dt' ∧ NonLeap dt' ∧ instNs dt' = instNs dt) := by
  obtain ⟨e, hi⟩ := ((nanos_opt_none_iff_all dt h).2 n).1 hn
  subst e
  obtain ⟨dt', e1, _, e2, e3⟩ := from_nanos_total (instNs dt) hi
  exact ⟨rfl, nanos_back_iff dt h hi, dt', e1, e2, e3⟩

/-- milliseconds / microseconds: the count read in the unit rebuilds the value truncated to the unit
EXACTLY for the non-leap values (for a leap-second value the constructor yields a non-leap value inside
the following second instead) -/
theorem ts_roundtrip_units_to_iff (dt : NaiveDT) (h : NDTInv dt) :
    NaiveDT.timestamp_millis dt = .ok (instNs dt / 1000000) ∧
    NaiveDT.timestamp_micros dt = .ok (instNs dt / 1000) ∧
    (NaiveDT.from_timestamp_millis (instNs dt / 1000000) = .ok (some (truncFrac dt 1000000)) ↔ NonLeap dt) ∧
    (NaiveDT.from_timestamp_micros (instNs dt / 1000) = .ok (some (truncFrac dt 1000)) ↔ NonLeap dt) := by
  obtain ⟨b1, b2, t3, t4⟩ := inv_bounds dt h
  refine ⟨timestamp_millis_spec dt h, timestamp_micros_spec dt h, ⟨?_, millis_back dt h⟩, ⟨?_, micros_back dt h⟩⟩
  · intro hx
    obtain ⟨_, i2, _⟩ := of_ok_some (from_millis_floor (instNs dt / 1000000) (by unfold isI64 instNs; omega)) hx
    unfold NonLeap truncFrac at i2
    dsimp only at i2
    unfold NonLeap
    omega
  · intro hx
    obtain ⟨_, i2, _⟩ := of_ok_some (from_micros_floor (instNs dt / 1000) (by unfold isI64 instNs; omega)) hx
    unfold NonLeap truncFrac at i2
    dsimp only at i2
    unfold NonLeap
    omega

/-! ### calendar and clock fields through C01's specification -/

/-- bridge to C01: a packed date satisfies the representation invariant exactly when it is
`dateOfYo y o` for a year of the range and an existing ordinal, and then `y`, `o` are its own year and
ordinal — so C01's `accessors_ok` (stated for `dateOfYo y o`) applies to every date C02 speaks about -/
theorem date_repr (d : Date) :
    (DateInv d ↔ ∃ (y : Int) (o : Nat), d = dateOfYo y o ∧ MIN_YEAR ≤ y ∧ y ≤ MAX_YEAR ∧ 1 ≤ o ∧ o ≤ yearLen y) ∧
    (DateInv d → d = dateOfYo d.year d.ordinal.toNat ∧ (d.ordinal.toNat : Int) = d.ordinal ∧
      MIN_YEAR ≤ d.year ∧ d.year ≤ MAX_YEAR ∧ 1 ≤ d.ordinal.toNat ∧ d.ordinal.toNat ≤ yearLen d.year) :=
  ⟨dateInv_iff d, dateInv_repr' d⟩

/-- the calendar and clock fields of every representable value: `month()`/`day()` never panic and
are a valid calendar date (C01's `validYmd`, namely C01's `monthOfYo/dayOfYo` of the ordinal) whose
closed-form day number `dayNum`, together with `hour():minute():second()`, is exactly `instSecs` -/
theorem fields_meaning (dt : NaiveDT) (h : NDTInv dt) :
    ∃ m d : Nat, dt.date.month = .ok m ∧ dt.date.day = .ok d ∧ validYmd dt.date.year m d = true ∧
      m = monthOfYo dt.date.year dt.date.ordinal.toNat ∧ d = dayOfYo dt.date.year dt.date.ordinal.toNat ∧
      instSecs dt = (dayNum dt.date.year m d - 719163) * 86400
        + dt.time.hour * 3600 + dt.time.minute * 60 + dt.time.second ∧
      0 ≤ dt.time.hour ∧ dt.time.hour < 24 ∧ 0 ≤ dt.time.minute ∧ dt.time.minute < 60 ∧
      0 ≤ dt.time.second ∧ dt.time.second < 60 ∧ dt.time.nanosecond = dt.time.frac := by
  obtain ⟨m, d, c1, c2, c3, c4, c5, c6⟩ := date_calendar dt.date h.1
  obtain ⟨k1, k2⟩ := time_clock dt.time h.2
  refine ⟨m, d, c1, c2, c3, c4, c5, ?_, k2⟩
  have hE' : EPOCH_DAY = 719163 := rfl
  unfold instSecs
  rw [c6, hE']
  omega

/-- clause 1 of the statement with calendar fields: the value `from_timestamp` builds has the
calendar date (year, month, day — valid by C01's specification) whose day number is the floor day
`secs / 86400` after 1970-01-01 (day 719163), the clock fields of the second of day `secs % 86400`,
and the given nanosecond field -/
theorem from_ts_fields (secs nsecs : Int) (hs : isI64 secs) (hn : isU32 nsecs) (dt : NaiveDT)
    (h : NaiveDT.from_timestamp secs nsecs = .ok (some dt)) :
    ∃ m d : Nat, dt.date.month = .ok m ∧ dt.date.day = .ok d ∧ validYmd dt.date.year m d = true ∧
      dayNum dt.date.year m d = 719163 + secs / 86400 ∧
      dt.time.hour = secs % 86400 / 3600 ∧ dt.time.minute = secs % 3600 / 60 ∧
      dt.time.second = secs % 60 ∧ dt.time.nanosecond = nsecs := by
  obtain ⟨i1, _, i3, i4⟩ := of_ok_some (from_timestamp_spec secs nsecs hs hn.1) h
  obtain ⟨m, d, c1, c2, c3, _, _, c6⟩ := date_calendar dt.date i1.1
  obtain ⟨k1, k2, k3⟩ := time_fields dt.time
  obtain ⟨_, t1, t2, _, _⟩ := i1
  obtain ⟨e1, e2, e3, e4⟩ := secs_split _ _ _ i3 t1 t2
  exact ⟨m, d, c1, c2, c3, c6.trans e1, by rw [k1, e2], k2.trans e3, k3.trans e4, i4⟩

/-! ### zone-aware values: the count is that of the UTC reading (offset-independence: by construction of
the model, compared with the crate — not proved) -/

/-- every timestamp accessor of a zone-aware value (`DateTime<FixedOffset>`, `DateTime<Local>`,
`DateTime<Utc>`: UTC reading + offset) is the specification's count of the instant `zonedInstNs`
(the UTC reading alone): conjuncts 1–5 are proved against the specification; conjuncts 6–8
(`timestamp_subsec_*`) are `rfl` — one division each, tied to the code by literal extraction and ops.

HONEST LABEL for the rest (second audit, audit2/C02.md §2): the block "for every offset `off'` …"
(conjunct 9) and the deprecated `NaiveDateTime::timestamp*` twins (conjuncts 10–14) are `rfl`, i.e. they
hold BY CONSTRUCTION OF THE MODEL (`Ts.ztimestamp* z := NaiveDT.timestamp* z.utc`,
`Ts.naive_timestamp* dt := Ts.ztimestamp* (and_utc dt)`): the model never reads `z.off`, for
`FixedOffset` as much as for `Utc`/`Local`.  They prove nothing about the crate.  That the Rust bodies of
`DateTime<Tz>::timestamp*` read `self.datetime` only is carried by the source pins, by the ops
`ts.zget` / `ts.zsub` / `ts.nget` (the model is asked about the value WITH the offset the implementation
attached) and by the direct oracles "the timestamp of a zone-aware value depends on its offset" of
harness/src/props/c02.rs — compared, not proved.  The same holds for conjuncts 4–5 of
`timestamp_nanos_expect_iff` and conjunct 6 of `wrappers_ok`. -/
theorem zoned_timestamp_meaning (z : Zoned) (h : NDTInv z.utc) :
    Ts.ztimestamp z = .ok (zonedInstNs z / 1000000000 - (if z.utc.time.frac ≥ 1000000000 then 1 else 0)) ∧
    Ts.ztimestamp z = .ok (instSecs z.utc) ∧
    Ts.ztimestamp_millis z = .ok (zonedInstNs z / 1000000) ∧
    Ts.ztimestamp_micros z = .ok (zonedInstNs z / 1000) ∧
    Ts.ztimestamp_nanos_opt z = .ok (if isI64 (zonedInstNs z) then some (zonedInstNs z) else none) ∧
    Ts.ztimestamp_subsec_nanos z = z.utc.time.frac ∧
    Ts.ztimestamp_subsec_micros z = z.utc.time.frac / 1000 ∧
    Ts.ztimestamp_subsec_millis z = z.utc.time.frac / 1000000 ∧
    (∀ off', Ts.ztimestamp ⟨z.utc, off'⟩ = Ts.ztimestamp z ∧
      Ts.ztimestamp_millis ⟨z.utc, off'⟩ = Ts.ztimestamp_millis z ∧
      Ts.ztimestamp_micros ⟨z.utc, off'⟩ = Ts.ztimestamp_micros z ∧
      Ts.ztimestamp_nanos_opt ⟨z.utc, off'⟩ = Ts.ztimestamp_nanos_opt z) ∧
    Ts.naive_timestamp z.utc = Ts.ztimestamp z ∧ Ts.naive_timestamp_millis z.utc = Ts.ztimestamp_millis z ∧
    Ts.naive_timestamp_micros z.utc = Ts.ztimestamp_micros z ∧
    Ts.naive_timestamp_nanos_opt z.utc = Ts.ztimestamp_nanos_opt z ∧
    Ts.naive_timestamp_subsec_nanos z.utc = Ts.ztimestamp_subsec_nanos z := by
  obtain ⟨_, _, t3, t4⟩ := inv_bounds z.utc h
  refine ⟨?_, timestamp_spec z.utc h, timestamp_millis_spec z.utc h, timestamp_micros_spec z.utc h,
    nanos_opt_spec_all z.utc h, rfl, rfl, rfl, fun _ => ⟨rfl, rfl, rfl, rfl⟩, rfl, rfl, rfl, rfl, rfl⟩
  unfold Ts.ztimestamp zonedInstNs instNs
  rw [timestamp_spec z.utc h]
  congr 1
  split <;> omega

/-- `TimeZone::timestamp_opt` / `timestamp_millis_opt` / `timestamp_micros` / `timestamp_nanos` for a
fixed offset (`MappedLocalTime::Single` or `None`, never `Ambiguous`, never a panic), against the
specification: `None` exactly when the instant is not representable / the nanosecond field invalid;
otherwise the single value carries the zone's offset and its UTC reading is the value at that instant -/
theorem tz_timestamp_meaning (off : Int) :
    (∀ s n, isI64 s → isU32 n → ∃ r, Ts.timestamp_opt off s n = .ok r ∧ (r = none ↔ ¬ tsOk s n) ∧
      ∀ z, r = some z → z.off = off ∧ IsAt z.utc s n) ∧
    (∀ ms, isI64 ms → ∃ r, Ts.timestamp_millis_opt off ms = .ok r ∧
      (r = none ↔ (ms / 1000 < TS_MIN ∨ ms / 1000 > TS_MAX)) ∧
      ∀ z, r = some z → z.off = off ∧ NDTInv z.utc ∧ NonLeap z.utc ∧ zonedInstNs z = ms * 1000000) ∧
    (∀ us, isI64 us → ∃ r, Ts.timestamp_micros off us = .ok r ∧
      (r = none ↔ (us / 1000000 < TS_MIN ∨ us / 1000000 > TS_MAX)) ∧
      ∀ z, r = some z → z.off = off ∧ NDTInv z.utc ∧ NonLeap z.utc ∧ zonedInstNs z = us * 1000) ∧
    (∀ ns, isI64 ns → ∃ z, Ts.timestamp_nanos off ns = .ok z ∧ z.off = off ∧ NDTInv z.utc ∧ NonLeap z.utc ∧
      zonedInstNs z = ns) := by
  refine ⟨fun s n hs hn => single_spec off (from_timestamp_spec s n hs hn.1),
    fun ms h => single_spec off (from_millis_floor ms h), fun us h => single_spec off (from_micros_floor us h), ?_⟩
  intro ns hns
  obtain ⟨dt, e1, e2, e3, e4⟩ := from_nanos_total ns hns
  exact ⟨⟨dt, off⟩, by unfold Ts.timestamp_nanos; rw [e1]; rfl, rfl, e2, e3, e4⟩

/-! ### the `unwrap` / `expect` forms panic exactly when the `_opt` form is `None` -/

/-- `TimeZone::timestamp` (deprecated, `timestamp_opt(..).unwrap()`), every `i64` × `u32`: panics
exactly when `timestamp_opt` is `None`, i.e. exactly when the instant is not representable or the
nanosecond field is invalid; otherwise returns the very value `timestamp_opt` holds -/
theorem tz_timestamp_unwrap (off s n : Int) (hs : isI64 s) (hn : isU32 n) :
    (Ts.timestamp off s n = .panic ↔ Ts.timestamp_opt off s n = .ok none) ∧
    (Ts.timestamp off s n = .panic ↔ ¬ tsOk s n) ∧
    (∀ z, Ts.timestamp off s n = .ok z ↔ Ts.timestamp_opt off s n = .ok (some z)) := by
  obtain ⟨r, e1, e2, _⟩ := (tz_timestamp_meaning off).1 s n hs hn
  obtain ⟨u1, u2, u3⟩ := unwrap_iff e1
  exact ⟨u1, u2.trans e2, u3⟩

/-- `TimeZone::timestamp_millis` (deprecated, `.unwrap()`), every `i64` -/
theorem tz_timestamp_millis_unwrap (off ms : Int) (h : isI64 ms) :
    (Ts.timestamp_millis off ms = .panic ↔ Ts.timestamp_millis_opt off ms = .ok none) ∧
    (Ts.timestamp_millis off ms = .panic ↔ (ms / 1000 < TS_MIN ∨ ms / 1000 > TS_MAX)) ∧
    (∀ z, Ts.timestamp_millis off ms = .ok z ↔ Ts.timestamp_millis_opt off ms = .ok (some z)) := by
  obtain ⟨r, e1, e2, _⟩ := (tz_timestamp_meaning off).2.1 ms h
  obtain ⟨u1, u2, u3⟩ := unwrap_iff e1
  exact ⟨u1, u2.trans e2, u3⟩

/-- `DateTime::timestamp_nanos` (deprecated, `expect(timestamp_nanos_opt())`), every representable
value read through any offset: panics exactly when `timestamp_nanos_opt` is `None`, i.e. exactly when
the count does not fit 64 bits; otherwise returns the count -/
theorem timestamp_nanos_expect_iff (dt : NaiveDT) (h : NDTInv dt) :
    (Ts.timestamp_nanos_expect dt = .panic ↔ NaiveDT.timestamp_nanos_opt dt = .ok none) ∧
    (Ts.timestamp_nanos_expect dt = .panic ↔ ¬ isI64 (instNs dt)) ∧
    (isI64 (instNs dt) → Ts.timestamp_nanos_expect dt = .ok (instNs dt)) ∧
    (∀ off, Ts.ztimestamp_nanos_expect ⟨dt, off⟩ = Ts.timestamp_nanos_expect dt) ∧
    Ts.naive_timestamp_nanos dt = Ts.timestamp_nanos_expect dt := by
  obtain ⟨u1, _, u3⟩ := unwrap_iff (nanos_opt_spec_all dt h)
  exact ⟨u1, u1.trans (nanos_opt_none_iff_all dt h).1,
    fun hi => (u3 _).2 (by rw [nanos_opt_spec_all dt h, if_pos hi]), fun _ => rfl, rfl⟩

/-- the deprecated `NaiveDateTime::from_timestamp` (`expect`), every `i64` × `u32`: panics exactly
when `from_timestamp_opt` / `DateTime::from_timestamp` is `None`; otherwise returns that value; and the
`Option`-returning deprecated constructors are the `DateTime` ones -/
theorem naive_from_timestamp_unwrap (s n : Int) (hs : isI64 s) (hn : isU32 n) :
    (Ts.naive_from_timestamp s n = .panic ↔ Ts.naive_from_timestamp_opt s n = .ok none) ∧
    (Ts.naive_from_timestamp s n = .panic ↔ NaiveDT.from_timestamp s n = .ok none) ∧
    (Ts.naive_from_timestamp s n = .panic ↔ ¬ tsOk s n) ∧
    (∀ dt, Ts.naive_from_timestamp s n = .ok dt ↔ NaiveDT.from_timestamp s n = .ok (some dt)) := by
  obtain ⟨r, e1, e2, _⟩ := from_timestamp_spec s n hs hn.1
  have e0 : Ts.naive_from_timestamp_opt s n = NaiveDT.from_timestamp s n := (wrappers_ok 0).2.2.2.2.2.2.1 s n
  unfold Ts.naive_from_timestamp
  rw [e0]
  obtain ⟨u1, u2, u3⟩ := unwrap_iff e1
  exact ⟨u1, u1, u2.trans e2, u3⟩

/-- `TimeZone::timestamp_nanos` and `DateTime::from_timestamp_nanos` contain an `expect` that never
fires on `i64`; `From<SystemTime>`'s `unwrap` fires exactly outside the range (`from_system_time_exact`) -/
theorem nanos_expect_never_fires (off ns : Int) (h : isI64 ns) :
    NaiveDT.from_timestamp_nanos ns ≠ .panic ∧ Ts.timestamp_nanos off ns ≠ .panic := by
  obtain ⟨dt, e1, _⟩ := from_nanos_total ns h
  obtain ⟨z, e2, _⟩ := (tz_timestamp_meaning off).2.2.2 ns h
  rw [e1, e2]
  exact ⟨fun hx => (by cases hx), fun hx => (by cases hx)⟩

/-! ### non-vacuity of the 2026-09-30 families -/

/-- a leap-second representation on second :42 (not strict): the nanosecond count exists, the
reverse round trip is refused; the same field on :59 is rebuilt; and the nanosecond unit maps a
leap-second value to the following second -/
example :
    NDTInv ⟨dateOfYo 2015 181, ⟨86382, 1500000000⟩⟩ ∧ ¬ TStrict (⟨86382, 1500000000⟩ : Time) ∧
    NaiveDT.timestamp_nanos_opt ⟨dateOfYo 2015 181, ⟨86382, 1500000000⟩⟩ = .ok (some 1435708783500000000) ∧
    NaiveDT.from_timestamp 1435708782 1500000000 = .ok none ∧
    NaiveDT.timestamp ⟨dateOfYo 2015 181, ⟨86382, 1500000000⟩⟩ = .ok 1435708782 ∧
    NaiveDT.from_timestamp_nanos 1435708800500000000 = .ok ⟨dateOfYo 2015 182, ⟨0, 500000000⟩⟩ ∧
    NaiveDT.timestamp_nanos_opt ⟨dateOfYo 2015 181, ⟨86399, 1500000000⟩⟩ = .ok (some 1435708800500000000) ∧
    ¬ isI64 (instNs NaiveDT.MAX) ∧ isI64 (instNs ⟨⟨13742219⟩, ⟨762, 1145224192⟩⟩) := by
  decide +kernel

/-- calendar fields: 2015-06-30T23:59:59 (leap second) and 1969-12-31T23:59:59 -/
example :
    (dateOfYo 2015 181).month = .ok 6 ∧ (dateOfYo 2015 181).day = .ok 30 ∧ validYmd 2015 6 30 = true ∧
    dayNum 2015 6 30 = 719163 + 1435708799 / 86400 ∧
    Time.hour ⟨86399, 1500000000⟩ = 23 ∧ Time.minute ⟨86399, 1500000000⟩ = 59 ∧
    Time.second ⟨86399, 1500000000⟩ = 59 ∧
    dayNum 1969 12 31 = 719163 + (-1) / 86400 ∧ DateInv (dateOfYo 1969 365) ∧
    (dateOfYo 1969 365).year = 1969 ∧ (dateOfYo 1969 365).ordinal = 365 := by
  decide +kernel

/-- unwrap forms: both outcomes; a non-zero offset is attached and does not enter the count -/
example :
    Ts.timestamp 3600 (-1) 999999999 = .ok ⟨⟨dateOfYo 1969 365, ⟨86399, 999999999⟩⟩, 3600⟩ ∧
    Ts.timestamp 3600 (TS_MAX + 1) 0 = .panic ∧ Ts.timestamp_opt 3600 (TS_MAX + 1) 0 = .ok none ∧
    Ts.timestamp_millis (-3600) (-1) = .ok ⟨⟨dateOfYo 1969 365, ⟨86399, 999000000⟩⟩, -3600⟩ ∧
    Ts.timestamp_millis 0 9223372036854775807 = .panic ∧
    Ts.timestamp_nanos_expect NaiveDT.MAX = .panic ∧
    Ts.timestamp_nanos_expect ⟨dateOfYo 1969 365, ⟨86399, 999999999⟩⟩ = .ok (-1) ∧
    Ts.naive_from_timestamp 0 2000000000 = .panic ∧
    Ts.naive_from_timestamp 59 1999999999 = .ok ⟨dateOfYo 1970 1, ⟨59, 1999999999⟩⟩ ∧
    Ts.ztimestamp ⟨⟨dateOfYo 1969 365, ⟨86399, 999999999⟩⟩, 86399⟩ = .ok (-1) ∧
    Ts.ztimestamp_subsec_millis ⟨⟨dateOfYo 2015 181, ⟨86399, 1500000000⟩⟩, -86399⟩ = 1500 := by
  decide +kernel

/-! ## second audit (audit2/C02.md), closed 2026-09-30 (round 2) -/

/-! ### one value per instant among the non-leap values -/

/-- "yields THE date-time": two valid non-leap values at the same nanosecond position are the same
value (`instant_unique` needs equal second counts and equal nanosecond fields; here both follow from
the one number `instNs`) -/
theorem nonleap_unique (a b : NaiveDT) (ha : NDTInv a) (hb : NDTInv b) (la : NonLeap a) (lb : NonLeap b)
    (h : instNs a = instNs b) : a = b :=
  nonleap_inj a b ha hb la lb h

/-- the sub-second constructors build THE value of the statement: every valid non-leap value lying
exactly `x` milliseconds / microseconds / nanoseconds from the epoch is what the constructor returns
for `x` (with `from_millis_floor` / `from_micros_floor` / `from_nanos_exact`: it returns nothing else) -/
theorem from_units_unique (x : Int) (hx : isI64 x) (dt : NaiveDT) (h : NDTInv dt) (hl : NonLeap dt) :
    (instNs dt = x * 1000000 → NaiveDT.from_timestamp_millis x = .ok (some dt)) ∧
    (instNs dt = x * 1000 → NaiveDT.from_timestamp_micros x = .ok (some dt)) ∧
    (instNs dt = x → NaiveDT.from_timestamp_nanos x = .ok dt) := by
  obtain ⟨_, _, t3, _⟩ := inv_bounds dt h
  have hl' := hl
  unfold NonLeap at hl'
  refine ⟨fun hi => floor_unique (from_millis_floor x hx) dt h hl ?_ hi,
    fun hi => floor_unique (from_micros_floor x hx) dt h hl ?_ hi, fun hi => ?_⟩
  · unfold instNs at hi; omega
  · unfold instNs at hi; omega
  · obtain ⟨d, e1, i1, i2, i3⟩ := from_nanos_total x hx
    rw [e1, nonleap_inj d dt i1 h i2 hl (by rw [i3, hi])]

/-! ### the system clock type: the exact boundary of the round trip, and the leap-second values -/

/-- `DateTime → SystemTime → DateTime<Utc>` on EVERY representable value: the first step never
panics and keeps the position `instNs`; the composition gives the value back EXACTLY for the
non-leap values (so the `NonLeap` hypothesis of `systemtime_roundtrip` is necessary; what happens
otherwise is `leap_st_back`) -/
theorem systemtime_roundtrip_iff (dt : NaiveDT) (h : NDTInv dt) :
    ∃ p, Ts.to_system_time dt = .ok p ∧ stValid p ∧ stNs p = instNs dt ∧
      (Ts.from_system_time p.1 p.2 = .ok dt ↔ NonLeap dt) := by
  obtain ⟨p, e1, v, e2⟩ := to_system_time_exact dt h
  refine ⟨p, e1, v, e2, ?_, ?_⟩
  · intro hb
    obtain ⟨f1, f2⟩ := from_system_time_exact p.1 p.2 v.1 v.2
    by_cases hr : TS_MIN ≤ p.1 ∧ p.1 ≤ TS_MAX
    · obtain ⟨dt', g1, _, g3, _⟩ := f1 hr
      rw [g1] at hb
      injection hb with hb
      rw [← hb]; exact g3
    · rw [f2 (by omega)] at hb
      cases hb
  · intro hl
    obtain ⟨p', g1, g2⟩ := systemtime_roundtrip.1 dt h hl
    rw [e1] at g1
    injection g1 with g1
    rw [g1]; exact g2

/-- a leap-second representation (on ANY second; `frac ≥ 10⁹`) through the system clock type: it
converts — without a panic — to the system time `frac − 10⁹` ns into the FOLLOWING second (a system time
cannot carry a leap second; DESIGN §9 observation c).  Converting back: whenever that following second is
representable (`instSecs dt < TS_MAX`) the result is the valid NON-leap value at the same position
`instNs`, on the following second with nanosecond field `frac − 10⁹`; for a leap-second value on the
last representable second `TS_MAX` (+262142-12-31T23:59:60.x) the following second `TS_MAX + 1` is
outside the representable range and `From<SystemTime> for DateTime<Utc>` panics — the same panic
`from_system_time_exact` states for every system time outside the range (the instant is not
representable as a timestamp-built value; this is the statement's "fails exactly when the instant is
outside the representable range", the conversion being infallible by signature) -/
theorem leap_st_back (dt : NaiveDT) (h : NDTInv dt) (hl : ¬ NonLeap dt) :
    ∃ p, Ts.to_system_time dt = .ok p ∧ p.1 = instSecs dt + 1 ∧ p.2 = dt.time.frac - 1000000000 ∧
      stNs p = instNs dt ∧
      (instSecs dt < TS_MAX →
        ∃ dt', Ts.from_system_time p.1 p.2 = .ok dt' ∧ NDTInv dt' ∧ NonLeap dt' ∧ instNs dt' = instNs dt ∧
          instSecs dt' = instSecs dt + 1 ∧ dt'.time.frac = dt.time.frac - 1000000000 ∧ dt' ≠ dt) ∧
      (instSecs dt = TS_MAX → Ts.from_system_time p.1 p.2 = .panic) := by
  have hr := instSecs_range dt h
  obtain ⟨b1, b2, t3, t4⟩ := inv_bounds dt h
  unfold NonLeap at hl
  have e1 : dt.time.frac / 1000000000 = 1 := by omega
  have e2 : dt.time.frac % 1000000000 = dt.time.frac - 1000000000 := by omega
  have hS : isI64 (instSecs dt + 1) := by unfold isI64; omega
  have hN : 0 ≤ dt.time.frac - 1000000000 ∧ dt.time.frac - 1000000000 < 1000000000 := by omega
  obtain ⟨f1, f2⟩ := from_system_time_exact (instSecs dt + 1) (dt.time.frac - 1000000000) hS hN
  refine ⟨(instSecs dt + 1, dt.time.frac - 1000000000), by rw [to_system_time_spec dt h, e1, e2], rfl, rfl,
    by unfold stNs instNs; dsimp only; omega, ?_, ?_⟩
  · intro hlt
    obtain ⟨dt', g1, g2, g3, g4⟩ := f1 (by omega)
    obtain ⟨_, _, u3, _⟩ := inv_bounds dt' g2
    have g3' := g3
    unfold NonLeap at g3'
    have g4' := g4
    unfold stNs instNs at g4'
    dsimp only at g4'
    refine ⟨dt', g1, g2, g3, by rw [g4]; unfold stNs instNs; dsimp only; omega, by omega, by omega, ?_⟩
    intro hx
    rw [hx] at g3'
    omega
  · intro heq
    exact f2 (Or.inr (by omega))

/-- kernel-evaluated: the one class of values on which `DateTime → SystemTime → DateTime<Utc>` panics
(+262142-12-31T23:59:60.5 → system time (8210266876800, 500000000), one second past the range); a
leap second on 2015-06-30T23:59:60.5 comes back as 2015-07-01T00:00:00.5; a leap-second representation
on a second :42 (only `with_nanosecond` builds one) likewise lands in the following second -/
theorem leap_st_back_witness :
    NDTInv ⟨Date.MAX, ⟨86399, 1500000000⟩⟩ ∧ ¬ NonLeap ⟨Date.MAX, ⟨86399, 1500000000⟩⟩ ∧
    instSecs ⟨Date.MAX, ⟨86399, 1500000000⟩⟩ = TS_MAX ∧
    Ts.to_system_time ⟨Date.MAX, ⟨86399, 1500000000⟩⟩ = .ok (8210266876800, 500000000) ∧
    Ts.from_system_time 8210266876800 500000000 = .panic ∧
    Ts.from_system_time_local 3600 8210266876800 500000000 = .panic ∧
    Ts.to_system_time ⟨dateOfYo 2015 181, ⟨86399, 1500000000⟩⟩ = .ok (1435708800, 500000000) ∧
    Ts.from_system_time 1435708800 500000000 = .ok ⟨dateOfYo 2015 182, ⟨0, 500000000⟩⟩ ∧
    Ts.to_system_time ⟨dateOfYo 2015 181, ⟨86382, 1999999999⟩⟩ = .ok (1435708783, 999999999) ∧
    Ts.from_system_time 1435708783 999999999 = .ok ⟨dateOfYo 2015 181, ⟨86383, 999999999⟩⟩ := by
  decide +kernel

/-! ### `From<SystemTime> for DateTime<Local>` -/

/-- `impl From<SystemTime> for DateTime<Local>` (`DateTime::<Utc>::from(t).with_timezone(&Local)`), for
every system time with `i64` seconds and whatever offset `off` the zone prescribes: it panics exactly
when the instant is outside the representable range (conj. 2; conj. 1 — "exactly when the `Utc`
conversion panics" — and conj. 3 — "the UTC reading is the `Utc` conversion's value, the offset is the
zone's" — restate how the model composes the two calls and are tied to the code by op
`ts.from_st_local` and the oracle only); inside the range the result is a value with that offset whose
UTC reading is the valid non-leap value at the system time's instant, and converting it back to a
system time gives the same system time -/
theorem from_system_time_local_exact (off S N : Int) (hS : isI64 S) (hN : 0 ≤ N ∧ N < 1000000000) :
    (Ts.from_system_time_local off S N = .panic ↔ Ts.from_system_time S N = .panic) ∧
    (Ts.from_system_time_local off S N = .panic ↔ (S < TS_MIN ∨ S > TS_MAX)) ∧
    (∀ z, Ts.from_system_time_local off S N = .ok z ↔ (z.off = off ∧ Ts.from_system_time S N = .ok z.utc)) ∧
    (TS_MIN ≤ S ∧ S ≤ TS_MAX →
      ∃ z, Ts.from_system_time_local off S N = .ok z ∧ z.off = off ∧ NDTInv z.utc ∧ NonLeap z.utc ∧
        zonedInstNs z = stNs (S, N) ∧ Ts.to_system_time z.utc = .ok (S, N)) := by
  obtain ⟨f1, f2⟩ := from_system_time_exact S N hS hN
  have hcomp : ∀ r : Res NaiveDT,
      ((r.bind fun dt => Res.ok (Zoned.with_timezone (Ts.and_utc dt) off)) = .panic ↔ r = .panic) ∧
      (∀ z : Zoned, (r.bind fun dt => Res.ok (Zoned.with_timezone (Ts.and_utc dt) off)) = .ok z ↔
        (z.off = off ∧ r = .ok z.utc)) := by
    intro r
    cases r with
    | panic =>
      refine ⟨⟨fun _ => rfl, fun _ => rfl⟩, fun z => ⟨fun hx => (by cases hx), fun hx => (by cases hx.2)⟩⟩
    | ok d =>
      refine ⟨⟨fun hx => (by cases hx), fun hx => (by cases hx)⟩, fun z => ⟨?_, ?_⟩⟩
      · intro hx
        injection hx with hx
        subst hx
        exact ⟨rfl, rfl⟩
      · rintro ⟨h1, h2⟩
        injection h2 with h2
        cases z with
        | mk u o =>
          dsimp only at h1 h2
          subst h1; subst h2; rfl
  obtain ⟨c1, c2⟩ := hcomp (Ts.from_system_time S N)
  refine ⟨c1, ?_, c2, ?_⟩
  · unfold Ts.from_system_time_local
    rw [c1]
    constructor
    · intro hp
      by_cases hr : TS_MIN ≤ S ∧ S ≤ TS_MAX
      · obtain ⟨dt, g1, _⟩ := f1 hr
        rw [g1] at hp; cases hp
      · omega
    · exact f2
  · intro hr
    obtain ⟨dt, g1, g2, g3, g4⟩ := f1 hr
    obtain ⟨dt2, k1, k2⟩ := systemtime_roundtrip.2 S N hS hN hr
    rw [g1] at k1
    injection k1 with k1
    subst k1
    exact ⟨⟨dt, off⟩, (c2 ⟨dt, off⟩).2 ⟨rfl, g1⟩, rfl, g2, g3, g4, k2⟩

/-- non-vacuity: half a second before the epoch through a zone at +13:00 (the `Err` branch of
`duration_since`, the borrow), the last representable nanosecond, and both panics -/
example :
    Ts.from_system_time_local 46800 (-1) 500000000 = .ok ⟨⟨dateOfYo 1969 365, ⟨86399, 500000000⟩⟩, 46800⟩ ∧
    Ts.from_system_time_local (-37800) TS_MAX 999999999 = .ok ⟨NaiveDT.MAX, -37800⟩ ∧
    Ts.from_system_time_local 0 (TS_MAX + 1) 0 = .panic ∧
    Ts.from_system_time_local 3600 (TS_MIN - 1) 999999999 = .panic ∧
    Ts.from_system_time_local 3600 TS_MIN 0 = .ok ⟨NaiveDT.MIN, 3600⟩ ∧
    isI64 (TS_MAX + 1) ∧ isI64 (-1) := by
  decide +kernel

/-- non-vacuity of `from_units_unique` / `nonleap_unique`: −1 ms, −1 µs, −1 ns -/
example :
    NDTInv ⟨dateOfYo 1969 365, ⟨86399, 999000000⟩⟩ ∧ NonLeap ⟨dateOfYo 1969 365, ⟨86399, 999000000⟩⟩ ∧
    instNs ⟨dateOfYo 1969 365, ⟨86399, 999000000⟩⟩ = (-1) * 1000000 ∧
    instNs ⟨dateOfYo 1969 365, ⟨86399, 999999000⟩⟩ = (-1) * 1000 ∧
    instNs ⟨dateOfYo 1969 365, ⟨86399, 999999999⟩⟩ = -1 := by
  decide +kernel

/-! ## generated code = specification (end-to-end compositions with Props/GenDate.lean, Props/GenTime.lean)

`Gen.*` are the definitions tools/extractors/rust2lean.py regenerates from the Rust source on every run.
None of the 14 top-level timestamp bodies is translated yet (audit2/C02.md gap 1); their callees are.  The
two theorems below therefore speak about the TRANSLATED callees and accessors and leave exactly the glue of
`from_timestamp` (the Euclidean split, `+ 719163`, the `i32` test) to the hand model. -/

/-- the TRANSLATED date and time constructors, applied to the Euclidean split of any `i64` count whose
day number fits `i32` (otherwise `from_timestamp` returns `None` before calling them): no panic; one of
them yields `None` exactly when the instant is not representable / the nanosecond field invalid; and
when both yield a value, the pair is (the packed word and the two fields of) the valid value exactly
`secs` seconds from the epoch with nanosecond field `nsecs` — the specification's `IsAt` -/
theorem gen_from_ts_callees (secs nsecs : Int) (hs : isI64 secs) (hn : isU32 nsecs)
    (hd : -2147483648 ≤ secs / 86400 + 719163 ∧ secs / 86400 + 719163 ≤ 2147483647) :
    ∃ od, Gen.naive_date.NaiveDate.from_num_days_from_ce_opt (secs / 86400 + 719163) = .ok od ∧
      ((od = none ∨ Gen.naive_time.NaiveTime.from_num_seconds_from_midnight_opt (secs % 86400) nsecs = none)
        ↔ ¬ tsOk secs nsecs) ∧
      ∀ y t, od = some y →
        Gen.naive_time.NaiveTime.from_num_seconds_from_midnight_opt (secs % 86400) nsecs = some t →
        ∃ dt : NaiveDT, y = dt.date.yof ∧ t = Chrono.Proofs.GenTimeL.tG dt.time ∧ IsAt dt secs nsecs := by
  rw [GenDate.gen_from_num_days_from_ce_opt_eq _ hd, GenTime.gen_from_num_seconds_from_midnight_opt_eq]
  obtain ⟨od, e, hnone, hsome⟩ := parts_spec secs nsecs hn.1 hd
  rw [e]
  refine ⟨od.map Date.yof, rfl, ?_, ?_⟩
  · rw [← hnone, Option.map_eq_none_iff, Option.map_eq_none_iff]
  · intro y t hy ht
    cases od with
    | none => cases hy
    | some d =>
      cases ht' : Time.from_num_seconds_from_midnight_opt (secs % 86400) nsecs with
      | none => rw [ht'] at ht; cases ht
      | some t' =>
        rw [ht'] at ht
        cases hy
        cases ht
        exact ⟨⟨d, t'⟩, rfl, rfl, hsome d t' rfl ht'⟩

/-- the TRANSLATED accessors (`NaiveDate::year/month/day`, `NaiveTime::hour/minute/second/nanosecond`)
read on the value `from_timestamp` builds: `month`/`day` do not panic and, with `year`, form a valid
calendar date whose closed-form day number is the floor day `719163 + secs / 86400`; the clock fields
are those of the second of day `secs % 86400`; the nanosecond field is `nsecs` (this is `from_ts_fields`
with the model's accessors replaced by the generated code) -/
theorem gen_from_ts_fields (secs nsecs : Int) (hs : isI64 secs) (hn : isU32 nsecs) (dt : NaiveDT)
    (h : NaiveDT.from_timestamp secs nsecs = .ok (some dt)) :
    ∃ m d : Nat, Gen.naive_date.NaiveDate.month dt.date.yof = .ok (m : Int) ∧
      Gen.naive_date.NaiveDate.day dt.date.yof = .ok (d : Int) ∧
      validYmd (Gen.naive_date.NaiveDate.year dt.date.yof) m d = true ∧
      dayNum (Gen.naive_date.NaiveDate.year dt.date.yof) m d = 719163 + secs / 86400 ∧
      Gen.naive_time.NaiveTime.Timelike.hour (Chrono.Proofs.GenTimeL.tG dt.time) = secs % 86400 / 3600 ∧
      Gen.naive_time.NaiveTime.Timelike.minute (Chrono.Proofs.GenTimeL.tG dt.time) = secs % 3600 / 60 ∧
      Gen.naive_time.NaiveTime.Timelike.second (Chrono.Proofs.GenTimeL.tG dt.time) = secs % 60 ∧
      Gen.naive_time.NaiveTime.Timelike.nanosecond (Chrono.Proofs.GenTimeL.tG dt.time) = nsecs := by
  obtain ⟨m, d, c1, c2, c3, c4, k1, k2, k3, k4⟩ := from_ts_fields secs nsecs hs hn dt h
  refine ⟨m, d, ?_, ?_, ?_, ?_, ?_, ?_, ?_, ?_⟩
  · rw [GenDate.gen_month_eq, c1]; rfl
  · rw [GenDate.gen_day_eq, c2]; rfl
  · rw [GenDate.gen_year_eq]; exact c3
  · rw [GenDate.gen_year_eq]; exact c4
  · rw [GenTime.gen_hour_eq]; exact k1
  · rw [GenTime.gen_minute_eq]; exact k2
  · rw [GenTime.gen_second_eq]; exact k3
  · rw [(GenTime.gen_nanosecond_eq dt.time).1]; exact k4

/-- non-vacuity: the generated callees on the split of −1 s with 999999999 ns, of the leap second
1435708799 + 1.5·10⁹ ns, of the last second, and a refusal (leap field on :58) -/
example :
    Gen.naive_date.NaiveDate.from_num_days_from_ce_opt ((-1) / 86400 + 719163) = .ok (some (dateOfYo 1969 365).yof) ∧
    Gen.naive_time.NaiveTime.from_num_seconds_from_midnight_opt ((-1) % 86400) 999999999 = some ⟨86399, 999999999⟩ ∧
    Gen.naive_time.NaiveTime.from_num_seconds_from_midnight_opt (1435708799 % 86400) 1500000000 = some ⟨86399, 1500000000⟩ ∧
    Gen.naive_time.NaiveTime.from_num_seconds_from_midnight_opt (1435708798 % 86400) 1000000000 = none ∧
    Gen.naive_date.NaiveDate.from_num_days_from_ce_opt (TS_MAX / 86400 + 719163) = .ok (some Date.MAX.yof) ∧
    Gen.naive_date.NaiveDate.from_num_days_from_ce_opt ((TS_MAX + 1) / 86400 + 719163) = .ok none := by
  decide +kernel

end Chrono.Props.C02
