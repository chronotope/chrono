/-
  C03 — Adding and subtracting elapsed time is exact or refused, never wrapped.
  The property statements (helper lemmas: Proofs/DateArithL.lean — day shifts on the packed date,
  Proofs/DateTimeArithL.lean — date-times as instants, Proofs/IterL.lean — stepping iterators,
  Proofs/ArithExtL.lean — operator, `Days` and `Duration` forms; they rest on C01's calendar lemmas,
  C06's duration lemmas and C07's time-of-day lemmas).

  Vocabulary (Spec/ArithSpec.lean, Spec/InstantSpec.lean, Spec/DateSpec.lean, Spec/DeltaSpec.lean):
  `dayNumOf d`   day number of a date (0001-01-01 = 1), closed form independent of chrono's tables;
  `DateInv d`    representation invariant of `NaiveDate`; `DN_MIN`, `DN_MAX` day numbers of MIN / MAX;
  `IsDayShift d k r`   "`r` is `d` moved by exactly `k` days": `r = none` iff day `dayNumOf d + k` is
                 outside `[DN_MIN, DN_MAX]`, else `r = some d'` with `DateInv d'`, `dayNumOf d' = dayNumOf d + k`;
  `instNs dt`    nanoseconds since 1970-01-01T00:00:00 of a date-time; `NonLeap dt` = not a leap-second
                 representation; `NDTInv dt` = valid date and valid time; `NS_MIN`, `NS_MAX_DT` = instants of
                 `NaiveDateTime::MIN` / `MAX`;
  `IsInstShift dt k r` "`r` is `dt` moved by exactly `k` ns": `none` iff the instant is outside
                 `[NS_MIN, NS_MAX_DT]`, else a valid non-leap date-time at exactly that instant;
  `ns δ`, `DInv δ`, `ofNs n`  C06's reading of a `TimeDelta`; `wholeDays n` = `n` ns in days, truncated
                 toward zero; `stepsFit n s` = how many steps of `s` days fit between day `n` and the range end.
  `Res` = `ok | panic`: every theorem of the form `f … = .ok …` / `∃ r, f … = .ok r ∧ …` says in
  particular that no intermediate machine operation overflows and no `expect` fires.
-/
import Chrono.Proofs.IterL
import Chrono.Proofs.ArithExtL
import Chrono.Extracted.ArithToks
import Chrono.Extracted.Derives
import Chrono.Props.GenDateTime

namespace Chrono.Props.C03
open Chrono Chrono.M Chrono.Spec Chrono.Proofs Chrono.Proofs.ArithExt Chrono.Extracted

/-! ### Tie to the source text -/

/-- the limits, units, comparisons and callees of each mirrored function body, re-extracted from
src/naive/date/mod.rs, src/naive/datetime/mod.rs and src/datetime/mod.rs on every run
(tools/extractors/arith.py), are the ones the model was written against -/
theorem tokens_ok :
    ARITH_TOKS_date_checked_add_days = ["<=", "i32::MAX", "add_days"] ∧
    ARITH_TOKS_date_checked_sub_days = ["<=", "i32::MAX", "add_days", "neg"] ∧
    ARITH_TOKS_date_add_days =
      ["8176", "4", "checked_add", ">", "0", "<=", "365", "leap_year", "from_yof", "4", "div_mod_floor",
       "400", "yo_to_cycle", "try_opt", "checked_add", "div_mod_floor", "146097", "cycle_to_yo",
       "from_year_mod_400", "from_ordinal_and_flags", "400"] ∧
    ARITH_TOKS_date_checked_add_signed = ["num_days", "<", "i32::MIN", ">", "i32::MAX", "add_days"] ∧
    ARITH_TOKS_date_checked_sub_signed = ["neg", "num_days", "<", "i32::MIN", ">", "i32::MAX", "add_days"] ∧
    ARITH_TOKS_date_signed_duration_since =
      ["div_mod_floor", "400", "div_mod_floor", "400", "yo_to_cycle", "yo_to_cycle", "146097", "expect",
       "try_days"] ∧
    ARITH_TOKS_cycle_to_yo = ["365", "365", "<", "1", "365", "1"] ∧
    ARITH_TOKS_yo_to_cycle = ["365", "1"] ∧ ARITH_TOKS_div_mod_floor = ["div_euclid", "rem_euclid"] ∧
    ARITH_TOKS_days_iter = ["succ_opt", "signed_duration_since", "num_days"] ∧
    ARITH_TOKS_days_iter_back = ["pred_opt"] ∧
    ARITH_TOKS_weeks_iter = ["checked_add_days", "7", "signed_duration_since", "num_weeks"] ∧
    ARITH_TOKS_weeks_iter_back = ["checked_sub_days", "7"] ∧
    ARITH_TOKS_date_add_delta_op = ["checked_add_signed", "expect"] ∧
    ARITH_TOKS_date_sub_delta_op = ["checked_sub_signed", "expect"] ∧
    ARITH_TOKS_date_add_days_op = ["checked_add_days", "expect"] ∧
    ARITH_TOKS_date_sub_days_op = ["checked_sub_days", "expect"] ∧
    ARITH_TOKS_ndt_checked_add_signed =
      ["overflowing_add_signed", "try_opt", "try_seconds", "try_opt", "checked_add_signed"] ∧
    ARITH_TOKS_ndt_checked_sub_signed =
      ["overflowing_sub_signed", "try_opt", "try_seconds", "try_opt", "checked_sub_signed"] ∧
    ARITH_TOKS_ndt_signed_duration_since =
      ["expect", "signed_duration_since", "checked_add", "signed_duration_since"] ∧
    ARITH_TOKS_ndt_add_delta_op = ["checked_add_signed", "expect"] ∧
    ARITH_TOKS_ndt_sub_delta_op = ["checked_sub_signed", "expect"] ∧
    ARITH_TOKS_dt_checked_add_signed = ["checked_add_signed", "from_utc_datetime"] ∧
    ARITH_TOKS_dt_checked_sub_signed = ["checked_sub_signed", "from_utc_datetime"] ∧
    ARITH_TOKS_dt_signed_duration_since = ["signed_duration_since"] ∧
    ARITH_TOKS_dt_add_delta_op = ["checked_add_signed", "expect"] ∧
    ARITH_TOKS_dt_sub_delta_op = ["checked_sub_signed", "expect"] ∧
    ARITH_TOKS_dt_add_assign_delta_op = ["checked_add_signed", "expect", "from_utc_datetime"] ∧
    ARITH_TOKS_dt_sub_assign_delta_op = ["checked_sub_signed", "expect", "from_utc_datetime"] := by
  decide

/-- the order of `NaiveDateTime`, `NaiveDate` and `NaiveTime` is DERIVED: there is no body, the code
is generated from the derive line and the declaration order of the fields.  Re-extracted from the
three struct definitions on every run (tools/extractors/derives.py): `PartialEq`, `PartialOrd`, `Ord`
are derived (no hand-written impl can coexist with the derive), and the fields are `date` before
`time`, the single packed word `yof`, `secs` before `frac` — what `NaiveDT.cmp` / `Date.cmp` /
`Time.cmp` (and `NaiveDT.partial_cmp`, `eq`, `lt`) mirror -/
theorem derive_pins :
    DERIVE_TRAITS_NaiveDateTime = ["PartialEq", "Eq", "Hash", "PartialOrd", "Ord", "Copy", "Clone"] ∧
    DERIVE_FIELDS_NaiveDateTime = ["date:NaiveDate", "time:NaiveTime"] ∧
    DERIVE_TRAITS_NaiveDate = ["PartialEq", "Eq", "Hash", "PartialOrd", "Ord", "Copy", "Clone"] ∧
    DERIVE_FIELDS_NaiveDate = ["yof:NonZeroI32"] ∧
    DERIVE_TRAITS_NaiveTime = ["PartialEq", "Eq", "Hash", "PartialOrd", "Ord", "Copy", "Clone"] ∧
    DERIVE_FIELDS_NaiveTime = ["secs:u32", "frac:u32"] := by decide

/-- the range ends, as day numbers and as instants (from the extracted `MIN_YEAR` / `MAX_YEAR`) -/
theorem range_ends :
    DateInv Date.MIN ∧ DateInv Date.MAX ∧ DN_MIN = -95746129 ∧ DN_MAX = 95745399 ∧
    NDTInv NaiveDT.MIN ∧ NDTInv NaiveDT.MAX ∧ NonLeap NaiveDT.MIN ∧ NonLeap NaiveDT.MAX ∧
    NS_MIN = (DN_MIN - EPOCH_DAY) * NS_PER_DAY ∧ NS_MAX_DT = (DN_MAX - EPOCH_DAY + 1) * NS_PER_DAY - 1 ∧
    NS_MIN = -8334601228800000000000 ∧ NS_MAX_DT = 8210266876799999999999 := by decide

/-! ### The specification determines the result -/

/-- day numbers identify dates; hence "moved by exactly `k` days or refused" has one solution -/
theorem dayShift_unique (d : Date) (k : Int) (r r' : Option Date) (h : IsDayShift d k r)
    (h' : IsDayShift d k r') : r = r' := dayShift_unique' d k r r' h h'

/-- instants identify non-leap date-times; "moved by exactly `k` ns or refused" has one solution -/
theorem instShift_unique (dt : NaiveDT) (k : Int) (r r' : Option NaiveDT) (h : IsInstShift dt k r)
    (h' : IsInstShift dt k r') : r = r' := by
  cases r' with
  | none => exact (h.1.trans h'.1.symm).mpr rfl
  | some x' =>
    obtain ⟨i, l, e⟩ := h'.2 x' rfl
    exact instShift_some dt x' k r h i l e

theorem instant_injective (a b : NaiveDT) (ha : NDTInv a) (hb : NDTInv b) (la : NonLeap a)
    (lb : NonLeap b) (h : instNs a = instNs b) : a = b := inst_inj a b ha hb la lb h

/-! ### Dates and day counts -/

/-- `add_days`, every valid date, every `i32` count: the same-year fast path and the 400-year cycle
path both give day number + n; refused exactly outside the range; never panics -/
theorem add_days_exact (d : Date) (n : Int) (hd : DateInv d) (hn : -2147483648 ≤ n ∧ n ≤ 2147483647) :
    ∃ r, Date.add_days d n = .ok r ∧ IsDayShift d n r := add_days_spec d n hd hn

/-- `checked_add_days` / `checked_sub_days`, every `u64` count (no narrowing of the count) -/
theorem checked_days_exact (d : Date) (c : Int) (hd : DateInv d) (hc : 0 ≤ c ∧ c ≤ 18446744073709551615) :
    (∃ r, Date.checked_add_days d c = .ok r ∧ IsDayShift d c r) ∧
    (∃ r, Date.checked_sub_days d c = .ok r ∧ IsDayShift d (-c) r) :=
  ⟨checked_add_days_spec d c hd hc, checked_sub_days_spec d c hd hc⟩

example : DateInv (dateOfYo 2023 365) ∧
    Date.add_days (dateOfYo 2023 365) 1 = .ok (some (dateOfYo 2024 1)) ∧          -- cycle path
    Date.add_days (dateOfYo 2024 365) 1 = .ok (some (dateOfYo 2024 366)) ∧        -- fast path, leap
    Date.add_days (dateOfYo 2023 1) (-1) = .ok (some (dateOfYo 2022 365)) ∧
    Date.add_days Date.MIN 191491528 = .ok (some Date.MAX) ∧
    Date.add_days Date.MIN 191491529 = .ok none ∧ Date.add_days Date.MAX 1 = .ok none ∧
    Date.add_days Date.MAX 2147483647 = .ok none ∧ Date.add_days Date.MIN (-2147483648) = .ok none ∧
    Date.checked_add_days Date.MIN 4294967296 = .ok none ∧                       -- 2³²: not folded to 0
    Date.checked_sub_days Date.MAX 191491528 = .ok (some Date.MIN) ∧
    Date.checked_sub_days Date.MAX 18446744073709551615 = .ok none := by decide +kernel

/-- a duration moves a date by its whole days, truncated toward zero, or is refused -/
theorem date_plus_delta (d : Date) (δ : Delta) (hd : DateInv d) (hδ : DInv δ) :
    (∃ r, Date.checked_add_signed d δ = .ok r ∧ IsDayShift d (wholeDays (ns δ)) r) ∧
    (∃ r, Date.checked_sub_signed d δ = .ok r ∧ IsDayShift d (-(wholeDays (ns δ))) r) :=
  ⟨date_add_signed_spec d δ hd hδ, date_sub_signed_spec d δ hd hδ⟩

example : DInv ⟨-86400, 1⟩ ∧ wholeDays (ns ⟨-86400, 1⟩) = 0 ∧ wholeDays (ns ⟨-86400, 0⟩) = -1 ∧
    Date.checked_add_signed (dateOfYo 2024 1) ⟨-86400, 1⟩ = .ok (some (dateOfYo 2024 1)) ∧
    Date.checked_add_signed (dateOfYo 2024 1) ⟨-86400, 0⟩ = .ok (some (dateOfYo 2023 365)) ∧
    Date.checked_sub_signed (dateOfYo 2024 1) ⟨86399, 999999999⟩ = .ok (some (dateOfYo 2024 1)) ∧
    Date.checked_add_signed Date.MIN Delta.MAX = .ok none ∧
    Date.checked_add_signed Date.MIN ⟨371085174374400, 0⟩ = .ok none := by decide +kernel   -- 2³² + 0 days

/-- the difference of two dates is the exact number of days between them (never panics); adding
it back returns the minuend; the derived order is the order of day numbers -/
theorem date_diff_exact (a b : Date) (ha : DateInv a) (hb : DateInv b) :
    Date.signed_duration_since a b = .ok (ofNs ((dayNumOf a - dayNumOf b) * NS_PER_DAY)) ∧
    DInv (ofNs ((dayNumOf a - dayNumOf b) * NS_PER_DAY)) ∧
    ns (ofNs ((dayNumOf a - dayNumOf b) * NS_PER_DAY)) = (dayNumOf a - dayNumOf b) * NS_PER_DAY ∧
    Date.checked_add_signed b (ofNs ((dayNumOf a - dayNumOf b) * NS_PER_DAY)) = .ok (some a) ∧
    Date.cmp a b = sgn (dayNumOf a - dayNumOf b) := by
  obtain ⟨h1, h2, h3⟩ := date_diff_spec a b ha hb
  refine ⟨h1, h2, h3, ?_, date_cmp_spec a b ha hb⟩
  obtain ⟨r, h0, hs⟩ := date_add_signed_spec b _ hb h2
  have hw : wholeDays ((dayNumOf a - dayNumOf b) * NS_PER_DAY) = dayNumOf a - dayNumOf b := by
    unfold wholeDays NS_PER_DAY; rw [tdiv_eq]; split <;> omega
  rw [h3, hw] at hs
  rw [h0, dayShift_some b a _ r hs ha (by omega)]

example : Date.signed_duration_since Date.MAX Date.MIN = .ok ⟨16544868019200, 0⟩ ∧
    Date.signed_duration_since Date.MIN Date.MAX = .ok ⟨-16544868019200, 0⟩ ∧
    Date.signed_duration_since (dateOfYo 2024 60) (dateOfYo 2023 60) = .ok ⟨365 * 86400, 0⟩ := by
  decide +kernel

/-! ### Date-times: exact in nanoseconds or refused -/

/-- `checked_add_signed`, every valid non-leap date-time, every `TimeDelta`: the date-time exactly
`ns δ` nanoseconds later, or `None` exactly when that instant is not representable; never panics -/
theorem add_exact (dt : NaiveDT) (δ : Delta) (hdt : NDTInv dt) (hnl : NonLeap dt) (hδ : DInv δ) :
    ∃ r, NaiveDT.checked_add_signed dt δ = .ok r ∧ IsInstShift dt (ns δ) r :=
  dt_add_exact dt δ hdt hnl hδ

/-- `checked_sub_signed`: exactly `ns δ` nanoseconds earlier, or refused -/
theorem sub_exact (dt : NaiveDT) (δ : Delta) (hdt : NDTInv dt) (hnl : NonLeap dt) (hδ : DInv δ) :
    ∃ r, NaiveDT.checked_sub_signed dt δ = .ok r ∧ IsInstShift dt (-(ns δ)) r :=
  dt_sub_exact dt δ hdt hnl hδ

/-- subtraction is addition of the negated duration (also for leap-second operands) -/
theorem sub_is_add_neg (dt : NaiveDT) (δ : Delta) (hdt : NDTInv dt) (hδ : DInv δ) :
    DInv (ofNs (-(ns δ))) ∧ ns (ofNs (-(ns δ))) = -(ns δ) ∧
    NaiveDT.checked_sub_signed dt δ = NaiveDT.checked_add_signed dt (ofNs (-(ns δ))) :=
  ⟨(neg_delta δ hδ).1, (neg_delta δ hδ).2, dt_sub_is_add_neg dt δ hdt hδ⟩

/-- leap-second operands included: the time of day follows C07's extended-line rule `addLeap`, and
the date moves by exactly the whole days carried out of the time of day, or the sum is refused
(C07 states the same on a day number; here the real packed date stands in its place) -/
theorem add_with_leap_operand (dt : NaiveDT) (δ : Delta) (hdt : NDTInv dt) (hδ : DInv δ) :
    (∃ r, NaiveDT.checked_add_signed dt δ = .ok r ∧
      IsDayShift dt.date ((addLeap dt.time (ns δ)).2 / 86400) (r.map (·.date)) ∧
      ∀ x, r = some x → x.time = (addLeap dt.time (ns δ)).1) ∧
    (∃ r, NaiveDT.checked_sub_signed dt δ = .ok r ∧
      IsDayShift dt.date ((addLeap dt.time (-(ns δ))).2 / 86400) (r.map (·.date)) ∧
      ∀ x, r = some x → x.time = (addLeap dt.time (-(ns δ))).1) :=
  ⟨dt_add_general dt δ hdt hδ, dt_sub_general dt δ hdt hδ⟩

/-- non-vacuity and the boundary cases: exactly reaching MAX and MIN, 1 ns beyond, a carry in each
direction, a remainder beyond `TimeDelta::MAX`, a leap-second operand crossing midnight -/
example : NDTInv ⟨dateOfYo 2024 366, ⟨86399, 999999999⟩⟩ ∧ NonLeap ⟨dateOfYo 2024 366, ⟨86399, 999999999⟩⟩ ∧
    NaiveDT.checked_add_signed ⟨dateOfYo 2024 366, ⟨86399, 999999999⟩⟩ ⟨0, 1⟩ =
      .ok (some ⟨dateOfYo 2025 1, ⟨0, 0⟩⟩) ∧
    NaiveDT.checked_add_signed ⟨dateOfYo 2025 1, ⟨0, 0⟩⟩ ⟨-1, 999999999⟩ =
      .ok (some ⟨dateOfYo 2024 366, ⟨86399, 999999999⟩⟩) ∧
    NaiveDT.checked_add_signed NaiveDT.MAX ⟨0, 1⟩ = .ok none ∧
    NaiveDT.checked_sub_signed NaiveDT.MIN ⟨0, 1⟩ = .ok none ∧
    NaiveDT.checked_add_signed ⟨Date.MAX, ⟨86399, 999999998⟩⟩ ⟨0, 1⟩ = .ok (some NaiveDT.MAX) ∧
    NaiveDT.checked_add_signed NaiveDT.MIN ⟨16544868105599, 999999999⟩ = .ok (some NaiveDT.MAX) ∧
    NaiveDT.checked_sub_signed NaiveDT.MAX ⟨16544868105599, 999999999⟩ = .ok (some NaiveDT.MIN) ∧
    NaiveDT.checked_add_signed NaiveDT.MIN ⟨16544868105600, 0⟩ = .ok none ∧
    NaiveDT.checked_add_signed ⟨dateOfYo 1970 1, ⟨86399, 0⟩⟩ Delta.MAX = .ok none ∧
    NaiveDT.checked_add_signed ⟨dateOfYo 2016 366, ⟨86399, 1500000000⟩⟩ ⟨0, 500000000⟩ =
      .ok (some ⟨dateOfYo 2017 1, ⟨0, 0⟩⟩) := by decide +kernel

/-! ### Differences, cancellation, order -/

/-- the difference of two non-leap date-times is their exact signed distance in nanoseconds (never
panics; always within the `TimeDelta` range) -/
theorem diff_exact (a b : NaiveDT) (ha : NDTInv a) (hb : NDTInv b) (la : NonLeap a) (lb : NonLeap b) :
    NaiveDT.signed_duration_since a b = .ok (ofNs (instNs a - instNs b)) ∧
    DInv (ofNs (instNs a - instNs b)) ∧ ns (ofNs (instNs a - instNs b)) = instNs a - instNs b := by
  obtain ⟨h1, h2⟩ := dt_diff_exact a b ha hb la lb
  exact ⟨h1, (ofNs_spec' _ h2).1, (ofNs_spec' _ h2).2⟩

/-- with leap-second operands: whole days between the dates plus C07's time-of-day distance -/
theorem diff_with_leap_operand (a b : NaiveDT) (ha : NDTInv a) (hb : NDTInv b) :
    NaiveDT.signed_duration_since a b =
      .ok (ofNs ((dayNumOf a.date - dayNumOf b.date) * NS_PER_DAY + diffLeap a.time b.time)) :=
  (dt_diff_general a b ha hb).1

/-- `b + (a − b) = a` and `a − (a − b) = b`, through the implementation's own difference -/
theorem add_diff_cancel (a b : NaiveDT) (ha : NDTInv a) (hb : NDTInv b) (la : NonLeap a) (lb : NonLeap b) :
    ∃ δ, NaiveDT.signed_duration_since a b = .ok δ ∧
      NaiveDT.checked_add_signed b δ = .ok (some a) ∧ NaiveDT.checked_sub_signed a δ = .ok (some b) := by
  obtain ⟨hd, hr⟩ := dt_diff_exact a b ha hb la lb
  obtain ⟨hi, hn⟩ := ofNs_spec' _ hr
  refine ⟨_, hd, ?_, ?_⟩
  · obtain ⟨r, h0, h1⟩ := dt_add_exact b _ hb lb hi
    rw [hn] at h1
    rw [h0, instShift_some b a _ r h1 ha la (by omega)]
  · obtain ⟨r, h0, h1⟩ := dt_sub_exact a _ ha la hi
    rw [hn] at h1
    rw [h0, instShift_some a b _ r h1 hb lb (by omega)]

/-- the derived order of date-times (date, then time) follows the sign of the distance -/
theorem order_follows_diff (a b : NaiveDT) (ha : NDTInv a) (hb : NDTInv b) (la : NonLeap a)
    (lb : NonLeap b) :
    NaiveDT.cmp a b = sgn (instNs a - instNs b) ∧
    (∀ δ, NaiveDT.signed_duration_since a b = .ok δ → NaiveDT.cmp a b = sgn (ns δ)) := by
  have hc := dt_cmp_spec a b ha hb la lb
  refine ⟨hc, ?_⟩
  intro δ h
  obtain ⟨h1, _, h3⟩ := diff_exact a b ha hb la lb
  rw [h1] at h
  cases h
  rw [hc, h3]

example : NaiveDT.signed_duration_since NaiveDT.MAX NaiveDT.MIN = .ok ⟨16544868105599, 999999999⟩ ∧
    NaiveDT.signed_duration_since NaiveDT.MIN NaiveDT.MAX = .ok ⟨-16544868105600, 1⟩ ∧
    NaiveDT.signed_duration_since ⟨dateOfYo 2024 2, ⟨0, 0⟩⟩ ⟨dateOfYo 2024 1, ⟨86399, 999999999⟩⟩ = .ok ⟨0, 1⟩ ∧
    NaiveDT.cmp ⟨dateOfYo 2024 2, ⟨0, 0⟩⟩ ⟨dateOfYo 2024 1, ⟨86399, 999999999⟩⟩ = 1 ∧
    NaiveDT.cmp NaiveDT.MIN NaiveDT.MAX = -1 := by decide +kernel

/-! ### Operator forms -/

/-- `+`, `-`, `+=`, `-=` (and the `Days` forms) return the value of the checked form whenever that
succeeds, and panic exactly when it refuses (dates, date-times, zone-aware values alike) -/
theorem operators_agree (d : Date) (dt : NaiveDT) (z : Zoned) (δ : Delta) (c : Int) :
    (∀ x, Date.add d δ = .ok x ↔ Date.checked_add_signed d δ = .ok (some x)) ∧
    (∀ x, Date.sub d δ = .ok x ↔ Date.checked_sub_signed d δ = .ok (some x)) ∧
    (∀ x, Date.add_days_op d c = .ok x ↔ Date.checked_add_days d c = .ok (some x)) ∧
    (∀ x, Date.sub_days_op d c = .ok x ↔ Date.checked_sub_days d c = .ok (some x)) ∧
    (∀ x, NaiveDT.add dt δ = .ok x ↔ NaiveDT.checked_add_signed dt δ = .ok (some x)) ∧
    (∀ x, NaiveDT.sub dt δ = .ok x ↔ NaiveDT.checked_sub_signed dt δ = .ok (some x)) ∧
    (∀ x, Zoned.add z δ = .ok x ↔ Zoned.checked_add_signed z δ = .ok (some x)) ∧
    (∀ x, Zoned.sub z δ = .ok x ↔ Zoned.checked_sub_signed z δ = .ok (some x)) ∧
    (NaiveDT.add dt δ = .panic ↔
      (NaiveDT.checked_add_signed dt δ = .ok none ∨ NaiveDT.checked_add_signed dt δ = .panic)) ∧
    (NaiveDT.sub dt δ = .panic ↔
      (NaiveDT.checked_sub_signed dt δ = .ok none ∨ NaiveDT.checked_sub_signed dt δ = .panic)) := by
  refine ⟨?_, ?_, fun x => expectSome_iff _ x, fun x => expectSome_iff _ x, fun x => expectSome_iff _ x,
    fun x => expectSome_iff _ x, fun x => expectSome_iff _ x, fun x => expectSome_iff _ x,
    expectSome_panic _, expectSome_panic _⟩
  · intro x; rw [date_add_eq]; exact expectSome_iff _ x
  · intro x; rw [date_sub_eq]; exact expectSome_iff _ x

/-- for valid non-leap operands the operator therefore yields the exact sum, or panics exactly
when the instant is not representable (the documented behaviour) -/
theorem operator_exact (dt : NaiveDT) (δ : Delta) (hdt : NDTInv dt) (hnl : NonLeap dt) (hδ : DInv δ) :
    (NS_MIN ≤ instNs dt + ns δ ∧ instNs dt + ns δ ≤ NS_MAX_DT →
      ∃ x, NaiveDT.add dt δ = .ok x ∧ NDTInv x ∧ NonLeap x ∧ instNs x = instNs dt + ns δ) ∧
    (¬ (NS_MIN ≤ instNs dt + ns δ ∧ instNs dt + ns δ ≤ NS_MAX_DT) → NaiveDT.add dt δ = .panic) :=
  expect_instShift dt (ns δ) _ (dt_add_exact dt δ hdt hnl hδ)

example : NaiveDT.add NaiveDT.MAX ⟨0, 1⟩ = .panic ∧
    NaiveDT.add ⟨dateOfYo 2024 1, ⟨0, 0⟩⟩ ⟨-1, 999999999⟩ = .ok ⟨dateOfYo 2023 365, ⟨86399, 999999999⟩⟩ ∧
    Date.add_days_op Date.MAX 1 = .panic ∧ Date.sub_days_op Date.MAX 1 = .ok (dateOfYo 262142 364) := by
  decide +kernel

/-! ### Iterators -/

/-- `iter_days`: the k-th item is `start + k` days; the sequence ends ONE STEP SHORT of the range
limit: it yields exactly `DN_MAX − dayNum start` items, i.e. every day strictly before `MAX` — `MAX`
itself is never yielded (`iter_never_yields_limit`, `iter_yields_exactly`; reported as F34: the
property's "end at the range limit" holds only in the reading "every step that fits is taken") —
and reports exhaustion on the next call; `next_back` mirrors this toward `MIN` -/
theorem iter_days_nth (start : Date) (fuel : Nat) (h : DateInv start) :
    (∃ items fin, drain DaysIter.next fuel start = .ok (items, fin) ∧
      (items.length : Int) = min (fuel : Int) (DN_MAX - dayNumOf start) ∧
      (fin = true ↔ DN_MAX - dayNumOf start < fuel) ∧
      ∀ (k : Nat) (hk : k < items.length), DateInv items[k] ∧ dayNumOf items[k] = dayNumOf start + k) ∧
    (∃ items fin, drain DaysIter.next_back fuel start = .ok (items, fin) ∧
      (items.length : Int) = min (fuel : Int) (dayNumOf start - DN_MIN) ∧
      (fin = true ↔ dayNumOf start - DN_MIN < fuel) ∧
      ∀ (k : Nat) (hk : k < items.length), DateInv items[k] ∧ dayNumOf items[k] = dayNumOf start - k) := by
  obtain ⟨f1, _, f3, _⟩ := stepsFit_eq (dayNumOf start)
  constructor
  · obtain ⟨items, fin, a, b, c, d⟩ := drain_spec (by omega) days_next_steps fuel start h
    rw [f1] at b c
    exact ⟨items, fin, a, b, c, fun k hk => ⟨(d k hk).1, by rw [(d k hk).2, Int.mul_one]⟩⟩
  · obtain ⟨items, fin, a, b, c, d⟩ := drain_spec (by omega) days_back_steps fuel start h
    rw [f3] at b c
    exact ⟨items, fin, a, b, c, fun k hk => ⟨(d k hk).1, by rw [(d k hk).2, Int.mul_neg_one, Int.sub_eq_add_neg]⟩⟩

/-- `iter_weeks`: the k-th item is `start + 7k` days; `⌊(DN_MAX − dayNum start) / 7⌋` items: a date
is yielded only when the step AFTER it still fits, so a start within 6 days of the limit yields
nothing (`iter_never_yields_limit`) -/
theorem iter_weeks_nth (start : Date) (fuel : Nat) (h : DateInv start) :
    (∃ items fin, drain WeeksIter.next fuel start = .ok (items, fin) ∧
      (items.length : Int) = min (fuel : Int) ((DN_MAX - dayNumOf start) / 7) ∧
      (fin = true ↔ (DN_MAX - dayNumOf start) / 7 < fuel) ∧
      ∀ (k : Nat) (hk : k < items.length), DateInv items[k] ∧ dayNumOf items[k] = dayNumOf start + 7 * k) ∧
    (∃ items fin, drain WeeksIter.next_back fuel start = .ok (items, fin) ∧
      (items.length : Int) = min (fuel : Int) ((dayNumOf start - DN_MIN) / 7) ∧
      (fin = true ↔ (dayNumOf start - DN_MIN) / 7 < fuel) ∧
      ∀ (k : Nat) (hk : k < items.length), DateInv items[k] ∧ dayNumOf items[k] = dayNumOf start - 7 * k) := by
  obtain ⟨_, f2, _, f4⟩ := stepsFit_eq (dayNumOf start)
  constructor
  · obtain ⟨items, fin, a, b, c, d⟩ := drain_spec (by omega) weeks_next_steps fuel start h
    rw [f2] at b c
    exact ⟨items, fin, a, b, c, fun k hk => ⟨(d k hk).1, by rw [(d k hk).2, Int.mul_comm]⟩⟩
  · obtain ⟨items, fin, a, b, c, d⟩ := drain_spec (by omega) weeks_back_steps fuel start h
    rw [f4] at b c
    exact ⟨items, fin, a, b, c, fun k hk => ⟨(d k hk).1,
      by rw [(d k hk).2, Int.mul_neg, Int.mul_comm, Int.sub_eq_add_neg]⟩⟩

/-- `size_hint` is exactly the number of items a forward drain produces -/
theorem iter_size_hint (start : Date) (h : DateInv start) :
    DaysIter.size_hint start = .ok (DN_MAX - dayNumOf start) ∧
    WeeksIter.size_hint start = .ok ((DN_MAX - dayNumOf start) / 7) ∧
    0 ≤ DN_MAX - dayNumOf start := by
  obtain ⟨f1, f2, _, _⟩ := stepsFit_eq (dayNumOf start)
  obtain ⟨s1, s2⟩ := size_hint_spec start h
  rw [f1] at s1; rw [f2] at s2
  exact ⟨s1, s2, by have := (dn_range start h).2; omega⟩

example : drain DaysIter.next 5 (dateOfYo 262142 363) =
      .ok ([dateOfYo 262142 363, dateOfYo 262142 364], true) ∧
    DaysIter.size_hint (dateOfYo 262142 363) = .ok 2 ∧
    drain WeeksIter.next 5 (dateOfYo 262142 350) = .ok ([dateOfYo 262142 350, dateOfYo 262142 357], true) ∧
    WeeksIter.size_hint (dateOfYo 262142 350) = .ok 2 ∧
    drain DaysIter.next_back 3 (dateOfYo (-262143) 2) = .ok ([dateOfYo (-262143) 2], true) ∧
    drain WeeksIter.next_back 3 (dateOfYo (-262143) 8) = .ok ([dateOfYo (-262143) 8], true) ∧
    drain DaysIter.next 2 (dateOfYo 2024 366) = .ok ([dateOfYo 2024 366, dateOfYo 2025 1], false) := by
  decide +kernel

/-! ### Zone-aware values: the offset does not enter -/

/-- `DateTime<Tz>` arithmetic is the arithmetic of the UTC value with the offset carried along:
the result is refused exactly when the instant is not representable, otherwise it is the value at
instant + `ns δ` with the same offset — so two views of one instant yield the same instant -/
theorem zoned_same_instant (z : Zoned) (δ : Delta) (hz : NDTInv z.utc) (hnl : NonLeap z.utc) (hδ : DInv δ) :
    (∃ r, Zoned.checked_add_signed z δ = .ok r ∧ IsInstShift z.utc (ns δ) (r.map (·.utc)) ∧
      ∀ z', r = some z' → z'.off = z.off ∧ zonedInstNs z' = zonedInstNs z + ns δ) ∧
    (∃ r, Zoned.checked_sub_signed z δ = .ok r ∧ IsInstShift z.utc (-(ns δ)) (r.map (·.utc)) ∧
      ∀ z', r = some z' → z'.off = z.off ∧ zonedInstNs z' = zonedInstNs z - ns δ) ∧
    (∀ off', (Zoned.checked_add_signed ⟨z.utc, off'⟩ δ).bind (fun r => .ok (r.map (·.utc))) =
      (Zoned.checked_add_signed z δ).bind (fun r => .ok (r.map (·.utc)))) := by
  -- re-attaching the offset changes neither the UTC reading nor, hence, the instant
  have key : ∀ (k : Int) (r : Option NaiveDT), IsInstShift z.utc k r →
      IsInstShift z.utc k ((r.map fun u => (⟨u, z.off⟩ : Zoned)).map (·.utc)) ∧
      ∀ z', (r.map fun u => (⟨u, z.off⟩ : Zoned)) = some z' →
        z'.off = z.off ∧ zonedInstNs z' = zonedInstNs z + k := by
    intro k r h1
    cases r with
    | none => exact ⟨h1, fun z' h => nomatch h⟩
    | some u => exact ⟨h1, fun z' h => by rw [← Option.some.inj h]; exact ⟨rfl, (h1.2 u rfl).2.2⟩⟩
  obtain ⟨r, h0, h1⟩ := dt_add_exact z.utc δ hz hnl hδ
  obtain ⟨r', h0', h1'⟩ := dt_sub_exact z.utc δ hz hnl hδ
  refine ⟨⟨_, by rw [zoned_add_eq, h0, rbind_ok], key _ r h1⟩,
    ⟨_, by rw [zoned_sub_eq, h0', rbind_ok], (key _ r' h1').1, fun z' h => ?_⟩, fun off' => ?_⟩
  · rw [Int.sub_eq_add_neg]
    exact (key _ r' h1').2 z' h
  · rw [zoned_add_eq, zoned_add_eq, h0]
    cases r <;> rfl

/-- the difference of two zone-aware values is the distance of their instants, whatever the offsets -/
theorem zoned_diff (a b : Zoned) (ha : NDTInv a.utc) (hb : NDTInv b.utc) (la : NonLeap a.utc)
    (lb : NonLeap b.utc) :
    Zoned.signed_duration_since a b = .ok (ofNs (zonedInstNs a - zonedInstNs b)) ∧
    Zoned.cmp a b = sgn (zonedInstNs a - zonedInstNs b) :=
  ⟨(dt_diff_exact a.utc b.utc ha hb la lb).1, dt_cmp_spec a.utc b.utc ha hb la lb⟩

example : Zoned.checked_add_signed ⟨NaiveDT.MAX, 86399⟩ ⟨0, 1⟩ = .ok none ∧
    Zoned.checked_add_signed ⟨⟨dateOfYo 2024 1, ⟨0, 0⟩⟩, -3600⟩ ⟨-1, 0⟩ =
      .ok (some ⟨⟨dateOfYo 2023 365, ⟨86399, 0⟩⟩, -3600⟩) ∧
    Zoned.signed_duration_since ⟨⟨dateOfYo 2024 1, ⟨0, 0⟩⟩, -3600⟩ ⟨⟨dateOfYo 2024 1, ⟨0, 0⟩⟩, 7200⟩ =
      .ok ⟨0, 0⟩ := by decide +kernel

/-! ## Audit gaps closed 2026-09-30 -/

/-! ### `size_hint` as the pair the source returns; what it tracks -/

/-- `Iterator::size_hint` of both iterators, as the `(usize, Option<usize>)` pair of the source:
lower and upper bound coincide and are the number of days (whole weeks) from the cursor up to
`NaiveDate::MAX`; the `as usize` casts never wrap; no panic.  The cursor does not record a
direction, so this is the value whichever way the iterator is driven. -/
theorem iter_size_hint_pair (v : Date) (h : DateInv v) :
    DaysIter.size_hint_pair v = .ok (DN_MAX - dayNumOf v, some (DN_MAX - dayNumOf v)) ∧
    WeeksIter.size_hint_pair v = .ok ((DN_MAX - dayNumOf v) / 7, some ((DN_MAX - dayNumOf v) / 7)) ∧
    0 ≤ DN_MAX - dayNumOf v ∧ DN_MAX - dayNumOf v ≤ 191491528 := by
  obtain ⟨c1, c2, _⟩ := dn_consts
  obtain ⟨f1, f2, _, _⟩ := stepsFit_eq (dayNumOf v)
  obtain ⟨p1, p2⟩ := hint_pair_spec v h
  have hb := dn_bounds v h
  rw [f1] at p1; rw [f2] at p2
  exact ⟨p1, p2, by omega, by omega⟩

/-- forward iteration: a call of `next` either returns the cursor and moves it one step (1 / 7 days)
— the hint then drops by exactly one — or returns `None`, which happens exactly when the hint is
`(0, Some(0))`.  So before every forward call the hint is the number of items still to come. -/
theorem iter_size_hint_step (v : Date) (h : DateInv v) :
    (∀ item v', DaysIter.next v = .ok (some (item, v')) →
      item = v ∧ DateInv v' ∧ dayNumOf v' = dayNumOf v + 1 ∧
      ∃ n, DaysIter.size_hint_pair v = .ok (n, some n) ∧
        DaysIter.size_hint_pair v' = .ok (n - 1, some (n - 1))) ∧
    (DaysIter.next v = .ok none ↔ DaysIter.size_hint_pair v = .ok (0, some 0)) ∧
    (DaysIter.next v = .ok none ∨ ∃ v', DaysIter.next v = .ok (some (v, v'))) ∧
    (∀ item v', WeeksIter.next v = .ok (some (item, v')) →
      item = v ∧ DateInv v' ∧ dayNumOf v' = dayNumOf v + 7 ∧
      ∃ n, WeeksIter.size_hint_pair v = .ok (n, some n) ∧
        WeeksIter.size_hint_pair v' = .ok (n - 1, some (n - 1))) ∧
    (WeeksIter.next v = .ok none ↔ WeeksIter.size_hint_pair v = .ok (0, some 0)) ∧
    (WeeksIter.next v = .ok none ∨ ∃ v', WeeksIter.next v = .ok (some (v, v'))) := by
  obtain ⟨p1, p2⟩ := hint_pair_spec v h
  obtain ⟨d1, d2⟩ := hint_step (by omega) days_next_steps v h
  obtain ⟨w1, w2⟩ := hint_step (by omega) weeks_next_steps v h
  refine ⟨?_, ?_, step_total days_next_steps v h, ?_, ?_, step_total weeks_next_steps v h⟩
  · intro item v' hs
    obtain ⟨e, hi, hd, hf⟩ := d1 item v' hs
    exact ⟨e, hi, hd, _, p1, by rw [(hint_pair_spec v' hi).1, hf]⟩
  · rw [d2, p1]
    simp only [Res.ok.injEq, Prod.mk.injEq, Option.some.injEq, and_self]
  · intro item v' hs
    obtain ⟨e, hi, hd, hf⟩ := w1 item v' hs
    exact ⟨e, hi, hd, _, p2, by rw [(hint_pair_spec v' hi).2, hf]⟩
  · rw [w2, p2]
    simp only [Res.ok.injEq, Prod.mk.injEq, Option.some.injEq, and_self]

/-- forward iteration, the "exact length hint" clause in full: with enough calls the iterator
produces exactly as many items as both bounds of `size_hint` announce, then reports exhaustion -/
theorem iter_size_hint_forward_exact (v : Date) (fuel : Nat) (h : DateInv v) :
    (∃ n, DaysIter.size_hint_pair v = .ok (n, some n) ∧ (n < fuel →
      ∃ items, drain DaysIter.next fuel v = .ok (items, true) ∧ (items.length : Int) = n)) ∧
    (∃ n, WeeksIter.size_hint_pair v = .ok (n, some n) ∧ (n < fuel →
      ∃ items, drain WeeksIter.next fuel v = .ok (items, true) ∧ (items.length : Int) = n)) := by
  obtain ⟨p1, p2⟩ := hint_pair_spec v h
  refine ⟨⟨_, p1, fun hlt => ?_⟩, ⟨_, p2, fun hlt => ?_⟩⟩
  · obtain ⟨items, a, l, _⟩ := drain_complete (by omega) days_next_steps fuel v h hlt
    exact ⟨items, a, l⟩
  · obtain ⟨items, a, l, _⟩ := drain_complete (by omega) weeks_next_steps fuel v h hlt
    exact ⟨items, a, l⟩

/-- backward iteration (known finding F28), what does happen, for every valid cursor: `next_back`
returns the cursor and moves it one step toward `MIN`, and the hint — still the distance to `MAX` —
GROWS by one with every item; the number of items `next_back` still produces is the distance to
`MIN` (`dayNum − DN_MIN`, resp. a seventh of it) -/
theorem iter_back_hint (v : Date) (h : DateInv v) :
    (∀ item v', DaysIter.next_back v = .ok (some (item, v')) →
      item = v ∧ DateInv v' ∧ dayNumOf v' = dayNumOf v - 1 ∧
      ∃ n, DaysIter.size_hint_pair v = .ok (n, some n) ∧
        DaysIter.size_hint_pair v' = .ok (n + 1, some (n + 1))) ∧
    (∀ item v', WeeksIter.next_back v = .ok (some (item, v')) →
      item = v ∧ DateInv v' ∧ dayNumOf v' = dayNumOf v - 7 ∧
      ∃ n, WeeksIter.size_hint_pair v = .ok (n, some n) ∧
        WeeksIter.size_hint_pair v' = .ok (n + 1, some (n + 1))) ∧
    (∀ fuel : Nat, dayNumOf v - DN_MIN < fuel →
      ∃ items, drain DaysIter.next_back fuel v = .ok (items, true) ∧
        (items.length : Int) = dayNumOf v - DN_MIN) ∧
    (∀ fuel : Nat, (dayNumOf v - DN_MIN) / 7 < fuel →
      ∃ items, drain WeeksIter.next_back fuel v = .ok (items, true) ∧
        (items.length : Int) = (dayNumOf v - DN_MIN) / 7) := by
  obtain ⟨p1, p2⟩ := hint_pair_spec v h
  obtain ⟨_, _, f3, f4⟩ := stepsFit_eq (dayNumOf v)
  refine ⟨?_, ?_, ?_, ?_⟩
  · intro item v' hs
    obtain ⟨e, hi, hd⟩ := step_some days_back_steps v item v' h hs
    -- one forward step from `v'` leads back to `v`
    have hf := (stepsFit_rec (dayNumOf v') 1 (by omega) (dn_range v' hi)).2.2
    rw [show dayNumOf v' + 1 = dayNumOf v by omega] at hf
    exact ⟨e, hi, by omega, _, p1, by rw [(hint_pair_spec v' hi).1, hf]; simp⟩
  · intro item v' hs
    obtain ⟨e, hi, hd⟩ := step_some weeks_back_steps v item v' h hs
    have hf := (stepsFit_rec (dayNumOf v') 7 (by omega) (dn_range v' hi)).2.2
    rw [show dayNumOf v' + 7 = dayNumOf v by omega] at hf
    exact ⟨e, hi, by omega, _, p2, by rw [(hint_pair_spec v' hi).2, hf]; simp⟩
  · intro fuel hlt
    rw [← f3] at hlt ⊢
    obtain ⟨items, a, l, _⟩ := drain_complete (by omega) days_back_steps fuel v h hlt
    exact ⟨items, a, l⟩
  · intro fuel hlt
    rw [← f4] at hlt ⊢
    obtain ⟨items, a, l, _⟩ := drain_complete (by omega) weeks_back_steps fuel v h hlt
    exact ⟨items, a, l⟩

/-- F28 as a kernel-checked counterexample to "exact length hint" for backward iteration: at
`NaiveDate::MAX` both iterators announce `(0, Some(0))` and `next_back` goes on producing items -/
theorem iter_back_hint_counterexample :
    DaysIter.size_hint_pair Date.MAX = .ok (0, some 0) ∧
    drain DaysIter.next_back 3 Date.MAX =
      .ok ([Date.MAX, dateOfYo 262142 364, dateOfYo 262142 363], false) ∧
    WeeksIter.size_hint_pair Date.MAX = .ok (0, some 0) ∧
    drain WeeksIter.next_back 2 Date.MAX = .ok ([Date.MAX, dateOfYo 262142 358], false) ∧
    DaysIter.size_hint_pair (dateOfYo (-262143) 3) = .ok (191491526, some 191491526) ∧
    drain DaysIter.next_back 5 (dateOfYo (-262143) 3) =
      .ok ([dateOfYo (-262143) 3, dateOfYo (-262143) 2], true) := by decide +kernel

/-- exactly which cursors have a hint that is also right for a backward drain: the one day (the five
days, for weeks) halfway between `MIN` and `MAX` -/
theorem iter_back_hint_exact_iff (v : Date) (fuel : Nat) (items : List Date) (h : DateInv v) :
    (drain DaysIter.next_back fuel v = .ok (items, true) →
      (DaysIter.size_hint_pair v = .ok ((items.length : Int), some (items.length : Int)) ↔
        dayNumOf v = -365)) ∧
    (drain WeeksIter.next_back fuel v = .ok (items, true) →
      (WeeksIter.size_hint_pair v = .ok ((items.length : Int), some (items.length : Int)) ↔
        (-367 ≤ dayNumOf v ∧ dayNumOf v ≤ -363))) := by
  obtain ⟨c1, c2, _⟩ := dn_consts
  obtain ⟨p1, p2⟩ := hint_pair_spec v h
  obtain ⟨f1, f2, f3, f4⟩ := stepsFit_eq (dayNumOf v)
  have hb := dn_bounds v h
  constructor
  · intro hd
    rw [p1, drain_done (by omega) days_back_steps fuel v h items hd, f1, f3, c1, c2]
    simp only [Res.ok.injEq, Prod.mk.injEq, Option.some.injEq, and_self]
    omega
  · intro hd
    rw [p2, drain_done (by omega) weeks_back_steps fuel v h items hd, f2, f4, c1, c2]
    simp only [Res.ok.injEq, Prod.mk.injEq, Option.some.injEq, and_self]
    omega

/-- "exact length hint" for a backward drain, PARTIAL: holds only under the explicit hypothesis that
the cursor is the day halfway between the range ends (`iter_back_hint_exact_iff` shows the
hypothesis cannot be dropped; `iter_back_hint` says what holds without it) -/
theorem iter_hint_exact_backward_partial (v : Date) (fuel : Nat) (h : DateInv v)
    (hmid : dayNumOf v = -365) (hf : dayNumOf v - DN_MIN < fuel) :
    ∃ items, drain DaysIter.next_back fuel v = .ok (items, true) ∧
      DaysIter.size_hint_pair v = .ok ((items.length : Int), some (items.length : Int)) := by
  obtain ⟨items, a, _⟩ := (iter_back_hint v h).2.2.1 fuel hf
  exact ⟨items, a, ((iter_back_hint_exact_iff v fuel items h).1 a).mpr hmid⟩

example : DateInv (dateOfYo 262142 363) ∧ DateInv (dateOfYo 0 1) ∧ dayNumOf (dateOfYo 0 1) = -365 ∧
    DaysIter.size_hint_pair (dateOfYo 262142 363) = .ok (2, some 2) ∧
    DaysIter.next (dateOfYo 262142 363) = .ok (some (dateOfYo 262142 363, dateOfYo 262142 364)) ∧
    DaysIter.size_hint_pair (dateOfYo 262142 364) = .ok (1, some 1) ∧
    DaysIter.next Date.MAX = .ok none ∧
    WeeksIter.size_hint_pair (dateOfYo 262142 351) = .ok (2, some 2) ∧
    WeeksIter.next (dateOfYo 262142 359) = .ok none ∧
    WeeksIter.size_hint_pair (dateOfYo 262142 359) = .ok (0, some 0) ∧
    DaysIter.size_hint_pair Date.MIN = .ok (191491528, some 191491528) ∧
    DaysIter.size_hint_pair (dateOfYo 0 1) = .ok (95745764, some 95745764) := by decide +kernel

/-! ### interleaved `next` / `next_back` on one iterator value -/

/-- any script of `next` (`false`) and `next_back` (`true`) calls on one iterator, every valid start:
no panic; the dates returned are valid and their day numbers are those of a single cursor that a
forward call moves exactly 1 (7) days up and a backward call exactly 1 (7) days down, each call
returning the cursor it found, a call that would leave `[MIN, MAX]` returning `None` and leaving the
cursor (`specScript`, day numbers only).  Hence within a run of calls in one direction no day is
skipped or repeated; across a change of direction the two ends are NOT kept apart
(`iter_interleaved_repeats`). -/
theorem iter_interleaved (script : List Bool) (v : Date) (h : DateInv v) :
    (∃ items, runScript DaysIter.next DaysIter.next_back script v = .ok items ∧
      items.map (Option.map dayNumOf) = specScript 1 script (dayNumOf v) ∧
      ∀ x, some x ∈ items → DateInv x) ∧
    (∃ items, runScript WeeksIter.next WeeksIter.next_back script v = .ok items ∧
      items.map (Option.map dayNumOf) = specScript 7 script (dayNumOf v) ∧
      ∀ x, some x ∈ items → DateInv x) :=
  ⟨runScript_spec days_next_steps days_back_steps script v h,
   runScript_spec weeks_next_steps weeks_back_steps script v h⟩

/-- `next, next_back, next` returns `d, d+1, d`: the iterators are one cursor, not two ends that
meet (same root as F28); a `None` from `next` at `MAX` does not stop `next_back` -/
theorem iter_interleaved_repeats :
    runScript DaysIter.next DaysIter.next_back [false, true, false] (dateOfYo 2024 1) =
      .ok [some (dateOfYo 2024 1), some (dateOfYo 2024 2), some (dateOfYo 2024 1)] ∧
    runScript WeeksIter.next WeeksIter.next_back [false, true, true] (dateOfYo 2024 1) =
      .ok [some (dateOfYo 2024 1), some (dateOfYo 2024 8), some (dateOfYo 2024 1)] ∧
    runScript DaysIter.next DaysIter.next_back [false, false, true, true] (dateOfYo 262142 364) =
      .ok [some (dateOfYo 262142 364), none, some Date.MAX, some (dateOfYo 262142 364)] ∧
    specScript 1 [false, true, false] 100 = [some 100, some 101, some 100] := by decide +kernel

/-! ### `NaiveDateTime ± Days` -/

/-- `NaiveDateTime::checked_add_days / checked_sub_days`, every valid date-time (leap-second
representations included), every `u64` count: the date part moves by exactly that many days or the
call is refused exactly when that day is outside the range; the time of day is kept, so the instant
moves by exactly `c` × 86 400 s; no panic -/
theorem ndt_days_exact (dt : NaiveDT) (c : Int) (h : NDTInv dt) (hc : 0 ≤ c ∧ c ≤ 18446744073709551615) :
    (∃ r, NaiveDT.checked_add_days dt c = .ok r ∧ IsDayShift dt.date c (r.map (·.date)) ∧
      ∀ x, r = some x → x.time = dt.time ∧ NDTInv x ∧ instNs x = instNs dt + c * NS_PER_DAY) ∧
    (∃ r, NaiveDT.checked_sub_days dt c = .ok r ∧ IsDayShift dt.date (-c) (r.map (·.date)) ∧
      ∀ x, r = some x → x.time = dt.time ∧ NDTInv x ∧ instNs x = instNs dt - c * NS_PER_DAY) := by
  obtain ⟨r, h0, h1⟩ := checked_add_days_spec dt.date c h.1 hc
  obtain ⟨r', h0', h1'⟩ := checked_sub_days_spec dt.date c h.1 hc
  obtain ⟨g1, g2⟩ := with_shifted_date dt (-c) r' h h1'
  refine ⟨⟨_, by unfold NaiveDT.checked_add_days; rw [h0, rbind_ok], with_shifted_date dt c r h h1⟩,
    ⟨_, by unfold NaiveDT.checked_sub_days; rw [h0', rbind_ok], g1, fun x hx => ?_⟩⟩
  rw [Int.sub_eq_add_neg, ← Int.neg_mul]
  exact g2 x hx

/-- the operators `NaiveDateTime + Days` / `- Days`: the value of the checked form, or a panic
exactly when the day is outside the range -/
theorem ndt_days_operator_exact (dt : NaiveDT) (c : Int) (h : NDTInv dt)
    (hc : 0 ≤ c ∧ c ≤ 18446744073709551615) :
    (DN_MIN ≤ dayNumOf dt.date + c ∧ dayNumOf dt.date + c ≤ DN_MAX →
      ∃ x, NaiveDT.add_days_op dt c = .ok x ∧ NDTInv x ∧ dayNumOf x.date = dayNumOf dt.date + c ∧
        x.time = dt.time) ∧
    (¬ (DN_MIN ≤ dayNumOf dt.date + c ∧ dayNumOf dt.date + c ≤ DN_MAX) →
      NaiveDT.add_days_op dt c = .panic) ∧
    (DN_MIN ≤ dayNumOf dt.date + -c ∧ dayNumOf dt.date + -c ≤ DN_MAX →
      ∃ x, NaiveDT.sub_days_op dt c = .ok x ∧ NDTInv x ∧ dayNumOf x.date = dayNumOf dt.date + -c ∧
        x.time = dt.time) ∧
    (¬ (DN_MIN ≤ dayNumOf dt.date + -c ∧ dayNumOf dt.date + -c ≤ DN_MAX) →
      NaiveDT.sub_days_op dt c = .panic) := by
  obtain ⟨⟨r, a0, a1, a2⟩, ⟨r', b0, b1, b2⟩⟩ := ndt_days_exact dt c h hc
  obtain ⟨g1, g2⟩ := expect_shift (P := (r = some ·))
    ⟨r, a0, Option.map_eq_none_iff.symm.trans a1.1, fun _ e => e⟩
  obtain ⟨g1', g2'⟩ := expect_shift (P := (r' = some ·))
    ⟨r', b0, Option.map_eq_none_iff.symm.trans b1.1, fun _ e => e⟩
  refine ⟨fun hin => ?_, fun hout => g2 (by omega), fun hin => ?_, fun hout => g2' (by omega)⟩
  · obtain ⟨x, ex, e⟩ := g1 (by omega)
    obtain ⟨t, i, _⟩ := a2 x e
    exact ⟨x, ex, i, (a1.2 x.date (by rw [e]; rfl)).2, t⟩
  · obtain ⟨x, ex, e⟩ := g1' (by omega)
    obtain ⟨t, i, _⟩ := b2 x e
    exact ⟨x, ex, i, (b1.2 x.date (by rw [e]; rfl)).2, t⟩

example : NDTInv ⟨dateOfYo 2024 60, ⟨86399, 1999999999⟩⟩ ∧
    NaiveDT.checked_add_days ⟨dateOfYo 2024 60, ⟨86399, 1999999999⟩⟩ 366 =
      .ok (some ⟨dateOfYo 2025 60, ⟨86399, 1999999999⟩⟩) ∧
    NaiveDT.checked_add_days NaiveDT.MIN 191491528 = .ok (some ⟨Date.MAX, ⟨0, 0⟩⟩) ∧
    NaiveDT.checked_add_days NaiveDT.MIN 191491529 = .ok none ∧
    NaiveDT.checked_add_days NaiveDT.MIN 4294967296 = .ok none ∧
    NaiveDT.checked_sub_days NaiveDT.MAX 191491528 = .ok (some ⟨Date.MIN, ⟨86399, 999999999⟩⟩) ∧
    NaiveDT.checked_sub_days NaiveDT.MAX 18446744073709551615 = .ok none ∧
    NaiveDT.add_days_op NaiveDT.MAX 1 = .panic ∧
    NaiveDT.sub_days_op NaiveDT.MAX 1 = .ok ⟨dateOfYo 262142 364, ⟨86399, 999999999⟩⟩ := by decide +kernel

/-! ### operators in range terms: the exact value, or a panic exactly when it is not representable -/

/-- `NaiveDateTime - TimeDelta` (companion of `operator_exact`) -/
theorem operator_exact_sub (dt : NaiveDT) (δ : Delta) (hdt : NDTInv dt) (hnl : NonLeap dt) (hδ : DInv δ) :
    (NS_MIN ≤ instNs dt + -(ns δ) ∧ instNs dt + -(ns δ) ≤ NS_MAX_DT →
      ∃ x, NaiveDT.sub dt δ = .ok x ∧ NDTInv x ∧ NonLeap x ∧ instNs x = instNs dt + -(ns δ)) ∧
    (¬ (NS_MIN ≤ instNs dt + -(ns δ) ∧ instNs dt + -(ns δ) ≤ NS_MAX_DT) → NaiveDT.sub dt δ = .panic) :=
  expect_instShift dt (-(ns δ)) _ (dt_sub_exact dt δ hdt hnl hδ)

/-- `NaiveDate ± TimeDelta` and `NaiveDate ± Days`: the date exactly that many whole days away, or a
panic exactly when that day is outside `[MIN, MAX]` -/
theorem date_operator_exact (d : Date) (δ : Delta) (c : Int) (hd : DateInv d) (hδ : DInv δ)
    (hc : 0 ≤ c ∧ c ≤ 18446744073709551615) :
    ((DN_MIN ≤ dayNumOf d + wholeDays (ns δ) ∧ dayNumOf d + wholeDays (ns δ) ≤ DN_MAX →
        ∃ x, Date.add d δ = .ok x ∧ DateInv x ∧ dayNumOf x = dayNumOf d + wholeDays (ns δ)) ∧
      (¬ (DN_MIN ≤ dayNumOf d + wholeDays (ns δ) ∧ dayNumOf d + wholeDays (ns δ) ≤ DN_MAX) →
        Date.add d δ = .panic)) ∧
    ((DN_MIN ≤ dayNumOf d + -(wholeDays (ns δ)) ∧ dayNumOf d + -(wholeDays (ns δ)) ≤ DN_MAX →
        ∃ x, Date.sub d δ = .ok x ∧ DateInv x ∧ dayNumOf x = dayNumOf d + -(wholeDays (ns δ))) ∧
      (¬ (DN_MIN ≤ dayNumOf d + -(wholeDays (ns δ)) ∧ dayNumOf d + -(wholeDays (ns δ)) ≤ DN_MAX) →
        Date.sub d δ = .panic)) ∧
    ((DN_MIN ≤ dayNumOf d + c ∧ dayNumOf d + c ≤ DN_MAX →
        ∃ x, Date.add_days_op d c = .ok x ∧ DateInv x ∧ dayNumOf x = dayNumOf d + c) ∧
      (¬ (DN_MIN ≤ dayNumOf d + c ∧ dayNumOf d + c ≤ DN_MAX) → Date.add_days_op d c = .panic)) ∧
    ((DN_MIN ≤ dayNumOf d + -c ∧ dayNumOf d + -c ≤ DN_MAX →
        ∃ x, Date.sub_days_op d c = .ok x ∧ DateInv x ∧ dayNumOf x = dayNumOf d + -c) ∧
      (¬ (DN_MIN ≤ dayNumOf d + -c ∧ dayNumOf d + -c ≤ DN_MAX) → Date.sub_days_op d c = .panic)) := by
  refine ⟨?_, ?_, ?_, ?_⟩
  · rw [date_add_eq]; exact expect_dayShift d _ _ (date_add_signed_spec d δ hd hδ)
  · rw [date_sub_eq]; exact expect_dayShift d _ _ (date_sub_signed_spec d δ hd hδ)
  · exact expect_dayShift d _ _ (checked_add_days_spec d c hd hc)
  · exact expect_dayShift d _ _ (checked_sub_days_spec d c hd hc)

/-- `DateTime<Tz> ± TimeDelta` and `+=` / `-=` (which have their own source body): the value at
exactly instant ± `ns δ` with the offset unchanged, or a panic exactly when that instant is not
representable — the offset does not enter the condition -/
theorem zoned_operator_exact (z : Zoned) (δ : Delta) (hz : NDTInv z.utc) (hnl : NonLeap z.utc) (hδ : DInv δ) :
    ((NS_MIN ≤ zonedInstNs z + ns δ ∧ zonedInstNs z + ns δ ≤ NS_MAX_DT →
        ∃ x, Zoned.add z δ = .ok x ∧ Zoned.add_assign z δ = .ok x ∧ x.off = z.off ∧ NDTInv x.utc ∧
          NonLeap x.utc ∧ zonedInstNs x = zonedInstNs z + ns δ) ∧
      (¬ (NS_MIN ≤ zonedInstNs z + ns δ ∧ zonedInstNs z + ns δ ≤ NS_MAX_DT) →
        Zoned.add z δ = .panic ∧ Zoned.add_assign z δ = .panic)) ∧
    ((NS_MIN ≤ zonedInstNs z + -(ns δ) ∧ zonedInstNs z + -(ns δ) ≤ NS_MAX_DT →
        ∃ x, Zoned.sub z δ = .ok x ∧ Zoned.sub_assign z δ = .ok x ∧ x.off = z.off ∧ NDTInv x.utc ∧
          NonLeap x.utc ∧ zonedInstNs x = zonedInstNs z + -(ns δ)) ∧
      (¬ (NS_MIN ≤ zonedInstNs z + -(ns δ) ∧ zonedInstNs z + -(ns δ) ≤ NS_MAX_DT) →
        Zoned.sub z δ = .panic ∧ Zoned.sub_assign z δ = .panic)) := by
  obtain ⟨a1, a2⟩ := expect_instShift z.utc (ns δ) _ (dt_add_exact z.utc δ hz hnl hδ)
  obtain ⟨b1, b2⟩ := expect_instShift z.utc (-(ns δ)) _ (dt_sub_exact z.utc δ hz hnl hδ)
  have ea : Zoned.add z δ = (expectSome (z.utc.checked_add_signed δ)).bind fun u => .ok ⟨u, z.off⟩ := by
    unfold Zoned.add; rw [zoned_add_eq, expect_zoned]
  have es : Zoned.sub z δ = (expectSome (z.utc.checked_sub_signed δ)).bind fun u => .ok ⟨u, z.off⟩ := by
    unfold Zoned.sub; rw [zoned_sub_eq, expect_zoned]
  rw [zoned_add_assign_eq, zoned_sub_assign_eq, ea, es]
  unfold zonedInstNs
  refine ⟨⟨?_, ?_⟩, ⟨?_, ?_⟩⟩
  · intro hin
    obtain ⟨x, e, i1, i2, i3⟩ := a1 hin
    rw [e]
    exact ⟨⟨x, z.off⟩, rfl, rfl, rfl, i1, i2, i3⟩
  · intro hout; rw [a2 hout]; exact ⟨rfl, rfl⟩
  · intro hin
    obtain ⟨x, e, i1, i2, i3⟩ := b1 hin
    rw [e]
    exact ⟨⟨x, z.off⟩, rfl, rfl, rfl, i1, i2, i3⟩
  · intro hout; rw [b2 hout]; exact ⟨rfl, rfl⟩

/-- the assign forms are the operator forms: `NaiveDate`, `NaiveDateTime` by their source text
(`*self = self.add(rhs)`), `DateTime<Tz>` — whose `+=` / `-=` unwrap the checked sum of the stored UTC
value and rebuild the value with `from_utc_datetime` — by proof -/
theorem assign_forms_agree (d : Date) (dt : NaiveDT) (z : Zoned) (δ : Delta) (s n : Int) :
    Date.add_assign d δ = Date.add d δ ∧ Date.sub_assign d δ = Date.sub d δ ∧
    NaiveDT.add_assign dt δ = NaiveDT.add dt δ ∧ NaiveDT.sub_assign dt δ = NaiveDT.sub dt δ ∧
    NaiveDT.add_assign_std dt s n = NaiveDT.add_std dt s n ∧
    NaiveDT.sub_assign_std dt s n = NaiveDT.sub_std dt s n ∧
    Zoned.add_assign z δ = Zoned.add z δ ∧ Zoned.sub_assign z δ = Zoned.sub z δ ∧
    Zoned.add_assign_std z s n = Zoned.add_std z s n ∧
    Zoned.sub_assign_std z s n = Zoned.sub_std z s n := by
  refine ⟨rfl, rfl, rfl, rfl, rfl, rfl, zoned_add_assign_eq z δ, zoned_sub_assign_eq z δ, ?_, ?_⟩
  · unfold Zoned.add_assign_std Zoned.add_std
    cases Delta.from_std s n with
    | none => rfl
    | some x => exact zoned_add_assign_eq z x
  · unfold Zoned.sub_assign_std Zoned.sub_std
    cases Delta.from_std s n with
    | none => rfl
    | some x => exact zoned_sub_assign_eq z x

example : Zoned.add_assign ⟨NaiveDT.MAX, -86399⟩ ⟨0, 1⟩ = .panic ∧
    Zoned.sub_assign ⟨NaiveDT.MAX, 86399⟩ ⟨0, 1⟩ = .ok ⟨⟨Date.MAX, ⟨86399, 999999998⟩⟩, 86399⟩ ∧
    Zoned.add ⟨NaiveDT.MIN, -86399⟩ ⟨16544868105599, 999999999⟩ = .ok ⟨NaiveDT.MAX, -86399⟩ ∧
    Zoned.sub ⟨NaiveDT.MIN, 3600⟩ ⟨0, 1⟩ = .panic ∧
    NaiveDT.sub NaiveDT.MIN ⟨0, 1⟩ = .panic ∧
    NaiveDT.sub NaiveDT.MAX ⟨16544868105599, 999999999⟩ = .ok NaiveDT.MIN ∧
    Date.add Date.MAX ⟨86399, 999999999⟩ = .ok Date.MAX ∧ Date.add Date.MAX ⟨86400, 0⟩ = .panic ∧
    Date.sub Date.MIN ⟨-86400, 0⟩ = .ok (dateOfYo (-262143) 2) ∧ Date.sub Date.MIN ⟨86400, 0⟩ = .panic := by
  decide +kernel

/-! ### `std::time::Duration` operands -/

/-- the `Duration` operators are `expect(TimeDelta::from_std)` followed by the `TimeDelta` operator
(C06 `std_spec`: `from_std` is exact or refused) -/
theorem add_std_eq (dt : NaiveDT) (z : Zoned) (s n : Int) :
    (NaiveDT.add_std dt s n = match Delta.from_std s n with | some d => NaiveDT.add dt d | none => .panic) ∧
    (NaiveDT.sub_std dt s n = match Delta.from_std s n with | some d => NaiveDT.sub dt d | none => .panic) ∧
    (Zoned.add_std z s n = match Delta.from_std s n with | some d => Zoned.add z d | none => .panic) ∧
    (Zoned.sub_std z s n = match Delta.from_std s n with | some d => Zoned.sub z d | none => .panic) :=
  ⟨rfl, rfl, rfl, rfl⟩

/-- every valid non-leap date-time, every `std::time::Duration` (`u64` seconds, nanoseconds below
10⁹): `dt ± duration` is the date-time exactly `s·10⁹ + n` ns later / earlier, and the operator
panics exactly when the duration exceeds the `TimeDelta` range or the instant is not representable;
the same for `DateTime<Tz>` with the offset kept -/
theorem std_operator_exact (dt : NaiveDT) (z : Zoned) (s n : Int) (hdt : NDTInv dt) (hnl : NonLeap dt)
    (hz : NDTInv z.utc) (hzl : NonLeap z.utc)
    (hs : 0 ≤ s ∧ s ≤ 18446744073709551615) (hn : 0 ≤ n ∧ n < 1000000000) :
    ((nsInRange (s * 1000000000 + n) ∧ instNs dt + (s * 1000000000 + n) ≤ NS_MAX_DT →
        ∃ x, NaiveDT.add_std dt s n = .ok x ∧ NDTInv x ∧ NonLeap x ∧
          instNs x = instNs dt + (s * 1000000000 + n)) ∧
      (¬ (nsInRange (s * 1000000000 + n) ∧ instNs dt + (s * 1000000000 + n) ≤ NS_MAX_DT) →
        NaiveDT.add_std dt s n = .panic)) ∧
    ((nsInRange (s * 1000000000 + n) ∧ NS_MIN ≤ instNs dt - (s * 1000000000 + n) →
        ∃ x, NaiveDT.sub_std dt s n = .ok x ∧ NDTInv x ∧ NonLeap x ∧
          instNs x = instNs dt - (s * 1000000000 + n)) ∧
      (¬ (nsInRange (s * 1000000000 + n) ∧ NS_MIN ≤ instNs dt - (s * 1000000000 + n)) →
        NaiveDT.sub_std dt s n = .panic)) ∧
    ((nsInRange (s * 1000000000 + n) ∧ zonedInstNs z + (s * 1000000000 + n) ≤ NS_MAX_DT →
        ∃ x, Zoned.add_std z s n = .ok x ∧ x.off = z.off ∧ NDTInv x.utc ∧ NonLeap x.utc ∧
          zonedInstNs x = zonedInstNs z + (s * 1000000000 + n)) ∧
      (¬ (nsInRange (s * 1000000000 + n) ∧ zonedInstNs z + (s * 1000000000 + n) ≤ NS_MAX_DT) →
        Zoned.add_std z s n = .panic)) ∧
    ((nsInRange (s * 1000000000 + n) ∧ NS_MIN ≤ zonedInstNs z - (s * 1000000000 + n) →
        ∃ x, Zoned.sub_std z s n = .ok x ∧ x.off = z.off ∧ NDTInv x.utc ∧ NonLeap x.utc ∧
          zonedInstNs x = zonedInstNs z - (s * 1000000000 + n)) ∧
      (¬ (nsInRange (s * 1000000000 + n) ∧ NS_MIN ≤ zonedInstNs z - (s * 1000000000 + n)) →
        Zoned.sub_std z s n = .panic)) := by
  have ib := inst_bounds dt hdt hnl
  have zb := inst_bounds z.utc hz hzl
  obtain ⟨k1, k2, _⟩ := ns_consts
  by_cases hr : nsInRange (s * 1000000000 + n)
  · obtain ⟨e, di, dn⟩ := from_std_some s n hs hn hr
    obtain ⟨a1, a2⟩ := operator_exact dt ⟨s, n⟩ hdt hnl di
    obtain ⟨b1, b2⟩ := operator_exact_sub dt ⟨s, n⟩ hdt hnl di
    obtain ⟨⟨c1, c2⟩, ⟨d1, d2⟩⟩ := zoned_operator_exact z ⟨s, n⟩ hz hzl di
    rw [dn] at a1 a2 b1 b2 c1 c2 d1 d2
    unfold NaiveDT.add_std NaiveDT.sub_std Zoned.add_std Zoned.sub_std
    rw [e]
    dsimp only
    unfold zonedInstNs at *
    refine ⟨⟨?_, ?_⟩, ⟨?_, ?_⟩, ⟨?_, ?_⟩, ⟨?_, ?_⟩⟩
    · intro hin; exact a1 ⟨by omega, hin.2⟩
    · intro hout; apply a2; intro hc; exact hout ⟨hr, hc.2⟩
    · intro hin
      obtain ⟨x, q0, q1, q2, q3⟩ := b1 ⟨by omega, by omega⟩
      exact ⟨x, q0, q1, q2, by omega⟩
    · intro hout; apply b2; intro hc; exact hout ⟨hr, by omega⟩
    · intro hin
      obtain ⟨x, q0, _, q1, q2, q3, q4⟩ := c1 ⟨by omega, hin.2⟩
      exact ⟨x, q0, q1, q2, q3, q4⟩
    · intro hout; apply (c2 _).1; intro hc; exact hout ⟨hr, hc.2⟩
    · intro hin
      obtain ⟨x, q0, _, q1, q2, q3, q4⟩ := d1 ⟨by omega, by omega⟩
      exact ⟨x, q0, q1, q2, q3, by omega⟩
    · intro hout; apply (d2 _).1; intro hc; exact hout ⟨hr, by omega⟩
  · have e := from_std_none s n hs hn hr
    unfold NaiveDT.add_std NaiveDT.sub_std Zoned.add_std Zoned.sub_std
    rw [e]
    have no : ∀ {p q : Prop}, nsInRange (s * 1000000000 + n) ∧ p → q := fun hin => absurd hin.1 hr
    exact ⟨⟨no, fun _ => rfl⟩, ⟨no, fun _ => rfl⟩, ⟨no, fun _ => rfl⟩, ⟨no, fun _ => rfl⟩⟩

example : NaiveDT.add_std ⟨dateOfYo 2024 1, ⟨0, 0⟩⟩ 86400 1 = .ok ⟨dateOfYo 2024 2, ⟨0, 1⟩⟩ ∧
    NaiveDT.add_std NaiveDT.MIN 16544868105599 999999999 = .ok NaiveDT.MAX ∧
    NaiveDT.add_std NaiveDT.MIN 16544868105600 0 = .panic ∧               -- 1 ns past MAX
    NaiveDT.add_std NaiveDT.MIN 9223372036854775 807000001 = .panic ∧       -- beyond TimeDelta::MAX
    NaiveDT.add_std NaiveDT.MIN 18446744073709551615 0 = .panic ∧
    NaiveDT.sub_std NaiveDT.MIN 0 1 = .panic ∧ NaiveDT.add_std NaiveDT.MAX 0 1 = .panic ∧
    Zoned.sub_std ⟨NaiveDT.MAX, 86399⟩ 0 1 = .ok ⟨⟨Date.MAX, ⟨86399, 999999998⟩⟩, 86399⟩ := by
  decide +kernel

/-! ### order and equality of zone-aware values -/

/-- `Ord`, `PartialOrd` and `PartialEq` of `DateTime<Tz>` are those of the instants: the offsets do
not enter (last conjunct: for every pair of offsets).  The model has ONE zone-aware type, so the
comparison between two different zone TYPES (`impl PartialOrd<DateTime<Tz2>> for DateTime<Tz>`,
e.g. `DateTime<FixedOffset>` against `DateTime<Utc>` or `DateTime<Local>`) is not a separate Lean
statement: that those impls read `self.datetime` / `other.datetime` only is pinned source text and a
harness fact (c03.rs: `z.partial_cmp(&wu)`, `z == wu`, and the `DateTime<Local>` stream) -/
theorem zoned_cmp_instant_order (a b : Zoned) (ha : NDTInv a.utc) (hb : NDTInv b.utc)
    (la : NonLeap a.utc) (lb : NonLeap b.utc) :
    Zoned.cmp a b = sgn (zonedInstNs a - zonedInstNs b) ∧
    Zoned.partial_cmp a b = some (sgn (zonedInstNs a - zonedInstNs b)) ∧
    (Zoned.cmp a b = -1 ↔ zonedInstNs a < zonedInstNs b) ∧
    (Zoned.cmp a b = 0 ↔ zonedInstNs a = zonedInstNs b) ∧
    (Zoned.cmp a b = 1 ↔ zonedInstNs a > zonedInstNs b) ∧
    (Zoned.eq a b = true ↔ zonedInstNs a = zonedInstNs b) ∧
    (∀ oa ob, Zoned.cmp ⟨a.utc, oa⟩ ⟨b.utc, ob⟩ = Zoned.cmp a b) := by
  have hc : Zoned.cmp a b = sgn (zonedInstNs a - zonedInstNs b) := dt_cmp_spec a.utc b.utc ha hb la lb
  obtain ⟨s1, s2, s3⟩ := sgn_iff (zonedInstNs a - zonedInstNs b)
  refine ⟨hc, by unfold Zoned.partial_cmp; exact congrArg some hc, ?_, ?_, ?_, ?_, fun _ _ => rfl⟩
  · rw [hc, s1]; omega
  · rw [hc, s2]; omega
  · rw [hc, s3]; omega
  · unfold Zoned.eq zonedInstNs
    rw [decide_eq_true_iff]
    constructor
    · intro h; rw [h]
    · intro h; exact inst_inj a.utc b.utc ha hb la lb h

example : Zoned.cmp ⟨⟨dateOfYo 2024 1, ⟨0, 0⟩⟩, 86399⟩ ⟨⟨dateOfYo 2024 1, ⟨0, 1⟩⟩, -86399⟩ = -1 ∧
    Zoned.partial_cmp ⟨NaiveDT.MAX, -86399⟩ ⟨NaiveDT.MIN, 86399⟩ = some 1 ∧
    Zoned.eq ⟨⟨dateOfYo 2024 1, ⟨0, 0⟩⟩, 3600⟩ ⟨⟨dateOfYo 2024 1, ⟨0, 0⟩⟩, -3600⟩ = true := by decide +kernel

/-- fused: once `next` (`next_back`) has returned `None` it returns `None` on every further call — the
refused call leaves the cursor where it was (`FusedIterator`) -/
theorem iter_fused (v : Date) (k : Nat) :
    (DaysIter.next v = .ok none →
      runScript DaysIter.next DaysIter.next_back (List.replicate k false) v = .ok (List.replicate k none)) ∧
    (DaysIter.next_back v = .ok none →
      runScript DaysIter.next DaysIter.next_back (List.replicate k true) v = .ok (List.replicate k none)) ∧
    (WeeksIter.next v = .ok none →
      runScript WeeksIter.next WeeksIter.next_back (List.replicate k false) v = .ok (List.replicate k none)) ∧
    (WeeksIter.next_back v = .ok none →
      runScript WeeksIter.next WeeksIter.next_back (List.replicate k true) v = .ok (List.replicate k none)) :=
  ⟨fun h => fused DaysIter.next DaysIter.next_back v false h k,
   fun h => fused DaysIter.next DaysIter.next_back v true h k,
   fun h => fused WeeksIter.next WeeksIter.next_back v false h k,
   fun h => fused WeeksIter.next WeeksIter.next_back v true h k⟩

example : DaysIter.next Date.MAX = .ok none ∧ WeeksIter.next_back (dateOfYo (-262143) 7) = .ok none ∧
    runScript DaysIter.next DaysIter.next_back [false, false, false] Date.MAX = .ok [none, none, none] := by
  decide +kernel

/-- the cursor after `k` successful forward (backward) calls — what `Iterator::nth(k)` /
`advance_by(k)` (std default methods: `k` calls of `next`) leave behind: the date exactly `k`
(`7k`) days later (earlier), or exhaustion exactly when that day is outside the range -/
theorem iter_nth_state (v : Date) (k : Nat) (h : DateInv v) :
    (∃ r, stateAfter DaysIter.next k v = .ok r ∧ IsDayShift v k r) ∧
    (∃ r, stateAfter DaysIter.next_back k v = .ok r ∧ IsDayShift v (-k) r) ∧
    (∃ r, stateAfter WeeksIter.next k v = .ok r ∧ IsDayShift v (7 * k) r) ∧
    (∃ r, stateAfter WeeksIter.next_back k v = .ok r ∧ IsDayShift v (-(7 * k)) r) := by
  obtain ⟨r1, a1, b1⟩ := stateAfter_spec days_next_steps k v h
  obtain ⟨r2, a2, b2⟩ := stateAfter_spec days_back_steps k v h
  obtain ⟨r3, a3, b3⟩ := stateAfter_spec weeks_next_steps k v h
  obtain ⟨r4, a4, b4⟩ := stateAfter_spec weeks_back_steps k v h
  exact ⟨⟨r1, a1, dshift_congr v v _ _ r1 (by omega) b1⟩, ⟨r2, a2, dshift_congr v v _ _ r2 (by omega) b2⟩,
    ⟨r3, a3, dshift_congr v v _ _ r3 (by omega) b3⟩, ⟨r4, a4, dshift_congr v v _ _ r4 (by omega) b4⟩⟩

/-- `count()` and `last()` of a forward iterator (std default methods: drain with `next`): the number
of items is the length hint, and the last item is the last day (week step) before `NaiveDate::MAX`
is reached: day number `dayNum start + (hint − 1)` (`+ 7·(hint − 1)`) -/
theorem iter_count_last (v : Date) (fuel : Nat) (h : DateInv v) (hf : DN_MAX - dayNumOf v < fuel) :
    (∃ items, drain DaysIter.next fuel v = .ok (items, true) ∧
      DaysIter.size_hint_pair v = .ok ((items.length : Int), some (items.length : Int)) ∧
      ∀ (hne : items ≠ []), DateInv (items.getLast hne) ∧ dayNumOf (items.getLast hne) = DN_MAX - 1) ∧
    (∃ items, drain WeeksIter.next fuel v = .ok (items, true) ∧
      WeeksIter.size_hint_pair v = .ok ((items.length : Int), some (items.length : Int)) ∧
      ∀ (hne : items ≠ []), DateInv (items.getLast hne) ∧
        dayNumOf (items.getLast hne) = dayNumOf v + 7 * ((DN_MAX - dayNumOf v) / 7 - 1)) := by
  obtain ⟨p1, p2⟩ := hint_pair_spec v h
  obtain ⟨f1, f2, _, _⟩ := stepsFit_eq (dayNumOf v)
  have hb := (dn_range v h).2
  obtain ⟨items, a, l, _, g⟩ := drain_complete (by omega) days_next_steps fuel v h (by omega)
  obtain ⟨items', a', l', _, g'⟩ := drain_complete (by omega) weeks_next_steps fuel v h (by omega)
  refine ⟨⟨items, a, by rw [l]; exact p1, fun hne => ?_⟩, ⟨items', a', by rw [l']; exact p2, fun hne => ?_⟩⟩
  · obtain ⟨g1, g2⟩ := g hne
    exact ⟨g1, by rw [g2, f1]; omega⟩
  · obtain ⟨g1, g2⟩ := g' hne
    exact ⟨g1, by rw [g2, f2]; omega⟩

example : stateAfter DaysIter.next 2 (dateOfYo 262142 363) = .ok (some Date.MAX) ∧
    stateAfter DaysIter.next 3 (dateOfYo 262142 363) = .ok none ∧
    stateAfter WeeksIter.next_back 1 (dateOfYo (-262143) 8) = .ok (some Date.MIN) ∧
    stateAfter WeeksIter.next_back 2 (dateOfYo (-262143) 8) = .ok none := by decide +kernel

/-- the order of zone-aware values for ALL valid operands, leap-second representations included:
lexicographic on (whole seconds since the epoch, nanosecond field) — for non-leap operands this is
the order of instants (`zoned_cmp_instant_order`); a leap-second representation `:59.1xxxxxxxxx`
sorts after every `:59.0…` and before `:00` of the next minute -/
theorem zoned_cmp_general (a b : Zoned) (ha : NDTInv a.utc) (hb : NDTInv b.utc) :
    Zoned.cmp a b =
      sgn ((instSecs a.utc - instSecs b.utc) * 2000000000 + (a.utc.time.frac - b.utc.time.frac)) ∧
    NaiveDT.cmp a.utc b.utc = Zoned.cmp a b :=
  ⟨dt_cmp_general a.utc b.utc ha hb, rfl⟩

example : Zoned.cmp ⟨⟨dateOfYo 2016 366, ⟨86399, 1500000000⟩⟩, 0⟩ ⟨⟨dateOfYo 2017 1, ⟨0, 0⟩⟩, 3600⟩ = -1 ∧
    Zoned.cmp ⟨⟨dateOfYo 2016 366, ⟨86399, 1500000000⟩⟩, 0⟩ ⟨⟨dateOfYo 2016 366, ⟨86399, 999999999⟩⟩, 0⟩ = 1 := by
  decide +kernel

/-! ### range ends -/

/-- the steps from either range end into the range, whatever the offset: the result is the valid
non-leap date-time at exactly that instant (hence unique, `instant_injective`), with the offset kept -/
theorem zoned_range_ends_exact (off : Int) (δ : Delta) (hδ : DInv δ)
    (hin : 0 ≤ ns δ ∧ ns δ ≤ NS_MAX_DT - NS_MIN) :
    (∃ r, Zoned.checked_sub_signed ⟨NaiveDT.MAX, off⟩ δ = .ok (r.map fun x => ⟨x, off⟩) ∧
      IsInstShift NaiveDT.MAX (-(ns δ)) r ∧ r ≠ none) ∧
    (∃ r, Zoned.checked_add_signed ⟨NaiveDT.MIN, off⟩ δ = .ok (r.map fun y => ⟨y, off⟩) ∧
      IsInstShift NaiveDT.MIN (ns δ) r ∧ r ≠ none) := by
  obtain ⟨_, _, _, _, i1, i2, l1, l2, _⟩ := range_ends
  obtain ⟨k1, k2, _⟩ := ns_consts
  have m1 : instNs NaiveDT.MAX = NS_MAX_DT := rfl
  have m2 : instNs NaiveDT.MIN = NS_MIN := rfl
  obtain ⟨r, a0, a1⟩ := sub_exact NaiveDT.MAX δ i2 l2 hδ
  obtain ⟨r', b0, b1⟩ := add_exact NaiveDT.MIN δ i1 l1 hδ
  refine ⟨⟨r, ?_, a1, fun e => ?_⟩, ⟨r', ?_, b1, fun e => ?_⟩⟩
  · rw [zoned_sub_eq]; dsimp only; rw [a0, rbind_ok]
  · have := a1.1.mp e; rw [m1] at this; omega
  · rw [zoned_add_eq]; dsimp only; rw [b0, rbind_ok]
  · have := b1.1.mp e; rw [m2] at this; omega

/-- `DateTime<FixedOffset>` at the range ends: whatever the offset (even when the wall-clock reading
lies outside the `NaiveDateTime` range), the last representable instant refuses every positive
duration and the first every negative one, steps inside the range land on the stated instant (the
second conjunct gives the instants only; `zoned_range_ends_exact` gives the full `IsInstShift`
statement — valid, non-leap, unique), and the distance between the ends is the full range -/
theorem zoned_range_ends (off off' : Int) (δ : Delta) (hδ : DInv δ) :
    (0 < ns δ → Zoned.checked_add_signed ⟨NaiveDT.MAX, off⟩ δ = .ok none ∧
      Zoned.checked_sub_signed ⟨NaiveDT.MIN, off⟩ δ = .ok none) ∧
    (0 ≤ ns δ ∧ ns δ ≤ NS_MAX_DT - NS_MIN →
      ∃ x y, Zoned.checked_sub_signed ⟨NaiveDT.MAX, off⟩ δ = .ok (some ⟨x, off⟩) ∧
        instNs x = NS_MAX_DT - ns δ ∧
        Zoned.checked_add_signed ⟨NaiveDT.MIN, off⟩ δ = .ok (some ⟨y, off⟩) ∧
        instNs y = NS_MIN + ns δ) ∧
    Zoned.signed_duration_since ⟨NaiveDT.MAX, off⟩ ⟨NaiveDT.MIN, off'⟩ = .ok ⟨16544868105599, 999999999⟩ ∧
    Zoned.signed_duration_since ⟨NaiveDT.MIN, off⟩ ⟨NaiveDT.MAX, off'⟩ = .ok ⟨-16544868105600, 1⟩ := by
  obtain ⟨_, _, _, _, i1, i2, l1, l2, _⟩ := range_ends
  have m1 : instNs NaiveDT.MAX = NS_MAX_DT := rfl
  have m2 : instNs NaiveDT.MIN = NS_MIN := rfl
  refine ⟨fun hpos => ?_, fun hin => ?_,
    by show NaiveDT.signed_duration_since NaiveDT.MAX NaiveDT.MIN = _; decide +kernel,
    by show NaiveDT.signed_duration_since NaiveDT.MIN NaiveDT.MAX = _; decide +kernel⟩
  · obtain ⟨r, a0, a1⟩ := add_exact NaiveDT.MAX δ i2 l2 hδ
    obtain ⟨r', b0, b1⟩ := sub_exact NaiveDT.MIN δ i1 l1 hδ
    rw [zoned_add_eq, zoned_sub_eq]
    dsimp only
    rw [a0, b0, a1.1.mpr (by rw [m1]; omega), b1.1.mpr (by rw [m2]; omega)]
    exact ⟨rfl, rfl⟩
  · obtain ⟨⟨r, a0, a1, an⟩, ⟨r', b0, b1, bn⟩⟩ := zoned_range_ends_exact off δ hδ hin
    obtain ⟨x, rfl⟩ := Option.ne_none_iff_exists'.mp an
    obtain ⟨y, rfl⟩ := Option.ne_none_iff_exists'.mp bn
    have ex := (a1.2 x rfl).2.2
    have ey := (b1.2 y rfl).2.2
    rw [m1] at ex
    rw [m2] at ey
    exact ⟨x, y, a0, by omega, b0, ey⟩

example : Zoned.checked_sub_signed ⟨NaiveDT.MAX, 86399⟩ ⟨16544868105599, 999999999⟩ =
      .ok (some ⟨NaiveDT.MIN, 86399⟩) ∧
    Zoned.checked_add_signed ⟨NaiveDT.MIN, -86399⟩ ⟨16544868105599, 999999999⟩ =
      .ok (some ⟨NaiveDT.MAX, -86399⟩) ∧
    Zoned.checked_add_signed ⟨NaiveDT.MAX, -86399⟩ ⟨0, 1⟩ = .ok none ∧
    Zoned.checked_sub_signed ⟨NaiveDT.MIN, 86399⟩ ⟨0, 1⟩ = .ok none := by decide +kernel

/-- `NaiveDate::signed_duration_since` at its extremes: every difference lies within ± the full range
(191 491 528 days), and the extremes are attained by `MAX − MIN` and `MIN − MAX` only -/
theorem date_diff_extremes (a b : Date) (ha : DateInv a) (hb : DateInv b) :
    ∃ δ, Date.signed_duration_since a b = .ok δ ∧ DInv δ ∧
      -(191491528 * NS_PER_DAY) ≤ ns δ ∧ ns δ ≤ 191491528 * NS_PER_DAY ∧
      (ns δ = 191491528 * NS_PER_DAY ↔ (a = Date.MAX ∧ b = Date.MIN)) ∧
      (ns δ = -(191491528 * NS_PER_DAY) ↔ (a = Date.MIN ∧ b = Date.MAX)) := by
  obtain ⟨h1, h2, h3, _⟩ := date_diff_exact a b ha hb
  obtain ⟨e1, e2, e3, e4⟩ := ends_inv
  have ba := dn_bounds a ha
  have bb := dn_bounds b hb
  have hN : NS_PER_DAY = 86400000000000 := rfl
  refine ⟨_, h1, h2, ?_, ?_, ?_, ?_⟩
  · rw [h3, hN]; omega
  · rw [h3, hN]; omega
  · rw [h3, hN]
    constructor
    · intro h
      exact ⟨dayNum_inj a Date.MAX ha e2 (by omega), dayNum_inj b Date.MIN hb e1 (by omega)⟩
    · rintro ⟨rfl, rfl⟩; rw [e3, e4]; omega
  · rw [h3, hN]
    constructor
    · intro h
      exact ⟨dayNum_inj a Date.MIN ha e1 (by omega), dayNum_inj b Date.MAX hb e2 (by omega)⟩
    · rintro ⟨rfl, rfl⟩; rw [e3, e4]; omega

/-! ## Second review (audit2/C03.md), closed 2026-09-30 round 2 -/

/-! ### G1 — "end at the range limit": the iterators stop ONE STEP SHORT of it (reported as F34) -/

/-- What the iterators do at the range limit, for every valid start and every number of calls: no
forward drain ever contains `NaiveDate::MAX` and no backward drain `NaiveDate::MIN` (`next` computes
the successor BEFORE handing out the cursor: `self.value = current.succ_opt()?`), a week iterator
started within 6 days of the end yields nothing — not even its start date —, and
`MAX.iter_days().next()` / `MIN.iter_days().next_back()` are `None`.  The crate's own tests
`test_day_iterator_limit` / `test_week_iterator_limit` pin this behaviour; the property's clause
"end at the range limit", read as "the last representable date is the last item", is therefore
FALSE for the crate (`iter_limit_counterexample`); `iter_days_nth` / `iter_weeks_nth` prove the
reading "every step that fits strictly before the limit is taken". -/
theorem iter_never_yields_limit (v : Date) (fuel : Nat) (h : DateInv v) :
    (∀ items fin, drain DaysIter.next fuel v = .ok (items, fin) → Date.MAX ∉ items) ∧
    (∀ items fin, drain WeeksIter.next fuel v = .ok (items, fin) → Date.MAX ∉ items) ∧
    (∀ items fin, drain DaysIter.next_back fuel v = .ok (items, fin) → Date.MIN ∉ items) ∧
    (∀ items fin, drain WeeksIter.next_back fuel v = .ok (items, fin) → Date.MIN ∉ items) ∧
    (DN_MAX - dayNumOf v < 7 → drain WeeksIter.next (fuel + 1) v = .ok ([], true)) ∧
    (dayNumOf v - DN_MIN < 7 → drain WeeksIter.next_back (fuel + 1) v = .ok ([], true)) ∧
    (v = Date.MAX → drain DaysIter.next (fuel + 1) v = .ok ([], true)) ∧
    (v = Date.MIN → drain DaysIter.next_back (fuel + 1) v = .ok ([], true)) := by
  obtain ⟨c1, c2, _⟩ := dn_consts
  obtain ⟨_, _, e3, e4⟩ := ends_inv
  -- an item has a step in front of it (`drain_items_fit`); the limit in the direction of travel has none
  have fwd : ∀ next s, 0 < s → StepsBy next s → ∀ items fin,
      drain next fuel v = .ok (items, fin) → Date.MAX ∉ items := by
    intro next s hs hst items fin hd hm
    have := drain_items_fit (by omega) hst fuel v items fin h hd _ hm
    rw [e4, c2] at this
    omega
  have bwd : ∀ next s, s < 0 → StepsBy next s → ∀ items fin,
      drain next fuel v = .ok (items, fin) → Date.MIN ∉ items := by
    intro next s hs hst items fin hd hm
    have := drain_items_fit (by omega) hst fuel v items fin h hd _ hm
    rw [e3, c1] at this
    omega
  exact ⟨fwd _ 1 (by omega) days_next_steps, fwd _ 7 (by omega) weeks_next_steps,
    bwd _ (-1) (by omega) days_back_steps, bwd _ (-7) (by omega) weeks_back_steps,
    fun hlt => drain_refused weeks_next_steps v h fuel (by omega),
    fun hlt => drain_refused weeks_back_steps v h fuel (by omega),
    fun hv => drain_refused days_next_steps v h fuel (by rw [hv, e4, c2]; omega),
    fun hv => drain_refused days_back_steps v h fuel (by rw [hv, e3, c1]; omega)⟩

/-- exactly which dates a complete drain yields, every valid start: forward by days the valid dates
`d` with `start ≤ d < MAX` (half-open: `MAX` excluded), forward by weeks those `start + 7k` with
`start + 7k + 7 ≤ MAX` (the date is yielded only if the NEXT step still fits), backward the mirror
images toward `MIN` (`MIN` excluded; `start − 7k − 7 ≥ MIN`) -/
theorem iter_yields_exactly (v : Date) (fuel : Nat) (h : DateInv v) :
    (DN_MAX - dayNumOf v < fuel → ∃ items, drain DaysIter.next fuel v = .ok (items, true) ∧
      ∀ x, x ∈ items ↔ (DateInv x ∧ dayNumOf v ≤ dayNumOf x ∧ dayNumOf x < DN_MAX)) ∧
    ((DN_MAX - dayNumOf v) / 7 < fuel → ∃ items, drain WeeksIter.next fuel v = .ok (items, true) ∧
      ∀ x, x ∈ items ↔ (DateInv x ∧ dayNumOf v ≤ dayNumOf x ∧ (dayNumOf x - dayNumOf v) % 7 = 0 ∧
        dayNumOf x + 7 ≤ DN_MAX)) ∧
    (dayNumOf v - DN_MIN < fuel → ∃ items, drain DaysIter.next_back fuel v = .ok (items, true) ∧
      ∀ x, x ∈ items ↔ (DateInv x ∧ DN_MIN < dayNumOf x ∧ dayNumOf x ≤ dayNumOf v)) ∧
    ((dayNumOf v - DN_MIN) / 7 < fuel → ∃ items, drain WeeksIter.next_back fuel v = .ok (items, true) ∧
      ∀ x, x ∈ items ↔ (DateInv x ∧ dayNumOf x ≤ dayNumOf v ∧ (dayNumOf v - dayNumOf x) % 7 = 0 ∧
        DN_MIN ≤ dayNumOf x - 7)) := by
  have hb := dn_range v h
  -- `drain_complete` gives membership as "`k` steps from the start and a step still in front";
  -- per direction and step this is rewritten into the closed form, the witness being the quotient
  refine ⟨fun hf => ?_, fun hf => ?_, fun hf => ?_, fun hf => ?_⟩
  · obtain ⟨items, a, _, m, _⟩ := drain_complete (by omega) days_next_steps fuel v h (by rw [(stepsFit_eq _).1]; exact hf)
    refine ⟨items, a, fun x => (m x).trans (and_congr_right fun _ => ⟨?_, fun l => ?_⟩)⟩
    · rintro ⟨⟨k, e⟩, l⟩; omega
    · exact ⟨⟨(dayNumOf x - dayNumOf v).toNat, by omega⟩, by omega⟩
  · obtain ⟨items, a, _, m, _⟩ := drain_complete (by omega) weeks_next_steps fuel v h (by rw [(stepsFit_eq _).2.1]; exact hf)
    refine ⟨items, a, fun x => (m x).trans (and_congr_right fun _ => ⟨?_, fun l => ?_⟩)⟩
    · rintro ⟨⟨k, e⟩, l⟩; omega
    · exact ⟨⟨((dayNumOf x - dayNumOf v) / 7).toNat, by omega⟩, by omega⟩
  · obtain ⟨items, a, _, m, _⟩ := drain_complete (by omega) days_back_steps fuel v h (by rw [(stepsFit_eq _).2.2.1]; exact hf)
    refine ⟨items, a, fun x => (m x).trans (and_congr_right fun _ => ⟨?_, fun l => ?_⟩)⟩
    · rintro ⟨⟨k, e⟩, l⟩; omega
    · exact ⟨⟨(dayNumOf v - dayNumOf x).toNat, by omega⟩, by omega⟩
  · obtain ⟨items, a, _, m, _⟩ := drain_complete (by omega) weeks_back_steps fuel v h (by rw [(stepsFit_eq _).2.2.2]; exact hf)
    refine ⟨items, a, fun x => (m x).trans (and_congr_right fun _ => ⟨?_, fun l => ?_⟩)⟩
    · rintro ⟨⟨k, e⟩, l⟩; omega
    · exact ⟨⟨((dayNumOf v - dayNumOf x) / 7).toNat, by omega⟩, by omega⟩

/-- kernel-checked counterexample to the literal reading of "end at the range limit" (F34), one per
iterator kind and direction: the limit date is never handed out, and a week iterator that starts
less than a week before the limit hands out nothing -/
theorem iter_limit_counterexample :
    drain DaysIter.next 3 Date.MAX = .ok ([], true) ∧
    drain DaysIter.next 3 (dateOfYo 262142 364) = .ok ([dateOfYo 262142 364], true) ∧
    drain WeeksIter.next 3 (dateOfYo 262142 359) = .ok ([], true) ∧
    drain WeeksIter.next 3 (dateOfYo 262142 358) = .ok ([dateOfYo 262142 358], true) ∧
    drain DaysIter.next_back 3 Date.MIN = .ok ([], true) ∧
    drain DaysIter.next_back 3 (dateOfYo (-262143) 2) = .ok ([dateOfYo (-262143) 2], true) ∧
    drain WeeksIter.next_back 3 (dateOfYo (-262143) 7) = .ok ([], true) ∧
    drain WeeksIter.next_back 3 (dateOfYo (-262143) 8) = .ok ([dateOfYo (-262143) 8], true) ∧
    Date.MAX = dateOfYo 262142 365 ∧ Date.MIN = dateOfYo (-262143) 1 := by decide +kernel

/-- "end at the range limit" in the literal reading, PARTIAL: the last item of a complete forward
day drain is the day BEFORE `MAX` (hypothesis-free), and it is the range limit itself in no case —
what is missing from the property's clause is exactly the final step (`iter_never_yields_limit`) -/
theorem iter_ends_at_limit_partial (v : Date) (fuel : Nat) (h : DateInv v) (hf : DN_MAX - dayNumOf v < fuel) :
    ∃ items, drain DaysIter.next fuel v = .ok (items, true) ∧
      ∀ (hne : items ≠ []), dayNumOf (items.getLast hne) = dayNumOf Date.MAX - 1 ∧
        items.getLast hne ≠ Date.MAX := by
  obtain ⟨⟨items, a, _, l⟩, _⟩ := iter_count_last v fuel h hf
  obtain ⟨_, c2, _⟩ := dn_consts
  obtain ⟨_, _, _, e4⟩ := ends_inv
  refine ⟨items, a, fun hne => ?_⟩
  obtain ⟨_, l2⟩ := l hne
  refine ⟨by rw [l2, e4, c2], fun e => ?_⟩
  rw [e, e4, c2] at l2
  omega

example : DateInv (dateOfYo 262142 360) ∧ DN_MAX - dayNumOf (dateOfYo 262142 360) = 5 ∧
    drain WeeksIter.next 1 (dateOfYo 262142 360) = .ok ([], true) ∧
    drain DaysIter.next 9 (dateOfYo 262142 363) = .ok ([dateOfYo 262142 363, dateOfYo 262142 364], true) := by
  decide +kernel

/-! ### G5 — the `a - b` operator impls -/

/-- `impl Sub<NaiveDate> for NaiveDate`, `Sub<NaiveDateTime> for NaiveDateTime`,
`Sub<DateTime<Tz>>` and `Sub<&DateTime<Tz>> for DateTime<Tz>` are `signed_duration_since` (by their
source text; pinned), so for valid (non-leap) operands they never panic and are the exact distance -/
theorem diff_operators_agree (a b : Date) (x y : NaiveDT) (z w : Zoned) :
    Date.sub_date a b = Date.signed_duration_since a b ∧
    NaiveDT.sub_dt x y = NaiveDT.signed_duration_since x y ∧
    Zoned.sub_zoned z w = Zoned.signed_duration_since z w ∧
    Zoned.sub_zoned_ref z w = Zoned.signed_duration_since z w ∧
    (DateInv a → DateInv b → Date.sub_date a b = .ok (ofNs ((dayNumOf a - dayNumOf b) * NS_PER_DAY))) ∧
    (NDTInv x → NDTInv y → NonLeap x → NonLeap y →
      NaiveDT.sub_dt x y = .ok (ofNs (instNs x - instNs y))) ∧
    (NDTInv z.utc → NDTInv w.utc → NonLeap z.utc → NonLeap w.utc →
      Zoned.sub_zoned z w = .ok (ofNs (zonedInstNs z - zonedInstNs w)) ∧
      Zoned.sub_zoned_ref z w = .ok (ofNs (zonedInstNs z - zonedInstNs w))) :=
  ⟨rfl, rfl, rfl, rfl, fun ha hb => (date_diff_exact a b ha hb).1,
   fun hx hy lx ly => (diff_exact x y hx hy lx ly).1,
   fun hz hw lz lw => ⟨(zoned_diff z w hz hw lz lw).1, (zoned_diff z w hz hw lz lw).1⟩⟩

/-! ### G2 — the derived comparisons of `NaiveDateTime` -/

/-- derived `PartialOrd` / `PartialEq` / `<` / `max` of `NaiveDateTime` against derived `Ord` (all
field by field in declaration order): one order; for valid non-leap values it is the order of the
instants -/
theorem ndt_derived_order (a b : NaiveDT) :
    NaiveDT.partial_cmp a b = some (NaiveDT.cmp a b) ∧
    (NaiveDT.eq a b = true ↔ a = b) ∧
    (NaiveDT.eq a b = true ↔ NaiveDT.cmp a b = 0) ∧
    (NaiveDT.lt a b = true ↔ NaiveDT.cmp a b = -1) ∧
    (NDTInv a → NDTInv b → NonLeap a → NonLeap b →
      (NaiveDT.eq a b = true ↔ instNs a = instNs b) ∧ (NaiveDT.lt a b = true ↔ instNs a < instNs b) ∧
      (NaiveDT.max a b = a ∨ NaiveDT.max a b = b) ∧ instNs (NaiveDT.max a b) = Max.max (instNs a) (instNs b)) := by
  have hp : ∀ a b : NaiveDT, NaiveDT.partial_cmp a b = some (NaiveDT.cmp a b) := by
    intro a b
    unfold NaiveDT.partial_cmp NaiveDT.cmp
    dsimp only
    split
    · rename_i e; rw [e]; rfl
    · rename_i c hc; rw [if_pos hc]
  have he : NaiveDT.eq a b = true ↔ a = b := by
    obtain ⟨⟨ay⟩, ⟨as, af⟩⟩ := a
    obtain ⟨⟨by'⟩, ⟨bs, bf⟩⟩ := b
    unfold NaiveDT.eq
    simp only [Bool.and_eq_true, decide_eq_true_eq, NaiveDT.mk.injEq, Date.mk.injEq, Time.mk.injEq]
  have hl : ∀ a b : NaiveDT, NaiveDT.lt a b = true ↔ NaiveDT.cmp a b = -1 := by
    intro a b
    unfold NaiveDT.lt
    rw [hp]
    simp
  refine ⟨hp a b, he, by rw [he, dt_cmp_eq_zero], hl a b, ?_⟩
  intro ha hb la lb
  have e1 : NaiveDT.eq a b = true ↔ instNs a = instNs b := by
    rw [he]
    exact ⟨fun h => by rw [h], fun h => inst_inj a b ha hb la lb h⟩
  have e2 : NaiveDT.lt a b = true ↔ instNs a < instNs b := by
    rw [hl, dt_cmp_spec a b ha hb la lb, (sgn_iff _).1]; omega
  have e3 : NaiveDT.lt b a = true ↔ instNs b < instNs a := by
    rw [hl, dt_cmp_spec b a hb ha lb la, (sgn_iff _).1]; omega
  refine ⟨e1, e2, ?_, ?_⟩
  · unfold NaiveDT.max; split <;> simp
  · unfold NaiveDT.max
    by_cases hlt : NaiveDT.lt b a = true
    · rw [if_pos hlt]; have := e3.mp hlt; omega
    · rw [if_neg hlt]; have : ¬ instNs b < instNs a := fun h => hlt (e3.mpr h); omega

example : NaiveDT.partial_cmp ⟨dateOfYo 2024 2, ⟨0, 0⟩⟩ ⟨dateOfYo 2024 1, ⟨86399, 999999999⟩⟩ = some 1 ∧
    NaiveDT.lt NaiveDT.MIN NaiveDT.MAX = true ∧ NaiveDT.eq NaiveDT.MIN NaiveDT.MIN = true ∧
    NaiveDT.eq NaiveDT.MIN NaiveDT.MAX = false ∧ NaiveDT.max NaiveDT.MIN NaiveDT.MAX = NaiveDT.MAX := by
  decide +kernel

/-! ### G3 — end to end: the code translated from the Rust source meets the specification

`Gen.*` are the Lean definitions that tools/extractors/rust2lean.py regenerates from `/repo/src` on
every run; `Props.Gen*.gen_*_eq` prove them equal to the hand-written model under field-width
hypotheses (`DateOk`, `DFields`, `U32Fields`).  The bridges below derive those hypotheses from the
property's invariants, and the `*_gen` theorems compose the two layers: translated code =
specification, with no reference to the model in the statement.  `ndtG` / `dG` / `Date.yof` are the
(injective) readings of a model value as a value of the generated structures. -/

open Chrono.Props.GenDateTime (ndtG DateOk) in
/-- a valid date is an `i32` word with a non-zero ordinal field -/
theorem dateOk_of_inv (d : Date) (h : DateInv d) : DateOk d := by
  obtain ⟨h1, h2, h3, _⟩ := h
  have e1 : MIN_YEAR = -262143 := rfl
  have e2 : MAX_YEAR = 262142 := rfl
  unfold Date.year at h1 h2
  unfold DateOk
  exact ⟨by omega, h3⟩

/-- a `TimeDelta` within its invariant has `i64` seconds and `i32` nanoseconds -/
theorem dfields_of_inv (δ : Delta) (h : DInv δ) : GenTimeL.DFields δ := by
  obtain ⟨h1, h2, h3⟩ := h
  unfold nsInRange NS_MAX ns at h3
  unfold GenTimeL.DFields
  omega

/-- a valid time of day has `u32` fields -/
theorem u32fields_of_valid (t : Time) (h : TValid t) : GenTimeL.U32Fields t := by
  unfold TValid at h
  unfold GenTimeL.U32Fields
  omega

/-- the readings are injective: a result of the translated code determines the model value -/
theorem gen_readings_injective :
    (∀ a b : NaiveDT, GenDateTime.ndtG a = GenDateTime.ndtG b → a = b) ∧
    (∀ a b : Delta, GenL.dG a = GenL.dG b → a = b) ∧ (∀ a b : Date, a.yof = b.yof → a = b) := by
  refine ⟨?_, ?_, ?_⟩
  · rintro ⟨⟨ay⟩, ⟨as, af⟩⟩ ⟨⟨by'⟩, ⟨bs, bf⟩⟩ h
    simp only [GenDateTime.ndtG, GenTimeL.tG, Gen.naive_datetime.NaiveDateTime.mk.injEq,
      Gen.naive_time.NaiveTime.mk.injEq] at h
    obtain ⟨h1, h2, h3⟩ := h
    subst h1; subst h2; subst h3; rfl
  · rintro ⟨as, an⟩ ⟨bs, bn⟩ h
    simp only [GenL.dG, Gen.time_delta.TimeDelta.mk.injEq] at h
    obtain ⟨h1, h2⟩ := h
    subst h1; subst h2; rfl
  · rintro ⟨a⟩ ⟨b⟩ h
    dsimp only at h
    subst h; rfl

/-- translated `NaiveDateTime::checked_add_signed` / `checked_sub_signed`: exact in nanoseconds or
refused, never a panic (clause 1 on the translated code) -/
theorem add_exact_gen (dt : NaiveDT) (δ : Delta) (hdt : NDTInv dt) (hnl : NonLeap dt) (hδ : DInv δ) :
    (∃ r, Gen.naive_datetime.NaiveDateTime.checked_add_signed (GenDateTime.ndtG dt) (GenL.dG δ)
        = .ok (r.map GenDateTime.ndtG) ∧ IsInstShift dt (ns δ) r) ∧
    (∃ r, Gen.naive_datetime.NaiveDateTime.checked_sub_signed (GenDateTime.ndtG dt) (GenL.dG δ)
        = .ok (r.map GenDateTime.ndtG) ∧ IsInstShift dt (-(ns δ)) r) := by
  obtain ⟨r, h0, h1⟩ := add_exact dt δ hdt hnl hδ
  obtain ⟨r', g0, g1⟩ := sub_exact dt δ hdt hnl hδ
  refine ⟨⟨r, ?_, h1⟩, ⟨r', ?_, g1⟩⟩
  · rw [GenDateTime.gen_checked_add_signed_eq dt δ (dateOk_of_inv _ hdt.1) (dfields_of_inv δ hδ), h0]; rfl
  · rw [GenDateTime.gen_checked_sub_signed_eq dt δ (dateOk_of_inv _ hdt.1), g0]; rfl

/-- translated `NaiveDateTime::signed_duration_since`: the exact signed distance (clause 2) -/
theorem diff_exact_gen (a b : NaiveDT) (ha : NDTInv a) (hb : NDTInv b) (la : NonLeap a) (lb : NonLeap b) :
    Gen.naive_datetime.NaiveDateTime.signed_duration_since (GenDateTime.ndtG a) (GenDateTime.ndtG b)
      = .ok (GenL.dG (ofNs (instNs a - instNs b))) ∧
    ns (ofNs (instNs a - instNs b)) = instNs a - instNs b := by
  obtain ⟨h1, _, h3⟩ := diff_exact a b ha hb la lb
  refine ⟨?_, h3⟩
  rw [GenDateTime.gen_signed_duration_since_eq a b (dateOk_of_inv _ ha.1) (dateOk_of_inv _ hb.1)
    (u32fields_of_valid _ ha.2) (u32fields_of_valid _ hb.2), h1]
  rfl

/-- translated `NaiveDateTime::checked_add_days` / `checked_sub_days` (leap-second representations
included): the date part moves by exactly the count or the call is refused; the time is kept -/
theorem ndt_days_exact_gen (dt : NaiveDT) (c : Int) (h : NDTInv dt) (hc : 0 ≤ c ∧ c ≤ 18446744073709551615) :
    (∃ r, Gen.naive_datetime.NaiveDateTime.checked_add_days (GenDateTime.ndtG dt) c
        = .ok (r.map GenDateTime.ndtG) ∧ IsDayShift dt.date c (r.map (·.date)) ∧
      ∀ x, r = some x → x.time = dt.time ∧ instNs x = instNs dt + c * NS_PER_DAY) ∧
    (∃ r, Gen.naive_datetime.NaiveDateTime.checked_sub_days (GenDateTime.ndtG dt) c
        = .ok (r.map GenDateTime.ndtG) ∧ IsDayShift dt.date (-c) (r.map (·.date)) ∧
      ∀ x, r = some x → x.time = dt.time ∧ instNs x = instNs dt - c * NS_PER_DAY) := by
  obtain ⟨⟨r, a0, a1, a2⟩, ⟨r', b0, b1, b2⟩⟩ := ndt_days_exact dt c h hc
  refine ⟨⟨r, ?_, a1, fun x hx => ⟨(a2 x hx).1, (a2 x hx).2.2⟩⟩,
    ⟨r', ?_, b1, fun x hx => ⟨(b2 x hx).1, (b2 x hx).2.2⟩⟩⟩
  · rw [GenDateTime.gen_checked_add_days_eq dt c (dateOk_of_inv _ h.1), a0]; rfl
  · rw [GenDateTime.gen_checked_sub_days_eq dt c (dateOk_of_inv _ h.1), b0]; rfl

/-- translated `NaiveDate::add_days`, `checked_add_days`, `checked_sub_days`, `checked_add_signed`,
`checked_sub_signed`, `succ_opt` (the step of `iter_days`): the day number moves by exactly the
count / the whole days of the duration / one, or the call is refused exactly outside the range
(clause 3 on the translated code) -/
theorem date_shift_gen (d : Date) (n c : Int) (δ : Delta) (hd : DateInv d)
    (hn : -2147483648 ≤ n ∧ n ≤ 2147483647) (hc : 0 ≤ c ∧ c ≤ 18446744073709551615) (hδ : DInv δ) :
    (∃ r, Gen.naive_date.NaiveDate.add_days d.yof n = .ok (r.map Date.yof) ∧ IsDayShift d n r) ∧
    (∃ r, Gen.naive_date.NaiveDate.checked_add_days d.yof c = .ok (r.map Date.yof) ∧ IsDayShift d c r) ∧
    (∃ r, Gen.naive_date.NaiveDate.checked_sub_days d.yof c = .ok (r.map Date.yof) ∧ IsDayShift d (-c) r) ∧
    (∃ r, Gen.naive_date.NaiveDate.checked_add_signed d.yof (GenL.dG δ) = .ok (r.map Date.yof) ∧
      IsDayShift d (wholeDays (ns δ)) r) ∧
    (∃ r, Gen.naive_date.NaiveDate.checked_sub_signed d.yof (GenL.dG δ) = .ok (r.map Date.yof) ∧
      IsDayShift d (-(wholeDays (ns δ))) r) ∧
    (∃ r, Gen.naive_date.NaiveDate.succ_opt d.yof = .ok (r.map Date.yof) ∧ IsDayShift d 1 r) := by
  obtain ⟨ok1, ok2⟩ := dateOk_of_inv d hd
  have hf := dfields_of_inv δ hδ
  obtain ⟨r1, a1, b1⟩ := add_days_exact d n hd hn
  obtain ⟨⟨r2, a2, b2⟩, ⟨r3, a3, b3⟩⟩ := checked_days_exact d c hd hc
  obtain ⟨⟨r4, a4, b4⟩, ⟨r5, a5, b5⟩⟩ := date_plus_delta d δ hd hδ
  obtain ⟨r6, a6, b6⟩ := succ_shift d hd
  refine ⟨⟨r1, ?_, b1⟩, ⟨r2, ?_, b2⟩, ⟨r3, ?_, b3⟩, ⟨r4, ?_, b4⟩, ⟨r5, ?_, b5⟩, ⟨r6, ?_, b6⟩⟩
  · rw [GenDate.gen_add_days_eq d n ok1 hn ok2, a1]; rfl
  · rw [GenDateOps.gen_checked_add_days_eq d c ok1 ok2, a2]; rfl
  · rw [GenDateOps.gen_checked_sub_days_eq d c ok1 ok2, a3]; rfl
  · rw [GenDateOps.gen_checked_add_signed_eq d δ ok1 ok2 hf, a4]; rfl
  · rw [GenDateOps.gen_checked_sub_signed_eq d δ ok1 ok2 hf, a5]; rfl
  · rw [GenDate.gen_succ_opt_eq d ok1, a6]; rfl

/-- translated `NaiveDate::pred_opt` (the step of `iter_days().next_back()`): one day earlier, or
refused exactly at `MIN`.  (The translation theorem needs the ordinal/leap field ≤ 732: ordinal 366
occurs only with the leap flag.) -/
theorem date_pred_gen (d : Date) (hd : DateInv d) :
    ∃ r, Gen.naive_date.NaiveDate.pred_opt d.yof = .ok (r.map Date.yof) ∧ IsDayShift d (-1) r := by
  obtain ⟨ok1, _⟩ := dateOk_of_inv d hd
  obtain ⟨r, a, b⟩ := pred_shift d hd
  -- the field is `2·ordinal + bit`, where the bit is clear in leap years: `ordinal + bit ≤ 366`
  have hol : d.yof / 8 % 1024 ≤ 732 := by
    obtain ⟨y, o, rfl, _, ho, _⟩ := inv_yo d hd
    have := yearLen_add_bit y _ (flagsOf_facts y).2.2.1
    rw [ol_word y o (by omega)]
    omega
  exact ⟨r, by rw [GenDate.gen_pred_opt_eq d ok1 hol, a]; rfl, b⟩

/-- translated `NaiveDate::signed_duration_since`: exactly the day distance (clause 2 for dates) -/
theorem date_diff_exact_gen (a b : Date) (ha : DateInv a) (hb : DateInv b) :
    Gen.naive_date.NaiveDate.signed_duration_since a.yof b.yof
      = .ok (GenL.dG (ofNs ((dayNumOf a - dayNumOf b) * NS_PER_DAY))) := by
  obtain ⟨oa1, oa2⟩ := dateOk_of_inv a ha
  obtain ⟨ob1, ob2⟩ := dateOk_of_inv b hb
  rw [GenDateOps.gen_date_signed_duration_since_eq a b oa1 ob1 oa2 ob2, (date_diff_exact a b ha hb).1]
  rfl

example : Gen.naive_datetime.NaiveDateTime.checked_add_signed
      (GenDateTime.ndtG ⟨dateOfYo 2024 366, ⟨86399, 999999999⟩⟩) (GenL.dG ⟨0, 1⟩)
      = .ok (some (GenDateTime.ndtG ⟨dateOfYo 2025 1, ⟨0, 0⟩⟩)) ∧
    Gen.naive_datetime.NaiveDateTime.checked_add_signed (GenDateTime.ndtG NaiveDT.MAX) (GenL.dG ⟨0, 1⟩) = .ok none ∧
    Gen.naive_date.NaiveDate.checked_add_days Date.MIN.yof 191491528 = .ok (some Date.MAX.yof) ∧
    Gen.naive_date.NaiveDate.checked_add_days Date.MIN.yof 191491529 = .ok none ∧
    Gen.naive_date.NaiveDate.succ_opt Date.MAX.yof = .ok none := by decide +kernel

end Chrono.Props.C03
