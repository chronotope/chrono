/-
  C17, code translation tie for src/round.rs: `span_for_digits` as regenerated from the Rust source text on every run
  (tools/extractors/rust2lean.py, lean/Chrono/Extracted/Gen.lean) equals the hand-written model (Model/Round.lean) for
  every `u16`.  The generic free functions `duration_round / duration_trunc / duration_round_up<T>` are translated too,
  read at `T = NaiveDateTime` and `T = DateTime<FixedOffset>` (the instantiations the two `impl DurationRound` call them
  at; `original + delta` / `original - delta` are the translated `impl Add<TimeDelta> / Sub<TimeDelta>` of that type, a
  `Result<T, RoundingError>` is a `GenRt.Result T Int` with the discriminant of the field-less error enum);
  `gen_duration_ops_eq_partial` ties `impl DurationRound for NaiveDateTime` to the model (Model/RoundDT.lean
  `naive_duration`) at concrete arguments only — the universal statement is not proved here.
-/
import Chrono.Props.GenDateTime
import Chrono.Model.RoundDT

namespace Chrono.Props.GenRound
open Chrono Chrono.M Chrono.Extracted Chrono.Proofs.GenL Chrono.Proofs.GenTimeL Chrono.Props.GenDateTime

theorem gen_span_for_digits_eq (digits : Nat) :
    Gen.round.span_for_digits digits = Round.span_for_digits digits := by
  unfold Gen.round.span_for_digits Round.span_for_digits
  match digits with
  | 0 | 1 | 2 | 3 | 4 | 5 | 6 | 7 | 8 => rfl
  | n + 9 =>
    have h : ∀ k : Int, k < 9 → ¬ ((n + 9 : Nat) : Int) = k := fun k hk => by omega
    simp only [if_neg (h 0 (by decide)), if_neg (h 1 (by decide)), if_neg (h 2 (by decide)),
      if_neg (h 3 (by decide)), if_neg (h 4 (by decide)), if_neg (h 5 (by decide)), if_neg (h 6 (by decide)),
      if_neg (h 7 (by decide)), if_neg (h 8 (by decide))]
    rfl

/-- discriminant of the model's `RoundingError`, in declaration order (as the translator reads the enum) -/
def errD : Round.RoundingError → Int
  | .DurationExceedsTimestamp => 0
  | .DurationExceedsLimit => 1
  | .TimestampExceedsLimit => 2

/-- the model's result in the generated representation -/
def rrG : Round.RRes NaiveDT → GenRt.Result Gen.naive_datetime.NaiveDateTime Int
  | .ok v => .ok (ndtG v)
  | .err e => .err (errD e)

def genOp : Round.Op → Gen.naive_datetime.NaiveDateTime → Gen.time_delta.TimeDelta →
    Res (GenRt.Result Gen.naive_datetime.NaiveDateTime Int)
  | .round => Gen.round.NaiveDateTime.DurationRound.duration_round
  | .trunc => Gen.round.NaiveDateTime.DurationRound.duration_trunc
  | .up => Gen.round.NaiveDateTime.DurationRound.duration_round_up

def agree (op : Round.Op) (dt : NaiveDT) (d : Delta) : Bool :=
  decide (genOp op (ndtG dt) (dG d) = rmap rrG (Round.naive_duration op dt d))

/-- the three operations at concrete arguments: 1970-01-01 00:00:01.5 and 1969-12-31 23:59:58.5 (a negative stamp),
spans of 1 s, 0.4 s, 0 (refused), a negative one (refused), one whose nanoseconds leave `i64` (refused) -/
theorem gen_duration_ops_eq_partial :
    ∀ op ∈ [Round.Op.round, Round.Op.trunc, Round.Op.up],
    ∀ dt ∈ ([⟨⟨16138266⟩, ⟨1, 500000000⟩⟩, ⟨⟨16130202 + 365 * 16 - 16⟩, ⟨86398, 500000000⟩⟩] : List NaiveDT),
    ∀ d ∈ ([⟨1, 0⟩, ⟨0, 400000000⟩, ⟨0, 0⟩, ⟨-1, 0⟩, ⟨9223372037, 0⟩] : List Delta),
      agree op dt d = true := by decide +kernel

/-- non-vacuity: rounding 00:00:01.5 to whole seconds goes up (tie), truncation goes down, a zero span is the error
`DurationExceedsLimit` (discriminant 1) -/
example : Gen.round.NaiveDateTime.DurationRound.duration_round ⟨16138266, ⟨1, 500000000⟩⟩ ⟨1, 0⟩
      = .ok (.ok ⟨16138266, ⟨2, 0⟩⟩)
    ∧ Gen.round.NaiveDateTime.DurationRound.duration_trunc ⟨16138266, ⟨1, 500000000⟩⟩ ⟨1, 0⟩
      = .ok (.ok ⟨16138266, ⟨1, 0⟩⟩)
    ∧ Gen.round.NaiveDateTime.DurationRound.duration_round_up ⟨16138266, ⟨1, 500000000⟩⟩ ⟨0, 0⟩ = .ok (.err 1)
    ∧ Gen.round.span_for_digits 3 = 1000000 ∧ Gen.round.span_for_digits 65535 = 1 := by decide +kernel

end Chrono.Props.GenRound
