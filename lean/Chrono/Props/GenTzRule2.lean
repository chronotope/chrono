/-
  C05 / C16, code translation tie, universal form: the GENERATED `Gen.tz_info_rule.days_since_unix_epoch`
  (tools/extractors/rust2lean.py from src/offset/local/tz_info/rule.rs, overflow check at every step) equals
  the hand-written parser-side model `M.Tz.days_since_unix_epoch` (result type `P`, one range check at the end;
  `.err` never occurs) and, for `1 ≤ month ≤ 12`, is `.ok` of the total lookup-side model
  `M.TzL.days_since_unix_epoch` — for every `i32` year, every `month : Nat` (0 and ≥ 13 panic on both sides)
  and every `month_day` with `|month_day| ≤ 2^62` (callers pass 1..=31).
-/
import Chrono.Props.GenTzRule
import Chrono.Model.TzLookup
import Chrono.Proofs.GenL

namespace Chrono.Props.GenTzRule2
open Chrono Chrono.M

/-- the embedding of the translator's result type into the model's (`P.err` is not in the image) -/
def ofRes {α : Type} : Res α → Tz.P α
  | .ok v => .ok v
  | .panic => .panic

/-- the constant table, as written out by the translator -/
private abbrev CUMUL : List Int := [0, 31, 59, 90, 120, 151, 181, 212, 243, 273, 304, 334]

/-! ### run-time vocabulary -/
theorem ck_bind {x : Int} (f : Int → Res Int)
    (h : -9223372036854775808 ≤ x ∧ x ≤ 9223372036854775807) :
    Res.bind (ckI64 x) f = f x := by
  rw [Proofs.ckI64_ok h.1 h.2]; rfl

theorem cumul_bound : ∀ n < 12, 0 ≤ CUMUL.getD n 0 ∧ CUMUL.getD n 0 ≤ 334 := by decide

/-- the common tail `result += CUMUL[month - 1] + month_day - 1` of the four branches -/
def tailG (result month month_day : Int) : Res Int :=
  Res.bind (GenRt.ckUsize (month - 1)) fun r5 =>
  Res.bind (GenRt.idxL ([0, 31, 59, 90, 120, 151, 181, 212, 243, 273, 304, 334] : List Int) r5) fun r6 =>
  Res.bind (ckI64 (r6 + month_day)) fun r7 =>
  Res.bind (ckI64 (r7 - 1)) fun r8 =>
  ckI64 (result + r8)

theorem usize_idx (i : Int) (f : Int → Res Int) :
    (Res.bind (GenRt.ckUsize i) fun r =>
      Res.bind (GenRt.idxL ([0, 31, 59, 90, 120, 151, 181, 212, 243, 273, 304, 334] : List Int) r) f)
      = if 0 ≤ i ∧ i < 12 then f (CUMUL.getD i.toNat 0) else .panic := by
  have hU : U64_MAX = 18446744073709551615 := rfl
  unfold GenRt.ckUsize ckU64 inU64 GenRt.idxL
  by_cases h0 : 0 ≤ i
  · by_cases h1 : i < 12
    · have hu : i ≤ U64_MAX := by omega
      simp [h0, h1, hu, Res.bind]
    · by_cases hu : i ≤ U64_MAX
      · simp [h0, h1, hu, Res.bind]
      · simp [h0, h1, hu, Res.bind]
  · simp [h0, Res.bind]

theorem tailG_eq (result : Int) (month : Nat) (md : Int)
    (hr1 : -1000000000000 ≤ result) (hr2 : result ≤ 1000000000000)
    (hm1 : -4611686018427387904 ≤ md) (hm2 : md ≤ 4611686018427387904) :
    tailG result month md =
      if 1 ≤ month ∧ month ≤ 12 then .ok (result + CUMUL.getD (month - 1) 0 + md - 1) else .panic := by
  unfold tailG
  rw [usize_idx]
  by_cases hm : 1 ≤ month ∧ month ≤ 12
  · rw [if_pos hm, if_pos (by omega)]
    have ht : ((month : Int) - 1).toNat = month - 1 := by omega
    rw [ht]
    have hc := cumul_bound (month - 1) (by omega)
    generalize CUMUL.getD (month - 1) 0 = c at hc ⊢
    rw [ck_bind _ (by omega), ck_bind _ (by omega),
      Proofs.ckI64_ok (by omega) (by omega)]
    congr 1; omega
  · rw [if_neg hm, if_neg (by omega)]

theorem leap_TzL (year : Int) : TzL.is_leap_year year = Gen.tz_info_rule.is_leap_year year := by
  rw [GenTzRule.gen_is_leap_year_eq]; rfl

theorem cumul_TzL : Extracted.TzL.CUMUL_DAY_IN_MONTHS_NORMAL_YEAR = CUMUL := rfl
theorem cumul_TzP : Extracted.TzP.CUMUL_DAY_IN_MONTHS_NORMAL_YEAR = CUMUL := rfl

/-- the generated code against the total model: value inside the month range, panic outside -/
theorem gen_days_since_unix_epoch_total (year : Int) (month : Nat) (month_day : Int)
    (hy1 : -2147483648 ≤ year) (hy2 : year ≤ 2147483647)
    (hm1 : -4611686018427387904 ≤ month_day) (hm2 : month_day ≤ 4611686018427387904) :
    Gen.tz_info_rule.days_since_unix_epoch year month month_day =
      if 1 ≤ month ∧ month ≤ 12 then .ok (TzL.days_since_unix_epoch year month month_day) else .panic := by
  unfold Gen.tz_info_rule.days_since_unix_epoch TzL.days_since_unix_epoch
  rw [leap_TzL, cumul_TzL]
  dsimp only
  generalize Gen.tz_info_rule.is_leap_year year = leap
  rw [ck_bind _ (by omega), ck_bind _ (by omega)]
  by_cases hy : year ≥ 1970
  · rw [if_pos hy, if_pos hy]
    have b1 := Proofs.GenL.tdiv_bound (year - 1968) 4 4294967296 (by omega)
    have b2 := Proofs.GenL.tdiv_bound (year - 1900) 100 4294967296 (by omega)
    have b3 := Proofs.GenL.tdiv_bound (year - 1600) 400 4294967296 (by omega)
    rw [ck_bind _ (by omega), ck_bind _ (by omega),
      ck_bind _ (by omega), ck_bind _ (by omega),
      ck_bind _ (by omega), ck_bind _ (by omega)]
    by_cases hl : leap = true ∧ (month : Int) < 3
    · rw [if_pos hl, ck_bind _ (by omega)]
      refine (tailG_eq _ month month_day (by omega) (by omega) hm1 hm2).trans ?_
      have : (leap && decide (month < 3)) = true := by simp [hl.1]; omega
      rw [if_pos this]
    · rw [if_neg hl]
      refine (tailG_eq _ month month_day (by omega) (by omega) hm1 hm2).trans ?_
      have : ¬ (leap && decide (month < 3)) = true := by
        intro h; apply hl; simp at h; exact ⟨h.1, by omega⟩
      rw [if_neg this]
  · rw [if_neg hy, if_neg hy]
    have b1 := Proofs.GenL.tdiv_bound (year - 1972) 4 4294967296 (by omega)
    have b2 := Proofs.GenL.tdiv_bound (year - 2000) 100 4294967296 (by omega)
    have b3 := Proofs.GenL.tdiv_bound (year - 2000) 400 4294967296 (by omega)
    rw [ck_bind _ (by omega), ck_bind _ (by omega),
      ck_bind _ (by omega), ck_bind _ (by omega),
      ck_bind _ (by omega), ck_bind _ (by omega)]
    by_cases hl : leap = true ∧ (month : Int) ≥ 3
    · rw [if_pos hl, ck_bind _ (by omega)]
      refine (tailG_eq _ month month_day (by omega) (by omega) hm1 hm2).trans ?_
      have : (leap && decide (month ≥ 3)) = true := by simp [hl.1]; omega
      rw [if_pos this]
    · rw [if_neg hl]
      refine (tailG_eq _ month month_day (by omega) (by omega) hm1 hm2).trans ?_
      have : ¬ (leap && decide (month ≥ 3)) = true := by
        intro h; apply hl; simp at h; exact ⟨h.1, by omega⟩
      rw [if_neg this]

theorem idxI_cumul (n : Nat) :
    Tz.idxI CUMUL n = if n < 12 then .ok (CUMUL.getD n 0) else .panic := by
  unfold Tz.idxI
  by_cases h : n < 12
  · rw [if_pos h]
    have : ∀ k < 12, (match CUMUL[k]? with | some b => Tz.P.ok b | none => Tz.P.panic) = .ok (CUMUL.getD k 0) := by
      decide
    exact this n h
  · rw [if_neg h]
    have : CUMUL[n]? = none := by
      apply List.getElem?_eq_none; show 12 ≤ n; omega
    rw [this]

theorem TzL_bound (year : Int) (month : Nat) (month_day : Int)
    (hy1 : -2147483648 ≤ year) (hy2 : year ≤ 2147483647) (hm : 1 ≤ month ∧ month ≤ 12)
    (hm1 : -4611686018427387904 ≤ month_day) (hm2 : month_day ≤ 4611686018427387904) :
    -9223372036854775808 ≤ TzL.days_since_unix_epoch year month month_day
      ∧ TzL.days_since_unix_epoch year month month_day ≤ 9223372036854775807 := by
  unfold TzL.days_since_unix_epoch
  rw [cumul_TzL]
  dsimp only
  have hc := cumul_bound (month - 1) (by omega)
  generalize CUMUL.getD (month - 1) 0 = c at hc ⊢
  have b1 := Proofs.GenL.tdiv_bound (year - 1968) 4 4294967296 (by omega)
  have b2 := Proofs.GenL.tdiv_bound (year - 1900) 100 4294967296 (by omega)
  have b3 := Proofs.GenL.tdiv_bound (year - 1600) 400 4294967296 (by omega)
  have b4 := Proofs.GenL.tdiv_bound (year - 1972) 4 4294967296 (by omega)
  have b5 := Proofs.GenL.tdiv_bound (year - 2000) 100 4294967296 (by omega)
  have b6 := Proofs.GenL.tdiv_bound (year - 2000) 400 4294967296 (by omega)
  split <;> split <;> omega

/-- the parser-side model against the total model (same shape as `gen_days_since_unix_epoch_total`) -/
theorem model_days_since_unix_epoch_total (year : Int) (month : Nat) (month_day : Int)
    (hy1 : -2147483648 ≤ year) (hy2 : year ≤ 2147483647)
    (hm1 : -4611686018427387904 ≤ month_day) (hm2 : month_day ≤ 4611686018427387904) :
    Tz.days_since_unix_epoch year month month_day =
      if 1 ≤ month ∧ month ≤ 12 then .ok (TzL.days_since_unix_epoch year month month_day) else .panic := by
  unfold Tz.days_since_unix_epoch
  rw [cumul_TzP, idxI_cumul]
  by_cases h0 : month = 0
  · rw [if_pos h0, if_neg (by omega)]
  rw [if_neg h0]
  by_cases hm : 1 ≤ month ∧ month ≤ 12
  · rw [if_pos hm, if_pos (by omega), Tz.P.bind_ok]
    have hb := TzL_bound year month month_day hy1 hy2 hm hm1 hm2
    have he : (let leap := Tz.is_leap_year year
        let r0 := (year - 1970) * 365
        let r1 :=
          if year ≥ 1970 then
            let r := r0 + Int.tdiv (year - 1968) 4 - Int.tdiv (year - 1900) 100 + Int.tdiv (year - 1600) 400
            if (leap && decide (month < 3)) = true then r - 1 else r
          else
            let r := r0 + Int.tdiv (year - 1972) 4 - Int.tdiv (year - 2000) 100 + Int.tdiv (year - 2000) 400
            if (leap && decide (month ≥ 3)) = true then r + 1 else r
        r1 + CUMUL.getD (month - 1) 0 + month_day - 1) = TzL.days_since_unix_epoch year month month_day := rfl
    dsimp only at he ⊢
    rw [he]
    unfold Tz.ck64 inI64
    have h1 : I64_MIN = -9223372036854775808 := rfl
    have h2 : I64_MAX = 9223372036854775807 := rfl
    rw [if_pos (by simp; omega)]
  · rw [if_neg hm, if_neg (by omega)]; rfl

/-- **the tie**: the hand-written model is the generated code, result for result (`.ok v` ↔ `.ok v`,
`.panic` ↔ `.panic`; `P.err` is not in the image of `ofRes`, so the model never returns it here) -/
theorem gen_days_since_unix_epoch_eq (year : Int) (month : Nat) (month_day : Int)
    (hy1 : -2147483648 ≤ year) (hy2 : year ≤ 2147483647)
    (hm1 : -4611686018427387904 ≤ month_day) (hm2 : month_day ≤ 4611686018427387904) :
    Tz.days_since_unix_epoch year month month_day
      = ofRes (Gen.tz_info_rule.days_since_unix_epoch year month month_day) := by
  rw [model_days_since_unix_epoch_total year month month_day hy1 hy2 hm1 hm2,
    gen_days_since_unix_epoch_total year month month_day hy1 hy2 hm1 hm2]
  split <;> rfl

/-- inside the month range the generated code returns the total model's value -/
theorem gen_days_since_unix_epoch_eq_TzL (year : Int) (month : Nat) (month_day : Int)
    (hy1 : -2147483648 ≤ year) (hy2 : year ≤ 2147483647) (hmo1 : 1 ≤ month) (hmo2 : month ≤ 12)
    (hm1 : -4611686018427387904 ≤ month_day) (hm2 : month_day ≤ 4611686018427387904) :
    Gen.tz_info_rule.days_since_unix_epoch year month month_day
      = .ok (TzL.days_since_unix_epoch year month month_day) := by
  rw [gen_days_since_unix_epoch_total year month month_day hy1 hy2 hm1 hm2, if_pos ⟨hmo1, hmo2⟩]

/-- outside the month range both sides panic (`month - 1` on `usize`, or the slice index) -/
theorem gen_days_since_unix_epoch_panic (year : Int) (month : Nat) (month_day : Int)
    (hy1 : -2147483648 ≤ year) (hy2 : year ≤ 2147483647) (hmo : month = 0 ∨ 13 ≤ month)
    (hm1 : -4611686018427387904 ≤ month_day) (hm2 : month_day ≤ 4611686018427387904) :
    Gen.tz_info_rule.days_since_unix_epoch year month month_day = .panic
      ∧ Tz.days_since_unix_epoch year month month_day = .panic := by
  rw [gen_days_since_unix_epoch_total year month month_day hy1 hy2 hm1 hm2,
    model_days_since_unix_epoch_total year month month_day hy1 hy2 hm1 hm2,
    if_neg (by omega), if_neg (by omega)]
  exact ⟨rfl, rfl⟩

/-- non-vacuity: hypotheses satisfiable, both outcomes occur; and the bound on `month_day` is needed: near
`i64::MAX` the source overflows in `CUMUL[1] + month_day` while the model's single final check passes -/
example : Gen.tz_info_rule.days_since_unix_epoch 2000 2 29 = .ok 11016
    ∧ Tz.days_since_unix_epoch 2000 2 29 = .ok 11016
    ∧ TzL.days_since_unix_epoch 2000 2 29 = 11016
    ∧ Gen.tz_info_rule.days_since_unix_epoch (-2147483648) 12 4611686018427387904 = .ok 4611685234074372405
    ∧ Gen.tz_info_rule.days_since_unix_epoch 2000 13 1 = .panic
    ∧ Tz.days_since_unix_epoch 2000 13 1 = .panic := by decide +kernel

/-- outside the bound (still an `i64`) the two differ — the reason for the hypothesis on `month_day` -/
theorem bound_needed :
    Gen.tz_info_rule.days_since_unix_epoch 1969 2 9223372036854775787 = .panic
    ∧ Tz.days_since_unix_epoch 1969 2 9223372036854775787 = .ok 9223372036854775452 := by decide +kernel

end Chrono.Props.GenTzRule2
