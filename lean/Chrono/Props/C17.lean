/-
  C17 — Rounding and truncation land on the right multiple.  Property statements only.

  `duration_trunc/round/round_up` (Model/Round.lean) work on the wall-clock nanosecond stamp
  (`Option Int`: `None` = not representable in `i64`) and on the span `duration.num_nanoseconds()`
  (`Option Int`); the result `.ok (.ok d)` means `Ok(original ± TimeDelta::nanoseconds(|d|))`, i.e.
  the value moved by `d` ns.  `Res.panic` would be an overflow trap / `abs` of `i64::MIN`.
  Specification (Spec/RoundSpec.lean): `truncSpec s p = s − s mod p`, `upSpec s p = s + (−s) mod p`
  (Euclidean `mod`), `roundSpec` = the nearer of the two, a tie going up.

  The first part of the file is about that integer part (`trunc_spec` … `datetime_spec`); the section
  "The returned value" composes it with C02 (stamps), C03/C07 (`original ± TimeDelta`) and C04
  (`overflowing_naive_local`) into statements about the value the call returns
  (`naive_result`, `zoned_result`, `…_properties`).
-/
import Chrono.Proofs.RoundCor2L
import Chrono.Props.GenDelta

namespace Chrono.Props.C17
open Chrono Chrono.M Chrono.M.Round Chrono.Spec Chrono.Spec.Round Chrono.Proofs.RoundL
open Chrono.Extracted.Round Chrono.Proofs.RoundDt

/-- the data read from src/round.rs on this run is what the theorems below are about: the guard is
`span <= 0` in all three functions, a tie goes up (`delta_up <= delta_down`) in `duration_round` and in
`round_subsecs`, the stamp is in nanoseconds -/
theorem extracted_ok : SPAN_REFUSED_MAX_ROUND = 0 ∧ SPAN_REFUSED_MAX_TRUNC = 0 ∧
    SPAN_REFUSED_MAX_UP = 0 ∧ TIE_UP = true ∧ TIE_UP_SUBSEC = true ∧ STAMP_SCALE = 1000000000 ∧
    SPAN_TABLE.length = 9 ∧ SPAN_DEFAULT = 1 := by decide

/-- The closed forms are what the property says: `truncSpec` is the greatest multiple of the span
not after `s`, `upSpec` the least not before it, `roundSpec` is one of the two, no multiple is
nearer to `s`, and a tie goes up.  (About the specification only — independent of chrono.) -/
theorem spec_meaning (s span : Int) (hp : 0 < span) :
    (span ∣ truncSpec s span ∧ truncSpec s span ≤ s ∧
      ∀ m, span ∣ m → m ≤ s → m ≤ truncSpec s span) ∧
    (span ∣ upSpec s span ∧ s ≤ upSpec s span ∧
      ∀ m, span ∣ m → s ≤ m → upSpec s span ≤ m) ∧
    ((roundSpec s span = truncSpec s span ∨ roundSpec s span = upSpec s span) ∧
      (∀ m, span ∣ m → m ≤ s → roundSpec s span - s ≤ s - m ∧ s - roundSpec s span ≤ s - m) ∧
      (∀ m, span ∣ m → s ≤ m → roundSpec s span - s ≤ m - s ∧ s - roundSpec s span ≤ m - s) ∧
      (upSpec s span - s = s - truncSpec s span → roundSpec s span = upSpec s span)) := by
  have ht := (spec_sides s span hp).1
  have hu := (spec_sides s span hp).2.1
  have gt := fun m hm hle => dvd_le_truncSpec s span m hp hm hle
  have lu := fun m hm hle => upSpec_le_dvd s span m hp hm hle
  refine ⟨⟨truncSpec_dvd s span, ht, gt⟩, ⟨upSpec_dvd s span, hu, lu⟩, ?_⟩
  by_cases h : upSpec s span - s ≤ s - truncSpec s span
  · rw [show roundSpec s span = upSpec s span from if_pos h]
    exact ⟨Or.inr rfl, fun m hm hle => by have := gt m hm hle; omega,
      fun m hm hle => by have := lu m hm hle; omega, fun _ => rfl⟩
  · rw [show roundSpec s span = truncSpec s span from if_neg h]
    exact ⟨Or.inl rfl, fun m hm hle => by have := gt m hm hle; omega,
      fun m hm hle => by have := lu m hm hle; omega, fun e => absurd (by omega) h⟩

/-- `duration_trunc`: for every stamp (in particular every `i64`) and every span `0 < span ≤ i64::MAX`
the `%`-with-sign-branches code moves the value to `truncSpec`; no step overflows or panics -/
theorem trunc_spec (s span : Int) (hp : 0 < span) (hp2 : span ≤ 9223372036854775807) :
    duration_trunc (some s) (some span) = .ok (.ok (truncSpec s span - s)) :=
  run_eval' .trunc s span hp hp2

/-- `duration_round_up` moves the value to `upSpec` -/
theorem up_spec (s span : Int) (hp : 0 < span) (hp2 : span ≤ 9223372036854775807) :
    duration_round_up (some s) (some span) = .ok (.ok (upSpec s span - s)) :=
  run_eval' .up s span hp hp2

/-- `duration_round` moves the value to `roundSpec` (nearer multiple, ties up) -/
theorem round_spec (s span : Int) (hp : 0 < span) (hp2 : span ≤ 9223372036854775807) :
    duration_round (some s) (some span) = .ok (.ok (roundSpec s span - s)) :=
  run_eval' .round s span hp hp2

example : duration_trunc (some (-7)) (some 4) = .ok (.ok (-1)) ∧ truncSpec (-7) 4 = -8 ∧
    duration_round_up (some (-7)) (some 4) = .ok (.ok 3) ∧ upSpec (-7) 4 = -4 ∧
    duration_round (some (-6)) (some 4) = .ok (.ok 2) ∧ roundSpec (-6) 4 = -4 ∧
    duration_round (some 6) (some 4) = .ok (.ok 2) ∧
    duration_trunc (some (-9223372036854775808)) (some 9223372036854775807) =
      .ok (.ok (-9223372036854775806)) := by decide

/-- the result is less than one span away from the input, on the right side of it, and for
`duration_round` at most half a span away -/
theorem lt_one_span (op : Op) (s span d : Int) (hp : 0 < span) (hp2 : span ≤ 9223372036854775807)
    (h : run op (some s) (some span) = .ok (.ok d)) :
    -span < d ∧ d < span ∧ (op = .trunc → d ≤ 0) ∧ (op = .up → 0 ≤ d) ∧
    (op = .round → 2 * d ≤ span ∧ -span < 2 * d) := by
  rw [run_eval' op s span hp hp2] at h
  have hd : d = specOf (kindOf op) s span - s := by
    have := Res.ok.inj h; exact (RR.ok.inj this).symm
  have hb := spec_bounds (kindOf op) s span hp
  have hs := spec_sides s span hp
  subst hd
  refine ⟨hb.1, hb.2, ?_, ?_, ?_⟩
  · intro e; subst e; show truncSpec s span - s ≤ 0; omega
  · intro e; subst e; show 0 ≤ upSpec s span - s; omega
  · intro e; subst e; show 2 * (roundSpec s span - s) ≤ span ∧ -span < 2 * (roundSpec s span - s); omega

/-- multiples of the span — and only they — are returned unchanged -/
theorem multiple_fixed (op : Op) (s span : Int) (hp : 0 < span) (hp2 : span ≤ 9223372036854775807) :
    span ∣ s ↔ run op (some s) (some span) = .ok (.ok 0) := by
  rw [run_eval' op s span hp hp2, spec_fixed_iff (kindOf op) s span hp]
  constructor
  · intro h; rw [h, Int.sub_self]
  · intro h
    have := RR.ok.inj (Res.ok.inj h)
    omega

/-- on integers (no 64-bit window: `run` takes any `Int` as the stamp): the result is a multiple of
the span, and applying the operation to it again changes nothing.  On the values the second call may
find the result outside the `i64` window (rounding up near 2262-04-11T23:47:16) and then reports
`TimestampExceedsLimit`: the exact statement is the last conjunct of `naive_result_properties` /
`zoned_result_properties`. -/
theorem idempotent (op : Op) (s span d : Int) (hp : 0 < span) (hp2 : span ≤ 9223372036854775807)
    (h : run op (some s) (some span) = .ok (.ok d)) :
    span ∣ (s + d) ∧ run op (some (s + d)) (some span) = .ok (.ok 0) := by
  rw [run_eval' op s span hp hp2] at h
  have hd : s + d = specOf (kindOf op) s span := by
    have := RR.ok.inj (Res.ok.inj h); omega
  rw [hd]
  exact ⟨spec_dvd _ s span, (multiple_fixed op _ span hp hp2).mp (spec_dvd _ s span)⟩

/-- truncation ≤ input ≤ rounding up; rounding lies between them; they are 0 or 1 span apart -/
theorem order (s span : Int) (hp : 0 < span) :
    truncSpec s span ≤ s ∧ s ≤ upSpec s span ∧
    truncSpec s span ≤ roundSpec s span ∧ roundSpec s span ≤ upSpec s span ∧
    (upSpec s span - truncSpec s span = 0 ∨ upSpec s span - truncSpec s span = span) :=
  ⟨(spec_sides s span hp).1, (spec_sides s span hp).2.1, spec_order s span hp⟩

example : run .round (some 1500000000) (some 1000000000) = .ok (.ok 500000000) ∧
    run .round (some 2000000000) (some 1000000000) = .ok (.ok 0) ∧
    (1000000000 : Int) ∣ 2000000000 := by decide

/-- Failure is reported exactly for: no span in nanoseconds / span ≤ 0 (`DurationExceedsLimit`,
checked first), no stamp in `i64` (`TimestampExceedsLimit`); otherwise `Ok`.  Never a panic, never
`DurationExceedsTimestamp`.  (`hspan`: a span that exists is an `i64`.) -/
theorem err_iff (op : Op) (stamp span : Option Int)
    (hspan : ∀ p, span = some p → p ≤ 9223372036854775807) :
    (run op stamp span = .ok (.err .DurationExceedsLimit) ↔
        (span = none ∨ ∃ p, span = some p ∧ p ≤ 0)) ∧
    (run op stamp span = .ok (.err .TimestampExceedsLimit) ↔
        ((∃ p, span = some p ∧ 0 < p) ∧ stamp = none)) ∧
    ((∃ d, run op stamp span = .ok (.ok d)) ↔
        ((∃ p, span = some p ∧ 0 < p) ∧ ∃ s, stamp = some s)) ∧
    run op stamp span ≠ .panic ∧
    run op stamp span ≠ .ok (.err .DurationExceedsTimestamp) := by
  cases span with
  | none => rw [run_span_none]; simp
  | some p =>
    by_cases hp : p ≤ 0
    · rw [run_span_nonpos op stamp p hp]
      simp [hp, Int.not_lt.mpr hp]
    · have hp' : 0 < p := Int.not_le.mp hp
      cases stamp with
      | none => rw [run_stamp_none op p hp']; simp [hp, hp']
      | some s => rw [run_eval' op s p hp' (hspan p rfl)]; simp [hp, hp']

example : run .trunc none (some 0) = .ok (.err .DurationExceedsLimit) ∧
    run .round none (some 5) = .ok (.err .TimestampExceedsLimit) ∧
    run .up (some 5) none = .ok (.err .DurationExceedsLimit) ∧
    run .up (some 5) (some (-3)) = .ok (.err .DurationExceedsLimit) := by decide

/-- The whole integer path for a date-time given by its UTC seconds, sub-second field (any; a field
≥ 10⁹ is a leap second) and offset (`0` for `NaiveDateTime`), and a valid `TimeDelta`: the stamp is the
wall-clock reading `(utc + off)·10⁹ + subsec`; the call fails exactly when the duration is not in
`1 ..= i64::MAX` ns or that stamp is not an `i64`; otherwise the value is moved by the signed distance
to the specified multiple.  (`Spec.ns`/`DInv`: C06.  What the move does to the value: the section
"The returned value".) -/
theorem datetime_spec (op : Op) (utc sub off : Int) (dur : Delta) (hd : DInv dur) :
    on_datetime op utc sub off dur =
      if ns dur ≤ 0 ∨ 9223372036854775807 < ns dur then .ok (.err .DurationExceedsLimit)
      else if ¬ InI64 ((utc + off) * 1000000000 + sub) then .ok (.err .TimestampExceedsLimit)
      else .ok (.ok (specOf (kindOf op) ((utc + off) * 1000000000 + sub) (ns dur)
                      - ((utc + off) * 1000000000 + sub))) :=
  on_datetime_eq2 op utc sub off dur hd

/-- non-vacuity: 2262-04-11T23:47:16.854775807 (the last stamp) at +00:00 and one hour to the east;
a one-day span; a span one nanosecond too long -/
example : DInv ⟨86400, 0⟩ ∧ DInv ⟨9223372036, 854775808⟩ ∧
    on_datetime .trunc 9223372036 854775807 0 ⟨86400, 0⟩ = .ok (.ok (-85636854775807)) ∧
    on_datetime .trunc 9223372036 854775807 3600 ⟨86400, 0⟩ = .ok (.err .TimestampExceedsLimit) ∧
    on_datetime .trunc 9223372036 854775807 0 ⟨9223372036, 854775808⟩ = .ok (.err .DurationExceedsLimit) ∧
    on_datetime .up 9223372036 854775807 0 ⟨86400, 0⟩ = .ok (.ok 763145224193) ∧
    ¬ InI64 (9223372036854775807 + 763145224193) := by decide

/-! ### The returned value (NaiveDateTime and DateTime<FixedOffset>)

`naive_duration` / `zoned_duration` (Model/RoundDT.lean; driver ops `rd.n.*` / `rd.z.*`) are the
whole calls: span guard, `timestamp_nanos_opt` of the (wall-clock) reading, the integer part above,
and `Ok(original)` / `original + TimeDelta::nanoseconds(d)` / `original - TimeDelta::nanoseconds(-d)`
with the operator models of C03.  `instNs v` is the nanosecond timestamp of a value (C02),
`wallNs z = instNs z.utc + z.off·10⁹` that of the wall clock of a zone-aware value.  Every case below
is an equation `… = .ok …`: in particular no step of the call panics. -/

/-- the value-level functions run the integer path (`on_datetime`, what the theorems above and the
driver ops `rd.trunc/round/up` are about) on the stamp of the reading, then `finish`: pass an error
on, or move `original` by the signed count (`apply_move`) -/
theorem value_level_runs_integer_path (op : Op) (dt : NaiveDT) (z : Zoned) (dur : Delta)
    (hdt : NDTInv dt) (hz : ZInv z) :
    naive_duration op dt dur =
      finish NaiveDT.add NaiveDT.sub dt (on_datetime op (instSecs dt) dt.time.frac 0 dur) ∧
    zoned_duration op z dur =
      finish Zoned.add Zoned.sub z (on_datetime op (instSecs z.utc) z.utc.time.frac z.off dur) := by
  constructor
  · exact generic_eq op dt ⟨((Chrono.Proofs.dateInv_iff dt.date).mp hdt.1).1, hdt.2⟩ dt _ _ dur
  · obtain ⟨l, hl, hext, hsecs, hfrac, _, _⟩ := Chrono.Proofs.naive_local_spec z hz
    unfold zoned_duration
    rw [hl]
    simp only []
    rw [generic_eq op l hext z _ _ dur, hsecs, hfrac]
    unfold on_datetime wall_stamp wallSecs
    rw [Int.add_zero]

/-- **`NaiveDateTime`, every valid value outside a leap second, every valid `TimeDelta`.**  The call
returns `Err(DurationExceedsLimit)` exactly when the duration is not in `1 ..= i64::MAX` ns, else
`Err(TimestampExceedsLimit)` exactly when the value's nanosecond timestamp is not an `i64`, else
`Ok(v)` with `v` a valid non-leap value whose timestamp is the specified multiple — also as the
crate's own `timestamp_nanos_opt` reads it back. -/
theorem naive_result (op : Op) (dt : NaiveDT) (dur : Delta) (hdt : NDTInv dt) (hnl : NonLeap dt)
    (hd : DInv dur) :
    (ns dur ≤ 0 ∨ 9223372036854775807 < ns dur →
      naive_duration op dt dur = .ok (.err .DurationExceedsLimit)) ∧
    (0 < ns dur ∧ ns dur ≤ 9223372036854775807 → ¬ InI64 (instNs dt) →
      naive_duration op dt dur = .ok (.err .TimestampExceedsLimit)) ∧
    (0 < ns dur ∧ ns dur ≤ 9223372036854775807 → InI64 (instNs dt) →
      ∃ v, naive_duration op dt dur = .ok (.ok v) ∧ NDTInv v ∧ NonLeap v ∧
        instNs v = specOf (kindOf op) (instNs dt) (ns dur) ∧
        NaiveDT.timestamp_nanos_opt v = .ok (if InI64 (instNs v) then some (instNs v) else none)) := by
  obtain ⟨e1, e2, e3⟩ := naive_eval op dt dur hdt hd
  refine ⟨e1, e2, ?_⟩
  intro hg hin
  obtain ⟨x, hx, hm, _⟩ := e3 hg hin
  obtain ⟨a, b, c⟩ := moved_nonleap dt x _ hnl hm
  exact ⟨x, hx, a, b, by rw [c]; omega, Chrono.Proofs.Ts.nanos_opt_spec x a ⟨a.2, Or.inl b⟩⟩

/-- **`DateTime<FixedOffset>`** (any offset of less than a day, `Utc` = offset 0), UTC reading valid
and outside a leap second: the same with the WALL-CLOCK timestamp `wallNs` in place of the
timestamp; the returned value keeps the offset; its UTC reading is valid and non-leap.  The wall
clock may lie outside chrono's date range (`MIN_UTC` viewed at a negative offset): that is a
`TimestampExceedsLimit`, not a panic. -/
theorem zoned_result (op : Op) (z : Zoned) (dur : Delta) (hz : ZInv z) (hnl : NonLeap z.utc)
    (hd : DInv dur) :
    (ns dur ≤ 0 ∨ 9223372036854775807 < ns dur →
      zoned_duration op z dur = .ok (.err .DurationExceedsLimit)) ∧
    (0 < ns dur ∧ ns dur ≤ 9223372036854775807 → ¬ InI64 (wallNs z) →
      zoned_duration op z dur = .ok (.err .TimestampExceedsLimit)) ∧
    (0 < ns dur ∧ ns dur ≤ 9223372036854775807 → InI64 (wallNs z) →
      ∃ v, zoned_duration op z dur = .ok (.ok v) ∧ v.off = z.off ∧ ZInv v ∧ NonLeap v.utc ∧
        wallNs v = specOf (kindOf op) (wallNs z) (ns dur)) := by
  obtain ⟨e1, e2, e3⟩ := zoned_eval op z dur hz hd
  refine ⟨e1, e2, ?_⟩
  intro hg hin
  obtain ⟨x, hx, hm, _⟩ := e3 hg hin
  obtain ⟨a, b, c⟩ := moved_nonleap z.utc x _ hnl hm
  refine ⟨⟨x, z.off⟩, hx, rfl, ⟨a, hz.2⟩, b, ?_⟩
  unfold wallNs at *
  dsimp only
  rw [c]; omega

/-- non-vacuity: 2018-01-11T12:00:00.154 to 10 ms, to one day (the doc examples), at +01:00 to one day
(the wall-clock midnight, 23:00 UTC); the last stamp of the window rounded up leaves the window and is
still returned; `MIN_UTC` at −00:00:01 has its wall clock outside chrono's range: an error, no panic -/
example : NDTInv ⟨dateOfYo 2018 11, ⟨43200, 154000000⟩⟩ ∧ NonLeap ⟨dateOfYo 2018 11, ⟨43200, 154000000⟩⟩ ∧
    naive_duration .round ⟨dateOfYo 2018 11, ⟨43200, 154000000⟩⟩ ⟨0, 10000000⟩ =
      .ok (.ok ⟨dateOfYo 2018 11, ⟨43200, 150000000⟩⟩) ∧
    naive_duration .up ⟨dateOfYo 2018 11, ⟨43200, 154000000⟩⟩ ⟨86400, 0⟩ =
      .ok (.ok ⟨dateOfYo 2018 12, ⟨0, 0⟩⟩) ∧
    zoned_duration .trunc ⟨⟨dateOfYo 2018 11, ⟨43200, 154000000⟩⟩, 3600⟩ ⟨86400, 0⟩ =
      .ok (.ok ⟨⟨dateOfYo 2018 10, ⟨82800, 0⟩⟩, 3600⟩) ∧
    naive_duration .up ⟨dateOfYo 2262 101, ⟨85636, 854775807⟩⟩ ⟨86400, 0⟩ =
      .ok (.ok ⟨dateOfYo 2262 102, ⟨0, 0⟩⟩) ∧
    naive_duration .up ⟨dateOfYo 2262 102, ⟨0, 0⟩⟩ ⟨86400, 0⟩ = .ok (.err .TimestampExceedsLimit) ∧
    ZInv ⟨NaiveDT.MIN, -1⟩ ∧
    zoned_duration .trunc ⟨NaiveDT.MIN, -1⟩ ⟨1, 0⟩ = .ok (.err .TimestampExceedsLimit) ∧
    naive_duration .trunc NaiveDT.MAX ⟨0, 0⟩ = .ok (.err .DurationExceedsLimit) := by decide +kernel

/-- **The clauses of the property on the returned `NaiveDateTime`** (input outside a leap second).
Whenever the call returns `Ok(v)`: the span is in `1 ..= i64::MAX` ns and the input in the window; the
timestamp `m` of `v` is a multiple of the span, less than one span from the input's `w`, on the right
side (`trunc`: not after, `round_up`: not before, `round`: at most half a span, a tie up); the value
is returned unchanged exactly when `w` is a multiple; and the operation is idempotent — unless the
result has left the 64-bit window (rounding up from the last 23:47:16 of the window), in which case
the second call reports `TimestampExceedsLimit`. -/
theorem naive_result_properties (op : Op) (dt v : NaiveDT) (dur : Delta) (hdt : NDTInv dt)
    (hnl : NonLeap dt) (hd : DInv dur) (h : naive_duration op dt dur = .ok (.ok v)) :
    (0 < ns dur ∧ ns dur ≤ 9223372036854775807) ∧ InI64 (instNs dt) ∧
    ns dur ∣ instNs v ∧ -(ns dur) < instNs v - instNs dt ∧ instNs v - instNs dt < ns dur ∧
    (op = .trunc → instNs v ≤ instNs dt) ∧ (op = .up → instNs dt ≤ instNs v) ∧
    (op = .round → 2 * (instNs v - instNs dt) ≤ ns dur ∧ -(ns dur) < 2 * (instNs v - instNs dt)) ∧
    (ns dur ∣ instNs dt ↔ v = dt) ∧
    naive_duration op v dur =
      if InI64 (instNs v) then .ok (.ok v) else .ok (.err .TimestampExceedsLimit) := by
  obtain ⟨hg, hs, hm, hz⟩ := naive_ok_inv op dt v dur hdt hd h
  obtain ⟨a, b, c⟩ := moved_nonleap dt v _ hnl hm
  have hc : instNs v = specOf (kindOf op) (instNs dt) (ns dur) := by rw [c]; omega
  obtain ⟨c1, c2, c3, c4, c5, c6, c7⟩ := spec_corollaries op (instNs dt) (ns dur) hg.1
  rw [← hc] at c1 c2 c3 c4 c5 c6 c7
  refine ⟨hg, hs, c1, c2, c3, c4, c5, c6,
    ⟨fun hdv => hz (by rw [← hc]; exact c7.mp hdv), fun e => c7.mpr (by rw [e])⟩,
    naive_fixed op v dur a hd hg c1⟩

/-- **… and on the returned `DateTime<FixedOffset>`**, with the wall-clock timestamp `wallNs`; the
offset is kept -/
theorem zoned_result_properties (op : Op) (z v : Zoned) (dur : Delta) (hz : ZInv z)
    (hnl : NonLeap z.utc) (hd : DInv dur) (h : zoned_duration op z dur = .ok (.ok v)) :
    (0 < ns dur ∧ ns dur ≤ 9223372036854775807) ∧ InI64 (wallNs z) ∧ v.off = z.off ∧
    ns dur ∣ wallNs v ∧ -(ns dur) < wallNs v - wallNs z ∧ wallNs v - wallNs z < ns dur ∧
    (op = .trunc → wallNs v ≤ wallNs z) ∧ (op = .up → wallNs z ≤ wallNs v) ∧
    (op = .round → 2 * (wallNs v - wallNs z) ≤ ns dur ∧ -(ns dur) < 2 * (wallNs v - wallNs z)) ∧
    (ns dur ∣ wallNs z ↔ v = z) ∧
    zoned_duration op v dur =
      if InI64 (wallNs v) then .ok (.ok v) else .ok (.err .TimestampExceedsLimit) := by
  obtain ⟨hg, hs, hoff, hm, hzero⟩ := zoned_ok_inv op z v dur hz hd h
  obtain ⟨a, b, c⟩ := moved_nonleap z.utc v.utc _ hnl hm
  have hin : InI64 (wallNs z) := hs
  have hc : wallNs v = specOf (kindOf op) (wallNs z) (ns dur) := by
    unfold wallNs at *; rw [c, hoff]; omega
  obtain ⟨c1, c2, c3, c4, c5, c6, c7⟩ := spec_corollaries op (wallNs z) (ns dur) hg.1
  rw [← hc] at c1 c2 c3 c4 c5 c6 c7
  have hzv : ZInv v := ⟨a, by rw [hoff]; exact hz.2⟩
  refine ⟨hg, hin, hoff, c1, c2, c3, c4, c5, c6,
    ⟨fun hdv => hzero (by rw [← hc]; exact c7.mp hdv), fun e => c7.mpr (by rw [e])⟩,
    zoned_fixed op v dur hzv hd hg c1⟩

/-- idempotent inside the window; the one way out of it -/
example : naive_duration .round ⟨dateOfYo 2018 11, ⟨43200, 150000000⟩⟩ ⟨0, 10000000⟩ =
      .ok (.ok ⟨dateOfYo 2018 11, ⟨43200, 150000000⟩⟩) ∧
    zoned_duration .trunc ⟨⟨dateOfYo 2018 10, ⟨82800, 0⟩⟩, 3600⟩ ⟨86400, 0⟩ =
      .ok (.ok ⟨⟨dateOfYo 2018 10, ⟨82800, 0⟩⟩, 3600⟩) ∧
    ¬ InI64 (instNs ⟨dateOfYo 2262 102, ⟨0, 0⟩⟩) := by decide +kernel

/-! ### Inputs inside a leap second (nanosecond field ≥ 10⁹): what holds instead

The property's quantifier says "all date-times", but for a value inside a leap second the clause
"the result is the specified multiple" is FALSE (known finding F19).  `naive_result` / `zoned_result`
cover every valid value outside a leap second; the theorems below cover every valid value inside one,
so the two domains together are all valid values.  The stamp of such a value is the line position
`w = secs·10⁹ + field` (`instNs`, with field ≥ 10⁹: the leap second has the stamp of the following
second plus its own fraction); the span is found from `w` correctly (`d = specOf … w − w`), but
`original + d` counts the leap second as a real second (C07), so a move forwards past its end reads
back one second short.  The error cases are the same as outside a leap second (since fix 32de816 of
`timestamp_nanos_opt`, which used to refuse the wall-clock second −9223372038 with a leap-second field
although the count fits). -/

/-- the integer path (`rd.trunc/round/up`) for a leap-second field: `datetime_spec` (repeated here),
and the result `original + d` reads back (`stamp_after`) as the specified multiple exactly when the
move does not pass the end of the leap second, else exactly 10⁹ ns before it -/
theorem datetime_spec_leap (op : Op) (utc sub off : Int) (dur : Delta) (hd : DInv dur)
    (h0 : 1000000000 ≤ sub) (h1 : sub < 2000000000) :
    let w := (utc + off) * 1000000000 + sub
    let m := specOf (kindOf op) w (ns dur)
    on_datetime op utc sub off dur =
      (if ns dur ≤ 0 ∨ 9223372036854775807 < ns dur then .ok (.err .DurationExceedsLimit)
       else if ¬ InI64 w then .ok (.err .TimestampExceedsLimit)
       else .ok (.ok (m - w))) ∧
    (stamp_after w sub (m - w) = m ↔ sub + (m - w) < 2000000000) ∧
    (2000000000 ≤ sub + (m - w) → stamp_after w sub (m - w) = m - 1000000000) := by
  intro w m
  refine ⟨on_datetime_eq2 op utc sub off dur hd, ?_, ?_⟩
  · unfold stamp_after; split <;> omega
  · intro h; unfold stamp_after; rw [if_pos ⟨by omega, by omega⟩]; omega

/-- **`NaiveDateTime` inside a leap second**: errors as outside one; otherwise `Ok(v)`, `v` valid,
and with `m` the specified multiple and `d = m − w`: if the move stays before the end of the leap
second (`field + d < 2·10⁹`: every truncation, every round that goes down, and an upward move inside
the leap second) the timestamp of `v` is `m`; otherwise it is `m − 10⁹` and `v` is outside the leap
second.  `v` is itself a leap-second value exactly when it stays inside the same leap second. -/
theorem naive_result_leap (op : Op) (dt : NaiveDT) (dur : Delta) (hdt : NDTInv dt) (hl : ¬ NonLeap dt)
    (hd : DInv dur) :
    let w := instNs dt
    let m := specOf (kindOf op) w (ns dur)
    (ns dur ≤ 0 ∨ 9223372036854775807 < ns dur →
      naive_duration op dt dur = .ok (.err .DurationExceedsLimit)) ∧
    (0 < ns dur ∧ ns dur ≤ 9223372036854775807 → ¬ InI64 w →
      naive_duration op dt dur = .ok (.err .TimestampExceedsLimit)) ∧
    (0 < ns dur ∧ ns dur ≤ 9223372036854775807 → InI64 w →
      ∃ v, naive_duration op dt dur = .ok (.ok v) ∧ NDTInv v ∧
        (dt.time.frac + (m - w) < 2000000000 → instNs v = m) ∧
        (2000000000 ≤ dt.time.frac + (m - w) → instNs v = m - 1000000000 ∧ NonLeap v) ∧
        (¬ NonLeap v ↔ (1000000000 ≤ dt.time.frac + (m - w) ∧ dt.time.frac + (m - w) < 2000000000)) ∧
        (TStrict dt.time → TStrict v.time ∧
          NaiveDT.timestamp_nanos_opt v = .ok (if InI64 (instNs v) then some (instNs v) else none))) := by
  dsimp only
  obtain ⟨e1, e2, e3⟩ := naive_eval op dt dur hdt hd
  refine ⟨e1, e2, ?_⟩
  intro hg hin
  obtain ⟨x, hx, hm, _⟩ := e3 hg hin
  obtain ⟨a, b, c, d', e⟩ := moved_leap dt x _ hl hm
  refine ⟨x, hx, a, fun h => by rw [b h]; omega, fun h => ?_, d', fun hs => ?_⟩
  · obtain ⟨c1, c2⟩ := c h
    exact ⟨by rw [c1]; omega, c2⟩
  · exact ⟨e hs, Chrono.Proofs.Ts.nanos_opt_spec x a (e hs)⟩

/-- **`DateTime<FixedOffset>` whose UTC reading is inside a leap second**: the same on the wall clock;
the crate's own `timestamp_nanos_opt` (which reads the UTC instant of a `DateTime`) reads the result back
as `instNs` of its UTC reading -/
theorem zoned_result_leap (op : Op) (z : Zoned) (dur : Delta) (hz : ZInv z) (hl : ¬ NonLeap z.utc)
    (hd : DInv dur) :
    let w := wallNs z
    let m := specOf (kindOf op) w (ns dur)
    (ns dur ≤ 0 ∨ 9223372036854775807 < ns dur →
      zoned_duration op z dur = .ok (.err .DurationExceedsLimit)) ∧
    (0 < ns dur ∧ ns dur ≤ 9223372036854775807 → ¬ InI64 w →
      zoned_duration op z dur = .ok (.err .TimestampExceedsLimit)) ∧
    (0 < ns dur ∧ ns dur ≤ 9223372036854775807 → InI64 w →
      ∃ v, zoned_duration op z dur = .ok (.ok v) ∧ v.off = z.off ∧ ZInv v ∧
        (z.utc.time.frac + (m - w) < 2000000000 → wallNs v = m) ∧
        (2000000000 ≤ z.utc.time.frac + (m - w) → wallNs v = m - 1000000000 ∧ NonLeap v.utc) ∧
        (¬ NonLeap v.utc ↔
          (1000000000 ≤ z.utc.time.frac + (m - w) ∧ z.utc.time.frac + (m - w) < 2000000000)) ∧
        (TStrict z.utc.time → TStrict v.utc.time ∧
          NaiveDT.timestamp_nanos_opt v.utc =
            .ok (if InI64 (instNs v.utc) then some (instNs v.utc) else none))) := by
  dsimp only
  obtain ⟨e1, e2, e3⟩ := zoned_eval op z dur hz hd
  refine ⟨e1, e2, ?_⟩
  intro hg hin
  obtain ⟨x, hx, hm, _⟩ := e3 hg hin
  obtain ⟨a, b, c, d', e⟩ := moved_leap z.utc x _ hl hm
  have hwx : ∀ k, instNs x = instNs z.utc +
        (specOf (kindOf op) (wallNs z) (ns dur) - wallNs z) - k →
      wallNs (⟨x, z.off⟩ : Zoned) = specOf (kindOf op) (wallNs z) (ns dur) - k := by
    intro k hk
    show instNs x + z.off * 1000000000 = _
    rw [hk]
    generalize specOf (kindOf op) (wallNs z) (ns dur) = m
    unfold wallNs; omega
  refine ⟨⟨x, z.off⟩, hx, rfl, ⟨a, hz.2⟩, fun h => ?_, fun h => ?_, d',
    fun hs => ⟨e hs, Chrono.Proofs.Ts.nanos_opt_spec x a (e hs)⟩⟩
  · have := hwx 0 (by rw [b h]; omega)
    omega
  · obtain ⟨c1, c2⟩ := c h
    exact ⟨hwx 1000000000 c1, c2⟩

/-- non-vacuity, each branch: 2016-12-31T23:59:60.5 truncated to 300 ms stays inside the leap second
at the multiple; rounded up to one second it leaves the leap second by exactly its remaining half
second and lands on 00:00:00 — `m − 10⁹`; viewed at +05:30 the same on the wall clock; the leap second
1677-09-21T00:11:59(+1.5 s) UTC viewed at +00:00:43, whose wall-clock stamp −9223372036500000000 is just
inside the window (refused before fix 32de816), is truncated to the second -/
example : NDTInv ⟨dateOfYo 2016 366, ⟨86399, 1500000000⟩⟩ ∧ TStrict (⟨86399, 1500000000⟩ : Time) ∧
    ¬ NonLeap ⟨dateOfYo 2016 366, ⟨86399, 1500000000⟩⟩ ∧
    naive_duration .trunc ⟨dateOfYo 2016 366, ⟨86399, 1500000000⟩⟩ ⟨0, 300000000⟩ =
      .ok (.ok ⟨dateOfYo 2016 366, ⟨86399, 1300000000⟩⟩) ∧
    (300000000 : Int) ∣ instNs ⟨dateOfYo 2016 366, ⟨86399, 1300000000⟩⟩ ∧
    naive_duration .up ⟨dateOfYo 2016 366, ⟨86399, 1500000000⟩⟩ ⟨1, 0⟩ =
      .ok (.ok ⟨dateOfYo 2017 1, ⟨0, 0⟩⟩) ∧
    zoned_duration .up ⟨⟨dateOfYo 2016 366, ⟨86399, 1500000000⟩⟩, 19800⟩ ⟨1, 0⟩ =
      .ok (.ok ⟨⟨dateOfYo 2017 1, ⟨0, 0⟩⟩, 19800⟩) ∧
    ZInv ⟨⟨dateOfYo 1677 264, ⟨719, 1500000000⟩⟩, 43⟩ ∧
    wallNs ⟨⟨dateOfYo 1677 264, ⟨719, 1500000000⟩⟩, 43⟩ = -9223372036500000000 ∧
    zoned_duration .trunc ⟨⟨dateOfYo 1677 264, ⟨719, 1500000000⟩⟩, 43⟩ ⟨1, 0⟩ =
      .ok (.ok ⟨⟨dateOfYo 1677 264, ⟨719, 1000000000⟩⟩, 43⟩) := by decide +kernel

/-- **The corollaries for a `NaiveDateTime` inside a leap second** (audit 2, LOW-1).  Whenever the call
returns `Ok(v)`: span and stamp are in range; `v` is the input itself exactly when the input's line
position `w` is a multiple of the span (as outside a leap second); if the move does not pass the end of
the leap second, the timestamp of `v` is the specified multiple `m`, within one span of `w`, and the
SECOND call returns `v` again — unless `m` has left the 64-bit window (`TimestampExceedsLimit`); if the
move passes the end of the leap second, `v` is an ordinary value with timestamp `m − 10⁹` and the second
call returns `v` again exactly when the span divides one second (and `m − 10⁹` is in the window): for
any other span the operation is NOT idempotent there (finding F19 again: `m − 10⁹` is not a multiple). -/
theorem naive_result_leap_properties (op : Op) (dt v : NaiveDT) (dur : Delta) (hdt : NDTInv dt)
    (hl : ¬ NonLeap dt) (hd : DInv dur) (h : naive_duration op dt dur = .ok (.ok v)) :
    let w := instNs dt
    let m := specOf (kindOf op) w (ns dur)
    (0 < ns dur ∧ ns dur ≤ 9223372036854775807) ∧ InI64 w ∧
    (ns dur ∣ w ↔ v = dt) ∧
    (dt.time.frac + (m - w) < 2000000000 →
      instNs v = m ∧ ns dur ∣ instNs v ∧ -(ns dur) < instNs v - w ∧ instNs v - w < ns dur ∧
      naive_duration op v dur =
        if InI64 m then .ok (.ok v) else .ok (.err .TimestampExceedsLimit)) ∧
    (2000000000 ≤ dt.time.frac + (m - w) →
      instNs v = m - 1000000000 ∧ NonLeap v ∧
      (naive_duration op v dur = .ok (.ok v) ↔ (InI64 (m - 1000000000) ∧ ns dur ∣ 1000000000))) := by
  dsimp only
  obtain ⟨hg, hs, hm, hzero⟩ := naive_ok_inv op dt v dur hdt hd h
  obtain ⟨a, b, c, _, _⟩ := moved_leap dt v _ hl hm
  obtain ⟨c1, c2, c3, _, _, _, c7⟩ := spec_corollaries op (instNs dt) (ns dur) hg.1
  refine ⟨hg, hs, ⟨fun hdv => hzero (c7.mp hdv), fun e => ?_⟩, fun hlt => ?_, fun hge => ?_⟩
  · subst e
    have := moved_leap_self v _ hl hm
    exact c7.mpr (by omega)
  · have hv : instNs v = specOf (kindOf op) (instNs dt) (ns dur) := by rw [b hlt]; omega
    refine ⟨hv, by rw [hv]; exact c1, by rw [hv]; exact c2, by rw [hv]; exact c3, ?_⟩
    rw [← hv]
    exact naive_fixed op v dur a hd hg (by rw [hv]; exact c1)
  · obtain ⟨hv, hnl⟩ := c hge
    have hv' : instNs v = specOf (kindOf op) (instNs dt) (ns dur) - 1000000000 := by rw [hv]; omega
    refine ⟨hv', hnl, ?_⟩
    rw [naive_unchanged_iff op v dur a hnl hd hg, hv']
    exact ⟨fun ⟨hin, hdv⟩ => ⟨hin, dvd_of_sub_const _ _ c1 hdv⟩,
      fun ⟨hin, hdv⟩ => ⟨hin, dvd_sub_const _ _ c1 hdv⟩⟩

/-- **… and for a `DateTime<FixedOffset>` whose UTC reading is inside a leap second**, on the wall clock -/
theorem zoned_result_leap_properties (op : Op) (z v : Zoned) (dur : Delta) (hz : ZInv z)
    (hl : ¬ NonLeap z.utc) (hd : DInv dur) (h : zoned_duration op z dur = .ok (.ok v)) :
    let w := wallNs z
    let m := specOf (kindOf op) w (ns dur)
    (0 < ns dur ∧ ns dur ≤ 9223372036854775807) ∧ InI64 w ∧ v.off = z.off ∧
    (ns dur ∣ w ↔ v = z) ∧
    (z.utc.time.frac + (m - w) < 2000000000 →
      wallNs v = m ∧ ns dur ∣ wallNs v ∧ -(ns dur) < wallNs v - w ∧ wallNs v - w < ns dur ∧
      zoned_duration op v dur =
        if InI64 m then .ok (.ok v) else .ok (.err .TimestampExceedsLimit)) ∧
    (2000000000 ≤ z.utc.time.frac + (m - w) →
      wallNs v = m - 1000000000 ∧ NonLeap v.utc ∧
      (zoned_duration op v dur = .ok (.ok v) ↔ (InI64 (m - 1000000000) ∧ ns dur ∣ 1000000000))) := by
  dsimp only
  obtain ⟨hg, hs, hoff, hm, hzero⟩ := zoned_ok_inv op z v dur hz hd h
  obtain ⟨a, b, c, _, _⟩ := moved_leap z.utc v.utc _ hl hm
  obtain ⟨c1, c2, c3, _, _, _, c7⟩ := spec_corollaries op (wallNs z) (ns dur) hg.1
  have hzv : ZInv v := ⟨a, by rw [hoff]; exact hz.2⟩
  have hwv : wallNs v = instNs v.utc + z.off * 1000000000 := by unfold wallNs; rw [hoff]
  have hwz : wallNs z = instNs z.utc + z.off * 1000000000 := rfl
  refine ⟨hg, hs, hoff, ⟨fun hdv => hzero (c7.mp hdv), fun e => ?_⟩, fun hlt => ?_, fun hge => ?_⟩
  · subst e
    have := moved_leap_self v.utc _ hl hm
    exact c7.mpr (by omega)
  · have hv : wallNs v = specOf (kindOf op) (wallNs z) (ns dur) := by rw [hwv, b hlt]; omega
    refine ⟨hv, by rw [hv]; exact c1, by rw [hv]; exact c2, by rw [hv]; exact c3, ?_⟩
    rw [← hv]
    exact zoned_fixed op v dur hzv hd hg (by rw [hv]; exact c1)
  · obtain ⟨hv, hnl⟩ := c hge
    have hv' : wallNs v = specOf (kindOf op) (wallNs z) (ns dur) - 1000000000 := by rw [hwv, hv]; omega
    refine ⟨hv', hnl, ?_⟩
    rw [zoned_unchanged_iff op v dur hzv hnl hd hg, hv']
    exact ⟨fun ⟨hin, hdv⟩ => ⟨hin, dvd_of_sub_const _ _ c1 hdv⟩,
      fun ⟨hin, hdv⟩ => ⟨hin, dvd_sub_const _ _ c1 hdv⟩⟩

/-- non-vacuity, each branch (kernel-checked on the model; the harness replays the calls on the crate):
2016-12-31T23:59:60.5 truncated to 300 ms stays in the leap second and is a fixed point; rounded up to one
second it passes the end and lands on 00:00:00 — one second divides one second: a fixed point; rounded up to
one minute it lands on 00:00:59, and the second call moves it on to 00:01:00: not idempotent -/
example : naive_duration .trunc ⟨dateOfYo 2016 366, ⟨86399, 1300000000⟩⟩ ⟨0, 300000000⟩ =
      .ok (.ok ⟨dateOfYo 2016 366, ⟨86399, 1300000000⟩⟩) ∧
    naive_duration .up ⟨dateOfYo 2017 1, ⟨0, 0⟩⟩ ⟨1, 0⟩ = .ok (.ok ⟨dateOfYo 2017 1, ⟨0, 0⟩⟩) ∧
    naive_duration .up ⟨dateOfYo 2016 366, ⟨86399, 1500000000⟩⟩ ⟨60, 0⟩ =
      .ok (.ok ⟨dateOfYo 2017 1, ⟨59, 0⟩⟩) ∧
    naive_duration .up ⟨dateOfYo 2017 1, ⟨59, 0⟩⟩ ⟨60, 0⟩ = .ok (.ok ⟨dateOfYo 2017 1, ⟨60, 0⟩⟩) ∧
    ¬ ((60000000000 : Int) ∣ 1000000000) := by decide +kernel

/-- COUNTEREXAMPLE to "the result is the least multiple not before the input" (finding F19), on the
value-level model and checked by the kernel: 2016-12-31T23:59:60.5 `.duration_round_up(1 min)` returns
2017-01-01T00:00:59, whose timestamp is one second short of the specified multiple (and not a multiple
of one minute at all).  The harness replays it on the crate. -/
theorem leap_round_up_is_not_the_multiple :
    NDTInv ⟨dateOfYo 2016 366, ⟨86399, 1500000000⟩⟩ ∧ TStrict (⟨86399, 1500000000⟩ : Time) ∧
    naive_duration .up ⟨dateOfYo 2016 366, ⟨86399, 1500000000⟩⟩ ⟨60, 0⟩ =
      .ok (.ok ⟨dateOfYo 2017 1, ⟨59, 0⟩⟩) ∧
    instNs ⟨dateOfYo 2017 1, ⟨59, 0⟩⟩ = 1483228859000000000 ∧
    specOf .up (instNs ⟨dateOfYo 2016 366, ⟨86399, 1500000000⟩⟩) (ns ⟨60, 0⟩) = 1483228860000000000 ∧
    ¬ ((60000000000 : Int) ∣ 1483228859000000000) := by decide +kernel

/-- `span_for_digits` (table re-extracted from the source on every run) is 10^(9 − min 9 digits)
for every digit count -/
theorem span_for_digits_spec (digits : Nat) :
    span_for_digits digits = (10 : Int) ^ (9 - min 9 digits) :=
  span_for_digits_eq digits

/-- Sub-second truncation and rounding, for every nanosecond field (`< 2·10⁹`: leap seconds
included) and every digit count (all of `u16` and beyond): the model returns the specified
(field, carried seconds) pair; no step panics. -/
theorem subsec_spec (frac : Int) (digits : Nat) (h0 : 0 ≤ frac) (h1 : frac < 2000000000) :
    trunc_subsecs frac digits = .ok (truncSubsecSpec frac digits) ∧
    round_subsecs frac digits = .ok (roundSubsecSpec frac digits) := by
  obtain ⟨hr, ht⟩ := subsecs_are_move_within frac digits h0 h1
  rw [ht, hr, apply_within_of_lands (subsec_move_lands false frac digits h0 h1),
    apply_within_of_lands (subsec_move_lands true frac digits h0 h1)]
  exact ⟨rfl, rfl⟩

/-- What the sub-second specification says: truncation stays in the second (a leap-second fraction
stays ≥ 10⁹) at the greatest multiple of 10^(9−digits) not after the field, less than one span below
it; rounding gives the nearer multiple (ties up) inside the second, or — when that multiple is the
end of the second — field 0 with one second carried; nine or more digits change nothing. -/
theorem subsec_meaning (frac : Int) (digits : Nat) (h0 : 0 ≤ frac) (h1 : frac < 2000000000) :
    let base := leapBase frac
    let t := truncSubsecSpec frac digits
    let r := roundSubsecSpec frac digits
    (t.2 = 0 ∧ t.1 = truncSpec frac (digitSpan digits) ∧ base ≤ t.1 ∧ t.1 ≤ frac ∧
      frac - t.1 < digitSpan digits) ∧
    ((r.2 = 0 ∧ r.1 = roundSpec frac (digitSpan digits) ∧ base ≤ r.1 ∧ r.1 < base + 1000000000) ∨
     (r.2 = 1 ∧ r.1 = 0 ∧ roundSpec frac (digitSpan digits) = base + 1000000000)) ∧
    (9 ≤ digits → t = (frac, 0) ∧ r = (frac, 0)) := by
  intro base t r
  have hp := digitSpan_pos digits
  obtain ⟨w1, w2, w3⟩ := spec_within_second frac _ hp (digitSpan_dvd digits) h0 h1
  have hs := (spec_sides frac _ hp).1
  have hb : -digitSpan digits < truncSpec frac (digitSpan digits) - frac := (spec_bounds .trunc frac _ hp).1
  have hl := leapBase_cases frac h0 h1
  have eb : base = leapBase frac := rfl
  have ht : t = (truncSpec frac (digitSpan digits), 0) := if_neg (by omega)
  refine ⟨by rw [ht]; exact ⟨rfl, rfl, w1, hs, by omega⟩, ?_, fun h9 => ?_⟩
  · by_cases hv : roundSpec frac (digitSpan digits) = base + 1000000000
    · have hr : r = (0, 1) := if_pos hv
      rw [hr]; exact Or.inr ⟨rfl, rfl, hv⟩
    · have hr : r = (roundSpec frac (digitSpan digits), 0) := if_neg hv
      rw [hr]; exact Or.inl ⟨rfl, rfl, by omega, by omega⟩
  · have h1' : digitSpan digits ∣ frac := by rw [digitSpan_of_ge _ h9]; exact Int.one_dvd _
    exact ⟨(subsecSpec_of_dvd false frac digits h0 h1 h1').1, (subsecSpec_of_dvd true frac digits h0 h1 h1').1⟩

example : round_subsecs 154000000 2 = .ok (150000000, 0) ∧ round_subsecs 154000000 1 = .ok (200000000, 0) ∧
    round_subsecs 999999999 3 = .ok (0, 1) ∧ trunc_subsecs 1999999999 0 = .ok (1000000000, 0) ∧
    round_subsecs 1500000000 0 = .ok (0, 1) ∧ round_subsecs 1499999999 0 = .ok (1000000000, 0) ∧
    round_subsecs 123456789 65535 = .ok (123456789, 0) := by decide

/-! ### Sub-second rounding: the returned value

`subsec_spec` above is about the nanosecond field and uses `apply_within` for "adding less than a
second, seen on the field".  Here that step is tied to C07's addition (`addLeap`, which
`Time.overflowing_add_signed` equals by C07 `add_spec`), and the three `SubsecRound` impls are stated
on the values: `time_subsecs` (NaiveTime), `naive_subsecs` (NaiveDateTime), `zoned_subsecs`
(DateTime<FixedOffset>) of Model/RoundDT.lean, driver ops `rd.t.*`, `rd.n.rsub/tsub`, `rd.z.rsub/tsub`.
`subsecSpec round frac digits` is the specified (field, carried seconds) pair of `subsec_meaning`. -/

/-- `apply_within` is C07's extended-line addition: when the move `d` lands inside the current second
(`c = 0`, field `f = frac + d`, leap fraction kept) or exactly on its end (`c = 1`, field 0), the sum
`t + d` of C07 has field `f`, second count `t.secs + c` modulo a day, carries the whole day when that
passes midnight — and `apply_within` returns exactly `(f, c)` -/
theorem apply_within_is_add (t : Time) (d f c : Int) (ht : TValid t)
    (h : (c = 0 ∧ f = t.frac + d ∧ leapBase t.frac ≤ f ∧ f < leapBase t.frac + 1000000000) ∨
      (c = 1 ∧ f = 0 ∧ t.frac + d = leapBase t.frac + 1000000000)) :
    addLeap t d = (⟨(t.secs + c) % 86400, f⟩, (t.secs + c) / 86400 * 86400) ∧
    apply_within t.frac d = (f, c) :=
  ⟨addLeap_within t d f c ht h, apply_within_of_lands h⟩

/-- the integer-level functions are the decision (`subsecMove`, equal to the specified move)
followed by `apply_within`, and the move always lands as `apply_within_is_add` requires -/
theorem subsecs_decompose (frac : Int) (digits : Nat) (h0 : 0 ≤ frac) (h1 : frac < 2000000000) :
    round_subsecs frac digits = .ok (apply_within frac (subsecMove true frac digits)) ∧
    trunc_subsecs frac digits = .ok (apply_within frac (subsecMove false frac digits)) ∧
    ∀ round, subsec_move round frac digits = .ok (subsecMove round frac digits) ∧
      -1000000000 < subsecMove round frac digits ∧ subsecMove round frac digits < 1000000000 ∧
      (((subsecSpec round frac digits).2 = 0 ∧
          (subsecSpec round frac digits).1 = frac + subsecMove round frac digits ∧
          leapBase frac ≤ (subsecSpec round frac digits).1 ∧
          (subsecSpec round frac digits).1 < leapBase frac + 1000000000) ∨
        ((subsecSpec round frac digits).2 = 1 ∧ (subsecSpec round frac digits).1 = 0 ∧
          frac + subsecMove round frac digits = leapBase frac + 1000000000)) :=
  ⟨(subsecs_are_move_within frac digits h0 h1).1, (subsecs_are_move_within frac digits h0 h1).2,
    fun round => ⟨subsec_move_eq round frac digits h0, (subsecMove_bounds round frac digits).1,
      (subsecMove_bounds round frac digits).2, subsec_move_lands round frac digits h0 h1⟩⟩

/-- **`NaiveTime`**, every valid time (leap-second fields included), every digit count: the call
returns the time with the specified field and the second count moved by the specified carry, wrapping
at midnight (23:59:59.9 rounds to 00:00:00); never a panic -/
theorem time_subsecs_spec (round : Bool) (t : Time) (digits : Nat) (ht : TValid t) :
    time_subsecs round t digits =
      .ok ⟨(t.secs + (subsecSpec round t.frac digits).2) % 86400, (subsecSpec round t.frac digits).1⟩ :=
  time_subsecs_eval round t digits ht

/-- **`NaiveDateTime`**, every valid value: the returned value is valid, has the specified field, and
is the specified carry (0 or 1 s) later on the timestamp line — date carry included.  The exact
exception: when that carried second lies after `NaiveDateTime::MAX` (only for a value in the last
second of the range whose field rounds up to the next second) the `+` operator panics. -/
theorem naive_subsecs_spec (round : Bool) (dt : NaiveDT) (digits : Nat) (hdt : NDTInv dt) :
    (instSecs dt + (subsecSpec round dt.time.frac digits).2 ≤ instSecs NaiveDT.MAX →
      ∃ v, naive_subsecs round dt digits = .ok v ∧ NDTInv v ∧
        v.time.frac = (subsecSpec round dt.time.frac digits).1 ∧
        instSecs v = instSecs dt + (subsecSpec round dt.time.frac digits).2) ∧
    (instSecs NaiveDT.MAX < instSecs dt + (subsecSpec round dt.time.frac digits).2 →
      naive_subsecs round dt digits = .panic) :=
  naive_subsecs_eval round dt digits hdt

/-- **`DateTime<FixedOffset>`**: the same on the UTC reading; the offset is kept (the nanosecond field
of the wall clock is that of the UTC reading) -/
theorem zoned_subsecs_spec (round : Bool) (z : Zoned) (digits : Nat) (hz : ZInv z) :
    (instSecs z.utc + (subsecSpec round z.utc.time.frac digits).2 ≤ instSecs NaiveDT.MAX →
      ∃ v, zoned_subsecs round z digits = .ok ⟨v, z.off⟩ ∧ NDTInv v ∧
        v.time.frac = (subsecSpec round z.utc.time.frac digits).1 ∧
        instSecs v = instSecs z.utc + (subsecSpec round z.utc.time.frac digits).2) ∧
    (instSecs NaiveDT.MAX < instSecs z.utc + (subsecSpec round z.utc.time.frac digits).2 →
      zoned_subsecs round z digits = .panic) :=
  zoned_subsecs_eval round z digits hz

/-- non-vacuity: midnight wrap of a `NaiveTime`; date carry of a `NaiveDateTime` on New Year's Eve,
out of a leap second; the documented panic at the very end of the range, and its neighbour that does
not round up; a zone-aware value -/
example : time_subsecs true ⟨86399, 950000000⟩ 1 = .ok ⟨0, 0⟩ ∧
    time_subsecs false ⟨86399, 950000000⟩ 1 = .ok ⟨86399, 900000000⟩ ∧
    naive_subsecs true ⟨dateOfYo 2016 366, ⟨86399, 1999999999⟩⟩ 3 = .ok ⟨dateOfYo 2017 1, ⟨0, 0⟩⟩ ∧
    naive_subsecs false ⟨dateOfYo 2016 366, ⟨86399, 1999999999⟩⟩ 3 =
      .ok ⟨dateOfYo 2016 366, ⟨86399, 1999000000⟩⟩ ∧
    naive_subsecs true NaiveDT.MAX 0 = .panic ∧
    naive_subsecs true ⟨Date.MAX, ⟨86399, 499999999⟩⟩ 0 = .ok ⟨Date.MAX, ⟨86399, 0⟩⟩ ∧
    zoned_subsecs true ⟨⟨dateOfYo 2018 11, ⟨43200, 154000000⟩⟩, 3600⟩ 2 =
      .ok ⟨⟨dateOfYo 2018 11, ⟨43200, 150000000⟩⟩, 3600⟩ := by decide +kernel

/-- **Sub-second, `NaiveTime`: multiples unchanged, idempotent** (audit 2, LOW-2).  For every valid
time and digit count the call returns a valid time whose field is a multiple of `10^(9−digits)`; the
second call returns it again; and the value is returned unchanged exactly when its field is a multiple -/
theorem time_subsecs_idem (round : Bool) (t : Time) (digits : Nat) (ht : TValid t) :
    ∃ v, time_subsecs round t digits = .ok v ∧ TValid v ∧ digitSpan digits ∣ v.frac ∧
      time_subsecs round v digits = .ok v ∧ (digitSpan digits ∣ t.frac ↔ v = t) := by
  obtain ⟨t0, t1, t2, t3⟩ := ht
  obtain ⟨f1, f2, f3, _, _⟩ := subsecSpec_field round t.frac digits t2 t3
  have hv : TValid (⟨(t.secs + (subsecSpec round t.frac digits).2) % 86400,
      (subsecSpec round t.frac digits).1⟩ : Time) :=
    ⟨Int.emod_nonneg _ (by decide), Int.emod_lt_of_pos _ (by decide), f2, f3⟩
  refine ⟨_, time_subsecs_eval round t digits ⟨t0, t1, t2, t3⟩, hv, f1, ?_, ?_, ?_⟩
  · rw [time_subsecs_eval round _ digits hv]
    dsimp only
    rw [(subsecSpec_of_dvd round _ digits f2 f3 f1).1]
    dsimp only
    rw [Int.add_zero, Int.emod_emod_of_dvd _ (Int.dvd_refl _)]
  · intro hdv
    rw [(subsecSpec_of_dvd round t.frac digits t2 t3 hdv).1]
    dsimp only
    rw [Int.add_zero, Int.emod_eq_of_lt t0 t1]
  · intro e
    have : (subsecSpec round t.frac digits).1 = t.frac := congrArg Time.frac e
    rw [← this]; exact f1

/-- **… `NaiveDateTime`**, under the no-panic condition of `naive_subsecs_spec` -/
theorem naive_subsecs_idem (round : Bool) (dt : NaiveDT) (digits : Nat) (hdt : NDTInv dt)
    (hno : instSecs dt + (subsecSpec round dt.time.frac digits).2 ≤ instSecs NaiveDT.MAX) :
    ∃ v, naive_subsecs round dt digits = .ok v ∧ NDTInv v ∧ digitSpan digits ∣ v.time.frac ∧
      naive_subsecs round v digits = .ok v ∧ (digitSpan digits ∣ dt.time.frac ↔ v = dt) := by
  have hf := hdt.2.2.2
  obtain ⟨f1, f2, f3, _, _⟩ := subsecSpec_field round dt.time.frac digits hf.1 hf.2
  obtain ⟨v, hv, hinv, hfr, _⟩ := (naive_subsecs_eval round dt digits hdt).1 hno
  have hfix : ∀ x : NaiveDT, 0 ≤ x.time.frac → x.time.frac < 2000000000 →
      digitSpan digits ∣ x.time.frac → naive_subsecs round x digits = .ok x := fun x a b c =>
    subsec_generic_fixed round x.time.frac x NaiveDT.add NaiveDT.sub digits a b c
  refine ⟨v, hv, hinv, by rw [hfr]; exact f1, hfix v (by rw [hfr]; exact f2) (by rw [hfr]; exact f3)
    (by rw [hfr]; exact f1), fun hdv => ?_, fun e => ?_⟩
  · rw [hfix dt hf.1 hf.2 hdv] at hv
    exact (Res.ok.inj hv).symm
  · rw [← e, hfr]; exact f1

/-- **… `DateTime<FixedOffset>`** (the nanosecond field is that of the UTC reading) -/
theorem zoned_subsecs_idem (round : Bool) (z : Zoned) (digits : Nat) (hz : ZInv z)
    (hno : instSecs z.utc + (subsecSpec round z.utc.time.frac digits).2 ≤ instSecs NaiveDT.MAX) :
    ∃ v, zoned_subsecs round z digits = .ok v ∧ ZInv v ∧ v.off = z.off ∧
      digitSpan digits ∣ v.utc.time.frac ∧
      zoned_subsecs round v digits = .ok v ∧ (digitSpan digits ∣ z.utc.time.frac ↔ v = z) := by
  have hf := hz.1.2.2.2
  obtain ⟨f1, f2, f3, _, _⟩ := subsecSpec_field round z.utc.time.frac digits hf.1 hf.2
  obtain ⟨u, hv, hinv, hfr, _⟩ := (zoned_subsecs_eval round z digits hz).1 hno
  have hfix : ∀ x : Zoned, ZInv x → digitSpan digits ∣ x.utc.time.frac →
      zoned_subsecs round x digits = .ok x := fun x hx c => by
    unfold zoned_subsecs
    rw [zoned_nanosecond_eq x hx]
    exact subsec_generic_fixed round x.utc.time.frac x Zoned.add Zoned.sub digits hx.1.2.2.2.1
      hx.1.2.2.2.2 c
  have hzv : ZInv (⟨u, z.off⟩ : Zoned) := ⟨hinv, hz.2⟩
  refine ⟨⟨u, z.off⟩, hv, hzv, rfl, by dsimp only; rw [hfr]; exact f1,
    hfix _ hzv (by dsimp only; rw [hfr]; exact f1), fun hdv => ?_, fun e => ?_⟩
  · rw [hfix z hz hdv] at hv
    exact (Res.ok.inj hv).symm
  · have : u = z.utc := congrArg Zoned.utc e
    rw [← this, hfr]; exact f1

/-- non-vacuity: 12:00:00.154 to 2 digits, then again; a multiple stays; the second call after a carry -/
example : time_subsecs true ⟨43200, 154000000⟩ 2 = .ok ⟨43200, 150000000⟩ ∧
    time_subsecs true ⟨43200, 150000000⟩ 2 = .ok ⟨43200, 150000000⟩ ∧
    digitSpan 2 = 10000000 ∧
    naive_subsecs true ⟨dateOfYo 2016 366, ⟨86399, 1999999999⟩⟩ 3 = .ok ⟨dateOfYo 2017 1, ⟨0, 0⟩⟩ ∧
    naive_subsecs true ⟨dateOfYo 2017 1, ⟨0, 0⟩⟩ 3 = .ok ⟨dateOfYo 2017 1, ⟨0, 0⟩⟩ ∧
    zoned_subsecs false ⟨⟨dateOfYo 2016 366, ⟨86399, 1999000000⟩⟩, 43⟩ 3 =
      .ok ⟨⟨dateOfYo 2016 366, ⟨86399, 1999000000⟩⟩, 43⟩ := by decide +kernel

/-! ### OBSERVATION, outside the quantifier: a `DateTime<Tz>` whose zone changes its offset

C17 quantifies over "date-times × spans × offsets": fixed offsets, the theorems above.  `impl<Tz: TimeZone>
DurationRound for DateTime<Tz>` also accepts a zone with daylight-saving rules (`Local`, a tz database
zone).  There the span is found on the wall clock AT THE OFFSET THE VALUE CARRIES, and the move is applied
to the UTC instant, after which the zone is asked for its offset again (`tz.from_utc_datetime`).
`tz_duration offAt` (Model/RoundTz.lean) is that call with the zone's answer `offAt` left free.  What
holds for every zone is an INSTANT-level statement; the wall-clock clause of the property holds exactly
when the zone's offset at the result equals the offset of the input. -/

/-- **Any zone, exactly.**  The call in a zone is the call at the fixed offset `z.off` (every theorem
above), followed by re-reading the offset when the value was moved: the same errors, never a panic, the
same UTC reading of the result. -/
theorem tz_vs_fixed (offAt : NaiveDT → Int) (op : Op) (z : Zoned) (dur : Delta) (hz : ZInv z)
    (hd : DInv dur) :
    tz_duration offAt op z dur =
      match zoned_duration op z dur with
      | .panic => .panic
      | .ok (.err e) => .ok (.err e)
      | .ok (.ok v) =>
        .ok (.ok (retag offAt z (specOf (kindOf op) (wallNs z) (ns dur) - wallNs z) v)) :=
  tz_vs_fixed' offAt op z dur hz hd

/-- **Any zone, UTC reading outside a leap second: what the result is.**  Errors exactly as for a fixed
offset (on the wall clock at the input's offset); otherwise `Ok(v)`: the INSTANT of `v` is the input's
instant moved by the distance from the input's wall-clock stamp `w` to the specified multiple `m`; an
input that is a multiple is returned as it is; a moved value carries the zone's offset at the new
instant; hence the wall-clock stamp of `v` is `m + (v.off − z.off)·10⁹` — the specified multiple exactly
when the zone has the same offset at the result as at the input (always, for a fixed offset). -/
theorem tz_result (offAt : NaiveDT → Int) (op : Op) (z : Zoned) (dur : Delta) (hz : ZInv z)
    (hnl : NonLeap z.utc) (hd : DInv dur) :
    let w := wallNs z
    let m := specOf (kindOf op) w (ns dur)
    (ns dur ≤ 0 ∨ 9223372036854775807 < ns dur →
      tz_duration offAt op z dur = .ok (.err .DurationExceedsLimit)) ∧
    (0 < ns dur ∧ ns dur ≤ 9223372036854775807 → ¬ InI64 w →
      tz_duration offAt op z dur = .ok (.err .TimestampExceedsLimit)) ∧
    (0 < ns dur ∧ ns dur ≤ 9223372036854775807 → InI64 w →
      ∃ v, tz_duration offAt op z dur = .ok (.ok v) ∧ NDTInv v.utc ∧ NonLeap v.utc ∧
        instNs v.utc = instNs z.utc + (m - w) ∧
        (m = w → v = z) ∧ (m ≠ w → v.off = offAt v.utc) ∧
        wallNs v = m + (v.off - z.off) * 1000000000 ∧
        (wallNs v = m ↔ v.off = z.off)) := by
  dsimp only
  have hrel := tz_vs_fixed' offAt op z dur hz hd
  obtain ⟨e1, e2, e3⟩ := zoned_eval op z dur hz hd
  refine ⟨fun hb => by rw [hrel, e1 hb], fun hg hw => by rw [hrel, e2 hg hw], fun hg hw => ?_⟩
  obtain ⟨x, hx, hm, hzero⟩ := e3 hg hw
  obtain ⟨a, b, c⟩ := moved_nonleap z.utc x _ hnl hm
  rw [hx] at hrel
  refine ⟨_, hrel, ?_⟩
  unfold retag
  by_cases h0 : specOf (kindOf op) (wallNs z) (ns dur) - wallNs z = 0
  · rw [if_pos h0]
    refine ⟨hz.1, hnl, by omega, fun _ => rfl, fun h => absurd h (by omega), by omega, by omega⟩
  · rw [if_neg h0]
    dsimp only
    refine ⟨a, b, c, fun h => absurd h (by omega), fun _ => rfl, ?_, ?_⟩
    · unfold wallNs at *; dsimp only; omega
    · unfold wallNs at *; dsimp only; omega

/-- a fixed offset is the zone that always answers with it: then `tz_duration` IS `zoned_duration` -/
theorem tz_fixed_is_zoned (op : Op) (z : Zoned) (dur : Delta) (hz : ZInv z) (hd : DInv dur) :
    tz_duration (fun _ => z.off) op z dur = zoned_duration op z dur := by
  rw [tz_vs_fixed' _ op z dur hz hd]
  cases h : zoned_duration op z dur with
  | panic => rfl
  | ok r =>
    cases r with
    | err e => rfl
    | ok v =>
      obtain ⟨_, _, hoff, _, hzero⟩ := zoned_ok_inv op z v dur hz hd h
      dsimp only
      unfold retag
      by_cases h0 : specOf (kindOf op) (wallNs z) (ns dur) - wallNs z = 0
      · rw [if_pos h0, hzero (by omega)]
      · rw [if_neg h0, ← hoff]

/-- **`SubsecRound` in any zone**: the call at the fixed offset, offset re-read when the value moved
(the nanosecond field of the wall clock is that of the UTC reading at every offset of whole seconds) -/
theorem tz_subsecs_vs_fixed (offAt : NaiveDT → Int) (round : Bool) (z : Zoned) (digits : Nat)
    (hz : ZInv z) :
    tz_subsecs offAt round z digits =
      match zoned_subsecs round z digits with
      | .panic => .panic
      | .ok v => .ok (retag offAt z (subsecMove round z.utc.time.frac digits) v) :=
  tz_subsecs_vs_fixed' offAt round z digits hz

/-- THE OBSERVATION, kernel-checked on the model and replayed on the crate by the harness
(`TZ=America/New_York`, counted under `observation:dst-zone`): a zone at −04:00 before
2024-11-03T06:00:00Z and at −05:00 from then on.  2024-11-03 12:00:00 −05:00 truncated to one day: the
span is found on the wall clock at −05:00 (midnight −05:00 = 05:00Z, twelve hours back), the instant is
moved by those twelve hours, and at 05:00Z the zone is still at −04:00: the result is 01:00:00 −04:00,
whose wall-clock stamp is one hour past the multiple.  At a fixed −05:00 the result is midnight. -/
theorem dst_zone_trunc_is_not_wall_clock_midnight :
    tz_duration (fun u => if instSecs u < 1730613600 then -14400 else -18000) .trunc
        ⟨⟨dateOfYo 2024 308, ⟨61200, 0⟩⟩, -18000⟩ ⟨86400, 0⟩ =
      .ok (.ok ⟨⟨dateOfYo 2024 308, ⟨18000, 0⟩⟩, -14400⟩) ∧
    wallNs ⟨⟨dateOfYo 2024 308, ⟨18000, 0⟩⟩, -14400⟩ =
      specOf .trunc (wallNs ⟨⟨dateOfYo 2024 308, ⟨61200, 0⟩⟩, -18000⟩) (ns ⟨86400, 0⟩) + 3600000000000 ∧
    zoned_duration .trunc ⟨⟨dateOfYo 2024 308, ⟨61200, 0⟩⟩, -18000⟩ ⟨86400, 0⟩ =
      .ok (.ok ⟨⟨dateOfYo 2024 308, ⟨18000, 0⟩⟩, -18000⟩) ∧
    instSecs ⟨dateOfYo 2024 308, ⟨18000, 0⟩⟩ = 1730610000 := by decide +kernel

/-! ### End to end for the translated callees (generated code = specification)

src/round.rs itself has no code translation yet (audit 2, MEDIUM-2: the translator's owner extends the
translated set); two callees on C17's path have one (Props/GenDelta.lean: generated code = model).
Composed here with the model = specification theorems used above. -/

/-- `duration.num_nanoseconds()` — the span every `duration_*` function starts from — as TRANSLATED from
src/time_delta.rs, for every valid `TimeDelta`: the exact nanosecond count when it is an `i64`, else
`None` (which the guard turns into `DurationExceedsLimit`); no panic -/
theorem gen_span_is_spec (dur : Delta) (hd : DInv dur) :
    Gen.time_delta.TimeDelta.num_nanoseconds (Chrono.Proofs.GenL.dG dur) =
      .ok (if InI64 (ns dur) then some (ns dur) else none) := by
  obtain ⟨h0, h1, h2⟩ := hd
  have hN : NS_MAX = 9223372036854775807 * 1000000 := rfl
  unfold nsInRange at h2
  have hns : ns dur = dur.secs * 1000000000 + dur.nanos := rfl
  rw [Chrono.Props.GenDelta.gen_num_nanoseconds_eq dur (by omega) (by omega),
    Chrono.Proofs.RoundL.num_nanoseconds_eq dur ⟨h0, h1, h2⟩]
  by_cases h : InI64 (ns dur)
  · rw [if_pos h, Chrono.Proofs.optI64_some h.1 h.2]
  · rw [if_neg h, Chrono.Proofs.optI64_none (by unfold InI64 at h; omega)]

/-- `TimeDelta::nanoseconds(d)` — the amount `original ± …` is moved by — as TRANSLATED from
src/time_delta.rs, for every move the integer part can produce (`|d| ≤ i64::MAX`): a valid `TimeDelta`
of exactly `d` nanoseconds -/
theorem gen_move_is_spec (d : Int) (h : -9223372036854775807 ≤ d ∧ d ≤ 9223372036854775807) :
    Gen.time_delta.TimeDelta.nanoseconds d = .ok (Chrono.Proofs.GenL.dG (Delta.nanoseconds d)) ∧
    DInv (Delta.nanoseconds d) ∧ ns (Delta.nanoseconds d) = d :=
  ⟨Chrono.Props.GenDelta.gen_nanoseconds_eq d ⟨by omega, h.2⟩, nanos_delta d h⟩

example : DInv ⟨86400, 0⟩ ∧ InI64 (ns ⟨86400, 0⟩) ∧ ¬ InI64 (ns ⟨9223372036, 854775808⟩) ∧
    DInv ⟨9223372036, 854775808⟩ := by decide

/-- FINDING (kept visible; replayed on the crate by the harness).  A date-time inside a leap second
(sub-second field ≥ 10⁹) has the stamp of the following second, but `original + delta` counts the
leap second as a real second.  2016-12-31T23:59:60.5 rounded up to one minute moves by 59.5 s and
lands on 2017-01-01T00:00:59, whose timestamp is not a multiple of one minute (1 s short). -/
theorem leap_second_round_up_reads_back_short :
    on_datetime .up 1483228799 1500000000 0 ⟨60, 0⟩ = .ok (.ok 59500000000) ∧
    stamp_after (1483228799 * 1000000000 + 1500000000) 1500000000 59500000000
      = 1483228859 * 1000000000 ∧
    ¬ ((60000000000 : Int) ∣ 1483228859 * 1000000000) ∧
    (60000000000 : Int) ∣ 1483228860 * 1000000000 := by decide

end Chrono.Props.C17
