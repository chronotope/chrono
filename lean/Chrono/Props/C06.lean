/-
  C06 — Durations are exact signed nanosecond counts within a closed range.
  `Spec.ns d = secs·10⁹ + nanos`; the range is ±(2⁶³−1) ms.
-/
import Chrono.Proofs.DeltaL
import Chrono.Proofs.DeltaDivL
import Chrono.Proofs.DeltaDisplayL
import Chrono.Proofs.DeltaOpsL
import Chrono.Proofs.DeltaCanonL
import Chrono.Proofs.DeltaCanonUniqL
import Chrono.Proofs.DeltaSerdeL

namespace Chrono.Props.C06
open Chrono Chrono.M Chrono.Spec Chrono.Proofs Chrono.Extracted

/-- the extracted constants are the range ends the specification talks about -/
theorem consts_ok :
    ns Delta.MIN = -NS_MAX ∧ ns Delta.MAX = NS_MAX ∧ DInv Delta.MIN ∧ DInv Delta.MAX ∧
    NANOS_PER_SEC = 1000000000 ∧ NANOS_PER_MILLI = 1000000 ∧ NANOS_PER_MICRO = 1000 ∧
    MILLIS_PER_SEC = 1000 ∧ MICROS_PER_SEC = 1000000 ∧ SECS_PER_MINUTE = 60 ∧ SECS_PER_HOUR = 3600 ∧
    SECS_PER_DAY = 86400 ∧ SECS_PER_WEEK = 604800 := by decide +kernel

/-- `new` accepts exactly the pairs with a valid nanosecond field whose value is in range -/
theorem new_iff (secs nanos : Int) (hn : 0 ≤ nanos) :
    Delta.new secs nanos =
      if nanos < 1000000000 ∧ nsInRange (ns ⟨secs, nanos⟩) then some ⟨secs, nanos⟩ else none :=
  new_iff' secs nanos hn

/-- unit constructors: exact, refused exactly when out of range (all `i64` arguments) -/
theorem try_unit_exact (unit n : Int) (hu : unit = 1 ∨ unit = 60 ∨ unit = 3600 ∨ unit = 86400 ∨ unit = 604800)
    (hn : -9223372036854775808 ≤ n ∧ n ≤ 9223372036854775807) :
    Delta.try_unit unit n =
      if nsInRange (n * unit * 1000000000) then some (ofNs (n * unit * 1000000000)) else none :=
  try_unit_exact' unit n hu hn

theorem try_milliseconds_exact (ms : Int) (h : -9223372036854775808 ≤ ms ∧ ms ≤ 9223372036854775807) :
    Delta.try_milliseconds ms =
      if nsInRange (ms * 1000000) then some (ofNs (ms * 1000000)) else none := by
  rw [ofNs_eq (s := ms / 1000) (n := ms % 1000 * 1000000) (by omega) (by omega) (by omega)]
  apply ite_flip
  rw [nsInRange_iff, I64_MAX]
  omega

theorem micro_nano_exact (x : Int) (h : -9223372036854775808 ≤ x ∧ x ≤ 9223372036854775807) :
    Delta.microseconds x = ofNs (x * 1000) ∧ DInv (Delta.microseconds x) ∧
    Delta.nanoseconds x = ofNs x ∧ DInv (Delta.nanoseconds x) :=
  micro_nano_exact' x h

/-- `ofNs` is the canonical representation: it satisfies the invariant and denotes its argument -/
theorem ofNs_spec (n : Int) (h : nsInRange n) : DInv (ofNs n) ∧ ns (ofNs n) = n := ofNs_spec' n h

/-- a value is determined by its nanosecond count -/
theorem ns_injective (a b : Delta) (ha : DInv a) (hb : DInv b) (h : ns a = ns b) : a = b := by
  rw [← ofNs_ns a ha, ← ofNs_ns b hb, h]

/-- addition and subtraction: exact or refused, no intermediate overflow -/
theorem add_exact (a b : Delta) (ha : DInv a) (hb : DInv b) :
    Delta.checked_add a b =
      .ok (if nsInRange (ns a + ns b) then some (ofNs (ns a + ns b)) else none) :=
  add_exact' a b ha hb

theorem sub_exact (a b : Delta) (ha : DInv a) (hb : DInv b) :
    Delta.checked_sub a b =
      .ok (if nsInRange (ns a - ns b) then some (ofNs (ns a - ns b)) else none) := by
  obtain ⟨an, as⟩ := dinv_fields ha
  obtain ⟨bn, bs⟩ := dinv_fields hb
  have hN : NANOS_PER_SEC = 1000000000 := rfl
  unfold Delta.checked_sub ns
  rw [ckI64_ok (by omega) (by omega), Res.bind_ok, ckI32_ok (by omega) (by omega), Res.bind_ok]
  by_cases hc : a.nanos - b.nanos < 0
  · rw [ite_pos' _ _ hc, ckI32_ok (by omega) (by omega), Res.bind_ok, ckI64_ok (by omega) (by omega),
      Res.bind_ok, asU32_id (by omega) (by omega)]
    exact congrArg Res.ok (new_ofNs _ _ _ (by omega) (by omega) (by omega))
  · rw [ite_neg' _ _ hc, asU32_id (by omega) (by omega)]
    exact congrArg Res.ok (new_ofNs _ _ _ (by omega) (by omega) (by omega))

/-- negation and absolute value are total on the range and exact -/
theorem neg_abs_exact (a : Delta) (ha : DInv a) :
    Delta.neg a = .ok (ofNs (-(ns a))) ∧ Delta.abs a = .ok (ofNs (if ns a < 0 then -(ns a) else ns a)) :=
  neg_abs_exact' a ha

/-- multiplication by any `i32`: exact or refused (false on the pinned tree: finding #2) -/
theorem mul_exact (a : Delta) (k : Int) (ha : DInv a) (hk : -2147483648 ≤ k ∧ k ≤ 2147483647) :
    Delta.checked_mul a k =
      .ok (if nsInRange (ns a * k) then some (ofNs (ns a * k)) else none) := by
  rw [DInv_iff] at ha
  have hN : NANOS_PER_SEC = 1000000000 := rfl
  have hMIN : I64_MIN = -9223372036854775808 := rfl
  have hMAX : I64_MAX = 9223372036854775807 := rfl
  -- the nanosecond product fits `i64`: `|nanos · k| < 10⁹ · 2³¹`
  have hp : (a.nanos * k).natAbs ≤ 1000000000 * 2147483648 := by
    rw [Int.natAbs_mul]; exact Nat.mul_le_mul (by omega) (by omega)
  have hring : (a.secs * 1000000000 + a.nanos) * k = a.secs * k * 1000000000 + a.nanos * k := by
    rw [Int.add_mul, Int.mul_right_comm]
  unfold Delta.checked_mul ns
  rw [hring]
  generalize a.nanos * k = p at *
  generalize a.secs * k = q at *
  rw [ckI64_ok (by omega) (by omega), Res.bind_ok]
  simp only [hN, hMIN, hMAX]
  by_cases hc : q + p / 1000000000 ≤ -9223372036854775808 ∨ q + p / 1000000000 ≥ 9223372036854775807
  · rw [ite_pos' _ _ hc, ite_neg' _ _ (by rw [nsInRange_iff]; omega)]; rfl
  · rw [ite_neg' _ _ hc, asU32_id (by omega) (by omega)]
    exact congrArg Res.ok (new_ofNs _ _ _ (by omega) (by omega) (by omega))

/-- the pinned `checked_mul` returned a value outside the range -/
theorem mul_pinned_counterexample :
    Delta.checked_mul_pinned Delta.MAX 2 = .ok (some ⟨18446744073709551, 614000000⟩) ∧
    ¬ DInv ⟨18446744073709551, 614000000⟩ := by decide +kernel

/-- unit accessors truncate toward zero; sub-unit parts carry the same sign -/
theorem accessors_spec (a : Delta) (ha : DInv a) :
    a.num_seconds = Int.tdiv (ns a) 1000000000 ∧ a.subsec_nanos = Int.tmod (ns a) 1000000000 ∧
    a.num_milliseconds = .ok (Int.tdiv (ns a) 1000000) ∧
    a.num_microseconds = optI64 (Int.tdiv (ns a) 1000) ∧
    a.num_nanoseconds = optI64 (ns a) ∧
    a.num_minutes = Int.tdiv (ns a) 60000000000 ∧ a.num_hours = Int.tdiv (ns a) 3600000000000 ∧
    a.num_days = Int.tdiv (ns a) 86400000000000 ∧ a.num_weeks = Int.tdiv (ns a) 604800000000000 ∧
    a.subsec_millis = Int.tdiv (Int.tmod (ns a) 1000000000) 1000000 ∧
    a.subsec_micros = Int.tdiv (Int.tmod (ns a) 1000000000) 1000 :=
  accessors_spec' a ha

/-- derived comparison is numeric order -/
theorem cmp_spec (a b : Delta) (ha : DInv a) (hb : DInv b) :
    Delta.cmp a b = (if ns a < ns b then -1 else if ns a > ns b then 1 else 0) := by
  rw [DInv_iff] at ha hb
  unfold Delta.cmp ns
  repeat' split <;> omega

/-- conversion to and from the unsigned standard duration is exact or refused -/
theorem std_spec (secs nanos : Int) (hs : 0 ≤ secs ∧ secs ≤ 18446744073709551615)
    (hn : 0 ≤ nanos ∧ nanos < 1000000000) (a : Delta) (ha : DInv a) :
    Delta.from_std secs nanos =
      (if nsInRange (secs * 1000000000 + nanos) then some ⟨secs, nanos⟩ else none) ∧
    Delta.to_std a = (if 0 ≤ ns a then some (a.secs, a.nanos) else none) :=
  std_spec' secs nanos hs hn a ha

/-- non-vacuity: the range ends satisfy the invariant; MAX + 1 ns is refused, MAX − 1 ns is not -/
example : DInv Delta.MAX ∧ Delta.checked_add Delta.MAX ⟨0, 1⟩ = .ok none ∧
    Delta.checked_sub Delta.MAX ⟨0, 1⟩ = .ok (some ⟨9223372036854775, 806999999⟩) ∧
    Delta.checked_mul Delta.MAX 2 = .ok none := by decide +kernel

/-! ### Division by an `i32` -/

/-- division by a non-zero `i32` never panics (no intermediate leaves its machine type), never
refuses, stays in the range, and differs from the exact quotient by less than two nanoseconds:
`|ns r · k − ns a| < 2·|k|` -/
theorem div_spec (a : Delta) (k : Int) (ha : DInv a) (hk : -2147483648 ≤ k ∧ k ≤ 2147483647)
    (hk0 : k ≠ 0) :
    ∃ r, Delta.checked_div a k = .ok (some r) ∧ DInv r ∧
      (ns r * k - ns a).natAbs < 2 * k.natAbs :=
  div_spec' a k ha hk hk0

/-- division by zero is refused (for every pair, valid or not) -/
theorem div_zero (a : Delta) : Delta.checked_div a 0 = .ok none := div_zero' a

/-- division by `1` and `-1` is exact -/
theorem div_unit (a : Delta) (ha : DInv a) :
    Delta.checked_div a 1 = .ok (some a) ∧ Delta.checked_div a (-1) = .ok (some (ofNs (-(ns a)))) := by
  obtain ⟨h1, -⟩ := div_eq' a 1 ha (by omega) (by omega)
  obtain ⟨h2, -⟩ := div_eq' a (-1) ha (by omega) (by omega)
  have hA := (DInv_iff a).mp ha
  rw [Int.tdiv_one, Int.tmod_one, Int.tdiv_one, Int.zero_mul, Int.tdiv_one, Int.add_zero,
    ite_neg' _ _ (by omega)] at h1
  rw [Int.tdiv_neg, Int.tmod_neg, Int.tdiv_neg, Int.tdiv_neg, Int.tdiv_one, Int.tmod_one,
    Int.tdiv_one, Int.zero_mul, Int.tdiv_one, Int.neg_zero, Int.add_zero] at h2
  refine ⟨h1, h2.trans (congrArg (Res.ok ∘ some) ?_)⟩
  split <;> exact (ofNs_eq (by omega) (by omega) (by unfold ns; omega)).symm

/-- the result in closed form; the nanosecond sum never reaches 10⁹, so the upward-carry arm of the
`match` in `checked_div` (`NANOS_PER_SEC..=i32::MAX`) is unreachable for valid operands -/
theorem div_closed_form (a : Delta) (k : Int) (ha : DInv a) (hk : -2147483648 ≤ k ∧ k ≤ 2147483647)
    (hk0 : k ≠ 0) :
    let qs := Int.tdiv a.secs k
    let nanos := Int.tdiv a.nanos k + Int.tdiv (Int.tmod a.secs k * 1000000000) k
    Delta.checked_div a k =
      .ok (some (if nanos < 0 then ⟨qs - 1, nanos + 1000000000⟩ else ⟨qs, nanos⟩)) ∧
    nanos < 1000000000 :=
  div_eq' a k ha hk hk0

/-- the bound cannot be lowered to one nanosecond: 2.000000002 s / 3 is off by 4/3 ns; and a
quotient that is an integer number of nanoseconds need not be hit (1.5 s / 3 gives 0.499999999 s) -/
theorem div_error_exceeds_one_ns :
    Delta.checked_div ⟨2, 2⟩ 3 = .ok (some ⟨0, 666666666⟩) ∧
    (ns ⟨0, 666666666⟩ * 3 - ns ⟨2, 2⟩).natAbs = 4 ∧
    Delta.checked_div ⟨1, 500000000⟩ 3 = .ok (some ⟨0, 499999999⟩) := by decide +kernel

/-- non-vacuity: range ends, both signs of the divisor, the downward carry -/
example : DInv Delta.MIN ∧
    Delta.checked_div Delta.MIN (-2147483648) = .ok (some ⟨4294967, 296000000⟩) ∧
    Delta.checked_div Delta.MIN 2147483647 = .ok (some ⟨-4294968, 702000000⟩) ∧
    Delta.checked_div Delta.MAX (-1) = .ok (some Delta.MIN) ∧
    Delta.checked_div ⟨-3, 0⟩ 2 = .ok (some ⟨-2, 500000000⟩) ∧
    Delta.checked_div ⟨-1, 999999999⟩ 2 = .ok (some ⟨-1, 999999999⟩) := by decide +kernel

/-! ### Display -/

/-- the text form, read back by the independent reader `Spec.readDuration` (sign, `P0D` or
`PT<int>[.<frac>]S`, at most nine fraction digits, no trailing zero), is the exact nanosecond count;
in particular formatting never panics -/
theorem display_value (a : Delta) (ha : DInv a) :
    ∃ t, Delta.display a = .ok t ∧ readDuration t = some (ns a) := by
  by_cases h : a.secs < 0
  · obtain ⟨ab, hd, hi, hs, hv, hneg⟩ := display_neg a ha h
    refine ⟨_, hd, ?_⟩
    rw [readDuration_neg, readBody_bodyText _ hs hi.1 hi.2.1, hv]
    show some _ = some _
    congr 1
    dsimp only
    omega
  · refine ⟨_, display_nonneg a h, ?_⟩
    rw [readDuration_pos, readBody_bodyText _ (by omega) ha.1 ha.2.1]
    have : 0 ≤ ns a := by
      have := ha.1; simp only [ns]; omega
    show some _ = some _
    congr 1
    dsimp only
    omega

/-- non-vacuity: "-PT9223372036854775.807S", "P0D", "PT0.000001S"; the reader refuses an untrimmed
fraction, a bare point and an empty integer part -/
example :
    Delta.display Delta.MIN = .ok [45, 80, 84, 57, 50, 50, 51, 51, 55, 50, 48, 51, 54, 56, 53, 52, 55,
      55, 53, 46, 56, 48, 55, 83] ∧
    Delta.display ⟨0, 0⟩ = .ok [80, 48, 68] ∧
    Delta.display ⟨0, 1000⟩ = .ok [80, 84, 48, 46, 48, 48, 48, 48, 48, 49, 83] ∧
    readDuration [80, 84, 48, 46, 48, 48, 48, 48, 48, 49, 83] = some 1000 ∧
    readDuration [80, 84, 49, 46, 53, 48, 83] = none ∧ readDuration [80, 84, 49, 46, 83] = none ∧
    readDuration [80, 84, 46, 53, 83] = none := by decide +kernel

/-! ### Sum -/

/-- `Sum` (a fold with the panicking `+`) is the fold of the nanosecond counts that checks the range
after every step (`Spec.sumNs`): the exact total, or a panic at the first partial sum out of range -/
theorem sum_spec (xs : List Delta) (acc : Delta) (hacc : DInv acc) (hxs : ∀ x ∈ xs, DInv x) :
    Delta.sum xs acc =
      match sumNs (xs.map ns) (ns acc) with
      | some n => .ok (ofNs n)
      | none => .panic := by
  induction xs generalizing acc with
  | nil => simp only [Delta.sum, List.map_nil, sumNs]; rw [ofNs_ns acc hacc]
  | cons x xs ih =>
    simp only [Delta.sum, List.map_cons, sumNs]
    rw [add_exact' acc x hacc (hxs x (List.mem_cons_self ..))]
    by_cases hr : nsInRange (ns acc + ns x)
    · rw [ite_pos' _ _ hr, ite_pos' _ _ hr]
      obtain ⟨hi, hv⟩ := ofNs_spec' _ hr
      simp only
      rw [ih _ hi (fun y hy => hxs y (List.mem_cons_of_mem _ hy)), hv]
    · rw [ite_neg' _ _ hr, ite_neg' _ _ hr]

/-- the same without the auxiliary fold: the exact total when every partial sum is in range, a panic
otherwise -/
theorem sum_exact (xs : List Delta) (acc : Delta) (hacc : DInv acc) (hxs : ∀ x ∈ xs, DInv x) :
    ((∀ i, 1 ≤ i → i ≤ (xs.map ns).length → nsInRange (ns acc + ((xs.map ns).take i).sum)) →
      Delta.sum xs acc = .ok (ofNs (ns acc + (xs.map ns).sum))) ∧
    (¬ (∀ i, 1 ≤ i → i ≤ (xs.map ns).length → nsInRange (ns acc + ((xs.map ns).take i).sum)) →
      Delta.sum xs acc = .panic) := by
  rw [sum_spec xs acc hacc hxs]
  cases h : sumNs (xs.map ns) (ns acc) with
  | none =>
    refine ⟨fun hall => ?_, fun _ => rfl⟩
    have := (sumNs_iff (xs.map ns) (ns acc) _).mpr ⟨rfl, hall⟩
    rw [h] at this; cases this
  | some m =>
    obtain ⟨hm, hall⟩ := (sumNs_iff (xs.map ns) (ns acc) m).mp h
    refine ⟨fun _ => by rw [hm], fun hn => absurd hall hn⟩

/-- non-vacuity: a sum that passes through the top of the range panics although its total is small -/
example : Delta.sum [⟨0, 1⟩, ⟨-1, 0⟩] Delta.MAX = .panic ∧
    Delta.sum [⟨-1, 0⟩, ⟨0, 1⟩] Delta.MAX = .ok ⟨9223372036854774, 807000001⟩ ∧
    sumNs [1, -1000000000] NS_MAX = none := by decide +kernel

/-! ### Operators `+ - += -= * /`, unary `-`, panicking constructors (audit gap G1)

The operator impls and the constructors `weeks … milliseconds` are `expect` wrappers of the checked
forms (`Model/DeltaOps.lean`); the statements below are against the specification, not against the
checked forms: the exact result, or a panic exactly when the exact result is out of range
(division: exactly when the divisor is zero).  Unary `-` is `Delta.neg` (`neg_abs_exact`). -/

/-- `a + b` and `a += b`: the exact sum, or a panic exactly when it is out of range -/
theorem op_add_exact (a b : Delta) (ha : DInv a) (hb : DInv b) :
    Delta.add a b = (if nsInRange (ns a + ns b) then .ok (ofNs (ns a + ns b)) else .panic) ∧
    Delta.add_assign a b = (if nsInRange (ns a + ns b) then .ok (ofNs (ns a + ns b)) else .panic) :=
  ⟨DeltaOps.expect_bind (add_exact' a b ha hb), DeltaOps.expect_bind (add_exact' a b ha hb)⟩

/-- `a - b` and `a -= b`: the exact difference, or a panic exactly when it is out of range -/
theorem op_sub_exact (a b : Delta) (ha : DInv a) (hb : DInv b) :
    Delta.sub a b = (if nsInRange (ns a - ns b) then .ok (ofNs (ns a - ns b)) else .panic) ∧
    Delta.sub_assign a b = (if nsInRange (ns a - ns b) then .ok (ofNs (ns a - ns b)) else .panic) :=
  ⟨DeltaOps.expect_bind (sub_exact a b ha hb), DeltaOps.expect_bind (sub_exact a b ha hb)⟩

/-- `a * k` for every `i32` k: the exact product, or a panic exactly when it is out of range -/
theorem op_mul_exact (a : Delta) (k : Int) (ha : DInv a) (hk : -2147483648 ≤ k ∧ k ≤ 2147483647) :
    Delta.mul a k = if nsInRange (ns a * k) then .ok (ofNs (ns a * k)) else .panic :=
  DeltaOps.expect_bind (mul_exact a k ha hk)

/-- `a / 0` panics for every pair `(secs, nanos)`, valid or not (no hypothesis at all; second audit G4) -/
theorem op_div_zero (a : Delta) : Delta.div a 0 = .panic := DeltaOps.op_div_zero' a

/-- `a / k` for a valid `a` and an `i32` `k`: a panic exactly when `k = 0`; otherwise a value in range less
than two nanoseconds from the exact quotient.  (Both branches are stated under `DInv a`; that the zero
divisor panics whatever the dividend is `op_div_zero`.) -/
theorem op_div_spec (a : Delta) (k : Int) (ha : DInv a) (hk : -2147483648 ≤ k ∧ k ≤ 2147483647) :
    (k = 0 → Delta.div a k = .panic) ∧
    (k ≠ 0 → ∃ r, Delta.div a k = .ok r ∧ DInv r ∧ (ns r * k - ns a).natAbs < 2 * k.natAbs) := by
  refine ⟨fun h => by subst h; exact DeltaOps.op_div_zero' a, fun hk0 => ?_⟩
  obtain ⟨r, h1, h2, h3⟩ := div_spec' a k ha hk hk0
  exact ⟨r, DeltaOps.op_div_ok a k r h1, h2, h3⟩

/-- the operator is the checked form followed by `expect`: same value whenever the checked form
yields one -/
theorem op_div_checked (a : Delta) (k : Int) (r : Delta) (h : Delta.checked_div a k = .ok (some r)) :
    Delta.div a k = .ok r := DeltaOps.op_div_ok a k r h

/-- the panicking constructors, all `i64` arguments: the exact value, or a panic exactly when
`n · unit` is out of range -/
theorem unit_panicking (n : Int) (hn : -9223372036854775808 ≤ n ∧ n ≤ 9223372036854775807) :
    Delta.weeks n = (if nsInRange (n * 604800 * 1000000000)
      then .ok (ofNs (n * 604800 * 1000000000)) else .panic) ∧
    Delta.days n = (if nsInRange (n * 86400 * 1000000000)
      then .ok (ofNs (n * 86400 * 1000000000)) else .panic) ∧
    Delta.hours n = (if nsInRange (n * 3600 * 1000000000)
      then .ok (ofNs (n * 3600 * 1000000000)) else .panic) ∧
    Delta.minutes n = (if nsInRange (n * 60 * 1000000000)
      then .ok (ofNs (n * 60 * 1000000000)) else .panic) ∧
    Delta.seconds n = (if nsInRange (n * 1000000000) then .ok (ofNs (n * 1000000000)) else .panic) ∧
    Delta.milliseconds n = (if nsInRange (n * 1000000) then .ok (ofNs (n * 1000000)) else .panic) := by
  -- each constructor is `expect` of its `try_` form
  have tu := fun u => DeltaOps.expect_eq (try_unit_eq u n)
  exact ⟨tu 604800, tu 86400, tu 3600, tu 60, DeltaOps.expect_eq (try_seconds_exact n),
    DeltaOps.expect_eq (try_milliseconds_exact n hn)⟩

/-- `Sum` really is the fold of the operator `+` (the model of `Sum` inlines it) -/
theorem sum_is_fold_of_op_add (x : Delta) (xs : List Delta) (acc : Delta) :
    Delta.sum [] acc = .ok acc ∧
    Delta.sum (x :: xs) acc = (Delta.add acc x >>= fun r => Delta.sum xs r) := by
  refine ⟨rfl, ?_⟩
  unfold Delta.add
  rw [Delta.sum]
  cases h : Delta.checked_add acc x with
  | panic => rfl
  | ok o => cases o <;> rfl

/-- non-vacuity: the operators at the top of the range, the constructors at their thresholds
(`i64::MAX` ms is `MAX`, `-i64::MAX` ms is `MIN`, `i64::MIN` ms panics) -/
example :
    Delta.add Delta.MAX ⟨0, 1⟩ = .panic ∧ Delta.sub Delta.MIN ⟨0, 1⟩ = .panic ∧
    Delta.add Delta.MAX ⟨-1, 999999999⟩ = .ok ⟨9223372036854775, 806999999⟩ ∧
    Delta.add_assign Delta.MIN Delta.MAX = .ok ⟨0, 0⟩ ∧ Delta.sub_assign Delta.MIN Delta.MAX = .panic ∧
    Delta.mul Delta.MAX 2 = .panic ∧ Delta.mul Delta.MAX (-1) = .ok Delta.MIN ∧
    Delta.div Delta.MAX 0 = .panic ∧ Delta.div Delta.MIN (-2147483648) = .ok ⟨4294967, 296000000⟩ ∧
    Delta.milliseconds 9223372036854775807 = .ok Delta.MAX ∧
    Delta.milliseconds (-9223372036854775807) = .ok Delta.MIN ∧
    Delta.milliseconds (-9223372036854775808) = .panic ∧
    Delta.seconds 9223372036854775 = .ok ⟨9223372036854775, 0⟩ ∧ Delta.seconds 9223372036854776 = .panic ∧
    Delta.weeks 15250284452 = .ok ⟨9223372036569600, 0⟩ ∧ Delta.weeks 15250284453 = .panic ∧
    Delta.weeks (-15250284453) = .panic ∧ Delta.days 9223372036854775807 = .panic := by decide +kernel

/-! ### Closure of the range (audit gap G2) -/

/-- the range is symmetric: that is why negation and `abs` are total -/
theorem range_symm (n : Int) : nsInRange n ↔ nsInRange (-n) := by
  rw [nsInRange_iff, nsInRange_iff]; omega

/-- no operation on valid values yields a value outside the range or with an invalid nanosecond
field: every value returned by a checked operation, an operator, negation, `abs` or `Sum` satisfies the
invariant -/
theorem closed (a b : Delta) (k : Int) (ha : DInv a) (hb : DInv b)
    (hk : -2147483648 ≤ k ∧ k ≤ 2147483647) :
    (∀ r, Delta.checked_add a b = .ok (some r) → DInv r) ∧
    (∀ r, Delta.checked_sub a b = .ok (some r) → DInv r) ∧
    (∀ r, Delta.checked_mul a k = .ok (some r) → DInv r) ∧
    (∀ r, Delta.checked_div a k = .ok (some r) → DInv r) ∧
    (∀ r, Delta.neg a = .ok r → DInv r) ∧ (∀ r, Delta.abs a = .ok r → DInv r) ∧
    (∀ r, Delta.add a b = .ok r → DInv r) ∧ (∀ r, Delta.sub a b = .ok r → DInv r) ∧
    (∀ r, Delta.add_assign a b = .ok r → DInv r) ∧ (∀ r, Delta.sub_assign a b = .ok r → DInv r) ∧
    (∀ r, Delta.mul a k = .ok r → DInv r) ∧ (∀ r, Delta.div a k = .ok r → DInv r) := by
  -- `checked_div`, zero divisor or not
  have hdiv : ∀ r, Delta.checked_div a k = .ok (some r) → DInv r := fun r h => by
    by_cases hk0 : k = 0
    · subst hk0; rw [div_zero' a] at h; cases h
    · obtain ⟨r', h1, h2, _⟩ := div_spec' a k ha hk hk0
      rw [h1] at h; cases h; exact h2
  have hrs := (range_symm _).mp ha.2.2
  refine ⟨DeltaOps.inv_of_ok_some (add_exact' a b ha hb), DeltaOps.inv_of_ok_some (sub_exact a b ha hb),
    DeltaOps.inv_of_ok_some (mul_exact a k ha hk), hdiv, fun r h => ?_, fun r h => ?_,
    DeltaOps.inv_of_ok (op_add_exact a b ha hb).1, DeltaOps.inv_of_ok (op_sub_exact a b ha hb).1,
    DeltaOps.inv_of_ok (op_add_exact a b ha hb).2, DeltaOps.inv_of_ok (op_sub_exact a b ha hb).2,
    DeltaOps.inv_of_ok (op_mul_exact a k ha hk), fun r h => ?_⟩
  · rw [(neg_abs_exact' a ha).1] at h; cases h
    exact (ofNs_spec' _ hrs).1
  · rw [(neg_abs_exact' a ha).2] at h; cases h
    refine (ofNs_spec' _ ?_).1
    split
    · exact hrs
    · exact ha.2.2
  · cases hc : Delta.checked_div a k with
    | panic => unfold Delta.div at h; rw [hc] at h; cases h
    | ok o =>
      cases o with
      | none => unfold Delta.div at h; rw [hc] at h; cases h
      | some r' => rw [op_div_checked a k r' hc] at h; cases h; exact hdiv _ hc

/-- `Sum` of valid values from a valid accumulator, when it returns, returns a valid value -/
theorem closed_sum (xs : List Delta) (acc : Delta) (hacc : DInv acc) (hxs : ∀ x ∈ xs, DInv x) :
    ∀ r, Delta.sum xs acc = .ok r → DInv r := by
  induction xs generalizing acc with
  | nil => intro r h; cases h; exact hacc
  | cons x xs ih =>
    intro r h
    rw [Delta.sum, add_exact' acc x hacc (hxs x (List.mem_cons_self ..))] at h
    by_cases hr : nsInRange (ns acc + ns x)
    · rw [ite_pos' _ _ hr] at h
      exact ih _ (ofNs_spec' _ hr).1 (fun y hy => hxs y (List.mem_cons_of_mem _ hy)) r h
    · rw [ite_neg' _ _ hr] at h; cases h

/-- every constructor, for all arguments of its machine types (`new`: any `u32` nanos; `from_std`:
any `u64` seconds, nanos below 10⁹), returns only valid values -/
theorem closed_constructors (secs nanos n : Int) (hnanos : 0 ≤ nanos)
    (hn : -9223372036854775808 ≤ n ∧ n ≤ 9223372036854775807) :
    (∀ r, Delta.new secs nanos = some r → DInv r) ∧
    (∀ r, Delta.try_weeks n = some r → DInv r) ∧ (∀ r, Delta.try_days n = some r → DInv r) ∧
    (∀ r, Delta.try_hours n = some r → DInv r) ∧ (∀ r, Delta.try_minutes n = some r → DInv r) ∧
    (∀ r, Delta.try_seconds n = some r → DInv r) ∧ (∀ r, Delta.try_milliseconds n = some r → DInv r) ∧
    DInv (Delta.microseconds n) ∧ DInv (Delta.nanoseconds n) ∧
    (∀ r, Delta.weeks n = .ok r → DInv r) ∧ (∀ r, Delta.days n = .ok r → DInv r) ∧
    (∀ r, Delta.hours n = .ok r → DInv r) ∧ (∀ r, Delta.minutes n = .ok r → DInv r) ∧
    (∀ r, Delta.seconds n = .ok r → DInv r) ∧ (∀ r, Delta.milliseconds n = .ok r → DInv r) ∧
    (0 ≤ secs ∧ secs ≤ 18446744073709551615 → nanos < 1000000000 →
      ∀ r, Delta.from_std secs nanos = some r → DInv r) := by
  obtain ⟨w, d, h, m, s, ms⟩ := unit_panicking n hn
  refine ⟨fun r hr => ?_, DeltaOps.inv_of_some (try_unit_eq _ n), DeltaOps.inv_of_some (try_unit_eq _ n),
    DeltaOps.inv_of_some (try_unit_eq _ n), DeltaOps.inv_of_some (try_unit_eq _ n),
    DeltaOps.inv_of_some (try_seconds_exact n), DeltaOps.inv_of_some (try_milliseconds_exact n hn),
    (micro_nano_exact' n hn).2.1, (micro_nano_exact' n hn).2.2.2, DeltaOps.inv_of_ok w,
    DeltaOps.inv_of_ok d, DeltaOps.inv_of_ok h, DeltaOps.inv_of_ok m, DeltaOps.inv_of_ok s,
    DeltaOps.inv_of_ok ms,
    fun hs hn9 r hr => ?_⟩
  · rw [new_iff' secs nanos hnanos] at hr
    by_cases hc : nanos < 1000000000 ∧ nsInRange (ns ⟨secs, nanos⟩)
    · rw [ite_pos' _ _ hc] at hr; cases hr; exact ⟨hnanos, hc.1, hc.2⟩
    · rw [ite_neg' _ _ hc] at hr; cases hr
  · rw [(std_spec' secs nanos hs ⟨hnanos, hn9⟩ ⟨0, 0⟩ (by decide)).1] at hr
    by_cases hc : nsInRange (secs * 1000000000 + nanos)
    · rw [ite_pos' _ _ hc] at hr; cases hr; exact ⟨hnanos, hn9, hc⟩
    · rw [ite_neg' _ _ hc] at hr; cases hr

/-- the deserialising constructor (`impl Deserialize for TimeDelta`: `new(secs, nanos as u32)` on the
`(i64, i32)` tuple serde hands over — the one constructor that receives the nanosecond field signed), for
every secs and every `i32` nanos: the pair itself exactly when it is a valid value, refused otherwise — a
negative nanosecond field wraps to at least 2³¹ and is refused, never reinterpreted; so a deserialised value
satisfies the invariant (second audit G3; rkyv's derived `Deserialize` and `Arbitrary` are not modelled) -/
theorem deserialize_spec (secs nanos : Int) (hn : -2147483648 ≤ nanos ∧ nanos ≤ 2147483647) :
    Delta.deserialize secs nanos =
      (if 0 ≤ nanos ∧ nanos < 1000000000 ∧ nsInRange (ns ⟨secs, nanos⟩) then some ⟨secs, nanos⟩ else none) ∧
    (∀ r, Delta.deserialize secs nanos = some r → DInv r ∧ r = ⟨secs, nanos⟩) := by
  have h := DeltaSerde.deserialize_spec' secs nanos hn
  refine ⟨h, fun r hr => ?_⟩
  rw [h] at hr
  by_cases hc : 0 ≤ nanos ∧ nanos < 1000000000 ∧ nsInRange (ns ⟨secs, nanos⟩)
  · rw [ite_pos' _ _ hc] at hr; cases hr; exact ⟨hc, rfl⟩
  · rw [ite_neg' _ _ hc] at hr; cases hr

/-- non-vacuity: the range ends are accepted, one nanosecond beyond and every negative field refused -/
example : Delta.deserialize 9223372036854775 807000000 = some Delta.MAX ∧
    Delta.deserialize (-9223372036854776) 193000000 = some Delta.MIN ∧
    Delta.deserialize 9223372036854775 807000001 = none ∧ Delta.deserialize 0 (-1) = none ∧
    Delta.deserialize 0 (-2147483648) = none ∧ Delta.deserialize 0 1000000000 = none ∧
    Delta.deserialize (-1) 999999999 = some ⟨-1, 999999999⟩ := by decide +kernel

/-- non-vacuity: each antecedent of `closed` is met (results at both range ends) -/
example : Delta.checked_add Delta.MIN ⟨0, 1⟩ = .ok (some ⟨-9223372036854776, 193000001⟩) ∧
    Delta.neg Delta.MIN = .ok Delta.MAX ∧ Delta.abs Delta.MIN = .ok Delta.MAX ∧
    Delta.from_std 9223372036854775 807000000 = some Delta.MAX ∧
    Delta.from_std 9223372036854775 807000001 = none ∧ nsInRange (-NS_MAX) := by decide +kernel

/-! ### `is_zero`, constants, derived `PartialEq` / `PartialOrd` (audit gap G3 and the constants) -/

/-- `is_zero` holds exactly for the zero count, i.e. exactly for `TimeDelta::zero()` -/
theorem is_zero_spec (a : Delta) (ha : DInv a) :
    (a.is_zero = true ↔ ns a = 0) ∧ (a.is_zero = true ↔ a = Delta.zero) := by
  obtain ⟨as, an⟩ := a
  have ha := (DInv_iff _).mp ha
  dsimp only at ha
  simp only [Delta.is_zero, Delta.zero, ns, Bool.and_eq_true, beq_iff_eq, Delta.mk.injEq]
  constructor <;> constructor <;> intro h <;> omega

/-- `zero()` is the zero count, `min_value()` / `max_value()` are `MIN` / `MAX`, and those are the
canonical representations of the range ends; every valid value lies between them, also in the
derived order -/
theorem consts_spec :
    Delta.zero = ofNs 0 ∧ DInv Delta.zero ∧ Delta.min_value = Delta.MIN ∧ Delta.max_value = Delta.MAX ∧
    Delta.MIN = ofNs (-NS_MAX) ∧ Delta.MAX = ofNs NS_MAX ∧
    ∀ a, DInv a → ns Delta.MIN ≤ ns a ∧ ns a ≤ ns Delta.MAX ∧
      Delta.cmp Delta.MIN a ≠ 1 ∧ Delta.cmp a Delta.MAX ≠ 1 := by
  refine ⟨by decide, by decide, rfl, rfl, by decide, by decide, fun a ha => ?_⟩
  have h1 : ns Delta.MIN = -9223372036854775807000000 := by decide +kernel
  have h2 : ns Delta.MAX = 9223372036854775807000000 := by decide +kernel
  have hr := ha.2.2
  simp only [nsInRange, NS_MAX] at hr
  rw [cmp_spec Delta.MIN a (by decide) ha, cmp_spec a Delta.MAX ha (by decide), h1, h2]
  refine ⟨by omega, by omega, ?_, ?_⟩ <;> repeat' split <;> omega

/-- derived `==`, `partial_cmp`, `<`, `<=`, `>`, `>=` on all pairs of valid values are the numeric
relations on the nanosecond counts -/
theorem rel_spec (a b : Delta) (ha : DInv a) (hb : DInv b) :
    Delta.eq a b = decide (ns a = ns b) ∧
    Delta.partial_cmp a b = some (if ns a < ns b then -1 else if ns a > ns b then 1 else 0) ∧
    Delta.lt a b = decide (ns a < ns b) ∧ Delta.le a b = decide (ns a ≤ ns b) ∧
    Delta.gt a b = decide (ns a > ns b) ∧ Delta.ge a b = decide (ns a ≥ ns b) := by
  have hc := cmp_spec a b ha hb
  refine ⟨?_, congrArg some hc, ?_⟩
  · -- field-wise equality is equality of the values, hence of the counts
    rw [Bool.eq_iff_iff]
    simp only [Delta.eq, Bool.and_eq_true, beq_iff_eq, decide_eq_true_eq]
    constructor
    · intro ⟨h1, h2⟩; unfold ns; rw [h1, h2]
    · intro h; rw [ns_injective a b ha hb h]; exact ⟨rfl, rfl⟩
  · unfold Delta.lt Delta.le Delta.gt Delta.ge
    rw [hc]
    rcases Int.lt_trichotomy (ns a) (ns b) with h | h | h
    · have : ¬ ns b < ns a := by omega
      simp [h, this, Int.le_of_lt h]
    · simp [h]
    · have : ¬ ns a < ns b := by omega
      simp [h, this, Int.le_of_lt h]

/-- std conversions compose to the identity wherever they are defined -/
theorem std_roundtrip (secs nanos : Int) (hs : 0 ≤ secs ∧ secs ≤ 18446744073709551615)
    (hn : 0 ≤ nanos ∧ nanos < 1000000000) (a : Delta) (ha : DInv a) :
    (∀ r, Delta.from_std secs nanos = some r → Delta.to_std r = some (secs, nanos)) ∧
    (∀ p, Delta.to_std a = some p → Delta.from_std p.1 p.2 = some a) := by
  constructor
  · intro r hr
    rw [(std_spec' secs nanos hs hn ⟨0, 0⟩ (by decide)).1] at hr
    by_cases hc : nsInRange (secs * 1000000000 + nanos)
    · rw [ite_pos' _ _ hc] at hr; cases hr
      exact ite_neg' _ _ (by omega : ¬ secs < 0)
    · rw [ite_neg' _ _ hc] at hr; cases hr
  · intro p hp
    unfold Delta.to_std at hp
    by_cases hc : a.secs < 0
    · rw [ite_pos' _ _ hc] at hp; cases hp
    · rw [ite_neg' _ _ hc] at hp; cases hp
      have hA := (DInv_iff a).mp ha
      rw [(std_spec' a.secs a.nanos ⟨by omega, by omega⟩ ⟨ha.1, ha.2.1⟩ a ha).1]
      exact ite_pos' _ _ ha.2.2

/-- non-vacuity: the accessors at both range ends (the millisecond count is ±(2⁶³−1), the micro- and
nanosecond counts do not fit `i64`), `is_zero` next to zero, the relations on equal and adjacent values -/
example :
    Delta.MAX.num_milliseconds = .ok 9223372036854775807 ∧
    Delta.MIN.num_milliseconds = .ok (-9223372036854775807) ∧
    Delta.MAX.num_microseconds = none ∧ Delta.MIN.num_nanoseconds = none ∧
    Delta.MIN.num_seconds = -9223372036854775 ∧ Delta.MIN.subsec_nanos = -807000000 ∧
    Delta.MAX.num_weeks = 15250284452 ∧ Delta.MIN.num_weeks = -15250284452 ∧
    Delta.num_nanoseconds ⟨9223372036, 854775807⟩ = some 9223372036854775807 ∧
    Delta.num_nanoseconds ⟨9223372036, 854775808⟩ = none ∧
    Delta.num_nanoseconds ⟨-9223372037, 145224192⟩ = some (-9223372036854775808) ∧
    Delta.num_nanoseconds ⟨-9223372037, 145224191⟩ = none ∧
    Delta.is_zero ⟨0, 0⟩ = true ∧ Delta.is_zero ⟨0, 1⟩ = false ∧ Delta.is_zero ⟨-1, 999999999⟩ = false ∧
    Delta.lt ⟨-1, 999999999⟩ ⟨0, 0⟩ = true ∧ Delta.le Delta.MIN Delta.MIN = true ∧
    Delta.eq Delta.MAX Delta.MAX = true ∧ Delta.gt Delta.MAX Delta.MIN = true := by decide +kernel

/-! ### Canonical shape of the Display text (audit gap G4) -/

/-- `display_value` fixes the value the text denotes; this fixes which of the texts with that value is
written (`Spec/DeltaCanonSpec.lean`): `P0D` exactly for zero; otherwise `-` exactly for negative values,
`PT`, the integer part without leading zeros, a fraction of one to nine digits not ending in `0` or no
fraction at all, `S`, and never `PT0S` / `-P0D` -/
theorem display_canonical (a : Delta) (ha : DInv a) :
    ∃ t, Delta.display a = .ok t ∧
      (ns a = 0 → t = [80, 48, 68]) ∧ (ns a ≠ 0 → canonText (decide (ns a < 0)) t) ∧
      (t = [80, 48, 68] ↔ ns a = 0) ∧ (t.head? = some 45 ↔ ns a < 0) := by
  obtain ⟨t, h1, h2, h3⟩ := DeltaCanon.display_canonical' a ha
  refine ⟨t, h1, h2, h3, ?_, ?_⟩
  · constructor
    · intro ht
      by_cases hz : ns a = 0
      · exact hz
      · exact absurd ht (DeltaCanon.canonText_head _ t (h3 hz)).1
    · exact h2
  · by_cases hz : ns a = 0
    · rw [h2 hz]
      constructor
      · intro hh; cases hh
      · intro hh; omega
    · rw [(DeltaCanon.canonText_head _ t (h3 hz)).2, decide_eq_true_iff]

/-- non-vacuity: "-PT9223372036854775.807S" and "PT0.000001S" have the canonical shape (integer
part, fraction exhibited) -/
example :
    canonText true [45, 80, 84, 57, 50, 50, 51, 51, 55, 50, 48, 51, 54, 56, 53, 52, 55, 55, 53, 46, 56, 48,
      55, 83] ∧
    canonText false [80, 84, 48, 46, 48, 48, 48, 48, 48, 49, 83] :=
  ⟨⟨[57, 50, 50, 51, 51, 55, 50, 48, 51, 54, 56, 53, 52, 55, 55, 53], [46, 56, 48, 55], by decide,
      by decide, Or.inr ⟨[56, 48, 55], by decide⟩, by decide⟩,
   ⟨[48], [46, 48, 48, 48, 48, 48, 49], by decide, by decide,
      Or.inr ⟨[48, 48, 48, 48, 48, 49], by decide⟩, by decide⟩⟩

/-- the shape predicates leave exactly one text per value (a fact about the specification alone): two
texts of canonical shape — `P0D` or `canonText` — that the reader maps to the same value are equal -/
theorem canonical_text_unique (t1 t2 : List Nat)
    (h1 : t1 = [80, 48, 68] ∨ ∃ n, canonText n t1) (h2 : t2 = [80, 48, 68] ∨ ∃ n, canonText n t2)
    (hv : readDuration t1 = readDuration t2) : t1 = t2 := by
  have hz : readDuration [80, 48, 68] = some 0 := by decide +kernel
  rcases h1 with rfl | ⟨n1, c1⟩ <;> rcases h2 with rfl | ⟨n2, c2⟩
  · rfl
  · rw [hz] at hv; exact absurd hv.symm (DeltaCanonUniq.canon_ne_zero n2 t2 c2)
  · rw [hz] at hv; exact absurd hv (DeltaCanonUniq.canon_ne_zero n1 t1 c1)
  · exact DeltaCanonUniq.canon_unique n1 n2 t1 t2 c1 c2 hv

/-- hence the Display text is THE text of canonical shape denoting `ns a`: any text of canonical shape
that the reader maps to `ns a` is what `Display` writes -/
theorem display_unique (a : Delta) (ha : DInv a) (t : List Nat)
    (hs : t = [80, 48, 68] ∨ ∃ n, canonText n t) (hv : readDuration t = some (ns a)) :
    Delta.display a = .ok t := by
  obtain ⟨t', hd, hz, hc, _, _⟩ := display_canonical a ha
  obtain ⟨t'', hd', hr⟩ := display_value a ha
  have : t'' = t' := by rw [hd] at hd'; cases hd'; rfl
  subst this
  have hs' : t'' = [80, 48, 68] ∨ ∃ n, canonText n t'' := by
    by_cases h0 : ns a = 0
    · exact Or.inl (hz h0)
    · exact Or.inr ⟨_, hc h0⟩
  rw [hd, canonical_text_unique t'' t hs' hs (by rw [hr, hv])]

/-- non-vacuity: texts the reader accepts with the value of a canonical text but of another shape exist
(`PT007S` reads as 7 s, like `PT7S`), so uniqueness is a property of the shape predicates, not of the reader -/
example : readDuration [80, 84, 48, 48, 55, 83] = readDuration [80, 84, 55, 83] ∧
    readDuration [80, 84, 55, 83] = some 7000000000 ∧
    readDuration [80, 84, 48, 83] = readDuration [80, 48, 68] := by decide +kernel

end Chrono.Props.C06
