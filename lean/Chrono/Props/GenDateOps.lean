/-
  C03 / C08, code translation tie for the `NaiveDate` operations of src/naive/date/mod.rs that GenDate.lean does not
  cover (day and month stepping, `TimeDelta` arithmetic, differences) and for `NaiveWeek` (src/naive/mod.rs): the
  definitions that tools/extractors/rust2lean.py regenerates from the Rust source text on every run equal the
  hand-written models lean/Chrono/Model/DateArith.lean and DateOps.lean for all arguments of the machine types.
  A `NaiveDate` is its packed word (`Date.yof`, an `i32`: hypothesis `hd`); `ho` is the part of the type invariant
  (ordinal ≥ 1) that `add_days` relies on; `Days(u64)` and `Months(u32)` are their field; `dG` maps a `Delta`.
-/
import Chrono.Proofs.GenDateL
import Chrono.Props.GenDate
import Chrono.Props.GenDelta
import Chrono.Props.GenWeekday
import Chrono.Proofs.GenTimeL
import Chrono.Model.DateArith
import Chrono.Model.DateOps

namespace Chrono.Props.GenDateOps
open Chrono Chrono.M Chrono.Extracted Chrono.Extracted.DateOps Chrono.Proofs.GenL Chrono.Proofs.GenDateL
open Chrono.Proofs.GenTimeL

/-! ### day stepping -/

theorem gen_checked_add_days_eq (d : Date) (days : Int) (hd : -2147483648 ≤ d.yof ∧ d.yof ≤ 2147483647)
    (ho : 1 ≤ d.ordinal) :
    Gen.naive_date.NaiveDate.checked_add_days d.yof days
      = rmap (Option.map Date.yof) (d.checked_add_days days) := by
  unfold Gen.naive_date.NaiveDate.checked_add_days Date.checked_add_days
  have hI : I32_MAX = 2147483647 := rfl
  refine ite_rmap (by omega) (fun _ => ?_) (fun _ => rfl)
  exact GenDate.gen_add_days_eq d _ hd (asI32_range _) ho

theorem gen_checked_sub_days_eq (d : Date) (days : Int) (hd : -2147483648 ≤ d.yof ∧ d.yof ≤ 2147483647)
    (ho : 1 ≤ d.ordinal) :
    Gen.naive_date.NaiveDate.checked_sub_days d.yof days
      = rmap (Option.map Date.yof) (d.checked_sub_days days) := by
  unfold Gen.naive_date.NaiveDate.checked_sub_days Date.checked_sub_days
  have hI : I32_MAX = 2147483647 := rfl
  refine ite_rmap (by omega) (fun _ => ?_) (fun _ => rfl)
  cases h2 : ckI32 (-asI32 days) with
  | panic => rfl
  | ok n => exact GenDate.gen_add_days_eq d n hd (ckI32_range h2) ho

theorem gen_checked_add_signed_eq (d : Date) (rhs : Delta) (hd : -2147483648 ≤ d.yof ∧ d.yof ≤ 2147483647)
    (ho : 1 ≤ d.ordinal) (hr : DFields rhs) :
    Gen.naive_date.NaiveDate.checked_add_signed d.yof (dG rhs)
      = rmap (Option.map Date.yof) (d.checked_add_signed rhs) := by
  unfold Gen.naive_date.NaiveDate.checked_add_signed Date.checked_add_signed
  rw [GenDelta.gen_num_days_eq rhs hr.1, bind_ok]
  have hI : I32_MAX = 2147483647 := rfl
  have hJ : I32_MIN = -2147483648 := rfl
  dsimp only
  refine ite_rmap (by omega) (fun _ => rfl) (fun _ => ?_)
  exact GenDate.gen_add_days_eq d _ hd (asI32_range _) ho

theorem gen_checked_sub_signed_eq (d : Date) (rhs : Delta) (hd : -2147483648 ≤ d.yof ∧ d.yof ≤ 2147483647)
    (ho : 1 ≤ d.ordinal) (hr : DFields rhs) :
    Gen.naive_date.NaiveDate.checked_sub_signed d.yof (dG rhs)
      = rmap (Option.map Date.yof) (d.checked_sub_signed rhs) := by
  unfold Gen.naive_date.NaiveDate.checked_sub_signed Date.checked_sub_signed
  rw [GenDelta.gen_num_days_eq rhs hr.1, bind_ok]
  have hI : I32_MAX = 2147483647 := rfl
  have hJ : I32_MIN = -2147483648 := rfl
  cases ckI64 (-rhs.num_days) with
  | panic => rfl
  | ok days =>
    simp only [bind_ok]
    refine ite_rmap (by omega) (fun _ => rfl) (fun _ => ?_)
    exact GenDate.gen_add_days_eq d _ hd (asI32_range _) ho

/-! ### month stepping (`Months(u32)`) -/

theorem gen_checked_add_months_eq (d : Date) (n : Nat) (hd : -2147483648 ≤ d.yof ∧ d.yof ≤ 2147483647) :
    Gen.naive_date.NaiveDate.checked_add_months d.yof n
      = rmap (Option.map Date.yof) (d.checked_add_months n) := by
  unfold Gen.naive_date.NaiveDate.checked_add_months Date.checked_add_months
  have hI : I32_MAX = 2147483647 := rfl
  refine ite_rmap (by omega) (fun _ => rfl) (fun _ => ite_rmap (by omega) (fun h => ?_) (fun _ => rfl))
  rw [Proofs.asI32_id (by omega) (by omega)]
  exact GenDate.gen_diff_months_eq d _ hd

theorem gen_checked_sub_months_eq (d : Date) (n : Nat) (hd : -2147483648 ≤ d.yof ∧ d.yof ≤ 2147483647) :
    Gen.naive_date.NaiveDate.checked_sub_months d.yof n
      = rmap (Option.map Date.yof) (d.checked_sub_months n) := by
  unfold Gen.naive_date.NaiveDate.checked_sub_months Date.checked_sub_months
  have hI : I32_MAX = 2147483647 := rfl
  refine ite_rmap (by omega) (fun _ => rfl) (fun _ => ite_rmap (by omega) (fun h => ?_) (fun _ => rfl))
  rw [Proofs.asI32_id (by omega) (by omega), ckI32_ok (by omega), bind_ok]
  exact GenDate.gen_diff_months_eq d _ hd

/-! ### differences -/

theorem yo_to_cycle_le (ym o : Nat) (h1 : ym ≤ 400) : Date.yo_to_cycle ym o ≤ ym * 365 + 97 + o := by
  unfold Date.yo_to_cycle
  have := tbl_yd.2.2 ym (by omega)
  omega

theorem gen_date_signed_duration_since_eq (a b : Date)
    (ha : -2147483648 ≤ a.yof ∧ a.yof ≤ 2147483647) (hb : -2147483648 ≤ b.yof ∧ b.yof ≤ 2147483647)
    (hoa : 1 ≤ a.ordinal) (hob : 1 ≤ b.ordinal) :
    Gen.naive_date.NaiveDate.signed_duration_since a.yof b.yof
      = rmap dG (a.signed_duration_since b) := by
  -- each date's year splits without a panic, and its day number within the 400-year cycle is at most 146608
  have key : ∀ x : Date, (-2147483648 ≤ x.yof ∧ x.yof ≤ 2147483647) → 1 ≤ x.ordinal →
      Gen.naive_date.div_mod_floor x.year 400 = .ok (x.year / 400, x.year % 400) ∧
      (-656 ≤ x.year / 400 ∧ x.year / 400 ≤ 655) ∧
      ∃ c : Nat, Date.yo_to_cycle (x.year % 400).toNat x.ordinal.toNat = c ∧ c ≤ 146608 ∧
        Gen.naive_date.yo_to_cycle (asU32 (x.year % 400)) x.ordinal = .ok (c : Int) := by
    intro x hx hox
    have hy : -262144 ≤ x.year ∧ x.year ≤ 262143 := by unfold Date.year; omega
    have ho2 : x.ordinal ≤ 511 := by unfold Date.ordinal; omega
    refine ⟨GenDate.gen_div_mod_floor_eq _ 400 (by omega) (by omega), by omega, _, rfl, ?_, ?_⟩
    · exact Nat.le_trans (yo_to_cycle_le _ _ (by omega)) (by omega)
    · have g := GenDate.gen_yo_to_cycle_eq (x.year % 400).toNat x.ordinal.toNat (by omega) (by omega) (by omega)
      rwa [show (((x.year % 400).toNat : Nat) : Int) = asU32 (x.year % 400) by unfold asU32; omega,
        show ((x.ordinal.toNat : Nat) : Int) = x.ordinal by omega] at g
  obtain ⟨da, hqa, c1, e1, hc1, ga⟩ := key a ha hoa
  obtain ⟨db, hqb, c2, e2, hc2, gb⟩ := key b hb hob
  unfold Gen.naive_date.NaiveDate.signed_duration_since Date.signed_duration_since
  simp only [GenDate.gen_year_eq, GenDate.gen_ordinal_eq, da, db, bind_ok, ga, gb, e1, e2]
  generalize a.year / 400 = qa at hqa
  generalize b.year / 400 = qb at hqb
  rw [ckI64_ok (by omega), bind_ok, ckI64_ok (by omega), bind_ok, ckI64_ok (by omega), bind_ok,
    ckI64_ok (by omega), bind_ok, GenDelta.gen_try_days_eq]
  dsimp only
  cases Delta.try_days ((qa - qb) * 146097 + ((c1 : Int) - (c2 : Int))) <;> rfl

/-! ### field replacement (`impl Datelike for NaiveDate`; `u32` arguments are `Nat`s of the `u32` range) -/

theorem gen_with_year_eq (d : Date) (year : Int) :
    Gen.naive_date.NaiveDate.Datelike.with_year d.yof year
      = rmap (Option.map Date.yof) (d.with_year year) := by
  unfold Gen.naive_date.NaiveDate.Datelike.with_year Date.with_year
  rw [GenDate.gen_mdf_eq]
  cases hm : d.mdf with
  | panic => rfl
  | ok m =>
    have hlt := mdf_lt d m hm
    simp only [rmap, bind_ok]
    rw [GenDate.gen_from_year_eq, bind_ok]
    have hF := from_year_lt year
    show Gen.naive_date.NaiveDate.from_mdf year (Gen.naive_internals.Mdf.with_flags (m : Nat) (YearFlags.from_year year : Nat)) = _
    rw [GenDate.gen_mdf_with_flags_eq m _ (by omega) hF]
    have hw : Mdf.with_flags m (YearFlags.from_year year) ≤ 4294967295 := by unfold Mdf.with_flags; omega
    exact GenDate.gen_from_mdf_eq year _ hw

theorem gen_with_month_eq (d : Date) (month : Nat) (hd : -2147483648 ≤ d.yof ∧ d.yof ≤ 2147483647)
    (hm : month ≤ 4294967295) :
    Gen.naive_date.NaiveDate.Datelike.with_month d.yof month
      = rmap (Option.map Date.yof) (d.with_month month) := by
  unfold Gen.naive_date.NaiveDate.Datelike.with_month Date.with_month
  rw [GenDate.gen_mdf_eq]
  cases hmdf : d.mdf with
  | panic => rfl
  | ok m =>
    have hlt := mdf_lt d m hmdf
    simp only [rmap, bind_ok]
    show (match Gen.naive_internals.Mdf.with_month (m : Nat) (month : Nat) with
      | some r2 => Gen.naive_date.NaiveDate.with_mdf d.yof r2 | none => Res.ok none) = _
    rw [GenDate.gen_mdf_with_month_eq m month hm]
    cases hw : Mdf.with_month m month with
    | none => rfl
    | some m2 =>
      have : m2 ≤ 4294967295 := by
        unfold Mdf.with_month at hw; split at hw
        · cases hw
        · injection hw with hw; omega
      exact GenDate.gen_with_mdf_eq d m2 hd this

theorem gen_with_day_eq (d : Date) (day : Nat) (hd : -2147483648 ≤ d.yof ∧ d.yof ≤ 2147483647)
    (hm : day ≤ 4294967295) :
    Gen.naive_date.NaiveDate.Datelike.with_day d.yof day
      = rmap (Option.map Date.yof) (d.with_day day) := by
  unfold Gen.naive_date.NaiveDate.Datelike.with_day Date.with_day
  rw [GenDate.gen_mdf_eq]
  cases hmdf : d.mdf with
  | panic => rfl
  | ok m =>
    have hlt := mdf_lt d m hmdf
    simp only [rmap, bind_ok]
    show (match Gen.naive_internals.Mdf.with_day (m : Nat) (day : Nat) with
      | some r2 => Gen.naive_date.NaiveDate.with_mdf d.yof r2 | none => Res.ok none) = _
    rw [GenDate.gen_mdf_with_day_eq m day (by omega) hm]
    cases hw : Mdf.with_day m day with
    | none => rfl
    | some m2 =>
      have : m2 ≤ 4294967295 := by
        unfold Mdf.with_day at hw; split at hw
        · cases hw
        · injection hw with hw; omega
      exact GenDate.gen_with_mdf_eq d m2 hd this

theorem gen_with_month0_unfold (yof x : Int) :
    Gen.naive_date.NaiveDate.Datelike.with_month0 yof x =
      (match optU32 (x + 1) with
      | some v => Gen.naive_date.NaiveDate.Datelike.with_month yof v
      | none => .ok none) := rfl

theorem gen_with_month0_eq (d : Date) (month0 : Nat) (hd : -2147483648 ≤ d.yof ∧ d.yof ≤ 2147483647)
    (hm : month0 ≤ 4294967295) :
    Gen.naive_date.NaiveDate.Datelike.with_month0 d.yof month0
      = rmap (Option.map Date.yof) (d.with_month0 month0) := by
  rw [gen_with_month0_unfold]
  unfold Date.with_month0
  have hU : U32_MAX = 4294967295 := rfl
  rw [optU32_def]
  by_cases h : 0 ≤ (month0 : Int) + 1 ∧ (month0 : Int) + 1 ≤ 4294967295
  · rw [if_pos h, if_pos (by omega)]
    have := gen_with_month_eq d (month0 + 1) hd (by omega)
    have e : ((month0 + 1 : Nat) : Int) = (month0 : Int) + 1 := by omega
    rw [e] at this
    exact this
  · rw [if_neg h, if_neg (by omega)]; rfl

theorem gen_with_day0_unfold (yof x : Int) :
    Gen.naive_date.NaiveDate.Datelike.with_day0 yof x =
      (match optU32 (x + 1) with
      | some v => Gen.naive_date.NaiveDate.Datelike.with_day yof v
      | none => .ok none) := rfl

theorem gen_with_day0_eq (d : Date) (day0 : Nat) (hd : -2147483648 ≤ d.yof ∧ d.yof ≤ 2147483647)
    (hm : day0 ≤ 4294967295) :
    Gen.naive_date.NaiveDate.Datelike.with_day0 d.yof day0
      = rmap (Option.map Date.yof) (d.with_day0 day0) := by
  rw [gen_with_day0_unfold]
  unfold Date.with_day0
  have hU : U32_MAX = 4294967295 := rfl
  rw [optU32_def]
  by_cases h : 0 ≤ (day0 : Int) + 1 ∧ (day0 : Int) + 1 ≤ 4294967295
  · rw [if_pos h, if_pos (by omega)]
    have := gen_with_day_eq d (day0 + 1) hd (by omega)
    have e : ((day0 + 1 : Nat) : Int) = (day0 : Int) + 1 := by omega
    rw [e] at this
    exact this
  · rw [if_neg h, if_neg (by omega)]; rfl

theorem gen_years_since_eq (d base : Date) :
    Gen.naive_date.NaiveDate.years_since d.yof base.yof = d.years_since base := by
  unfold Gen.naive_date.NaiveDate.years_since Date.years_since
  simp only [GenDate.gen_year_eq, GenDate.gen_month_eq, GenDate.gen_day_eq]
  -- both sides stop at the first of the five results that is a panic
  cases hy : ckI32 (d.year - base.year) with | panic => rfl | ok years => ?_
  cases hm1 : d.month with | panic => rfl | ok m1 => ?_
  cases hd1 : d.day with | panic => rfl | ok d1 => ?_
  cases hm0 : base.month with | panic => rfl | ok m0 => ?_
  cases hd0 : base.day with | panic => rfl | ok d0 => ?_
  have r1 := month_day_range d m1 d1 hm1 hd1
  have r0 := month_day_range base m0 d0 hm0 hd0
  simp only [rmap, bind_ok]
  have hyr : -2147483648 ≤ years ∧ years ≤ 2147483647 := by
    rw [ckI32_def] at hy; split at hy
    · injection hy with hy; omega
    · cases hy
  have word : ∀ m x : Nat, m ≤ 63 → x ≤ 31 →
      GenRt.lorU (Int.ofNat m * 32 % 4294967296) (Int.ofNat x) = (m : Int) * 32 + x := by
    intro m x hm hx
    simp only [Int.ofNat_eq_natCast]
    rw [lorU_field 0 5 _ _ (by omega) (by omega) (by omega) (by omega) (by omega)]; omega
  have e1 := word m1 d1 (by omega) (by omega)
  have e0 := word m0 d0 (by omega) (by omega)
  rw [e1, e0]
  have hau : ∀ y : Int, 0 ≤ y → y ≤ 2147483647 → asU32 y = y := fun y h1 h2 => Proofs.asU32_id h1 (by omega)
  by_cases hlt : m1 * 32 + d1 < m0 * 32 + d0
  · rw [if_pos (by omega), if_pos hlt]
    by_cases hk : -2147483648 ≤ years - 1 ∧ years - 1 ≤ 2147483647
    · rw [ckI32_ok hk, bind_ok]
      dsimp only
      by_cases h0 : years - 1 ≥ 0
      · rw [if_pos h0, if_pos h0, hau _ (by omega) (by omega)]
      · rw [if_neg h0, if_neg h0]
    · have e : ckI32 (years - 1) = .panic := by rw [ckI32_def, if_neg hk]
      rw [e]; rfl
  · rw [if_neg (by omega), if_neg hlt]
    dsimp only
    by_cases h0 : years ≥ 0
    · rw [if_pos h0, if_pos h0, hau _ (by omega) (by omega)]
    · rw [if_neg h0, if_neg h0]

theorem gen_with_ordinal_eq (d : Date) (ordinal : Nat) (hd : -2147483648 ≤ d.yof ∧ d.yof ≤ 2147483647)
    (_ho : ordinal ≤ 4294967295) :
    Gen.naive_date.NaiveDate.Datelike.with_ordinal d.yof ordinal
      = rmap (Option.map Date.yof) (d.with_ordinal ordinal) := by
  unfold Gen.naive_date.NaiveDate.Datelike.with_ordinal Date.with_ordinal Gen.naive_date.NaiveDate.yof
  have h1 : WO_ZERO = 0 := rfl
  have h2 : WO_MAX = 366 := rfl
  have h3 : DATE_MAX_OL = 5856 := rfl
  refine ite_rmap (by omega) (fun _ => rfl) fun hc => ?_
  have e1 : asI32 ((ordinal : Int) * 16 % 4294967296) = (ordinal : Int) * 16 := by
    rw [Proofs.asI32_id (by omega) (by omega)]; omega
  have e2 : GenRt.lorI 32 asI32 (d.yof - d.yof / 16 % 512 * 16) ((ordinal : Int) * 16)
      = d.yof - d.ordinal * 16 + (ordinal : Int) * 16 := by
    rw [lor_ordinal d.yof _ hd (by omega) (by omega)]; rfl
  rw [e1]
  dsimp only
  rw [e2]
  generalize d.yof - d.ordinal * 16 + (ordinal : Int) * 16 = y
  refine ite_rmap (by omega) (fun hy => ?_) (fun _ => rfl)
  rw [GenDate.gen_from_yof_eq y (by omega)]
  cases Date.from_yof y <;> rfl

theorem gen_with_ordinal0_unfold (yof x : Int) :
    Gen.naive_date.NaiveDate.Datelike.with_ordinal0 yof x =
      (match optU32 (x + 1) with
      | some v => Gen.naive_date.NaiveDate.Datelike.with_ordinal yof v
      | none => .ok none) := rfl

theorem gen_with_ordinal0_eq (d : Date) (ordinal0 : Nat) (hd : -2147483648 ≤ d.yof ∧ d.yof ≤ 2147483647)
    (hm : ordinal0 ≤ 4294967295) :
    Gen.naive_date.NaiveDate.Datelike.with_ordinal0 d.yof ordinal0
      = rmap (Option.map Date.yof) (d.with_ordinal0 ordinal0) := by
  rw [gen_with_ordinal0_unfold]
  unfold Date.with_ordinal0
  have hU : U32_MAX = 4294967295 := rfl
  rw [optU32_def]
  by_cases h : 0 ≤ (ordinal0 : Int) + 1 ∧ (ordinal0 : Int) + 1 ≤ 4294967295
  · rw [if_pos h, if_pos (by omega)]
    have := gen_with_ordinal_eq d (ordinal0 + 1) hd (by omega)
    have e : ((ordinal0 + 1 : Nat) : Int) = (ordinal0 : Int) + 1 := by omega
    rw [e] at this
    exact this
  · rw [if_neg h, if_neg (by omega)]; rfl

/-! ### `NaiveDate::week` / `NaiveWeek` (a `Weekday` is its discriminant, Monday = 0) -/

theorem gen_week_eq (d : Date) (start : Weekday) :
    Gen.naive_date.NaiveDate.week d.yof (start.toNat : Nat)
      = ⟨(d.week start).date.yof, ((d.week start).start.toNat : Nat)⟩ := rfl

theorem nfm_range (w : Weekday) : 1 ≤ w.number_from_monday ∧ w.number_from_monday ≤ 7 := by
  cases w <;> decide

theorem gen_from_weekday_of_month_opt_eq (year : Int) (month : Nat) (weekday : Weekday) (n : Nat)
    (hm : month ≤ 4294967295) (hn : n ≤ 255) :
    Gen.naive_date.NaiveDate.from_weekday_of_month_opt year month (weekday.toNat : Nat) n
      = rmap (Option.map Date.yof) (Date.from_weekday_of_month_opt year month weekday n) := by
  unfold Gen.naive_date.NaiveDate.from_weekday_of_month_opt Date.from_weekday_of_month_opt
  refine ite_rmap (by omega) (fun _ => rfl) fun h0 => ?_
  · have g1 : Gen.naive_date.NaiveDate.from_ymd_opt year month 1
        = rmap (Option.map Date.yof) (Date.from_ymd_opt year month 1) :=
      GenDate.gen_from_ymd_opt_eq year month 1 hm (by omega)
    rw [g1]
    cases Date.from_ymd_opt year month 1 with
    | panic => rfl
    | ok o =>
      cases o with
      | none => rfl
      | some f =>
        simp only [rmap, bind_ok, Option.map]
        rw [GenDate.gen_weekday_eq f, bind_ok, GenWeekday.gen_weekday_number_from_monday_eq, bind_ok]
        have ra := nfm_range weekday
        have rb := nfm_range f.weekday
        rw [ckU32_ok (by omega), bind_ok, GenWeekday.gen_weekday_number_from_monday_eq, bind_ok,
          ckU32_ok (by omega), bind_ok]
        have e8 : GenRt.ckU8 ((n : Int) - 1) = .ok ((n : Int) - 1) := by
          unfold GenRt.ckU8
          rw [if_pos (by simp only [Bool.and_eq_true, decide_eq_true_eq]; omega)]
        rw [e8, bind_ok, ckU32_ok (by omega), bind_ok, ckU32_ok (by omega), bind_ok, ckU32_ok (by omega), bind_ok]
        have ed : ((n : Int) - 1) * 7 + (7 + (weekday.number_from_monday : Int) - (f.weekday.number_from_monday : Int)) % 7 + 1
            = (((n - 1) * 7 + (7 + weekday.number_from_monday - f.weekday.number_from_monday) % 7 + 1 : Nat) : Int) := by
          omega
        rw [ed]
        exact GenDate.gen_from_ymd_opt_eq year month _ hm (by omega)

/-- the generated `NaiveWeek` of a model value -/
abbrev wG (w : NaiveWeek) : Gen.naive.NaiveWeek := ⟨w.date.yof, (w.start.toNat : Nat)⟩

theorem ndfm_le (w : Weekday) : w.num_days_from_monday ≤ 6 := by cases w <;> decide

theorem gen_checked_first_day_eq (w : NaiveWeek) (hd : -2147483648 ≤ w.date.yof ∧ w.date.yof ≤ 2147483647)
    (ho : 1 ≤ w.date.ordinal) :
    Gen.naive.NaiveWeek.checked_first_day (wG w) = rmap (Option.map Date.yof) w.checked_first_day := by
  unfold Gen.naive.NaiveWeek.checked_first_day NaiveWeek.checked_first_day
  dsimp only
  rw [GenWeekday.gen_weekday_num_days_from_monday_eq, bind_ok, GenDate.gen_weekday_eq, bind_ok,
    GenWeekday.gen_weekday_num_days_from_monday_eq, bind_ok]
  have h1 : 0 ≤ (w.start.num_days_from_monday : Int) ∧ (w.start.num_days_from_monday : Int) ≤ 6 := by
    have := ndfm_le w.start; omega
  have h2 : 0 ≤ (w.date.weekday.num_days_from_monday : Int) ∧ (w.date.weekday.num_days_from_monday : Int) ≤ 6 := by
    have := ndfm_le w.date.weekday; omega
  rw [Proofs.asI32_id (by omega) (by omega), Proofs.asI32_id (by omega) (by omega)]
  generalize (w.start.num_days_from_monday : Int) = s at *
  generalize (w.date.weekday.num_days_from_monday : Int) = r at *
  rw [ckI32_ok (by omega), bind_ok, ckI32_ok (by split <;> omega), bind_ok]
  exact GenDate.gen_add_days_eq w.date _ hd (by split <;> omega) ho

theorem gen_checked_last_day_eq (w : NaiveWeek) (hd : -2147483648 ≤ w.date.yof ∧ w.date.yof ≤ 2147483647)
    (ho : 1 ≤ w.date.ordinal) :
    Gen.naive.NaiveWeek.checked_last_day (wG w) = rmap (Option.map Date.yof) w.checked_last_day := by
  unfold Gen.naive.NaiveWeek.checked_last_day NaiveWeek.checked_last_day
  dsimp only
  rw [GenWeekday.gen_weekday_pred_eq, GenWeekday.gen_weekday_num_days_from_monday_eq, bind_ok,
    GenDate.gen_weekday_eq, bind_ok, GenWeekday.gen_weekday_num_days_from_monday_eq, bind_ok]
  have h1 : 0 ≤ (w.start.pred.num_days_from_monday : Int) ∧ (w.start.pred.num_days_from_monday : Int) ≤ 6 := by
    have := ndfm_le w.start.pred; omega
  have h2 : 0 ≤ (w.date.weekday.num_days_from_monday : Int) ∧ (w.date.weekday.num_days_from_monday : Int) ≤ 6 := by
    have := ndfm_le w.date.weekday; omega
  rw [Proofs.asI32_id (by omega) (by omega), Proofs.asI32_id (by omega) (by omega)]
  generalize (w.start.pred.num_days_from_monday : Int) = s at *
  generalize (w.date.weekday.num_days_from_monday : Int) = r at *
  rw [ckI32_ok (by omega), bind_ok, ckI32_ok (by split <;> omega), bind_ok]
  exact GenDate.gen_add_days_eq w.date _ hd (by split <;> omega) ho

theorem gen_first_day_eq (w : NaiveWeek) (hd : -2147483648 ≤ w.date.yof ∧ w.date.yof ≤ 2147483647)
    (ho : 1 ≤ w.date.ordinal) :
    Gen.naive.NaiveWeek.first_day (wG w) = rmap Date.yof w.first_day := by
  unfold Gen.naive.NaiveWeek.first_day NaiveWeek.first_day
  rw [gen_checked_first_day_eq w hd ho]
  cases w.checked_first_day with
  | panic => rfl
  | ok o => cases o <;> rfl

theorem gen_last_day_eq (w : NaiveWeek) (hd : -2147483648 ≤ w.date.yof ∧ w.date.yof ≤ 2147483647)
    (ho : 1 ≤ w.date.ordinal) :
    Gen.naive.NaiveWeek.last_day (wG w) = rmap Date.yof w.last_day := by
  unfold Gen.naive.NaiveWeek.last_day NaiveWeek.last_day
  rw [gen_checked_last_day_eq w hd ho]
  cases w.checked_last_day with
  | panic => rfl
  | ok o => cases o <;> rfl

end Chrono.Props.GenDateOps
