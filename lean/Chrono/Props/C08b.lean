/-
  C08, second part (audit2/C08.md, round 2, 2026-09-30).  Same namespace as Props/C08.lean.

  * the leap-representation-off-:59 behaviour of `with_second` / `with_nanosecond`, one and two levels up
    (`NaiveDateTime`, `DateTime<FixedOffset/Utc>`) — lead decision: an OBSERVATION, not a finding: the
    quantifier's values include "leap-second representations on any second" (`TValid`), for which the clause
    "nothing if no such time exists" is proved (`time_with_field_spec`); for the constructors' narrower notion
    the exact deviation set is `time_with_field_off59` and the two theorems below;
  * the `as u32` of `DateTime::years_since`;
  * the zone-aware forms in one statement each (wall clock → calendar meaning substituted);
  * `NaiveDate` theorems restated over `(d : Date) (hd : DateInv d)` with closure (results are again in the
    domain);
  * the week's first / last day named through the user-visible accessor `weekday`.
  The end-to-end compositions "generated code = specification" built on these are in Props/C08Gen.lean.
-/
import Chrono.Props.C08

namespace Chrono.Props.C08
open Chrono Chrono.M Chrono.Spec Chrono.Proofs Chrono.Proofs.ZN Chrono.Proofs.DTO Chrono.Extracted
  Chrono.Extracted.DateOps Chrono.Proofs.MOps Chrono.Proofs.TStrictL

/-! ### the off-:59 observation, `NaiveDateTime` and `DateTime` forms -/

/-- `NaiveDateTime::with_second / with_nanosecond` on the deviation set of `time_with_field_off59`, every date
part (no hypothesis on it), every constructor-built time of day: the date is kept and the time is the old
`secs` / `frac` with the one field replaced — a value whose four fields `from_hms_nano_opt` (`ctorTime`)
refuses and that is not constructor-valid (it is `TValid`); no panic -/
theorem naive_dt_with_field_off59 (dt : NaiveDT) (ht : TStrict dt.time) (v : Int) (hv : 0 ≤ v) :
    (1000000000 ≤ dt.time.frac → v < 59 →
      dt.with_second v = .ok (some ⟨dt.date, ⟨dt.time.secs / 60 * 60 + v, dt.time.frac⟩⟩) ∧
      ctorTime dt.time.hour dt.time.minute v dt.time.nanosecond = none ∧
      ¬ TStrict ⟨dt.time.secs / 60 * 60 + v, dt.time.frac⟩ ∧ TValid ⟨dt.time.secs / 60 * 60 + v, dt.time.frac⟩) ∧
    (1000000000 ≤ v → v < 2000000000 → dt.time.secs % 60 ≠ 59 →
      dt.with_nanosecond v = .ok (some ⟨dt.date, ⟨dt.time.secs, v⟩⟩) ∧
      ctorTime dt.time.hour dt.time.minute dt.time.second v = none ∧
      ¬ TStrict ⟨dt.time.secs, v⟩ ∧ TValid ⟨dt.time.secs, v⟩) := by
  obtain ⟨a, b⟩ := leap_off59 dt.time ht.1 v hv
  refine ⟨fun x y => ?_, fun x y z => ?_⟩
  · obtain ⟨a1, rest⟩ := a x y
    refine ⟨?_, rest⟩
    unfold NaiveDT.with_second NaiveDT.mapTime; rw [a1]; rfl
  · obtain ⟨b1, rest⟩ := b x y z
    refine ⟨?_, rest⟩
    unfold NaiveDT.with_nanosecond NaiveDT.mapTime; rw [b1]; rfl

/-- `DateTime<FixedOffset>::with_second / with_nanosecond` (`DateTime<Utc>`: offset 0), every well-formed value
(sub-minute offsets included), wall clock `l`: the replacement acts on the WALL clock, so the deviation set is
the one of `time_with_field_off59` read on `l.time` — a leap representation on `l` and `v < 59`, resp. a
leap-range nanosecond while `l` is not on second :59: the naive result is `l` with the one field replaced, the
zone-aware result is that reading at the same offset (`ActsOnWall`: kept iff its instant lies in
`MIN_UTC ..= MAX_UTC`), and `from_hms_nano_opt` (`ctorTime`) refuses the four fields.  And a value need not
have gone through `with_*` to be "off :59" on the wall: the wall second is `(utc second + offset) mod 60`, so a
constructor-valid UTC leap second (second :59) viewed at an offset that is not a whole number of minutes
already reads as a leap representation off second :59 (`¬ TStrict l.time`). -/
theorem zoned_with_field_off59 (z : Zoned) (hz : ZInv z) (v : Int) (hv : 0 ≤ v) :
    ∃ l, Zoned.overflowing_naive_local z = .ok l ∧ ExtNDTInv l ∧ instSecs l = wallSecs z ∧
      l.time.frac = z.utc.time.frac ∧ l.time.secs % 60 = (z.utc.time.secs + z.off) % 60 ∧
      (1000000000 ≤ l.time.frac → v < 59 → ∃ r,
        Zoned.with_second z v = .ok r ∧
        ActsOnWall z (some ⟨l.date, ⟨l.time.secs / 60 * 60 + v, l.time.frac⟩⟩) r ∧
        ctorTime l.time.hour l.time.minute v l.time.nanosecond = none) ∧
      (1000000000 ≤ v → v < 2000000000 → l.time.secs % 60 ≠ 59 → ∃ r,
        Zoned.with_nanosecond z v = .ok r ∧ ActsOnWall z (some ⟨l.date, ⟨l.time.secs, v⟩⟩) r ∧
        ctorTime l.time.hour l.time.minute l.time.second v = none) ∧
      (TStrict z.utc.time → 1000000000 ≤ z.utc.time.frac → z.off % 60 ≠ 0 → ¬ TStrict l.time) := by
  obtain ⟨l, h1, h2, h3, h4, _⟩ := naive_local_spec z hz
  obtain ⟨_, _, ⟨rs0, rs, es0, es, acts⟩, ⟨rn0, rn, en0, en, actn⟩⟩ := zoned_time_ops z hz l h1 v hv
  obtain ⟨a, b⟩ := leap_off59 l.time h2.2 v hv
  have hsec : l.time.secs % 60 = (z.utc.time.secs + z.off) % 60 := by
    have := h3; unfold wallSecs instSecs at this; omega
  refine ⟨l, h1, h2, h3, h4, hsec, fun x y => ⟨rs, es, ?_, (a x y).2.1⟩,
    fun x y w => ⟨rn, en, ?_, (b x y w).2.1⟩, ?_⟩
  · unfold NaiveDT.with_second NaiveDT.mapTime at es0
    rw [(a x y).1] at es0
    cases es0; exact acts
  · unfold NaiveDT.with_nanosecond NaiveDT.mapTime at en0
    rw [(b x y w).1] at en0
    cases en0; exact actn
  · intro hs hf ho hc
    have := hs.2
    have := hc.2
    omega

/-! ### the `as u32` cast of `DateTime::years_since` -/

/-- the count `DateTime::years_since` returns fits `u32`: `0 ≤ k ≤ 524287` (the wall-clock years lie in
`MIN_YEAR − 1 ..= MAX_YEAR + 1`), so the final `years as u32` — not modelled, `r : Option Int` — is the
identity; every pair of well-formed zone-aware values, each at its own offset.  (The largest value reached is
524286, one more than for dates: see the example below.) -/
theorem datetime_years_since_fits_u32 (z b : Zoned) (hz : ZInv z) (hb : ZInv b) :
    ∀ k, Zoned.years_since z b = .ok (some k) → 0 ≤ k ∧ k ≤ 524287 ∧ asU32 k = k := by
  intro k hk
  obtain ⟨l1, l0, r, a1, b1, _, _, _, _, _, _, hy, hw, _⟩ := datetime_years_since_spec z b hz hb
  obtain ⟨⟨⟨p1, p2, _⟩, _⟩, _⟩ := wall_date_cases z hz l1 a1
  obtain ⟨⟨⟨q1, q2, _⟩, _⟩, _⟩ := wall_date_cases b hb l0 b1
  rw [hy] at hk
  injection hk with hk
  have hW := (hw k).mp hk
  have hMIN : MIN_YEAR = -262143 := rfl
  have hMAX : MAX_YEAR = 262142 := rfl
  unfold WholeYearsT ymdtLt at hW
  have hb : 0 ≤ k ∧ k ≤ 524287 := by omega
  exact ⟨hb.1, hb.2, asU32_id (by omega) (by omega)⟩

example :
    ZInv ⟨NaiveDT.MAX, 86399⟩ ∧ ZInv ⟨NaiveDT.MIN, -86399⟩ ∧
    Zoned.years_since ⟨NaiveDT.MAX, 86399⟩ ⟨NaiveDT.MIN, -86399⟩ = .ok (some 524286) ∧
    asU32 524286 = 524286 := by decide +kernel

/-- the off-:59 observation one and two levels up: `2016-12-31T23:59:59 + leap` viewed at +00:00:17 reads
`00:00:16 + leap` on the wall (not constructor-valid although the UTC value is); `with_nanosecond(1.5e9)` on a
wall clock at second :07 -/
example :
    TStrict (⟨dateOfYo 2024 60, ⟨7, 0⟩⟩ : NaiveDT).time ∧
    NaiveDT.with_nanosecond ⟨dateOfYo 2024 60, ⟨7, 0⟩⟩ 1500000000 = .ok (some ⟨dateOfYo 2024 60, ⟨7, 1500000000⟩⟩) ∧
    NaiveDT.with_second ⟨dateOfYo 2024 60, ⟨86399, 1500000000⟩⟩ 30 = .ok (some ⟨dateOfYo 2024 60, ⟨86370, 1500000000⟩⟩) ∧
    ZInv ⟨⟨dateOfYo 2016 366, ⟨86399, 1500000000⟩⟩, 17⟩ ∧ TStrict (⟨86399, 1500000000⟩ : Time) ∧
    Zoned.overflowing_naive_local ⟨⟨dateOfYo 2016 366, ⟨86399, 1500000000⟩⟩, 17⟩ =
      .ok ⟨dateOfYo 2017 1, ⟨16, 1500000000⟩⟩ ∧ ¬ TStrict (⟨16, 1500000000⟩ : Time) ∧
    Zoned.with_nanosecond ⟨⟨dateOfYo 2024 60, ⟨0, 0⟩⟩, 7⟩ 1500000000 =
      .ok (some ⟨⟨dateOfYo 2024 60, ⟨0, 1500000000⟩⟩, 7⟩) ∧
    ctorTime 0 0 7 1500000000 = none := by decide +kernel

/-! ### the week's first and last day through the user-visible accessor `weekday` -/

/-- "starts on the chosen weekday", stated on `NaiveDate::weekday` of the returned dates: for every date of
the range and every first weekday `s`, a first day (checked or `expect`-ing form) falls on `s`, a last day on
`s.pred()`, the first day is `k = daysBack …` days (0 ≤ k ≤ 6) before the date and the last day `6 − k` days
after it (day numbers), so the date lies in the seven-day span -/
theorem week_weekday_spec (y : Int) (o : Nat) (hy : MIN_YEAR ≤ y ∧ y ≤ MAX_YEAR) (ho : 1 ≤ o ∧ o ≤ yearLen y)
    (s : Weekday) :
    (∀ a, ((dateOfYo y o).week s).checked_first_day = .ok (some a) →
      a.weekday = s ∧ ((dateOfYo y o).week s).first_day = .ok a ∧
      ∃ y' o', a = dateOfYo y' o' ∧ (MIN_YEAR ≤ y' ∧ y' ≤ MAX_YEAR) ∧ (1 ≤ o' ∧ o' ≤ yearLen y') ∧
        dayNumYo y o - 6 ≤ dayNumYo y' o' ∧ dayNumYo y' o' ≤ dayNumYo y o) ∧
    (∀ b, ((dateOfYo y o).week s).checked_last_day = .ok (some b) →
      b.weekday = s.pred ∧ ((dateOfYo y o).week s).last_day = .ok b ∧
      ∃ y' o', b = dateOfYo y' o' ∧ (MIN_YEAR ≤ y' ∧ y' ≤ MAX_YEAR) ∧ (1 ≤ o' ∧ o' ≤ yearLen y') ∧
        dayNumYo y o ≤ dayNumYo y' o' ∧ dayNumYo y' o' ≤ dayNumYo y o + 6) ∧
    (∀ a b, ((dateOfYo y o).week s).checked_days = .ok (some (a, b)) →
      a.weekday = s ∧ b.weekday = s.pred ∧ ((dateOfYo y o).week s).days = .ok (a, b)) := by
  obtain ⟨rf, rl, hf, hl, hk, hwd, sf, sl, hcd, hfd, hld, hdd⟩ := week_spec y o hy ho s
  -- six days after a day on `s` is a day on `s.pred()`
  have hwl : weekdayOf (dayNumYo y o - daysBack (weekdayOf (dayNumYo y o)) s.toNat + 6) = s.pred.toNat := by
    rw [pred_toNat]; unfold weekdayOf at hwd ⊢; omega
  have first := fun a ha => weekday_of_dayNum rf _ sf a ha s hwd
  have last := fun b hb => weekday_of_dayNum rl _ sl b hb s.pred hwl
  refine ⟨?_, ?_, ?_⟩
  · intro a ha
    rw [hf] at ha; injection ha with ha
    obtain ⟨w, y', o', e, hy', ho', hn⟩ := first a ha
    exact ⟨w, by rw [hfd, ha], y', o', e, hy', ho', by omega, by omega⟩
  · intro b hb
    rw [hl] at hb; injection hb with hb
    obtain ⟨w, y', o', e, hy', ho', hn⟩ := last b hb
    exact ⟨w, by rw [hld, hb], y', o', e, hy', ho', by omega, by omega⟩
  · intro a b hab
    rw [hcd] at hab; injection hab with hab
    have hrf := bothDays_some hab
    exact ⟨(first a hrf.1).1, (last b hrf.2).1, by rw [hdd, hab]⟩

/-! ### the `NaiveDate` theorems over `(d : Date) (hd : DateInv d)`, with closure -/

/-- every packed date satisfying the type invariant `DateInv` (year in range, ordinal exists, flags of the
year) IS `dateOfYo d.year d.ordinal` with the hypotheses of the theorems above — so they all apply to it — and
every date returned by month stepping, the seven replacements, the week helpers and `from_weekday_of_month_opt`
satisfies `DateInv` again: results are in the domain, chained operations are covered -/
theorem date_domain_closure (d : Date) (hd : DateInv d) (n v : Nat) (y' : Int) (s w : Weekday) (m k : Nat) :
    (d = dateOfYo d.year d.ordinal.toNat ∧ (MIN_YEAR ≤ d.year ∧ d.year ≤ MAX_YEAR) ∧
      (1 ≤ d.ordinal.toNat ∧ d.ordinal.toNat ≤ yearLen d.year)) ∧
    (∀ r, d.checked_add_months n = .ok (some r) → DateInv r) ∧
    (∀ r, d.checked_sub_months n = .ok (some r) → DateInv r) ∧
    (∀ r, d.with_year y' = .ok (some r) → DateInv r) ∧
    (∀ r, d.with_month v = .ok (some r) → DateInv r) ∧
    (∀ r, d.with_month0 v = .ok (some r) → DateInv r) ∧
    (∀ r, d.with_day v = .ok (some r) → DateInv r) ∧
    (∀ r, d.with_day0 v = .ok (some r) → DateInv r) ∧
    (∀ r, d.with_ordinal v = .ok (some r) → DateInv r) ∧
    (∀ r, d.with_ordinal0 v = .ok (some r) → DateInv r) ∧
    (∀ r, (d.week s).checked_first_day = .ok (some r) → DateInv r) ∧
    (∀ r, (d.week s).checked_last_day = .ok (some r) → DateInv r) ∧
    (∀ r, Date.from_weekday_of_month_opt y' m w k = .ok (some r) → DateInv r) := by
  have he := (dateInv_iff d).mp hd
  obtain ⟨el, vl⟩ := ext_eq d he.1
  have hy : MIN_YEAR ≤ d.year ∧ d.year ≤ MAX_YEAR := he.2
  have ho : 1 ≤ d.ordinal.toNat ∧ d.ordinal.toNat ≤ yearLen d.year := ⟨vl.2.2.1, vl.2.2.2⟩
  have inv_yo : ∀ (y : Int) (o : Nat), MIN_YEAR ≤ y ∧ y ≤ MAX_YEAR → 1 ≤ o ∧ o ≤ yearLen y → DateInv (dateOfYo y o) := by
    intro y o h1 h2
    have hyl := yearLen_ge y
    obtain ⟨f1, f2, _, f4, _, _⟩ := dateOfYo_fields y o (by omega)
    unfold DateInv
    rw [f1, f2, f4]
    exact ⟨h1.1, h1.2, by omega, by omega, rfl⟩
  have inv_ymd : ∀ (y : Int) (m d : Nat) r, ymdDate? y m d = some r → DateInv r := by
    intro y m d r hr
    unfold ymdDate? at hr
    obtain ⟨hc, rfl⟩ := ite_some_cases.2 r hr
    exact inv_yo y _ ⟨hc.1, hc.2.1⟩ (ordinal_bounds_c08 y m d hc.2.2)
  have inv_yod : ∀ (y : Int) (o : Nat) r, yoDate? y o = some r → DateInv r := by
    intro y o r hr
    unfold yoDate? at hr
    obtain ⟨hc, rfl⟩ := ite_some_cases.2 r hr
    exact inv_yo y o ⟨hc.1, hc.2.1⟩ hc.2.2
  have inv_dn : ∀ (ro : Option Date) (nn : Int), IsDateOfDayNum ro nn → ∀ r, ro = some r → DateInv r := by
    intro ro nn h r hr
    obtain ⟨y2, o2, e, a1, a2, a3, a4, _⟩ := h.2 r hr
    rw [e]; exact inv_yo y2 o2 ⟨a1, a2⟩ ⟨a3, a4⟩
  -- an operation that answers `.ok o` returns nothing but what `o` holds
  have via : ∀ {x : Res (Option Date)} {o : Option Date}, x = .ok o → (∀ r, o = some r → DateInv r) →
      ∀ r, x = .ok (some r) → DateInv r := by
    intro x o hx ho r h
    rw [hx] at h; injection h with h; exact ho r h
  obtain ⟨ma, ms⟩ := months_spec d.year d.ordinal.toNat hy ho n
  obtain ⟨w1, w2, w3, w4, w5, w6, w7⟩ := with_field_spec d.year d.ordinal.toNat hy ho v y'
  obtain ⟨rf, rl, hf, hl, _, _, sf, sl, _⟩ := week_spec d.year d.ordinal.toNat hy ho s
  rw [← el] at ma ms w1 w2 w3 w4 w5 w6 w7 hf hl
  refine ⟨⟨el, hy, ho⟩, via ma (inv_ymd _ _ _), via ms (inv_ymd _ _ _), via w1 (inv_ymd _ _ _),
    via w2 (inv_ymd _ _ _), via w3 (inv_ymd _ _ _), via w4 (inv_ymd _ _ _), via w5 (inv_ymd _ _ _),
    via w6 (inv_yod _ _), via w7 (inv_yod _ _), via hf (inv_dn _ _ sf), via hl (inv_dn _ _ sl),
    via (nth_weekday_spec y' m w k).1 fun r h => ?_⟩
  by_cases hk : k = 0
  · rw [if_pos hk] at h; cases h
  · rw [if_neg hk] at h; exact inv_ymd _ _ _ r h

/-! ### the zone-aware forms in one statement (wall clock → calendar meaning substituted) -/

/-- `zoned_ops_spec` with `r0` substituted from `wall_clock_ops_spec` / `with_year_local_spec`: for EVERY
well-formed `DateTime<FixedOffset>` (`DateTime<Utc>`: offset 0; wall clock `l`, possibly in a headroom day) and
every argument, each date-field replacement and month step returns, without panicking, the value at the same
offset whose wall clock is the SPECIFICATION's reading — `(year, v, day)`, `(year, month, v)`, the `v`-th day of
the year (same year, so possibly the headroom year), `yearReading?` for `with_year`, `addMonths?` for month
steps (`Months(0)`: the wall clock itself) — with `l`'s time of day, kept exactly when its instant lies in
`MIN_UTC ..= MAX_UTC` (month steps: is representable); `None` exactly when there is no such reading or it is
filtered -/
theorem zoned_calendar_spec (z : Zoned) (hz : ZInv z) (v k : Nat) (y' : Int) :
    ∃ l, Zoned.overflowing_naive_local z = .ok l ∧ ExtNDTInv l ∧ instSecs l = wallSecs z ∧
      l.time.frac = z.utc.time.frac ∧
      (∃ r, Zoned.with_year z y' = .ok r ∧ ActsOnWall z (yearReading? l y') r) ∧
      (∃ r, Zoned.with_month z v = .ok r ∧
        ActsOnWall z (ymdReading? l.date.year v (dayOfYo l.date.year l.date.ordinal.toNat) l.time) r) ∧
      (∃ r, Zoned.with_month0 z v = .ok r ∧
        ActsOnWall z (ymdReading? l.date.year (v + 1) (dayOfYo l.date.year l.date.ordinal.toNat) l.time) r) ∧
      (∃ r, Zoned.with_day z v = .ok r ∧
        ActsOnWall z (ymdReading? l.date.year (monthOfYo l.date.year l.date.ordinal.toNat) v l.time) r) ∧
      (∃ r, Zoned.with_day0 z v = .ok r ∧
        ActsOnWall z (ymdReading? l.date.year (monthOfYo l.date.year l.date.ordinal.toNat) (v + 1) l.time) r) ∧
      (∃ r, Zoned.with_ordinal z v = .ok r ∧ ActsOnWall z (yoReading? l.date.year v l.time) r) ∧
      (∃ r, Zoned.with_ordinal0 z v = .ok r ∧ ActsOnWall z (yoReading? l.date.year (v + 1) l.time) r) ∧
      (∃ r, Zoned.checked_add_months z k = .ok r ∧
        ActsOnWallWith (fun s _ => InRangeSecs s) z
          ((if k = 0 then some l.date else
            addMonths? l.date.year (monthOfYo l.date.year l.date.ordinal.toNat)
              (dayOfYo l.date.year l.date.ordinal.toNat) k).map fun x => ⟨x, l.time⟩) r) ∧
      (∃ r, Zoned.checked_sub_months z k = .ok r ∧
        ActsOnWallWith (fun s _ => InRangeSecs s) z
          ((if k = 0 then some l.date else
            addMonths? l.date.year (monthOfYo l.date.year l.date.ordinal.toNat)
              (dayOfYo l.date.year l.date.ordinal.toNat) (-(k : Int))).map fun x => ⟨x, l.time⟩) r) := by
  obtain ⟨l, h1, h2, h3, h4, _, z1, z2, z3, z4, z5, z6, z7, z8, z9, _⟩ := zoned_ops_spec z hz v k y' 0 (Int.le_refl 0)
  have hw := wall_clock_ops_spec l h2 v k y'
  dsimp only at hw
  obtain ⟨n8, n9, _, _, _, n2, n3, n4, n5, n6, n7, _⟩ := hw
  obtain ⟨ny, _, _⟩ := with_year_local_spec l h2 y'
  have sub : ∀ {ok : Int → Int → Prop} (x : Res (Option NaiveDT)) (spec : Option NaiveDT) (zr : Res (Option Zoned)),
      x = .ok spec → (∃ r0 r, x = .ok r0 ∧ zr = .ok r ∧ ActsOnWallWith ok z r0 r) →
      ∃ r, zr = .ok r ∧ ActsOnWallWith ok z spec r := by
    intro ok x spec zr hx h
    obtain ⟨r0, r, e0, e, act⟩ := h
    rw [hx] at e0; injection e0 with e0; subst e0
    exact ⟨r, e, act⟩
  exact ⟨l, h1, h2, h3, h4, sub _ _ _ ny z1, sub _ _ _ n2 z2, sub _ _ _ n3 z3, sub _ _ _ n4 z4, sub _ _ _ n5 z5,
    sub _ _ _ n6 z6, sub _ _ _ n7 z7, sub _ _ _ n8 z8, sub _ _ _ n9 z9⟩

/-- a week's first day is on the chosen weekday (accessor), results are `DateInv`, a zone-aware replacement on
a headroom wall clock read through the specification -/
example :
    ((dateOfYo 1970 1).week .sun).checked_first_day = .ok (some (dateOfYo 1969 362)) ∧
    (dateOfYo 1969 362).weekday = .sun ∧ (dateOfYo 1970 3).weekday = Weekday.sun.pred ∧
    DateInv (dateOfYo 2024 60) ∧ DateInv Date.MIN ∧ DateInv Date.MAX ∧ ¬ DateInv Date.AFTER_MAX ∧
    ZInv ⟨NaiveDT.MAX, 3600⟩ ∧
    Zoned.overflowing_naive_local ⟨NaiveDT.MAX, 3600⟩ = .ok ⟨Date.AFTER_MAX, ⟨3599, 999999999⟩⟩ ∧
    yoReading? 262143 1 ⟨3599, 999999999⟩ = some ⟨Date.AFTER_MAX, ⟨3599, 999999999⟩⟩ ∧
    Zoned.with_ordinal ⟨NaiveDT.MAX, 3600⟩ 1 = .ok (some ⟨NaiveDT.MAX, 3600⟩) ∧
    Zoned.with_ordinal ⟨NaiveDT.MAX, 3600⟩ 2 = .ok none := by decide +kernel

end Chrono.Props.C08
