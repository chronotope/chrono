/-
  C16 — The TZif and TZ-rule readers accept well-formed data and survive everything else.
  Property theorems.  `parse` = `parser::parse` (TZif bytes → zone), `from_tz_string` =
  `TransitionRule::from_tz_string`; results are `ok` / `err` / `panic` (`M.Tz.P`).
-/
import Chrono.Proofs.TzEncL
import Chrono.Proofs.TzSamples
import Chrono.Proofs.TzValidL
import Chrono.Proofs.TzLookupPL
import Chrono.Proofs.TzLayoutL
import Chrono.Proofs.TzLocalL
import Chrono.Proofs.TzDecodeL
import Chrono.Proofs.TzSamples2
import Chrono.Proofs.TzOldReader

namespace Chrono.Props.C16
open Chrono Chrono.M.Tz Chrono.Spec.Tz Chrono.Spec.Tz.Gr Chrono.Proofs.Tz Chrono.Proofs.TzValid
  Chrono.Extracted.TzP Chrono.Proofs.TzLocal Chrono.Proofs.TzDecode Chrono.Proofs.TzOld

/-- the extracted header constants are the RFC 8536 ones the writer specification uses, and the
extracted field bounds are the ones the well-formedness predicates are stated with -/
theorem consts_ok :
    MAGIC = [84, 90, 105, 102] ∧ VERSION_BYTE_V1 = versionByte .V1 ∧ VERSION_BYTE_V2 = versionByte .V2
      ∧ VERSION_BYTE_V3 = versionByte .V3 ∧ RESERVED = 15 ∧ TYPE_RECORD = 6
      ∧ OFFSET_HOUR_MAX = 24 ∧ OFFSET_MINUTE_MAX = 59 ∧ OFFSET_SECOND_MAX = 59
      ∧ RULE_HOUR_MAX = 24 ∧ EXT_HOUR_MIN = -167 ∧ EXT_HOUR_MAX = 167
      ∧ JULIAN1_MIN = 1 ∧ JULIAN1_MAX = 365 ∧ JULIAN0_MAX = 365 ∧ MONTH_MAX = 12 ∧ WEEK_MAX = 5
      ∧ WEEKDAY_MAX = 6 ∧ NAME_MIN = 3 ∧ NAME_MAX = 7 ∧ DEFAULT_RULE_TIME = 7200
      ∧ DEFAULT_DST_DELTA = 3600 ∧ SECONDS_PER_WEEK = 604800
      ∧ CUMUL_DAY_IN_MONTHS_NORMAL_YEAR = [0, 31, 59, 90, 120, 151, 181, 212, 243, 273, 304, 334]
      ∧ DAY_IN_MONTHS_NORMAL_YEAR = [31, 28, 31, 30, 31, 30, 31, 31, 30, 31, 30, 31] := by decide

/-! ### survive everything -/

/-- every byte list is either decoded or refused: no slice index out of bounds, no `usize`/`i32`/`i64`
overflow, no failing table index anywhere in `parse`, the footer reader, `TimeZone::validate` and the
rule lookup `validate` performs (list elements are read as bytes, i.e. modulo 256) -/
theorem parse_total (bytes : List Nat) : parse bytes ≠ .panic := post_np (post_parse bytes)

/-- every `Vec::with_capacity` request `parse` makes is bounded by the input length -/
theorem parse_allocs_bounded (bytes : List Nat) : ∀ c ∈ capacities bytes, c ≤ bytes.length :=
  capacities_le bytes

/-- the same requests in BYTES: with 16-byte elements (`Transition`, `LocalTimeType`, `LeapSecond` on
a 64-bit target) the three vectors together ask for less than 3.2 times the input length
(`5 · Σ ≤ 16 · len`; a transition costs 5 or 9 input bytes, a type record 6, a leap record 8 or 12).
In the byte reading "not beyond the input size" holds up to this constant; in the element reading
(`parse_allocs_bounded`) it holds exactly. -/
theorem parse_allocs_bounded_bytes (bytes : List Nat) :
    5 * (capacityBytes bytes).sum ≤ 16 * bytes.length := by
  unfold capacityBytes capacities
  cases hb : parseBlocks bytes with
  | err => simp
  | panic => simp
  | ok x =>
    obtain ⟨st, fo⟩ := x
    have key : 5 * (st.header.transition_count + st.header.type_count + st.header.leap_count)
        ≤ bytes.length := by
      obtain ⟨st1, c1, hs1, hc⟩ := parseBlocks_inv hb
      obtain ⟨⟨-, -, q3, q4, q2, -⟩, e1, l1⟩ := post_spec (post_state_layout bytes true) hs1
      simp only [if_true] at e1 l1
      dsimp only at e1 l1 q3 q4 q2
      rcases hc with ⟨-, -, rfl, -⟩ | ⟨-, c2, hs2, -, -⟩
      · have g1 := announced_ge 4 bytes (by omega)
        rw [q3, q4, q2]; omega
      · obtain ⟨⟨-, -, r3, r4, r2, -⟩, -, l2⟩ := post_spec (post_state_layout c1 false) hs2
        simp only [Bool.false_eq_true, if_false] at l2
        dsimp only at l2 r3 r4 r2
        have g2 := announced_ge 8 c1 (by omega)
        have hc1 : c1.length ≤ bytes.length := by rw [e1]; simp only [List.length_drop]; omega
        rw [r3, r4, r2]; omega
    have kb : ELEM_BYTES = 16 := rfl
    simp only [List.map_cons, List.map_nil, List.sum_cons, List.sum_nil, kb]
    omega

/-- every text is either read as a rule or refused, with and without the RFC 8536 extensions -/
theorem rule_total (text : List Nat) (ext : Bool) : from_tz_string text ext ≠ .panic :=
  post_np (post_from_tz_string text ext)

/-! ### inconsistent data is rejected (stated on whatever is accepted) -/

/-- an accepted zone has at least one local time type, strictly increasing transition times, every
transition's type index in bounds, every offset strictly within 24 hours of UTC (F32), and only designations of 3–7 characters
from `[0-9A-Za-z+-]`: unsorted or repeated transitions, out-of-range type indices and illegal
designations are therefore rejected -/
theorem accepted_is_valid (bytes : List Nat) (z : Zone) (h : parse bytes = .ok z) : ZoneValid z :=
  post_spec (post_parse bytes) h

/-- an accepted rule has rule days in range, rule times below one week in magnitude, offsets within
the coarse bound `RuleV` needs for the lookup arithmetic (the sharp bound, strictly within 24 h, is
`accepted_offsets_representable`), the standard type flagged non-DST and the
daylight type flagged DST, and legal 3–7 character designations on both -/
theorem rule_accepted_is_valid (text : List Nat) (ext : Bool) (r : Rule)
    (h : from_tz_string text ext = .ok r) : RuleV r :=
  post_spec (post_from_tz_string text ext) h

/-- wrong magic number (or fewer than four bytes) -/
theorem rejects_bad_magic (bytes : List Nat) (h : bytes.take 4 ≠ MAGIC) : parse bytes = .err :=
  rejects_bad_magic' bytes h

/-- unknown version byte in the first header -/
theorem rejects_bad_version (bytes : List Nat) (h : versionOf ((bytes.drop 4).take 1) = none) :
    parse bytes = .err :=
  rejects_bad_version' bytes h

/-- a footer (everything after the second data block of a v2/v3 file) that does not both start and
end with a newline is rejected -/
theorem rejects_footer_framing (footer : List Nat) (v : Version)
    (h : ¬ (footer.head? = some 10 ∧ footer.getLast? = some 10)) : parseFooter footer v = .err :=
  footer_framing' footer v h

/-- a footer whose TZ string starts with ':' or contains a NUL is rejected -/
theorem rejects_footer_colon_nul (footer : List Nat) (v : Version)
    (h : (trimWs footer).head? = some 58 ∨ 0 ∈ trimWs footer) : parseFooter footer v = .err :=
  footer_colon_nul' footer v h

/-- every proper prefix of an ACCEPTED file that cuts inside a header or a data block — up to and
including the exact end of the last data block — is rejected; for a version-1 file (`footerOf` is
empty) that is every proper prefix.  `footerOf bytes` is what the reader takes as the footer. -/
theorem rejects_truncated_blocks (bytes : List Nat) (z : Zone) (h : parse bytes = .ok z) (k : Nat)
    (hk : k < bytes.length) (hcut : k + (footerOf bytes).length ≤ bytes.length) :
    parse (bytes.take k) = .err :=
  rejects_truncated_blocks' bytes z h k hk hcut

/-- F36, the cut itself, for EVERY accepted version-2/3 file and without any hypothesis on the footer:
the file cut right after the first newline of its footer is rejected -/
theorem rejects_truncated_after_footer_newline (bytes : List Nat) (z : Zone) (h : parse bytes = .ok z)
    (k : Nat) (hk : k < bytes.length) (he : k + (footerOf bytes).length = bytes.length + 1) :
    parse (bytes.take k) = .err := by
  have hsplit : bytes.take k ++ bytes.drop k = bytes := List.take_append_drop k bytes
  have hql : (bytes.drop k).length = bytes.length - k := by simp
  have hq : bytes.drop k ≠ [] := by
    intro e
    have := congrArg List.length e
    simp at this; omega
  rw [← hsplit] at h
  rcases trunc_cases _ _ z hq h with h1 | ⟨st, c2, hp, hfull⟩
  · exact h1
  · apply err_of_not_ok
    intro z' hz'
    rw [parse_of_blocks hp] at hz'
    obtain ⟨r, hr⟩ := parseRest_ok_footer hz'
    rw [hsplit] at hfull
    have hfo : footerOf bytes = c2 ++ bytes.drop k := by unfold footerOf; rw [hfull]
    have hlen : c2.length = 1 := by
      have := congrArg List.length hfo
      rw [List.length_append, hql] at this
      omega
    rw [footer_short' c2 _ (by omega)] at hr
    cases hr

/-- a cut inside the footer of an accepted file is rejected too — EVERY such cut since the repair of
finding F36 (the cut right after the footer's first newline, which leaves the one-byte footer `"\n"`,
used to be accepted without the rule: `truncated_after_footer_newline_accepted_pinned_before_F36`).
Hypothesis: the footer has no newline between its first and last byte (true of every footer a
conforming writer emits); it is not needed for the cut right after the first newline. -/
theorem rejects_truncated_footer (bytes : List Nat) (z : Zone) (h : parse bytes = .ok z) (k : Nat)
    (hk : k < bytes.length) (hin : bytes.length < k + (footerOf bytes).length)
    (hnl : ∀ j, 0 < j → j + 1 < (footerOf bytes).length → (footerOf bytes)[j]? ≠ some 10) :
    parse (bytes.take k) = .err := by
  by_cases hne : k + (footerOf bytes).length = bytes.length + 1
  · exact rejects_truncated_after_footer_newline bytes z h k hk hne
  · exact rejects_truncated_footer' bytes z h k hk hin hne hnl

/-- F36, the footer check on its own: a footer of fewer than two bytes is refused whatever the data
blocks are, and the footer of every accepted version-2/3 file has at least two bytes -/
theorem rejects_short_footer :
    (∀ (footer : List Nat) (v : Version), footer.length < 2 → parseFooter footer v = .err)
      ∧ (∀ (bytes : List Nat) (z : Zone), parse bytes = .ok z →
          versionOf ((bytes.drop 4).take 1) ≠ some .V1 → 2 ≤ (footerOf bytes).length) := by
  refine ⟨fun f v h => footer_short' f v h, fun bytes z h hne => ?_⟩
  obtain ⟨v2, -, -, -, -, hf⟩ := (accepted_decode' bytes z h).2 hne
  by_cases hl : (footerOf bytes).length < 2
  · rw [footer_short' _ _ hl] at hf; cases hf
  · omega

/-- for files written by the specification's writer the footer the reader sees is `\n<footer>\n`
(nothing for version 1), so the two theorems above speak about the cut points of the written layout -/
theorem written_footer (f : TzFile) (hs1 : BlockShape f.v1) (hs2 : BlockShape f.v2) :
    (f.version = .V1 → footerOf (encodeTzif f) = [])
      ∧ (f.version ≠ .V1 → footerOf (encodeTzif f) = 10 :: (f.footer ++ [10])) :=
  ⟨fun h => footerOf_enc_v1 f h hs1, fun h => footerOf_enc_v2 f h hs1 hs2⟩

/-! ### well-formed data is accepted and read back exactly -/

/-- the canonical text of EVERY well-formed rule reads back as that rule: both forms (`std offset`
and `std offset dst offset,start/time,end/time`), bare and `<quoted>` designations, `Jn` / `n` /
`Mm.w.d` days, offsets up to ±23:59:59, rule times `0…24:59:59` without and `±167:59:59` with the
RFC 8536 extensions (`RuleOk ext r` carries the flag) -/
theorem tz_roundtrip (r : Rule) (ext : Bool) (h : RuleOk ext r) :
    from_tz_string (renderTz r) ext = .ok r :=
  tz_roundtrip' r ext h

/-! #### the POSIX TZ grammar: accepted = denoted

`Spec.Tz.Denotes ext s r` (Spec/TzGrammar.lean) is an inductive, reader-independent definition of
"the byte string `s` is a POSIX TZ string (RFC 8536 extensions iff `ext`) standing for rule `r`":
`std offset` or `std offset dst [offset],start[/time],end[/time]`; designations of 3–7 letters, or
3–7 characters of `[0-9A-Za-z+-]` in `<…>`; offsets `[+|-]hh[:mm[:ss]]` with hh = 0…24 and any zero
padding, the stated value STRICTLY below 24:00:00 (`Within24h`: `24`, `24:00:01`, … `24:59:59` meet
the field ranges but are refused when the `LocalTimeType` is built — the repair of finding F32; the
same bound applies to a defaulted DST offset); omitted DST offset = one hour ahead of standard; `Jn` / `n` / `Mm.w.d`; omitted `/time` =
02:00:00; times `0…24:59:59`, or signed up to ±167:59:59 with the extensions. -/

/-- ACCEPTS ALL: every string of the grammar — every optional part present or absent, every
spelling of every field — is read as exactly the rule it denotes -/
theorem tz_accepts_all (ext : Bool) (s : List Nat) (r : Rule) (h : Denotes ext s r) :
    from_tz_string s ext = .ok r :=
  tz_accepts_all' ext s r h

/-- ACCEPTS ONLY: whatever the reader accepts is a string of the grammar, and the rule returned is
the one it denotes.  With `rule_total`: every text outside the grammar is rejected with `Err`. -/
theorem tz_accepts_only (ext : Bool) (s : List Nat) (r : Rule) (h : from_tz_string s ext = .ok r) :
    Denotes ext s r :=
  tz_accepts_only' ext s r h

/-- the reader decides the grammar: `Ok r` exactly on the strings denoting `r`, `Err` on all others -/
theorem tz_reader_is_grammar (ext : Bool) (s : List Nat) :
    (∀ r, from_tz_string s ext = .ok r ↔ Denotes ext s r)
      ∧ ((¬ ∃ r, Denotes ext s r) → from_tz_string s ext = .err) := by
  refine ⟨fun r => ⟨tz_accepts_only ext s r, tz_accepts_all ext s r⟩, fun h => ?_⟩
  cases e : from_tz_string s ext with
  | ok r => exact absurd ⟨r, tz_accepts_only ext s r e⟩ h
  | err => rfl
  | panic => exact absurd e (rule_total s ext)

/-- a TZ string denotes at most one rule (the grammar is unambiguous) -/
theorem denotes_functional (ext : Bool) (s : List Nat) (r r' : Rule) (h : Denotes ext s r)
    (h' : Denotes ext s r') : r = r' := by
  have := (tz_accepts_all ext s r h).symm.trans (tz_accepts_all ext s r' h')
  cases this; rfl

/-- the canonical text of a well-formed rule is one of the strings denoting it, so `tz_roundtrip` is
the special case `s = renderTz r` of `tz_accepts_all` -/
theorem canonical_denotes (r : Rule) (ext : Bool) (h : RuleOk ext r) : Denotes ext (renderTz r) r :=
  tz_accepts_only ext _ r (tz_roundtrip r ext h)

/-- non-vacuity, by hand from the constructors (no reader involved): `EST5EDT,M3.2.0,M11.1.0` — DST
offset and both times omitted — denotes New York's rule with DST at −4 h and both changes at 02:00 -/
example : Denotes false (asc "EST5EDT,M3.2.0,M11.1.0") sampleRule2 :=
  Denotes.alt (s1 := asc "EST") (s2 := [53]) (s3 := asc "EDT") (s4 := []) (s5 := asc "M3.2.0")
    (s6 := asc "M11.1.0")
    (Name.bare (by decide) (by decide) (by decide))
    (Offset.mk Sign.none (Hms.h (Num.one 5 (by decide))) (by decide) (by decide) (by decide))
    (Name.bare (by decide) (by decide) (by decide))
    DstOffset.default
    (DayTime.default (Day.mwd (Num.one 3 (by decide)) (Num.one 2 (by decide)) (Num.one 0 (by decide))
      (by decide) (by decide) (by decide) (by decide) (by decide)))
    (DayTime.default (Day.mwd (Num.snoc 1 (by decide) (Num.one 1 (by decide))) (Num.one 1 (by decide))
      (Num.one 0 (by decide)) (by decide) (by decide) (by decide) (by decide) (by decide)))
    (by decide) (by decide)

/-- non-vacuity: twelve non-canonical spellings (omitted DST offset / times, `+` signs, padded fields,
quoted letter names, extension times at ±167:59:59) are in the grammar with the rule stated -/
example : ∀ p ∈ sampleSpellings, Denotes p.1 p.2.1 p.2.2 :=
  fun p hp => tz_accepts_only _ _ _ (tz_spellings_samples p hp)

/-! #### what `TimeZone::validate` checks, characterised

`validate` (timezone.rs) is the reader's last step.  Its model calls a three-valued, overflow-checked
copy of the rule lookup (`find_ltt_for_validate`); C05 models the same Rust function
`TransitionRule::find_local_time_type` `Option`-valued and proves it against a specification.  The
next theorems identify the two models, the leap-second conversion with its specification, and then
`validate` itself with the semantic condition it stands for. -/

/-- the rule lookup `validate` performs IS C05's model of `TransitionRule::find_local_time_type`:
same value, `Err` for `Err` (`toP none = err`), and never a panic — for every rule `from_tz_string`
can build (`RuleV`, see `rule_accepted_is_valid`) and EVERY instant -/
theorem validate_rule_lookup_is_c05 (r : Rule) (t : Int) (h : RuleV r) :
    r.find_ltt_for_validate t = toP (r.find_local_time_type t) :=
  rule_find_val r t h

/-- `unix_leap_time_to_unix_time` (binary search in the leap-second table) is its specification
`leapToUnix` (subtract the correction of the last record strictly before the leap time; `Err` for
`i64::MIN` or an `i64` overflow), for every sorted table and every `i64` leap time -/
theorem leap_conversion_ok (leaps : List LeapSecond) (t : Int) (ht : I64r t) (hs : LeapsSorted leaps) :
    unix_leap_time_to_unix_time leaps t = toP (leapToUnix leaps t) :=
  ulttut_val leaps t ht hs

/-- `TimeZone::validate` accepts EXACTLY the zones with at least one local time type, strictly
increasing transitions, type indices in range, a leap-second table meeting its constraints
(`checkLeaps`: first record at a non-negative time with correction ±1, consecutive records at least
28 days − 1 s apart with corrections differing by ±1), and — when there are both a rule and
transitions — `RuleAgrees`: the rule lookup at the last transition's instant (its leap time converted
by `leapToUnix`) succeeds and yields exactly the local time type the last transition switches to
(same `ut_offset`, `is_dst` and designation).  Hypotheses: only what the Rust types guarantee of a
`TimeZone` value (transition times are `i64`; the rule is one `from_tz_string` can build). -/
theorem validate_iff (z : Zone) (ht : ∀ t ∈ z.transitions, I64r t.time)
    (hr : ∀ r, z.rule = some r → RuleV r) :
    validate z = .ok () ↔
      (z.types ≠ [] ∧ SortedStrict z.transitions ∧ (∀ t ∈ z.transitions, t.idx < z.types.length)
        ∧ checkLeaps z.leaps = true ∧ RuleAgrees z) :=
  validate_iff' z ht hr

/-- the agreement condition through C05's SPECIFICATION of a rule: for rules in C05's scope
(`TzL.RuleOk`: rule days valid, both yearly transitions more than a day inside the calendar year)
and a last transition within ±2^55 s, `RuleAgrees` says that `Spec.Zone.ruleOff` — daylight time iff
the instant lies in `[start y, end y)` of its calendar year `y`, mirrored for southern-hemisphere
rules — prescribes at the last transition exactly the type the table switches to -/
theorem rule_agrees_spec (z : Zone) (hr : Proofs.TzL.RuleOk z.rule)
    (hb : ∀ last ut, z.transitions.getLast? = some last → leapToUnix z.leaps last.time = some ut →
      -36028797018963968 ≤ ut ∧ ut ≤ 36028797018963968) :
    RuleAgrees z ↔ RuleAgreesSpec z := by
  unfold RuleAgrees RuleAgreesSpec
  constructor
  · intro h rule last h1 h2
    obtain ⟨ut, t, e1, e2, e3⟩ := h rule last h1 h2
    rw [rule_find_spec rule ut (h1 ▸ hr) (hb last ut h2 e1)] at e3
    cases e3
    exact ⟨ut, e1, e2⟩
  · intro h rule last h1 h2
    obtain ⟨ut, e1, e2⟩ := h rule last h1 h2
    exact ⟨ut, _, e1, e2, rule_find_spec rule ut (h1 ▸ hr) (hb last ut h2 e1)⟩

/-- version 1: the file written for a block is read back as exactly that block's transitions, types
(designations resolved) and leap seconds.  Hypotheses: counts fit the header (`BlockShape`), every
value fits its field and every designation index is legal (`BlockVals`), transitions strictly
increasing with in-range type indices, and the leap-second table constraints (a v1 file has no rule). -/
theorem tzif_roundtrip_v1 (f : TzFile) (hver : f.version = .V1) (hs : BlockShape f.v1)
    (hv : BlockVals .V1 4 f.v1)
    (h1 : SortedStrict (absBlock f.v1 none).transitions)
    (h2 : ∀ t ∈ (absBlock f.v1 none).transitions, t.idx < (absBlock f.v1 none).types.length)
    (h3 : checkLeaps (absBlock f.v1 none).leaps = true) :
    parse (encodeTzif f) = .ok (absBlock f.v1 none) :=
  tzif_roundtrip_v1' f hver hs hv (validate_ok_of _ (abs_types_ne _ _ hs) h1 h2 h3 (Or.inl rfl))

/-- versions 2 and 3, FULL STRENGTH: whatever the 32-bit block holds, the file is read back as exactly
the 64-bit block and the rule the footer DENOTES (`FooterOk`: the footer is empty and there is no
rule, or it is ANY string of the TZ grammar — `Denotes (version = 3) footer r`, so footers that omit
the DST offset or the `/time` parts, as every zoneinfo file does, are covered — and the rule is `r`),
provided the written zone is consistent: transitions strictly increasing, type indices in range, the
leap-second table constraints, and the footer rule agreeing with the last transition (`RuleAgrees`,
which `rule_agrees_spec` restates through C05's rule specification).  No hypothesis mentions the
reader: by `validate_iff` these four conditions are exactly what `validate` accepts. -/
theorem tzif_roundtrip_v2 (f : TzFile) (hver : f.version ≠ .V1) (hs1 : BlockShape f.v1)
    (hs2 : BlockShape f.v2) (hv : BlockVals f.version 8 f.v2) (rule : Option Rule)
    (hfoot : FooterOk f.version f.footer rule)
    (h1 : SortedStrict (absBlock f.v2 rule).transitions)
    (h2 : ∀ t ∈ (absBlock f.v2 rule).transitions, t.idx < (absBlock f.v2 rule).types.length)
    (h3 : checkLeaps (absBlock f.v2 rule).leaps = true) (h4 : RuleAgrees (absBlock f.v2 rule)) :
    parse (encodeTzif f) = .ok (absBlock f.v2 rule) :=
  tzif_roundtrip_v2' f hver hs1 hs2 hv rule hfoot
    (validate_abs f.version f.v2 rule hs2 hv (footerOk_ruleV hfoot) h1 h2 h3 h4)

/-- the leap-second loop of `validate` — saturating subtraction, saturating absolute value — accepts
exactly the tables meeting the RFC 8536 constraints in plain integer arithmetic (`LeapsOk`,
Spec/TzValidSpec.lean: first record at a non-negative time with correction ±1; consecutive records at
least 28 days − 1 s apart with corrections differing by exactly 1), for `i32` corrections and ANY times -/
theorem checkLeaps_iff (ls : List LeapSecond) (hr : ∀ l ∈ ls, I32r l.corr) :
    checkLeaps ls = true ↔ LeapsOk ls := by
  unfold checkLeaps LeapsOk
  rw [Bool.and_eq_true, checkLeapPairs_iff ls]
  cases ls with
  | nil => simp
  | cons l0 rest =>
    simp only [Bool.and_eq_true, decide_eq_true_eq]
    rw [satAbs_one]

/-- versions 2 and 3 with SPECIFICATION-LEVEL consistency hypotheses only: `LeapsOk` instead of the
reader's `checkLeaps`, and `RuleAgreesSpec` — C05's specification `Spec.Zone.ruleOff` of what a rule
prescribes at an instant — instead of `RuleAgrees` (which runs the model of the rule lookup).  The
price is C05's scope: the rule's yearly transitions more than a day inside the calendar year
(`TzL.RuleOk`) and the last transition within ±2^55 s. -/
theorem tzif_roundtrip_v2_spec (f : TzFile) (hver : f.version ≠ .V1) (hs1 : BlockShape f.v1)
    (hs2 : BlockShape f.v2) (hv : BlockVals f.version 8 f.v2) (rule : Option Rule)
    (hfoot : FooterOk f.version f.footer rule)
    (h1 : SortedStrict (absBlock f.v2 rule).transitions)
    (h2 : ∀ t ∈ (absBlock f.v2 rule).transitions, t.idx < (absBlock f.v2 rule).types.length)
    (h3 : LeapsOk (absBlock f.v2 rule).leaps)
    (hr : Proofs.TzL.RuleOk rule)
    (hb : ∀ last ut, (absBlock f.v2 rule).transitions.getLast? = some last →
      leapToUnix (absBlock f.v2 rule).leaps last.time = some ut →
      -36028797018963968 ≤ ut ∧ ut ≤ 36028797018963968)
    (h4 : RuleAgreesSpec (absBlock f.v2 rule)) :
    parse (encodeTzif f) = .ok (absBlock f.v2 rule) :=
  tzif_roundtrip_v2 f hver hs1 hs2 hv rule hfoot h1 h2
    ((checkLeaps_iff _ (abs_leaps_i32 _ _ _ rule hv.leaps)).mpr h3)
    ((rule_agrees_spec (absBlock f.v2 rule) hr hb).mpr h4)

/-- version 1 with `LeapsOk` instead of the reader's `checkLeaps` -/
theorem tzif_roundtrip_v1_spec (f : TzFile) (hver : f.version = .V1) (hs : BlockShape f.v1)
    (hv : BlockVals .V1 4 f.v1)
    (h1 : SortedStrict (absBlock f.v1 none).transitions)
    (h2 : ∀ t ∈ (absBlock f.v1 none).transitions, t.idx < (absBlock f.v1 none).types.length)
    (h3 : LeapsOk (absBlock f.v1 none).leaps) :
    parse (encodeTzif f) = .ok (absBlock f.v1 none) :=
  tzif_roundtrip_v1 f hver hs hv h1 h2 ((checkLeaps_iff _ (abs_leaps_i32 _ _ _ none hv.leaps)).mpr h3)

/-- non-vacuity: `sampleV1` (one leap second at 1972-07-01, correction +1) meets the hypotheses of
`tzif_roundtrip_v1_spec`; a table whose second record comes 27 days after the first does not satisfy
`LeapsOk` and `checkLeaps` refuses it -/
example :
    parse (encodeTzif sampleV1) = .ok (absBlock sampleV1.v1 none)
      ∧ ¬ LeapsOk [⟨78796800, 1⟩, ⟨78796800 + 27 * 86400, 2⟩]
      ∧ checkLeaps [⟨78796800, 1⟩, ⟨78796800 + 27 * 86400, 2⟩] = false := by
  refine ⟨?_, ?_, by decide⟩
  · exact tzif_roundtrip_v1_spec sampleV1 rfl
      ⟨by decide, by decide, by decide, by decide, by decide, by decide, by decide, by decide⟩
      ⟨by decide +kernel, by decide +kernel, by decide +kernel, by decide +kernel⟩
      (show (-1000000000 : Int) < 1000000000 ∧ True from ⟨by decide, trivial⟩) (by decide)
      ⟨⟨by decide, by decide⟩, trivial⟩
  · intro h
    have := h.2.1
    revert this
    decide

/-- the earlier forms, with the reader's own `validate` as the consistency hypothesis (equivalent by
`validate_iff`; kept because they are what the harness oracle evaluates) -/
theorem tzif_roundtrip_of_validate (f : TzFile) (hs1 : BlockShape f.v1) :
    (f.version = .V1 → BlockVals .V1 4 f.v1 → validate (absBlock f.v1 none) = .ok () →
      parse (encodeTzif f) = .ok (absBlock f.v1 none))
    ∧ (f.version ≠ .V1 → BlockShape f.v2 → BlockVals f.version 8 f.v2 → ∀ rule,
      FooterOk f.version f.footer rule → validate (absBlock f.v2 rule) = .ok () →
      parse (encodeTzif f) = .ok (absBlock f.v2 rule)) :=
  ⟨fun hver hv hval => tzif_roundtrip_v1' f hver hs1 hv hval,
   fun hver hs2 hv rule hfoot hval => tzif_roundtrip_v2' f hver hs1 hs2 hv rule hfoot hval⟩

/-- when the zone has no rule or no transitions, `validate` asks for nothing beyond the spec-level
validity: a type, strictly increasing in-range transitions, and the leap-second table constraints -/
theorem validate_of_valid (z : Zone) (h0 : z.types ≠ []) (h1 : SortedStrict z.transitions)
    (h2 : ∀ t ∈ z.transitions, t.idx < z.types.length) (h3 : checkLeaps z.leaps = true)
    (h4 : z.rule = none ∨ z.transitions = []) : validate z = .ok () :=
  validate_ok_of z h0 h1 h2 h3 h4

/-! #### accepted zones meet the invariants C05's lookup theorems assume -/

/-- every zone the parser accepts satisfies the well-formedness C05's theorems take as hypotheses:
`Spec.Zone.Valid` (a type, in-range indices, pairwise increasing transition times) and `TzL.Sorted`,
`i32` offsets for every type index (first half of `TzL.InRange`), `i64` transition times, `ValidDay`
rule days, a sorted leap-second table, and `RuleAgrees`.  Not parser invariants but restrictions of
property C05 itself (so not derivable here): no leap-second records, `InsideYear`/`RuleYearly` rules,
`WellSeparated` windows, transition times within ±2^62. -/
theorem parsed_zone_wellformed (bytes : List Nat) (z : Zone) (h : parse bytes = .ok z) :
    Spec.Zone.Valid z ∧ Proofs.TzL.Sorted z.transitions
      ∧ (∀ i, -2147483648 ≤ (M.TzL.typeAt z i).off ∧ (M.TzL.typeAt z i).off ≤ 2147483647)
      ∧ (∀ t ∈ z.transitions, I64r t.time)
      ∧ (∀ a, z.rule = some (.alt a) → Proofs.TzL.ValidDay a.dstStart ∧ Proofs.TzL.ValidDay a.dstEnd)
      ∧ LeapsSorted z.leaps ∧ RuleAgrees z :=
  parsed_zone_wellformed' bytes z h

/-- the first clause of C05's `JoinSeparated` ("at the last table transition the rule prescribes the
type the table switches to — what `TimeZone::new` validates") is a THEOREM for accepted zones: without
leap-second records, for a rule in C05's scope and a last transition within ±2^55 s -/
theorem parsed_zone_join (bytes : List Nat) (z : Zone) (h : parse bytes = .ok z) (hl : z.leaps = [])
    (rule : Rule) (last : Transition) (hrule : z.rule = some rule)
    (hlast : z.transitions.getLast? = some last) (hr : Proofs.TzL.RuleOk (some rule))
    (hb : -36028797018963968 ≤ last.time ∧ last.time ≤ 36028797018963968) :
    Spec.Zone.ruleOff rule last.time = M.TzL.typeAt z last.idx := by
  obtain ⟨hv, -, -, htr, -, -, hag⟩ := parsed_zone_wellformed' bytes z h
  obtain ⟨ut, t, e1, e2, e3⟩ := hag rule last hrule hlast
  have hmem : last ∈ z.transitions := List.mem_of_getLast? hlast
  rw [hl, leapToUnix_nil _ (htr last hmem) (by simp only [I64_MIN]; omega)] at e1
  cases e1
  rw [rule_find_spec rule _ hr hb] at e3
  cases e3
  unfold M.TzL.typeAt
  simp [List.getD, e2]

/-! ### an accepted zone answers every offset query

`Zone.find_local_time_type_P` / `Zone.find_local_time_type_from_local_P` (Model/TzLookupP.lean) are
three-valued models of `TimeZoneRef::find_local_time_type` / `find_local_time_type_from_local` and
everything below them: every slice index can `panic`, every unchecked `i64` step is overflow-checked,
`checked_add` gives `Err`, and the two `transition time + offset` sums saturate (the code after the
repair of finding #10).  The wall-clock query is a `NaiveDateTime`: `year` is its calendar year (an
`i32`; the theorems allow ANY `i32`), `ℓ` its timestamp. -/

/-- lookup by instant: never a panic, for every zone `parse` accepts and EVERY instant (all of
`i64`, and beyond) -/
theorem lookup_instant_total (bytes : List Nat) (z : Zone) (h : parse bytes = .ok z) (t : Int) :
    z.find_local_time_type_P t ≠ .panic := by
  rw [find_P_val z (parsed_lookupSafe bytes z h) t]
  cases z.find_local_time_type t <;> simp [toP]

/-- lookup by wall clock: never a panic — in fact always `Ok` — for every zone `parse` accepts,
every `i32` year and EVERY timestamp -/
theorem lookup_local_total (bytes : List Nat) (z : Zone) (h : parse bytes = .ok z) (year : Int)
    (hy : I32r year) (ℓ : Int) :
    z.find_local_time_type_from_local_P year ℓ ≠ .panic
      ∧ ∃ m, z.find_local_time_type_from_local_P year ℓ = .ok m := by
  rw [find_local_P_val z (parsed_lookupSafe bytes z h) year hy ℓ]
  exact ⟨by simp, _, rfl⟩

/-- the three-valued lookup by instant IS property C05's model of the same function (`Option`-valued;
proved there against the specification of a zone): same value, `Err` for `Err` -/
theorem lookup_instant_is_c05 (bytes : List Nat) (z : Zone) (h : parse bytes = .ok z) (t : Int) :
    z.find_local_time_type_P t = toP (z.find_local_time_type t) :=
  find_P_val z (parsed_lookupSafe bytes z h) t

/-- the three-valued lookup by wall clock IS property C05's model of the same function, the year
being that of the wall-clock value (`naiveYear`, an `i32` for every `ℓ`) -/
theorem lookup_local_is_c05 (bytes : List Nat) (z : Zone) (h : parse bytes = .ok z) (ℓ : Int) :
    z.find_local_time_type_from_local_P (M.TzL.naiveYear ℓ) ℓ = .ok (z.find_local_time_type_from_local ℓ) := by
  rw [find_local_P_val z (parsed_lookupSafe bytes z h) _ (naiveYear_i32 ℓ) ℓ, fromLocalWithYear_naive]

/-- the same for a zone built from a `TZ` value that is a rule text (`TimeZone::from_posix_tz`: no
transitions, the rule's own types): both lookups never panic -/
theorem lookup_tz_string_total (text : List Nat) (ext : Bool) (r : Rule) (h : from_tz_string text ext = .ok r)
    (t : Int) (year : Int) (hy : I32r year) (ℓ : Int) :
    (zoneOfRule r).find_local_time_type_P t ≠ .panic
      ∧ (zoneOfRule r).find_local_time_type_from_local_P year ℓ ≠ .panic := by
  have hs := zoneOfRule_lookupSafe r (rule_accepted_is_valid text ext r h)
  rw [find_P_val _ hs t, find_local_P_val _ hs year hy ℓ]
  refine ⟨?_, by simp⟩
  cases (zoneOfRule r).find_local_time_type t <;> simp [toP]

/-- non-vacuity, on the file of finding #10 (transitions at `0` and `i64::MAX − 5`, the latter
switching to UTC+2): it is accepted; `transition time + offset` does not fit `i64`, so the two sums
of the wall-clock loop saturate; both lookups answer at the extremes of `i64` -/
example :
    parse (encodeTzif sampleF10) = .ok (absBlock sampleF10.v2 none)
      ∧ ¬ I64r (9223372036854775802 + 7200)
      ∧ (absBlock sampleF10.v2 none).find_local_time_type_from_local_P 2020 1577836800
          = .ok (.single ⟨0, false, some (asc "UTC")⟩)
      ∧ (absBlock sampleF10.v2 none).find_local_time_type_from_local_P 262142 9223372036854775807
          = .ok (.single ⟨7200, true, some (asc "XDT")⟩)
      ∧ (absBlock sampleF10.v2 none).find_local_time_type_P 9223372036854775807
          = .ok ⟨7200, true, some (asc "XDT")⟩
      ∧ (absBlock sampleF10.v2 none).find_local_time_type_P (-9223372036854775808)
          = .ok ⟨0, false, some (asc "UTC")⟩ := by
  refine ⟨by decide +kernel, by decide, by decide +kernel, by decide +kernel, by decide +kernel,
    by decide +kernel⟩

/-- non-vacuity: on `sampleV2` (New York's rule after the last transition) the instant lookup errs
exactly where the rule's year arithmetic leaves `i32`, and answers elsewhere -/
example :
    (absBlock sampleV2.v2 (some sampleRule2)).find_local_time_type_P 9223372036854775807 = .err
      ∧ (absBlock sampleV2.v2 (some sampleRule2)).find_local_time_type_P 1720000000
          = .ok ⟨-14400, true, some (asc "EDT")⟩
      ∧ (absBlock sampleV2.v2 (some sampleRule2)).find_local_time_type_from_local_P 2024 1710037800
          = .ok .none := by
  refine ⟨by decide +kernel, by decide +kernel, by decide +kernel⟩

/-- non-vacuity (kernel evaluation): three concrete written files are read back exactly — v1 with
leap seconds and indicators, v2 with a POSIX footer consistent with its last transition, v3 with an
extension footer -/
example :
    parse (encodeTzif sampleV1) = .ok (absBlock sampleV1.v1 none)
      ∧ parse (encodeTzif sampleV2) = .ok (absBlock sampleV2.v2 (some sampleRule2))
      ∧ parse (encodeTzif sampleV3) = .ok (absBlock sampleV3.v2 (some sampleRule3)) :=
  tzif_roundtrip_samples

/-- `sampleV2`'s footer rule `EST5EDT,M3.2.0,M11.1.0` agrees with its last transition
(2023-11-14 22:13:20 UTC, standard time) -/
theorem sampleV2_agrees : RuleAgrees (absBlock sampleV2.v2 (some sampleRule2)) := by
  intro rule last h1 h2
  cases h1
  have e : (absBlock sampleV2.v2 (some sampleRule2)).transitions.getLast? = some ⟨1700000000, 0⟩ := by decide
  rw [e] at h2
  cases h2
  exact ⟨1700000000, ⟨-18000, false, some (asc "EST")⟩, by decide, by decide, by decide +kernel⟩

/-- non-vacuity: the hypotheses of `tzif_roundtrip_v2` hold for `sampleV2` as it is, footer
`EST5EDT,M3.2.0,M11.1.0` (DST offset and times omitted) -/
example : parse (encodeTzif sampleV2) = .ok (absBlock sampleV2.v2 (some sampleRule2)) :=
  tzif_roundtrip_v2 sampleV2 (by decide) sampleV2_shape1 sampleV2_shape2 sampleV2_vals _
    (Or.inr ⟨sampleRule2, rfl, tz_accepts_only _ _ _ (tz_spellings_samples (false, _, _) (by decide))⟩)
    (show (1000000000 : Int) < 1700000000 ∧ True from ⟨by decide, trivial⟩) (by decide) (by decide)
    sampleV2_agrees

/-- the canonical footer is one admissible footer among many -/
example : FooterOk .V2 (renderTz sampleRule2) (some sampleRule2) :=
  Or.inr ⟨sampleRule2, rfl, canonical_denotes _ _ (by decide)⟩

/-- non-vacuity of the "only if" direction: the same zone with the last transition switching to
daylight time in mid-November is refused by `validate`, hence does not satisfy `RuleAgrees`; and the
specification-level condition holds for the consistent zone -/
example :
    validate sampleBadZone = .err ∧ ¬ RuleAgrees sampleBadZone
      ∧ RuleAgreesSpec (absBlock sampleV2.v2 (some sampleRule2)) := by
  have hv : validate sampleBadZone = .err := by decide +kernel
  refine ⟨hv, ?_, ?_⟩
  · intro hag
    have := (validate_iff sampleBadZone (by decide) (by
      intro r hr; cases hr; exact ruleOk_ruleV false _ (by decide))).mpr
      ⟨by decide, show (1000000000 : Int) < 1700000000 ∧ True from ⟨by decide, trivial⟩, by decide,
        by decide, hag⟩
    rw [hv] at this
    cases this
  · intro rule last h1 h2
    cases h1
    have e : (absBlock sampleV2.v2 (some sampleRule2)).transitions.getLast? = some ⟨1700000000, 0⟩ := by decide
    rw [e] at h2
    cases h2
    exact ⟨1700000000, by decide, by decide +kernel⟩

/-! ### inconsistent data is rejected (stated on the input) -/

/-- COUNTS THAT DISAGREE WITH THE DATA: an accepted file has exactly the layout its header counts
announce.  Version 1: the file is the 44-byte header plus the data block of the size the six counts
give (`announcedLen 4`) and nothing else — any other length is rejected.  Versions 2 and 3: that,
followed by the second header and ITS announced block with 8-byte times, followed by a footer that
starts and ends with a newline.  (`hdrCount` reads the big-endian counts at byte offsets 20…43.) -/
theorem accepted_layout (bytes : List Nat) (z : Zone) (h : parse bytes = .ok z) :
    (versionOf ((bytes.drop 4).take 1) = some .V1 → bytes.length = announcedLen 4 bytes)
      ∧ (versionOf ((bytes.drop 4).take 1) ≠ some .V1 →
          bytes.length = announcedLen 4 bytes + announcedLen 8 (bytes.drop (announcedLen 4 bytes))
              + (footerOf bytes).length
            ∧ (footerOf bytes).head? = some 10 ∧ (footerOf bytes).getLast? = some 10) := by
  unfold parse at h
  obtain ⟨⟨st, fo⟩, hb, hrest⟩ := bind_eq_ok h
  obtain ⟨st1, c1, hs1, hc⟩ := parseBlocks_inv hb
  obtain ⟨⟨-, hv1, -⟩, e1, l1⟩ := post_spec (post_state_layout bytes true) hs1
  simp only [if_true] at e1 l1
  dsimp only at e1 l1 hv1
  rw [hv1]
  have h1 := congrArg List.length e1
  rw [List.length_drop] at h1
  rcases hc with ⟨hver, rfl, -, -⟩ | ⟨hver, c2, hs2, -, rfl⟩
  · refine ⟨fun _ => ?_, fun hne => absurd (congrArg some hver) hne⟩
    rw [List.length_nil] at h1
    omega
  · refine ⟨fun hv => absurd (Option.some.inj hv) hver, fun _ => ?_⟩
    obtain ⟨-, e2, l2⟩ := post_spec (post_state_layout c1 false) hs2
    simp only [Bool.false_eq_true, if_false] at e2 l2
    have hfo : footerOf bytes = c2 := by unfold footerOf; rw [hb]
    obtain ⟨r, hr⟩ := parseRest_ok_footer hrest
    rw [hfo, ← e1]
    refine ⟨?_, Classical.byContradiction fun g => ?_⟩
    · have h2 := congrArg List.length e2
      rw [List.length_drop] at h2
      omega
    · rw [footer_framing' c2 _ g] at hr; cases hr

/-- … hence: a version-1 file whose length differs from what its counts announce is rejected, and so
is a version-2/3 file not longer than its two announced blocks (the footer has at least its first
newline) -/
theorem rejects_count_mismatch (bytes : List Nat) :
    (versionOf ((bytes.drop 4).take 1) = some .V1 → bytes.length ≠ announcedLen 4 bytes →
        parse bytes = .err)
      ∧ (versionOf ((bytes.drop 4).take 1) ≠ some .V1 →
          bytes.length ≤ announcedLen 4 bytes + announcedLen 8 (bytes.drop (announcedLen 4 bytes)) →
        parse bytes = .err) := by
  constructor
  · intro hv hne
    cases hp : parse bytes with
    | ok z => exact absurd ((accepted_layout bytes z hp).1 hv) hne
    | err => rfl
    | panic => exact absurd hp (parse_total bytes)
  · intro hv hlt
    cases hp : parse bytes with
    | ok z =>
      exfalso
      obtain ⟨h1, h2, -⟩ := (accepted_layout bytes z hp).2 hv
      cases hf : footerOf bytes with
      | nil => rw [hf] at h2; cases h2
      | cons a t =>
        rw [hf] at h1
        simp only [List.length_cons] at h1
        omega
    | err => rfl
    | panic => exact absurd hp (parse_total bytes)

/-- MALFORMED FOOTER, on `parse` itself: a version-1 zone has no rule; for versions 2 and 3 the
footer of an accepted file (`accepted_layout`: newline-framed; `rejects_short_footer`: two bytes at
least) is valid UTF-8, its TZ string — the footer without surrounding ASCII white space — neither
starts with `:` nor contains a NUL, and it is either empty with no rule in the zone, or a string of
the TZ grammar DENOTING the zone's rule, the extension flag being EXACTLY "the file is version 3":
`v2` is the version field of the second header AND of the first (they agree since the repair of F35,
`accepted_versions_agree`).  Any other footer is therefore rejected; in particular a footer using
the RFC 8536 extensions in a version-2 file. -/
theorem accepted_footer (bytes : List Nat) (z : Zone) (h : parse bytes = .ok z) :
    (versionOf ((bytes.drop 4).take 1) = some .V1 → z.rule = none)
      ∧ (versionOf ((bytes.drop 4).take 1) ≠ some .V1 → ∃ v2, secondVersion bytes = some v2
          ∧ firstVersion bytes = some v2
          ∧ validUtf8 (footerOf bytes) = true ∧ (trimWs (footerOf bytes)).head? ≠ some 58
            ∧ 0 ∉ trimWs (footerOf bytes)
            ∧ ((trimWs (footerOf bytes) = [] ∧ z.rule = none)
                ∨ ∃ x, z.rule = some x ∧ Denotes (v2 == .V3) (trimWs (footerOf bytes)) x)) := by
  refine ⟨(accepted_footer' bytes z h).1, fun hne => ?_⟩
  obtain ⟨v2, hv2, hv1, -, -, hf⟩ := (accepted_decode' bytes z h).2 hne
  exact ⟨v2, hv2, hv1, parseFooter_ok_inv hf⟩

/-- … hence a footer that is in the grammar only WITH the extensions is rejected unless the second
header says version 3 -/
theorem rejects_ext_footer_below_v3 (bytes : List Nat)
    (h1 : versionOf ((bytes.drop 4).take 1) ≠ some .V1) (h2 : secondVersion bytes ≠ some .V3)
    (hne : trimWs (footerOf bytes) ≠ [])
    (hf : ∀ x, ¬ Denotes false (trimWs (footerOf bytes)) x) : parse bytes = .err := by
  cases hp : parse bytes with
  | ok z =>
    exfalso
    obtain ⟨v2, hv2, -, -, -, -, hd⟩ := (accepted_footer bytes z hp).2 h1
    rcases hd with ⟨he, -⟩ | ⟨x, -, hx⟩
    · exact hne he
    · cases v2 with
      | V3 => exact h2 hv2
      | V1 => exact hf x hx
      | V2 => exact hf x hx
  | err => rfl
  | panic => exact absurd hp (parse_total bytes)

/-- BAD VERSION, second header: a version-2/3 file whose second header carries an unknown version byte
(anything but `0x00`, `'2'`, `'3'`) is rejected -/
theorem rejects_bad_version2 (bytes : List Nat) (h1 : versionOf ((bytes.drop 4).take 1) ≠ some .V1)
    (h : secondVersion bytes = none) : parse bytes = .err := by
  cases hp : parse bytes with
  | ok z =>
    obtain ⟨v2, hv2, -⟩ := (accepted_decode' bytes z hp).2 h1
    rw [h] at hv2; cases hv2
  | err => rfl
  | panic => exact absurd hp (parse_total bytes)

/-- THE READER'S VALUE ON EVERY WRITTEN FILE, versions 2 and 3.  For every file written by the
specification's writer whose counts fit the header (`BlockShape`) and whose values merely fit their
fields (`BlockFits`: times `i64`, offsets and corrections `i32` — NO condition on order, indices,
designations or the rule), with any admissible footer: `parse` returns the written zone if the written
data are `Consistent` (legal type records, admissible indicators, strictly increasing transitions,
type indices in range, leap-table constraints, rule agreeing with the last transition) and `Err`
otherwise. -/
theorem parse_written (f : TzFile) (hver : f.version ≠ .V1) (hs1 : BlockShape f.v1)
    (hs2 : BlockShape f.v2) (hfit : BlockFits f.version 8 f.v2) (rule : Option Rule)
    (hfoot : FooterOk f.version f.footer rule) :
    (Consistent f.v2 rule → parse (encodeTzif f) = .ok (absBlock f.v2 rule))
      ∧ (¬ Consistent f.v2 rule → parse (encodeTzif f) = .err) := by
  have hfo : parseFooterOpt (some (10 :: (f.footer ++ [10]))) f.version = .ok rule := by
    show parseFooter _ _ = _
    rcases hfoot with ⟨h1, h2⟩ | ⟨r, h1, h2⟩
    · rw [h1, h2]; exact parseFooter_empty _
    · rw [h1]; exact parseFooter_rule _ _ r h2
  constructor
  · rintro ⟨c1, c2, c3, c4, c5, c6⟩
    exact tzif_roundtrip_v2 f hver hs1 hs2 (blockVals_of _ _ _ hfit c1 c2) rule hfoot c3 c4 c5 c6
  · intro hnc
    apply err_of_not_ok
    intro z hz
    rw [parse_of_blocks (parseBlocks_enc_v2 f hver hs1 hs2)] at hz
    obtain ⟨t1, t2, t3, -⟩ := parseRest_enc_inv f.version 8 f.v2 _ rule hs2 hfit (Or.inr rfl) hfo z hz
    obtain ⟨-, v1, v2, v3, v4⟩ := (validate_iff' _ (abs_times_i64 _ _ _ rule hfit.trans) (footerOk_ruleV hfoot)).mp t3
    exact hnc ⟨t1, t2, v1, v2, v3, v4⟩

/-- the same for version 1 (32-bit times, no footer, no rule) -/
theorem parse_written_v1 (f : TzFile) (hver : f.version = .V1) (hs : BlockShape f.v1)
    (hfit : BlockFits .V1 4 f.v1) :
    (Consistent f.v1 none → parse (encodeTzif f) = .ok (absBlock f.v1 none))
      ∧ (¬ Consistent f.v1 none → parse (encodeTzif f) = .err) := by
  constructor
  · rintro ⟨c1, c2, c3, c4, c5, -⟩
    exact tzif_roundtrip_v1' f hver hs (blockVals_of _ _ _ hfit c1 c2)
      (validate_ok_of _ (abs_types_ne _ _ hs) c3 c4 c5 (Or.inl rfl))
  · intro hnc
    apply err_of_not_ok
    intro z hz
    rw [parse_of_blocks (parseBlocks_enc_v1 f hver hs)] at hz
    obtain ⟨t1, t2, t3, -⟩ := parseRest_enc_inv .V1 4 f.v1 none none hs hfit (Or.inl rfl) rfl z hz
    obtain ⟨-, v1, v2, v3, v4⟩ :=
      (validate_iff' _ (abs_times_i64 _ _ _ none hfit.trans) (by intro r hr; cases hr)).mp t3
    exact hnc ⟨t1, t2, v1, v2, v3, v4⟩

/-- the classes the property names, each on its own: a written file (v2/v3; values fitting their
fields, admissible footer) is REJECTED if its transitions are not strictly increasing, or a
transition's type index is out of bounds, or a type's designation index is out of bounds, or an
offset is 24 hours or more in magnitude (86400 s … `i32::MAX`, −86400 s … `i32::MIN`; F32), or the indicator arrays contain the forbidden couple, or the leap-second table
violates its constraints, or the footer rule disagrees with the last transition -/
theorem rejects_written_classes (f : TzFile) (hver : f.version ≠ .V1) (hs1 : BlockShape f.v1)
    (hs2 : BlockShape f.v2) (hfit : BlockFits f.version 8 f.v2) (rule : Option Rule)
    (hfoot : FooterOk f.version f.footer rule)
    (h : ¬ SortedStrict (absBlock f.v2 rule).transitions
      ∨ (∃ t ∈ f.v2.trans, f.v2.types.length ≤ t.2)
      ∨ (∃ t ∈ f.v2.types, f.v2.names.length ≤ t.abbr)
      ∨ (∃ t ∈ f.v2.types, t.off ≤ -86400 ∨ 86400 ≤ t.off)
      ∨ badIndicators f.v2.types.length f.v2.stdWalls f.v2.utLocals = true
      ∨ checkLeaps (absBlock f.v2 rule).leaps = false
      ∨ ¬ RuleAgrees (absBlock f.v2 rule)) :
    parse (encodeTzif f) = .err := by
  refine (parse_written f hver hs1 hs2 hfit rule hfoot).2 ?_
  rintro ⟨c1, c2, c3, c4, c5, c6⟩
  rcases h with h | ⟨t, ht, hle⟩ | ⟨t, ht, hle⟩ | ⟨t, ht, hmin⟩ | h | h | h
  · exact h c3
  · have := c4 ⟨t.1, t.2⟩ (by
      simp only [absBlock, List.mem_map]
      exact ⟨t, ht, rfl⟩)
    simp only [absBlock, List.length_map] at this
    omega
  · have := (c1 t ht).2.2.1
    omega
  · have := (c1 t ht).2.1
    omega
  · rw [h] at c2; cases c2
  · rw [h] at c5; cases c5
  · exact h c6

/-- non-vacuity: `sampleV2`'s values fit their fields and its data are consistent; swapping its two
transition times gives an unsorted table, which `rejects_written_classes` rejects -/
example :
    BlockFits sampleV2.version 8 sampleV2.v2 ∧ Consistent sampleV2.v2 (some sampleRule2)
      ∧ parse (encodeTzif { sampleV2 with v2 := { sampleV2.v2 with trans := [(1700000000, 1), (1000000000, 0)] } })
          = .err := by
  have hfit : BlockFits sampleV2.version 8 sampleV2.v2 :=
    ⟨sampleV2_vals.trans, fun t ht => (sampleV2_vals.types t ht).1, sampleV2_vals.leaps⟩
  refine ⟨hfit, ⟨sampleV2_vals.types, sampleV2_vals.ind,
    show (1000000000 : Int) < 1700000000 ∧ True from ⟨by decide, trivial⟩, by decide, by decide,
    sampleV2_agrees⟩, ?_⟩
  refine rejects_written_classes _ (by decide) sampleV2_shape1
    ⟨by decide, by decide, by decide, by decide, by decide, by decide, by decide, by decide⟩
    ⟨by decide +kernel, by decide +kernel, by decide +kernel⟩ (some sampleRule2)
    (Or.inr ⟨sampleRule2, rfl, tz_accepts_only _ _ _ (tz_spellings_samples (false, _, _) (by decide))⟩)
    (Or.inl ?_)
  show ¬ ((1700000000 : Int) < 1000000000 ∧ True)
  intro h; exact absurd h.1 (by decide)

/-- non-vacuity: every cut point of the three sample files -/
example :
    (∀ k, k < (encodeTzif sampleV1).length → parse ((encodeTzif sampleV1).take k) = .err)
      ∧ (∀ k, k < (encodeTzif sampleV2).length → k ≠ footerStart sampleV2 + 1 →
          parse ((encodeTzif sampleV2).take k) = .err)
      ∧ (∀ k, k < (encodeTzif sampleV3).length → k ≠ footerStart sampleV3 + 1 →
          parse ((encodeTzif sampleV3).take k) = .err) :=
  rejects_truncated_samples

/-- non-vacuity: `RuleOk` is met by 15 rules spanning both forms and all range ends -/
example : ∀ p ∈ sampleRules, RuleOk p.1 p.2 ∧ from_tz_string (renderTz p.2) p.1 = .ok p.2 :=
  tz_roundtrip_samples

/-- malformed rule texts are refused (each line is one class the property names) -/
theorem tz_rejects_samples : ∀ t ∈ badRuleTexts, from_tz_string t.1 t.2 = .err := by
  unfold badRuleTexts
  repeat rw [asc_ofList]
  decide +kernel

/-- malformed footers / header extremes on a concrete file are refused -/
theorem rejects_samples : ∀ b ∈ badFiles, parse b = .err := by decide +kernel

/-- non-vacuity: `sampleV2` requests room for 2 transitions, 2 types and no leap second (64 bytes)
from a file of 157 bytes; the constant 16/5 cannot be lowered to 1 — a version-1 file of ten
transitions has 100 + 44 + 6 + 1 bytes and asks for 160 + 16 -/
example : capacities (encodeTzif sampleV2) = [2, 2, 0] ∧ (capacityBytes (encodeTzif sampleV2)).sum = 64
    ∧ (encodeTzif sampleV2).length = 157 := by decide +kernel

/-- non-vacuity: the readers do accept something non-trivial, and do refuse something -/
example : (∃ z, parse (encodeTzif sampleV2) = .ok z ∧ z.transitions.length = 2 ∧ z.types.length = 2)
    ∧ parse [] = .err ∧ sampleRules.length ≥ 10 ∧ badFiles.length ≥ 10 := by
  refine ⟨⟨_, tzif_roundtrip_samples.2.1, by decide, by decide⟩, by decide, by decide, by decide⟩

example : ZoneValid (absBlock sampleV2.v2 (some sampleRule2)) :=
  accepted_is_valid _ _ tzif_roundtrip_samples.2.1

/-! ### F32 (repaired by 770977e): accepted zones are representable, and `Local` answers on them

Finding F32: the readers accepted a zone whose UTC offset is 24 hours or more in magnitude
(`TZ=AAA24`, `TZ=XXX-24:30`, `AAA5BBB24,M3.2.0,M11.1.0`, a TZif type with `utoff` 86400 or `i32::MAX`;
`LocalTimeType::new` refused `i32::MIN` only), and `Local::now()`, `Local.from_utc_datetime`,
`Local.timestamp_opt` … then panicked: `inner::offset_from_utc_datetime(utc).unwrap()`
(src/offset/local/mod.rs) on the `MappedLocalTime::None` that `FixedOffset::east_opt` produces in
`Cache::offset`.  Since the repair `LocalTimeType::new` / `with_offset` (model: `Ltt.new`,
`Ltt.with_offset`) refuse `ut_offset ≤ −86400 ∨ ut_offset ≥ 86400`.  `zoneTypes z` are the local time
types a zone can answer with (its table's and its rule's); `M.TzL.local_offset_from_utc_datetime`
(Model/TzLocal.lean) is `<Local as TimeZone>::offset_from_utc_datetime` with the `unwrap` modelled
as a panic. -/

/-- (a) EVERY local time type of EVERY accepted zone — TZif bytes or TZ string, table or rule, given or
defaulted DST offset, referred to by a transition or not — is strictly within 24 hours of UTC, i.e.
`FixedOffset::east_opt` holds it -/
theorem accepted_offsets_representable :
    (∀ (bytes : List Nat) (z : Zone), parse bytes = .ok z → ∀ t ∈ zoneTypes z, -86400 < t.off ∧ t.off < 86400)
      ∧ (∀ (text : List Nat) (ext : Bool) (r : Rule), from_tz_string text ext = .ok r →
          ∀ t ∈ zoneTypes (zoneOfRule r), -86400 < t.off ∧ t.off < 86400) :=
  ⟨fun bytes z h t ht => parsed_within bytes z h t ht,
   fun text ext r h t ht => rule_within text ext r h t (zoneOfRule_types r t ht)⟩

/-- the constructors themselves: `LocalTimeType::new` and `with_offset` refuse exactly the offsets of
24 hours or more (whatever the flag and the designation), and return the offset given otherwise -/
theorem ltt_new_refuses_iff (off : Int) (dst : Bool) (name : Option (List Nat)) :
    ((off ≤ -86400 ∨ 86400 ≤ off) → Ltt.new off dst name = .err ∧ Ltt.with_offset off = .err)
      ∧ ((-86400 < off ∧ off < 86400) → Ltt.with_offset off = .ok ⟨off, false, none⟩
          ∧ Ltt.new off dst none = .ok ⟨off, dst, none⟩
          ∧ ∀ n, NameOk n → Ltt.new off dst (some n) = .ok ⟨off, dst, some n⟩) := by
  constructor
  · intro h
    unfold Ltt.new Ltt.with_offset
    rw [if_pos (by omega), if_pos (by omega)]
    exact ⟨rfl, rfl⟩
  · intro h
    refine ⟨?_, ?_, fun n hn => ltt_new_ok off dst n h hn⟩
    · unfold Ltt.with_offset; rw [if_neg (by omega)]
    · unfold Ltt.new; rw [if_neg (by omega)]

/-- a TZ string that meets the field ranges of the grammar (`hh ≤ 24`) but states — or defaults to — an
offset of 24:00:00 or more is REFUSED: with `tz_reader_is_grammar`, exactly the side condition
`Within24h` of `Denotes` separates these texts from the accepted ones -/
theorem tz_rejects_24h (ext : Bool) (s : List Nat) (r : Rule) (h : from_tz_string s ext = .ok r) :
    ∀ t ∈ ruleTypes r, Within24h t.off :=
  rule_within s ext r h

/-- (b) LOOKUP TOTALITY AT THE `Local` LEVEL, TZif zones: for every zone `parse` accepts and every
instant a `NaiveDateTime` can hold (`NDT_MIN_TS … NDT_MAX_TS`, tied to the calendar by
`Props.C05.ndt_range_ok`), the zone lookup succeeds (`expect` in `Cache::offset` does not fire),
`FixedOffset::east_opt` holds the offset, `Cache::offset(d, false)` is `Single`, and hence the
`unwrap` of `Local::offset_from_utc_datetime` does not fire: the result is `Ok o`, `o` being the
offset of one of the zone's own local time types -/
theorem local_offset_total (bytes : List Nat) (z : Zone) (h : parse bytes = .ok z) (x : Int)
    (hx : M.TzL.NDT_MIN_TS ≤ x ∧ x ≤ M.TzL.NDT_MAX_TS) :
    ∃ o, M.TzL.local_offset_from_utc_datetime z x = .ok o
      ∧ M.TzL.cache_offset z x false = .ok (.single o)
      ∧ (-86400 < o ∧ o < 86400) ∧ ∃ l ∈ zoneTypes z, l.off = o :=
  local_offset_ok z (parsed_instantSafe bytes z h) (parsed_within bytes z h) x hx

/-- (b) the same for a zone built from a `TZ` value that is a rule text (`TimeZone::from_posix_tz`) -/
theorem local_offset_total_tz_string (text : List Nat) (ext : Bool) (r : Rule)
    (h : from_tz_string text ext = .ok r) (x : Int) (hx : M.TzL.NDT_MIN_TS ≤ x ∧ x ≤ M.TzL.NDT_MAX_TS) :
    ∃ o, M.TzL.local_offset_from_utc_datetime (zoneOfRule r) x = .ok o
      ∧ M.TzL.cache_offset (zoneOfRule r) x false = .ok (.single o)
      ∧ (-86400 < o ∧ o < 86400) ∧ ∃ l ∈ ruleTypes r, l.off = o := by
  obtain ⟨o, h1, h2, h3, l, hl, he⟩ := local_offset_ok (zoneOfRule r) (zoneOfRule_instantSafe r)
    (fun t ht => rule_within text ext r h t (zoneOfRule_types r t ht)) x hx
  exact ⟨o, h1, h2, h3, l, zoneOfRule_types r l hl, he⟩

/-- … hence `Local.timestamp_opt` / `timestamp_millis_opt` / `timestamp_micros` / `timestamp_nanos`
/ `from_utc_datetime` / `Local::now()` (all: `from_utc_datetime` of an instant in range) never panic on
an accepted zone: out of range is `MappedLocalTime::None` by value, in range is `Single` -/
theorem local_timestamp_total (bytes : List Nat) (z : Zone) (h : parse bytes = .ok z) (secs : Int) :
    M.TzL.local_timestamp_opt z secs ≠ .panic := by
  have := local_timestamp_ok z (parsed_instantSafe bytes z h) (parsed_within bytes z h) secs
  by_cases c : M.TzL.NDT_MIN_TS ≤ secs ∧ secs ≤ M.TzL.NDT_MAX_TS
  · obtain ⟨o, ho, -⟩ := this.2 c
    rw [ho]; exact fun e => by cases e
  · rw [this.1 c]; exact fun e => by cases e

/-- non-vacuity: New York's sample zone through the `Local` glue at 2024-07-01 and at both ends of the
`NaiveDateTime` range; the zone of `TZ=AAA-23:59:59` (offset +86399, the largest there is) answers too -/
example :
    M.TzL.local_offset_from_utc_datetime (absBlock sampleV2.v2 (some sampleRule2)) 1719835200 = .ok (-14400)
      ∧ M.TzL.local_offset_from_utc_datetime (absBlock sampleV2.v2 (some sampleRule2)) M.TzL.NDT_MIN_TS = .ok (-18000)
      ∧ M.TzL.local_offset_from_utc_datetime (absBlock sampleV2.v2 (some sampleRule2)) M.TzL.NDT_MAX_TS = .ok (-18000)
      ∧ from_tz_string (asc "AAA-23:59:59") false = .ok (.fixed ⟨86399, false, some (asc "AAA")⟩)
      ∧ M.TzL.local_offset_from_utc_datetime (zoneOfRule (.fixed ⟨86399, false, some (asc "AAA")⟩)) 0 = .ok 86399 := by
  refine ⟨by decide +kernel, by decide +kernel, by decide +kernel, by decide +kernel, by decide +kernel⟩

/-- (c) THE PINNED BEHAVIOUR BEFORE THE REPAIR, kernel-checked: the old acceptance test
(`Ltt.new_before_F32`: only `i32::MIN` refused) builds the local time type of `TZ=AAA-24` (offset
+86400) and of a TZif type with `utoff` 86400 or `i32::MAX`; on the zone holding it the model of
`Local::offset_from_utc_datetime` PANICS at every instant (the `unwrap` of `MappedLocalTime::None`),
while the wall-clock direction answers `None` by value.  The repaired constructor refuses all three. -/
theorem local_panics_pinned_before_F32 :
    Ltt.new_before_F32 86400 false (some (asc "AAA")) = .ok ⟨86400, false, some (asc "AAA")⟩
      ∧ Ltt.new_before_F32 2147483647 true none = .ok ⟨2147483647, true, none⟩
      ∧ (∀ x, M.TzL.local_offset_from_utc_datetime (zoneOfRule (.fixed ⟨86400, false, some (asc "AAA")⟩)) x = .panic)
      ∧ (∀ x, M.TzL.local_offset_from_utc_datetime ⟨[], [⟨2147483647, true, none⟩], [], none⟩ x = .panic)
      ∧ (∀ x, M.TzL.NDT_MIN_TS ≤ x ∧ x ≤ M.TzL.NDT_MAX_TS →
            M.TzL.local_timestamp_opt ⟨[], [⟨-86400, false, none⟩], [], none⟩ x = .panic)
      ∧ M.TzL.cache_offset (zoneOfRule (.fixed ⟨86400, false, some (asc "AAA")⟩)) 0 true = .ok .none
      ∧ Ltt.new 86400 false (some (asc "AAA")) = .err ∧ Ltt.new 2147483647 true none = .err
      ∧ Ltt.new (-86400) false none = .err
      ∧ from_tz_string (asc "AAA-24") false = .err ∧ from_tz_string (asc "AAA24") false = .err
      ∧ from_tz_string (asc "AAA5BBB24,M3.2.0,M11.1.0") false = .err := by
  refine ⟨by decide +kernel, by decide +kernel, fun x => rfl, fun x => rfl, fun x hx => ?_, by decide +kernel,
    by decide +kernel, by decide +kernel, by decide +kernel, by decide +kernel, by decide +kernel,
    by decide +kernel⟩
  unfold M.TzL.local_timestamp_opt
  rw [if_pos hx]
  rfl

/-! ### round 3: what an ARBITRARY accepted file is read as (decode soundness)

`Spec.Tz.decodeBlock ts v blk rule` (Spec/TzDecodeSpec.lean) is the zone the bytes of a block SAY,
field by field, at the byte offsets its six header counts determine (RFC 8536 §3.2): `timecnt` time
fields of `ts` bytes from offset 44, `timecnt` type-index bytes, `typecnt` records `utoff(4) isdst(1)
desigidx(1)`, `charcnt` designation bytes, `leapcnt` records `time(ts) corr(4)` — no reader function
occurs in it.  `v` is the version field of the block's own header: it decides how a time field is
taken (`fieldTime`). -/

/-- DECODE SOUNDNESS, every accepted byte string (not only the image of the specification's writer): a
version-1 file is read as what its only block says (4-byte times, no rule); a version-2/3 file is read
as what its SECOND block says — the block that starts `announcedLen 4 bytes` bytes into the file —
with full 8-byte time fields (`v2` is the version of BOTH headers and is not 1, so `fieldTime v2` is
the whole field: `accepted_decode_consistent`), and the rule its footer denotes (`accepted_footer`).
Besides, every type record has `isdst ∈ {0, 1}` and a designation index inside the designation array
with a NUL after it (`TypeRecsOk`).  With `accepted_is_valid` this carries the rejection classes 7e–7g
over to arbitrary bytes: a file whose FIELDS are unsorted, or point outside the type / designation
arrays, or state an offset of 24 h or more, is rejected. -/
theorem accepted_decode (bytes : List Nat) (z : Zone) (h : parse bytes = .ok z) :
    (firstVersion bytes = some .V1 → z = decodeBlock 4 .V1 bytes none ∧ TypeRecsOk 4 bytes)
      ∧ (firstVersion bytes ≠ some .V1 → ∃ v2, secondVersion bytes = some v2 ∧ firstVersion bytes = some v2
          ∧ z = decodeBlock 8 v2 (bytes.drop (announcedLen 4 bytes)) z.rule
          ∧ TypeRecsOk 8 (bytes.drop (announcedLen 4 bytes))) := by
  refine ⟨(accepted_decode' bytes z h).1, fun hne => ?_⟩
  obtain ⟨v2, a, a', b, c, -⟩ := (accepted_decode' bytes z h).2 hne
  exact ⟨v2, a, a', b, c⟩

/-- … stated on the input: whatever bytes are accepted, the FIELDS they hold are strictly increasing
transition times, type indices below `typecnt`, and offsets strictly within 24 hours -/
theorem accepted_fields_valid (bytes : List Nat) (z : Zone) (h : parse bytes = .ok z) :
    ∃ ts v blk, z = decodeBlock ts v blk z.rule
      ∧ SortedStrict ((List.range (hdrCount blk 3)).map (decTransition ts v blk))
      ∧ (∀ i, i < hdrCount blk 3 → (idxArr ts blk).getD i 0 < hdrCount blk 4)
      ∧ (∀ i, i < hdrCount blk 4 → -86400 < (decType ts blk i).off ∧ (decType ts blk i).off < 86400) := by
  have hv := accepted_is_valid bytes z h
  have key : ∀ ts v blk, z = decodeBlock ts v blk z.rule →
      SortedStrict ((List.range (hdrCount blk 3)).map (decTransition ts v blk))
      ∧ (∀ i, i < hdrCount blk 3 → (idxArr ts blk).getD i 0 < hdrCount blk 4)
      ∧ (∀ i, i < hdrCount blk 4 → -86400 < (decType ts blk i).off ∧ (decType ts blk i).off < 86400) := by
    intro ts v blk e
    obtain ⟨-, h1, h2, h3⟩ := hv
    rw [e] at h1 h2 h3
    simp only [decodeBlock] at h1 h2 h3
    refine ⟨h1, fun i hi => ?_, fun i hi => ?_⟩
    · have := h2 (decTransition ts v blk i) (List.mem_map.mpr ⟨i, List.mem_range.mpr hi, rfl⟩)
      simpa [decTransition] using this
    · exact (h3 (decType ts blk i) (List.mem_map.mpr ⟨i, List.mem_range.mpr hi, rfl⟩)).1
  by_cases hf : firstVersion bytes = some .V1
  · obtain ⟨e, -⟩ := (accepted_decode bytes z h).1 hf
    have e' : z = decodeBlock 4 .V1 bytes z.rule := by
      have hr : z.rule = none := by rw [e]; rfl
      rw [hr]; exact e
    exact ⟨4, .V1, bytes, e', key _ _ _ e'⟩
  · obtain ⟨v2, -, -, e, -⟩ := (accepted_decode bytes z h).2 hf
    exact ⟨8, v2, _, e, key _ _ _ e⟩

/-! #### F35 (repaired by 8cebd0e): the two headers must carry the same version

Finding F35: the reader checked each version byte for membership in `{0x00, '2', '3'}` only and then
decoded with the SECOND one; the pair was never compared.  A file whose first header says version 2
and whose second header says version 1 was accepted and its 8-byte times were read as their high four
bytes; a 2/3 pair was accepted with a footer only version 3 allows.  Since the repair `parse` refuses
the file when the second header's version differs from the first's. -/

/-- the second header's version EQUALS the first's, for every accepted version-2/3 file -/
theorem accepted_versions_agree (bytes : List Nat) (z : Zone) (h : parse bytes = .ok z)
    (hne : firstVersion bytes ≠ some .V1) : secondVersion bytes = firstVersion bytes := by
  obtain ⟨v2, a, b, -⟩ := (accepted_decode bytes z h).2 hne
  rw [a, b]

/-- INCONSISTENT VERSIONS ARE REJECTED, universally: any file of version 2 or 3 whose second header's
version field — known or unknown byte — differs from the first's (with `rejects_bad_version` for an
unknown first byte; a version-1 file has no second header: `accepted_layout`) -/
theorem rejects_inconsistent_versions (bytes : List Nat) (hne : firstVersion bytes ≠ some .V1)
    (hd : secondVersion bytes ≠ firstVersion bytes) : parse bytes = .err := by
  cases hp : parse bytes with
  | ok z => exact absurd (accepted_versions_agree bytes z hp hne) hd
  | err => rfl
  | panic => exact absurd hp (parse_total bytes)

/-- how a time field is taken: under a header that says version 2 or 3 as the whole field (two's
complement, big-endian); under a header that says version 1 as its first four bytes (the whole field
of a first block; the case "8-byte field under a version-1 header" no longer arises, F35) -/
theorem fieldTime_cases (chunk : List Nat) :
    fieldTime .V2 chunk = asI64 (beNat chunk) ∧ fieldTime .V3 chunk = asI64 (beNat chunk)
      ∧ fieldTime .V1 chunk = asI32 (beNat (chunk.take 4)) := ⟨rfl, rfl, rfl⟩

/-- THE FULL STATEMENT (was `accepted_decode_consistent_partial` before the repair, with the agreement
of the two version fields as a hypothesis): an accepted version-2/3 file — `v` the version of its FIRST
header — is read as what its second block says with full 64-bit times, and its footer is in the
grammar of version `v` (extensions iff `v` is 3) -/
theorem accepted_decode_consistent (bytes : List Nat) (z : Zone) (h : parse bytes = .ok z)
    (v : Version) (hv : firstVersion bytes = some v) (hne : v ≠ .V1) :
    z = decodeBlock 8 v (bytes.drop (announcedLen 4 bytes)) z.rule
      ∧ (∀ chunk, fieldTime v chunk = asI64 (beNat chunk))
      ∧ ((trimWs (footerOf bytes) = [] ∧ z.rule = none)
          ∨ ∃ x, z.rule = some x ∧ Denotes (v == .V3) (trimWs (footerOf bytes)) x) := by
  have hne' : versionOf ((bytes.drop 4).take 1) ≠ some .V1 := by
    show firstVersion bytes ≠ some .V1
    rw [hv]; intro e; cases e; exact hne rfl
  obtain ⟨v2, -, hv2, e, -⟩ := (accepted_decode bytes z h).2 hne'
  obtain ⟨v2', -, hv2', -, -, -, hd⟩ := (accepted_footer bytes z h).2 hne'
  rw [hv] at hv2 hv2'
  cases hv2; cases hv2'
  refine ⟨e, fun chunk => ?_, hd⟩
  cases v with
  | V1 => exact absurd rfl hne
  | V2 => rfl
  | V3 => rfl

/-- THE PINNED BEHAVIOUR BEFORE THE REPAIR, kernel-checked on the OLD reader (`parse_before_F35`,
Proofs/TzOldReader.lean; the same bytes were run through the real crate before 8cebd0e): the 119-byte
file `mixedV2V1Hex` — first header `'2'`, second header `0x00`, one 64-bit transition time
`00 00 00 01 00 00 00 02` = 4294967298 — was ACCEPTED with the transition read as `1`; first `'3'` /
second `0x00` likewise; first `'2'` / second `'3'` was accepted WITH a footer that only version 3 allows
(`AAA5BBB,M3.2.0/−1,M11.1.0`).  The repaired reader refuses all of them and still reads the consistent
file. -/
theorem inconsistent_versions_accepted_pinned_before_F35 :
    some (mixedFile .V2 .V1 mixBlock2 []) = hexDecode mixedV2V1Hex
      ∧ parse_before_F35 (mixedFile .V2 .V1 mixBlock2 []) = .ok ⟨[⟨1, 0⟩], [⟨0, false, some (asc "UTC")⟩], [], none⟩
      ∧ parse_before_F35 (mixedFile .V3 .V1 mixBlock2 []) = .ok ⟨[⟨1, 0⟩], [⟨0, false, some (asc "UTC")⟩], [], none⟩
      ∧ parse_before_F35 (mixedExtFile .V2 .V3) = .ok ⟨[], [⟨-18000, false, some (asc "AAA")⟩], [], some mixedExtRule⟩
      ∧ parse (mixedFile .V2 .V1 mixBlock2 []) = .err ∧ parse (mixedFile .V3 .V1 mixBlock2 []) = .err
      ∧ parse (mixedExtFile .V2 .V3) = .err ∧ parse (mixedExtFile .V3 .V2) = .err
      ∧ parse (mixedExtFile .V2 .V2) = .err
      ∧ parse (mixedFile .V2 .V2 mixBlock2 []) = .ok ⟨[⟨4294967298, 0⟩], [⟨0, false, some (asc "UTC")⟩], [], none⟩
      ∧ parse (mixedExtFile .V3 .V3) = .ok ⟨[], [⟨-18000, false, some (asc "AAA")⟩], [], some mixedExtRule⟩
      ∧ firstVersion (mixedFile .V2 .V1 mixBlock2 []) = some .V2
      ∧ secondVersion (mixedFile .V2 .V1 mixBlock2 []) = some .V1 := by
  decide +kernel

/-- non-vacuity of `rejects_inconsistent_versions`: the 2/1 file meets its hypotheses -/
example : parse (mixedFile .V2 .V1 mixBlock2 []) = .err :=
  rejects_inconsistent_versions _ (by decide +kernel) (by decide +kernel)

/-! #### F36 (repaired by 4daf52d): a footer has at least two bytes

Finding F36: RFC 8536 §3.3: the footer is `NL TZ-string NL` — two newlines even when the TZ string is
empty.  The reader asked for `starts_with('\n') && ends_with('\n')`, which the ONE-byte footer `"\n"`
meets with the same byte, so a version-2/3 file cut right after its footer's first newline was accepted
WITHOUT its rule (`/usr/share/zoneinfo/America/New_York` cut to 3529 of 3552 bytes: `rule=none`, the
offset on 2040-07-01 became −18000 instead of −14400).  Since the repair the footer arm refuses a
footer shorter than two bytes: `rejects_short_footer`, `rejects_truncated_after_footer_newline`, and
`rejects_truncated_footer` no longer has an exception. -/

/-- THE PINNED BEHAVIOUR BEFORE THE REPAIR, kernel-checked on the OLD footer arm (`parse_before_F36`,
Proofs/TzOldReader.lean): the written samples cut right after the footer's first newline were accepted
without their rule; such a prefix is not what the specification's writer emits for the same blocks
with an empty footer (it is one newline short).  The repaired reader refuses the cuts and accepts the
writer's empty-footer file. -/
theorem truncated_after_footer_newline_accepted_pinned_before_F36 :
    parse_before_F36 ((encodeTzif sampleV2).take (footerStart sampleV2 + 1)) = .ok (absBlock sampleV2.v2 none)
      ∧ parse_before_F36 ((encodeTzif sampleV3).take (footerStart sampleV3 + 1)) = .ok (absBlock sampleV3.v2 none)
      ∧ parse ((encodeTzif sampleV2).take (footerStart sampleV2 + 1)) = .err
      ∧ parse ((encodeTzif sampleV3).take (footerStart sampleV3 + 1)) = .err
      ∧ parse (encodeTzif sampleV2) = .ok (absBlock sampleV2.v2 (some sampleRule2))
      ∧ (encodeTzif sampleV2).take (footerStart sampleV2 + 1) ++ [10] = encodeTzif { sampleV2 with footer := [] }
      ∧ parse (encodeTzif { sampleV2 with footer := [] }) = .ok (absBlock sampleV2.v2 none) := by
  decide +kernel

/-- non-vacuity: every cut point of the two written samples with a footer, NO exception -/
example :
    (∀ k, k < (encodeTzif sampleV2).length → parse ((encodeTzif sampleV2).take k) = .err)
      ∧ (∀ k, k < (encodeTzif sampleV3).length → parse ((encodeTzif sampleV3).take k) = .err) := by
  constructor
  · intro k hk
    by_cases e : k = footerStart sampleV2 + 1
    · rw [e]; exact truncated_after_footer_newline_accepted_pinned_before_F36.2.2.1
    · exact rejects_truncated_samples.2.1 k hk e
  · intro k hk
    by_cases e : k = footerStart sampleV3 + 1
    · rw [e]; exact truncated_after_footer_newline_accepted_pinned_before_F36.2.2.2.1
    · exact rejects_truncated_samples.2.2 k hk e

/-! #### clause 5 outside C05's `InsideYear` class (G4) -/

/-- `tzif_roundtrip_v2` (the `RuleAgrees` form) on a version-3 file with a PERMANENT-daylight-time
footer of the kind zic emits (`EST5EDT,0/0,J365/25`): the footer is in the grammar with the extensions
only (25:00:00), the rule is NOT in C05's class (`¬ TzL.RuleOk`, so `tzif_roundtrip_v2_spec` does not
apply), the rule agrees with the last transition, and the file is read back exactly -/
theorem roundtrip_permanent_dst :
    ¬ Proofs.TzL.RuleOk (some rulePerm)
      ∧ from_tz_string samplePerm.footer true = .ok rulePerm
      ∧ from_tz_string samplePerm.footer false = .err
      ∧ RuleAgrees (absBlock samplePerm.v2 (some rulePerm))
      ∧ parse (encodeTzif samplePerm) = .ok (absBlock samplePerm.v2 (some rulePerm)) := by
  have hd : from_tz_string samplePerm.footer true = .ok rulePerm := by decide +kernel
  have hag : RuleAgrees (absBlock samplePerm.v2 (some rulePerm)) := by
    intro rule last h1 h2
    cases h1
    have e : (absBlock samplePerm.v2 (some rulePerm)).transitions.getLast? = some ⟨1700000000, 0⟩ := by decide
    rw [e] at h2
    cases h2
    exact ⟨1700000000, ⟨-14400, true, some (asc "EDT")⟩, by decide, by decide, by decide +kernel⟩
  refine ⟨?_, hd, by decide +kernel, hag, ?_⟩
  · intro hr
    have h23 : Spec.Zone.InsideYearAt _ 2023 := hr.2.2 2023
    revert h23
    decide +kernel
  · exact tzif_roundtrip_v2 samplePerm (by decide)
      ⟨by decide, by decide, by decide, by decide, by decide, by decide, by decide, by decide⟩
      ⟨by decide, by decide, by decide, by decide, by decide, by decide, by decide, by decide⟩
      ⟨by decide +kernel, by decide +kernel, by decide +kernel, by decide +kernel⟩ _
      (Or.inr ⟨rulePerm, rfl, tz_accepts_only _ _ _ hd⟩)
      (show True from trivial) (by decide) (by decide) hag

/-- non-vacuity of `accepted_decode` / `accepted_footer` / `rejects_bad_version2` on real shapes: the
version-2 sample is what its second block says, with the rule its footer denotes WITHOUT extensions;
an unknown second version byte (`'4'`) is refused -/
example :
    absBlock sampleV2.v2 (some sampleRule2)
        = decodeBlock 8 .V2 ((encodeTzif sampleV2).drop (announcedLen 4 (encodeTzif sampleV2))) (some sampleRule2)
      ∧ secondVersion (encodeTzif sampleV2) = some .V2
      ∧ secondVersion ((encodeTzif sampleV2).set (announcedLen 4 (encodeTzif sampleV2) + 4) 52) = none
      ∧ parse ((encodeTzif sampleV2).set (announcedLen 4 (encodeTzif sampleV2) + 4) 52) = .err := by
  refine ⟨by decide +kernel, by decide +kernel, by decide +kernel, ?_⟩
  exact rejects_bad_version2 _ (by decide +kernel) (by decide +kernel)

end Chrono.Props.C16
