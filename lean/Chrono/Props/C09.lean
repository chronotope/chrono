/-
  C09 — default text forms parse back to the same value.

  Vocabulary.  `Spec.Text` (Spec/TextFormsSpec.lean) writes down the text of each value straight from
  the property statement: `dateTextOf d`, `timeText t`, `naiveText sep dt` (`sep` = 84 `T` for `Debug`,
  32 space for `Display`), `offsetText off`.  `TextForms.*_debug` / `*_display` are the models of chrono's
  `Debug` / `Display` impls, `TextForms.*_from_str` the models of its `FromStr` impls
  (Model/TextForms.lean, Model/TextFormsExt.lean, compared with the crate by the `tx.*`
  correspondence).  For `NaiveDate`, `NaiveTime` and `FixedOffset` `Display` forwards to `Debug`
  (`date_display`, `time_display`, `offset_display`; `roundtrip_Display_forms` — definitional).
  `Spec.Shape` (Spec/TextShapeSpec.lean) states the shape clause of the property as predicates on a
  byte string (`DateShape`, `TimeShapeOf`, `OffsetShape`); the `*_text_shape` theorems apply them to
  what the writers print.

  Side conditions of the property: `DateInv` / `TStrict` / `NDTInv` / `ZInv` are the representation
  invariants (a leap second only on second 59), `WholeMinute` the whole-minute offsets of less than a
  day.  For zone-aware values the wall clock must fall on a `NaiveDate`: `InRangeSecs (wallSecs z)` in
  specification terms (`roundtrip_DateTime_FixedOffset_spec`), `Zoned.naive_local z = .ok l` in the
  model's.  The values for which it does not are the known finding F25:
  `fixed_out_of_range_never_parses_back` (every such value, both range ends, both forms),
  `fixed_parses_back_iff` (the side condition is exact), witnesses further down.
-/
import Chrono.Proofs.TextFormsExtL
import Chrono.Proofs.TextFormsStL
import Chrono.Proofs.TextShapeL
import Chrono.Proofs.TextFormsCodeL
import Chrono.Proofs.TextFormsMoreL
import Chrono.Proofs.TextFormsSecsL
namespace Chrono.Props.C09
open Chrono Chrono.M Chrono.M.Format Chrono.M.TextForms
open Chrono.Proofs Chrono.Proofs.TextForms Chrono.Proofs.TextFormsExt Chrono.Spec Chrono.Spec.Text Chrono.Extracted
open Chrono.Spec.Shape Chrono.Proofs.TextShape

/-! ### data tie -/

/-- the model's item lists are the ones found in the Rust source on this run (dropped, reordered or
changed items of a `FromStr` impl make this fail on the re-extracted data); the variant names that the
derived `Debug` of `Weekday` / `Month` prints are the names `Display` / `Month::name` print -/
theorem items_match_source :
    DATE_ITEMS.map itemCode = Extracted.TF_ITEMS_naive_date ∧
    HOUR_AND_MINUTE.map itemCode = Extracted.TF_ITEMS_naive_time_hm ∧
    SECOND_AND_NANOS.map itemCode = Extracted.TF_ITEMS_naive_time_sn ∧
    TRAILING_WHITESPACE.map itemCode = Extracted.TF_ITEMS_naive_time_ws ∧
    DATETIME_ITEMS.map itemCode = Extracted.TF_ITEMS_naive_datetime ∧
    Parse.DATE_ITEMS.map itemCode = Extracted.TF_ITEMS_relaxed_date ∧
    Parse.TIME_ITEMS.map itemCode = Extracted.TF_ITEMS_relaxed_time ∧
    Extracted.TF_WEEKDAY_VARIANTS = Extracted.WEEKDAY_DISPLAY ∧
    Extracted.TF_MONTH_VARIANTS = Extracted.MONTH_NAMES := by decide

/-- **the item code is faithful** (audit gap L3): `itemCode` is injective on items and on item lists,
so the equalities of CODES in `items_match_source` pin the model's item lists themselves; `Numeric.all`
and `Fixed.all` list every variant; and the three index orders behind the code coincide — the model's
enumeration (`Numeric.all`, the first 19 = public entries of `Fixed.all`, `padIdx`), the tables
tools/extractors/textforms.py indexes into (`TF_*_INDEX`), and the variant order of the Rust enums
`Numeric` / `Fixed` / `Pad` in src/format/mod.rs as found on this run (`TF_*_ENUM`) -/
theorem item_codes_faithful :
    (∀ a b : Item, itemCode a = itemCode b → a = b) ∧
    (∀ l1 l2 : List Item, l1.map itemCode = l2.map itemCode → l1 = l2) ∧
    (∀ n : Numeric, n ∈ Numeric.all) ∧ (∀ f : Fixed, f ∈ Fixed.all) ∧
    Numeric.all.map (fun n => asciiBytes n.name) = TF_NUMERIC_INDEX ∧ TF_NUMERIC_INDEX = TF_NUMERIC_ENUM ∧
    (Fixed.all.take 19).map (fun f => asciiBytes f.name) = TF_FIXED_INDEX ∧ TF_FIXED_INDEX = TF_FIXED_ENUM ∧
    [Pad.none, Pad.zero, Pad.space].map padIdx = [0, 1, 2] ∧
    TF_PAD_INDEX = [asciiBytes "None", asciiBytes "Zero", asciiBytes "Space"] ∧ TF_PAD_INDEX = TF_PAD_ENUM :=
  ⟨TextFormsCode.itemCode_inj, TextFormsCode.itemCodes_inj, TextFormsCode.numeric_complete,
    TextFormsCode.fixed_complete, by decide +kernel, rfl, by decide +kernel, rfl, rfl, by decide +kernel, rfl⟩

/-- the item lists found in the Rust source determine the model's item lists: any item list with the
extracted codes IS the model's list -/
theorem items_determined_by_source (l : List Item) :
    (l.map itemCode = Extracted.TF_ITEMS_naive_date → l = DATE_ITEMS) ∧
    (l.map itemCode = Extracted.TF_ITEMS_naive_time_hm → l = HOUR_AND_MINUTE) ∧
    (l.map itemCode = Extracted.TF_ITEMS_naive_time_sn → l = SECOND_AND_NANOS) ∧
    (l.map itemCode = Extracted.TF_ITEMS_naive_time_ws → l = TRAILING_WHITESPACE) ∧
    (l.map itemCode = Extracted.TF_ITEMS_naive_datetime → l = DATETIME_ITEMS) ∧
    (l.map itemCode = Extracted.TF_ITEMS_relaxed_date → l = Parse.DATE_ITEMS) ∧
    (l.map itemCode = Extracted.TF_ITEMS_relaxed_time → l = Parse.TIME_ITEMS) := by
  obtain ⟨h1, h2, h3, h4, h5, h6, h7, _, _⟩ := items_match_source
  exact ⟨fun h => TextFormsCode.itemCodes_inj _ _ (h.trans h1.symm),
    fun h => TextFormsCode.itemCodes_inj _ _ (h.trans h2.symm),
    fun h => TextFormsCode.itemCodes_inj _ _ (h.trans h3.symm),
    fun h => TextFormsCode.itemCodes_inj _ _ (h.trans h4.symm),
    fun h => TextFormsCode.itemCodes_inj _ _ (h.trans h5.symm),
    fun h => TextFormsCode.itemCodes_inj _ _ (h.trans h6.symm),
    fun h => TextFormsCode.itemCodes_inj _ _ (h.trans h7.symm)⟩

/-! ### round trips -/

/-- **NaiveDate** (`Debug` = `Display`): for every date of the supported range the text is
`[sign]YYYY-MM-DD` as specified and `FromStr` reads it back as the same date -/
theorem roundtrip_NaiveDate (d : Date) (hd : DateInv d) :
    date_debug d = wok (dateTextOf d) ∧ date_from_str (dateTextOf d) = .ok (.ok d) := by
  obtain ⟨hvd, he⟩ := date_of_inv d hd
  have ht := dateTextOf_yo d.year d.ordinal.toNat hvd
  rw [← he] at ht
  rw [ht]
  refine ⟨?_, ?_⟩
  · conv => lhs; rw [he]
    exact date_debug_text _ _ ⟨hvd.1, hvd.2.1⟩ hvd.2.2
  · conv => rhs; rw [he]
    exact date_roundtrip _ _ hvd

example : DateInv (dateOfYo (-262143) 1) ∧ dateTextOf (dateOfYo (-262143) 1) = asciiBytes "-262143-01-01" ∧
    DateInv (dateOfYo 12345 60) ∧ dateTextOf (dateOfYo 12345 60) = asciiBytes "+12345-03-01" ∧
    dateTextOf (dateOfYo 0 366) = asciiBytes "0000-12-31" := by decide +kernel

/-- **NaiveTime** (`Debug` = `Display`): for every time of day, a leap second on second 59 included,
the text is `HH:MM:SS[.fraction]` as specified and `FromStr` reads it back as the same value -/
theorem roundtrip_NaiveTime (t : Time) (ht : TStrict t) :
    time_debug t = wok (timeText t) ∧ time_from_str (timeText t) = .ok t :=
  ⟨time_debug_text t ht.1, time_roundtrip t ht⟩

example : TStrict ⟨86399, 1500000000⟩ ∧ timeText ⟨86399, 1500000000⟩ = asciiBytes "23:59:60.500" ∧
    timeText ⟨3661, 1000⟩ = asciiBytes "01:01:01.000001" := by decide +kernel

/-- **NaiveDateTime, `Debug`** (date `T` time) reads back as the same value -/
theorem roundtrip_NaiveDateTime_debug (dt : NaiveDT) (h : NDTInv dt) (hs : TStrict dt.time) :
    naive_debug dt = wok (naiveText 84 dt) ∧ naive_from_str (naiveText 84 dt) = .ok (.ok dt) := by
  obtain ⟨hvd, he, ht, _⟩ := naive_of_inv dt h
  rw [ht]
  refine ⟨?_, ?_⟩
  · conv => lhs; rw [he]
    exact naive_debug_text _ _ hvd _ hs.1
  · conv => rhs; rw [he]
    exact naive_debug_roundtrip _ _ hvd _ hs

/-- **NaiveDateTime, `Display`** (date, space, time) does NOT read back: for every value `FromStr`
answers `Err(Invalid)` (it skips the space and then insists on a literal `T`).  Known finding F13: the
property asks for `.ok (.ok dt)` here; chrono's own suite pins the rejection. -/
theorem roundtrip_NaiveDateTime_display_fails (dt : NaiveDT) (h : NDTInv dt) (hs : TStrict dt.time) :
    naive_display dt = wok (naiveText 32 dt) ∧ naive_from_str (naiveText 32 dt) = .ok (.error .invalid) := by
  obtain ⟨hvd, he, _, ht⟩ := naive_of_inv dt h
  rw [ht]
  refine ⟨?_, ?_⟩
  · conv => lhs; rw [he]
    exact naive_display_text _ _ hvd _ hs.1
  · exact naive_display_rejected _ _ hvd _ hs

/-- the finding on the suite's own literal: `2015-09-18 23:56:04` -/
theorem naive_datetime_display_does_not_parse_back :
    naive_display ⟨dateOfYo 2015 261, ⟨86164, 0⟩⟩ = wok (asciiBytes "2015-09-18 23:56:04") ∧
    naive_from_str (asciiBytes "2015-09-18 23:56:04") = .ok (.error .invalid) ∧
    naive_from_str (asciiBytes "2015-09-18T23:56:04") = .ok (.ok ⟨dateOfYo 2015 261, ⟨86164, 0⟩⟩) := by
  have hi : NDTInv ⟨dateOfYo 2015 261, ⟨86164, 0⟩⟩ ∧ TStrict (⟨86164, 0⟩ : Time) := by
    unfold NDTInv; decide +kernel
  have t32 : naiveText 32 ⟨dateOfYo 2015 261, ⟨86164, 0⟩⟩ = asciiBytes "2015-09-18 23:56:04" := by decide +kernel
  have t84 : naiveText 84 ⟨dateOfYo 2015 261, ⟨86164, 0⟩⟩ = asciiBytes "2015-09-18T23:56:04" := by decide +kernel
  obtain ⟨a, b⟩ := roundtrip_NaiveDateTime_display_fails _ hi.1 hi.2
  obtain ⟨_, c⟩ := roundtrip_NaiveDateTime_debug _ hi.1 hi.2
  rw [t32] at a b
  rw [t84] at c
  exact ⟨a, b, c⟩

/-- **DateTime<FixedOffset>**, both forms: for a whole-minute offset and a wall clock `l` inside
`NaiveDate`'s range the text is the wall clock followed by `+hh:mm` (`Debug`), resp. by a space and
`+hh:mm` (`Display`), and `FromStr` reads either back as the same instant with the same offset -/
theorem roundtrip_DateTime_FixedOffset (z : Zoned) (hz : ZInv z) (hm : WholeMinute z.off)
    (hs : TStrict z.utc.time) (l : NaiveDT) (hl : Zoned.naive_local z = .ok l) :
    fixed_debug z = wok (naiveText 84 l ++ offsetText z.off) ∧
    fixed_from_str (naiveText 84 l ++ offsetText z.off) = .ok (.ok z) ∧
    fixed_display z = wok (naiveText 32 l ++ (32 :: offsetText z.off)) ∧
    fixed_from_str (naiveText 32 l ++ (32 :: offsetText z.off)) = .ok (.ok z) := by
  obtain ⟨_, _, _, _, _, hov⟩ := local_facts z hz hm.2.2 hs l hl
  obtain ⟨_, htail, hws, htrim, hT⟩ := offset_tail z.off hm
  obtain ⟨l', hov', _, _, _, _, _, hd, hp⟩ := fixed_texts_ext z hz hm hs
  obtain rfl : l = l' := by rw [hov] at hov'; injection hov'
  exact ⟨hd, fixed_from_text z hz hm.2.2 hs l hl 84 (Or.inl rfl) _ _ htail (by rw [htrim, htrim]) hT, hp,
    fixed_from_text z hz hm.2.2 hs l hl 32 (Or.inr rfl) _ _ (tailOk_cons 32 _ (by decide) (by decide))
      (by rw [trimStart_space _ hws, htrim]) hT⟩

/-! ### zone-aware values on the whole quantifier domain (audit gaps M1, M2)

`wallSecs z = instSecs z.utc + z.off` is the wall clock in whole seconds since the epoch and
`InRangeSecs s` says that the reading `s` falls on a date of `NaiveDate::MIN..=MAX`
(Spec/ZonedSpec.lean; plain arithmetic on day numbers, no chrono code).  Every well-formed value with a
whole-minute offset satisfies exactly one of `InRangeSecs (wallSecs z)` / `¬ InRangeSecs (wallSecs z)`;
the first case round-trips (`roundtrip_DateTime_FixedOffset_spec`), the second is the known finding F25
(`fixed_out_of_range_never_parses_back`). -/

/-- **DateTime<FixedOffset>, domain in specification terms.**  For every well-formed value with a
whole-minute offset whose wall clock falls on a `NaiveDate`, the wall clock `l` (the reading of
`wallSecs z` with the fraction field of `z`) is what both forms print, and `FromStr` reads either
form back as the same instant with the same offset.  Same conclusion as
`roundtrip_DateTime_FixedOffset`, with the side condition no longer phrased through the model's
`naive_local`. -/
theorem roundtrip_DateTime_FixedOffset_spec (z : Zoned) (hz : ZInv z) (hm : WholeMinute z.off)
    (hs : TStrict z.utc.time) (hr : InRangeSecs (wallSecs z)) :
    ∃ l, NDTInv l ∧ instSecs l = wallSecs z ∧ l.time.frac = z.utc.time.frac ∧
      fixed_debug z = wok (naiveText 84 l ++ offsetText z.off) ∧
      fixed_from_str (naiveText 84 l ++ offsetText z.off) = .ok (.ok z) ∧
      fixed_display z = wok (naiveText 32 l ++ (32 :: offsetText z.off)) ∧
      fixed_from_str (naiveText 32 l ++ (32 :: offsetText z.off)) = .ok (.ok z) := by
  obtain ⟨l, _, hext, h3, h4, _, _, _, h5, h6⟩ := local_facts_ext z hz hm.2.2 hs
  have hl : Zoned.naive_local z = .ok l := by rw [h5, if_pos hr]
  exact ⟨l, ⟨(dateInv_iff l.date).mpr ⟨hext.1, h6.mp hr⟩, hext.2⟩, h3, h4,
    roundtrip_DateTime_FixedOffset z hz hm hs l hl⟩

/-- the wall clock named by `roundtrip_DateTime_FixedOffset_spec` is unique: a well-formed naive
date-time is determined by its whole seconds and its fraction field -/
theorem wall_clock_unique (a b : NaiveDT) (ha : NDTInv a) (hb : NDTInv b)
    (h1 : instSecs a = instSecs b) (h2 : a.time.frac = b.time.frac) : a = b :=
  ndt_unique a b ⟨((dateInv_iff a.date).mp ha.1).1, ha.2⟩ ⟨((dateInv_iff b.date).mp hb.1).1, hb.2⟩ h1 h2

/-- non-vacuity of `roundtrip_DateTime_FixedOffset_spec`, on the last in-range wall-clock second:
`MAX_UTC` − 1 min seen at +00:01 -/
example : ZInv ⟨⟨Date.MAX, ⟨86339, 999999999⟩⟩, 60⟩ ∧ WholeMinute 60 ∧ TStrict (⟨86339, 999999999⟩ : Time) ∧
    InRangeSecs (wallSecs ⟨⟨Date.MAX, ⟨86339, 999999999⟩⟩, 60⟩) ∧
    wallSecs ⟨⟨Date.MAX, ⟨86339, 999999999⟩⟩, 60⟩ = SECS_MAX := by
  unfold ZInv NDTInv OffValid WholeMinute
  decide +kernel

/-- **Known finding F25, universally.**  For EVERY well-formed value with a whole-minute offset whose
wall clock does not fall on a `NaiveDate` (`¬ InRangeSecs (wallSecs z)`: the UTC reading is within
|offset| of `MIN_UTC` / `MAX_UTC`), both forms print the wall clock `l` of the extended calendar —
year `MIN_YEAR − 1 = -262144` or `MAX_YEAR + 1 = +262143`, same specified text shape — and `FromStr`
answers `Err(OutOfRange)` for the `Debug` and for the `Display` text.  The property asks for
`.ok (.ok z)`; together with `roundtrip_DateTime_FixedOffset_spec` this makes the side condition
exact (`fixed_parses_back_iff`). -/
theorem fixed_out_of_range_never_parses_back (z : Zoned) (hz : ZInv z) (hm : WholeMinute z.off)
    (hs : TStrict z.utc.time) (hr : ¬ InRangeSecs (wallSecs z)) :
    ∃ l, Zoned.overflowing_naive_local z = .ok l ∧ ExtNDTInv l ∧ instSecs l = wallSecs z ∧
      l.time.frac = z.utc.time.frac ∧
      (l.date.year = MIN_YEAR - 1 ∨ l.date.year = MAX_YEAR + 1) ∧
      Zoned.naive_local z = .panic ∧
      fixed_debug z = wok (naiveText 84 l ++ offsetText z.off) ∧
      fixed_from_str (naiveText 84 l ++ offsetText z.off) = .ok (.error .outOfRange) ∧
      fixed_display z = wok (naiveText 32 l ++ (32 :: offsetText z.off)) ∧
      fixed_from_str (naiveText 32 l ++ (32 :: offsetText z.off)) = .ok (.error .outOfRange) := by
  obtain ⟨l, hov, hext, h3, h4, hst, hv, he, h5, h6⟩ := local_facts_ext z hz hm.2.2 hs
  obtain ⟨_, htail, hws, htrim, hT⟩ := offset_tail z.off hm
  obtain ⟨l', hov', _, _, _, _, _, hd, hp⟩ := fixed_texts_ext z hz hm hs
  obtain rfl : l = l' := by rw [hov] at hov'; injection hov'
  have hY : ¬ (MIN_YEAR ≤ l.date.year ∧ l.date.year ≤ MAX_YEAR) := fun h => hr (h6.mpr h)
  have hyr : l.date.year = MIN_YEAR - 1 ∨ l.date.year = MAX_YEAR + 1 := by
    have := hv.1; have := hv.2.1; omega
  exact ⟨l, hov, hext, h3, h4, hyr, by rw [h5, if_neg hr], hd,
    fixed_from_text_oor l hv he hY hst z.off hz.2 84 (Or.inl rfl) _ _ htail (by rw [htrim, htrim]) hT, hp,
    fixed_from_text_oor l hv he hY hst z.off hz.2 32 (Or.inr rfl) _ _
      (tailOk_cons 32 _ (by decide) (by decide)) (by rw [trimStart_space _ hws, htrim]) hT⟩

/-- **the side condition is exact**: over the whole quantifier domain (well-formed value, whole-minute
offset, leap second only on second 59) the printed text — `Debug` or `Display` — of the wall clock `l`
reads back as the value if and only if the wall clock falls on a `NaiveDate` -/
theorem fixed_parses_back_iff (z : Zoned) (hz : ZInv z) (hm : WholeMinute z.off) (hs : TStrict z.utc.time) :
    ∃ l, Zoned.overflowing_naive_local z = .ok l ∧
      fixed_debug z = wok (naiveText 84 l ++ offsetText z.off) ∧
      fixed_display z = wok (naiveText 32 l ++ (32 :: offsetText z.off)) ∧
      (fixed_from_str (naiveText 84 l ++ offsetText z.off) = .ok (.ok z) ↔ InRangeSecs (wallSecs z)) ∧
      (fixed_from_str (naiveText 32 l ++ (32 :: offsetText z.off)) = .ok (.ok z) ↔ InRangeSecs (wallSecs z)) := by
  by_cases hr : InRangeSecs (wallSecs z)
  · obtain ⟨l, hov, _, _, _, _, _, _, h5, _⟩ := local_facts_ext z hz hm.2.2 hs
    have hl : Zoned.naive_local z = .ok l := by rw [h5, if_pos hr]
    obtain ⟨a, b, c, d⟩ := roundtrip_DateTime_FixedOffset z hz hm hs l hl
    exact ⟨l, hov, a, c, ⟨fun _ => hr, fun _ => b⟩, ⟨fun _ => hr, fun _ => d⟩⟩
  · obtain ⟨l, hov, _, _, _, _, _, a, b, c, d⟩ := fixed_out_of_range_never_parses_back z hz hm hs hr
    refine ⟨l, hov, a, c, ⟨fun h => ?_, fun h => absurd h hr⟩, ⟨fun h => ?_, fun h => absurd h hr⟩⟩
    · rw [b] at h; cases h
    · rw [d] at h; cases h

/-- F25 on the MIN side, both forms: `MIN_UTC` seen at -00:01 prints the wall-clock year -262144 -/
theorem fixed_local_before_min_does_not_parse_back :
    ZInv ⟨NaiveDT.MIN, -60⟩ ∧ WholeMinute (-60) ∧ TStrict NaiveDT.MIN.time ∧
    ¬ InRangeSecs (wallSecs ⟨NaiveDT.MIN, -60⟩) ∧
    fixed_debug ⟨NaiveDT.MIN, -60⟩ = wok (asciiBytes "-262144-12-31T23:59:00-00:01") ∧
    fixed_from_str (asciiBytes "-262144-12-31T23:59:00-00:01") = .ok (.error .outOfRange) ∧
    fixed_display ⟨NaiveDT.MIN, -60⟩ = wok (asciiBytes "-262144-12-31 23:59:00 -00:01") ∧
    fixed_from_str (asciiBytes "-262144-12-31 23:59:00 -00:01") = .ok (.error .outOfRange) := by
  have hz : ZInv ⟨NaiveDT.MIN, -60⟩ := by unfold ZInv NDTInv OffValid; decide +kernel
  have hm : WholeMinute (-60) := by unfold WholeMinute; decide
  have hs : TStrict NaiveDT.MIN.time := by decide +kernel
  have hr : ¬ InRangeSecs (wallSecs ⟨NaiveDT.MIN, -60⟩) := by decide +kernel
  obtain ⟨l, hov, _, _, _, _, _, a, b, c, d⟩ :=
    fixed_out_of_range_never_parses_back ⟨NaiveDT.MIN, -60⟩ hz hm hs hr
  have hl : Zoned.overflowing_naive_local ⟨NaiveDT.MIN, -60⟩ = .ok ⟨dateOfYo (-262144) 366, ⟨86340, 0⟩⟩ := by
    decide +kernel
  rw [hl] at hov
  injection hov with hov
  subst hov
  have t84 : naiveText 84 ⟨dateOfYo (-262144) 366, ⟨86340, 0⟩⟩ ++ offsetText (-60) =
      asciiBytes "-262144-12-31T23:59:00-00:01" := by decide +kernel
  have t32 : naiveText 32 ⟨dateOfYo (-262144) 366, ⟨86340, 0⟩⟩ ++ (32 :: offsetText (-60)) =
      asciiBytes "-262144-12-31 23:59:00 -00:01" := by decide +kernel
  rw [t84] at a b
  rw [t32] at c d
  exact ⟨hz, hm, hs, hr, a, b, c, d⟩

/-- F25 on the MAX side in the `Display` form (the `Debug` form is
`fixed_local_out_of_range_does_not_parse_back` below) -/
theorem fixed_local_after_max_display_does_not_parse_back :
    ¬ InRangeSecs (wallSecs ⟨NaiveDT.MAX, 60⟩) ∧
    fixed_display ⟨NaiveDT.MAX, 60⟩ = wok (asciiBytes "+262143-01-01 00:00:59.999999999 +00:01") ∧
    fixed_from_str (asciiBytes "+262143-01-01 00:00:59.999999999 +00:01") = .ok (.error .outOfRange) := by
  obtain ⟨hz, hm, hs, hr, hl⟩ := max_at_plus_one_minute
  obtain ⟨l, hov, _, _, _, _, _, _, _, c, d⟩ :=
    fixed_out_of_range_never_parses_back ⟨NaiveDT.MAX, 60⟩ hz hm hs hr
  rw [hl] at hov
  injection hov with hov
  subst hov
  have t32 : naiveText 32 ⟨dateOfYo 262143 1, ⟨59, 999999999⟩⟩ ++ (32 :: offsetText 60) =
      asciiBytes "+262143-01-01 00:00:59.999999999 +00:01" := by decide +kernel
  rw [t32] at c d
  exact ⟨hr, c, d⟩

/-- **DateTime<Local>, without assuming where the offset came from.**  `Local`'s values print through
the generic `DateTime<Tz>` impls with a `FixedOffset` as offset, and `FromStr for DateTime<Local>` is the
fixed-offset reader followed by `with_timezone(&Local)`.  For every value of the round-trip domain — the
offset field being ANY whole-minute offset, e.g. a foreign one put there by
`DateTime::<Local>::from_naive_utc_and_offset` — both texts are the `DateTime<FixedOffset>` texts, and
both read back as the same instant carrying the offset the zone prescribes at that instant
(`localOff z.utc`; the zone is a parameter, the zone database is not modelled).  So the text reads back
as the value exactly when the value's offset is the zone's (`↔` in the last two conjuncts). -/
theorem roundtrip_DateTime_Local_zone_offset (localOff : NaiveDT → Int) (z : Zoned) (hz : ZInv z)
    (hm : WholeMinute z.off) (hs : TStrict z.utc.time) (hr : InRangeSecs (wallSecs z)) :
    local_dt_debug z = fixed_debug z ∧ local_dt_display z = fixed_display z ∧
    ∃ l, NDTInv l ∧ instSecs l = wallSecs z ∧ l.time.frac = z.utc.time.frac ∧
      local_dt_debug z = wok (naiveText 84 l ++ offsetText z.off) ∧
      local_from_str localOff (naiveText 84 l ++ offsetText z.off) = .ok (.ok ⟨z.utc, localOff z.utc⟩) ∧
      local_dt_display z = wok (naiveText 32 l ++ (32 :: offsetText z.off)) ∧
      local_from_str localOff (naiveText 32 l ++ (32 :: offsetText z.off)) = .ok (.ok ⟨z.utc, localOff z.utc⟩) ∧
      (local_from_str localOff (naiveText 84 l ++ offsetText z.off) = .ok (.ok z) ↔ localOff z.utc = z.off) ∧
      (local_from_str localOff (naiveText 32 l ++ (32 :: offsetText z.off)) = .ok (.ok z) ↔
        localOff z.utc = z.off) := by
  obtain ⟨l, a1, a2, a3, b1, b2, b3, b4⟩ := roundtrip_DateTime_FixedOffset_spec z hz hm hs hr
  have e1 : local_dt_debug z = fixed_debug z := rfl
  have e2 : local_dt_display z = fixed_display z := rfl
  obtain ⟨r84, k84⟩ := TextFormsSt.local_from_str_of_fixed localOff _ z b2
  obtain ⟨r32, k32⟩ := TextFormsSt.local_from_str_of_fixed localOff _ z b4
  exact ⟨e1, e2, l, a1, a2, a3, e1.trans b1, r84, e2.trans b3, r32, k84, k32⟩

/-- **DateTime<Local>**, both forms: the round trip, under the hypothesis `hloc : localOff z.utc = z.off`
— the value's offset is the one the zone prescribes at its instant.  `hloc` is a HYPOTHESIS on the value,
not a fact about every `DateTime<Local>`: it holds for everything `Local` itself builds
(`from_utc_datetime`, `from_local_datetime`, `now`, `with_timezone(&Local)` — each asks the zone at the
value's instant), and fails for a value given a foreign offset through `from_naive_utc_and_offset`, which
by `roundtrip_DateTime_Local_zone_offset` reads back with the zone's offset instead
(`local_foreign_offset_does_not_parse_back`).  `DateTime<Local>` is not among the types the property
lists; the zone itself is a parameter. -/
theorem roundtrip_DateTime_Local (localOff : NaiveDT → Int) (z : Zoned) (hz : ZInv z) (hm : WholeMinute z.off)
    (hs : TStrict z.utc.time) (hr : InRangeSecs (wallSecs z)) (hloc : localOff z.utc = z.off) :
    local_dt_debug z = fixed_debug z ∧ local_dt_display z = fixed_display z ∧
    ∃ l, NDTInv l ∧ instSecs l = wallSecs z ∧ l.time.frac = z.utc.time.frac ∧
      local_dt_debug z = wok (naiveText 84 l ++ offsetText z.off) ∧
      local_from_str localOff (naiveText 84 l ++ offsetText z.off) = .ok (.ok z) ∧
      local_dt_display z = wok (naiveText 32 l ++ (32 :: offsetText z.off)) ∧
      local_from_str localOff (naiveText 32 l ++ (32 :: offsetText z.off)) = .ok (.ok z) := by
  obtain ⟨e1, e2, l, a1, a2, a3, b1, _, b3, _, k84, k32⟩ :=
    roundtrip_DateTime_Local_zone_offset localOff z hz hm hs hr
  exact ⟨e1, e2, l, a1, a2, a3, b1, k84.mpr hloc, b3, k32.mpr hloc⟩

/-- the negative witness (second review, G5): 2020-01-01T00:00:00 UTC held in a `DateTime<Local>` with
the foreign offset +01:00 while the zone is UTC prints `2020-01-01T01:00:00+01:00` and reads back as the
same instant with offset 0 — not the value (`==` on `DateTime` compares instants only) -/
theorem local_foreign_offset_does_not_parse_back :
    local_dt_debug ⟨⟨dateOfYo 2020 1, ⟨0, 0⟩⟩, 3600⟩ = wok (asciiBytes "2020-01-01T01:00:00+01:00") ∧
    local_from_str (fun _ => 0) (asciiBytes "2020-01-01T01:00:00+01:00") = .ok (.ok ⟨⟨dateOfYo 2020 1, ⟨0, 0⟩⟩, 0⟩) ∧
    local_from_str (fun _ => 0) (asciiBytes "2020-01-01T01:00:00+01:00") ≠ .ok (.ok ⟨⟨dateOfYo 2020 1, ⟨0, 0⟩⟩, 3600⟩) := by
  have hz : ZInv ⟨⟨dateOfYo 2020 1, ⟨0, 0⟩⟩, 3600⟩ := by unfold ZInv NDTInv OffValid; decide +kernel
  have hm : WholeMinute 3600 := by unfold WholeMinute; decide
  have hs : TStrict (⟨0, 0⟩ : Time) := by decide +kernel
  have hr : InRangeSecs (wallSecs ⟨⟨dateOfYo 2020 1, ⟨0, 0⟩⟩, 3600⟩) := by decide +kernel
  obtain ⟨_, _, l, a1, a2, a3, b1, b2, _, _, k84, _⟩ :=
    roundtrip_DateTime_Local_zone_offset (fun _ => 0) ⟨⟨dateOfYo 2020 1, ⟨0, 0⟩⟩, 3600⟩ hz hm hs hr
  have hl : l = ⟨dateOfYo 2020 1, ⟨3600, 0⟩⟩ :=
    wall_clock_unique l ⟨dateOfYo 2020 1, ⟨3600, 0⟩⟩ a1 (by unfold NDTInv; decide +kernel)
      (a2.trans (by decide +kernel)) a3
  subst hl
  have t84 : naiveText 84 ⟨dateOfYo 2020 1, ⟨3600, 0⟩⟩ ++ offsetText 3600 = asciiBytes "2020-01-01T01:00:00+01:00" := by
    decide +kernel
  rw [t84] at b1 b2 k84
  refine ⟨b1, b2, fun h => ?_⟩
  have := k84.mp h
  revert this
  decide

/-- **DateTime<Utc>**, both forms: the text is the UTC reading followed by `Z` (`Debug`), resp. by
` UTC` (`Display`), and `FromStr` reads either back as the same value -/
theorem roundtrip_DateTime_Utc (u : NaiveDT) (hu : NDTInv u) (hs : TStrict u.time) :
    utc_dt_debug u = wok (naiveText 84 u ++ [90]) ∧
    utc_from_str (naiveText 84 u ++ [90]) = .ok (.ok ⟨u, 0⟩) ∧
    utc_dt_display u = wok (naiveText 32 u ++ [32, 85, 84, 67]) ∧
    utc_from_str (naiveText 32 u ++ [32, 85, 84, 67]) = .ok (.ok ⟨u, 0⟩) := by
  obtain ⟨hz, hov, hl⟩ := utc_local u hu
  obtain ⟨l, hov', _, _, _, ht⟩ := zoned_texts ⟨u, 0⟩ hz
  obtain rfl : u = l := by rw [hov] at hov'; injection hov'
  have hf84 := fixed_from_text ⟨u, 0⟩ hz (by show (0 : Int) % 60 = 0; decide) hs u hl 84 (Or.inl rfl) [90] [90]
    (tailOk_cons 90 _ (by decide) (by decide)) (by decide) (by show _ = Except.ok ([], (0 : Int)); rfl)
  have hf32 := fixed_from_text ⟨u, 0⟩ hz (by show (0 : Int) % 60 = 0; decide) hs u hl 32 (Or.inr rfl)
    [32, 85, 84, 67] [85, 84, 67] (tailOk_cons 32 _ (by decide) (by decide)) (by decide)
    (by show _ = Except.ok ([], (0 : Int)); rfl)
  refine ⟨(ht utc_debug).1, ?_, (ht utc_display).2, ?_⟩
  · unfold utc_from_str; rw [hf84]; rfl
  · unfold utc_from_str; rw [hf32]; rfl

/-- non-vacuity of the zone-aware theorems: 2016-12-31T23:59:60.5Z seen at +05:30 -/
example : ZInv ⟨⟨dateOfYo 2016 366, ⟨86399, 1500000000⟩⟩, 19800⟩ ∧ WholeMinute 19800 ∧
    TStrict (⟨86399, 1500000000⟩ : Time) ∧
    Zoned.naive_local ⟨⟨dateOfYo 2016 366, ⟨86399, 1500000000⟩⟩, 19800⟩ =
      .ok ⟨dateOfYo 2017 1, ⟨19799, 1500000000⟩⟩ ∧
    naiveText 32 ⟨dateOfYo 2017 1, ⟨19799, 1500000000⟩⟩ ++ (32 :: offsetText 19800) =
      asciiBytes "2017-01-01 05:29:60.500 +05:30" := by
  unfold ZInv NDTInv OffValid WholeMinute
  decide +kernel

/-- **FixedOffset** (`Debug` = `Display`), all 2 879 whole-minute offsets of less than a day: the text
is `+hh:mm` / `-hh:mm` and `FromStr` reads it back as the same offset -/
theorem roundtrip_FixedOffset (off : Int) (h : WholeMinute off) :
    offset_debug off = offsetText off ∧ offset_from_str (offsetText off) = .ok off := by
  have b : off.natAbs / 3600 < 100 ∧ off.natAbs / 60 % 60 < 100 ∧
      (if off < 0 then -((off.natAbs : Int) - (off.natAbs : Int) % 60)
        else (off.natAbs : Int) - (off.natAbs : Int) % 60) = off := by
    have := h.1; have := h.2.1; have := h.2.2; omega
  refine ⟨offset_debug_text off h, ?_⟩
  have := offset_from_str_scan off ⟨h.1, h.2.1⟩ []
  rwa [b.2.2, List.append_nil, ← decN_two _ b.1, ← decN_two _ b.2.1] at this

example : WholeMinute (-34200) ∧ offsetText (-34200) = asciiBytes "-09:30" := by
  unfold WholeMinute; decide +kernel

/-! ### `Display` forwards to `Debug` (audit gap L2), the stateful `NaiveTime` reader (L4) -/

/-- **NaiveDate, NaiveTime, FixedOffset: the `Display` column.**  NOT a new fact: in the source each of
the three `Display` impls is the one-line forward `fmt::Debug::fmt(self, f)`, and its model
(`date_display`, `time_display`, `offset_display`, Model/TextFormsExt.lean) is the same forward, so the
middle conjuncts `*_display = *_debug` hold by DEFINITION (`rfl`) and the outer ones repeat
`roundtrip_NaiveDate` / `roundtrip_NaiveTime` / `roundtrip_FixedOffset`.  That the source forwards is
tied to the code by the pins of the three impls (Pins/C09) and by the harness comparing the `{}` column
of every value (and, in the exhaustive digests `tx.blockdate` / `tx.blocktime`, of every date and of
every second × fraction class), not by this theorem.  Kept so that the `Display` column the driver
prints is named in a theorem. -/
theorem roundtrip_Display_forms :
    (∀ d : Date, DateInv d → date_display d = wok (dateTextOf d) ∧ date_display d = date_debug d ∧
      date_from_str (dateTextOf d) = .ok (.ok d)) ∧
    (∀ t : Time, TStrict t → time_display t = wok (timeText t) ∧ time_display t = time_debug t ∧
      time_from_str (timeText t) = .ok t) ∧
    (∀ off : Int, WholeMinute off → offset_display off = offsetText off ∧ offset_display off = offset_debug off ∧
      offset_from_str (offsetText off) = .ok off) :=
  ⟨fun d hd => ⟨(roundtrip_NaiveDate d hd).1, rfl, (roundtrip_NaiveDate d hd).2⟩,
   fun t ht => ⟨(roundtrip_NaiveTime t ht).1, rfl, (roundtrip_NaiveTime t ht).2⟩,
   fun off h => ⟨(roundtrip_FixedOffset off h).1, rfl, (roundtrip_FixedOffset off h).2⟩⟩

/-- **NaiveTime's `FromStr` with the parse state threaded through.**  `time_from_str_st`
(Model/TextFormsExt.lean; the function the driver runs) carries the `Parsed` record of a failed
optional seconds run into the trailing-white-space parse and `to_naive_time`, as the code does;
`time_from_str` (used in the theorems above) drops it.  They agree on EVERY input, and the round trip
holds for the stateful reader -/
theorem time_from_str_stateful :
    (∀ s : List Nat, time_from_str_st s = time_from_str s) ∧
    (∀ t : Time, TStrict t → time_from_str_st (timeText t) = .ok t) :=
  ⟨TextFormsSt.time_from_str_st_eq,
   fun t ht => by rw [TextFormsSt.time_from_str_st_eq]; exact (roundtrip_NaiveTime t ht).2⟩

/-- the stateful reader on a leap second with a fraction, through the theorem -/
example : time_from_str_st (asciiBytes "23:59:60.500") = .ok ⟨86399, 1500000000⟩ := by
  have := time_from_str_stateful.2 ⟨86399, 1500000000⟩ (by decide)
  rwa [show timeText ⟨86399, 1500000000⟩ = asciiBytes "23:59:60.500" by decide +kernel] at this

/-! ### beyond the printed form: what `FromStr` accepts in addition (characterisations)

The property is about the printed form; its text also mentions the readers.  These theorems pin, for
every value, three spellings the readers accept that the writers never produce: a time of day without
seconds, the lower-case separator `t`, and `z` / `utc` for the zero offset. -/

/-- **NaiveTime without seconds**: `HH:MM` reads as `HH:MM:00`, for each of the 1 440 minutes of a day;
this is the path on which the optional seconds run fails (`time_from_str_st` and `time_from_str`
agree on it) -/
theorem NaiveTime_reads_without_seconds (h mi : Nat) (hh : h ≤ 23) (hmi : mi ≤ 59) :
    time_from_str (decN 2 h ++ [58] ++ decN 2 mi) = .ok ⟨(h : Int) * 3600 + (mi : Int) * 60, 0⟩ ∧
    time_from_str_st (decN 2 h ++ [58] ++ decN 2 mi) = .ok ⟨(h : Int) * 3600 + (mi : Int) * 60, 0⟩ := by
  have e : decN 2 h ++ [58] ++ decN 2 mi = RenderScan.two h ++ (58 :: RenderScan.two mi) := by
    rw [decN_two h (by omega), decN_two mi (by omega)]
    simp only [List.append_assoc, List.cons_append, List.nil_append]
  rw [TextFormsSt.time_from_str_st_eq, e]
  exact ⟨TextFormsMore.time_without_seconds h mi hh hmi, TextFormsMore.time_without_seconds h mi hh hmi⟩

example : decN 2 23 ++ [58] ++ decN 2 56 = asciiBytes "23:56" := by decide

/-- **outside the side condition "leap second only on second 59"** (a value only `with_nanosecond` can
build): the text is the canonical text of the ordinary time one second later, so `FromStr` returns THAT
value — a round trip is impossible, which is why the property (and `TStrict`) excludes these values -/
theorem NaiveTime_leap_off_59_reads_as_next_second (t : Time) (ht : TValid t) (hl : t.frac ≥ 1000000000)
    (h59 : t.secs % 60 ≠ 59) :
    TStrict ⟨t.secs + 1, t.frac - 1000000000⟩ ∧
    time_debug t = wok (timeText ⟨t.secs + 1, t.frac - 1000000000⟩) ∧
    time_from_str (timeText ⟨t.secs + 1, t.frac - 1000000000⟩) = .ok ⟨t.secs + 1, t.frac - 1000000000⟩ ∧
    (⟨t.secs + 1, t.frac - 1000000000⟩ : Time) ≠ t := by
  have hs : TStrict ⟨t.secs + 1, t.frac - 1000000000⟩ := by
    obtain ⟨t0, t1, t2, t3⟩ := ht
    exact ⟨⟨by dsimp only; omega, by dsimp only; omega, by dsimp only; omega, by dsimp only; omega⟩,
      Or.inl (by dsimp only; omega)⟩
  refine ⟨hs, ?_, (roundtrip_NaiveTime _ hs).2, ?_⟩
  · rw [TextFormsMore.time_debug_leap_off_59 t ht hl h59]; exact (roundtrip_NaiveTime _ hs).1
  · intro h
    have := congrArg Time.secs h
    dsimp only at this
    omega

example : TValid ⟨45240, 1500000000⟩ ∧ (45240 : Int) % 60 ≠ 59 ∧
    timeText ⟨45241, 500000000⟩ = asciiBytes "12:34:01.500" := by decide +kernel

/-- **outside the side condition "whole-minute offset"**: a `FixedOffset` with a seconds part prints
`±hh:mm:ss`, and `FixedOffset::from_str` — which does not look at what follows the minutes — returns
the offset truncated (toward zero) to a whole minute: never the value itself.  Universal over all
169 920 such offsets. -/
theorem FixedOffset_with_seconds_reads_truncated (off : Int) (h : -86400 < off ∧ off < 86400)
    (hs : off % 60 ≠ 0) :
    offset_debug off = (if off < 0 then 45 else 43) ::
      (decN 2 (off.natAbs / 3600) ++ [58] ++ decN 2 (off.natAbs / 60 % 60) ++ [58] ++ decN 2 (off.natAbs % 60)) ∧
    offset_display off = offset_debug off ∧
    offset_from_str (offset_debug off) =
      .ok (if off < 0 then -((off.natAbs : Int) - (off.natAbs : Int) % 60)
           else (off.natAbs : Int) - (off.natAbs : Int) % 60) ∧
    offset_from_str (offset_debug off) ≠ .ok off := by
  have e := offset_debug_eq off h
  rw [if_neg hs] at e
  have hr := offset_from_str_scan off h (58 :: RenderScan.two (off.natAbs % 60))
  rw [← e] at hr
  refine ⟨?_, rfl, hr, ?_⟩
  · rw [e, decN_two _ (by omega), decN_two _ (by omega), decN_two _ (by omega)]
    simp only [List.append_assoc, List.cons_append, List.nil_append]
  · rw [hr]
    intro he
    injection he with he
    split at he <;> omega

example : offset_debug 19815 = asciiBytes "+05:30:15" ∧ offset_debug (-61) = asciiBytes "-00:01:01" := by
  decide +kernel

/-- **outside the side condition "whole-minute offset", zone-aware values** (second review, G4): for
EVERY well-formed `DateTime<FixedOffset>` whose offset has a seconds part (any time of day, leap
representations included, wall clock in range or not) both forms print the wall clock `l` followed by
`±hh:mm:ss`, and `DateTime::from_str` answers `Err(TooLong)` for both — it reads `±hh:mm` as the offset
and finds `:ss` left over.  (Unlike `FixedOffset::from_str`, which ignores what follows and returns the
truncated offset: `FixedOffset_with_seconds_reads_truncated`.)  So no such value reads back, which is
why the property restricts the offset to whole minutes. -/
theorem DateTime_FixedOffset_with_seconds_rejected (z : Zoned) (hz : ZInv z) (h : z.off % 60 ≠ 0) :
    ∃ l, Zoned.overflowing_naive_local z = .ok l ∧ ExtNDTInv l ∧ instSecs l = wallSecs z ∧
      l.time.frac = z.utc.time.frac ∧
      fixed_debug z = wok (naiveText 84 l ++ offset_debug z.off) ∧
      fixed_from_str (naiveText 84 l ++ offset_debug z.off) = .ok (.error .tooLong) ∧
      fixed_display z = wok (naiveText 32 l ++ (32 :: offset_debug z.off)) ∧
      fixed_from_str (naiveText 32 l ++ (32 :: offset_debug z.off)) = .ok (.error .tooLong) := by
  obtain ⟨l, hov, hext, h3, h4, ht⟩ := zoned_texts z hz
  obtain ⟨hd, hp⟩ := ht (offset_debug z.off)
  obtain ⟨_, hv⟩ := ext_eq l.date hext.1
  have he := ndt_yo l hext.1
  obtain ⟨htail, htrim, v, hv1, hv2, hT⟩ := TextFormsSecs.offset_tail_secs z.off hz.2 h
  obtain ⟨htrim32, hrest⟩ := TextFormsSecs.offset_tail_secs_space z.off hz.2 h
  exact ⟨l, hov, hext, h3, h4, hd,
    TextFormsSecs.fixed_from_text_too_long l hv he hext.2 84 (Or.inr (Or.inl rfl)) _ _ _ v ⟨hv1, hv2⟩ hrest
      htail htrim hT, hp,
    TextFormsSecs.fixed_from_text_too_long l hv he hext.2 32 (Or.inr (Or.inr rfl)) _ _ _ v ⟨hv1, hv2⟩ hrest
      (tailOk_cons 32 _ (by decide) (by decide)) htrim32 hT⟩

/-- non-vacuity: the review's instance `2020-01-01T05:30:15+05:30:15` (midnight UTC seen at +05:30:15),
and a leap second landing on second 30 of the wall clock at -00:00:29 (printed as second 31) -/
example : ZInv ⟨⟨dateOfYo 2020 1, ⟨0, 0⟩⟩, 19815⟩ ∧ (19815 : Int) % 60 ≠ 0 ∧
    Zoned.overflowing_naive_local ⟨⟨dateOfYo 2020 1, ⟨0, 0⟩⟩, 19815⟩ = .ok ⟨dateOfYo 2020 1, ⟨19815, 0⟩⟩ ∧
    naiveText 84 ⟨dateOfYo 2020 1, ⟨19815, 0⟩⟩ ++ offset_debug 19815 = asciiBytes "2020-01-01T05:30:15+05:30:15" ∧
    ZInv ⟨⟨dateOfYo 2020 1, ⟨59, 1500000000⟩⟩, -29⟩ ∧
    Zoned.overflowing_naive_local ⟨⟨dateOfYo 2020 1, ⟨59, 1500000000⟩⟩, -29⟩ = .ok ⟨dateOfYo 2020 1, ⟨30, 1500000000⟩⟩ ∧
    naiveText 32 ⟨dateOfYo 2020 1, ⟨30, 1500000000⟩⟩ ++ (32 :: offset_debug (-29)) =
      asciiBytes "2020-01-01 00:00:31.500 -00:00:29" := by
  unfold ZInv NDTInv OffValid
  decide +kernel

/-- **DateTime<FixedOffset> with a lower-case `t`**: for every value of the round-trip domain the wall
clock written with `t` between date and time, followed by the offset, reads back as the value -/
theorem DateTime_FixedOffset_reads_lowercase_t (z : Zoned) (hz : ZInv z) (hm : WholeMinute z.off)
    (hs : TStrict z.utc.time) (hr : InRangeSecs (wallSecs z)) :
    ∃ l, NDTInv l ∧ instSecs l = wallSecs z ∧ l.time.frac = z.utc.time.frac ∧
      fixed_from_str (naiveText 116 l ++ offsetText z.off) = .ok (.ok z) := by
  obtain ⟨l, _, hext, h3, h4, _, _, _, h5, h6⟩ := local_facts_ext z hz hm.2.2 hs
  have hl : Zoned.naive_local z = .ok l := by rw [h5, if_pos hr]
  obtain ⟨_, htail, _, htrim, hT⟩ := offset_tail z.off hm
  exact ⟨l, ⟨(dateInv_iff l.date).mpr ⟨hext.1, h6.mp hr⟩, hext.2⟩, h3, h4,
    fixed_from_text3 z hz hm.2.2 hs l hl 116 (Or.inl rfl) _ _ htail (by rw [htrim, htrim]) hT⟩

/-- **DateTime<Utc> / zero offset in lower case**: `…t…z`, `…T…z`, `… utc` and `…Tutc`-less forms —
for every UTC value the Debug text with `t` and/or `z` in lower case and the Display text with `utc` in
lower case read back as the value (through `DateTime<Utc>`'s and `DateTime<FixedOffset>`'s `FromStr`) -/
theorem DateTime_Utc_reads_lowercase (u : NaiveDT) (hu : NDTInv u) (hs : TStrict u.time) :
    utc_from_str (naiveText 116 u ++ asciiBytes "z") = .ok (.ok ⟨u, 0⟩) ∧
    utc_from_str (naiveText 84 u ++ asciiBytes "z") = .ok (.ok ⟨u, 0⟩) ∧
    utc_from_str (naiveText 116 u ++ asciiBytes "Z") = .ok (.ok ⟨u, 0⟩) ∧
    utc_from_str (naiveText 32 u ++ asciiBytes " utc") = .ok (.ok ⟨u, 0⟩) ∧
    fixed_from_str (naiveText 116 u ++ asciiBytes "z") = .ok (.ok ⟨u, 0⟩) ∧
    fixed_from_str (naiveText 32 u ++ asciiBytes " utc") = .ok (.ok ⟨u, 0⟩) := by
  obtain ⟨hz, hov, hl⟩ := utc_local u hu
  have hm0 : (⟨u, 0⟩ : Zoned).off % 60 = 0 := by show (0 : Int) % 60 = 0; decide
  have f1 := fixed_from_text3 ⟨u, 0⟩ hz hm0 hs u hl 116 (Or.inl rfl) (asciiBytes "z") [122]
    (tailOk_cons 122 _ (by decide) (by decide)) (by decide) (by show _ = Except.ok ([], (0 : Int)); rfl)
  have f2 := fixed_from_text3 ⟨u, 0⟩ hz hm0 hs u hl 84 (Or.inr (Or.inl rfl)) (asciiBytes "z") [122]
    (tailOk_cons 122 _ (by decide) (by decide)) (by decide) (by show _ = Except.ok ([], (0 : Int)); rfl)
  have f3 := fixed_from_text3 ⟨u, 0⟩ hz hm0 hs u hl 116 (Or.inl rfl) (asciiBytes "Z") [90]
    (tailOk_cons 90 _ (by decide) (by decide)) (by decide) (by show _ = Except.ok ([], (0 : Int)); rfl)
  have f4 := fixed_from_text3 ⟨u, 0⟩ hz hm0 hs u hl 32 (Or.inr (Or.inr rfl)) (asciiBytes " utc")
    [117, 116, 99] (tailOk_cons 32 _ (by decide) (by decide)) (by decide)
    (by show _ = Except.ok ([], (0 : Int)); rfl)
  refine ⟨?_, ?_, ?_, ?_, f1, f4⟩
  · unfold utc_from_str; rw [f1]; rfl
  · unfold utc_from_str; rw [f2]; rfl
  · unfold utc_from_str; rw [f3]; rfl
  · unfold utc_from_str; rw [f4]; rfl

example : naiveText 116 ⟨dateOfYo 2015 261, ⟨86164, 500000000⟩⟩ ++ asciiBytes "z" =
    asciiBytes "2015-09-18t23:56:04.500z" := by decide +kernel

/-- **Weekday**: both the derived `Debug` name and the `Display` name read back -/
theorem roundtrip_Weekday (w : Weekday) :
    Weekday.parse (weekday_debug w) = some w ∧ Weekday.parse w.display = some w := by
  cases w <;> decide +kernel

/-- **Month**: both the derived `Debug` name and `Month::name` read back -/
theorem roundtrip_Month (m : Month) : Month.parse (month_debug m) = some m ∧ Month.parse m.name = some m := by
  cases m <;> decide +kernel

/-- `Utc` prints `Z` (`Debug`) and `UTC` (`Display`); both are accepted as the offset of a date-time
(`roundtrip_DateTime_Utc`) -/
theorem utc_names : utc_debug = asciiBytes "Z" ∧ utc_display = asciiBytes "UTC" := by decide

/-! ### shape of the printed form -/

/-- the year carries an explicit sign exactly outside 0..=9999 (`-` for negative years), and at least
four digits follow -/
theorem print_shape_year_sign (y : Int) (hy : -1000000 < y ∧ y < 1000000) :
    ((∃ ds, yearText y = 45 :: ds ∧ 4 ≤ ds.length) ↔ y < 0) ∧
    ((∃ ds, yearText y = 43 :: ds ∧ 4 ≤ ds.length) ↔ 9999 < y) ∧
    ((yearText y).length = 4 ∧ (∀ c ∈ yearText y, 48 ≤ c ∧ c ≤ 57) ↔ (0 ≤ y ∧ y ≤ 9999)) := by
  obtain ⟨w4, _, _⟩ := yearWidth_spec y.natAbs (by omega)
  have hdig : ∀ w n, ∀ c ∈ decN w n, 48 ≤ c ∧ c ≤ 57 := fun w n c hc =>
    (RenderScan.isDigit_iff c).mp (decN_allDigits w n c hc)
  unfold yearText
  by_cases h4 : 0 ≤ y ∧ y ≤ 9999
  · rw [if_pos h4]
    obtain ⟨tl, hd0⟩ := decN_cons 3 y.toNat
    refine ⟨⟨?_, fun h => by omega⟩, ⟨?_, fun h => by omega⟩, ⟨fun _ => h4, fun _ => ⟨decN_length _ _, hdig _ _⟩⟩⟩
    · rintro ⟨ds, h, _⟩; rw [hd0] at h; injection h with h _; omega
    · rintro ⟨ds, h, _⟩; rw [hd0] at h; injection h with h _; omega
  · rw [if_neg h4]
    by_cases hn : y < 0
    · rw [if_pos hn]
      refine ⟨⟨fun _ => hn, fun _ => ⟨_, rfl, by rw [decN_length]; exact w4⟩⟩,
        ⟨?_, fun h => by omega⟩, ⟨?_, fun h => absurd h h4⟩⟩
      · rintro ⟨ds, h, _⟩; injection h with h _; omega
      · rintro ⟨_, h⟩; have := h 45 (List.mem_cons_self ..); omega
    · rw [if_neg hn]
      refine ⟨⟨?_, fun h => absurd h hn⟩, ⟨fun _ => by omega, fun _ => ⟨_, rfl, by rw [decN_length]; exact w4⟩⟩,
        ⟨?_, fun h => absurd h h4⟩⟩
      · rintro ⟨ds, h, _⟩; injection h with h _; omega
      · rintro ⟨_, h⟩; have := h 43 (List.mem_cons_self ..); omega

/-- the fraction is printed with 0, 3, 6 or 9 digits; nothing is lost; no smaller choice loses nothing -/
theorem print_shape_fraction (nano : Nat) (_h : nano < 1000000000) :
    (fracDigits nano = 0 ∨ fracDigits nano = 3 ∨ fracDigits nano = 6 ∨ fracDigits nano = 9) ∧
    (fracText nano).length = (if fracDigits nano = 0 then 0 else fracDigits nano + 1) ∧
    nano / 10 ^ (9 - fracDigits nano) * 10 ^ (9 - fracDigits nano) = nano ∧
    (∀ k, k = 0 ∨ k = 3 ∨ k = 6 ∨ k = 9 → nano % 10 ^ (9 - k) = 0 → fracDigits nano ≤ k) := by
  obtain ⟨_, hc, hmul, _, hmin⟩ := fracDigits_spec nano _h
  refine ⟨hc, ?_, hmul, hmin⟩
  unfold fracText
  split
  · rfl
  · simp [decN_length]

/-- a leap second (fraction field ≥ 10⁹, on second 59) is printed as second 60 with the sub-second
part as fraction; any other value prints its own second, below 60 -/
theorem print_shape_leap_second (t : Time) (ht : TStrict t) :
    (t.frac ≥ 1000000000 → shownSecond t = 60 ∧ (shownNano t : Int) = t.frac - 1000000000) ∧
    (t.frac < 1000000000 → (shownSecond t : Int) = secondOf t ∧ shownSecond t < 60 ∧ (shownNano t : Int) = t.frac) := by
  obtain ⟨⟨t0, t1, t2, t3⟩, hl⟩ := ht
  unfold shownSecond shownNano secondOf
  constructor
  · intro h; rw [if_pos h]; omega
  · intro h; rw [if_neg (by omega)]; omega

/-! ### the shape of what the writers print (audit gap L1)

The three theorems above are about the specification's text functions.  Below, the shape predicates of
Spec/TextShapeSpec.lean (`DateShape`, `TimeShapeOf`, `OffsetShape`: plain statements about bytes,
digits and the numbers they denote — sign exactly outside 0..=9999, fewest of 0/3/6/9 exact fraction
digits, second 60 for a leap second) are stated directly on the output of the `Debug` / `Display`
models. -/

/-- NaiveDate, both forms: `[sign]YYYY-MM-DD` with the sign rule of the property -/
theorem NaiveDate_text_shape (d : Date) (hd : DateInv d) :
    ∃ s, date_debug d = wok s ∧ date_display d = wok s ∧
      DateShape d.year (monthOfYo d.year d.ordinal.toNat) (dayOfYo d.year d.ordinal.toNat) s := by
  obtain ⟨hvd, _⟩ := date_of_inv d hd
  obtain ⟨a1, a2, _, a4, _, a6⟩ := vd_month_day _ _ hvd
  exact ⟨_, (roundtrip_NaiveDate d hd).1, (roundtrip_NaiveDate d hd).1,
    dateShape_dateText _ ⟨a1, a2⟩ _ _ (by omega) (by omega)⟩

/-- NaiveTime, both forms: `HH:MM:SS[.fraction]`, minimal exact fraction, second 60 for a leap second -/
theorem NaiveTime_text_shape (t : Time) (ht : TStrict t) :
    ∃ s, time_debug t = wok s ∧ time_display t = wok s ∧ TimeShapeOf t s :=
  ⟨_, (roundtrip_NaiveTime t ht).1, (roundtrip_NaiveTime t ht).1, timeShape_timeText t ht⟩

/-- NaiveDateTime: date, `T` (`Debug`) or space (`Display`), time -/
theorem NaiveDateTime_text_shape (dt : NaiveDT) (h : NDTInv dt) (hs : TStrict dt.time) :
    ∃ ds ts, naive_debug dt = wok (ds ++ 84 :: ts) ∧ naive_display dt = wok (ds ++ 32 :: ts) ∧
      DateShape dt.date.year (monthOfYo dt.date.year dt.date.ordinal.toNat)
        (dayOfYo dt.date.year dt.date.ordinal.toNat) ds ∧ TimeShapeOf dt.time ts := by
  obtain ⟨hvd, _⟩ := date_of_inv dt.date h.1
  obtain ⟨a1, a2, _, a4, _, a6⟩ := vd_month_day _ _ hvd
  exact ⟨dateTextOf dt.date, timeText dt.time, (roundtrip_NaiveDateTime_debug dt h hs).1,
    (roundtrip_NaiveDateTime_display_fails dt h hs).1,
    dateShape_dateText _ ⟨a1, a2⟩ _ _ (by omega) (by omega), timeShape_timeText _ hs⟩

/-- DateTime<FixedOffset>, the WHOLE quantifier domain (the F25 band included: there the year shown
is -262144 or +262143, six digits with its sign): wall-clock date, `T` / space, wall-clock time,
nothing / space, `±hh:mm`; the wall clock `l` is the reading of `wallSecs z` on the extended calendar
with the fraction field of the value -/
theorem DateTime_FixedOffset_text_shape (z : Zoned) (hz : ZInv z) (hm : WholeMinute z.off)
    (hs : TStrict z.utc.time) :
    ∃ l ds ts os, ExtNDTInv l ∧ instSecs l = wallSecs z ∧ l.time.frac = z.utc.time.frac ∧
      fixed_debug z = wok (ds ++ 84 :: (ts ++ os)) ∧ fixed_display z = wok (ds ++ 32 :: (ts ++ 32 :: os)) ∧
      DateShape l.date.year (monthOfYo l.date.year l.date.ordinal.toNat)
        (dayOfYo l.date.year l.date.ordinal.toNat) ds ∧ TimeShapeOf l.time ts ∧ OffsetShape z.off os := by
  obtain ⟨l, _, hext, h3, h4, hst, hv, hd, hp⟩ := fixed_texts_ext z hz hm hs
  obtain ⟨a1, a2, _, a4, _, a6⟩ := vyo_month_day _ _ hv
  refine ⟨l, dateTextOf l.date, timeText l.time, offsetText z.off, hext, h3, h4, ?_, ?_,
    dateShape_dateText _ ⟨a1, a2⟩ _ _ (by omega) (by omega), timeShape_timeText _ hst,
    offsetShape_offsetText _ hz.2⟩
  · rw [hd]; simp only [naiveText, List.append_assoc, List.cons_append]
  · rw [hp]; simp only [naiveText, List.append_assoc, List.cons_append]

/-- DateTime<Utc>: date, `T` / space, time, `Z` / ` UTC` -/
theorem DateTime_Utc_text_shape (u : NaiveDT) (hu : NDTInv u) (hs : TStrict u.time) :
    ∃ ds ts, utc_dt_debug u = wok (ds ++ 84 :: (ts ++ asciiBytes "Z")) ∧
      utc_dt_display u = wok (ds ++ 32 :: (ts ++ asciiBytes " UTC")) ∧
      DateShape u.date.year (monthOfYo u.date.year u.date.ordinal.toNat)
        (dayOfYo u.date.year u.date.ordinal.toNat) ds ∧ TimeShapeOf u.time ts := by
  obtain ⟨hvd, _⟩ := date_of_inv u.date hu.1
  obtain ⟨a1, a2, _, a4, _, a6⟩ := vd_month_day _ _ hvd
  obtain ⟨b1, _, b3, _⟩ := roundtrip_DateTime_Utc u hu hs
  refine ⟨dateTextOf u.date, timeText u.time, ?_, ?_,
    dateShape_dateText _ ⟨a1, a2⟩ _ _ (by omega) (by omega), timeShape_timeText _ hs⟩
  · rw [b1]; simp only [naiveText, List.append_assoc, List.cons_append]; rfl
  · rw [b3]; simp only [naiveText, List.append_assoc, List.cons_append]; rfl

/-- FixedOffset, both forms: `±hh:mm` -/
theorem FixedOffset_text_shape (off : Int) (h : WholeMinute off) :
    offset_display off = offset_debug off ∧ OffsetShape off (offset_debug off) := by
  refine ⟨rfl, ?_⟩
  rw [(roundtrip_FixedOffset off h).1]
  exact offsetShape_offsetText off ⟨h.1, h.2.1⟩

/-- what the shape predicates say on concrete text: year 12345 shows `+` and five digits, a fraction
of 500 ms shows exactly `.500`, a leap second shows second 60; -0001 keeps four digits -/
example : DateShape 12345 3 1 (asciiBytes "+12345-03-01") ∧ ¬ DateShape 12345 3 1 (asciiBytes "12345-03-01") ∧
    TimeShapeOf ⟨86399, 1500000000⟩ (asciiBytes "23:59:60.500") ∧
    ¬ FracShape 500000000 (asciiBytes ".500000") ∧ ¬ FracShape 500000000 (asciiBytes ".5") ∧
    DateShape (-1) 12 31 (asciiBytes "-0001-12-31") := by
  refine ⟨?_, ?_, ?_, ?_, ?_, ?_⟩
  · have := dateShape_dateText 12345 (by omega) 3 1 (by omega) (by omega)
    rwa [show dateText 12345 3 1 = asciiBytes "+12345-03-01" by decide +kernel] at this
  · rintro ⟨ys, ms, ds, he, ⟨sign, dg, hy, _, _, _, _, _, hplus, _⟩, ⟨hml, _, _⟩, ⟨hdl, _, _⟩⟩
    have hsign : sign = [43] := hplus.mpr (by omega)
    subst hsign; subst hy
    have : asciiBytes "12345-03-01" = [49, 50, 51, 52, 53, 45, 48, 51, 45, 48, 49] := by decide
    rw [this] at he
    simp only [List.cons_append, List.nil_append, List.cons.injEq] at he
    omega
  · have := timeShape_timeText ⟨86399, 1500000000⟩ (by decide)
    rwa [show timeText ⟨86399, 1500000000⟩ = asciiBytes "23:59:60.500" by decide +kernel] at this
  · rintro (⟨h, _⟩ | ⟨_, k, ds, he, _, hl, _, _, hmin⟩)
    · omega
    · have : asciiBytes ".500000" = [46, 53, 48, 48, 48, 48, 48] := by decide
      rw [this] at he
      injection he with _ he
      subst he
      simp only [List.length_cons, List.length_nil] at hl
      have := hmin 3 (Or.inl rfl) (by omega)
      omega
  · rintro (⟨h, _⟩ | ⟨_, k, ds, he, _, hl, hk, _, _⟩)
    · omega
    · have : asciiBytes ".5" = [46, 53] := by decide
      rw [this] at he
      injection he with _ he
      subst he
      simp only [List.length_cons, List.length_nil] at hl
      omega
  · have := dateShape_dateText (-1) (by omega) 12 31 (by omega) (by omega)
    rwa [show dateText (-1) 12 31 = asciiBytes "-0001-12-31" by decide +kernel] at this

/-! ### known finding F25: a wall clock outside `NaiveDate`'s range -/

/-- `DateTime::<Utc>::MAX_UTC` seen at +00:01 prints the wall-clock year +262143 and `FromStr` answers
`Err(OutOfRange)` (the reader resolves the local date first); the side condition
`Zoned.naive_local z = .ok l` of `roundtrip_DateTime_FixedOffset` excludes exactly these values
(`fixed_parses_back_iff`; universal form `fixed_out_of_range_never_parses_back`, MIN side and
`Display` form `fixed_local_before_min_does_not_parse_back`,
`fixed_local_after_max_display_does_not_parse_back`) -/
theorem fixed_local_out_of_range_does_not_parse_back :
    ZInv ⟨NaiveDT.MAX, 60⟩ ∧ WholeMinute 60 ∧ TStrict NaiveDT.MAX.time ∧
    Zoned.naive_local ⟨NaiveDT.MAX, 60⟩ = .panic ∧
    fixed_debug ⟨NaiveDT.MAX, 60⟩ = wok (asciiBytes "+262143-01-01T00:00:59.999999999+00:01") ∧
    fixed_from_str (asciiBytes "+262143-01-01T00:00:59.999999999+00:01") = .ok (.error .outOfRange) := by
  obtain ⟨hz, hm, hs, hr, hl⟩ := max_at_plus_one_minute
  obtain ⟨l, hov, _, _, _, _, hp, a, b, _, _⟩ :=
    fixed_out_of_range_never_parses_back ⟨NaiveDT.MAX, 60⟩ hz hm hs hr
  rw [hl] at hov
  injection hov with hov
  subst hov
  have t84 : naiveText 84 ⟨dateOfYo 262143 1, ⟨59, 999999999⟩⟩ ++ offsetText 60 =
      asciiBytes "+262143-01-01T00:00:59.999999999+00:01" := by decide +kernel
  rw [t84] at a b
  exact ⟨hz, hm, hs, hp, a, b⟩

end Chrono.Props.C09
