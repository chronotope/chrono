/-
  C18 — `Local` uses the zone the environment names, and notices changes.
  Property statements only.  Model: `Chrono.M.LocalCache` (state machine with atomic steps, an
  abstract clock, the file system / rule reader / system zone name as parameters `World`).
  Specification: `Chrono.Spec.LocalCache` (`zoneFor`, `named`, `systemZone`, histories).
  Outside the model, hence not claimed: real thread scheduling, clock jumps,
  /etc/localtime changing without its mtime changing.
  Finding F33 (the cache keyed on a hash of the TZ text: a change between two colliding values was
  never noticed) is repaired in the crate; the cache — and the model — hold the text itself, and no
  theorem of this file assumes anything about a hash any more.  The pre-repair behaviour is pinned by
  `hash_collision_pinned_before_F33`.
-/
import Chrono.Proofs.LocalCacheNarrowL
import Chrono.Proofs.LocalCacheF33L
import Chrono.Proofs.LocalCacheWorldL

namespace Chrono.Props.C18
open Chrono.M.LocalCache Chrono.Spec.LocalCache Chrono.Proofs.LocalCache Chrono.Extracted.LocalCache
open Chrono.Proofs.LocalCacheWorld

/-- the constants re-extracted from the Rust source are the ones the property text names; and the
cache's environment source is the TEXT of TZ, compared as text, with no hasher in unix.rs (F33
repaired: if the hash comes back, the extractor writes `false` and this theorem fails) -/
theorem constants_ok :
    ZONE_INFO_DIRECTORIES = zoneinfoDirs ∧ TZDB_LOCATION = usrShareZoneinfo ∧
    LOCALTIME_NAME = localtimeWord ∧ UNSET_NAME = localtimeWord ∧
    LOCALTIME_PATH = etcLocaltime ∧ METADATA_PATH = etcLocaltime ∧ ENV_NAME = [84, 90] ∧
    FILE_PREFIX = colon ∧ REUSE_STRICT = true ∧ REUSE_SECS = 1 ∧ NANOS * REUSE_SECS = ONE_SECOND ∧
    ENV_SOURCE_IS_TEXT = true := by
  decide +kernel

/-- the zone `current_zone` builds is the zone the property demands, for every world and every
value of TZ (`none` = unset or not text) -/
theorem selection_spec (W : World) (tz : Option Bytes) :
    current_zone W tz = zoneFor W tz ∧ TimeZone.local W tz = named W tz :=
  ⟨current_zone_eq W tz, local_eq W tz⟩

/-- the selection table stated outright, one row per shape of TZ and per failure -/
theorem selection_table (W : World) :
    -- TZ unset: the system's /etc/localtime
    TimeZone.local W none = zoneIn W etcLocaltime ∧
    -- TZ empty: UTC
    TimeZone.local W (some []) = some .utc ∧
    -- TZ=localtime: /etc/localtime
    TimeZone.local W (some localtimeWord) = zoneIn W etcLocaltime ∧
    -- TZ=:/abs/path — that file, an error if it is missing, unreadable or not TZif
    (∀ p, TimeZone.local W (some (colon :: slash :: p)) =
        if exists_ W (slash :: p) = true then zoneIn W (slash :: p) else none) ∧
    -- TZ=:name — the first of the four zoneinfo directories that has the name; nothing else is tried
    (∀ n, n.head? ≠ some slash → TimeZone.local W (some (colon :: n)) =
        ((zoneinfoDirs.map (fun d => d ++ slash :: n)).find? (exists_ W)).bind (zoneIn W)) ∧
    -- TZ=name or /abs/path without colon, and such a file exists: that file (no rule reading)
    (∀ tz p, tz ≠ [] → tz ≠ localtimeWord → tz.head? ≠ some colon → fileNamed W tz = some p →
        TimeZone.local W (some tz) = zoneIn W p) ∧
    -- no such file: the POSIX rule the string holds (white space trimmed), an error if it is none
    (∀ tz, tz ≠ [] → tz ≠ localtimeWord → tz.head? ≠ some colon → fileNamed W tz = none →
        TimeZone.local W (some tz) = (W.rule (trimmed tz)).map (Zone.rule (trimmed tz))) ∧
    -- success is final; on an error the system zone, and finally UTC
    (∀ tz z, TimeZone.local W tz = some z → current_zone W tz = z) ∧
    (∀ tz, TimeZone.local W tz = none → current_zone W tz = (systemZone W).getD .utc) :=
  ⟨local_eq W none, rfl, by rw [local_eq]; rfl, row_colon_abs W, row_colon_rel W,
   fun tz p h0 h1 h2 hf => by rw [local_eq, named_plain W tz h0 h1 h2, hf],
   fun tz h0 h1 h2 hf => by rw [local_eq, named_plain W tz h0 h1 h2, hf],
   fun tz => (row_fallback W tz).1, fun tz => (row_fallback W tz).2⟩

/-- **Points the property text leaves open, as the code (and the specification) resolve them** —
behaviour a user would not infer from the statement:
1. a name that is both a file below a zoneinfo directory and a valid POSIX rule ("UTC", "EST5EDT") is
   read as the FILE, never as the rule — also when that file cannot be read or is not TZif (then: the
   system zone);
2. with a leading ':' the rule reader is never used: `:EST5EDT` with no such file is an error (system
   zone), not the rule;
3. "exists" means "can be opened": the FIRST candidate that exists decides, even if it is a directory
   or not TZif and a later zoneinfo directory holds a good file;
4. `TZ=localtime` (exactly, no colon) means /etc/localtime, not `<zoneinfo>/localtime`;
5. white space is trimmed only for the rule reading: the file lookup uses the string as it is. -/
theorem open_points_resolved (W : World) :
    (∀ tz p, tz ≠ [] → tz ≠ localtimeWord → tz.head? ≠ some colon → fileNamed W tz = some p →
      named W (some tz) = zoneIn W p ∧ (∀ s c, named W (some tz) ≠ some (.rule s c)) ∧
      (zoneIn W p = none → zoneFor W (some tz) = (systemZone W).getD .utc)) ∧
    (∀ n s c, named W (some (colon :: n)) ≠ some (.rule s c)) ∧
    (∀ n, fileNamed W n = (candidates n).find? (exists_ W)) ∧
    (∀ p, exists_ W p = true ↔ W.fs p ≠ .absent) ∧
    named W (some localtimeWord) = zoneIn W etcLocaltime ∧
    (∀ tz, tz ≠ [] → tz ≠ localtimeWord → tz.head? ≠ some colon → fileNamed W tz = none →
      named W (some tz) = (W.rule (trimmed tz)).map (Zone.rule (trimmed tz))) := by
  have hz : ∀ p s c, zoneIn W p ≠ some (.rule s c) := by
    intro p s c h
    unfold zoneIn at h
    split at h <;> simp at h
  refine ⟨?_, ?_, fun _ => rfl, ?_, rfl, ?_⟩
  · intro tz p h0 h1 h2 hf
    have e : named W (some tz) = zoneIn W p := by rw [named_plain W tz h0 h1 h2, hf]
    refine ⟨e, fun s c => by rw [e]; exact hz p s c, fun hn => ?_⟩
    unfold zoneFor; rw [e, hn]; rfl
  · intro n s c h
    rw [named_colon] at h
    cases hf : fileNamed W n with
    | none => rw [hf] at h; simp at h
    | some p => rw [hf] at h; exact hz p s c h
  · intro p; unfold exists_; simp
  · intro tz h0 h1 h2 hf
    rw [named_plain W tz h0 h1 h2, hf]

/-- the cache is reused exactly while less than one second has passed on a clock that did not go
backwards -/
theorem reuse_window (last now : Nat) :
    within_window last now = true ↔ last ≤ now ∧ now - last < ONE_SECOND :=
  within_window_iff last now

/-- **Every conversion uses the zone of a value TZ had within the last second.**  For every history
`h` of a process started with TZ = `e0` at clock `k0` (any mixture of changes of TZ, waiting,
conversions on any threads, threads starting) and a conversion made next on any thread `t` in either
direction: the history splits as `h = q ++ r` where less than one second passes in `r`, and the
conversion uses the zone demanded for the value TZ had after `q`.  (Model assumptions as everywhere in
this file: atomic steps, a clock that does not go backwards.  No assumption on the TZ values: the
cache compares the text of TZ, finding F33 repaired.) -/
theorem honoured_within_last_second (W : World) (e0 : EnvVal) (k0 : Nat) (h : List Step)
    (t : Nat) (localDir : Bool) :
    ∃ q r, h = q ++ r ∧ elapsed r < ONE_SECOND ∧
      zoneOfStep (step W (exec W (init e0 k0) h) (.convert t localDir)) =
        some (zoneFor W (env_var (envAfter e0 q))) :=
  honoured_within_last_second' W e0 k0 h t localDir

/-- **A change of TZ is honoured by EVERY conversion made at least one second later** — whatever
happens in between, further changes of TZ included: if the history is `a ++ [chg] ++ b` and at least
one second passes in `b`, the zone used is the one demanded for the value TZ had at some point `c` at
or after `chg` (and less than one second back): never the value from before `chg`. -/
theorem honoured_every_change (W : World) (e0 : EnvVal) (k0 : Nat) (a b : List Step) (chg : Step)
    (hwait : ONE_SECOND ≤ elapsed b) (t : Nat) (localDir : Bool) :
    ∃ c r, b = c ++ r ∧ elapsed r < ONE_SECOND ∧
      zoneOfStep (step W (exec W (init e0 k0) (a ++ chg :: b)) (.convert t localDir)) =
        some (zoneFor W (env_var (envAfter e0 (a ++ chg :: c)))) := by
  rw [List.append_cons]
  obtain ⟨c, r, h⟩ := honoured_in_tail W e0 k0 (a ++ [chg]) b hwait t localDir
  exact ⟨c, r, by rwa [List.append_cons a chg c]⟩

/-- the special case in which TZ does not change again after `chg` (the former main theorem): the
conversion uses the zone demanded for the current value of TZ -/
theorem honoured_after_1s (W : World) (e0 : EnvVal) (k0 : Nat) (p1 p2 : List Step) (chg : Step)
    (hno : ∀ x ∈ p2, isChange x = false)
    (hwait : ONE_SECOND ≤ elapsed p2) (t : Nat) (localDir : Bool) :
    zoneOfStep (step W (exec W (init e0 k0) (p1 ++ chg :: p2)) (.convert t localDir)) =
      some (zoneFor W (env_var (envAfter e0 (p1 ++ chg :: p2)))) := by
  rw [List.append_cons]
  exact honoured_after_quiet_second W e0 k0 (p1 ++ [chg]) p2 hno hwait t localDir

/-- formerly `honoured_after_1s` under a narrowed assumption on `DefaultHasher` (no earlier TZ value
shares its hash with the value the last change set).  Since the repair of F33 there is nothing left to
assume: the name is kept for the record and the statement is `honoured_after_1s` itself, for every
history and every value. -/
theorem honoured_after_1s_narrow (W : World) (e0 : EnvVal) (k0 : Nat) (p1 p2 : List Step) (chg : Step)
    (hno : ∀ x ∈ p2, isChange x = false) (hwait : ONE_SECOND ≤ elapsed p2)
    (t : Nat) (localDir : Bool) :
    zoneOfStep (step W (exec W (init e0 k0) (p1 ++ chg :: p2)) (.convert t localDir)) =
      some (zoneFor W (env_var (envAfter e0 (p1 ++ chg :: p2)))) :=
  honoured_after_1s W e0 k0 p1 p2 chg hno hwait t localDir

/-- **What the caller sees.**  The theorems above name the zone the cache lookup yields; a public
conversion returns what that one zone answers (`Lookups`: the zone's own lookup functions, C05/C16),
in the direction asked for.  For every history: both `offset_from_utc_datetime` and
`offset_from_local_datetime`, called next on any thread, return the answer of the zone demanded for
the value TZ had at a point less than one second back. -/
theorem honoured_result {β : Type} (L : Lookups β) (W : World) (e0 : EnvVal) (k0 : Nat) (h : List Step)
    (t : Nat) (d : Int) :
    ∃ q r, h = q ++ r ∧ elapsed r < ONE_SECOND ∧
      (Local.offset_from_utc_datetime L W (exec W (init e0 k0) h) t d).2 =
        L.utc (zoneFor W (env_var (envAfter e0 q))) d ∧
      (Local.offset_from_local_datetime L W (exec W (init e0 k0) h) t d).2 =
        L.loc (zoneFor W (env_var (envAfter e0 q))) d := by
  obtain ⟨q, r, e, hr, hz⟩ := honoured_within_last_second W e0 k0 h t false
  have hz' : (inner_offset W (exec W (init e0 k0) h) t).2.1 = zoneFor W (env_var (envAfter e0 q)) :=
    Option.some.inj hz
  exact ⟨q, r, e, hr, by show L.utc _ d = _; rw [hz'], by show L.loc _ d = _; rw [hz']⟩

/-- … and for a newly started thread: the answer of the zone demanded for the value TZ has at that
moment, in both directions -/
theorem new_thread_result {β : Type} (L : Lookups β) (W : World) (s0 : State) (pre mid : List Step)
    (t : Nat) (d : Int) (hmid : noConvertOn t mid = true) :
    (Local.offset_from_utc_datetime L W (exec W s0 (pre ++ .spawn t :: mid)) t d).2 =
      L.utc (zoneFor W (env_var (exec W s0 (pre ++ .spawn t :: mid)).env)) d ∧
    (Local.offset_from_local_datetime L W (exec W s0 (pre ++ .spawn t :: mid)) t d).2 =
      L.loc (zoneFor W (env_var (exec W s0 (pre ++ .spawn t :: mid)).env)) d := by
  have h := new_thread_immediate' W s0 pre mid t false hmid
  have hz : (inner_offset W (exec W s0 (pre ++ .spawn t :: mid)) t).2.1 =
      zoneFor W (env_var (exec W s0 (pre ++ .spawn t :: mid)).env) := by
    have := congrArg (Option.map Prod.fst) h
    exact Option.some.inj this
  exact ⟨by show L.utc _ d = _; rw [hz], by show L.loc _ d = _; rw [hz]⟩

/-- while TZ is never changed, every conversion uses the zone demanded for it (no assumption) -/
theorem honoured_without_change (W : World) (e0 : EnvVal) (k0 : Nat) (h : List Step)
    (hno : ∀ x ∈ h, isChange x = false) (t : Nat) (localDir : Bool) :
    zoneOfStep (step W (exec W (init e0 k0) h) (.convert t localDir)) = some (zoneFor W (env_var e0)) := by
  obtain ⟨q, r, e, _, hz⟩ := honoured_within_last_second W e0 k0 h t localDir
  rw [hz, envAfter_nochange e0 q (fun x hx => hno x (by rw [e]; exact List.mem_append_left _ hx))]

/-- the underlying invariant, for any reachable state: every cache was filled under some TZ value
of the history, and that value is the current one unless the cache was last checked before the last
change of TZ -/
theorem cache_invariant (W : World) (e0 : EnvVal) (k0 : Nat) (h : List Step) :
    Inv W (valuesOf e0 h) (exec W (init e0 k0) h) (ghostRun W (init e0 k0) 0 h) :=
  exec_ok W _ h _ 0 (init_ok W e0 k0 h) (stepIn_valuesOf e0 h)

/-- the invariant behind `honoured_within_last_second`, for any reachable state: environment and
clock are those of the history, and every cache records the point `q` of the history at which it was
last checked: `last_checked` is the clock after `q`, source and zone are those of TZ's value after `q` -/
theorem cache_records_history (W : World) (e0 : EnvVal) (k0 : Nat) (h : List Step) :
    HistInv W e0 k0 h (exec W (init e0 k0) h) := by
  have := exec_at W e0 k0 h [] (init e0 k0) (init_at W e0 k0)
  simpa using this

/-- A change of TZ is honoured immediately on a new thread: after thread `t` starts, whatever else
happens (changes of TZ, waiting, conversions on other threads, other threads starting), its first
conversion builds a fresh cache and uses the zone demanded for the value TZ has at that moment.
Any start state. -/
theorem new_thread_immediate (W : World) (s0 : State) (pre mid : List Step) (t : Nat) (localDir : Bool)
    (hmid : noConvertOn t mid = true) :
    (step W (exec W s0 (pre ++ .spawn t :: mid)) (.convert t localDir)).2 =
      some (zoneFor W (env_var (exec W s0 (pre ++ .spawn t :: mid)).env), .created) :=
  new_thread_immediate' W s0 pre mid t localDir hmid

/-- No conversion mixes two zones: each public conversion performs one cache lookup; its result is
the lookup function applied to one zone value `z`, which is the zone the thread's cache holds when
the call returns and the zone the step reports. -/
theorem one_zone_per_conversion {β : Type} (L : Lookups β) (W : World) (s : State) (t : Nat) (d : Int) :
    ∃ z : Zone,
      (Local.offset_from_utc_datetime L W s t d).2 = L.utc z d ∧
      (Local.offset_from_local_datetime L W s t d).2 = L.loc z d ∧
      ((Local.offset_from_utc_datetime L W s t d).1.caches t).map Cache.zone = some z ∧
      ((Local.offset_from_local_datetime L W s t d).1.caches t).map Cache.zone = some z ∧
      zoneOfStep (step W s (.convert t false)) = some z ∧ zoneOfStep (step W s (.convert t true)) = some z :=
  ⟨(inner_offset W s t).2.1, rfl, rfl, inner_offset_cached W s t, inner_offset_cached W s t, rfl, rfl⟩

/-- **Every public entry point performs exactly one zone lookup.**  `Api.*` (Model/LocalCache.lean)
writes `impl TimeZone for Local`, `Local::now` and the trait defaults they reach as the calls they
make, over a state that counts `inner::offset_from_*_datetime` calls.  For each of the eight entry
points: the counter goes up by exactly one; the process state afterwards is that of one cache lookup;
the answer is the lookup function of the right direction (UTC → `L.utc`, local → `L.loc`; the date
forms ask at midnight, `now` at the instant `Utc::now()` returned) applied to the one zone that lookup
yielded, which is the zone left in the thread's cache.  Hence no conversion mixes two zones, and none
uses the wrong direction.  (Driver op `lc.off` runs these functions; the harness compares their answer
with `Local`'s for readings where the two directions differ.) -/
theorem one_lookup_per_entry_point {β : Type} (L : Lookups β) (W : World) (c : Counted) (t : Nat) (d : Int) :
    OneLookup L W c t d false (Api.offset_from_utc_datetime L W c t d).1 (Api.offset_from_utc_datetime L W c t d).2 ∧
    OneLookup L W c t d true (Api.offset_from_local_datetime L W c t d).1 (Api.offset_from_local_datetime L W c t d).2 ∧
    OneLookup L W c t d false (Api.offset_from_utc_date L W c t d).1 (Api.offset_from_utc_date L W c t d).2 ∧
    OneLookup L W c t d true (Api.offset_from_local_date L W c t d).1 (Api.offset_from_local_date L W c t d).2 ∧
    (OneLookup L W c t d false (Api.from_utc_datetime L W c t d).1 (Api.from_utc_datetime L W c t d).2.2 ∧
      (Api.from_utc_datetime L W c t d).2.1 = d) ∧
    (OneLookup L W c t d true (Api.from_local_datetime L W c t d).1 (Api.from_local_datetime L W c t d).2.2 ∧
      (Api.from_local_datetime L W c t d).2.1 = d) ∧
    (OneLookup L W c t d false (Api.with_timezone L W c t d).1 (Api.with_timezone L W c t d).2.2 ∧
      (Api.with_timezone L W c t d).2.1 = d) ∧
    (OneLookup L W c t d false (Api.now L W c t d).1 (Api.now L W c t d).2.2 ∧ (Api.now L W c t d).2.1 = d) :=
  ⟨inner_counted_one L W c t d false, inner_counted_one L W c t d true, inner_counted_one L W c t d false,
   inner_counted_one L W c t d true, ⟨inner_counted_one L W c t d false, rfl⟩,
   ⟨inner_counted_one L W c t d true, rfl⟩, ⟨inner_counted_one L W c t d false, rfl⟩,
   ⟨inner_counted_one L W c t d false, rfl⟩⟩

/-! ### witnesses: non-vacuity, and that the hypotheses cannot be dropped -/

/-- a small world: two zone files, one rule, system zone "S" -/
def W0 : World :=
  { fs := fun p =>
      if p = [47, 97] then .data (some 1)                       -- "/a"
      else if p = usrShareZoneinfo ++ [47, 98] then .data (some 2)     -- zoneinfo "b"
      else if p = usrShareZoneinfo ++ [47, 83] then .data (some 9)     -- zoneinfo "S"
      else if p = etcLocaltime then .data (some 7)
      else if p = [47, 100] then .unreadable                    -- "/d"
      else if p = [47, 120] then .data none                     -- "/x": not TZif
      else .absent
    rule := fun s => if s = [88, 89, 90, 45, 51] then some 3 else none    -- "XYZ-3"
    sysName := some [83]
    ltMtime := some 5 }

/-- a stand-in for a colliding `DefaultHasher` (used only with the pre-repair rule): equal on strings
of equal length -/
def lenHash (b : Bytes) : Nat := b.length

/-- the table on concrete values (absolute path with and without colon, relative name, rule with
white space, empty, unset, directory, non-TZif file, garbage → system zone) -/
example :
    current_zone W0 (some [58, 47, 97]) = .tzif [47, 97] 1 ∧
    current_zone W0 (some [47, 97]) = .tzif [47, 97] 1 ∧
    current_zone W0 (some [98]) = .tzif (usrShareZoneinfo ++ [47, 98]) 2 ∧
    current_zone W0 (some [58, 98]) = .tzif (usrShareZoneinfo ++ [47, 98]) 2 ∧
    current_zone W0 (some [32, 88, 89, 90, 45, 51, 9]) = .rule [88, 89, 90, 45, 51] 3 ∧
    current_zone W0 (some []) = .utc ∧
    current_zone W0 none = .tzif etcLocaltime 7 ∧
    current_zone W0 (some [47, 100]) = .tzif (usrShareZoneinfo ++ [47, 83]) 9 ∧
    current_zone W0 (some [58, 47, 120]) = .tzif (usrShareZoneinfo ++ [47, 83]) 9 ∧
    current_zone W0 (some [58, 88, 89, 90, 45, 51]) = .tzif (usrShareZoneinfo ++ [47, 83]) 9 ∧
    current_zone { W0 with sysName := none } (some [103]) = .utc := by decide +kernel

/-- the hypotheses of `honoured_after_1s` are met by a real history, and the bound of one second
is sharp: 0.999999999 s after the change the same thread still answers with the old zone, one
nanosecond later with the new one; a thread started in between answers with the new one at once -/
theorem window_is_sharp :
    run W0 (init .unset 100)
      [.setTZ [47, 97], .convert 0 false, .setTZ [98], .advance 999999999, .convert 0 true,
       .spawn 1, .convert 1 false, .advance 1, .convert 0 false, .convert 1 true] =
      [(.tzif [47, 97] 1, .created), (.tzif [47, 97] 1, .reused),
       (.tzif (usrShareZoneinfo ++ [47, 98]) 2, .created),
       (.tzif (usrShareZoneinfo ++ [47, 98]) 2, .reloaded),
       (.tzif (usrShareZoneinfo ++ [47, 98]) 2, .reused)] := by decide +kernel

/-- histories with changes inside the last second.  First (the audit's example): set A; convert;
+0.6 s; set B; +0.6 s; set C; +0.5 s; convert — 1.1 s after B: `honoured_every_change` with `chg` =
set B says the zone is that of B or of C, never A; the cache is 1.7 s old, is re-read, and gives C.
Second: a conversion 0.4 s after B on a cache filled 0.5 s before B still answers A (0.9 s old:
`honoured_within_last_second` with `q` = the history up to the first conversion); 0.6 s later it has
moved on to the value set in between -/
example :
    run W0 (init .unset 100)
      [.setTZ [47, 97], .convert 0 false, .advance 600000000, .setTZ [98], .advance 600000000,
       .setTZ [88, 89, 90, 45, 51], .advance 500000000, .convert 0 false] =
      [(.tzif [47, 97] 1, .created), (.rule [88, 89, 90, 45, 51] 3, .reloaded)] ∧
    run W0 (init .unset 100)
      [.setTZ [47, 97], .convert 0 false, .advance 500000000, .setTZ [98], .advance 400000000,
       .convert 0 false, .setTZ [88, 89, 90, 45, 51], .advance 600000000, .convert 0 true] =
      [(.tzif [47, 97] 1, .created), (.tzif [47, 97] 1, .reused),
       (.rule [88, 89, 90, 45, 51] 3, .reloaded)] := by decide +kernel

/-- **PINNED PRE-FIX BEHAVIOUR — finding F33, repaired.**  This is NOT a statement about the present
code: it is about the refresh rule as it was before the repair (`BeforeF33`: the source of the cache
holds a hash of the TZ text and `out_of_date` compares hashes).  For every world, every hash function
and every two DISTINCT values `a`, `b` with equal hash: on the history "TZ = a; convert; TZ = b; `n` ≥
1 s pass; convert" (same thread, any directions) the second conversion used the zone demanded for `a`
(decision `rechecked`: the environment was re-read and judged unchanged) — where the property demands
the zone of `b`, which is what the model of the repaired code answers on the very same history
(`reloaded`).  On the real crate: a = `<lVhnH9Y>-02<fch>,M3.2.0,M11.1.0`, b =
`<MIa3-7z>-11<h7b>,M3.2.0,M11.1.0`, both a46d3dde525f155a under `DefaultHasher::new()`: 7200 instead
of 39600, for ever (harness: the directed colliding histories of c18.rs; seeded/REGRESS-F33). -/
theorem hash_collision_pinned_before_F33 (W : World) (hash : Bytes → Nat) (a b : Bytes)
    (hab : a ≠ b) (hcoll : hash a = hash b) (e0 : EnvVal) (k0 : Nat) (t : Nat) (l1 l2 : Bool)
    (n : Nat) (hn : ONE_SECOND ≤ n) :
    -- before the repair: a's zone both times
    BeforeF33.run W hash (BeforeF33.init e0 k0)
        [.setTZ a, .convert t l1, .setTZ b, .advance n, .convert t l2] =
      [(zoneFor W (some a), .created), (zoneFor W (some a), .rechecked)] ∧
    -- the repaired code (the model), and the property: b's zone
    run W (init e0 k0) [.setTZ a, .convert t l1, .setTZ b, .advance n, .convert t l2] =
      [(zoneFor W (some a), .created), (zoneFor W (some b), .reloaded)] ∧
    zoneOfStep (step W (exec W (init e0 k0) [.setTZ a, .convert t l1, .setTZ b, .advance n])
      (.convert t l2)) = some (zoneFor W (env_var (envAfter e0 [.setTZ a, .convert t l1, .setTZ b, .advance n]))) := by
  refine ⟨?_, ?_, ?_⟩
  · rw [← current_zone_eq]; exact BeforeF33.collision_unnoticed W hash a b hcoll e0 k0 t l1 l2 n hn
  · rw [← current_zone_eq, ← current_zone_eq]; exact collision_noticed W a b hab e0 k0 t l1 l2 n hn
  · exact honoured_after_1s W e0 k0 [.setTZ a, .convert t l1] [.advance n] (.setTZ b)
      (by intro x hx; simp at hx; subst hx; rfl) (by simp [elapsed]; exact hn) t l2

/-- the pinned behaviour is a real difference: in `W0` with a hash that is equal on "b" and "g" the
pre-repair rule answers zone file "b" 2 s and 3 s after TZ was set to "g" (no such file, no such rule:
the system zone "S" is demanded); the model of the repaired code answers "S" -/
theorem hash_collision_pinned_before_F33_witness :
    BeforeF33.run W0 lenHash (BeforeF33.init .unset 100)
      [.setTZ [98], .convert 0 false, .setTZ [103], .advance 2000000000, .convert 0 false,
       .advance 1000000000, .convert 0 false] =
      [(.tzif (usrShareZoneinfo ++ [47, 98]) 2, .created),
       (.tzif (usrShareZoneinfo ++ [47, 98]) 2, .rechecked),
       (.tzif (usrShareZoneinfo ++ [47, 98]) 2, .rechecked)] ∧
    lenHash [98] = lenHash [103] ∧
    zoneFor W0 (some [103]) = .tzif (usrShareZoneinfo ++ [47, 83]) 9 ∧
    run W0 (init .unset 100)
      [.setTZ [98], .convert 0 false, .setTZ [103], .advance 2000000000, .convert 0 false,
       .advance 1000000000, .convert 0 false] =
      [(.tzif (usrShareZoneinfo ++ [47, 98]) 2, .created),
       (.tzif (usrShareZoneinfo ++ [47, 83]) 9, .reloaded),
       (.tzif (usrShareZoneinfo ++ [47, 83]) 9, .rechecked)] := by decide +kernel

/-- the former `hash_collision_is_not_covered` ("the assumption on the hash cannot be dropped") turned
round: there is no assumption left, and values that collide under any hash one may think of are
honoured like any others — every two distinct values, every world -/
theorem hash_collision_is_covered (W : World) (a b : Bytes) (hab : a ≠ b) (e0 : EnvVal) (k0 : Nat)
    (t : Nat) (l1 l2 : Bool) (n : Nat) (hn : ONE_SECOND ≤ n) :
    run W (init e0 k0) [.setTZ a, .convert t l1, .setTZ b, .advance n, .convert t l2] =
      [(zoneFor W (some a), .created), (zoneFor W (some b), .reloaded)] := by
  rw [← current_zone_eq, ← current_zone_eq]; exact collision_noticed W a b hab e0 k0 t l1 l2 n hn

/-- same value set again, and unset → unset with an unchanged mtime: re-checked, zone kept;
environment ↔ /etc/localtime: reloaded -/
example :
    run W0 (init .unset 0)
      [.convert 0 false, .advance 1000000000, .convert 0 false, .setTZ [98], .advance 1500000000,
       .convert 0 false, .setTZ [98], .advance 1000000000, .convert 0 false, .setNotUnicode,
       .advance 1000000000, .convert 0 true] =
      [(.tzif etcLocaltime 7, .created), (.tzif etcLocaltime 7, .rechecked),
       (.tzif (usrShareZoneinfo ++ [47, 98]) 2, .reloaded),
       (.tzif (usrShareZoneinfo ++ [47, 98]) 2, .rechecked),
       (.tzif etcLocaltime 7, .reloaded)] := by decide +kernel

/-- the five points on concrete values: "b" is a zone file and (here) also a rule; ":XYZ-3" is not
read as a rule; "/d" (a directory) and "/x" (not TZif) exist and therefore decide; padded "b" is not
found as a file -/
example :
    current_zone { W0 with rule := fun _ => some 3 } (some [98]) = .tzif (usrShareZoneinfo ++ [47, 98]) 2 ∧
    current_zone W0 (some [58, 88, 89, 90, 45, 51]) = .tzif (usrShareZoneinfo ++ [47, 83]) 9 ∧
    current_zone W0 (some [88, 89, 90, 45, 51]) = .rule [88, 89, 90, 45, 51] 3 ∧
    current_zone { W0 with rule := fun _ => some 3 } (some [47, 100]) = .tzif (usrShareZoneinfo ++ [47, 83]) 9 ∧
    current_zone { W0 with rule := fun _ => some 3 } (some [47, 120]) = .tzif (usrShareZoneinfo ++ [47, 83]) 9 ∧
    current_zone { W0 with rule := fun s => if s = [98] then some 4 else none } (some [32, 98]) = .rule [98] 4 := by
  decide +kernel

/-- values "b" and "g" (equal under `lenHash`), then unset, then a third value: every change is
honoured one second later -/
example :
    run W0 (init .unset 100)
      [.setTZ [98], .convert 0 false, .setTZ [103], .advance 2000000000, .convert 0 false,
       .unsetTZ, .advance 1000000000, .convert 0 false,
       .setTZ [47, 97], .advance 1000000000, .convert 0 true] =
      [(.tzif (usrShareZoneinfo ++ [47, 98]) 2, .created),
       (.tzif (usrShareZoneinfo ++ [47, 83]) 9, .reloaded),
       (.tzif etcLocaltime 7, .reloaded), (.tzif [47, 97] 1, .reloaded)] := by decide +kernel

/-! ### second review, round 3: /etc/localtime changes under the running process (G2), entry points (G5),
a clock that goes backwards (G6) -/

/-- **"…and notices changes": the mtime branch.**  Histories over `StepW` (Model/LocalCacheWorld.lean):
the steps of the process plus `setMtime` (touch) and `replaceLocaltime` (/etc/localtime re-linked: new
mtime, new content, new system zone name).  If a step `chg` gives /etc/localtime the mtime `m1`, every
mtime it had before (from the start of the process on) was available and different from `m1`, TZ is
unset (or not text) at that point and is not changed afterwards, and at least one second passes in the
process's further steps `b` (waiting, conversions on any threads, threads starting), then the conversion
made next on ANY thread — one that converted before the change, inside the last second, or never — uses
the zone demanded with TZ unset in the world AFTER the change (`worldAfter`, written in the
specification without reference to the model's step function).  Before `chg` anything may happen: TZ set
and unset, earlier re-links.  What is assumed and is not a property of the crate: mtimes never repeat
(`hfresh`; see `same_mtime_not_noticed`) and the metadata is readable. -/
theorem mtime_change_honoured (W0 : World) (e0 : EnvVal) (k0 : Nat) (a : List StepW) (chg : StepW)
    (b : List Step) (m1 : Nat)
    (hchg : mtimeSetBy chg = some (some m1))
    (hfresh : ∀ m ∈ mtimesOf W0 a, ∃ m0, m = some m0 ∧ m0 ≠ m1)
    (hunset : env_var (envAfter e0 (baseSteps a)) = none)
    (hquiet : ∀ x ∈ b, isChange x = false)
    (hwait : ONE_SECOND ≤ elapsed b) (t : Nat) (localDir : Bool) :
    zoneOfStepW (stepW (execW (initW W0 e0 k0) (a ++ chg :: b.map StepW.base)) (.base (.convert t localDir))) =
      some (zoneFor (worldAfter W0 (a ++ [chg])) none) := by
  have hsplit : execW (initW W0 e0 k0) (a ++ chg :: b.map StepW.base) =
      execW (stepW (execW (initW W0 e0 k0) a) chg).1 (b.map StepW.base) := by
    rw [execW_append]; rfl
  rw [hsplit, execW_base]
  generalize hsa : execW (initW W0 e0 k0) a = sa
  obtain ⟨hs, hm⟩ := chg_is_world_step sa chg m1 hchg
  have hW : (stepW sa chg).1.W = worldAfter W0 (a ++ [chg]) := by
    rw [stepW_world, worldAfter_append, ← hsa, execW_world]; rfl
  have hB : Before m1 sa.s := by
    rw [← hsa]
    exact execW_before m1 a (initW W0 e0 k0) hfresh (fun t c h => by simp [initW, init] at h)
  have he : env_var sa.s.env = none := by
    rw [← hsa, execW_env]; exact hunset
  rw [hs, ← hW]
  show some (inner_offset _ (exec _ sa.s b) t).2.1 = _
  rw [honoured_after_mtime _ m1 hm sa.s he hB b hquiet hwait t, current_zone_eq]

/-- non-vacuity of `mtime_change_honoured`, and the window: TZ unset, convert (zone 7 of W0's
/etc/localtime, mtime 5); /etc/localtime replaced (mtime 6, content 8, system zone "b"); 0.999999999 s
later the same thread still answers 7, one nanosecond later 8 (`reloaded`); a thread that never
converted answers 8 at once; a touch (mtime 9, same content) is a reload to the same zone -/
example :
    runW (initW W0 .unset 100)
      [.base (.convert 0 false), .replaceLocaltime (some 6) (.data (some 8)) (some [98]),
       .base (.advance 999999999), .base (.convert 0 true), .base (.convert 1 false),
       .base (.advance 1), .base (.convert 0 false),
       .setMtime (some 9), .base (.advance 1000000000), .base (.convert 0 true)] =
      [(.tzif etcLocaltime 7, .created), (.tzif etcLocaltime 7, .reused), (.tzif etcLocaltime 8, .created),
       (.tzif etcLocaltime 8, .reloaded), (.tzif etcLocaltime 8, .reloaded)] ∧
    zoneFor (worldAfter W0 [.base (.convert 0 false), .replaceLocaltime (some 6) (.data (some 8)) (some [98])]) none =
      .tzif etcLocaltime 8 ∧
    mtimesOf W0 [.base (.convert 0 false)] = [some 5] := by decide +kernel

/-- **Declared limit, kernel-checked: /etc/localtime is noticed only through its mtime.**  In `W0`:
the file is replaced by another zone (content 8) but the link keeps mtime 5 — 2 s and 3 s later the
thread that converted before still answers the old zone 7 (`rechecked`), for ever; a new thread answers
8.  The hypothesis `hfresh` of `mtime_change_honoured` cannot be dropped.  (Real file systems stamp a
re-link with the current time, so this needs a forged or coarse mtime.) -/
theorem same_mtime_not_noticed :
    runW (initW W0 .unset 100)
      [.base (.convert 0 false), .replaceLocaltime (some 5) (.data (some 8)) (some [83]),
       .base (.advance 2000000000), .base (.convert 0 false), .base (.advance 1000000000),
       .base (.convert 0 true), .base (.convert 1 false)] =
      [(.tzif etcLocaltime 7, .created), (.tzif etcLocaltime 7, .rechecked),
       (.tzif etcLocaltime 7, .rechecked), (.tzif etcLocaltime 8, .created)] := by decide +kernel

/-- **A clock that went backwards never lets the cache be reused** (`now.duration_since(last_checked)`
answers `Err`, the `Ok(d) if d.as_secs() < 1` arm does not match): the source is re-read.  Stated for one
lookup from any cache; histories in this file only advance the clock. -/
theorem backwards_refreshes (W : World) (c : Cache) (now : Nat) (env : EnvVal)
    (hlt : now < c.last_checked) : (Cache.offset W c now env).2 ≠ .reused := by
  unfold Cache.offset
  rw [not_within_window (Or.inl hlt)]
  simp only [Bool.false_eq_true, if_false]
  split <;> simp

example : (Cache.offset W0 { zone := .utc, source := .localTime 5, last_checked := 10 } 9 .unset).2 = .rechecked ∧
    (Cache.offset W0 { zone := .utc, source := .localTime 4, last_checked := 10 } 9 .unset).2 = .reloaded := by
  decide +kernel

/-- **`honoured_result` at the entry points the property's `observe_at` names.**  `Local.from_utc_datetime`
and `Local.from_local_datetime` (the `TimeZone` defaults, `Api.*`), called next on any thread after any
history, with any value of the lookup counter: the reading itself, paired with what the zone demanded for
a value TZ had less than one second back answers in that direction. -/
theorem honoured_entry_points {β : Type} (L : Lookups β) (W : World) (e0 : EnvVal) (k0 : Nat)
    (h : List Step) (t : Nat) (d : Int) (n : Nat) :
    ∃ q r, h = q ++ r ∧ elapsed r < ONE_SECOND ∧
      (Api.from_utc_datetime L W ⟨exec W (init e0 k0) h, n⟩ t d).2 =
        (d, L.utc (zoneFor W (env_var (envAfter e0 q))) d) ∧
      (Api.from_local_datetime L W ⟨exec W (init e0 k0) h, n⟩ t d).2 =
        (d, L.loc (zoneFor W (env_var (envAfter e0 q))) d) ∧
      (Api.with_timezone L W ⟨exec W (init e0 k0) h, n⟩ t d).2 =
        (d, L.utc (zoneFor W (env_var (envAfter e0 q))) d) := by
  obtain ⟨q, r, e, hr, hu, hl⟩ := honoured_result L W e0 k0 h t d
  refine ⟨q, r, e, hr, ?_, ?_, ?_⟩
  · show (d, (Local.offset_from_utc_datetime L W (exec W (init e0 k0) h) t d).2) = _
    rw [hu]
  · show (d, (Local.offset_from_local_datetime L W (exec W (init e0 k0) h) t d).2) = _
    rw [hl]
  · show (d, (Local.offset_from_utc_datetime L W (exec W (init e0 k0) h) t d).2) = _
    rw [hu]

end Chrono.Props.C18
