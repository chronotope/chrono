/-
  C09, beyond the printed form and outside the side conditions: a time of day without seconds is read
  as `HH:MM:00`; a leap-second representation off second 59 prints like the following second.
-/
import Chrono.Proofs.TextFormsZonedL
namespace Chrono.Proofs.TextFormsMore
open Chrono Chrono.M Chrono.M.Scan Chrono.M.Format Chrono.M.TextForms
open Chrono.Proofs Chrono.Proofs.TextForms Chrono.Proofs.RenderScan Chrono.Spec Chrono.Spec.Text
open Chrono.Spec.Fields Chrono.Proofs.ParsedRes Chrono.Extracted

/-! ### NaiveTime without seconds -/

/-- the optional seconds run on empty text: the literal `:` is missing -/
theorem sn_on_nil (p : Parsed) : Parse.parseItemsBase p [] SECOND_AND_NANOS = .error .tooShort := rfl

/-- `HH:MM` reads as `HH:MM:00` -/
theorem time_without_seconds (h mi : Nat) (hh : h ≤ 23) (hmi : mi ≤ 59) :
    time_from_str (two h ++ (58 :: two mi)) = .ok ⟨(h : Int) * 3600 + (mi : Int) * 60, 0⟩ := by
  have e : two h ++ (58 :: two mi) = two h ++ (58 :: (two mi ++ [])) := by rw [List.append_nil]
  unfold time_from_str
  rw [e, parse_internal_base HOUR_AND_MINUTE hm_items_plain, hm_items Parsed.new rfl rfl rfl h mi hh hmi []]
  simp only
  rw [parse_internal_base SECOND_AND_NANOS sn_items_plain, sn_on_nil]
  simp only [Parse.parse, TRAILING_WHITESPACE]
  refine Chrono.Props.C14.time_complete _ _ ?_ ⟨?_, ?_, ?_, ⟨?_, ?_⟩, ?_, ?_⟩ ?_
  · refine ⟨⟨by dsimp only; omega, by dsimp only; omega, by dsimp only; omega, by dsimp only; omega⟩,
      Or.inl (by dsimp only; omega)⟩
  · intro x hx; injection hx with hx; unfold hourOf; dsimp only; omega
  · intro x hx; injection hx with hx; unfold hourOf; dsimp only; omega
  · intro x hx; injection hx with hx; unfold minuteOf; dsimp only; omega
  · intro x hx; cases hx
  · intro _; unfold secondOf; dsimp only; omega
  · intro x hx; cases hx
  · intro _; dsimp only; omega
  · unfold TimeSufficient; simp; intro h; exact absurd rfl h

/-! ### outside the side condition: a leap-second representation off second 59 -/

/-- a leap-second representation on a second other than 59 (only `with_nanosecond` builds one) prints
exactly like the ordinary time one second later -/
theorem time_debug_leap_off_59 (t : Time) (ht : TValid t) (hl : t.frac ≥ 1000000000) (h59 : t.secs % 60 ≠ 59) :
    time_debug t = time_debug ⟨t.secs + 1, t.frac - 1000000000⟩ := by
  obtain ⟨t0, t1, t2, t3⟩ := ht
  unfold time_debug Time.hms
  dsimp only
  have e1 : (t.secs + 1) / 60 / 60 = t.secs / 60 / 60 := by omega
  have e2 : (t.secs + 1) / 60 % 60 = t.secs / 60 % 60 := by omega
  have e3 : (t.secs + 1) % 60 = t.secs % 60 + 1 := by omega
  rw [e1, e2, e3, if_pos hl, if_pos hl, if_neg (by omega), if_neg (by omega)]

end Chrono.Proofs.TextFormsMore
