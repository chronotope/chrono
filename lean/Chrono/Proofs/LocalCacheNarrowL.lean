/-
  Helper lemmas for C18: the public entry points perform exactly one lookup.
  Core Lean only.
-/
import Chrono.Proofs.LocalCacheHistL
namespace Chrono.Proofs.LocalCache
open Chrono.M.LocalCache Chrono.Spec.LocalCache Chrono.Extracted.LocalCache

/-- what "one conversion = one lookup in one zone" means for an entry point with result `r`:
the counter went up by exactly one, the process state is the one after that one cache lookup, and the
answer is the lookup function of the asked direction applied to the zone that lookup yielded -/
def OneLookup {β : Type} (L : Lookups β) (W : World) (c : Counted) (t : Nat) (d : Int) (localDir : Bool)
    (c' : Counted) (ans : β) : Prop :=
  c'.calls = c.calls + 1 ∧ c'.s = (inner_offset W c.s t).1 ∧
  ans = (if localDir then L.loc (inner_offset W c.s t).2.1 d else L.utc (inner_offset W c.s t).2.1 d) ∧
  (c'.s.caches t).map Cache.zone = some (inner_offset W c.s t).2.1

theorem inner_counted_one {β : Type} (L : Lookups β) (W : World) (c : Counted) (t : Nat) (d : Int) (l : Bool) :
    OneLookup L W c t d l (inner_counted L W c t d l).1 (inner_counted L W c t d l).2 :=
  ⟨rfl, rfl, rfl, inner_offset_cached W c.s t⟩

end Chrono.Proofs.LocalCache
