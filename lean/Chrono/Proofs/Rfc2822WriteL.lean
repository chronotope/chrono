/-
  Helper lemmas for C11: the writer.  `write_rfc2822` / `to_rfc2822` produce the standard form
  of the wall-clock fields (C12's `offset_format_ok`, C01's accessors, C04's `naive_local_spec`), and the
  wall-clock fields of a value are showable, valid and denote the value truncated to whole seconds.
-/
import Chrono.Proofs.Rfc2822StdL
import Chrono.Proofs.FormatL
namespace Chrono.Proofs.Rfc2822
open Chrono Chrono.M Chrono.Spec Chrono.Spec.Rfc2822 Chrono.Extracted Chrono.M.Format

theorem wh_dec2 (n : Nat) (h : n < 100) : write_hundreds (asU8 (n : Int)) = wok (dec2 n) := by
  have e : asU8 (n : Int) = n := by unfold asU8; omega
  unfold write_hundreds dec2
  rw [e, if_neg (by omega)]
  have e1 : (48 + (n : Int) / 10).toNat = 48 + n / 10 := by omega
  have e2 : (48 + (n : Int) % 10).toNat = 48 + n % 10 := by omega
  rw [e1, e2]

theorem loc_tables :
    (∀ w : Weekday, LOC_SHORT_WEEKDAYS.getD w.num_days_from_sunday [] = dayNamesCap.getD w.toNat [] ∧
      weekdays[w.toNat]? = some w) ∧
    LOC_SHORT_MONTHS = monthNamesCap := by
  refine ⟨fun w => by cases w <;> decide, by decide⟩

theorem two_dec2 (n : Nat) (h : n < 100) : Strftime.two (n : Int) = dec2 n := by
  have a := FormatL.write_hundreds_ok n (by omega) (by omega)
  rw [wh_dec2 n h] at a
  injection a with a
  injection a with a
  exact a.symm

theorem shownZone_eq (off : Int) (h : -86400 < off ∧ off < 86400) : Strftime.renderOffset .plain off = shownZone off := by
  unfold Strftime.renderOffset shownZone
  have ha : off.natAbs < 86400 := by omega
  generalize off.natAbs = a at ha
  simp only []
  have e1 : ((a : Int) + 30) / 60 / 60 = (((a + 30) / 60 / 60 : Nat) : Int) := by omega
  have e2 : ((a : Int) + 30) / 60 % 60 = (((a + 30) / 60 % 60 : Nat) : Int) := by omega
  rw [e1, e2, two_dec2 _ (by omega), two_dec2 _ (by omega)]
  rfl

theorem stdText_eq (f : Rfc2822.Fields) (h : f.off % 60 = 0) : stdText f = stdHead f ++ shownZone f.off := by
  unfold stdText stdHead shownZone
  have ha : f.off.natAbs % 60 = 0 := by omega
  generalize f.off.natAbs = a at ha
  simp only []
  have e1 : (a + 30) / 60 / 60 = a / 3600 := by omega
  have e2 : (a + 30) / 60 % 60 = a / 60 % 60 := by omega
  rw [e1, e2]
  simp only [List.append_assoc]

theorem seq_wok' (a : List Nat) (b : W) : (wok a).seq b = match b with
    | .ok (some y) => .ok (some (a ++ y)) | r => r := rfl

/-- hour, minute and second of second `S` of a day: the writer's `secs / 60 / 60`, `secs / 60 % 60`,
`secs % 60` are the fields `wallFields` shows -/
theorem hms_of_sod (S : Int) (hS : 0 ≤ S ∧ S < 86400) :
    ∃ h mi s : Nat, (S / 3600).toNat = h ∧ (S / 60 % 60).toNat = mi ∧ (S % 60).toNat = s ∧
      S / 60 / 60 = h ∧ S / 60 % 60 = mi ∧ S % 60 = s ∧
      h ≤ 23 ∧ mi ≤ 59 ∧ s ≤ 59 ∧ (h : Int) * 3600 + (mi : Int) * 60 + s = S := by
  refine ⟨_, _, _, rfl, rfl, rfl, ?_⟩
  rw [Int.toNat_of_nonneg (show 0 ≤ S / 3600 by omega), Int.toNat_of_nonneg (show 0 ≤ S / 60 % 60 by omega),
    Int.toNat_of_nonneg (show 0 ≤ S % 60 by omega)]
  omega

/-- `sec + nanosecond / 1_000_000_000`: the leap flag carried into the seconds -/
theorem leap_carry (s : Nat) (frac : Int) (f0 : 0 ≤ frac) (f1 : frac < 2000000000) :
    (s : Int) + frac / 1000000000 = ((s + (if frac ≥ 1000000000 then 1 else 0) : Nat) : Int) := by
  split <;> omega

/-- `write_rfc2822` on a wall-clock reading: the standard form of its fields, an error outside years 0–9999 -/
theorem write_shape (l : NaiveDT) (off : Int) (Y : Int) (o : Nat) (hvyo : VYO Y o)
    (hl : l.date = dateOfYo Y o) (ht : TValid l.time) (hoff : OffValid off) :
    write_rfc2822 l off =
      if 0 ≤ Y ∧ Y ≤ 9999 then wok (stdHead (wallFields Y o l.time.secs l.time.frac off) ++ shownZone off)
      else werr := by
  obtain ⟨v1, v2, v3, v4⟩ := hvyo
  have hyl := yearLen_ge Y
  obtain ⟨fy, _, _⟩ := dateOfYo_fields Y o (by omega)
  obtain ⟨hm, hd, hval, _⟩ := month_day_spec Y o v3 v4
  unfold write_rfc2822
  simp only [hl, fy, hm, hd, W.ofRes]
  by_cases hr : 0 ≤ Y ∧ Y ≤ 9999
  · rw [if_neg (not_not.mpr hr), if_pos hr]
    -- every number written is a natural number below 100: bring each to that form, then `wh_dec2`
    obtain ⟨y, rfl⟩ := Int.eq_ofNat_of_zero_le hr.1
    have hy : y ≤ 9999 := Int.ofNat_le.mp hr.2
    have ty : Int.tdiv y 100 = ((y / 100 : Nat) : Int) := (Int.ofNat_tdiv y 100).symm
    have ty' : Int.tmod y 100 = ((y % 100 : Nat) : Int) := (Int.ofNat_tmod y 100).symm
    have hd31 := (valid_bounds _ _ _ hval).2
    have hd1 := (valid_pos _ _ _ hval).2
    have hwk : weekdayAt (dayNumYo y o) = some (dateOfYo y o).weekday := by
      unfold weekdayAt
      rw [← weekday_spec y o (by omega), Int.toNat_natCast]; exact (loc_tables.1 _).2
    obtain ⟨t0, t1, f0, f1⟩ := ht
    obtain ⟨h, mi, s, eh, emi, es, ih, imi, is, h23, mi59, s59, _⟩ := hms_of_sod l.time.secs ⟨t0, t1⟩
    have hofs := FormatL.offset_format_ok off hoff .plain .minutes .none (Or.inl ⟨rfl, rfl, Or.inr rfl⟩) false
    simp only [Bool.false_eq_true, false_and, if_false] at hofs
    rw [shownZone_eq off hoff] at hofs
    have hsec : s + (if l.time.frac ≥ 1000000000 then 1 else 0) < 100 := by split <;> omega
    simp only [Time.hms, Time.nanosecond, ih, imi, is, leap_carry s _ f0 f1, ty, ty',
      wh_dec2 _ (show y / 100 < 100 by omega), wh_dec2 _ (show y % 100 < 100 by omega),
      wh_dec2 h (by omega), wh_dec2 mi (by omega), wh_dec2 _ hsec, hofs, (loc_tables.1 _).1, loc_tables.2,
      FormatL.seq_wok]
    unfold stdHead wallFields secOf
    simp only [hwk, eh, emi, es, Int.toNat_natCast, Option.getD_some, List.append_assoc]
    by_cases h10 : dayOfYo y o < 10
    · have e : asU8 ((dayOfYo y o : Nat) : Int) = (dayOfYo y o : Nat) := by unfold asU8; omega
      have e2 : (48 + ((dayOfYo y o : Nat) : Int)).toNat = 48 + dayOfYo y o := by omega
      have e3 : pushChar (48 + dayOfYo y o) = [48 + dayOfYo y o] := by unfold pushChar; rw [if_pos (by omega)]
      simp only [h10, if_true, e, e2, e3, FormatL.seq_wok]
    · simp only [h10, if_false, wh_dec2 _ (show dayOfYo y o < 100 by omega), FormatL.seq_wok]
  · rw [if_pos hr, if_neg hr]


/-- the wall-clock reading of `z`, identified with any `(Y, o)` that is its wall-clock date -/
theorem wall_reading (z : Zoned) (hz : ZInv z) (Y : Int) (o : Nat) (hw : WallDate z Y o) :
    ∃ l, Zoned.overflowing_naive_local z = .ok l ∧ l.date = dateOfYo Y o ∧ VYO Y o ∧ TValid l.time ∧
      l.time.secs = wallSecs z % 86400 ∧ l.time.frac = z.utc.time.frac := by
  obtain ⟨l, h1, h2, h3, h4, _, _⟩ := naive_local_spec z hz
  obtain ⟨e, v1, v2, v3, v4⟩ := ext_eq l.date h2.1
  obtain ⟨t1, t2, _, _⟩ := h2.2
  have hsecs := instSecs_ext l h2.1
  rw [h3] at hsecs
  obtain ⟨w1, w2, w3⟩ := hw
  have hyl := yearLen_ge Y
  have hyl' := yearLen_ge l.date.year
  have hday : dayNumYo l.date.year l.date.ordinal.toNat = dayNumYo Y o := by rw [w3]; omega
  have hsod : l.time.secs = wallSecs z % 86400 := by omega
  have hdate := date_of_daynum_unique _ _ _ _ ⟨v3, v4⟩ ⟨w1, w2⟩ hday
  obtain ⟨a1, a2, _⟩ := dateOfYo_fields Y o (by omega)
  obtain ⟨b1, b2, _⟩ := dateOfYo_fields l.date.year l.date.ordinal.toNat (by omega)
  have hY : l.date.year = Y := by rw [← b1, hdate, a1]
  refine ⟨l, h1, by rw [e, hdate], ⟨by omega, by omega, w1, w2⟩, h2.2, hsod, h4⟩

/-- `write_rfc2822` on the wall-clock reading of a well-formed value (what `to_rfc2822` and the
`Fixed::RFC2822` item both call) -/
theorem write_wall (z : Zoned) (hz : ZInv z) (Y : Int) (o : Nat) (hw : WallDate z Y o) :
    ∃ l, Zoned.overflowing_naive_local z = .ok l ∧
      write_rfc2822 l z.off =
        if 0 ≤ Y ∧ Y ≤ 9999 then wok (stdHead (fieldsOf z Y o) ++ shownZone z.off) else werr := by
  obtain ⟨l, h1, h2, h3, h4, h5, h6⟩ := wall_reading z hz Y o hw
  exact ⟨l, h1, by rw [write_shape l z.off Y o h3 h2 h4 hz.2, h5, h6]; rfl⟩

/-- every well-formed value has a wall-clock date -/
theorem wallDate_exists (z : Zoned) (hz : ZInv z) : ∃ Y o, WallDate z Y o := by
  obtain ⟨l, _, h2, h3, _⟩ := naive_local_spec z hz
  obtain ⟨_, _, _, v3, v4⟩ := ext_eq l.date h2.1
  obtain ⟨t1, t2, _, _⟩ := h2.2
  have hsecs := instSecs_ext l h2.1
  rw [h3] at hsecs
  exact ⟨l.date.year, l.date.ordinal.toNat, v3, v4, by omega⟩


theorem weekdays_idx : ∀ k < 7, ∃ w, weekdays[k]? = some w ∧ w.toNat = k := by decide

/-- the seconds field shown for second `s` of a minute with leap flag `b`: 60 only for a leap second on
:59, which `localSecs` counts as 59; a leap flag on another second counts as the following second -/
theorem shown_sec (s : Nat) (hs : s ≤ 59) (b : Prop) [Decidable b] :
    s + (if b then 1 else 0) ≤ 60 ∧ (s + (if b then 1 else 0) = 60 ↔ b ∧ (s : Int) = 59) ∧
    (if s + (if b then 1 else 0) = 60 then 59 else ((s + (if b then 1 else 0) : Nat) : Int)) =
      s + (if b ∧ (s : Int) ≠ 59 then 1 else 0) := by
  by_cases hb : b
  · simp only [hb, if_true, true_and]
    refine ⟨by omega, by omega, ?_⟩
    by_cases h59 : (s : Int) = 59
    · rw [if_pos (by omega), if_neg (not_not.mpr h59)]; omega
    · rw [if_neg (by omega), if_pos h59]; omega
  · simp only [hb, if_false, false_and, iff_false]
    refine ⟨by omega, by omega, ?_⟩
    rw [if_neg (by omega)]; omega

/-- the fields shown for day `o` of a year `Y` in 0–9999, second `S` of the day, nanosecond field `frac`,
at a whole-minute offset: showable; valid as soon as the UTC reading is in range; the seconds field is 60
exactly for a leap second on :59; and the reading they spell is second `S` of that day, or the second
after it when the leap representation sits on a second other than :59 -/
theorem wallFields_facts (Y : Int) (o : Nat) (w1 : 1 ≤ o) (w2 : o ≤ yearLen Y) (hr : 0 ≤ Y ∧ Y ≤ 9999)
    (S frac off : Int) (hS : 0 ≤ S ∧ S < 86400) (hoff : off % 60 = 0) (ho : OffValid off) :
    StdFields (wallFields Y o S frac off) ∧
    (InRangeSecs (localSecs (wallFields Y o S frac off) - off) → Valid (wallFields Y o S frac off)) ∧
    (secOf (wallFields Y o S frac off) = 60 ↔ frac ≥ 1000000000 ∧ S % 60 = 59) ∧
    localSecs (wallFields Y o S frac off) =
      (dayNumYo Y o - EPOCH_DAY) * 86400 + S + (if frac ≥ 1000000000 ∧ S % 60 ≠ 59 then 1 else 0) := by
  obtain ⟨_, _, hval, hord⟩ := month_day_spec Y o w1 w2
  have hmb := valid_bounds Y _ _ hval
  have hvb := valid_pos Y _ _ hval
  have hwk : 0 ≤ weekdayOf (dayNumYo Y o) ∧ weekdayOf (dayNumYo Y o) < 7 := by unfold weekdayOf; omega
  obtain ⟨wd, hwd1, hwd2⟩ := weekdays_idx (weekdayOf (dayNumYo Y o)).toNat (by omega)
  have hwat : weekdayAt (dayNumYo Y o) = some wd := hwd1
  obtain ⟨h, mi, s, eh, emi, es, _, _, hs, h23, mi59, s59, hsum⟩ := hms_of_sod S hS
  have hf : wallFields Y o S frac off = ⟨some wd, dayOfYo Y o, monthOfYo Y o, Y, h, mi,
      some (s + (if frac ≥ 1000000000 then 1 else 0)), off⟩ := by
    unfold wallFields; rw [hwat, eh, emi, es]
  obtain ⟨s60, s60iff, sval⟩ := shown_sec s s59 (frac ≥ 1000000000)
  rw [hf, hs]
  refine ⟨?_, fun hin => ?_, s60iff, ?_⟩
  · exact ⟨⟨wd, rfl⟩, hvb.2, hmb.2, hvb.1, hmb.1, hr.1, hr.2, h23, mi59, ⟨_, rfl, s60⟩, hoff, ho.1, ho.2⟩
  · refine ⟨?_, ?_, hval, ?_, h23, mi59, s60, ho, hin⟩
    · exact Int.le_trans (by decide) hr.1
    · exact Int.le_trans hr.2 (by decide)
    · intro w hw
      cases hw
      show (wd.toNat : Int) = weekdayOf (dayNumYo Y (ordinalOf Y (monthOfYo Y o) (dayOfYo Y o)))
      rw [hord, hwd2]; exact Int.toNat_of_nonneg hwk.1
  · show (dayNumYo Y (ordinalOf Y (monthOfYo Y o) (dayOfYo Y o)) - EPOCH_DAY) * 86400 + (h : Int) * 3600
      + (mi : Int) * 60 + (if s + (if frac ≥ 1000000000 then 1 else 0) = 60 then 59
        else ((s + (if frac ≥ 1000000000 then 1 else 0) : Nat) : Int)) = _
    rw [hord, sval, ← hsum]
    simp only [Int.add_assoc]

end Chrono.Proofs.Rfc2822
