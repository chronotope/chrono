/-
  C15: result invariants of the date / time / date-time operations ("never builds an invalid value"),
  stated on any value satisfying the representation invariant.  Collected from C01, C03, C07, C08.
  Namespace `Chrono.Proofs.C15Arith`.
-/
import Chrono.Props.C01
import Chrono.Props.C03
import Chrono.Props.C06
import Chrono.Props.C07
import Chrono.Props.C08
import Chrono.Proofs.ParsedDateL
import Chrono.Proofs.TimestampL

namespace Chrono.Proofs.C15Arith
open Chrono Chrono.M Chrono.Spec Chrono.Proofs Chrono.Extracted Chrono.Proofs.Ts

/-- a `Res (Option α)` result: returned normally, and what it holds satisfies `P` -/
def OkAnd {α} (r : Res (Option α)) (P : α → Prop) : Prop := ∃ o, r = .ok o ∧ ∀ x, o = some x → P x

theorem okAnd_of {α} {r : Res (Option α)} {P : α → Prop} (o : Option α) (h : r = .ok o)
    (hp : ∀ x, o = some x → P x) : OkAnd r P := ⟨o, h, hp⟩

/-- `r >>= fun o => ok (o.map f)`: the shape of an operation that delegates to another on one part of its
operand and rebuilds the whole with `f` -/
theorem okAnd_map {α β} {r : Res (Option α)} {P : α → Prop} {Q : β → Prop} (f : α → β) (h : OkAnd r P)
    (hf : ∀ a, P a → Q (f a)) : OkAnd (r.bind fun o => .ok (o.map f)) Q := by
  obtain ⟨o, rfl, hp⟩ := h
  refine ⟨_, rfl, fun x hx => ?_⟩
  cases o with
  | none => cases hx
  | some a => cases hx; exact hf a (hp a rfl)

theorem of_ite_some {α} {c : Prop} [Decidable c] {a x : α} {P : α → Prop}
    (h : (if c then some a else none) = some x) (hp : c → P a) : P x := by
  split at h
  · rename_i hc; cases h; exact hp hc
  · cases h

theorem ymdDate_inv (y : Int) (m d : Nat) (x : Date) (h : ymdDate? y m d = some x) : DateInv x :=
  of_ite_some h fun hc => (dateInv_of_yo y _ ⟨hc.1, hc.2.1⟩ (ParsedRes.ordinal_bounds y m d hc.2.2)).1

theorem yoDate_inv (y : Int) (o : Nat) (x : Date) (h : yoDate? y o = some x) : DateInv x :=
  of_ite_some h fun hc => (dateInv_of_yo y o ⟨hc.1, hc.2.1⟩ hc.2.2).1

theorem addMonths_inv (y : Int) (m d : Nat) (n : Int) (x : Date) (h : addMonths? y m d n = some x) : DateInv x :=
  ymdDate_inv _ _ _ x h

/-- the form in which C01 describes a returned date (`Q`: what else it says of it) -/
theorem repr_inv {Q : Int → Nat → Prop} (x : Date)
    (h : ∃ y o, x = dateOfYo y o ∧ MIN_YEAR ≤ y ∧ y ≤ MAX_YEAR ∧ 1 ≤ o ∧ o ≤ yearLen y ∧ Q y o) :
    DateInv x := by
  obtain ⟨y, o, he, h1, h2, h3, h4, _⟩ := h
  rw [he]; exact (dateInv_of_yo y o ⟨h1, h2⟩ ⟨h3, h4⟩).1

/-! ### `NaiveDate` -/

theorem from_days (n : Int) (hn : -2147483648 ≤ n ∧ n ≤ 2147483647) :
    OkAnd (Date.from_num_days_from_ce_opt n) DateInv := by
  obtain ⟨r, h, hv, _⟩ := Chrono.Props.C01.ctor_days n hn
  exact ⟨r, h, fun x hx => repr_inv x (hv x hx)⟩

theorem from_isoywd (y : Int) (w : Nat) (wd : Weekday) : OkAnd (Date.from_isoywd_opt y w wd) DateInv := by
  obtain ⟨r, h, hv, _⟩ := Chrono.Props.C01.ctor_isoywd y w wd
  exact ⟨r, h, fun x hx => repr_inv x (hv x hx)⟩

/-- every date-level operation on a date of the range -/
theorem date_ops (d : Date) (hd : DateInv d) (n v : Nat) (y' k : Int) (δ : Delta) (c : Int)
    (hk : -2147483648 ≤ k ∧ k ≤ 2147483647) (hδ : DInv δ) (hc : 0 ≤ c ∧ c ≤ 18446744073709551615) :
    OkAnd d.succ_opt DateInv ∧ OkAnd d.pred_opt DateInv ∧
    OkAnd (d.checked_add_months n) DateInv ∧ OkAnd (d.checked_sub_months n) DateInv ∧
    OkAnd (d.diff_months k) DateInv ∧
    OkAnd (d.with_year y') DateInv ∧ OkAnd (d.with_month v) DateInv ∧ OkAnd (d.with_month0 v) DateInv ∧
    OkAnd (d.with_day v) DateInv ∧ OkAnd (d.with_day0 v) DateInv ∧ OkAnd (d.with_ordinal v) DateInv ∧
    OkAnd (d.with_ordinal0 v) DateInv ∧
    OkAnd (Date.add_days d k) DateInv ∧ OkAnd (Date.checked_add_days d c) DateInv ∧
    OkAnd (Date.checked_sub_days d c) DateInv ∧ OkAnd (Date.checked_add_signed d δ) DateInv ∧
    OkAnd (Date.checked_sub_signed d δ) DateInv := by
  obtain ⟨r13, e13, _, v13⟩ := Chrono.Props.C03.add_days_exact d k hd hk
  obtain ⟨⟨r14, e14, _, v14⟩, ⟨r15, e15, _, v15⟩⟩ := Chrono.Props.C03.checked_days_exact d c hd hc
  obtain ⟨⟨r16, e16, _, v16⟩, ⟨r17, e17, _, v17⟩⟩ := Chrono.Props.C03.date_plus_delta d δ hd hδ
  obtain ⟨o, he, _, hy1, hy2, ho1, ho2⟩ := dateInv_repr d hd
  generalize d.year = y at *
  subst he
  have hy : MIN_YEAR ≤ y ∧ y ≤ MAX_YEAR := ⟨hy1, hy2⟩
  have ho : 1 ≤ o ∧ o ≤ yearLen y := ⟨ho1, ho2⟩
  obtain ⟨r1, e1, _, v1⟩ := Chrono.Props.C01.succ_ok y o hy ho
  obtain ⟨r2, e2, _, v2⟩ := Chrono.Props.C01.pred_ok y o hy ho
  obtain ⟨m1, m2⟩ := Chrono.Props.C08.months_spec y o hy ho n
  have m3 := diff_months_spec y o hy ho k
  obtain ⟨w1, w2, w3, w4, w5, w6, w7⟩ := Chrono.Props.C08.with_field_spec y o hy ho v y'
  exact ⟨⟨r1, e1, fun x hx => repr_inv x (v1 x hx)⟩, ⟨r2, e2, fun x hx => repr_inv x (v2 x hx)⟩,
    ⟨_, m1, addMonths_inv _ _ _ _⟩, ⟨_, m2, addMonths_inv _ _ _ _⟩, ⟨_, m3, addMonths_inv _ _ _ _⟩,
    ⟨_, w1, ymdDate_inv _ _ _⟩, ⟨_, w2, ymdDate_inv _ _ _⟩, ⟨_, w3, ymdDate_inv _ _ _⟩,
    ⟨_, w4, ymdDate_inv _ _ _⟩, ⟨_, w5, ymdDate_inv _ _ _⟩, ⟨_, w6, yoDate_inv _ _⟩,
    ⟨_, w7, yoDate_inv _ _⟩,
    ⟨r13, e13, fun x hx => (v13 x hx).1⟩, ⟨r14, e14, fun x hx => (v14 x hx).1⟩,
    ⟨r15, e15, fun x hx => (v15 x hx).1⟩, ⟨r16, e16, fun x hx => (v16 x hx).1⟩,
    ⟨r17, e17, fun x hx => (v17 x hx).1⟩⟩

/-! ### `NaiveTime` -/

theorem ofFields_valid_of_ok (h m s n : Int) (h0 : 0 ≤ h) (m0 : 0 ≤ m) (s0 : 0 ≤ s) (n0 : 0 ≤ n)
    (hok : okFields h m s n) : TValid (ofFields h m s n) :=
  (Chrono.Props.C07.ctor_reads_back h m s n h0 m0 s0 n0 hok).1.1

/-- arithmetic and single-field replacement on every valid time (leap representations included) -/
theorem time_ops (t u : Time) (d : Delta) (v : Int) (ht : TValid t) (hu : TValid u) (hd : DInv d) (hv : 0 ≤ v) :
    (∃ r, Time.overflowing_add_signed t d = .ok r ∧ TValid r.1) ∧
    (∃ r, Time.overflowing_sub_signed t d = .ok r ∧ TValid r.1) ∧
    (∃ r, Time.signed_duration_since t u = .ok r ∧ DInv r) ∧
    (∀ x, t.with_hour v = some x → TValid x) ∧ (∀ x, t.with_minute v = some x → TValid x) ∧
    (∀ x, t.with_second v = some x → TValid x) ∧ (∀ x, t.with_nanosecond v = some x → TValid x) := by
  obtain ⟨d1, d2, _⟩ := Chrono.Props.C07.diff_spec t u ht hu
  obtain ⟨w1, w2, w3, w4⟩ := Chrono.Props.C07.with_field t v ht hv
  have hh : 0 ≤ hourOf t ∧ hourOf t < 24 := by unfold hourOf; unfold TValid at ht; omega
  have hm : 0 ≤ minuteOf t ∧ minuteOf t < 60 := by unfold minuteOf; omega
  have hs : 0 ≤ secondOf t ∧ secondOf t < 60 := by unfold secondOf; omega
  have hn : 0 ≤ t.frac ∧ t.frac < 2000000000 := ht.2.2
  rw [w1, w2, w3, w4]
  exact ⟨⟨_, Chrono.Props.C07.add_spec t d ht hd, (Chrono.Props.C07.add_result t _ ht).1⟩,
    ⟨_, (Chrono.Props.C07.sub_is_add_neg t d ht hd).2, (Chrono.Props.C07.add_result t _ ht).1⟩,
    ⟨_, d1, d2⟩,
    fun _ hx => of_ite_some hx fun hc => (Chrono.Props.C07.with_field_reads_back _ _ _ _ ⟨hv, hc⟩ hm hs hn).1,
    fun _ hx => of_ite_some hx fun hc => (Chrono.Props.C07.with_field_reads_back _ _ _ _ hh ⟨hv, hc⟩ hs hn).1,
    fun _ hx => of_ite_some hx fun hc => (Chrono.Props.C07.with_field_reads_back _ _ _ _ hh hm ⟨hv, hc⟩ hn).1,
    fun _ hx => of_ite_some hx fun hc => (Chrono.Props.C07.with_field_reads_back _ _ _ _ hh hm hs ⟨hv, hc⟩).1⟩

/-! ### `NaiveDateTime` -/

/-- `checked_add_signed` / `checked_sub_signed` on EVERY valid date-time, leap-second representations
included -/
theorem datetime_arith (dt : NaiveDT) (δ : Delta) (hdt : NDTInv dt) (hδ : DInv δ) :
    OkAnd (NaiveDT.checked_add_signed dt δ) NDTInv ∧ OkAnd (NaiveDT.checked_sub_signed dt δ) NDTInv := by
  obtain ⟨⟨r1, e1, s1, t1⟩, ⟨r2, e2, s2, t2⟩⟩ := Chrono.Props.C03.add_with_leap_operand dt δ hdt hδ
  refine ⟨⟨r1, e1, fun x hx => ?_⟩, ⟨r2, e2, fun x hx => ?_⟩⟩
  · refine ⟨(s1.2 x.date (by rw [hx]; rfl)).1, ?_⟩
    rw [t1 x hx]; exact (Chrono.Props.C07.add_result dt.time _ hdt.2).1
  · refine ⟨(s2.2 x.date (by rw [hx]; rfl)).1, ?_⟩
    rw [t2 x hx]; exact (Chrono.Props.C07.add_result dt.time _ hdt.2).1

/-! ### `TimeDelta` constructors -/

theorem ofNs_inv (n : Int) (x : Delta) (h : (if nsInRange n then some (ofNs n) else none) = some x) : DInv x :=
  of_ite_some h fun hc => (Chrono.Props.C06.ofNs_spec n hc).1

end Chrono.Proofs.C15Arith
