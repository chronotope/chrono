/- Arithmetic of the ISO-week part of C01: everything about the week number inside a year depends
only on (ordinal, year flags); of the flags only the 16-row `nisoweeks` mask needs evaluation. -/
import Chrono.Model.Date
import Chrono.Spec.Calendar

namespace Chrono.Proofs
open Chrono Chrono.M Chrono.Spec Chrono.Extracted

/-- ordinal, relative to the year with flags `f`, of the Thursday of the Monday-based week that
contains the `o`-th day of that year (≤ 0: a day of the previous year; > year length: next year).
`(o + f % 8) % 7` is the weekday (Monday = 0) of the `o`-th day. -/
def otOf (o f : Nat) : Int := (o : Int) - (((o + f % 8) % 7 : Nat) : Int) + 3

/-- the 1030 bit mask: number of weeks against year length and start weekday, and the calendar
rule (53 weeks iff 31 December of the previous year is a Wednesday, or a Tuesday in a leap year) -/
theorem nisoweeks_fin : ∀ f < 16, f % 8 ≠ 0 →
    7 * YearFlags.nisoweeks f + 3 ≤ YearFlags.ndays f + YearFlags.isoweek_delta f ∧
    YearFlags.ndays f + YearFlags.isoweek_delta f < 7 * (YearFlags.nisoweeks f + 1) + 3 ∧
    3 ≤ YearFlags.isoweek_delta f ∧ YearFlags.isoweek_delta f ≤ 9 ∧
    365 ≤ YearFlags.ndays f ∧ YearFlags.ndays f ≤ 366 ∧
    YearFlags.nisoweeks f = (if f % 8 = 2 ∨ (f / 8 = 0 ∧ f % 8 = 1) then 53 else 52) := by
  decide +kernel

/-- `rawweek` counts weeks from the Thursday's ordinal -/
theorem rawweek_eq (o f : Nat) :
    (((o + YearFlags.isoweek_delta f) / 7 : Nat) : Int) = (otOf o f - 1) / 7 + 1 := by
  unfold otOf YearFlags.isoweek_delta
  dsimp only
  split <;> omega

theorem iso_cases (o f : Nat) (ho : 1 ≤ o ∧ o ≤ YearFlags.ndays f) (hf : f < 16) (hf8 : f % 8 ≠ 0) :
    (otOf o f < 1 → (o + YearFlags.isoweek_delta f) / 7 < 1) ∧
    ((YearFlags.ndays f : Int) < otOf o f →
      (o + YearFlags.isoweek_delta f) / 7 > YearFlags.nisoweeks f ∧ otOf o f - YearFlags.ndays f ≤ 3) ∧
    (1 ≤ otOf o f → otOf o f ≤ YearFlags.ndays f →
      1 ≤ (o + YearFlags.isoweek_delta f) / 7 ∧ (o + YearFlags.isoweek_delta f) / 7 ≤ YearFlags.nisoweeks f) := by
  obtain ⟨n1, n2, _, _, _, _, _⟩ := nisoweeks_fin f hf hf8
  have hd : (o + YearFlags.isoweek_delta f) % 7 = (o + f % 8) % 7 := by
    unfold YearFlags.isoweek_delta; dsimp only; split <;> omega
  unfold otOf
  generalize YearFlags.isoweek_delta f = dl at *
  generalize YearFlags.nisoweeks f = nw at *
  generalize YearFlags.ndays f = nd at *
  omega

theorem iso_prev (pf f o : Nat) (hpf : pf < 16) (hpf8 : pf % 8 ≠ 0)
    (hrel : (f % 8) % 7 = (pf % 8 + YearFlags.ndays pf) % 7) (ho : 1 ≤ o) (h : otOf o f < 1) :
    1 ≤ otOf o f + YearFlags.ndays pf ∧ otOf o f + YearFlags.ndays pf ≤ YearFlags.ndays pf ∧
    ((YearFlags.nisoweeks pf : Nat) : Int) = (otOf o f + YearFlags.ndays pf - 1) / 7 + 1 := by
  obtain ⟨n1, n2, _, _, n5, _, _⟩ := nisoweeks_fin pf hpf hpf8
  have hd : YearFlags.isoweek_delta pf % 7 = pf % 8 % 7 := by
    unfold YearFlags.isoweek_delta; dsimp only; split <;> omega
  unfold otOf at *
  generalize YearFlags.isoweek_delta pf = dl at *
  generalize YearFlags.nisoweeks pf = nw at *
  generalize YearFlags.ndays pf = nd at *
  omega
end Chrono.Proofs
