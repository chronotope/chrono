/-
  Helper lemmas for C11: field resolution (`Parsed::to_datetime`) of the record the RFC 2822
  scanner builds — the denoted value for valid fields, rejection of a contradicting day-name.
  Built on C14's completeness lemmas (Proofs/ParsedDtL.lean) and C04's `from_local_spec`.
-/
import Chrono.Proofs.Rfc2822ScanL
import Chrono.Proofs.ParsedDtL
import Chrono.Proofs.ZonedL
import Chrono.Proofs.TimestampL
namespace Chrono.Proofs.Rfc2822
open Chrono Chrono.M Chrono.Spec Chrono.Spec.Rfc2822 Chrono.Spec.Fields Chrono.Proofs Chrono.Proofs.ParsedRes
open Chrono.Extracted

/-- the wall-clock time of day the fields spell -/
def timeOf (f : Rfc2822.Fields) : Time :=
  ⟨(f.hour : Int) * 3600 + (f.min : Int) * 60 + (if secOf f = 60 then 59 else (secOf f : Int)),
   if secOf f = 60 then 1000000000 else 0⟩

theorem valid_pos (y : Int) (m d : Nat) (h : validYmd y m d = true) : 1 ≤ m ∧ 1 ≤ d := by
  unfold validYmd at h
  simp only [Bool.and_eq_true, decide_eq_true_eq] at h
  exact ⟨h.1.1.1, h.1.2⟩

/-- validity of the fields implies the scanner's setter ranges -/
theorem setterRanges_of_valid (f : Fields) (hv : Valid f) : SetterRanges f := by
  obtain ⟨v1, v2, v3, _, v5, v6, v7, v8, _⟩ := hv
  have hb := Chrono.Proofs.valid_bounds f.year f.month f.day v3
  have hd1 := (valid_pos _ _ _ v3).2
  have hMAX : Extracted.MAX_YEAR = 262142 := rfl
  unfold OffValid at v8
  exact ⟨hd1, hb.2, by omega, v5, v6, v7, by omega, by omega⟩

/-- the seconds field of the scanner's record against `secOf` -/
theorem second_parsedOf (f : Rfc2822.Fields) :
    ((parsedOf f).second = none ∧ secOf f = 0) ∨ ∃ n : Nat, (parsedOf f).second = some (n : Int) ∧ secOf f = n := by
  unfold parsedOf secOf
  cases f.sec with
  | none => exact Or.inl ⟨rfl, rfl⟩
  | some n => exact Or.inr ⟨n, rfl, rfl⟩

theorem inType_parsedOf (f : Rfc2822.Fields) (hr : SetterRanges f) (hm : f.month ≤ 12)
    (hy : -2147483648 ≤ f.year) : InType (parsedOf f) := by
  obtain ⟨r1, r2, r3, r4, r5, r6, r7, r8⟩ := hr
  have hsec := second_parsedOf f
  unfold InType optIn
  revert hsec
  generalize (parsedOf f).second = psec
  intro hsec
  unfold parsedOf
  simp only []
  refine ⟨fun x hx => ?_, (fun _ hx => nomatch hx), (fun _ hx => nomatch hx), (fun _ hx => nomatch hx),
    (fun _ hx => nomatch hx), (fun _ hx => nomatch hx), (fun _ hx => nomatch hx), fun x hx => ?_,
    (fun _ hx => nomatch hx), (fun _ hx => nomatch hx), (fun _ hx => nomatch hx), (fun _ hx => nomatch hx),
    fun x hx => ?_, fun x hx => ?_, fun x hx => ?_, fun x hx => ?_, fun x hx => ?_,
    (fun _ hx => nomatch hx), (fun _ hx => nomatch hx), fun x hx => ?_⟩
  · cases hx; omega
  · cases hx; omega
  · cases hx; omega
  · cases hx; omega
  · cases hx; omega
  · cases hx; omega
  · rcases hsec with ⟨hn, _⟩ | ⟨n, hn, hsn⟩
    · rw [hn] at hx; cases hx
    · rw [hn] at hx; cases hx; omega
  · cases hx; omega

theorem usesCalendar_parsedOf (f : Rfc2822.Fields) : UsesCalendar (parsedOf f) := by
  unfold UsesCalendar GroupHasYear parsedOf
  simp

/-- hour, minute and second are read back from the second of the day they make up -/
theorem sod_of_hms (h mi s : Nat) (h23 : h ≤ 23) (m59 : mi ≤ 59) (s59 : s ≤ 59) (T : Int)
    (hT : T = (h : Int) * 3600 + (mi : Int) * 60 + s) :
    0 ≤ T ∧ T < 86400 ∧ T / 3600 = h ∧ T / 60 % 60 = mi ∧ T % 60 = s := by
  subst hT; omega

/-- the time of day the fields spell is one the constructors build, and agrees with the time fields of
the scanner's record -/
theorem timeOf_facts (f : Rfc2822.Fields) (h23 : f.hour ≤ 23) (m59 : f.min ≤ 59) (s60 : secOf f ≤ 60) :
    TStrict (timeOf f) ∧ TimeAgrees (parsedOf f) (timeOf f) := by
  -- `s`: the second of the minute, 59 for a seconds field of 60
  obtain ⟨s, s59, hs, hl⟩ : ∃ s : Nat, s ≤ 59 ∧ (if secOf f = 60 then 59 else (secOf f : Int)) = s ∧
      (secOf f = 60 → s = 59) := by
    by_cases h60 : secOf f = 60
    · exact ⟨59, by omega, if_pos h60, fun _ => rfl⟩
    · exact ⟨secOf f, by omega, if_neg h60, fun h => absurd h h60⟩
  obtain ⟨t0, t1, eh, em, es⟩ := sod_of_hms f.hour f.min s h23 m59 s59 (timeOf f).secs (by unfold timeOf; rw [hs])
  have hfr : (timeOf f).frac = if secOf f = 60 then 1000000000 else 0 := rfl
  have hh : hourOf (timeOf f) = f.hour := eh
  have hm : minuteOf (timeOf f) = f.min := em
  have hsec : secondOf (timeOf f) = s := es
  refine ⟨⟨⟨t0, t1, ?_, ?_⟩, ?_⟩, fun x hx => ?_, fun x hx => ?_, fun x hx => ?_, ⟨fun x hx => ?_, fun hx => ?_⟩,
    ⟨(fun _ hx => nomatch hx), fun _ => ?_⟩⟩
  · rw [hfr]; split <;> decide
  · rw [hfr]; split <;> decide
  · by_cases h60 : secOf f = 60
    · right; show secondOf (timeOf f) = 59; rw [hsec, hl h60]; rfl
    · left; rw [hfr, if_neg h60]; decide
  · cases hx; rw [hh]
  · cases hx; rw [hh]
  · cases hx; rw [hm]
  · rcases second_parsedOf f with ⟨hn, _⟩ | ⟨n, hn, hsn⟩
    · rw [hn] at hx; cases hx
    · rw [hn] at hx; cases hx
      by_cases h60 : secOf f = 60
      · rw [if_pos (by omega)]
        exact ⟨by rw [hsec, hl h60]; rfl, by rw [hfr, if_pos h60]⟩
      · rw [if_neg (by omega)]
        exact ⟨by rw [hsec, ← hs, if_neg h60, hsn], by rw [hfr, if_neg h60]; decide⟩
  · rcases second_parsedOf f with ⟨_, h0⟩ | ⟨n, hn, _⟩
    · have h60 : ¬ secOf f = 60 := by omega
      exact ⟨by rw [hsec, ← hs, if_neg h60, h0]; rfl, by rw [hfr, if_neg h60]; decide⟩
    · rw [hn] at hx; cases hx
  · rw [hfr]; split <;> rfl

theorem naive_of_fields (f : Rfc2822.Fields) (hv : Valid f) :
    VD f.year (ordinalOf f.year f.month f.day) ∧
    Parsed.to_naive_datetime_with_offset (parsedOf f) f.off =
      .ok (.ok ⟨dateOfYo f.year (ordinalOf f.year f.month f.day), timeOf f⟩) := by
  have hsr := setterRanges_of_valid f hv
  obtain ⟨v1, v2, v3, v4, v5, v6, v7, v8, _⟩ := hv
  have hob := ordinal_bounds f.year f.month f.day v3
  have hvd : VD f.year (ordinalOf f.year f.month f.day) := ⟨v1, v2, hob.1, hob.2⟩
  refine ⟨hvd, ?_⟩
  obtain ⟨um, ud⟩ := ymd_unique f.year f.month f.day v3
  obtain ⟨wk, hwk⟩ := iso_week_ok f.year _ hvd
  have hp : InType (parsedOf f) :=
    inType_parsedOf f hsr (valid_bounds _ _ _ v3).1 (Int.le_trans (by decide) v1)
  have hag : DateAgrees (parsedOf f) f.year (ordinalOf f.year f.month f.day) := by
    unfold DateAgrees parsedOf optIs centIs IsoIs
    simp only []
    refine ⟨fun x hx => (by cases hx; rfl), ⟨(fun _ hx => nomatch hx), (fun _ hx => nomatch hx)⟩,
      (fun _ hx => nomatch hx), fun x hx => (by cases hx; rw [um]), (fun _ hx => nomatch hx),
      (fun _ hx => nomatch hx), fun w hw => v4 w hw, (fun _ hx => nomatch hx), fun x hx => (by cases hx; rw [ud]),
      ⟨wk, hwk, (fun _ hx => nomatch hx), ⟨(fun _ hx => nomatch hx), (fun _ hx => nomatch hx)⟩,
        (fun _ hx => nomatch hx)⟩⟩
  have hdY : GroupDeterminate (parsedOf f).year (parsedOf f).year_div_100 (parsedOf f).year_mod_100 f.year := by
    unfold GroupDeterminate GroupUsable parsedOf
    simp
  have hdI : ∀ w, (dateOfYo f.year (ordinalOf f.year f.month f.day)).iso_week = .ok w →
      GroupDeterminate (parsedOf f).isoyear (parsedOf f).isoyear_div_100 (parsedOf f).isoyear_mod_100
        (IsoWeek.year w) := by
    intro w _
    unfold GroupDeterminate GroupUsable parsedOf
    simp
  have hdate := date_complete' _ hp f.year _ hvd hag hdY hdI (usesCalendar_parsedOf f)
  obtain ⟨hts, hta⟩ := timeOf_facts f v5 v6 v7
  have hsuf : TimeSufficient (parsedOf f) := by
    unfold TimeSufficient parsedOf
    simp
  have htime := time_complete' _ _ hts hta hsuf
  rw [dt_fields_path _ f.off ⟨hsr.2.2.2.2.2.2.1, hsr.2.2.2.2.2.2.2⟩ f.year _ _ hvd hts.1 hdate htime]
  rfl


/-- field resolution of what the scanner built: the denoted value -/
theorem resolve_ok (f : Rfc2822.Fields) (hv : Valid f) :
    ∃ z, Parsed.to_datetime (parsedOf f) = .ok (.ok z) ∧ Denotes f z := by
  obtain ⟨hvd, hnaive⟩ := naive_of_fields f hv
  obtain ⟨v1, v2, v3, v4, v5, v6, v7, v8, v9⟩ := hv
  have hob := ordinal_bounds f.year f.month f.day v3
  have hyl := yearLen_ge f.year
  obtain ⟨hdi, hdn⟩ := Chrono.Proofs.Ts.dateInv_of_yo f.year (ordinalOf f.year f.month f.day) ⟨v1, v2⟩ hob
  have htv : TValid (timeOf f) := (timeOf_facts f v5 v6 v7).1.1
  have hnl : NDTInv ⟨dateOfYo f.year (ordinalOf f.year f.month f.day), timeOf f⟩ := ⟨hdi, htv⟩
  have hext : ExtNDTInv ⟨dateOfYo f.year (ordinalOf f.year f.month f.day), timeOf f⟩ :=
    ⟨((dateInv_iff _).mp hdi).1, htv⟩
  have hsecs : instSecs ⟨dateOfYo f.year (ordinalOf f.year f.month f.day), timeOf f⟩ = localSecs f := by
    unfold instSecs localSecs
    simp only [hdn, timeOf]
    unfold dayNum
    omega
  obtain ⟨r, h1, h2, h3, _⟩ := from_local_spec f.off _ v8 hext
  rw [hsecs] at h2 h3
  cases r with
  | none => exact absurd v9 (h3 rfl)
  | some z =>
    obtain ⟨a, b, c, d, e⟩ := h2 z rfl
    refine ⟨z, ?_, a, c, ?_, ⟨e hdi, b.2⟩, by rw [a]; exact v8⟩
    · unfold Parsed.to_datetime
      have hoffp : (parsedOf f).offset = some f.off := rfl
      simp only [hoffp, Parsed.RP.bind, hnaive]
      have he : Zoned.east_opt f.off = some f.off := by
        unfold Zoned.east_opt; exact if_pos v8
      simp only [he, h1]
    · rw [d]; rfl


/-- a day-name that contradicts the date makes field resolution fail (by value, no panic) -/
theorem resolve_weekday_mismatch (f : Rfc2822.Fields) (hp : InType (parsedOf f)) (w : Weekday)
    (hw : f.weekday = some w) (hne : (w.toNat : Int) ≠ weekdayOf (dayNum f.year f.month f.day)) :
    ∃ e, Parsed.to_datetime (parsedOf f) = .ok (.error e) := by
  obtain ⟨r, hr, hok, _, _⟩ := date_main (parsedOf f) hp
  have huc := usesCalendar_parsedOf f
  have hnot : ∀ d, r ≠ .ok d := by
    intro d hd
    obtain ⟨Y, o, hvd, _, hag⟩ := hok d hd
    obtain ⟨a1, _, _, a4, _, _, a7, _, a9, _⟩ := hag (Or.inr huc)
    have e1 : f.year = Y := a1 f.year rfl
    have e4 : (f.month : Int) = (monthOfYo Y o : Int) := a4 (f.month : Int) rfl
    have e9 : (f.day : Int) = (dayOfYo Y o : Int) := a9 (f.day : Int) rfl
    have e7 := a7 w hw
    obtain ⟨_, _, _, hoo⟩ := month_day_spec Y o hvd.2.2.1 hvd.2.2.2
    have em : f.month = monthOfYo Y o := by omega
    have ed : f.day = dayOfYo Y o := by omega
    apply hne
    rw [e7]
    unfold dayNum
    rw [e1, em, ed, hoo]
  cases r with
  | ok d => exact absurd rfl (hnot d)
  | error e =>
    refine ⟨e, ?_⟩
    unfold Parsed.to_datetime
    have hoffp : (parsedOf f).offset = some f.off := rfl
    have hts : (parsedOf f).timestamp = none := rfl
    simp only [hoffp]
    unfold Parsed.to_naive_datetime_with_offset
    simp only [hr, hts, Parsed.RP.bind]

end Chrono.Proofs.Rfc2822
