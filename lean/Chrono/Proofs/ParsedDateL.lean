/-
  Helper lemmas for C14: `resolve_year`, the verifier closures and the date combinations of
  `Parsed::to_naive_date`.
-/
import Chrono.Proofs.ParsedL
import Chrono.Proofs.DateL
import Chrono.Spec.ParsedResolveSpec
namespace Chrono.Proofs.ParsedRes
open Chrono Chrono.M Chrono.Spec Chrono.Spec.Fields Chrono.Extracted

/- `VD`, `UsesCalendar`, `UsesIso`, `NaiveOk` are statement-level predicates: defined in
Spec/ParsedResolveSpec.lean (`Chrono.Spec.Fields`) and exported into this namespace, where the other
files of C14 look for them -/
export Chrono.Spec.Fields (VD UsesCalendar UsesIso NaiveOk)

theorem ordinal_bounds (y : Int) (m d : Nat) (h : validYmd y m d = true) :
    1 ≤ ordinalOf y m d ∧ ordinalOf y m d ≤ yearLen y := by
  obtain ⟨hf16, _, _, _⟩ := flagsOf_facts y
  have hrep := isLeap_repYear y
  obtain ⟨hv, ho, hyl⟩ := leap_congr (repYear (flagsOf y)) y m d hrep
  have hmd := valid_bounds y m d h
  have hb := ordinal_bounds_fin m hmd.1 d hmd.2 _ hf16 (by rw [hv]; exact h)
  rw [ho, hyl] at hb
  exact hb

theorem tdiv_tmod_100 (y : Int) (h : 0 ≤ y) : Int.tdiv y 100 = y / 100 ∧ Int.tmod y 100 = y % 100 :=
  ⟨Int.tdiv_eq_ediv_of_nonneg h, by rw [tmod_eq, if_pos h]; omega⟩

/-- `resolve_year` on a full year (the year is divided only where it is non-negative) -/
theorem resolve_year_some (yv : Int) (q r : Option Int) :
    Parsed.resolve_year (some yv) q r =
      if q = none ∧ r = none then .ok (some yv)
      else if Parsed.modOk r then
        if yv < 0 then .error .impossible
        else if q.getD (yv / 100) = yv / 100 ∧ r.getD (yv % 100) = yv % 100 then .ok (some yv)
        else .error .impossible
      else .error .outOfRange := by
  unfold Parsed.resolve_year
  dsimp only
  by_cases h : yv < 0
  · simp only [if_pos h]
  · obtain ⟨e1, e2⟩ := tdiv_tmod_100 yv (by omega)
    rw [e1, e2]

/-- `resolve_year` on century and two-digit year: the two checked `i32` operations amount to one bound -/
theorem resolve_year_cent (qv rv : Int) :
    Parsed.resolve_year none (some qv) (some rv) =
      if 0 ≤ rv ∧ rv ≤ 99 then
        if qv < 0 then .error .impossible
        else if qv * 100 + rv ≤ 2147483647 then .ok (some (qv * 100 + rv)) else .error .outOfRange
      else .error .outOfRange := by
  unfold Parsed.resolve_year
  dsimp only
  by_cases hr : 0 ≤ rv ∧ rv ≤ 99
  case neg => rw [if_neg hr, if_neg hr]
  by_cases hq : qv < 0
  case pos => rw [if_pos hr, if_pos hr, if_pos hq, if_pos hq]
  rw [if_pos hr, if_pos hr, if_neg hq, if_neg hq]
  by_cases hb : qv * 100 + rv ≤ 2147483647
  · rw [optI32_some (by omega) (by omega), Option.bind_some, optI32_some (by omega) hb, if_pos hb]
  · rw [if_neg hb]
    by_cases hc : qv * 100 ≤ 2147483647
    · rw [optI32_some (by omega) hc, Option.bind_some, optI32_none (.inr (by omega))]
    · rw [optI32_none (.inr (by omega))]
      rfl

/-- the outcomes of `resolve_year`: an empty group yields no year; a year `Y` agrees with every member
of the group; NOT_ENOUGH is reported for the unusable group (century alone), the other two kinds for
members that contradict each other or are out of range -/
theorem resolve_year_cases (y q r : Option Int) (res : PRes (Option Int))
    (h : Parsed.resolve_year y q r = res) :
    (res = .ok none ∧ y = none ∧ q = none ∧ r = none) ∨
    (∃ Y, res = .ok (some Y) ∧ optIs y Y ∧ centIs q r Y ∧ GroupHasYear y r) ∨
    (res = .error .notEnough ∧ ¬ GroupUsable y q r) ∨
    (∃ e, (e = .impossible ∨ e = .outOfRange) ∧ res = .error e ∧ ¬ GroupCoherent y q r) := by
  unfold centIs GroupHasYear GroupUsable GroupCoherent optIs
  cases y with
  | some yv =>
    rw [resolve_year_some] at h
    split at h
    · rename_i hqr
      exact .inr (.inl ⟨yv, h.symm, fun x hx => (Option.some.inj hx).symm,
        by rw [hqr.1, hqr.2]; exact ⟨nofun, nofun⟩, .inl nofun⟩)
    rename_i hqr
    have hqr' : q ≠ none ∨ r ≠ none := by
      cases q <;> cases r <;> simp at hqr ⊢
    split at h
    case isFalse =>
      rename_i hmod
      refine .inr (.inr (.inr ⟨_, .inr rfl, h.symm, fun hco => ?_⟩))
      cases r with
      | none => exact hmod rfl
      | some rv =>
        have := hco.1 rv rfl
        simp [Parsed.modOk] at hmod
        omega
    split at h
    · exact .inr (.inr (.inr ⟨_, .inl rfl, h.symm, fun hco => by have := (hco.2.1 yv rfl hqr').1; omega⟩))
    have hy0 : 0 ≤ yv := by omega
    split at h
    · rename_i hc
      refine .inr (.inl ⟨yv, h.symm, fun x hx => (Option.some.inj hx).symm,
        ⟨fun x hx => ⟨hy0, ?_⟩, fun x hx => ⟨hy0, ?_⟩⟩, .inl nofun⟩)
      · have := hc.1; rw [hx] at this; exact this
      · have := hc.2; rw [hx] at this; exact this
    · rename_i hc
      refine .inr (.inr (.inr ⟨_, .inl rfl, h.symm, fun hco => hc ?_⟩))
      obtain ⟨_, hq, hr⟩ := hco.2.1 yv rfl hqr'
      constructor
      · cases q with
        | none => rfl
        | some qv => exact hq qv rfl
      · cases r with
        | none => rfl
        | some rv => exact hr rv rfl
  | none =>
    cases q with
    | none =>
      cases r with
      | none => exact .inl ⟨h.symm, rfl, rfl, rfl⟩
      | some rv =>
        unfold Parsed.resolve_year at h
        dsimp only at h
        split at h
        · exact .inr (.inl ⟨_, h.symm, nofun, ⟨nofun, fun x hx => by cases hx; split <;> omega⟩, .inr nofun⟩)
        · rename_i hr
          exact .inr (.inr (.inr ⟨_, .inr rfl, h.symm, fun hco => hr (hco.1 rv rfl)⟩))
    | some qv =>
      cases r with
      | none => exact .inr (.inr (.inl ⟨h.symm, fun hu => hu ⟨rfl, nofun, rfl⟩⟩))
      | some rv =>
        rw [resolve_year_cent] at h
        split at h
        case isFalse =>
          rename_i hr
          exact .inr (.inr (.inr ⟨_, .inr rfl, h.symm, fun hco => hr (hco.1 rv rfl)⟩))
        split at h
        · exact .inr (.inr (.inr ⟨_, .inl rfl, h.symm,
            fun hco => by have := hco.2.2 rfl qv rv rfl rfl; omega⟩))
        split at h
        · exact .inr (.inl ⟨_, h.symm, nofun,
            ⟨fun x hx => by cases hx; omega, fun x hx => by cases hx; omega⟩, .inr nofun⟩)
        · rename_i hb
          exact .inr (.inr (.inr ⟨_, .inr rfl, h.symm, fun hco => hb (hco.2.2 rfl qv rv rfl rfl).2⟩))

theorem resolve_year_ok (y q r g : Option Int) (h : Parsed.resolve_year y q r = .ok g) :
    (g = none ∧ y = none ∧ q = none ∧ r = none) ∨
    (∃ Y, g = some Y ∧ optIs y Y ∧ centIs q r Y ∧ GroupHasYear y r) := by
  rcases resolve_year_cases y q r _ h with ⟨e, hn⟩ | ⟨Y, e, hY⟩ | ⟨e, _⟩ | ⟨_, _, e, _⟩
  · exact .inl ⟨Except.ok.inj e, hn⟩
  · exact .inr ⟨Y, Except.ok.inj e, hY⟩
  · cases e
  · cases e

/-- a failing `resolve_year`: one of the three kinds, NOT_ENOUGH only for an unusable group -/
theorem resolve_year_err_kinds (y q r : Option Int) (e : PErr) (h : Parsed.resolve_year y q r = .error e) :
    (e = .notEnough ∨ e = .impossible ∨ e = .outOfRange) ∧ (e = .notEnough → ¬ GroupUsable y q r) := by
  rcases resolve_year_cases y q r _ h with ⟨h', _⟩ | ⟨_, h', _⟩ | ⟨h', hu⟩ | ⟨e', he', h', _⟩
  · cases h'
  · cases h'
  · cases h'
    exact ⟨.inl rfl, fun _ => hu⟩
  · cases h'
    rcases he' with rfl | rfl
    · exact ⟨.inr (.inl rfl), nofun⟩
    · exact ⟨.inr (.inr rfl), nofun⟩

theorem resolve_year_some_iff (y q r g : Option Int) (h : Parsed.resolve_year y q r = .ok g) :
    g ≠ none ↔ GroupHasYear y r := by
  rcases resolve_year_ok y q r g h with ⟨rfl, rfl, _, rfl⟩ | ⟨Y, rfl, _, _, hy⟩
  · exact ⟨fun h => absurd rfl h, fun h => h.elim (absurd rfl) (absurd rfl)⟩
  · exact ⟨fun _ => hy, fun _ => nofun⟩

theorem getD_beq_iff (o : Option Int) (v : Int) : (o.getD v == v) = true ↔ optIs o v := by
  unfold optIs
  cases o with
  | none => simp
  | some x => simp

theorem or_beq_iff (o c : Option Int) : ((o.or c) == c) = true ↔ ∀ x, o = some x → c = some x := by
  cases o with
  | none => simp
  | some x =>
    show ((some x == c) = true) ↔ _
    rw [beq_iff_eq]
    constructor
    · intro h y hy; cases hy; exact h.symm
    · intro h; exact (h x rfl).symm

theorem centuryParts_nonneg (Y : Int) (h : 0 ≤ Y) :
    Parsed.centuryParts Y = (some (Y / 100), some (Y % 100)) := by
  unfold Parsed.centuryParts
  rw [if_pos h, (tdiv_tmod_100 Y h).1, (tdiv_tmod_100 Y h).2]
theorem centuryParts_neg (Y : Int) (h : ¬ 0 ≤ Y) : Parsed.centuryParts Y = (none, none) := by
  unfold Parsed.centuryParts
  rw [if_neg h]

theorem cent_iff (q r : Option Int) (Y : Int) :
    (((q.or (Parsed.centuryParts Y).1) == (Parsed.centuryParts Y).1) = true ∧
     ((r.or (Parsed.centuryParts Y).2) == (Parsed.centuryParts Y).2) = true) ↔ centIs q r Y := by
  rw [or_beq_iff, or_beq_iff]
  unfold centIs
  by_cases h0 : 0 ≤ Y
  · rw [centuryParts_nonneg Y h0]
    dsimp only
    constructor
    · rintro ⟨a, b⟩
      exact ⟨fun x hx => ⟨h0, (Option.some.inj (a x hx)).symm⟩, fun x hx => ⟨h0, (Option.some.inj (b x hx)).symm⟩⟩
    · rintro ⟨a, b⟩
      exact ⟨fun x hx => by rw [(a x hx).2], fun x hx => by rw [(b x hx).2]⟩
  · rw [centuryParts_neg Y h0]
    dsimp only
    constructor
    · rintro ⟨a, b⟩; exact ⟨(fun x hx => by cases a x hx), (fun x hx => by cases b x hx)⟩
    · rintro ⟨a, b⟩
      exact ⟨fun x hx => absurd (a x hx).1 h0, fun x hx => absurd (b x hx).1 h0⟩

theorem days_since_int (w day : Weekday) :
    ((w.days_since day : Nat) : Int) = ((w.toNat : Int) - (day.toNat : Int)) % 7 := by
  cases w <;> cases day <;> decide

theorem vd_fields (Y : Int) (o : Nat) (h : VD Y o) :
    (dateOfYo Y o).year = Y ∧ (dateOfYo Y o).ordinal = o ∧ (dateOfYo Y o).flags = flagsOf Y ∧
    (dateOfYo Y o).month = .ok (monthOfYo Y o) ∧ (dateOfYo Y o).day = .ok (dayOfYo Y o) ∧
    ((dateOfYo Y o).weekday.toNat : Int) = weekdayOf (dayNumYo Y o) ∧ o ≤ 366 := by
  obtain ⟨h1, h2, h3, h4⟩ := h
  have hyl := yearLen_ge Y
  obtain ⟨a, b, c, _, _, _⟩ := dateOfYo_fields Y o (by omega)
  obtain ⟨m1, m2, _, _⟩ := month_day_spec Y o h3 h4
  exact ⟨a, b, c, m1, m2, weekday_spec Y o (by omega), by omega⟩

theorem weeks_from_spec (Y : Int) (o : Nat) (h : VD Y o) :
    Parsed.weeks_from (dateOfYo Y o) .sun = weekNo Y o 6 ∧
    Parsed.weeks_from (dateOfYo Y o) .mon = weekNo Y o 0 ∧
    0 ≤ weekNo Y o 6 ∧ weekNo Y o 6 ≤ 53 ∧ 0 ≤ weekNo Y o 0 ∧ weekNo Y o 0 ≤ 53 := by
  obtain ⟨_, hord, _, _, _, hwd, ho⟩ := vd_fields Y o h
  unfold Parsed.weeks_from weekNo
  rw [hord, days_since_int, days_since_int, hwd]
  have hw0 : 0 ≤ weekdayOf (dayNumYo Y o) ∧ weekdayOf (dayNumYo Y o) < 7 := by
    unfold weekdayOf; omega
  have : (Weekday.sun.toNat : Int) = 6 := rfl
  have : (Weekday.mon.toNat : Int) = 0 := rfl
  have ho1 := h.2.2.1
  generalize weekdayOf (dayNumYo Y o) = W at *
  rw [tdiv_eq, tdiv_eq]
  simp only [*]
  refine ⟨?_, ?_, ?_⟩ <;> omega

theorem asI32_week (v wk : Int) (hv : 0 ≤ v ∧ v ≤ 4294967295) (hw : 0 ≤ wk ∧ wk ≤ 53) :
    asI32 v = wk ↔ v = wk := by
  unfold asI32; simp only; split <;> omega

theorem week_beq_iff (o : Option Int) (wk : Int) (ho : optIn o 0 4294967295) (hw : 0 ≤ wk ∧ wk ≤ 53) :
    ((o.map asI32).getD wk == wk) = true ↔ optIs o wk := by
  unfold optIs
  cases o with
  | none => simp
  | some v =>
    have hv := ho v rfl
    simp only [Option.map_some, Option.getD_some, beq_iff_eq, Option.some.injEq]
    rw [asI32_week v wk hv hw]
    constructor
    · intro h x hx; rw [← hx]; exact h
    · intro h; exact h v rfl

theorem verify_ordinal_iff (p : Parsed) (Y : Int) (o : Nat) (hp : InType p) (h : VD Y o) :
    Parsed.verify_ordinal p (dateOfYo Y o) = true ↔
      optIs p.ordinal o ∧ optIs p.week_from_sun (weekNo Y o 6) ∧ optIs p.week_from_mon (weekNo Y o 0) := by
  obtain ⟨_, hord, _, _, _, _, _⟩ := vd_fields Y o h
  obtain ⟨w1, w2, b1, b2, b3, b4⟩ := weeks_from_spec Y o h
  unfold Parsed.verify_ordinal
  simp only [Bool.and_eq_true]
  rw [hord, w1, w2, getD_beq_iff, week_beq_iff _ _ hp.2.2.2.2.2.2.2.2.1 ⟨b1, b2⟩,
    week_beq_iff _ _ hp.2.2.2.2.2.2.2.2.2.1 ⟨b3, b4⟩]
  exact and_assoc

theorem verify_ymd_iff (p : Parsed) (Y : Int) (o : Nat) (h : VD Y o) :
    ∃ b, Parsed.verify_ymd p (dateOfYo Y o) = .ok b ∧
      (b = true ↔ optIs p.year Y ∧ centIs p.year_div_100 p.year_mod_100 Y ∧
        optIs p.month (monthOfYo Y o) ∧ optIs p.day (dayOfYo Y o)) := by
  obtain ⟨hy, _, _, hm, hd, _, _⟩ := vd_fields Y o h
  unfold Parsed.verify_ymd
  rw [hm, hd]
  simp only [Res.bind, hy]
  refine ⟨_, rfl, ?_⟩
  simp only [Bool.and_eq_true]
  rw [getD_beq_iff, getD_beq_iff, getD_beq_iff, and_assoc, and_assoc, and_assoc]
  constructor
  · rintro ⟨a, b, c, d, e⟩; exact ⟨a, (cent_iff _ _ _).mp ⟨b, c⟩, d, e⟩
  · rintro ⟨a, bc, d, e⟩; obtain ⟨b, c⟩ := (cent_iff _ _ _).mpr bc; exact ⟨a, b, c, d, e⟩

theorem nisoweeks_le (f : Nat) : YearFlags.nisoweeks f ≤ 53 := by
  unfold YearFlags.nisoweeks
  have : 1030 / 2 ^ f % 2 < 2 := Nat.mod_lt _ (by decide)
  omega

theorem iso_week_year (Y : Int) (o : Nat) (h : VD Y o) :
    ∃ w, (dateOfYo Y o).iso_week = .ok w ∧ Y - 1 ≤ IsoWeek.year w ∧ IsoWeek.year w ≤ Y + 1 := by
  obtain ⟨hy, hord, hfl, _, _, _, _⟩ := vd_fields Y o h
  obtain ⟨h1, h2, _, _⟩ := h
  have hMIN : MIN_YEAR = -262143 := rfl
  have hMAX : MAX_YEAR = 262142 := rfl
  unfold Date.iso_week IsoWeek.from_yof
  rw [hy, hord, hfl]
  simp only [Int.toNat_natCast]
  rw [ckI32_ok (by omega) (by omega), ckI32_ok (by omega) (by omega)]
  simp only [from_year_spec]
  unfold IsoWeek.year
  have f1 := (flagsOf_facts (Y - 1)).1
  have f2 := (flagsOf_facts Y).1
  have f3 := (flagsOf_facts (Y + 1)).1
  have n1 := nisoweeks_le (flagsOf (Y - 1))
  have n2 := nisoweeks_le (flagsOf Y)
  by_cases c1 : (o + YearFlags.isoweek_delta (flagsOf Y)) / 7 < 1
  · rw [if_pos c1]; exact ⟨_, rfl, by omega⟩
  · rw [if_neg c1]
    by_cases c2 : (o + YearFlags.isoweek_delta (flagsOf Y)) / 7 > YearFlags.nisoweeks (flagsOf Y)
    · rw [if_pos c2]; exact ⟨_, rfl, by omega⟩
    · rw [if_neg c2]; exact ⟨_, rfl, by omega⟩

theorem iso_week_ok (Y : Int) (o : Nat) (h : VD Y o) : ∃ w, (dateOfYo Y o).iso_week = .ok w :=
  (iso_week_year Y o h).imp fun _ hw => hw.1

theorem verify_iso_iff (p : Parsed) (Y : Int) (o : Nat) (h : VD Y o) :
    ∃ b, Parsed.verify_isoweekdate p (dateOfYo Y o) = .ok b ∧
      (b = true ↔ IsoIs p (dateOfYo Y o) ∧
        (∀ w, p.weekday = some w → (w.toNat : Int) = weekdayOf (dayNumYo Y o))) := by
  obtain ⟨w, hw⟩ := iso_week_ok Y o h
  obtain ⟨_, _, _, _, _, hwd, _⟩ := vd_fields Y o h
  unfold Parsed.verify_isoweekdate IsoIs
  rw [hw]
  simp only [Res.bind]
  refine ⟨_, rfl, ?_⟩
  simp only [Bool.and_eq_true]
  rw [getD_beq_iff, getD_beq_iff, and_assoc, and_assoc, and_assoc]
  have hwk : (p.weekday.getD (dateOfYo Y o).weekday == (dateOfYo Y o).weekday) = true ↔
      (∀ w, p.weekday = some w → (w.toNat : Int) = weekdayOf (dayNumYo Y o)) := by
    rw [← hwd]
    cases p.weekday with
    | none => simp
    | some x =>
      simp only [Option.getD_some, beq_iff_eq, Option.some.injEq]
      constructor
      · intro e v hv; rw [← hv, e]
      · intro e
        have := e x rfl
        generalize (dateOfYo Y o).weekday = z at *
        cases x <;> cases z <;> first | rfl | (simp [Weekday.toNat] at this)
  constructor
  · rintro ⟨a, b, c, d, e⟩
    exact ⟨⟨w, rfl, a, (cent_iff _ _ _).mp ⟨b, c⟩, d⟩, hwk.mp e⟩
  · rintro ⟨⟨w', hw', a, bc, d⟩, e⟩
    cases hw'
    obtain ⟨b, c⟩ := (cent_iff _ _ _).mpr bc
    exact ⟨a, b, c, d, hwk.mpr e⟩


theorem date_with_ordinal_spec (Y : Int) (ord : Int) (h1 : 1 ≤ ord) :
    Parsed.date_with_ordinal (dateOfYo Y 1) ord =
      .ok (if ord ≤ yearLen Y then some (dateOfYo Y ord.toNat) else none) := by
  have hyl := yearLen_ge Y
  obtain ⟨_, hord, hfl, _, _, _⟩ := dateOfYo_fields Y 1 (by omega)
  obtain ⟨hf16, hf8, hleap, _⟩ := flagsOf_facts Y
  have hD : DATE_MAX_OL = 5856 := rfl
  unfold Parsed.date_with_ordinal
  rw [hord, hfl, hD]
  by_cases hbig : ord = 0 ∨ ord > 366
  · rw [if_pos hbig, if_neg (by omega)]
  · rw [if_neg hbig]
    obtain ⟨n, rfl⟩ := Int.eq_ofNat_of_zero_le (by omega : 0 ≤ ord)
    simp only [Int.toNat_natCast]
    by_cases hle : (n : Int) ≤ yearLen Y
    · have hc : (n : Int) * 16 + ((flagsOf Y / 8 : Nat) : Int) * 8 ≤ 5856 := by
        rw [hleap]; unfold yearLen at hle; cases hl : isLeap Y <;> simp [hl] at hle ⊢ <;> omega
      rw [if_pos hc, if_pos hle]
      have h366 : n = 366 → flagsOf Y / 8 = 0 := by
        intro h; rw [hleap]; unfold yearLen at hle; cases hl : isLeap Y <;> simp [hl] at hle ⊢; omega
      have hyof : (dateOfYo Y 1).yof - ((1 : Nat) : Int) * 16 + (n : Int) * 16 =
          Y * 8192 + ((n * 16 + flagsOf Y : Nat) : Int) := by
        unfold dateOfYo; push_cast; omega
      rw [hyof, from_yof_ok Y n (flagsOf Y) (by omega) (by omega) hf16 hf8 h366]
      simp only []
      congr 2
      unfold dateOfYo
      congr 1
      push_cast; omega
    · have hc : ¬ ((n : Int) * 16 + ((flagsOf Y / 8 : Nat) : Int) * 8 ≤ 5856) := by
        rw [hleap]; unfold yearLen at hle; cases hl : isLeap Y <;> simp [hl] at hle ⊢ <;> omega
      rw [if_neg hc, if_neg hle]

/-- ordinal that `resolve_week_date` computes: week 1 starts on the first `start` weekday -/
def weekOrd (Y : Int) (w : Int) (wd start : Weekday) : Int :=
  1 + ((start.toNat : Int) - weekdayOf (dayNumYo Y 1)) % 7 + (w - 1) * 7 +
    ((wd.toNat : Int) - (start.toNat : Int)) % 7

theorem resolve_week_date_spec (Y w : Int) (wd start : Weekday) :
    Parsed.resolve_week_date Y w wd start =
      .ok (if w > 53 then .error .outOfRange
           else if ¬ (MIN_YEAR ≤ Y ∧ Y ≤ MAX_YEAR) then .error .outOfRange
           else if weekOrd Y w wd start ≤ 0 then .error .impossible
           else if weekOrd Y w wd start ≤ yearLen Y then .ok (dateOfYo Y (weekOrd Y w wd start).toNat)
           else .error .impossible) := by
  unfold Parsed.resolve_week_date
  by_cases hw : w > 53
  · rw [if_pos hw, if_pos hw]
  · rw [if_neg hw, if_neg hw, ctor_yo']
    have hyl := yearLen_ge Y
    by_cases hY : MIN_YEAR ≤ Y ∧ Y ≤ MAX_YEAR
    · have hc : MIN_YEAR ≤ Y ∧ Y ≤ MAX_YEAR ∧ 1 ≤ 1 ∧ 1 ≤ yearLen Y := ⟨hY.1, hY.2, by omega, by omega⟩
      rw [if_pos hc, if_neg (by intro h; exact h hY)]
      simp only [Parsed.okOr, Parsed.RP.bind]
      have hwd := weekday_spec Y 1 (by omega)
      rw [days_since_int, days_since_int, hwd]
      have hwo : (1 : Int) + ((start.toNat : Int) - weekdayOf (dayNumYo Y ((1 : Nat) : Int))) % 7 + (w - 1) * 7 +
          ((wd.toNat : Int) - (start.toNat : Int)) % 7 = weekOrd Y w wd start := by
        unfold weekOrd; simp
      rw [hwo]
      by_cases h0 : weekOrd Y w wd start ≤ 0
      · rw [if_pos h0, if_pos h0]
      · rw [if_neg h0, if_neg h0, date_with_ordinal_spec Y _ (by omega)]
        by_cases hle : weekOrd Y w wd start ≤ yearLen Y
        · rw [if_pos hle, if_pos hle]
        · rw [if_neg hle, if_neg hle]
    · have hc : ¬ (MIN_YEAR ≤ Y ∧ Y ≤ MAX_YEAR ∧ 1 ≤ 1 ∧ 1 ≤ yearLen Y) := fun h => hY ⟨h.1, h.2.1⟩
      rw [if_neg hc, if_pos hY]
      rfl

theorem isoywd_form (y : Int) (w : Nat) (wd : Weekday) :
    ∃ r, Date.from_isoywd_opt y w wd = .ok r ∧
      ∀ d, r = some d → ∃ Y o, VD Y o ∧ d = dateOfYo Y o := by
  unfold Date.from_isoywd_opt
  simp only [from_year_spec]
  have key : ∀ (Y : Int) (o : Nat), ∃ r, Date.from_ordinal_and_flags Y o (flagsOf Y) = .ok r ∧
      ∀ d, r = some d → ∃ Y o, VD Y o ∧ d = dateOfYo Y o := by
    intro Y o
    refine ⟨_, from_oaf_spec Y o, ?_⟩
    intro d hd
    split at hd
    · rename_i hc; cases hd; exact ⟨Y, o, hc, rfl⟩
    · cases hd
  split
  · exact ⟨none, rfl, fun d hd => by cases hd⟩
  · split
    · cases hpy : optI32 (y - 1) with
      | none => exact ⟨none, rfl, fun d hd => by cases hd⟩
      | some py => exact key py _
    · split
      · exact key y _
      · cases hny : optI32 (y + 1) with
        | none => exact ⟨none, rfl, fun d hd => by cases hd⟩
        | some ny => exact key ny _


/-- what the ISO-week constructor has to guarantee for the ISO combination (C01's ISO-week
constructor/accessor round trip) -/
def IsoCtorSpec : Prop :=
  ∀ (y : Int) (w : Nat) (wd : Weekday) (d : Date), Date.from_isoywd_opt y w wd = .ok (some d) →
    ∃ iw, d.iso_week = .ok iw ∧ IsoWeek.year iw = y ∧ IsoWeek.week iw = (w : Int) ∧ d.weekday = wd

/-- the conjunction of the three verifier closures, in specification terms -/
def AllOk (p : Parsed) (Y : Int) (o : Nat) : Prop :=
  (optIs p.year Y ∧ centIs p.year_div_100 p.year_mod_100 Y ∧
    optIs p.month (monthOfYo Y o) ∧ optIs p.day (dayOfYo Y o)) ∧
  (IsoIs p (dateOfYo Y o) ∧ (∀ w, p.weekday = some w → (w.toNat : Int) = weekdayOf (dayNumYo Y o))) ∧
  (optIs p.ordinal o ∧ optIs p.week_from_sun (weekNo Y o 6) ∧ optIs p.week_from_mon (weekNo Y o 0))

theorem andR_ok (a b : Bool) : Parsed.andR (.ok a) (.ok b) = .ok (a && b) := by cases a <;> rfl

theorem dateArm_cases (p : Parsed) (gy gi : Option Int) :
    (∃ y m d, gy = some y ∧ p.month = some m ∧ p.day = some d ∧ Parsed.dateArm p gy gi = .ymd y m d) ∨
    (∃ y o, gy = some y ∧ p.ordinal = some o ∧ Parsed.dateArm p gy gi = .yo y o) ∨
    (∃ y w wd, gy = some y ∧ p.week_from_sun = some w ∧ p.weekday = some wd ∧
      Parsed.dateArm p gy gi = .ywSun y w wd) ∨
    (∃ y w wd, gy = some y ∧ p.week_from_mon = some w ∧ p.weekday = some wd ∧
      Parsed.dateArm p gy gi = .ywMon y w wd) ∨
    (∃ y w wd, gi = some y ∧ p.isoweek = some w ∧ p.weekday = some wd ∧
      Parsed.dateArm p gy gi = .iso y w wd) ∨
    (Parsed.dateArm p gy gi = .none ∧
      ¬ ((gy ≠ none ∧ ((p.month ≠ none ∧ p.day ≠ none) ∨ p.ordinal ≠ none ∨
            (p.week_from_sun ≠ none ∧ p.weekday ≠ none) ∨ (p.week_from_mon ≠ none ∧ p.weekday ≠ none))) ∨
         (gi ≠ none ∧ p.isoweek ≠ none ∧ p.weekday ≠ none))) := by
  generalize ha : Parsed.dateArm p gy gi = a
  unfold Parsed.dateArm at ha
  -- one `split` per `match` of the cascade; `n1 … n5` say that the earlier patterns did not apply
  split at ha
  · exact .inl ⟨_, _, _, rfl, ‹_›, ‹_›, ha.symm⟩
  rename_i n1
  split at ha
  · exact .inr (.inl ⟨_, _, rfl, ‹_›, ha.symm⟩)
  rename_i n2
  split at ha
  · exact .inr (.inr (.inl ⟨_, _, _, rfl, ‹_›, ‹_›, ha.symm⟩))
  rename_i n3
  split at ha
  · exact .inr (.inr (.inr (.inl ⟨_, _, _, rfl, ‹_›, ‹_›, ha.symm⟩)))
  rename_i n4
  split at ha
  · exact .inr (.inr (.inr (.inr (.inl ⟨_, _, _, rfl, ‹_›, ‹_›, ha.symm⟩))))
  rename_i n5
  refine .inr (.inr (.inr (.inr (.inr ⟨ha.symm, ?_⟩))))
  simp only [ne_eq, Option.ne_none_iff_exists']
  rintro (⟨⟨y, hy⟩, ⟨⟨m, hm⟩, d, hd⟩ | ⟨o, ho⟩ | ⟨⟨w, hw⟩, wd, hwd⟩ | ⟨⟨w, hw⟩, wd, hwd⟩⟩ |
    ⟨⟨y, hy⟩, ⟨w, hw⟩, wd, hwd⟩)
  · exact n1 y m d hy hm hd
  · exact n2 y o hy ho
  · exact n3 y w wd hy hw hwd
  · exact n4 y w wd hy hw hwd
  · exact n5 y w wd hy hw hwd

theorem dateArm_none_iff (p : Parsed) (gy gi : Option Int) :
    Parsed.dateArm p gy gi = .none ↔
      ¬ ((gy ≠ none ∧ ((p.month ≠ none ∧ p.day ≠ none) ∨ p.ordinal ≠ none ∨
            (p.week_from_sun ≠ none ∧ p.weekday ≠ none) ∨ (p.week_from_mon ≠ none ∧ p.weekday ≠ none))) ∨
         (gi ≠ none ∧ p.isoweek ≠ none ∧ p.weekday ≠ none)) := by
  rcases dateArm_cases p gy gi with ⟨_, _, _, e1, e2, e3, ha⟩ | ⟨_, _, e1, e2, ha⟩ |
      ⟨_, _, _, e1, e2, e3, ha⟩ | ⟨_, _, _, e1, e2, e3, ha⟩ | ⟨_, _, _, e1, e2, e3, ha⟩ | ⟨ha, hn⟩
  · rw [ha, e1, e2, e3]
    exact ⟨nofun, fun h => absurd (.inl ⟨nofun, .inl ⟨nofun, nofun⟩⟩) h⟩
  · rw [ha, e1, e2]
    exact ⟨nofun, fun h => absurd (.inl ⟨nofun, .inr (.inl nofun)⟩) h⟩
  · rw [ha, e1, e2, e3]
    exact ⟨nofun, fun h => absurd (.inl ⟨nofun, .inr (.inr (.inl ⟨nofun, nofun⟩))⟩) h⟩
  · rw [ha, e1, e2, e3]
    exact ⟨nofun, fun h => absurd (.inl ⟨nofun, .inr (.inr (.inr ⟨nofun, nofun⟩))⟩) h⟩
  · rw [ha, e1, e2, e3]
    exact ⟨nofun, fun h => absurd (.inr ⟨nofun, nofun, nofun⟩) h⟩
  · exact ⟨fun _ => hn, fun _ => ha⟩

theorem dateArm_iso_fields (p : Parsed) (gy gi : Option Int) (y w : Int) (wd : Weekday)
    (h : Parsed.dateArm p gy gi = .iso y w wd) :
    gi = some y ∧ p.isoweek = some w ∧ p.weekday = some wd := by
  rcases dateArm_cases p gy gi with ⟨_, _, _, _, _, _, ha⟩ | ⟨_, _, _, _, ha⟩ | ⟨_, _, _, _, _, _, ha⟩ |
      ⟨_, _, _, _, _, _, ha⟩ | ⟨_, _, _, e1, e2, e3, ha⟩ | ⟨ha, _⟩
  · rw [ha] at h; cases h
  · rw [ha] at h; cases h
  · rw [ha] at h; cases h
  · rw [ha] at h; cases h
  · rw [ha] at h; cases h; exact ⟨e1, e2, e3⟩
  · rw [ha] at h; cases h

theorem toNat_of_u32 (o : Option Int) (v : Int) (ho : optIn o 0 4294967295) (h : o = some v) :
    ((v.toNat : Nat) : Int) = v := by
  have := ho v h; omega

theorem checks_ok (p : Parsed) (Y : Int) (o : Nat) (hp : InType p) (h : VD Y o) :
    ∃ b1 b2, Parsed.verify_ymd p (dateOfYo Y o) = .ok b1 ∧
      Parsed.verify_isoweekdate p (dateOfYo Y o) = .ok b2 ∧
      ((b1 && b2 && Parsed.verify_ordinal p (dateOfYo Y o)) = true ↔ AllOk p Y o) ∧
      (b1 = true ↔ optIs p.year Y ∧ centIs p.year_div_100 p.year_mod_100 Y ∧
        optIs p.month (monthOfYo Y o) ∧ optIs p.day (dayOfYo Y o)) ∧
      (b2 = true ↔ IsoIs p (dateOfYo Y o) ∧
        (∀ w, p.weekday = some w → (w.toNat : Int) = weekdayOf (dayNumYo Y o))) := by
  obtain ⟨b1, h1, i1⟩ := verify_ymd_iff p Y o h
  obtain ⟨b2, h2, i2⟩ := verify_iso_iff p Y o h
  have i3 := verify_ordinal_iff p Y o hp h
  refine ⟨b1, b2, h1, h2, ?_, i1, i2⟩
  unfold AllOk
  rw [Bool.and_eq_true, Bool.and_eq_true, i1, i2, i3, and_assoc]



theorem dateArm_not_iso (p : Parsed) (gy gi : Option Int)
    (h : gy ≠ none ∧ ((p.month ≠ none ∧ p.day ≠ none) ∨ p.ordinal ≠ none ∨
      (p.week_from_sun ≠ none ∧ p.weekday ≠ none) ∨ (p.week_from_mon ≠ none ∧ p.weekday ≠ none))) :
    ∀ y w wd, Parsed.dateArm p gy gi ≠ .iso y w wd := by
  intro y w wd ha
  simp only [ne_eq, Option.ne_none_iff_exists'] at h
  obtain ⟨⟨Y, hY⟩, hc⟩ := h
  unfold Parsed.dateArm at ha
  -- a calendar arm that applies is taken before the ISO arm is looked at
  split at ha
  · cases ha
  rename_i n1
  split at ha
  · cases ha
  rename_i n2
  split at ha
  · cases ha
  rename_i n3
  split at ha
  · cases ha
  rename_i n4
  rcases hc with ⟨⟨m, hm⟩, d, hd⟩ | ⟨o, ho⟩ | ⟨⟨w, hw⟩, wd, hwd⟩ | ⟨⟨w, hw⟩, wd, hwd⟩
  · exact n1 Y m d hY hm hd
  · exact n2 Y o hY ho
  · exact n3 Y w wd hY hw hwd
  · exact n4 Y w wd hY hw hwd

theorem resolve_week_date_cases (Y w : Int) (wd start : Weekday) :
    Parsed.resolve_week_date Y w wd start = .ok (.error .outOfRange) ∨
    Parsed.resolve_week_date Y w wd start = .ok (.error .impossible) ∨
    ∃ o, VD Y o ∧ Parsed.resolve_week_date Y w wd start = .ok (.ok (dateOfYo Y o)) := by
  have hyl := yearLen_ge Y
  rw [resolve_week_date_spec]
  split
  · exact .inl rfl
  split
  · exact .inl rfl
  rename_i hyr
  split
  · exact .inr (.inl rfl)
  split
  · have hyr' : MIN_YEAR ≤ Y ∧ Y ≤ MAX_YEAR := Decidable.not_not.mp hyr
    exact .inr (.inr ⟨_, ⟨hyr'.1, hyr'.2, by omega, by omega⟩, rfl⟩)
  · exact .inr (.inl rfl)

/-- all three checks on an existing day, as the ordinal and week arms run them -/
theorem full_check (p : Parsed) (Y : Int) (o : Nat) (hp : InType p) (h : VD Y o) :
    ∃ b, Parsed.andR (Parsed.verify_ymd p (dateOfYo Y o)) (Parsed.andR
        (Parsed.verify_isoweekdate p (dateOfYo Y o)) (.ok (Parsed.verify_ordinal p (dateOfYo Y o)))) = .ok b ∧
      (b = true ↔ AllOk p Y o) := by
  obtain ⟨b1, b2, h1, h2, iall, _, _⟩ := checks_ok p Y o hp h
  exact ⟨_, by rw [h1, h2, andR_ok, andR_ok], by rw [← Bool.and_assoc]; exact iall⟩

theorem armDate_spec (p : Parsed) (hp : InType p) (gy gi : Option Int)
    (hgy : Parsed.resolve_year p.year p.year_div_100 p.year_mod_100 = .ok gy)
    (hgi : Parsed.resolve_year p.isoyear p.isoyear_div_100 p.isoyear_mod_100 = .ok gi) :
    ∃ r, Parsed.armDate p (Parsed.dateArm p gy gi) = .ok r ∧
      (∀ b d, r = .ok (b, d) → ∃ Y o, VD Y o ∧ d = dateOfYo Y o ∧ (b = true → (IsoCtorSpec ∨ ∀ y w wd, Parsed.dateArm p gy gi ≠ .iso y w wd) → AllOk p Y o)) ∧
      (∀ e, r = .error e → (e = .notEnough ∧ Parsed.dateArm p gy gi = .none) ∨
        ((e = .outOfRange ∨ e = .impossible) ∧ Parsed.dateArm p gy gi ≠ .none)) := by
  have hY := resolve_year_ok _ _ _ _ hgy
  have hI := resolve_year_ok _ _ _ _ hgi
  generalize hA : Parsed.dateArm p gy gi = A
  -- a candidate day on which all three checks are run
  have checked : ∀ (Y : Int) (o : Nat), VD Y o → ∃ r,
      (match Parsed.andR (Parsed.verify_ymd p (dateOfYo Y o)) (Parsed.andR
          (Parsed.verify_isoweekdate p (dateOfYo Y o)) (.ok (Parsed.verify_ordinal p (dateOfYo Y o)))) with
        | .ok b => .ok (.ok (b, dateOfYo Y o))
        | .panic => .panic : Parsed.RP (Bool × Date)) = .ok r ∧
      (∀ b d, r = .ok (b, d) → ∃ Y o, VD Y o ∧ d = dateOfYo Y o ∧ (b = true →
        (IsoCtorSpec ∨ ∀ y w wd, A ≠ .iso y w wd) → AllOk p Y o)) ∧
      (∀ e, r = .error e → (e = .notEnough ∧ A = .none) ∨
        ((e = .outOfRange ∨ e = .impossible) ∧ A ≠ .none)) := by
    intro Y o hvd
    obtain ⟨b, hb, hall⟩ := full_check p Y o hp hvd
    rw [hb]
    exact ⟨_, rfl, fun b' d h => by cases h; exact ⟨Y, o, hvd, rfl, fun hb _ => hall.mp hb⟩, nofun⟩
  rcases dateArm_cases p gy gi with ⟨y, m, d, e1, e2, e3, ha⟩ | ⟨y, o, e1, e2, ha⟩ |
      ⟨y, w, wd, e1, e2, e3, ha⟩ | ⟨y, w, wd, e1, e2, e3, ha⟩ | ⟨y, w, wd, e1, e2, e3, ha⟩ | ⟨ha, _⟩
  · -- year, month, day: `verify_ymd` is not run; its result follows from how the day was built
    rw [hA] at ha; subst ha
    unfold Parsed.armDate
    simp only []
    rw [ctor_ymd']
    split
    · rename_i hc
      obtain ⟨hc1, hc2, hv⟩ := hc
      obtain ⟨ob1, ob2⟩ := ordinal_bounds y _ _ hv
      have hvd : VD y (ordinalOf y m.toNat d.toNat) := ⟨hc1, hc2, ob1, ob2⟩
      obtain ⟨b1, b2, h1, h2, iall, i1, i2⟩ := checks_ok p y _ hp hvd
      simp only [Parsed.okOr, Parsed.RP.bind]
      rw [h2, andR_ok]
      refine ⟨_, rfl, ?_, nofun⟩
      intro b dd hbd
      cases hbd
      refine ⟨y, _, hvd, rfl, fun hb _ => ?_⟩
      apply iall.mp
      rw [Bool.and_eq_true] at hb
      have hb1 : b1 = true := by
        apply i1.mpr
        rcases hY with ⟨hn, _⟩ | ⟨Y, hg, hy1, hy2, _⟩
        · rw [hn] at e1; cases e1
        · rw [hg] at e1; cases e1
          obtain ⟨um, ud⟩ := ymd_unique y _ _ hv
          refine ⟨hy1, hy2, ?_, ?_⟩
          · intro x hx; rw [e2] at hx; cases hx; rw [um]
            exact (toNat_of_u32 _ _ hp.2.2.2.2.2.2.2.1 e2).symm
          · intro x hx; rw [e3] at hx; cases hx; rw [ud]
            exact (toNat_of_u32 _ _ hp.2.2.2.2.2.2.2.2.2.2.2.2.1 e3).symm
      rw [hb1, hb.1, hb.2]; rfl
    · simp only [Parsed.okOr, Parsed.RP.bind]
      exact ⟨_, rfl, nofun, fun e he => by cases he; exact .inr ⟨.inl rfl, nofun⟩⟩
  · -- year, ordinal
    rw [hA] at ha; subst ha
    unfold Parsed.armDate
    simp only []
    rw [ctor_yo']
    split
    · rename_i hc
      simp only [Parsed.okOr, Parsed.RP.bind]
      exact checked y _ hc
    · simp only [Parsed.okOr, Parsed.RP.bind]
      exact ⟨_, rfl, nofun, fun e he => by cases he; exact .inr ⟨.inl rfl, nofun⟩⟩
  · -- year, week from Sunday, weekday
    rw [hA] at ha; subst ha
    unfold Parsed.armDate
    simp only []
    rcases resolve_week_date_cases y w wd .sun with h | h | ⟨o, hvd, h⟩
    · rw [h]; exact ⟨_, rfl, nofun, fun e he => by cases he; exact .inr ⟨.inl rfl, nofun⟩⟩
    · rw [h]; exact ⟨_, rfl, nofun, fun e he => by cases he; exact .inr ⟨.inr rfl, nofun⟩⟩
    · rw [h]; exact checked y o hvd
  · -- year, week from Monday, weekday
    rw [hA] at ha; subst ha
    unfold Parsed.armDate
    simp only []
    rcases resolve_week_date_cases y w wd .mon with h | h | ⟨o, hvd, h⟩
    · rw [h]; exact ⟨_, rfl, nofun, fun e he => by cases he; exact .inr ⟨.inl rfl, nofun⟩⟩
    · rw [h]; exact ⟨_, rfl, nofun, fun e he => by cases he; exact .inr ⟨.inr rfl, nofun⟩⟩
    · rw [h]; exact checked y o hvd
  · -- ISO year, ISO week, weekday: `verify_isoweekdate` is not run; the constructor's round trip
    -- (`IsoCtorSpec`) stands for it
    rw [hA] at ha; subst ha
    unfold Parsed.armDate
    simp only []
    obtain ⟨r', hr', hform⟩ := isoywd_form y w.toNat wd
    rw [hr']
    cases r' with
    | none =>
      simp only [Parsed.okOr, Parsed.RP.bind]
      exact ⟨_, rfl, nofun, fun e he => by cases he; exact .inr ⟨.inl rfl, nofun⟩⟩
    | some D =>
      obtain ⟨Y', o', hvd, rfl⟩ := hform D rfl
      obtain ⟨b1, b2, h1, h2, iall, _, i2⟩ := checks_ok p Y' o' hp hvd
      simp only [Parsed.okOr, Parsed.RP.bind]
      rw [h1, andR_ok]
      refine ⟨_, rfl, ?_, nofun⟩
      intro b dd hbd
      cases hbd
      refine ⟨Y', o', hvd, rfl, fun hb hiso => ?_⟩
      apply iall.mp
      rw [Bool.and_eq_true] at hb
      have hb2 : b2 = true := by
        apply i2.mpr
        have hiso : IsoCtorSpec := hiso.elim id fun h => absurd rfl (h y w wd)
        obtain ⟨iw, hiw, hiy, hiwk, hwd⟩ := hiso y w.toNat wd _ hr'
        rcases hI with ⟨hn, _⟩ | ⟨Y, hg, hy1, hy2, _⟩
        · rw [hn] at e1; cases e1
        · rw [hg] at e1; cases e1
          refine ⟨⟨iw, hiw, ?_, ?_, ?_⟩, ?_⟩
          · rw [hiy]; exact hy1
          · rw [hiy]; exact hy2
          · intro x hx; rw [e2] at hx; cases hx; rw [hiwk]
            exact (toNat_of_u32 _ _ hp.2.2.2.2.2.2.2.2.2.2.1 e2).symm
          · intro x hx; rw [e3] at hx; cases hx
            rw [← (vd_fields Y' o' hvd).2.2.2.2.2.1, hwd]
      rw [hb.1, hb2, hb.2]; rfl
  · rw [hA] at ha; subst ha
    exact ⟨_, rfl, nofun, fun e he => by cases he; exact .inl ⟨rfl, rfl⟩⟩

theorem quarter_eq (m : Nat) (h : 1 ≤ m) : Parsed.quarter_of m = quarterOfMonth m := by
  unfold Parsed.quarter_of quarterOfMonth; omega

/-- `to_naive_date`, all at once: no panic; a result is an existing day that agrees with every
supplied field; the error kinds -/
theorem date_main (p : Parsed) (hp : InType p) :
    ∃ r, Parsed.to_naive_date p = .ok r ∧
      (∀ d, r = .ok d → ∃ Y o, VD Y o ∧ d = dateOfYo Y o ∧ (IsoCtorSpec ∨ UsesCalendar p → DateAgrees p Y o)) ∧
      (∀ e, r = .error e → e = .notEnough ∨ e = .impossible ∨ e = .outOfRange) ∧
      (r = .error .notEnough → ¬ DateSufficient p) := by
  unfold Parsed.to_naive_date
  cases hgy : Parsed.resolve_year p.year p.year_div_100 p.year_mod_100 with
  | error e =>
    obtain ⟨hk, hne⟩ := resolve_year_err_kinds _ _ _ _ hgy
    exact ⟨_, rfl, nofun, fun e' he => by cases he; exact hk,
      fun he => by cases he; exact fun hs => hne rfl hs.1⟩
  | ok gy =>
    simp only []
    cases hgi : Parsed.resolve_year p.isoyear p.isoyear_div_100 p.isoyear_mod_100 with
    | error e =>
      obtain ⟨hk, hne⟩ := resolve_year_err_kinds _ _ _ _ hgi
      exact ⟨_, rfl, nofun, fun e' he => by cases he; exact hk,
        fun he => by cases he; exact fun hs => hne rfl hs.2.1⟩
    | ok gi =>
      simp only []
      obtain ⟨r, hr, hok, herr⟩ := armDate_spec p hp gy gi hgy hgi
      rw [hr]
      cases r with
      | error e =>
        simp only [Parsed.RP.bind]
        refine ⟨_, rfl, (fun d h => by cases h), fun e' he => ?_, fun he => ?_⟩
        · cases he
          rcases herr e rfl with ⟨h, _⟩ | ⟨h | h, _⟩ <;> simp [h]
        · cases he
          rcases herr _ rfl with ⟨_, harm⟩ | ⟨h | h, _⟩
          · have hn := (dateArm_none_iff p gy gi).mp harm
            intro hs
            apply hn
            rcases hs.2.2 with ⟨hy, hc⟩ | ⟨hy, hc⟩
            · exact .inl ⟨(resolve_year_some_iff _ _ _ _ hgy).mpr hy, hc⟩
            · exact .inr ⟨(resolve_year_some_iff _ _ _ _ hgi).mpr hy, hc⟩
          · cases h
          · cases h
      | ok bd =>
        obtain ⟨b, d⟩ := bd
        obtain ⟨Y, o, hvd, rfl, hall⟩ := hok b d rfl
        simp only [Parsed.RP.bind]
        cases b with
        | false =>
          simp only [Bool.not_false, if_true]
          exact ⟨_, rfl, (fun d h => by cases h), (fun e' he => by cases he; simp), (fun he => by cases he)⟩
        | true =>
          simp only [Bool.not_true, Bool.false_eq_true, if_false]
          obtain ⟨_, _, _, hm, _, _, _⟩ := vd_fields Y o hvd
          obtain ⟨_, _, hval, _⟩ := month_day_spec Y o hvd.2.2.1 hvd.2.2.2
          have hm1 : 1 ≤ monthOfYo Y o := by
            unfold validYmd at hval; simp at hval; omega
          have fin : ∀ (hq : optIs p.quarter (quarterOfMonth (monthOfYo Y o))),
              IsoCtorSpec ∨ UsesCalendar p → DateAgrees p Y o := by
            intro hq hiso
            have hiso' : IsoCtorSpec ∨ ∀ y w wd, Parsed.dateArm p gy gi ≠ .iso y w wd := by
              rcases hiso with h | h
              · exact Or.inl h
              · exact .inr (dateArm_not_iso p gy gi ⟨(resolve_year_some_iff _ _ _ _ hgy).mpr h.1, h.2⟩)
            obtain ⟨⟨a1, a2, a3, a4⟩, ⟨a5, a6⟩, a7, a8, a9⟩ := hall rfl hiso'
            exact ⟨a1, a2, hq, a3, a8, a9, a6, a7, a4, a5⟩
          cases hq : p.quarter with
          | none =>
            simp only []
            refine ⟨_, rfl, ?_, (fun e' he => by cases he), (fun he => by cases he)⟩
            intro d hd; cases hd
            exact ⟨Y, o, hvd, rfl, fin (by intro x hx; rw [hq] at hx; cases hx)⟩
          | some q =>
            simp only []
            rw [hm]
            simp only []
            rw [quarter_eq _ hm1]
            split
            · exact ⟨_, rfl, (fun d _h => by cases _h), (fun e' he => by cases he; simp), (fun he => by cases he)⟩
            · rename_i hqq
              refine ⟨_, rfl, ?_, (fun e' he => by cases he), (fun he => by cases he)⟩
              intro d hd; cases hd
              refine ⟨Y, o, hvd, rfl, fin ?_⟩
              intro x hx; rw [hq] at hx; cases hx
              exact Decidable.not_not.mp hqq


theorem resolve_year_total (y q r : Option Int) (hu : GroupUsable y q r) (hc : GroupCoherent y q r) :
    ∃ g, Parsed.resolve_year y q r = .ok g := by
  rcases resolve_year_cases y q r _ rfl with ⟨h, _⟩ | ⟨Y, h, _⟩ | ⟨_, h1⟩ | ⟨_, _, _, h1⟩
  · exact ⟨_, h⟩
  · exact ⟨_, h⟩
  · exact absurd hu h1
  · exact absurd hc h1

theorem resolve_year_unusable (y q r : Option Int) (hu : ¬ GroupUsable y q r) :
    Parsed.resolve_year y q r = .error .notEnough := by
  unfold GroupUsable at hu
  have hu' := Decidable.not_not.mp hu
  obtain ⟨rfl, hq, rfl⟩ := hu'
  cases q with
  | none => exact absurd rfl hq
  | some qv => rfl

theorem date_not_enough_iff (p : Parsed) (hp : InType p)
    (hc1 : GroupCoherent p.year p.year_div_100 p.year_mod_100)
    (hc2 : GroupCoherent p.isoyear p.isoyear_div_100 p.isoyear_mod_100) :
    Parsed.to_naive_date p = .ok (.error .notEnough) ↔ ¬ DateSufficient p := by
  constructor
  · intro h
    obtain ⟨r, hr, _, _, hne⟩ := date_main p hp
    rw [hr] at h
    cases h
    exact hne rfl
  · intro hns
    by_cases hu1 : GroupUsable p.year p.year_div_100 p.year_mod_100
    · obtain ⟨gy, hgy⟩ := resolve_year_total _ _ _ hu1 hc1
      by_cases hu2 : GroupUsable p.isoyear p.isoyear_div_100 p.isoyear_mod_100
      · obtain ⟨gi, hgi⟩ := resolve_year_total _ _ _ hu2 hc2
        unfold Parsed.to_naive_date
        rw [hgy, hgi]
        simp only []
        have harm : Parsed.dateArm p gy gi = .none := by
          refine (dateArm_none_iff p gy gi).mpr fun h => hns ⟨hu1, hu2, ?_⟩
          rcases h with ⟨hg, hc⟩ | ⟨hg, hc⟩
          · exact .inl ⟨(resolve_year_some_iff _ _ _ _ hgy).mp hg, hc⟩
          · exact .inr ⟨(resolve_year_some_iff _ _ _ _ hgi).mp hg, hc⟩
        rw [harm]
        rfl
      · unfold Parsed.to_naive_date
        rw [hgy, resolve_year_unusable _ _ _ hu2]
    · unfold Parsed.to_naive_date
      rw [resolve_year_unusable _ _ _ hu1]


end Chrono.Proofs.ParsedRes
