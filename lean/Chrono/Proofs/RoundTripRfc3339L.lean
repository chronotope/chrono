/-
  C13, seventh lemma file: the RFC 3339 item `%+`.  What `%+` prints is `write_rfc3339(wall clock,
  offset, AutoSi, use_z = false)`: the `Debug` text of the wall clock followed by `+hh:mm`
  (C20's `write_rfc3339_autoSi_debug`), which is the `Debug` text of a `DateTime<FixedOffset>` — the text
  C09 proves the relaxed reader `parse_rfc3339_relaxed` (the reader of `%+`) reads back.
  Namespace `Chrono.Proofs.RoundTrip`.
-/
import Chrono.Proofs.RoundTripStampL
import Chrono.Proofs.SerdeStrL

namespace Chrono.Proofs.RoundTrip
open Chrono Chrono.M Chrono.M.Scan Chrono.M.Format Chrono.M.TextForms
open Chrono.Spec Chrono.Spec.Text Chrono.Spec.Fields Chrono.Extracted Chrono.Proofs Chrono.Proofs.TextForms
open Chrono.Proofs.ParsedRes

/-- **what `%+` writes**: for a well-formed value with a whole-minute offset whose wall clock `l` is in
range, the wall clock in its `Debug` form (`T` separator, `AutoSi` fraction, leap second as `60`)
followed by `+hh:mm` -/
theorem rfc3339_item_text (z : Zoned) (hz : ZInv z) (hm : WholeMinute z.off)
    (hs : TStrict z.utc.time) (l : NaiveDT) (hl : Zoned.naive_local z = .ok l) :
    Zoned.overflowing_naive_local z = .ok l ∧
    write_rfc3339 l z.off .autoSi false = wok (naiveText 84 l ++ offsetText z.off) := by
  obtain ⟨Y, O, hvd, he, hst, hov⟩ := local_facts z hz hm.2.2 hs l hl
  refine ⟨hov, ?_⟩
  -- no `Z` is asked for, and nothing is rounded in a whole-minute offset
  rw [SerdeStr.write_rfc3339_autoSi_debug, SerdeStr.offset_colon_text false z.off ⟨hm.1, hm.2.1⟩,
    if_neg (fun h => Bool.false_ne_true h.1), SerdeStr.signedHhmm_whole z.off hm.2.2]
  have hd : naive_debug l = wok (naiveText 84 l) := by
    have ht : naiveText 84 l = dateText Y (monthOfYo Y O) (dayOfYo Y O) ++ (84 :: timeText l.time) := by
      unfold naiveText
      have : l.date = dateOfYo Y O := by rw [he]
      rw [this, dateTextOf_yo Y O hvd]
    rw [ht]
    conv => lhs; rw [he]
    exact naive_debug_text Y O hvd _ hst.1
  rw [hd]
  rfl

/-- **what the reader of `%+` makes of it**: `parse_rfc3339_relaxed` on a fresh record consumes the
whole text and stores year, month, day, hour, minute, second, nanosecond and offset, which
`to_datetime` resolves to the value -/
theorem rfc3339_item_reads (z : Zoned) (hz : ZInv z) (hm : WholeMinute z.off)
    (hs : TStrict z.utc.time) (l : NaiveDT) (hl : Zoned.naive_local z = .ok l) :
    ∃ p, Parse.parse_rfc3339_relaxed Parsed.new (naiveText 84 l ++ offsetText z.off) = .ok (p, []) ∧
      Parsed.to_datetime p = .ok (.ok z) := by
  obtain ⟨Y, O, hvd, he, hst, _⟩ := local_facts z hz hm.2.2 hs l hl
  obtain ⟨_, htail, _, htrim, hT⟩ := TextFormsExt.offset_tail z.off hm
  have ho : -86400 < z.off ∧ z.off < 86400 := hz.2
  have htext : naiveText 84 l ++ offsetText z.off =
      dateText Y (monthOfYo Y O) (dayOfYo Y O) ++ (84 :: (timeText l.time ++ offsetText z.off)) := by
    unfold naiveText
    have : l.date = dateOfYo Y O := by rw [he]
    rw [this, dateTextOf_yo Y O hvd, List.append_assoc, List.cons_append]
  obtain ⟨a1, a2, a3, a4, a5, a6⟩ := vd_month_day Y O hvd
  refine ⟨dtRecord Y (monthOfYo Y O) (dayOfYo Y O) l.time (some z.off), ?_,
    to_datetime_record z hz l hl Y O hvd he hst⟩
  rw [htext]
  exact relaxed_on_text Y ⟨a1, a2⟩ _ _ ⟨a3, a4⟩ ⟨a5, a6⟩ l.time hst 84 (Or.inl rfl) _ _ z.off (by omega)
    htail (by rw [htrim, htrim]) hT

/-- **round trip of the format `%+`** (any format string whose only item is the RFC 3339 item) -/
theorem family_rfc3339 (is : List Item) (his : is = [.fixed .rfc3339]) (z : Zoned) (hz : ZInv z)
    (hm : WholeMinute z.off) (hs : TStrict z.utc.time) (l : NaiveDT) (hl : Zoned.naive_local z = .ok l) :
    ParseFrom.formatItemsOf (.zoned z) is = wok (naiveText 84 l ++ offsetText z.off) ∧
    ∃ p, Parse.parse Parsed.new (naiveText 84 l ++ offsetText z.off) is = .ok p ∧
      ParseFrom.resolve .zoned p = .ok (.ok (.zoned z)) := by
  subst his
  obtain ⟨hov, hw⟩ := rfc3339_item_text z hz hm hs l hl
  obtain ⟨p, hp, hres⟩ := rfc3339_item_reads z hz hm hs l hl
  refine ⟨?_, p, ?_, ?_⟩
  · simp only [ParseFrom.formatItemsOf, hov, W.ofRes, formatItemsR, format_item, format_fixed]
    cases l with
    | mk d t =>
      simp only [hw]
      show (wok _).seq (wok []) = _
      simp only [W.seq, wok, List.append_nil]
  · simp only [Parse.parse, Parse.parse_internal, hp]
  · simp only [ParseFrom.resolve, hres, Parsed.RP.bind]

end Chrono.Proofs.RoundTrip
