/-
  Helper lemmas for C12: the two composite fixed items.
  `Fixed::RFC3339` (`%+`) formats exactly like the item list of `%Y-%m-%dT%H:%M:%S%.f%:z`, and
  `Fixed::RFC2822` like the item list of `%a, %-d %b %Y %H:%M:%S %z` on years 0..=9999 (an error outside).
-/
import Chrono.Proofs.FormatL
namespace Chrono.Proofs.FormatRfc
open Chrono Chrono.M Chrono.M.Format Chrono.M.Strftime Chrono.Spec Chrono.Spec.Strftime Chrono.Extracted
open Chrono.Proofs.FormatL

/-! ### the item lists -/

def rfc3339Expansion : List Item :=
  [.numeric .year .zero, .literal [45], .numeric .month .zero, .literal [45], .numeric .day .zero,
   .literal [84], .numeric .hour .zero, .literal [58], .numeric .minute .zero, .literal [58],
   .numeric .second .zero, .fixed .nanosecond, .fixed .timezoneOffsetColon]

def rfc2822Expansion : List Item :=
  [.fixed .shortWeekdayName, .literal [44], .space [32], .numeric .day .none, .space [32],
   .fixed .shortMonthName, .space [32], .numeric .year .zero, .space [32], .numeric .hour .zero,
   .literal [58], .numeric .minute .zero, .literal [58], .numeric .second .zero, .space [32],
   .fixed .timezoneOffset]

theorem items_fin :
    items (str "%+") = [.fixed .rfc3339] ∧
    items (str "%Y-%m-%dT%H:%M:%S%.f%:z") = rfc3339Expansion ∧
    items (str "%a, %-d %b %Y %H:%M:%S %z") = rfc2822Expansion := by decide

/-! ### field by field -/

theorem hundreds_eq_two (v : Int) (h0 : 0 ≤ v) (h : v < 100) :
    write_hundreds (asU8 v) = wok (write_two (asU8 v) .zero) := by
  rw [write_hundreds_ok v h0 h, write_two_ok v h0 h]; rfl

/-- the day of `write_rfc2822` (one character below 10, else `write_hundreds`) is `%-d` -/
theorem day_nopad (v : Nat) (h : v < 100) :
    (if v < 10 then wok (pushChar (48 + asU8 ((v : Nat) : Int)).toNat) else write_hundreds (asU8 ((v : Nat) : Int)))
      = wok (write_two (asU8 ((v : Nat) : Int)) .none) := by
  rw [write_two_ok v (by omega) (by omega), number_eq]
  split
  · rename_i c
    rw [asU8_eq v (by omega) (by omega), pushChar_digit v c, fmtInt_nat, digits_lt v c]
  · rename_i c
    rw [write_hundreds_ok v (by omega) (by omega), two, number_eq]
    exact congrArg wok (fmtInt_full v 2 (by rw [digits_two v (by omega) h]; exact Nat.le_refl 2) .zero .none)

/-- the four-digit year of the two RFC writers (two `write_hundreds`) is `%Y` on 0..=9999 -/
theorem year_hundreds (y : Int) (h : 0 ≤ y ∧ y ≤ 9999) :
    (write_hundreds (asU8 (Int.tdiv y 100))).seq (write_hundreds (asU8 (Int.tmod y 100))) = write_year y .zero := by
  rw [write_year_ok, yearText, if_pos h, number_eq, year_hundreds_text y h.1 h.2]

/-- the year of `write_rfc3339` is `%Y` for EVERY year: four digits on 0..=9999, else sign and at least
four digits -/
theorem year_rfc3339 (y : Int) :
    (if 0 ≤ y ∧ y ≤ 9999 then
        (write_hundreds (asU8 (Int.tdiv y 100))).seq (write_hundreds (asU8 (Int.tmod y 100)))
      else wok (fmtInt y 5 .zero true)) = write_year y .zero := by
  by_cases h : 0 ≤ y ∧ y ≤ 9999
  · rw [if_pos h]; exact year_hundreds y h
  · rw [if_neg h, write_year_ok]
    unfold yearText
    rw [if_neg h, number_eq]

theorem nano_eq (f : Int) (h0 : 0 ≤ f) (h1 : f < 2000000000) :
    (if f ≥ 1000000000 then f - 1000000000 else f) = f % 1000000000 := by
  split <;> omega

theorem sec_eq (s f : Int) (h0 : 0 ≤ f) (h1 : f < 2000000000) :
    (if f ≥ 1000000000 then s + 1 else s) = s + f / 1000000000 := by
  split <;> omega

/-! ### `%+` -/

/-- `Fixed::RFC3339` = the items of `%Y-%m-%dT%H:%M:%S%.f%:z`, for any date whose month and day
accessors answer (with two-digit values), any valid time incl. leap seconds, ANY year and ANY offset
(also where both fail: an offset of 100 hours or more makes `write_hundreds` fail in both) -/
theorem rfc3339_expansion (d : Date) (t : Time) (name : List Nat) (off : Int) (m dd : Nat)
    (hm : d.month = .ok m) (hd : d.day = .ok dd) (hm' : m < 100) (hd' : dd < 100) (ht : TValid t) :
    formatItemsR (some d) (some t) (some (name, off)) [.fixed .rfc3339] =
      formatItemsR (some d) (some t) (some (name, off)) rfc3339Expansion := by
  obtain ⟨t1, t2, t3, t4⟩ := ht
  simp only [rfc3339Expansion, formatItemsR, format_item, format_fixed, format_numeric, seq_nil]
  -- `dsimp` first: it also reduces `dt.time` inside the `Decidable` instances of the leap-second tests
  dsimp only [write_rfc3339, Time.hms, Time.nanosecond]
  simp only [hm, hd, W.ofRes]
  rw [year_rfc3339, hundreds_eq_two m (by omega) (by omega), hundreds_eq_two dd (by omega) (by omega),
    hundreds_eq_two (t.secs / 60 / 60) (by omega) (by omega),
    hundreds_eq_two (t.secs / 60 % 60) (by omega) (by omega)]
  simp only [sec_eq (t.secs % 60) t.frac t3 t4, nano_eq t.frac t3 t4, apply_ite wok]
  rw [hundreds_eq_two (t.secs % 60 + t.frac / 1000000000) (by omega) (by omega)]
  rfl

/-! ### RFC 2822 -/

theorem rfc2822_expansion (d : Date) (t : Time) (name : List Nat) (off : Int) (m dd : Nat)
    (hm : d.month = .ok m) (hd : d.day = .ok dd) (hd' : dd < 100) (ht : TValid t)
    (hy : 0 ≤ d.year ∧ d.year ≤ 9999) :
    formatItemsR (some d) (some t) (some (name, off)) [.fixed .rfc2822] =
      formatItemsR (some d) (some t) (some (name, off)) rfc2822Expansion := by
  obtain ⟨t1, t2, t3, t4⟩ := ht
  simp only [rfc2822Expansion, formatItemsR, format_item, format_fixed, format_numeric, seq_nil]
  simp only [write_rfc2822, hm, hd, W.ofRes, Time.hms, Time.hour, Time.minute, Time.second, Time.nanosecond]
  rw [if_neg (by simp [hy.1, hy.2])]
  rw [day_nopad dd hd', hundreds_eq_two (t.secs / 60 / 60) (by omega) (by omega),
    hundreds_eq_two (t.secs / 60 % 60) (by omega) (by omega),
    hundreds_eq_two (t.secs % 60 + t.frac / 1000000000) (by omega) (by omega)]
  rw [← seq_assoc (write_hundreds _) (write_hundreds _), year_hundreds d.year hy, ← seq_assoc (wok [44]) (wok [32])]
  rfl

theorem rfc2822_out_of_range (d : Date) (t : Time) (name : List Nat) (off : Int)
    (hy : ¬ (0 ≤ d.year ∧ d.year ≤ 9999)) :
    formatItemsR (some d) (some t) (some (name, off)) [.fixed .rfc2822] = werr := by
  simp only [formatItemsR, format_item, format_fixed, write_rfc2822]
  rw [if_pos hy]
  rfl

end Chrono.Proofs.FormatRfc
