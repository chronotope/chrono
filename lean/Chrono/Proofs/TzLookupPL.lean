/-
  C16, part 3: an accepted zone answers every offset query.
  The three-valued lookups of Model/TzLookupP.lean never panic on a zone with a type, in-range
  transition indices and a rule `from_tz_string` can build (`LookupSafe`: what `parse` guarantees),
  and they return, value for value and `Err` for `Err`, what property C05's `Option`-valued models
  of the same Rust functions return.
-/
import Chrono.Model.TzLookupP
import Chrono.Proofs.TzValidL

set_option linter.unusedSimpArgs false
set_option linter.unusedVariables false

namespace Chrono.Proofs.TzValid
open Chrono Chrono.M.Tz Chrono.Spec.Tz Chrono.Proofs Chrono.Proofs.Tz

/-- what the lookups rely on: at least one local time type, every transition's type index in
range, and a rule with the field ranges `from_tz_string` enforces -/
def LookupSafe (z : Zone) : Prop :=
  z.types ≠ [] ∧ (∀ t ∈ z.transitions, t.idx < z.types.length) ∧ (∀ r, z.rule = some r → RuleV r)

theorem typeIdx_ok (z : Zone) (i : Nat) (h : i < z.types.length) :
    typeIdx z i = .ok (M.TzL.typeAt z i) := by
  unfold typeIdx M.TzL.typeAt
  rw [List.getElem?_eq_getElem h]
  simp [List.getD, List.getElem?_eq_getElem h]

theorem types_pos {z : Zone} (h : z.types ≠ []) : 0 < z.types.length :=
  List.length_pos_iff.mpr h

theorem sat_same (x : Int) : M.Tz.satI64 x = M.TzL.satI64 x := rfl

/-! ### lookup by instant -/
theorem toLeapLoopP_val (ls : List LeapSecond) (ut : Int) :
    ∀ cur, toLeapLoopP ls ut cur = toP (M.TzL.toLeapLoop ls ut cur) := by
  induction ls with
  | nil => intro cur; rfl
  | cons l rest ih =>
    intro cur
    simp only [toLeapLoopP, M.TzL.toLeapLoop]
    split
    · rfl
    · cases optI64 (ut + l.corr) with
      | none => rfl
      | some c => exact ih c

theorem getLast_mem {l : List Transition} {x : Transition} (h : l.getLast? = some x) : x ∈ l :=
  List.mem_of_getLast? h

theorem find_P_val (z : Zone) (hs : LookupSafe z) (t : Int) :
    z.find_local_time_type_P t = toP (z.find_local_time_type t) := by
  obtain ⟨h0, hidx, hrule⟩ := hs
  unfold Zone.find_local_time_type_P Zone.find_local_time_type
  cases hl : z.transitions.getLast? with
  | none =>
    simp only
    cases hr : z.rule with
    | none => simp only; rw [typeIdx_ok z 0 (types_pos h0)]; rfl
    | some r => exact rule_find_val r t (hrule r hr)
  | some last =>
    have hmem := getLast_mem hl
    simp only
    unfold unix_time_to_unix_leap_time_P M.TzL.unix_time_to_unix_leap_time
    rw [toLeapLoopP_val]
    cases M.TzL.toLeapLoop z.leaps t t with
    | none => rfl
    | some ult =>
      simp only [toP, P.bind_ok]
      by_cases c : ult ≥ last.time
      · rw [if_pos c, if_pos c]
        cases hr : z.rule with
        | none => simp only; rw [typeIdx_ok z last.idx (hidx last hmem)]
        | some r => exact rule_find_val r t (hrule r hr)
      · rw [if_neg c, if_neg c]
        simp only [bsearch_rank]
        have hle := rank_le_len (z.transitions.map (·.time)) ult
        rw [List.length_map] at hle
        by_cases g : M.TzL.rankLE (z.transitions.map (·.time)) ult > 0
        · rw [if_pos g, if_pos g]
          have hlt : M.TzL.rankLE (z.transitions.map (·.time)) ult - 1 < z.transitions.length := by omega
          rw [List.getElem?_eq_getElem hlt]
          simp only [P.bind_ok]
          have e : z.transitions.getD (M.TzL.rankLE (z.transitions.map (·.time)) ult - 1) ⟨0, 0⟩
              = z.transitions[M.TzL.rankLE (z.transitions.map (·.time)) ult - 1] := by
            simp [List.getD, List.getElem?_eq_getElem hlt]
          rw [e]
          exact typeIdx_ok z _ (hidx _ (List.getElem_mem hlt))
        · rw [if_neg g, if_neg g]
          simp only [P.bind_ok]
          exact typeIdx_ok z 0 (types_pos h0)

/-! ### lookup by wall clock -/
theorem fromLocalLoopP_val (z : Zone) (trs : List Transition) (h : ∀ t ∈ trs, t.idx < z.types.length)
    (ℓ : Int) : ∀ prev, fromLocalLoopP z trs prev ℓ = .ok (M.TzL.fromLocalLoop z trs prev ℓ) := by
  induction trs with
  | nil => intro prev; rfl
  | cons tr rest ih =>
    intro prev
    have ih' := ih (fun t ht => h t (List.mem_cons_of_mem _ ht))
    unfold fromLocalLoopP M.TzL.fromLocalLoop
    rw [typeIdx_ok z tr.idx (h tr (List.mem_cons_self ..))]
    -- both sides are now the same tree of `if`s, `P.ok` at the leaves on the left, at the root on the right
    simp only [ih', apply_ite P.ok]
    rfl

theorem unix_time_bound (d : RuleDay) (y t : Int) (hd : DayOk d) (hy : I32r y)
    (ht : -1000000 ≤ t ∧ t ≤ 1000000) :
    -69120000001000000 ≤ M.TzL.unix_time d y t ∧ M.TzL.unix_time d y t ≤ 69120000001000000 := by
  have hdv : DateV (M.TzL.transition_date d y) :=
    post_spec (post_transition_date d y hd hy) (transition_date_val d y hd hy)
  obtain ⟨h1, h2, h3, h4⟩ := hdv
  have hb := dse_bound y (M.TzL.transition_date d y).1 (M.TzL.transition_date d y).2 hy ⟨h1, h2⟩ (by omega)
  have k' : Extracted.TzL.SECONDS_PER_DAY = 86400 := rfl
  unfold M.TzL.unix_time
  simp only [k']
  omega

/-- a window end of the wall-clock lookup — `unix_time` plus a rule time plus one offset minus the
other — and its two partial sums are far inside `i64` -/
theorem window_end_ok {u t o o' : Int} (hu : -69120000001000000 ≤ u ∧ u ≤ 69120000001000000)
    (ht : -604799 ≤ t ∧ t ≤ 604799) (ho : -100000 ≤ o ∧ o ≤ 100000) (ho' : -100000 ≤ o' ∧ o' ≤ 100000) :
    ck64 (u + t) = .ok (u + t) ∧ ck64 (u + t + o) = .ok (u + t + o)
      ∧ ck64 (u + t + o - o') = .ok (u + t + o - o') :=
  ⟨ck64_ok (by omega) (by omega), ck64_ok (by omega) (by omega), ck64_ok (by omega) (by omega)⟩

theorem alt_from_local_val (a : Alt) (h : RuleV (.alt a)) (y : Int) (hy : I32r y) (ℓ : Int) :
    a.find_local_time_type_from_local_P y ℓ = .ok (a.find_local_time_type_from_local y ℓ) := by
  obtain ⟨hs, hd, hd1, hd2, ht1, ht2, -, -⟩ := h
  unfold LttV at hs hd
  unfold TimeV at ht1 ht2
  have b1 := unix_time_bound a.dstStart y 0 hd1 hy (by omega)
  have b2 := unix_time_bound a.dstEnd y 0 hd2 hy (by omega)
  unfold Alt.find_local_time_type_from_local_P
  rw [unix_time_val _ y 0 hd1 hy (by omega), unix_time_val _ y 0 hd2 hy (by omega)]
  obtain ⟨s1, s2, s3⟩ := window_end_ok b1 ht1 hd hs
  obtain ⟨e1, e2, e3⟩ := window_end_ok b2 ht2 hs hd
  simp only [P.bind_ok, s1, s2, s3, e1, e2, e3]
  rfl
theorem rule_from_local_val (r : Rule) (h : RuleV r) (y : Int) (hy : I32r y) (ℓ : Int) :
    r.find_local_time_type_from_local_P y ℓ = .ok (r.find_local_time_type_from_local y ℓ) := by
  cases r with
  | fixed l => rfl
  | alt a => exact alt_from_local_val a h y hy ℓ

/-- C05's model of `TimeZoneRef::find_local_time_type_from_local` with the year of the wall-clock
value as a parameter (`M.TzL.naiveYear ℓ` in C05's model) -/
def fromLocalWithYear (z : Zone) (y ℓ : Int) : M.TzL.Mapped Ltt :=
  let out :=
    if z.transitions.isEmpty then M.TzL.LoopOut.fell (M.TzL.typeAt z 0)
    else M.TzL.fromLocalLoop z z.transitions (M.TzL.typeAt z 0) ℓ
  match out with
  | .ret m => m
  | .fell offset_after_last =>
    match z.rule with
    | some r => r.find_local_time_type_from_local y ℓ
    | none => .single offset_after_last

theorem fromLocalWithYear_naive (z : Zone) (ℓ : Int) :
    fromLocalWithYear z (M.TzL.naiveYear ℓ) ℓ = z.find_local_time_type_from_local ℓ := rfl

theorem find_local_P_val (z : Zone) (hs : LookupSafe z) (y : Int) (hy : I32r y) (ℓ : Int) :
    z.find_local_time_type_from_local_P y ℓ = .ok (fromLocalWithYear z y ℓ) := by
  obtain ⟨h0, hidx, hrule⟩ := hs
  unfold Zone.find_local_time_type_from_local_P fromLocalWithYear
  rw [typeIdx_ok z 0 (types_pos h0)]
  simp only [P.bind_ok, fromLocalLoopP_val z z.transitions hidx ℓ]
  cases he : z.transitions.isEmpty with
  | true =>
    simp only [Bool.not_true, Bool.false_eq_true, if_false, if_true, P.bind_ok]
    cases hr : z.rule with
    | none => rfl
    | some r => exact rule_from_local_val r (hrule r hr) y hy ℓ
  | false =>
    simp only [Bool.not_false, if_true, Bool.false_eq_true, if_false, P.bind_ok]
    cases M.TzL.fromLocalLoop z z.transitions (M.TzL.typeAt z 0) ℓ with
    | ret m => rfl
    | fell o =>
      simp only
      cases hr : z.rule with
      | none => rfl
      | some r => exact rule_from_local_val r (hrule r hr) y hy ℓ

theorem naiveYear_i32 (ℓ : Int) : I32r (M.TzL.naiveYear ℓ) := by
  unfold M.TzL.naiveYear
  cases hft : M.TzL.from_timespec ℓ with
  | none => exact ⟨by decide, by decide⟩
  | some dt =>
    have := post_from_timespec_year ℓ
    rw [from_timespec_year_val, hft] at this
    exact this

/-! ### parsed zones -/
theorem parsed_lookupSafe (bytes : List Nat) (z : Zone) (h : parse bytes = .ok z) : LookupSafe z := by
  obtain ⟨hval, htr, -, -, hr⟩ := post_spec (post_parse_accepted bytes) h
  obtain ⟨v0, v1, v2, v3, v4⟩ := (validate_iff' z htr hr).mp hval
  exact ⟨v0, v2, hr⟩

/-- a zone built from a TZ string the way `TimeZone::from_posix_tz` does (no transitions, the
rule's own types) -/
def zoneOfRule (r : Rule) : Zone :=
  ⟨[], match r with | .fixed t => [t] | .alt a => [a.std, a.dst], [], some r⟩

theorem zoneOfRule_lookupSafe (r : Rule) (h : RuleV r) : LookupSafe (zoneOfRule r) := by
  unfold LookupSafe
  refine ⟨?_, ?_, ?_⟩
  · cases r <;> simp [zoneOfRule]
  · intro t ht
    simp [zoneOfRule] at ht
  · intro r' hr'
    simp only [zoneOfRule, Option.some.injEq] at hr'
    subst hr'
    exact h

end Chrono.Proofs.TzValid
