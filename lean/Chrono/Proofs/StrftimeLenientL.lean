/-
  C15 (audit2/C15.md, MEDIUM-3): lenient `StrftimeItems`.  On a well-formed UTF-8 format string
  * every call of `StrftimeItems::error` made by `parse_next_item` (lenient or strict) has a
    non-underflowing `*error_len -= c.len_utf8()` and legal slices `&original[*error_len..]`,
    `&original[..*error_len]`: `parse_next_itemR l s = .ok (parse_next_item l s)`
    (`parse_next_itemR` = Model/StrftimeLenient.lean, `error` with checked subtraction and checked slices);
  * every lenient `parse_next_item` call leaves a remainder after whole characters, cuts out only
    well-formed literals and queues only well-formed literals; hence all literals of
    `StrftimeItems::new_lenient(fmt)` are `&str`s.
  Namespace `Chrono.Proofs.StrftimeLenient`.
-/
import Chrono.Model.StrftimeLenient
import Chrono.Proofs.StrftimeUtf8L
namespace Chrono.Proofs.StrftimeLenient
open Chrono Chrono.M Chrono.M.Strftime Chrono.M.Tz Chrono.Spec.Utf8 Chrono.Proofs.Utf8 Chrono.Proofs.ScanBoundary
open Chrono.Proofs.StrftimeL Chrono.Proofs.FormatL Chrono.Proofs.StrftimeUtf8

/-- `error_len = el` is the byte position of `rem` in `original`, after whole characters -/
def At (o : List Nat) (el : Nat) (rem : List Nat) : Prop :=
  ∃ pre, o = pre ++ rem ∧ pre.length = el ∧ validUtf8 pre = true

/-- `el` is a byte position of `original` after whole characters -/
def Bd (o : List Nat) (el : Nat) : Prop := ∃ rem, At o el rem

theorem At.bs {o rem : List Nat} {el : Nat} (h : At o el rem) : BoundarySuffix o rem := by
  obtain ⟨pre, e, _, v⟩ := h; exact ⟨pre, e, v⟩

theorem At.bd {o rem : List Nat} {el : Nat} (h : At o el rem) : Bd o el := ⟨rem, h⟩

/-- **the slice at a whole-character position is legal** -/
theorem Bd.sliceOk {o : List Nat} {el : Nat} (hv : validUtf8 o = true) (h : Bd o el) : sliceOk o el = true := by
  obtain ⟨rem, pre, e, hl, v⟩ := h
  obtain ⟨_, _, h3, _⟩ := bs_boundary hv (⟨pre, e, v⟩ : BoundarySuffix o rem)
  have hk : o.length - rem.length = el := by rw [e, List.length_append]; omega
  rw [hk] at h3
  have : el ≤ o.length := by rw [e, List.length_append]; omega
  unfold Strftime.sliceOk
  rw [h3]; simp [this]

theorem Bd.drop_take {o : List Nat} {el : Nat} (h : Bd o el) :
    BoundarySuffix o (o.drop el) ∧ validUtf8 (o.take el) = true := by
  obtain ⟨rem, pre, e, hl, v⟩ := h
  subst hl
  rw [e, List.drop_left, List.take_left]
  exact ⟨⟨pre, rfl, v⟩, v⟩

/-- the call `error(original, &mut el, ch)` is panic-free: the checked subtraction succeeds and the
index it leaves is `≤ original.len()` and on a char boundary -/
def ErrCallOk (o : List Nat) (el : Nat) (ch : Option Nat) : Prop :=
  ch.getD 0 ≤ el ∧ el - ch.getD 0 ≤ o.length ∧ isCharBoundary o (el - ch.getD 0) = true

theorem sliceOk_len (o : List Nat) : sliceOk o o.length = true := by
  unfold Strftime.sliceOk isCharBoundary; simp

/-- strict mode: `error` slices at `original.len()` only -/
theorem errorR_strict (o : List Nat) (el : Nat) (ch : Option Nat) :
    errorR false o el ch = .ok (error false o el ch) := by
  unfold errorR error
  simp [sliceOk_len]

/-- `errorR` is `.ok` exactly when the call is panic-free (lenient mode) -/
theorem errorR_ok_iff (o : List Nat) (el : Nat) (ch : Option Nat) :
    errorR true o el ch = .ok (error true o el ch) ↔ ErrCallOk o el ch := by
  unfold errorR error ErrCallOk Strftime.sliceOk
  by_cases h1 : el < ch.getD 0
  · simp [h1]
  · by_cases h2 : el - ch.getD 0 ≤ o.length
    · cases h3 : isCharBoundary o (el - ch.getD 0) <;> simp [h1, h2, h3]
      omega
    · simp [h1, h2]

/-- lenient `error` at a whole-character position -/
theorem error_lenient (o : List Nat) (hv : validUtf8 o = true) (el : Nat) (ch : Option Nat)
    (hle : ch.getD 0 ≤ el) (hb : Bd o (el - ch.getD 0)) :
    errorR true o el ch = .ok (error true o el ch) ∧ BoundarySuffix o (error true o el ch).1 ∧
    litOkB (error true o el ch).2.1 = true ∧ Bd o (error true o el ch).2.2 := by
  have hs := hb.sliceOk hv
  obtain ⟨h1, h2⟩ := hb.drop_take
  refine ⟨?_, h1, h2, hb⟩
  rw [errorR_ok_iff]
  unfold Strftime.sliceOk at hs
  simp only [Bool.and_eq_true, decide_eq_true_eq] at hs
  exact ⟨hle, hs.1, hs.2⟩

theorem error_lenient_some (o : List Nat) (hv : validUtf8 o = true) (el n : Nat) (hb : Bd o el) :
    errorR true o (el + n) (some n) = .ok (error true o (el + n) (some n)) ∧
    BoundarySuffix o (error true o (el + n) (some n)).1 ∧
    litOkB (error true o (el + n) (some n)).2.1 = true ∧ Bd o (error true o (el + n) (some n)).2.2 :=
  error_lenient o hv (el + n) (some n) (Nat.le_add_left _ _)
    (by show Bd o (el + n - n); rw [Nat.add_sub_cancel]; exact hb)

/-- `next!()`: the position advances by the length of the character taken -/
theorem nextCh_at (o rem : List Nat) (el : Nat) (hv : validUtf8 o = true) (ha : At o el rem) (c n : Nat)
    (r : List Nat) (h : nextCh rem = some (c, n, r)) : At o (el + n) r := by
  have hvr := bs_valid_rest hv ha.bs
  obtain ⟨pre, e, hl, v⟩ := ha
  cases rem with
  | nil => cases h
  | cons b rest =>
    rw [nextCh_cons] at h
    simp only [Option.some.injEq, Prod.mk.injEq] at h
    obtain ⟨_, rfl, rfl⟩ := h
    obtain ⟨ch, t', he, hlen, hcv, _⟩ := valid_first b rest hvr
    refine ⟨pre ++ ch, ?_, ?_, valid_append _ pre ch (Nat.le_refl _) v hcv⟩
    · rw [e, he, ← hlen, List.drop_left, List.append_assoc]
    · rw [List.length_append, hl, hlen]

/-! ### the `match spec` block: `error` calls that cannot panic -/

section
variable (l : Bool) (o : List Nat) {I : List Nat → Nat → Prop}
  (next : ∀ {rem el c n r}, I rem el → nextCh rem = some (c, n, r) → I r (if l then el + n else el))
  (safe : ∀ {rem el}, I rem el → errorR l o el none = .ok (error l o el none))
  (safe' : ∀ {rem el c n r}, I rem el → nextCh rem = some (c, n, r) →
    errorR l o (if l then el + n else el) (some n) = .ok (error l o (if l then el + n else el) (some n)))
include next safe safe'

omit next in
theorem fracArmR_ok {rem el} (h0 : I rem el) (ok : Item) :
    fracArmR l o rem el ok = .ok (fracArm l o rem el ok) := by
  unfold fracArmR fracArm
  cases hn : nextCh rem with
  | none => dsimp only; rw [safe h0]
  | some x =>
    obtain ⟨c, n, rem'⟩ := x
    dsimp only
    by_cases hc : c = 102
    · rw [if_pos hc, if_pos hc]
    · rw [if_neg hc, if_neg hc, safe' h0 hn]

/-- for an invariant `I rem el` of the scanning position that every `next!()` preserves: if the `error`
calls made at such positions do not panic, nor (`safe0`) the one for the specifier character itself,
the `match spec` block does not panic -/
theorem specArmR_ok (alt : Bool) (c n : Nat) {rem el} (h0 : I rem el)
    (safe0 : specTable c = none → errorR l o el (some n) = .ok (error l o el (some n))) :
    specArmR l o rem el alt c n = .ok (specArm l o rem el alt c n) := by
  have frac : ∀ {rem el}, I rem el → ∀ ok, fracArmR l o rem el ok = .ok (fracArm l o rem el ok) :=
    fun h ok => fracArmR_ok l o safe safe' h ok
  unfold specArmR specArm
  by_cases h1 : c = 122
  · rw [if_pos h1, if_pos h1]
  rw [if_neg h1, if_neg h1]
  by_cases h2 : c = 58
  · rw [if_pos h2, if_pos h2, safe h0]
    by_cases s3 : startsWith rem [58, 58, 122] = true
    · rw [if_pos s3, if_pos s3]
    rw [if_neg s3, if_neg s3]
    by_cases s2 : startsWith rem [58, 122] = true
    · rw [if_pos s2, if_pos s2]
    rw [if_neg s2, if_neg s2]
    by_cases s1 : startsWith rem [122] = true
    · rw [if_pos s1, if_pos s1]
    rw [if_neg s1, if_neg s1]
  rw [if_neg h2, if_neg h2]
  by_cases h3 : c = 46
  · rw [if_pos h3, if_pos h3]
    cases hn : nextCh rem with
    | none => dsimp only; rw [safe h0]
    | some x =>
      obtain ⟨c1, n1, rem1⟩ := x
      have i1 := next h0 hn
      dsimp only
      rw [frac i1, frac i1, frac i1, safe' h0 hn]
      by_cases d3 : c1 = 51
      · rw [if_pos d3, if_pos d3]
      rw [if_neg d3, if_neg d3]
      by_cases d6 : c1 = 54
      · rw [if_pos d6, if_pos d6]
      rw [if_neg d6, if_neg d6]
      by_cases d9 : c1 = 57
      · rw [if_pos d9, if_pos d9]
      rw [if_neg d9, if_neg d9]
      by_cases df : c1 = 102
      · rw [if_pos df, if_pos df]
      rw [if_neg df, if_neg df]
  rw [if_neg h3, if_neg h3, frac h0, frac h0, frac h0]
  by_cases d3 : c = 51
  · rw [if_pos d3, if_pos d3]
  rw [if_neg d3, if_neg d3]
  by_cases d6 : c = 54
  · rw [if_pos d6, if_pos d6]
  rw [if_neg d6, if_neg d6]
  by_cases d9 : c = 57
  · rw [if_pos d9, if_pos d9]
  rw [if_neg d9, if_neg d9]
  cases hs : specTable c with
  | some x => rfl
  | none => dsimp only; rw [safe0 hs]

end

/-- strict mode: `error` never panics, whatever `error_len` is -/
theorem specArm_strict (o rem : List Nat) (el : Nat) (alt : Bool) (c n : Nat) :
    specArmR false o rem el alt c n = .ok (specArm false o rem el alt c n) :=
  specArmR_ok false o (I := fun _ _ => True) (fun _ _ => trivial) (fun _ => errorR_strict o _ _)
    (fun _ _ => errorR_strict o _ _) alt c n trivial (fun _ => errorR_strict o _ _)

/-- invariant of the outcome of the `match spec` block in lenient mode -/
def ArmInv (o : List Nat) : Arm → Prop
  | .item it r q el => BoundarySuffix o r ∧ litOkB it = true ∧ q.all litOkB = true ∧ Bd o el
  | .ret r it => BoundarySuffix o r ∧ litOkB it = true

theorem specArm_lenient (o rem : List Nat) (hv : validUtf8 o = true) (el : Nat) (ha : At o el rem)
    (alt : Bool) (c n : Nat) (hn : n ≤ el) (hp : Bd o (el - n)) :
    specArmR true o rem el alt c n = .ok (specArm true o rem el alt c n) ∧
    ArmInv o (specArm true o rem el alt c n) := by
  have next : ∀ {rem el c n r}, At o el rem → nextCh rem = some (c, n, r) →
      At o (if true = true then el + n else el) r := fun h hn => nextCh_at o _ _ hv h _ _ _ hn
  constructor
  · exact specArmR_ok true o (I := fun rem el => At o el rem) next (fun h => (error_lenient o hv _ none (Nat.zero_le _) h.bd).1)
      (fun h _ => (error_lenient_some o hv _ _ h.bd).1) alt c n ha (fun _ => (error_lenient o hv el (some n) hn hp).1)
  refine specArm_cases true o (I := fun rem el => At o el rem) ?next ?fixd ?ret ?err alt c n ha ?skip ?table ?err0 ?colon
  case next => exact next
  case fixd => exact fun _ _ h => ⟨h.bs, rfl, rfl, h.bd⟩
  case ret => exact fun h => (error_lenient o hv _ none (Nat.zero_le _) h.bd).2.imp_right And.left
  case err => exact fun h _ => have e := (error_lenient_some o hv _ _ h.bd).2; ⟨e.1, e.2.1, rfl, e.2.2⟩
  case skip => exact fun _ p _ hp h => ⟨bs_trans ha.bs (drop_ascii_bs rem p hp h), rfl, rfl, ha.bd⟩
  case table => exact fun it q hs => have e := specTable_lit c it q hs; ⟨ha.bs, e.1, e.2, ha.bd⟩
  case err0 => exact fun _ => have e := (error_lenient o hv el (some n) hn hp).2; ⟨e.1, e.2.1, rfl, e.2.2⟩
  case colon => exact ⟨ha.bs, (error_lenient o hv el none (Nat.zero_le _) ha.bd).2.2.1, rfl, ha.bd⟩

/-- the block entered right after the specifier character `c` was taken at a whole-character position -/
theorem arm_lenient {o rem r : List Nat} (hv : validUtf8 o = true) {el c n : Nat} (alt : Bool) (ha : At o el rem)
    (hn : nextCh rem = some (c, n, r)) :
    specArmR true o r (el + n) alt c n = .ok (specArm true o r (el + n) alt c n) ∧
    ArmInv o (specArm true o r (el + n) alt c n) :=
  specArm_lenient o r hv (el + n) (nextCh_at o rem el hv ha c n r hn) alt c n (Nat.le_add_left _ _)
    (by rw [Nat.add_sub_cancel]; exact ha.bd)

/-! ### one `parse_next_item` call -/

/-- the same for the `%` arm of `parse_next_item`: it does not panic if the `error` calls at positions
satisfying `I` do not, the `match spec` block entered after the specifier character does not, and `error`
is panic-free at the `error_len` the block leaves (`arm`) -/
theorem pctR_ok (l : Bool) (rest : List Nat) {I : List Nat → Nat → Prop}
    (next : ∀ {rem el c n r}, I rem el → nextCh rem = some (c, n, r) → I r (if l then el + n else el))
    (safe : ∀ {rem el}, I rem el → errorR l (37 :: rest) el none = .ok (error l (37 :: rest) el none))
    (safe' : ∀ {rem el c n r}, I rem el → nextCh rem = some (c, n, r) →
      errorR l (37 :: rest) (if l then el + n else el) (some n) =
        .ok (error l (37 :: rest) (if l then el + n else el) (some n)))
    (arm : ∀ {rem el c n r} alt, I rem el → nextCh rem = some (c, n, r) →
      specArmR l (37 :: rest) r (if l then el + n else el) alt c n =
        .ok (specArm l (37 :: rest) r (if l then el + n else el) alt c n) ∧
      ∀ {it rem' q el'}, specArm l (37 :: rest) r (if l then el + n else el) alt c n = .item it rem' q el' →
        errorR l (37 :: rest) el' none = .ok (error l (37 :: rest) el' none))
    (h0 : I rest (if l then 1 else 0)) :
    parse_next_itemR l (37 :: rest) = .ok (parse_next_item l (37 :: rest)) := by
  unfold parse_next_itemR parse_next_item errRet
  simp only
  cases hn : nextCh rest with
  | none => dsimp only; rw [safe h0]
  | some x =>
    obtain ⟨c0, n0, r1⟩ := x
    have i1 := next h0 hn
    dsimp only
    generalize hsec : (if ((padOf c0).isSome || c0 == 35) = true then _ else _ :
      Option (Option (Nat × Nat × List Nat × Nat))) = sec
    -- the specifier character is the last one taken, at a position satisfying `I`
    have hsec' : ∀ c n rem el, sec = some (some (c, n, rem, el)) →
        ∃ rem0 el0, I rem0 el0 ∧ nextCh rem0 = some (c, n, rem) ∧ el = if l then el0 + n else el0 := by
      intro c n rem el hs
      rw [← hsec] at hs
      split at hs
      · cases hn2 : nextCh r1 with
        | none => rw [hn2] at hs; cases hs
        | some y =>
          rw [hn2] at hs
          injection hs with hs
          injection hs with hs
          cases hs
          exact ⟨_, _, i1, hn2, rfl⟩
      · injection hs with hs
        injection hs with hs
        cases hs
        exact ⟨_, _, h0, hn, rfl⟩
    rcases sec with _ | _ | ⟨c, n, rem, el⟩
    · dsimp only; rw [safe i1]
    · dsimp only; rw [safe i1]
    · obtain ⟨rem0, el0, hi, hc, rfl⟩ := hsec' c n rem el rfl
      dsimp only
      by_cases ha : ((c0 == 35) && c != 122) = true
      · rw [if_pos ha, if_pos ha, safe' hi hc]
      · rw [if_neg ha, if_neg ha]
        obtain ⟨s1, s2⟩ := arm (c0 == 35) hi hc
        rw [s1]
        cases hA : specArm l (37 :: rest) rem (if l then el0 + n else el0) (c0 == 35) c n with
        | ret rem' it => rfl
        | item it rem' queue el' =>
          dsimp only
          rw [s2 hA]
          cases padOf c0 with
          | none => rfl
          | some np =>
            dsimp only
            cases it with
            | numeric kind pd => dsimp only; split <;> rfl
            | _ => rfl

/-- the text branches (white space, literal) do not call `error` and do not look at the mode -/
theorem text_branch (l : Bool) (b : Nat) (rest : List Nat) (hb : b ≠ 37) :
    parse_next_itemR l (b :: rest) = .ok (parse_next_item l (b :: rest)) ∧
    parse_next_item l (b :: rest) = parse_next_item false (b :: rest) := by
  unfold parse_next_itemR
  split
  · rename_i he; cases he
  · rename_i r0 he; injection he with h1 _; exact absurd h1 hb
  · rename_i b' tl he
    injection he with h1 h2
    subst h1; subst h2
    rw [parse_next_item_text_eq l b rest hb, parse_next_item_text_eq false b rest hb]
    refine ⟨?_, rfl⟩
    split <;> rfl

/-- **(a) every `error` call of `parse_next_item` is panic-free**: with the subtraction
`*error_len -= c.len_utf8()` checked and both slices `&original[*error_len..]`, `&original[..*error_len]`
checked (`errorR`), `parse_next_item` on a well-formed UTF-8 string returns exactly what the unchecked
model returns — in lenient and in strict mode.  All call sites of `error` are covered. -/
theorem parse_next_itemR_ok (l : Bool) (s : List Nat) (hv : validUtf8 s = true) :
    parse_next_itemR l s = .ok (parse_next_item l s) := by
  cases s with
  | nil => rfl
  | cons b rest =>
    by_cases hb : b = 37
    · subst hb
      cases l with
      | true =>
        exact pctR_ok true rest (I := fun rem el => At (37 :: rest) el rem) (fun h hn => nextCh_at _ _ _ hv h _ _ _ hn)
          (fun h => (error_lenient _ hv _ none (Nat.zero_le _) h.bd).1) (fun h _ => (error_lenient_some _ hv _ _ h.bd).1)
          (fun alt h hn => have s := arm_lenient hv alt h hn
            ⟨s.1, fun hA => (error_lenient _ hv _ none (Nat.zero_le _) (hA ▸ s.2 : ArmInv _ (.item ..)).2.2.2).1⟩)
          ⟨[37], rfl, rfl, by decide⟩
      | false =>
        exact pctR_ok false rest (I := fun _ _ => True) (fun _ _ => trivial) (fun _ => errorR_strict _ _ _)
          (fun _ _ => errorR_strict _ _ _)
          (fun alt _ _ => ⟨specArm_strict _ _ _ alt _ _, fun _ => errorR_strict _ _ _⟩) trivial
    · exact (text_branch l b rest hb).1

/-- **(b) one lenient `parse_next_item` call** -/
theorem parse_next_item_lenient_good (s : List Nat) (hv : validUtf8 s = true)
    (r : List Nat × Item × List Item) (h : parse_next_item true s = some r) :
    BoundarySuffix s r.1 ∧ litOkB r.2.1 = true ∧ r.2.2.all litOkB = true := by
  cases s with
  | nil => simp [parse_next_item] at h
  | cons b rest =>
    by_cases hb : b = 37
    · subst hb
      refine pct_cases true rest (I := fun rem el => At (37 :: rest) el rem) (A := ArmInv (37 :: rest))
        (T := fun r => BoundarySuffix (37 :: rest) r.1 ∧ litOkB r.2.1 = true ∧ r.2.2.all litOkB = true)
        ?next ?arm ?eNone ?eSome ?ret ?item ?pad ?padErr ⟨[37], rfl, rfl, by decide⟩ h
      case next => exact fun h hn => nextCh_at _ _ _ hv h _ _ _ hn
      case arm => exact fun alt h hn => (arm_lenient hv alt h hn).2
      case eNone => exact fun h => have e := (error_lenient _ hv _ none (Nat.zero_le _) h.bd).2; ⟨e.1, e.2.1, rfl⟩
      case eSome => exact fun h _ => have e := (error_lenient_some _ hv _ _ h.bd).2; ⟨e.1, e.2.1, rfl⟩
      case ret => exact fun h => ⟨h.1, h.2, rfl⟩
      case item => exact fun h => ⟨h.1, h.2.1, h.2.2.1⟩
      case pad => exact fun _ h => ⟨h.1, rfl, rfl⟩
      case padErr => exact fun h => have e := (error_lenient _ hv _ none (Nat.zero_le _) h.2.2.2).2; ⟨e.1, e.2.1, h.2.2.1⟩
    · rw [(text_branch true b rest hb).2] at h
      exact parse_next_item_good _ hv r h

theorem lenient_slices (s : List Nat) (hv : validUtf8 s = true) :
    ∀ r, parse_next_item true s = some r →
      BoundarySuffix s r.1 ∧ (∀ lit, r.2.1 = .literal lit → validUtf8 lit = true) ∧ ItemsUtf8 r.2.2 := by
  intro r h
  obtain ⟨h1, h2, h3⟩ := parse_next_item_lenient_good s hv r h
  refine ⟨h1, ?_, itemsUtf8_of_all _ h3⟩
  intro lit hl
  rw [hl] at h2
  exact h2

/-- the literals of the drained lenient iterator are `&str`s -/
theorem itemsAux_lenient_utf8 : ∀ (fuel : Nat) (s : List Nat), validUtf8 s = true →
    ItemsUtf8 (itemsAux true fuel s) :=
  itemsAux_litOk true parse_next_item_lenient_good

/-- **the literals of `StrftimeItems::new_lenient(fmt)` are `&str`s** -/
theorem lenient_items_utf8 (s : List Nat) (hv : validUtf8 s = true) : ItemsUtf8 (itemsLenient s) :=
  itemsAux_lenient_utf8 _ s hv

/-- one call, either mode: the new remainder is well formed -/
theorem parse_next_item_rest_valid (l : Bool) (s : List Nat) (hv : validUtf8 s = true)
    (r : List Nat × Item × List Item) (h : parse_next_item l s = some r) : validUtf8 r.1 = true := by
  cases l with
  | true => exact bs_valid_rest hv (parse_next_item_lenient_good s hv r h).1
  | false => exact bs_valid_rest hv (parse_next_item_good s hv r h).1

/-- **(a) for the whole iterator**: no `parse_next_item` call made while draining
`StrftimeItems::new_lenient(fmt)` / `StrftimeItems::new(fmt)` panics inside `error` -/
theorem itemsAuxR_ok (l : Bool) : ∀ (fuel : Nat) (s : List Nat), validUtf8 s = true →
    itemsAuxR l fuel s = .ok (itemsAux l fuel s) := by
  intro fuel
  induction fuel with
  | zero => intro s _; rfl
  | succ f ih =>
    intro s hv
    rw [itemsAuxR, itemsAux, parse_next_itemR_ok l s hv]
    cases hp : parse_next_item l s with
    | none => rfl
    | some r =>
      obtain ⟨rem, it, q⟩ := r
      dsimp only
      rw [ih rem (parse_next_item_rest_valid l s hv _ hp)]

theorem itemsLenientR_ok (s : List Nat) (hv : validUtf8 s = true) : itemsLenientR s = .ok (itemsLenient s) :=
  itemsAuxR_ok true _ s hv

theorem itemsR_ok (s : List Nat) (hv : validUtf8 s = true) : itemsR s = .ok (items s) :=
  itemsAuxR_ok false _ s hv

/-! ### non-vacuity -/

/-- the checks of `errorR` do fail: underflow of `-=`, an index beyond the end, an index inside `é` -/
example : errorR true [37, 195, 169] 2 (some 3) = .panic ∧ errorR true [37, 195, 169] 4 none = .panic ∧
    errorR true [37, 195, 169] 2 none = .panic ∧ errorR true [37, 195, 169] 3 (some 2) = .ok ([195, 169], .literal [37], 1) := by
  decide

/-- the hypothesis `validUtf8 s` is needed: on `%:` followed by a stray continuation byte the lenient
`error` slices inside a character -/
example : validUtf8 [37, 58, 169] = false ∧ parse_next_itemR true [37, 58, 169] = .panic := by decide

/-- "%é", "%-é", "%:é", "%.3é", "%#é", "%", "%-:z" (all well formed): lenient mode cuts a literal out
of the bad specifier, at the position before the offending character; the results are those of the
unchecked model -/
example :
    parse_next_itemR true [37, 195, 169] = .ok (some ([195, 169], .literal [37], [])) ∧
    parse_next_itemR true [37, 45, 195, 169] = .ok (some ([195, 169], .literal [37, 45], [])) ∧
    parse_next_itemR true [37, 58, 195, 169] = .ok (some ([195, 169], .literal [37, 58], [])) ∧
    parse_next_itemR true [37, 46, 51, 195, 169] = .ok (some ([195, 169], .literal [37, 46, 51], [])) ∧
    parse_next_itemR true [37, 35, 195, 169] = .ok (some ([195, 169], .literal [37, 35], [])) ∧
    parse_next_itemR true [37] = .ok (some ([], .literal [37], [])) ∧
    parse_next_itemR true [37, 45, 58, 122] = .ok (some ([122], .literal [37, 45, 58], [])) :=
  ⟨by decide, by decide, by decide, by decide, by decide, by decide, by decide⟩

example : validUtf8 [37, 46, 51, 195, 169, 37, 45, 195, 169, 37] = true ∧
    itemsLenientR [37, 46, 51, 195, 169, 37, 45, 195, 169, 37] =
      .ok [.literal [37, 46, 51], .literal [195, 169], .literal [37, 45], .literal [195, 169], .literal [37]] ∧
    itemsLenient [37, 46, 51, 195, 169, 37, 45, 195, 169, 37] =
      [.literal [37, 46, 51], .literal [195, 169], .literal [37, 45], .literal [195, 169], .literal [37]] :=
  ⟨by decide, by decide, by decide⟩

end Chrono.Proofs.StrftimeLenient
