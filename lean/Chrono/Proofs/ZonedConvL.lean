/-
  C04, second audit (2026-09-30): helper lemmas for
  * the RFC 3339 text of a reading whose year is outside 0–9999 (the writer then prints the signed year with
    at least 5 digits) — used for the two headroom days, where C10's `write_rfc3339_eq` (years 0–9999) does
    not apply;
  * `Option::expect` on a checked result (`DateTime ± Days`, deprecated `DateTime::from_local`);
  * the side conditions of the code-translation theorems of Props/GenDateTime.lean (`DateOk`, ordinal-leap
    field ≤ 732) from the date invariant.
  Namespace `Chrono.Proofs.ZNC`.
-/
import Chrono.Proofs.ZonedFormatL
import Chrono.Proofs.Rfc3339WriteL
import Chrono.Model.ZonedConv
import Chrono.Props.GenDateTime

namespace Chrono.Proofs.ZNC
open Chrono Chrono.M Chrono.M.Format Chrono.Spec Chrono.Proofs Chrono.Proofs.ZN Chrono.Extracted
open Chrono.Proofs.Rfc3339 Chrono.Proofs.RenderScan

/-- **the text of `write_rfc3339`** for a date whose year is NOT in 0–9999: signed year (`fmtInt year 5 zero-padded
with sign`), then exactly the fields of `write_rfc3339_eq` -/
theorem write_rfc3339_bigyear (date : Date) (time : Time) (off : Int) (sf : SecondsFormat) (use_z : Bool)
    (mo d : Nat) (hy : ¬ (0 ≤ date.year ∧ date.year ≤ 9999)) (hmo : date.month = .ok mo) (hd : date.day = .ok d)
    (hmo' : mo ≤ 99) (hd' : d ≤ 99) (ht : TValid time) (hoff : -86400 < off ∧ off < 86400) :
    write_rfc3339 ⟨date, time⟩ off sf use_z =
      wok (fmtInt date.year 5 .zero true ++ (45 :: (two mo ++ (45 :: (two d ++
        (84 :: (two (time.secs / 3600).toNat ++ (58 :: (two (time.secs / 60 % 60).toNat ++ (58 ::
        (two (time.secs % 60 + (if time.frac ≥ 1000000000 then 1 else 0)).toNat ++
        (fracText sf (if time.frac ≥ 1000000000 then time.frac - 1000000000 else time.frac) ++
         offText use_z off)))))))))))) := by
  rw [write_rfc3339_text date time off sf use_z mo d hmo hd hmo' hd' ht hoff, rfcYearText, if_neg hy]

/-- the month, day and signed-year text of the two headroom days -/
theorem headroom_ymd :
    Date.BEFORE_MIN.month = .ok 12 ∧ Date.BEFORE_MIN.day = .ok 31 ∧ Date.BEFORE_MIN.year = -262144 ∧
    Date.AFTER_MAX.month = .ok 1 ∧ Date.AFTER_MAX.day = .ok 1 ∧ Date.AFTER_MAX.year = 262143 ∧
    fmtInt (-262144) 5 .zero true = [45, 50, 54, 50, 49, 52, 52] ∧
    fmtInt 262143 5 .zero true = [43, 50, 54, 50, 49, 52, 51] ∧
    two 12 = [49, 50] ∧ two 31 = [51, 49] ∧ two 1 = [48, 49] := by decide +kernel

/-- the RFC 3339 text demanded for a value whose wall clock lies in a headroom day: the calendar's own date of that
day (`-262144-12-31` before the range, `+262143-01-01` after it; signed year as RFC 3339 / ISO 8601 demand beyond
four digits), `T`, hour / minute / second of `instant + offset` (a leap-second representation shows second + 1), the
fraction of the requested precision, the offset -/
def headRfcText (z : Zoned) (sf : SecondsFormat) (use_z : Bool) : List Nat :=
  (if wallSecs z < SECS_MIN then [45, 50, 54, 50, 49, 52, 52, 45, 49, 50, 45, 51, 49]
   else [43, 50, 54, 50, 49, 52, 51, 45, 48, 49, 45, 48, 49]) ++
  (84 :: (two (wallSecs z % 86400 / 3600).toNat ++ (58 :: (two (wallSecs z % 86400 / 60 % 60).toNat ++ (58 ::
    (two (wallSecs z % 86400 % 60 + (if z.utc.time.frac ≥ 1000000000 then 1 else 0)).toNat ++
    (fracText sf (if z.utc.time.frac ≥ 1000000000 then z.utc.time.frac - 1000000000 else z.utc.time.frac) ++
     offText use_z z.off)))))))

/-- `write_rfc3339` on a headroom wall clock -/
theorem head_rfc3339 (z : Zoned) (hz : ZInv z) (hh : ¬ InRangeSecs (wallSecs z)) (l : NaiveDT)
    (hl : Zoned.overflowing_naive_local z = .ok l) (sf : SecondsFormat) (use_z : Bool) :
    write_rfc3339 l z.off sf use_z = wok (headRfcText z sf use_z) := by
  obtain ⟨h2, h3, h4, -, h6⟩ := naive_local_of z hz l hl
  obtain ⟨_, _, _, hho, _⟩ := wall_date_cases z hz l hl
  have hnd : ¬ DateInv l.date := fun h => hh (h6.mp h)
  obtain ⟨t1, t2, t3, t4⟩ := h2.2
  have hsecs := instSecs_ext l h2.1
  rw [h3] at hsecs
  have hsod : l.time.secs = wallSecs z % 86400 := by omega
  obtain ⟨dm, dM, db, da, _⟩ := day_consts
  obtain ⟨m1, d1, y1, m2, d2, y2, fy1, fy2, tw12, tw31, tw1⟩ := headroom_ymd
  have hS1 : SECS_MIN = (DAY_MIN - EPOCH_DAY) * 86400 := rfl
  have hS2 : SECS_MAX = (DAY_MAX - EPOCH_DAY) * 86400 + 86399 := rfl
  have hws : wallSecs z = (dayNumOf l.date - EPOCH_DAY) * 86400 + l.time.secs := by rw [← h3]; rfl
  obtain ⟨date, time⟩ := l
  dsimp only at *
  rcases hho with h | h | h
  · exact absurd h hnd
  · subst h
    have hlt : wallSecs z < SECS_MIN := by rw [hws, db, hS1, dm]; omega
    rw [write_rfc3339_bigyear Date.BEFORE_MIN time z.off sf use_z 12 31 (by rw [y1]; omega) m1 d1 (by omega) (by omega)
      ⟨t1, t2, t3, t4⟩ hz.2, y1, fy1, tw12, tw31, hsod, h4]
    unfold headRfcText
    rw [if_pos hlt]
    rfl
  · subst h
    have hge : ¬ wallSecs z < SECS_MIN := by rw [hws, da, hS1, dm]; omega
    rw [write_rfc3339_bigyear Date.AFTER_MAX time z.off sf use_z 1 1 (by rw [y2]; omega) m2 d2 (by omega) (by omega)
      ⟨t1, t2, t3, t4⟩ hz.2, y2, fy2, tw1, hsod, h4]
    unfold headRfcText
    rw [if_neg hge]
    rfl

/-! ### `expect` -/

theorem expectSome_ok {α} (x : Res (Option α)) (r : Option α) (h : x = .ok r) :
    (expectSome x = .panic ↔ r = none) ∧ (∀ a, expectSome x = .ok a ↔ r = some a) := by
  subst h
  cases r with
  | none => exact ⟨⟨fun _ => rfl, fun _ => rfl⟩, fun a => ⟨nofun, nofun⟩⟩
  | some v =>
    exact ⟨⟨nofun, nofun⟩, fun a =>
      ⟨fun h => congrArg some (Res.ok.inj h), fun h => congrArg Res.ok (Option.some.inj h)⟩⟩

/-! ### side conditions of the code-translation theorems -/

/-- a date of the range is an `i32` word with ordinal ≥ 1 and ordinal-leap field ≤ 732 -/
theorem dateOk_of_inv (d : Date) (h : DateInv d) :
    Props.GenDateTime.DateOk d ∧ d.yof / 8 % 1024 ≤ 732 := by
  obtain ⟨hext, hy⟩ := (dateInv_iff d).mp h
  obtain ⟨e, -, -, ho1, ho2⟩ := ext_eq d hext
  have hL := yearLen_add_bit d.year _ (flagsOf_facts d.year).2.2.1
  have hf := (flagsOf_facts d.year).1
  generalize d.year = y at *
  generalize d.ordinal.toNat = o at *
  subst e
  refine ⟨⟨?_, by rw [(dateOfYo_fields y o (by omega)).2.1]; omega⟩, ?_⟩
  · rw [show MIN_YEAR = -262143 from rfl, show MAX_YEAR = 262142 from rfl] at hy
    unfold dateOfYo; dsimp only; omega
  · -- the ordinal-leap field is `o * 2 + leap bit`, and day 366 exists only with leap bit 0
    rw [ol_word y o (by omega)]; omega

end Chrono.Proofs.ZNC
