/-
  C15, byte level, format-string side (strict mode, the mode of `parse_from_str` / `format`): on a
  well-formed UTF-8 format string every `parse_next_item` call slices the remainder after whole
  characters, and every literal it cuts out is well-formed UTF-8 — so the `Item::Literal(&str)`s that
  `StrftimeItems::new(fmt)` yields are `&str`s (the hypothesis `ItemsUtf8` of `parse_internal_bs`).
  Namespace `Chrono.Proofs.StrftimeUtf8`.
-/
import Chrono.Proofs.ScanBoundaryL
import Chrono.Proofs.StrftimeL
namespace Chrono.Proofs.StrftimeUtf8
open Chrono Chrono.M Chrono.M.Strftime Chrono.M.Tz Chrono.Spec.Utf8 Chrono.Proofs.Utf8 Chrono.Proofs.ScanBoundary
open Chrono.Proofs.StrftimeL Chrono.Proofs.FormatL

/-- a literal item holds well-formed UTF-8 -/
def litOkB : Item → Bool
  | .literal l => validUtf8 l
  | _ => true

theorem itemsUtf8_of_all (q : List Item) (h : q.all litOkB = true) : ItemsUtf8 q := by
  intro lit hm
  have := List.all_eq_true.mp h _ hm
  exact this

theorem all_of_itemsUtf8 (q : List Item) (h : ItemsUtf8 q) : q.all litOkB = true := by
  rw [List.all_eq_true]
  intro it hit
  cases it with
  | literal l => exact h l hit
  | _ => rfl

/-- the first character of a well-formed non-empty string: its length is `charLen` of the lead byte -/
theorem valid_first (b : Nat) (r : List Nat) (hv : validUtf8 (b :: r) = true) :
    ∃ c t, b :: r = c ++ t ∧ c.length = Scan.charLen b ∧ validUtf8 c = true ∧ validUtf8 t = true := by
  obtain ⟨c, t, he, hc, hvt⟩ := (valid_cons_iff (b :: r) (by simp)).mp hv
  obtain ⟨b0, tl, hce, hcl⟩ := isChar_len c hc
  have hb : b0 = b := by rw [hce] at he; injection he with he _; exact he.symm
  subst hb
  refine ⟨c, t, he, by rw [hcl]; rfl, ?_, hvt⟩
  have := valid_char_append c [] hc
  rw [List.append_nil] at this; rw [this]; rfl

theorem nextCh_bs (s : List Nat) (hv : validUtf8 s = true) (c n : Nat) (r : List Nat)
    (h : nextCh s = some (c, n, r)) : BoundarySuffix s r := by
  cases s with
  | nil => cases h
  | cons b rest =>
    rw [nextCh_cons] at h
    simp only [Option.some.injEq, Prod.mk.injEq] at h
    obtain ⟨_, _, rfl⟩ := h
    exact drop_char_bs b rest hv

/-- strict mode: `error` ends the iteration with an `Item::Error` -/
theorem error_strict (orig : List Nat) (el : Nat) (ch : Option Nat) : error false orig el ch = ([], .error, el) := rfl

def Arm.good (s : List Nat) : Arm → Prop
  | .item it r q _ => BoundarySuffix s r ∧ litOkB it = true ∧ q.all litOkB = true
  | .ret r it => BoundarySuffix s r ∧ litOkB it = true

theorem bs_nil (s : List Nat) (hv : validUtf8 s = true) : BoundarySuffix s [] := ⟨s, by simp, hv⟩

theorem drop_ascii_bs (rem pre : List Nat) (hp : ∀ b ∈ pre, b < 128) (h : startsWith rem pre = true) :
    BoundarySuffix rem (rem.drop pre.length) := by
  unfold startsWith at h
  have ht : rem.take pre.length = pre := by simpa using h
  refine ⟨pre, ?_, valid_ascii pre hp⟩
  conv => lhs; rw [← List.take_append_drop pre.length rem]
  rw [ht]

/-- the rows of `specTable` hold no literal that is not well formed -/
theorem specTable_lit (c : Nat) (it : Item) (q : List Item) (h : specTable c = some (it, q)) :
    litOkB it = true ∧ q.all litOkB = true :=
  (by decide +kernel : ∀ x ∈ (List.range 122).filterMap specTable, litOkB x.1 = true ∧ x.2.all litOkB = true)
    _ (specTable_mem h)

theorem specArm_good (s rem : List Nat) (hv : validUtf8 s = true) (hb : BoundarySuffix s rem) (el : Nat)
    (alt : Bool) (c n : Nat) : Arm.good s (specArm false s rem el alt c n) := by
  refine specArm_cases false s (I := fun rem _ => BoundarySuffix s rem) ?next ?fixd ?ret ?err alt c n hb
    ?skip ?table ?err0 ?colon
  case next => exact fun h hn => bs_trans h (nextCh_bs _ (bs_valid_rest hv h) _ _ _ hn)
  case fixd => exact fun _ _ h => ⟨h, rfl, rfl⟩
  case ret => exact fun _ => ⟨bs_nil s hv, rfl⟩
  case err => exact fun _ _ => ⟨bs_nil s hv, rfl, rfl⟩
  case skip => exact fun _ p _ hp h => ⟨bs_trans hb (drop_ascii_bs rem p hp h), rfl, rfl⟩
  case table => exact fun it q hs => ⟨hb, specTable_lit c it q hs⟩
  case err0 => exact fun _ => ⟨bs_nil s hv, rfl, rfl⟩
  case colon => exact ⟨hb, rfl, rfl⟩

/-! ### text runs: whole white-space characters, whole other characters -/

theorem wsSpanAux_bs : ∀ (fuel : Nat) (s : List Nat) (acc : Nat) (t : List Nat), t.drop acc = s →
    validUtf8 (t.take acc) = true → acc ≤ t.length →
    validUtf8 (t.take (wsSpanAux fuel s acc)) = true ∧ wsSpanAux fuel s acc ≤ t.length := by
  intro fuel
  induction fuel with
  | zero => intro s acc t _ hv hl; exact ⟨hv, hl⟩
  | succ f ih =>
    intro s acc t hd hv hl
    unfold wsSpanAux
    simp only
    split
    · exact ⟨hv, hl⟩
    · rename_i h0
      obtain ⟨w, r, hw, hs, hlen⟩ := Rfc2822.wsLen_inv s h0
      have ht : t = t.take acc ++ (w ++ r) := by rw [← hs, ← hd, List.take_append_drop]
      have hacc : (t.take acc).length = acc := by rw [List.length_take]; omega
      have htake : t.take (acc + Scan.wsLen s) = t.take acc ++ w := by
        rw [hlen]
        conv => lhs; rw [ht]
        rw [← List.append_assoc]
        have : acc + w.length = (t.take acc ++ w).length := by rw [List.length_append, hacc]
        rw [this, List.take_left]
      refine ih (s.drop (Scan.wsLen s)) (acc + Scan.wsLen s) t ?_ ?_ ?_
      · rw [← hd, List.drop_drop]
      · rw [htake]; exact valid_append _ _ w (Nat.le_refl _) hv (ws_valid w hw)
      · have : (t.take acc ++ (w ++ r)).length = t.length := by rw [← ht]
        rw [List.length_append, List.length_append, hacc] at this
        omega

theorem litSpanAux_bs : ∀ (fuel : Nat) (s : List Nat) (acc : Nat) (t : List Nat), t.drop acc = s →
    validUtf8 t = true → validUtf8 (t.take acc) = true → acc ≤ t.length →
    validUtf8 (t.take (litSpanAux fuel s acc)) = true ∧ litSpanAux fuel s acc ≤ t.length := by
  intro fuel
  induction fuel with
  | zero => intro s acc t _ _ hv hl; exact ⟨hv, hl⟩
  | succ f ih =>
    intro s acc t hd hvt hv hl
    unfold litSpanAux
    split
    · exact ⟨hv, hl⟩
    · rename_i b tl
      split
      · exact ⟨hv, hl⟩
      · have ht : t = t.take acc ++ (b :: tl) := by rw [← hd, List.take_append_drop]
        have hvs : validUtf8 (b :: tl) = true := by
          rw [ht] at hvt; exact valid_split _ _ _ (Nat.le_refl _) hvt hv
        obtain ⟨c, t', he, hlen, hcv, _⟩ := valid_first b tl hvs
        have hacc : (t.take acc).length = acc := by rw [List.length_take]; omega
        have ht2 : t = t.take acc ++ (c ++ t') := by rw [← he]; exact ht
        have htake : t.take (acc + Scan.charLen b) = t.take acc ++ c := by
          rw [← hlen]
          conv => lhs; rw [ht2]
          rw [← List.append_assoc]
          have : acc + c.length = (t.take acc ++ c).length := by rw [List.length_append, hacc]
          rw [this, List.take_left]
        refine ih _ (acc + Scan.charLen b) t ?_ hvt ?_ ?_
        · rw [← hd, List.drop_drop]
        · rw [htake]; exact valid_append _ _ c (Nat.le_refl _) hv hcv
        · have : (t.take acc ++ (c ++ t')).length = t.length := by rw [← ht2]
          rw [List.length_append, List.length_append, hacc] at this
          omega

theorem take_drop_bs (s : List Nat) (n : Nat) (h : validUtf8 (s.take n) = true) : BoundarySuffix s (s.drop n) :=
  ⟨s.take n, (List.take_append_drop n s).symm, h⟩

/-- one `parse_next_item` call in strict mode on a well-formed format string -/
theorem parse_next_item_good (s : List Nat) (hv : validUtf8 s = true) (r : List Nat × Item × List Item)
    (h : parse_next_item false s = some r) :
    BoundarySuffix s r.1 ∧ litOkB r.2.1 = true ∧ r.2.2.all litOkB = true := by
  cases s with
  | nil => simp [parse_next_item] at h
  | cons b rest =>
    by_cases hb : b = 37
    · subst hb
      have hnil := bs_nil (37 :: rest) hv
      have next : ∀ {rem c n r}, BoundarySuffix (37 :: rest) rem → nextCh rem = some (c, n, r) →
          BoundarySuffix (37 :: rest) r := fun h hn => bs_trans h (nextCh_bs _ (bs_valid_rest hv h) _ _ _ hn)
      refine pct_cases false rest (I := fun rem _ => BoundarySuffix (37 :: rest) rem) (A := Arm.good (37 :: rest))
        (T := fun r => BoundarySuffix (37 :: rest) r.1 ∧ litOkB r.2.1 = true ∧ r.2.2.all litOkB = true)
        ?next ?arm ?eNone ?eSome ?ret ?item ?pad ?padErr (bs_cons 37 rest (by omega)) h
      case next => exact next
      case arm => exact fun alt h hn => specArm_good _ _ hv (next h hn) _ alt _ _
      case eNone => exact fun _ => ⟨hnil, rfl, rfl⟩
      case eSome => exact fun _ _ => ⟨hnil, rfl, rfl⟩
      case ret => exact fun h => ⟨h.1, h.2, rfl⟩
      case item => exact fun h => h
      case pad => exact fun _ h => ⟨h.1, rfl, rfl⟩
      case padErr => exact fun h => ⟨hnil, rfl, h.2.2⟩
    · rw [parse_next_item_text_eq false b rest hb] at h
      split at h
      · rename_i hw
        simp only [Option.some.injEq] at h
        subst h
        obtain ⟨w, r', hwm, hs, hlen⟩ := Rfc2822.wsLen_inv (b :: rest) hw
        have hl0 : Scan.wsLen (b :: rest) ≤ (b :: rest).length := by
          rw [hlen, hs, List.length_append]; omega
        have hv0 : validUtf8 ((b :: rest).take (Scan.wsLen (b :: rest))) = true := by
          rw [hlen]; conv => arg 1; arg 1; rw [hs]
          rw [List.take_left]; exact ws_valid w hwm
        have key := wsSpanAux_bs ((b :: rest).drop (Scan.wsLen (b :: rest))).length
          ((b :: rest).drop (Scan.wsLen (b :: rest))) (Scan.wsLen (b :: rest)) (b :: rest) rfl hv0 hl0
        rw [wsSpanAux_acc] at key
        exact ⟨take_drop_bs _ _ key.1, rfl, rfl⟩
      · simp only [Option.some.injEq] at h
        subst h
        obtain ⟨c, t', he, hlen, hcv, _⟩ := valid_first b rest hv
        have hl0 : Scan.charLen b ≤ (b :: rest).length := by rw [← hlen, he, List.length_append]; omega
        have hv0 : validUtf8 ((b :: rest).take (Scan.charLen b)) = true := by
          rw [← hlen]; conv => arg 1; arg 1; rw [he]
          rw [List.take_left]; exact hcv
        have key := litSpanAux_bs ((b :: rest).drop (Scan.charLen b)).length
          ((b :: rest).drop (Scan.charLen b)) (Scan.charLen b) (b :: rest) rfl hv hv0 hl0
        rw [litSpanAux_acc] at key
        exact ⟨take_drop_bs _ _ key.1, key.1, rfl⟩

/-- calls that cut after whole characters and yield well-formed literals, drained -/
theorem itemsAux_litOk (l : Bool)
    (hcall : ∀ s, validUtf8 s = true → ∀ r, parse_next_item l s = some r →
      BoundarySuffix s r.1 ∧ litOkB r.2.1 = true ∧ r.2.2.all litOkB = true) :
    ∀ (fuel : Nat) (s : List Nat), validUtf8 s = true → ItemsUtf8 (itemsAux l fuel s) := by
  intro fuel
  induction fuel with
  | zero => intro s _ lit hm; simp [itemsAux] at hm
  | succ f ih =>
    intro s hv
    rw [itemsAux]
    cases hp : parse_next_item l s with
    | none => intro lit hm; simp at hm
    | some r =>
      obtain ⟨h1, h2, h3⟩ := hcall s hv r hp
      apply itemsUtf8_of_all
      rw [List.all_cons, List.all_append, h2, h3, all_of_itemsUtf8 _ (ih r.1 (bs_valid_rest hv h1))]
      rfl

/-- **the literals of `StrftimeItems::new(fmt)` are `&str`s** for every well-formed format string -/
theorem itemsAux_utf8 : ∀ (fuel : Nat) (s : List Nat), validUtf8 s = true → ItemsUtf8 (itemsAux false fuel s) :=
  itemsAux_litOk false parse_next_item_good

theorem items_utf8 (fmt : List Nat) (hv : validUtf8 fmt = true) : ItemsUtf8 (items fmt) :=
  itemsAux_utf8 _ fmt hv

end Chrono.Proofs.StrftimeUtf8
