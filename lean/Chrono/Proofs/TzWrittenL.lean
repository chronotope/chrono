/-
  C16, part 4: the reader's value on EVERY written file — rejection stated on the input.
  For a file written by the specification's writer whose values merely fit their fields
  (`BlockFits`: nothing about order, indices, designations or agreement with the rule), `parse`
  returns the written zone exactly when the written data are `Consistent`, and `Err` otherwise.
-/
import Chrono.Proofs.TzValidL

set_option linter.unusedSimpArgs false
set_option linter.unusedVariables false

namespace Chrono.Proofs.TzValid
open Chrono Chrono.M.Tz Chrono.Spec.Tz Chrono.Proofs Chrono.Proofs.Tz Chrono.Extracted.TzP

/-- every value of the block fits the field it is written into; no consistency condition -/
structure BlockFits (v : Version) (ts : Nat) (b : Block) : Prop where
  trans : ∀ t ∈ b.trans, TimeFits v ts t.1
  types : ∀ t ∈ b.types, I32r t.off
  leaps : ∀ l ∈ b.leaps, TimeFits v ts l.1 ∧ I32r l.2

/-- what makes written data acceptable, `rule` being what the footer denotes: every type record
legal (offset strictly within 24 h of UTC, designation index inside the table and followed by a NUL, designation
empty or 3–7 legal characters), no forbidden indicator couple, transitions strictly increasing with
type indices in range, the leap-second table constraints, and the rule agreeing with the last
transition -/
def Consistent (b : Block) (rule : Option Rule) : Prop :=
  (∀ t ∈ b.types, TyRecOk b.names t)
    ∧ badIndicators b.types.length b.stdWalls b.utLocals = false
    ∧ SortedStrict (absBlock b rule).transitions
    ∧ (∀ t ∈ (absBlock b rule).transitions, t.idx < (absBlock b rule).types.length)
    ∧ checkLeaps (absBlock b rule).leaps = true
    ∧ RuleAgrees (absBlock b rule)

theorem nulPos_some_mem (l : List Nat) (p : Nat) (h : nulPos l = some p) : 0 ∈ l := by
  induction l generalizing p with
  | nil => simp [nulPos] at h
  | cons c t ih =>
    simp only [nulPos] at h
    by_cases hc : c = 0
    · subst hc; simp
    · rw [if_neg hc] at h
      cases hn : nulPos t with
      | none => rw [hn] at h; simp at h
      | some q => exact List.mem_cons_of_mem _ (ih q hn)

/-- the designation arm of the type-record loop, inverted: an `Ok` means the index lies inside the
designation array, a NUL follows it, and `LocalTimeType::new` accepted the offset and the name up to
that NUL -/
theorem desigArm_inv {names : List Nat} {y : Nat} {off : Int} {bb : Bool} {l : Ltt}
    (hn : names.length < 4294967296)
    (h : (if y ≥ names.length then (.err : P Ltt) else
          sliceFrom names y >>= fun tail =>
          match nulPos tail with
          | none => .err
          | some position =>
            ckUsz (y + position) >>= fun e =>
            slice names y e >>= fun name =>
            Ltt.new off bb (if !name.isEmpty then some name else none)) = .ok l) :
    (y < names.length ∧ 0 ∈ names.drop y ∧ (-86400 < off ∧ off < 86400)
        ∧ ∀ n, nameAt names y = some n → NameOk n) ∧ l = ⟨off, bb, nameAt names y⟩ := by
  by_cases hge : y ≥ names.length
  · rw [if_pos hge] at h; cases h
  · rw [if_neg hge] at h
    have hsf : sliceFrom names y = .ok (names.drop y) := by
      simp [sliceFrom]; omega
    rw [hsf] at h
    simp only [P.bind_ok] at h
    cases hnp : nulPos (names.drop y) with
    | none => rw [hnp] at h; cases h
    | some pos =>
      have hmem := nulPos_some_mem _ _ hnp
      rw [nulPos_takeWhile _ hmem] at h
      simp only at h
      have hpos : ((names.drop y).takeWhile (fun c => c != 0)).length ≤ names.length - y := by
        have := takeWhile_len_le (fun c => c != 0) (names.drop y)
        simpa using this
      have e2 : y + ((names.drop y).takeWhile (fun c => c != 0)).length - y
          = ((names.drop y).takeWhile (fun c => c != 0)).length := by omega
      rw [ckUsz_ok (by omega)] at h
      simp only [P.bind_ok] at h
      rw [slice_ok _ _ _ (by omega) (by omega)] at h
      simp only [P.bind_ok] at h
      rw [e2, take_takeWhile_len] at h
      have en : (if !((names.drop y).takeWhile (fun c => c != 0)).isEmpty
          then some ((names.drop y).takeWhile (fun c => c != 0)) else none) = nameAt names y := by
        unfold nameAt
        cases hemp : ((names.drop y).takeWhile (fun c => c != 0)).isEmpty <;> simp [hemp]
      rw [en] at h
      obtain ⟨hl, hmin, hname⟩ := post_spec (post_ltt_new _ _ _) h
      exact ⟨⟨by omega, hmem, hmin, hname⟩, hl⟩

/-- a written type record that the reader accepts is a legal one -/
theorem parseType_enc_inv (names : List Nat) (t : TyRec) (hn : names.length < 4294967296)
    (h1 : I32r t.off) (l : Ltt)
    (h : parseType names.length names (beBytes 4 t.off ++ [if t.dst then 1 else 0, t.abbr]) = .ok l) :
    TyRecOk names t := by
  obtain ⟨off, dst, abbr⟩ := t
  dsimp only at h1 h ⊢
  have hs : ∀ d : Nat, slice (beBytes 4 off ++ [d, abbr]) 0 4 = .ok (beBytes 4 off) := by
    intro d
    rw [slice_ok _ _ _ (by omega) (by simp [beBytes_len])]
    simp [List.take_left' (beBytes_len 4 off)]
  have e : ∀ d : Nat, beBytes 4 off ++ [d, abbr]
      = [(off / 16777216 % 256).toNat, (off / 65536 % 256).toNat, (off / 256 % 256).toNat,
         (off % 256).toNat, d, abbr] := by
    intro d; simp [beBytes]
  unfold parseType at h
  rw [hs, P.bind_ok, read_i32_beBytes _ h1, P.bind_ok, e] at h
  obtain ⟨hlt, hmem, hmin, hname⟩ : abbr < names.length ∧ 0 ∈ names.drop abbr
      ∧ (-86400 < off ∧ off < 86400) ∧ ∀ n, nameAt names abbr = some n → NameOk n := by
    cases dst
    · exact (desigArm_inv (bb := false) hn h).1
    · exact (desigArm_inv (bb := true) hn h).1
  refine ⟨h1, hmin, hlt, hmem, ?_⟩
  split
  · rename_i n hn'; exact hname n hn'
  · trivial
theorem parseTypes_enc_inv (names : List Nat) (l : List TyRec) (hn : names.length < 4294967296)
    (h1 : ∀ t ∈ l, I32r t.off) (out : List Ltt)
    (h : parseTypes names.length names (l.map fun t => beBytes 4 t.off ++ [if t.dst then 1 else 0, t.abbr])
      = .ok out) : ∀ t ∈ l, TyRecOk names t := by
  induction l generalizing out with
  | nil => intro t ht; cases ht
  | cons t rest ih =>
    simp only [List.map_cons, parseTypes] at h
    obtain ⟨a, ha, h⟩ := bind_eq_ok h
    obtain ⟨ts, hts, _⟩ := bind_eq_ok h
    intro x hx
    rcases List.mem_cons.mp hx with rfl | hx
    · exact parseType_enc_inv names _ hn (h1 _ (by simp)) a ha
    · exact ih (fun y hy => h1 y (List.mem_cons_of_mem _ hy)) ts hts x hx

/-- the part of `parse` after the blocks have been sliced, on a written block: an `Ok` means the
type records are legal, the indicators admissible, `validate` accepts the written zone, and the
result is the written zone -/
theorem parseRest_enc_inv (v : Version) (ts : Nat) (b : Block) (fo : Option (List Nat)) (rule : Option Rule)
    (hs : BlockShape b) (hfit : BlockFits v ts b) (hts : ts = 4 ∨ ts = 8)
    (hf : parseFooterOpt fo v = .ok rule) (z : Zone)
    (h : parseRest (stateOf v ts b) fo = .ok z) :
    (∀ t ∈ b.types, TyRecOk b.names t) ∧ badIndicators b.types.length b.stdWalls b.utLocals = false
      ∧ validate (absBlock b rule) = .ok () ∧ z = absBlock b rule := by
  have k : TYPE_RECORD = 6 := rfl
  unfold parseRest at h
  simp only [stateOf, hdrOf] at h
  have c1 : chunks_exact ts (encTrans ts b) = b.trans.map fun t => beBytes ts t.1 :=
    chunks_exact_flatMap _ _ _ (by omega) (fun _ => beBytes_len _ _)
  have c2 : chunks_exact TYPE_RECORD (encTypes b)
      = b.types.map fun t => beBytes 4 t.off ++ [if t.dst then 1 else 0, t.abbr] := by
    rw [k]; exact chunks_exact_flatMap _ _ _ (by omega) (fun _ => by simp [beBytes_len])
  have c3 : chunks_exact (ts + 4) (encLeaps ts b) = b.leaps.map fun l => beBytes ts l.1 ++ beBytes 4 l.2 :=
    chunks_exact_flatMap _ _ _ (by omega) (fun _ => by simp [beBytes_len])
  rw [c1, c2, c3, parseTransitions_enc v ts b.trans hfit.trans] at h
  simp only [P.bind_ok] at h
  obtain ⟨tys, htys, h⟩ := bind_eq_ok h
  have hty := parseTypes_enc_inv b.names b.types hs.nn hfit.types tys htys
  rw [parseTypes_enc b.names b.types hs.nn hty] at htys
  cases htys
  rw [parseLeaps_enc v ts b.leaps hfit.leaps] at h
  simp only [P.bind_ok] at h
  by_cases hind : badIndicators b.types.length b.stdWalls b.utLocals = true
  · have := (ite_pos' _ _ hind).symm.trans h; cases this
  · replace h := (ite_neg' _ _ hind).symm.trans h
    have hind' : badIndicators b.types.length b.stdWalls b.utLocals = false := by simpa using hind
    rw [hf] at h
    simp only [P.bind_ok] at h
    unfold Zone.new at h
    obtain ⟨u, hu, h⟩ := bind_eq_ok h
    cases u
    simp only [P.ok.injEq] at h
    exact ⟨hty, hind', hu, h.symm⟩

theorem blockVals_of (v : Version) (ts : Nat) (b : Block) (hfit : BlockFits v ts b)
    (h1 : ∀ t ∈ b.types, TyRecOk b.names t)
    (h2 : badIndicators b.types.length b.stdWalls b.utLocals = false) : BlockVals v ts b :=
  ⟨hfit.trans, h1, hfit.leaps, h2⟩

/-! ### the leap-second check without its saturating arithmetic -/
theorem satAbs_one (x : Int) : (satAbs32 x == 1) = true ↔ x.natAbs = 1 := by
  unfold satAbs32 satI32 iabs
  simp only [beq_iff_eq, I32_MAX, I32_MIN]
  omega

/-- saturating a difference to `i32` first does not change whether its magnitude is 1 -/
theorem satAbs_diff_one (x : Int) : (satAbs32 (satI32 x) == 1) = true ↔ x.natAbs = 1 := by
  rw [satAbs_one]
  unfold satI32
  simp only [I32_MAX, I32_MIN]
  omega

theorem sat_diff_ge (x : Int) :
    decide (M.Tz.satI64 x ≥ SECONDS_PER_28_DAYS - 1) = true ↔ x ≥ 2419199 := by
  unfold M.Tz.satI64
  have k : SECONDS_PER_28_DAYS = 2419200 := rfl
  simp only [decide_eq_true_eq, I64_MAX, I64_MIN, k]
  omega

theorem checkLeapPairs_cons2 (x0 x1 : LeapSecond) (r : List LeapSecond) :
    checkLeapPairs (x0 :: x1 :: r)
      = ((decide (M.Tz.satI64 (x1.time - x0.time) ≥ SECONDS_PER_28_DAYS - 1)
          && satAbs32 (satI32 (x1.corr - x0.corr)) == 1) && checkLeapPairs (x1 :: r)) := rfl

theorem checkLeapPairs_iff (ls : List LeapSecond) : checkLeapPairs ls = true ↔ LeapPairsOk ls := by
  induction ls with
  | nil => simp [checkLeapPairs, LeapPairsOk]
  | cons x0 rest ih =>
    cases rest with
    | nil => simp [checkLeapPairs, LeapPairsOk]
    | cons x1 r2 =>
      rw [checkLeapPairs_cons2, Bool.and_eq_true, Bool.and_eq_true, sat_diff_ge, satAbs_diff_one, ih]
      simp only [LeapPairsOk]
      exact ⟨fun ⟨⟨a, b⟩, c⟩ => ⟨a, b, c⟩, fun ⟨a, b, c⟩ => ⟨⟨a, b⟩, c⟩⟩

theorem abs_leaps_i32 (v : Version) (ts : Nat) (b : Block) (rule : Option Rule)
    (h : ∀ l ∈ b.leaps, TimeFits v ts l.1 ∧ I32r l.2) : ∀ l ∈ (absBlock b rule).leaps, I32r l.corr := by
  intro l hl
  simp only [absBlock, List.mem_map] at hl
  obtain ⟨p, hp, rfl⟩ := hl
  exact (h p hp).2

end Chrono.Proofs.TzValid
