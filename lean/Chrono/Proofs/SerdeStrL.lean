/-
  Helper lemmas for the string forms of C20 (Props/C20.lean, `string_forms_roundtrip_*`):
  * the serde glue adds nothing to a writer / reader pair (`glue_roundtrip`, and `glue_pure` for writers
    and readers that are plain functions: weekday / month names);
  * the zone-aware writer of serde, `write_rfc3339(wall clock, offset, AutoSi, use_z = true)`, writes the
    `Debug` text of the wall clock followed by the RFC 3339 offset (`write_rfc3339_autoSi_debug`, for every
    value: a structural identity of the two models); the offset text, for every offset of less than a day,
    is `Z` on request for zero and otherwise sign and `hh:mm` of the offset rounded to minutes
    (`offset_colon_text`), which for a whole-minute offset is `+hh:mm` / `-hh:mm` (`offset_rfc3339_text`);
  * hence its text and what the relaxed `FromStr` reader of C09 makes of it (`serde_datetime_text`,
    `serde_datetime_read`).
-/
import Chrono.Props.C09
import Chrono.Proofs.Rfc3339WriteL
import Chrono.Spec.SerdeStrAnySpec
namespace Chrono.Proofs.SerdeStr
open Chrono Chrono.M Chrono.M.Format Chrono.M.TextForms Chrono.M.Serde
open Chrono.Spec Chrono.Spec.Text Chrono.Spec.Serde Chrono.Proofs.TextForms

/-! ### the glue -/

/-- writers and readers that are plain functions: `collect_str(print v)`, then `visit_str = parse(..)` -/
theorem glue_pure {α : Type} (F : StrFormat) (hF : F.Faithful)
    (print : α → List Nat) (parse : List Nat → Option α) (P : α → Prop)
    (hrt : ∀ v, P v → parse (print v) = some v) (v : α) (hv : P v) :
    strDeserialize F parse (strSerialize F print v) = .ok v := by
  unfold strDeserialize strSerialize
  rw [hF]; dsimp only; rw [hrt v hv]; rfl

/-- a reader that is a plain function, on arbitrary stored text: accepted as `a` exactly when `parse` says so -/
theorem glue_parse_iff {α : Type} (F : StrFormat) (hF : F.Faithful) (parse : List Nat → Option α)
    (s : List Nat) (a : α) : strDeserialize F parse (F.putStr s) = .ok a ↔ parse s = some a := by
  unfold strDeserialize
  rw [hF]
  dsimp only
  cases parse s with
  | none => exact ⟨fun h => (by cases h), fun h => (by cases h)⟩
  | some v => exact ⟨fun h => (by injection h with h; rw [h]), fun h => (by injection h with h; rw [h]; rfl)⟩

/-- writers that can fail or panic, visitors that can refuse or panic: if the writer writes `text` for `v`,
then through any faithful format `v` is stored as `text`, and the round trip is what the visitor makes of
`text` -/
theorem glue_text {α β : Type} (F : StrFormat) (hF : F.Faithful) (w : α → W) (v : α) (text : List Nat)
    (hw : w v = wok text) :
    strSerializeW F w v = .ok (.ok (F.putStr text)) ∧
    ∀ visit : List Nat → Res (SR β), strRoundTrip F w visit v = visit text := by
  have h1 : strSerializeW F w v = .ok (.ok (F.putStr text)) := by
    unfold strSerializeW; rw [hw]; rfl
  refine ⟨h1, fun visit => ?_⟩
  unfold strRoundTrip
  rw [h1]
  show strDeserializeV F visit (F.putStr text) = _
  unfold strDeserializeV
  rw [hF]

/-- … in particular, if the visitor reads `text` as `v'`, `v` comes back as `v'` -/
theorem glue_roundtrip {α β : Type} (F : StrFormat) (hF : F.Faithful) (w : α → W)
    (visit : List Nat → Res (SR β)) (v : α) (v' : β) (text : List Nat)
    (hw : w v = wok text) (hr : visit text = .ok (.ok v')) :
    strSerializeW F w v = .ok (.ok (F.putStr text)) ∧
    strDeserializeV F visit (F.putStr text) = .ok (.ok v') ∧
    strRoundTrip F w visit v = .ok (.ok v') := by
  obtain ⟨h1, h2⟩ := glue_text (β := β) F hF w v text hw
  refine ⟨h1, ?_, by rw [h2, hr]⟩
  unfold strDeserializeV; rw [hF]; exact hr

theorem visitOf_ok {α} (r : Parsed.RP α) (a : α) (h : r = .ok (.ok a)) : visitOf r = .ok (.ok a) := by
  rw [h]; rfl

/-! ### the zone-aware writer -/

theorem seq_assoc (a b c : W) : (a.seq b).seq c = a.seq (b.seq c) := by
  rcases a with (_ | x) | _ <;> try rfl
  rcases b with (_ | y) | _ <;> try rfl
  rcases c with (_ | z) | _ <;> try rfl
  simp only [W.seq, List.append_assoc]

/-- **`write_rfc3339` with `AutoSi` is `Debug` of the wall clock followed by the offset**, for every
wall clock, offset and `use_z` (also where an accessor panics or a field does not fit two digits) -/
theorem write_rfc3339_autoSi_debug (dt : NaiveDT) (off : Int) (use_z : Bool) :
    write_rfc3339 dt off .autoSi use_z =
      (naive_debug dt).seq (OffsetFormat.format ⟨.minutes, .colon, use_z, .zero⟩ off) := by
  obtain ⟨date, time⟩ := dt
  rw [Chrono.Proofs.Rfc3339.write_rfc3339_unfold]
  unfold naive_debug date_debug time_debug Date.month Date.day
  cases date.mdf with
  | panic => rfl
  | ok mdf =>
    simp only [W.ofRes, seq_assoc]
    rfl

/-- the minutes an offset is shown with: its magnitude rounded to the nearest minute -/
theorem roundMin_natAbs (off : Int) : (roundMin off).natAbs / 60 = (off.natAbs + 30) / 60 := by
  unfold roundMin; split <;> omega

/-- **the offset as `write_rfc3339` shows it**, for every offset of less than a day: `Z` on request for
zero, else the sign of the offset and `hh:mm` of its magnitude rounded to minutes -/
theorem offset_colon_text (zulu : Bool) (off : Int) (h : OffValid off) :
    OffsetFormat.format ⟨.minutes, .colon, zulu, .zero⟩ off =
      wok (if zulu = true ∧ off = 0 then [90]
        else signedHhmm (decide (off < 0)) ((roundMin off).natAbs / 60)) := by
  rw [Chrono.Proofs.RenderScan.offset_minutes_eq .colon zulu off h]
  by_cases hz : zulu = true ∧ off = 0
  · rw [if_pos hz, if_pos hz]
  · rw [if_neg hz, if_neg hz]
    have ha : (if off < 0 then -off else off) = (off.natAbs : Int) := by split <;> omega
    have hlt : off.natAbs < 86400 := by unfold OffValid at h; omega
    rw [ha, roundMin_natAbs]
    unfold signedHhmm Chrono.Proofs.RenderScan.colonText
    rw [if_pos rfl, decN_two _ (by omega), decN_two _ (by omega)]
    simp only [decide_eq_true_eq]
    norm_cast

/-- nothing is rounded in a whole-minute offset -/
theorem signedHhmm_whole (off : Int) (h : off % 60 = 0) :
    signedHhmm (decide (off < 0)) ((roundMin off).natAbs / 60) = offsetText off := by
  have e : (off.natAbs + 30) / 60 = off.natAbs / 60 := by omega
  unfold signedHhmm offsetText
  rw [roundMin_natAbs, e, Nat.div_div_eq_div_mul]
  simp only [decide_eq_true_eq]

/-- the offset as serde's zone-aware writer shows it: `Z` for zero, else `+hh:mm` / `-hh:mm` -/
theorem offset_rfc3339_text (off : Int) (h : WholeMinute off) :
    OffsetFormat.format ⟨.minutes, .colon, true, .zero⟩ off = wok (zoneText off) := by
  rw [offset_colon_text true off ⟨h.1, h.2.1⟩, signedHhmm_whole off h.2.2]
  unfold zoneText
  simp only [true_and]

/-- the text serde writes for a zone-aware value on the domain of C09: the wall clock in its `Debug`
form, then `Z` or the offset -/
theorem serde_datetime_text (z : Zoned) (hz : ZInv z) (hm : WholeMinute z.off)
    (hs : TStrict z.utc.time) (l : NaiveDT) (hl : Zoned.naive_local z = .ok l) :
    DateTimeStr.serialize z = wok (naiveText 84 l ++ zoneText z.off) := by
  obtain ⟨Y, O, hvd, he, hst, hov⟩ := local_facts z hz hm.2.2 hs l hl
  unfold DateTimeStr.serialize
  rw [hov]
  show write_rfc3339 l z.off .autoSi true = _
  rw [write_rfc3339_autoSi_debug, offset_rfc3339_text z.off hm]
  have hd : naive_debug l = wok (naiveText 84 l) := by
    have ht : naiveText 84 l = dateText Y (monthOfYo Y O) (dayOfYo Y O) ++ (84 :: timeText l.time) := by
      unfold naiveText
      have : l.date = dateOfYo Y O := by rw [he]
      rw [this, dateTextOf_yo Y O hvd]
    rw [ht]
    conv => lhs; rw [he]
    exact naive_debug_text Y O hvd _ hst.1
  rw [hd]
  rfl

/-- … and the relaxed `FromStr for DateTime<FixedOffset>` reads that text back as the value -/
theorem serde_datetime_read (z : Zoned) (hz : ZInv z) (hm : WholeMinute z.off)
    (hs : TStrict z.utc.time) (l : NaiveDT) (hl : Zoned.naive_local z = .ok l) :
    fixed_from_str (naiveText 84 l ++ zoneText z.off) = .ok (.ok z) := by
  unfold zoneText
  by_cases h0 : z.off = 0
  · rw [if_pos h0]
    exact fixed_from_text z hz hm.2.2 hs l hl 84 (Or.inl rfl) [90] [90]
      (tailOk_cons 90 _ (by decide) (by decide)) (by decide) (by rw [h0]; rfl)
  · rw [if_neg h0]
    exact (Chrono.Props.C09.roundtrip_DateTime_FixedOffset z hz hm hs l hl).2.1

end Chrono.Proofs.SerdeStr
