/- Helper lemmas for C16, part 5: what the specification's writer writes is read back exactly. -/
import Chrono.Proofs.TzRoundL
import Chrono.Proofs.TzGrammarL
import Chrono.Proofs.TzTruncL
import Chrono.Proofs.TzSamples
import Chrono.Proofs.Utf8L

namespace Chrono.Proofs.Tz
open Chrono Chrono.M.Tz Chrono.Spec.Tz Chrono.Spec.Tz.Gr Chrono.Extracted.TzP

/-! ### big-endian integers -/
theorem beBytes_len (n : Nat) (x : Int) : (beBytes n x).length = n := by
  induction n with
  | zero => rfl
  | succ n ih => simp [beBytes, ih]

/-- The low `p * 256` part of `x` is its base-256 digit at `p`, followed by its low `p` part. -/
theorem emod_mul_256 (x p : Int) (hp : 0 ≤ p) : x % (p * 256) = x / p % 256 * p + x % p := by
  rw [Int.emod_def x (p * 256), ← Int.ediv_ediv_of_nonneg hp, Int.emod_def (x / p), Int.emod_def x p,
    Int.sub_mul, Int.mul_comm (x / p) p, Int.mul_comm (256 * _) p, Int.mul_assoc]
  omega

theorem foldl_beBytes (n : Nat) (x : Int) (a : Nat) :
    (((beBytes n x).foldl (fun a b => a * 256 + b % 256) a : Nat) : Int) = a * 256 ^ n + x % 256 ^ n := by
  induction n generalizing a with
  | zero => simp [beBytes, Int.emod_one]
  | succ n ih =>
    have hd : ((((x / 256 ^ n % 256).toNat % 256 : Nat)) : Int) = x / 256 ^ n % 256 := by omega
    rw [beBytes, List.foldl_cons, ih, Int.pow_succ, emod_mul_256 x _ (Int.le_of_lt (Int.pow_pos (by omega))),
      Int.natCast_add, Int.natCast_mul, hd, Int.add_mul, Int.mul_assoc, Int.add_assoc, Int.mul_comm (256 ^ n) 256]
    rfl

/-- Reading `n` big-endian bytes written from `x` gives `x` modulo `256 ^ n`. -/
theorem beNat_beBytes (n : Nat) (x : Int) : ((beNat (beBytes n x) : Nat) : Int) = x % 256 ^ n :=
  (foldl_beBytes n x 0).trans (by simp)

theorem read_i32_beBytes (x : Int) (h : I32r x) : read_be_i32 (beBytes 4 x) = .ok x := by
  unfold read_be_i32
  rw [if_neg (by simp [beBytes_len])]
  unfold asI32
  rw [beNat_beBytes]
  unfold I32r at h
  dsimp only
  split <;> (congr 1; omega)

theorem read_i64_beBytes (x : Int) (h : I64r x) : read_be_i64 (beBytes 8 x) = .ok x := by
  unfold read_be_i64
  rw [if_neg (by simp [beBytes_len])]
  unfold asI64
  rw [beNat_beBytes]
  unfold I64r at h
  dsimp only
  split <;> (congr 1; omega)

theorem read_exact_app (X Y : List Nat) (n : Nat) (h : X.length = n) :
    read_exact (X ++ Y) n = .ok (X, Y) := by
  subst h; exact read_exact_append X Y

theorem read_u32_enc (n : Nat) (Y : List Nat) (h : n < 4294967296) :
    read_be_u32 (u32 n ++ Y) = .ok (n, Y) := by
  unfold read_be_u32 u32
  rw [read_exact_app _ _ 4 (beBytes_len 4 _)]
  simp only
  have := beNat_beBytes 4 (n : Int)
  have e : beNat (beBytes 4 (n : Int)) = n := by omega
  rw [e]

/-! ### header -/
theorem versionOf_byte (v : Version) : versionOf [versionByte v] = some v := by
  cases v <;> rfl

theorem header_new_enc (v : Version) (b : Block) (Y : List Nat) (hs : BlockShape b) :
    Header.new (encHeader v b ++ Y) = .ok (hdrOf v b, Y) := by
  have e : encHeader v b ++ Y = [84, 90, 105, 102] ++ ([versionByte v] ++ (List.replicate 15 0 ++
      (u32 b.utLocals.length ++ (u32 b.stdWalls.length ++ (u32 b.leaps.length ++
      (u32 b.trans.length ++ (u32 b.types.length ++ (u32 b.names.length ++ Y)))))))) := by
    simp [encHeader, List.append_assoc]
  rw [e]
  unfold Header.new
  rw [read_exact_app _ _ 4 rfl]
  simp only [P.bind_ok]
  rw [if_neg (by decide)]
  rw [read_exact_app _ _ 1 rfl]
  simp only [P.bind_ok, versionOf_byte]
  rw [read_exact_app _ _ RESERVED (by simp [RESERVED])]
  simp only [P.bind_ok]
  have h1 : b.utLocals.length < 4294967296 := by have := hs.ul; have := hs.nty; omega
  have h2 : b.stdWalls.length < 4294967296 := by have := hs.sw; have := hs.nty; omega
  rw [read_u32_enc _ _ h1]; simp only [P.bind_ok]
  rw [read_u32_enc _ _ h2]; simp only [P.bind_ok]
  rw [read_u32_enc _ _ hs.nl]; simp only [P.bind_ok]
  rw [read_u32_enc _ _ hs.nt]; simp only [P.bind_ok]
  rw [read_u32_enc _ _ hs.nty]; simp only [P.bind_ok]
  rw [read_u32_enc _ _ hs.nn]; simp only [P.bind_ok]
  rw [if_neg]
  · rfl
  · have := hs.ty0; have := hs.nn0; have := hs.sw; have := hs.ul
    simp only [Bool.not_eq_true', Bool.not_eq_false, Bool.and_eq_true, Bool.or_eq_true, bne_iff_ne, ne_eq,
      beq_iff_eq]
    omega

/-! ### data block -/
theorem flatMap_len {α} (l : List α) (f : α → List Nat) (k : Nat) (h : ∀ x, (f x).length = k) :
    (l.flatMap f).length = l.length * k := by
  induction l with
  | nil => simp
  | cons a t ih =>
    simp only [List.flatMap_cons, List.length_append, List.length_cons, ih, h, Nat.succ_mul]
    omega

def encTrans (ts : Nat) (b : Block) : List Nat := b.trans.flatMap fun t => beBytes ts t.1
def encTypes (b : Block) : List Nat :=
  b.types.flatMap fun t => beBytes 4 t.off ++ [if t.dst then 1 else 0, t.abbr]
def encLeaps (ts : Nat) (b : Block) : List Nat := b.leaps.flatMap fun l => beBytes ts l.1 ++ beBytes 4 l.2

/-- the slices `State::new` cuts out of a written block -/
def stateOf (v : Version) (ts : Nat) (b : Block) : State :=
  ⟨hdrOf v b, ts, encTrans ts b, b.trans.map (fun t => t.2), encTypes b, b.names, encLeaps ts b,
    b.stdWalls, b.utLocals⟩

theorem encTrans_len (ts : Nat) (b : Block) : (encTrans ts b).length = b.trans.length * ts :=
  flatMap_len _ _ _ (fun _ => beBytes_len _ _)
theorem encTypes_len (b : Block) : (encTypes b).length = b.types.length * 6 :=
  flatMap_len _ _ _ (fun _ => by simp [beBytes_len])
theorem encLeaps_len (ts : Nat) (b : Block) : (encLeaps ts b).length = b.leaps.length * (ts + 4) :=
  flatMap_len _ _ _ (fun _ => by simp [beBytes_len])

theorem encBody_eq (ts : Nat) (b : Block) (Y : List Nat) :
    encBody ts b ++ Y = encTrans ts b ++ (b.trans.map (fun t => t.2) ++ (encTypes b ++ (b.names ++
      (encLeaps ts b ++ (b.stdWalls ++ (b.utLocals ++ Y)))))) := by
  simp [encBody, encTrans, encTypes, encLeaps, List.append_assoc]

theorem state_new_enc (v : Version) (b : Block) (Y : List Nat) (first : Bool) (hs : BlockShape b) :
    State.new (encHeader v b ++ (encBody (if first then 4 else 8) b ++ Y)) first
      = .ok (stateOf v (if first then 4 else 8) b, Y) := by
  have k : TYPE_RECORD = 6 := rfl
  have h1 := hs.nt; have h2 := hs.nty; have h3 := hs.nl
  unfold State.new
  have hts : (if first = true then 4 else 8) ≤ 8 := by split <;> omega
  generalize (if first = true then 4 else 8) = ts at hts ⊢
  have m1 : b.trans.length * ts ≤ 4294967296 * 8 := Nat.mul_le_mul (by omega) hts
  have m2 : b.leaps.length * (ts + 4) ≤ 4294967296 * 12 := Nat.mul_le_mul (by omega) (by omega)
  rw [header_new_enc v b _ hs, encBody_eq]
  simp only [P.bind_ok, hdrOf]
  rw [ckUsz_ok (by omega)]
  simp only [P.bind_ok]
  rw [read_exact_app _ _ _ (encTrans_len _ b)]
  simp only [P.bind_ok]
  rw [read_exact_app _ _ _ (by simp)]
  simp only [P.bind_ok]
  rw [k, ckUsz_ok (by omega)]
  simp only [P.bind_ok]
  rw [read_exact_app _ _ _ (encTypes_len b)]
  simp only [P.bind_ok]
  rw [read_exact_app _ _ _ rfl]
  simp only [P.bind_ok]
  rw [ckUsz_ok (by omega)]
  simp only [P.bind_ok]
  rw [read_exact_app _ _ _ (encLeaps_len _ b)]
  simp only [P.bind_ok]
  rw [read_exact_app _ _ _ rfl]
  simp only [P.bind_ok]
  rw [read_exact_app _ _ _ rfl]
  simp only [P.bind_ok]
  rfl

/-! ### record loops on written data -/
theorem chunksN_flatMap {α} (l : List α) (f : α → List Nat) (k : Nat) (h : ∀ x, (f x).length = k) :
    chunksN l.length k (l.flatMap f) = l.map f := by
  induction l with
  | nil => rfl
  | cons a t ih =>
    simp only [List.length_cons, chunksN, List.flatMap_cons, List.map_cons]
    rw [List.take_left' (h a), List.drop_left' (h a), ih]

theorem chunks_exact_flatMap {α} (l : List α) (f : α → List Nat) (k : Nat) (hk : 0 < k)
    (h : ∀ x, (f x).length = k) : chunks_exact k (l.flatMap f) = l.map f := by
  unfold chunks_exact
  rw [flatMap_len l f k h, Nat.mul_div_cancel _ hk]
  exact chunksN_flatMap l f k h

/-- the time size and version a block is decoded with, and the range its times must fit -/
def TimeFits (v : Version) (ts : Nat) (t : Int) : Prop :=
  (v = .V1 ∧ ts = 4 ∧ I32r t) ∨ (v ≠ .V1 ∧ ts = 8 ∧ I64r t)

theorem slice_left (X Y : List Nat) (n : Nat) (h : X.length = n) : slice (X ++ Y) 0 n = .ok X := by
  rw [slice_ok _ _ _ (by omega) (by simp [h])]
  simp [List.take_left' h]

theorem slice_full (l : List Nat) (n : Nat) (h : l.length = n) : slice l 0 n = .ok l := by
  simpa using slice_left l [] n h

theorem decode_time (v : Version) (ts : Nat) (t : Int) (Y : List Nat) (h : TimeFits v ts t) :
    (slice (beBytes ts t ++ Y) 0 ts >>= fun a => parse_time a v) = .ok t := by
  rw [slice_left _ _ _ (beBytes_len ts t)]
  simp only [P.bind_ok]
  rcases h with ⟨rfl, rfl, hr⟩ | ⟨hv, rfl, hr⟩
  · unfold parse_time
    simp only
    rw [slice_full _ 4 (beBytes_len 4 t)]
    exact read_i32_beBytes t hr
  · unfold parse_time
    cases v with
    | V1 => exact absurd rfl hv
    | V2 | V3 => exact read_i64_beBytes t hr

theorem parseTransitions_enc (v : Version) (ts : Nat) (l : List (Int × Nat))
    (h : ∀ t ∈ l, TimeFits v ts t.1) :
    parseTransitions ts v ((l.map fun t => beBytes ts t.1).zip (l.map fun t => t.2))
      = .ok (l.map fun t => ⟨t.1, t.2⟩) := by
  induction l with
  | nil => rfl
  | cons t rest ih =>
    simp only [List.map_cons, List.zip_cons_cons, parseTransitions]
    have := decode_time v ts t.1 [] (h t (by simp))
    simp only [List.append_nil] at this
    have h1 : slice (beBytes ts t.1) 0 ts = .ok (beBytes ts t.1) := slice_full _ _ (beBytes_len _ _)
    rw [h1] at this ⊢
    simp only [P.bind_ok] at this ⊢
    rw [this]
    simp only [P.bind_ok]
    rw [ih (fun x hx => h x (List.mem_cons_of_mem _ hx))]
    rfl

theorem parseLeap_enc (v : Version) (ts : Nat) (l : Int × Int) (h : TimeFits v ts l.1) (hc : I32r l.2) :
    parseLeap ts v (beBytes ts l.1 ++ beBytes 4 l.2) = .ok ⟨l.1, l.2⟩ := by
  have hts : ts = 4 ∨ ts = 8 := by rcases h with ⟨_, h, _⟩ | ⟨_, h, _⟩ <;> simp [h]
  unfold parseLeap
  have h1 := slice_left (beBytes ts l.1) (beBytes 4 l.2) ts (beBytes_len ts l.1)
  have h2 := decode_time v ts l.1 (beBytes 4 l.2) h
  rw [h1] at h2 ⊢
  simp only [P.bind_ok] at h2 ⊢
  rw [h2]
  simp only [P.bind_ok]
  rw [ckUsz_ok (by omega)]
  simp only [P.bind_ok]
  have h3 : slice (beBytes ts l.1 ++ beBytes 4 l.2) ts (ts + 4) = .ok (beBytes 4 l.2) := by
    rw [slice_ok _ _ _ (by omega) (by simp [beBytes_len])]
    rw [List.drop_left' (beBytes_len ts l.1)]
    have e4 : ts + 4 - ts = 4 := by omega
    rw [e4, List.take_of_length_le (by simp [beBytes_len])]
  rw [h3]
  simp only [P.bind_ok]
  rw [read_i32_beBytes _ hc]
  rfl

theorem parseLeaps_enc (v : Version) (ts : Nat) (l : List (Int × Int))
    (h : ∀ x ∈ l, TimeFits v ts x.1 ∧ I32r x.2) :
    parseLeaps ts v (l.map fun x => beBytes ts x.1 ++ beBytes 4 x.2) = .ok (l.map fun x => ⟨x.1, x.2⟩) := by
  induction l with
  | nil => rfl
  | cons x rest ih =>
    simp only [List.map_cons, parseLeaps]
    rw [parseLeap_enc v ts x (h x (by simp)).1 (h x (by simp)).2]
    simp only [P.bind_ok]
    rw [ih (fun y hy => h y (List.mem_cons_of_mem _ hy))]
    rfl

/-! ### local time type records -/
theorem nulPos_takeWhile (l : List Nat) (h : 0 ∈ l) :
    nulPos l = some (l.takeWhile (fun c => c != 0)).length := by
  induction l with
  | nil => simp at h
  | cons c t ih =>
    simp only [nulPos]
    by_cases hc : c = 0
    · subst hc; simp
    · have ht : 0 ∈ t := by
        simp only [List.mem_cons] at h
        rcases h with h | h
        · exact absurd h.symm hc
        · exact h
      rw [if_neg hc, ih ht]
      simp [List.takeWhile_cons, hc]

/-- a written type record can be read back: offset fits `i32` and lies strictly within 24 hours
of UTC (an offset of 86400 s or more in magnitude is refused since the repair of F32), the
designation index points into the table, a NUL follows, and the designation is empty or legal -/
def TyRecOk (names : List Nat) (t : TyRec) : Prop :=
  I32r t.off ∧ (-86400 < t.off ∧ t.off < 86400) ∧ t.abbr < names.length ∧ 0 ∈ names.drop t.abbr
    ∧ (match nameAt names t.abbr with
        | some n => NameOk n
        | none => True)

theorem parseType_enc (names : List Nat) (t : TyRec) (hn : names.length < 4294967296)
    (h : TyRecOk names t) :
    parseType names.length names (beBytes 4 t.off ++ [if t.dst then 1 else 0, t.abbr])
      = .ok ⟨t.off, t.dst, nameAt names t.abbr⟩ := by
  obtain ⟨off, dst, abbr⟩ := t
  obtain ⟨h1, h2, h3, h4, h5⟩ := h
  dsimp only at h1 h2 h3 h4 h5 ⊢
  have i4 : ∀ (a b c d x y : Nat), idx [a, b, c, d, x, y] 4 = .ok x := fun _ _ _ _ _ _ => rfl
  have i5 : ∀ (a b c d x y : Nat), idx [a, b, c, d, x, y] 5 = .ok y := fun _ _ _ _ _ _ => rfl
  have hsf : sliceFrom names abbr = .ok (names.drop abbr) := by
    simp [sliceFrom]; omega
  have hpos : ((names.drop abbr).takeWhile (fun c => c != 0)).length ≤ names.length - abbr := by
    have := takeWhile_len_le (fun c => c != 0) (names.drop abbr)
    simpa using this
  have e2 : abbr + ((names.drop abbr).takeWhile (fun c => c != 0)).length - abbr
      = ((names.drop abbr).takeWhile (fun c => c != 0)).length := by omega
  cases dst
  all_goals
    unfold parseType
    have hs (d : Nat) := slice_left (beBytes 4 off) [d, abbr] 4 (beBytes_len 4 off)
    have e : ∀ d : Nat, beBytes 4 off ++ [d, abbr]
        = [(off / 16777216 % 256).toNat, (off / 65536 % 256).toNat, (off / 256 % 256).toNat,
           (off % 256).toNat, d, abbr] := by
      intro d; simp [beBytes]
    simp only [Bool.false_eq_true, if_false, if_true]
    rw [hs]
    simp only [P.bind_ok]
    rw [read_i32_beBytes _ h1]
    simp only [P.bind_ok]
    rw [e, i4, i5]
    simp only [P.bind_ok]
    rw [if_neg (by omega), hsf]
    simp only [P.bind_ok]
    rw [nulPos_takeWhile _ h4]
    simp only
    rw [ckUsz_ok (by omega)]
    simp only [P.bind_ok]
    rw [slice_ok _ _ _ (by omega) (by omega)]
    simp only [P.bind_ok]
    rw [e2, take_takeWhile_len]
    unfold nameAt at h5 ⊢
    simp only at h5 ⊢
    cases hemp : ((names.drop abbr).takeWhile (fun c => c != 0)).isEmpty with
    | true =>
      simp only [Bool.not_true, Bool.false_eq_true, if_false, if_true]
      unfold Ltt.new
      rw [if_neg (by omega)]
    | false =>
      simp only [hemp, Bool.not_false, if_true, Bool.false_eq_true, if_false] at h5 ⊢
      exact ltt_new_ok _ _ _ h2 h5

theorem parseTypes_enc (names : List Nat) (l : List TyRec) (hn : names.length < 4294967296)
    (h : ∀ t ∈ l, TyRecOk names t) :
    parseTypes names.length names (l.map fun t => beBytes 4 t.off ++ [if t.dst then 1 else 0, t.abbr])
      = .ok (l.map fun t => ⟨t.off, t.dst, nameAt names t.abbr⟩) := by
  induction l with
  | nil => rfl
  | cons t rest ih =>
    simp only [List.map_cons, parseTypes]
    rw [parseType_enc names t hn (h t (by simp))]
    simp only [P.bind_ok]
    rw [ih (fun y hy => h y (List.mem_cons_of_mem _ hy))]
    rfl

/-! ### footer -/
/-- printable, non-blank ASCII -/
def Pr (b : Nat) : Prop := 33 ≤ b ∧ b ≤ 126

theorem pr_append {X Y : List Nat} (hX : ∀ b ∈ X, Pr b) (hY : ∀ b ∈ Y, Pr b) : ∀ b ∈ X ++ Y, Pr b :=
  List.forall_mem_append.mpr ⟨hX, hY⟩

theorem pr_cons {a : Nat} {Y : List Nat} (ha : Pr a) (hY : ∀ b ∈ Y, Pr b) : ∀ b ∈ a :: Y, Pr b :=
  List.forall_mem_cons.mpr ⟨ha, hY⟩

theorem pr_nil : ∀ b ∈ ([] : List Nat), Pr b := by intro b hb; cases hb

theorem nameChar_pr {b : Nat} (h : nameChar b = true) : Pr b := by
  unfold nameChar at h
  simp only [Bool.or_eq_true, beq_iff_eq] at h
  unfold Pr
  rcases h with ((h | h) | h) | h
  · have := isDigit_bounds h; omega
  · have := alpha_bounds h; omega
  · omega
  · omega

theorem pr_not_ws {b : Nat} (h : Pr b) : isAsciiWs b = false := by
  unfold Pr at h
  unfold isAsciiWs
  have e1 : (b == 32) = false := by simp; omega
  have e2 : (b == 9) = false := by simp; omega
  have e3 : (b == 10) = false := by simp; omega
  have e4 : (b == 12) = false := by simp; omega
  have e5 : (b == 13) = false := by simp; omega
  rw [e1, e2, e3, e4, e5]; rfl

theorem dropWhile_head (p : Nat → Bool) (a : Nat) (t : List Nat) (h : p a = false) :
    (a :: t).dropWhile p = a :: t := by
  simp [List.dropWhile_cons, h]

theorem trimWs_framed (F : List Nat) (hne : F ≠ []) (h : ∀ b ∈ F, Pr b) :
    trimWs (10 :: (F ++ [10])) = F := by
  unfold trimWs
  have w10 : isAsciiWs 10 = true := by decide
  cases F with
  | nil => exact absurd rfl hne
  | cons a F' =>
    have ha : isAsciiWs a = false := pr_not_ws (h a (by simp))
    have e1 : (10 :: (a :: F' ++ [10])).dropWhile isAsciiWs = a :: F' ++ [10] := by
      rw [List.dropWhile_cons, if_pos w10]
      exact dropWhile_head _ _ _ ha
    rw [e1]
    have e2 : (a :: F' ++ [10]).reverse = 10 :: (a :: F').reverse := by simp
    rw [e2, List.dropWhile_cons, if_pos w10]
    -- the reversed list starts with the last byte of F, which is not blank
    cases hr : (a :: F').reverse with
    | nil => simp at hr
    | cons z R =>
      have hz : z ∈ a :: F' := by
        have : z ∈ (a :: F').reverse := by rw [hr]; simp
        exact List.mem_reverse.mp this
      rw [dropWhile_head _ _ _ (pr_not_ws (h z hz)), ← hr, List.reverse_reverse]

theorem parseFooter_empty (v : Version) : parseFooter [10, 10] v = .ok none := by
  cases v <;> decide

/-! #### every string of the TZ grammar is printable, non-blank ASCII starting with `<` or a letter -/
theorem pr_one (a : Nat) (h : 33 ≤ a ∧ a ≤ 126) : ∀ b ∈ [a], Pr b := pr_cons h pr_nil

theorem pr_num {s : List Nat} {n : Nat} (p : Num s n) : ∀ b ∈ s, Pr b := by
  intro b hb
  have := isDigit_bounds ((num_spec p).2.1 b hb)
  unfold Pr; omega

theorem pr_hms {s : List Nat} {h m sec : Nat} (p : Hms s h m sec) : ∀ b ∈ s, Pr b := by
  have c58 : Pr 58 := by unfold Pr; omega
  cases p with
  | h ph => exact pr_num ph
  | hm ph pm => exact pr_append (pr_num ph) (pr_cons c58 (pr_num pm))
  | hms ph pm ps => exact pr_append (pr_num ph) (pr_cons c58 (pr_append (pr_num pm) (pr_cons c58 (pr_num ps))))

theorem pr_sign {s : List Nat} {sg : Int} (p : Sign s sg) : ∀ b ∈ s, Pr b := by
  cases p with
  | none => exact pr_nil
  | plus => exact pr_one 43 (by omega)
  | minus => exact pr_one 45 (by omega)

theorem pr_offset {s : List Nat} {o : Int} (p : Offset s o) : ∀ b ∈ s, Pr b := by
  cases p with
  | mk psg pb _ _ _ => exact pr_append (pr_sign psg) (pr_hms pb)

theorem pr_time {ext : Bool} {s : List Nat} {t : Int} (p : Time ext s t) : ∀ b ∈ s, Pr b := by
  cases p with
  | posix pb _ _ _ => exact pr_hms pb
  | ext psg pb _ _ _ => exact pr_append (pr_sign psg) (pr_hms pb)

theorem pr_name {s n : List Nat} (p : Name s n) : ∀ b ∈ s, Pr b := by
  have hc := (name_nameOk p).2.2
  rw [List.all_eq_true] at hc
  have hall : ∀ b ∈ n, Pr b := fun b hb => nameChar_pr (hc b hb)
  cases p with
  | bare _ _ _ => exact hall
  | quoted _ _ _ => exact pr_cons (by unfold Pr; omega) (pr_append hall (pr_one 62 (by omega)))

theorem pr_day {s : List Nat} {d : RuleDay} (p : Day s d) : ∀ b ∈ s, Pr b := by
  have c46 : Pr 46 := by unfold Pr; omega
  cases p with
  | j1 p _ _ => exact pr_cons (by unfold Pr; omega) (pr_num p)
  | j0 p _ => exact pr_num p
  | mwd pm pw pd _ _ _ _ _ =>
    exact pr_cons (by unfold Pr; omega)
      (pr_append (pr_num pm) (pr_cons c46 (pr_append (pr_num pw) (pr_cons c46 (pr_num pd)))))

theorem pr_daytime {ext : Bool} {s : List Nat} {d : RuleDay} {t : Int} (p : DayTime ext s d t) :
    ∀ b ∈ s, Pr b := by
  cases p with
  | default pd => exact pr_day pd
  | timed pd pt => exact pr_append (pr_day pd) (pr_cons (by unfold Pr; omega) (pr_time pt))

theorem pr_dstOffset {so : Int} {s : List Nat} {o : Int} (p : DstOffset so s o) : ∀ b ∈ s, Pr b := by
  cases p with
  | default => exact pr_nil
  | given p => exact pr_offset p

theorem pr_denotes {ext : Bool} {s : List Nat} {r : Rule} (h : Denotes ext s r) : ∀ b ∈ s, Pr b := by
  have c44 : Pr 44 := by unfold Pr; omega
  cases h with
  | fixed pn po => exact pr_append (pr_name pn) (pr_offset po)
  | alt pn1 po1 pn2 po2 pd1 pd2 =>
    exact pr_append (pr_name pn1) (pr_append (pr_offset po1) (pr_append (pr_name pn2)
      (pr_append (pr_dstOffset po2) (pr_cons c44 (pr_append (pr_daytime pd1) (pr_cons c44 (pr_daytime pd2)))))))

theorem denotes_head {ext : Bool} {s : List Nat} {r : Rule} (h : Denotes ext s r) :
    ∃ b t, s = b :: t ∧ (b = 60 ∨ isAlpha b = true) := by
  cases h with
  | fixed pn po => exact name_head pn _
  | alt pn1 _ _ _ _ _ => exact name_head pn1 _

/-- the canonical text is a word of the grammar, so what holds of every such word holds of it -/
theorem pr_renderTz (r : Rule) (ext : Bool) (h : RuleOk ext r) : ∀ b ∈ renderTz r, Pr b :=
  pr_denotes (canonical_denotes' r ext h)

theorem renderTz_head (r : Rule) (ext : Bool) (h : RuleOk ext r) :
    ∃ b t, renderTz r = b :: t ∧ (b = 60 ∨ isAlpha b = true) :=
  denotes_head (canonical_denotes' r ext h)

/-- a footer holding any string of the TZ grammar is read as the rule the string denotes -/
theorem parseFooter_rule (v : Version) (F : List Nat) (r : Rule) (h : Denotes (v == .V3) F r) :
    parseFooter (10 :: (F ++ [10])) v = .ok (some r) := by
  have hpr := pr_denotes h
  obtain ⟨b0, t0, e0, hb0⟩ := denotes_head h
  have hne : F ≠ [] := by rw [e0]; simp
  unfold parseFooter
  have hu : validUtf8 (10 :: (F ++ [10])) = true := by
    apply Utf8.valid_ascii
    intro b hb
    simp only [List.mem_cons, List.mem_append, List.mem_nil_iff, or_false] at hb
    rcases hb with rfl | hb | rfl
    · omega
    · have := hpr b hb; unfold Pr at this; omega
    · omega
  rw [hu]
  simp only [Bool.not_true, Bool.false_eq_true, if_false]
  have hl : (10 :: (F ++ [10])).getLast? = some 10 := by
    rw [← List.cons_append]
    exact List.getLast?_concat
  rw [if_neg (by simp [hl])]
  rw [trimWs_framed _ hne hpr]
  have h58 : ¬ (F.head? == some 58 || F.contains 0) = true := by
    simp only [Bool.or_eq_true, beq_iff_eq, List.contains_iff_mem, not_or]
    refine ⟨?_, ?_⟩
    · rw [e0]
      simp only [List.head?_cons, Option.some.injEq]
      rcases hb0 with rfl | hb0
      · omega
      · have := alpha_bounds hb0; omega
    · intro h0
      have := hpr 0 h0
      unfold Pr at this; omega
  rw [if_neg h58]
  have hemp : F.isEmpty = false := by rw [e0]; rfl
  rw [if_neg (by rw [hemp]; simp)]
  rw [tz_accepts_all' _ F r h]
  rfl

/-! ### the whole file -/
/-- the values of a block that is decoded (not merely skipped) can be read back exactly -/
structure BlockVals (v : Version) (ts : Nat) (b : Block) : Prop where
  trans : ∀ t ∈ b.trans, TimeFits v ts t.1
  types : ∀ t ∈ b.types, TyRecOk b.names t
  leaps : ∀ l ∈ b.leaps, TimeFits v ts l.1 ∧ I32r l.2
  ind : badIndicators b.types.length b.stdWalls b.utLocals = false

/-- the footer a writer may put after the 64-bit block: nothing, or ANY string of the POSIX TZ
grammar (`Spec.Tz.Denotes`: optional DST offset, optional `/time`, any zero padding, optional `+`;
the RFC 8536 extensions only in a version-3 file), `rule` being what the string denotes -/
def FooterOk (v : Version) (footer : List Nat) (rule : Option Rule) : Prop :=
  (footer = [] ∧ rule = none) ∨ ∃ r, rule = some r ∧ Denotes (v == .V3) footer r

theorem parseRest_enc (v : Version) (ts : Nat) (b : Block) (fo : Option (List Nat)) (rule : Option Rule)
    (hs : BlockShape b) (hv : BlockVals v ts b) (hts : ts = 4 ∨ ts = 8)
    (hf : parseFooterOpt fo v = .ok rule)
    (hval : validate (absBlock b rule) = .ok ()) :
    parseRest (stateOf v ts b) fo = .ok (absBlock b rule) := by
  have k : TYPE_RECORD = 6 := rfl
  unfold parseRest
  simp only [stateOf, hdrOf]
  have c1 : chunks_exact ts (encTrans ts b) = b.trans.map fun t => beBytes ts t.1 :=
    chunks_exact_flatMap _ _ _ (by omega) (fun _ => beBytes_len _ _)
  have c2 : chunks_exact TYPE_RECORD (encTypes b)
      = b.types.map fun t => beBytes 4 t.off ++ [if t.dst then 1 else 0, t.abbr] := by
    rw [k]; exact chunks_exact_flatMap _ _ _ (by omega) (fun _ => by simp [beBytes_len])
  have c3 : chunks_exact (ts + 4) (encLeaps ts b) = b.leaps.map fun l => beBytes ts l.1 ++ beBytes 4 l.2 :=
    chunks_exact_flatMap _ _ _ (by omega) (fun _ => by simp [beBytes_len])
  rw [c1, c2, c3, parseTransitions_enc v ts b.trans hv.trans]
  simp only [P.bind_ok]
  rw [parseTypes_enc b.names b.types hs.nn hv.types]
  simp only [P.bind_ok]
  rw [parseLeaps_enc v ts b.leaps hv.leaps]
  simp only [P.bind_ok]
  refine (ite_neg' _ _ (by rw [hv.ind]; simp)).trans ?_
  rw [hf]
  simp only [P.bind_ok]
  unfold Zone.new
  unfold absBlock at hval
  rw [hval]
  rfl

theorem parseBlocks_enc_v1 (f : TzFile) (hver : f.version = .V1) (hs : BlockShape f.v1) :
    parseBlocks (encodeTzif f) = .ok (stateOf .V1 4 f.v1, none) := by
  have e : encodeTzif f = encHeader .V1 f.v1 ++ (encBody (if true then 4 else 8) f.v1 ++ []) := by
    simp [encodeTzif, hver]
  unfold parseBlocks
  rw [e, state_new_enc .V1 f.v1 [] true hs]
  simp [stateOf, hdrOf]

theorem parseBlocks_enc_v2 (f : TzFile) (hver : f.version ≠ .V1) (hs1 : BlockShape f.v1)
    (hs2 : BlockShape f.v2) :
    parseBlocks (encodeTzif f) = .ok (stateOf f.version 8 f.v2, some (10 :: (f.footer ++ [10]))) := by
  have e : encodeTzif f = encHeader f.version f.v1 ++ (encBody (if true then 4 else 8) f.v1 ++
      (encHeader f.version f.v2 ++ (encBody (if false then 4 else 8) f.v2 ++ (10 :: (f.footer ++ [10]))))) := by
    cases hv' : f.version with
    | V1 => exact absurd hv' hver
    | V2 | V3 => simp [encodeTzif, hv', List.append_assoc]
  unfold parseBlocks
  rw [e, state_new_enc f.version f.v1 _ true hs1]
  simp only [P.bind_ok]
  simp only [stateOf, hdrOf]
  cases hv' : f.version with
  | V1 => exact absurd hv' hver
  | V2 | V3 =>
    rw [state_new_enc _ f.v2 _ false hs2]
    rfl

theorem tzif_roundtrip_v1' (f : TzFile) (hver : f.version = .V1) (hs : BlockShape f.v1)
    (hv : BlockVals .V1 4 f.v1) (hval : validate (absBlock f.v1 none) = .ok ()) :
    parse (encodeTzif f) = .ok (absBlock f.v1 none) := by
  rw [parse_of_blocks (parseBlocks_enc_v1 f hver hs)]
  exact parseRest_enc .V1 4 f.v1 none none hs hv (Or.inl rfl) rfl hval

theorem tzif_roundtrip_v2' (f : TzFile) (hver : f.version ≠ .V1) (hs1 : BlockShape f.v1)
    (hs2 : BlockShape f.v2) (hv : BlockVals f.version 8 f.v2) (rule : Option Rule)
    (hfoot : FooterOk f.version f.footer rule) (hval : validate (absBlock f.v2 rule) = .ok ()) :
    parse (encodeTzif f) = .ok (absBlock f.v2 rule) := by
  rw [parse_of_blocks (parseBlocks_enc_v2 f hver hs1 hs2)]
  refine parseRest_enc f.version 8 f.v2 _ rule hs2 hv (Or.inr rfl) ?_ hval
  show parseFooter _ _ = _
  rcases hfoot with ⟨h1, h2⟩ | ⟨r, h1, h2⟩
  · rw [h1, h2]; exact parseFooter_empty _
  · rw [h1]; exact parseFooter_rule _ _ r h2

theorem footerOf_enc_v1 (f : TzFile) (hver : f.version = .V1) (hs : BlockShape f.v1) :
    footerOf (encodeTzif f) = [] := by
  unfold footerOf; rw [parseBlocks_enc_v1 f hver hs]

theorem footerOf_enc_v2 (f : TzFile) (hver : f.version ≠ .V1) (hs1 : BlockShape f.v1)
    (hs2 : BlockShape f.v2) : footerOf (encodeTzif f) = 10 :: (f.footer ++ [10]) := by
  unfold footerOf; rw [parseBlocks_enc_v2 f hver hs1 hs2]

/-! ### `validate` on zones without a rule-versus-transition obligation -/
theorem checkTransitions_of (n : Nat) (l : List Transition) (h1 : SortedStrict l)
    (h2 : ∀ t ∈ l, t.idx < n) : checkTransitions n l = true := by
  induction l with
  | nil => rfl
  | cons t rest ih =>
    have ht : t.idx < n := h2 t (by simp)
    cases rest with
    | nil => simp [checkTransitions, ht]
    | cons u r2 =>
      obtain ⟨hlt, hs⟩ := h1
      have := ih hs (fun x hx => h2 x (List.mem_cons_of_mem _ hx))
      simp only [checkTransitions, Bool.and_eq_true, decide_eq_true_eq] at this ⊢
      exact ⟨⟨ht, hlt⟩, this⟩

/-- without a rule, or without transitions, `validate` only asks for a type, sorted in-range
transitions and the leap-second table constraints -/
theorem validate_ok_of (z : Zone) (h0 : z.types ≠ []) (h1 : SortedStrict z.transitions)
    (h2 : ∀ t ∈ z.transitions, t.idx < z.types.length) (h3 : checkLeaps z.leaps = true)
    (h4 : z.rule = none ∨ z.transitions = []) : validate z = .ok () := by
  unfold validate
  have hl : ¬ z.types.length = 0 := by
    intro e; exact h0 (List.eq_nil_of_length_eq_zero e)
  rw [if_neg hl, if_neg (by rw [checkTransitions_of _ _ h1 h2]; simp), if_neg (by rw [h3]; simp)]
  rcases h4 with h | h
  · rw [h]
  · rw [h]
    cases z.rule <;> rfl

/-! ### the hypotheses are satisfiable: `sampleV2` -/
theorem sampleV2_shape1 : BlockShape sampleV2.v1 :=
  ⟨by decide, by decide, by decide, by decide, by decide, by decide, by decide, by decide⟩
theorem sampleV2_shape2 : BlockShape sampleV2.v2 :=
  ⟨by decide, by decide, by decide, by decide, by decide, by decide, by decide, by decide⟩

/-! ### cuts of the written samples -/
/-- Every cut of an accepted file whose footer is `\n s \n`, with no newline in `s`, is rejected,
except possibly the cut right after the footer's first newline. -/
theorem rejects_cuts_of_footer {bytes s : List Nat} {z : Zone} (h : parse bytes = .ok z)
    (hf : footerOf bytes = 10 :: (s ++ [10])) (hs : 10 ∉ s) (k : Nat) (hk : k < bytes.length)
    (hne : k + (s.length + 2) ≠ bytes.length + 1) : parse (bytes.take k) = .err := by
  have hl : (footerOf bytes).length = s.length + 2 := by simp [hf]
  by_cases hcut : k + (footerOf bytes).length ≤ bytes.length
  · exact rejects_truncated_blocks' bytes z h k hk hcut
  · refine rejects_truncated_footer' bytes z h k hk (by omega) (by omega) fun j hj hj' e => ?_
    obtain ⟨i, rfl⟩ : ∃ i, j = i + 1 := ⟨j - 1, by omega⟩
    rw [hf, List.getElem?_cons_succ, List.getElem?_append_left (by omega)] at e
    exact hs (List.mem_of_getElem? e)

theorem footerStart_add (f : TzFile) (hver : f.version ≠ .V1) :
    footerStart f + (f.footer.length + 2) = (encodeTzif f).length := by
  unfold footerStart encodeTzif
  cases hv : f.version with
  | V1 => exact absurd hv hver
  | _ => simp only [List.length_append, List.length_singleton]; omega

theorem rejects_truncated_samples :
    (∀ k, k < (encodeTzif sampleV1).length → parse ((encodeTzif sampleV1).take k) = .err)
      ∧ (∀ k, k < (encodeTzif sampleV2).length → k ≠ footerStart sampleV2 + 1 →
          parse ((encodeTzif sampleV2).take k) = .err)
      ∧ (∀ k, k < (encodeTzif sampleV3).length → k ≠ footerStart sampleV3 + 1 →
          parse ((encodeTzif sampleV3).take k) = .err) := by
  obtain ⟨h1, h2, h3⟩ := tzif_roundtrip_samples
  refine ⟨fun k hk => rejects_truncated_blocks' _ _ h1 k hk ?_,
    fun k hk hs => rejects_cuts_of_footer h2 (footerOf_enc_v2 _ (by decide) sampleV2_shape1 sampleV2_shape2)
      (by decide +kernel) k hk ?_,
    fun k hk hs => rejects_cuts_of_footer h3 (s := sampleV3.footer) (by decide +kernel) (by decide +kernel) k hk ?_⟩
  · rw [show footerOf (encodeTzif sampleV1) = [] by decide +kernel]; exact Nat.le_of_lt hk
  · have := footerStart_add sampleV2 (by decide); omega
  · have := footerStart_add sampleV3 (by decide); omega

instance (x : Int) : Decidable (I32r x) := by unfold I32r; infer_instance
instance (x : Int) : Decidable (I64r x) := by unfold I64r; infer_instance
instance (v : Version) (ts : Nat) (t : Int) : Decidable (TimeFits v ts t) := by
  unfold TimeFits; infer_instance
instance (names : List Nat) (t : TyRec) : Decidable (TyRecOk names t) := by
  unfold TyRecOk
  cases nameAt names t.abbr <;> infer_instance

theorem sampleV2_vals : BlockVals sampleV2.version 8 sampleV2.v2 :=
  ⟨by decide +kernel, by decide +kernel, by decide +kernel, by decide +kernel⟩

end Chrono.Proofs.Tz
