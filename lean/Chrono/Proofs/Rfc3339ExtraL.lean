/-
  C10: the round trip — writer theorem, then `parse_complete`: what the strict reader returns for the
  rendering, in seconds and nanoseconds (`roundtrip_main`), and from it the value-level round trip for EVERY
  precision (leap seconds included); the offset bound in seconds vs the `hh < 24` form of `Valid`; the
  `%+` formatting item.
  Namespace `Chrono.Proofs.Rfc3339X`.
-/
import Chrono.Proofs.Rfc3339SignL
import Chrono.Proofs.Rfc3339UniqueL
import Chrono.Model.ParseFrom

namespace Chrono.Proofs.Rfc3339X
open Chrono Chrono.M Chrono.M.Format Chrono.Spec Chrono.Spec.Rfc3339 Chrono.Proofs.Rfc3339 Chrono.Proofs
open Chrono.M.Rfc3339

/-! ### what the fraction shown denotes -/

theorem fracVal_short (ds : List Nat) (h : ds.length ≤ 9) :
    RenderScan.fracVal ds = RenderScan.valOf ds * 10 ^ (9 - ds.length) := by
  unfold RenderScan.fracVal; rw [List.take_of_length_le h]

theorem wantedFrac_cases (sf : SecondsFormat) (n : Nat) :
    wantedFrac sf n = (0, 0) ∨ wantedFrac sf n = (3, n / 1000000) ∨ wantedFrac sf n = (6, n / 1000) ∨
      wantedFrac sf n = (9, n) := by
  unfold wantedFrac
  cases sf <;> simp only [true_or, or_true]
  split_ifs <;> simp only [true_or, or_true]

theorem wantedFrac_le (sf : SecondsFormat) (n : Nat) : (wantedFrac sf n).1 ≤ 9 := by
  rcases wantedFrac_cases sf n with h | h | h | h <;> rw [h] <;> omega

theorem keptNanos_le (sf : SecondsFormat) (n : Nat) : keptNanos sf n ≤ n := by
  unfold keptNanos
  rcases wantedFrac_cases sf n with h | h | h | h <;> rw [h] <;> norm_num <;> omega

/-- the nanoseconds a shown fraction denotes are the nanoseconds the precision keeps -/
theorem fracNanos_kept (ds : List Nat) (sf : SecondsFormat) (n : Nat)
    (h : (ds.length, digitsVal ds 0) = wantedFrac sf n) : fracNanos ds = keptNanos sf n := by
  have hl := wantedFrac_le sf n
  rw [fracNanos_eq, fracVal_short ds (by rw [← h] at hl; exact hl)]
  unfold keptNanos
  rw [← h]
  dsimp only
  rw [digitsVal_eq]; rfl

/-! ### reading the rendering back -/

/-- fields that decompose the wall clock `W` into day, hour and minute show `W`, up to the seconds field -/
theorem wallSecsOf_parts (f : Fields) (W : Int) (h2 : dayNum f.year f.month f.day = EPOCH_DAY + W / 86400)
    (h3 : (f.hour : Int) = W % 86400 / 3600) (h4 : (f.minute : Int) = W % 86400 / 60 % 60) :
    wallSecsOf f = W - W % 86400 % 60 + (if f.second = 60 then 59 else (f.second : Int)) := by
  unfold wallSecsOf
  rw [h2, h3, h4]
  omega

/-- **round trip**: the rendering parses back to a well-formed value with the same offset and the same
date and second, the sub-second part truncated to the requested precision; a leap-second representation
on second 59 stays one, on any other second it is read back as the following second -/
theorem roundtrip_main (z : Zoned) (hz : ZInv z) (hoff : z.off % 60 = 0) (hy : WallYear0to9999 (wallSecs z))
    (sf : SecondsFormat) (use_z : Bool) :
    ∃ t v, to_rfc3339_opts z sf use_z = .ok t ∧ parse_from_rfc3339 t = .ok (.ok v) ∧ ZInv v ∧ v.off = z.off ∧
      instSecs v.utc = instSecs z.utc +
        (if z.utc.time.frac ≥ 1000000000 ∧ z.utc.time.secs % 60 ≠ 59 then 1 else 0) ∧
      v.utc.time.frac = (if z.utc.time.frac ≥ 1000000000 ∧ z.utc.time.secs % 60 = 59 then 1000000000 else 0) +
        (keptNanos sf (z.utc.time.frac % 1000000000).toNat : Int) := by
  obtain ⟨t, f, w1, hm, hv, w2, w3, w4, w5, w6, _, w8, _⟩ := writer_main_full z hz hoff hy sf use_z
  obtain ⟨v, p1, p2, p3, p4, p5⟩ := parse_complete t f hm hv
  have hk := fracNanos_kept f.fracDigits sf _ w6
  have e1 := wallSecsOf_parts f _ w2 w3 w4
  -- the second of the minute is the same on the wall clock and in UTC: the offset is in whole minutes
  have hq : wallSecs z % 86400 % 60 = z.utc.time.secs % 60 := by unfold wallSecs instSecs; omega
  have hq' : 0 ≤ z.utc.time.secs % 60 ∧ z.utc.time.secs % 60 < 60 := by omega
  rw [hq] at w5 e1
  clear w2 w3 w4 hq
  generalize z.utc.time.secs % 60 = q at w5 e1 hq' ⊢
  refine ⟨t, v, w1, p1, p2, by rw [p3, w8], ?_, ?_⟩
  · rw [p4, w8, e1]
    unfold wallSecs
    split at w5 <;> split <;> split <;> omega
  · rw [p5]
    unfold fracOf
    rw [hk]
    split at w5 <;> split <;> split <;> omega

theorem truncatedTo_inv (sf : SecondsFormat) (z : Zoned) (hz : NDTInv z.utc) : NDTInv (truncatedTo sf z).utc := by
  obtain ⟨hd, t1, t2, t3, t4⟩ := hz
  have hk := keptNanos_le sf (z.utc.time.frac % 1000000000).toNat
  refine ⟨hd, t1, t2, ?_, ?_⟩ <;> unfold truncatedTo <;> dsimp only <;> split <;> omega

/-- **value-level round trip, every precision**: for a value the public constructors build (leap
second only on second 59) the rendering at precision `sf` parses back to exactly the value with its
sub-second part truncated to `sf` — the leap-second representation is preserved by all five precisions -/
theorem roundtrip_value (z : Zoned) (hz : ZInv z) (hoff : z.off % 60 = 0) (hy : WallYear0to9999 (wallSecs z))
    (hs : TStrict z.utc.time) (sf : SecondsFormat) (use_z : Bool) :
    ∃ t, to_rfc3339_opts z sf use_z = .ok t ∧ parse_from_rfc3339 t = .ok (.ok (truncatedTo sf z)) := by
  obtain ⟨t, v, h1, h2, h3, h4, h5, h6⟩ := roundtrip_main z hz hoff hy sf use_z
  obtain ⟨_, hleap⟩ := hs
  have hu : v.utc = (truncatedTo sf z).utc := by
    refine Chrono.Proofs.Ts.inst_inj v.utc _ h3.1 (truncatedTo_inv sf z hz.1) ?_ ?_
    · rw [h5, if_neg (by omega)]; exact Int.add_zero _
    · rw [h6]
      unfold truncatedTo
      dsimp only
      split <;> split <;> omega
  have hvz : v = truncatedTo sf z := by
    cases v
    simp only [truncatedTo, Zoned.mk.injEq] at hu h4 ⊢
    exact ⟨hu, h4⟩
  exact ⟨t, h1, by rw [← hvz]; exact h2⟩

/-! ### the offset bound -/

theorem num2_le (a b : Nat) (ha : IsDig a) (hb : IsDig b) : num2 a b ≤ 99 := by
  unfold IsDig at ha hb
  simp only [num2, dval]; omega

/-- the offset fields of a text of the grammar are two-digit numbers -/
theorem matches_off_le (s : List Nat) (f : Fields) (h : Matches s f) : f.offH ≤ 99 ∧ f.offM ≤ 99 := by
  obtain ⟨_, _, _, _, _, _, _, _, _, _, _, _, _, _, _, _, off, _, _, _, _, _, _, _, _, hoff, _⟩ := h
  generalize f.offH = H at hoff
  generalize f.offM = M at hoff
  generalize f.zulu = z at hoff
  generalize f.neg = n at hoff
  cases hoff with
  | upperZ | lowerZ => omega
  | plus a b c d hd | hyphen a b c d hd | minus a b c d hd =>
    exact ⟨num2_le a b hd.1 hd.2.1, num2_le c d hd.2.2.1 hd.2.2.2⟩

/-- `hh < 24` (with a real minute) is the code's bound `|offset| ≤ MAX_RFC3339_OFFSET` seconds -/
theorem offset_bound_iff (f : Fields) (hM : f.offM < 60) :
    f.offH < 24 ↔ (-Extracted.MAX_RFC3339_OFFSET ≤ offsetOf f ∧ offsetOf f ≤ Extracted.MAX_RFC3339_OFFSET) := by
  have hmax : Extracted.MAX_RFC3339_OFFSET = 86340 := by decide
  unfold offsetOf
  rw [hmax]
  split <;> constructor <;> intro h <;> omega

/-! ### the `%+` item -/

/-- a formatting `%+` (`Fixed::RFC3339`) given a date, a time and an offset is `write_rfc3339(…, AutoSi,
false)`; without an offset (a `NaiveDateTime`), without a date or without a time it is `Err(fmt::Error)` -/
theorem plus_item (d : Option Date) (t : Option Time) (off : Option (List Nat × Int)) :
    format_fixed d t off .rfc3339 =
      match d, t, off with
      | some d, some t, some (_, o) => write_rfc3339 ⟨d, t⟩ o .autoSi false
      | _, _, _ => werr := by
  cases d <;> cases t <;> cases off <;> rfl

theorem items_plus : Strftime.items [37, 43] = [.fixed .rfc3339] := by decide

theorem seq_nil (w : W) : w.seq (wok []) = w := by
  unfold W.seq wok
  cases w with
  | panic => rfl
  | ok o =>
    cases o with
    | none => rfl
    | some x => simp

end Chrono.Proofs.Rfc3339X
