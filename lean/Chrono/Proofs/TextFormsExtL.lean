/-
  C09, audit gaps M1/M2: the zone-aware text forms on the WHOLE quantifier domain, i.e. also for the
  values whose wall clock leaves `NaiveDate::MIN..=MAX` (the headroom years `MIN_YEAR − 1` and
  `MAX_YEAR + 1` of the extended calendar, `ExtDateInv`).

  * the writers' text for a date of the extended calendar (`date_debug_text_ext`, …);
  * the wall clock of any well-formed zone-aware value with a whole-minute offset (`local_facts_ext`);
  * what the tail of the relaxed reader makes of the specification's offset text (`offset_tail`);
  * the resolution of the stored fields of a headroom-year date: `Err(OutOfRange)`.
-/
import Chrono.Proofs.TextFormsZonedL
namespace Chrono.Proofs.TextFormsExt
open Chrono Chrono.M Chrono.M.Scan Chrono.M.Format Chrono.M.TextForms
open Chrono.Proofs Chrono.Proofs.TextForms Chrono.Proofs.RenderScan Chrono.Spec Chrono.Spec.Text
open Chrono.Spec.Fields Chrono.Proofs.ParsedRes Chrono.Extracted

/-! ### writers on the extended calendar -/

theorem vyo_month_day (y : Int) (o : Nat) (h : VYO y o) :
    -1000000 < y ∧ y < 1000000 ∧ 1 ≤ monthOfYo y o ∧ monthOfYo y o ≤ 12 ∧ 1 ≤ dayOfYo y o ∧ dayOfYo y o ≤ 31 := by
  obtain ⟨hy1, hy2, ho1, ho2⟩ := h
  have hMIN : MIN_YEAR = -262143 := rfl
  have hMAX : MAX_YEAR = 262142 := rfl
  exact ⟨by omega, by omega, month_day_bounds y o ho1 ho2⟩

/-- `NaiveDate`'s text is the specification's for every date of the extended calendar (the dates a
zone-aware value can show as its wall clock) -/
theorem date_debug_text_ext (y : Int) (o : Nat) (h : VYO y o) :
    date_debug (dateOfYo y o) = wok (dateText y (monthOfYo y o) (dayOfYo y o)) :=
  date_debug_yo y o ⟨(vyo_month_day y o h).1, (vyo_month_day y o h).2.1⟩ ⟨h.2.2.1, h.2.2.2⟩

theorem dateTextOf_yo_ext (y : Int) (o : Nat) (h : VYO y o) :
    dateTextOf (dateOfYo y o) = dateText y (monthOfYo y o) (dayOfYo y o) :=
  dateTextOf_dateOfYo y o h.2.2.2

theorem naive_debug_text_ext (y : Int) (o : Nat) (h : VYO y o) (t : Time) (ht : TValid t) :
    naive_debug ⟨dateOfYo y o, t⟩ = wok (naiveText 84 ⟨dateOfYo y o, t⟩) := by
  unfold naive_debug naiveText
  rw [date_debug_text_ext y o h, time_debug_text t ht, dateTextOf_yo_ext y o h]
  rfl

theorem naive_display_text_ext (y : Int) (o : Nat) (h : VYO y o) (t : Time) (ht : TValid t) :
    naive_display ⟨dateOfYo y o, t⟩ = wok (naiveText 32 ⟨dateOfYo y o, t⟩) := by
  unfold naive_display naiveText
  rw [date_debug_text_ext y o h, time_debug_text t ht, dateTextOf_yo_ext y o h]
  rfl

/-! ### the wall clock of any zone-aware value with a whole-minute offset -/

/-- the wall clock `l` of a well-formed value: a date of the extended calendar, a time of day with
the same fraction field, the reading of `wallSecs z`; with a whole-minute offset a leap second stays
on second 59; `l`'s date is a `NaiveDate` exactly when `wallSecs z` is in range -/
theorem local_facts_ext (z : Zoned) (hz : ZInv z) (hm : z.off % 60 = 0) (hs : TStrict z.utc.time) :
    ∃ l, Zoned.overflowing_naive_local z = .ok l ∧ ExtNDTInv l ∧ instSecs l = wallSecs z ∧
      l.time.frac = z.utc.time.frac ∧ TStrict l.time ∧
      VYO l.date.year l.date.ordinal.toNat ∧ l = ⟨dateOfYo l.date.year l.date.ordinal.toNat, l.time⟩ ∧
      Zoned.naive_local z = (if InRangeSecs (wallSecs z) then .ok l else .panic) ∧
      (InRangeSecs (wallSecs z) ↔ MIN_YEAR ≤ l.date.year ∧ l.date.year ≤ MAX_YEAR) := by
  obtain ⟨l, h1, h2, h3, h4, h5, h6⟩ := naive_local_spec z hz
  obtain ⟨_, e2⟩ := ext_eq l.date h2.1
  refine ⟨l, h1, h2, h3, h4, wall_strict z hm hs l h2.2 h3 h4, e2, ndt_yo l h2.1, h5, ?_⟩
  rw [← h6, dateInv_iff]
  exact ⟨fun h => h.2, fun h => ⟨h2.1, h⟩⟩

/-! ### the offset tail -/

/-- what the zone-aware writers and the tail of the relaxed reader do with the specification's text
of a whole-minute offset -/
theorem offset_tail (off : Int) (hm : WholeMinute off) :
    offset_debug off = offsetText off ∧ TailOk (offsetText off) ∧ wsLen (offsetText off) = 0 ∧
    trimStart (offsetText off) = offsetText off ∧
    (if (offsetText off).length ≥ 3 ∧ lowerS (List.take 3 (offsetText off)) = [117, 116, 99] then
        Except.ok (List.drop 3 (offsetText off), (0 : Int))
      else Scan.timezone_offset (offsetText off) .colonOrSpace true false true) = .ok ([], off) := by
  obtain ⟨t1, t2, t3⟩ := sign_head (if off < 0 then 45 else 43) (by split <;> simp)
    (decN 2 (off.natAbs / 3600) ++ [58] ++ decN 2 (off.natAbs / 60 % 60))
  exact ⟨offset_debug_text off hm, t1, t2, trimStart_of_wsLen_zero _ t2,
    (if_neg t3).trans (offsetText_scan off hm true false)⟩

/-! ### the reader on a headroom-year wall clock -/

/-- the fields stored for a date of a year outside `MIN_YEAR..=MAX_YEAR` (any month and day) and a
time of day resolve to `Err(OutOfRange)`: `to_naive_date` fails in `from_ymd_opt`, there is no
timestamp to fall back to -/
theorem to_datetime_out_of_range (Y : Int) (hY : ¬ (MIN_YEAR ≤ Y ∧ Y ≤ MAX_YEAR)) (m d : Nat) (t : Time)
    (off : Int) :
    Parsed.to_datetime (dtRecord Y m d t (some off)) = .ok (.error .outOfRange) := by
  have hctor : Date.from_ymd_opt Y m d = .ok none := by
    rw [ctor_ymd', if_neg (by intro h; exact hY ⟨h.1, h.2.1⟩)]
  have hdate : Parsed.to_naive_date (dtRecord Y m d t (some off)) = .ok (.error .outOfRange) := by
    unfold Parsed.to_naive_date
    simp only [dtRecord, Parsed.resolve_year, and_self, if_true, Parsed.dateArm, Parsed.armDate, Int.toNat_natCast,
      hctor, Parsed.okOr, Parsed.RP.bind]
  have hndt : Parsed.to_naive_datetime_with_offset (dtRecord Y m d t (some off)) off =
      .ok (.error .outOfRange) := by
    unfold Parsed.to_naive_datetime_with_offset
    rw [hdate]
    cases Parsed.to_naive_time (dtRecord Y m d t (some off)) <;> rfl
  unfold Parsed.to_datetime
  have f8 : (dtRecord Y m d t (some off)).offset = some off := rfl
  simp only [f8, hndt, Parsed.RP.bind]

/-- **the F25 band, reader side**: the specification's text of a zone-aware value whose wall clock is
in a headroom year — date, `T` or space, time, then a tail that the offset part turns into the
offset — is answered with `Err(OutOfRange)` -/
theorem fixed_from_text_oor (l : NaiveDT) (hv : VYO l.date.year l.date.ordinal.toNat)
    (he : l = ⟨dateOfYo l.date.year l.date.ordinal.toNat, l.time⟩)
    (hY : ¬ (MIN_YEAR ≤ l.date.year ∧ l.date.year ≤ MAX_YEAR)) (hst : TStrict l.time)
    (off : Int) (ho : -86400 < off ∧ off < 86400)
    (sep : Nat) (hsep : sep = 84 ∨ sep = 32) (tail tail' : List Nat)
    (htail : TailOk tail) (htrim : trimStart (trimStart tail) = tail')
    (hT : (if tail'.length ≥ 3 ∧ lowerS (List.take 3 tail') = [117, 116, 99] then
             Except.ok (List.drop 3 tail', (0 : Int))
           else timezone_offset tail' .colonOrSpace true false true) = .ok ([], off)) :
    fixed_from_str (naiveText sep l ++ tail) = .ok (.error .outOfRange) := by
  obtain ⟨a1, a2, _⟩ := vyo_month_day _ _ hv
  conv => lhs; rw [he]
  rw [fixed_reads _ _ ⟨a1, a2⟩ hv.2.2 l.time hst sep (Or.inr hsep) tail tail' [] off (by omega) htail htrim hT]
  simp only [trimStart_nil, ne_eq, not_true_eq_false, if_false]
  exact to_datetime_out_of_range _ hY _ _ _ _

/-! ### both zone-aware texts on the whole domain -/

/-- the `Debug` and `Display` text of EVERY well-formed zone-aware value: the specification's text of
its wall clock `l`, then the text of the offset -/
theorem zoned_texts (z : Zoned) (hz : ZInv z) :
    ∃ l, Zoned.overflowing_naive_local z = .ok l ∧ ExtNDTInv l ∧ instSecs l = wallSecs z ∧
      l.time.frac = z.utc.time.frac ∧
      ∀ offText, zoned_debug z offText = wok (naiveText 84 l ++ offText) ∧
        zoned_display z offText = wok (naiveText 32 l ++ (32 :: offText)) := by
  obtain ⟨l, hov, hext, h3, h4, _, _⟩ := naive_local_spec z hz
  obtain ⟨e1, hv⟩ := ext_eq l.date hext.1
  obtain ⟨d, t⟩ := l
  obtain ⟨Y, O, hv', rfl⟩ : ∃ Y O, VYO Y O ∧ d = dateOfYo Y O := ⟨_, _, hv, e1⟩
  refine ⟨_, hov, hext, h3, h4, fun offText => ⟨?_, ?_⟩⟩
  · unfold zoned_debug
    rw [hov]
    simp only [W.ofRes]
    rw [naive_debug_text_ext Y O hv' _ hext.2, seq_wok]
  · unfold zoned_display
    rw [hov]
    simp only [W.ofRes]
    rw [naive_display_text_ext Y O hv' _ hext.2, seq_wok, seq_wok]
    simp only [List.cons_append, List.nil_append]

/-- with a whole-minute offset (in range or in the F25 band) the offset's text is the specification's -/
theorem fixed_texts_ext (z : Zoned) (hz : ZInv z) (hm : WholeMinute z.off) (hs : TStrict z.utc.time) :
    ∃ l, Zoned.overflowing_naive_local z = .ok l ∧ ExtNDTInv l ∧ instSecs l = wallSecs z ∧
      l.time.frac = z.utc.time.frac ∧ TStrict l.time ∧ VYO l.date.year l.date.ordinal.toNat ∧
      fixed_debug z = wok (naiveText 84 l ++ offsetText z.off) ∧
      fixed_display z = wok (naiveText 32 l ++ (32 :: offsetText z.off)) := by
  obtain ⟨l, hov, hext, h3, h4, hst, hv, _, _, _⟩ := local_facts_ext z hz hm.2.2 hs
  obtain ⟨l', hov', _, _, _, ht⟩ := zoned_texts z hz
  obtain rfl : l = l' := by rw [hov] at hov'; injection hov'
  have hd : fixed_debug z = _ := (ht (offset_debug z.off)).1
  have hp : fixed_display z = _ := (ht (offset_debug z.off)).2
  rw [offset_debug_text z.off hm] at hd hp
  exact ⟨l, hov, hext, h3, h4, hst, hv, hd, hp⟩

/-- `MAX_UTC` seen at +00:01: a well-formed value of the quantifier domain whose wall clock is in the
first minute of year +262143 -/
theorem max_at_plus_one_minute :
    ZInv ⟨NaiveDT.MAX, 60⟩ ∧ WholeMinute 60 ∧ TStrict NaiveDT.MAX.time ∧
    ¬ InRangeSecs (wallSecs ⟨NaiveDT.MAX, 60⟩) ∧
    Zoned.overflowing_naive_local ⟨NaiveDT.MAX, 60⟩ = .ok ⟨dateOfYo 262143 1, ⟨59, 999999999⟩⟩ := by
  unfold ZInv NDTInv OffValid WholeMinute
  decide +kernel

end Chrono.Proofs.TextFormsExt
