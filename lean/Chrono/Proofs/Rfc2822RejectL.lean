/-
  Helper lemmas for C11: a string of the grammar whose fields are OUTSIDE the setter ranges (day 0 or
  > 31, year > i32::MAX or not even an i64, hour > 23, minute > 59, second > 60) makes the scanner
  `Parse.parse_rfc2822` itself fail: the other branch of `parse_rfc2822_spec`; so, with
  `parse_rfc2822_complete`, the Props theorems need no `SetterRanges` hypothesis.  Also: `parsedOf` is injective.
-/
import Chrono.Proofs.Rfc2822ScanL
namespace Chrono.Proofs.Rfc2822
open Chrono Chrono.M Chrono.Spec Chrono.Spec.Rfc2822 Chrono.M.Scan Chrono.M.Parse

/-- **the scanner rejects what is outside the setter ranges** -/
theorem parse_rfc2822_rejects (s : List Nat) (f : Fields) (h : Rfc2822 s f) (hr : ¬ SetterRanges f) :
    ∃ e, Parse.parse_rfc2822 Parsed.new s = .error e :=
  ⟨_, by rw [parse_rfc2822_spec s f h, if_neg hr]⟩

/-- the field record determines the fields (hours below 24 on both sides) -/
theorem parsedOf_inj (f g : Fields) (hf : f.hour ≤ 23) (hg : g.hour ≤ 23) (h : parsedOf f = parsedOf g) : f = g := by
  obtain ⟨a1, a2, a3, a4, a5, a6, a7, a8⟩ := f
  obtain ⟨b1, b2, b3, b4, b5, b6, b7, b8⟩ := g
  have e1 := congrArg Parsed.weekday h
  have e2 := congrArg Parsed.day h
  have e3 := congrArg Parsed.month h
  have e4 := congrArg Parsed.year h
  have e5 := congrArg Parsed.hour_div_12 h
  have e5' := congrArg Parsed.hour_mod_12 h
  have e6 := congrArg Parsed.minute h
  have e7 := congrArg Parsed.second h
  have e8 := congrArg Parsed.offset h
  simp only [parsedOf, Option.some.injEq] at e1 e2 e3 e4 e5 e5' e6 e7 e8
  simp only [] at hf hg
  have e7' : a7 = b7 := by
    cases a7 <;> cases b7 <;> simp at e7 ⊢
    omega
  simp only [Fields.mk.injEq]
  exact ⟨e1, by omega, by omega, e4, by omega, by omega, e7', e8⟩

end Chrono.Proofs.Rfc2822
