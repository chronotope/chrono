/- Helper lemmas for C02 (timestamps). -/
import Chrono.Proofs.DateL
import Chrono.Spec.TimestampSpec
import Chrono.Model.Timestamp
namespace Chrono.Proofs.Ts
open Chrono Chrono.M Chrono.Spec Chrono.Spec.Ts Chrono.Extracted Chrono.Proofs

theorem ckU32_ok {x : Int} (h1 : 0 ≤ x) (h2 : x ≤ 4294967295) : ckU32 x = .ok x := by
  simp [ckU32, inU32, U32_MAX, h1, h2]
theorem ckU64_ok {x : Int} (h1 : 0 ≤ x) (h2 : x ≤ 18446744073709551615) : ckU64 x = .ok x := by
  simp [ckU64, inU64, U64_MAX, h1, h2]
theorem ckI64_panic {x : Int} (h : x < -9223372036854775808 ∨ 9223372036854775807 < x) :
    ckI64 x = .panic := by
  simp only [ckI64, inI64, I64_MIN, I64_MAX]
  rcases h with h | h
  · have : ¬ (-9223372036854775808 ≤ x) := by omega
    simp [this]
  · have : ¬ (x ≤ 9223372036854775807) := by omega
    simp [this]
theorem asI64_id {x : Int} (h1 : -9223372036854775808 ≤ x) (h2 : x ≤ 9223372036854775807) :
    asI64 x = x := by
  unfold asI64; simp only; split <;> omega

/-! ### numerals -/
theorem dmin_val : dayNumYo MIN_YEAR 1 = -95746129 := by decide
theorem dmax_val : dayNumYo MAX_YEAR 365 = 95745399 := by decide
theorem ts_min_val : TS_MIN = -8334601228800 := by decide
theorem ts_max_val : TS_MAX = 8210266876799 := by decide

/-! ### the packed date and its invariant -/

/-- a date satisfying the representation invariant is the packed word of (its year, its ordinal) -/
theorem dateInv_repr (d : Date) (h : DateInv d) :
    ∃ o : Nat, d = dateOfYo d.year o ∧ (o : Int) = d.ordinal ∧ MIN_YEAR ≤ d.year ∧ d.year ≤ MAX_YEAR ∧
      1 ≤ o ∧ o ≤ yearLen d.year := by
  obtain ⟨h1, h2, h3, h4, h5⟩ := h
  refine ⟨d.ordinal.toNat, ?_, by omega, h1, h2, by omega, by omega⟩
  apply date_eq_of_yof
  unfold dateOfYo
  dsimp only
  have ho : ((d.ordinal.toNat : Nat) : Int) = d.ordinal := by omega
  rw [ho]
  unfold Date.year Date.ordinal at *
  omega

theorem dateInv_of_yo (y : Int) (o : Nat) (hy : MIN_YEAR ≤ y ∧ y ≤ MAX_YEAR) (ho : 1 ≤ o ∧ o ≤ yearLen y) :
    DateInv (dateOfYo y o) ∧ dayNumOf (dateOfYo y o) = dayNumYo y o := by
  have hyl := yearLen_ge y
  obtain ⟨f1, f2, _, f4, _, _⟩ := dateOfYo_fields y o (by omega)
  unfold DateInv dayNumOf
  rw [f1, f2, f4]
  exact ⟨⟨hy.1, hy.2, by omega, by omega, rfl⟩, rfl⟩

/-- day numbers of the dates with the invariant: from day 1 of `MIN_YEAR` to the last day of `MAX_YEAR` -/
theorem dayNumOf_range (d : Date) (h : DateInv d) : -95746129 ≤ dayNumOf d ∧ dayNumOf d ≤ 95745399 := by
  obtain ⟨y1, y2, o1, o2, _⟩ := h
  have a : daysBeforeYear MIN_YEAR = -95746130 := by decide
  have b : daysBeforeYear MAX_YEAR = 95745034 := by decide
  have l : yearLen MAX_YEAR = 365 := by decide
  have hlo := dby_mono MIN_YEAR d.year y1
  unfold dayNumOf dayNumYo
  refine ⟨by omega, ?_⟩
  by_cases hlt : d.year < MAX_YEAR
  · have hm := dby_mono (d.year + 1) MAX_YEAR (by omega)
    have hs := dby_step d.year
    omega
  · have : d.year = MAX_YEAR := by omega
    rw [this] at o2 ⊢
    omega

/-- two dates with the invariant and the same day number are the same date -/
theorem date_inj (a b : Date) (ha : DateInv a) (hb : DateInv b) (h : dayNumOf a = dayNumOf b) : a = b := by
  obtain ⟨oa, ea, eoa, _, _, a1, a2⟩ := dateInv_repr a ha
  obtain ⟨ob, eb, eob, _, _, b1, b2⟩ := dateInv_repr b hb
  have := (order_spec a.year b.year oa ob ⟨a1, a2⟩ ⟨b1, b2⟩).2
  unfold dayNumOf at h
  rw [← eoa, ← eob] at h
  rw [ea, eb]
  exact date_eq_of_yof _ _ (this.2 h)

/-! ### reading: `timestamp` and friends -/

/-- the numeric content of the invariant: the second count lies between `TS_MIN` and `TS_MAX`, the
nanosecond field below 2·10⁹ -/
theorem inv_bounds (dt : NaiveDT) (h : NDTInv dt) :
    -8334601228800 ≤ instSecs dt ∧ instSecs dt ≤ 8210266876799 ∧ 0 ≤ dt.time.frac ∧ dt.time.frac < 2000000000 := by
  obtain ⟨hd, t1, t2, t3, t4⟩ := h
  have hb := dayNumOf_range dt.date hd
  have hE' : EPOCH_DAY = 719163 := rfl
  unfold instSecs
  omega

theorem instSecs_range (dt : NaiveDT) (h : NDTInv dt) : TS_MIN ≤ instSecs dt ∧ instSecs dt ≤ TS_MAX := by
  rw [ts_min_val, ts_max_val]
  exact ⟨(inv_bounds dt h).1, (inv_bounds dt h).2.1⟩

theorem instSecs_bounds (dt : NaiveDT) (h : NDTInv dt) : TS_MIN ≤ instSecs dt ∧ instSecs dt ≤ TS_MAX + 86400 := by
  have := instSecs_range dt h
  omega

theorem instSecs_mod60 (dt : NaiveDT) : instSecs dt % 60 = dt.time.secs % 60 := by
  unfold instSecs; omega

/-- `timestamp()` is the number of whole seconds from the epoch, with no intermediate overflow -/
theorem timestamp_spec (dt : NaiveDT) (h : NDTInv dt) : NaiveDT.timestamp dt = .ok (instSecs dt) := by
  obtain ⟨hd, t1, t2, _, _⟩ := h
  have hb := dayNumOf_range dt.date hd
  obtain ⟨h1, h2, h3, h4, _⟩ := hd
  have hyl := yearLen_ge dt.date.year
  have hMIN : MIN_YEAR = -262143 := rfl
  have hMAX : MAX_YEAR = 262142 := rfl
  have hE : UNIX_EPOCH_DAY = 719163 := rfl
  have hE' : EPOCH_DAY = 719163 := rfl
  unfold dayNumOf at hb
  unfold NaiveDT.timestamp instSecs dayNumOf Time.num_seconds_from_midnight
  rw [num_days_spec dt.date (by omega) (by omega) (by omega), hE, hE']
  generalize dayNumYo dt.date.year dt.date.ordinal = g at *
  simp only [Res.bind]
  rw [ckI64_ok (by omega) (by omega)]
  simp only []
  rw [ckI64_ok (by omega) (by omega)]
  simp only []
  rw [ckI64_ok (by omega) (by omega)]

/-! ### building: `from_timestamp` -/

theorem time_ctor_spec (sod nsecs : Int) (h0 : 0 ≤ sod ∧ sod < 86400) :
    Time.from_num_seconds_from_midnight_opt sod nsecs =
      if nsecs < 1000000000 ∨ (nsecs < 2000000000 ∧ sod % 60 = 59) then some ⟨sod, nsecs⟩ else none := by
  unfold Time.from_num_seconds_from_midnight_opt
  by_cases hc : nsecs < 1000000000 ∨ (nsecs < 2000000000 ∧ sod % 60 = 59)
  · rw [if_pos hc, if_neg (by omega)]
  · rw [if_neg hc, if_pos (by omega)]

/-- `from_num_days_from_ce_opt` on an `i32` day number: absent exactly outside the supported days,
otherwise the date with the invariant on that day -/
theorem date_of_days (n : Int) (hn : -2147483648 ≤ n ∧ n ≤ 2147483647) :
    ∃ r, Date.from_num_days_from_ce_opt n = .ok r ∧ (r = none ↔ (n < -95746129 ∨ n > 95745399)) ∧
      ∀ d, r = some d → DateInv d ∧ dayNumOf d = n := by
  obtain ⟨r, e, hsome, hnone⟩ := ctor_days' n hn
  rw [dmin_val, dmax_val] at hnone
  refine ⟨r, e, hnone, fun d hd => ?_⟩
  obtain ⟨y, o, rfl, hy1, hy2, ho1, ho2, hnum⟩ := hsome d hd
  rw [← hnum]
  exact dateInv_of_yo y o ⟨hy1, hy2⟩ ⟨ho1, ho2⟩

/-- the date on the floor day of `secs` with the second of day `secs % 86400` is the value `secs`
seconds from the epoch -/
theorem isAt_of_parts (secs nsecs : Int) (d : Date) (hd : DateInv d ∧ dayNumOf d = secs / 86400 + 719163)
    (hn : 0 ≤ nsecs) (hc : nsecs < 1000000000 ∨ (nsecs < 2000000000 ∧ secs % 60 = 59)) :
    IsAt ⟨d, ⟨secs % 86400, nsecs⟩⟩ secs nsecs := by
  have hE' : EPOCH_DAY = 719163 := rfl
  unfold IsAt NDTInv TStrict TValid instSecs
  dsimp only
  rw [hd.2, hE']
  exact ⟨⟨hd.1, by omega, by omega, by omega, by omega⟩, ⟨⟨by omega, by omega, by omega, by omega⟩, by omega⟩,
    by omega, rfl⟩

/-- the two callees of `from_timestamp` on the Euclidean split of `secs`, for a day number that fits
`i32`: the date constructor does not panic; one of the two is absent exactly when `(secs, nsecs)` names
no representable value; otherwise what they yield is the value `secs` seconds from the epoch -/
theorem parts_spec (secs nsecs : Int) (hn : 0 ≤ nsecs)
    (hd : -2147483648 ≤ secs / 86400 + 719163 ∧ secs / 86400 + 719163 ≤ 2147483647) :
    ∃ od, Date.from_num_days_from_ce_opt (secs / 86400 + 719163) = .ok od ∧
      ((od = none ∨ Time.from_num_seconds_from_midnight_opt (secs % 86400) nsecs = none) ↔ ¬ tsOk secs nsecs) ∧
      ∀ d t, od = some d → Time.from_num_seconds_from_midnight_opt (secs % 86400) nsecs = some t →
        IsAt ⟨d, t⟩ secs nsecs := by
  rw [time_ctor_spec (secs % 86400) nsecs (by omega), show secs % 86400 % 60 = secs % 60 by omega]
  obtain ⟨od, e, hnone, hsome⟩ := date_of_days (secs / 86400 + 719163) hd
  refine ⟨od, e, ?_, ?_⟩
  · unfold tsOk nanosOk
    rw [ts_min_val, ts_max_val]
    by_cases hc : nsecs < 1000000000 ∨ (nsecs < 2000000000 ∧ secs % 60 = 59)
    · rw [if_pos hc]
      cases od with
      | none =>
        have := hnone.1 rfl
        exact iff_of_true (Or.inl rfl) (by omega)
      | some d =>
        have : ¬ (secs / 86400 + 719163 < -95746129 ∨ secs / 86400 + 719163 > 95745399) :=
          fun c => nomatch hnone.2 c
        exact iff_of_false (fun h => h.elim nofun nofun) (by omega)
    · rw [if_neg hc]
      exact iff_of_true (Or.inr rfl) (by omega)
  · intro d t hd' ht
    split at ht
    · cases ht
      exact isAt_of_parts secs nsecs d (hsome d hd') hn ‹_›
    · cases ht

/-- `from_timestamp` for every `i64` count of seconds and every non-negative nanosecond field: never
panics; refuses exactly outside the range / on an invalid nanosecond field; otherwise the result is
the value that many seconds from the epoch -/
theorem from_timestamp_spec (secs nsecs : Int) (hs : isI64 secs) (hn : 0 ≤ nsecs) :
    ∃ r, NaiveDT.from_timestamp secs nsecs = .ok r ∧
      (r = none ↔ ¬ tsOk secs nsecs) ∧
      (∀ dt, r = some dt → IsAt dt secs nsecs) := by
  unfold isI64 at hs
  have hE : UNIX_EPOCH_DAY = 719163 := rfl
  unfold NaiveDT.from_timestamp
  rw [hE, ckI64_ok (by omega) (by omega)]
  simp only [Res.bind]
  by_cases hd : secs / 86400 + 719163 < I32_MIN ∨ secs / 86400 + 719163 > I32_MAX
  · rw [if_pos hd]
    unfold I32_MIN I32_MAX at hd
    refine ⟨none, rfl, iff_of_true rfl ?_, nofun⟩
    unfold tsOk
    rw [ts_min_val, ts_max_val]
    omega
  · rw [if_neg hd]
    unfold I32_MIN I32_MAX at hd
    obtain ⟨od, e, hnone, hsome⟩ := parts_spec secs nsecs hn (by omega)
    rw [e]
    simp only []
    cases od with
    | none => exact ⟨none, rfl, iff_of_true rfl (hnone.1 (Or.inl rfl)), nofun⟩
    | some d =>
      cases ht : Time.from_num_seconds_from_midnight_opt (secs % 86400) nsecs with
      | none => exact ⟨none, rfl, iff_of_true rfl (hnone.1 (Or.inr ht)), nofun⟩
      | some t =>
        refine ⟨some ⟨d, t⟩, rfl,
          iff_of_false nofun (fun hc => (hnone.2 hc).elim nofun (fun h => nomatch ht.symm.trans h)), ?_⟩
        intro dt hdt
        cases hdt
        exact hsome d t rfl ht

/-- what a statement of the form "`f` does not panic, is absent exactly when `C`, and a value it
holds satisfies `P`" says about a known result of `f` -/
theorem of_ok_some {α} {f : Res (Option α)} {C : Option α → Prop} {P : α → Prop}
    (hf : ∃ r, f = .ok r ∧ C r ∧ ∀ a, r = some a → P a) {a : α} (h : f = .ok (some a)) : P a := by
  obtain ⟨r, e1, _, e3⟩ := hf
  rw [e1] at h
  injection h with h
  exact e3 a h

/-! ### one value per instant -/

/-- two values with the invariant, the same second count and the same nanosecond field are equal -/
theorem inst_inj (a b : NaiveDT) (ha : NDTInv a) (hb : NDTInv b) (h : instSecs a = instSecs b)
    (hf : a.time.frac = b.time.frac) : a = b := by
  obtain ⟨da, a1, a2, _, _⟩ := ha
  obtain ⟨db, b1, b2, _, _⟩ := hb
  unfold instSecs at h
  have hday : dayNumOf a.date = dayNumOf b.date := by omega
  have hsec : a.time.secs = b.time.secs := by omega
  have hdate := date_inj a.date b.date da db hday
  cases a with | mk ad at_ => cases b with | mk bd bt =>
  cases at_ with | mk as af => cases bt with | mk bs bf =>
  simp_all

/-- among the non-leap values the one number `instNs` determines the value -/
theorem nonleap_inj (a b : NaiveDT) (ha : NDTInv a) (hb : NDTInv b) (la : NonLeap a) (lb : NonLeap b)
    (h : instNs a = instNs b) : a = b := by
  obtain ⟨_, _, a3, _⟩ := inv_bounds a ha
  obtain ⟨_, _, b3, _⟩ := inv_bounds b hb
  unfold NonLeap at la lb
  unfold instNs at h
  exact inst_inj a b ha hb (by omega) (by omega)

/-- the other direction: a strict value is rebuilt from its own second count and nanosecond field -/
theorem from_timestamp_of_inv (dt : NaiveDT) (h : NDTInv dt) (hs : TStrict dt.time) :
    NaiveDT.from_timestamp (instSecs dt) dt.time.frac = .ok (some dt) := by
  obtain ⟨b1, b2, t3, _⟩ := inv_bounds dt h
  have h60 := instSecs_mod60 dt
  obtain ⟨r, hr0, hnone, hsome⟩ := from_timestamp_spec (instSecs dt) dt.time.frac (by unfold isI64; omega) t3
  have hok : tsOk (instSecs dt) dt.time.frac := by
    obtain ⟨⟨_, _, _, t4⟩, hl⟩ := hs
    unfold tsOk nanosOk; rw [ts_min_val, ts_max_val]; omega
  cases r with
  | none => exact absurd hok (hnone.1 rfl)
  | some dt' =>
    obtain ⟨i1, _, i3, i4⟩ := hsome dt' rfl
    rw [hr0, inst_inj dt' dt i1 h i3 i4]

/-! ### sub-second units -/

theorem from_millis_eq (ms : Int) :
    NaiveDT.from_timestamp_millis ms = NaiveDT.from_timestamp (ms / 1000) (ms % 1000 * 1000000) := by
  unfold NaiveDT.from_timestamp_millis
  rw [ckU32_ok (by omega) (by omega)]; rfl
theorem from_micros_eq (us : Int) :
    NaiveDT.from_timestamp_micros us = NaiveDT.from_timestamp (us / 1000000) (us % 1000000 * 1000) := by
  unfold NaiveDT.from_timestamp_micros
  rw [ckU32_ok (by omega) (by omega)]; rfl

/-- common form of the constructors in a sub-second unit: whole seconds `secs` plus a sub-second part
`sub` below 10⁹, together the nanosecond position `n` -/
theorem from_split (secs sub n : Int) (hs : isI64 secs) (h0 : 0 ≤ sub) (h1 : sub < 1000000000)
    (hn : secs * 1000000000 + sub = n) :
    ∃ r, NaiveDT.from_timestamp secs sub = .ok r ∧
      (r = none ↔ (secs < TS_MIN ∨ secs > TS_MAX)) ∧
      (∀ dt, r = some dt → NDTInv dt ∧ NonLeap dt ∧ instNs dt = n) := by
  obtain ⟨r, e1, e2, e3⟩ := from_timestamp_spec secs sub hs h0
  refine ⟨r, e1, ?_, ?_⟩
  · rw [e2]; unfold tsOk nanosOk; omega
  · intro dt hdt
    obtain ⟨i1, _, i3, i4⟩ := e3 dt hdt
    refine ⟨i1, ?_, ?_⟩
    · unfold NonLeap; omega
    · unfold instNs; rw [i3, i4, hn]

theorem from_sub_spec (secs sub : Int) (hs : isI64 secs) (h0 : 0 ≤ sub) (h1 : sub < 1000000000) :
    ∃ r, NaiveDT.from_timestamp secs sub = .ok r ∧
      (r = none ↔ (secs < TS_MIN ∨ secs > TS_MAX)) ∧
      (∀ dt, r = some dt → NDTInv dt ∧ NonLeap dt ∧ instNs dt = secs * 1000000000 + sub) :=
  from_split secs sub _ hs h0 h1 rfl

/-- a constructor of that form returns every valid non-leap value on second `s` at position `n` -/
theorem floor_unique {f : Res (Option NaiveDT)} {s n : Int}
    (hf : ∃ r, f = .ok r ∧ (r = none ↔ (s < TS_MIN ∨ s > TS_MAX)) ∧
      ∀ dt, r = some dt → NDTInv dt ∧ NonLeap dt ∧ instNs dt = n)
    (dt : NaiveDT) (h : NDTInv dt) (hl : NonLeap dt) (hs : instSecs dt = s) (hn : instNs dt = n) :
    f = .ok (some dt) := by
  obtain ⟨r, e1, e2, e3⟩ := hf
  have hr := instSecs_range dt h
  cases r with
  | none => have := e2.1 rfl; omega
  | some d =>
    obtain ⟨i1, i2, i3⟩ := e3 d rfl
    rw [e1, nonleap_inj d dt i1 h i2 hl (by rw [i3, hn])]

/-! ### reading in the sub-second units -/

theorem timestamp_millis_spec (dt : NaiveDT) (h : NDTInv dt) :
    NaiveDT.timestamp_millis dt = .ok (instNs dt / 1000000) := by
  obtain ⟨b1, b2, t3, t4⟩ := inv_bounds dt h
  unfold NaiveDT.timestamp_millis NaiveDT.timestamp_subsec_millis Time.nanosecond instNs
  rw [timestamp_spec dt h]
  simp only [Res.bind]
  rw [ckI64_ok (by omega) (by omega)]
  simp only []
  rw [ckI64_ok (by omega) (by omega)]
  congr 1; omega

theorem timestamp_micros_spec (dt : NaiveDT) (h : NDTInv dt) :
    NaiveDT.timestamp_micros dt = .ok (instNs dt / 1000) := by
  obtain ⟨b1, b2, t3, t4⟩ := inv_bounds dt h
  unfold NaiveDT.timestamp_micros NaiveDT.timestamp_subsec_micros Time.nanosecond instNs
  rw [timestamp_spec dt h]
  simp only [Res.bind]
  rw [ckI64_ok (by omega) (by omega)]
  simp only []
  rw [ckI64_ok (by omega) (by omega)]
  congr 1; omega

/-- `timestamp_nanos_opt` (128-bit form, fix 32de816) on every value with the representation
invariant, leap-second representations on any second included: the exact count when it fits `i64`,
absence otherwise -/
theorem nanos_opt_spec_all (dt : NaiveDT) (h : NDTInv dt) :
    NaiveDT.timestamp_nanos_opt dt =
      .ok (if isI64 (instNs dt) then some (instNs dt) else none) := by
  unfold NaiveDT.timestamp_nanos_opt NaiveDT.timestamp_subsec_nanos Time.nanosecond instNs
  rw [timestamp_spec dt h]
  simp only [Res.bind]
  generalize instSecs dt = s
  generalize dt.time.frac = f
  by_cases h2 : isI64 (s * 1000000000 + f)
  · rw [if_pos h2]; unfold isI64 at h2; rw [optI64_some h2.1 h2.2]
  · rw [if_neg h2]; unfold isI64 at h2; rw [optI64_none (by omega)]

theorem nanos_opt_spec (dt : NaiveDT) (h : NDTInv dt) (hs : TStrict dt.time) :
    NaiveDT.timestamp_nanos_opt dt =
      .ok (if -9223372036854775808 ≤ instNs dt ∧ instNs dt ≤ 9223372036854775807 then some (instNs dt) else none) :=
  nanos_opt_spec_all dt h

/-! ### `SystemTime` -/

theorem duration_new_ok {s n : Int} (h0 : 0 ≤ s + n / 1000000000)
    (h1 : s + n / 1000000000 ≤ 18446744073709551615) :
    Ts.duration_new s n = .ok (s + n / 1000000000, n % 1000000000) := by
  unfold Ts.duration_new
  rw [ckU64_ok h0 h1]
  rfl

/-- `SystemTime + Duration` when the nanoseconds do not carry -/
theorem st_add_ok {a b c d : Int} (hn : b + d < 1000000000)
    (h0 : -9223372036854775808 ≤ a + c) (h1 : a + c ≤ 9223372036854775807) :
    Ts.st_add (a, b) (c, d) = .ok (a + c, b + d) := by
  unfold Ts.st_add
  simp only []
  rw [if_neg (by omega), if_neg (by omega), Int.add_zero, ckI64_ok h0 h1]
  rfl

/-- `SystemTime - Duration` when the nanoseconds do not borrow -/
theorem st_sub_ok {a b c d : Int} (hn : 0 ≤ b - d)
    (h0 : -9223372036854775808 ≤ a - c) (h1 : a - c ≤ 9223372036854775807) :
    Ts.st_sub (a, b) (c, d) = .ok (a - c, b - d) := by
  unfold Ts.st_sub
  simp only []
  rw [if_neg (by omega), if_neg (by omega), Int.sub_zero, ckI64_ok h0 h1]
  rfl

theorem to_system_time_spec (dt : NaiveDT) (h : NDTInv dt) :
    Ts.to_system_time dt = .ok (instSecs dt + dt.time.frac / 1000000000, dt.time.frac % 1000000000) := by
  obtain ⟨b1, b2, t3, t4⟩ := inv_bounds dt h
  unfold Ts.to_system_time NaiveDT.timestamp_subsec_nanos Time.nanosecond
  rw [timestamp_spec dt h]
  simp only [Res.bind]
  generalize instSecs dt = s at *
  generalize dt.time.frac = f at *
  by_cases hneg : s < 0
  · rw [if_pos hneg, ckI64_ok (by omega) (by omega)]
    simp only []
    rw [duration_new_ok (by omega) (by omega), duration_new_ok (s := 0) (by omega) (by omega)]
    simp only []
    rw [st_sub_ok (by omega) (by omega) (by omega)]
    simp only []
    rw [st_add_ok (by omega) (by omega) (by omega)]
    congr 2 <;> omega
  · rw [if_neg hneg, duration_new_ok (by omega) (by omega)]
    simp only []
    rw [st_add_ok (by omega) (by omega) (by omega)]
    congr 2 <;> omega

theorem from_timestamp_none_of_range (secs nsecs : Int) (hs : isI64 secs) (hn : 0 ≤ nsecs)
    (h : secs < TS_MIN ∨ secs > TS_MAX) : NaiveDT.from_timestamp secs nsecs = .ok none := by
  obtain ⟨r, e1, e2, _⟩ := from_timestamp_spec secs nsecs hs hn
  have : r = none := e2.2 (by unfold tsOk; omega)
  rw [e1, this]

/-- `From<SystemTime>`: both branches of `duration_since` lead to `from_timestamp(S, N).unwrap()` -/
theorem from_system_time_eq (S N : Int) (hS : isI64 S) (hN : 0 ≤ N ∧ N < 1000000000) :
    Ts.from_system_time S N = Ts.unwrap (NaiveDT.from_timestamp S N) := by
  have hS' := hS
  unfold isI64 at hS
  unfold Ts.from_system_time Ts.duration_since_epoch
  by_cases h0 : S ≥ 0
  · rw [if_pos h0]
    dsimp only
    rw [asI64_id (by omega) (by omega)]
    simp
  · rw [if_neg h0]
    by_cases hz : N = 0
    · rw [if_pos hz]
      dsimp only
      subst hz
      by_cases hmin : S = -9223372036854775808
      · subst hmin
        rw [from_timestamp_none_of_range _ _ hS' (by omega) (by rw [ts_min_val]; omega)]
        decide
      · rw [asI64_id (by omega) (by omega)]
        simp only [if_true, Bool.false_eq_true, if_false]
        rw [ckI64_ok (by omega) (by omega)]
        simp only [Res.bind, Int.neg_neg]
    · rw [if_neg hz]
      dsimp only
      rw [asI64_id (by omega) (by omega)]
      have hne : ¬ (1000000000 - N = 0) := by omega
      simp only [Bool.false_eq_true, if_false]
      rw [if_neg hne, ckI64_ok (by omega) (by omega)]
      simp only [Res.bind]
      rw [ckI64_ok (by omega) (by omega)]
      simp only []
      rw [ckU32_ok (by omega) (by omega)]
      simp only []
      have e1 : -(-S - 1) - 1 = S := by omega
      have e2 : 1000000000 - (1000000000 - N) = N := by omega
      rw [e1, e2]

/-! ### round trips in the sub-second units -/

theorem truncFrac_inv (dt : NaiveDT) (q : Int) (hq : 0 < q) (h : NDTInv dt) (hl : NonLeap dt) :
    NDTInv (truncFrac dt q) ∧ TStrict (truncFrac dt q).time ∧ instSecs (truncFrac dt q) = instSecs dt ∧
    (truncFrac dt q).time.frac = dt.time.frac / q * q := by
  obtain ⟨hd, t1, t2, t3, t4⟩ := h
  unfold NonLeap at hl
  have h1 : 0 ≤ dt.time.frac / q * q := Int.mul_nonneg (Int.ediv_nonneg t3 (by omega)) (by omega)
  have h2 : dt.time.frac / q * q ≤ dt.time.frac := Int.ediv_mul_le _ (by omega)
  unfold truncFrac NDTInv TStrict TValid instSecs
  dsimp only
  exact ⟨⟨hd, t1, t2, h1, by omega⟩, ⟨⟨t1, t2, h1, by omega⟩, by omega⟩, rfl, rfl⟩

theorem millis_back (dt : NaiveDT) (h : NDTInv dt) (hl : NonLeap dt) :
    NaiveDT.from_timestamp_millis (instNs dt / 1000000) = .ok (some (truncFrac dt 1000000)) := by
  obtain ⟨i1, i2, i3, i4⟩ := truncFrac_inv dt 1000000 (by omega) h hl
  obtain ⟨_, _, t3, _⟩ := inv_bounds dt h
  unfold NonLeap at hl
  rw [from_millis_eq, ← from_timestamp_of_inv _ i1 i2, i3, i4]
  unfold instNs
  congr 1 <;> omega

theorem micros_back (dt : NaiveDT) (h : NDTInv dt) (hl : NonLeap dt) :
    NaiveDT.from_timestamp_micros (instNs dt / 1000) = .ok (some (truncFrac dt 1000)) := by
  obtain ⟨i1, i2, i3, i4⟩ := truncFrac_inv dt 1000 (by omega) h hl
  obtain ⟨_, _, t3, _⟩ := inv_bounds dt h
  unfold NonLeap at hl
  rw [from_micros_eq, ← from_timestamp_of_inv _ i1 i2, i3, i4]
  unfold instNs
  congr 1 <;> omega

theorem nanos_back (dt : NaiveDT) (h : NDTInv dt) (hl : NonLeap dt) :
    NaiveDT.from_timestamp_nanos (instNs dt) = .ok dt := by
  obtain ⟨_, _, t3, _⟩ := inv_bounds dt h
  have hl' := hl
  unfold NonLeap at hl'
  have e1 : instNs dt / 1000000000 = instSecs dt := by unfold instNs; omega
  have e2 : instNs dt % 1000000000 = dt.time.frac := by unfold instNs; omega
  unfold NaiveDT.from_timestamp_nanos
  rw [e1, e2, from_timestamp_of_inv dt h ⟨h.2, Or.inl hl⟩]; rfl

/-- `from_timestamp_nanos` is total on `i64` -/
theorem from_nanos_total (ns : Int) (hx : isI64 ns) :
    ∃ dt, NaiveDT.from_timestamp_nanos ns = .ok dt ∧ NDTInv dt ∧ NonLeap dt ∧ instNs dt = ns := by
  unfold isI64 at hx
  obtain ⟨r, e1, e2, e3⟩ := from_split (ns / 1000000000) (ns % 1000000000) ns (by unfold isI64; omega)
    (by omega) (by omega) (by omega)
  rw [ts_min_val, ts_max_val] at e2
  unfold NaiveDT.from_timestamp_nanos
  rw [e1]
  cases r with
  | none => have := e2.1 rfl; omega
  | some dt => exact ⟨dt, rfl, e3 dt rfl⟩

end Chrono.Proofs.Ts
