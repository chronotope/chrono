/-
  Helper lemmas for Props/GenDate.lean that do not mention the generated definitions' equalities: ranges of what
  the model's table look-ups return, the packed date / ISO-week words as sums of their fields, and `add_days` with
  the copies of its slow path folded into one definition.
-/
import Chrono.Proofs.GenL
import Chrono.Model.DateOps

namespace Chrono.Proofs.GenDateL
open Chrono Chrono.M Chrono.Extracted Chrono.Extracted.DateOps Chrono.Proofs.GenL

theorem from_year_lt (year : Int) : YearFlags.from_year year < 16 := by
  unfold YearFlags.from_year YearFlags.from_year_mod_400
  exact tbl_y2f.2 _ (by omega)

/-- the packed word: `(year << 13) | (ordinal << 4) as i32 | flags as i32` is the sum of its fields -/
theorem yof_pack (year : Int) (ordinal flags : Nat) (hy : -262144 ≤ year ∧ year ≤ 262143)
    (ho : ordinal ≤ 511) (hf : flags < 16) :
    GenRt.lorI 32 asI32 (GenRt.lorI 32 asI32 (asI32 (year * 8192)) (asI32 ((ordinal : Int) * 16 % 4294967296))) flags
      = year * 8192 + ordinal * 16 + flags := by
  have e0 : (ordinal : Int) * 16 % 4294967296 = ordinal * 16 := by omega
  have e1 : asI32 (year * 8192) = year * 8192 := Proofs.asI32_id (by omega) (by omega)
  have e2 : asI32 ((ordinal : Int) * 16) = ordinal * 16 := Proofs.asI32_id (by omega) (by omega)
  have e3 : GenRt.lorI 32 asI32 (year * 8192) ((ordinal : Int) * 16) = year * 8192 + ordinal * 16 :=
    lorI_field 4 9 _ _ (by omega) (by omega) (by omega) (by omega) (by omega) (by omega)
  rw [e0, e1, e2, e3]
  exact lorI_field 0 4 _ _ (by omega) (by omega) (by omega) (by omega) (by omega) (by omega)

/-- a `Some` out of the look-up `MDL_TO_OL[mdf >> 3]` that `Mdf::ordinal` and `Mdf::ordinal_and_flags` begin with
comes from a non-empty entry `v`, with what the table guarantees of it -/
theorem mdl_some (mdf : Nat) (M : Nat → Nat) (r : Nat)
    (h : (if mdf / 8 < MDL_TO_OL.length then
        (if MDL_TO_OL.getD (mdf / 8) 0 = 0 then Res.ok none else .ok (some (M (MDL_TO_OL.getD (mdf / 8) 0))))
      else .panic) = .ok (some r)) :
    ∃ v : Nat, r = M v ∧ v ≠ 0 ∧ v ≤ mdf / 8 ∧ v ≤ 100 ∧ (v = 0 ∨ (2 ≤ mdf / 8 - v ∧ mdf / 8 ≤ v + 732)) ∧ v % 2 = 0 := by
  have hl := tbl_mdl.1
  split at h
  · have hv := tbl_mdl.2 (mdf / 8) (by omega)
    generalize MDL_TO_OL.getD (mdf / 8) 0 = v at h hv
    split at h
    · cases h
    · injection h with h; injection h with h
      exact ⟨v, h.symm, ‹_›, hv⟩
  · cases h

/-- what `Mdf::ordinal_and_flags` returns fits the low 13 bits and is a valid ordinal-leap word -/
theorem mdf_oaf_range (mdf oaf : Nat) (h : Mdf.ordinal_and_flags mdf = .ok (some oaf)) :
    oaf < 6656 ∧ 2 ≤ oaf / 8 ∧ oaf / 8 ≤ 732 := by
  unfold Mdf.ordinal_and_flags at h
  obtain ⟨v, rfl, hv⟩ := mdl_some mdf (fun v => mdf - v * 8) oaf h
  omega

theorem mdf_new_range (month day flags mdf : Nat) (hf : flags < 16) (h : Mdf.new month day flags = some mdf) :
    mdf < 8192 := by
  unfold Mdf.new at h
  by_cases hc : month ≤ 12 ∧ day ≤ 31
  · rw [if_pos hc] at h; injection h with h; omega
  · rw [if_neg hc] at h; cases h

/-- the year-in-cycle and ordinal that `cycle_to_yo` returns -/
theorem cycle_to_yo_range (cycle : Nat) (h : cycle < 146097) :
    (Date.cycle_to_yo cycle).1 < 400 ∧ 1 ≤ (Date.cycle_to_yo cycle).2 ∧ (Date.cycle_to_yo cycle).2 ≤ 500 := by
  unfold Date.cycle_to_yo
  obtain ⟨hl, h0, hb⟩ := tbl_yd
  have h400 := tbl_yd400
  have hv := hb (cycle / 365) (by omega)
  simp only []
  by_cases hc : cycle % 365 < YEAR_DELTAS.getD (cycle / 365) 0
  · have hne : cycle / 365 ≠ 0 := by
      intro hz; rw [hz, h0] at hc; omega
    have hv2 := hb (cycle / 365 - 1) (by omega)
    rw [if_pos hc]
    dsimp only
    omega
  · rw [if_neg hc]
    dsimp only
    have : cycle / 365 ≠ 400 := by
      intro hz; rw [hz, h400] at hc; omega
    omega

theorem bind_assoc_res {α β γ} (m : Res α) (f : α → Res β) (g : β → Res γ) :
    (m >>= f) >>= g = m >>= fun x => f x >>= g := by cases m <;> rfl

theorem nisoweeks_range : ∀ f : Nat, f < 16 → 52 ≤ YearFlags.nisoweeks f ∧ YearFlags.nisoweeks f ≤ 53 := by
  decide

/-- `(year << 10) | (week << 4) as i32 | flags`: the packed ISO week is the sum of its fields -/
theorem ywf_pack (year : Int) (week flags : Nat) (hy : -2097152 ≤ year ∧ year ≤ 2097151)
    (hw : week ≤ 63) (hf : flags < 16) :
    GenRt.lorI 32 asI32 (GenRt.lorI 32 asI32 (asI32 (year * 1024)) (asI32 ((week : Int) * 16 % 4294967296))) flags
      = year * 1024 + week * 16 + flags := by
  have e0 : (week : Int) * 16 % 4294967296 = week * 16 := by omega
  have e1 : asI32 (year * 1024) = year * 1024 := Proofs.asI32_id (by omega) (by omega)
  have e2 : asI32 ((week : Int) * 16) = week * 16 := Proofs.asI32_id (by omega) (by omega)
  have e3 : GenRt.lorI 32 asI32 (year * 1024) ((week : Int) * 16) = year * 1024 + week * 16 :=
    lorI_field 4 6 _ _ (by omega) (by omega) (by omega) (by omega) (by omega) (by omega)
  rw [e0, e1, e2, e3]
  exact lorI_field 0 4 _ _ (by omega) (by omega) (by omega) (by omega) (by omega) (by omega)

/-- what `Mdf::ordinal` returns: at most 366, and 366 only for a leap-year `Mdf` -/
theorem mdf_ordinal_range (mdf ord : Nat) (h : Mdf.ordinal mdf = .ok (some ord)) :
    1 ≤ ord ∧ ord * 2 + mdf / 8 % 2 ≤ 732 := by
  unfold Mdf.ordinal at h
  obtain ⟨v, rfl, hv⟩ := mdl_some mdf (fun v => (mdf / 8 - v) / 2) ord h
  omega

theorem mdf_lt (d : Date) (m : Nat) (h : d.mdf = .ok m) : m < 8192 := by
  unfold Date.mdf Mdf.from_ol at h
  have hM : MAX_OL = 732 := rfl
  have hv := tbl_ol.2
  by_cases hc : 1 < d.ol ∧ (d.ol : Int) ≤ MAX_OL
  · rw [if_pos hc] at h
    have := hv d.ol (by omega)
    have hf : d.flags < 16 := by unfold Date.flags; omega
    generalize OL_TO_MDL.getD d.ol 0 = v at h this
    simp only [] at h
    injection h with h
    have hmx : max ((d.ol + v) % 2) (d.flags / 8 % 2) ≤ 1 := by
      rw [Nat.max_def]; split <;> omega
    omega
  · rw [if_neg hc] at h; cases h

theorem month_day_range (d : Date) (m day : Nat) (hm : d.month = .ok m) (hdy : d.day = .ok day) :
    m ≤ 63 ∧ day ≤ 31 := by
  unfold Date.month at hm
  unfold Date.day at hdy
  cases hx : d.mdf with
  | panic => rw [hx] at hm; cases hm
  | ok x =>
    rw [hx] at hm hdy
    injection hm with hm; injection hdy with hdy
    have := mdf_lt d x hx
    unfold Mdf.month at hm; unfold Mdf.day at hdy
    omega

/-- the local `days` array of `diff_months`, indexed by `month - 1` -/
theorem days_idx (k N : Nat) (hk : k < 12) :
    GenRt.idxL ([31, if (N : Int) = 366 then 29 else 28, 31, 30, 31, 30, 31, 31, 30, 31, 30, 31] : List Int) (k : Int)
      = .ok ((if k = DM_FEB_INDEX then (if N = DM_NDAYS_LEAP then DM_FEB_LEAP else DM_FEB_COMMON)
          else DM_DAYS.getD k 0 : Nat) : Int) := by
  have : k = 0 ∨ k = 1 ∨ k = 2 ∨ k = 3 ∨ k = 4 ∨ k = 5 ∨ k = 6 ∨ k = 7 ∨ k = 8 ∨ k = 9 ∨ k = 10 ∨ k = 11 := by
    omega
  rcases this with h | h | h | h | h | h | h | h | h | h | h | h <;> subst h <;> try rfl
  by_cases hn : N = 366
  · subst hn; rfl
  · have : ¬ ((N : Int) = 366) := by omega
    unfold GenRt.idxL
    simp [this, hn, DM_FEB_INDEX, DM_NDAYS_LEAP, DM_FEB_COMMON]

/-- the look-up `MDL_TO_OL[mdf >> 3]` that `Mdf::ordinal` and `Mdf::ordinal_and_flags` begin with: beyond the table
both sides panic, an empty entry gives `None`, and for any other entry `v` the continuations `G` (code) and `M`
(model) have to agree, given what the table guarantees of `v` -/
theorem mdl_lookup (mdf : Nat) (G : Int → Res (Option Int)) (M : Nat → Nat)
    (h : ∀ v : Nat, v ≠ 0 → v ≤ mdf / 8 ∧ v ≤ 100 ∧ (v = 0 ∨ (2 ≤ mdf / 8 - v ∧ mdf / 8 ≤ v + 732)) ∧ v % 2 = 0 →
      G v = .ok (some ((M v : Nat) : Int))) :
    (Res.bind (GenRt.idxN MDL_TO_OL ((mdf : Int) / 8)) fun r1 => if r1 = 0 then .ok none else G r1)
      = rmap (Option.map Int.ofNat)
          (if mdf / 8 < MDL_TO_OL.length then
            (if MDL_TO_OL.getD (mdf / 8) 0 = 0 then .ok none else .ok (some (M (MDL_TO_OL.getD (mdf / 8) 0))))
           else .panic) := by
  have hl := tbl_mdl.1
  by_cases hi : mdf / 8 < 832
  · have hv := tbl_mdl.2 (mdf / 8) hi
    rw [idxN_ok (by omega), bind_ok, show ((mdf : Int) / 8).toNat = mdf / 8 by omega,
      if_pos (show mdf / 8 < MDL_TO_OL.length by omega)]
    generalize MDL_TO_OL.getD (mdf / 8) 0 = v at hv
    by_cases hz : v = 0
    · rw [if_pos (by simp only [Int.ofNat_eq_natCast]; omega), if_pos hz]; rfl
    · rw [if_neg (by simp only [Int.ofNat_eq_natCast]; omega), if_neg hz]
      exact h v hz hv
  · unfold GenRt.idxN
    rw [if_neg (by omega), if_neg (by omega)]; rfl

/-- writing `x` (a multiple of 16 below 2^13) into the cleared ordinal field of a packed date -/
theorem lor_ordinal (yof x : Int) (hd : -2147483648 ≤ yof ∧ yof ≤ 2147483647) (hx : 0 ≤ x ∧ x < 8192)
    (hx16 : x % 16 = 0) :
    GenRt.lorI 32 asI32 (yof - yof / 16 % 512 * 16) x = yof - yof / 16 % 512 * 16 + x :=
  lorI_field 4 9 _ _ (by omega) (by omega) (by omega) (by omega) (by omega) (by omega)

/-- the fast path of `add_days`: the new ordinal goes into its field, and the word passes `from_yof`'s test -/
theorem add_days_fast (yof o : Int) (hd : -2147483648 ≤ yof ∧ yof ≤ 2147483647) (h1 : 0 < o)
    (h2 : o ≤ 365 + (1 - yof / 8 % 2)) :
    GenRt.lorI 32 asI32 (yof - yof / 16 % 512 * 16) (asI32 (o * 16)) = yof - yof / 16 % 512 * 16 + o * 16
      ∧ (yof - yof / 16 % 512 * 16 + o * 16) / 8 % 1024 ≤ 732 := by
  rw [Proofs.asI32_id (by omega) (by omega), lor_ordinal yof _ hd (by omega) (by omega)]
  exact ⟨rfl, by omega⟩
/-! ### `add_days`: the slow path, which the translator emits once for each way of leaving the fast path -/
def genAddSlow (self days : Int) : Res (Option Int) :=
  let year : Int := Gen.naive_date.NaiveDate.year self
  Res.bind (Gen.naive_date.div_mod_floor year 400) fun r1 =>
  let year_div_400 : Int := r1.1
  let year_mod_400 : Int := r1.2
  Res.bind (Gen.naive_date.yo_to_cycle (asU32 year_mod_400) (Gen.naive_date.NaiveDate.ordinal self)) fun cycle =>
  (match optI32 (asI32 cycle + days) with
  | some cycle =>
    Res.bind (Gen.naive_date.div_mod_floor cycle 146097) fun r2 =>
    let cycle_div_400y : Int := r2.1
    let cycle : Int := r2.2
    Res.bind (ckI32 (year_div_400 + cycle_div_400y)) fun year_div_400 =>
    Res.bind (Gen.naive_date.cycle_to_yo (asU32 cycle)) fun r3 =>
    let year_mod_400 : Int := r3.1
    let ordinal : Int := r3.2
    Res.bind (Gen.naive_internals.YearFlags.from_year_mod_400 (asI32 year_mod_400)) fun flags =>
    Res.bind (ckI32 (year_div_400 * 400)) fun r4 =>
    Res.bind (ckI32 (r4 + asI32 year_mod_400)) fun r5 =>
    Gen.naive_date.NaiveDate.from_ordinal_and_flags r5 ordinal flags
  | none => .ok none)

theorem gen_add_days_unfold (self days : Int) :
    Gen.naive_date.NaiveDate.add_days self days =
      (match optI32 (Gen.naive_date.NaiveDate.yof self / 16 % 512 * 16 / 16 + days) with
      | some ordinal =>
        Res.bind (if ordinal > 0 then
            Res.bind (ckI32 (365 + (if Gen.naive_date.NaiveDate.leap_year self = true then 1 else 0))) fun r7 =>
            .ok (decide (ordinal ≤ r7))
          else
            .ok false) fun r8 =>
        if r8 = true then
          let year_and_flags : Int :=
            Gen.naive_date.NaiveDate.yof self - Gen.naive_date.NaiveDate.yof self / 16 % 512 * 16
          Res.bind (Gen.naive_date.NaiveDate.from_yof
            (GenRt.lorI 32 asI32 year_and_flags (asI32 (ordinal * 16)))) fun r9 =>
          .ok (some r9)
        else genAddSlow self days
      | none => genAddSlow self days) := by
  unfold Gen.naive_date.NaiveDate.add_days genAddSlow
  rfl

/-- the model's slow path -/
def addSlow (d : Date) (days : Int) : Res (Option Date) :=
  match optI32 ((Date.yo_to_cycle (d.year % 400).toNat d.ordinal.toNat : Int) + days) with
  | none => .ok none
  | some cycle =>
    match ckI32 (d.year / 400 + cycle / 146097) with
    | .panic => .panic
    | .ok yd =>
      match ckI32 (yd * 400) with
      | .panic => .panic
      | .ok y4 =>
        match ckI32 (y4 + (Date.cycle_to_yo (cycle % 146097).toNat).1) with
        | .panic => .panic
        | .ok y =>
          Date.from_ordinal_and_flags y (Date.cycle_to_yo (cycle % 146097).toNat).2
            (YearFlags.from_year_mod_400 (Date.cycle_to_yo (cycle % 146097).toNat).1)

theorem add_days_unfold (d : Date) (days : Int) :
    d.add_days days =
      match (match optI32 (d.ordinal + days) with
        | some o => if o > 0 ∧ o ≤ 365 + (if d.leap_year then 1 else 0) then some o else none
        | none => none) with
      | some o =>
        (match Date.from_yof (d.yof - d.ordinal * 16 + o * 16) with
        | .ok r => .ok (some r)
        | .panic => .panic)
      | none => addSlow d days := by
  unfold Date.add_days addSlow
  rfl

end Chrono.Proofs.GenDateL
