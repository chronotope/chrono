/-
  C13, sixth lemma file: the members of the family that carry the instant only as a timestamp
  (`%s`, `%s %z`, `%s%:z`, `%z %s`, with literals and white space; `Spec.stampOnly`) for the targets
  `NaiveDateTime` and `DateTime<FixedOffset>`, on C14's completeness theorems for the resolver's
  timestamp fall-back path (`datetime_complete_timestamp`, `to_datetime_complete_timestamp`).
  Namespace `Chrono.Proofs.RoundTrip`.
-/
import Chrono.Proofs.RoundTripFamilyL

namespace Chrono.Proofs.RoundTrip
open Chrono Chrono.M Chrono.M.Scan Chrono.Spec Chrono.Spec.Fields Chrono.Spec.Ts Chrono.Extracted Chrono.Proofs
open Chrono.Proofs.ParsedRes

/-- `stampOnly`, flag by flag -/
theorem stampOnly_flags (c : Carries) (h : stampOnly c = true) :
    c.year = false ∧ c.yearDiv = false ∧ c.yearMod = false ∧ c.isoYear = false ∧ c.isoYearDiv = false ∧
    c.isoYearMod = false ∧ c.quarter = false ∧ c.month = false ∧ c.day = false ∧ c.weekSun = false ∧
    c.weekMon = false ∧ c.isoWeek = false ∧ c.weekday = false ∧ c.ordinal = false ∧ c.hour24 = false ∧
    c.hour12 = false ∧ c.ampm = false ∧ c.minute = false ∧ c.second = false ∧ c.nano = false ∧
    c.timestamp = true := by
  cases c
  simp only [stampOnly, beq_iff_eq, Carries.mk.injEq] at h
  simp only [h, and_self]

/-- the record read from a timestamp-only format: the timestamp (and the printed offset), nothing else -/
structure StampRecord (p : Parsed) (ts : Int) (offv : Int) (hasOff : Bool) : Prop where
  inType : InType p
  timestamp : p.timestamp = some ts
  offset_val : ∀ x, p.offset = some x → x = offv
  offset_some : p.offset.isSome = hasOff
  nano : p.nanosecond = none
  date : ∀ Y o, VD Y o → DateAgrees p Y o
  gy : ∀ yr, GroupDeterminate p.year p.year_div_100 p.year_mod_100 yr
  gi : ∀ yr, GroupDeterminate p.isoyear p.isoyear_div_100 p.isoyear_mod_100 yr
  time : ∀ t, TimeAgreesSupplied p t
  insufficient : ¬ (DateSufficient p ∧ TimeSufficient p)

/-- **text to fields for a timestamp-only format**: the record holds the printed timestamp (the
timestamp of the shown local reading minus the shown offset), the printed offset if the format has an
offset item, and no other field -/
theorem family_stamp_core (is : List Item) (Y : Int) (o : Nat) (hvd : VD Y o) (t : Time) (htv : TValid t)
    (c : Ctx) (hcd : c.date = some (dateOfYo Y o)) (hct : c.time = some t)
    (hco : ∀ x, c.off = some x → -86400 < x.2 ∧ x.2 < 86400)
    (text : List Nat) (hp : ∀ it ∈ is, provedItem it = true) (hsep : separated is = true)
    (hso : stampOnly (carries is) = true) (hsafe : spaceSafe is = true)
    (hY : ∀ w, (dateOfYo Y o).iso_week = .ok w →
      yearExpressible (carries is).year (carries is).yearDiv (carries is).yearMod (yearTouchesDigits .year is) Y ∧
      yearExpressible (carries is).isoYear (carries is).isoYearDiv (carries is).isoYearMod
        (yearTouchesDigits .isoYear is) (IsoWeek.year w))
    (hfmt : Format.formatItemsR c.date c.time c.off is = Format.wok text) :
    ∃ p', Parse.parse Parsed.new text is = .ok p' ∧
      StampRecord p' (timestampIs.instSecsLocal ⟨dateOfYo Y o, t⟩ - (c.off.map (·.2)).getD 0)
        ((c.off.map (fun x => roundedOffset x.2)).getD 0) (carries is).offset := by
  obtain ⟨IY, IW, wd, ⟨w, hw, hwy, hwk⟩, hwd, hwdn, iy1, iy2, iw1, iw2⟩ := truth_date Y o hvd
  obtain ⟨s1, s2, s3⟩ := ParsedRes.timestamp_spec Y o t hvd htv
  obtain ⟨hYe, hIe⟩ := hY w hw
  rw [hwy] at hIe
  obtain ⟨k1, k2, k3, k4, k5, k6, k7, k8, k9, k10, k11, k12, k13, k14, k15, k16, k17, k18, k19, k20, k21⟩ :=
    stampOnly_flags _ hso
  -- the printed offset, as a value (0 where the context has none)
  let offv : Int := (c.off.map (fun x => roundedOffset x.2)).getD 0
  have hoffv : ∀ x, c.off = some x → offv = roundedOffset x.2 := by
    intro x hx; simp only [offv, hx, Option.map_some, Option.getD_some]
  have hoffv' : -86400 ≤ offv ∧ offv ≤ 86400 := by
    cases ho : c.off with
    | none => simp only [offv, ho, Option.map_none, Option.getD_none]; omega
    | some x =>
      rw [hoffv x ho]
      exact rounded_range x.2 (hco x ho)
  let tr : Truth := ⟨Y, o, IY, IW, wd, t, 0, offv,
    timestampIs.instSecsLocal ⟨dateOfYo Y o, t⟩ - (c.off.map (·.2)).getD 0⟩
  have hcok : CtxOk c := ⟨fun d h => (by rw [hcd] at h; cases h; exact ⟨Y, o, hvd, rfl⟩),
    fun t' h => (by rw [hct] at h; cases h; exact htv), hco⟩
  have hoffr := hcok.off_bounds
  have hc : CtxTruth c tr :=
    ⟨fun d h => (by rw [hcd] at h; cases h; exact ⟨rfl, hvd, ⟨w, hw, hwy, hwk⟩, hwd⟩),
     fun t' h => (by rw [hct] at h; cases h; exact ⟨rfl, htv⟩),
     fun x h => ⟨hoffv x h, hco x h⟩,
     fun v h => (by simp only [numVal, hcd, hct, s1] at h; simpa [tr] using h.symm)⟩
  have hok : TruthOk tr := ⟨hvd, ⟨iy1, iy2⟩, ⟨iw1, iw2⟩, htv, ⟨by simp [tr], by simp [tr]⟩, hoffv', hwdn,
    ⟨w, hw, hwy, hwk⟩⟩
  -- no item prints a fraction
  have hF : ∀ it ∈ is, onSome (itemFracDigits it) fun k => cutFrac tr.t.frac k = tr.nv := by
    intro it hm
    cases hk : itemFracDigits it with
    | none => trivial
    | some k =>
      have := carries_mem Carries.nano mono_nano it (fun cr => frac_item_sets cr it k hk) is {} hm
      unfold carries at k20
      rw [k20] at this; cases this
  obtain ⟨hexp, hx, hy⟩ := side_conditions c tr hc is hYe hIe hF
  obtain ⟨p', hparse, hS, hT⟩ := fields_of_format c hcok tr hc hok is text hp hexp hx hsep hsafe hy hfmt
  refine ⟨p', hparse, ?_⟩
  have hts : -10000000000000 ≤ tr.tsv ∧ tr.tsv ≤ 10000000000000 := by simp only [tr]; omega
  -- every flag but `timestamp` (and `offset`) is down, so every other field is unset
  have nn : ∀ {α} {x : Option α} {b : Bool}, x.isSome = b → b = false → x = none :=
    fun h hb => (isSome_false_iff _).mp (hb ▸ h)
  have hdm : ((carries is).hour24 || (carries is).ampm) = false := by rw [k15, k17]; rfl
  have hmm : ((carries is).hour24 || (carries is).hour12) = false := by rw [k15, k16]; rfl
  have e20 : p'.nanosecond = none := by
    cases hn : p'.nanosecond with
    | none => rfl
    | some x =>
      have := hT.nano1 (by rw [hn]; rfl)
      rw [k20] at this; cases this
  have hgd : ∀ yr, GroupDeterminate (none : Option Int) none none yr :=
    fun yr => ⟨fun h => h.2.1 rfl, fun _ _ h => (h rfl).elim⟩
  refine ⟨inType_of_supplied p' tr hok hS hts, ?_, hS.offset, hT.offset, e20, fun Y' o' hvd' => ?_, ?_, ?_,
    fun t' => ⟨unset_vacuous hT.hour_div hdm, unset_vacuous hT.hour_mod hmm, unset_vacuous hT.minute k18,
      unset_vacuous hT.second k19, by rw [e20]; exact nofun⟩,
    fun h => h.2.1 (nn hT.hour_div hdm)⟩
  · -- the timestamp field
    have hsome := hT.timestamp
    rw [k21] at hsome
    cases hg : p'.timestamp with
    | none => rw [hg] at hsome; cases hsome
    | some g => rw [hS.timestamp g hg]
  · obtain ⟨w', hw'⟩ := iso_week_ok Y' o' hvd'
    exact ⟨unset_vacuous hT.year k1, ⟨unset_vacuous hT.year_div k2, unset_vacuous hT.year_mod k3⟩,
      unset_vacuous hT.quarter k7, unset_vacuous hT.month k8, unset_vacuous hT.week_from_sun k10,
      unset_vacuous hT.week_from_mon k11, unset_vacuous hT.weekday k13, unset_vacuous hT.ordinal k14,
      unset_vacuous hT.day k9, w', hw', unset_vacuous hT.isoyear k4,
      ⟨unset_vacuous hT.isoyear_div k5, unset_vacuous hT.isoyear_mod k6⟩, unset_vacuous hT.isoweek k12⟩
  · rw [nn hT.year k1, nn hT.year_div k2, nn hT.year_mod k3]; exact hgd
  · rw [nn hT.isoyear k4, nn hT.isoyear_div k5, nn hT.isoyear_mod k6]; exact hgd

/-- a timestamp-only format has neither a full date nor a full time -/
theorem stampOnly_not_fields (c : Carries) (h : stampOnly c = true) : (fullDate c && fullTime c) = false := by
  obtain ⟨k1, k2, k3, k4, k5, k6, k7, k8, k9, k10, k11, k12, k13, k14, k15, k16, k17, k18, k19, k20, k21⟩ :=
    stampOnly_flags c h
  simp [fullDate, yearGroup, k1, k3, k4, k6]

/-- **round trip, target `NaiveDateTime`, timestamp-only formats** (`%s`): the result is the value
at whole seconds (a leap second is read back as its second :59) -/
theorem family_stamp_naive (is : List Item) (Y : Int) (o : Nat) (hvd : VD Y o) (t : Time) (htv : TValid t)
    (text : List Nat) (hp : ∀ it ∈ is, provedItem it = true) (hU : Unambiguous is .naive)
    (hso : stampOnly (carries is) = true) (hsafe : spaceSafe is = true)
    (hE : expressible is (.naive ⟨dateOfYo Y o, t⟩))
    (hfmt : ParseFrom.formatItemsOf (.naive ⟨dateOfYo Y o, t⟩) is = Format.wok text) :
    ∃ p', Parse.parse Parsed.new text is = .ok p' ∧
      ParseFrom.resolve .naive p' = .ok (.ok (.naive ⟨dateOfYo Y o, ⟨t.secs, 0⟩⟩)) := by
  obtain ⟨fy, _⟩ := date_facts Y o hvd
  obtain ⟨_, ⟨hsep, _⟩, _, _, _⟩ := hU
  obtain ⟨hEy, _, _, _, _⟩ := hE
  simp only [exprYears, shown, onSome, fy] at hEy
  obtain ⟨p', h1, hR⟩ := family_stamp_core is Y o hvd t htv ⟨some (dateOfYo Y o), some t, none⟩ rfl rfl
    (fun x h => by cases h) text hp hsep hso hsafe (fun w hw => by rw [hw] at hEy; exact hEy) hfmt
  refine ⟨p', h1, ?_⟩
  obtain ⟨t0, t1, _, _⟩ := id htv
  have h2 := Chrono.Props.C14.datetime_complete_timestamp p' hR.inType 0 Y o ⟨t.secs, 0⟩ hvd
    ⟨t0, t1, by dsimp only; omega, by dsimp only; omega⟩ (by dsimp only; omega) (hR.date Y o hvd) (hR.gy Y) (fun w _ => hR.gi _)
    (hR.time _) (fun _ => rfl) (by
      rw [hR.timestamp]
      simp [timestampIs.instSecsLocal]) hR.insufficient
  simp only [ParseFrom.resolve, h2, Parsed.RP.bind]

/-- the local reading of an instant at an offset, when `naive_local` returns it, is an existing day
and a valid time of day with the sub-second part of the instant -/
theorem naive_local_valid (z : Zoned) (hz : ZInv z) (l : NaiveDT) (h : Zoned.naive_local z = .ok l) :
    ∃ Y o, VD Y o ∧ l.date = dateOfYo Y o ∧ TValid l.time ∧ l.time.frac = z.utc.time.frac := by
  obtain ⟨l0, _, hext, _, hfr, hnl, hdi⟩ := Chrono.Props.C04.headroom_sound z hz
  by_cases hr : InRangeSecs (wallSecs z)
  · rw [if_pos hr] at hnl
    rw [hnl] at h
    have e : l = l0 := by injection h with h'; exact h'.symm
    rw [e]
    obtain ⟨o, hd, _, y1, y2, o1, o2⟩ := Chrono.Proofs.Ts.dateInv_repr l0.date (hdi.mpr hr)
    exact ⟨l0.date.year, o, ⟨y1, y2, o1, o2⟩, hd, hext.2, hfr⟩
  · rw [if_neg hr] at hnl
    rw [hnl] at h
    cases h

/-- the timestamp `%s` prints for a zone-aware value is the instant of its UTC reading -/
theorem zoned_printed_stamp (z : Zoned) (hz : ZInv z) (Y : Int) (o : Nat) (t : Time) (hvd : VD Y o)
    (hl : z.overflowing_naive_local = .ok ⟨dateOfYo Y o, t⟩) :
    timestampIs.instSecsLocal ⟨dateOfYo Y o, t⟩ - z.off = instSecs z.utc := by
  obtain ⟨l0, h0, _, hs, _⟩ := Chrono.Props.C04.headroom_sound z hz
  rw [hl] at h0
  cases h0
  obtain ⟨g1, g2, _⟩ := vd_fields Y o hvd
  have hE : EPOCH_DAY = 719163 := rfl
  unfold wallSecs at hs
  unfold instSecs dayNumOf at hs
  unfold timestampIs.instSecsLocal
  simp only [g1, g2, hE] at hs ⊢
  unfold instSecs dayNumOf
  rw [hE]
  omega

/-- **round trip, target `DateTime<FixedOffset>`, timestamp-only formats** (`%s`, `%s %z`, `%s%:z`,
`%z %s`): the result is the instant at whole seconds at the printed (minute-rounded) offset — UTC
without an offset item — exactly `Spec.truncate_to_precision` -/
theorem family_stamp_zoned (is : List Item) (z : Zoned) (hu : NDTInv z.utc) (Y : Int) (o : Nat) (hvd : VD Y o)
    (t : Time) (htv : TValid t) (hl : z.overflowing_naive_local = .ok ⟨dateOfYo Y o, t⟩)
    (hzo : -86400 < z.off ∧ z.off < 86400)
    (text : List Nat) (hp : ∀ it ∈ is, provedItem it = true) (hU : Unambiguous is .zoned)
    (hso : stampOnly (carries is) = true) (hsafe : spaceSafe is = true)
    (hE : expressible is (.zoned z))
    (hfmt : ParseFrom.formatItemsOf (.zoned z) is = Format.wok text) :
    ∃ p', Parse.parse Parsed.new text is = .ok p' ∧
      ∀ v', truncate_to_precision is (.zoned z) = some v' → ParseFrom.resolve .zoned p' = .ok (.ok v') := by
  obtain ⟨fy, _⟩ := date_facts Y o hvd
  obtain ⟨_, ⟨hsep, _⟩, _, _, _⟩ := hU
  obtain ⟨hEy, _, hEo, _, _⟩ := hE
  simp only [exprYears, shown, hl, onSome, fy] at hEy
  simp only [exprOffset, shown, hl, onSome] at hEo
  simp only [ParseFrom.formatItemsOf, hl, Format.W.ofRes] at hfmt
  obtain ⟨p', h1, hR⟩ := family_stamp_core is Y o hvd t htv
    ⟨some (dateOfYo Y o), some t, some (Format.fixedOffsetName z.off, z.off)⟩ rfl rfl
    (fun x h => by cases h; exact hzo) text hp hsep hso hsafe (fun w hw => by rw [hw] at hEy; exact hEy) hfmt
  refine ⟨p', h1, fun v' hv' => ?_⟩
  have hz : ZInv z := ⟨hu, hzo⟩
  have hstamp := zoned_printed_stamp z hz Y o t hvd hl
  generalize hoff' : (if (carries is).offset = true then roundedOffset z.off else 0) = off' at hv'
  have hr1 : -86400 < off' ∧ off' < 86400 := by
    rw [← hoff']
    by_cases ho : (carries is).offset = true
    · rw [if_pos ho]; exact hEo ho
    · rw [if_neg ho]; omega
  simp only [truncate_to_precision, stampOnly_not_fields _ hso, Bool.false_eq_true, if_false, hoff'] at hv'
  -- the value the specification predicts, and its wall clock
  cases hnl : Zoned.naive_local ⟨⟨z.utc.date, ⟨z.utc.time.secs, 0⟩⟩, off'⟩ with
  | panic => rw [hnl] at hv'; cases hv'
  | ok l' =>
    rw [hnl] at hv'
    cases hv'
    obtain ⟨hud, u0, u1, _, _⟩ := id hu
    have hz' : ZInv ⟨⟨z.utc.date, ⟨z.utc.time.secs, 0⟩⟩, off'⟩ := ⟨⟨hud, u0, u1, by dsimp only; omega, by dsimp only; omega⟩, hr1⟩
    obtain ⟨Y', o', hvd', hd', htv', hfr'⟩ := naive_local_valid _ hz' l' hnl
    have hl'' : Zoned.naive_local ⟨⟨z.utc.date, ⟨z.utc.time.secs, 0⟩⟩, off'⟩ = .ok ⟨dateOfYo Y' o', l'.time⟩ := by
      rw [hnl, ← hd']
    have hts : p'.timestamp = some (instSecs (⟨⟨z.utc.date, ⟨z.utc.time.secs, 0⟩⟩, off'⟩ : Zoned).utc) := by
      rw [hR.timestamp]
      simp only [Option.map_some, Option.getD_some]
      rw [hstamp]
      rfl
    have hoffsel : p'.offset = some off' ∨ (p'.offset = none ∧ off' = 0) := by
      by_cases ho : (carries is).offset = true
      · left
        have hsome := hR.offset_some
        rw [ho] at hsome
        cases hg : p'.offset with
        | none => rw [hg] at hsome; cases hsome
        | some g =>
          have := hR.offset_val g hg
          simp only [Option.map_some, Option.getD_some] at this
          rw [this, ← hoff', if_pos ho]
      · right
        have hsome := hR.offset_some
        have : (carries is).offset = false := by simpa using ho
        rw [this] at hsome
        exact ⟨(isSome_false_iff _).mp hsome, by rw [← hoff', if_neg ho]⟩
    have h2 := Chrono.Props.C14.to_datetime_complete_timestamp p' hR.inType
      ⟨⟨z.utc.date, ⟨z.utc.time.secs, 0⟩⟩, off'⟩ hz' Y' o' l'.time hvd' htv' (by rw [hfr']; dsimp only; omega) hl''
      (hR.date Y' o' hvd') (hR.gy Y') (fun w _ => hR.gi _) (hR.time _) (fun _ => hfr') hts hoffsel
      hR.insufficient
    simp only [ParseFrom.resolve, h2, Parsed.RP.bind]

end Chrono.Proofs.RoundTrip
