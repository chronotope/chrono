/-
  C15, byte level: well-formed UTF-8 is a concatenation of whole characters; splitting it after a whole
  number of characters (in particular after ASCII bytes) gives a char boundary and a well-formed rest.
  Namespace `Chrono.Proofs.Utf8`.
-/
import Chrono.Spec.Utf8Spec
namespace Chrono.Proofs.Utf8
open Chrono Chrono.M.Tz Chrono.Spec.Utf8

/-- the second byte of a three- or four-byte sequence (the table's restricted ranges) -/
def c3 (b0 b1 : Nat) : Bool :=
  if b0 = 224 then decide (160 ≤ b1) && decide (b1 ≤ 191)
  else if b0 = 237 then decide (128 ≤ b1) && decide (b1 ≤ 159)
  else cont b1
def c4 (b0 b1 : Nat) : Bool :=
  if b0 = 240 then decide (144 ≤ b1) && decide (b1 ≤ 191)
  else if b0 = 244 then decide (128 ≤ b1) && decide (b1 ≤ 143)
  else cont b1

/-- a single well-formed character -/
def IsChar : List Nat → Prop
  | [b0] => b0 < 128
  | [b0, b1] => (194 ≤ b0 ∧ b0 ≤ 223) ∧ cont b1 = true
  | [b0, b1, b2] => (224 ≤ b0 ∧ b0 ≤ 239) ∧ (c3 b0 b1 && cont b2) = true
  | [b0, b1, b2, b3] => (240 ≤ b0 ∧ b0 ≤ 244) ∧ (c4 b0 b1 && cont b2 && cont b3) = true
  | _ => False

theorem valid_char_append (c t : List Nat) (hc : IsChar c) : validUtf8 (c ++ t) = validUtf8 t := by
  match c, hc with
  | [b0], h =>
    rw [List.singleton_append, validUtf8.eq_def]
    exact if_pos (show b0 < 128 from h)
  | [b0, b1], ⟨h0, h1⟩ =>
    show validUtf8 (b0 :: b1 :: t) = _
    rw [validUtf8, if_neg (by omega), if_pos h0]
    show (cont b1 && validUtf8 t) = _
    rw [h1, Bool.true_and]
  | [b0, b1, b2], ⟨h0, h1⟩ =>
    show validUtf8 (b0 :: b1 :: b2 :: t) = _
    rw [validUtf8, if_neg (by omega), if_neg (by omega), if_pos h0]
    show (c3 b0 b1 && cont b2 && validUtf8 t) = _
    rw [h1, Bool.true_and]
  | [b0, b1, b2, b3], ⟨h0, h1⟩ =>
    show validUtf8 (b0 :: b1 :: b2 :: b3 :: t) = _
    rw [validUtf8, if_neg (by omega), if_neg (by omega), if_neg (by omega), if_pos h0]
    show (c4 b0 b1 && cont b2 && cont b3 && validUtf8 t) = _
    rw [h1, Bool.true_and]

/-- `validUtf8` peels one well-formed character off a non-empty string -/
theorem char_of_valid (b0 : Nat) (t : List Nat) :
    validUtf8 (b0 :: t) = true → ∃ c t', b0 :: t = c ++ t' ∧ IsChar c ∧ validUtf8 t' = true := by
  rw [validUtf8.eq_def]
  dsimp only
  by_cases h0 : b0 < 128
  · rw [if_pos h0]; exact fun h => ⟨[b0], t, rfl, h0, h⟩
  rw [if_neg h0]
  by_cases h0 : 194 ≤ b0 ∧ b0 ≤ 223
  · rw [if_pos h0]
    match t with
    | b1 :: t1 => exact fun h => ⟨[b0, b1], t1, rfl, ⟨h0, (Bool.and_eq_true _ _ ▸ h).1⟩, (Bool.and_eq_true _ _ ▸ h).2⟩
    | [] => exact fun h => nomatch h
  rw [if_neg h0]
  by_cases h0 : 224 ≤ b0 ∧ b0 ≤ 239
  · rw [if_pos h0]
    match t with
    | b1 :: b2 :: t2 =>
      intro (h : (c3 b0 b1 && cont b2 && validUtf8 t2) = true)
      rw [Bool.and_eq_true] at h; exact ⟨[b0, b1, b2], t2, rfl, ⟨h0, h.1⟩, h.2⟩
    | [_] | [] => exact fun h => nomatch h
  rw [if_neg h0]
  by_cases h0 : 240 ≤ b0 ∧ b0 ≤ 244
  · rw [if_pos h0]
    match t with
    | b1 :: b2 :: b3 :: t3 =>
      intro (h : (c4 b0 b1 && cont b2 && cont b3 && validUtf8 t3) = true)
      rw [Bool.and_eq_true] at h; exact ⟨[b0, b1, b2, b3], t3, rfl, ⟨h0, h.1⟩, h.2⟩
    | [_, _] | [_] | [] => exact fun h => nomatch h
  · rw [if_neg h0]; exact fun h => nomatch h

theorem isChar_pos (c : List Nat) (h : IsChar c) : 1 ≤ c.length := by
  match c, h with
  | [_], _ => simp
  | [_, _], _ => simp
  | [_, _, _], _ => simp
  | [_, _, _, _], _ => simp

/-- well-formed = empty, or a well-formed character followed by a well-formed string -/
theorem valid_cons_iff (s : List Nat) (hs : s ≠ []) :
    validUtf8 s = true ↔ ∃ c t, s = c ++ t ∧ IsChar c ∧ validUtf8 t = true := by
  constructor
  · cases s with
    | nil => exact absurd rfl hs
    | cons b0 t => exact char_of_valid b0 t
  · rintro ⟨c, t, rfl, hc, hv⟩
    rw [valid_char_append c t hc]; exact hv

/-- a well-formed string is a concatenation of well-formed characters: induction along them -/
theorem valid_ind {P : List Nat → Prop} (nil : P [])
    (cons : ∀ c t, IsChar c → validUtf8 t = true → P t → P (c ++ t)) : ∀ s, validUtf8 s = true → P s := by
  suffices ∀ n s, s.length ≤ n → validUtf8 s = true → P s from fun s => this _ s (Nat.le_refl _)
  intro n
  induction n with
  | zero => intro s hl _; rw [show s = [] from List.eq_nil_of_length_eq_zero (by omega)]; exact nil
  | succ n ih =>
    intro s hl hv
    by_cases hne : s = []
    · rw [hne]; exact nil
    · obtain ⟨c, t, rfl, hc, ht⟩ := (valid_cons_iff s hne).mp hv
      have := isChar_pos c hc
      exact cons c t hc ht (ih t (by rw [List.length_append] at hl; omega) ht)

/-- concatenation of well-formed strings -/
theorem valid_append (n : Nat) (a b : List Nat) (_ : a.length ≤ n) (ha : validUtf8 a = true)
    (hb : validUtf8 b = true) : validUtf8 (a ++ b) = true :=
  valid_ind (P := fun a => validUtf8 (a ++ b) = true) hb
    (fun c t hc _ ih => by rw [List.append_assoc, valid_char_append c _ hc]; exact ih) a ha

/-- a well-formed string split after a well-formed prefix: the rest is well formed -/
theorem valid_split (n : Nat) (a b : List Nat) (_ : a.length ≤ n) (hab : validUtf8 (a ++ b) = true)
    (ha : validUtf8 a = true) : validUtf8 b = true :=
  valid_ind (P := fun a => validUtf8 (a ++ b) = true → validUtf8 b = true) id
    (fun c t hc _ ih h => ih (by rwa [List.append_assoc, valid_char_append c _ hc] at h)) a ha hab

theorem valid_ascii (l : List Nat) (h : ∀ b ∈ l, b < 128) : validUtf8 l = true := by
  induction l with
  | nil => rfl
  | cons b t ih =>
    have hb : b < 128 := h b (by simp)
    have : validUtf8 ([b] ++ t) = validUtf8 t := valid_char_append [b] t hb
    rw [List.singleton_append] at this
    rw [this]
    exact ih (fun x hx => h x (List.mem_cons_of_mem _ hx))

/-- the head of a well-formed string is not a continuation byte: a lead byte is below 128 or above 193 -/
theorem head_not_cont (b : Nat) (t : List Nat) (h : validUtf8 (b :: t) = true) : cont b = false := by
  obtain ⟨c, t', he, hc, _⟩ := char_of_valid b t h
  have hb : b < 128 ∨ 191 < b := by
    match c, hc with
    | [_], h0 => cases he; exact .inl h0
    | [_, _], ⟨h0, _⟩ => cases he; exact .inr (by omega)
    | [_, _, _], ⟨h0, _⟩ => cases he; exact .inr (by omega)
    | [_, _, _, _], ⟨h0, _⟩ => cases he; exact .inr (by omega)
  unfold cont
  rcases hb with hb | hb
  · rw [decide_eq_false (by omega : ¬ 128 ≤ b)]; rfl
  · rw [decide_eq_false (by omega : ¬ b ≤ 191), Bool.and_false]

theorem cont_ge (b : Nat) (h : cont b = true) : 128 ≤ b := by
  unfold cont at h; simp at h; omega
theorem c3_ge (b0 b1 : Nat) (h : c3 b0 b1 = true) : 128 ≤ b1 := by
  unfold c3 at h
  split at h
  · simp at h; omega
  · split at h
    · simp at h; omega
    · exact cont_ge _ h
theorem c4_ge (b0 b1 : Nat) (h : c4 b0 b1 = true) : 128 ≤ b1 := by
  unfold c4 at h
  split at h
  · simp at h; omega
  · split at h
    · simp at h; omega
    · exact cont_ge _ h

/-- every byte of a character after the first is ≥ 128 -/
theorem isChar_tail_ge (c : List Nat) (h : IsChar c) : ∀ b ∈ c.tail, 128 ≤ b := by
  match c, h with
  | [_], _ => intro b hb; simp at hb
  | [_, b1], h =>
    simp only [IsChar] at h
    intro b hb; simp at hb; subst hb; exact cont_ge _ h.2
  | [b0, b1, b2], h =>
    simp only [IsChar, Bool.and_eq_true] at h
    intro b hb; simp at hb
    rcases hb with rfl | rfl
    · exact c3_ge _ _ h.2.1
    · exact cont_ge _ h.2.2
  | [b0, b1, b2, b3], h =>
    simp only [IsChar, Bool.and_eq_true] at h
    intro b hb; simp at hb
    rcases hb with rfl | rfl | rfl
    · exact c4_ge _ _ h.2.1.1
    · exact cont_ge _ h.2.1.2
    · exact cont_ge _ h.2.2

/-- the byte length of a character is determined by its lead byte (`Scan.charLen`) -/
theorem isChar_len (c : List Nat) (h : IsChar c) :
    ∃ b0 t, c = b0 :: t ∧ c.length = (if b0 < 128 then 1 else if b0 < 224 then 2 else if b0 < 240 then 3 else 4) := by
  match c, h with
  | [b0], h => simp only [IsChar] at h; exact ⟨b0, [], rfl, by simp [h]⟩
  | [b0, b1], h =>
    simp only [IsChar] at h
    exact ⟨b0, [b1], rfl, by rw [if_neg (by omega), if_pos (by omega)]; rfl⟩
  | [b0, b1, b2], h =>
    simp only [IsChar] at h
    exact ⟨b0, [b1, b2], rfl, by rw [if_neg (by omega), if_neg (by omega), if_pos (by omega)]; rfl⟩
  | [b0, b1, b2, b3], h =>
    simp only [IsChar] at h
    exact ⟨b0, [b1, b2, b3], rfl, by rw [if_neg (by omega), if_neg (by omega), if_neg (by omega)]; rfl⟩

/-- in a well-formed string, the position after an ASCII byte splits it into well-formed halves -/
theorem valid_upto_ascii (n : Nat) (pre : List Nat) (c : Nat) (rest : List Nat) (_ : pre.length ≤ n)
    (hv : validUtf8 (pre ++ c :: rest) = true) (hc : c < 128) : validUtf8 (pre ++ [c]) = true := by
  have h1 : validUtf8 [c] = true := valid_ascii [c] (by intro b hb; simp at hb; omega)
  refine valid_ind (P := fun s => ∀ pre, s = pre ++ c :: rest → validUtf8 (pre ++ [c]) = true) ?_ ?_ _ hv pre rfl
  · intro pre he; simp at he
  · intro ch t hch _ ih pre he
    rcases List.append_eq_append_iff.mp he with ⟨pre', e1, e2⟩ | ⟨a, e1, e2⟩
    · -- the first character lies within `pre`
      rw [e1, List.append_assoc, valid_char_append ch _ hch]; exact ih pre' e2
    · -- `pre` ends within the first character: at its end, since the ASCII byte `c` is no later byte of it
      match a, e2 with
      | [], _ => rw [← List.append_nil pre, ← e1, valid_char_append ch _ hch]; exact h1
      | x :: a, e2 =>
        cases pre with
        | nil => exact h1
        | cons y pre =>
          have hm : c ∈ ch.tail := by rw [e1, (List.cons.inj e2).1]; simp
          have := isChar_tail_ge ch hch c hm
          omega

/-! ### boundary suffixes -/

theorem bs_refl (s : List Nat) : BoundarySuffix s s := ⟨[], rfl, rfl⟩

theorem bs_trans {s r q : List Nat} (h1 : BoundarySuffix s r) (h2 : BoundarySuffix r q) : BoundarySuffix s q := by
  obtain ⟨p1, e1, v1⟩ := h1
  obtain ⟨p2, e2, v2⟩ := h2
  exact ⟨p1 ++ p2, by rw [e1, e2, List.append_assoc], valid_append _ p1 p2 (Nat.le_refl _) v1 v2⟩

theorem bs_ascii (pre rest : List Nat) (h : ∀ b ∈ pre, b < 128) : BoundarySuffix (pre ++ rest) rest :=
  ⟨pre, rfl, valid_ascii pre h⟩

theorem bs_cons (b : Nat) (rest : List Nat) (h : b < 128) : BoundarySuffix (b :: rest) rest :=
  bs_ascii [b] rest (by intro x hx; simp at hx; omega)

theorem bs_valid_rest {s rest : List Nat} (hv : validUtf8 s = true) (h : BoundarySuffix s rest) :
    validUtf8 rest = true := by
  obtain ⟨pre, e, v⟩ := h
  rw [e] at hv
  exact valid_split _ pre rest (Nat.le_refl _) hv v

/-- the position after a well-formed prefix of a well-formed string is a char boundary, and the rest is well formed -/
theorem boundary_of_append (pre rest : List Nat) (hv : validUtf8 (pre ++ rest) = true) (hp : validUtf8 pre = true) :
    isCharBoundary (pre ++ rest) pre.length = true ∧ validUtf8 rest = true := by
  have hr := valid_split _ pre rest (Nat.le_refl _) hv hp
  refine ⟨?_, hr⟩
  unfold isCharBoundary
  cases rest with
  | nil => simp
  | cons r0 rt =>
    have hc := head_not_cont r0 rt hr
    have hget : (pre ++ r0 :: rt).getD pre.length 0 = r0 := by simp [List.getD]
    rw [hget, hc]; simp

/-- **what a boundary suffix is for Rust**: with `k` the number of bytes consumed, `rest` is `&s[k..]`,
`k ≤ s.len()` and `s.is_char_boundary(k)` — the slice cannot panic — and `rest` is again a `&str` -/
theorem bs_boundary {s rest : List Nat} (hv : validUtf8 s = true) (h : BoundarySuffix s rest) :
    s.length - rest.length ≤ s.length ∧ rest = s.drop (s.length - rest.length) ∧
    isCharBoundary s (s.length - rest.length) = true ∧ validUtf8 rest = true := by
  obtain ⟨pre, rfl, hp⟩ := h
  have hk : (pre ++ rest).length - rest.length = pre.length := by rw [List.length_append]; omega
  rw [hk, List.drop_left]
  exact ⟨by rw [List.length_append]; omega, rfl, boundary_of_append pre rest hv hp⟩

end Chrono.Proofs.Utf8
