/- Helper lemmas for C17, sub-second rounding at the level of the values (audit gap MEDIUM-2):
`self ± TimeDelta::nanoseconds(|d|)` for the `d` that `round_subsecs` / `trunc_subsecs` choose is
C07's extended-line sum `addLeap`, and on the nanosecond field it is what the model's `apply_within`
assumed; lifted to `NaiveTime`, `NaiveDateTime` (C03) and `DateTime<FixedOffset>` (C04). -/
import Chrono.Proofs.RoundDtL

namespace Chrono.Proofs.RoundDt
open Chrono Chrono.M Chrono.M.Round Chrono.Spec Chrono.Spec.Round Chrono.Extracted Chrono.Extracted.Round
open Chrono.Proofs Chrono.Proofs.RoundL

/-- the decision part equals the specified move (no step panics) -/
theorem subsec_move_eq (round : Bool) (frac : Int) (digits : Nat) (h0 : 0 ≤ frac) :
    subsec_move round frac digits = .ok (subsecMove round frac digits) := by
  have hp := digitSpan_pos digits
  have hle := Int.le_of_dvd (by decide) (digitSpan_dvd digits)
  unfold subsec_move subsecMove
  rw [span_for_digits_eq]
  generalize digitSpan digits = K at *
  obtain ⟨hr0, hr1⟩ := emod_bounds frac K hp
  simp only [remU32_ok frac K h0 (by omega), shift_eq, tieUpSubsec_eq]
  cases round with
  | false =>
    simp only [Bool.false_eq_true, if_false]
    unfold truncSpec
    by_cases hr : frac % K > 0
    · rw [if_pos hr]; congr 1; omega
    · rw [if_neg hr]; congr 1; omega
  | true =>
    simp only [if_true]
    rw [roundSpec_eq frac K hp]
    by_cases hr : frac % K > 0
    · rw [if_pos hr, ckU32_ok (by omega) (by omega)]
      simp only []
      by_cases ht : K - frac % K ≤ frac % K
      · rw [decide_eq_true ht, if_pos rfl, if_pos ⟨by omega, ht⟩]; congr 1; omega
      · rw [decide_eq_false ht, if_neg (by decide), if_neg (fun h => ht h.2)]; congr 1; omega
    · rw [if_neg hr, if_neg (fun h => h.1 (by omega))]; congr 1; omega

/-- the integer-level functions of Model/Round.lean are the decision followed by `apply_within` -/
theorem subsecs_are_move_within (frac : Int) (digits : Nat) (h0 : 0 ≤ frac) (h1 : frac < 2000000000) :
    round_subsecs frac digits = .ok (apply_within frac (subsecMove true frac digits)) ∧
    trunc_subsecs frac digits = .ok (apply_within frac (subsecMove false frac digits)) := by
  have hz : apply_within frac 0 = (frac, 0) := by
    have hb := leapBase_cases frac h0 h1
    exact apply_within_of_lands (Or.inl ⟨rfl, by omega, by omega, by omega⟩)
  have e1 := subsec_move_eq true frac digits h0
  have e2 := subsec_move_eq false frac digits h0
  generalize subsecMove true frac digits = m1 at *
  generalize subsecMove false frac digits = m2 at *
  unfold subsec_move at e1 e2
  unfold round_subsecs trunc_subsecs
  simp only [] at e1 e2 ⊢
  generalize remU32 frac (span_for_digits digits) = r at *
  cases r with
  | panic => cases e1
  | ok dd =>
    by_cases hd : dd > 0
    · simp only [if_pos hd, if_true, Bool.false_eq_true, if_false] at e1 e2 ⊢
      generalize ckU32 (span_for_digits digits - dd) = q at *
      cases q with
      | panic => cases e1
      | ok du =>
        by_cases ht : tieUpSubsec du dd <;> simp only [ht, if_true, if_false, Bool.false_eq_true] at e1 ⊢ <;>
          cases e1 <;> cases e2 <;> exact ⟨rfl, rfl⟩
    · simp only [if_neg hd] at e1 e2 ⊢
      cases e1; cases e2
      rw [hz]; exact ⟨rfl, rfl⟩

theorem read_line (q g : Int) (h0 : 0 ≤ g) (h1 : g < 1000000000) :
    (q * 1000000000 + g) / 1000000000 = q ∧ (q * 1000000000 + g) % 1000000000 = g := by
  rw [Int.add_comm, Int.add_mul_ediv_right _ _ (by decide), Int.add_mul_emod_self_right,
    Int.ediv_eq_zero_of_lt h0 h1, Int.emod_eq_of_lt h0 h1, Int.zero_add]
  exact ⟨rfl, rfl⟩

/-- MEDIUM-2 of the audit: `apply_within`, the model's stand-in for "adding less than a second,
seen on the nanosecond field", is C07's `addLeap`: for a move that lands inside the current second
(`c = 0`) or exactly on its end (`c = 1`, field 0) the extended-line sum has that field, the second
count moved by `c` (modulo a day), and carries the whole day when that passes midnight
(`apply_within` itself returns `(f, c)`: `apply_within_of_lands`) -/
theorem addLeap_within (t : Time) (d f c : Int) (ht : TValid t) (h : Lands t.frac d f c) :
    addLeap t d = (⟨(t.secs + c) % 86400, f⟩, (t.secs + c) / 86400 * 86400) := by
  obtain ⟨s, fr⟩ := t
  obtain ⟨s0, s1, f0, f1⟩ := ht
  dsimp only at s0 s1 f0 f1 h ⊢
  have hday : ∀ x : Int, x - x % 86400 = x / 86400 * 86400 := fun x => by omega
  -- unless the move stays inside the operand's leap second, the ordinary clock is read at `(s + c)·10⁹ + f`
  have tail : ∀ p, 0 ≤ f → f < 1000000000 → p = (s + c) * 1000000000 + f →
      ((⟨p / 1000000000 % 86400, p % 1000000000⟩ : Time), p / 1000000000 - p / 1000000000 % 86400) =
        (⟨(s + c) % 86400, f⟩, (s + c) / 86400 * 86400) := by
    intro p g0 g1 e
    obtain ⟨hq, hm⟩ := read_line (s + c) f g0 g1
    rw [e, hq, hm, hday]
  unfold addLeap pos
  simp only []
  unfold Lands at h
  rcases leapBase_cases fr f0 f1 with ⟨hb, hl⟩ | ⟨hb, hl⟩
  · rw [hb] at h
    rw [if_neg (by omega), if_neg (by omega)]
    exact tail _ (by omega) (by omega) (by omega)
  · rw [hb] at h
    rcases h with ⟨hc, hf, h2, h3⟩ | ⟨hc, hf, h2⟩
    · rw [if_pos ⟨hl, by omega, by omega⟩, hc, Int.add_zero, Int.emod_eq_of_lt s0 s1,
        Int.ediv_eq_zero_of_lt s0 s1, show s * 1000000000 + fr + d - s * 1000000000 = f by omega]
      rfl
    · rw [if_neg (by omega), if_pos ⟨hl, by omega⟩]
      exact tail _ (by omega) (by omega) (by omega)

/-! ### the three receivers -/

/-- `NaiveTime`: wraps around midnight, never panics -/
theorem time_move_within (t : Time) (d f c : Int) (ht : TValid t)
    (hd : -1000000000 < d ∧ d < 1000000000) (h : Lands t.frac d f c) :
    apply_move Time.add Time.sub t d = .ok ⟨(t.secs + c) % 86400, f⟩ := by
  have hw := addLeap_within t d f c ht h
  unfold apply_move
  by_cases h0 : d = 0
  · subst h0
    obtain ⟨hc, hf⟩ := lands_zero t.frac f c ht.2.2.2 h
    rw [if_pos rfl, hc, hf]
    unfold TValid at ht
    have e : (t.secs + 0) % 86400 = t.secs := by omega
    rw [e]
  · rw [if_neg h0]
    by_cases hp : d > 0
    · rw [if_pos hp]
      obtain ⟨hi, hn⟩ := nanos_delta d ⟨by omega, by omega⟩
      unfold Time.add
      rw [add_spec' t _ ht hi, hn, hw]
      rfl
    · rw [if_neg hp]
      obtain ⟨hi, hn⟩ := nanos_delta (-d) ⟨by omega, by omega⟩
      unfold Time.sub
      rw [sub_spec' t _ ht hi, hn, Int.neg_neg, hw]
      rfl

/-- the day shift of C03's general statement, for a move inside or to the end of the current second -/
theorem within_general (dt : NaiveDT) (d f c : Int) (r : Option NaiveDT) (hdt : NDTInv dt)
    (h : Lands dt.time.frac d f c)
    (h1 : IsDayShift dt.date ((addLeap dt.time d).2 / 86400) (r.map (·.date)))
    (h2 : ∀ x, r = some x → x.time = (addLeap dt.time d).1) :
    (instSecs dt + c ≤ instSecs NaiveDT.MAX →
      ∃ v, r = some v ∧ NDTInv v ∧ v.time.frac = f ∧ instSecs v = instSecs dt + c) ∧
    (instSecs NaiveDT.MAX < instSecs dt + c → r = none) := by
  obtain ⟨hnone, hsome⟩ := shifted_secs dt d r hdt h1 h2
  have hc01 : 0 ≤ c := by rcases h with h | h <;> omega
  have hlo := (Chrono.Proofs.Ts.instSecs_range dt hdt).1
  have hmin : instSecs NaiveDT.MIN = Chrono.Spec.Ts.TS_MIN := by decide
  rw [addLeap_within dt.time d f c hdt.2 h] at hnone hsome
  dsimp only at hnone hsome
  have e : instSecs dt - dt.time.secs + (dt.time.secs + c) / 86400 * 86400 + (dt.time.secs + c) % 86400 =
      instSecs dt + c := by omega
  rw [e] at hnone hsome
  constructor
  · intro hle
    cases r with
    | none => exfalso; have := hnone.mp rfl; omega
    | some x =>
      obtain ⟨hx, ht, hs⟩ := hsome x rfl
      exact ⟨x, rfl, hx, by rw [ht], hs⟩
  · intro hgt; exact hnone.mpr (Or.inr hgt)

/-- `NaiveDateTime` (`z.utc`) and `DateTime<FixedOffset>` (the UTC reading moves, the offset is kept): the
`(field, carry)` pair is what happens to the value; `+` panics exactly when the carried second would pass
`NaiveDateTime::MAX` -/
theorem move_within (z : Zoned) (d f c : Int) (hz : NDTInv z.utc)
    (hd : -1000000000 < d ∧ d < 1000000000) (h : Lands z.utc.time.frac d f c) :
    (instSecs z.utc + c ≤ instSecs NaiveDT.MAX →
      ∃ v, apply_move NaiveDT.add NaiveDT.sub z.utc d = .ok v ∧
        apply_move Zoned.add Zoned.sub z d = .ok ⟨v, z.off⟩ ∧ NDTInv v ∧ v.time.frac = f ∧
        instSecs v = instSecs z.utc + c) ∧
    (instSecs NaiveDT.MAX < instSecs z.utc + c →
      apply_move NaiveDT.add NaiveDT.sub z.utc d = .panic ∧ apply_move Zoned.add Zoned.sub z d = .panic) := by
  by_cases h0 : d = 0
  · subst h0
    obtain ⟨hc, hf⟩ := lands_zero z.utc.time.frac f c hz.2.2.2.2 h
    rw [hc, hf]
    have hin := (Chrono.Proofs.Ts.instSecs_range z.utc hz).2
    have : instSecs NaiveDT.MAX = Chrono.Spec.Ts.TS_MAX := by decide
    exact ⟨fun _ => ⟨z.utc, rfl, rfl, hz, rfl, by omega⟩, fun hh => by omega⟩
  · obtain ⟨r, ha, hb, e1, e2⟩ := signed_move z d hz ⟨by omega, by omega⟩ h0
    obtain ⟨g1, g2⟩ := within_general z.utc d f c r hz h e1 e2
    rw [ha, hb]
    refine ⟨fun hle => ?_, fun hgt => by rw [g2 hgt]; exact ⟨rfl, rfl⟩⟩
    obtain ⟨v, hv, rest⟩ := g1 hle
    exact ⟨v, by rw [hv]; rfl, by rw [hv]; rfl, rest⟩

/-! ### the three `SubsecRound` impls -/

/-- the generic `SubsecRound` function, given the nanosecond field: `self` moved by the specified count -/
theorem subsec_generic_eq {α : Type} (round : Bool) (frac : Int) (orig : α) (add sub : α → Delta → Res α)
    (digits : Nat) (h0 : 0 ≤ frac) :
    subsec_generic round (.ok frac) orig add sub digits =
      apply_move add sub orig (subsecMove round frac digits) := by
  unfold subsec_generic
  simp only []
  rw [subsec_move_eq round frac digits h0]

theorem time_subsecs_eval (round : Bool) (t : Time) (digits : Nat) (ht : TValid t) :
    time_subsecs round t digits =
      .ok ⟨(t.secs + (subsecSpec round t.frac digits).2) % 86400, (subsecSpec round t.frac digits).1⟩ := by
  have hf := ht.2.2
  exact (subsec_generic_eq round t.frac t Time.add Time.sub digits hf.1).trans
    (time_move_within t _ _ _ ht (subsecMove_bounds round t.frac digits)
      (subsec_move_lands round t.frac digits hf.1 hf.2))

theorem naive_subsecs_eval (round : Bool) (dt : NaiveDT) (digits : Nat) (hdt : NDTInv dt) :
    (instSecs dt + (subsecSpec round dt.time.frac digits).2 ≤ instSecs NaiveDT.MAX →
      ∃ v, naive_subsecs round dt digits = .ok v ∧ NDTInv v ∧
        v.time.frac = (subsecSpec round dt.time.frac digits).1 ∧
        instSecs v = instSecs dt + (subsecSpec round dt.time.frac digits).2) ∧
    (instSecs NaiveDT.MAX < instSecs dt + (subsecSpec round dt.time.frac digits).2 →
      naive_subsecs round dt digits = .panic) := by
  have hf := hdt.2.2.2
  rw [show naive_subsecs round dt digits = _ from
    subsec_generic_eq round dt.time.frac dt NaiveDT.add NaiveDT.sub digits hf.1]
  obtain ⟨g1, g2⟩ := move_within ⟨dt, 0⟩ _ _ _ hdt (subsecMove_bounds round dt.time.frac digits)
    (subsec_move_lands round dt.time.frac digits hf.1 hf.2)
  exact ⟨fun hle => let ⟨v, hv, _, rest⟩ := g1 hle; ⟨v, hv, rest⟩, fun hgt => (g2 hgt).1⟩

theorem zoned_subsecs_eval (round : Bool) (z : Zoned) (digits : Nat) (hz : ZInv z) :
    (instSecs z.utc + (subsecSpec round z.utc.time.frac digits).2 ≤ instSecs NaiveDT.MAX →
      ∃ v, zoned_subsecs round z digits = .ok ⟨v, z.off⟩ ∧ NDTInv v ∧
        v.time.frac = (subsecSpec round z.utc.time.frac digits).1 ∧
        instSecs v = instSecs z.utc + (subsecSpec round z.utc.time.frac digits).2) ∧
    (instSecs NaiveDT.MAX < instSecs z.utc + (subsecSpec round z.utc.time.frac digits).2 →
      zoned_subsecs round z digits = .panic) := by
  obtain ⟨l, hl, _, _, hfrac, _, _⟩ := naive_local_spec z hz
  have hf := hz.1.2.2.2
  unfold zoned_subsecs Zoned.nanosecond
  rw [hl]
  simp only [Res.bind, Time.nanosecond]
  rw [hfrac, subsec_generic_eq round z.utc.time.frac z Zoned.add Zoned.sub digits hf.1]
  obtain ⟨g1, g2⟩ := move_within z _ _ _ hz.1 (subsecMove_bounds round z.utc.time.frac digits)
    (subsec_move_lands round z.utc.time.frac digits hf.1 hf.2)
  exact ⟨fun hle => let ⟨v, _, hv, rest⟩ := g1 hle; ⟨v, hv, rest⟩, fun hgt => (g2 hgt).2⟩

end Chrono.Proofs.RoundDt
