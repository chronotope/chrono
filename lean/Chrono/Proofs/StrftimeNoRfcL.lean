/-
  C12, round 3: `StrftimeItems` never yields the RFC 2822 item (`Fixed::RFC2822` is only produced by
  `to_rfc2822`), proved from the model of `parse_next_item` for EVERY format string, strict and
  lenient — the hypothesis `hf` of `entry_points_ok` holds for arbitrary strings.
  Namespace `Chrono.Proofs.StrftimeNoRfc`.
-/
import Chrono.Proofs.StrftimeL
namespace Chrono.Proofs.StrftimeNoRfc
open Chrono Chrono.M Chrono.M.Strftime

/-- the item is not the RFC 2822 item -/
def okB : Item → Bool
  | .fixed .rfc2822 => false
  | _ => true

theorem okB_iff (it : Item) : okB it = true ↔ it ≠ .fixed .rfc2822 := by
  constructor
  · intro h he; rw [he] at h; cases h
  · intro h
    cases it with
    | fixed f => cases f <;> first | rfl | exact absurd rfl h
    | _ => rfl

/-- one `parse_next_item` call, either mode, any input: neither the item nor the queue it installs
contains the RFC 2822 item -/
theorem parse_next_item_ok (l : Bool) (s : List Nat) (r : List Nat × Item × List Item)
    (h : parse_next_item l s = some r) : okB r.2.1 = true ∧ r.2.2.all okB = true :=
  StrftimeL.parse_next_item_all l okB (fun _ _ _ => by cases l <;> rfl) (by decide) (by decide +kernel)
    (fun _ _ => rfl) (fun _ _ => rfl) (fun _ => rfl) s r h

theorem itemsAux_ok (l : Bool) : ∀ (fuel : Nat) (s : List Nat), (itemsAux l fuel s).all okB = true :=
  StrftimeL.itemsAux_all l okB (parse_next_item_ok l)

/-- **`StrftimeItems` never yields `Fixed::RFC2822`**, for any format string, in either mode -/
theorem no_rfc2822 (l : Bool) (fuel : Nat) (s : List Nat) : Item.fixed .rfc2822 ∉ itemsAux l fuel s := by
  intro hm
  have := List.all_eq_true.mp (itemsAux_ok l fuel s) _ hm
  cases this

end Chrono.Proofs.StrftimeNoRfc
