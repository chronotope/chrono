/-
  C13: the items `StrftimeItems::new(fmt)` yields, as far as the reader can invert them
  (`Spec.invertible`), are items for which `item_inverts` is proved (`Spec.provedItem`): no specifier
  produces the `Z`-printing offset items, and every white-space item holds a run of white-space
  characters (`Spec.wsRun`).  Namespace `Chrono.Proofs.StrftimeProved`.
-/
import Chrono.Proofs.RoundTripL
import Chrono.Proofs.StrftimeL
import Chrono.Spec.UnambiguousSpec
namespace Chrono.Proofs.StrftimeProved
open Chrono Chrono.M Chrono.M.Strftime Chrono.M.Scan Chrono.Spec Chrono.Proofs.RoundTrip

/-- not invertible, or proved -/
def okItem (it : Item) : Bool := !invertible it || provedItem it

theorem error_strict (orig : List Nat) (el : Nat) (ch : Option Nat) : error false orig el ch = ([], .error, el) := rfl

/-! ### the white-space item holds a run of white-space characters -/

theorem take_len_add (c r : List Nat) (m : Nat) : (c ++ r).take (c.length + m) = c ++ r.take m := by
  induction c with
  | nil => simp
  | cons a c ih =>
    rw [show (a :: c).length + m = (c.length + m) + 1 by simp only [List.length_cons]; omega]
    simp [ih]

theorem wsRunAux_nil (F : Nat) : wsRunAux F [] = true := by cases F <;> rfl

/-- one white-space character in front of a run -/
theorem wsRunAux_char (c X : List Nat) (hne : c ≠ []) (hw : ∀ t, wsLen (c ++ t) = c.length) (F : Nat)
    (hF : (c ++ X).length ≤ F) (hX : wsRunAux (F - 1) X = true) : wsRunAux F (c ++ X) = true := by
  have hl : 0 < c.length := List.length_pos_iff.mpr hne
  cases F with
  | zero => simp only [List.length_append] at hF; omega
  | succ F' =>
    cases c with
    | nil => exact absurd rfl hne
    | cons a c' =>
      have hwx := hw X
      simp only [List.cons_append] at hwx ⊢
      simp only [wsRunAux, hwx]
      have hd : (a :: (c' ++ X)).drop (a :: c').length = X := by
        rw [← List.cons_append]; exact List.drop_left
      rw [hd]
      simp only [Nat.add_sub_cancel] at hX
      simp [hX]

theorem wsRunAux_span : ∀ (fuel : Nat) (s : List Nat) (F : Nat), (s.take (wsSpanAux fuel s 0)).length ≤ F →
    wsRunAux F (s.take (wsSpanAux fuel s 0)) = true := by
  intro fuel
  induction fuel with
  | zero => intro s F _; simp [wsSpanAux, wsRunAux_nil]
  | succ f ih =>
    intro s F hF
    by_cases h0 : wsLen s = 0
    · simp [wsSpanAux, h0, wsRunAux_nil]
    · obtain ⟨c, r, e, hl, hne, hw⟩ := wsLen_prefix s h0
      subst e
      have hwr := hw r
      have hsp : wsSpanAux (f + 1) (c ++ r) 0 = c.length + wsSpanAux f r 0 := by
        simp only [wsSpanAux, hwr]
        rw [if_neg (by have : 0 < c.length := List.length_pos_iff.mpr hne
                       omega), List.drop_left, StrftimeL.wsSpanAux_acc]
        omega
      rw [hsp, take_len_add] at hF ⊢
      refine wsRunAux_char c _ hne hw F hF (ih r (F - 1) ?_)
      have : 0 < c.length := List.length_pos_iff.mpr hne
      simp only [List.length_append] at hF
      omega

/-- the white-space run `parse_next_item` cuts off the format string is a run of white-space characters -/
theorem wsRun_space_item (s : List Nat) (h0 : wsLen s ≠ 0) :
    wsRun (s.take (wsLen s + wsSpan (s.drop (wsLen s)))) = true := by
  obtain ⟨c, r, e, hl, hne, hw⟩ := wsLen_prefix s h0
  subst e
  rw [hw r, List.drop_left, take_len_add]
  unfold wsRun wsSpan
  refine wsRunAux_char c _ hne hw _ (Nat.le_refl _) (wsRunAux_span _ r _ ?_)
  have : 0 < c.length := List.length_pos_iff.mpr hne
  simp only [List.length_append]
  omega

/-! ### one call, then the whole iterator -/

theorem parse_next_item_ok (s : List Nat) (r : List Nat × Item × List Item)
    (h : parse_next_item false s = some r) : okItem r.2.1 = true ∧ r.2.2.all okItem = true :=
  StrftimeL.parse_next_item_all false okItem (fun _ _ _ => rfl) (by decide) (by decide +kernel)
    (fun _ _ => rfl) (fun s hw => by simp only [okItem, provedItem, wsRun_space_item s hw, Bool.or_true])
    (fun _ => rfl) s r h

theorem itemsAux_ok : ∀ (fuel : Nat) (s : List Nat), (itemsAux false fuel s).all okItem = true :=
  StrftimeL.itemsAux_all false okItem parse_next_item_ok

/-- **every invertible item of `StrftimeItems::new(fmt)` is a proved item** -/
theorem items_are_proved (fmt : List Nat) :
    ∀ it ∈ Strftime.items fmt, invertible it = true → provedItem it = true := by
  intro it hm hinv
  have := List.all_eq_true.mp (itemsAux_ok (fmt.length + 1) fmt) it hm
  simpa [okItem, hinv] using this

end Chrono.Proofs.StrftimeProved
