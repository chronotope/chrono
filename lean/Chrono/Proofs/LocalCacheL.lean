/-
  Helper lemmas for C18: the model of zone selection equals the specification; the cache invariant
  over histories.  Core Lean only.
-/
import Chrono.Spec.LocalCacheSpec
namespace Chrono.Proofs.LocalCache
open Chrono.M.LocalCache Chrono.Spec.LocalCache Chrono.Extracted.LocalCache

/-! ### selection -/

theorem dirs_eq : ZONE_INFO_DIRECTORIES = zoneinfoDirs := by decide
theorem tzdb_eq : TZDB_LOCATION = usrShareZoneinfo := by decide
theorem ltname_eq : LOCALTIME_NAME = localtimeWord := by decide
theorem ltpath_eq : LOCALTIME_PATH = etcLocaltime := by decide
theorem unset_eq : UNSET_NAME = localtimeWord := by decide
theorem prefix_eq : FILE_PREFIX = colon := by decide

theorem opens_eq (W : World) (p : Bytes) : opens W p = exists_ W p := by
  unfold opens exists_
  cases h : W.fs p <;> simp

theorem from_file_eq (W : World) (p : Bytes) : from_file W p = zoneIn W p := rfl

theorem trim_eq (s : Bytes) : trim s = trimmed s := rfl

theorem find_in_dirs_eq (W : World) (ds : List Bytes) (p : Bytes) :
    find_in_dirs W ds p = (ds.map (fun d => d ++ slash :: p)).find? (exists_ W) := by
  induction ds with
  | nil => rfl
  | cons d ds ih =>
    simp only [find_in_dirs, List.map_cons, List.find?_cons, opens_eq, join, slash]
    cases h : exists_ W (d ++ 47 :: p)
    · simpa [slash] using ih
    · simp

theorem find_tz_file_eq (W : World) (p : Bytes) : find_tz_file W p = fileNamed W p := by
  unfold find_tz_file fileNamed candidates is_absolute
  by_cases h : p.head? = some slash
  · have h' : (p.head? == some 47) = true := by simpa [slash] using h
    rw [if_pos h', if_pos h, opens_eq]
    cases hx : exists_ W p <;> simp [hx]
  · have h' : ¬ (p.head? == some 47) = true := by simpa [slash] using h
    rw [if_neg h', if_neg h, find_in_dirs_eq, dirs_eq]

theorem named_cons (W : World) (c : Nat) (rest : Bytes) :
    named W (some (c :: rest)) =
      if c :: rest = localtimeWord then zoneIn W etcLocaltime
      else if c = colon then (fileNamed W rest).bind (zoneIn W)
      else match fileNamed W (c :: rest) with
        | some p => zoneIn W p
        | none => (W.rule (trimmed (c :: rest))).map (Zone.rule (trimmed (c :: rest))) := rfl

theorem from_posix_tz_eq (W : World) (tz : Bytes) : from_posix_tz W tz = named W (some tz) := by
  match tz with
  | [] => rfl
  | c :: rest =>
    rw [named_cons]
    unfold from_posix_tz
    rw [if_neg (List.cons_ne_nil c rest), ltname_eq, ltpath_eq, prefix_eq]
    by_cases h1 : c :: rest = localtimeWord
    · rw [if_pos h1, if_pos h1]; rfl
    · rw [if_neg h1, if_neg h1]
      by_cases h2 : c = colon
      · have h2' : (c :: rest).head? = some colon := by simp [h2]
        rw [if_pos h2', if_pos h2]
        simp only [List.tail_cons, find_tz_file_eq]
        cases fileNamed W rest <;> rfl
      · have h2' : ¬ (c :: rest).head? = some colon := by simpa using h2
        rw [if_neg h2', if_neg h2]
        simp only [find_tz_file_eq, trim_eq]
        cases fileNamed W (c :: rest) with
        | some p => rfl
        | none =>
          simp only
          cases W.rule (trimmed (c :: rest)) <;> rfl

theorem local_eq (W : World) (e : Option Bytes) : TimeZone.local W e = named W e := by
  cases e with
  | some tz => exact from_posix_tz_eq W tz
  | none =>
    show from_posix_tz W UNSET_NAME = zoneIn W etcLocaltime
    rw [from_posix_tz_eq, unset_eq]
    rfl

theorem fallback_eq (W : World) : fallback_timezone W = systemZone W := by
  unfold fallback_timezone systemZone
  rw [tzdb_eq]
  cases W.sysName <;> rfl

theorem current_zone_eq (W : World) (e : Option Bytes) : current_zone W e = zoneFor W e := by
  unfold current_zone zoneFor
  rw [local_eq, fallback_eq]
  cases named W e with
  | some z => rfl
  | none => cases systemZone W <;> rfl

/-! ### the refresh decision -/

theorem within_window_iff (last now : Nat) :
    within_window last now = true ↔ last ≤ now ∧ now - last < ONE_SECOND := by
  have h1 : REUSE_STRICT = true := rfl
  have h2 : REUSE_SECS = 1 := rfl
  have h3 : NANOS = 1000000000 := rfl
  have h4 : ONE_SECOND = 1000000000 := rfl
  unfold within_window
  rw [h1, h2, h3, h4]
  simp only [if_true, Bool.and_eq_true, decide_eq_true_eq]
  omega

theorem within_window_self (n : Nat) : within_window n n = true := by
  rw [within_window_iff]; exact ⟨Nat.le_refl n, by simp [ONE_SECOND]⟩

theorem not_within_window {last now : Nat} (h : now < last ∨ last + ONE_SECOND ≤ now) :
    within_window last now = false := by
  cases hw : within_window last now with
  | false => rfl
  | true => rw [within_window_iff] at hw; omega

/-- with TZ unset the source is an mtime (that of /etc/localtime, or the time of the check) -/
theorem source_new_none (W : World) (now : Nat) : ∃ m, Source.new W now none = .localTime m := by
  unfold Source.new
  cases W.ltMtime with
  | some m => exact ⟨m, rfl⟩
  | none => exact ⟨now, rfl⟩

/-- two sources that do not look out of date against each other come from the same value of TZ
(the source holds the text itself: no assumption on any hash) -/
theorem not_out_of_date (W : World) (l n : Nat) (e' e : Option Bytes)
    (h : out_of_date (Source.new W l e') (Source.new W n e) = false) : e' = e := by
  cases e' with
  | none =>
    cases e with
    | none => rfl
    | some b => obtain ⟨m, hm⟩ := source_new_none W l; rw [hm] at h; cases h
  | some a =>
    cases e with
    | none => obtain ⟨m, hm⟩ := source_new_none W n; rw [hm] at h; cases h
    | some b =>
      have : a = b := by simpa [Source.new, out_of_date] using h
      rw [this]

/-- what `Cache::offset` can return: the cache itself, or one checked now with the source of now -/
theorem offset_cases (W : World) (c : Cache) (now : Nat) (env : EnvVal) :
    ((Cache.offset W c now env).1 = c ∧ within_window c.last_checked now = true) ∨
    (within_window c.last_checked now = false ∧
      (Cache.offset W c now env).1.last_checked = now ∧
      (Cache.offset W c now env).1.source = Source.new W now (env_var env) ∧
      ((out_of_date c.source (Source.new W now (env_var env)) = true ∧
          (Cache.offset W c now env).1.zone = current_zone W (env_var env)) ∨
       (out_of_date c.source (Source.new W now (env_var env)) = false ∧
          (Cache.offset W c now env).1.zone = c.zone))) := by
  unfold Cache.offset
  cases within_window c.last_checked now with
  | true => exact Or.inl ⟨rfl, rfl⟩
  | false =>
    refine Or.inr ⟨rfl, ?_⟩
    dsimp only
    cases out_of_date c.source (Source.new W now (env_var env)) with
    | true => exact ⟨rfl, rfl, Or.inl ⟨rfl, rfl⟩⟩
    | false => exact ⟨rfl, rfl, Or.inr ⟨rfl, rfl⟩⟩

/-- one lookup from a cache that holds source and zone of some value `e'` of TZ: outside the window the
result holds source and zone of the current value — also when the zone was kept, because a source
that does not look out of date was made from the same text -/
theorem offset_filled (W : World) (c : Cache) (now : Nat) (env : EnvVal) (e' : Option Bytes)
    (hs : c.source = Source.new W c.last_checked e') (hz : c.zone = current_zone W e') :
    ((Cache.offset W c now env).1 = c ∧ within_window c.last_checked now = true) ∨
    ((Cache.offset W c now env).1.last_checked = now ∧
      (Cache.offset W c now env).1.source = Source.new W now (env_var env) ∧
      (Cache.offset W c now env).1.zone = current_zone W (env_var env)) := by
  rcases offset_cases W c now env with h | ⟨_, hl, hs', hz'⟩
  · exact Or.inl h
  · refine Or.inr ⟨hl, hs', ?_⟩
    rcases hz' with ⟨_, hz'⟩ | ⟨ho, hz'⟩
    · exact hz'
    · rw [hs] at ho
      rw [hz', hz, not_out_of_date W _ _ _ _ ho]

/-- what is known about a cache: it was filled under some value `e'` of TZ (a member of `S`);
and either that is still the current value, or the cache was last checked before the ghost time
`g` (= 1 + clock at the last change of TZ; 0 if TZ never changed) -/
def CacheOK (W : World) (S : List Bytes) (cur : Option Bytes) (g : Nat) (c : Cache) : Prop :=
  ∃ e' : Option Bytes, (∀ a, e' = some a → a ∈ S) ∧ c.source = Source.new W c.last_checked e' ∧
    c.zone = current_zone W e' ∧ (e' = cur ∨ c.last_checked < g)

theorem default_ok (W : World) (S : List Bytes) (env : EnvVal) (g now : Nat)
    (hcur : ∀ a, env_var env = some a → a ∈ S) :
    CacheOK W S (env_var env) g (Cache.default W now env) :=
  ⟨env_var env, hcur, rfl, rfl, Or.inl rfl⟩

/-- one cache lookup: the invariant is kept, and the zone is the current one as soon as a second
has passed since the last change -/
theorem offset_ok (W : World) (S : List Bytes) (env : EnvVal) (g now : Nat) (c : Cache)
    (hcur : ∀ a, env_var env = some a → a ∈ S) (hc : CacheOK W S (env_var env) g c) :
    CacheOK W S (env_var env) g (Cache.offset W c now env).1 ∧
    ((Cache.offset W c now env).1.last_checked = c.last_checked ∨ (Cache.offset W c now env).1.last_checked = now) ∧
    ((g = 0 ∨ g + ONE_SECOND ≤ now + 1) → (Cache.offset W c now env).1.zone = current_zone W (env_var env)) := by
  obtain ⟨e', hS, hsrc, hzone, hfresh⟩ := hc
  rcases offset_filled W c now env e' hsrc hzone with ⟨e, hw⟩ | ⟨hl, hs, hz⟩
  · rw [e]
    refine ⟨⟨e', hS, hsrc, hzone, hfresh⟩, Or.inl rfl, fun hg => ?_⟩
    rcases hfresh with h | h
    · rw [hzone, h]
    · -- last checked before a change that is a second old: not inside the window
      rw [within_window_iff] at hw
      omega
  · exact ⟨⟨env_var env, hcur, by rw [hl, hs], hz, Or.inl rfl⟩, Or.inr hl, fun _ => hz⟩

/-! ### what a step does to the state -/

theorem envAfter_cons (e : EnvVal) (x : Step) (xs : List Step) :
    envAfter e (x :: xs) = envAfter (envAfter e [x]) xs := by
  cases x <;> rfl

theorem elapsed_cons (x : Step) (xs : List Step) : elapsed (x :: xs) = elapsed [x] + elapsed xs := by
  cases x <;> simp [elapsed]

theorem envAfter_quiet_step (e : EnvVal) (x : Step) (hx : isChange x = false) : envAfter e [x] = e := by
  cases x with
  | setTZ v => cases hx
  | setNotUnicode => cases hx
  | unsetTZ => cases hx
  | _ => rfl

theorem envAfter_nochange (e : EnvVal) (l : List Step) (hno : ∀ x ∈ l, isChange x = false) :
    envAfter e l = e := by
  induction l with
  | nil => rfl
  | cons x xs ih =>
    rw [envAfter_cons, envAfter_quiet_step e x (hno x (List.mem_cons_self ..))]
    exact ih (fun y hy => hno y (List.mem_cons_of_mem _ hy))

/-- a conversion on thread `t` is one `Cache.offset` from the thread's cache (from `Cache.default` if
it has none): the result is stored for `t`, and its zone is the one used -/
theorem inner_offset_eq (W : World) (s : State) (t : Nat) :
    ∃ c0, (s.caches t = some c0 ∨ c0 = Cache.default W s.clock s.env) ∧
      (inner_offset W s t).1 =
        { s with caches := update s.caches t (some (Cache.offset W c0 s.clock s.env).1) } ∧
      (inner_offset W s t).2.1 = (Cache.offset W c0 s.clock s.env).1.zone := by
  unfold inner_offset
  cases s.caches t with
  | some c => exact ⟨c, Or.inl rfl, rfl, rfl⟩
  | none => exact ⟨_, Or.inr rfl, rfl, rfl⟩

theorem inner_offset_cached (W : World) (s : State) (t : Nat) :
    ((inner_offset W s t).1.caches t).map Cache.zone = some (inner_offset W s t).2.1 := by
  obtain ⟨c0, _, hs, hz⟩ := inner_offset_eq W s t
  rw [hs, hz]
  simp [update]

theorem step_clock_env (W : World) (s : State) (x : Step) :
    (step W s x).1.env = envAfter s.env [x] ∧
    (step W s x).1.clock = s.clock + elapsed [x] := by
  cases x with
  | convert t l =>
    obtain ⟨c0, _, hs, _⟩ := inner_offset_eq W s t
    show (inner_offset W s t).1.env = _ ∧ (inner_offset W s t).1.clock = _
    rw [hs]
    exact ⟨rfl, rfl⟩
  | _ => exact ⟨rfl, rfl⟩

/-- where a cache found after a step comes from: it was there before, or the step is a conversion on
its thread and it is what that lookup returned -/
theorem step_caches (W : World) (s : State) (x : Step) (t : Nat) (c : Cache)
    (h : (step W s x).1.caches t = some c) :
    s.caches t = some c ∨
    ∃ l c0, x = .convert t l ∧ (s.caches t = some c0 ∨ c0 = Cache.default W s.clock s.env) ∧
      c = (Cache.offset W c0 s.clock s.env).1 := by
  have upd : ∀ (t0 : Nat) (v : Option Cache), update s.caches t0 v t = some c →
      s.caches t = some c ∨ (t = t0 ∧ v = some c) := by
    intro t0 v hu
    unfold update at hu
    by_cases ht : t = t0
    · rw [if_pos ht] at hu; exact Or.inr ⟨ht, hu⟩
    · rw [if_neg ht] at hu; exact Or.inl hu
  cases x with
  | convert t0 l =>
    obtain ⟨c0, h0, hs, _⟩ := inner_offset_eq W s t0
    have h' : (inner_offset W s t0).1.caches t = some c := h
    rw [hs] at h'
    rcases upd t0 _ h' with h1 | ⟨rfl, h1⟩
    · exact Or.inl h1
    · exact Or.inr ⟨l, c0, rfl, h0, (Option.some.inj h1).symm⟩
  | spawn t0 =>
    rcases upd t0 none h with h1 | ⟨_, h1⟩
    · exact Or.inl h1
    · cases h1
  | _ => exact Or.inl h

theorem exec_append (W : World) (a b : List Step) : ∀ s, exec W s (a ++ b) = exec W (exec W s a) b := by
  induction a with
  | nil => intro s; rfl
  | cons x xs ih => intro s; exact ih _

theorem exec_clock_env (W : World) (h : List Step) :
    ∀ s, (exec W s h).env = envAfter s.env h ∧ (exec W s h).clock = s.clock + elapsed h := by
  induction h with
  | nil => intro s; exact ⟨rfl, rfl⟩
  | cons x xs ih =>
    intro s
    obtain ⟨h1, h2⟩ := ih (step W s x).1
    obtain ⟨h3, h4⟩ := step_clock_env W s x
    refine ⟨?_, ?_⟩
    · show (exec W (step W s x).1 xs).env = _
      rw [h1, h3, ← envAfter_cons]
    · show (exec W (step W s x).1 xs).clock = _
      rw [h2, h4]; have := elapsed_cons x xs; omega

/-! ### the invariant over histories -/

def Inv (W : World) (S : List Bytes) (s : State) (g : Nat) : Prop :=
  (∀ a, env_var s.env = some a → a ∈ S) ∧
  ∀ t c, s.caches t = some c → c.last_checked ≤ s.clock ∧ CacheOK W S (env_var s.env) g c

/-- ghost time: 0 until TZ changes, then 1 + the clock at the last change -/
def ghost (s : State) (g : Nat) (x : Step) : Nat := if isChange x then s.clock + 1 else g

def StepIn (S : List Bytes) : Step → Prop
  | .setTZ v => v ∈ S
  | _ => True

def zoneOfStep (r : State × Option (Zone × Decision)) : Option Zone := r.2.map Prod.fst

theorem stale_ok {W : World} {S : List Bytes} {cur cur' : Option Bytes} {g clock : Nat} {c : Cache}
    (h : CacheOK W S cur g c) (hl : c.last_checked ≤ clock) : CacheOK W S cur' (clock + 1) c := by
  obtain ⟨e', hS, hsrc, hz, _⟩ := h
  exact ⟨e', hS, hsrc, hz, Or.inr (by omega)⟩

theorem step_ok (W : World) (S : List Bytes) (s : State) (g : Nat) (x : Step)
    (hI : Inv W S s g) (hx : StepIn S x) : Inv W S (step W s x).1 (ghost s g x) := by
  obtain ⟨henv, hcs⟩ := hI
  obtain ⟨he, hk⟩ := step_clock_env W s x
  rw [Inv, he, hk]
  refine ⟨fun a ha => ?_, fun t c hc => ?_⟩
  · cases x with
    | setTZ v => cases ha; exact hx
    | setNotUnicode => cases ha
    | unsetTZ => cases ha
    | _ => exact henv a ha
  · rcases step_caches W s x t c hc with h | ⟨l, c0, rfl, h0, rfl⟩
    · -- a cache that was there before: stale from now on if TZ changes, as it was otherwise
      obtain ⟨hl, hok⟩ := hcs t c h
      refine ⟨Nat.le_trans hl (Nat.le_add_right _ _), ?_⟩
      unfold ghost
      cases hq : isChange x with
      | true => exact stale_ok hok hl
      | false => rw [envAfter_quiet_step _ x hq]; exact hok
    · have hc0 : c0.last_checked ≤ s.clock ∧ CacheOK W S (env_var s.env) g c0 := by
        rcases h0 with h0 | rfl
        · exact hcs t c0 h0
        · exact ⟨Nat.le_refl _, default_ok W S s.env g s.clock henv⟩
      obtain ⟨h1, h2, _⟩ := offset_ok W S s.env g s.clock c0 henv hc0.2
      exact ⟨by rcases h2 with h | h <;> omega, h1⟩

def ghostRun (W : World) : State → Nat → List Step → Nat
  | _, g, [] => g
  | s, g, x :: xs => ghostRun W (step W s x).1 (ghost s g x) xs

theorem exec_ok (W : World) (S : List Bytes) (h : List Step) :
    ∀ (s : State) (g : Nat), Inv W S s g → (∀ x ∈ h, StepIn S x) →
      Inv W S (exec W s h) (ghostRun W s g h) := by
  induction h with
  | nil => intro s g hI _; exact hI
  | cons x xs ih =>
    intro s g hI hx
    exact ih _ _ (step_ok W S s g x hI (hx x (List.mem_cons_self ..)))
      (fun y hy => hx y (List.mem_cons_of_mem _ hy))

theorem stepIn_valuesOf (e : EnvVal) (h : List Step) : ∀ x ∈ h, StepIn (valuesOf e h) x := by
  intro x hx
  cases x with
  | setTZ v => exact List.mem_append_right _ (List.mem_filterMap.mpr ⟨_, hx, rfl⟩)
  | _ => trivial

/-- the value TZ holds after a history is one of the history's values -/
theorem envAfter_mem (e0 : EnvVal) (h : List Step) (a : Bytes) (ha : env_var (envAfter e0 h) = some a) :
    a ∈ valuesOf e0 h := by
  induction h generalizing e0 with
  | nil =>
    cases e0 with
    | val v => cases ha; exact List.mem_cons_self ..
    | _ => cases ha
  | cons x xs ih =>
    rw [envAfter_cons] at ha
    have h1 : a ∈ valuesOf (envAfter e0 [x]) xs := ih _ ha
    -- a value set by `x` is listed for `x`; otherwise `x` leaves TZ and the list of values alone
    cases x with
    | setTZ v => exact List.mem_append_right _ h1
    | setNotUnicode => exact List.mem_append_right _ h1
    | unsetTZ => exact List.mem_append_right _ h1
    | _ => exact h1

theorem valuesOf_append_left (e0 : EnvVal) (a b : List Step) (v : Bytes) (hv : v ∈ valuesOf e0 a) :
    v ∈ valuesOf e0 (a ++ b) := by
  unfold valuesOf at *
  rw [List.filterMap_append]
  rcases List.mem_append.mp hv with h | h
  · exact List.mem_append_left _ h
  · exact List.mem_append_right _ (List.mem_append_left _ h)

theorem init_ok (W : World) (e : EnvVal) (k : Nat) (h : List Step) : Inv W (valuesOf e h) (init e k) 0 :=
  ⟨fun a ha => valuesOf_append_left e [] h a (envAfter_mem e [] a ha), fun t c hc => by simp [init] at hc⟩

/-! ### new threads -/

theorem convert_fresh (W : World) (s : State) (t : Nat) (l : Bool) (hnone : s.caches t = none) :
    (step W s (.convert t l)).2 = some (zoneFor W (env_var s.env), .created) := by
  unfold step inner_offset
  simp only [hnone]
  have hw : within_window (Cache.default W s.clock s.env).last_checked s.clock = true := within_window_self _
  unfold Cache.offset
  rw [if_pos hw, ← current_zone_eq]
  rfl

theorem step_keeps_none (W : World) (s : State) (t : Nat) (x : Step)
    (hx : noConvertOn t [x] = true) (hnone : s.caches t = none) : (step W s x).1.caches t = none := by
  cases h : (step W s x).1.caches t with
  | none => rfl
  | some c =>
    rcases step_caches W s x t c h with h1 | ⟨l, _, rfl, _⟩
    · rw [hnone] at h1; cases h1
    · simp [noConvertOn] at hx

theorem noConvertOn_cons (t : Nat) (x : Step) (xs : List Step) :
    noConvertOn t (x :: xs) = (noConvertOn t [x] && noConvertOn t xs) := by
  cases x <;> simp [noConvertOn]

theorem exec_keeps_none (W : World) (t : Nat) (h : List Step) :
    ∀ s, noConvertOn t h = true → s.caches t = none → (exec W s h).caches t = none := by
  induction h with
  | nil => intro s _ hn; exact hn
  | cons x xs ih =>
    intro s hx hn
    rw [noConvertOn_cons, Bool.and_eq_true] at hx
    exact ih _ hx.2 (step_keeps_none W s t x hx.1 hn)

theorem new_thread_immediate' (W : World) (s0 : State) (pre mid : List Step) (t : Nat) (l : Bool)
    (hmid : noConvertOn t mid = true) :
    (step W (exec W s0 (pre ++ .spawn t :: mid)) (.convert t l)).2 =
      some (zoneFor W (env_var (exec W s0 (pre ++ .spawn t :: mid)).env), .created) := by
  apply convert_fresh
  rw [exec_append]
  show (exec W (step W (exec W s0 pre) (.spawn t)).1 mid).caches t = none
  apply exec_keeps_none W t mid _ hmid
  simp [step, update]

/-! ### the selection table, row by row -/

/-- with a leading colon only the file lookup is made -/
theorem named_colon (W : World) (n : Bytes) :
    named W (some (colon :: n)) = (fileNamed W n).bind (zoneIn W) := by
  have h1 : ¬ (colon :: n = localtimeWord) := by simp [colon, localtimeWord]
  rw [named_cons, if_neg h1, if_pos rfl]

theorem row_colon_abs (W : World) (p : Bytes) :
    TimeZone.local W (some (colon :: slash :: p)) =
      if exists_ W (slash :: p) = true then zoneIn W (slash :: p) else none := by
  rw [local_eq, named_colon]
  unfold fileNamed candidates
  rw [if_pos (by simp)]
  simp only [List.find?_cons, List.find?_nil]
  cases exists_ W (slash :: p) <;> simp

theorem row_colon_rel (W : World) (n : Bytes) (hn : n.head? ≠ some slash) :
    TimeZone.local W (some (colon :: n)) =
      ((zoneinfoDirs.map (fun d => d ++ slash :: n)).find? (exists_ W)).bind (zoneIn W) := by
  rw [local_eq, named_colon]
  unfold fileNamed candidates
  rw [if_neg hn]

/-- a value of TZ that is not empty, not "localtime" and has no colon: the file of that name if there
is one, else the rule it spells -/
theorem named_plain (W : World) (tz : Bytes) (h0 : tz ≠ []) (h1 : tz ≠ localtimeWord)
    (h2 : tz.head? ≠ some colon) :
    named W (some tz) = match fileNamed W tz with
      | some p => zoneIn W p
      | none => (W.rule (trimmed tz)).map (Zone.rule (trimmed tz)) := by
  match tz, h0 with
  | c :: rest, _ => rw [named_cons, if_neg h1, if_neg (by simpa using h2)]

theorem row_fallback (W : World) (e : Option Bytes) :
    (∀ z, TimeZone.local W e = some z → current_zone W e = z) ∧
    (TimeZone.local W e = none → current_zone W e = (systemZone W).getD .utc) := by
  refine ⟨fun z h => ?_, fun h => ?_⟩
  · unfold current_zone; rw [h]
  · unfold current_zone; rw [h, fallback_eq]; cases systemZone W <;> rfl
