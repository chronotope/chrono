/- Helper lemmas for C03: date-time arithmetic = time-of-day arithmetic (C07) + day shift (this file's
   import) glued by the carry. -/
import Chrono.Proofs.DateArithL
import Chrono.Proofs.TimeL
import Chrono.Model.ArithOps

namespace Chrono.Proofs
open Chrono Chrono.M Chrono.Spec Chrono.Extracted

/-- `try_seconds` on a carry of `c` seconds that are whole days: a valid duration of `c / 86400` whole
days, or — beyond the `TimeDelta` range — more days than there are dates -/
theorem try_seconds_days (c : Int) (hc : c % 86400 = 0) :
    (Delta.try_seconds c = some ⟨c, 0⟩ ∧ DInv ⟨c, 0⟩ ∧ wholeDays (ns ⟨c, 0⟩) = c / 86400) ∨
    (Delta.try_seconds c = none ∧ (c / 86400 < -191491528 ∨ 191491528 < c / 86400)) := by
  unfold Delta.try_seconds
  rw [new_iff' c 0 (by omega)]
  by_cases hin : (0:Int) < 1000000000 ∧ nsInRange (ns ⟨c, 0⟩)
  · rw [if_pos hin]
    refine .inl ⟨rfl, ⟨by dsimp only; omega, by dsimp only; omega, hin.2⟩, ?_⟩
    unfold wholeDays ns NS_PER_DAY
    dsimp only
    rw [tdiv_eq]
    split <;> omega
  · rw [if_neg hin]
    simp only [nsInRange, ns, NS_MAX] at hin
    exact .inr ⟨rfl, by omega⟩

/-- `IsDayShift d k` depends on `d` and `k` only through the target day number -/
theorem dshift_congr (d d' : Date) (k k' : Int) (r : Option Date) (h : dayNumOf d + k = dayNumOf d' + k')
    (hs : IsDayShift d k r) : IsDayShift d' k' r := by
  unfold IsDayShift at *
  rw [← h]
  exact hs

/-- re-attaching a time of day to a shifted date -/
theorem attach_time (d : Date) (k : Int) (t : Time) (r : Option Date) (h : IsDayShift d k r) :
    IsDayShift d k ((r.map fun d' => (⟨d', t⟩ : NaiveDT)).map (·.date)) ∧
    ∀ x, r.map (fun d' => (⟨d', t⟩ : NaiveDT)) = some x → x.time = t ∧ r = some x.date := by
  cases r with
  | none => exact ⟨h, fun x hx => nomatch hx⟩
  | some d' => exact ⟨h, fun x hx => by rw [← Option.some.inj hx]; exact ⟨rfl, rfl⟩⟩

/-- the carry of the time-of-day addition, applied to the date: the general statement (leap-second
operands included) -/
theorem dt_add_general (dt : NaiveDT) (δ : Delta) (hdt : NDTInv dt) (hδ : DInv δ) :
    ∃ r, NaiveDT.checked_add_signed dt δ = .ok r ∧
      IsDayShift dt.date ((addLeap dt.time (ns δ)).2 / 86400) (r.map (·.date)) ∧
      ∀ x, r = some x → x.time = (addLeap dt.time (ns δ)).1 := by
  obtain ⟨hd, ht⟩ := hdt
  unfold NaiveDT.checked_add_signed
  rw [add_spec' dt.time δ ht hδ, rbind_ok]
  have hm := (addLeap_facts dt.time (ns δ) ht).2.1
  generalize addLeap dt.time (ns δ) = p at *
  obtain ⟨t', c⟩ := p
  dsimp only at hm ⊢
  rcases try_seconds_days c hm with ⟨e, hdc, hw⟩ | ⟨e, hout⟩
  · obtain ⟨r, h1, h2⟩ := date_add_signed_spec dt.date ⟨c, 0⟩ hd hdc
    rw [e]
    dsimp only
    rw [h1, rbind_ok]
    rw [hw] at h2
    obtain ⟨g1, g2⟩ := attach_time dt.date _ t' r h2
    exact ⟨_, by cases r <;> rfl, g1, fun x hx => (g2 x hx).1⟩
  · rw [e]
    exact ⟨none, rfl, shift_none dt.date _ hd hout, fun x h => nomatch h⟩

theorem dt_sub_general (dt : NaiveDT) (δ : Delta) (hdt : NDTInv dt) (hδ : DInv δ) :
    ∃ r, NaiveDT.checked_sub_signed dt δ = .ok r ∧
      IsDayShift dt.date ((addLeap dt.time (-(ns δ))).2 / 86400) (r.map (·.date)) ∧
      ∀ x, r = some x → x.time = (addLeap dt.time (-(ns δ))).1 := by
  obtain ⟨hd, ht⟩ := hdt
  unfold NaiveDT.checked_sub_signed
  rw [sub_spec' dt.time δ ht hδ, rbind_ok]
  have hm := (addLeap_facts dt.time (-(ns δ)) ht).2.1
  generalize addLeap dt.time (-(ns δ)) = p at *
  obtain ⟨t', c⟩ := p
  dsimp only at hm ⊢
  -- the carry reaches the date negated, and `checked_sub_signed` on dates negates it back
  rcases try_seconds_days (-c) (by omega) with ⟨e, hdc, hw⟩ | ⟨e, hout⟩
  · obtain ⟨r, h1, h2⟩ := date_sub_signed_spec dt.date ⟨-c, 0⟩ hd hdc
    rw [e]
    dsimp only
    rw [h1, rbind_ok]
    rw [hw, show -(-c / 86400) = c / 86400 by omega] at h2
    obtain ⟨g1, g2⟩ := attach_time dt.date _ t' r h2
    exact ⟨_, by cases r <;> rfl, g1, fun x hx => (g2 x hx).1⟩
  · rw [e]
    exact ⟨none, rfl, shift_none dt.date _ hd (by omega), fun x h => nomatch h⟩

/-! ### non-leap operands: instants -/

theorem ns_consts : NS_MIN = -8334601228800000000000 ∧ NS_MAX_DT = 8210266876799999999999 ∧
    EPOCH_DAY = 719163 := by decide

/-- from the general statement to instants: a non-leap operand moved by `k` ns -/
theorem inst_of_general (dt : NaiveDT) (k : Int) (r : Option NaiveDT) (hdt : NDTInv dt) (hnl : NonLeap dt)
    (h1 : IsDayShift dt.date ((addLeap dt.time k).2 / 86400) (r.map (·.date)))
    (h2 : ∀ x, r = some x → x.time = (addLeap dt.time k).1) : IsInstShift dt k r := by
  obtain ⟨hd, ht⟩ := hdt
  obtain ⟨f1, f2, f3, _⟩ := addLeap_facts dt.time k ht
  obtain ⟨g1, g2⟩ := f3 hnl
  obtain ⟨c1, c2, _⟩ := dn_consts
  obtain ⟨n1, n2, n3⟩ := ns_consts
  have hb := dn_bounds dt.date hd
  unfold IsInstShift
  unfold IsDayShift at h1
  rw [c1, c2] at h1
  rw [n1, n2]
  unfold instNs instSecs
  rw [n3]
  unfold pos at g2
  unfold TValid at f1 ht
  unfold NonLeap at hnl
  generalize addLeap dt.time k = p at *
  obtain ⟨t', c⟩ := p
  dsimp only at *
  obtain ⟨h1a, h1b⟩ := h1
  constructor
  · rw [← Option.map_eq_none_iff (f := (·.date)), h1a]
    omega
  · intro x hx
    subst hx
    have hx := h1b x.date rfl
    have ht' := h2 x rfl
    unfold NDTInv NonLeap TValid
    rw [ht']
    refine ⟨⟨hx.1, f1⟩, g1, ?_⟩
    rw [hx.2]
    omega

theorem dt_add_exact (dt : NaiveDT) (δ : Delta) (hdt : NDTInv dt) (hnl : NonLeap dt) (hδ : DInv δ) :
    ∃ r, NaiveDT.checked_add_signed dt δ = .ok r ∧ IsInstShift dt (ns δ) r := by
  obtain ⟨r, h0, h1, h2⟩ := dt_add_general dt δ hdt hδ
  exact ⟨r, h0, inst_of_general dt (ns δ) r hdt hnl h1 h2⟩

theorem dt_sub_exact (dt : NaiveDT) (δ : Delta) (hdt : NDTInv dt) (hnl : NonLeap dt) (hδ : DInv δ) :
    ∃ r, NaiveDT.checked_sub_signed dt δ = .ok r ∧ IsInstShift dt (-(ns δ)) r := by
  obtain ⟨r, h0, h1, h2⟩ := dt_sub_general dt δ hdt hδ
  exact ⟨r, h0, inst_of_general dt (-(ns δ)) r hdt hnl h1 h2⟩

/-! ### uniqueness: day numbers and instants determine the value -/

theorem dayNum_inj (a b : Date) (ha : DateInv a) (hb : DateInv b) (h : dayNumOf a = dayNumOf b) : a = b := by
  obtain ⟨ya, oa, rfl, _, hoa, ea⟩ := inv_yo a ha
  obtain ⟨yb, ob, rfl, _, hob, eb⟩ := inv_yo b hb
  apply date_eq_of_yof
  exact (order_spec ya yb oa ob hoa hob).2.mpr (by rw [← ea, ← eb, h])

/-- a day shift whose target is a known valid date returns that date -/
theorem dayShift_some (d x : Date) (k : Int) (r : Option Date) (h : IsDayShift d k r) (hx : DateInv x)
    (e : dayNumOf x = dayNumOf d + k) : r = some x := by
  have hb := dn_range x hx
  cases r with
  | none => have := h.1.mp rfl; omega
  | some z => rw [dayNum_inj z x (h.2 z rfl).1 hx (by rw [(h.2 z rfl).2, e])]

theorem dayShift_unique' (d : Date) (k : Int) (r r' : Option Date) (h : IsDayShift d k r)
    (h' : IsDayShift d k r') : r = r' := by
  cases r' with
  | none => exact (h.1.trans h'.1.symm).mpr rfl
  | some x' => exact dayShift_some d x' k r h (h'.2 x' rfl).1 (h'.2 x' rfl).2

theorem inst_bounds (a : NaiveDT) (ha : NDTInv a) (hnl : NonLeap a) :
    NS_MIN ≤ instNs a ∧ instNs a ≤ NS_MAX_DT := by
  obtain ⟨n1, n2, n3⟩ := ns_consts
  have hb := dn_bounds a.date ha.1
  have ht := ha.2
  unfold TValid at ht
  unfold NonLeap at hnl
  rw [n1, n2]
  unfold instNs instSecs
  rw [n3]
  omega

theorem inst_inj (a b : NaiveDT) (ha : NDTInv a) (hb : NDTInv b) (la : NonLeap a) (lb : NonLeap b)
    (h : instNs a = instNs b) : a = b := by
  have ta := ha.2
  have tb := hb.2
  unfold TValid at ta tb
  unfold NonLeap at la lb
  unfold instNs instSecs at h
  have hd : dayNumOf a.date = dayNumOf b.date := by omega
  have hdate := dayNum_inj a.date b.date ha.1 hb.1 hd
  obtain ⟨da, ⟨sa, fa⟩⟩ := a
  obtain ⟨db, ⟨sb, fb⟩⟩ := b
  dsimp only at *
  subst hdate
  have : sa = sb := by omega
  subst this
  have : fa = fb := by omega
  subst this
  rfl

/-- a shift whose target is a known valid non-leap date-time returns that date-time -/
theorem instShift_some (dt x : NaiveDT) (k : Int) (r : Option NaiveDT) (h : IsInstShift dt k r)
    (hx : NDTInv x) (lx : NonLeap x) (e : instNs x = instNs dt + k) : r = some x := by
  have hb := inst_bounds x hx lx
  cases r with
  | none => have := h.1.mp rfl; omega
  | some z =>
    obtain ⟨i, l, ez⟩ := h.2 z rfl
    rw [inst_inj z x i hx l lx (by rw [ez, e])]

/-! ### differences -/

theorem dt_diff_general (a b : NaiveDT) (ha : NDTInv a) (hb : NDTInv b) :
    NaiveDT.signed_duration_since a b =
      .ok (ofNs ((dayNumOf a.date - dayNumOf b.date) * NS_PER_DAY + diffLeap a.time b.time)) ∧
    nsInRange ((dayNumOf a.date - dayNumOf b.date) * NS_PER_DAY + diffLeap a.time b.time) := by
  obtain ⟨d1, d2, d3⟩ := date_diff_spec a.date b.date ha.1 hb.1
  obtain ⟨t1, t2, t3, t4⟩ := diff_spec' a.time b.time ha.2 hb.2
  have ba := dn_bounds a.date ha.1
  have bb := dn_bounds b.date hb.1
  have hN : NS_PER_DAY = 86400000000000 := rfl
  have hr2 : nsInRange (diffLeap a.time b.time) := by simp only [nsInRange, NS_MAX]; omega
  have hr3 : nsInRange ((dayNumOf a.date - dayNumOf b.date) * NS_PER_DAY + diffLeap a.time b.time) := by
    simp only [nsInRange, NS_MAX, hN]; omega
  refine ⟨?_, hr3⟩
  unfold NaiveDT.signed_duration_since
  rw [d1, rbind_ok, t1, rbind_ok, add_exact' _ _ d2 t2, rbind_ok, d3, (ofNs_spec' _ hr2).2, if_pos hr3]

theorem diffLeap_nonleap (a b : Time) (ha : a.frac < 1000000000) (hb : b.frac < 1000000000) :
    diffLeap a b = pos a - pos b := by
  unfold diffLeap linePos
  rw [if_neg (by omega), if_neg (by omega)]
  omega

theorem dt_diff_exact (a b : NaiveDT) (ha : NDTInv a) (hb : NDTInv b) (la : NonLeap a) (lb : NonLeap b) :
    NaiveDT.signed_duration_since a b = .ok (ofNs (instNs a - instNs b)) ∧
    nsInRange (instNs a - instNs b) := by
  obtain ⟨h1, h2⟩ := dt_diff_general a b ha hb
  have e : (dayNumOf a.date - dayNumOf b.date) * NS_PER_DAY + diffLeap a.time b.time = instNs a - instNs b := by
    rw [diffLeap_nonleap a.time b.time la lb]
    unfold instNs instSecs pos NS_PER_DAY
    omega
  rw [e] at h1 h2
  exact ⟨h1, h2⟩

/-! ### order -/

theorem date_cmp_spec (a b : Date) (ha : DateInv a) (hb : DateInv b) :
    Date.cmp a b = sgn (dayNumOf a - dayNumOf b) := by
  obtain ⟨ya, oa, rfl, _, hoa, ea⟩ := inv_yo a ha
  obtain ⟨yb, ob, rfl, _, hob, eb⟩ := inv_yo b hb
  have o1 := (order_spec ya yb oa ob hoa hob).1
  have p1 := (order_spec yb ya ob oa hob hoa).1
  rw [ea, eb]
  unfold Date.cmp sgn
  rw [ite_same _ _ (o1.trans sub_neg.symm), ite_same _ _ (p1.trans Int.sub_pos.symm)]

theorem sgn_of_neg {x : Int} (h : x < 0) : sgn x = -1 := if_pos h
theorem sgn_of_pos {x : Int} (h : 0 < x) : sgn x = 1 := by
  unfold sgn; rw [if_neg (by omega), if_pos h]
theorem sgn_zero : sgn 0 = 0 := rfl

theorem sgn_iff (x : Int) : (sgn x = -1 ↔ x < 0) ∧ (sgn x = 0 ↔ x = 0) ∧ (sgn x = 1 ↔ x > 0) := by
  rcases Int.lt_trichotomy x 0 with h | h | h
  · rw [sgn_of_neg h]; omega
  · rw [h, sgn_zero]; omega
  · rw [sgn_of_pos h]; omega

/-- the sign of a two-digit number in radix `m` is decided by the leading digit, the other digit
breaking ties: this is what makes a derived (lexicographic) `Ord` the order of the combined number -/
theorem sgn_lex (x y m : Int) (hy : -m < y ∧ y < m) :
    sgn (x * m + y) = if sgn x ≠ 0 then sgn x else sgn y := by
  rcases Int.lt_trichotomy x 0 with h | h | h
  · have := Int.mul_le_mul_of_nonneg_right (a := x) (b := -1) (c := m) (by omega) (by omega)
    rw [sgn_of_neg h, sgn_of_neg (by omega)]
    rfl
  · rw [h, sgn_zero, Int.zero_mul, Int.zero_add]
    rfl
  · have := Int.mul_le_mul_of_nonneg_right (a := 1) (b := x) (c := m) (by omega) (by omega)
    rw [sgn_of_pos h, sgn_of_pos (by omega)]
    rfl

theorem time_cmp_lex (a b : Time) :
    Time.cmp a b = if sgn (a.secs - b.secs) ≠ 0 then sgn (a.secs - b.secs) else sgn (a.frac - b.frac) := by
  unfold Time.cmp
  by_cases h1 : a.secs < b.secs
  · rw [if_pos h1, sgn_of_neg (by omega)]; rfl
  · rw [if_neg h1]
    by_cases h2 : a.secs > b.secs
    · rw [if_pos h2, sgn_of_pos (by omega)]; rfl
    · rw [if_neg h2, show a.secs - b.secs = 0 by omega, sgn_zero]
      have e : a.frac - b.frac < 0 ↔ a.frac < b.frac := by omega
      unfold sgn
      simp only [ne_eq, not_true_eq_false, if_false, e, Int.sub_pos, gt_iff_lt]

theorem lex_eq_zero (c d : Int) : (if c ≠ 0 then c else d) = 0 ↔ c = 0 ∧ d = 0 := by
  by_cases h : c = 0 <;> simp [h]

/-- the derived order calls two date-times equal only when all fields agree (no validity needed) -/
theorem dt_cmp_eq_zero (a b : NaiveDT) : NaiveDT.cmp a b = 0 ↔ a = b := by
  have hd : Date.cmp a.date b.date = 0 ↔ a.date.yof = b.date.yof := by
    unfold Date.cmp
    constructor
    · intro h; repeat' split at h <;> omega
    · intro h; rw [if_neg (by omega), if_neg (by omega)]
  have ht : Time.cmp a.time b.time = 0 ↔ a.time.secs = b.time.secs ∧ a.time.frac = b.time.frac := by
    rw [time_cmp_lex, lex_eq_zero, (sgn_iff _).2.1, (sgn_iff _).2.1]; omega
  unfold NaiveDT.cmp
  dsimp only
  rw [lex_eq_zero, hd, ht]
  obtain ⟨⟨ay⟩, ⟨as, af⟩⟩ := a
  obtain ⟨⟨by'⟩, ⟨bs, bf⟩⟩ := b
  simp only [NaiveDT.mk.injEq, Date.mk.injEq, Time.mk.injEq]
/-- the derived order of date-times, leap-second representations included: lexicographic on (day,
second of day, nanosecond field) -/
theorem dt_cmp_general (a b : NaiveDT) (ha : NDTInv a) (hb : NDTInv b) :
    NaiveDT.cmp a b =
      sgn ((instSecs a - instSecs b) * 2000000000 + (a.time.frac - b.time.frac)) := by
  have ta := ha.2
  have tb := hb.2
  unfold TValid at ta tb
  unfold NaiveDT.cmp
  dsimp only
  rw [date_cmp_spec a.date b.date ha.1 hb.1, time_cmp_lex,
    ← sgn_lex (a.time.secs - b.time.secs) (a.time.frac - b.time.frac) 2000000000 (by omega),
    ← sgn_lex (dayNumOf a.date - dayNumOf b.date) _ 172800000000000 (by omega)]
  unfold instSecs
  congr 1
  omega

theorem dt_cmp_spec (a b : NaiveDT) (ha : NDTInv a) (hb : NDTInv b) (la : NonLeap a) (lb : NonLeap b) :
    NaiveDT.cmp a b = sgn (instNs a - instNs b) := by
  have ta := ha.2
  have tb := hb.2
  unfold TValid at ta tb
  unfold NonLeap at la lb
  have e : instNs a - instNs b = (instSecs a - instSecs b) * 1000000000 + (a.time.frac - b.time.frac) := by
    unfold instNs; omega
  rw [dt_cmp_general a b ha hb, e, sgn_lex _ _ _ (by omega), sgn_lex _ _ _ (by omega)]
end Chrono.Proofs
