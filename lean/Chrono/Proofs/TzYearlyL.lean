/- C05: the year-by-year hypotheses on rules (`InsideYear`, `RuleYearly`, both `∀ y : Int`) follow
   from a check of 400 consecutive years: the Gregorian cycle is 146097 days = 20871 weeks. -/
import Chrono.Proofs.TzLookupL

set_option linter.unusedSimpArgs false
set_option linter.unusedVariables false

namespace Chrono.Proofs.TzL
open Chrono Chrono.M.Tz Chrono.M.TzL Chrono.Spec.Zone Chrono.Extracted.TzL Chrono.Proofs

theorem leap_add400 (y : Int) : leap (y + 400) = leap y := by
  unfold leap
  apply decide_eq_decide.mpr
  omega

theorem dBY_add400 (y : Int) : daysBeforeYear (y + 400) = daysBeforeYear y + 146097 := by
  unfold daysBeforeYear leapsThrough
  omega

theorem dayNum_add400 (y : Int) (m : Nat) (d : Int) : dayNum (y + 400) m d = dayNum y m d + 146097 := by
  unfold dayNum
  rw [leap_add400, dBY_add400]; omega

/-- every POSIX rule day falls exactly 146097 days later 400 years later (146097 = 7 · 20871) -/
theorem ruleDayNum_add400 (d : RuleDay) (y : Int) : ruleDayNum d (y + 400) = ruleDayNum d y + 146097 := by
  cases d with
  | julian1 n =>
    unfold ruleDayNum
    simp only [leap_add400, dBY_add400]
    split <;> omega
  | julian0 n =>
    unfold ruleDayNum
    simp only [dBY_add400]; omega
  | mwd m w wd =>
    unfold ruleDayNum
    simp only [leap_add400, dayNum_add400]
    have e : weekdayOf (dayNum y m 1 + 146097) = weekdayOf (dayNum y m 1) := by unfold weekdayOf; omega
    rw [e]
    generalize dayNum y m 1 = first
    generalize ((wd : Int) - weekdayOf first) % 7 = k
    split <;> split <;> omega

theorem startAt_add400 (a : Alt) (y : Int) : startAt a (y + 400) = startAt a y + 12622780800 := by
  unfold startAt; rw [ruleDayNum_add400]; omega
theorem endAt_add400 (a : Alt) (y : Int) : endAt a (y + 400) = endAt a y + 12622780800 := by
  unfold endAt; rw [ruleDayNum_add400]; omega

theorem insideYearAt_add400 (a : Alt) (y : Int) : InsideYearAt a (y + 400) ↔ InsideYearAt a y := by
  unfold InsideYearAt
  have e : y + 400 + 1 = (y + 1) + 400 := by omega
  rw [e, startAt_add400, endAt_add400, dBY_add400, dBY_add400]
  omega

theorem ruleYearlyAt_add400 (a : Alt) (y : Int) : RuleYearlyAt a (y + 400) ↔ RuleYearlyAt a y := by
  unfold RuleYearlyAt inYear RuleSeparated
  have e : y + 400 + 1 = (y + 1) + 400 := by omega
  rw [e]
  simp only [startAt_add400, endAt_add400, dBY_add400]
  generalize startAt a y = s0
  generalize endAt a y = e0
  generalize startAt a (y + 1) = s1
  generalize endAt a (y + 1) = e1
  generalize daysBeforeYear y = d0
  generalize daysBeforeYear (y + 1) = d1
  omega

theorem shift_nat (P : Int → Prop) (hP : ∀ y, P (y + 400) ↔ P y) (y : Int) (n : Nat) :
    P (y + 400 * (n : Int)) ↔ P y := by
  induction n with
  | zero => simp
  | succ k ih =>
    have e : y + 400 * ((k + 1 : Nat) : Int) = (y + 400 * (k : Int)) + 400 := by omega
    rw [e, hP]; exact ih

/-- a year-indexed condition that is 400-periodic holds for every year as soon as it holds on 2000 … 2399 -/
theorem all_years (P : Int → Prop) (hP : ∀ y, P (y + 400) ↔ P y)
    (h : ∀ k : Nat, k < 400 → P (2000 + (k : Int))) : ∀ y : Int, P y := by
  intro y
  have hr : 0 ≤ (y - 2000) % 400 ∧ (y - 2000) % 400 < 400 := by omega
  have hk := h ((y - 2000) % 400).toNat (by omega)
  by_cases hq : 0 ≤ (y - 2000) / 400
  · have e : y = (2000 + ((((y - 2000) % 400).toNat : Nat) : Int)) + 400 * ((((y - 2000) / 400).toNat : Nat) : Int) := by
      omega
    rw [e]; exact (shift_nat P hP _ _).mpr hk
  · have e : 2000 + ((((y - 2000) % 400).toNat : Nat) : Int) = y + 400 * (((-((y - 2000) / 400)).toNat : Nat) : Int) := by
      omega
    rw [e] at hk; exact (shift_nat P hP _ _).mp hk

/-! ### rule days from March on keep their distance to the END of the year

so that the year-by-year conditions on the usual rules are linear arithmetic in `daysBeforeYear y`,
`daysBeforeYear (y + 1)` and a seven-day window, the same for every year -/

theorem year_len (y : Int) :
    365 ≤ daysBeforeYear (y + 1) - daysBeforeYear y ∧ daysBeforeYear (y + 1) - daysBeforeYear y ≤ 366 := by
  rw [(daysBeforeYear_rec y).2]; split <;> omega

/-- where in its month an `Mm.w.d` day falls: the `w`-th week for `w ≤ 4`, the last seven days for `w = 5` -/
theorem mwd_range (y : Int) (m w wd : Nat) (hm : 1 ≤ m ∧ m ≤ 12) (hw : 1 ≤ w ∧ w ≤ 5) :
    (w ≤ 4 → dayNum y m 1 + 7 * ((w : Int) - 1) ≤ ruleDayNum (.mwd m w wd) y ∧
      ruleDayNum (.mwd m w wd) y ≤ dayNum y m 1 + 7 * ((w : Int) - 1) + 6) ∧
    (w = 5 → dayNum y m 1 + monthLen (leap y) m - 7 ≤ ruleDayNum (.mwd m w wd) y ∧
      ruleDayNum (.mwd m w wd) y ≤ dayNum y m 1 + monthLen (leap y) m - 1) := by
  have hl : 28 ≤ monthLen (leap y) m ∧ monthLen (leap y) m ≤ 31 := by
    have : ∀ lp : Bool, ∀ m, m < 13 → 1 ≤ m → 28 ≤ monthLen lp m ∧ monthLen lp m ≤ 31 := by decide
    exact this _ m (by omega) hm.1
  unfold ruleDayNum
  dsimp only
  generalize dayNum y m 1 = first at *
  generalize monthLen (leap y) m = len at *
  have hk : 0 ≤ ((wd : Int) - weekdayOf first) % 7 ∧ ((wd : Int) - weekdayOf first) % 7 < 7 := by omega
  generalize ((wd : Int) - weekdayOf first) % 7 = k at *
  constructor <;> intro h <;> split <;> omega

/-- first day (zero-based, in a common year) of the seven-day window of `Mm.w.d` -/
def mwdLo (m w : Nat) : Int :=
  daysBeforeMonth false m + (if w ≤ 4 then 7 * ((w : Int) - 1) else monthLen false m - 7)

theorem mwd_window (y : Int) (m w wd : Nat) (hm : 3 ≤ m ∧ m ≤ 12) (hw : 1 ≤ w ∧ w ≤ 5) :
    daysBeforeYear (y + 1) - 365 + mwdLo m w ≤ ruleDayNum (.mwd m w wd) y ∧
    ruleDayNum (.mwd m w wd) y ≤ daysBeforeYear (y + 1) - 365 + mwdLo m w + 6 := by
  have r := (daysBeforeYear_rec y).2
  have hml : monthLen (leap y) m = monthLen false m := by
    have : ∀ lp : Bool, ∀ m, m < 13 → 3 ≤ m → monthLen lp m = monthLen false m := by decide
    exact this _ m (by omega) hm.1
  have hd : dayNum y m 1 + 365 = daysBeforeYear (y + 1) + daysBeforeMonth false m := by
    unfold dayNum
    rw [r, daysBeforeMonth_leap (leap y) m (by omega) hm.2]
    cases leap y <;> simp [hm.1] <;> omega
  obtain ⟨h4, h5⟩ := mwd_range y m w wd ⟨by omega, hm.2⟩ hw
  unfold mwdLo
  rw [hml] at h5
  by_cases c : w ≤ 4
  · rw [if_pos c]; have := h4 c; omega
  · rw [if_neg c]; have := h5 (by omega); omega

theorem julian1_late (y : Int) (n : Nat) (h : 60 ≤ n) :
    ruleDayNum (.julian1 n) y = daysBeforeYear (y + 1) - 366 + n := by
  unfold ruleDayNum
  rw [(daysBeforeYear_rec y).2]
  cases leap y <;> simp [h] <;> omega

theorem julian1_window (y : Int) (n : Nat) (h : 60 ≤ n) :
    daysBeforeYear (y + 1) - 365 + ((n : Int) - 1) ≤ ruleDayNum (.julian1 n) y ∧
    ruleDayNum (.julian1 n) y ≤ daysBeforeYear (y + 1) - 365 + ((n : Int) - 1) + 6 := by
  rw [julian1_late y n h]; omega

/-- a rule whose two days each stay in a seven-day window at a fixed distance from the end of the year
(an `Mm.w.d` day from March on: `mwd_window`; a `Jn` day from March on: `julian1_window`), with
times of day and offsets within a day, has both transitions more than a day inside the year; if the end's
window opens at least eleven days after the start's (six of the window, four for twice the offset jump,
one for the times of day), the rule is regular year by year -/
theorem yearly_of_windows (a : Alt) (lo1 lo2 : Int)
    (hw : ∀ y, (daysBeforeYear (y + 1) - 365 + lo1 ≤ ruleDayNum a.dstStart y ∧
                ruleDayNum a.dstStart y ≤ daysBeforeYear (y + 1) - 365 + lo1 + 6) ∧
               (daysBeforeYear (y + 1) - 365 + lo2 ≤ ruleDayNum a.dstEnd y ∧
                ruleDayNum a.dstEnd y ≤ daysBeforeYear (y + 1) - 365 + lo2 + 6))
    (hlo : 3 ≤ lo1 ∧ lo1 ≤ 354 ∧ 3 ≤ lo2 ∧ lo2 ≤ 354)
    (ht : 0 ≤ a.dstStartTime ∧ a.dstStartTime < 86400 ∧ 0 ≤ a.dstEndTime ∧ a.dstEndTime < 86400)
    (ho : -86400 < a.std.off ∧ a.std.off < 86400 ∧ -86400 < a.dst.off ∧ a.dst.off < 86400) :
    InsideYear a ∧ (lo1 + 11 ≤ lo2 → RuleYearly a) := by
  constructor
  · intro y
    have d0 := year_len y
    have w0 := hw y
    unfold startAt endAt
    omega
  · intro h y
    have d0 := year_len y
    have d1 := year_len (y + 1)
    have w0 := hw y
    have w1 := hw (y + 1)
    unfold inYear RuleSeparated startAt endAt
    omega

/-- soundness of the 400-year check of `RuleYearly` (any rule; no validity hypothesis is needed) -/
theorem ruleYearly_of_B' (a : Alt) (h : ruleYearlyB a = true) : RuleYearly a := by
  intro y
  show RuleYearlyAt a y
  apply all_years (RuleYearlyAt a) (ruleYearlyAt_add400 a)
  intro k hk
  have := List.all_eq_true.mp h k (List.mem_range.mpr hk)
  simpa using this

theorem ruleYearlyB_of (a : Alt) (h : RuleYearly a) : ruleYearlyB a = true := by
  unfold ruleYearlyB
  rw [List.all_eq_true]
  intro k _
  exact decide_eq_true (h (2000 + (k : Int)))

theorem insideYear_of_B' (a : Alt) (h : insideYearB a = true) : InsideYear a := by
  intro y
  show InsideYearAt a y
  apply all_years (InsideYearAt a) (insideYearAt_add400 a)
  intro k hk
  have := List.all_eq_true.mp h k (List.mem_range.mpr hk)
  simpa using this

theorem insideYearB_of (a : Alt) (h : InsideYear a) : insideYearB a = true := by
  unfold insideYearB
  rw [List.all_eq_true]
  intro k _
  exact decide_eq_true (h (2000 + (k : Int)))

end Chrono.Proofs.TzL
