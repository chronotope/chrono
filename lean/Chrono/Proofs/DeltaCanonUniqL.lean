/- Helper lemmas for C06: a canonical text (Spec/DeltaCanonSpec.lean) is determined by the value the
reader of Spec/DeltaDisplaySpec.lean assigns to it.  Pure specification-side facts (no model involved). -/
import Chrono.Proofs.DeltaCanonL

namespace Chrono.Proofs.DeltaCanonUniq
open Chrono Chrono.Spec Chrono.Proofs

/-- value of a digit string, as the reader accumulates it -/
def stepV (v c : Nat) : Nat := v * 10 + (c - 48)
def dval (ds : List Nat) : Nat := ds.foldl stepV 0
def lastD (l : Nat) (ds : List Nat) : Nat := ds.foldl (fun _ c => c - 48) l

theorem isDigit_bounds {c : Nat} (h : isDigit c = true) : 48 ≤ c ∧ c ≤ 57 := by
  simp only [isDigit, Bool.and_eq_true, decide_eq_true_eq] at h; exact h

/-- the reader on a run of digits followed by a non-digit (or the end) -/
theorem readDigits_run : ∀ (ds rest : List Nat) (v n l : Nat), (∀ c ∈ ds, isDigit c = true) →
    (rest = [] ∨ ∃ c t, rest = c :: t ∧ isDigit c = false) →
    readDigits (ds ++ rest) v n l = (ds.foldl stepV v, n + ds.length, lastD l ds, rest) := by
  intro ds
  induction ds with
  | nil =>
    intro rest v n l _ hr
    rcases hr with rfl | ⟨c, t, rfl, hc⟩
    · rfl
    · simp only [List.nil_append, List.foldl_nil, List.length_nil, Nat.add_zero, lastD]
      exact readDigits_stop c t v n l hc
  | cons d ds ih =>
    intro rest v n l hd hr
    have hd0 : isDigit d = true := hd d (List.mem_cons_self ..)
    rw [List.cons_append, readDigits_digit _ _ _ _ _ hd0,
      ih rest _ _ _ (fun c hc => hd c (List.mem_cons_of_mem _ hc)) hr]
    simp only [List.foldl_cons, List.length_cons, lastD, stepV]
    congr 2; omega

theorem foldl_stepV : ∀ (ds : List Nat) (v : Nat), (∀ c ∈ ds, isDigit c = true) →
    ds.foldl stepV v = v * 10 ^ ds.length + dval ds ∧ dval ds < 10 ^ ds.length := by
  intro ds
  induction ds with
  | nil => intro v _; simp [dval]
  | cons d ds ih =>
    intro v hd
    have hb := isDigit_bounds (hd d (List.mem_cons_self ..))
    have hds : ∀ c ∈ ds, isDigit c = true := fun c hc => hd c (List.mem_cons_of_mem _ hc)
    obtain ⟨e1, _⟩ := ih (v * 10 + (d - 48)) hds
    obtain ⟨e2, b2⟩ := ih (0 * 10 + (d - 48)) hds
    have ed : dval (d :: ds) = List.foldl stepV (0 * 10 + (d - 48)) ds := rfl
    have ef : List.foldl stepV v (d :: ds) = List.foldl stepV (v * 10 + (d - 48)) ds := rfl
    rw [ef, ed, e1, e2, List.length_cons, Nat.pow_succ]
    generalize 10 ^ ds.length = P at *
    generalize dval ds = r at *
    have h0 : (0 * 10 + (d - 48)) * P = (d - 48) * P := by rw [Nat.zero_mul, Nat.zero_add]
    have h1 : (v * 10 + (d - 48)) * P = v * (P * 10) + (d - 48) * P := by
      rw [Nat.add_mul, Nat.mul_assoc, Nat.mul_comm 10 P]
    have h2 : (d - 48) * P ≤ 9 * P := Nat.mul_le_mul_right P (by omega)
    constructor <;> omega

theorem dval_cons (d : Nat) (ds : List Nat) (hd : ∀ c ∈ d :: ds, isDigit c = true) :
    dval (d :: ds) = (d - 48) * 10 ^ ds.length + dval ds ∧ dval ds < 10 ^ ds.length := by
  have hds : ∀ c ∈ ds, isDigit c = true := fun c hc => hd c (List.mem_cons_of_mem _ hc)
  obtain ⟨e, b⟩ := foldl_stepV ds (0 * 10 + (d - 48)) hds
  have ed : dval (d :: ds) = List.foldl stepV (0 * 10 + (d - 48)) ds := rfl
  refine ⟨?_, b⟩
  rw [ed, e, Nat.zero_mul, Nat.zero_add]

theorem mul_add_inj (a b P r1 r2 : Nat) (h1 : r1 < P) (h2 : r2 < P) (h : a * P + r1 = b * P + r2) :
    a = b ∧ r1 = r2 := by
  rcases Nat.lt_trichotomy a b with hlt | heq | hgt
  · have : (a + 1) * P ≤ b * P := Nat.mul_le_mul_right P (by omega)
    rw [Nat.succ_mul] at this; omega
  · subst heq; omega
  · have : (b + 1) * P ≤ a * P := Nat.mul_le_mul_right P (by omega)
    rw [Nat.succ_mul] at this; omega

/-- digit strings of one length are determined by their value -/
theorem dval_inj : ∀ (ds1 ds2 : List Nat), (∀ c ∈ ds1, isDigit c = true) → (∀ c ∈ ds2, isDigit c = true) →
    ds1.length = ds2.length → dval ds1 = dval ds2 → ds1 = ds2 := by
  intro ds1
  induction ds1 with
  | nil => intro ds2 _ _ hl _; cases ds2 with
    | nil => rfl
    | cons _ _ => simp at hl
  | cons d1 t1 ih =>
    intro ds2 h1 h2 hl hv
    cases ds2 with
    | nil => simp at hl
    | cons d2 t2 =>
      have hl' : t1.length = t2.length := by simpa using hl
      obtain ⟨e1, b1⟩ := dval_cons d1 t1 h1
      obtain ⟨e2, b2⟩ := dval_cons d2 t2 h2
      rw [e1, e2, hl'] at hv
      rw [hl'] at b1
      obtain ⟨ha, hr⟩ := mul_add_inj _ _ _ _ _ b1 b2 hv
      have hb1 := isDigit_bounds (h1 d1 (List.mem_cons_self ..))
      have hb2 := isDigit_bounds (h2 d2 (List.mem_cons_self ..))
      have : d1 = d2 := by omega
      subst this
      rw [ih t2 (fun c hc => h1 c (List.mem_cons_of_mem _ hc)) (fun c hc => h2 c (List.mem_cons_of_mem _ hc)) hl' hr]

/-- a canonical numeral: `0`, or its value has exactly as many digits as the string -/
theorem canonInt_bounds (ds : List Nat) (h : canonInt ds) :
    (ds = [48] ∧ dval ds = 0) ∨ (1 ≤ ds.length ∧ 10 ^ (ds.length - 1) ≤ dval ds ∧ dval ds < 10 ^ ds.length) := by
  obtain ⟨hne, hd, hz⟩ := h
  cases ds with
  | nil => exact absurd rfl hne
  | cons d t =>
    by_cases h48 : d = 48
    · left
      have := hz (by rw [h48]; rfl)
      exact ⟨this, by rw [this]; rfl⟩
    · right
      obtain ⟨e, b⟩ := dval_cons d t hd
      have hb := isDigit_bounds (hd d (List.mem_cons_self ..))
      have h1 : 1 * 10 ^ t.length ≤ (d - 48) * 10 ^ t.length := Nat.mul_le_mul_right _ (by omega)
      have h9 : (d - 48) * 10 ^ t.length ≤ 9 * 10 ^ t.length := Nat.mul_le_mul_right _ (by omega)
      simp only [List.length_cons, Nat.add_sub_cancel, Nat.pow_succ]
      rw [e]
      refine ⟨by omega, by omega, by omega⟩

theorem canonInt_inj (ds1 ds2 : List Nat) (h1 : canonInt ds1) (h2 : canonInt ds2)
    (hv : dval ds1 = dval ds2) : ds1 = ds2 := by
  rcases canonInt_bounds ds1 h1 with ⟨e1, v1⟩ | ⟨l1, lo1, hi1⟩ <;>
    rcases canonInt_bounds ds2 h2 with ⟨e2, v2⟩ | ⟨l2, lo2, hi2⟩
  · rw [e1, e2]
  · have : 0 < 10 ^ (ds2.length - 1) := Nat.pow_pos (by omega)
    omega
  · have : 0 < 10 ^ (ds1.length - 1) := Nat.pow_pos (by omega)
    omega
  · have hl : ds1.length = ds2.length := by
      rcases Nat.lt_trichotomy ds1.length ds2.length with h | h | h
      · have : 10 ^ ds1.length ≤ 10 ^ (ds2.length - 1) := Nat.pow_le_pow_right (by omega) (by omega)
        omega
      · exact h
      · have : 10 ^ ds2.length ≤ 10 ^ (ds1.length - 1) := Nat.pow_le_pow_right (by omega) (by omega)
        omega
    exact dval_inj ds1 ds2 h1.2.1 h2.2.1 hl hv

/-- the last digit of a non-empty digit string -/
theorem last_digit : ∀ (ds : List Nat) (v l : Nat), ds ≠ [] → (∀ c ∈ ds, isDigit c = true) →
    ∃ c, ds.getLast? = some c ∧ (ds.foldl stepV v) % 10 = c - 48 ∧ lastD l ds = c - 48 := by
  intro ds
  induction ds with
  | nil => intro v l h; exact absurd rfl h
  | cons d t ih =>
    intro v l _ hd
    cases t with
    | nil =>
      have hb := isDigit_bounds (hd d (List.mem_cons_self ..))
      refine ⟨d, rfl, ?_, rfl⟩
      simp only [List.foldl_cons, List.foldl_nil, stepV]; omega
    | cons d' t' =>
      obtain ⟨c, g1, g2, g3⟩ := ih (stepV v d) (d - 48) (by simp) (fun c hc => hd c (List.mem_cons_of_mem _ hc))
      refine ⟨c, ?_, ?_, ?_⟩
      · rw [List.getLast?_cons_cons]; exact g1
      · simpa only [List.foldl_cons] using g2
      · simpa only [lastD, List.foldl_cons] using g3

/-- value of a canonical fraction in nanoseconds -/
def fval : List Nat → Nat
  | [] => 0
  | _ :: ds => dval ds * 10 ^ (9 - ds.length)

/-- a number not divisible by 10 and the power of 10 it is multiplied by are determined by the product -/
theorem mul_pow10_inj (v1 v2 : Nat) (h1 : v1 % 10 ≠ 0) (h2 : v2 % 10 ≠ 0) :
    ∀ a b : Nat, v1 * 10 ^ a = v2 * 10 ^ b → a = b ∧ v1 = v2 := by
  intro a
  induction a with
  | zero =>
    intro b h
    cases b with
    | zero => exact ⟨rfl, by omega⟩
    | succ b => rw [Nat.pow_succ, ← Nat.mul_assoc] at h; omega
  | succ a ih =>
    intro b h
    cases b with
    | zero => rw [Nat.pow_succ, ← Nat.mul_assoc] at h; omega
    | succ b =>
      rw [Nat.pow_succ, Nat.pow_succ, ← Nat.mul_assoc, ← Nat.mul_assoc] at h
      obtain ⟨e, hv⟩ := ih b (Nat.eq_of_mul_eq_mul_right (by omega) h)
      exact ⟨by omega, hv⟩

/-- facts about the digits of a canonical fraction -/
theorem frac_digits (ds : List Nat) (h1 : 1 ≤ ds.length) (hd : ∀ c ∈ ds, isDigit c = true)
    (hl : ds.getLast? ≠ some 48) :
    dval ds < 10 ^ ds.length ∧ dval ds % 10 ≠ 0 ∧ lastD 0 ds ≠ 0 := by
  obtain ⟨_, b⟩ := foldl_stepV ds 0 hd
  have hne : ds ≠ [] := by intro h; rw [h] at h1; simp at h1
  obtain ⟨c, g1, g2, g3⟩ := last_digit ds 0 0 hne hd
  have hc : c ≠ 48 := by intro h; rw [h] at g1; exact hl g1
  have hb := isDigit_bounds (hd c (List.mem_of_getLast? g1))
  refine ⟨b, ?_, ?_⟩
  · show (ds.foldl stepV 0) % 10 ≠ 0
    omega
  · omega

theorem fval_spec (fr : List Nat) (h : canonFrac fr) :
    fval fr < 1000000000 ∧ (fval fr = 0 ↔ fr = []) := by
  rcases h with rfl | ⟨ds, rfl, h1, h9, hd, hl⟩
  · exact ⟨by decide, by simp [fval]⟩
  · obtain ⟨b, m, _⟩ := frac_digits ds h1 hd hl
    have hp : 0 < 10 ^ (9 - ds.length) := Nat.pow_pos (by omega)
    simp only [fval]
    constructor
    · have := Nat.mul_lt_mul_of_pos_right b hp
      rwa [← Nat.pow_add, Nat.add_sub_cancel' h9] at this
    · refine ⟨fun hz => ?_, fun hh => by cases hh⟩
      rcases Nat.mul_eq_zero.mp hz with h0 | h0 <;> omega

theorem fval_inj (fr1 fr2 : List Nat) (h1 : canonFrac fr1) (h2 : canonFrac fr2) (hv : fval fr1 = fval fr2) :
    fr1 = fr2 := by
  have s1 := fval_spec fr1 h1
  have s2 := fval_spec fr2 h2
  rcases h1 with rfl | ⟨ds1, rfl, a1, a9, ad, al⟩
  · exact (s2.2.mp (by rw [← hv]; rfl)).symm
  rcases h2 with rfl | ⟨ds2, rfl, b1, b9, bd, bl⟩
  · exact s1.2.mp (by rw [hv]; rfl)
  obtain ⟨_, m1, _⟩ := frac_digits ds1 a1 ad al
  obtain ⟨_, m2, _⟩ := frac_digits ds2 b1 bd bl
  -- neither value ends in 0, so equal products with powers of 10 have equal factors
  obtain ⟨hl, hd⟩ := mul_pow10_inj _ _ m1 m2 _ _ hv
  rw [dval_inj ds1 ds2 ad bd (by omega) hd]

/-- what the reader makes of the body of a canonical text -/
theorem readBody_canon (ip fr : List Nat) (hi : canonInt ip) (hf : canonFrac fr) :
    readBody (84 :: (ip ++ fr ++ [83])) = some (dval ip * 1000000000 + fval fr) := by
  obtain ⟨hne, hd, _⟩ := hi
  have hlen : 0 + ip.length ≠ 0 := by
    cases ip with
    | nil => exact absurd rfl hne
    | cons _ _ => simp
  rcases hf with rfl | ⟨ds, rfl, h1, h9, hdd, hl⟩
  · rw [List.append_nil]
    have h := readDigits_run ip [83] 0 0 0 hd (Or.inr ⟨83, [], rfl, by decide⟩)
    rw [readBody_int _ _ _ _ h hlen]
    simp only [fval, dval, Nat.add_zero]
  · have e : ip ++ 46 :: ds ++ [83] = ip ++ 46 :: (ds ++ [83]) := by simp
    rw [e]
    have h := readDigits_run ip (46 :: (ds ++ [83])) 0 0 0 hd (Or.inr ⟨46, _, rfl, by decide⟩)
    have h2 := readDigits_run ds [83] 0 0 0 hdd (Or.inr ⟨83, [], rfl, by decide⟩)
    obtain ⟨_, _, l0⟩ := frac_digits ds h1 hdd hl
    rw [readBody_frac _ _ _ _ _ _ _ _ h hlen h2 (by omega) l0]
    simp only [fval, dval, Nat.zero_add]

theorem canon_value_pos (ip fr : List Nat) (hi : canonInt ip) (hf : canonFrac fr)
    (hnz : ¬ (ip = [48] ∧ fr = [])) : 0 < dval ip * 1000000000 + fval fr := by
  by_cases hfr : fr = []
  · rcases canonInt_bounds ip hi with ⟨e, _⟩ | ⟨_, lo, _⟩
    · exact absurd ⟨e, hfr⟩ hnz
    · have : 0 < 10 ^ (ip.length - 1) := Nat.pow_pos (by omega)
      omega
  · have := (fval_spec fr hf).2
    have : fval fr ≠ 0 := fun h => hfr (this.mp h)
    omega

/-- a canonical text is read as the positive value of its parts, with the sign it shows -/
theorem canonText_read (neg : Bool) (t : List Nat) (h : canonText neg t) :
    ∃ ip fr, canonInt ip ∧ canonFrac fr ∧
      t = (if neg then [45] else []) ++ [80, 84] ++ ip ++ fr ++ [83] ∧
      0 < dval ip * 1000000000 + fval fr ∧
      readDuration t = some (if neg then -((dval ip * 1000000000 + fval fr : Nat) : Int)
        else (dval ip * 1000000000 + fval fr : Nat)) := by
  obtain ⟨ip, fr, e, hi, hf, hnz⟩ := h
  refine ⟨ip, fr, hi, hf, e, canon_value_pos ip fr hi hf hnz, ?_⟩
  subst e
  cases neg
  · have : (if false = true then [45] else []) ++ [80, 84] ++ ip ++ fr ++ [83] =
        80 :: 84 :: (ip ++ fr ++ [83]) := by simp
    rw [this, readDuration_pos, readBody_canon ip fr hi hf]; simp
  · have : (if true = true then [45] else []) ++ [80, 84] ++ ip ++ fr ++ [83] =
        45 :: 80 :: 84 :: (ip ++ fr ++ [83]) := by simp
    rw [this, readDuration_neg, readBody_canon ip fr hi hf]; simp

theorem canon_unique (n1 n2 : Bool) (t1 t2 : List Nat) (h1 : canonText n1 t1) (h2 : canonText n2 t2)
    (hv : readDuration t1 = readDuration t2) : t1 = t2 := by
  obtain ⟨ip1, fr1, i1, f1, e1, p1, r1⟩ := canonText_read n1 t1 h1
  obtain ⟨ip2, fr2, i2, f2, e2, p2, r2⟩ := canonText_read n2 t2 h2
  rw [r1, r2, Option.some.injEq] at hv
  -- positive values: equal signed values have equal signs and equal magnitudes
  have hn : n1 = n2 ∧ dval ip1 * 1000000000 + fval fr1 = dval ip2 * 1000000000 + fval fr2 := by
    cases n1 <;> cases n2 <;> simp only [Bool.false_eq_true, if_false, if_true] at hv
    · exact ⟨rfl, by omega⟩
    · omega
    · omega
    · exact ⟨rfl, by omega⟩
  obtain ⟨ha, hb⟩ := mul_add_inj _ _ _ _ _ (fval_spec fr1 f1).1 (fval_spec fr2 f2).1 hn.2
  rw [e1, e2, hn.1, canonInt_inj ip1 ip2 i1 i2 ha, fval_inj fr1 fr2 f1 f2 hb]

theorem canon_ne_zero (n : Bool) (t : List Nat) (h : canonText n t) : readDuration t ≠ some 0 := by
  obtain ⟨ip, fr, _, _, _, p, r⟩ := canonText_read n t h
  rw [r, Ne, Option.some.injEq]
  cases n <;> simp only [Bool.false_eq_true, if_false, if_true] <;> omega

end Chrono.Proofs.DeltaCanonUniq
