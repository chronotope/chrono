/-
  `impl Add<core::time::Duration>` / `impl Sub<core::time::Duration> for NaiveTime` (src/naive/time/mod.rs): the
  two bodies differ only in the signed operation they end with; what they share is proved here once.
-/
import Chrono.Props.GenTime
import Chrono.Proofs.TimestampL

namespace Chrono.Proofs.GenStdDurL
open Chrono Chrono.M Chrono.Extracted Chrono.Proofs.GenL Chrono.Proofs.GenTimeL Chrono.Props

/-- a `Delta` built by `Delta.new` has fields in the machine ranges -/
theorem new_fields {s n : Int} {d : Delta} (h : Delta.new s n = some d)
    (hs : -9223372036854775808 ≤ s ∧ s ≤ 9223372036854775807) (hn : -2147483648 ≤ n ∧ n ≤ 2147483647) :
    DFields d := by
  unfold Delta.new at h
  split at h
  · exact absurd h (by simp)
  · cases h; exact ⟨hs, hn⟩

theorem std_reduce_range (secs : Int) (h : 0 ≤ secs) : 0 ≤ Time.std_reduce secs ∧ Time.std_reduce secs < 172800 := by
  unfold Time.std_reduce; split <;> omega

/-- the `u64` seconds are reduced below two days (in the code once in each branch of the test, in the model by
`Time.std_reduce`), a `TimeDelta` is built from them, and the signed operation takes over: `G` in the code, `M` in
the model -/
theorem std_body (G : Gen.time_delta.TimeDelta → Res Gen.naive_time.NaiveTime) (M : Delta → Res Time)
    (hGM : ∀ d, DFields d → G (dG d) = rmap tG (M d)) (secs nanos : Int)
    (hs : 0 ≤ secs ∧ secs ≤ 18446744073709551615) (hn : 0 ≤ nanos ∧ nanos < 1000000000) :
    (if secs ≥ 86400 then
        Res.bind (ckU64 (secs % 86400 + 86400)) fun r1 =>
          match Gen.time_delta.TimeDelta.new (asI64 r1) nanos with
          | some d => G d
          | none => .panic
      else
        match Gen.time_delta.TimeDelta.new (asI64 secs) nanos with
        | some d => G d
        | none => .panic)
      = rmap tG (match Delta.new (Time.std_reduce secs) nanos with
        | some d => M d
        | none => .panic) := by
  have hr := std_reduce_range secs hs.1
  have key : ∀ s : Int, s = Time.std_reduce secs →
      (match Gen.time_delta.TimeDelta.new (asI64 s) nanos with
        | some d => G d
        | none => .panic) = rmap tG (match Delta.new (Time.std_reduce secs) nanos with
        | some d => M d
        | none => .panic) := by
    intro s e
    rw [e, Proofs.Ts.asI64_id (by omega) (by omega), GenDelta.gen_new_eq _ nanos hn.1 (by omega)]
    cases hnew : Delta.new (Time.std_reduce secs) nanos with
    | none => rfl
    | some d => exact hGM d (new_fields hnew (by omega) (by omega))
  by_cases hge : secs ≥ 86400
  · rw [if_pos hge, Proofs.Ts.ckU64_ok (by omega) (by omega)]
    exact key _ (by unfold Time.std_reduce; rw [if_pos hge])
  · rw [if_neg hge]
    exact key _ (by unfold Time.std_reduce; rw [if_neg hge])

end Chrono.Proofs.GenStdDurL
