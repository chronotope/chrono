/- Helper lemmas for C16, part 3: the cursor primitives and the small readers (sign, designation, tag) on
   inputs of a known shape; the decimal digits the writer emits. -/
import Chrono.Proofs.TzL

namespace Chrono.Proofs.Tz
open Chrono Chrono.M.Tz Chrono.Spec.Tz Chrono.Extracted.TzP

/-! ### lists -/
/-- `s` is empty or starts with a byte failing `p` -/
def StopAt (p : Nat → Bool) (s : List Nat) : Prop := ∀ b t, s = b :: t → p b = false

theorem stopAt_nil (p : Nat → Bool) : StopAt p [] := by intro b t h; cases h
theorem stopAt_cons {p : Nat → Bool} {b : Nat} {t : List Nat} (h : p b = false) : StopAt p (b :: t) := by
  intro b' t' e; cases e; exact h

theorem takeWhile_append_stop (p : Nat → Bool) (ds rest : List Nat) (h1 : ∀ d ∈ ds, p d = true)
    (h2 : StopAt p rest) : (ds ++ rest).takeWhile p = ds := by
  induction ds with
  | nil =>
    cases rest with
    | nil => rfl
    | cons b t => simp [List.takeWhile_cons, h2 b t rfl]
  | cons d ds ih =>
    have hd : p d = true := h1 d (by simp)
    simp only [List.cons_append, List.takeWhile_cons, hd, if_true]
    rw [ih (fun x hx => h1 x (List.mem_cons_of_mem _ hx))]

theorem read_exact_append (ds rest : List Nat) : read_exact (ds ++ rest) ds.length = .ok (ds, rest) := by
  unfold read_exact
  simp

theorem read_while_append (p : Nat → Bool) (ds rest : List Nat) (h1 : ∀ d ∈ ds, p d = true)
    (h2 : StopAt p rest) : read_while (ds ++ rest) p = .ok (ds, rest) := by
  unfold read_while
  rw [takeWhile_append_stop p ds rest h1 h2]
  exact read_exact_append ds rest

/-! ### decimal numbers -/
theorem digitsVal_snoc (s : List Nat) (x : Nat) : digitsVal (s ++ [x]) = digitsVal s * 10 + (x - 48) := by
  unfold digitsVal
  rw [List.foldl_append]
  rfl

theorem isDigit_digitChar (d : Nat) (h : d < 10) : isDigit (digitChar d) = true := by
  unfold isDigit digitChar
  have a : decide (48 ≤ 48 + d) = true := decide_eq_true (by omega)
  have b : decide (48 + d ≤ 57) = true := decide_eq_true (by omega)
  rw [a, b]; rfl

theorem renderNatAux_spec (fuel : Nat) : ∀ n, n < fuel →
    ∃ ds, ds ≠ [] ∧ (∀ d ∈ ds, isDigit d = true) ∧ digitsVal ds = n
      ∧ ∀ acc, renderNatAux fuel n acc = ds ++ acc := by
  induction fuel with
  | zero => intro n h; omega
  | succ fuel ih =>
    intro n hn
    by_cases h10 : n < 10
    · refine ⟨[digitChar n], by simp, ?_, ?_, ?_⟩
      · intro d hd; simp at hd; subst hd; exact isDigit_digitChar n h10
      · simp [digitsVal, digitChar]
      · intro acc; simp [renderNatAux, h10]
    · obtain ⟨ds, h1, h2, h3, h4⟩ := ih (n / 10) (by omega)
      refine ⟨ds ++ [digitChar (n % 10)], by simp, ?_, ?_, ?_⟩
      · intro d hd
        simp only [List.mem_append, List.mem_singleton] at hd
        rcases hd with hd | rfl
        · exact h2 d hd
        · exact isDigit_digitChar _ (by omega)
      · rw [digitsVal_snoc, h3]
        simp [digitChar]; omega
      · intro acc
        simp only [renderNatAux, h10, if_false]
        rw [h4]; simp

theorem renderNat_spec (n : Nat) :
    renderNat n ≠ [] ∧ (∀ d ∈ renderNat n, isDigit d = true) ∧ digitsVal (renderNat n) = n := by
  obtain ⟨ds, h1, h2, h3, h4⟩ := renderNatAux_spec (n + 1) n (by omega)
  have e : renderNat n = ds := by unfold renderNat; rw [h4]; simp
  rw [e]
  exact ⟨h1, h2, h3⟩

/-! ### `hh[:mm[:ss]]` -/
def isColon (b : Nat) : Bool := b == 58

theorem rot_yes (b : Nat) (t : List Nat) : read_optional_tag (b :: t) [b] = .ok (true, t) := by
  simp [read_optional_tag, List.isPrefixOf, read_exact]

theorem rot_no (tag : Nat) (rest : List Nat) (h : StopAt (fun b => b == tag) rest) :
    read_optional_tag rest [tag] = .ok (false, rest) := by
  cases rest with
  | nil => simp [read_optional_tag, List.isPrefixOf]
  | cons b t =>
    have hb : (b == tag) = false := h b t rfl
    have hne : ¬ tag = b := by
      intro e; subst e; simp at hb
    simp [read_optional_tag, List.isPrefixOf, hne]

theorem digit_ne_colon : isDigit 58 = false := by decide

/-- `rest` starts neither with a digit nor with a colon (or is empty) -/
def StopH (rest : List Nat) : Prop := StopAt isDigit rest ∧ StopAt (fun b => b == 58) rest

/-! ### signed forms -/
theorem peek_cons (b : Nat) (t : List Nat) : peek (b :: t) = some b := rfl

theorem parse_sign_minus (t : List Nat) : parse_sign (45 :: t) = .ok (-1, t) := by
  simp [parse_sign, peek, read_exact]

theorem parse_sign_other (b : Nat) (t : List Nat) (h1 : b ≠ 43) (h2 : b ≠ 45) :
    parse_sign (b :: t) = .ok (1, b :: t) := by
  unfold parse_sign
  rw [peek_cons]
  split
  · rename_i e; injection e with e; exact absurd e h1
  · rename_i e; injection e with e; exact absurd e h2
  · rfl

theorem isDigit_bounds {d : Nat} (h : isDigit d = true) : 48 ≤ d ∧ d ≤ 57 := by
  unfold isDigit at h
  simp only [Bool.and_eq_true] at h
  exact ⟨of_decide_eq_true h.1, of_decide_eq_true h.2⟩

/-! ### designations -/
theorem alpha_ne_lt {a : Nat} (h : isAlpha a = true) : a ≠ 60 := by
  intro e; subst e; revert h; decide

theorem nameChar_ne_gt {a : Nat} (h : nameChar a = true) : a ≠ 62 := by
  intro e; subst e; revert h; decide

theorem parse_name_bare (n rest : List Nat) (hne : n ≠ []) (ha : ∀ d ∈ n, isAlpha d = true)
    (st : StopAt isAlpha rest) : parse_name (n ++ rest) = .ok (n, rest) := by
  cases n with
  | nil => exact absurd rfl hne
  | cons a n' =>
    have ha0 : isAlpha a = true := ha a (by simp)
    unfold parse_name
    simp only [List.cons_append, peek_cons]
    split
    · rename_i e; injection e with e; exact absurd e (alpha_ne_lt ha0)
    · exact read_while_append isAlpha (a :: n') rest ha st

theorem read_exact_one (b : Nat) (t : List Nat) : read_exact (b :: t) 1 = .ok ([b], t) := by
  simp [read_exact]

theorem parse_name_quoted (n rest : List Nat) (hn : ∀ d ∈ n, nameChar d = true) :
    parse_name (60 :: (n ++ 62 :: rest)) = .ok (n, rest) := by
  unfold parse_name
  simp only [peek_cons]
  have hu : read_until (n ++ 62 :: rest) (fun x => x == 62) = .ok (n, 62 :: rest) := by
    unfold read_until
    rw [takeWhile_append_stop (fun b => !(b == 62)) n (62 :: rest) ?_ (stopAt_cons (by decide))]
    · exact read_exact_append n _
    · intro d hd
      have := nameChar_ne_gt (hn d hd)
      simp [this]
  simp only [read_exact_one, hu, bind, P.bind]

theorem ltt_new_ok (off : Int) (dst : Bool) (n : List Nat) (ho : -86400 < off ∧ off < 86400) (hn : NameOk n) :
    Ltt.new off dst (some n) = .ok ⟨off, dst, some n⟩ := by
  obtain ⟨h1, h2, h3⟩ := hn
  have k1 : NAME_MIN = 3 := rfl
  have k2 : NAME_MAX = 7 := rfl
  unfold Ltt.new TimeZoneName.new
  rw [if_neg (by omega)]
  simp only
  rw [range_pass (by omega)]
  rw [if_pos h3]

/-! ### rule days -/
theorem digit_ne_dot : isDigit 46 = false := by decide
theorem digit_ne_slash : isDigit 47 = false := by decide
theorem digit_ne_comma : isDigit 44 = false := by decide

theorem read_tag_one (b : Nat) (t : List Nat) : read_tag (b :: t) [b] = .ok t := by
  simp [read_tag, read_exact]

/-! ### digits, letters and the bytes that end a field -/
theorem digit_not_alpha {b : Nat} (h : isDigit b = true) : isAlpha b = false := by
  have hb := isDigit_bounds h
  cases ha : isAlpha b with
  | false => rfl
  | true =>
    exfalso
    unfold isAlpha at ha
    simp only [Bool.or_eq_true, Bool.and_eq_true] at ha
    rcases ha with ⟨h1, _⟩ | ⟨h1, _⟩
    · have := of_decide_eq_true h1; omega
    · have := of_decide_eq_true h1; omega

theorem alpha_not_digit {b : Nat} (h : isAlpha b = true) : isDigit b = false := by
  cases hd : isDigit b with
  | false => rfl
  | true => rw [digit_not_alpha hd] at h; cases h

theorem stopH_nil : StopH [] := ⟨stopAt_nil _, stopAt_nil _⟩
theorem stopH_comma (t : List Nat) : StopH (44 :: t) :=
  ⟨stopAt_cons (by decide), stopAt_cons (by decide)⟩

theorem lttOk_elim {t : Ltt} {dst : Bool} (h : LttOk t dst) :
    ∃ n, t = ⟨t.off, dst, some n⟩ ∧ NameOk n ∧ -86400 < t.off ∧ t.off < 86400 := by
  obtain ⟨off, d, name⟩ := t
  obtain ⟨h1, h2, h3, h4⟩ := h
  dsimp only at h1 h2 h3 h4
  cases name with
  | none => exact h2.elim
  | some n => subst h1; exact ⟨n, rfl, h2, h3, h4⟩

end Chrono.Proofs.Tz
