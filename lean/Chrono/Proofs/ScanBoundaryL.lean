/-
  C15, byte level: every scanning primitive of src/format/scan.rs and every slicing step of
  src/format/parse.rs consumes a whole number of characters of a well-formed UTF-8 input — matched ASCII
  bytes, whole white-space characters, U+2212, a well-formed literal, or bytes up to and including an ASCII
  byte — so the byte offset at which Rust slices (`&s[k..]`) is a char boundary and the slice cannot
  panic; the rest handed to the next primitive is again well-formed UTF-8.
  The part on parse.rs proves, in the same pass, that every field record the item-driven parser, the
  RFC 2822 scanner and the two RFC 3339 scanners can build holds values of the Rust field types
  (`Spec.InType`), whatever the text and whatever the items.
  Namespace `Chrono.Proofs.ScanBoundary`.
-/
import Chrono.Proofs.Utf8L
import Chrono.Proofs.Rfc2822InvL
import Chrono.Proofs.ParseInTypeL
import Chrono.Model.ScanSlices

namespace Chrono.Proofs.ScanBoundary
open Chrono Chrono.M Chrono.M.Scan Chrono.M.Parse Chrono.M.Tz Chrono.Spec.Utf8 Chrono.Proofs.Utf8
open Chrono.Spec.Rfc2822 Chrono.Proofs.Rfc2822

/-! ### white space, colons, digits -/

theorem ws_valid : ∀ w ∈ WS, validUtf8 w = true := by decide

theorem Ws_valid (w : List Nat) (h : Ws w) : validUtf8 w = true := by
  induction h with
  | nil => rfl
  | cons w r hw _ ih => exact valid_append _ w r (Nat.le_refl _) (ws_valid w hw) ih

theorem trimStart_bs (s : List Nat) : BoundarySuffix s (trimStart s) := by
  obtain ⟨w, hw, hs, _⟩ := trimStart_inv s
  exact ⟨w, hs, Ws_valid w hw⟩

theorem space_bs (s r : List Nat) (h : space s = .ok r) : BoundarySuffix s r := by
  obtain ⟨w, ⟨x, y, hx, hy, rfl⟩, hs, _⟩ := space_inv s r h
  exact ⟨x ++ y, hs, Ws_valid _ (Ws.cons x y hx hy)⟩

theorem char_bs (s r : List Nat) (c : Nat) (hc : c < 128) (h : Scan.char s c = .ok r) : BoundarySuffix s r := by
  rw [char_inv s r c h]; exact bs_cons c r hc

theorem wsLen_bs (s : List Nat) (h : wsLen s ≠ 0) : BoundarySuffix s (s.drop (wsLen s)) := by
  obtain ⟨w, r, hw, hs, hl⟩ := wsLen_inv s h
  rw [hl, hs, List.drop_left]
  exact ⟨w, rfl, ws_valid w hw⟩

theorem colonOrSpaceAux_bs : ∀ (fuel : Nat) (s : List Nat), BoundarySuffix s (colonOrSpaceAux fuel s) := by
  intro fuel
  induction fuel with
  | zero => intro s; exact bs_refl s
  | succ f ih =>
    intro s
    unfold colonOrSpaceAux
    split
    · rename_i rest
      exact bs_trans (bs_cons 58 rest (by omega)) (ih rest)
    · simp only
      split
      · exact bs_refl s
      · rename_i h0
        exact bs_trans (wsLen_bs s h0) (ih _)

theorem colon_or_space_bs (s : List Nat) : BoundarySuffix s (colon_or_space s) := colonOrSpaceAux_bs _ s

theorem digits_lt (ds : List Nat) (h : Digits ds) : ∀ b ∈ ds, b < 128 := by
  intro b hb; have := h b hb; omega

theorem numberAux_bs (s : List Nat) (i min : Nat) (max : Option Nat) (n : Int) (rest : List Nat) (v : Int)
    (hm : ∀ m, max = some m → i ≤ m ∧ min ≤ m) (h : numberAux s i min max n = .ok (rest, v)) :
    BoundarySuffix s rest := by
  obtain ⟨ds, hd, hs, _⟩ := numberAux_inv s i min max n rest v hm h
  rw [hs]; exact bs_ascii ds rest (digits_lt ds hd)

/-- `scan::number` (called with `min ≤ max`, asserted in the Rust code) -/
theorem number_bs (s : List Nat) (min : Nat) (max : Option Nat) (rest : List Nat) (v : Int)
    (hmm : ∀ m, max = some m → min ≤ m) (h : number s min max = .ok (rest, v)) : BoundarySuffix s rest := by
  obtain ⟨ds, hd, hs, _⟩ := number_inv s min max rest v hmm h
  rw [hs]; exact bs_ascii ds rest (digits_lt ds hd)

theorem dropDigits_bs : ∀ s : List Nat, BoundarySuffix s (dropDigits s) := by
  intro s
  induction s with
  | nil => exact bs_refl []
  | cons b t ih =>
    unfold dropDigits
    split
    · rename_i hb
      have := digit_of_isDigit hb
      exact bs_trans (bs_cons b t (by omega)) ih
    · exact bs_refl _

theorem nanosecond_bs (s rest : List Nat) (v : Int) (h : nanosecond s = .ok (rest, v)) : BoundarySuffix s rest := by
  unfold nanosecond at h
  split at h
  · cases h
  · rename_i r1 v1 hn
    simp only at h
    split at h
    · cases h
    · injection h with h; injection h with h1 _
      rw [← h1]
      exact bs_trans (number_bs s 1 (some 9) r1 v1 (by intro m hm; injection hm with hm; omega) hn) (dropDigits_bs r1)

theorem nanosecond_fixed_bs (s : List Nat) (d : Nat) (rest : List Nat) (v : Int)
    (h : nanosecond_fixed s d = .ok (rest, v)) : BoundarySuffix s rest := by
  unfold nanosecond_fixed at h
  split at h
  · cases h
  · rename_i r1 v1 hn
    simp only at h
    split at h
    · cases h
    · injection h with h; injection h with h1 _
      rw [← h1]
      exact number_bs s d (some d) r1 v1 (by intro m hm; injection hm with hm; omega) hn

/-! ### names -/

theorem lower_lt (b : Nat) (h : lower b < 128) : b < 128 := by
  unfold lower at h; split at h <;> omega

theorem lowerB_lt (b : Nat) (h : lowerB b < 128) : b < 128 := by
  unfold lowerB at h; split at h <;> omega

theorem caseOf_ascii (word v : List Nat) (hw : ∀ b ∈ word, b < 128) (h : CaseOf word v) : ∀ b ∈ v, b < 128 := by
  intro b hb
  unfold CaseOf at h
  have : lower b ∈ word := by rw [← h]; exact List.mem_map_of_mem hb
  exact lower_lt b (hw _ this)

/-- an entry of a table of ASCII words, or the default `[]` for an index off the table -/
theorem getD_ascii (tbl : List (List Nat)) (h : ∀ w ∈ tbl, ∀ b ∈ w, b < 128) (i : Nat) :
    ∀ b ∈ tbl.getD i [], b < 128 := by
  rw [List.getD_eq_getElem?_getD]
  cases hi : tbl[i]? with
  | none => exact fun _ hb => nomatch hb
  | some w => exact h w (List.mem_of_getElem? hi)

theorem names_ascii : (∀ i, ∀ b ∈ dayNames.getD i [], b < 128) ∧ (∀ i, ∀ b ∈ monthNames.getD i [], b < 128) :=
  ⟨getD_ascii _ (by decide), getD_ascii _ (by decide)⟩

theorem short_weekday_bs (s rest : List Nat) (w : Weekday) (h : short_weekday s = .ok (rest, w)) :
    BoundarySuffix s rest := by
  obtain ⟨i, v, _, hc, hs, _⟩ := short_weekday_inv s rest w h
  rw [hs]; exact bs_ascii v rest (caseOf_ascii _ v (names_ascii.1 i) hc)

theorem short_month0_bs (s rest : List Nat) (i : Nat) (h : short_month0 s = .ok (rest, i)) :
    BoundarySuffix s rest := by
  obtain ⟨_, v, hc, hs⟩ := short_month0_inv s rest i h
  rw [hs]; exact bs_ascii v rest (caseOf_ascii _ v (names_ascii.2 i) hc)

/-- bytes that equal ASCII bytes up to ASCII case are ASCII, so a prefix matched in this way can be sliced off -/
theorem drop_lower_bs (s suffix : List Nat) (hs : ∀ b ∈ suffix, b < 128)
    (hc : lowerS (s.take suffix.length) = lowerS suffix) : BoundarySuffix s (s.drop suffix.length) := by
  refine ⟨s.take suffix.length, (List.take_append_drop _ _).symm, valid_ascii _ fun b hb => lowerB_lt b ?_⟩
  have hm : lowerB b ∈ lowerS suffix := by rw [← hc]; exact List.mem_map_of_mem hb
  obtain ⟨x, hx, hxe⟩ := List.mem_map.mp hm
  have hxl := hs x hx
  rw [← hxe]
  unfold lowerB; split <;> omega

theorem eatSuffix_bs (s suffix : List Nat) (hs : ∀ b ∈ suffix, b < 128) : BoundarySuffix s (eatSuffix s suffix) := by
  unfold eatSuffix
  split
  · rename_i hc; exact drop_lower_bs s suffix hs hc.2
  · exact bs_refl s

theorem suffix_tables_ascii :
    (∀ i, ∀ b ∈ Extracted.LONG_MONTH_SUFFIXES.getD i [], b < 128) ∧
    (∀ i, ∀ b ∈ Extracted.LONG_WEEKDAY_SUFFIXES.getD i [], b < 128) :=
  ⟨getD_ascii _ (by decide), getD_ascii _ (by decide)⟩

theorem short_or_long_month0_bs (s rest : List Nat) (i : Nat) (h : short_or_long_month0 s = .ok (rest, i)) :
    BoundarySuffix s rest := by
  unfold short_or_long_month0 at h
  split at h
  · rename_i r j hj
    injection h with h; injection h with h1 _
    rw [← h1]
    exact bs_trans (short_month0_bs s r j hj) (eatSuffix_bs r _ (suffix_tables_ascii.1 j))
  · cases h

theorem short_or_long_weekday_bs (s rest : List Nat) (w : Weekday) (h : short_or_long_weekday s = .ok (rest, w)) :
    BoundarySuffix s rest := by
  unfold short_or_long_weekday at h
  split at h
  · rename_i r j hj
    injection h with h; injection h with h1 _
    rw [← h1]
    exact bs_trans (short_weekday_bs s r j hj) (eatSuffix_bs r _ (suffix_tables_ascii.2 _))
  · cases h

/-! ### offsets -/

open Chrono.M.Rfc3339Slices (tzZulu tzSign tzMins)

/-- the last stage of `scan::timezone_offset` (the others are named in Model/Rfc3339Slices.lean) -/
def tzRest (s : List Nat) : PRes (List Nat) :=
  if s.length ≥ 2 then .ok (s.drop 2) else if s.length = 0 then .ok s else .error .tooShort

theorem timezone_offset_eq (s : List Nat) (cm : ColonMode) (z mm ms : Bool) :
    timezone_offset s cm z mm ms =
      match tzZulu s z with
      | some rest => .ok (rest, 0)
      | none =>
        match tzSign s ms with
        | .error e => .error e
        | .ok (s, negative) =>
          match s with
          | h1 :: h2 :: s =>
            if Scan.isDigit h1 && Scan.isDigit h2 then
              match consumeColon cm s with
              | .error e => .error e
              | .ok s =>
                match tzMins s mm with
                | .error e => .error e
                | .ok minutes =>
                  match tzRest s with
                  | .error e => .error e
                  | .ok s' =>
                    .ok (s', if negative
                      then -((((h1 - 48) * 10 + (h2 - 48) : Nat) : Int) * 3600 + minutes * 60)
                      else (((h1 - 48) * 10 + (h2 - 48) : Nat) : Int) * 3600 + minutes * 60)
            else .error .invalid
          | _ => .error .tooShort := rfl

theorem tzZulu_bs (s : List Nat) (z : Bool) (r : List Nat) (h : tzZulu s z = some r) : BoundarySuffix s r := by
  unfold tzZulu at h
  split at h
  · split at h
    · injection h with h; subst h; exact bs_cons 90 _ (by omega)
    · injection h with h; subst h; exact bs_cons 122 _ (by omega)
    · cases h
  · cases h

theorem minus_sign_valid : validUtf8 [226, 136, 146] = true := by decide

theorem tzSign_bs (s : List Nat) (ms : Bool) (r : List Nat) (neg : Bool) (h : tzSign s ms = .ok (r, neg)) :
    BoundarySuffix s r := by
  unfold tzSign at h
  split at h
  · injection h with h; injection h with h _; subst h; exact bs_cons 43 _ (by omega)
  · injection h with h; injection h with h _; subst h; exact bs_cons 45 _ (by omega)
  · split at h
    · injection h with h; injection h with h _; subst h
      exact ⟨[226, 136, 146], rfl, minus_sign_valid⟩
    · cases h
  · cases h
  · cases h

theorem consumeColon_bs (cm : ColonMode) (s r : List Nat) (h : consumeColon cm s = .ok r) : BoundarySuffix s r := by
  cases cm
  · exact char_bs s r 58 (by omega) h
  · injection h with h; subst h; exact colon_or_space_bs s
  · injection h with h; subst h; exact bs_refl s

theorem tzRest_bs (s : List Nat) (mm : Bool) (v : Int) (r : List Nat) (hm : tzMins s mm = .ok v)
    (h : tzRest s = .ok r) : BoundarySuffix s r := by
  unfold tzRest at h
  split at h
  · rename_i hl
    injection h with h; subst h
    match s, hl, hm with
    | m1 :: m2 :: t, _, hm =>
      unfold tzMins at hm
      simp only at hm
      split at hm
      · rename_i hd
        have := digit_of_isDigit hd.2.2
        exact bs_ascii [m1, m2] t (by intro b hb; simp at hb; rcases hb with rfl | rfl <;> omega)
      · split at hm <;> cases hm
  · split at h
    · injection h with h; subst h; exact bs_refl _
    · cases h

/-- `scan::timezone_offset`, every colon mode and every flag combination -/
theorem timezone_offset_bs (s : List Nat) (cm : ColonMode) (z mm ms : Bool) (rest : List Nat) (off : Int)
    (h : timezone_offset s cm z mm ms = .ok (rest, off)) : BoundarySuffix s rest := by
  rw [timezone_offset_eq] at h
  split at h
  · rename_i r hz
    injection h with h; injection h with h _; subst h
    exact tzZulu_bs s z _ hz
  · split at h
    · cases h
    · rename_i s1 neg hs
      have b1 := tzSign_bs s ms s1 neg hs
      split at h
      · rename_i h1 h2 s2
        split at h
        · rename_i hd
          simp only [Bool.and_eq_true] at hd
          have d1 := digit_of_isDigit hd.1
          have d2 := digit_of_isDigit hd.2
          have b2 : BoundarySuffix (h1 :: h2 :: s2) s2 :=
            bs_ascii [h1, h2] s2 (by intro b hb; simp at hb; rcases hb with rfl | rfl <;> omega)
          split at h
          · cases h
          · rename_i s3 hc
            have b3 := consumeColon_bs cm s2 s3 hc
            split at h
            · cases h
            · rename_i mins hmin
              split at h
              · cases h
              · rename_i s4 hr
                injection h with h; injection h with h _; subst h
                exact bs_trans b1 (bs_trans b2 (bs_trans b3 (tzRest_bs s3 mm mins _ hmin hr)))
        · cases h
      · cases h

theorem takeAlpha_ascii (s : List Nat) : ∀ b ∈ (takeAlpha s).1, b < 128 := by
  intro b hb
  have := (takeAlpha_inv s).2 b hb
  unfold Spec.Rfc2822.isAlpha at this; omega

theorem takeAlpha_bs (s : List Nat) : BoundarySuffix s (takeAlpha s).2 :=
  ⟨(takeAlpha s).1, (takeAlpha_inv s).1, valid_ascii _ (takeAlpha_ascii s)⟩

/-- `scan::timezone_offset_2822` is the name table `ScanSlices.zoneName` after a run of letters, the
numeric form otherwise -/
theorem timezone_offset_2822_eq (s : List Nat) :
    timezone_offset_2822 s = if (takeAlpha s).1.length > 0 then ScanSlices.zoneName (takeAlpha s).1 (takeAlpha s).2
      else timezone_offset s .nothing false false false := by
  unfold timezone_offset_2822 ScanSlices.zoneName
  rfl

/-- the name table consumes nothing: each of its six tests and the single-letter arm return `rest` -/
theorem zoneName_rest (name rest : List Nat) : Ret (ScanSlices.zoneName name rest) fun q => q.1 = rest := by
  unfold ScanSlices.zoneName
  refine .ite (.ok rfl) <| .ite (.ok rfl) <| .ite (.ok rfl) <| .ite (.ok rfl) <| .ite (.ok rfl) <| .ite (.ok rfl) ?_
  split
  · exact .ite (.ok rfl) (.error _)
  · exact .error _

/-- `scan::timezone_offset_2822` -/
theorem timezone_offset_2822_bs (s rest : List Nat) (off : Int) (h : timezone_offset_2822 s = .ok (rest, off)) :
    BoundarySuffix s rest := by
  rw [timezone_offset_2822_eq] at h
  split at h
  · rw [show rest = (takeAlpha s).2 from zoneName_rest _ _ _ h]; exact takeAlpha_bs s
  · exact timezone_offset_bs s _ _ _ _ rest off h

/-! ### comments -/

/-- `scan::comment_2822`: the slice is taken right after the closing `)` — an ASCII byte — of a
well-formed input; the comment text before it may contain any characters -/
theorem comment_2822_bs (s rest : List Nat) (hv : validUtf8 s = true) (h : comment_2822 s = .ok rest) :
    BoundarySuffix s rest := by
  obtain ⟨w, a, _, _, hs⟩ := comment_inv s rest h
  have e : s = (w ++ 40 :: a) ++ 41 :: rest := by rw [hs]; simp
  refine ⟨(w ++ 40 :: a) ++ [41], by rw [e]; simp, ?_⟩
  rw [e] at hv
  exact valid_upto_ascii _ (w ++ 40 :: a) 41 rest (Nat.le_refl _) hv (by omega)

theorem commentsAux_bs : ∀ (fuel : Nat) (s : List Nat), validUtf8 s = true → BoundarySuffix s (commentsAux fuel s) := by
  intro fuel
  induction fuel with
  | zero => intro s _; exact bs_refl s
  | succ f ih =>
    intro s hv
    unfold commentsAux
    split
    · rename_i s' hc
      have b := comment_2822_bs s s' hv hc
      exact bs_trans b (ih s' (bs_valid_rest hv b))
    · exact bs_refl s

/-! ### `trim_start_matches(|c| !c.is_whitespace())`: whole characters -/

theorem drop_char_bs (b : Nat) (t : List Nat) (hv : validUtf8 (b :: t) = true) :
    BoundarySuffix (b :: t) ((b :: t).drop (charLen b)) := by
  obtain ⟨c, t', he, hc, _⟩ := (valid_cons_iff (b :: t) (by simp)).mp hv
  obtain ⟨b0, tl, hce, hl⟩ := isChar_len c hc
  have hb : b0 = b := by rw [hce] at he; injection he with he _; exact he.symm
  subst hb
  have : charLen b0 = c.length := by rw [hl]; rfl
  rw [this, he, List.drop_left]
  refine ⟨c, rfl, ?_⟩
  have := valid_char_append c [] hc
  rw [List.append_nil] at this
  rw [this]; rfl

theorem skipNonWsAux_bs : ∀ (fuel : Nat) (s : List Nat), validUtf8 s = true → BoundarySuffix s (skipNonWsAux fuel s) := by
  intro fuel
  induction fuel with
  | zero => intro s _; exact bs_refl s
  | succ f ih =>
    intro s hv
    unfold skipNonWsAux
    split
    · exact bs_refl _
    · rename_i b t
      split
      · exact bs_refl _
      · have b1 := drop_char_bs b t hv
        exact bs_trans b1 (ih _ (bs_valid_rest hv b1))

theorem skipNonWs_bs (s : List Nat) (hv : validUtf8 s = true) : BoundarySuffix s (skipNonWs s) :=
  skipNonWsAux_bs _ s hv

/-! ### src/format/parse.rs

Each function of parse.rs is gone through once, for both things C15 needs of it: the record it builds
stays in type, and the text it hands on is a boundary suffix of the text it was given. -/

open Chrono.Spec.Fields Chrono.Proofs.ParseInType

/-- from the state `c` (record, unread text) to the state `c'`: an in-type record stays in type, and what was
consumed is well-formed UTF-8 — with `v = true` this is claimed of a well-formed text only (`comment_2822`
and `%Z` skip arbitrary characters, so they need that) -/
def Adv (v : Bool) (c c' : Parsed × List Nat) : Prop :=
  (InType c.1 → InType c'.1) ∧ ((v = true → validUtf8 c.2 = true) → BoundarySuffix c.2 c'.2)

theorem Adv.of {v : Bool} {c c' : Parsed × List Nat} (h1 : InType c.1 → InType c'.1)
    (h2 : BoundarySuffix c.2 c'.2) : Adv v c c' := ⟨h1, fun _ => h2⟩

theorem Adv.refl {v : Bool} (c : Parsed × List Nat) : Adv v c c := .of id (bs_refl _)

theorem Adv.trans {v : Bool} {a b c : Parsed × List Nat} (h1 : Adv v a b) (h2 : Adv v b c) : Adv v a c :=
  ⟨h2.1 ∘ h1.1, fun hv => bs_trans (h1.2 hv) (h2.2 fun e => bs_valid_rest (hv e) (h1.2 hv))⟩

theorem Adv.text {v : Bool} {p : Parsed} {s s' : List Nat} (h : BoundarySuffix s s') : Adv v (p, s) (p, s') :=
  .of id h

/-- `Adv true` with the text half claimed under the further condition `G` (literals that are `&str`s) -/
def AdvIf (G : Prop) (c c' : Parsed × List Nat) : Prop :=
  (InType c.1 → InType c'.1) ∧ (G → validUtf8 c.2 = true → BoundarySuffix c.2 c'.2)

theorem Adv.toIf {G : Prop} {v : Bool} {c c' : Parsed × List Nat} (h : Adv v c c') : AdvIf G c c' :=
  ⟨h.1, fun _ hv => h.2 fun _ => hv⟩

/-- sequencing: `x` moves the state from `c` to `st a`, `f a` moves it on from there -/
theorem adv_bind {v : Bool} {α β : Type} {x : PRes α} {f : α → PRes β} {c : Parsed × List Nat}
    {st : α → Parsed × List Nat} {st' : β → Parsed × List Nat} (hx : Ret x fun a => Adv v c (st a))
    (hf : ∀ a, Ret (f a) fun b => Adv v (st a) (st' b)) : Ret (x >>= f) fun b => Adv v c (st' b) :=
  hx.bind fun a ha => (hf a).mono fun _ => ha.trans

/-- leading white space may be skipped first -/
theorem adv_trim {v : Bool} {α : Type} {x : PRes α} {p : Parsed} {s : List Nat} {st : α → Parsed × List Nat}
    (h : Ret x fun a => Adv v (p, trimStart s) (st a)) : Ret x fun a => Adv v (p, s) (st a) :=
  h.mono fun _ => (Adv.text (trimStart_bs s)).trans

/-- a step that only consumes text -/
theorem text_adv {v : Bool} {p : Parsed} {s : List Nat} {x : PRes (List Nat)}
    (h : ∀ s', x = .ok s' → BoundarySuffix s s') : Ret x fun s' => Adv v (p, s) (p, s') := fun s' e => .text (h s' e)

/-- a step that consumes text and yields a value -/
theorem val_adv {v : Bool} {α : Type} {p : Parsed} {s : List Nat} {x : PRes (List Nat × α)}
    (h : ∀ s' a, x = .ok (s', a) → BoundarySuffix s s') : Ret x fun q => Adv v (p, s) (p, q.1) :=
  fun q e => .text (h q.1 q.2 e)

/-- a step that only sets a field -/
theorem rec_adv {v : Bool} {p : Parsed} {s : List Nat} {x : PRes Parsed}
    (h : ∀ p', InType p → x = .ok p' → InType p') : Ret x fun p' => Adv v (p, s) (p', s) :=
  fun p' e => .of (fun hp => h p' hp e) (bs_refl s)

theorem numericSpec_width (n : Numeric) : ∀ m, (numericSpec n).1 = some m → 1 ≤ m := by
  cases n <;> (intro m hm; cases hm) <;> decide

/-- a scanned number handed to a setter (`I` is what the setter may assume of the number) -/
theorem setter_adv {b : Bool} {set : Parsed → Int → PRes Parsed} {p : Parsed} {s : List Nat} {r : PRes (List Nat × Int)}
    {I : Int → Prop} (hset : ∀ p' v, I v → InType p → set p v = .ok p' → InType p')
    (hr : Ret r fun q => BoundarySuffix s q.1 ∧ I q.2) :
    Ret (match (generalizing := false) r with
      | .error e => .error e
      | .ok (s', v) => match set p v with
        | .ok p' => .ok (p', s')
        | .error e => .error e : PRes (Parsed × List Nat)) (Adv b (p, s)) := by
  intro q h
  cases r with
  | error e => cases h
  | ok a =>
    obtain ⟨hb, hi⟩ := hr a rfl
    dsimp only at h
    cases hs : set p a.2 with
    | error e => rw [hs] at h; cases h
    | ok p' => rw [hs] at h; cases h; exact .of (fun hp => hset p' a.2 hi hp hs) hb

theorem setOffset_adv {b : Bool} (p : Parsed) (s : List Nat) (r : PRes (List Nat × Int))
    (hr : ∀ s' v, r = .ok (s', v) → BoundarySuffix s s') : Ret (setOffset p r) (Adv b (p, s)) :=
  setter_adv (I := fun _ => True) (fun p' v _ hp h => set_offset p p' v hp h) fun q e => ⟨hr q.1 q.2 e, trivial⟩

theorem setNano_adv {b : Bool} (p : Parsed) (s : List Nat) (r : PRes (List Nat × Int))
    (hr : ∀ s' v, r = .ok (s', v) → BoundarySuffix s s') : Ret (setNano p r) (Adv b (p, s)) :=
  setter_adv (I := fun _ => True) (fun p' v _ hp h => set_nanosecond p p' v hp h) fun q e => ⟨hr q.1 q.2 e, trivial⟩

/-- `Item::Numeric`: leading white space, an optional sign, digits, the field's setter -/
theorem parseNumeric_adv {b : Bool} (p : Parsed) (s : List Nat) (n : Numeric) :
    Ret (parseNumeric p s n) (Adv b (p, s)) := by
  have hw := numericSpec_width n
  have hset := numericSpec_set n
  unfold parseNumeric
  generalize numericSpec n = spec at hw hset
  obtain ⟨width, signed, set⟩ := spec
  dsimp only at hw hset ⊢
  have num : ∀ (t : List Nat) (w : Option Nat), (∀ m, w = some m → 1 ≤ m) →
      Ret (number t 1 w) fun q => BoundarySuffix t q.1 ∧ 0 ≤ q.2 ∧ q.2 ≤ 9223372036854775807 :=
    fun t w hw q h => ⟨number_bs t 1 w q.1 q.2 hw h, number_bound t 1 w q.1 q.2 h⟩
  have none1 : ∀ m, (none : Option Nat) = some m → 1 ≤ m := fun m hm => nomatch hm
  refine (setter_adv (I := fun v => -9223372036854775808 ≤ v ∧ v ≤ 9223372036854775807)
    (fun p' v hv hp h => hset p p' v hp hv h) ?_).mono fun _ => (Adv.text (trimStart_bs s)).trans
  refine .ite ?_ ((num _ width hw).mono fun _ h => ⟨h.1, by omega⟩)
  split
  · rename_i rest heq
    rw [heq]
    intro q h
    split at h
    · rename_i s2 w hn
      cases h
      obtain ⟨hb, _, _⟩ := num rest none none1 _ hn
      exact ⟨bs_trans (bs_cons 45 rest (by omega)) hb, by omega⟩
    · cases h
  · rename_i rest heq
    rw [heq]
    exact (num rest none none1).mono fun _ h => ⟨bs_trans (bs_cons 43 rest (by omega)) h.1, by omega⟩
  · exact (num _ width hw).mono fun _ h => ⟨h.1, by omega⟩

/-- a literal item: `s.starts_with(prefix)` then `&s[prefix.len()..]`, `prefix` being a `&str` -/
theorem parseLiteral_bs (s lit s' : List Nat) (hl : validUtf8 lit = true) (h : parseLiteral s lit = .ok s') :
    BoundarySuffix s s' := by
  unfold parseLiteral at h
  split at h
  · cases h
  · split at h
    · cases h
    · rename_i hne
      injection h with h
      subst h
      have ht : s.take lit.length = lit := Classical.not_not.mp hne
      refine ⟨lit, ?_, hl⟩
      conv => lhs; rw [← List.take_append_drop lit.length s]
      rw [ht]

theorem or32_lt (b : Nat) (h : or32 b < 128) : b < 128 := by
  unfold or32 at h; split at h <;> omega

/-- what is left of `s` after a name or a keyword, returned with the record the setter `r` built -/
theorem map_adv {v : Bool} {p : Parsed} {s s' : List Nat} {r : PRes Parsed} (hb : BoundarySuffix s s')
    (hr : ∀ p', InType p → r = .ok p' → InType p') : Ret (r.map fun p' => (p', s')) (Adv v (p, s)) :=
  .map (Q := fun p' => InType p → InType p') (fun p' h hp => hr p' hp h) fun _ h => .of h hb

/-- `.` and a fraction, or nothing -/
theorem dotNano_adv {v : Bool} (p : Parsed) (s : List Nat) :
    Ret (match s with
      | 46 :: rest => setNano p (nanosecond rest)
      | _ => .ok (p, s) : PRes (Parsed × List Nat)) (Adv v (p, s)) := by
  split
  · rename_i rest
    exact setNano_adv p _ _ fun s' v h => bs_trans (bs_cons 46 rest (by omega)) (nanosecond_bs rest s' v h)
  · exact .ok (Adv.refl _)

/-- `AM` / `PM`: both letters are matched with `| 32` against ASCII letters, so they are ASCII -/
theorem ampm_adv {v : Bool} (p : Parsed) (s : List Nat) :
    Ret (match s with
      | a :: b :: rest =>
        if or32 a = 97 ∧ or32 b = 109 then (Parsed.set_ampm p false).map fun p' => (p', rest)
        else if or32 a = 112 ∧ or32 b = 109 then (Parsed.set_ampm p true).map fun p' => (p', rest)
        else .error .invalid
      | _ => .error .tooShort : PRes (Parsed × List Nat)) (Adv v (p, s)) := by
  split
  · rename_i a b rest
    have am : ∀ pm, (or32 a = 97 ∨ or32 a = 112) ∧ or32 b = 109 →
        Ret ((Parsed.set_ampm p pm).map fun p' => (p', rest)) (Adv v (p, a :: b :: rest)) := fun pm hc =>
      map_adv (bs_ascii [a, b] rest (by intro x hx; simp at hx; rcases hx with rfl | rfl <;> exact or32_lt _ (by omega)))
        fun p' => set_ampm p p' pm
    split
    · rename_i hc; exact am false ⟨.inl hc.1, hc.2⟩
    · split
      · rename_i hc; exact am true ⟨.inr hc.1, hc.2⟩
      · exact .error _
  · exact .error _

theorem parseFixedBase_adv (p : Parsed) (s : List Nat) (f : Fixed) : Ret (parseFixedBase p s f) (Adv true (p, s)) := by
  have tz : ∀ z mm ms, Ret (setOffset p (timezone_offset (trimStart s) .colonOrSpace z mm ms)) (Adv true (p, s)) :=
    fun z mm ms => setOffset_adv p s _ fun s' v h => bs_trans (trimStart_bs s) (timezone_offset_bs _ _ _ _ _ s' v h)
  have nf : ∀ d, Ret (setNano p (nanosecond_fixed s d)) (Adv true (p, s)) :=
    fun d => setNano_adv p s _ (nanosecond_fixed_bs s d)
  cases f <;> unfold parseFixedBase <;> dsimp only
  case shortMonthName =>
    split
    · rename_i s' m0 h; exact map_adv (short_month0_bs s s' m0 h) fun p' => set_month p p' _
    all_goals exact .error _
  case longMonthName =>
    split
    · rename_i s' m0 h; exact map_adv (short_or_long_month0_bs s s' m0 h) fun p' => set_month p p' _
    all_goals exact .error _
  case shortWeekdayName =>
    split
    · rename_i s' w h; exact map_adv (short_weekday_bs s s' w h) fun p' => set_weekday p p' w
    all_goals exact .error _
  case longWeekdayName =>
    split
    · rename_i s' w h; exact map_adv (short_or_long_weekday_bs s s' w h) fun p' => set_weekday p p' w
    all_goals exact .error _
  case lowerAmPm | upperAmPm => exact ampm_adv p s
  case nanosecond | nanosecond3 | nanosecond6 | nanosecond9 => exact dotNano_adv p s
  case nanosecond3NoDot | nanosecond6NoDot | nanosecond9NoDot => exact .ite (.error _) (nf _)
  case timezoneName => exact .ok ⟨id, fun hv => skipNonWs_bs s (hv rfl)⟩
  case timezoneOffsetColon | timezoneOffsetDoubleColon | timezoneOffsetTripleColon | timezoneOffset
      | timezoneOffsetColonZ | timezoneOffsetZ | timezoneOffsetPermissive => exact tz _ _ _
  case rfc2822 | rfc3339 => exact .error _

/-- the literals of an item list are `&str`s -/
def ItemsUtf8 (items : List Item) : Prop := ∀ lit, Item.literal lit ∈ items → validUtf8 lit = true

/-- one item, `RFC2822`/`RFC3339` excluded -/
theorem parseItemBase_adv (p : Parsed) (s : List Nat) (it : Item) :
    Ret (parseItemBase p s it) (AdvIf (∀ lit, it = .literal lit → validUtf8 lit = true) (p, s)) := by
  unfold parseItemBase
  split
  · rename_i lit
    exact .map (Q := fun s' => parseLiteral s lit = .ok s') (fun _ h => h) fun s' h =>
      ⟨id, fun hl _ => parseLiteral_bs s lit s' (hl lit rfl) h⟩
  · exact .ok (Adv.text (v := true) (trimStart_bs s)).toIf
  · exact (parseNumeric_adv (b := true) p s _).mono fun _ => Adv.toIf
  · exact (parseFixedBase_adv p s _).mono fun _ => Adv.toIf
  · exact .error _

theorem parseItemsBase_adv : ∀ (items : List Item) (p : Parsed) (s : List Nat), ItemsUtf8 items →
    Ret (parseItemsBase p s items) (Adv true (p, s)) := by
  intro items
  induction items with
  | nil => intro p s _; exact .ok (Adv.refl _)
  | cons it rest ih =>
    intro p s hl
    unfold parseItemsBase
    refine Ret.mono (Q := Adv true (p, s)) ?_ fun _ h => h
    split
    · rename_i p1 s1 h1
      have a1 := parseItemBase_adv p s it _ h1
      exact (ih p1 s1 fun lit hm => hl lit (List.mem_cons_of_mem _ hm)).mono fun _ =>
        Adv.trans ⟨a1.1, fun hv => a1.2 (fun lit he => hl lit (by rw [he]; simp)) (hv rfl)⟩
    · exact .error _

theorem field_adv {v : Bool} {set : Parsed → Int → PRes Parsed}
    (hset : ∀ p p' v, InType p → set p v = .ok p' → InType p') {k n : Nat} (hk : k ≤ n) (p : Parsed) (s : List Nat) :
    Ret (setField set p (number s k (some n))) (Adv v (p, s)) := by
  intro q h
  obtain ⟨x, hn, hs⟩ := (Rfc3339.setField_ok_iff set p _ q.1 q.2).mp h
  exact .of (fun hp => hset p q.1 x hp hs) (number_bs s k (some n) q.2 x (fun m hm => by cases hm; exact hk) hn)

theorem sep_bs (s r : List Nat)
    (h : (match s with
      | c :: rest => if c = 116 ∨ c = 84 ∨ c = 32 then .ok rest else .error PErr.invalid
      | [] => .error PErr.tooShort : PRes (List Nat)) = .ok r) : BoundarySuffix s r := by
  split at h
  · rename_i c rest
    split at h
    · rename_i hc
      injection h with h; subst h
      exact bs_cons c _ (by omega)
    · cases h
  · cases h

/-- the strict RFC 3339 scanner -/
theorem parse_rfc3339_adv {v : Bool} (p : Parsed) (s : List Nat) : Ret (parse_rfc3339 p s) (Adv v (p, s)) := by
  unfold parse_rfc3339
  refine adv_bind (field_adv set_year (Nat.le_refl 4) p s) ?_; rintro ⟨p, s⟩
  refine adv_bind (text_adv fun r => char_bs s r 45 (by omega)) ?_; intro s
  refine adv_bind (field_adv set_month (Nat.le_refl 2) p s) ?_; rintro ⟨p, s⟩
  refine adv_bind (text_adv fun r => char_bs s r 45 (by omega)) ?_; intro s
  refine adv_bind (field_adv set_day (Nat.le_refl 2) p s) ?_; rintro ⟨p, s⟩
  refine adv_bind (text_adv (sep_bs s)) ?_; intro s
  refine adv_bind (field_adv set_hour (Nat.le_refl 2) p s) ?_; rintro ⟨p, s⟩
  refine adv_bind (text_adv fun r => char_bs s r 58 (by omega)) ?_; intro s
  refine adv_bind (field_adv set_minute (Nat.le_refl 2) p s) ?_; rintro ⟨p, s⟩
  refine adv_bind (text_adv fun r => char_bs s r 58 (by omega)) ?_; intro s
  refine adv_bind (field_adv set_second (Nat.le_refl 2) p s) ?_; rintro ⟨p, s⟩
  refine adv_bind (dotNano_adv p s) ?_; rintro ⟨p, s⟩
  refine adv_bind (val_adv (timezone_offset_bs s _ _ _ _)) ?_; rintro ⟨s, off⟩
  refine .ite (.error _) ?_
  refine adv_bind (rec_adv fun p' => set_offset p p' off) ?_; intro p
  exact .ok (Adv.refl _)

theorem date_time_items_utf8 : ItemsUtf8 DATE_ITEMS ∧ ItemsUtf8 TIME_ITEMS := by
  constructor <;> intro lit hm
  · simp [DATE_ITEMS] at hm; subst hm; decide
  · simp [TIME_ITEMS] at hm; subst hm; decide

/-- the relaxed RFC 3339 scanner (`FromStr for DateTime<FixedOffset>`, the `%+` item) -/
theorem parse_rfc3339_relaxed_adv (p : Parsed) (s : List Nat) : Ret (parse_rfc3339_relaxed p s) (Adv true (p, s)) := by
  unfold parse_rfc3339_relaxed
  refine adv_bind (parseItemsBase_adv _ p s date_time_items_utf8.1) ?_; rintro ⟨p, s⟩
  refine adv_bind (text_adv (sep_bs s)) ?_; intro s
  refine adv_bind (parseItemsBase_adv _ p s date_time_items_utf8.2) ?_; rintro ⟨p, s⟩
  refine adv_bind (adv_trim (val_adv fun s' v h => ?_)) ?_
  · -- `UTC` in any letter case, or an offset
    split at h
    · rename_i hc; cases h; exact drop_lower_bs _ [117, 116, 99] (by intro b hb; simp at hb; omega) hc.2
    · exact timezone_offset_bs _ _ _ _ _ _ _ h
  rintro ⟨s, off⟩
  refine adv_bind (rec_adv fun p' => set_offset p p' off) ?_; intro p
  exact .ok (Adv.refl _)

/-- the RFC 2822 scanner (folding white space, names, legacy zones, trailing comments) -/
theorem parse_rfc2822_adv (p : Parsed) (s : List Nat) : Ret (parse_rfc2822 p s) (Adv true (p, s)) := by
  unfold parse_rfc2822
  refine adv_bind (st := id) (adv_trim ?_) ?_
  · -- an optional day name, followed by `,`
    split
    · rename_i s' w hw
      split
      · rename_i rest
        exact map_adv (bs_trans (short_weekday_bs _ _ w hw) (bs_cons 44 rest (by omega))) fun p' => set_weekday p p' w
      · exact .error _
    · exact .ok (Adv.refl _)
  rintro ⟨p, s⟩
  refine adv_bind (adv_trim (field_adv set_day (by decide) p _)) ?_; rintro ⟨p, s⟩
  refine adv_bind (text_adv (space_bs s)) ?_; intro s
  refine adv_bind (st := id) ?_ ?_
  · split
    · rename_i s' m0 h; exact map_adv (short_month0_bs s s' m0 h) fun p' => set_month p p' _
    all_goals exact .error _
  rintro ⟨p, s⟩
  refine adv_bind (text_adv (space_bs s)) ?_; intro s
  refine adv_bind (val_adv fun s' v => number_bs s 2 none s' v fun m hm => nomatch hm) ?_; rintro ⟨s, year⟩
  refine adv_bind (rec_adv fun p' => set_year p p' _) ?_; intro p
  refine adv_bind (text_adv (space_bs s)) ?_; intro s
  refine adv_bind (field_adv set_hour (Nat.le_refl 2) p s) ?_; rintro ⟨p, s⟩
  refine adv_bind (adv_trim (text_adv fun r => char_bs _ r 58 (by omega))) ?_; intro s
  refine adv_bind (adv_trim (field_adv set_minute (Nat.le_refl 2) p _)) ?_; rintro ⟨p, s⟩
  refine adv_bind (st := id) ?_ ?_
  · -- optional `:` and seconds
    split
    · rename_i s_ hc
      exact adv_trim ((field_adv set_second (Nat.le_refl 2) p s_).mono fun _ => (Adv.text (char_bs _ s_ 58 (by omega) hc)).trans)
    · exact .ok (Adv.refl _)
  rintro ⟨p, s⟩
  refine adv_bind (text_adv (space_bs s)) ?_; intro s
  refine adv_bind (val_adv (timezone_offset_2822_bs s)) ?_; rintro ⟨s, off⟩
  refine adv_bind (rec_adv fun p' => set_offset p p' off) ?_; intro p
  exact .ok ⟨id, fun hv => commentsAux_bs _ s (hv rfl)⟩

/-- **the item-driven parser**: every record it can build is in type, whatever the text and whatever the
items (format-string items, `RFC2822`, `RFC3339` and `Error` items included); and on a `&str` text with
`&str` literals every item consumes a whole number of characters, so what is handed to the next item (and
what `parse_and_remainder` returns) is a `&str` taken at a char boundary -/
theorem parse_internal_adv : ∀ (items : List Item) (p : Parsed) (s : List Nat),
    Ret (parse_internal p s items) (AdvIf (ItemsUtf8 items) (p, s)) := by
  intro items
  induction items with
  | nil => intro p s; exact .ok (Adv.refl (v := true) _).toIf
  | cons it rest ih =>
    intro p s q h
    unfold parse_internal at h
    dsimp only at h
    split at h
    · rename_i p1 s1 h1
      obtain ⟨i2, b2⟩ := ih p1 s1 q h
      have a1 : AdvIf (ItemsUtf8 (it :: rest)) (p, s) (p1, s1) := by
        split at h1
        · exact (parse_rfc2822_adv p s _ h1).toIf
        · exact (parse_rfc3339_relaxed_adv p s _ h1).toIf
        · have a := parseItemBase_adv p s it _ h1
          exact ⟨a.1, fun hi => a.2 fun lit he => hi lit (by rw [he]; simp)⟩
      exact ⟨i2 ∘ a1.1, fun hi hv => bs_trans (a1.2 hi hv)
        (b2 (fun lit hm => hi lit (List.mem_cons_of_mem _ hm)) (bs_valid_rest hv (a1.2 hi hv)))⟩
    · cases h

theorem parse_rfc3339_bs (p : Parsed) (s : List Nat) (p' : Parsed) (s' : List Nat)
    (h : parse_rfc3339 p s = .ok (p', s')) : BoundarySuffix s s' :=
  (parse_rfc3339_adv (v := false) p s _ h).2 fun e => nomatch e

theorem parse_internal_bs (items : List Item) (p : Parsed) (s : List Nat) (p' : Parsed) (s' : List Nat)
    (hv : validUtf8 s = true) (hl : ItemsUtf8 items) (h : parse_internal p s items = .ok (p', s')) :
    BoundarySuffix s s' :=
  (parse_internal_adv items p s _ h).2 hl hv

/-- `format::parse` (everything must be consumed) -/
theorem parse_inType (items : List Item) (p : Parsed) (s : List Nat) (p' : Parsed) (hp : InType p)
    (h : Parse.parse p s items = .ok p') : InType p' := by
  unfold Parse.parse at h
  split at h
  · rename_i q hq
    cases h
    exact (parse_internal_adv items p s _ hq).1 hp
  · cases h
  · cases h

end Chrono.Proofs.ScanBoundary
