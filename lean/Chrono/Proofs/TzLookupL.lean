/- Helper lemmas for C05 (proofs of the statements in Props/C05.lean). -/
import Chrono.Spec.ZoneSpec
import Chrono.Proofs.PrimL

set_option linter.unusedSimpArgs false
set_option linter.unusedVariables false

namespace Chrono.Proofs.TzL
open Chrono Chrono.M.Tz Chrono.M.TzL Chrono.Spec.Zone Chrono.Extracted.TzL Chrono.Proofs

/-! ### tables and constants -/

theorem consts_ok' :
    SECONDS_PER_DAY = 86400 ∧ DAYS_PER_WEEK = 7 ∧ SECONDS_PER_HOUR = 3600 ∧ SECONDS_PER_MINUTE = 60 ∧
    MINUTES_PER_HOUR = 60 ∧ MONTHS_PER_YEAR = 12 ∧ DAYS_PER_NORMAL_YEAR = 365 ∧ DAYS_PER_4_YEARS = 1461 ∧
    DAYS_PER_100_YEARS = 36524 ∧ DAYS_PER_400_YEARS = 146097 ∧ OFFSET_YEAR = 2000 ∧
    UNIX_OFFSET_SECS = Spec.Zone.dayNum 2000 3 1 * 86400 := by decide

/-- month-length table, cumulative table and the March-based leap-year table against the calendar spec -/
theorem tables_ok' :
    (∀ m, m < 13 → 1 ≤ m → DAY_IN_MONTHS_NORMAL_YEAR.getD (m - 1) 0 = monthLen false m) ∧
    DAY_IN_MONTHS_NORMAL_YEAR.length = 12 ∧
    (∀ m, m < 13 → 1 ≤ m → CUMUL_DAY_IN_MONTHS_NORMAL_YEAR.getD (m - 1) 0 = daysBeforeMonth false m) ∧
    CUMUL_DAY_IN_MONTHS_NORMAL_YEAR.length = 12 ∧
    (∀ k, k < 12 → DAY_IN_MONTHS_LEAP_YEAR_FROM_MARCH.getD k 0 = monthLen true ((k + 2) % 12 + 1)) ∧
    DAY_IN_MONTHS_LEAP_YEAR_FROM_MARCH.length = 12 := by decide

/-! ### the second calendar -/

theorem is_leap_year_eq (y : Int) : is_leap_year y = leap y := by
  unfold is_leap_year leap
  rw [tmod_eq, tmod_eq, tmod_eq, Bool.eq_iff_iff]
  simp only [Bool.or_eq_true, Bool.and_eq_true, beq_iff_eq, bne_iff_ne, decide_eq_true_eq]
  split <;> omega

/-! single-divisor facts (each by `omega`) for use where several divisors meet -/
theorem step4 (y : Int) : y / 4 = (y - 1) / 4 + (if y % 4 = 0 then 1 else 0) := by split <;> omega
theorem step100 (y : Int) : y / 100 = (y - 1) / 100 + (if y % 100 = 0 then 1 else 0) := by split <;> omega
theorem step400 (y : Int) : y / 400 = (y - 1) / 400 + (if y % 400 = 0 then 1 else 0) := by split <;> omega
theorem neg4 (y : Int) : (-y) / 4 = -(y / 4) - (if y % 4 = 0 then 0 else 1) := by split <;> omega
theorem neg100 (y : Int) : (-y) / 100 = -(y / 100) - (if y % 100 = 0 then 0 else 1) := by split <;> omega
theorem neg400 (y : Int) : (-y) / 400 = -(y / 400) - (if y % 400 = 0 then 0 else 1) := by split <;> omega
theorem mod_rel (y : Int) : (y % 400 = 0 → y % 100 = 0) ∧ (y % 100 = 0 → y % 4 = 0) := by
  constructor <;> intro h <;> omega

theorem leapsThrough_step (y : Int) :
    leapsThrough y = leapsThrough (y - 1) + (if leap y then 1 else 0) := by
  unfold leapsThrough leap
  have h4 := step4 y; have h100 := step100 y; have h400 := step400 y
  have hr := mod_rel y
  by_cases c4 : y % 4 = 0 <;> by_cases c100 : y % 100 = 0 <;> by_cases c400 : y % 400 = 0 <;>
    simp only [c4, c100, c400, if_true, if_false, ne_eq, not_true_eq_false, not_false_eq_true,
      or_true, or_false, and_true, and_false, true_and, false_and, decide_true, decide_false,
      Bool.false_eq_true] at * <;> omega

/-- spec validation: the day count satisfies the textbook recurrence and starts at the epoch -/
theorem daysBeforeYear_rec (y : Int) :
    daysBeforeYear 1970 = 0 ∧ daysBeforeYear (y + 1) = daysBeforeYear y + (if leap y then 366 else 365) := by
  constructor
  · decide
  · unfold daysBeforeYear
    have e : y + 1 - 1 = y := by omega
    rw [e, leapsThrough_step y]
    split <;> omega

theorem cumul_getD (m : Nat) (h1 : 1 ≤ m) (h2 : m ≤ 12) :
    CUMUL_DAY_IN_MONTHS_NORMAL_YEAR.getD (m - 1) 0 = daysBeforeMonth false m :=
  tables_ok'.2.2.1 m (by omega) h1

theorem daysBeforeMonth_leap (lp : Bool) (m : Nat) (h1 : 1 ≤ m) (h2 : m ≤ 12) :
    daysBeforeMonth lp m = daysBeforeMonth false m + (if lp ∧ m ≥ 3 then 1 else 0) := by
  have : ∀ lp : Bool, ∀ m, m < 13 → 1 ≤ m →
      daysBeforeMonth lp m = daysBeforeMonth false m + (if lp ∧ m ≥ 3 then 1 else 0) := by decide
  exact this lp m (by omega) h1

/-- the leap-day counts of `days_since_unix_epoch`, whose truncating divisions are arranged to round
down from 1970 on and up before, in terms of the calendar's floor divisions -/
theorem leaps_trunc (y : Int) :
    (1970 ≤ y → (y - 1968).tdiv 4 - (y - 1900).tdiv 100 + (y - 1600).tdiv 400 = leapsThrough y - 477) ∧
    (y < 1970 → (y - 1972).tdiv 4 - (y - 2000).tdiv 100 + (y - 2000).tdiv 400 = leapsThrough (y - 1) - 477) := by
  unfold leapsThrough
  simp only [tdiv_eq]
  constructor <;> intro h
  · have a : (y - 1968) / 4 = y / 4 - 492 := by omega
    have b : (y - 1900) / 100 = y / 100 - 19 := by omega
    have c : (y - 1600) / 400 = y / 400 - 4 := by omega
    rw [if_pos (by omega), if_pos (by omega), if_pos (by omega), a, b, c]; omega
  · have a : (if 0 ≤ y - 1972 then (y - 1972) / 4 else -(-(y - 1972) / 4)) = (y - 1) / 4 - 492 := by
      split <;> omega
    have b : (if 0 ≤ y - 2000 then (y - 2000) / 100 else -(-(y - 2000) / 100)) = (y - 1) / 100 - 19 := by
      split <;> omega
    have c : (if 0 ≤ y - 2000 then (y - 2000) / 400 else -(-(y - 2000) / 400)) = (y - 1) / 400 - 4 := by
      split <;> omega
    rw [a, b, c]; omega

/-- `days_since_unix_epoch` is the calendar day count, for every year: from 1970 on the code counts
the leap days through `y` and takes this year's back for January and February, before 1970 it counts
those through `y - 1` and adds this year's from March on -/
theorem dse_eq (y : Int) (m : Nat) (d : Int) (h1 : 1 ≤ m) (h2 : m ≤ 12) :
    days_since_unix_epoch y m d = dayNum y m d := by
  have hs := leapsThrough_step y
  obtain ⟨t1, t2⟩ := leaps_trunc y
  unfold days_since_unix_epoch dayNum daysBeforeYear
  rw [cumul_getD m h1 h2, daysBeforeMonth_leap (leap y) m h1 h2, is_leap_year_eq]
  dsimp only
  by_cases c : y ≥ 1970
  · have t := t1 c
    cases hl : leap y <;> by_cases hm : m < 3 <;> simp [c, hl, hm] at hs ⊢ <;> omega
  · have t := t2 (by omega)
    cases hl : leap y <;> by_cases hm : m < 3 <;> simp [c, hl, hm] at hs ⊢ <;> omega

/-! ### rule days -/

/-- the ranges `RuleDay::{julian_1, julian_0, month_weekday}` enforce (property C16 covers the reader) -/
def ValidDay : RuleDay → Prop
  | .julian1 n => 1 ≤ n ∧ n ≤ 365
  | .julian0 n => n ≤ 365
  | .mwd m w d => 1 ≤ m ∧ m ≤ 12 ∧ 1 ≤ w ∧ w ≤ 5 ∧ d ≤ 6

theorem dayNum_shift (y : Int) (m : Nat) (d : Int) : dayNum y m d = dayNum y m 1 + d - 1 := by
  unfold dayNum; omega

theorem rankLE_le (l : List Int) (k : Int) : rankLE l k ≤ l.length := by
  induction l with
  | nil => exact Nat.le_refl 0
  | cons x xs ih => unfold rankLE; split <;> simp only [List.length_cons] <;> omega

/-- in an increasing list the rank of `k` exceeds `j` exactly when the `j`-th entry is at most `k` -/
theorem lt_rankLE_iff (l : List Int) (hs : l.Pairwise (· < ·)) (k : Int) (j : Nat) (hj : j < l.length) :
    j < rankLE l k ↔ l.getD j 0 ≤ k := by
  induction l generalizing j with
  | nil => cases hj
  | cons x xs ih =>
    obtain ⟨hx, hs'⟩ := List.pairwise_cons.mp hs
    unfold rankLE
    cases j with
    | zero => by_cases c : x ≤ k <;> simp [c]
    | succ i =>
      have hi : i < xs.length := by simpa using hj
      have hmem : xs.getD i 0 ∈ xs := by
        rw [List.getD_eq_getElem?_getD, List.getElem?_eq_getElem hi]; exact List.getElem_mem hi
      by_cases c : x ≤ k
      · simp only [c, if_true, List.getD_cons_succ, Nat.add_lt_add_iff_right, ih hs' i hi]
      · have := hx _ hmem
        simp only [c, if_false, List.getD_cons_succ]; omega

/-- the month of the `Jn` day: the cumulative table's third entry, 59, separates January and February
from the months a leap day shifts -/
theorem julian1_month (n : Nat) (h1 : 1 ≤ n) :
    1 ≤ rankLE CUMUL_DAY_IN_MONTHS_NORMAL_YEAR ((n : Int) - 1) ∧
    rankLE CUMUL_DAY_IN_MONTHS_NORMAL_YEAR ((n : Int) - 1) ≤ 12 ∧
    (rankLE CUMUL_DAY_IN_MONTHS_NORMAL_YEAR ((n : Int) - 1) ≥ 3 ↔ n ≥ 60) := by
  have hs : CUMUL_DAY_IN_MONTHS_NORMAL_YEAR.Pairwise (· < ·) := by decide
  have r0 := lt_rankLE_iff _ hs ((n : Int) - 1) 0 (by decide)
  have r2 := lt_rankLE_iff _ hs ((n : Int) - 1) 2 (by decide)
  have e0 : CUMUL_DAY_IN_MONTHS_NORMAL_YEAR.getD 0 0 = 0 := rfl
  have e2 : CUMUL_DAY_IN_MONTHS_NORMAL_YEAR.getD 2 0 = 59 := rfl
  rw [e0] at r0
  rw [e2] at r2
  have := rankLE_le CUMUL_DAY_IN_MONTHS_NORMAL_YEAR ((n : Int) - 1)
  rw [tables_ok'.2.2.2.1] at this
  omega

def cumulOf (leap : Int) : List Int := [0, 31, 59 + leap, 90 + leap, 120 + leap, 151 + leap, 181 + leap,
      212 + leap, 243 + leap, 273 + leap, 304 + leap, 334 + leap]

/-- the month of the zero-based day `n`, and the leap-adjusted cumulative table against the calendar -/
theorem julian0_month (lp : Bool) (n : Nat) :
    1 ≤ rankLE (cumulOf (if lp then 1 else 0)) n ∧ rankLE (cumulOf (if lp then 1 else 0)) n ≤ 12 ∧
    ∀ m, 1 ≤ m → m ≤ 12 → (cumulOf (if lp then 1 else 0)).getD (m - 1) 0 = daysBeforeMonth lp m := by
  have hs : ∀ lp : Bool, (cumulOf (if lp then 1 else 0)).Pairwise (· < ·) ∧
      ∀ m, m < 13 → 1 ≤ m → (cumulOf (if lp then 1 else 0)).getD (m - 1) 0 = daysBeforeMonth lp m := by decide
  have r0 := lt_rankLE_iff _ (hs lp).1 (n : Int) 0 (by cases lp <;> decide)
  have e0 : (cumulOf (if lp then 1 else 0)).getD 0 0 = 0 := rfl
  rw [e0] at r0
  have := rankLE_le (cumulOf (if lp then 1 else 0)) (n : Int)
  have hl : (cumulOf (if lp then 1 else 0)).length = 12 := rfl
  rw [hl] at this
  exact ⟨by omega, this, fun m h1 h2 => (hs lp).2 m (by omega) h1⟩

theorem monthLen_leap : ∀ lp : Bool, ∀ m, m < 13 → 1 ≤ m →
    monthLen lp m = DAY_IN_MONTHS_NORMAL_YEAR.getD (m - 1) 0 + (if m = 2 then (if lp then 1 else 0) else 0) := by
  decide

theorem transition_date_month (d : RuleDay) (hv : ValidDay d) (y : Int) :
    1 ≤ (transition_date d y).1 ∧ (transition_date d y).1 ≤ 12 := by
  cases d with
  | julian1 n => exact ⟨(julian1_month n hv.1).1, (julian1_month n hv.1).2.1⟩
  | julian0 n => exact ⟨(julian0_month (is_leap_year y) n).1, (julian0_month (is_leap_year y) n).2.1⟩
  | mwd m w wd => exact ⟨hv.1, hv.2.1⟩

/-- `RuleDay::unix_time` is the POSIX rule day of the year at the given time of day -/
theorem unix_time_eq (d : RuleDay) (hv : ValidDay d) (y dt : Int) :
    unix_time d y dt = ruleDayNum d y * 86400 + dt := by
  have hm := transition_date_month d hv y
  unfold unix_time
  dsimp only
  rw [dse_eq y _ _ hm.1 hm.2, consts_ok'.1]
  congr 2
  cases d with
  | julian1 n =>
    obtain ⟨m1, m2, m3⟩ := julian1_month n hv.1
    unfold transition_date ruleDayNum dayNum
    dsimp only
    rw [daysBeforeMonth_leap (leap y) _ m1 m2, cumul_getD _ m1 m2]
    simp only [m3]
    omega
  | julian0 n =>
    obtain ⟨m1, m2, m3⟩ := julian0_month (is_leap_year y) n
    unfold transition_date ruleDayNum dayNum
    dsimp only
    unfold cumulOf at m1 m2 m3
    rw [m3 _ m1 m2, is_leap_year_eq]
    omega
  | mwd m w wd =>
    obtain ⟨h1, h2, h3, h4, h5⟩ := hv
    unfold transition_date ruleDayNum
    simp only
    rw [dse_eq y m 1 h1 h2, consts_ok'.2.1, is_leap_year_eq]
    have hml := monthLen_leap (leap y) m (by omega) h1
    rw [dayNum_shift]
    unfold weekdayOf
    have e : (4 + dayNum y m 1) = (dayNum y m 1 + 4) := by omega
    rw [e]
    generalize dayNum y m 1 = first at *
    generalize ((wd : Int) - (first + 4) % 7) % 7 = k at *
    rw [hml]
    by_cases c2 : m = 2
    · simp only [c2, if_true]
      cases leap y <;> simp <;> split <;> split <;> omega
    · simp only [c2, if_false]
      split <;> split <;> omega
/-! ### lookup by instant: the transition table -/

def Sorted (ts : List Transition) : Prop := List.Pairwise (fun a b : Transition => a.time < b.time) ts

theorem filter_nil_of_gt (ts : List Transition) (t : Int) (h : ∀ tr ∈ ts, t < tr.time) :
    ts.filter (fun tr => decide (tr.time ≤ t)) = [] := by
  rw [List.filter_eq_nil_iff]
  intro a ha
  have := h a ha
  simp only [decide_eq_true_eq]; omega

theorem filter_nil_of_head_gt (x : Transition) (xs : List Transition) (t : Int) (hs : Sorted (x :: xs))
    (c : ¬ x.time ≤ t) : (x :: xs).filter (fun tr => decide (tr.time ≤ t)) = [] := by
  apply filter_nil_of_gt
  intro tr htr
  rcases List.mem_cons.mp htr with e | e
  · subst e; omega
  · have := (List.pairwise_cons.mp hs).1 tr e; omega

/-- on a sorted table: the last transition at or before `t`, by the rank of `t` -/
theorem lastLE_rank (ts : List Transition) (t : Int) (hs : Sorted ts) :
    (ts.filter (fun tr => decide (tr.time ≤ t))).getLast? =
      (if rankLE (ts.map (·.time)) t > 0 then some (ts.getD (rankLE (ts.map (·.time)) t - 1) ⟨0, 0⟩) else none) := by
  induction ts with
  | nil => simp [rankLE]
  | cons x xs ih =>
    have hs' : Sorted xs := (List.pairwise_cons.mp hs).2
    by_cases c : x.time ≤ t
    · simp only [List.filter_cons, c, decide_true, if_true, List.map_cons, rankLE]
      rw [List.getLast?_cons, ih hs']
      by_cases k : rankLE (xs.map (·.time)) t > 0
      · simp only [k, if_true, Option.getD_some]
        have : rankLE (xs.map (·.time)) t + 1 - 1 = (rankLE (xs.map (·.time)) t - 1) + 1 := by omega
        rw [this]
        simp
      · have k0 : rankLE (xs.map (·.time)) t = 0 := by omega
        simp [k0]
    · have := filter_nil_of_head_gt x xs t hs c
      rw [this]
      simp [rankLE, c]

theorem filter_all_of_le (ts : List Transition) (t : Int) (h : ∀ tr ∈ ts, tr.time ≤ t) :
    ts.filter (fun tr => decide (tr.time ≤ t)) = ts := by
  rw [List.filter_eq_self]
  intro a ha
  simp only [decide_eq_true_eq]; exact h a ha

theorem sorted_le_last (ts : List Transition) (l : Transition) (hs : Sorted ts)
    (hl : ts.getLast? = some l) : ∀ tr ∈ ts, tr.time ≤ l.time := by
  obtain ⟨ys, rfl⟩ := List.getLast?_eq_some_iff.mp hl
  intro tr htr
  rcases List.mem_append.mp htr with h | h
  · exact Int.le_of_lt ((List.pairwise_append.mp hs).2.2 tr h l (List.mem_singleton.mpr rfl))
  · rw [List.mem_singleton.mp h]; exact Int.le_refl _

/-- lookup by instant on a zone without leap-second records: the table part is the specification,
the rule is consulted exactly at or after the last transition -/
theorem find_table' (z : Zone) (t : Int) (hs : Sorted z.transitions) (hl : z.leaps = []) :
    z.find_local_time_type t =
      (if afterLast z t then
        match z.rule with
        | some r => r.find_local_time_type t
        | none => some (tableAt z t)
      else some (tableAt z t)) := by
  unfold Zone.find_local_time_type afterLast tableAt unix_time_to_unix_leap_time
  rw [hl]
  simp only [toLeapLoop]
  cases hlast : z.transitions.getLast? with
  | none =>
    have : z.transitions = [] := by simpa using hlast
    simp [this]
    cases z.rule <;> rfl
  | some l =>
    simp only
    by_cases c : l.time ≤ t
    · have c' : t ≥ l.time := c
      simp only [c, c', decide_true, if_true]
      cases z.rule with
      | some r => rfl
      | none =>
        simp only
        rw [filter_all_of_le z.transitions t (fun tr h => by have := sorted_le_last _ l hs hlast tr h; omega), hlast]
    · have c' : ¬ (t ≥ l.time) := c
      simp only [c, c', decide_false, if_false, Bool.false_eq_true]
      rw [lastLE_rank z.transitions t hs]
      split <;> simp_all

/-! ### `UtcDateTime::from_timespec` -/

/-- the month loop over the March-based table, on every remaining-day count it can see -/
theorem monthLoop_fin : ∀ rd : Nat, rd < 366 →
    (let lm := monthLoop DAY_IN_MONTHS_LEAP_YEAR_FROM_MARCH (rd : Int) 0
     0 ≤ lm.2 ∧ lm.2 ≤ 11 ∧ 0 ≤ lm.1 ∧ decide (lm.2 ≥ 10) = decide (rd ≥ 306) ∧
     (∀ lp : Bool, rd < 306 → daysBeforeMonth lp (lm.2 + 3).toNat + lm.1 = 59 + (if lp then 1 else 0) + (rd : Int)) ∧
     (∀ lp : Bool, rd ≥ 306 → daysBeforeMonth lp (lm.2 - 9).toNat + lm.1 = (rd : Int) - 306)) := by
  decide +kernel

theorem floor_parts (Y ry c4 c100 c400 : Int) (hY : Y = 2000 + ry + c4 * 4 + c100 * 100 + c400 * 400)
    (h1 : 0 ≤ ry ∧ ry ≤ 3) (h2 : 0 ≤ c4 ∧ c4 ≤ 24) (h3 : 0 ≤ c100 ∧ c100 ≤ 3) :
    leapsThrough Y = 485 + c4 + 24 * c100 + 97 * c400 := by
  unfold leapsThrough
  have a : Y / 4 = 500 + c4 + 25 * c100 + 100 * c400 := by omega
  have b : Y / 100 = 20 + c100 + 4 * c400 := by omega
  have c : Y / 400 = 5 + c400 := by omega
  omega

/-- Rust's idiom for floor division: truncate, then step down when the remainder is negative -/
theorem floor_of_trunc (a b : Int) (hb : 0 < b) :
    a / b = (if a.tmod b < 0 then a.tdiv b - 1 else a.tdiv b) ∧
    a % b = (if a.tmod b < 0 then a.tmod b + b else a.tmod b) := by
  have h : a.tmod b + b * a.tdiv b = a := Int.tmod_add_mul_tdiv a b
  have h1 := Int.tmod_lt_of_pos a hb
  have h2 := Int.lt_tmod_of_pos a hb
  apply (Int.ediv_emod_unique hb).mpr
  split
  · rw [Int.mul_sub, Int.mul_one]; omega
  · omega

/-- hour, minute and second of a second count within one day -/
theorem hms_split (rs : Int) (h : 0 ≤ rs ∧ rs < 86400) :
    rs.tdiv 3600 * 3600 + (rs.tdiv 60).tmod 60 * 60 + rs.tmod 60 = rs ∧
    0 ≤ rs.tdiv 3600 ∧ rs.tdiv 3600 < 24 ∧ 0 ≤ (rs.tdiv 60).tmod 60 ∧ (rs.tdiv 60).tmod 60 < 60 ∧
    0 ≤ rs.tmod 60 ∧ rs.tmod 60 < 60 := by
  have h60 : 0 ≤ rs / 60 := by omega
  rw [Int.tdiv_eq_ediv_of_nonneg h.1, Int.tdiv_eq_ediv_of_nonneg h.1, Int.tmod_eq_emod_of_nonneg h.1,
    Int.tmod_eq_emod_of_nonneg h60]
  omega

/-- one digit of the mixed-radix day count: whole periods of `k` days are taken out of `r ≤ R`, at most
`cap` of them; what remains is less than a period unless the cap was hit -/
theorem digit_step (r c r' k cap R : Int) (hk : 0 < k) (hcap : 0 ≤ cap) (hr : 0 ≤ r) (hR : r ≤ R)
    (ec : c = min (r.tdiv k) cap) (er : r' = r - c * k) :
    (0 ≤ c ∧ c ≤ cap) ∧ 0 ≤ r' ∧ r' ≤ max (k - 1) (R - cap * k) := by
  rw [Int.tdiv_eq_ediv_of_nonneg hr] at ec
  have h0 : 0 ≤ r / k := Int.ediv_nonneg hr (by omega)
  have h1 : (r / k) * k ≤ r := Int.ediv_mul_le r (by omega)
  have h2 : r < (r / k + 1) * k := Int.lt_ediv_add_one_mul_self r hk
  rw [Int.add_mul, Int.one_mul] at h2
  have h3 : c * k ≤ (r / k) * k := Int.mul_le_mul_of_nonneg_right (by omega) (by omega)
  refine ⟨by omega, by omega, ?_⟩
  by_cases hq : r / k ≤ cap
  · have : c = r / k := by omega
    rw [this] at er; omega
  · have : c = cap := by omega
    rw [this] at er; omega

/-- the 400-, 100-, 4- and 1-year counters of a day count `N` from March 1 of a year divisible by 400:
each is in range, and `N` is their weighted sum plus the remaining days -/
theorem cycles_split (N c400 rd2 c100 rd3 c4 rd4 ry rd5 : Int)
    (e400 : N / 146097 = c400) (e2 : N % 146097 = rd2)
    (e100 : c100 = min (rd2.tdiv 36524) 3) (e3 : rd3 = rd2 - c100 * 36524)
    (e4 : c4 = min (rd3.tdiv 1461) 24) (e4' : rd4 = rd3 - c4 * 1461)
    (ey : ry = min (rd4.tdiv 365) 3) (e5 : rd5 = rd4 - ry * 365) :
    (0 ≤ c100 ∧ c100 ≤ 3) ∧ (0 ≤ c4 ∧ c4 ≤ 24) ∧ (0 ≤ ry ∧ ry ≤ 3) ∧ (0 ≤ rd5 ∧ rd5 ≤ 365) ∧
    N = 146097 * c400 + 36524 * c100 + 1461 * c4 + 365 * ry + rd5 := by
  have hN : 146097 * c400 + rd2 = N := by rw [← e400, ← e2]; exact Int.mul_ediv_add_emod N 146097
  have p2 : 0 ≤ rd2 := e2 ▸ Int.emod_nonneg N (by decide)
  have q2 : rd2 ≤ 146096 := Int.le_of_lt_add_one (e2 ▸ Int.emod_lt_of_pos N (by decide))
  obtain ⟨d100, p3, q3⟩ := digit_step rd2 c100 rd3 36524 3 146096 (by decide) (by decide) p2 q2 e100 e3
  obtain ⟨d4, p4, q4⟩ := digit_step rd3 c4 rd4 1461 24 36524 (by decide) (by decide) p3 q3 e4 e4'
  obtain ⟨dy, p5, q5⟩ := digit_step rd4 ry rd5 365 3 1460 (by decide) (by decide) p4 q4 ey e5
  clear e400 e2 e100 e4 ey
  exact ⟨d100, d4, dy, ⟨p5, q5⟩, by omega⟩

/-- March 1 of the year the cycle counters name -/
theorem march1 (Y ry c4 c100 c400 : Int) (hY : Y = 2000 + ry + c4 * 4 + c100 * 100 + c400 * 400)
    (h1 : 0 ≤ ry ∧ ry ≤ 3) (h2 : 0 ≤ c4 ∧ c4 ≤ 24) (h3 : 0 ≤ c100 ∧ c100 ≤ 3) :
    dayNum Y 3 1 = 11017 + (146097 * c400 + 36524 * c100 + 1461 * c4 + 365 * ry) := by
  have eL := floor_parts Y ry c4 c100 c400 hY h1 h2 h3
  have eS := leapsThrough_step Y
  have eM : daysBeforeMonth (leap Y) 3 = 59 + (if leap Y then 1 else 0) := by cases leap Y <;> rfl
  unfold dayNum daysBeforeYear
  rw [eM]
  omega

/-- the year that starts on March 1 of `y`: where it starts within `y`, and how long `y` is -/
theorem march_year (y : Int) : ∃ i : Int, (0 ≤ i ∧ i ≤ 1) ∧ (if leap y then 1 else 0) = i ∧
    daysBeforeMonth (leap y) 3 = 59 + i ∧ daysBeforeYear (y + 1) = daysBeforeYear y + 365 + i := by
  have r := (daysBeforeYear_rec y).2
  cases hl : leap y <;> simp only [hl, Bool.false_eq_true, if_false, if_true] at r
  · exact ⟨0, by omega, rfl, rfl, by omega⟩
  · exact ⟨1, by omega, rfl, rfl, by omega⟩

/-- month, day and year from the day `rd5` of the year that starts on March 1 of `Y` -/
theorem march_month (Y rd5 m2 year : Int) (lm : Int × Int) (h : 0 ≤ rd5 ∧ rd5 ≤ 365)
    (hlm : lm = monthLoop DAY_IN_MONTHS_LEAP_YEAR_FROM_MARCH rd5 0)
    (hm : m2 = if lm.2 + 2 ≥ 12 then lm.2 + 2 - 12 else lm.2 + 2)
    (hy : year = if lm.2 + 2 ≥ 12 then Y + 1 else Y) :
    IsYearOf (dayNum Y 3 1 + rd5) year ∧ (1 ≤ m2 + 1 ∧ m2 + 1 ≤ 12) ∧ 1 ≤ 1 + lm.1 ∧
    dayNum year (m2 + 1).toNat (1 + lm.1) = dayNum Y 3 1 + rd5 ∧ Y ≤ year ∧ year ≤ Y + 1 := by
  obtain ⟨n, rfl⟩ : ∃ n : Nat, rd5 = (n : Int) := ⟨rd5.toNat, by omega⟩
  obtain ⟨l1, l2, l3, l4, l5, l6⟩ := monthLoop_fin n (by omega)
  rw [← hlm] at l1 l2 l3 l4 l5 l6
  obtain ⟨i0, hi0, ei0, eM, e1⟩ := march_year Y
  obtain ⟨i1, hi1, -, -, e2⟩ := march_year (Y + 1)
  unfold IsYearOf dayNum
  rw [eM]
  by_cases c : n < 306
  · have hm1 : ¬ lm.2 + 2 ≥ 12 := by
      have := of_decide_eq_false (l4.trans (decide_eq_false (by omega))); omega
    rw [if_neg hm1] at hm hy
    have e : m2 + 1 = lm.2 + 3 := by omega
    have l5' := l5 (leap Y) c
    rw [ei0] at l5'
    rw [hy, e]
    omega
  · have hm1 : lm.2 + 2 ≥ 12 := by
      have := of_decide_eq_true (l4.trans (decide_eq_true (by omega))); omega
    rw [if_pos hm1] at hm hy
    have e : m2 + 1 = lm.2 - 9 := by omega
    have l6' := l6 (leap (Y + 1)) (by omega)
    rw [hy, e]
    omega

theorem from_timespec_ok' (t : Int) (h : -36028797018963968 ≤ t ∧ t ≤ 36028797018963968) :
    ∃ dt, from_timespec t = some dt ∧ IsYearOf (t / 86400) dt.year ∧
      1 ≤ dt.month ∧ dt.month ≤ 12 ∧ 1 ≤ dt.month_day ∧
      dayNum dt.year dt.month.toNat dt.month_day = t / 86400 ∧
      dt.hour * 3600 + dt.minute * 60 + dt.second = t % 86400 ∧
      0 ≤ dt.hour ∧ dt.hour < 24 ∧ 0 ≤ dt.minute ∧ dt.minute < 60 ∧ 0 ≤ dt.second ∧ dt.second < 60 := by
  unfold from_timespec
  rw [optI64_some (by show _ ≤ t - 951868800; omega) (by show t - 951868800 ≤ _; omega)]
  dsimp -zeta only
  extract_lets rd0 rs0 rd1 rs c400a rd2a c400 rd2 c100 rd3 c4 rd4 ry rd5 year0 lm m1 m2 year
  -- days `rd1` and seconds `rs` since 2000-03-01T00:00:00
  obtain ⟨e1, es⟩ : (t - 951868800) / 86400 = rd1 ∧ (t - 951868800) % 86400 = rs :=
    floor_of_trunc _ 86400 (by decide)
  obtain ⟨e400, e2⟩ : rd1 / 146097 = c400 ∧ rd1 % 146097 = rd2 := floor_of_trunc rd1 146097 (by decide)
  obtain ⟨b100, b4, by', b5, eN⟩ := cycles_split rd1 c400 rd2 c100 rd3 c4 rd4 ry rd5 e400 e2 rfl rfl rfl rfl rfl rfl
  have eM := march1 year0 ry c4 c100 c400 rfl by' b4 b100
  obtain ⟨hY, hm, hd, hD, y1, y2⟩ := march_month year0 rd5 m2 year lm b5 rfl rfl rfl
  have ey : year0 = 2000 + ry + c4 * 4 + c100 * 100 + c400 * 400 := rfl
  -- the values have been handed to the lemmas (`rfl`); `omega` would look through them
  clear_value year m2 m1 lm year0 rd5 ry rd4 c4 rd3 c100 rd2 c400 rd2a c400a rs rd1 rs0 rd0
  clear e400 e2
  have eT : dayNum year0 3 1 + rd5 = t / 86400 := by omega
  have hs : t % 86400 = rs ∧ 0 ≤ rs ∧ rs < 86400 := by omega
  have hy32 : inI32 year = true := by
    have : -2147483648 ≤ year ∧ year ≤ 2147483647 := by omega
    simp [inI32, I32_MIN, I32_MAX, this]
  rw [if_pos hy32]
  rw [eT] at hY hD
  rw [hs.1]
  exact ⟨_, rfl, hY, hm.1, hm.2, hd, hD, hms_split rs hs.2⟩

/-! ### rule lookups -/

theorem dBY_mono_nat (y : Int) (k : Nat) : daysBeforeYear y + 365 * k ≤ daysBeforeYear (y + k) := by
  induction k with
  | zero => simp
  | succ n ih =>
    have e : y + ((n + 1 : Nat) : Int) = (y + n) + 1 := by omega
    rw [e, (daysBeforeYear_rec (y + n)).2]
    split <;> omega

theorem dBY_mono (y y' : Int) (h : y ≤ y') : daysBeforeYear y ≤ daysBeforeYear y' := by
  have := dBY_mono_nat y (y' - y).toNat
  have e : y + ((y' - y).toNat : Int) = y' := by omega
  rw [e] at this
  omega

theorem isYearOf_unique (d y y' : Int) (h : IsYearOf d y) (h' : IsYearOf d y') : y = y' := by
  unfold IsYearOf at *
  by_cases c : y < y'
  · have := dBY_mono (y + 1) y' (by omega); omega
  · by_cases c' : y' < y
    · have := dBY_mono (y' + 1) y (by omega); omega
    · omega

theorem yearOf_spec (d : Int) : IsYearOf d (yearOf d) := by
  unfold yearOf IsYearOf
  simp only
  generalize hq : d * 400 / 146097 = q
  have hq1 : 146097 * q ≤ d * 400 := by omega
  have hq2 : d * 400 < 146097 * q + 146097 := by omega
  have r0 := (daysBeforeYear_rec (1970 + q - 1)).2
  have r1 := (daysBeforeYear_rec (1970 + q)).2
  have r2 := (daysBeforeYear_rec (1970 + q + 1)).2
  have e0 : 1970 + q - 1 + 1 = 1970 + q := by omega
  rw [e0] at r0
  have lo : daysBeforeYear (1970 + q - 1) ≤ d := by
    unfold daysBeforeYear leapsThrough; omega
  have hi : d < daysBeforeYear (1970 + q + 1 + 1) := by
    unfold daysBeforeYear leapsThrough; omega
  split
  · constructor
    · exact lo
    · rw [e0]; assumption
  · split
    · constructor
      · assumption
      · exact hi
    · constructor <;> omega

theorem unix_time_start (a : Alt) (hv : ValidDay a.dstStart) (y : Int) :
    unix_time a.dstStart y (a.dstStartTime - a.std.off) = startAt a y := by
  rw [unix_time_eq _ hv]; unfold startAt; omega
theorem unix_time_end (a : Alt) (hv : ValidDay a.dstEnd) (y : Int) :
    unix_time a.dstEnd y (a.dstEndTime - a.dst.off) = endAt a y := by
  rw [unix_time_eq _ hv]; unfold endAt; omega

/-- the previous/current/next-year cascade collapses to the current year for rules whose
transitions lie more than a day inside the year -/
theorem alt_is_dst_inYear (a : Alt) (hvS : ValidDay a.dstStart) (hvE : ValidDay a.dstEnd) (Y t : Int)
    (hin : InsideYear a) (hY : IsYearOf (t / 86400) Y) :
    alt_is_dst a Y t = ruleDstIn a Y t := by
  unfold alt_is_dst ruleDstIn
  simp only [unix_time_start a hvS, unix_time_end a hvE]
  have h0 := hin Y
  have hm := hin (Y - 1)
  have hp := hin (Y + 1)
  rw [(by omega : Y - 1 + 1 = Y)] at hm
  have hy1 : daysBeforeYear Y * 86400 ≤ t := by have := hY.1; omega
  have hy2 : t < daysBeforeYear (Y + 1) * 86400 := by have := hY.2; omega
  -- last year's transitions are over, next year's still to come: the cascade never leaves year `Y`
  rw [if_neg (by omega : ¬ t < endAt a (Y - 1)), if_neg (by omega : ¬ t < startAt a (Y - 1)),
    if_neg (by omega : ¬ startAt a (Y + 1) ≤ t), if_neg (by omega : ¬ endAt a (Y + 1) ≤ t)]
  by_cases c1 : t < startAt a Y <;> by_cases c2 : t < endAt a Y <;>
    simp [c1, c2, Int.not_le.mpr, Int.not_lt.mp]

/-- the year found by `from_timespec` is within the range the rule code accepts -/
theorem year_bound (d Y : Int) (h : IsYearOf d Y) (hd : -417000000000 ≤ d ∧ d ≤ 417000000000) :
    -2147483648 + 2 ≤ Y ∧ Y ≤ 2147483647 - 2 := by
  unfold IsYearOf daysBeforeYear leapsThrough at h
  have e : Y + 1 - 1 = Y := by omega
  rw [e] at h
  constructor <;> omega

/-- lookup by instant under a rule: the rule transitions of the calendar year containing `t` decide -/
theorem alt_find' (a : Alt) (hvS : ValidDay a.dstStart) (hvE : ValidDay a.dstEnd) (t : Int)
    (hin : InsideYear a) (h : -36028797018963968 ≤ t ∧ t ≤ 36028797018963968) :
    ∃ Y, IsYearOf (t / 86400) Y ∧
      a.find_local_time_type t = some (if ruleDstIn a Y t then a.dst else a.std) := by
  obtain ⟨dt, hdt, hY, _⟩ := from_timespec_ok' t h
  refine ⟨dt.year, hY, ?_⟩
  unfold Alt.find_local_time_type
  rw [hdt]
  dsimp only
  have hb := year_bound _ _ hY (by omega)
  have : I32_MIN + 2 ≤ dt.year ∧ dt.year ≤ I32_MAX - 2 := by
    simp only [I32_MIN, I32_MAX]; omega
  rw [if_pos this, alt_is_dst_inYear a hvS hvE dt.year t hin hY]

theorem rule_classifies' (a : Alt) (S E ℓ : Int) (hsep : RuleSeparated a S E)
    (hS : a.std.off ≠ a.dst.off → ℓ ≠ S) (hE : a.std.off ≠ a.dst.off → ℓ ≠ E) :
    Classifies (yearOff a S E) ℓ
      (alt_classify a (decide (S < E)) (S, S + a.dst.off - a.std.off, E, E + a.std.off - a.dst.off) ℓ) := by
  unfold alt_classify RuleSeparated at *
  dsimp only
  by_cases c0 : a.std.off = a.dst.off
  · rw [if_pos c0]
    unfold Classifies yearOff
    intro t; split <;> split <;> omega
  · have hS' := hS c0
    have hE' := hE c0
    clear hS hE
    rw [if_neg c0]
    by_cases c1 : a.std.off < a.dst.off <;> by_cases c2 : S < E <;>
      simp only [c1, c2, if_true, if_false, decide_true, decide_false, Bool.false_eq_true] <;>
      (repeat' split) <;>
      (unfold Classifies yearOff; simp only [c2, if_true, if_false]) <;>
      first
        | (intro t; split <;> omega)
        | (refine ⟨by omega, ?_⟩; intro t; split <;> omega)

/-! ### assembling the zone-level statements -/

/-- a rule as `TransitionRule::from_tz_string` can build it, restricted as the property says -/
def RuleOk : Option Rule → Prop
  | some (.alt a) => ValidDay a.dstStart ∧ ValidDay a.dstEnd ∧ InsideYear a
  | _ => True

theorem alt_find_ruleOff (a : Alt) (hvS : ValidDay a.dstStart) (hvE : ValidDay a.dstEnd) (t : Int)
    (hin : InsideYear a) (h : -36028797018963968 ≤ t ∧ t ≤ 36028797018963968) :
    a.find_local_time_type t = some (ruleOff (.alt a) t) := by
  obtain ⟨Y, hY, hf⟩ := alt_find' a hvS hvE t hin h
  rw [hf]
  unfold ruleOff ruleDst
  rw [isYearOf_unique _ _ _ (yearOf_spec (t / 86400)) hY]

theorem satI64_id {x : Int} (h1 : -9223372036854775808 ≤ x) (h2 : x ≤ 9223372036854775807) : satI64 x = x := by
  have a : ¬ x > I64_MAX := by show ¬ x > 9223372036854775807; omega
  have b : ¬ x < I64_MIN := by show ¬ x < -9223372036854775808; omega
  unfold satI64; rw [ite_neg' _ _ a, ite_neg' _ _ b]

/-- the step function of a table with a single transition -/
def oneOff (p T a : Int) (t : Int) : Int := if T ≤ t then a else p

/-- what the loop's outcome becomes when no rule follows the table -/
def outMap : LoopOut → Mapped Ltt
  | .ret m => m
  | .fell l => .single l

/-- what the table loop answers at a transition at `T` from type `prev` to type `after`, for a reading
not above the transition's wall-clock window -/
def windowAt (prev after : Ltt) (T ℓ : Int) : Mapped Ltt :=
  if T + prev.off > T + after.off then
    if ℓ < T + after.off then .single prev else .ambiguous prev after
  else if T + prev.off = T + after.off then
    if ℓ < T + prev.off then .single prev else .single after
  else
    if ℓ ≤ T + prev.off then .single prev else if ℓ < T + after.off then .none else .single after

/-- one round of the table loop, free of saturation: a reading up to the upper end of the transition's
window is answered there, a later one goes on to the next transition -/
theorem loop_cons (z : Zone) (tr : Transition) (rest : List Transition) (prev : Ltt) (ℓ : Int)
    (hT : -4611686018427387904 ≤ tr.time ∧ tr.time ≤ 4611686018427387904)
    (hp : -2147483648 ≤ prev.off ∧ prev.off ≤ 2147483647)
    (ha : -2147483648 ≤ (typeAt z tr.idx).off ∧ (typeAt z tr.idx).off ≤ 2147483647) :
    fromLocalLoop z (tr :: rest) prev ℓ =
      if ℓ ≤ tr.time + max prev.off (typeAt z tr.idx).off then .ret (windowAt prev (typeAt z tr.idx) tr.time ℓ)
      else fromLocalLoop z rest (typeAt z tr.idx) ℓ := by
  conv => lhs; unfold fromLocalLoop
  dsimp only
  rw [satI64_id (x := tr.time + (typeAt z tr.idx).off) (by omega) (by omega),
    satI64_id (x := tr.time + prev.off) (by omega) (by omega)]
  unfold windowAt
  generalize (typeAt z tr.idx) = after at *
  generalize tr.time = T at *
  by_cases c1 : T + prev.off > T + after.off
  · rw [if_pos c1, if_pos c1, (by omega : max prev.off after.off = prev.off)]
    (repeat' split) <;> first | rfl | omega
  · rw [if_neg c1, if_neg c1, (by omega : max prev.off after.off = after.off)]
    (repeat' split) <;> first | rfl | omega

/-- the answer at one transition classifies every reading up to the upper end of its window, other
than the excluded boundary second `T + prevOff` -/
theorem window_classifies (prev after : Ltt) (T ℓ : Int) (h : ℓ ≤ T + max prev.off after.off)
    (hx : prev.off ≠ after.off → ℓ ≠ T + prev.off) :
    Classifies (oneOff prev.off T after.off) ℓ (windowAt prev after T ℓ) := by
  unfold windowAt
  (repeat' split) <;> (simp only [Classifies, oneOff]) <;>
    first
      | (intro t; split <;> omega)
      | (refine ⟨by omega, ?_⟩; intro t; split <;> omega)

/-- any classification contains the round trip -/
theorem classifies_roundtrip (off : Int → Int) (ℓ : Int) (r : Mapped Ltt) (h : Classifies off ℓ r)
    (t : Int) (ht : t + off t = ℓ) : off t ∈ r.toList.map (·.off) := by
  cases r with
  | none => exact absurd ht (h t)
  | single x =>
    have := (h t).mp ht
    simp [Mapped.toList]; omega
  | ambiguous x y =>
    have := (h.2 t).mp ht
    simp [Mapped.toList]; omega

theorem mem_insertU (x a : Int) (l : List Int) : x ∈ insertU a l ↔ x = a ∨ x ∈ l := by
  induction l with
  | nil => simp [insertU]
  | cons y ys ih =>
    unfold insertU
    split
    · simp
    · split
      · rename_i h; subst h; simp
      · simp [ih]; constructor <;> (intro h; rcases h with h | h | h <;> simp [h])

/-- wall-clock start / end of daylight time in year `y`, from the POSIX reading of the rule days -/
def wallStart (a : Alt) (y : Int) : Int := ruleDayNum a.dstStart y * 86400 + a.dstStartTime
def wallEnd (a : Alt) (y : Int) : Int := ruleDayNum a.dstEnd y * 86400 + a.dstEndTime

theorem alt_windows_eq (a : Alt) (hvS : ValidDay a.dstStart) (hvE : ValidDay a.dstEnd) (y : Int) :
    alt_windows a y = (wallStart a y, wallStart a y + a.dst.off - a.std.off,
                       wallEnd a y, wallEnd a y + a.std.off - a.dst.off) := by
  unfold alt_windows wallStart wallEnd
  rw [unix_time_eq _ hvS, unix_time_eq _ hvE]
  simp only [Int.add_zero]

/-- lookup by wall clock under a rule, all four hemisphere/sign branches -/
theorem rule_from_local_classifies' (a : Alt) (hvS : ValidDay a.dstStart) (hvE : ValidDay a.dstEnd)
    (y ℓ : Int) (hsep : RuleSeparated a (wallStart a y) (wallEnd a y))
    (hS : a.std.off ≠ a.dst.off → ℓ ≠ wallStart a y) (hE : a.std.off ≠ a.dst.off → ℓ ≠ wallEnd a y) :
    Classifies (yearOff a (wallStart a y) (wallEnd a y)) ℓ (a.find_local_time_type_from_local y ℓ) := by
  unfold Alt.find_local_time_type_from_local
  rw [alt_windows_eq a hvS hvE y]
  exact rule_classifies' a _ _ ℓ hsep hS hE

/-- the in-year step function used for the wall-clock statement is the one of the instant lookup -/
theorem yearOff_eq (a : Alt) (y t : Int) (hsep : RuleSeparated a (wallStart a y) (wallEnd a y)) :
    yearOff a (wallStart a y) (wallEnd a y) t = (if ruleDstIn a y t then a.dst else a.std).off := by
  unfold yearOff ruleDstIn RuleSeparated at *
  have e1 : startAt a y = wallStart a y - a.std.off := by unfold startAt wallStart; omega
  have e2 : endAt a y = wallEnd a y - a.dst.off := by unfold endAt wallEnd; omega
  rw [e1, e2]
  generalize wallStart a y = S at *
  generalize wallEnd a y = E at *
  by_cases c : S < E
  · have c' : S - a.std.off ≤ E - a.dst.off := by have := hsep.1 c; omega
    simp only [c, c', if_true]
    by_cases d : S - a.std.off ≤ t ∧ t < E - a.dst.off <;> simp [d]
  · have c' : ¬ (S - a.std.off ≤ E - a.dst.off) := by have := hsep.2 c; omega
    simp only [c, c', if_false]
    by_cases d : E - a.dst.off ≤ t ∧ t < S - a.std.off <;> simp [d]

/-! ### lookup by wall clock: the transition table, any length -/

/-- the table's step function by recursion: `p` is the offset in force before the head transition -/
def stepOff (z : Zone) : Int → List Transition → Int → Int
  | p, [], _ => p
  | p, tr :: rest, t => if tr.time ≤ t then stepOff z (typeAt z tr.idx).off rest t else p

theorem stepOff_lt (z : Zone) (p : Int) (ts : List Transition) (t : Int) (h : ∀ tr ∈ ts, t < tr.time) :
    stepOff z p ts t = p := by
  cases ts with
  | nil => rfl
  | cons x xs =>
    have := h x (List.mem_cons_self ..)
    have c : ¬ x.time ≤ t := by omega
    simp only [stepOff, c, if_false]

/-- `ℓ` is none of the excluded boundary seconds `T + prevOff` -/
def NoBoundary (z : Zone) : Int → List Transition → Int → Prop
  | _, [], _ => True
  | p, tr :: rest, ℓ => ℓ ≠ tr.time + p ∧ NoBoundary z (typeAt z tr.idx).off rest ℓ

/-- `ℓ` is none of the boundary seconds `T + prevOff` of the transitions that CHANGE the offset (the
only seconds the property excepts: an offset-preserving transition ends no skipped or repeated interval) -/
def NoBoundary' (z : Zone) : Int → List Transition → Int → Prop
  | _, [], _ => True
  | p, tr :: rest, ℓ =>
    (p ≠ (typeAt z tr.idx).off → ℓ ≠ tr.time + p) ∧ NoBoundary' z (typeAt z tr.idx).off rest ℓ

theorem noBoundary'_of (z : Zone) (ℓ : Int) (ts : List Transition) :
    ∀ p, NoBoundary z p ts ℓ → NoBoundary' z p ts ℓ := by
  induction ts with
  | nil => intro p _; trivial
  | cons tr rest ih => intro p h; exact ⟨fun _ => h.1, ih _ h.2⟩

theorem classifies_congr (off off' : Int → Int) (ℓ : Int) (r : Mapped Ltt)
    (h : ∀ t, t + off t = ℓ ↔ t + off' t = ℓ) : Classifies off' ℓ r → Classifies off ℓ r := by
  cases r with
  | none => intro hc t hh; exact hc t ((h t).mp hh)
  | single x => intro hc t; rw [h t]; exact hc t
  | ambiguous x y => intro hc; exact ⟨hc.1, fun t => by rw [h t]; exact hc.2 t⟩

/-- on a sorted table the recursive step function is "the last transition at or before `t`" -/
theorem stepOff_eq (z : Zone) (p : Int) (ts : List Transition) (t : Int) (hs : Sorted ts) :
    stepOff z p ts t =
      (match (ts.filter (fun tr => decide (tr.time ≤ t))).getLast? with
       | some tr => (typeAt z tr.idx).off
       | none => p) := by
  induction ts generalizing p with
  | nil => simp [stepOff]
  | cons x xs ih =>
    have hs' : Sorted xs := (List.pairwise_cons.mp hs).2
    unfold stepOff
    by_cases c : x.time ≤ t
    · simp only [c, if_true, List.filter_cons, decide_true]
      rw [List.getLast?_cons, ih _ hs']
      cases (xs.filter (fun tr => decide (tr.time ≤ t))).getLast? <;> simp
    · have := filter_nil_of_head_gt x xs t hs c
      rw [this]; simp [c]

theorem sepFrom_tail {z : Zone} {tr : Transition} {rest : List Transition} {p : Int} {lo : Option Int}
    (h : sepFrom z (tr :: rest) p lo = true) :
    sepFrom z rest (typeAt z tr.idx).off (some (tr.time + max p (typeAt z tr.idx).off)) = true := by
  unfold sepFrom at h
  exact (Bool.and_eq_true _ _ ▸ h).2

theorem sepFrom_lo {z : Zone} {tr : Transition} {rest : List Transition} {p l : Int}
    (h : sepFrom z (tr :: rest) p (some l) = true) : l < tr.time + min p (typeAt z tr.idx).off := by
  unfold sepFrom at h
  exact of_decide_eq_true (Bool.and_eq_true _ _ ▸ h).1

/-- later windows lie above the head window -/
theorem later_ge (z : Zone) (ts : List Transition) : ∀ (p : Int) (lo : Option Int),
    Sorted ts → sepFrom z ts p lo = true → ∀ tr rest, ts = tr :: rest → ∀ t, tr.time ≤ t →
    tr.time + min p (typeAt z tr.idx).off ≤ t + stepOff z p ts t := by
  induction ts with
  | nil => intro p lo _ _ tr rest h; cases h
  | cons x xs ih =>
    intro p lo hs hsep tr rest heq t ht
    have hs' : Sorted xs := (List.pairwise_cons.mp hs).2
    cases heq
    unfold stepOff
    simp only [ht, if_true]
    cases xs with
    | nil => simp only [stepOff]; omega
    | cons x2 xs2 =>
      have hnext := sepFrom_lo (sepFrom_tail hsep)
      by_cases c : x2.time ≤ t
      · have := ih (typeAt z x.idx).off _ hs' (sepFrom_tail hsep) x2 xs2 rfl t c
        omega
      · unfold stepOff; simp only [c, if_false]; omega

/-- offsets are `i32`, transition times stay clear of the `i64` ends (no saturation) -/
def InRange (z : Zone) (ts : List Transition) : Prop :=
  (∀ i, -2147483648 ≤ (typeAt z i).off ∧ (typeAt z i).off ≤ 2147483647) ∧
  (∀ tr ∈ ts, -4611686018427387904 ≤ tr.time ∧ tr.time ≤ 4611686018427387904)

/-- `InRange` of a concrete zone, by evaluation of its two lists -/
theorem inRange_of_all (z : Zone)
    (h1 : z.types.all (fun l => decide (-2147483648 ≤ l.off ∧ l.off ≤ 2147483647)) = true)
    (h2 : z.transitions.all
      (fun tr => decide (-4611686018427387904 ≤ tr.time ∧ tr.time ≤ 4611686018427387904)) = true) :
    InRange z z.transitions := by
  refine ⟨fun i => ?_, fun tr htr => of_decide_eq_true (List.all_eq_true.mp h2 tr htr)⟩
  unfold typeAt
  rw [List.getD_eq_getElem?_getD]
  cases h : z.types[i]? with
  | none => decide
  | some l => exact of_decide_eq_true (List.all_eq_true.mp h1 l (List.mem_of_getElem? h))

/-- the transition-table loop classifies every wall-clock reading other than the excluded boundary
seconds, for a table of any length whose windows are separated -/
theorem loop_classifies (z : Zone) (ℓ : Int) (ts : List Transition) : ∀ (prev : Ltt) (lo : Option Int),
    Sorted ts → sepFrom z ts prev.off lo = true → NoBoundary' z prev.off ts ℓ → InRange z ts →
    (-2147483648 ≤ prev.off ∧ prev.off ≤ 2147483647) →
    Classifies (stepOff z prev.off ts) ℓ (outMap (fromLocalLoop z ts prev ℓ)) := by
  induction ts with
  | nil =>
    intro prev lo _ _ _ _ _
    simp only [fromLocalLoop, outMap, Classifies, stepOff]
    intro t; omega
  | cons tr rest ih =>
    intro prev lo hs hsep hnb hr hp
    have hs' : Sorted rest := (List.pairwise_cons.mp hs).2
    have hx := (List.pairwise_cons.mp hs).1
    have hT := hr.2 tr (List.mem_cons_self ..)
    have ha := hr.1 tr.idx
    have hr' : InRange z rest := ⟨hr.1, fun x hx' => hr.2 x (List.mem_cons_of_mem _ hx')⟩
    have hsep' := sepFrom_tail hsep
    -- beyond the head transition the step function is the tail's; it stays above the head window
    have hge : ∀ t, tr.time ≤ t → stepOff z prev.off (tr :: rest) t = stepOff z (typeAt z tr.idx).off rest t := by
      intro t ht; simp only [stepOff, ht, if_true]
    have hlt : ∀ t, t < tr.time → stepOff z prev.off (tr :: rest) t = prev.off := by
      intro t ht
      have : ¬ tr.time ≤ t := by omega
      simp only [stepOff, this, if_false]
    have htail : ∀ t, tr.time ≤ t →
        (stepOff z (typeAt z tr.idx).off rest t = (typeAt z tr.idx).off ∨
         (tr.time + max prev.off (typeAt z tr.idx).off < t + stepOff z (typeAt z tr.idx).off rest t ∧
          tr.time + max prev.off (typeAt z tr.idx).off < t + (typeAt z tr.idx).off)) := by
      intro t ht
      cases hrest : rest with
      | nil => left; simp [stepOff]
      | cons x2 xs2 =>
        by_cases c : x2.time ≤ t
        · right
          rw [hrest] at hsep' hs'
          have h1 := later_ge z (x2 :: xs2) _ _ hs' hsep' x2 xs2 rfl t c
          have hnext := sepFrom_lo hsep'
          constructor <;> omega
        · left; simp only [stepOff, c, if_false]
    by_cases c : ℓ ≤ tr.time + max prev.off (typeAt z tr.idx).off
    · rw [loop_cons z tr rest prev ℓ hT hp ha, if_pos c]
      apply classifies_congr _ (oneOff prev.off tr.time (typeAt z tr.idx).off) ℓ _ _
        (window_classifies prev (typeAt z tr.idx) tr.time ℓ c hnb.1)
      intro t
      unfold oneOff
      by_cases ct : tr.time ≤ t
      · rw [hge t ct, if_pos ct]
        rcases htail t ct with h | h
        · rw [h]
        · constructor <;> intro hh <;> omega
      · have ct' : t < tr.time := by omega
        rw [hlt t ct', if_neg ct]
    · rw [loop_cons z tr rest prev ℓ hT hp ha, if_neg c]
      apply classifies_congr _ (stepOff z (typeAt z tr.idx).off rest) ℓ _ _
        (ih (typeAt z tr.idx) _ hs' hsep' hnb.2 hr' ha)
      intro t
      by_cases ct : tr.time ≤ t
      · rw [hge t ct]
      · have ct' : t < tr.time := by omega
        rw [hlt t ct']
        rw [stepOff_lt z _ rest t (fun x2 h2 => by have := hx x2 h2; omega)]
        constructor <;> intro hh <;> omega

theorem offAt_table_stepOff (z : Zone) (t : Int) (hrule : z.rule = none) (hs : Sorted z.transitions) :
    offAt z t = stepOff z (typeAt z 0).off z.transitions t := by
  rw [stepOff_eq z _ _ t hs]
  unfold offAt ltAt tableAt
  rw [hrule]
  simp only
  cases (z.transitions.filter (fun tr => decide (tr.time ≤ t))).getLast? <;> simp

/-- the wall-clock lookup of a zone without a rule is the table loop -/
theorem from_local_no_rule (z : Zone) (ℓ : Int) (hrule : z.rule = none) :
    z.find_local_time_type_from_local ℓ = outMap (fromLocalLoop z z.transitions (typeAt z 0) ℓ) := by
  unfold Zone.find_local_time_type_from_local
  rw [hrule]
  cases htr : z.transitions with
  | nil => simp [fromLocalLoop, outMap]
  | cons x xs =>
    simp only [List.isEmpty_cons, Bool.false_eq_true, if_false]
    cases fromLocalLoop z (x :: xs) (typeAt z 0) ℓ <;> rfl

/-- lookup by wall clock on a zone given by its transition table (no rule), any number of transitions -/
theorem from_local_classifies' (z : Zone) (ℓ : Int) (hrule : z.rule = none) (hs : Sorted z.transitions)
    (hsep : WellSeparated z) (hnb : NoBoundary' z (typeAt z 0).off z.transitions ℓ)
    (hr : InRange z z.transitions) :
    Classifies (offAt z) ℓ (z.find_local_time_type_from_local ℓ) := by
  rw [from_local_no_rule z ℓ hrule]
  apply classifies_congr _ (stepOff z (typeAt z 0).off z.transitions) ℓ _ _
    (loop_classifies z ℓ z.transitions (typeAt z 0) none hs hsep hnb hr (hr.1 0))
  intro t
  rw [offAt_table_stepOff z t hrule hs]

/-! ### table followed by a footer rule: the composed wall-clock statement -/

theorem wallStart_eq (a : Alt) (y : Int) : wallStart a y = startAt a y + a.std.off := by
  unfold wallStart startAt; omega
theorem wallEnd_eq (a : Alt) (y : Int) : wallEnd a y = endAt a y + a.dst.off := by
  unfold wallEnd endAt; omega

/-- the rule's global step function -/
def ruleG (a : Alt) (t : Int) : Int := (ruleOff (.alt a) t).off

theorem ruleG_eq (a : Alt) (t Y : Int) (h : IsYearOf (t / 86400) Y) :
    ruleG a t = (if ruleDstIn a Y t then a.dst else a.std).off := by
  unfold ruleG ruleOff ruleDst
  rw [isYearOf_unique _ _ _ (yearOf_spec (t / 86400)) h]

theorem isYearOf_of_bounds (t Y : Int) (h1 : daysBeforeYear Y * 86400 ≤ t)
    (h2 : t < daysBeforeYear (Y + 1) * 86400) : IsYearOf (t / 86400) Y := by
  unfold IsYearOf; constructor <;> omega

theorem bounds_of_isYearOf (t Y : Int) (h : IsYearOf (t / 86400) Y) :
    daysBeforeYear Y * 86400 ≤ t ∧ t < daysBeforeYear (Y + 1) * 86400 := by
  unfold IsYearOf at h; constructor <;> omega

/-- before both or after both rule transitions of year `Y`, that year's verdict is its shape alone:
daylight time exactly when the year is south-shaped (end before start) -/
theorem ruleDstIn_outside (a : Alt) (Y t : Int)
    (h : (t < startAt a Y ∧ t < endAt a Y) ∨ (startAt a Y ≤ t ∧ endAt a Y ≤ t)) :
    ruleDstIn a Y t = !decide (startAt a Y ≤ endAt a Y) := by
  unfold ruleDstIn
  by_cases c : startAt a Y ≤ endAt a Y
  · rw [if_pos c, decide_eq_true c]; exact decide_eq_false (by omega)
  · rw [if_neg c, decide_eq_false c]; exact congrArg _ (decide_eq_false (by omega))

/-- a year's verdict does not change between two instants with neither of its transitions in between -/
theorem ruleDstIn_const (a : Alt) (Y u v : Int) (huv : u ≤ v)
    (h1 : ¬ (u < startAt a Y ∧ startAt a Y ≤ v)) (h2 : ¬ (u < endAt a Y ∧ endAt a Y ≤ v)) :
    ruleDstIn a Y u = ruleDstIn a Y v := by
  unfold ruleDstIn
  split
  · exact decide_eq_decide.mpr (by omega)
  · exact congrArg _ (decide_eq_decide.mpr (by omega))

/-- what the proofs below use of `RuleYearly`: both transitions inside the year, same shape next year -/
theorem yearly_facts (a : Alt) (hy : RuleYearly a) (y : Int) :
    (daysBeforeYear y * 86400 < startAt a y ∧ startAt a y < daysBeforeYear (y + 1) * 86400) ∧
    (daysBeforeYear y * 86400 < endAt a y ∧ endAt a y < daysBeforeYear (y + 1) * 86400) ∧
    decide (startAt a y ≤ endAt a y) = decide (startAt a (y + 1) ≤ endAt a (y + 1)) :=
  ⟨(hy y).1, (hy y).2.2.2.1, decide_eq_decide.mpr (hy y).2.2.2.2.2.2.1⟩

/-- under `RuleYearly` the wall-clock images of a year's transitions, under either rule offset, lie in the year -/
theorem yearly_wall (a : Alt) (hy : RuleYearly a) (o : Int) (ho : o = a.std.off ∨ o = a.dst.off) (y : Int) :
    (daysBeforeYear y * 86400 < startAt a y + o ∧ startAt a y + o < daysBeforeYear (y + 1) * 86400) ∧
    (daysBeforeYear y * 86400 < endAt a y + o ∧ endAt a y + o < daysBeforeYear (y + 1) * 86400) := by
  obtain ⟨-, h1, h2, -, h3, h4, -⟩ := hy y
  rcases ho with e | e <;> subst e
  · exact ⟨h1, h3⟩
  · exact ⟨h2, h4⟩

/-- no rule transition of the year of `u` or of the next in `(u, v]`: the rule prescribes the same offset
at both instants -/
theorem ruleG_const (a : Alt) (hy : RuleYearly a) (u v yu : Int) (hu : IsYearOf (u / 86400) yu) (huv : u ≤ v)
    (n : ∀ y, (y = yu ∨ y = yu + 1) → ∀ X, (X = startAt a y ∨ X = endAt a y) → ¬ (u < X ∧ X ≤ v)) :
    ruleG a u = ruleG a v := by
  have n1 := n yu (.inl rfl) _ (.inl rfl)
  have n2 := n yu (.inl rfl) _ (.inr rfl)
  have n3 := n _ (.inr rfl) _ (.inl rfl)
  have n4 := n _ (.inr rfl) _ (.inr rfl)
  have bu := bounds_of_isYearOf u yu hu
  obtain ⟨s0, e0, sh⟩ := yearly_facts a hy yu
  obtain ⟨s1, e1, -⟩ := yearly_facts a hy (yu + 1)
  rw [ruleG_eq a u yu hu]
  by_cases cy : v < daysBeforeYear (yu + 1) * 86400
  · rw [ruleG_eq a v yu (isYearOf_of_bounds v yu (by omega) cy), ruleDstIn_const a yu u v huv n1 n2]
  · -- `u` lies after both transitions of its year, `v` in the next year before both of that year's
    rw [ruleG_eq a v (yu + 1) (isYearOf_of_bounds v (yu + 1) (by omega) (by omega)),
      ruleDstIn_outside a yu u (.inr ⟨by omega, by omega⟩),
      ruleDstIn_outside a (yu + 1) v (.inl ⟨by omega, by omega⟩), sh]

/-- a candidate instant `ℓ - o` of a reading in year `Y` is judged alike by its own year's rule and by
year `Y`'s: if it falls into a neighbouring year, it lies between the last transition of the earlier
and the first of the later year, where each year's verdict is its shape -/
theorem rule_year_shift (a : Alt) (hy : RuleYearly a) (ℓ Y o : Int) (hℓ : IsYearOf (ℓ / 86400) Y)
    (ho : o = a.std.off ∨ o = a.dst.off) :
    ruleG a (ℓ - o) = (if ruleDstIn a Y (ℓ - o) then a.dst else a.std).off := by
  have bl := bounds_of_isYearOf ℓ Y hℓ
  have em : Y - 1 + 1 = Y := by omega
  obtain ⟨s0, e0, sh0⟩ := yearly_facts a hy Y
  have w0 := yearly_wall a hy o ho Y
  by_cases c1 : ℓ - o < daysBeforeYear Y * 86400
  · obtain ⟨sm, -, shm⟩ := yearly_facts a hy (Y - 1)
    have wm := yearly_wall a hy o ho (Y - 1)
    rw [em] at sm wm shm
    rw [ruleG_eq a _ _ (isYearOf_of_bounds _ (Y - 1) (by omega) (by rw [em]; exact c1)),
      ruleDstIn_outside a (Y - 1) _ (.inr ⟨by omega, by omega⟩),
      ruleDstIn_outside a Y _ (.inl ⟨by omega, by omega⟩), shm]
  · by_cases c2 : ℓ - o < daysBeforeYear (Y + 1) * 86400
    · exact ruleG_eq a _ _ (isYearOf_of_bounds _ _ (by omega) c2)
    · obtain ⟨sp, -, -⟩ := yearly_facts a hy (Y + 1)
      have wp := yearly_wall a hy o ho (Y + 1)
      rw [ruleG_eq a _ _ (isYearOf_of_bounds _ (Y + 1) (by omega) (by omega)),
        ruleDstIn_outside a (Y + 1) _ (.inl ⟨by omega, by omega⟩),
        ruleDstIn_outside a Y _ (.inr ⟨by omega, by omega⟩), sh0]

theorem ruleG_mem (a : Alt) (t : Int) : ruleG a t = a.std.off ∨ ruleG a t = a.dst.off := by
  unfold ruleG ruleOff; dsimp only; split
  · exact Or.inr rfl
  · exact Or.inl rfl

theorem yearOff_mem (a : Alt) (S E t : Int) : yearOff a S E t = a.std.off ∨ yearOff a S E t = a.dst.off := by
  unfold yearOff; split <;> split <;> simp

theorem naiveYear_spec (ℓ : Int) (h : -36028797018963968 ≤ ℓ ∧ ℓ ≤ 36028797018963968) :
    IsYearOf (ℓ / 86400) (naiveYear ℓ) := by
  obtain ⟨dt, hdt, hY, _⟩ := from_timespec_ok' ℓ h
  unfold naiveYear; rw [hdt]; exact hY

/-- lookup by wall clock under a rule against the rule's GLOBAL step function (all years) -/
theorem rule_from_local_global (a : Alt) (hvS : ValidDay a.dstStart) (hvE : ValidDay a.dstEnd)
    (hy : RuleYearly a) (ℓ : Int) (hr : -36028797018963968 ≤ ℓ ∧ ℓ ≤ 36028797018963968)
    (hS : a.std.off ≠ a.dst.off → ℓ ≠ wallStart a (naiveYear ℓ))
    (hE : a.std.off ≠ a.dst.off → ℓ ≠ wallEnd a (naiveYear ℓ)) :
    Classifies (ruleG a) ℓ (a.find_local_time_type_from_local (naiveYear ℓ) ℓ) := by
  have hY := naiveYear_spec ℓ hr
  generalize naiveYear ℓ = Y at *
  have hsep : RuleSeparated a (wallStart a Y) (wallEnd a Y) := by
    rw [wallStart_eq, wallEnd_eq]; exact (hy Y).2.2.2.2.2.2.2
  apply classifies_congr _ (yearOff a (wallStart a Y) (wallEnd a Y)) ℓ _ _
    (rule_from_local_classifies' a hvS hvE Y ℓ hsep hS hE)
  have key : ∀ o, (o = a.std.off ∨ o = a.dst.off) →
      ruleG a (ℓ - o) = yearOff a (wallStart a Y) (wallEnd a Y) (ℓ - o) := by
    intro o ho
    rw [rule_year_shift a hy ℓ Y o hY ho, yearOff_eq a Y (ℓ - o) hsep]
  intro t
  constructor
  · intro h
    have e : t = ℓ - ruleG a t := by omega
    have k := key (ruleG a t) (ruleG_mem a t)
    rw [← e] at k
    omega
  · intro h
    have e : t = ℓ - yearOff a (wallStart a Y) (wallEnd a Y) t := by omega
    have k := key _ (yearOff_mem a (wallStart a Y) (wallEnd a Y) t)
    rw [← e] at k
    omega

theorem head_le_hiLast (z : Zone) (ts : List Transition) : ∀ (p : Int) (lo : Option Int),
    sepFrom z ts p lo = true → ∀ tr rest, ts = tr :: rest →
    tr.time + max p (typeAt z tr.idx).off ≤ hiLast z p ts := by
  induction ts with
  | nil => intro p lo _ tr rest h; cases h
  | cons x xs ih =>
    intro p lo hsep tr rest heq
    cases heq
    cases xs with
    | nil => simp [hiLast]
    | cons x2 xs2 =>
      have h2 := ih (typeAt z x.idx).off _ (sepFrom_tail hsep) x2 xs2 rfl
      have hnext := sepFrom_lo (sepFrom_tail hsep)
      simp only [hiLast]
      omega

theorem hiLast_ge (z : Zone) (ts : List Transition) : ∀ (p : Int) (last : Transition),
    ts.getLast? = some last → last.time + (typeAt z last.idx).off ≤ hiLast z p ts := by
  induction ts with
  | nil => intro p last h; cases h
  | cons x xs ih =>
    intro p last h
    cases xs with
    | nil =>
      simp at h; subst h; simp only [hiLast]; omega
    | cons x2 xs2 =>
      simp only [hiLast]
      apply ih
      simpa [List.getLast?_cons_cons] using h

theorem stepOff_after (z : Zone) (ts : List Transition) : ∀ (p : Int) (last : Transition),
    Sorted ts → ts.getLast? = some last → ∀ t, last.time ≤ t →
    stepOff z p ts t = (typeAt z last.idx).off := by
  induction ts with
  | nil => intro p last _ h; cases h
  | cons x xs ih =>
    intro p last hs h t ht
    have hx := sorted_le_last (x :: xs) last hs h x (List.mem_cons_self ..)
    have c : x.time ≤ t := by omega
    simp only [stepOff, c, if_true]
    cases xs with
    | nil => simp at h; subst h; simp [stepOff]
    | cons x2 xs2 =>
      apply ih _ _ (List.pairwise_cons.mp hs).2 _ t ht
      simpa [List.getLast?_cons_cons] using h

theorem stepOff_before (z : Zone) (ts : List Transition) : ∀ (p : Int) (lo : Option Int) (last : Transition),
    Sorted ts → sepFrom z ts p lo = true → ts.getLast? = some last → ∀ t, t < last.time →
    t + stepOff z p ts t ≤ hiLast z p ts := by
  induction ts with
  | nil => intro p lo last _ _ h; cases h
  | cons x xs ih =>
    intro p lo last hs hsep h t ht
    have hhead := head_le_hiLast z (x :: xs) p lo hsep x xs rfl
    by_cases c : x.time ≤ t
    · simp only [stepOff, c, if_true]
      cases xs with
      | nil => simp at h; subst h; omega
      | cons x2 xs2 =>
        have := ih (typeAt z x.idx).off _ last (List.pairwise_cons.mp hs).2 (sepFrom_tail hsep)
          (by simpa [List.getLast?_cons_cons] using h) t ht
        simpa [hiLast] using this
    · simp only [stepOff, c, if_false]; omega

/-- what the loop returns on a non-empty separated table: an early result exactly when `ℓ` is not
beyond the last window, otherwise the type of the last transition -/
theorem loop_out (z : Zone) (ℓ : Int) (ts : List Transition) : ∀ (prev : Ltt) (lo : Option Int) (last : Transition),
    sepFrom z ts prev.off lo = true → InRange z ts → (-2147483648 ≤ prev.off ∧ prev.off ≤ 2147483647) →
    ts.getLast? = some last →
    ((∃ m, fromLocalLoop z ts prev ℓ = .ret m ∧ ℓ ≤ hiLast z prev.off ts) ∨
     (fromLocalLoop z ts prev ℓ = .fell (typeAt z last.idx) ∧ hiLast z prev.off ts < ℓ)) := by
  induction ts with
  | nil => intro prev lo last _ _ _ h; cases h
  | cons tr rest ih =>
    intro prev lo last hsep hr hp hl
    have hT := hr.2 tr (List.mem_cons_self ..)
    have ha := hr.1 tr.idx
    have hhead := head_le_hiLast z (tr :: rest) prev.off lo hsep tr rest rfl
    by_cases c : ℓ ≤ tr.time + max prev.off (typeAt z tr.idx).off
    · exact .inl ⟨_, by rw [loop_cons z tr rest prev ℓ hT hp ha, if_pos c], by omega⟩
    · have c' : tr.time + max prev.off (typeAt z tr.idx).off < ℓ := by omega
      rw [loop_cons z tr rest prev ℓ hT hp ha, if_neg c]
      cases rest with
      | nil =>
        right
        simp at hl; subst hl
        exact ⟨by simp [fromLocalLoop], by simpa [hiLast] using c'⟩
      | cons x2 xs2 =>
        have hr' : InRange z (x2 :: xs2) := ⟨hr.1, fun x hx' => hr.2 x (List.mem_cons_of_mem _ hx')⟩
        have := ih (typeAt z tr.idx) _ last (sepFrom_tail hsep) hr' ha (by simpa [List.getLast?_cons_cons] using hl)
        simpa [hiLast] using this

/-- generic composition: a separated table followed by a step function `G` in force from the last
transition on, whose wall-clock lookup `R` is exact beyond the last window -/
theorem compose (z : Zone) (ℓ : Int) (G : Int → Int) (R : Mapped Ltt) (last : Transition)
    (hl : z.transitions.getLast? = some last) (hs : Sorted z.transitions) (hsep : WellSeparated z)
    (hnb : NoBoundary' z (typeAt z 0).off z.transitions ℓ) (hr : InRange z z.transitions)
    (J1 : ∀ t, last.time ≤ t → G t = (typeAt z last.idx).off ∨
      (hiLast z (typeAt z 0).off z.transitions < t + G t ∧
       hiLast z (typeAt z 0).off z.transitions < t + (typeAt z last.idx).off))
    (J2 : ∀ t, t < last.time → G t = (typeAt z last.idx).off ∨
      t + G t ≤ hiLast z (typeAt z 0).off z.transitions)
    (HR : hiLast z (typeAt z 0).off z.transitions < ℓ → Classifies G ℓ R) :
    Classifies (fun t => if last.time ≤ t then G t else stepOff z (typeAt z 0).off z.transitions t) ℓ
      (match fromLocalLoop z z.transitions (typeAt z 0) ℓ with
       | .ret m => m
       | .fell _ => R) := by
  have hp := hr.1 0
  have hge := hiLast_ge z z.transitions (typeAt z 0).off last hl
  rcases loop_out z ℓ z.transitions (typeAt z 0) none last hsep hr hp hl with ⟨m, hm, hle⟩ | ⟨hf, hgt⟩
  · rw [hm]
    have hc := loop_classifies z ℓ z.transitions (typeAt z 0) none hs hsep hnb hr hp
    rw [hm] at hc
    simp only [outMap] at hc
    apply classifies_congr _ _ ℓ _ _ hc
    intro t
    by_cases c : last.time ≤ t
    · simp only [c, if_true]
      rw [stepOff_after z z.transitions _ last hs hl t c]
      rcases J1 t c with h | h
      · rw [h]
      · constructor <;> intro hh <;> omega
    · simp only [c, if_false]
  · rw [hf]
    apply classifies_congr _ _ ℓ _ _ (HR hgt)
    intro t
    by_cases c : last.time ≤ t
    · simp only [c, if_true]
    · simp only [c, if_false]
      have hb := stepOff_before z z.transitions _ none last hs hsep hl t (by omega)
      rcases J2 t (by omega) with h | h
      · rw [h]; constructor <;> intro hh <;> omega
      · constructor <;> intro hh <;> omega

theorem offAt_with_rule (z : Zone) (r : Rule) (last : Transition) (t : Int) (hrule : z.rule = some r)
    (hl : z.transitions.getLast? = some last) (hs : Sorted z.transitions) :
    offAt z t = (if last.time ≤ t then (ruleOff r t).off else stepOff z (typeAt z 0).off z.transitions t) := by
  rw [stepOff_eq z _ _ t hs]
  unfold offAt ltAt afterLast tableAt
  rw [hrule, hl]
  by_cases c : last.time ≤ t
  · simp [c]
  · simp only [c, decide_false, Bool.false_eq_true, if_false]
    cases (z.transitions.filter (fun tr => decide (tr.time ≤ t))).getLast? <;> rfl

theorem from_local_with_rule (z : Zone) (r : Rule) (last : Transition) (ℓ : Int) (hrule : z.rule = some r)
    (hl : z.transitions.getLast? = some last) :
    z.find_local_time_type_from_local ℓ =
      (match fromLocalLoop z z.transitions (typeAt z 0) ℓ with
       | .ret m => m
       | .fell _ => r.find_local_time_type_from_local (naiveYear ℓ) ℓ) := by
  unfold Zone.find_local_time_type_from_local
  rw [hrule]
  have : z.transitions.isEmpty = false := by
    cases h : z.transitions with
    | nil => rw [h] at hl; cases hl
    | cons _ _ => rfl
  rw [this]
  dsimp only
  simp only [Bool.false_eq_true, if_false]
  cases fromLocalLoop z z.transitions (typeAt z 0) ℓ <;> rfl

/-- `joinSeparatedB` unpacked for an alternate-time rule -/
theorem join_alt (z : Zone) (a : Alt) (last : Transition) (hrule : z.rule = some (.alt a))
    (hl : z.transitions.getLast? = some last) (hj : JoinSeparated z) :
    ruleG a last.time = (typeAt z last.idx).off ∧
    ∀ y, (y = yearOf (last.time / 86400) - 1 ∨ y = yearOf (last.time / 86400) ∨ y = yearOf (last.time / 86400) + 1) →
      ∀ X, (X = startAt a y ∨ X = endAt a y) →
        (X ≤ last.time ∧ X + max a.std.off a.dst.off ≤ hiLast z (typeAt z 0).off z.transitions) ∨
        (last.time < X ∧ hiLast z (typeAt z 0).off z.transitions < X + min a.std.off a.dst.off) := by
  unfold JoinSeparated joinSeparatedB at hj
  rw [hrule, hl] at hj
  simp only [Bool.and_eq_true, decide_eq_true_eq, List.all_cons, List.all_nil, Bool.and_true,
    Bool.or_eq_true] at hj
  refine ⟨hj.1, ?_⟩
  intro y hy X hX
  rcases hy with e | e | e <;> subst e <;> rcases hX with e | e <;> subst e
  · exact hj.2.1.1
  · exact hj.2.1.2
  · exact hj.2.2.1.1
  · exact hj.2.2.1.2
  · exact hj.2.2.2.1
  · exact hj.2.2.2.2

/-- what `JoinSeparated` says of one rule transition `X`, for either rule offset `g` and an instant `t`
on the far side of `X` from the last table transition `T`: the reading of `t` lies on the same side of
the last table window's upper end `hi` -/
theorem crossing_window (std dst X T hi : Int)
    (hx : (X ≤ T ∧ X + max std dst ≤ hi) ∨ (T < X ∧ hi < X + min std dst))
    (g : Int) (hg : g = std ∨ g = dst) (t : Int) :
    (T < X → X ≤ t → hi < t + g) ∧ (X ≤ T → t < X → t + g ≤ hi) := by
  omega

theorem join_J1 (z : Zone) (a : Alt) (last : Transition) (hrule : z.rule = some (.alt a))
    (hl : z.transitions.getLast? = some last) (hj : JoinSeparated z) (hy : RuleYearly a) :
    ∀ t, last.time ≤ t → ruleG a t = (typeAt z last.idx).off ∨
      (hiLast z (typeAt z 0).off z.transitions < t + ruleG a t ∧
       hiLast z (typeAt z 0).off z.transitions < t + (typeAt z last.idx).off) := by
  intro t ht
  obtain ⟨hc, hX⟩ := join_alt z a last hrule hl hj
  have hY0 := yearOf_spec (last.time / 86400)
  generalize yearOf (last.time / 86400) = y0 at hX hY0
  have gL := hc ▸ ruleG_mem a last.time
  by_cases cA : ∃ y, (y = y0 - 1 ∨ y = y0 ∨ y = y0 + 1) ∧
      ∃ X, (X = startAt a y ∨ X = endAt a y) ∧ last.time < X ∧ X ≤ t
  · obtain ⟨y, hy', X, hX', h1, h2⟩ := cA
    have w := crossing_window _ _ X _ _ (hX y hy' X hX')
    exact .inr ⟨(w _ (ruleG_mem a t) t).1 h1 h2, (w _ gL t).1 h1 h2⟩
  · left
    rw [← hc]
    exact (ruleG_const a hy _ t y0 hY0 ht fun y hy' X hX' h => cA ⟨y, .inr hy', X, hX', h⟩).symm

theorem join_J2 (z : Zone) (a : Alt) (last : Transition) (hrule : z.rule = some (.alt a))
    (hl : z.transitions.getLast? = some last) (hj : JoinSeparated z) (hy : RuleYearly a) :
    ∀ t, t < last.time → ruleG a t = (typeAt z last.idx).off ∨
      t + ruleG a t ≤ hiLast z (typeAt z 0).off z.transitions := by
  intro t ht
  obtain ⟨hc, hX⟩ := join_alt z a last hrule hl hj
  have hY0 := yearOf_spec (last.time / 86400)
  generalize yearOf (last.time / 86400) = y0 at hX hY0
  by_cases cA : ∃ y, (y = y0 - 1 ∨ y = y0 ∨ y = y0 + 1) ∧
      ∃ X, (X = startAt a y ∨ X = endAt a y) ∧ t < X ∧ X ≤ last.time
  · obtain ⟨y, hy', X, hX', h1, h2⟩ := cA
    have w := crossing_window _ _ X _ _ (hX y hy' X hX')
    exact .inr ((w _ (ruleG_mem a t) t).2 h2 h1)
  · left
    have n : ∀ y, (y = y0 - 1 ∨ y = y0 ∨ y = y0 + 1) → ∀ X, (X = startAt a y ∨ X = endAt a y) →
        ¬ (t < X ∧ X ≤ last.time) := fun y hy' X hX' h => cA ⟨y, hy', X, hX', h⟩
    have bT := bounds_of_isYearOf _ y0 hY0
    rw [← hc]
    by_cases cy : daysBeforeYear y0 * 86400 ≤ t
    · exact ruleG_const a hy t _ y0 (isYearOf_of_bounds t y0 cy (by omega)) (by omega)
        fun y hy' => n y (.inr hy')
    · -- `t` lies in the previous year: not before its start, which is not in `(t, T]`
      have em : y0 - 1 + 1 = y0 := by omega
      have rm := (yearly_facts a hy (y0 - 1)).1
      rw [em] at rm
      have n3 := n (y0 - 1) (.inl rfl) _ (.inl rfl)
      refine ruleG_const a hy t _ (y0 - 1) (isYearOf_of_bounds t (y0 - 1) (by omega) (by rw [em]; omega))
        (by omega) fun y hy' => n y ?_
      rcases hy' with e | e
      · exact .inl e
      · exact .inr (.inl (by omega))

/-- table + alternate-time footer rule; `hS`/`hE` guarded by `hiLast … < ℓ`: a reading at or below the
upper end of the last table window is answered by the table loop, which never consults the rule -/
theorem composed_alt_guarded' (z : Zone) (a : Alt) (last : Transition) (ℓ : Int)
    (hrule : z.rule = some (.alt a)) (hl : z.transitions.getLast? = some last)
    (hs : Sorted z.transitions) (hsep : WellSeparated z) (hj : JoinSeparated z)
    (hvS : ValidDay a.dstStart) (hvE : ValidDay a.dstEnd) (hy : RuleYearly a)
    (hnb : NoBoundary' z (typeAt z 0).off z.transitions ℓ)
    (hS : a.std.off ≠ a.dst.off → hiLast z (typeAt z 0).off z.transitions < ℓ → ℓ ≠ wallStart a (naiveYear ℓ))
    (hE : a.std.off ≠ a.dst.off → hiLast z (typeAt z 0).off z.transitions < ℓ → ℓ ≠ wallEnd a (naiveYear ℓ))
    (hr : InRange z z.transitions) (hℓ : -36028797018963968 ≤ ℓ ∧ ℓ ≤ 36028797018963968) :
    Classifies (offAt z) ℓ (z.find_local_time_type_from_local ℓ) := by
  rw [from_local_with_rule z (.alt a) last ℓ hrule hl]
  have hc := compose z ℓ (ruleG a) (a.find_local_time_type_from_local (naiveYear ℓ) ℓ) last hl hs hsep hnb hr
    (join_J1 z a last hrule hl hj hy) (join_J2 z a last hrule hl hj hy)
    (fun hgt => rule_from_local_global a hvS hvE hy ℓ hℓ (fun h => hS h hgt) (fun h => hE h hgt))
  apply classifies_congr _ _ ℓ _ _ hc
  intro t
  rw [offAt_with_rule z (.alt a) last t hrule hl hs]
  rfl

/-- the same with the rule's two boundary seconds excepted everywhere -/
theorem composed_alt' (z : Zone) (a : Alt) (last : Transition) (ℓ : Int)
    (hrule : z.rule = some (.alt a)) (hl : z.transitions.getLast? = some last)
    (hs : Sorted z.transitions) (hsep : WellSeparated z) (hj : JoinSeparated z)
    (hvS : ValidDay a.dstStart) (hvE : ValidDay a.dstEnd) (hy : RuleYearly a)
    (hnb : NoBoundary' z (typeAt z 0).off z.transitions ℓ)
    (hS : a.std.off ≠ a.dst.off → ℓ ≠ wallStart a (naiveYear ℓ))
    (hE : a.std.off ≠ a.dst.off → ℓ ≠ wallEnd a (naiveYear ℓ))
    (hr : InRange z z.transitions) (hℓ : -36028797018963968 ≤ ℓ ∧ ℓ ≤ 36028797018963968) :
    Classifies (offAt z) ℓ (z.find_local_time_type_from_local ℓ) :=
  composed_alt_guarded' z a last ℓ hrule hl hs hsep hj hvS hvE hy hnb (fun h _ => hS h) (fun h _ => hE h) hr hℓ

end Chrono.Proofs.TzL
