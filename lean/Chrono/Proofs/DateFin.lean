/- The finite facts under C01, proved by kernel evaluation: the four lookup tables are the lists of
values of their specifications. -/
import Chrono.Model.Date
import Chrono.Spec.Calendar
import Chrono.Spec.DateSpec

namespace Chrono.Proofs
open Chrono Chrono.M Chrono.Spec Chrono.Extracted

/-- A table is compared with `(List.range n).map f` as a whole, so that the kernel computes each
`f i` once and walks the literal once; an index-by-index `getD` would re-walk it for every `i`. -/
theorem table_of_map {t : List Nat} {n : Nat} {f : Nat → Nat} (h : t = (List.range n).map f) :
    t.length = n ∧ ∀ i < n, t.getD i 0 = f i := by
  subst h
  exact ⟨by simp, fun i hi => by simp [List.getD_eq_getElem?_getD, hi]⟩

theorem table_y2f : YEAR_TO_FLAGS.length = 400 ∧ ∀ i < 400, YEAR_TO_FLAGS.getD i 0 = flagsOf i :=
  table_of_map (f := fun i => flagsOf i) (by decide +kernel)
theorem table_mdl : MDL_TO_OL.length = 832 ∧ ∀ i < 832, MDL_TO_OL.getD i 0 = mdlDelta i :=
  table_of_map (by decide +kernel)
theorem table_ol : OL_TO_MDL.length = 733 ∧ ∀ i < 733, OL_TO_MDL.getD i 0 = olDelta i :=
  table_of_map (by decide +kernel)
theorem table_yd : YEAR_DELTAS.length = 401 ∧ ∀ i < 401, YEAR_DELTAS.getD i 0 = leapsBefore i :=
  table_of_map (by decide +kernel)

end Chrono.Proofs
