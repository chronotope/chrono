/-
  C15: the RFC 3339 renderers (`to_rfc3339`, `to_rfc3339_opts`) and `Serialize for DateTime<Tz>`
  return normally on EVERY well-formed zone-aware value — also when the wall clock lies in a headroom
  day beyond the range ends, or its year is outside 0..=9999 (five-digit signed year form).
  Namespace `Chrono.Proofs.C15Render`.
-/
import Chrono.Proofs.Rfc3339WriteL
import Chrono.Model.SerdeStr

namespace Chrono.Proofs.C15Render
open Chrono Chrono.M Chrono.M.Format Chrono.Spec Chrono.Proofs Chrono.Proofs.RenderScan Chrono.Proofs.Rfc3339
open Chrono.Extracted

/-- the writer produced text (no `fmt::Error`, no panic) -/
def IsText (w : W) : Prop := ∃ t, w = wok t

theorem isText_wok (t : List Nat) : IsText (wok t) := ⟨t, rfl⟩

theorem isText_seq {a b : W} (ha : IsText a) (hb : IsText b) : IsText (a.seq b) := by
  obtain ⟨x, rfl⟩ := ha
  obtain ⟨y, rfl⟩ := hb
  exact ⟨x ++ y, rfl⟩

theorem isText_u8 (x : Int) (h0 : 0 ≤ x) (h : x < 100) : IsText (write_hundreds (asU8 x)) :=
  ⟨_, write_hundreds_u8 x h0 h⟩

/-- `write_rfc3339` succeeds on every reading of the extended calendar, every offset a `FixedOffset`
can hold, every precision, with and without `Z`: every two-digit field is below 100, and the year has a
branch of its own outside 0..=9999 -/
theorem write_rfc3339_ok (l : NaiveDT) (hl : ExtNDTInv l) (off : Int) (ho : OffValid off)
    (sf : SecondsFormat) (use_z : Bool) : IsText (write_rfc3339 l off sf use_z) := by
  obtain ⟨date, time⟩ := l
  obtain ⟨hd, t1, t2, t3, t4⟩ := hl
  dsimp only at hd t1 t2 t3 t4
  obtain ⟨he, _, _, v3, v4⟩ := ext_eq date hd
  obtain ⟨m1, m2, m3, _⟩ := month_day_spec date.year date.ordinal.toNat v3 v4
  obtain ⟨b1, b2, b3, b4⟩ := validYmd_bounds _ _ _ m3
  rw [← he] at m1 m2
  rw [write_rfc3339_unfold, m1, m2]
  simp only [W.ofRes]
  have hmo := isText_u8 (monthOfYo date.year date.ordinal.toNat) (by omega) (by omega)
  have hdy := isText_u8 (dayOfYo date.year date.ordinal.toNat) (by omega) (by omega)
  have hh := isText_u8 (time.secs / 60 / 60) (by omega) (by omega)
  have hmi := isText_u8 (time.secs / 60 % 60) (by omega) (by omega)
  have hs := isText_u8 (if time.frac ≥ 1000000000 then time.secs % 60 + 1 else time.secs % 60)
    (by split <;> omega) (by split <;> omega)
  refine isText_seq ?_ <| isText_seq (isText_wok _) <| isText_seq hmo <| isText_seq (isText_wok _) <|
    isText_seq hdy <| isText_seq (isText_wok _) <| isText_seq hh <| isText_seq (isText_wok _) <|
    isText_seq hmi <| isText_seq (isText_wok _) <| isText_seq hs <| isText_seq (isText_wok _)
      ⟨_, offset_format_eq use_z off ho⟩
  split
  · rename_i hy
    rw [Int.tdiv_eq_ediv_of_nonneg hy.1, Int.tmod_eq_emod_of_nonneg hy.1]
    exact isText_seq (isText_u8 _ (by omega) (by omega)) (isText_u8 _ (by omega) (by omega))
  · exact isText_wok _

/-- `to_rfc3339_opts` (hence `to_rfc3339`) returns the text for every well-formed value -/
theorem to_rfc3339_opts_total (z : Zoned) (hz : ZInv z) (sf : SecondsFormat) (use_z : Bool) :
    ∃ t, Rfc3339.to_rfc3339_opts z sf use_z = .ok t := by
  obtain ⟨l, h1, h2, _⟩ := naive_local_spec z hz
  obtain ⟨t, ht⟩ := write_rfc3339_ok l h2 z.off hz.2 sf use_z
  refine ⟨t, ?_⟩
  unfold Rfc3339.to_rfc3339_opts
  rw [h1]
  show Rfc3339.expectText (write_rfc3339 l z.off sf use_z) = .ok t
  rw [ht]; rfl

/-- `Serialize for DateTime<Tz>` (fixed offset / UTC) hands the serializer a text for every
well-formed value -/
theorem serialize_total (z : Zoned) (hz : ZInv z) :
    ∃ t, Serde.DateTimeStr.serialize z = .ok (some t) := by
  obtain ⟨l, h1, h2, _⟩ := naive_local_spec z hz
  obtain ⟨t, ht⟩ := write_rfc3339_ok l h2 z.off hz.2 .autoSi true
  refine ⟨t, ?_⟩
  unfold Serde.DateTimeStr.serialize
  rw [h1]
  exact ht

end Chrono.Proofs.C15Render
