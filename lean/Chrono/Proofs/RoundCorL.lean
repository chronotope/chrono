/- C17: what follows from the closed forms bracketing the stamp (bounds, sides, order, fixed points). -/
import Chrono.Proofs.RoundTdL

namespace Chrono.Proofs.RoundL
open Chrono Chrono.M Chrono.M.Round Chrono.Spec Chrono.Spec.Round Chrono.Extracted.Round

theorem spec_bounds (k : Kind) (s span : Int) (hp : 0 < span) :
    -span < specOf k s span - s ∧ specOf k s span - s < span := by
  have hb := bracket s span hp
  cases k
  · show -span < truncSpec s span - s ∧ truncSpec s span - s < span; omega
  · show -span < roundSpec s span - s ∧ roundSpec s span - s < span
    unfold roundSpec; split <;> omega
  · show -span < upSpec s span - s ∧ upSpec s span - s < span; omega

theorem spec_sides (s span : Int) (hp : 0 < span) :
    truncSpec s span ≤ s ∧ s ≤ upSpec s span ∧
    2 * (roundSpec s span - s) ≤ span ∧ -span < 2 * (roundSpec s span - s) := by
  have hb := bracket s span hp
  unfold roundSpec; split <;> omega

theorem spec_order (s span : Int) (hp : 0 < span) :
    truncSpec s span ≤ roundSpec s span ∧ roundSpec s span ≤ upSpec s span ∧
    (upSpec s span - truncSpec s span = 0 ∨ upSpec s span - truncSpec s span = span) := by
  have hb := bracket s span hp
  unfold roundSpec; split <;> omega

theorem spec_dvd (k : Kind) (s span : Int) : span ∣ specOf k s span := by
  cases k
  · exact truncSpec_dvd s span
  · show span ∣ roundSpec s span
    unfold roundSpec
    split
    · exact upSpec_dvd s span
    · exact truncSpec_dvd s span
  · exact upSpec_dvd s span

/-- a stamp is a multiple exactly when the operation leaves it alone -/
theorem spec_fixed_iff (k : Kind) (s span : Int) (hp : 0 < span) :
    span ∣ s ↔ specOf k s span = s := by
  constructor
  · intro h
    have hb := bracket s span hp
    have := dvd_le_truncSpec s span s hp h (Int.le_refl s)
    cases k
    · show truncSpec s span = s; omega
    · show roundSpec s span = s; unfold roundSpec; split <;> omega
    · show upSpec s span = s; omega
  · intro h
    rw [← h]; exact spec_dvd k s span
theorem spec_idem (k : Kind) (s span : Int) (hp : 0 < span) :
    specOf k (specOf k s span) span = specOf k s span :=
  (spec_fixed_iff k _ span hp).mp (spec_dvd k s span)

end Chrono.Proofs.RoundL
