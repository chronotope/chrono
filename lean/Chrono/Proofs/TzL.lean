/- Helper lemmas for C16 (proofs of the statements in Props/C16.lean). -/
import Chrono.Spec.TzSpec
import Chrono.Proofs.PrimL

namespace Chrono.Proofs.Tz
open Chrono Chrono.M.Tz Chrono.Spec.Tz Chrono.Extracted.TzP

/-- "does not panic" -/
def NP {α} (r : P α) : Prop := r ≠ .panic

theorem np_ite {α} {c : Prop} [Decidable c] {x y : P α} (hx : c → NP x) (hy : ¬ c → NP y) :
    NP (if c then x else y) := by
  split
  · exact hx ‹_›
  · exact hy ‹_›

/-! ### cursor primitives -/
theorem read_exact_cases (c : Cursor) (n : Nat) :
    (n ≤ c.length ∧ read_exact c n = .ok (c.take n, c.drop n)) ∨ read_exact c n = .err := by
  unfold read_exact
  split
  · exact Or.inl ⟨‹_›, rfl⟩
  · exact Or.inr rfl

theorem np_read_be_u32 (c : Cursor) : NP (read_be_u32 c) := by
  unfold read_be_u32
  rcases read_exact_cases c 4 with ⟨_, h⟩ | h <;> simp [NP, h]

/-! ### Hoare-style postconditions: no panic, and `Q` on the value if there is one -/
def Post {α} (r : P α) (Q : α → Prop) : Prop :=
  match r with
  | .ok a => Q a
  | .err => True
  | .panic => False

theorem post_np {α} {r : P α} {Q : α → Prop} (h : Post r Q) : NP r := by
  cases r <;> simp_all [Post, NP]

theorem post_spec {α} {r : P α} {Q : α → Prop} (h : Post r Q) {a : α} (e : r = .ok a) : Q a := by
  subst e; exact h

/-- a run meeting a postcondition either failed or returned a value satisfying it -/
theorem post_cases {α} {r : P α} {Q : α → Prop} (h : Post r Q) : r = .err ∨ ∃ a, r = .ok a ∧ Q a := by
  cases r with
  | ok a => exact Or.inr ⟨a, rfl, h⟩
  | err => exact Or.inl rfl
  | panic => exact h.elim

theorem post_ok {α} {Q : α → Prop} {a : α} (h : Q a) : Post (.ok a) Q := h
theorem post_err {α} {Q : α → Prop} : Post (.err : P α) Q := trivial

theorem post_bind {α β} {r : P α} {f : α → P β} {Q : α → Prop} {R : β → Prop}
    (h1 : Post r Q) (h2 : ∀ a, r = .ok a → Q a → Post (f a) R) : Post (r >>= f) R := by
  cases r with
  | ok a => exact h2 a rfl h1
  | err => trivial
  | panic => exact h1.elim

theorem post_mono {α} {r : P α} {Q R : α → Prop} (h : Post r Q) (i : ∀ a, Q a → R a) : Post r R := by
  cases r with
  | ok a => exact i a h
  | err => trivial
  | panic => exact h.elim

theorem post_ite {α} {c : Prop} [Decidable c] {x y : P α} {Q : α → Prop} (hx : c → Post x Q)
    (hy : ¬c → Post y Q) : Post (if c then x else y) Q := by
  split
  · exact hx ‹_›
  · exact hy ‹_›

theorem ck32_ok {x : Int} (h1 : -2147483648 ≤ x) (h2 : x ≤ 2147483647) : ck32 x = .ok x := by
  simp [ck32, inI32, I32_MIN, I32_MAX, h1, h2]
theorem ck64_ok {x : Int} (h1 : -9223372036854775808 ≤ x) (h2 : x ≤ 9223372036854775807) :
    ck64 x = .ok x := by
  simp [ck64, inI64, I64_MIN, I64_MAX, h1, h2]


/-- a range check that passes -/
theorem range_pass {α} {lo hi x : Int} {k : P α} (h : lo ≤ x ∧ x ≤ hi) :
    (if !(decide (lo ≤ x) && decide (x ≤ hi)) then P.err else k) = k := by
  rw [if_neg]
  simp only [Bool.not_eq_true', Bool.not_eq_false, Bool.and_eq_true, decide_eq_true_eq]
  exact h

theorem hms_range_pass {α} {L H M S hour minute second : Int} {k : P α}
    (h1 : L ≤ hour ∧ hour ≤ H) (h2 : 0 ≤ minute ∧ minute ≤ M) (h3 : 0 ≤ second ∧ second ≤ S) :
    (if !(decide (L ≤ hour) && decide (hour ≤ H)) then .err
      else if !(decide (0 ≤ minute) && decide (minute ≤ M)) then .err
      else if !(decide (0 ≤ second) && decide (second ≤ S)) then .err else k) = k := by
  rw [range_pass h1, range_pass h2, range_pass h3]

/-- the three range checks on hours, minutes and seconds that every time-of-day reader makes -/
theorem post_hms_range {α} {L H M S hour minute second : Int} {k : P α} {Q : α → Prop}
    (hk : L ≤ hour ∧ hour ≤ H → 0 ≤ minute ∧ minute ≤ M → 0 ≤ second ∧ second ≤ S → Post k Q) :
    Post (if !(decide (L ≤ hour) && decide (hour ≤ H)) then .err
      else if !(decide (0 ≤ minute) && decide (minute ≤ M)) then .err
      else if !(decide (0 ≤ second) && decide (second ≤ S)) then .err else k) Q := by
  refine post_ite (fun _ => post_err) fun g1 => post_ite (fun _ => post_err) fun g2 =>
    post_ite (fun _ => post_err) fun g3 => ?_
  simp only [Bool.not_eq_true', Bool.not_eq_false, Bool.and_eq_true, decide_eq_true_eq] at g1 g2 g3
  exact hk g1 g2 g3

/-! ### local time types -/
theorem post_name_new (n : List Nat) : Post (TimeZoneName.new n) (fun r => r = n ∧ NameOk n) := by
  unfold TimeZoneName.new
  have k1 : NAME_MIN = 3 := rfl
  have k2 : NAME_MAX = 7 := rfl
  split
  · exact post_err
  · split
    · rename_i g1 g2
      simp only [Bool.not_eq_true', Bool.not_eq_false, Bool.and_eq_true, decide_eq_true_eq] at g1
      refine post_ok ⟨rfl, ?_, ?_, g2⟩ <;> omega
    · exact post_err

/-- a constructed local time type: fields as given, offset strictly within 24 h, name legal -/
theorem post_ltt_new (off : Int) (dst : Bool) (name : Option (List Nat)) :
    Post (Ltt.new off dst name)
      (fun t => t = ⟨off, dst, name⟩ ∧ (-86400 < off ∧ off < 86400) ∧ ∀ n, name = some n → NameOk n) := by
  unfold Ltt.new
  split
  · exact post_err
  · rename_i g0
    have g : -86400 < off ∧ off < 86400 := by omega
    cases name with
    | none => exact post_ok ⟨rfl, g, by simp⟩
    | some n =>
      dsimp only
      rcases post_cases (post_name_new n) with e | ⟨_, e, rfl, h2⟩ <;> rw [e]
      · exact post_err
      · exact post_ok ⟨rfl, g, by intro m hm; cases hm; exact h2⟩

/-! ### coarse bounds on a rule, enough for the lookup arithmetic of `validate` -/
/-- rule-time magnitude below one week -/
def TimeV (t : Int) : Prop := -604799 ≤ t ∧ t ≤ 604799
def LttV (t : Ltt) : Prop := -100000 ≤ t.off ∧ t.off ≤ 100000
/-- DST flag as stated and a legal designation -/
def LttN (t : Ltt) (dst : Bool) : Prop := t.dst = dst ∧ ∃ n, t.name = some n ∧ NameOk n
/-- what `from_tz_string` guarantees about its result (enough for the lookup in `validate`) -/
def RuleV : Rule → Prop
  | .fixed t => LttV t ∧ LttN t false
  | .alt a => LttV a.std ∧ LttV a.dst ∧ DayOk a.dstStart ∧ DayOk a.dstEnd
      ∧ TimeV a.dstStartTime ∧ TimeV a.dstEndTime ∧ LttN a.std false ∧ LttN a.dst true

theorem post_alt_new (std dst : Ltt) (d1 : RuleDay) (t1 : Int) (d2 : RuleDay) (t2 : Int) :
    Post (Alt.new std dst d1 t1 d2 t2) (fun a => a = ⟨std, dst, d1, t1, d2, t2⟩) := by
  unfold Alt.new
  split
  · exact post_err
  · exact post_ok rfl

/-! ### the rule lookup used by `validate` never panics -/
theorem cumul_get : ∀ m, m < 12 →
    ∃ v, CUMUL_DAY_IN_MONTHS_NORMAL_YEAR[m]? = some v ∧ 0 ≤ v ∧ v ≤ 334 := by decide
theorem dim_get : ∀ m, m < 12 →
    ∃ v, DAY_IN_MONTHS_NORMAL_YEAR[m]? = some v ∧ 28 ≤ v ∧ v ≤ 31 := by decide

def I32r (x : Int) : Prop := -2147483648 ≤ x ∧ x ≤ 2147483647

theorem post_ck64 {x lo hi : Int} (h : lo ≤ x ∧ x ≤ hi) (hlo : -9223372036854775808 ≤ lo)
    (hhi : hi ≤ 9223372036854775807) : Post (ck64 x) (fun r => lo ≤ r ∧ r ≤ hi) := by
  rw [ck64_ok (by omega) (by omega)]; exact h

/-- a truncating quotient is no larger in magnitude than its dividend -/
theorem tdiv_within {x k B : Int} (h : -B ≤ x ∧ x ≤ B) : -B ≤ Int.tdiv x k ∧ Int.tdiv x k ≤ B := by
  have := Int.natAbs_tdiv_le_natAbs x k
  omega

theorem post_days (year : Int) (month : Nat) (md : Int) (hy : I32r year)
    (hm : 1 ≤ month ∧ month ≤ 12) (hd : -100 ≤ md ∧ md ≤ 100) :
    Post (days_since_unix_epoch year month md)
      (fun r => -800000000000 ≤ r ∧ r ≤ 800000000000) := by
  unfold days_since_unix_epoch
  unfold I32r at hy
  obtain ⟨v, hv, hv0, hv1⟩ := cumul_get (month - 1) (by omega)
  rw [if_neg (by omega)]
  simp only [idxI, hv, P.bind_ok]
  -- `365 * year` dominates: for the leap-day corrections the crude bound `|q| ≤ |year - c|` is enough
  have q (c k : Int) (hc : 1600 ≤ c ∧ c ≤ 2000) :=
    tdiv_within (x := year - c) (k := k) (B := 2147485648) (by omega)
  have := q 1968 4 (by decide); have := q 1900 100 (by decide); have := q 1600 400 (by decide)
  have := q 1972 4 (by decide); have := q 2000 100 (by decide); have := q 2000 400 (by decide)
  exact post_ck64 (by omega) (by decide) (by decide)

def DateV (r : Nat × Int) : Prop := 1 ≤ r.1 ∧ r.1 ≤ 12 ∧ 1 ≤ r.2 ∧ r.2 ≤ 40

/-- consecutive entries of a table rise by at most `g` -/
def gapsLe (g : Int) : List Int → Bool
  | a :: b :: t => decide (b ≤ a + g) && gapsLe g (b :: t)
  | _ => true

/-- `bsearchUpper` on a table that starts at or below the key and rises in steps of at most `g`:
the entry before the insertion point is within `g` of the key, unless it is the last one -/
theorem bsearchUpper_gaps (g key : Int) : ∀ (l : List Int) (a : Int), l.head? = some a → a ≤ key →
    gapsLe g l = true →
    ∃ c, l[bsearchUpper l key - 1]? = some c ∧ 1 ≤ bsearchUpper l key ∧ bsearchUpper l key ≤ l.length
      ∧ c ≤ key ∧ (key < c + g ∨ bsearchUpper l key = l.length)
  | [a], _, rfl, ha, _ => ⟨a, by simp [bsearchUpper, ha]⟩
  | a :: b :: t, _, rfl, ha, hg => by
    simp only [gapsLe, Bool.and_eq_true, decide_eq_true_eq] at hg
    have e : bsearchUpper (a :: b :: t) key = if b ≤ key then bsearchUpper (b :: t) key + 1 else 1 := by
      simp only [bsearchUpper, List.takeWhile_cons, decide_eq_true ha, if_true]
      split <;> simp_all
    rw [e]
    split
    · rename_i hb
      obtain ⟨c, h1, h2, h3, h4, h5⟩ := bsearchUpper_gaps g key (b :: t) b rfl hb hg.2
      refine ⟨c, ?_, by omega, by simp only [List.length_cons] at h3 ⊢; omega, h4, ?_⟩
      · rw [show bsearchUpper (b :: t) key + 1 - 1 = (bsearchUpper (b :: t) key - 1) + 1 by omega]
        exact h1
      · simp only [List.length_cons] at h5 ⊢; omega
    · exact ⟨a, rfl, by omega, by simp, ha, by omega⟩

theorem post_julian1Date (yd : Int) (h : 1 ≤ yd ∧ yd ≤ 365) : Post (julian1Date yd) DateV := by
  obtain ⟨c, h1, h2, h3, h4, h5⟩ :=
    bsearchUpper_gaps 31 (yd - 1) CUMUL_DAY_IN_MONTHS_NORMAL_YEAR 0 rfl (by omega) (by decide)
  unfold julian1Date
  dsimp only
  rw [if_neg (by omega)]
  simp only [idxI, h1, P.bind_ok]
  refine post_ok ⟨h2, h3, ?_, ?_⟩
  · dsimp only; omega
  · rcases h5 with h5 | h5
    · dsimp only; omega
    · rw [h5] at h1
      cases h1
      dsimp only; omega

theorem post_julian0Date (leap yd : Int) (hl : leap = 0 ∨ leap = 1) (h : 0 ≤ yd ∧ yd ≤ 365) :
    Post (julian0Date leap yd) DateV := by
  obtain ⟨c, h1, h2, h3, h4, h5⟩ :=
    bsearchUpper_gaps 31 yd (cumulLeap leap) 0 rfl h.1 (by rcases hl with rfl | rfl <;> decide)
  unfold julian0Date
  dsimp only
  rw [if_neg (by omega)]
  simp only [idxI, h1, P.bind_ok]
  refine post_ok ⟨h2, h3, ?_, ?_⟩
  · dsimp only; omega
  · rcases h5 with h5 | h5
    · dsimp only; omega
    · rw [h5] at h1
      cases h1
      dsimp only; omega

theorem mwdDay_bounds (dim week wd wd1 : Int) (h1 : 28 ≤ dim ∧ dim ≤ 32) (h2 : 1 ≤ week ∧ week ≤ 5)
    (_h3 : 0 ≤ wd ∧ wd ≤ 6) : 1 ≤ mwdDay dim week wd wd1 ∧ mwdDay dim week wd wd1 ≤ 40 := by
  unfold mwdDay
  have k : DAYS_PER_WEEK = 7 := rfl
  simp only [k]
  split <;> omega

theorem post_transition_date (d : RuleDay) (year : Int) (hd : DayOk d) (hy : I32r year) :
    Post (d.transition_date year) DateV := by
  cases d with
  | julian1 n =>
    simp only [DayOk] at hd
    exact post_julian1Date n (by omega)
  | julian0 n =>
    simp only [DayOk] at hd
    exact post_julian0Date _ n (by split <;> simp) (by omega)
  | mwd m w wd =>
    simp only [DayOk] at hd
    simp only [RuleDay.transition_date]
    rw [if_neg (by omega)]
    obtain ⟨v, hv, hv0, hv1⟩ := dim_get (m - 1) (by omega)
    simp only [idxI, hv, P.bind_ok]
    refine post_bind (post_days year m 1 hy ⟨hd.1, hd.2.1⟩ (by omega)) ?_
    rintro d1 - -
    refine post_ok ?_
    have hb := mwdDay_bounds (if m = 2 then v + (if is_leap_year year = true then 1 else 0) else v) w wd
      ((4 + d1) % DAYS_PER_WEEK) (by split <;> first | omega | (split <;> omega)) (by omega) (by omega)
    unfold DateV
    exact ⟨hd.1, hd.2.1, hb.1, hb.2⟩

theorem post_unix_time (d : RuleDay) (year t : Int) (hd : DayOk d) (hy : I32r year)
    (ht : -1000000 ≤ t ∧ t ≤ 1000000) : Post (d.unix_time year t) (fun _ => True) := by
  unfold RuleDay.unix_time
  refine post_bind (post_transition_date d year hd hy) ?_
  rintro ⟨month, md⟩ - ⟨h1, h2, _h3, h4⟩
  dsimp only at h1 h2 h4 ⊢
  refine post_bind (post_days year month md hy ⟨h1, h2⟩ (by omega)) ?_
  rintro days - hdays
  have k : SECONDS_PER_DAY = 86400 := rfl
  rw [k, ck64_ok (by omega) (by omega)]
  simp only [P.bind_ok]
  rw [ck64_ok (by omega) (by omega)]
  trivial

theorem post_ite_inI32 (y : Int) : Post (if inI32 y then (P.ok y : P Int) else .err) I32r := by
  split
  · rename_i h
    simp only [inI32, I32_MIN, I32_MAX, Bool.and_eq_true] at h
    exact post_ok ⟨of_decide_eq_true h.1, of_decide_eq_true h.2⟩
  · exact post_err

theorem post_from_timespec_year (t : Int) : Post (from_timespec_year t) I32r := by
  unfold from_timespec_year
  split
  · exact post_err
  · exact post_ite_inI32 _

/-- the look into a neighbouring year `y`: one transition of that year, then (depending on it) the other -/
theorem post_year_block {d1 d2 : RuleDay} {t1 t2 y : Int} (hd1 : DayOk d1) (hd2 : DayOk d2) (hy : I32r y)
    (ht1 : -1000000 ≤ t1 ∧ t1 ≤ 1000000) (ht2 : -1000000 ≤ t2 ∧ t2 ≤ 1000000)
    (c : Int → Prop) [DecidablePred c] (f : Int → Bool) (b : Bool) :
    Post (ck32 y >>= fun y => d1.unix_time y t1 >>= fun x =>
        if c x then d2.unix_time y t2 >>= fun z => .ok (f z) else .ok b) (fun _ => True) := by
  rw [ck32_ok hy.1 hy.2, P.bind_ok]
  refine post_bind (post_unix_time _ _ _ hd1 hy ht1) fun x _ _ => post_ite (fun _ => ?_) fun _ => post_ok trivial
  exact post_bind (post_unix_time _ _ _ hd2 hy ht2) fun _ _ _ => post_ok trivial

theorem post_alt_find (a : Alt) (t : Int) (h : RuleV (.alt a)) :
    Post (a.find_ltt_for_validate t) (fun _ => True) := by
  obtain ⟨hs, hd, hd1, hd2, ht1, ht2, -, -⟩ := h
  unfold LttV at hs hd
  unfold TimeV at ht1 ht2
  have hs1 : -1000000 ≤ a.dstStartTime - a.std.off ∧ a.dstStartTime - a.std.off ≤ 1000000 := by omega
  have hs2 : -1000000 ≤ a.dstEndTime - a.dst.off ∧ a.dstEndTime - a.dst.off ≤ 1000000 := by omega
  refine post_bind (post_from_timespec_year t) fun cy _ hcy => post_ite (fun _ => post_err) fun g => ?_
  simp only [Bool.not_eq_true', Bool.not_eq_false, Bool.and_eq_true, I32_MIN, I32_MAX] at g
  have g1 := of_decide_eq_true g.1
  have g2 := of_decide_eq_true g.2
  have hp : I32r (cy - 1) := by unfold I32r; omega
  have hn : I32r (cy + 1) := by unfold I32r; omega
  refine post_bind (post_unix_time _ _ _ hd1 hcy hs1) fun cs _ _ => ?_
  refine post_bind (post_unix_time _ _ _ hd2 hcy hs2) fun ce _ _ => ?_
  refine post_bind (Q := fun _ => True) ?_ (fun b _ _ => post_ok trivial)
  refine post_ite (fun _ => post_ite (fun _ => ?_) fun _ => post_ite (fun _ => post_ok trivial) fun _ => ?_)
    (fun _ => post_ite (fun _ => ?_) fun _ => post_ite (fun _ => post_ok trivial) fun _ => ?_)
  · exact post_year_block hd2 hd1 hp hs2 hs1 _ _ _
  · exact post_year_block hd1 hd2 hn hs1 hs2 _ _ _
  · exact post_year_block hd1 hd2 hp hs1 hs2 _ _ _
  · exact post_year_block hd2 hd1 hn hs2 hs1 _ _ _

theorem post_rule_find (r : Rule) (t : Int) (h : RuleV r) :
    Post (r.find_ltt_for_validate t) (fun _ => True) := by
  cases r with
  | fixed x => exact post_ok trivial
  | alt a => exact post_alt_find a t h

end Chrono.Proofs.Tz
