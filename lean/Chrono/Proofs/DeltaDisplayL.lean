/- Helper lemmas for C06: the Display text read back by `Spec.readDuration`. -/
import Chrono.Proofs.DeltaL
import Chrono.Spec.DeltaDisplaySpec

namespace Chrono.Proofs
open Chrono Chrono.M Chrono.Spec Chrono.Extracted

theorem isDigit_digitChar (d : Nat) : isDigit (Delta.digitChar d) = true := by
  have h1 : 48 ≤ 48 + d % 10 := by omega
  have h2 : 48 + d % 10 ≤ 57 := by omega
  simp only [isDigit, Delta.digitChar, h1, h2, decide_true, Bool.and_self]

theorem digitChar_val (d : Nat) : Delta.digitChar d - 48 = d % 10 := by
  simp only [Delta.digitChar]; omega

theorem readDigits_digit (c : Nat) (cs : List Nat) (v n l : Nat) (h : isDigit c = true) :
    readDigits (c :: cs) v n l = readDigits cs (v * 10 + (c - 48)) (n + 1) (c - 48) := by
  simp only [readDigits, h, if_true]

theorem readDigits_stop (c : Nat) (cs : List Nat) (v n l : Nat) (h : isDigit c = false) :
    readDigits (c :: cs) v n l = (v, n, l, c :: cs) := by
  simp only [readDigits, h, Bool.false_eq_true, if_false]

/-- what the digit printer produces, in terms of the reader: the digits of `n` extend the value read
so far, whatever follows; their number is at most `w` when `n < 10^w` -/
theorem natDigitsAux_spec : ∀ (fuel n : Nat), n < fuel → ∃ ds : List Nat,
    (∀ acc, Delta.natDigitsAux fuel n acc = ds ++ acc) ∧ 1 ≤ ds.length ∧
    (∀ rest v cnt l, readDigits (ds ++ rest) v cnt l =
      readDigits rest (v * 10 ^ ds.length + n) (cnt + ds.length) (n % 10)) ∧
    (∀ w, 1 ≤ w → n < 10 ^ w → ds.length ≤ w) := by
  intro fuel
  induction fuel with
  | zero => intro n h; omega
  | succ f ih =>
    intro n hn
    by_cases h10 : n < 10
    · refine ⟨[Delta.digitChar n], ?_, by simp, ?_, ?_⟩
      · intro acc; simp only [Delta.natDigitsAux, h10, if_true, List.singleton_append]
      · intro rest v cnt l
        rw [List.singleton_append, readDigits_digit _ _ _ _ _ (isDigit_digitChar n), digitChar_val]
        have : n % 10 = n := by omega
        simp only [List.length_singleton, Nat.pow_one, this]
      · intro w hw _; simpa using hw
    · obtain ⟨ds, h1, h2, h3, h4⟩ := ih (n / 10) (by omega)
      refine ⟨ds ++ [Delta.digitChar (n % 10)], ?_, by simp, ?_, ?_⟩
      · intro acc
        simp only [Delta.natDigitsAux, h10, if_false, h1, List.append_assoc, List.singleton_append]
      · intro rest v cnt l
        rw [List.append_assoc, h3, List.singleton_append,
          readDigits_digit _ _ _ _ _ (isDigit_digitChar _), digitChar_val]
        have e1 : n % 10 % 10 = n % 10 := by omega
        have e2 : (v * 10 ^ ds.length + n / 10) * 10 + n % 10 =
            v * 10 ^ (ds ++ [Delta.digitChar (n % 10)]).length + n := by
          simp only [List.length_append, List.length_singleton, Nat.pow_succ, ← Nat.mul_assoc]
          generalize v * 10 ^ ds.length = vp
          omega
        have e3 : cnt + ds.length + 1 = cnt + (ds ++ [Delta.digitChar (n % 10)]).length := by
          simp only [List.length_append, List.length_singleton]; omega
        rw [e1, e2, e3]
      · intro w hw hlt
        obtain ⟨w', rfl⟩ : ∃ w', w = w' + 1 := ⟨w - 1, by omega⟩
        have hw' : 1 ≤ w' := by
          rcases Nat.eq_zero_or_pos w' with h0 | h0
          · subst h0; simp at hlt; omega
          · exact h0
        have : n / 10 < 10 ^ w' := by
          rw [Nat.pow_succ] at hlt; omega
        have := h4 w' hw' this
        simp only [List.length_append, List.length_singleton]; omega

theorem natDigits_read (n : Nat) (rest : List Nat) (v cnt l : Nat) :
    readDigits (Delta.natDigits n ++ rest) v cnt l =
      readDigits rest (v * 10 ^ (Delta.natDigits n).length + n) (cnt + (Delta.natDigits n).length)
        (n % 10) := by
  obtain ⟨ds, h1, _, h3, _⟩ := natDigitsAux_spec (n + 1) n (by omega)
  have : Delta.natDigits n = ds := by rw [Delta.natDigits, h1, List.append_nil]
  rw [this]; exact h3 rest v cnt l

theorem natDigits_len (n : Nat) :
    1 ≤ (Delta.natDigits n).length ∧ ∀ w, 1 ≤ w → n < 10 ^ w → (Delta.natDigits n).length ≤ w := by
  obtain ⟨ds, h1, h2, _, h4⟩ := natDigitsAux_spec (n + 1) n (by omega)
  have : Delta.natDigits n = ds := by rw [Delta.natDigits, h1, List.append_nil]
  rw [this]; exact ⟨h2, h4⟩

/-- leading zeros do not change the value read and count as digits -/
theorem readDigits_zeros (m : Nat) : ∀ (rest : List Nat) (cnt l : Nat), ∃ l',
    readDigits (List.replicate m 48 ++ rest) 0 cnt l = readDigits rest 0 (cnt + m) l' := by
  induction m with
  | zero => intro rest cnt l; exact ⟨l, by simp⟩
  | succ m ih =>
    intro rest cnt l
    obtain ⟨l', h⟩ := ih rest (cnt + 1) 0
    refine ⟨l', ?_⟩
    rw [List.replicate_succ, List.cons_append, readDigits_digit _ _ _ _ _ (by decide)]
    simp only [Nat.zero_mul, Nat.sub_self, Nat.add_zero]
    rw [h]; congr 1; omega

/-- the zero-padded fraction reads back as its value with exactly `w` digits -/
theorem padDigits_read (n w : Nat) (hw : 1 ≤ w) (hn : n < 10 ^ w) (c : Nat) (t : List Nat)
    (hc : isDigit c = false) :
    readDigits (Delta.padDigits n w ++ c :: t) 0 0 0 = (n, w, n % 10, c :: t) := by
  obtain ⟨hl1, hl2⟩ := natDigits_len n
  have hl := hl2 w hw hn
  unfold Delta.padDigits
  simp only [List.append_assoc]
  obtain ⟨l', h⟩ := readDigits_zeros (w - (Delta.natDigits n).length)
    (Delta.natDigits n ++ c :: t) 0 0
  rw [h, natDigits_read, readDigits_stop _ _ _ _ _ hc]
  simp only [Nat.zero_mul, Nat.zero_add]
  congr 2
  omega

/-- trailing-zero trimming: the value is kept, the figure count matches, the last digit is non-zero -/
theorem trimFraction_spec : ∀ (figs frac : Nat), 0 < frac → frac < 10 ^ figs →
    (Delta.trimFraction figs frac figs).1 * 10 ^ (figs - (Delta.trimFraction figs frac figs).2) = frac ∧
    1 ≤ (Delta.trimFraction figs frac figs).2 ∧ (Delta.trimFraction figs frac figs).2 ≤ figs ∧
    (Delta.trimFraction figs frac figs).1 < 10 ^ (Delta.trimFraction figs frac figs).2 ∧
    (Delta.trimFraction figs frac figs).1 % 10 ≠ 0 := by
  intro figs
  induction figs with
  | zero => intro frac h0 h1; simp at h1; omega
  | succ f ih =>
    intro frac h0 h1
    have e : Delta.trimFraction (f + 1) frac (f + 1) =
        if frac % 10 ≠ 0 then (frac, f + 1) else Delta.trimFraction f (frac / 10) (f + 1 - 1) := rfl
    rw [e]
    by_cases hd : frac % 10 ≠ 0
    · rw [ite_pos' _ _ hd]
      dsimp only
      refine ⟨by simp, by omega, by omega, h1, hd⟩
    · rw [ite_neg' _ _ hd, Nat.add_sub_cancel]
      have h1' : frac / 10 < 10 ^ f := by rw [Nat.pow_succ] at h1; omega
      obtain ⟨a1, a2, a3, a4, a5⟩ := ih (frac / 10) (by omega) h1'
      refine ⟨?_, a2, by omega, a4, a5⟩
      have : f + 1 - (Delta.trimFraction f (frac / 10) f).2 =
          (f - (Delta.trimFraction f (frac / 10) f).2) + 1 := by omega
      rw [this, Nat.pow_succ, ← Nat.mul_assoc, a1]
      omega

/-- the unsigned part of the Display text after `P` -/
def bodyText (ab : Delta) : List Nat :=
  if ab.secs = 0 ∧ ab.nanos = 0 then [48, 68]
  else 84 :: (Delta.natDigits ab.secs.toNat ++
    ((if ab.nanos > 0 then
        46 :: Delta.padDigits (Delta.trimFraction 9 ab.nanos.toNat 9).1 (Delta.trimFraction 9 ab.nanos.toNat 9).2
      else []) ++ [83]))

theorem display_body (ab : Delta) (sign : List Nat) :
    (if ab.secs = 0 ∧ ab.nanos = 0 then (Res.ok (sign ++ [80] ++ [48, 68]) : Res (List Nat))
    else
      let head := sign ++ [80, 84] ++ Delta.natDigits ab.secs.toNat
      let frac :=
        if ab.nanos > 0 then
          let (fd, figs) := Delta.trimFraction 9 ab.nanos.toNat 9
          [46] ++ Delta.padDigits fd figs
        else []
      .ok (head ++ frac ++ [83])) = .ok (sign ++ 80 :: bodyText ab) := by
  unfold bodyText
  by_cases h : ab.secs = 0 ∧ ab.nanos = 0
  · rw [ite_pos' _ _ h, ite_pos' _ _ h]; simp
  · rw [ite_neg' _ _ h, ite_neg' _ _ h]
    by_cases h2 : ab.nanos > 0
    · simp only [ite_pos' _ _ h2]
      simp
    · simp only [ite_neg' _ _ h2]
      simp

theorem display_nonneg (a : Delta) (h : ¬ a.secs < 0) : Delta.display a = .ok (80 :: bodyText a) := by
  unfold Delta.display
  rw [ite_neg' _ _ h]
  exact display_body a []

/-- a negative value is written as `-` and the body of its negation `ab` -/
theorem display_neg (a : Delta) (ha : DInv a) (h : a.secs < 0) :
    ∃ ab, Delta.display a = .ok (45 :: 80 :: bodyText ab) ∧ DInv ab ∧ 0 ≤ ab.secs ∧
      ns ab = -(ns a) ∧ ns a < 0 := by
  have hA := (DInv_iff a).mp ha
  have hneg : ns a < 0 := by unfold ns; omega
  obtain ⟨hi, hv⟩ := ofNs_spec' (-(ns a)) (by rw [nsInRange_iff]; unfold ns; omega)
  refine ⟨ofNs (-(ns a)), ?_, hi, by simp only [ofNs]; omega, hv, hneg⟩
  unfold Delta.display
  rw [ite_pos' _ _ h, (neg_abs_exact' a ha).1]
  exact display_body _ [45]

theorem readBody_int (t1 : List Nat) (ip ni l : Nat) (h : readDigits t1 0 0 0 = (ip, ni, l, [83]))
    (hni : ni ≠ 0) : readBody (84 :: t1) = some (ip * 1000000000) := by
  unfold readBody
  rw [ite_neg' _ _ (by simp)]
  simp only [h, hni, if_false, if_true]

theorem readBody_frac (t1 t2 : List Nat) (ip ni l fp nf last : Nat)
    (h : readDigits t1 0 0 0 = (ip, ni, l, 46 :: t2)) (hni : ni ≠ 0)
    (h2 : readDigits t2 0 0 0 = (fp, nf, last, [83])) (hnf : 1 ≤ nf ∧ nf ≤ 9) (hl : last ≠ 0) :
    readBody (84 :: t1) = some (ip * 1000000000 + fp * 10 ^ (9 - nf)) := by
  unfold readBody
  rw [ite_neg' _ _ (by simp)]
  simp only [h, hni, if_false]
  rw [ite_neg' _ _ (by simp)]
  simp only [h2]
  rw [ite_neg' _ _ (by simp; omega)]

theorem readBody_bodyText (ab : Delta) (h0 : 0 ≤ ab.secs) (h1 : 0 ≤ ab.nanos)
    (h2 : ab.nanos < 1000000000) : readBody (bodyText ab) = some (ns ab).toNat := by
  obtain ⟨S, N⟩ := ab
  dsimp only at h0 h1 h2
  unfold bodyText
  dsimp only
  by_cases hz : S = 0 ∧ N = 0
  · rw [ite_pos' _ _ hz]
    obtain ⟨rfl, rfl⟩ := hz
    rfl
  · rw [ite_neg' _ _ hz]
    obtain ⟨hl1, -⟩ := natDigits_len S.toNat
    by_cases hN : N > 0
    · rw [ite_pos' _ _ hN]
      obtain ⟨t1, t2, t3, t4, t5⟩ := trimFraction_spec 9 N.toNat (by omega) (by omega)
      generalize Delta.trimFraction 9 N.toNat 9 = p at *
      obtain ⟨fd, figs⟩ := p
      dsimp only at *
      have hfd : fd < 10 ^ figs := t4
      rw [readBody_frac _ (Delta.padDigits fd figs ++ [83]) S.toNat (Delta.natDigits S.toNat).length
        (S.toNat % 10) fd figs (fd % 10)]
      · simp only [ns, Option.some.injEq]
        rw [t1]
        omega
      · rw [natDigits_read, List.cons_append, readDigits_stop _ _ _ _ _ (by decide)]
        simp
      · omega
      · exact padDigits_read fd figs t2 hfd 83 [] (by decide)
      · omega
      · exact t5
    · rw [ite_neg' _ _ hN, List.nil_append]
      rw [readBody_int _ S.toNat (Delta.natDigits S.toNat).length (S.toNat % 10)]
      · simp only [ns, Option.some.injEq]
        omega
      · rw [natDigits_read, readDigits_stop _ _ _ _ _ (by decide)]
        simp
      · omega
theorem readDuration_neg (b : List Nat) :
    readDuration (45 :: 80 :: b) = (readBody b).map (fun v => -(v : Int)) := rfl
theorem readDuration_pos (b : List Nat) :
    readDuration (80 :: b) = (readBody b).map (fun v => (v : Int)) := rfl

end Chrono.Proofs
