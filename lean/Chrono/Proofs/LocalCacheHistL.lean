/-
  Helper lemmas for C18 (gap G1 of the audit): a stronger invariant over histories.  Every cache
  records the environment as it was at the point of the history at which its `last_checked` was set:
  the history splits as `q ++ r` with `last_checked` = the clock after `q`, and source and zone are the
  ones of TZ's value after `q`.  Hence the zone a conversion uses is the one demanded for the value TZ
  had at some point within the last second.  Core Lean only.
-/
import Chrono.Proofs.LocalCacheL
namespace Chrono.Proofs.LocalCache
open Chrono.M.LocalCache Chrono.Spec.LocalCache Chrono.Extracted.LocalCache

/-- the cache `c` was last checked right after the prefix `q` of the history `h` (started with TZ =
`e0` at clock `k0`) and holds the source and the zone of TZ's value at that point -/
def CacheAt (W : World) (e0 : EnvVal) (k0 : Nat) (h : List Step) (c : Cache) : Prop :=
  ∃ q r, h = q ++ r ∧ c.last_checked = k0 + elapsed q ∧
    c.source = Source.new W c.last_checked (env_var (envAfter e0 q)) ∧
    c.zone = current_zone W (env_var (envAfter e0 q))

/-- the state reached by the history `h`, with what every cache records -/
def HistInv (W : World) (e0 : EnvVal) (k0 : Nat) (h : List Step) (s : State) : Prop :=
  s.env = envAfter e0 h ∧ s.clock = k0 + elapsed h ∧
  ∀ t c, s.caches t = some c → CacheAt W e0 k0 h c

theorem elapsed_append (a b : List Step) : elapsed (a ++ b) = elapsed a + elapsed b := by
  induction a with
  | nil => simp [elapsed]
  | cons x xs ih => rw [List.cons_append, elapsed_cons, elapsed_cons x xs, ih]; omega

theorem envAfter_append (e : EnvVal) (a b : List Step) : envAfter e (a ++ b) = envAfter (envAfter e a) b := by
  induction a generalizing e with
  | nil => rfl
  | cons x xs ih => rw [List.cons_append, envAfter_cons, envAfter_cons e x xs, ih]

theorem cacheAt_extend (W : World) (e0 : EnvVal) (k0 : Nat) (h : List Step) (x : Step) (c : Cache)
    (hc : CacheAt W e0 k0 h c) : CacheAt W e0 k0 (h ++ [x]) c := by
  obtain ⟨q, r, e, a, b, d⟩ := hc
  exact ⟨q, r ++ [x], by rw [e, List.append_assoc], a, b, d⟩

/-- one cache lookup at the end of the history `h` -/
theorem offset_at (W : World) (e0 : EnvVal) (k0 : Nat) (h : List Step)
    (c : Cache) (hc : CacheAt W e0 k0 h c) :
    CacheAt W e0 k0 h (Cache.offset W c (k0 + elapsed h) (envAfter e0 h)).1 ∧
    ∃ q r, h = q ++ r ∧ elapsed r < ONE_SECOND ∧
      (Cache.offset W c (k0 + elapsed h) (envAfter e0 h)).1.zone =
        current_zone W (env_var (envAfter e0 q)) := by
  obtain ⟨q, r, e, a, b, d⟩ := hc
  rcases offset_filled W c (k0 + elapsed h) (envAfter e0 h) _ b d with ⟨e', hw⟩ | ⟨hl, hs, hz⟩
  · -- inside the window: the cache stands for the point `q`, less than a second back
    rw [e']
    refine ⟨⟨q, r, e, a, b, d⟩, q, r, e, ?_, d⟩
    rw [within_window_iff, a, e, elapsed_append] at hw
    omega
  · -- refreshed: it stands for the end of `h`
    have hh : h = h ++ [] := (List.append_nil h).symm
    exact ⟨⟨h, [], hh, hl, by rw [hl, hs], hz⟩, h, [], hh, by simp [elapsed, ONE_SECOND], hz⟩

theorem default_at (W : World) (e0 : EnvVal) (k0 : Nat) (h : List Step) :
    CacheAt W e0 k0 h (Cache.default W (k0 + elapsed h) (envAfter e0 h)) :=
  ⟨h, [], (List.append_nil h).symm, rfl, rfl, rfl⟩

/-- the cache a conversion on thread `t` starts from stands for a point of the history -/
theorem start_at {W : World} {e0 : EnvVal} {k0 : Nat} {h : List Step} {s : State}
    (hI : HistInv W e0 k0 h s) {t : Nat} {c0 : Cache}
    (h0 : s.caches t = some c0 ∨ c0 = Cache.default W s.clock s.env) : CacheAt W e0 k0 h c0 := by
  rcases h0 with h0 | rfl
  · exact hI.2.2 t c0 h0
  · rw [hI.1, hI.2.1]; exact default_at W e0 k0 h

theorem step_at (W : World) (e0 : EnvVal) (k0 : Nat) (h : List Step) (x : Step)
    (s : State) (hI : HistInv W e0 k0 h s) :
    HistInv W e0 k0 (h ++ [x]) (step W s x).1 := by
  obtain ⟨he, hk⟩ := step_clock_env W s x
  refine ⟨by rw [he, hI.1, envAfter_append], by rw [hk, hI.2.1, elapsed_append, Nat.add_assoc],
    fun t c hc => cacheAt_extend W e0 k0 h x c ?_⟩
  rcases step_caches W s x t c hc with h1 | ⟨l, c0, rfl, h0, rfl⟩
  · exact hI.2.2 t c h1
  · rw [hI.1, hI.2.1]
    exact (offset_at W e0 k0 h c0 (start_at hI h0)).1

/-- the invariant holds along every history -/
theorem exec_at (W : World) (e0 : EnvVal) (k0 : Nat) (h : List Step) :
    ∀ (pre : List Step) (s : State), HistInv W e0 k0 pre s →
      HistInv W e0 k0 (pre ++ h) (exec W s h) := by
  induction h with
  | nil => intro pre s hI; rw [List.append_nil]; exact hI
  | cons x xs ih =>
    intro pre s hI
    rw [List.append_cons]
    exact ih (pre ++ [x]) _ (step_at W e0 k0 pre x s hI)

theorem init_at (W : World) (e0 : EnvVal) (k0 : Nat) : HistInv W e0 k0 [] (init e0 k0) :=
  ⟨rfl, rfl, fun t c hc => by simp [init] at hc⟩

theorem honoured_within_last_second' (W : World) (e0 : EnvVal) (k0 : Nat) (h : List Step)
    (t : Nat) (l : Bool) :
    ∃ q r, h = q ++ r ∧ elapsed r < ONE_SECOND ∧
      zoneOfStep (step W (exec W (init e0 k0) h) (.convert t l)) =
        some (zoneFor W (env_var (envAfter e0 q))) := by
  have hI := exec_at W e0 k0 h [] (init e0 k0) (init_at W e0 k0)
  rw [List.nil_append] at hI
  obtain ⟨c0, h0, _, hz⟩ := inner_offset_eq W (exec W (init e0 k0) h) t
  rw [hI.1, hI.2.1] at hz
  obtain ⟨_, q, r, e, hr, hq⟩ := offset_at W e0 k0 h c0 (start_at hI h0)
  refine ⟨q, r, e, hr, ?_⟩
  show some (inner_offset W (exec W (init e0 k0) h) t).2.1 = _
  rw [hz, hq, current_zone_eq]

/-- a split `q ++ r` of `a ++ b` whose tail `r` is shorter (in time) than `b` cuts inside `b` -/
theorem split_in_tail (a b q r : List Step) (e : a ++ b = q ++ r) (hr : elapsed r < elapsed b) :
    ∃ c, q = a ++ c ∧ b = c ++ r := by
  rcases List.append_eq_append_iff.mp e with ⟨c, h1, h2⟩ | ⟨c', _, h2⟩
  · exact ⟨c, h1, h2⟩
  · exfalso
    rw [h2, elapsed_append] at hr
    omega

theorem split_after_change (a b q r : List Step) (chg : Step) (e : a ++ chg :: b = q ++ r)
    (hr : elapsed r < elapsed b) : ∃ c, q = a ++ chg :: c ∧ b = c ++ r := by
  rw [List.append_cons] at e
  obtain ⟨c, h1, h2⟩ := split_in_tail (a ++ [chg]) b q r e hr
  exact ⟨c, by rw [h1, ← List.append_cons], h2⟩

/-- when at least one second passes in the part `b` of the history `a ++ b`, the conversion made next
uses the zone of a value TZ had at a point of `b`: whatever was set in `a` is honoured or superseded -/
theorem honoured_in_tail (W : World) (e0 : EnvVal) (k0 : Nat) (a b : List Step)
    (hwait : ONE_SECOND ≤ elapsed b) (t : Nat) (l : Bool) :
    ∃ c r, b = c ++ r ∧ elapsed r < ONE_SECOND ∧
      zoneOfStep (step W (exec W (init e0 k0) (a ++ b)) (.convert t l)) =
        some (zoneFor W (env_var (envAfter e0 (a ++ c)))) := by
  obtain ⟨q, r, e, hr, hz⟩ := honoured_within_last_second' W e0 k0 (a ++ b) t l
  obtain ⟨c, hq, hb⟩ := split_in_tail a b q r e (by omega)
  exact ⟨c, r, hb, hr, by rw [hz, hq]⟩

/-- … and if TZ is not changed in `b`, that value is the current one -/
theorem honoured_after_quiet_second (W : World) (e0 : EnvVal) (k0 : Nat) (a b : List Step)
    (hno : ∀ x ∈ b, isChange x = false) (hwait : ONE_SECOND ≤ elapsed b) (t : Nat) (l : Bool) :
    zoneOfStep (step W (exec W (init e0 k0) (a ++ b)) (.convert t l)) =
      some (zoneFor W (env_var (envAfter e0 (a ++ b)))) := by
  obtain ⟨c, r, hb, _, hz⟩ := honoured_in_tail W e0 k0 a b hwait t l
  have hr : envAfter (envAfter e0 (a ++ c)) r = envAfter e0 (a ++ c) :=
    envAfter_nochange _ r (fun x hx => hno x (by rw [hb]; exact List.mem_append_right _ hx))
  rw [hz, hb, ← List.append_assoc, envAfter_append e0 (a ++ c), hr]

theorem honoured_after_1s' (W : World) (e0 : EnvVal) (k0 : Nat) (p1 p2 : List Step) (chg : Step)
    (hchg : isChange chg = true) (hno : ∀ x ∈ p2, isChange x = false)
    (hwait : ONE_SECOND ≤ elapsed p2)
    (t : Nat) (l : Bool) :
    zoneOfStep (step W (exec W (init e0 k0) (p1 ++ chg :: p2)) (.convert t l)) =
      some (zoneFor W (env_var (envAfter e0 (p1 ++ chg :: p2)))) := by
  rw [List.append_cons]
  exact honoured_after_quiet_second W e0 k0 (p1 ++ [chg]) p2 hno hwait t l

end Chrono.Proofs.LocalCache
