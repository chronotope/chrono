/-
  C15: the zone-aware (`DateTime<FixedOffset>` / `DateTime<Utc>`) field replacements, `with_time` and
  the checked day / month steppers return normally for every well-formed value and every argument, and
  whatever they return is well formed (collected from C04 / C08).  Namespace `Chrono.Proofs.C15Zoned`.
-/
import Chrono.Props.C04
import Chrono.Props.C08

namespace Chrono.Proofs.C15Zoned
open Chrono Chrono.M Chrono.Spec Chrono.Proofs

/-- what a zone-aware operation on `z` may return: nothing, or a well-formed value at `z`'s offset that
passes the filter `ok` (on its instant in seconds and its nanosecond field) -/
def ZRes (ok : Int → Int → Prop) (z : Zoned) (r : Option Zoned) : Prop :=
  ∀ x, r = some x → ZInv x ∧ x.off = z.off ∧ ok (instSecs x.utc) x.utc.time.frac

/-- from the form of C08 `zoned_ops_spec`'s conjuncts (`A`: what they say of the operation on the wall clock) -/
theorem zres_of_acts {ok : Int → Int → Prop} {z : Zoned} {A : Option NaiveDT → Prop} {f : Res (Option Zoned)}
    (h : ∃ r0 r, A r0 ∧ f = .ok r ∧ ActsOnWallWith ok z r0 r) : ∃ r, f = .ok r ∧ ZRes ok z r := by
  obtain ⟨r0, r, _, hf, ha⟩ := h
  refine ⟨r, hf, fun x hx => ?_⟩
  obtain ⟨nl, _, ho, hi, _, _, _, hk⟩ := ha.1 x hx
  exact ⟨hi, ho, hk⟩

/-- the eleven field replacements and the month steppers -/
theorem replace_total (z : Zoned) (hz : ZInv z) (v k : Nat) (y' w : Int) (hw : 0 ≤ w) :
    (∃ r, Zoned.with_year z y' = .ok r ∧ ZRes InUtcRange z r) ∧
    (∃ r, Zoned.with_month z v = .ok r ∧ ZRes InUtcRange z r) ∧
    (∃ r, Zoned.with_month0 z v = .ok r ∧ ZRes InUtcRange z r) ∧
    (∃ r, Zoned.with_day z v = .ok r ∧ ZRes InUtcRange z r) ∧
    (∃ r, Zoned.with_day0 z v = .ok r ∧ ZRes InUtcRange z r) ∧
    (∃ r, Zoned.with_ordinal z v = .ok r ∧ ZRes InUtcRange z r) ∧
    (∃ r, Zoned.with_ordinal0 z v = .ok r ∧ ZRes InUtcRange z r) ∧
    (∃ r, Zoned.with_hour z w = .ok r ∧ ZRes InUtcRange z r) ∧
    (∃ r, Zoned.with_minute z w = .ok r ∧ ZRes InUtcRange z r) ∧
    (∃ r, Zoned.with_second z w = .ok r ∧ ZRes InUtcRange z r) ∧
    (∃ r, Zoned.with_nanosecond z w = .ok r ∧ ZRes InUtcRange z r) ∧
    (∃ r, Zoned.checked_add_months z k = .ok r ∧ ZRes (fun s _ => InRangeSecs s) z r) ∧
    (∃ r, Zoned.checked_sub_months z k = .ok r ∧ ZRes (fun s _ => InRangeSecs s) z r) := by
  obtain ⟨l, _, _, _, _, _, a1, a2, a3, a4, a5, a6, a7, m1, m2, a8, a9, a10, a11⟩ :=
    Chrono.Props.C08.zoned_ops_spec z hz v k y' w hw
  exact ⟨zres_of_acts a1, zres_of_acts a2, zres_of_acts a3, zres_of_acts a4, zres_of_acts a5, zres_of_acts a6,
    zres_of_acts a7, zres_of_acts a8, zres_of_acts a9, zres_of_acts a10, zres_of_acts a11, zres_of_acts m1,
    zres_of_acts m2⟩

/-- `with_time` on every valid time of day (leap representations included) -/
theorem with_time_total (z : Zoned) (hz : ZInv z) (t : Time) (ht : TValid t) :
    ∃ r, Zoned.with_time z t = .ok r ∧ ZRes InUtcRange z r := by
  obtain ⟨l, _, _, _, r, hr, hv, _⟩ := Chrono.Props.C04.with_time_spec z hz t ht
  refine ⟨r, hr, fun x hx => ?_⟩
  obtain ⟨a, b, _, _, _, c⟩ := hv x hx
  exact ⟨b, a, c⟩

theorem of_none_iff_not {α} {r : Option α} {x : α} {p : Prop} (h : r = none ↔ ¬ p) (hx : r = some x) : p :=
  Classical.not_not.mp fun hn => by rw [h.mpr hn] at hx; cases hx

/-- `checked_add_days` / `checked_sub_days` on every `u64` count: a result passes the one-sided filter
the code applies (`≤ MAX_UTC` resp. `≥ MIN_UTC`; `Days(0)` added returns the value itself, unfiltered) -/
theorem days_total (z : Zoned) (hz : ZInv z) (n : Int) (hn : 0 ≤ n ∧ n ≤ 18446744073709551615) :
    (∃ r, Zoned.checked_add_days z n = .ok r ∧ ZRes (fun s f => n = 0 ∨ LeMaxUtc s f) z r) ∧
    (∃ r, Zoned.checked_sub_days z n = .ok r ∧ ZRes (fun s _ => GeMinUtc s) z r) := by
  obtain ⟨l, _, _, _, h0, hadd, hsub, _⟩ := Chrono.Props.C04.stepping_spec z hz
  constructor
  · by_cases hz0 : n = 0
    · subst hz0
      exact ⟨_, h0, fun x hx => by cases hx; exact ⟨hz, rfl, Or.inl rfl⟩⟩
    · obtain ⟨r, hr, hnone, hv⟩ := hadd n (by omega) hn.2
      refine ⟨r, hr, fun x hx => ?_⟩
      obtain ⟨a, b, c, d, _⟩ := hv x hx
      refine ⟨b, a, Or.inr ?_⟩
      rw [c, d]; exact (of_none_iff_not hnone hx).2
  · obtain ⟨r, hr, hnone, hv⟩ := hsub n hn.1 hn.2
    refine ⟨r, hr, fun x hx => ?_⟩
    obtain ⟨a, b, c, _⟩ := hv x hx
    refine ⟨b, a, ?_⟩
    show GeMinUtc (instSecs x.utc)
    rw [c, show instSecs z.utc + -n * 86400 = instSecs z.utc - n * 86400 by omega]
    exact (of_none_iff_not hnone hx).2

end Chrono.Proofs.C15Zoned
