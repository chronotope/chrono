/-
  Helper lemmas for C08's audit gap MEDIUM-2: `NaiveTime::with_*` against the constructors' notion of
  an existing time of day (`TStrict`: leap representation only on second :59; `okFields` / `ofFields`:
  the acceptance rule and the value of `from_hms_nano_opt`).
-/
import Chrono.Proofs.DateTimeOpsL
import Chrono.Spec.MonthsOpsSpec

namespace Chrono.Proofs.TStrictL
open Chrono Chrono.M Chrono.Spec Chrono.Proofs Chrono.Proofs.DTO

/-- which field quadruples give a constructor-valid time -/
theorem strict_ofFields (h m s n : Int) (hh : 0 ≤ h ∧ h < 24) (hm : 0 ≤ m ∧ m < 60)
    (hs : 0 ≤ s ∧ s < 60) (hn : 0 ≤ n ∧ n < 2000000000) :
    TStrict (ofFields h m s n) ↔ (n < 1000000000 ∨ s = 59) := by
  obtain ⟨v, _, _, f3, f4⟩ := ofFields_valid h m s n hh hm hs hn
  unfold TStrict
  rw [f4, show (ofFields h m s n).secs % 60 = s from f3]
  exact ⟨fun x => x.2, fun x => ⟨v, x⟩⟩

/-- the constructor refuses a leap-range nanosecond on any second but :59 -/
theorem ctor_none (h m s n : Int) (hn : 1000000000 ≤ n) (hs : s ≠ 59) : ctorTime h m s n = none := by
  unfold ctorTime
  rw [if_neg (by unfold okFields; omega)]

/-- `with_second` / `with_nanosecond` where the constructor refuses: a leap representation moved off
second :59, a leap-range nanosecond put on another second.  Only well-formedness of `t` is needed, so
this also serves wall clocks, which need not be constructor-valid. -/
theorem leap_off59 (t : Time) (ht : TValid t) (v : Int) (hv : 0 ≤ v) :
    (1000000000 ≤ t.frac → v < 59 →
      t.with_second v = some ⟨t.secs / 60 * 60 + v, t.frac⟩ ∧
      ctorTime t.hour t.minute v t.nanosecond = none ∧
      ¬ TStrict ⟨t.secs / 60 * 60 + v, t.frac⟩ ∧ TValid ⟨t.secs / 60 * 60 + v, t.frac⟩) ∧
    (1000000000 ≤ v → v < 2000000000 → t.secs % 60 ≠ 59 →
      t.with_nanosecond v = some ⟨t.secs, v⟩ ∧
      ctorTime t.hour t.minute t.second v = none ∧ ¬ TStrict ⟨t.secs, v⟩ ∧ TValid ⟨t.secs, v⟩) := by
  obtain ⟨-, -, -, -, es, en⟩ := shown_bounds t ht
  obtain ⟨k1, k2, k3, k4⟩ := ht
  refine ⟨fun a b => ⟨?_, ctor_none _ _ _ _ (by rw [en]; exact a) (by omega), ?_, ?_⟩,
    fun a b c => ⟨?_, ctor_none _ _ _ _ a (by rw [es]; exact c), ?_, ?_⟩⟩
  · unfold Time.with_second; rw [if_neg (by omega)]
  · unfold TStrict; dsimp only; omega
  · unfold TValid; dsimp only; omega
  · unfold Time.with_nanosecond; rw [if_neg (by omega)]
  · unfold TStrict; dsimp only; omega
  · unfold TValid; dsimp only; omega

end Chrono.Proofs.TStrictL
