/-
  Helper lemmas for C04, part 3: from a stepped / replaced wall clock back to a zone-aware value
  (conversion, then the filter each operation applies).
-/
import Chrono.Proofs.ZonedDateL

namespace Chrono.Proofs.ZN
open Chrono Chrono.M Chrono.Spec Chrono.Proofs Chrono.Extracted Chrono.Extracted.DateOps

/-- converting the wall clock of `z` back gives `z` -/
theorem from_local_of_wall (z : Zoned) (hz : ZInv z) (l : NaiveDT)
    (hl : Zoned.overflowing_naive_local z = .ok l) : Zoned.from_local_datetime z.off l = .ok (some z) := by
  obtain ⟨h2, h3, h4, _, _, _, hur⟩ := wall_date_cases z hz l hl
  obtain ⟨q, a, b, _, c⟩ := back_plain z hz l h2
  have hin : InRangeSecs (instSecs l - z.off) := by
    rw [h3]; unfold wallSecs
    rw [show instSecs z.utc + z.off - z.off = instSecs z.utc by omega]; exact hur
  cases q with
  | none => exact absurd hin (b rfl)
  | some z' =>
    obtain ⟨b1, b2, b3, b4, _⟩ := c z' rfl
    rw [a]; congr 2
    have : z'.utc = z.utc := by
      apply ndt_unique _ _ b2 ⟨((dateInv_iff z.utc.date).mp hz.1.1).1, hz.1.2⟩
      · rw [b3, h3]; unfold wallSecs; omega
      · rw [b4, h4]
    cases z'; cases z; simp_all

/-- conversion back without any further filter (month stepping, `with_ymd_and_hms`) -/
theorem back_acts_plain (z : Zoned) (hz : ZInv z) (r0 : Option NaiveDT)
    (hv : ∀ nl, r0 = some nl → NDTInv nl) :
    ∃ r, (match r0 with
          | none => (Res.ok none : Res (Option Zoned))
          | some nl => Zoned.from_local_datetime z.off nl) = .ok r ∧
      ActsOnWallWith (fun s _ => InRangeSecs s) z r0 r := by
  cases r0 with
  | none =>
    refine ⟨none, rfl, ?_, ?_⟩
    · intro z' h; cases h
    · simp
  | some nl =>
    have hn := hv nl rfl
    have hext : ExtNDTInv nl := ⟨((dateInv_iff nl.date).mp hn.1).1, hn.2⟩
    obtain ⟨q, a, b, c, d⟩ := back_plain z hz nl hext
    refine ⟨q, a, ?_, ?_⟩
    · intro z' hz'
      obtain ⟨d1, d2, d3, d4, d5⟩ := d z' hz'
      have hin := c hn.1 (by rw [hz']; simp)
      obtain ⟨e1, e2⟩ := d5 hin
      exact ⟨nl, rfl, d1, e1, e2, d3, d4, by rw [d3]; exact hin⟩
    · constructor
      · intro hq; right; exact ⟨nl, rfl, b hq⟩
      · intro h
        rcases h with h | ⟨nl', e, h⟩
        · cases h
        · cases e
          by_contra hne
          exact h (c hn.1 hne)

/-- `map_local`: the replacement acts on the wall clock, the result is filtered to `MIN_UTC ..= MAX_UTC` -/
theorem map_local_acts (z : Zoned) (hz : ZInv z) (f : NaiveDT → Res (Option NaiveDT)) (l : NaiveDT)
    (r0 : Option NaiveDT) (hl : Zoned.overflowing_naive_local z = .ok l) (hf : f l = .ok r0)
    (hv : ∀ nl, r0 = some nl → ExtNDTInv nl) :
    ∃ r, Zoned.map_local z f = .ok r ∧ ActsOnWall z r0 r := by
  unfold Zoned.map_local ActsOnWall ActsOnWallWith
  rw [hl, rbind_ok, hf, rbind_ok]
  cases r0 with
  | none => exact ⟨none, rfl, by intro z' h; simp at h, by simp⟩
  | some nl =>
    obtain ⟨r, h1, h2, h3⟩ := back_filtered z hz nl (hv nl rfl)
    refine ⟨r, h1, ?_, ?_⟩
    · intro z' hz'; exact ⟨nl, rfl, h2 z' hz'⟩
    · rw [h3]; simp


/-- a time-field replacement `g` through `mapTime` and `map_local` is `with_time` on the new time of
day, refused where `g` refuses -/
theorem map_local_time (z : Zoned) (l : NaiveDT) (hl : Zoned.overflowing_naive_local z = .ok l)
    (g : Time → Option Time) (c : Prop) [Decidable c] (t : Time) (hg : g l.time = if c then some t else none) :
    Zoned.map_local z (fun dt => dt.mapTime (g dt.time)) = if c then Zoned.with_time z t else .ok none := by
  unfold Zoned.map_local Zoned.with_time
  rw [hl, rbind_ok, rbind_ok]
  show (NaiveDT.mapTime l (g l.time)).bind _ = _
  unfold NaiveDT.mapTime
  rw [hg, rbind_ok]
  by_cases h : c
  · rw [if_pos h, if_pos h]; rfl
  · rw [if_neg h, if_neg h]; rfl


/-! ### day stepping -/

theorem instSecs_step (l : NaiveDT) (d' : Date) (k : Int) (h : dayNumOf d' = dayNumOf l.date + k) :
    instSecs ⟨d', l.time⟩ = instSecs l + k * 86400 := by
  unfold instSecs; dsimp only; rw [h]; omega

theorem dayNum_inrange (d : Date) (h : DateInv d) : DAY_MIN ≤ dayNumOf d ∧ dayNumOf d ≤ DAY_MAX := by
  obtain ⟨dm, dM, _⟩ := day_consts
  have := dn_bounds d h
  rw [dm, dM]; exact this

theorem sub_days_zero (d : Date) (hd : HeadOrIn d) : Date.checked_sub_days d 0 = .ok (some d) := by
  rcases hd with hd | hd | hd
  · obtain ⟨r, a, b⟩ := checked_sub_days_spec d 0 hd (by omega)
    obtain ⟨c1, c2, _⟩ := dn_consts
    have hb := dn_bounds d hd
    rw [a]; congr 1
    cases r with
    | none => have := b.1.mp rfl; rw [c1, c2] at this; omega
    | some d' =>
      obtain ⟨i, e⟩ := b.2 d' rfl
      obtain ⟨e1, o1, o2, _⟩ := inv_eq d hd
      obtain ⟨e2, p1, p2, _⟩ := inv_eq d' i
      congr 1
      rw [e1, e2]
      apply date_of_daynum_unique _ _ _ _ ⟨p1, p2⟩ ⟨o1, o2⟩
      have hyl := yearLen_ge d.year
      have hyl' := yearLen_ge d'.year
      rw [← dayNumOf_yo _ _ (by omega), ← dayNumOf_yo _ _ (by omega), ← e1, ← e2, e]; omega
  · subst hd; decide +kernel
  · subst hd; decide +kernel

/-- from an instant of the range, a step forward that stays `≤ MAX_UTC` stays in range, and did
not start within a day of the upper end -/
theorem le_max_step (s k f : Int) (hs : SECS_MIN ≤ s) (hk : 0 < k) (h : LeMaxUtc (s + k * 86400) f) :
    InRangeSecs (s + k * 86400) ∧ ¬ SECS_MAX - 86400 < s := by
  unfold LeMaxUtc at h; unfold InRangeSecs; omega

theorem ge_min_step (s k : Int) (hs : s ≤ SECS_MAX) (hk : k < 0) (h : GeMinUtc (s + k * 86400)) :
    InRangeSecs (s + k * 86400) ∧ ¬ s < SECS_MIN + 86400 := by
  unfold GeMinUtc at h; unfold InRangeSecs; omega

/-- the common part of the two day steppers, after the date-level step `r` of the wall-clock date by
`k` days: conversion back, then a one-sided filter `P` on the UTC reading, which holds exactly when
`F` holds of the stepped instant.  `hside`: where `F` holds, the stepped instant is in range and the
step did not start in a headroom day pointing away from the range -/
theorem day_step_back (z : Zoned) (hz : ZInv z) (l : NaiveDT) (hl : Zoned.overflowing_naive_local z = .ok l)
    (k : Int) (r : Option Date) (hr : DayStep l.date k r)
    (P : NaiveDT → Prop) [DecidablePred P] (F : Int → Int → Prop)
    (hP : ∀ u, ExtNDTInv u → (P u ↔ F (instSecs u) u.time.frac))
    (hside : F (instSecs z.utc + k * 86400) z.utc.time.frac →
      InRangeSecs (instSecs z.utc + k * 86400) ∧ ¬ (l.date = Date.BEFORE_MIN ∧ k ≤ 0) ∧
      ¬ (l.date = Date.AFTER_MAX ∧ 0 ≤ k)) :
    ∃ r', (match r.map fun d => (⟨d, l.time⟩ : NaiveDT) with
           | none => (.ok none : Res (Option Zoned))
           | some nl =>
             (Zoned.from_local_datetime z.off nl).bind fun q =>
             match q with
             | some z' => .ok (if P z'.utc then some z' else none)
             | none => .ok none) = .ok r' ∧
      (r' = none ↔ ¬ ((DAY_MIN ≤ dayNumOf l.date + k ∧ dayNumOf l.date + k ≤ DAY_MAX) ∧
                      F (instSecs z.utc + k * 86400) z.utc.time.frac)) ∧
      ∀ z', r' = some z' → SteppedDays z l z' k := by
  obtain ⟨hext, hls, hfr, -⟩ := wall_date_cases z hz l hl
  unfold wallSecs at hls
  obtain ⟨hb1, hb2⟩ := hr
  cases r with
  | none =>
    refine ⟨none, rfl, ?_, by intro z' h; cases h⟩
    simp only [true_iff]
    intro h; exact hb2 rfl h.1
  | some d' =>
    obtain ⟨e1, e2, e3⟩ := hb1 d' rfl
    have hs' : instSecs ⟨d', l.time⟩ - z.off = instSecs z.utc + k * 86400 := by
      rw [instSecs_step l d' k e2, hls]; omega
    obtain ⟨q, qa, qb, _, qd⟩ := back_plain z hz ⟨d', l.time⟩ ⟨e1, hext.2⟩
    dsimp only [Option.map_some]
    rw [qa, rbind_ok]
    rw [hs'] at qb qd
    cases q with
    | none =>
      refine ⟨none, rfl, ?_, by intro z' h; cases h⟩
      simp only [true_iff]
      intro h; exact qb rfl (hside h.2).1
    | some z'' =>
      obtain ⟨d1, d2, d3, d4, d5⟩ := qd z'' rfl
      have hf := hP z''.utc d2
      rw [d3, d4, hfr] at hf
      dsimp only at hf ⊢
      by_cases hc : P z''.utc
      · rw [if_pos hc]
        have hB := hf.mp hc
        obtain ⟨hin, hnB, hnA⟩ := hside hB
        obtain ⟨g1, g2⟩ := d5 hin
        have hAA : DAY_MIN ≤ dayNumOf l.date + k ∧ dayNumOf l.date + k ≤ DAY_MAX := by
          rcases e3 with e3 | e3 | e3
          · rw [← e2]; exact dayNum_inrange d' e3
          · exact absurd e3 hnB
          · exact absurd e3 hnA
        refine ⟨some z'', rfl, ⟨nofun, fun h => absurd ⟨hAA, hB⟩ h⟩, ?_⟩
        intro z' hz'
        cases hz'
        exact ⟨d1, g1, d3, by rw [d4, hfr], ⟨d', l.time⟩, g2, rfl, e2⟩
      · rw [if_neg hc]
        refine ⟨none, rfl, ?_, by intro z' h; cases h⟩
        simp only [true_iff]
        intro h; exact hc (hf.mpr h.2)

/-- `DateTime::checked_add_days(Days(n))`, `n > 0` -/
theorem zoned_add_days (z : Zoned) (hz : ZInv z) (l : NaiveDT) (hl : Zoned.overflowing_naive_local z = .ok l)
    (n : Int) (hn : 0 < n ∧ n ≤ 18446744073709551615) :
    ∃ r, Zoned.checked_add_days z n = .ok r ∧
      (r = none ↔ ¬ ((DAY_MIN ≤ dayNumOf l.date + n ∧ dayNumOf l.date + n ≤ DAY_MAX) ∧
                     LeMaxUtc (instSecs z.utc + n * 86400) z.utc.time.frac)) ∧
      ∀ z', r = some z' → SteppedDays z l z' n := by
  obtain ⟨-, -, -, hho, -, hA, hur⟩ := wall_date_cases z hz l hl
  obtain ⟨⟨r, ha, hr⟩, -⟩ := wall_checked_days l.date hho n ⟨by omega, hn.2⟩
  unfold Zoned.checked_add_days NaiveDT.zchecked_add_days NaiveDT.mapDate
  rw [if_neg (by omega), hl, rbind_ok, ha, rbind_ok, rbind_ok]
  exact day_step_back z hz l hl n r hr (fun u => NaiveDT.cmp u NaiveDT.MAX ≤ 0) LeMaxUtc filter_hi
    fun h => have ⟨a, b⟩ := le_max_step _ _ _ hur.1 hn.1 h
      ⟨a, fun c => absurd c.2 (Int.not_le.mpr hn.1), fun c => b (hA c.1)⟩

/-- `checked_sub_days(Days(0))` goes through the wall clock and back and returns the value, also
from a headroom wall clock -/
theorem sub_zero_days (z : Zoned) (hz : ZInv z) : Zoned.checked_sub_days z 0 = .ok (some z) := by
  obtain ⟨l, hl, -⟩ := naive_local_spec z hz
  obtain ⟨_, _, _, hho, _, _, hur⟩ := wall_date_cases z hz l hl
  have hlo := (filter_lo z.utc ⟨((dateInv_iff z.utc.date).mp hz.1.1).1, hz.1.2⟩).mpr hur.1
  unfold Zoned.checked_sub_days NaiveDT.zchecked_sub_days NaiveDT.mapDate
  rw [hl, rbind_ok, sub_days_zero l.date hho, rbind_ok, rbind_ok]
  dsimp only [Option.map_some]
  rw [show (⟨l.date, l.time⟩ : NaiveDT) = l by cases l; rfl, from_local_of_wall z hz l hl, rbind_ok]
  dsimp only
  rw [if_pos hlo]

/-- `DateTime::checked_sub_days(Days(n))`, every `n` (no `Days(0)` short cut in the code) -/
theorem zoned_sub_days (z : Zoned) (hz : ZInv z) (l : NaiveDT) (hl : Zoned.overflowing_naive_local z = .ok l)
    (n : Int) (hn : 0 ≤ n ∧ n ≤ 18446744073709551615) :
    ∃ r, Zoned.checked_sub_days z n = .ok r ∧
      (r = none ↔ ¬ ((n = 0 ∨ (DAY_MIN ≤ dayNumOf l.date - n ∧ dayNumOf l.date - n ≤ DAY_MAX)) ∧
                     GeMinUtc (instSecs z.utc - n * 86400))) ∧
      ∀ z', r = some z' → SteppedDays z l z' (-n) := by
  obtain ⟨-, -, -, hho, hB0, -, hur⟩ := wall_date_cases z hz l hl
  by_cases h0 : n = 0
  · subst h0
    have hge : GeMinUtc (instSecs z.utc - 0 * 86400) := by rw [Int.zero_mul, Int.sub_zero]; exact hur.1
    refine ⟨some z, sub_zero_days z hz, ⟨fun h => (by cases h), fun h => absurd ⟨Or.inl rfl, hge⟩ h⟩, ?_⟩
    intro z' hz'
    cases hz'
    exact ⟨rfl, hz, by rw [Int.neg_zero, Int.zero_mul, Int.add_zero], rfl, l, hl, rfl,
      by rw [Int.neg_zero, Int.add_zero]⟩
  · obtain ⟨-, ⟨r, ha, hr⟩⟩ := wall_checked_days l.date hho n hn
    unfold Zoned.checked_sub_days NaiveDT.zchecked_sub_days NaiveDT.mapDate
    rw [hl, rbind_ok, ha, rbind_ok, rbind_ok, or_iff_right h0,
      show dayNumOf l.date - n = dayNumOf l.date + -n from Int.sub_eq_add_neg,
      show instSecs z.utc - n * 86400 = instSecs z.utc + -n * 86400 by omega]
    exact day_step_back z hz l hl (-n) r hr (fun u => NaiveDT.cmp u NaiveDT.MIN ≥ 0) (fun s _ => GeMinUtc s)
      filter_lo fun h => have ⟨a, b⟩ := ge_min_step _ _ hur.2 (by omega) h
        ⟨a, fun c => b (hB0 c.1), fun c => absurd c.2 (by omega)⟩


/-! ### month stepping -/

/-- a date stepped by `addMonths?` is a date of the range; with a valid time it is a reading of the range -/
theorem addMonths_ndt (y : Int) (m d : Nat) (n : Int) (t : Time) (ht : TValid t) (nl : NaiveDT)
    (h : ((addMonths? y m d n).map fun nd => (⟨nd, t⟩ : NaiveDT)) = some nl) : NDTInv nl := by
  unfold addMonths? ymdDate? at h
  split at h
  · rename_i hc
    cases h
    exact ⟨(inv_of_yo _ _ ⟨hc.1, hc.2.1⟩ (ordinal_bounds_c08 _ _ _ hc.2.2)).1, ht⟩
  · cases h

/-- `DateTime::checked_add_months` / `checked_sub_months`: `Months(0)` gives the value back;
otherwise the wall-clock date is stepped by C08's `addMonths?` (time of day kept) and converted
back, with no filter beyond representability -/
theorem zoned_months (z : Zoned) (hz : ZInv z) (l : NaiveDT) (hl : Zoned.overflowing_naive_local z = .ok l)
    (k : Nat) :
    (∃ r, Zoned.checked_add_months z k = .ok r ∧ (k = 0 → r = some z) ∧
      (0 < k → ActsOnWallWith (fun s _ => InRangeSecs s) z
        ((addMonths? l.date.year (monthOfYo l.date.year l.date.ordinal.toNat)
            (dayOfYo l.date.year l.date.ordinal.toNat) k).map fun nd => ⟨nd, l.time⟩) r)) ∧
    (∃ r, Zoned.checked_sub_months z k = .ok r ∧ (k = 0 → r = some z) ∧
      (0 < k → ActsOnWallWith (fun s _ => InRangeSecs s) z
        ((addMonths? l.date.year (monthOfYo l.date.year l.date.ordinal.toNat)
            (dayOfYo l.date.year l.date.ordinal.toNat) (-(k : Int))).map fun nd => ⟨nd, l.time⟩) r)) := by
  obtain ⟨hext, -⟩ := wall_date_cases z hz l hl
  obtain ⟨el, vl⟩ := ext_eq l.date hext.1
  obtain ⟨m1, m2⟩ := months_ext l.date.year l.date.ordinal.toNat ⟨vl.1, vl.2.1⟩ ⟨vl.2.2.1, vl.2.2.2⟩ k
  rw [← el] at m1 m2
  have hll : (⟨l.date, l.time⟩ : NaiveDT) = l := by cases l; rfl
  constructor
  · unfold Zoned.checked_add_months NaiveDT.checked_add_months NaiveDT.mapDate
    rw [hl, rbind_ok, m1, rbind_ok, rbind_ok]
    by_cases h0 : k = 0
    · rw [if_pos h0]
      dsimp only [Option.map_some]
      rw [hll, from_local_of_wall z hz l hl]
      exact ⟨some z, rfl, fun _ => rfl, fun h => by omega⟩
    · rw [if_neg h0]
      obtain ⟨r, a, b⟩ := back_acts_plain z hz _ (addMonths_ndt _ _ _ k l.time hext.2)
      exact ⟨r, a, fun h => absurd h h0, fun _ => b⟩
  · unfold Zoned.checked_sub_months NaiveDT.checked_sub_months NaiveDT.mapDate
    rw [hl, rbind_ok, m2, rbind_ok, rbind_ok]
    by_cases h0 : k = 0
    · rw [if_pos h0]
      dsimp only [Option.map_some]
      rw [hll, from_local_of_wall z hz l hl]
      exact ⟨some z, rfl, fun _ => rfl, fun h => by omega⟩
    · rw [if_neg h0]
      obtain ⟨r, a, b⟩ := back_acts_plain z hz _ (addMonths_ndt _ _ _ (-(k : Int)) l.time hext.2)
      exact ⟨r, a, fun h => absurd h h0, fun _ => b⟩

/-! ### calendar-field replacement -/

theorem ymdReading_eq (y : Int) (m d : Nat) (t : Time) :
    ymdReading? y m d t = (ymdAny? y m d).map fun nd => ⟨nd, t⟩ := by
  unfold ymdReading? ymdAny?; split <;> rfl
theorem yoReading_eq (y : Int) (o : Nat) (t : Time) :
    yoReading? y o t = (yoAny? y o).map fun nd => ⟨nd, t⟩ := by
  unfold yoReading? yoAny?; split <;> rfl

theorem ymdReading_ext (y : Int) (m d : Nat) (t : Time) (hy : MIN_YEAR - 1 ≤ y ∧ y ≤ MAX_YEAR + 1)
    (ht : TValid t) (nl : NaiveDT) (h : ymdReading? y m d t = some nl) : ExtNDTInv nl := by
  unfold ymdReading? at h
  by_cases hc : validYmd y m d = true
  · rw [if_pos hc] at h
    have := Option.some.inj h
    subst this
    have hb := ordinal_bounds_c08 y m d hc
    exact ⟨ext_of_vyo _ _ ⟨hy.1, hy.2, hb.1, hb.2⟩, ht⟩
  · rw [if_neg hc] at h; cases h

theorem yoReading_ext (y : Int) (o : Nat) (t : Time) (hy : MIN_YEAR - 1 ≤ y ∧ y ≤ MAX_YEAR + 1)
    (ht : TValid t) (nl : NaiveDT) (h : yoReading? y o t = some nl) : ExtNDTInv nl := by
  unfold yoReading? at h
  by_cases hc : 1 ≤ o ∧ o ≤ yearLen y
  · rw [if_pos hc] at h
    have := Option.some.inj h
    subst this
    exact ⟨ext_of_vyo _ _ ⟨hy.1, hy.2, hc.1, hc.2⟩, ht⟩
  · rw [if_neg hc] at h; cases h

/-- all seven calendar-field replacements of `DateTime` -/
theorem zoned_with_date_fields (z : Zoned) (hz : ZInv z) (l : NaiveDT)
    (hl : Zoned.overflowing_naive_local z = .ok l) (v : Nat) (y' : Int) :
    (∃ r, Zoned.with_year z y' = .ok r ∧ ActsOnWall z (yearReading? l y') r) ∧
    (∃ r, Zoned.with_month z v = .ok r ∧ ActsOnWall z
      (ymdReading? l.date.year v (dayOfYo l.date.year l.date.ordinal.toNat) l.time) r) ∧
    (∃ r, Zoned.with_month0 z v = .ok r ∧ ActsOnWall z
      (ymdReading? l.date.year (v + 1) (dayOfYo l.date.year l.date.ordinal.toNat) l.time) r) ∧
    (∃ r, Zoned.with_day z v = .ok r ∧ ActsOnWall z
      (ymdReading? l.date.year (monthOfYo l.date.year l.date.ordinal.toNat) v l.time) r) ∧
    (∃ r, Zoned.with_day0 z v = .ok r ∧ ActsOnWall z
      (ymdReading? l.date.year (monthOfYo l.date.year l.date.ordinal.toNat) (v + 1) l.time) r) ∧
    (∃ r, Zoned.with_ordinal z v = .ok r ∧ ActsOnWall z (yoReading? l.date.year v l.time) r) ∧
    (∃ r, Zoned.with_ordinal0 z v = .ok r ∧ ActsOnWall z (yoReading? l.date.year (v + 1) l.time) r) := by
  obtain ⟨hext, _, _, _, _, _, _⟩ := wall_date_cases z hz l hl
  obtain ⟨el, vl⟩ := ext_eq l.date hext.1
  have hy : MIN_YEAR - 1 ≤ l.date.year ∧ l.date.year ≤ MAX_YEAR + 1 := ⟨vl.1, vl.2.1⟩
  have ho : 1 ≤ l.date.ordinal.toNat ∧ l.date.ordinal.toNat ≤ yearLen l.date.year := ⟨vl.2.2.1, vl.2.2.2⟩
  have w1 := with_year_spec l.date.year l.date.ordinal.toNat ho y'
  have w2 := with_month_any l.date.year l.date.ordinal.toNat ho v
  have w3 := with_month0_any l.date.year l.date.ordinal.toNat ho v
  have w4 := with_day_any l.date.year l.date.ordinal.toNat ho v
  have w5 := with_day0_any l.date.year l.date.ordinal.toNat ho v
  have w6 := with_ordinal_any l.date.year l.date.ordinal.toNat ho v
  have w7 := with_ordinal0_any l.date.year l.date.ordinal.toNat ho v
  rw [← el] at w1 w2 w3 w4 w5 w6 w7
  refine ⟨?_, ?_, ?_, ?_, ?_, ?_, ?_⟩
  · unfold Zoned.with_year
    apply map_local_acts z hz _ l _ hl
    · unfold yearReading?
      by_cases hc : y' = l.date.year
      · rw [if_pos hc.symm, if_pos hc]
      · rw [if_neg (fun h => hc h.symm), if_neg hc]
        unfold NaiveDT.with_year NaiveDT.mapDate
        rw [w1, rbind_ok]
        refine congrArg Res.ok ?_
        unfold ymdDate? ymdReading?
        by_cases hr : MIN_YEAR ≤ y' ∧ y' ≤ MAX_YEAR
        · rw [if_pos hr]
          by_cases hv : validYmd y' (monthOfYo l.date.year l.date.ordinal.toNat)
              (dayOfYo l.date.year l.date.ordinal.toNat) = true
          · rw [if_pos ⟨hr.1, hr.2, hv⟩, if_pos hv]; rfl
          · rw [if_neg (fun h => hv h.2.2), if_neg hv]; rfl
        · rw [if_neg hr, if_neg (fun h => hr ⟨h.1, h.2.1⟩)]; rfl
    · intro nl hnl
      unfold yearReading? at hnl
      by_cases hc : y' = l.date.year
      · rw [if_pos hc] at hnl; cases hnl; exact hext
      · rw [if_neg hc] at hnl
        by_cases hr : MIN_YEAR ≤ y' ∧ y' ≤ MAX_YEAR
        · rw [if_pos hr] at hnl
          exact ymdReading_ext _ _ _ _ ⟨by omega, by omega⟩ hext.2 nl hnl
        · rw [if_neg hr] at hnl; cases hnl
  · unfold Zoned.with_month
    apply map_local_acts z hz _ l _ hl
    · unfold NaiveDT.with_month NaiveDT.mapDate; rw [w2, rbind_ok, ymdReading_eq]
    · exact ymdReading_ext _ _ _ _ hy hext.2
  · unfold Zoned.with_month0
    apply map_local_acts z hz _ l _ hl
    · unfold NaiveDT.with_month0 NaiveDT.mapDate; rw [w3, rbind_ok, ymdReading_eq]
    · exact ymdReading_ext _ _ _ _ hy hext.2
  · unfold Zoned.with_day
    apply map_local_acts z hz _ l _ hl
    · unfold NaiveDT.with_day NaiveDT.mapDate; rw [w4, rbind_ok, ymdReading_eq]
    · exact ymdReading_ext _ _ _ _ hy hext.2
  · unfold Zoned.with_day0
    apply map_local_acts z hz _ l _ hl
    · unfold NaiveDT.with_day0 NaiveDT.mapDate; rw [w5, rbind_ok, ymdReading_eq]
    · exact ymdReading_ext _ _ _ _ hy hext.2
  · unfold Zoned.with_ordinal
    apply map_local_acts z hz _ l _ hl
    · unfold NaiveDT.with_ordinal NaiveDT.mapDate; rw [w6, rbind_ok, yoReading_eq]
    · exact yoReading_ext _ _ _ hy hext.2
  · unfold Zoned.with_ordinal0
    apply map_local_acts z hz _ l _ hl
    · unfold NaiveDT.with_ordinal0 NaiveDT.mapDate; rw [w7, rbind_ok, yoReading_eq]
    · exact yoReading_ext _ _ _ hy hext.2

end Chrono.Proofs.ZN
