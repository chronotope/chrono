/-
  Helper lemmas for C02, second part (audit gaps of audit/C02.md): the former body of the nanosecond
  accessor, the exact boundary of the reverse round trip, the calendar/clock reading of a value with the
  invariant, and the `unwrap`/`expect` and `TimeZone` wrapper forms.
-/
import Chrono.Proofs.TimestampL
import Chrono.Model.TimestampMore
namespace Chrono.Proofs.Ts2
open Chrono Chrono.M Chrono.Spec Chrono.Spec.Ts Chrono.Extracted Chrono.Proofs Chrono.Proofs.Ts

/-! ### the former body of `timestamp_nanos_opt` -/

/-- the pre-32de816 body of `timestamp_nanos_opt` (negative-timestamp workaround in `i64`):
`if ts < 0 { sub -= 10⁹; ts += 1 }; ts.checked_mul(10⁹)?.checked_add(sub)` -/
def nanosOptPinned (dt : NaiveDT) : Res (Option Int) :=
  (NaiveDT.timestamp dt).bind fun ts =>
  let sub := NaiveDT.timestamp_subsec_nanos dt
  if ts < 0 then
    (ckI64 (sub - 1000000000)).bind fun sub' => (ckI64 (ts + 1)).bind fun ts' =>
    match optI64 (ts' * 1000000000) with
    | none => .ok none
    | some p => .ok (optI64 (p + sub'))
  else
    match optI64 (ts * 1000000000) with
    | none => .ok none
    | some p => .ok (optI64 (p + sub))

/-- the old body is exact everywhere except on the upper part of the one second -9223372038 -/
theorem nanosOptPinned_spec (dt : NaiveDT) (h : NDTInv dt)
    (hx : ¬ (instSecs dt = -9223372038 ∧ dt.time.frac ≥ 1145224192)) :
    nanosOptPinned dt = .ok (if isI64 (instNs dt) then some (instNs dt) else none) := by
  obtain ⟨b1, b2, t3, t4⟩ := inv_bounds dt h
  unfold nanosOptPinned NaiveDT.timestamp_subsec_nanos Time.nanosecond instNs
  rw [timestamp_spec dt h]
  simp only [Res.bind]
  generalize instSecs dt = s at *
  generalize dt.time.frac = f at *
  by_cases hneg : s < 0
  · rw [if_pos hneg, ckI64_ok (by omega) (by omega)]
    simp only []
    rw [ckI64_ok (by omega) (by omega)]
    simp only []
    by_cases hm : -9223372036854775808 ≤ (s + 1) * 1000000000
    · rw [optI64_some hm (by omega)]
      simp only []
      by_cases h2 : isI64 (s * 1000000000 + f)
      · rw [if_pos h2]; unfold isI64 at h2; rw [optI64_some (by omega) (by omega)]
        congr 2; omega
      · rw [if_neg h2]; unfold isI64 at h2; rw [optI64_none (by omega)]
    · rw [optI64_none (by omega)]
      simp only []
      rw [if_neg (by unfold isI64; omega)]
  · rw [if_neg hneg]
    by_cases hm : s * 1000000000 ≤ 9223372036854775807
    · rw [optI64_some (by omega) hm]
      simp only []
      by_cases h2 : isI64 (s * 1000000000 + f)
      · rw [if_pos h2]; unfold isI64 at h2; rw [optI64_some h2.1 h2.2]
      · rw [if_neg h2]; unfold isI64 at h2; rw [optI64_none (by omega)]
    · rw [optI64_none (by omega)]
      simp only []
      rw [if_neg (by unfold isI64; omega)]

/-- on the upper part of the second -9223372038 (reachable only with a leap-second representation:
`frac ≥ 1145224192`) the old body returned `None` although the count fits `i64` -/
theorem nanosOptPinned_exceptional (dt : NaiveDT) (h : NDTInv dt)
    (hx : instSecs dt = -9223372038 ∧ dt.time.frac ≥ 1145224192) :
    nanosOptPinned dt = .ok none ∧ isI64 (instNs dt) := by
  obtain ⟨_, _, t3, t4⟩ := inv_bounds dt h
  unfold nanosOptPinned NaiveDT.timestamp_subsec_nanos Time.nanosecond instNs isI64
  rw [timestamp_spec dt h]
  simp only [Res.bind]
  generalize instSecs dt = s at *
  generalize dt.time.frac = f at *
  obtain ⟨hs, hf⟩ := hx
  subst hs
  rw [if_pos (by omega), ckI64_ok (by omega) (by omega)]
  simp only []
  rw [ckI64_ok (by omega) (by omega)]
  simp only []
  rw [optI64_none (by omega)]
  exact ⟨rfl, by omega, by omega⟩

/-! ### the reverse round trip: exactly the strict values -/

/-- a value whose leap-second representation sits on a second other than 59 is refused by
`from_timestamp` on its own `(timestamp, subsec_nanos)` -/
theorem from_timestamp_of_nonstrict (dt : NaiveDT) (h : NDTInv dt) (hs : ¬ TStrict dt.time) :
    NaiveDT.from_timestamp (instSecs dt) dt.time.frac = .ok none := by
  obtain ⟨b1, b2, t3, t4⟩ := inv_bounds dt h
  have h60 := instSecs_mod60 dt
  obtain ⟨r, hr0, hnone, _⟩ := from_timestamp_spec (instSecs dt) dt.time.frac (by unfold isI64; omega) t3
  have hbad : ¬ tsOk (instSecs dt) dt.time.frac := by
    intro hok
    apply hs
    unfold tsOk nanosOk at hok
    exact ⟨h.2, by omega⟩
  rw [hr0, hnone.2 hbad]

theorem from_timestamp_back_iff (dt : NaiveDT) (h : NDTInv dt) :
    NaiveDT.from_timestamp (instSecs dt) dt.time.frac = .ok (some dt) ↔ TStrict dt.time := by
  constructor
  · intro hx
    by_cases hs : TStrict dt.time
    · exact hs
    · rw [from_timestamp_of_nonstrict dt h hs] at hx
      injection hx with hx
      cases hx
  · exact from_timestamp_of_inv dt h

/-- `from_timestamp_nanos` of a leap-second value's own count is a different (non-leap) value -/
theorem nanos_back_iff (dt : NaiveDT) (h : NDTInv dt) (hi : isI64 (instNs dt)) :
    NaiveDT.from_timestamp_nanos (instNs dt) = .ok dt ↔ NonLeap dt := by
  constructor
  · intro hx
    obtain ⟨dt', e1, _, i2, _⟩ := from_nanos_total (instNs dt) hi
    rw [e1] at hx
    injection hx with hx
    rw [← hx]; exact i2
  · exact nanos_back dt h

/-! ### the packed date, calendar and clock fields -/

/-- bridge between the representation invariant and C01's `dateOfYo` form -/
theorem dateInv_iff (d : Date) :
    DateInv d ↔ ∃ (y : Int) (o : Nat), d = dateOfYo y o ∧ MIN_YEAR ≤ y ∧ y ≤ MAX_YEAR ∧ 1 ≤ o ∧ o ≤ yearLen y := by
  constructor
  · intro h
    obtain ⟨o, e, _, y1, y2, o1, o2⟩ := dateInv_repr d h
    exact ⟨d.year, o, e, y1, y2, o1, o2⟩
  · rintro ⟨y, o, e, y1, y2, o1, o2⟩
    rw [e]
    exact (dateInv_of_yo y o ⟨y1, y2⟩ ⟨o1, o2⟩).1

theorem dateInv_repr' (d : Date) (h : DateInv d) :
    d = dateOfYo d.year d.ordinal.toNat ∧ (d.ordinal.toNat : Int) = d.ordinal ∧
    MIN_YEAR ≤ d.year ∧ d.year ≤ MAX_YEAR ∧ 1 ≤ d.ordinal.toNat ∧ d.ordinal.toNat ≤ yearLen d.year := by
  obtain ⟨o, e, eo, y1, y2, o1, o2⟩ := dateInv_repr d h
  have : o = d.ordinal.toNat := by omega
  subst this
  exact ⟨e, eo, y1, y2, o1, o2⟩

/-- month and day of a date with the invariant are the calendar form (C01's specification) of its
day number -/
theorem date_calendar (d : Date) (h : DateInv d) :
    ∃ m dd : Nat, d.month = .ok m ∧ d.day = .ok dd ∧ validYmd d.year m dd = true ∧
      m = monthOfYo d.year d.ordinal.toNat ∧ dd = dayOfYo d.year d.ordinal.toNat ∧
      dayNum d.year m dd = dayNumOf d := by
  obtain ⟨e, eo, _, _, o1, o2⟩ := dateInv_repr' d h
  obtain ⟨m1, m2, m3, m4⟩ := month_day_spec d.year d.ordinal.toNat o1 o2
  rw [← e] at m1 m2
  refine ⟨_, _, m1, m2, m3, rfl, rfl, ?_⟩
  unfold dayNum dayNumOf
  rw [m4, eo]

/-- hour, minute, second as quotients of the second of day -/
theorem time_fields (t : Time) :
    t.hour = t.secs / 3600 ∧ t.minute = t.secs % 3600 / 60 ∧ t.second = t.secs % 60 := by
  unfold Time.hour Time.minute Time.second Time.hms
  dsimp only
  omega

/-- a second count `secs` determines the day `D` and the second of day `s` it is made of, and the
minute and second quotients of `s` are those of `secs` itself -/
theorem secs_split (D s secs : Int) (h : (D - 719163) * 86400 + s = secs) (h0 : 0 ≤ s) (h1 : s < 86400) :
    D = 719163 + secs / 86400 ∧ s = secs % 86400 ∧ s % 3600 / 60 = secs % 3600 / 60 ∧ s % 60 = secs % 60 := by
  have hs : s = secs % 86400 := by omega
  exact ⟨by omega, hs, by rw [hs]; omega, by rw [hs]; omega⟩

/-- hour, minute, second of a valid time of day -/
theorem time_clock (t : Time) (h : TValid t) :
    t.secs = t.hour * 3600 + t.minute * 60 + t.second ∧
    0 ≤ t.hour ∧ t.hour < 24 ∧ 0 ≤ t.minute ∧ t.minute < 60 ∧ 0 ≤ t.second ∧ t.second < 60 ∧
    t.nanosecond = t.frac := by
  obtain ⟨t1, t2, _, _⟩ := h
  unfold Time.hour Time.minute Time.second Time.nanosecond Time.hms
  dsimp only
  omega

/-! ### `unwrap` / `expect` -/

/-- `unwrap` of a result that is not a panic: panics exactly on absence, returns what is held -/
theorem unwrap_iff {α} {f : Res (Option α)} {r : Option α} (e : f = .ok r) :
    (Ts.unwrap f = .panic ↔ f = .ok none) ∧ (Ts.unwrap f = .panic ↔ r = none) ∧
    (∀ a, Ts.unwrap f = .ok a ↔ f = .ok (some a)) := by
  subst e
  cases r with
  | none => exact ⟨⟨fun _ => rfl, fun _ => rfl⟩, ⟨fun _ => rfl, fun _ => rfl⟩, fun a => ⟨nofun, nofun⟩⟩
  | some b =>
    refine ⟨⟨nofun, nofun⟩, ⟨nofun, nofun⟩, fun a => ⟨fun hx => ?_, fun hx => ?_⟩⟩
    · cases hx; rfl
    · cases hx; rfl

/-- `single off` carries a statement about a constructor's result over to the zone-aware value -/
theorem single_spec (off : Int) {f : Res (Option NaiveDT)} {C : Prop} {P : NaiveDT → Prop}
    (hf : ∃ r, f = .ok r ∧ (r = none ↔ C) ∧ ∀ dt, r = some dt → P dt) :
    ∃ r, Ts.single off f = .ok r ∧ (r = none ↔ C) ∧ ∀ z, r = some z → z.off = off ∧ P z.utc := by
  obtain ⟨r, e1, e2, e3⟩ := hf
  subst e1
  cases r with
  | none => exact ⟨none, rfl, iff_of_true rfl (e2.1 rfl), nofun⟩
  | some dt =>
    refine ⟨some ⟨dt, off⟩, rfl, iff_of_false nofun (fun c => nomatch e2.2 c), fun z hz => ?_⟩
    cases hz
    exact ⟨rfl, e3 dt rfl⟩

end Chrono.Proofs.Ts2
