/-
  C13, second lemma file: the numeric items — unsigned ones of a fixed reader width (`UNumText`, and its
  evaluable form `numText`), the signed and unbounded ones `%Y`/`%G` and `%s` (`SNumText`), `%f` and the
  fraction items, the offset items `%z`/`%:z` — on top of the shared decimal library Proofs/RenderScanL.lean.
  Namespace `Chrono.Proofs.RoundTrip`.
-/
import Chrono.Proofs.RoundTripL
import Chrono.Proofs.RenderScanL
import Chrono.Spec.UnambiguousSpec

namespace Chrono.Proofs.RoundTrip
open Chrono Chrono.M Chrono.M.Scan

/-! ### unsigned numeric items -/

theorem trimStart_spaces (k : Nat) (s : List Nat) : trimStart (List.replicate k 32 ++ s) = trimStart s := by
  induction k with
  | zero => simp
  | succ k ih =>
    rw [List.replicate_succ, List.cons_append]
    have := trimStart_char [32] (List.replicate k 32 ++ s) (by simp) (by simp [wsLen])
    simp only [List.singleton_append] at this
    rw [this, ih]

theorem trimStart_digits (ds rest : List Nat) (hd : RenderScan.AllDigits ds) (hne : ds ≠ []) :
    trimStart (ds ++ rest) = ds ++ rest := by
  cases ds with
  | nil => exact absurd rfl hne
  | cons d ds => exact trimStart_noop _ (wsLen_digit d _ (hd d List.mem_cons_self))

/-- the reader of an unsigned numeric item: skip white space, read at most `width` digits, call the
setter -/
theorem parseNumeric_unsigned (p : Parsed) (s : List Nat) (n : Numeric)
    (hs : (Parse.numericSpec n).2.1 = false) :
    Parse.parseNumeric p s n =
      match number (trimStart s) 1 (Parse.numericSpec n).1 with
      | .error e => .error e
      | .ok (s', v) =>
        match (Parse.numericSpec n).2.2 p v with
        | .ok p' => .ok (p', s')
        | .error e => .error e := by
  cases n <;> first | rfl | (exact absurd hs (by decide))

/-- `text` is `k` spaces and then a non-empty digit run denoting `v` that fits the reader's width `w`
(and fills it when `fixed`) -/
def UNumText (text : List Nat) (v : Nat) (w : Nat) (fixed : Prop) : Prop :=
  ∃ (k : Nat) (ds : List Nat), text = List.replicate k 32 ++ ds ∧ ds ≠ [] ∧ RenderScan.AllDigits ds ∧
    RenderScan.valOf ds = v ∧ ds.length ≤ w ∧ (fixed → ds.length = w) ∧ w ≤ 18

theorem unum_inverts (n : Numeric) (pad : Pad) (text rest : List Nat) (v : Nat) (w : Nat) (fixed : Prop)
    (hs : (Parse.numericSpec n).2.1 = false) (hw : (Parse.numericSpec n).1 = some w)
    (ht : UNumText text v w fixed) (hrest : StopsDigits rest ∨ fixed) :
    InvertsAt (.numeric n pad) ⟨text, fun p => (Parse.numericSpec n).2.2 p v⟩ rest := by
  intro p
  obtain ⟨k, ds, rfl, hne, hd, hv, hlen, hfix, hw18⟩ := ht
  have hl : 1 ≤ ds.length := List.length_pos_iff.mpr hne
  have hnum : number (ds ++ rest) 1 (some w) = .ok (rest, ((RenderScan.valOf ds : Nat) : Int)) :=
    RenderScan.number_digits ds rest 1 (some w) hd hl (fun m hm => by cases hm; exact hlen)
      (by rcases hrest with h | h
          · exact Or.inr h
          · left; rw [hfix h]) (by omega)
  show Parse.parseItemBase p (List.replicate k 32 ++ ds ++ rest) (.numeric n pad) = _
  simp only [Parse.parseItemBase]
  rw [parseNumeric_unsigned p _ n hs, hw, List.append_assoc, trimStart_spaces,
    trimStart_digits ds rest hd hne, hnum, hv]
  dsimp only
  cases hset : (Parse.numericSpec n).2.2 p v <;> rfl

/-- `UNumText` as a check that can be evaluated on a concrete text: the digit run is what is left when the
leading spaces are dropped -/
def numText (text : List Nat) (v : Int) (w : Nat) (fixed : Bool) : Bool :=
  let ds := text.dropWhile (· == 32)
  let k := text.length - ds.length
  text == List.replicate k 32 ++ ds && !ds.isEmpty && ds.all isDigit && (RenderScan.valOf ds : Int) == v &&
    decide (ds.length ≤ w) && (!fixed || ds.length == w) && decide (w ≤ 18)

theorem numText_iff (text : List Nat) (v : Int) (w : Nat) (fixed : Bool) :
    numText text v w fixed = true ↔ ∃ n : Nat, v = n ∧ UNumText text n w (fixed = true) := by
  simp only [numText, Bool.and_eq_true, beq_iff_eq, Bool.not_eq_true', List.isEmpty_eq_false_iff,
    List.all_eq_true, decide_eq_true_eq, Bool.or_eq_true]
  constructor
  · rintro ⟨⟨⟨⟨⟨⟨htext, hne⟩, hall⟩, hval⟩, hlen⟩, hfix⟩, hw18⟩
    refine ⟨_, hval.symm, _, _, htext, hne, hall, rfl, hlen, fun hf => ?_, hw18⟩
    rcases hfix with h | h
    · rw [hf] at h; cases h
    · exact h
  · rintro ⟨n, rfl, k, ds, rfl, hne, hd, hv, hlen, hfix, hw18⟩
    -- the digit run starts with a digit, which is not a space: dropping the spaces leaves exactly `ds`
    have hdrop : (List.replicate k 32 ++ ds).dropWhile (· == 32) = ds := by
      rw [List.dropWhile_append_of_pos (fun a ha => by rw [List.eq_of_mem_replicate ha]; rfl)]
      cases ds with
      | nil => exact absurd rfl hne
      | cons d t =>
        have hdd : 48 ≤ d := ((RenderScan.isDigit_iff d).mp (hd d List.mem_cons_self)).1
        rw [List.dropWhile_cons_of_neg (by simp only [beq_iff_eq]; omega)]
    rw [hdrop]
    refine ⟨⟨⟨⟨⟨⟨?_, hne⟩, hd⟩, by rw [hv]⟩, hlen⟩, ?_⟩, hw18⟩
    · simp only [List.length_append, List.length_replicate, Nat.add_sub_cancel]
    · cases fixed
      · exact Or.inl rfl
      · exact Or.inr (hfix rfl)

theorem numText_inverts (n : Numeric) (pad : Pad) (text rest : List Nat) (v : Int) (w : Nat)
    (fixed : Bool) (hs : (Parse.numericSpec n).2.1 = false) (hw : (Parse.numericSpec n).1 = some w)
    (ht : numText text v w fixed = true) (hrest : StopsDigits rest ∨ fixed = true) :
    InvertsAt (.numeric n pad) ⟨text, fun p => (Parse.numericSpec n).2.2 p v⟩ rest := by
  obtain ⟨m, rfl, h⟩ := (numText_iff text v w fixed).mp ht
  exact unum_inverts n pad text rest m w _ hs hw h hrest

/-- the tail of `parseNumeric`: call the setter on the scanned value -/
def finishNum (n : Numeric) (p : Parsed) (r : PRes (List Nat × Int)) : PRes (Parsed × List Nat) :=
  match r with
  | .error e => .error e
  | .ok (s', v) =>
    match (Parse.numericSpec n).2.2 p v with
    | .ok p' => .ok (p', s')
    | .error e => .error e

/-- the reader of a signed numeric item: skip white space; after an explicit sign any number of
digits, otherwise at most `width` -/
theorem parseNumeric_signed (p : Parsed) (s : List Nat) (n : Numeric)
    (hs : (Parse.numericSpec n).2.1 = true) :
    (∀ r, trimStart s = 45 :: r → Parse.parseNumeric p s n =
      finishNum n p (match number r 1 none with
        | .ok (s', v) => .ok (s', -v)
        | .error e => .error e)) ∧
    (∀ r, trimStart s = 43 :: r → Parse.parseNumeric p s n = finishNum n p (number r 1 none)) ∧
    (∀ d r, trimStart s = d :: r → d ≠ 45 → d ≠ 43 →
      Parse.parseNumeric p s n = finishNum n p (number (d :: r) 1 (Parse.numericSpec n).1)) := by
  cases n <;> first
    | (exact absurd hs (by decide))
    | (refine ⟨fun r h => ?_, fun r h => ?_, fun d r h h1 h2 => ?_⟩
       · simp only [Parse.parseNumeric, Parse.numericSpec, h, finishNum, if_true]
         cases number r 1 none <;> rfl
       · simp only [Parse.parseNumeric, Parse.numericSpec, h, finishNum, if_true]
         cases number r 1 none <;> rfl
       · simp only [Parse.parseNumeric, Parse.numericSpec, h, if_true]
         unfold finishNum
         congr 1
         split
         · rename_i e; injection e with e; exact absurd e h1
         · rename_i e; injection e with e; exact absurd e h2
         · rfl)

/-- `text` is `k` spaces, an optional sign, and a digit run; without a sign the run must fit the
reader's width (and fill it when `fixed`), with a sign it is read in full -/
def SNumText (text : List Nat) (v : Int) (w : Option Nat) (fixed : Prop) : Prop :=
  ∃ (k : Nat) (sg ds : List Nat), text = List.replicate k 32 ++ (sg ++ ds) ∧ ds ≠ [] ∧
    RenderScan.AllDigits ds ∧ ds.length ≤ 18 ∧
    ((sg = [] ∧ v = (RenderScan.valOf ds : Nat) ∧ (∀ m, w = some m → ds.length ≤ m) ∧ (fixed → w = some ds.length)) ∨
     (sg = [43] ∧ v = (RenderScan.valOf ds : Nat) ∧ ¬ fixed) ∨
     (sg = [45] ∧ v = -((RenderScan.valOf ds : Nat) : Int) ∧ ¬ fixed))

theorem snum_inverts (n : Numeric) (pad : Pad) (text rest : List Nat) (v : Int) (fixed : Prop)
    (hs : (Parse.numericSpec n).2.1 = true)
    (ht : SNumText text v (Parse.numericSpec n).1 fixed) (hrest : StopsDigits rest ∨ fixed) :
    InvertsAt (.numeric n pad) ⟨text, fun p => (Parse.numericSpec n).2.2 p v⟩ rest := by
  intro p
  obtain ⟨k, sg, ds, rfl, hne, hd, h18, hcase⟩ := ht
  have hl : 1 ≤ ds.length := List.length_pos_iff.mpr hne
  obtain ⟨hminus, hplus, hother⟩ := parseNumeric_signed p (List.replicate k 32 ++ (sg ++ ds) ++ rest) n hs
  show Parse.parseItemBase p (List.replicate k 32 ++ (sg ++ ds) ++ rest) (.numeric n pad) = _
  simp only [Parse.parseItemBase]
  have htrim : trimStart (List.replicate k 32 ++ (sg ++ ds) ++ rest) = trimStart (sg ++ ds ++ rest) := by
    rw [List.append_assoc, trimStart_spaces]
  have hfin : ∀ x : Int, finishNum n p (.ok (rest, x)) =
      ((Parse.numericSpec n).2.2 p x).map fun p' => (p', rest) := by
    intro x; simp only [finishNum]; cases (Parse.numericSpec n).2.2 p x <;> rfl
  -- after an explicit sign the digits are read in full, so a non-digit (or the end) must follow
  have signed : ¬ fixed → number (ds ++ rest) 1 none = .ok (rest, ((RenderScan.valOf ds : Nat) : Int)) :=
    fun hnf => RenderScan.number_digits ds rest 1 none hd hl (fun m hm => by cases hm)
      (Or.inr (hrest.resolve_right hnf)) h18
  rcases hcase with ⟨rfl, hv, hmax, hfix⟩ | ⟨rfl, hv, hnf⟩ | ⟨rfl, hv, hnf⟩
  · have hnum : number (ds ++ rest) 1 (Parse.numericSpec n).1 = .ok (rest, ((RenderScan.valOf ds : Nat) : Int)) :=
      RenderScan.number_digits ds rest 1 _ hd hl hmax
        (by rcases hrest with h | h
            · exact Or.inr h
            · exact Or.inl (hfix h)) h18
    cases ds with
    | nil => exact absurd rfl hne
    | cons d ds' =>
      have hdd : isDigit d = true := hd d List.mem_cons_self
      have h45 : d ≠ 45 := by intro h; subst h; revert hdd; decide
      have h43 : d ≠ 43 := by intro h; subst h; revert hdd; decide
      have e : trimStart (List.replicate k 32 ++ ([] ++ d :: ds') ++ rest) = d :: (ds' ++ rest) := by
        rw [htrim, List.nil_append]; exact trimStart_digits (d :: ds') rest hd hne
      rw [hother d _ e h45 h43, ← List.cons_append, hnum, hfin, hv]
  · have e : trimStart (List.replicate k 32 ++ ([43] ++ ds) ++ rest) = 43 :: (ds ++ rest) := by
      rw [htrim, List.append_assoc]; exact trimStart_noop _ (by simp [wsLen])
    rw [hplus _ e, signed hnf, hfin, hv]
  · have e : trimStart (List.replicate k 32 ++ ([45] ++ ds) ++ rest) = 45 :: (ds ++ rest) := by
      rw [htrim, List.append_assoc]; exact trimStart_noop _ (by simp [wsLen])
    rw [hminus _ e, signed hnf]
    dsimp only
    rw [hfin, hv]

/-! ### `core::fmt` integers as such texts -/

/-- zeros followed by the decimal digits of `n` -/
theorem zdigits (z n : Nat) (hn : n < 10 ^ 17) :
    RenderScan.AllDigits (List.replicate z 48 ++ Format.digits n) ∧
    RenderScan.valOf (List.replicate z 48 ++ Format.digits n) = n ∧
    List.replicate z 48 ++ Format.digits n ≠ [] ∧
    (List.replicate z 48 ++ Format.digits n).length = z + (Format.digits n).length ∧
    1 ≤ (Format.digits n).length ∧ (Format.digits n).length ≤ 17 ∧
    (∀ w, 1 ≤ w → n < 10 ^ w → (Format.digits n).length ≤ w) ∧
    (10 ≤ n → 10 ^ ((Format.digits n).length - 1) ≤ n) := by
  obtain ⟨h1, h2, h3, h4, h5⟩ := RenderScan.digits_spec n
  refine ⟨RenderScan.allDigits_append.mpr ⟨RenderScan.allDigits_replicate z, h1⟩, ?_, ?_, ?_, h3,
    h4 17 (by omega) hn, h4, h5⟩
  · rw [RenderScan.valOf_append, RenderScan.valOf_replicate_zero, h2]; simp
  · intro h
    have := congrArg List.length h
    simp only [List.length_append, List.length_replicate, List.length_nil] at this
    omega
  · simp

/-- `fmtInt` of a non-negative value without the `+` flag -/
theorem fmtInt_unsigned_text (v : Int) (width : Nat) (pad : Pad) (h0 : 0 ≤ v) :
    ∃ k z, Format.fmtInt v width pad false =
        List.replicate k 32 ++ (List.replicate z 48 ++ Format.digits v.toNat) ∧
      (pad = .zero → k = 0 ∧ z = width - (Format.digits v.toNat).length) ∧ (pad ≠ .zero → z = 0) ∧
      (pad = .none → k = 0) := by
  have hn : ¬ v < 0 := by omega
  have e : v.natAbs = v.toNat := by omega
  cases pad
  · exact ⟨0, 0, by simp [Format.fmtInt, hn, e], by simp, by simp, by simp⟩
  · exact ⟨0, width - (Format.digits v.toNat).length, by simp [Format.fmtInt, hn, e], by simp, by simp, by simp⟩
  · exact ⟨width - (0 + (Format.digits v.toNat).length), 0, by simp [Format.fmtInt, hn, e], by simp, by simp, by simp⟩

/-- `fmtInt` with a sign: a negative value, or the `+` flag -/
theorem fmtInt_signed_text (v : Int) (width : Nat) (pad : Pad) (plus : Bool) (h : v < 0 ∨ plus = true) :
    ∃ k z, Format.fmtInt v width pad plus =
        List.replicate k 32 ++ ([if v < 0 then 45 else 43] ++ (List.replicate z 48 ++ Format.digits v.natAbs)) ∧
      (z = 0 ∨ z + (Format.digits v.natAbs).length ≤ width) := by
  by_cases hv : v < 0
  · cases pad
    · exact ⟨0, 0, by simp [Format.fmtInt, hv], by omega⟩
    · exact ⟨0, width - 1 - (Format.digits v.natAbs).length, by simp [Format.fmtInt, hv], by omega⟩
    · exact ⟨width - (1 + (Format.digits v.natAbs).length), 0, by simp [Format.fmtInt, hv], by omega⟩
  · have hp : plus = true := by rcases h with h | h; exact absurd h hv; exact h
    subst hp
    cases pad
    · exact ⟨0, 0, by simp [Format.fmtInt, hv], by omega⟩
    · exact ⟨0, width - 1 - (Format.digits v.natAbs).length, by simp [Format.fmtInt, hv], by omega⟩
    · exact ⟨width - (1 + (Format.digits v.natAbs).length), 0, by simp [Format.fmtInt, hv], by omega⟩

/-- any `fmtInt` text is a signed-number text for a reader of unlimited width after a sign and of
width `w` without one; it fills the width exactly when zero-padded, unsigned and short enough -/
theorem fmtInt_snum (v : Int) (width : Nat) (pad : Pad) (plus : Bool) (w : Option Nat) (fixed : Prop)
    (hv : v.natAbs < 10 ^ 17) (hwidth : width ≤ 18)
    (hw : 0 ≤ v → plus = false → ∀ m, w = some m → 1 ≤ m ∧ width ≤ m ∧ v < 10 ^ m)
    (hfix : fixed → 0 ≤ v ∧ plus = false ∧ pad = .zero ∧ w = some width ∧ v < 10 ^ width ∧ 1 ≤ width) :
    SNumText (Format.fmtInt v width pad plus) v w fixed := by
  by_cases hs : v < 0 ∨ plus = true
  · obtain ⟨k, z, he, hz⟩ := fmtInt_signed_text v width pad plus hs
    obtain ⟨a1, a2, a3, a4, a5, a6, _, _⟩ := zdigits z v.natAbs hv
    have hnf : ¬ fixed := by
      intro hf; obtain ⟨b1, b2, _⟩ := hfix hf
      rcases hs with h | h
      · omega
      · rw [b2] at h; cases h
    refine ⟨k, _, _, he, a3, a1, by rw [a4]; omega, ?_⟩
    by_cases hneg : v < 0
    · right; right; refine ⟨by simp [hneg], ?_, hnf⟩; rw [a2]; omega
    · right; left; refine ⟨by simp [hneg], ?_, hnf⟩; rw [a2]; omega
  · have h0 : 0 ≤ v := by omega
    have hp : plus = false := by cases plus <;> simp_all
    subst hp
    obtain ⟨k, z, he, hz1, hz2, _⟩ := fmtInt_unsigned_text v width pad h0
    have e : v.natAbs = v.toNat := by omega
    rw [e] at hv
    obtain ⟨a1, a2, a3, a4, a5, a6, a7, _⟩ := zdigits z v.toNat hv
    have hzle : z = 0 ∨ z + (Format.digits v.toNat).length ≤ width := by
      by_cases hp : pad = .zero
      · rw [(hz1 hp).2]; omega
      · left; exact hz2 hp
    have len_le : ∀ m : Nat, 1 ≤ m → v < 10 ^ m → (Format.digits v.toNat).length ≤ m := fun m hm hlt =>
      a7 m hm (by
        have : (v.toNat : Int) = v := by omega
        have h3 : ((v.toNat : Nat) : Int) < ((10 ^ m : Nat) : Int) := by rw [this]; exact_mod_cast hlt
        exact_mod_cast h3)
    refine ⟨k, [], _, by rw [he]; simp, a3, a1, by rw [a4]; omega, Or.inl ⟨rfl, by rw [a2]; omega, ?_, ?_⟩⟩
    · intro m hm
      obtain ⟨hm0, b1, b2⟩ := hw h0 rfl m hm
      rw [a4]
      have := len_le m hm0 b2
      by_cases hp : pad = .zero
      · rw [(hz1 hp).2]; omega
      · rw [hz2 hp]; omega
    · intro hf
      obtain ⟨_, _, b3, b4, b5, b6⟩ := hfix hf
      rw [b4, a4, (hz1 b3).2]
      have := len_le width b6 b5
      congr 1; omega

/-! ### years, timestamps, `%f` -/

theorem asU8_small (x : Int) (h : 0 ≤ x ∧ x < 256) : asU8 x = x := by unfold asU8; omega

/-- `write_year` for every year of the `i32`-sized range and every padding: four digits for
0–9999 when zero-padded (and for 1000–9999 always), `+`/`-` and at least four digits otherwise -/
theorem write_year_text (y : Int) (pad : Pad) (hy : -1000000000 < y ∧ y < 1000000000) :
    ∃ text, Format.write_year y pad = Format.wok text ∧
      SNumText text y (some 4) (pad = .zero ∧ 0 ≤ y ∧ y ≤ 9999) := by
  unfold Format.write_year
  by_cases h4 : 1000 ≤ y ∧ y ≤ 9999
  · rw [if_pos h4]
    have e1 : Int.tdiv y 100 = y / 100 := Int.tdiv_eq_ediv_of_nonneg (by omega)
    have e2 : Int.tmod y 100 = y % 100 := Int.tmod_eq_emod_of_nonneg (by omega)
    rw [e1, e2, asU8_small _ (by omega), asU8_small _ (by omega),
      RenderScan.write_hundreds_eq _ (by omega) (by omega),
      RenderScan.write_hundreds_eq _ (by omega) (by omega)]
    refine ⟨RenderScan.two (y / 100).toNat ++ RenderScan.two (y % 100).toNat, rfl, 0, [],
      RenderScan.two (y / 100).toNat ++ RenderScan.two (y % 100).toNat, by simp, by simp [RenderScan.two], ?_,
      by simp [RenderScan.two], Or.inl ⟨rfl, ?_, ?_, ?_⟩⟩
    · exact RenderScan.allDigits_append.mpr
        ⟨RenderScan.allDigits_two _ (by omega), RenderScan.allDigits_two _ (by omega)⟩
    · rw [RenderScan.valOf_append, RenderScan.valOf_two _ (by omega), RenderScan.valOf_two _ (by omega)]
      simp only [RenderScan.two_length]
      omega
    · intro m hm; cases hm; simp [RenderScan.two]
    · intro _; simp [RenderScan.two]
  · rw [if_neg h4]
    refine ⟨_, rfl, ?_⟩
    unfold Format.write_n
    by_cases h0 : 0 ≤ y ∧ y < 10000
    · have hb : (!(decide (0 ≤ y) && decide (y < 10000))) = false := by simp [h0.1, h0.2]
      rw [hb]
      simp only [Bool.false_eq_true, if_false]
      exact fmtInt_snum y 4 pad false (some 4) _ (by omega) (by omega)
        (fun _ _ m hm => by cases hm; exact ⟨by omega, by omega, by omega⟩)
        (fun hf => ⟨hf.2.1, rfl, hf.1, rfl, by omega, by omega⟩)
    · have hb : (!(decide (0 ≤ y) && decide (y < 10000))) = true := by
        simp only [Bool.not_eq_true', Bool.and_eq_false_iff, decide_eq_false_iff_not]; omega
      rw [hb]
      simp only [if_true]
      exact fmtInt_snum y 5 pad true (some 4) _ (by omega) (by omega)
        (fun _ h => by cases h) (fun hf => absurd ⟨hf.2.1, by omega⟩ h0)

/-- `%s`: the signed decimal of the timestamp, any padding -/
theorem write_timestamp_text (ts : Int) (pad : Pad) (h : -100000000000000000 < ts ∧ ts < 100000000000000000) :
    SNumText (Format.write_n 9 ts pad false) ts none False := by
  unfold Format.write_n
  simp only [Bool.false_eq_true, if_false]
  exact fmtInt_snum ts 9 pad false none False (by omega) (by omega) (fun _ _ m hm => by cases hm)
    (fun hf => hf.elim)

/-- `fmtInt` of `0 ≤ v < 10 ^ w` without a sign: `w` digits when zero-padded, the plain number (after
spaces, if any) otherwise -/
theorem fmtInt_unum (v : Int) (w : Nat) (pad : Pad) (h0 : 0 ≤ v) (hw1 : 1 ≤ w) (hw : w ≤ 17)
    (hlt : v.toNat < 10 ^ w) : UNumText (Format.fmtInt v w pad false) v.toNat w (pad = .zero) := by
  obtain ⟨k, z, he, hz1, hz2, _⟩ := fmtInt_unsigned_text v w pad h0
  obtain ⟨a1, a2, a3, a4, a5, a6, a7, _⟩ := zdigits z v.toNat
    (Nat.lt_of_lt_of_le hlt (Nat.pow_le_pow_right (by decide) hw))
  have hlen := a7 w hw1 hlt
  refine ⟨k, _, he, a3, a1, a2, ?_, ?_, by omega⟩
  · rw [a4]
    by_cases hp : pad = .zero
    · rw [(hz1 hp).2]; omega
    · rw [hz2 hp]; omega
  · intro hp; rw [a4, (hz1 hp).2]; omega

/-- `%f`: nine digits when zero-padded, the plain number otherwise -/
theorem write_nano_text (v : Int) (pad : Pad) (h : 0 ≤ v ∧ v < 1000000000) :
    UNumText (Format.write_n 9 v pad false) v.toNat 9 (pad = .zero) :=
  fmtInt_unum v 9 pad h.1 (by decide) (by decide) (by omega)

/-- the `write_n` items without a sign (`%j`, `%C`), as the check `numText` -/
theorem write_n_numText (w : Nat) (hw1 : 1 ≤ w) (hw : w ≤ 17) (v : Nat) (hv : v < 10 ^ w) (pad : Pad) :
    numText (Format.write_n w (v : Int) pad false) (v : Int) w (pad == .zero) = true := by
  have h : UNumText (Format.write_n w (v : Int) pad false) v w (pad = .zero) := by
    have := fmtInt_unum (v : Int) w pad (Int.natCast_nonneg v) hw1 hw hv
    rwa [Int.toNat_natCast] at this
  obtain ⟨k, ds, h1, h2, h3, h4, h5, h6, h7⟩ := h
  exact (numText_iff _ _ _ _).mpr ⟨v, rfl, k, ds, h1, h2, h3, h4, h5, fun hf => h6 (eq_of_beq hf), h7⟩

theorem write_n3_numText (v : Nat) (hv : v < 1000) (pad : Pad) :
    numText (Format.write_n 3 (v : Int) pad false) (v : Int) 3 (pad == .zero) = true :=
  write_n_numText 3 (by decide) (by decide) v hv pad

theorem write_n2_numText (v : Nat) (hv : v < 100) (pad : Pad) :
    numText (Format.write_n 2 (v : Int) pad false) (v : Int) 2 (pad == .zero) = true :=
  write_n_numText 2 (by decide) (by decide) v hv pad

/-- the two-digit writer `write_two` prints its digits itself (no `fmtInt`); its 100 values with the three
paddings are checked one by one -/
theorem write_two_numText (v : Nat) (hv : v < 100) (pad : Pad) :
    numText (Format.write_two (v : Int) pad) (v : Int) 2 (pad == .zero) = true := by
  have key : ∀ v : Nat, v < 100 →
      (numText (Format.write_two (v : Int) .none) (v : Int) 2 false &&
       numText (Format.write_two (v : Int) .zero) (v : Int) 2 true &&
       numText (Format.write_two (v : Int) .space) (v : Int) 2 false) = true := by decide +kernel
  have := key v hv
  simp only [Bool.and_eq_true] at this
  cases pad
  · exact this.1.1
  · exact this.1.2
  · exact this.2

theorem write_one_numText : ∀ v : Nat, v < 10 → numText (Format.write_one (v : Int)) (v : Int) 1 true = true := by
  decide +kernel

theorem stops_or_zero (pad : Pad) (rest : List Nat) (h : StopsDigits rest ∨ pad = .zero) :
    StopsDigits rest ∨ (pad == .zero) = true :=
  h.imp_right fun h => by subst h; rfl

/-! ### the fraction items -/

theorem setNano_ok (p : Parsed) (rest : List Nat) (v : Int) :
    Parse.setNano p (.ok (rest, v)) = (p.set_nanosecond v).map fun p' => (p', rest) := by
  simp only [Parse.setNano]; cases p.set_nanosecond v <;> rfl

/-- `%.3f %.6f %.9f` and a non-empty `%.f`: a dot and `k` digits, read as `v · 10^(9-k)` ns -/
theorem frac_dot_inverts (f : Fixed) (hf : f = .nanosecond ∨ f = .nanosecond3 ∨ f = .nanosecond6 ∨ f = .nanosecond9)
    (v : Int) (k : Nat) (h0 : 0 ≤ v) (hk1 : 1 ≤ k) (hk9 : k ≤ 9) (hlt : v < ((10 ^ k : Nat) : Int))
    (rest : List Nat) (hr : StopsDigits rest) :
    InvertsAt (.fixed f) ⟨46 :: Format.fmtInt v k .zero false,
      fun p => p.set_nanosecond (v * ((10 ^ (9 - k) : Nat) : Int))⟩ rest := by
  intro p
  have hn := RenderScan.nanosecond_fmtInt v k rest h0 hk1 hk9 hlt hr
  rcases hf with rfl | rfl | rfl | rfl <;>
    simp only [step, Parse.parseItemBase, Parse.parseFixedBase, List.cons_append, hn, setNano_ok]

theorem parseFixed_nano_nodot (p : Parsed) (rest : List Nat) (h : ∀ t, rest ≠ 46 :: t) :
    Parse.parseFixedBase p rest .nanosecond = .ok (p, rest) := by
  cases rest with
  | nil => rfl
  | cons b t =>
    have hb : b ≠ 46 := fun e => h t (by rw [e])
    clear h
    simp only [Parse.parseFixedBase]
    split
    · rename_i e; injection e with e; exact absurd e hb
    · rfl

/-- `%.f` of a whole second prints nothing and reads nothing, unless a dot follows -/
theorem frac_empty_inverts (rest : List Nat) (h : ∀ t, rest ≠ 46 :: t) :
    InvertsAt (.fixed .nanosecond) ⟨[], .ok⟩ rest := by
  intro p
  simp only [step, Parse.parseItemBase, List.nil_append, parseFixed_nano_nodot p rest h]
  rfl

/-- `%3f %6f %9f`: exactly `k` digits, whatever follows -/
theorem frac_nodot_inverts (f : Fixed) (k : Nat)
    (hf : (f = .nanosecond3NoDot ∧ k = 3) ∨ (f = .nanosecond6NoDot ∧ k = 6) ∨ (f = .nanosecond9NoDot ∧ k = 9))
    (v : Int) (h0 : 0 ≤ v) (hlt : v < ((10 ^ k : Nat) : Int)) (rest : List Nat) :
    InvertsAt (.fixed f) ⟨Format.fmtInt v k .zero false,
      fun p => p.set_nanosecond (v * ((10 ^ (9 - k) : Nat) : Int))⟩ rest := by
  intro p
  have hk : 1 ≤ k ∧ k ≤ 9 := by rcases hf with ⟨_, rfl⟩ | ⟨_, rfl⟩ | ⟨_, rfl⟩ <;> omega
  obtain ⟨_, hlen, _⟩ := RenderScan.fmtInt_pad_spec v k h0 hk.1 hlt
  have hnum := RenderScan.number_fmtInt v k rest k (some k) h0 hk.1 (by omega) hlt (Nat.le_refl _)
    (fun m hm => by cases hm; exact Nat.le_refl _) (Or.inl rfl)
  have hfix : nanosecond_fixed (Format.fmtInt v k .zero false ++ rest) k =
      .ok (rest, v * ((10 ^ (9 - k) : Nat) : Int)) := by
    unfold nanosecond_fixed
    rw [hnum]
    simp only
    rw [RenderScan.scale_getD k hk.1 hk.2, if_neg]
    have : v * ((10 ^ (9 - k) : Nat) : Int) < 1000000000 := by
      rcases hf with ⟨_, rfl⟩ | ⟨_, rfl⟩ | ⟨_, rfl⟩ <;> norm_num at hlt ⊢ <;> omega
    simp only [I64_MAX]; omega
  have hlen' : ¬ (Format.fmtInt v k .zero false ++ rest).length < k := by
    simp only [List.length_append, hlen]; omega
  rcases hf with ⟨rfl, rfl⟩ | ⟨rfl, rfl⟩ | ⟨rfl, rfl⟩ <;>
    simp only [step, Parse.parseItemBase, Parse.parseFixedBase, hlen', if_false, hfix, setNano_ok]

/-! ### the offset items `%z` and `%:z` -/

/-- between hours and minutes the `%z` reader skips nothing or one colon: a digit follows -/
theorem colon_or_space_digit (ct : List Nat) (hct : ct = [] ∨ ct = [58]) (d : Nat) (t : List Nat)
    (hd : isDigit d = true) : colon_or_space (ct ++ d :: t) = d :: t := by
  have h58 : d ≠ 58 := by intro h; subst h; revert hd; decide
  rcases hct with rfl | rfl
  all_goals
    unfold colon_or_space
    simp only [List.nil_append, List.cons_append, List.length_cons, colonOrSpaceAux]
    split
    · rename_i e; injection e with e; exact absurd e h58
    · simp [wsLen_digit d t hd]

/-- the offset reader in the mode of `%z`/`%:z` (colons and blanks skipped between hours and
minutes): sign, two-digit hours, nothing or a colon, two-digit minutes below 60 -/
theorem tzoffset_cos (sign : Nat) (hsign : sign = 43 ∨ sign = 45) (hh mm : Nat) (hh100 : hh < 100)
    (mm60 : mm < 60) (ct : List Nat) (hct : ct = [] ∨ ct = [58]) (rest : List Nat) (missing minus : Bool) :
    timezone_offset (sign :: (RenderScan.two hh ++ (ct ++ (RenderScan.two mm ++ rest)))) .colonOrSpace false missing minus =
      .ok (rest, if sign = 45 then -((hh : Int) * 3600 + (mm : Int) * 60) else (hh : Int) * 3600 + (mm : Int) * 60) :=
  RenderScan.tzoffset_two sign hsign hh mm hh100 mm60 ct rest .colonOrSpace false missing minus
    (congrArg Except.ok (colon_or_space_digit ct hct (48 + mm / 10) _ ((RenderScan.isDigit_iff _).mpr (by omega))))

theorem setOffset_ok (p : Parsed) (rest : List Nat) (v : Int) :
    Parse.setOffset p (.ok (rest, v)) = (p.set_offset v).map fun p' => (p', rest) := by
  simp only [Parse.setOffset]; cases p.set_offset v <;> rfl

/-- `%z` (`+hhmm`) and `%:z` (`+hh:mm`): the writer prints the offset rounded to the nearest minute
(half a minute rounds away from zero), the reader returns exactly that rounded offset — so a
whole-minute offset comes back unchanged and a sub-minute one comes back rounded; the text starts
with its sign, and nothing that follows can extend it -/
theorem offset_inverts (f : Fixed) (hf : f = .timezoneOffset ∨ f = .timezoneOffsetColon)
    (d : Option Date) (t : Option Time) (name : List Nat) (off : Int) (hoff : -86400 < off ∧ off < 86400)
    (rest : List Nat) :
    ∃ sg body, (sg = 43 ∨ sg = 45) ∧
      Format.format_fixed d t (some (name, off)) f = Format.wok (sg :: body) ∧
      InvertsAt (.fixed f) ⟨sg :: body, fun p => p.set_offset (Spec.roundedOffset off)⟩ rest := by
  generalize ha : (if off < 0 then -off else off) = a
  have ha0 : 0 ≤ a ∧ a < 86400 := by rw [← ha]; split <;> omega
  have hhh : ((a + 30) / 60 / 60).toNat < 100 := by omega
  have hmm : ((a + 30) / 60 % 60).toNat < 60 := by omega
  have hval : (if (if off < 0 then 45 else 43) = 45 then
        -((((a + 30) / 60 / 60).toNat : Int) * 3600 + (((a + 30) / 60 % 60).toNat : Int) * 60)
      else (((a + 30) / 60 / 60).toNat : Int) * 3600 + (((a + 30) / 60 % 60).toNat : Int) * 60) =
      Spec.roundedOffset off := by
    unfold Spec.roundedOffset
    have e1 : (((a + 30) / 60 / 60).toNat : Int) = (a + 30) / 60 / 60 := Int.toNat_of_nonneg (by omega)
    have e2 : (((a + 30) / 60 % 60).toNat : Int) = (a + 30) / 60 % 60 := Int.toNat_of_nonneg (by omega)
    rw [e1, e2]
    by_cases h : off < 0
    · simp only [h, if_true] at ha ⊢; subst ha; omega
    · simp only [h, if_false] at ha ⊢; subst ha
      have : ¬ ((43 : Nat) = 45) := by decide
      simp only [this, if_false]; omega
  have key : ∀ colons : Format.Colons, ∀ ct, ct = RenderScan.colonText colons → (ct = [] ∨ ct = [58]) →
      ∀ f, (∀ p s, step p s (.fixed f) =
          Parse.setOffset p (timezone_offset (trimStart s) .colonOrSpace false false true)) →
      Format.format_fixed d t (some (name, off)) f = Format.OffsetFormat.format ⟨.minutes, colons, false, .zero⟩ off →
      ∃ sg body, (sg = 43 ∨ sg = 45) ∧
        Format.format_fixed d t (some (name, off)) f = Format.wok (sg :: body) ∧
        InvertsAt (.fixed f) ⟨sg :: body, fun p => p.set_offset (Spec.roundedOffset off)⟩ rest := by
    intro colons ct hct hct2 f hread hwrite
    have hw := RenderScan.offset_minutes_eq colons false off hoff
    rw [if_neg (by simp), ha] at hw
    refine ⟨if off < 0 then 45 else 43, _, by split <;> simp, hwrite.trans hw, ?_⟩
    intro p
    have hsg : (if off < 0 then 45 else 43 : Nat) = 43 ∨ (if off < 0 then 45 else 43 : Nat) = 45 := by
      split <;> simp
    have htz := tzoffset_cos _ hsg _ _ hhh hmm ct hct2 rest false true
    have hre : (if off < 0 then 45 else 43) ::
        (RenderScan.two ((a + 30) / 60 / 60).toNat ++ RenderScan.colonText colons ++
          RenderScan.two ((a + 30) / 60 % 60).toNat) ++ rest =
        (if off < 0 then 45 else 43) :: (RenderScan.two ((a + 30) / 60 / 60).toNat ++
          (ct ++ (RenderScan.two ((a + 30) / 60 % 60).toNat ++ rest))) := by
      rw [hct]; simp
    have htrim : trimStart ((if off < 0 then 45 else 43) :: (RenderScan.two ((a + 30) / 60 / 60).toNat ++
          (ct ++ (RenderScan.two ((a + 30) / 60 % 60).toNat ++ rest)))) = _ :=
      trimStart_noop _ (by split <;> simp [wsLen])
    dsimp only
    rw [hread, hre, htrim, htz, setOffset_ok, hval]
  rcases hf with rfl | rfl
  · exact key .maybe [] (by simp [RenderScan.colonText]) (Or.inl rfl) _ (fun _ _ => rfl)
      (by cases d <;> cases t <;> rfl)
  · exact key .colon [58] (by simp [RenderScan.colonText]) (Or.inr rfl) _ (fun _ _ => rfl)
      (by cases d <;> cases t <;> rfl)

end Chrono.Proofs.RoundTrip
