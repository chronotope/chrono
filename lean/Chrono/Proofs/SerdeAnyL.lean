/-
  Helper lemmas for the full-domain string-form theorems of C20 (Props/C20.lean: `time_roundtrip_nonstrict`,
  `naive_roundtrip_nonstrict`, `datetime_roundtrip_any_offset`, `datetime_roundtrip_wall_out_of_range`, …):
  * a leap-second representation off second :59 has the text of the following second (`timeText_shown`);
  * the zone-aware writer for ANY offset of less than a day (`offset_any_text`, `serde_write_wall`);
  * the relaxed reader on date `T` time followed by a `±hh:mm` tail, for any year of up to six digits,
    reduced to `Parsed.to_datetime` on the stored record (`fixed_read_wall`), and that resolution for a wall
    clock inside (`to_datetime_wall`) and outside (`to_datetime_wall_out`) `NaiveDate`'s range.
-/
import Chrono.Proofs.SerdeStrL
import Chrono.Proofs.SerdeAnyFin
import Chrono.Props.C14
namespace Chrono.Proofs.SerdeAny
open Chrono Chrono.M Chrono.M.Scan Chrono.M.Format Chrono.M.TextForms Chrono.M.Serde
open Chrono.Spec Chrono.Spec.Text Chrono.Spec.Serde Chrono.Spec.Fields Chrono.Proofs.TextForms Chrono.Proofs.RenderScan
open Chrono.Proofs Chrono.Proofs.SerdeStr Chrono.Extracted Chrono.Proofs.ParsedRes

/-! ### leap-second representations off second :59 -/

theorem shownTime_strict (t : Time) (ht : TValid t) : TStrict (shownTime t) := by
  obtain ⟨t0, t1, t2, t3⟩ := ht
  unfold shownTime
  by_cases h : t.frac ≥ 1000000000 ∧ t.secs % 60 ≠ 59
  · rw [if_pos h]
    refine ⟨⟨?_, ?_, ?_, ?_⟩, Or.inl ?_⟩ <;> dsimp only <;> omega
  · rw [if_neg h]
    refine ⟨⟨t0, t1, t2, t3⟩, ?_⟩
    omega

theorem shownTime_of_strict (t : Time) (ht : TStrict t) : shownTime t = t := by
  unfold shownTime
  rw [if_neg]
  obtain ⟨_, h⟩ := ht
  omega

theorem shownTime_nonstrict (t : Time) (ht : TValid t) (hn : ¬ TStrict t) :
    shownTime t = ⟨t.secs + 1, t.frac - 1000000000⟩ := by
  unfold shownTime
  rw [if_pos]
  unfold TStrict at hn
  have : ¬ (t.frac < 1000000000 ∨ t.secs % 60 = 59) := fun h => hn ⟨ht, h⟩
  omega

/-- a second that does not end its minute and the one after it share hour and minute -/
theorem next_second (s : Int) (h : s % 60 ≠ 59) :
    (s + 1) / 3600 = s / 3600 ∧ (s + 1) / 60 % 60 = s / 60 % 60 ∧ (s + 1) % 60 = s % 60 + 1 := by
  omega

/-- the text of a time of day is the text of what it is shown as -/
theorem timeText_shown (t : Time) (ht : TValid t) : timeText t = timeText (shownTime t) := by
  unfold shownTime
  split
  · rename_i h
    obtain ⟨e1, e2, e3⟩ := next_second t.secs h.2
    have e4 : (t.frac - 1000000000) % 1000000000 = t.frac % 1000000000 := by omega
    have hf : ¬ t.frac - 1000000000 ≥ 1000000000 := by have := ht.2.2.2; omega
    unfold timeText shownSecond shownNano hourOf minuteOf secondOf
    dsimp only
    rw [e1, e2, e3, e4, if_pos h.1, if_neg hf, Int.toNat_add (Int.emod_nonneg _ (by omega)) (by omega)]
    rfl
  · rfl

/-! ### the zone-aware writer for any offset -/

/-- the offset as serde's zone-aware writer shows it, for EVERY offset of less than a day -/
theorem offset_any_text (off : Int) (h : OffValid off) :
    OffsetFormat.format ⟨.minutes, .colon, true, .zero⟩ off = wok (zoneTextAny off) := by
  rw [offset_colon_text true off h]
  unfold zoneTextAny
  simp only [true_and]

/-- `NaiveDate`'s text for every year of up to six digits (the one-year headroom of a wall clock included) -/
theorem date_debug_text_wide (y : Int) (o : Nat) (hy : -1000000 < y ∧ y < 1000000)
    (ho : 1 ≤ o ∧ o ≤ yearLen y) :
    date_debug (dateOfYo y o) = wok (dateText y (monthOfYo y o) (dayOfYo y o)) := by
  obtain ⟨m1, m2, m3, _⟩ := month_day_spec y o ho.1 ho.2
  obtain ⟨hyear, _⟩ := dateOfYo_fields y o (by have := yearLen_ge y; omega)
  obtain ⟨b1, b2⟩ := valid_bounds y _ _ m3
  unfold date_debug
  rw [hyear]
  unfold Date.month at m1
  unfold Date.day at m2
  cases hmdf : (dateOfYo y o).mdf with
  | panic => rw [hmdf] at m1; cases m1
  | ok mdf =>
    rw [hmdf] at m1 m2
    injection m1 with m1; injection m2 with m2
    simp only [W.ofRes]
    rw [m1, m2, write_year_text y hy, hundreds_u8 _ (by omega) (by omega),
      hundreds_u8 _ (by omega) (by omega)]
    simp only [seq_wok, dateText, Int.toNat_natCast, List.append_assoc]

theorem wide_month_day (y : Int) (o : Nat) (ho : 1 ≤ o ∧ o ≤ yearLen y) :
    1 ≤ monthOfYo y o ∧ monthOfYo y o ≤ 12 ∧ 1 ≤ dayOfYo y o ∧ dayOfYo y o ≤ 31 := by
  obtain ⟨_, _, m3, _⟩ := month_day_spec y o ho.1 ho.2
  obtain ⟨b1, b2⟩ := valid_bounds y _ _ m3
  unfold validYmd at m3
  simp only [Bool.and_eq_true, decide_eq_true_eq] at m3
  omega

/-- the text `write_rfc3339(wall clock, offset, AutoSi, use_z = true)` produces for ANY wall clock of the
extended calendar, any well-formed time of day and any offset of less than a day -/
theorem serde_write_wall (l : NaiveDT) (Y : Int) (O : Nat) (hy : -1000000 < Y ∧ Y < 1000000)
    (ho : 1 ≤ O ∧ O ≤ yearLen Y) (he : l.date = dateOfYo Y O) (ht : TValid l.time) (off : Int)
    (hoff : OffValid off) :
    write_rfc3339 l off .autoSi true =
      wok (dateText Y (monthOfYo Y O) (dayOfYo Y O) ++ (84 :: (timeText l.time ++ zoneTextAny off))) := by
  rw [write_rfc3339_autoSi_debug, offset_any_text off hoff]
  unfold naive_debug
  rw [he, date_debug_text_wide Y O hy ho, time_debug_text l.time ht]
  simp only [seq_wok, List.append_assoc, List.cons_append, List.nil_append]

/-! ### the reader -/

theorem roundMin_bounds (off : Int) (h : OffValid off) :
    -86400 ≤ roundMin off ∧ roundMin off ≤ 86400 ∧ roundMin off % 60 = 0 ∧
    -30 ≤ off - roundMin off ∧ off - roundMin off ≤ 30 := by
  unfold OffValid at h
  unfold roundMin
  split <;> omega

theorem roundMin_whole (off : Int) (h : off % 60 = 0) : roundMin off = off := by
  unfold roundMin
  split <;> omega

/-- what the tail of the relaxed reader makes of the offset part serde writes for any offset of less than a
day: the rounded offset -/
theorem tail_any (off : Int) (h : OffValid off) :
    TailOk (zoneTextAny off) ∧ trimStart (trimStart (zoneTextAny off)) = zoneTextAny off ∧
    (if (zoneTextAny off).length ≥ 3 ∧ lowerS (List.take 3 (zoneTextAny off)) = [117, 116, 99] then
        Except.ok (List.drop 3 (zoneTextAny off), (0 : Int))
      else timezone_offset (zoneTextAny off) .colonOrSpace true false true) = .ok ([], roundMin off) := by
  by_cases h0 : off = 0
  · subst h0
    exact ⟨tailOk_cons 90 _ (by decide) (by decide), by decide, by decide⟩
  · have hz : zoneTextAny off = signedHhmm (decide (off < 0)) ((roundMin off).natAbs / 60) := by
      unfold zoneTextAny; rw [if_neg h0]
    obtain ⟨b1, b2, b3, _, _⟩ := roundMin_bounds off h
    have hs : (if decide (off < 0) = true then -((((roundMin off).natAbs / 60 : Nat) : Int) * 60)
        else (((roundMin off).natAbs / 60 : Nat) : Int) * 60) = roundMin off := by
      unfold roundMin
      by_cases hn : off < 0
      · simp only [hn, decide_true, if_true]; omega
      · simp only [hn, decide_false, Bool.false_eq_true, if_false]; omega
    have hf := tail_facts (decide (off < 0)) ((roundMin off).natAbs / 60) (by omega)
    rw [hs] at hf
    rw [hz]
    exact hf

/-- the relaxed `FromStr for DateTime<FixedOffset>` on date `T` time followed by the offset part serde
writes, for ANY year of up to six digits and ANY offset of less than a day: the fields are stored and handed
to `Parsed::to_datetime` with the ROUNDED offset -/
theorem fixed_read_wall (Y : Int) (O : Nat) (hy : -1000000 < Y ∧ Y < 1000000) (ho : 1 ≤ O ∧ O ≤ yearLen Y)
    (t : Time) (hst : TStrict t) (off : Int) (hoff : OffValid off) :
    fixed_from_str (dateText Y (monthOfYo Y O) (dayOfYo Y O) ++ (84 :: (timeText t ++ zoneTextAny off))) =
      Parsed.to_datetime (dtRecord Y (monthOfYo Y O) (dayOfYo Y O) t (some (roundMin off))) := by
  obtain ⟨a3, a4, a5, a6⟩ := wide_month_day Y O ho
  obtain ⟨htail, htrim, hT⟩ := tail_any off hoff
  obtain ⟨b1, b2, _⟩ := roundMin_bounds off hoff
  unfold fixed_from_str
  rw [relaxed_on_text Y hy _ _ ⟨a3, a4⟩ ⟨a5, a6⟩ t hst 84 (Or.inl rfl) _ _ (roundMin off) (by omega)
    htail htrim hT]
  simp only [trimStart_nil, ne_eq, not_true_eq_false, if_false]

/-- `Parsed::to_datetime` on the record of an existing date of the supported range, a time of day and an
offset field: refused when the offset is a day or more, otherwise `from_local_datetime` of that wall clock -/
theorem to_datetime_wall (Y : Int) (O : Nat) (hvd : VD Y O) (t : Time) (hst : TStrict t) (R : Int)
    (hR : -1000000 < R ∧ R < 1000000) :
    (Zoned.east_opt R = none →
      Parsed.to_datetime (dtRecord Y (monthOfYo Y O) (dayOfYo Y O) t (some R)) = .ok (.error .outOfRange)) ∧
    (∀ off, Zoned.east_opt R = some off → Zoned.from_local_datetime off ⟨dateOfYo Y O, t⟩ = .ok none →
      Parsed.to_datetime (dtRecord Y (monthOfYo Y O) (dayOfYo Y O) t (some R)) = .ok (.error .impossible)) ∧
    (∀ off z, Zoned.east_opt R = some off → Zoned.from_local_datetime off ⟨dateOfYo Y O, t⟩ = .ok (some z) →
      Parsed.to_datetime (dtRecord Y (monthOfYo Y O) (dayOfYo Y O) t (some R)) = .ok (.ok z)) := by
  obtain ⟨a1, a2, a3, a4, a5, a6⟩ := vd_month_day Y O hvd
  have hp := inType_dtRecord Y (monthOfYo Y O) (dayOfYo Y O) t hst (some R) ⟨a1, a2⟩ a4 a6
    (by intro x hx; injection hx with hx; omega)
  have hres := naive_resolves _ hp R (by omega) Y O hvd t hst
    ⟨rfl, rfl, rfl, rfl, rfl, rfl, rfl, rfl, rfl, rfl, rfl, rfl, rfl, rfl⟩ ⟨rfl, rfl, rfl, rfl, rfl⟩ rfl
  have f1 : (dtRecord Y (monthOfYo Y O) (dayOfYo Y O) t (some R)).offset = some R := rfl
  unfold Parsed.to_datetime
  simp only [f1, hres, Parsed.RP.bind]
  exact ⟨fun h1 => by simp only [h1], fun off h1 h2 => by simp only [h1, h2],
    fun off z h1 h2 => by simp only [h1, h2]⟩

/-- … and on the record of a date whose year lies outside the supported range (the headroom years a wall
clock can reach): an error, never a value, never a panic -/
theorem to_datetime_wall_out (Y : Int) (O : Nat) (hy : -1000000 < Y ∧ Y < 1000000)
    (hout : Y < MIN_YEAR ∨ MAX_YEAR < Y) (ho : 1 ≤ O ∧ O ≤ yearLen Y) (t : Time) (hst : TStrict t) (R : Int)
    (hR : -1000000 < R ∧ R < 1000000) :
    ∃ e, Parsed.to_datetime (dtRecord Y (monthOfYo Y O) (dayOfYo Y O) t (some R)) = .ok (.error e) := by
  obtain ⟨a3, a4, a5, a6⟩ := wide_month_day Y O ho
  have hp := inType_dtRecord Y (monthOfYo Y O) (dayOfYo Y O) t hst (some R) hy a4 a6
    (by intro x hx; injection hx with hx; omega)
  obtain ⟨r, hr, _, hok⟩ := Chrono.Props.C14.datetime_sound _ hp R (by omega)
  have f1 : (dtRecord Y (monthOfYo Y O) (dayOfYo Y O) t (some R)).offset = some R := rfl
  cases r with
  | ok dt =>
    exfalso
    obtain ⟨Y', o', hvd, _, hag, _⟩ := hok dt rfl
    have : Y = Y' := hag.1 Y rfl
    obtain ⟨v1, v2, _⟩ := hvd
    omega
  | error e =>
    refine ⟨e, ?_⟩
    unfold Parsed.to_datetime
    simp only [f1, hr, Parsed.RP.bind]

end Chrono.Proofs.SerdeAny
