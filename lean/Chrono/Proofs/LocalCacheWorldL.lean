/-
  Helper lemmas for C18, second review G2: the mtime branch of the cache.  Two invariants:
  `Before` (any history: no cache holds the mtime that is going to be set, no cache is younger than the
  clock) and `After` (once /etc/localtime has its new mtime and TZ stays unset: every cache either
  already holds the new zone or is old and still holds a different source).  Core Lean only.
-/
import Chrono.Proofs.LocalCacheHistL
import Chrono.Spec.LocalCacheWorldSpec
namespace Chrono.Proofs.LocalCacheWorld
open Chrono.M.LocalCache Chrono.Spec.LocalCache Chrono.Proofs.LocalCache Chrono.Extracted.LocalCache

/-! ### plumbing: world, environment along `execW` -/

theorem relinked_eq (W : World) (m f n) : W.replaceLocaltime m f n = relinked W m f n := rfl

theorem stepW_world (sw : StateW) (x : StepW) : (stepW sw x).1.W = worldAfter sw.W [x] := by
  cases x <;> rfl

theorem worldAfter_cons (W : World) (x : StepW) (xs : List StepW) :
    worldAfter W (x :: xs) = worldAfter (worldAfter W [x]) xs := by
  cases x <;> rfl

theorem worldAfter_append (W : World) (a b : List StepW) :
    worldAfter W (a ++ b) = worldAfter (worldAfter W a) b := by
  induction a generalizing W with
  | nil => rfl
  | cons x xs ih => rw [List.cons_append, worldAfter_cons, worldAfter_cons W x xs, ih]

theorem execW_world (h : List StepW) : ∀ sw : StateW, (execW sw h).W = worldAfter sw.W h := by
  induction h with
  | nil => intro sw; rfl
  | cons x xs ih =>
    intro sw
    show (execW (stepW sw x).1 xs).W = _
    rw [ih, stepW_world, ← worldAfter_cons]

theorem execW_append (a b : List StepW) : ∀ sw : StateW, execW sw (a ++ b) = execW (execW sw a) b := by
  induction a with
  | nil => intro sw; rfl
  | cons x xs ih => intro sw; exact ih _

theorem execW_base (b : List Step) : ∀ sw : StateW,
    execW sw (b.map StepW.base) = { s := exec sw.W sw.s b, W := sw.W } := by
  induction b with
  | nil => intro sw; rfl
  | cons x xs ih =>
    intro sw
    show execW (stepW sw (.base x)).1 (xs.map StepW.base) = _
    rw [ih]; rfl

theorem execW_env (h : List StepW) : ∀ sw : StateW, (execW sw h).s.env = envAfter sw.s.env (baseSteps h) := by
  induction h with
  | nil => intro sw; rfl
  | cons x xs ih =>
    intro sw
    show (execW (stepW sw x).1 xs).s.env = _
    rw [ih]
    cases x with
    | base y =>
      show envAfter (step sw.W sw.s y).1.env (baseSteps xs) = envAfter sw.s.env (y :: baseSteps xs)
      rw [envAfter_cons sw.s.env y, (step_clock_env sw.W sw.s y).1]
    | setMtime m => rfl
    | replaceLocaltime m f n => rfl

/-! ### one cache lookup -/

/-- the source `Cache::offset` / `Cache::default` record while TZ is unset and the mtime is `m` -/
theorem source_unset (W : World) (now m : Nat) (env : EnvVal) (he : env_var env = none)
    (hm : W.ltMtime = some m) : Source.new W now (env_var env) = .localTime m := by
  rw [he]; unfold Source.new; simp only [hm]

/-- a recorded source is never the mtime `m1` as long as the world's mtime is some other `m0` -/
theorem source_new_ne (W : World) (now m0 m1 : Nat) (e : Option Bytes) (hm : W.ltMtime = some m0)
    (hne : m0 ≠ m1) : Source.new W now e ≠ .localTime m1 := by
  unfold Source.new
  cases e with
  | some tz => simp
  | none => simp only [hm]; intro h; injection h with h; exact hne h

theorem default_fields (W : World) (now : Nat) (env : EnvVal) :
    (Cache.default W now env).last_checked = now ∧
    (Cache.default W now env).source = Source.new W now (env_var env) ∧
    (Cache.default W now env).zone = current_zone W (env_var env) := ⟨rfl, rfl, rfl⟩

/-- a source other than `localTime m1` is out of date against `localTime m1` -/
theorem out_of_date_of_ne (src : Source) (m1 : Nat) (h : src ≠ .localTime m1) :
    out_of_date src (.localTime m1) = true := by
  cases src with
  | environment tz => rfl
  | localTime m =>
    show (m != m1) = true
    have : m ≠ m1 := fun e => h (by rw [e])
    simpa using this

/-! ### before the change: no cache holds the mtime to come -/

/-- every cache was checked no later than now and does not hold `localTime m1` -/
def Before (m1 : Nat) (s : State) : Prop :=
  ∀ t c, s.caches t = some c → c.last_checked ≤ s.clock ∧ c.source ≠ .localTime m1

theorem offset_before (W : World) (m0 m1 : Nat) (hm : W.ltMtime = some m0) (hne : m0 ≠ m1)
    (c : Cache) (now : Nat) (env : EnvVal)
    (hc : c.last_checked ≤ now ∧ c.source ≠ .localTime m1) :
    (Cache.offset W c now env).1.last_checked ≤ now ∧ (Cache.offset W c now env).1.source ≠ .localTime m1 := by
  rcases offset_cases W c now env with ⟨e, _⟩ | ⟨_, hl, hs, _⟩
  · rw [e]; exact hc
  · rw [hl, hs]; exact ⟨Nat.le_refl _, source_new_ne W now m0 m1 _ hm hne⟩

theorem step_before (W : World) (m0 m1 : Nat) (hm : W.ltMtime = some m0) (hne : m0 ≠ m1)
    (s : State) (x : Step) (hB : Before m1 s) : Before m1 (step W s x).1 := by
  intro t c h
  rw [(step_clock_env W s x).2]
  rcases step_caches W s x t c h with h1 | ⟨l, c0, rfl, h0, rfl⟩
  · exact ⟨Nat.le_trans (hB t c h1).1 (Nat.le_add_right _ _), (hB t c h1).2⟩
  · apply offset_before W m0 m1 hm hne
    rcases h0 with h0 | rfl
    · exact hB t c0 h0
    · exact ⟨Nat.le_refl _, source_new_ne W s.clock m0 m1 _ hm hne⟩

/-- the mtimes of a history before the change: all available and different from `m1` -/
def Fresh (m1 : Nat) (ms : List (Option Nat)) : Prop := ∀ m ∈ ms, ∃ m0, m = some m0 ∧ m0 ≠ m1

theorem mtimesOf_step (sw : StateW) (x : StepW) (xs : List StepW) (m : Option Nat)
    (h : m ∈ mtimesOf (stepW sw x).1.W xs) : m ∈ mtimesOf sw.W (x :: xs) := by
  unfold mtimesOf at *
  cases x with
  | base y =>
    rw [List.filterMap_cons_none (by rfl)]
    exact h
  | setMtime m' =>
    rw [List.filterMap_cons_some (b := m') (by rfl)]
    exact List.mem_cons_of_mem _ h
  | replaceLocaltime m' f n =>
    rw [List.filterMap_cons_some (b := m') (by rfl)]
    exact List.mem_cons_of_mem _ h

theorem execW_before (m1 : Nat) (h : List StepW) : ∀ sw : StateW,
    Fresh m1 (mtimesOf sw.W h) → Before m1 sw.s → Before m1 (execW sw h).s := by
  induction h with
  | nil => intro sw _ hB; exact hB
  | cons x xs ih =>
    intro sw hF hB
    obtain ⟨m0, hm0, hne⟩ := hF sw.W.ltMtime (List.mem_cons_self ..)
    show Before m1 (execW (stepW sw x).1 xs).s
    apply ih
    · exact fun m hmem => hF m (mtimesOf_step sw x xs m hmem)
    · cases x with
      | base y => exact step_before sw.W m0 m1 hm0 hne sw.s y hB
      | setMtime m' => exact hB
      | replaceLocaltime m' f n => exact hB

/-! ### after the change: TZ unset, mtime `m1`, world `W` fixed -/

/-- a cache either holds the zone of the new /etc/localtime, or was last checked before the change
(at clock `k`) and holds another source -/
def After (W : World) (m1 k : Nat) (s : State) : Prop :=
  ∀ t c, s.caches t = some c →
    c.zone = current_zone W none ∨ (c.last_checked ≤ k ∧ c.source ≠ .localTime m1)

/-- one lookup: the result holds the new zone, unless it is an old cache returned as it is, which
happens only inside the window -/
theorem offset_after (W : World) (m1 k : Nat) (hm : W.ltMtime = some m1) (c : Cache) (now : Nat)
    (env : EnvVal) (he : env_var env = none)
    (hc : c.zone = current_zone W none ∨ (c.last_checked ≤ k ∧ c.source ≠ .localTime m1)) :
    (Cache.offset W c now env).1.zone = current_zone W none ∨
    ((Cache.offset W c now env).1 = c ∧ within_window c.last_checked now = true ∧
      c.last_checked ≤ k ∧ c.source ≠ .localTime m1) := by
  rcases offset_cases W c now env with ⟨e, hw⟩ | ⟨_, _, _, hz⟩
  · rw [e]; exact hc.imp id (fun h => ⟨rfl, hw, h⟩)
  · left
    rcases hz with ⟨_, hz⟩ | ⟨ho, hz⟩
    · rw [hz, he]
    · rcases hc with hg | ⟨_, hs⟩
      · rw [hz, hg]
      · -- an old source is out of date against the new mtime
        rw [source_unset W now m1 env he hm, out_of_date_of_ne _ m1 hs] at ho; cases ho

/-- the cache a conversion starts from satisfies what `After` says of the thread's caches -/
theorem start_after {W : World} {m1 k : Nat} {s : State} (he : env_var s.env = none)
    (hA : After W m1 k s) {t : Nat} {c0 : Cache}
    (h0 : s.caches t = some c0 ∨ c0 = Cache.default W s.clock s.env) :
    c0.zone = current_zone W none ∨ (c0.last_checked ≤ k ∧ c0.source ≠ .localTime m1) := by
  rcases h0 with h0 | rfl
  · exact hA t c0 h0
  · left; show current_zone W (env_var s.env) = _; rw [he]

theorem step_after (W : World) (m1 k : Nat) (hm : W.ltMtime = some m1) (s : State) (x : Step)
    (hx : isChange x = false) (he : env_var s.env = none) (hA : After W m1 k s) :
    After W m1 k (step W s x).1 ∧ env_var (step W s x).1.env = none := by
  refine ⟨fun t c h => ?_, by rw [(step_clock_env W s x).1, envAfter_quiet_step _ x hx]; exact he⟩
  rcases step_caches W s x t c h with h1 | ⟨l, c0, rfl, h0, rfl⟩
  · exact hA t c h1
  · rcases offset_after W m1 k hm c0 s.clock s.env he (start_after he hA h0) with h | ⟨e, _, h⟩
    · exact Or.inl h
    · rw [e]; exact Or.inr h

theorem exec_after (W : World) (m1 k : Nat) (hm : W.ltMtime = some m1) (b : List Step)
    (hq : ∀ x ∈ b, isChange x = false) : ∀ s : State, env_var s.env = none → After W m1 k s →
      After W m1 k (exec W s b) ∧ env_var (exec W s b).env = none := by
  induction b with
  | nil => intro s he hA; exact ⟨hA, he⟩
  | cons x xs ih =>
    intro s he hA
    obtain ⟨h1, h2⟩ := step_after W m1 k hm s x (hq x (List.mem_cons_self ..)) he hA
    exact ih (fun y hy => hq y (List.mem_cons_of_mem _ hy)) _ h2 h1

/-- the conversion made when at least one second has passed since clock `k` -/
theorem convert_after (W : World) (m1 k : Nat) (hm : W.ltMtime = some m1) (s : State) (t : Nat)
    (he : env_var s.env = none) (hA : After W m1 k s) (hk : k + ONE_SECOND ≤ s.clock) :
    (inner_offset W s t).2.1 = current_zone W none := by
  obtain ⟨c0, h0, _, hz⟩ := inner_offset_eq W s t
  rw [hz]
  rcases offset_after W m1 k hm c0 s.clock s.env he (start_after he hA h0) with h | ⟨_, hw, hl, _⟩
  · exact h
  · -- an old cache is over a second old
    rw [within_window_iff] at hw
    omega

/-- the mtime branch in a fixed world: /etc/localtime has got the mtime `m1`, which no cache holds; TZ
is unset and is not changed in `b`; when a second has passed in `b`, the conversion made next on any
thread uses the zone of the present /etc/localtime -/
theorem honoured_after_mtime (W : World) (m1 : Nat) (hm : W.ltMtime = some m1) (s : State)
    (he : env_var s.env = none) (hB : Before m1 s) (b : List Step)
    (hquiet : ∀ x ∈ b, isChange x = false) (hwait : ONE_SECOND ≤ elapsed b) (t : Nat) :
    (inner_offset W (exec W s b) t).2.1 = current_zone W none := by
  obtain ⟨hA, he'⟩ := exec_after W m1 s.clock hm b hquiet s he (fun t c h => Or.inr (hB t c h))
  refine convert_after W m1 s.clock hm (exec W s b) t he' hA ?_
  rw [(exec_clock_env W b s).2]
  omega

/-- the zone a step of a history with a changing world used -/
def zoneOfStepW (r : StateW × Option (Zone × Decision)) : Option Zone := r.2.map Prod.fst

theorem chg_is_world_step (sw : StateW) (chg : StepW) (m1 : Nat) (hchg : mtimeSetBy chg = some (some m1)) :
    (stepW sw chg).1.s = sw.s ∧ (stepW sw chg).1.W.ltMtime = some m1 := by
  cases chg with
  | base y => simp [mtimeSetBy] at hchg
  | setMtime m => simp [mtimeSetBy] at hchg; subst hchg; exact ⟨rfl, rfl⟩
  | replaceLocaltime m f n => simp [mtimeSetBy] at hchg; subst hchg; exact ⟨rfl, rfl⟩

end Chrono.Proofs.LocalCacheWorld
