/- Helper lemmas for C17 at the date-time level: the stamp and the span as they come out of a
date-time's fields and a `TimeDelta` (uses C06's accessor theorem for `num_nanoseconds`). -/
import Chrono.Proofs.RoundL
import Chrono.Proofs.DeltaL

namespace Chrono.Proofs.RoundL
open Chrono Chrono.M Chrono.M.Round Chrono.Spec Chrono.Spec.Round Chrono.Extracted.Round

def kindOf : Op → Kind
  | .trunc => .trunc
  | .round => .round
  | .up => .up

theorem run_eval' (op : Op) (s span : Int) (hp : 0 < span) (hp2 : span ≤ 9223372036854775807) :
    run op (some s) (some span) = .ok (.ok (specOf (kindOf op) s span - s)) := by
  cases op
  · exact trunc_eval s span hp hp2
  · exact round_eval s span hp hp2
  · exact up_eval s span hp hp2

theorem num_nanoseconds_eq (a : Delta) (ha : DInv a) : a.num_nanoseconds = optI64 (ns a) :=
  (accessors_spec' a ha).2.2.2.2.1

/-- the integer path for every nanosecond field, leap-second fields included -/
theorem on_datetime_eq2 (op : Op) (utc sub off : Int) (dur : Delta) (hd : DInv dur) :
    on_datetime op utc sub off dur =
      if ns dur ≤ 0 ∨ 9223372036854775807 < ns dur then .ok (.err .DurationExceedsLimit)
      else if ¬ InI64 ((utc + off) * 1000000000 + sub) then .ok (.err .TimestampExceedsLimit)
      else .ok (.ok (specOf (kindOf op) ((utc + off) * 1000000000 + sub) (ns dur)
                      - ((utc + off) * 1000000000 + sub))) := by
  unfold on_datetime wall_stamp timestamp_nanos_opt
  rw [num_nanoseconds_eq dur hd, show STAMP_SCALE = 1000000000 from rfl]
  generalize (utc + off) * 1000000000 + sub = w
  generalize ns dur = p
  by_cases hp : p ≤ 0
  · rw [if_pos (Or.inl hp)]
    by_cases hin : -9223372036854775808 ≤ p
    · rw [optI64_some (x := p) hin (by omega)]; exact run_span_nonpos op _ p hp
    · rw [optI64_none (x := p) (by omega)]; exact run_span_none op _
  · by_cases hbig : 9223372036854775807 < p
    · rw [if_pos (Or.inr hbig), optI64_none (x := p) (Or.inr hbig)]; exact run_span_none op _
    · rw [if_neg (show ¬ (p ≤ 0 ∨ 9223372036854775807 < p) by omega), optI64_some (x := p) (by omega) (by omega)]
      by_cases hw : InI64 w
      · rw [if_neg (not_not.mpr hw), optI64_some (x := w) hw.1 hw.2]
        exact run_eval' op w p (by omega) (by omega)
      · rw [if_pos hw, optI64_none (x := w) (by unfold InI64 at hw; omega)]
        exact run_stamp_none op p (by omega)

theorem on_datetime_eq (op : Op) (utc sub off : Int) (dur : Delta) (hd : DInv dur)
    (h0 : 0 ≤ sub) (h1 : sub < 1000000000) :
    on_datetime op utc sub off dur =
      if ns dur ≤ 0 ∨ 9223372036854775807 < ns dur then .ok (.err .DurationExceedsLimit)
      else if ¬ InI64 ((utc + off) * 1000000000 + sub) then .ok (.err .TimestampExceedsLimit)
      else .ok (.ok (specOf (kindOf op) ((utc + off) * 1000000000 + sub) (ns dur)
                      - ((utc + off) * 1000000000 + sub))) :=
  on_datetime_eq2 op utc sub off dur hd

end Chrono.Proofs.RoundL
