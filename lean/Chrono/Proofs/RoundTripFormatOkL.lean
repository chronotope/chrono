/-
  C13, eighth lemma file: FORMATTING SUCCEEDS.  For a context that has everything an item needs
  (`Spec.itemNeeds`) every proved item is written without error or panic, hence every item list of proved
  items that the target type can print (`Spec.showsFor`) is; so "formatting succeeded" is a conclusion of
  the family theorems, not a hypothesis.  Namespace `Chrono.Proofs.RoundTrip`.
-/
import Chrono.Proofs.RoundTripRfc3339L
import Chrono.Proofs.StrftimeProvedL

namespace Chrono.Proofs.RoundTrip
open Chrono Chrono.M Chrono.M.Scan Chrono.Spec Chrono.Spec.Fields Chrono.Extracted Chrono.Proofs
open Chrono.Proofs.ParsedRes

/-- the numeric items that read the date, on an existing day -/
theorem date_numeric_ok (Y : Int) (o : Nat) (hvd : VD Y o) (ot : Option Time) (off : Option Int)
    (n : Numeric) (pad : Pad) (hn : itemNeeds (.numeric n pad) = (true, false, false)) :
    ∃ text, Format.format_numeric (some (dateOfYo Y o)) ot off n pad = Format.wok text := by
  obtain ⟨fy, _, _, _, y1, y2, fm, fd, _, _, _, _, _, _, _, _, _, _, w, hw, _, _, w3, w4⟩ := date_facts Y o hvd
  cases n with
  | year =>
    obtain ⟨text, h, _⟩ := write_year_text Y pad (by omega)
    refine ⟨text, ?_⟩
    simp only [Format.format_numeric, fy, h]
  | isoYear =>
    obtain ⟨text, h, _⟩ := write_year_text (IsoWeek.year w) pad (by omega)
    refine ⟨text, ?_⟩
    simp only [Format.format_numeric, hw, Format.W.ofRes, h]
  | yearDiv100 | yearMod100 | weekFromSun | weekFromMon | numDaysFromSun | weekdayFromMon | ordinal =>
    exact ⟨_, rfl⟩
  | isoYearDiv100 | isoYearMod100 | isoWeek =>
    simp only [Format.format_numeric, hw, Format.W.ofRes]
    exact ⟨_, rfl⟩
  | quarter | month =>
    simp only [Format.format_numeric, fm, Format.W.ofRes]
    exact ⟨_, rfl⟩
  | day =>
    simp only [Format.format_numeric, fd, Format.W.ofRes]
    exact ⟨_, rfl⟩
  | hour | hour12 | minute | second | nanosecond | timestamp => cases hn

/-- the numeric items that read the time of day -/
theorem time_numeric_ok (od : Option Date) (t : Time) (off : Option Int)
    (n : Numeric) (pad : Pad) (hn : itemNeeds (.numeric n pad) = (false, true, false)) :
    ∃ text, Format.format_numeric od (some t) off n pad = Format.wok text := by
  cases n with
  | hour | hour12 | minute | second | nanosecond => cases od <;> exact ⟨_, rfl⟩
  | _ => cases hn

/-- `%s` on an existing day, a valid time of day and an offset of less than a day -/
theorem timestamp_numeric_ok (Y : Int) (o : Nat) (hvd : VD Y o) (t : Time) (ht : TValid t) (off : Option Int)
    (hoff : ∀ x, off = some x → -86400 < x ∧ x < 86400) (pad : Pad) :
    ∃ text, Format.format_numeric (some (dateOfYo Y o)) (some t) off .timestamp pad = Format.wok text := by
  obtain ⟨s1, s2, s3⟩ := ParsedRes.timestamp_spec Y o t hvd ht
  have hb : -86400 < off.getD 0 ∧ off.getD 0 < 86400 := by
    cases off with
    | none => simp
    | some x => simpa using hoff x rfl
  simp only [Format.format_numeric, s1, Format.W.ofRes]
  rw [Chrono.Proofs.ckI64_ok (by omega) (by omega)]
  exact ⟨_, rfl⟩

/-- **every proved item is written**, for a context that has what the item needs -/
theorem format_item_ok (c : Ctx) (hc : CtxOk c) (it : Item) (hp : provedItem it = true)
    (hd : (itemNeeds it).1 = true → c.date ≠ none) (ht : (itemNeeds it).2.1 = true → c.time ≠ none)
    (ho : (itemNeeds it).2.2 = true → c.off ≠ none) :
    ∃ text, Format.format_item c.date c.time c.off it = Format.wok text := by
  obtain ⟨cd, ct, co⟩ := c
  obtain ⟨hcd, hct, hco⟩ := hc
  dsimp only at hcd hct hco hd ht ho ⊢
  cases it with
  | literal s => exact ⟨s, rfl⟩
  | space s => exact ⟨s, rfl⟩
  | error => cases hp
  | numeric n pad =>
    simp only [Format.format_item]
    have hoff : ∀ x, co.map (·.2) = some x → -86400 < x ∧ x < 86400 := by
      intro x hx
      cases co with
      | none => cases hx
      | some y => simp only [Option.map_some, Option.some.injEq] at hx; rw [← hx]; exact hco y rfl
    cases n with
    | timestamp =>
      obtain ⟨d, rfl⟩ := Option.ne_none_iff_exists'.mp (hd rfl)
      obtain ⟨t, rfl⟩ := Option.ne_none_iff_exists'.mp (ht rfl)
      obtain ⟨Y, o, hvd, rfl⟩ := hcd d rfl
      exact timestamp_numeric_ok Y o hvd t (hct t rfl) _ hoff pad
    | hour | hour12 | minute | second | nanosecond =>
      obtain ⟨t, rfl⟩ := Option.ne_none_iff_exists'.mp (ht rfl)
      exact time_numeric_ok cd t _ _ pad rfl
    | _ =>
      obtain ⟨d, rfl⟩ := Option.ne_none_iff_exists'.mp (hd rfl)
      obtain ⟨Y, o, hvd, rfl⟩ := hcd d rfl
      exact date_numeric_ok Y o hvd ct _ _ pad rfl
  | fixed f =>
    simp only [Format.format_item]
    have names : ∀ g : Fixed, (g = .shortMonthName ∨ g = .longMonthName ∨ g = .shortWeekdayName ∨
        g = .longWeekdayName) → cd ≠ none → ∃ text, Format.format_fixed cd ct co g = Format.wok text := by
      intro g hg hne
      obtain ⟨d, rfl⟩ := Option.ne_none_iff_exists'.mp hne
      obtain ⟨Y, o, hvd, rfl⟩ := hcd d rfl
      obtain ⟨_, _, _, _, _, _, fm, _⟩ := date_facts Y o hvd
      rcases hg with rfl | rfl | rfl | rfl
      · simp only [Format.format_fixed, fm, Format.W.ofRes]; exact ⟨_, rfl⟩
      · simp only [Format.format_fixed, fm, Format.W.ofRes]; exact ⟨_, rfl⟩
      · exact ⟨_, rfl⟩
      · exact ⟨_, rfl⟩
    have offs : ∀ g : Fixed, (g = .timezoneOffset ∨ g = .timezoneOffsetColon) → co ≠ none →
        ∃ text, Format.format_fixed cd ct co g = Format.wok text := by
      intro g hg hne
      obtain ⟨x, rfl⟩ := Option.ne_none_iff_exists'.mp hne
      obtain ⟨name, off⟩ := x
      obtain ⟨sg, body, _, h, _⟩ := offset_inverts g hg cd ct name off (hco (name, off) rfl) []
      exact ⟨_, h⟩
    cases f with
    | shortMonthName => exact names _ (Or.inl rfl) (hd rfl)
    | longMonthName => exact names _ (Or.inr (Or.inl rfl)) (hd rfl)
    | shortWeekdayName => exact names _ (Or.inr (Or.inr (Or.inl rfl))) (hd rfl)
    | longWeekdayName => exact names _ (Or.inr (Or.inr (Or.inr rfl))) (hd rfl)
    | timezoneOffset => exact offs _ (Or.inl rfl) (ho rfl)
    | timezoneOffsetColon => exact offs _ (Or.inr rfl) (ho rfl)
    | lowerAmPm | upperAmPm | nanosecond3 | nanosecond6 | nanosecond9 | nanosecond3NoDot | nanosecond6NoDot
    | nanosecond9NoDot =>
      obtain ⟨t, rfl⟩ := Option.ne_none_iff_exists'.mp (ht rfl)
      cases cd <;> exact ⟨_, rfl⟩
    | nanosecond =>
      obtain ⟨t, rfl⟩ := Option.ne_none_iff_exists'.mp (ht rfl)
      cases cd <;> simp only [Format.format_fixed] <;> split <;> (try split) <;> (try split) <;>
        exact ⟨_, rfl⟩
    | timezoneName | timezoneOffsetDoubleColon | timezoneOffsetTripleColon | timezoneOffsetColonZ
    | timezoneOffsetZ | rfc2822 | rfc3339 | timezoneOffsetPermissive => cases hp

/-- **every item list of proved items is written**, for a context that has what its items need -/
theorem format_items_ok (c : Ctx) (hc : CtxOk c) : ∀ (is : List Item),
    (∀ it ∈ is, provedItem it = true) →
    (∀ it ∈ is, ((itemNeeds it).1 = true → c.date ≠ none) ∧ ((itemNeeds it).2.1 = true → c.time ≠ none) ∧
      ((itemNeeds it).2.2 = true → c.off ≠ none)) →
    ∃ text, Format.formatItemsR c.date c.time c.off is = Format.wok text := by
  intro is
  induction is with
  | nil => intro _ _; exact ⟨[], rfl⟩
  | cons it is ih =>
    intro hp hn
    obtain ⟨t1, h1⟩ := format_item_ok c hc it (hp it (List.mem_cons_self)) (hn it (List.mem_cons_self)).1
      (hn it (List.mem_cons_self)).2.1 (hn it (List.mem_cons_self)).2.2
    obtain ⟨t2, h2⟩ := ih (fun x hx => hp x (List.mem_cons_of_mem _ hx)) (fun x hx => hn x (List.mem_cons_of_mem _ hx))
    exact ⟨t1 ++ t2, by simp only [Format.formatItemsR, h1, h2]; rfl⟩

/-- the needs of an item the target type can print are met by a context that shows what the target has -/
theorem needs_of_shows (T : ParseFrom.Target) (c : Ctx) (it : Item) (h : showsFor T it = true)
    (hd : (targetShows T).1 = true → c.date ≠ none) (ht : (targetShows T).2.1 = true → c.time ≠ none)
    (ho : (targetShows T).2.2 = true → c.off ≠ none) :
    ((itemNeeds it).1 = true → c.date ≠ none) ∧ ((itemNeeds it).2.1 = true → c.time ≠ none) ∧
      ((itemNeeds it).2.2 = true → c.off ≠ none) := by
  simp only [showsFor, Bool.and_eq_true, Bool.or_eq_true, Bool.not_eq_true'] at h
  obtain ⟨⟨h1, h2⟩, h3⟩ := h
  refine ⟨fun hn => hd ?_, fun hn => ht ?_, fun hn => ho ?_⟩
  · rcases h1 with h | h
    · rw [hn] at h; cases h
    · exact h
  · rcases h2 with h | h
    · rw [hn] at h; cases h
    · exact h
  · rcases h3 with h | h
    · rw [hn] at h; cases h
    · exact h

/-- the value invariants: an existing day, a valid time of day, an offset inside ±24 h, a wall clock in
the supported range -/
def ValueOk (v : ParseFrom.Value) : Prop :=
  match v with
  | .date d => ∃ Y o, VD Y o ∧ d = dateOfYo Y o
  | .time t => TValid t
  | .naive dt => (∃ Y o, VD Y o ∧ dt.date = dateOfYo Y o) ∧ TValid dt.time
  | .zoned z => ∃ Y o t, VD Y o ∧ TValid t ∧ z.overflowing_naive_local = .ok ⟨dateOfYo Y o, t⟩ ∧
      -86400 < z.off ∧ z.off < 86400

/-- the context a value shows is a real one, `format` is the item formatter run on it, and it has what
the value's type shows -/
theorem ctx_of_value (is : List Item) (v : ParseFrom.Value) (hv : ValueOk v) :
    CtxOk (ctxOf v) ∧
    ParseFrom.formatItemsOf v is = Format.formatItemsR (ctxOf v).date (ctxOf v).time (ctxOf v).off is ∧
    (((targetShows v.target).1 = true → (ctxOf v).date ≠ none) ∧
      ((targetShows v.target).2.1 = true → (ctxOf v).time ≠ none) ∧
      ((targetShows v.target).2.2 = true → (ctxOf v).off ≠ none)) := by
  cases v with
  | date d =>
    obtain ⟨Y, o, hvd, rfl⟩ := hv
    have e : ctxOf (.date (dateOfYo Y o)) = ⟨some (dateOfYo Y o), none, none⟩ := rfl
    rw [e]
    exact ⟨⟨fun d h => (by cases h; exact ⟨Y, o, hvd, rfl⟩), fun t h => (by cases h), fun x h => (by cases h)⟩, rfl,
      fun _ h => (by cases h), fun h => (by cases h), fun h => (by cases h)⟩
  | time t =>
    have e : ctxOf (.time t) = ⟨none, some t, none⟩ := rfl
    rw [e]
    exact ⟨⟨fun d h => (by cases h), fun t' h => (by cases h; exact hv), fun x h => (by cases h)⟩, rfl,
      fun h => (by cases h), fun _ h => (by cases h), fun h => (by cases h)⟩
  | naive dt =>
    obtain ⟨⟨Y, o, hvd, hd⟩, htv⟩ := hv
    obtain ⟨d, t⟩ := dt
    simp only at hd htv
    subst hd
    have e : ctxOf (.naive ⟨dateOfYo Y o, t⟩) = ⟨some (dateOfYo Y o), some t, none⟩ := rfl
    rw [e]
    exact ⟨⟨fun d h => (by cases h; exact ⟨Y, o, hvd, rfl⟩), fun t' h => (by cases h; exact htv),
      fun x h => (by cases h)⟩, rfl, fun _ h => (by cases h), fun _ h => (by cases h), fun h => (by cases h)⟩
  | zoned z =>
    obtain ⟨Y, o, t, hvd, htv, hl, hzo⟩ := hv
    have e : ctxOf (.zoned z) = ⟨some (dateOfYo Y o), some t, some (Format.fixedOffsetName z.off, z.off)⟩ := by
      simp [ctxOf, shown, hl]
    rw [e]
    refine ⟨⟨fun d h => (by cases h; exact ⟨Y, o, hvd, rfl⟩), fun t' h => (by cases h; exact htv),
      fun x h => (by cases h; exact hzo)⟩, ?_, fun _ h => (by cases h), fun _ h => (by cases h),
      fun _ h => (by cases h)⟩
    simp only [ParseFrom.formatItemsOf, hl, Format.W.ofRes]

/-- **formatting a member of the family succeeds**: for every value of the target type (existing day,
valid time of day, offset of less than a day, wall clock in range) and every item list of proved items
the target can print, `format` returns a text -/
theorem format_family_ok (is : List Item) (v : ParseFrom.Value)
    (hv : match v with
      | .date d => ∃ Y o, VD Y o ∧ d = dateOfYo Y o
      | .time t => TValid t
      | .naive dt => (∃ Y o, VD Y o ∧ dt.date = dateOfYo Y o) ∧ TValid dt.time
      | .zoned z => ∃ Y o t, VD Y o ∧ TValid t ∧ z.overflowing_naive_local = .ok ⟨dateOfYo Y o, t⟩ ∧
          -86400 < z.off ∧ z.off < 86400)
    (hp : ∀ it ∈ is, provedItem it = true) (hs : ∀ it ∈ is, showsFor v.target it = true) :
    ∃ text, ParseFrom.formatItemsOf v is = Format.wok text := by
  obtain ⟨hc, hf, hd, ht, ho⟩ := ctx_of_value is v hv
  rw [hf]
  exact format_items_ok _ hc is hp fun it hm => needs_of_shows v.target _ it (hs it hm) hd ht ho

/-- what the round-trip theorems start from, for a format string of the family: its items are proved
items (`StrftimeProved.items_are_proved`), white space is safe, and formatting succeeds -/
theorem family_start (fmt : List Nat) (v : ParseFrom.Value) (hv : ValueOk v)
    (hU : Unambiguous (Strftime.items fmt) v.target) :
    (∀ it ∈ Strftime.items fmt, provedItem it = true) ∧ spaceSafe (Strftime.items fmt) = true ∧
      ∃ text, ParseFrom.format v fmt = Format.wok text :=
  have hp := fun it hm => StrftimeProved.items_are_proved fmt it hm (hU.1 it hm).1
  ⟨hp, hU.2.1.2, format_family_ok _ v hv hp fun it hm => (hU.1 it hm).2⟩

end Chrono.Proofs.RoundTrip
