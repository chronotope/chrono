/-
  C15: the sharp linear bound on the number of items of a format string.  A `parse_next_item` call that
  installs a non-empty queue (a composite specifier) has consumed at least two bytes (`%` and the
  specifier character) and yields at most 13 items; a call with an empty queue yields one item from at
  least one byte.  Hence `2 · items ≤ 13 · bytes`, attained by `%c`.
  Namespace `Chrono.Proofs.StrftimeBound`.
-/
import Chrono.Proofs.StrftimeL
namespace Chrono.Proofs.StrftimeBound
open Chrono Chrono.M Chrono.M.Format Chrono.M.Strftime Chrono.Extracted Chrono.Proofs.FormatL Chrono.Proofs.StrftimeL

/-- **the sharp bound**: twice the number of items is at most 13 times the byte length -/
theorem itemsAux_length2 (l : Bool) : ∀ (f : Nat) (s : List Nat), 2 * (itemsAux l f s).length ≤ 13 * s.length :=
  StrftimeL.itemsAux_length2 l

end Chrono.Proofs.StrftimeBound
