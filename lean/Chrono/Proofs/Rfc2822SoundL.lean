/-
  Helper lemmas for C11: soundness of field resolution for the record the RFC 2822 scanner
  builds (`Ok` only from valid fields, and then the value they denote).
-/
import Chrono.Proofs.Rfc2822WriteL
namespace Chrono.Proofs.Rfc2822
open Chrono Chrono.M Chrono.Spec Chrono.Spec.Rfc2822 Chrono.Spec.Fields Chrono.Proofs Chrono.Proofs.ParsedRes
open Chrono.Extracted

/-- without a timestamp field the date-time resolver succeeds only through date and time -/
theorem naive_inv (p : Parsed) (off : Int) (dt : NaiveDT) (hts : p.timestamp = none)
    (h : Parsed.to_naive_datetime_with_offset p off = .ok (.ok dt)) :
    ∃ d t, Parsed.to_naive_date p = .ok (.ok d) ∧ Parsed.to_naive_time p = .ok t ∧ dt = ⟨d, t⟩ := by
  unfold Parsed.to_naive_datetime_with_offset at h
  rw [hts] at h
  cases hd : Parsed.to_naive_date p with
  | panic => rw [hd] at h; cases h
  | ok rd =>
    rw [hd] at h
    cases rd with
    | error e =>
      simp only [] at h
      cases h
    | ok d =>
      cases ht : Parsed.to_naive_time p with
      | error e => rw [ht] at h; simp only [] at h; cases h
      | ok t =>
        rw [ht] at h
        simp only [] at h
        refine ⟨d, t, rfl, rfl, ?_⟩
        split at h
        · cases h
        · injection h with h; injection h with h; exact h.symm


/-- a time of day resolved from the scanner's record is the one its fields spell, and they are in range -/
theorem time_of_parsedOf (f : Rfc2822.Fields) (t : Time) (ht : Parsed.to_naive_time (parsedOf f) = .ok t) :
    f.hour ≤ 23 ∧ f.min ≤ 59 ∧ secOf f ≤ 60 ∧ t = timeOf f := by
  obtain ⟨⟨⟨t0, t1, _, _⟩, _⟩, ⟨b1, b2, b3, ⟨b4, b4'⟩, _⟩, hsuf, _⟩ := time_sound' _ t ht
  have bh1 := b1 ((f.hour : Int) / 12) rfl
  have bh2 := b2 ((f.hour : Int) % 12) rfl
  have bm := b3 (f.min : Int) rfl
  unfold hourOf at bh1 bh2
  unfold minuteOf at bm
  have hb : f.hour ≤ 23 ∧ f.min ≤ 59 := by omega
  have hs : secOf f ≤ 60 := by
    rcases second_parsedOf f with ⟨_, h0⟩ | ⟨n, hn, hsn⟩
    · omega
    · have := b4 n hn
      unfold secondOf at this
      split at this <;> omega
  obtain ⟨hts, hta⟩ := timeOf_facts f hb.1 hb.2 hs
  have := time_complete' _ _ hts hta hsuf
  rw [ht] at this
  injection this with this
  exact ⟨hb.1, hb.2, hs, this⟩

/-- field resolution is sound: a value comes only from valid fields, and is the one they denote -/
theorem resolve_sound (f : Rfc2822.Fields) (hp : InType (parsedOf f)) (z : Zoned)
    (h : Parsed.to_datetime (parsedOf f) = .ok (.ok z)) : Valid f ∧ Denotes f z := by
  have hoffp : (parsedOf f).offset = some f.off := rfl
  have hts : (parsedOf f).timestamp = none := rfl
  unfold Parsed.to_datetime at h
  simp only [hoffp] at h
  -- the naive reading
  cases hn : Parsed.to_naive_datetime_with_offset (parsedOf f) f.off with
  | panic => rw [hn] at h; cases h
  | ok rn =>
  rw [hn] at h
  cases rn with
  | error e => simp only [Parsed.RP.bind] at h; cases h
  | ok dt =>
  simp only [Parsed.RP.bind] at h
  obtain ⟨d, t, hd, ht, rfl⟩ := naive_inv _ _ _ hts hn
  -- the offset and the conversion
  have hov : OffValid f.off := by
    unfold Zoned.east_opt at h
    by_cases ho : -86400 < f.off ∧ f.off < 86400
    · exact ho
    · rw [if_neg ho] at h; simp only [] at h; cases h
  have he : Zoned.east_opt f.off = some f.off := by unfold Zoned.east_opt; exact if_pos hov
  rw [he] at h
  simp only [] at h
  -- date and time
  obtain ⟨r, hr, hok, _, _⟩ := date_main (parsedOf f) hp
  rw [hd] at hr
  obtain ⟨Y, o, hvd, hdY, hag⟩ := hok d (by injection hr with hr; exact hr.symm)
  obtain ⟨a1, _, _, a4, _, _, a7, _, a9, _⟩ := hag (Or.inr (usesCalendar_parsedOf f))
  have e1 : f.year = Y := a1 f.year rfl
  have e4 : (f.month : Int) = (monthOfYo Y o : Int) := a4 (f.month : Int) rfl
  have e9 : (f.day : Int) = (dayOfYo Y o : Int) := a9 (f.day : Int) rfl
  obtain ⟨_, _, hval, hoo⟩ := month_day_spec Y o hvd.2.2.1 hvd.2.2.2
  have em : monthOfYo Y o = f.month := (Int.ofNat.inj e4).symm
  have ed : dayOfYo Y o = f.day := (Int.ofNat.inj e9).symm
  subst e1
  rw [em, ed] at hval hoo
  obtain ⟨h23, m59, hs1, rfl⟩ := time_of_parsedOf f t ht
  have htv := (timeOf_facts f h23 m59 hs1).1.1
  obtain ⟨hdi, hdn⟩ := Ts.dateInv_of_yo f.year o ⟨hvd.1, hvd.2.1⟩ ⟨hvd.2.2.1, hvd.2.2.2⟩
  have hnd : NDTInv ⟨d, timeOf f⟩ := ⟨by rw [hdY]; exact hdi, htv⟩
  have hlocal : instSecs ⟨d, timeOf f⟩ = localSecs f := by
    unfold instSecs localSecs dayNum timeOf
    simp only [hdY, hdn, hoo]
    omega
  -- from_local_datetime
  have hext : ExtNDTInv ⟨d, timeOf f⟩ := ⟨((dateInv_iff _).mp hnd.1).1, hnd.2⟩
  obtain ⟨r2, hr2, hsome, _, hrange⟩ := from_local_spec f.off ⟨d, timeOf f⟩ hov hext
  rw [hr2] at h
  cases r2 with
  | none => simp only [] at h; cases h
  | some z' =>
    simp only [] at h
    injection h with h; injection h with h
    subst h
    obtain ⟨q1, q2, q5, q6, q7⟩ := hsome z' rfl
    have hin : InRangeSecs (localSecs f - f.off) := by
      rw [← hlocal]; exact hrange hnd.1 (by simp)
    refine ⟨⟨hvd.1, hvd.2.1, hval, ?_, h23, m59, hs1, hov, hin⟩, q1, by rw [q5, hlocal],
      by rw [q6]; rfl, ⟨q7 hnd.1, q2.2⟩, by rw [q1]; exact hov⟩
    intro w hw
    have := a7 w hw
    unfold dayNum
    rw [hoo]; exact this

end Chrono.Proofs.Rfc2822
