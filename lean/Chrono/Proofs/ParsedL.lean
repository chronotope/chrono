/-
  Helper lemmas for C14 (field resolution): the setters and `to_naive_time`.
  `resolve_year` and the date resolver are in Proofs/ParsedDateL.lean.
-/
import Chrono.Model.ParsedResolve
import Chrono.Spec.ParsedSpec
import Chrono.Proofs.PrimL
namespace Chrono.Proofs.ParsedRes
open Chrono Chrono.M Chrono.Spec Chrono.Spec.Fields Chrono.Extracted

/-- decidable equality of `ParseResult` values (core `Except` has none), so that closed instances
of the resolver can be evaluated by `decide +kernel` in the non-vacuity examples (used as a
`local instance` in Props/C14.lean only) -/
@[reducible] def exceptDecEq {ε α} [DecidableEq ε] [DecidableEq α] : DecidableEq (Except ε α) := fun a b =>
  match a, b with
  | .ok x, .ok y => if h : x = y then isTrue (by rw [h]) else isFalse (fun e => h (Except.ok.inj e))
  | .error x, .error y =>
    if h : x = y then isTrue (by rw [h]) else isFalse (fun e => h (Except.error.inj e))
  | .ok _, .error _ => isFalse (fun e => by cases e)
  | .error _, .ok _ => isFalse (fun e => by cases e)

/-- the common shape of all setters: guard the argument, `set_if_consistent`, store -/
theorem setShape {α} [DecidableEq α] (g : PRes α) (old : Option α) (upd : Option α → Parsed)
    (p1 : Parsed) :
    ((do let x ← g; let f ← Parsed.setIf old x; pure (upd f)) : PRes Parsed) = .ok p1 ↔
      ∃ x, g = .ok x ∧ (old = none ∨ old = some x) ∧ p1 = upd (some x) := by
  cases g with
  | error e => simp [bind, Except.bind]
  | ok x =>
    cases old with
    | none => simp [bind, Except.bind, Parsed.setIf, pure, Except.pure, eq_comm]
    | some o =>
      by_cases h : o = x
      · subst h; simp [bind, Except.bind, Parsed.setIf, pure, Except.pure, eq_comm]
      · simp [bind, Except.bind, Parsed.setIf, h]

theorem toI32_ok (v x : Int) : Parsed.toI32 v = .ok x ↔ (-2147483648 ≤ v ∧ v ≤ 2147483647) ∧ x = v := by
  unfold Parsed.toI32 inI32
  have h1 : I32_MIN = -2147483648 := rfl
  have h2 : I32_MAX = 2147483647 := rfl
  by_cases h : -2147483648 ≤ v ∧ v ≤ 2147483647
  · simp [h1, h2, h, eq_comm]
  · simp [h1, h2, h]

theorem inRange_ok (v lo hi x : Int) : Parsed.inRange v lo hi = .ok x ↔ (lo ≤ v ∧ v ≤ hi) ∧ x = v := by
  unfold Parsed.inRange
  by_cases h : lo ≤ v ∧ v ≤ hi
  · simp [h, eq_comm]
  · simp [h]


/-- a setter of the common shape, called twice: the second call succeeds iff the arguments are equal
(`g` is injective where it succeeds) -/
theorem twice_generic {α β} [DecidableEq α] (g : β → PRes α) (get : Parsed → Option α)
    (upd : Parsed → Option α → Parsed) (hget : ∀ p f, get (upd p f) = f)
    (hinj : ∀ a b x, g a = .ok x → g b = .ok x → a = b)
    (p p1 : Parsed) (a b : β)
    (h : ((do let x ← g a; let f ← Parsed.setIf (get p) x; pure (upd p f)) : PRes Parsed) = .ok p1) :
    (∃ p2, ((do let x ← g b; let f ← Parsed.setIf (get p1) x; pure (upd p1 f)) : PRes Parsed) = .ok p2)
      ↔ a = b := by
  rw [setShape] at h
  obtain ⟨x, hg, _, rfl⟩ := h
  constructor
  · rintro ⟨p2, h2⟩
    rw [setShape] at h2
    obtain ⟨y, hg2, hold, _⟩ := h2
    rw [hget] at hold
    rcases hold with hold | hold
    · cases hold
    · exact hinj a b x hg (Option.some.inj hold ▸ hg2)
  · intro hab
    subst hab
    exact ⟨_, (setShape _ _ _ _).mpr ⟨x, hg, Or.inr (hget _ _), rfl⟩⟩

theorem twice_timestamp (p p1 : Parsed) (a b : Int) (h : p.set_timestamp a = .ok p1) :
    (∃ p2, p1.set_timestamp b = .ok p2) ↔ a = b :=
  twice_generic (fun v => .ok v) (·.timestamp) (fun p f => { p with timestamp := f }) (fun _ _ => rfl)
    (fun _ _ _ h1 h2 => Except.ok.inj (h1.trans h2.symm)) p p1 a b h

theorem twice_weekday (p p1 : Parsed) (a b : Weekday) (h : p.set_weekday a = .ok p1) :
    (∃ p2, p1.set_weekday b = .ok p2) ↔ a = b :=
  twice_generic (fun v => .ok v) (·.weekday) (fun p f => { p with weekday := f }) (fun _ _ => rfl)
    (fun _ _ _ h1 h2 => Except.ok.inj (h1.trans h2.symm)) p p1 a b h

theorem twice_ampm (p p1 : Parsed) (a b : Bool) (h : p.set_ampm a = .ok p1) :
    (∃ p2, p1.set_ampm b = .ok p2) ↔ a = b :=
  twice_generic (fun pm : Bool => .ok (if pm then (1 : Int) else 0)) (·.hour_div_12)
    (fun p f => { p with hour_div_12 := f }) (fun _ _ => rfl)
    (fun a b _ h1 h2 => by
      have := Except.ok.inj (h1.trans h2.symm)
      revert this
      cases a <;> cases b <;> decide)
    p p1 a b h

theorem ebind_ok {ε α β} (x : Except ε α) (f : α → Except ε β) (b : β) :
    (x >>= f) = .ok b ↔ ∃ a, x = .ok a ∧ f a = .ok b := by
  cases x <;> simp [bind, Except.bind]

theorem setIf_ok {α} [DecidableEq α] (old : Option α) (v : α) (f : Option α) :
    Parsed.setIf old v = .ok f ↔ (old = none ∨ old = some v) ∧ f = some v := by
  cases old with
  | none => simp [Parsed.setIf, eq_comm]
  | some o =>
    by_cases h : o = v
    · subst h; simp [Parsed.setIf, eq_comm]
    · simp [Parsed.setIf, h]

theorem setIf_eq {α} [DecidableEq α] (old : Option α) (v : α) :
    Parsed.setIf old v = if old = none ∨ old = some v then .ok (some v) else .error .impossible := by
  cases old with
  | none => rw [if_pos (Or.inl rfl)]; rfl
  | some o =>
    by_cases h : o = v
    · subst h; simp [Parsed.setIf]
    · simp [Parsed.setIf, h]

theorem range_setter_eq (lo hi v : Int) (old : Option Int) (upd : Option Int → Parsed) :
    ((do let x ← Parsed.inRange v lo hi; let f ← Parsed.setIf old x; pure (upd f)) : PRes Parsed) =
      if lo ≤ v ∧ v ≤ hi then
        if old = none ∨ old = some v then .ok (upd (some v)) else .error .impossible
      else .error .outOfRange := by
  unfold Parsed.inRange
  by_cases hr : lo ≤ v ∧ v ≤ hi
  case neg =>
    rw [if_neg hr, if_neg hr]
    rfl
  rw [if_pos hr, if_pos hr]
  simp only [bind, Except.bind, setIf_eq]
  by_cases hc : old = none ∨ old = some v
  · rw [if_pos hc, if_pos hc]
    rfl
  · rw [if_neg hc, if_neg hc]

theorem set_hour_eq (p : Parsed) (a : Int) :
    p.set_hour a =
      if 0 ≤ a ∧ a ≤ 23 then
        if (p.hour_div_12 = none ∨ p.hour_div_12 = some (if a ≤ 11 then 0 else 1)) ∧
           (p.hour_mod_12 = none ∨ p.hour_mod_12 = some (if a ≤ 11 then a else a - 12))
        then .ok { p with hour_div_12 := some (if a ≤ 11 then 0 else 1),
                          hour_mod_12 := some (if a ≤ 11 then a else a - 12) }
        else .error .impossible
      else .error .outOfRange := by
  unfold Parsed.set_hour Parsed.inRange
  by_cases hr : 0 ≤ a ∧ a ≤ 23
  case neg => rw [if_neg hr, if_neg hr]; rfl
  have hdm : (if a ≤ 11 then ((0 : Int), a) else (1, a - 12)) =
      (if a ≤ 11 then 0 else 1, if a ≤ 11 then a else a - 12) := by split <;> rfl
  rw [if_pos hr, if_pos hr]
  simp only [bind, Except.bind, pure, Except.pure, hdm, setIf_eq]
  by_cases c1 : p.hour_div_12 = none ∨ p.hour_div_12 = some (if a ≤ 11 then 0 else 1)
  case neg => rw [if_neg c1, if_neg (mt And.left c1)]
  by_cases c2 : p.hour_mod_12 = none ∨ p.hour_mod_12 = some (if a ≤ 11 then a else a - 12)
  case neg => rw [if_pos c1, if_neg c2, if_neg (mt And.right c2)]
  rw [if_pos c1, if_pos c2, if_pos (And.intro c1 c2)]

theorem set_hour_ok (p p1 : Parsed) (a : Int) :
    p.set_hour a = .ok p1 ↔ (0 ≤ a ∧ a ≤ 23) ∧
      (p.hour_div_12 = none ∨ p.hour_div_12 = some (if a ≤ 11 then 0 else 1)) ∧
      (p.hour_mod_12 = none ∨ p.hour_mod_12 = some (if a ≤ 11 then a else a - 12)) ∧
      p1 = { p with hour_div_12 := some (if a ≤ 11 then 0 else 1),
                    hour_mod_12 := some (if a ≤ 11 then a else a - 12) } := by
  rw [set_hour_eq]
  by_cases hr : 0 ≤ a ∧ a ≤ 23
  case neg => rw [if_neg hr]; exact ⟨nofun, fun h => absurd h.1 hr⟩
  by_cases hc : (p.hour_div_12 = none ∨ p.hour_div_12 = some (if a ≤ 11 then 0 else 1)) ∧
      (p.hour_mod_12 = none ∨ p.hour_mod_12 = some (if a ≤ 11 then a else a - 12))
  case neg => rw [if_pos hr, if_neg hc]; exact ⟨nofun, fun h => absurd ⟨h.2.1, h.2.2.1⟩ hc⟩
  rw [if_pos hr, if_pos hc]
  exact ⟨fun h => ⟨hr, hc.1, hc.2, (Except.ok.inj h).symm⟩, fun h => by rw [h.2.2.2]⟩

theorem twice_hour (p p1 : Parsed) (a b : Int) (h : p.set_hour a = .ok p1) :
    (∃ p2, p1.set_hour b = .ok p2) ↔ a = b := by
  rw [set_hour_ok] at h
  obtain ⟨ha, _, _, rfl⟩ := h
  constructor
  · rintro ⟨p2, h2⟩
    rw [set_hour_ok] at h2
    obtain ⟨hb, h1, h2, _⟩ := h2
    dsimp only at h1 h2
    rcases h1 with h1 | h1
    · cases h1
    rcases h2 with h2 | h2
    · cases h2
    have h1 := Option.some.inj h1
    have h2 := Option.some.inj h2
    omega
  · intro hab
    subst hab
    exact ⟨_, (set_hour_ok _ _ _).mpr ⟨ha, Or.inr rfl, Or.inr rfl, rfl⟩⟩

theorem hms_some (h m s n : Int) (hh : 0 ≤ h ∧ h < 24) (hm : 0 ≤ m ∧ m < 60) (hs : 0 ≤ s ∧ s < 60)
    (hn : 0 ≤ n ∧ n < 2000000000) (hl : n ≥ 1000000000 → s = 59) :
    Time.from_hms_nano_opt h m s n = some ⟨h * 3600 + m * 60 + s, n⟩ := by
  unfold Time.from_hms_nano_opt
  rw [if_neg]
  omega

theorem time_tail_char (p : Parsed) (hour mi sec n0 : Int) (hh : 0 ≤ hour ∧ hour < 24) (hm : 0 ≤ mi ∧ mi < 60)
    (hs : 0 ≤ sec ∧ sec < 60) (hn0 : n0 = 0 ∨ (n0 = 1000000000 ∧ sec = 59)) (r : PRes Time) :
    Parsed.time_tail p hour mi sec n0 = r ↔
      (match p.nanosecond with
       | some v => if 0 ≤ v ∧ v ≤ 999999999 then
            if p.second ≠ none then r = .ok ⟨hour * 3600 + mi * 60 + sec, n0 + v⟩ else r = .error .notEnough
          else r = .error .outOfRange
       | none => r = .ok ⟨hour * 3600 + mi * 60 + sec, n0⟩) := by
  unfold Parsed.time_tail
  cases hn : p.nanosecond with
  | none =>
    simp only []
    rw [hms_some hour mi sec n0 hh hm hs (by omega) (by omega)]
    exact eq_comm
  | some v =>
    simp only []
    by_cases hv : 0 ≤ v ∧ v ≤ 999999999
    · simp only [hv, and_self, if_true]
      cases hsec : p.second with
      | none => simp [eq_comm]
      | some s =>
        simp only [Option.isSome_some, if_true, ne_eq, reduceCtorEq, not_false_eq_true]
        rw [hms_some hour mi sec (n0 + v) hh hm hs (by omega) (by omega)]
        exact eq_comm
    · simp only [hv, if_false]
      exact eq_comm

theorem optIs_of_fits {o : Option Int} {v w : Int} (h : o = none ∨ o = some v) (e : v = w) :
    optIs o w := by
  intro x hx
  rcases h with g | g <;> rw [g] at hx <;> cases hx
  exact e

/-- the time of day that `to_naive_time` builds from in-range parts (`S`, `V`: the second and nanosecond
fields, 0 when absent): the constructors can build it, and its parts read back -/
theorem time_of_parts (hd hm mi S V : Int) (t : Time) (h1 : 0 ≤ hd ∧ hd ≤ 1) (h2 : 0 ≤ hm ∧ hm ≤ 11)
    (h3 : 0 ≤ mi ∧ mi ≤ 59) (h4 : 0 ≤ S ∧ S ≤ 60) (h5 : 0 ≤ V ∧ V ≤ 999999999)
    (e : t = ⟨(hd * 12 + hm) * 3600 + mi * 60 + (if S = 60 then 59 else S),
      (if S = 60 then 1000000000 else 0) + V⟩) :
    TStrict t ∧ hourOf t / 12 = hd ∧ hourOf t % 12 = hm ∧ minuteOf t = mi ∧
      (if S = 60 then secondOf t = 59 ∧ 1000000000 ≤ t.frac else secondOf t = S ∧ t.frac < 1000000000) ∧
      t.frac % 1000000000 = V := by
  subst e
  unfold TStrict TValid hourOf minuteOf secondOf
  dsimp only
  by_cases c : S = 60
  · simp only [if_pos c]
    omega
  · simp only [if_neg c]
    omega

/-- the three outcomes of `to_naive_time`.  Success: hour halves and minute present and in range, the
second (0 if absent) at most 60, a nanosecond field in range and accompanied by a second; second 60
is stored as second 59 plus 10⁹ ns.  NOT_ENOUGH: an absent field refutes `TimeSufficient`.
OUT_OF_RANGE: a field outside its range refutes `TimeInRange`. -/
theorem to_naive_time_cases (p : Parsed) (r : PRes Time) (h : Parsed.to_naive_time p = r) :
    (∃ hd hm mi, p.hour_div_12 = some hd ∧ p.hour_mod_12 = some hm ∧ p.minute = some mi ∧
      (0 ≤ hd ∧ hd ≤ 1) ∧ (0 ≤ hm ∧ hm ≤ 11) ∧ (0 ≤ mi ∧ mi ≤ 59) ∧
      (0 ≤ p.second.getD 0 ∧ p.second.getD 0 ≤ 60) ∧
      (∀ v, p.nanosecond = some v → (0 ≤ v ∧ v ≤ 999999999) ∧ p.second ≠ none) ∧
      r = .ok ⟨(hd * 12 + hm) * 3600 + mi * 60 + (if p.second.getD 0 = 60 then 59 else p.second.getD 0),
        (if p.second.getD 0 = 60 then 1000000000 else 0) + p.nanosecond.getD 0⟩) ∨
    (r = .error .notEnough ∧ ¬ TimeSufficient p) ∨ (r = .error .outOfRange ∧ ¬ TimeInRange p) := by
  unfold Parsed.to_naive_time at h
  cases e1 : p.hour_div_12 with
  | none => rw [e1] at h; exact .inr (.inl ⟨h.symm, fun hs => hs.1 e1⟩)
  | some hd =>
  rw [e1] at h
  dsimp only at h
  by_cases r1 : 0 ≤ hd ∧ hd ≤ 1
  case neg => rw [if_neg r1] at h; exact .inr (.inr ⟨h.symm, fun hs => r1 (hs.1 hd e1)⟩)
  rw [if_pos r1] at h
  cases e2 : p.hour_mod_12 with
  | none => rw [e2] at h; exact .inr (.inl ⟨h.symm, fun hs => hs.2.1 e2⟩)
  | some hm =>
  rw [e2] at h
  dsimp only at h
  by_cases r2 : 0 ≤ hm ∧ hm ≤ 11
  case neg => rw [if_neg r2] at h; exact .inr (.inr ⟨h.symm, fun hs => r2 (hs.2.1 hm e2)⟩)
  rw [if_pos r2] at h
  cases e3 : p.minute with
  | none => rw [e3] at h; exact .inr (.inl ⟨h.symm, fun hs => hs.2.2.1 e3⟩)
  | some mi =>
  rw [e3] at h
  dsimp only at h
  by_cases r3 : 0 ≤ mi ∧ mi ≤ 59
  case neg => rw [if_neg r3] at h; exact .inr (.inr ⟨h.symm, fun hs => r3 (hs.2.2.1 mi e3)⟩)
  rw [if_pos r3] at h
  by_cases rs : 0 ≤ p.second.getD 0 ∧ p.second.getD 0 ≤ 60
  case neg =>
    rw [if_neg rs] at h
    refine .inr (.inr ⟨h.symm, fun hs => rs ?_⟩)
    cases hsec : p.second with
    | none => exact ⟨Int.le_refl 0, by decide⟩
    | some s => exact hs.2.2.2.1 s hsec
  rw [if_pos rs,
    time_tail_char p _ _ _ _ (by omega) (by omega) (by split <;> omega) (by split <;> omega)] at h
  cases hn : p.nanosecond with
  | none =>
    rw [hn] at h
    dsimp only [Option.getD_none] at h ⊢
    rw [Int.add_zero]
    exact .inl ⟨hd, hm, mi, rfl, rfl, rfl, r1, r2, r3, rs, nofun, h⟩
  | some v =>
    rw [hn] at h
    dsimp only [Option.getD_some] at h ⊢
    by_cases rv : 0 ≤ v ∧ v ≤ 999999999
    · rw [if_pos rv] at h
      by_cases hsec : p.second ≠ none
      · rw [if_pos hsec] at h
        exact .inl ⟨hd, hm, mi, rfl, rfl, rfl, r1, r2, r3, rs, fun v' hv => Option.some.inj hv ▸ ⟨rv, hsec⟩, h⟩
      · rw [if_neg hsec] at h
        exact .inr (.inl ⟨h, fun hs => hsec (hs.2.2.2 (by rw [hn]; nofun))⟩)
    · rw [if_neg rv] at h
      exact .inr (.inr ⟨h, fun hs => rv (hs.2.2.2.2 v hn)⟩)

theorem time_sound' (p : Parsed) (t : Time) (h : Parsed.to_naive_time p = .ok t) :
    TStrict t ∧ TimeAgrees p t ∧ TimeSufficient p ∧ TimeInRange p := by
  obtain ⟨hd, hm, mi, e1, e2, e3, r1, r2, r3, rs, hn, ht⟩ | ⟨h', _⟩ | ⟨h', _⟩ := to_naive_time_cases p _ h
  case inr.inl => cases h'
  case inr.inr => cases h'
  have ht := Except.ok.inj ht
  have hV : 0 ≤ p.nanosecond.getD 0 ∧ p.nanosecond.getD 0 ≤ 999999999 := by
    cases hv : p.nanosecond with
    | none => exact ⟨Int.le_refl 0, by decide⟩
    | some v => exact (hn v hv).1
  obtain ⟨ts, k1, k2, k3, k4, k5⟩ := time_of_parts hd hm mi _ _ t r1 r2 r3 rs hV ht
  refine ⟨ts,
    ⟨optIs_of_fits (.inr e1) k1.symm, optIs_of_fits (.inr e2) k2.symm, optIs_of_fits (.inr e3) k3.symm,
      ⟨fun x hs => ?_, fun hs => ?_⟩, ⟨fun x hv => ?_, fun hv => ?_⟩⟩,
    ⟨by rw [e1]; nofun, by rw [e2]; nofun, by rw [e3]; nofun, fun hv => ?_⟩,
    ⟨fun x hx => Option.some.inj (e1.symm.trans hx) ▸ r1, fun x hx => Option.some.inj (e2.symm.trans hx) ▸ r2,
      fun x hx => Option.some.inj (e3.symm.trans hx) ▸ r3, fun x hs => ?_, fun x hv => (hn x hv).1⟩⟩
  · rw [hs] at k4
    exact k4
  · rw [hs] at k4
    exact k4
  · rw [k5, hv]
    rfl
  · rw [k5, hv]
    rfl
  · obtain ⟨v, hv'⟩ := Option.ne_none_iff_exists'.mp hv
    exact (hn v hv').2
  · rw [hs] at rs
    exact rs

theorem hms_split (secs : Int) (h0 : 0 ≤ secs) (h1 : secs < 86400) :
    (0 ≤ secs / 3600 / 12 ∧ secs / 3600 / 12 ≤ 1) ∧ (0 ≤ secs / 3600 % 12 ∧ secs / 3600 % 12 ≤ 11) ∧
      (0 ≤ secs / 60 % 60 ∧ secs / 60 % 60 ≤ 59) ∧ (0 ≤ secs % 60 ∧ secs % 60 ≤ 59) ∧
      (secs / 3600 / 12 * 12 + secs / 3600 % 12) * 3600 + secs / 60 % 60 * 60 + secs % 60 = secs := by
  omega

theorem time_complete' (p : Parsed) (t : Time) (ht : TStrict t) (ha : TimeAgrees p t)
    (hs : TimeSufficient p) : Parsed.to_naive_time p = .ok t := by
  obtain ⟨⟨t0, t1, f0, f1⟩, hleap⟩ := ht
  obtain ⟨a1, a2, a3, ⟨a4, a4'⟩, ⟨a5, a5'⟩⟩ := ha
  obtain ⟨s1, s2, s3, s4⟩ := hs
  unfold optIs hourOf minuteOf secondOf at *
  obtain ⟨hd, e1⟩ := Option.ne_none_iff_exists'.mp s1
  obtain ⟨hm, e2⟩ := Option.ne_none_iff_exists'.mp s2
  obtain ⟨mi, e3⟩ := Option.ne_none_iff_exists'.mp s3
  obtain ⟨r1, r2, r3, r4, hsum⟩ := hms_split t.secs t0 t1
  rw [← a1 hd e1, ← a2 hm e2, ← a3 mi e3] at *
  have hS : (p.second.getD 0 = 60 ∧ t.secs % 60 = 59 ∧ 1000000000 ≤ t.frac) ∨
      (p.second.getD 0 ≠ 60 ∧ t.secs % 60 = p.second.getD 0 ∧ t.frac < 1000000000) := by
    cases hsec : p.second with
    | none => exact .inr ⟨by decide, a4' hsec⟩
    | some s =>
      have := a4 s hsec
      by_cases c : s = 60
      · rw [if_pos c] at this; exact .inl ⟨c, this⟩
      · rw [if_neg c] at this; exact .inr ⟨c, this⟩
  have hV : p.nanosecond.getD 0 = t.frac % 1000000000 := by
    cases hv : p.nanosecond with
    | none => exact (a5' hv).symm
    | some v => exact (a5 v hv).symm
  have rs : 0 ≤ p.second.getD 0 ∧ p.second.getD 0 ≤ 60 := by omega
  rcases to_naive_time_cases p _ rfl with ⟨hd', hm', mi', e1', e2', e3', _, _, _, _, _, h'⟩ | ⟨_, hn⟩ | ⟨_, hn⟩
  case inr.inl => exact absurd ⟨s1, s2, s3, s4⟩ hn
  case inr.inr =>
    refine absurd ⟨fun x hx => ?_, fun x hx => ?_, fun x hx => ?_, fun x hx => ?_, fun x hx => ?_⟩ hn
    · rw [Option.some.inj (e1.symm.trans hx)] at r1
      exact r1
    · rw [Option.some.inj (e2.symm.trans hx)] at r2
      exact r2
    · rw [Option.some.inj (e3.symm.trans hx)] at r3
      exact r3
    · rw [hx] at rs
      exact rs
    · have := a5 x hx
      omega
  cases e1.symm.trans e1'
  cases e2.symm.trans e2'
  cases e3.symm.trans e3'
  rw [h']
  congr 1
  cases t with | mk secs frac =>
  rw [Time.mk.injEq, hV]
  dsimp only at *
  generalize secs % 60 = sec at *
  rcases hS with ⟨c, hS⟩ | ⟨c, hS⟩
  · rw [if_pos c, if_pos c]; omega
  · rw [if_neg c, if_neg c]; omega

theorem time_err' (p : Parsed) (e : PErr) (h : Parsed.to_naive_time p = .error e) :
    (e = .notEnough ∧ ¬ TimeSufficient p) ∨ (e = .outOfRange ∧ ¬ TimeInRange p) := by
  rcases to_naive_time_cases p _ h with ⟨_, _, _, _, _, _, _, _, _, _, _, h'⟩ | ⟨h', hn⟩ | ⟨h', hn⟩
  · cases h'
  · exact .inl ⟨Except.error.inj h', hn⟩
  · exact .inr ⟨Except.error.inj h', hn⟩

end Chrono.Proofs.ParsedRes
