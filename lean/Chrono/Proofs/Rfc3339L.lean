/-
  Helper lemmas for C10 (RFC 3339), reader side: the strict scanner `Parse.parse_rfc3339` characterised by
  the grammar of Spec/Rfc3339Spec.lean (`scan_sound`, `scan_complete`), the resolution of the scanned record
  by `Parsed.to_datetime` (`resolve_ok`, `resolve_bad`), and their composition (`parse_cases`,
  `parse_complete`).  Built on Proofs/RenderScanL.lean (decimal render/scan), Proofs/DateL.lean (C01),
  Proofs/TimestampL.lean (C02), Proofs/ZonedL.lean (C04) and Proofs/ParsedL.lean, Proofs/ParsedDateL.lean (C14).
-/
import Chrono.Proofs.RenderScanL
import Chrono.Proofs.ZonedL
import Chrono.Proofs.ParsedDateL
import Chrono.Proofs.ParsedL
import Chrono.Proofs.TimestampL
import Chrono.Model.Rfc3339
import Chrono.Spec.Rfc3339Spec

namespace Chrono.Proofs.Rfc3339
open Chrono Chrono.M Chrono.M.Scan Chrono.M.Parse Chrono.Spec Chrono.Spec.Rfc3339 Chrono.Proofs.RenderScan
open Chrono.Extracted Chrono.Spec.Ts Chrono.Proofs.Ts Chrono.Proofs Chrono.Proofs.ParsedRes

/-! ### generic tools for the `Except` monad of the scanner -/

theorem bind_ok_iff {α β : Type} (x : PRes α) (f : α → PRes β) (b : β) :
    (x >>= f) = .ok b ↔ ∃ a, x = .ok a ∧ f a = .ok b :=
  ebind_ok x f b

theorem setField_ok_iff (set : Parsed → Int → PRes Parsed) (p : Parsed) (r : PRes (List Nat × Int))
    (p' : Parsed) (s' : List Nat) :
    setField set p r = .ok (p', s') ↔ ∃ v, r = .ok (s', v) ∧ set p v = .ok p' := by
  unfold setField
  rcases r with e | ⟨s1, v⟩
  · simp
  · cases hset : set p v <;> simp [Except.map, hset, and_comm]

theorem setNano_ok_iff (p : Parsed) (r : PRes (List Nat × Int)) (p' : Parsed) (s' : List Nat) :
    setNano p r = .ok (p', s') ↔ ∃ v, r = .ok (s', v) ∧ Parsed.set_nanosecond p v = .ok p' := by
  have : setNano p r = setField Parsed.set_nanosecond p r := by
    unfold setNano setField
    cases r with
    | error e => rfl
    | ok a => dsimp only; cases Parsed.set_nanosecond p a.2 <;> rfl
  rw [this, setField_ok_iff]

/-! ### bridges between the scanner vocabulary and the specification's -/

theorem isDig_iff (c : Nat) : IsDig c ↔ isDigit c = true := by
  rw [isDigit_iff]; rfl

theorem num2_eq (a b : Nat) : num2 a b = valOf [a, b] := by
  simp [num2, dval, valOf]

theorem num4_eq (a b c d : Nat) : num4 a b c d = valOf [a, b, c, d] := by
  simp only [num4, dval, valOf, List.foldl_cons, List.foldl_nil]; ring

theorem digitsVal_eq (ds : List Nat) : ∀ acc, digitsVal ds acc = ds.foldl (fun a c => a * 10 + (c - 48)) acc := by
  induction ds with
  | nil => intro acc; rfl
  | cons c ds ih => intro acc; simp only [digitsVal, List.foldl_cons, dval, ih]

theorem fracNanos_eq (ds : List Nat) : fracNanos ds = fracVal ds := by
  unfold fracNanos fracVal valOf; rw [digitsVal_eq]

theorem allDigits_iff (ds : List Nat) : (∀ c ∈ ds, IsDig c) ↔ AllDigits ds := by
  simp only [AllDigits, isDig_iff]

/-! ### the stages of the scanner, each with the rest of the scanner as continuation `k`

Stated as equivalences, so that the same lemma takes a successful run apart and puts one together. -/

/-- a field of exactly `w` digits -/
theorem field_bind (set : Parsed → Int → PRes Parsed) (p : Parsed) (s : List Nat) (w : Nat) (hw : w ≤ 18)
    {β : Type} (k : Parsed × List Nat → PRes β) (b : β) :
    (setField set p (number s w (some w)) >>= k) = .ok b ↔
      ∃ ds s' p', AllDigits ds ∧ ds.length = w ∧ s = ds ++ s' ∧ set p (valOf ds : Nat) = .ok p' ∧
        k (p', s') = .ok b := by
  rw [bind_ok_iff]
  constructor
  · rintro ⟨⟨p', s'⟩, h, hk⟩
    obtain ⟨v, hn, hs⟩ := (setField_ok_iff ..).mp h
    obtain ⟨ds, d1, d2, d3, rfl⟩ := (number_exact_iff s w hw s' v).mp hn
    exact ⟨ds, s', p', d1, d2, d3, hs, hk⟩
  · rintro ⟨ds, s', p', d1, d2, d3, hs, hk⟩
    exact ⟨(p', s'), (setField_ok_iff ..).mpr ⟨_, (number_exact_iff s w hw s' _).mpr ⟨ds, d1, d2, d3, rfl⟩, hs⟩, hk⟩

/-- a two-digit field, in the vocabulary of the grammar -/
theorem field2_bind (set : Parsed → Int → PRes Parsed) (p : Parsed) (s : List Nat)
    {β : Type} (k : Parsed × List Nat → PRes β) (b : β) :
    (setField set p (number s 2 (some 2)) >>= k) = .ok b ↔
      ∃ a c s' p', (IsDig a ∧ IsDig c) ∧ s = a :: c :: s' ∧ set p (num2 a c : Nat) = .ok p' ∧ k (p', s') = .ok b := by
  rw [field_bind _ _ _ 2 (by omega)]
  constructor
  · rintro ⟨ds, s', p', d1, d2, rfl, hs, hk⟩
    match ds, d2 with
    | [a, c], _ =>
      exact ⟨a, c, s', p', by simpa [AllDigits, ← isDig_iff] using d1, rfl, num2_eq a c ▸ hs, hk⟩
  · rintro ⟨a, c, s', p', hd, rfl, hs, hk⟩
    exact ⟨[a, c], s', p', by simpa [AllDigits, ← isDig_iff] using hd, rfl, rfl, num2_eq a c ▸ hs, hk⟩

theorem field4_bind (set : Parsed → Int → PRes Parsed) (p : Parsed) (s : List Nat)
    {β : Type} (k : Parsed × List Nat → PRes β) (b : β) :
    (setField set p (number s 4 (some 4)) >>= k) = .ok b ↔
      ∃ a c d e s' p', (IsDig a ∧ IsDig c ∧ IsDig d ∧ IsDig e) ∧ s = a :: c :: d :: e :: s' ∧
        set p (num4 a c d e : Nat) = .ok p' ∧ k (p', s') = .ok b := by
  rw [field_bind _ _ _ 4 (by omega)]
  constructor
  · rintro ⟨ds, s', p', d1, d2, rfl, hs, hk⟩
    match ds, d2 with
    | [a, c, d, e], _ =>
      exact ⟨a, c, d, e, s', p', by simpa [AllDigits, ← isDig_iff] using d1, rfl, num4_eq a c d e ▸ hs, hk⟩
  · rintro ⟨a, c, d, e, s', p', hd, rfl, hs, hk⟩
    exact ⟨[a, c, d, e], s', p', by simpa [AllDigits, ← isDig_iff] using hd, rfl, rfl, num4_eq a c d e ▸ hs, hk⟩

theorem char_bind (s : List Nat) (c : Nat) {β : Type} (k : List Nat → PRes β) (b : β) :
    (Scan.char s c >>= k) = .ok b ↔ ∃ s', s = c :: s' ∧ k s' = .ok b := by
  simp only [bind_ok_iff, char_ok_iff]

/-! ### the setters on a record whose field is still unset -/

/-- the common shape of the setters (`setShape`) on an unset field, for a guard `g` that lets `v` through
exactly when `R` holds -/
theorem setGuarded_none {α} [DecidableEq α] (g : PRes α) (R : Prop) (v : α) (hg : ∀ x, g = .ok x ↔ R ∧ x = v)
    (upd : Option α → Parsed) (p' : Parsed) :
    ((do let x ← g; let f ← Parsed.setIf none x; pure (upd f)) : PRes Parsed) = .ok p' ↔
      R ∧ p' = upd (some v) := by
  rw [setShape]
  constructor
  · rintro ⟨x, hx, _, rfl⟩
    obtain ⟨hr, rfl⟩ := (hg x).mp hx
    exact ⟨hr, rfl⟩
  · rintro ⟨hr, rfl⟩
    exact ⟨v, (hg v).mpr ⟨hr, rfl⟩, Or.inl rfl, rfl⟩

/-! ### the scanner: `parse_rfc3339` on an empty record -/

/-- the range checks the scanner itself performs (through the setters of `Parsed` and the offset
bound); the calendar check of the day is left to `to_datetime` -/
def ScanValid (f : Fields) : Prop :=
  1 ≤ f.month ∧ f.month ≤ 12 ∧ 1 ≤ f.day ∧ f.day ≤ 31 ∧ f.hour ≤ 23 ∧ f.minute ≤ 59 ∧ f.second ≤ 60 ∧
  f.offM ≤ 59 ∧ (f.offH : Int) * 3600 + (f.offM : Int) * 60 ≤ Parse.MAX_RFC3339_OFFSET

/-- a record with only the fields the RFC 3339 scanner touches -/
def recP (y mo d hd hm mi se n off : Option Int) : Parsed :=
  { year := y, month := mo, day := d, hour_div_12 := hd, hour_mod_12 := hm, minute := mi, second := se,
    nanosecond := n, offset := off }

/-- the record the scanner fills for the fields `f` -/
def recOf (f : Fields) : Parsed :=
  recP (some (f.year : Int)) (some (f.month : Int)) (some (f.day : Int))
    (some (if (f.hour : Int) ≤ 11 then 0 else 1))
    (some (if (f.hour : Int) ≤ 11 then (f.hour : Int) else (f.hour : Int) - 12))
    (some (f.minute : Int)) (some (f.second : Int))
    (if f.fracDigits = [] then none else some (fracNanos f.fracDigits : Int))
    (some (offsetOf f))

theorem new_eq : Parsed.new = recP none none none none none none none none none := rfl

theorem recP_offset (y mo d hd hm mi se n off : Option Int) : (recP y mo d hd hm mi se n off).offset = off := rfl
theorem recP_timestamp (y mo d hd hm mi se n off : Option Int) : (recP y mo d hd hm mi se n off).timestamp = none :=
  rfl

theorem st_year (mo d hd hm mi se n off : Option Int) (v : Int) (p' : Parsed) :
    Parsed.set_year (recP none mo d hd hm mi se n off) v = .ok p' ↔
      (-2147483648 ≤ v ∧ v ≤ 2147483647) ∧ p' = recP (some v) mo d hd hm mi se n off :=
  setGuarded_none _ _ v (toI32_ok v) (fun f => recP f mo d hd hm mi se n off) p'
theorem st_month (y d hd hm mi se n off : Option Int) (v : Int) (p' : Parsed) :
    Parsed.set_month (recP y none d hd hm mi se n off) v = .ok p' ↔
      (1 ≤ v ∧ v ≤ 12) ∧ p' = recP y (some v) d hd hm mi se n off :=
  setGuarded_none _ _ v (inRange_ok v 1 12) (fun f => recP y f d hd hm mi se n off) p'
theorem st_day (y mo hd hm mi se n off : Option Int) (v : Int) (p' : Parsed) :
    Parsed.set_day (recP y mo none hd hm mi se n off) v = .ok p' ↔
      (1 ≤ v ∧ v ≤ 31) ∧ p' = recP y mo (some v) hd hm mi se n off :=
  setGuarded_none _ _ v (inRange_ok v 1 31) (fun f => recP y mo f hd hm mi se n off) p'
theorem st_hour (y mo d mi se n off : Option Int) (v : Int) (p' : Parsed) :
    Parsed.set_hour (recP y mo d none none mi se n off) v = .ok p' ↔
      (0 ≤ v ∧ v ≤ 23) ∧ p' = recP y mo d (some (if v ≤ 11 then 0 else 1)) (some (if v ≤ 11 then v else v - 12)) mi se n off := by
  rw [set_hour_ok]
  exact ⟨fun ⟨h, _, _, e⟩ => ⟨h, e⟩, fun ⟨h, e⟩ => ⟨h, Or.inl rfl, Or.inl rfl, e⟩⟩
theorem st_minute (y mo d hd hm se n off : Option Int) (v : Int) (p' : Parsed) :
    Parsed.set_minute (recP y mo d hd hm none se n off) v = .ok p' ↔
      (0 ≤ v ∧ v ≤ 59) ∧ p' = recP y mo d hd hm (some v) se n off :=
  setGuarded_none _ _ v (inRange_ok v 0 59) (fun f => recP y mo d hd hm f se n off) p'
theorem st_second (y mo d hd hm mi n off : Option Int) (v : Int) (p' : Parsed) :
    Parsed.set_second (recP y mo d hd hm mi none n off) v = .ok p' ↔
      (0 ≤ v ∧ v ≤ 60) ∧ p' = recP y mo d hd hm mi (some v) n off :=
  setGuarded_none _ _ v (inRange_ok v 0 60) (fun f => recP y mo d hd hm mi f n off) p'
theorem st_nano (y mo d hd hm mi se off : Option Int) (v : Int) (p' : Parsed) :
    Parsed.set_nanosecond (recP y mo d hd hm mi se none off) v = .ok p' ↔
      (0 ≤ v ∧ v ≤ 999999999) ∧ p' = recP y mo d hd hm mi se (some v) off :=
  setGuarded_none _ _ v (inRange_ok v 0 999999999) (fun f => recP y mo d hd hm mi se f off) p'
theorem st_offset (y mo d hd hm mi se n : Option Int) (v : Int) (p' : Parsed) :
    Parsed.set_offset (recP y mo d hd hm mi se n none) v = .ok p' ↔
      (-2147483648 ≤ v ∧ v ≤ 2147483647) ∧ p' = recP y mo d hd hm mi se n (some v) :=
  setGuarded_none _ _ v (toI32_ok v) (fun f => recP y mo d hd hm mi se n f) p'

/-- the offset shown, as sign times magnitude (the form the offset scanner computes) -/
theorem offsetOf_mul (f : Fields) :
    offsetOf f = (if f.neg then -1 else 1) * ((f.offH : Int) * 3600 + (f.offM : Int) * 60) := by
  unfold offsetOf; cases f.neg <;> simp

theorem offsetOf_eq (neg : Bool) (H M : Nat) (fr : List Nat) (a b c d e g : Nat) :
    offsetOf ⟨a, b, c, d, e, g, fr, false, neg, H, M⟩ =
      (if neg then -1 else 1) * ((H : Int) * 3600 + (M : Int) * 60) :=
  offsetOf_mul _

/-- the offset reader in the mode RFC 3339 uses, inverted into the specification's `OffsetText` -/
theorem tz_spec_inv (s rest : List Nat) (off : Int)
    (h : timezone_offset s .charColon true false true = .ok (rest, off)) :
    ∃ (offt : List Nat) (zulu neg : Bool) (H M : Nat), OffsetText offt zulu neg H M ∧ s = offt ++ rest ∧
      M ≤ 59 ∧ off = (if neg then -1 else 1) * ((H : Int) * 3600 + (M : Int) * 60) := by
  rcases tzoffset_colon_inv s rest off true true h with ⟨_, hz, rfl⟩ | ⟨sg, neg, h1, h2, m1, m2, hsg, _, rfl, a1, a2, a3, a4, a5, rfl⟩
  · rcases hz with rfl | rfl
    · exact ⟨[90], true, false, 0, 0, OffsetText.upperZ, rfl, by omega, by simp⟩
    · exact ⟨[122], true, false, 0, 0, OffsetText.lowerZ, rfl, by omega, by simp⟩
  · rw [← isDig_iff] at a1 a2 a3 a4
    have hm : num2 m1 m2 ≤ 59 := by
      have := a3; have := a4; unfold IsDig at *; simp only [num2, dval]; omega
    rw [← num2_eq, ← num2_eq]
    rcases hsg with ⟨rfl, rfl⟩ | ⟨rfl, rfl⟩ | ⟨rfl, rfl⟩
    · exact ⟨_, false, false, _, _, OffsetText.plus h1 h2 m1 m2 ⟨a1, a2, a3, a4⟩, rfl, hm, rfl⟩
    · exact ⟨_, false, true, _, _, OffsetText.hyphen h1 h2 m1 m2 ⟨a1, a2, a3, a4⟩, rfl, hm, rfl⟩
    · exact ⟨_, false, true, _, _, OffsetText.minus h1 h2 m1 m2 ⟨a1, a2, a3, a4⟩, rfl, hm, rfl⟩

/-- and the converse -/
theorem tz_spec_ok (offt : List Nat) (zulu neg : Bool) (H M : Nat) (ho : OffsetText offt zulu neg H M)
    (hm : M ≤ 59) (rest : List Nat) :
    timezone_offset (offt ++ rest) .charColon true false true =
      .ok (rest, (if neg then -1 else 1) * ((H : Int) * 3600 + (M : Int) * 60)) := by
  have numeric : ∀ (sg : List Nat) (neg : Bool) (h1 h2 m1 m2 : Nat), SignBytes sg neg →
      IsDig h1 ∧ IsDig h2 ∧ IsDig m1 ∧ IsDig m2 → num2 m1 m2 ≤ 59 →
      timezone_offset (sg ++ h1 :: h2 :: 58 :: m1 :: m2 :: rest) .charColon true false true =
        .ok (rest, (if neg then -1 else 1) * ((num2 h1 h2 : Int) * 3600 + (num2 m1 m2 : Int) * 60)) := by
    intro sg neg h1 h2 m1 m2 hsg ⟨d1, d2, d3, d4⟩ hm
    have hm1 : m1 ≤ 53 := by
      have := d3; have := d4; unfold IsDig at *; simp only [num2, dval] at hm; omega
    rw [num2_eq, num2_eq]
    exact tzoffset_colon_ok sg neg h1 h2 m1 m2 rest true true hsg (fun _ => rfl)
      ((isDig_iff _).mp d1) ((isDig_iff _).mp d2) ((isDig_iff _).mp d3) ((isDig_iff _).mp d4) hm1
  cases ho with
  | upperZ => simpa using tzoffset_zulu 90 (Or.inl rfl) rest .charColon false true
  | lowerZ => simpa using tzoffset_zulu 122 (Or.inr rfl) rest .charColon false true
  | plus h1 h2 m1 m2 d => exact numeric [43] false h1 h2 m1 m2 (Or.inl ⟨rfl, rfl⟩) d hm
  | hyphen h1 h2 m1 m2 d => exact numeric [45] true h1 h2 m1 m2 (Or.inr (Or.inl ⟨rfl, rfl⟩)) d hm
  | minus h1 h2 m1 m2 d => exact numeric [226, 136, 146] true h1 h2 m1 m2 (Or.inr (Or.inr ⟨rfl, rfl⟩)) d hm

/-- an offset text starts with a byte that is neither a digit nor `.` -/
theorem offsetText_head (off : List Nat) (z n : Bool) (H M : Nat) (h : OffsetText off z n H M) :
    ∃ c t, off = c :: t ∧ ¬ IsDig c ∧ c ≠ 46 := by
  cases h <;> exact ⟨_, _, rfl, by unfold IsDig; omega, by omega⟩

theorem num4_le (a b c d : Nat) (h : IsDig a ∧ IsDig b ∧ IsDig c ∧ IsDig d) : num4 a b c d ≤ 9999 := by
  unfold IsDig at h; simp only [num4, dval]; omega

/-- the optional fraction: `.` and digits set the nanosecond field, any other text leaves the record alone -/
theorem frac_stage (y mo d hd hm mi se : Option Int) (s s' : List Nat) (p' : Parsed)
    (h : (match s with
      | 46 :: rest => setNano (recP y mo d hd hm mi se none none) (nanosecond rest)
      | _ => .ok (recP y mo d hd hm mi se none none, s) : PRes (Parsed × List Nat)) = .ok (p', s')) :
    ∃ fr ds, FracText fr ds ∧ s = fr ++ s' ∧
      p' = recP y mo d hd hm mi se (if ds = [] then none else some (fracNanos ds : Int)) none := by
  split at h
  · obtain ⟨v, hn, hs⟩ := (setNano_ok_iff ..).mp h
    obtain ⟨ds, a1, a2, rfl, a4, rfl⟩ := nanosecond_inv _ _ _ hn
    obtain ⟨_, rfl⟩ := (st_nano ..).mp hs
    have hne : ds ≠ [] := by intro e; rw [e] at a2; simp at a2
    exact ⟨46 :: ds, ds, FracText.present ds hne ((allDigits_iff ds).mpr a1), rfl, by rw [if_neg hne, fracNanos_eq]⟩
  · injection h with h; injection h with e1 e2
    exact ⟨[], [], FracText.absent, by simp [e2], by simp [← e1]⟩

/-- conversely, a fraction text in front of text that starts with neither a digit nor `.` is consumed whole -/
theorem frac_stage_ok (y mo d hd hm mi se : Option Int) (fr ds tail : List Nat) (hft : FracText fr ds)
    (c : Nat) (t : List Nat) (ht : tail = c :: t) (hc : ¬ IsDig c) (hc46 : c ≠ 46) :
    (match fr ++ tail with
      | 46 :: rest => setNano (recP y mo d hd hm mi se none none) (nanosecond rest)
      | _ => .ok (recP y mo d hd hm mi se none none, fr ++ tail) : PRes (Parsed × List Nat)) =
      .ok (recP y mo d hd hm mi se (if ds = [] then none else some (fracNanos ds : Int)) none, tail) := by
  cases hft with
  | absent =>
    subst ht
    rw [if_pos rfl, List.nil_append]
    split
    · rename_i r heq; injection heq with heq _; exact absurd heq hc46
    · rfl
  | present _ hne hd =>
    have hhead : NoDigitHead tail := by
      rw [ht]; exact noDigitHead_cons.mpr (by rw [isDig_iff] at hc; simpa using hc)
    rw [allDigits_iff] at hd
    rw [if_neg hne, List.cons_append, fracNanos_eq]
    exact (setNano_ok_iff ..).mpr ⟨_, nanosecond_digits ds _ hd (List.length_pos_iff.mpr hne) hhead,
      (st_nano ..).mpr ⟨by have := fracVal_lt ds hd; omega, rfl⟩⟩

/-- **the scanner accepts only the grammar** -/
theorem scan_sound (s rest : List Nat) (p : Parsed) (h : parse_rfc3339 Parsed.new s = .ok (p, rest)) :
    ∃ t f, s = t ++ rest ∧ Matches t f ∧ ScanValid f ∧ p = recOf f := by
  unfold parse_rfc3339 at h
  rw [new_eq] at h
  rw [field4_bind] at h
  obtain ⟨y1, y2, y3, y4, s1, p1, dy, rfl, hy, h⟩ := h
  obtain ⟨_, rfl⟩ := (st_year ..).mp hy
  rw [char_bind] at h
  obtain ⟨s2, rfl, h⟩ := h
  rw [field2_bind] at h
  obtain ⟨mo1, mo2, s3, p3, dmo, rfl, hmo, h⟩ := h
  obtain ⟨rmo, rfl⟩ := (st_month ..).mp hmo
  rw [char_bind] at h
  obtain ⟨s4, rfl, h⟩ := h
  rw [field2_bind] at h
  obtain ⟨d1, d2, s5, p5, dd, rfl, hd, h⟩ := h
  obtain ⟨rd, rfl⟩ := (st_day ..).mp hd
  rw [bind_ok_iff] at h
  obtain ⟨s6, h6, h⟩ := h
  have hsep : ∃ sep, (sep = 84 ∨ sep = 116 ∨ sep = 32) ∧ s5 = sep :: s6 := by
    cases s5 with
    | nil => cases h6
    | cons c r =>
      simp only at h6
      split at h6
      · rename_i hc; injection h6 with h6; exact ⟨c, by omega, by rw [h6]⟩
      · cases h6
  obtain ⟨sep, hsepv, rfl⟩ := hsep
  rw [field2_bind] at h
  obtain ⟨h1, h2, s7, p7, dh, rfl, hh, h⟩ := h
  obtain ⟨rh, rfl⟩ := (st_hour ..).mp hh
  rw [char_bind] at h
  obtain ⟨s8, rfl, h⟩ := h
  rw [field2_bind] at h
  obtain ⟨mi1, mi2, s9, p9, dmi, rfl, hmi, h⟩ := h
  obtain ⟨rmi, rfl⟩ := (st_minute ..).mp hmi
  rw [char_bind] at h
  obtain ⟨s10, rfl, h⟩ := h
  rw [field2_bind] at h
  obtain ⟨se1, se2, s11, p11, dse, rfl, hse, h⟩ := h
  obtain ⟨rse, rfl⟩ := (st_second ..).mp hse
  rw [bind_ok_iff] at h
  obtain ⟨⟨p12, s12⟩, h12, h⟩ := h
  obtain ⟨fr, ds, hft, rfl, rfl⟩ := frac_stage _ _ _ _ _ _ _ _ _ _ h12
  clear hy hmo hd hh hmi hse h6 h12
  rw [bind_ok_iff] at h
  obtain ⟨⟨s13, offv⟩, h13, h⟩ := h
  obtain ⟨offt, zulu, neg, H, M, hot, rfl, hM, hoffv⟩ := tz_spec_inv _ _ _ h13
  dsimp only at h
  split at h
  · cases h
  · rename_i hrange
    rw [bind_ok_iff] at h
    obtain ⟨p14, h14, h⟩ := h
    obtain ⟨_, rfl⟩ := (st_offset ..).mp h14
    injection h with h; injection h with e1 e2
    subst e1 e2 hoffv
    refine ⟨y1 :: y2 :: y3 :: y4 :: 45 :: mo1 :: mo2 :: 45 :: d1 :: d2 :: sep :: h1 :: h2 :: 58 :: mi1 :: mi2 ::
        58 :: se1 :: se2 :: (fr ++ offt),
      ⟨num4 y1 y2 y3 y4, num2 mo1 mo2, num2 d1 d2, num2 h1 h2, num2 mi1 mi2, num2 se1 se2, ds, zulu, neg, H, M⟩,
      by simp, ?_, ?_, ?_⟩
    · exact ⟨y1, y2, y3, y4, mo1, mo2, d1, d2, sep, h1, h2, mi1, mi2, se1, se2, fr, offt, dy, dmo, dd, hsepv, dh, dmi,
        dse, hft, hot, by simp, rfl, rfl, rfl, rfl, rfl, rfl⟩
    · unfold ScanValid
      dsimp only
      refine ⟨by omega, by omega, by omega, by omega, by omega, by omega, by omega, hM, ?_⟩
      cases neg <;> simp at hrange <;> omega
    · unfold recOf
      rw [offsetOf_mul]

/-! ### the scanner accepts the whole grammar -/

theorem ok_bind {α β : Type} (a : α) (k : α → PRes β) : ((Except.ok a : PRes α) >>= k) = k a := rfl

/-- the tail of the scanner: offset, range check, `set_offset` -/
theorem offset_tail (y mo d hd hm mi se n : Option Int) (offt : List Nat) (zulu neg : Bool) (H M : Nat)
    (hot : OffsetText offt zulu neg H M) (hM : M ≤ 59)
    (hb : (H : Int) * 3600 + (M : Int) * 60 ≤ Parse.MAX_RFC3339_OFFSET) (hmax : Parse.MAX_RFC3339_OFFSET ≤ 2147483647)
    (rest : List Nat) :
    (do
      let __x_1 ← timezone_offset (offt ++ rest) ColonMode.charColon true false true
      if __x_1.2 < -Parse.MAX_RFC3339_OFFSET ∨ __x_1.2 > Parse.MAX_RFC3339_OFFSET then Except.error PErr.outOfRange
        else do
          let p ← (recP y mo d hd hm mi se n none).set_offset __x_1.2
          pure (p, __x_1.1) : PRes (Parsed × List Nat)) =
      .ok (recP y mo d hd hm mi se n (some ((if neg then -1 else 1) * ((H : Int) * 3600 + (M : Int) * 60))), rest) := by
  rw [tz_spec_ok offt zulu neg H M hot hM rest, ok_bind]
  dsimp only
  have hr : ¬ ((if neg = true then -1 else 1) * ((H : Int) * 3600 + (M : Int) * 60) < -Parse.MAX_RFC3339_OFFSET ∨
      (if neg = true then -1 else 1) * ((H : Int) * 3600 + (M : Int) * 60) > Parse.MAX_RFC3339_OFFSET) := by
    cases neg <;> simp <;> omega
  rw [if_neg hr]
  rw [(st_offset ..).mpr ⟨by cases neg <;> simp <;> omega, rfl⟩]
  rfl

theorem max_offset_small : Parse.MAX_RFC3339_OFFSET ≤ 2147483647 := by decide

theorem scan_complete (t : List Nat) (f : Fields) (hm : Matches t f) (hv : ScanValid f) (rest : List Nat) :
    parse_rfc3339 Parsed.new (t ++ rest) = .ok (recOf f, rest) := by
  obtain ⟨y1, y2, y3, y4, mo1, mo2, d1, d2, sep, h1, h2, mi1, mi2, s1, s2, fr, offt, dy, dmo, dd, hsep, dh, dmi, ds,
    hft, hot, rfl, ey, emo, ed, eh, emi, es⟩ := hm
  unfold ScanValid at hv
  rw [emo, ed, eh, emi, es] at hv
  obtain ⟨v1, v2, v3, v4, v5, v6, v7, v8, v9⟩ := hv
  have hy4 := num4_le y1 y2 y3 y4 dy
  obtain ⟨c, ot, ec, hc, hc46⟩ := offsetText_head offt _ _ _ _ hot
  unfold parse_rfc3339 recOf
  rw [new_eq, offsetOf_mul, ey, emo, ed, eh, emi, es]
  simp only [List.cons_append, List.nil_append, List.append_assoc]
  refine (field4_bind ..).mpr ⟨y1, y2, y3, y4, _, _, dy, rfl, (st_year ..).mpr ⟨by omega, rfl⟩, ?_⟩
  refine (char_bind ..).mpr ⟨_, rfl, ?_⟩
  refine (field2_bind ..).mpr ⟨mo1, mo2, _, _, dmo, rfl, (st_month ..).mpr ⟨by omega, rfl⟩, ?_⟩
  refine (char_bind ..).mpr ⟨_, rfl, ?_⟩
  refine (field2_bind ..).mpr ⟨d1, d2, _, _, dd, rfl, (st_day ..).mpr ⟨by omega, rfl⟩, ?_⟩
  dsimp only
  rw [if_pos (by omega), ok_bind]
  refine (field2_bind ..).mpr ⟨h1, h2, _, _, dh, rfl, (st_hour ..).mpr ⟨by omega, rfl⟩, ?_⟩
  refine (char_bind ..).mpr ⟨_, rfl, ?_⟩
  refine (field2_bind ..).mpr ⟨mi1, mi2, _, _, dmi, rfl, (st_minute ..).mpr ⟨by omega, rfl⟩, ?_⟩
  refine (char_bind ..).mpr ⟨_, rfl, ?_⟩
  refine (field2_bind ..).mpr ⟨s1, s2, _, _, ds, rfl, (st_second ..).mpr ⟨by omega, rfl⟩, ?_⟩
  dsimp only
  refine (bind_ok_iff ..).mpr
    ⟨_, frac_stage_ok _ _ _ _ _ _ _ fr _ _ hft c (ot ++ rest) (by rw [ec, List.cons_append]) hc hc46, ?_⟩
  simpa using offset_tail _ _ _ _ _ _ _ _ offt _ _ _ _ hot v8 v9 max_offset_small rest

/-! ### resolution of the scanned record: `Parsed::to_datetime` -/

theorem date_rec (y : Int) (m d : Nat) (hd hm mi se n off : Option Int) :
    Parsed.to_naive_date (recP (some y) (some (m : Int)) (some (d : Int)) hd hm mi se n off) =
      if MIN_YEAR ≤ y ∧ y ≤ MAX_YEAR ∧ validYmd y m d = true then .ok (.ok (dateOfYo y (ordinalOf y m d)))
      else .ok (.error .outOfRange) := by
  unfold Parsed.to_naive_date
  have h1 : Parsed.resolve_year (some y) none none = .ok (some y) := by simp [Parsed.resolve_year]
  have h2 : Parsed.resolve_year none none none = .ok none := by simp [Parsed.resolve_year]
  have h3 : Parsed.dateArm (recP (some y) (some (m : Int)) (some (d : Int)) hd hm mi se n off) (some y) none =
      .ymd y m d := by simp [recP, Parsed.dateArm]
  simp only [recP] at h3 ⊢
  rw [h1, h2]
  dsimp only
  rw [h3]
  unfold Parsed.armDate
  dsimp only
  rw [Int.toNat_natCast, Int.toNat_natCast, ctor_ymd']
  by_cases hv : MIN_YEAR ≤ y ∧ y ≤ MAX_YEAR ∧ validYmd y m d = true
  · rw [if_pos hv, if_pos hv]
    obtain ⟨o1, o2⟩ := ordinal_bounds y m d hv.2.2
    obtain ⟨w, hw⟩ := iso_week_ok y (ordinalOf y m d) ⟨hv.1, hv.2.1, o1, o2⟩
    simp [Parsed.okOr, Parsed.RP.bind, Parsed.verify_isoweekdate, hw, Parsed.andR, Parsed.verify_ordinal, Res.bind]
  · rw [if_neg hv, if_neg hv]
    simp [Parsed.okOr, Parsed.RP.bind]

theorem time_rec (y mo d off : Option Int) (h mi se : Int) (n : Option Int) (hh : 0 ≤ h ∧ h ≤ 23)
    (hmi : 0 ≤ mi ∧ mi ≤ 59) (hse : 0 ≤ se ∧ se ≤ 60) (hn : ∀ v, n = some v → 0 ≤ v ∧ v ≤ 999999999) :
    Parsed.to_naive_time (recP y mo d (some (if h ≤ 11 then 0 else 1)) (some (if h ≤ 11 then h else h - 12))
      (some mi) (some se) n off) =
    .ok ⟨h * 3600 + mi * 60 + (if se = 60 then 59 else se), (if se = 60 then 1000000000 else 0) + n.getD 0⟩ := by
  unfold Parsed.to_naive_time
  have c1 : (0 : Int) ≤ (if h ≤ 11 then 0 else 1) ∧ (if h ≤ 11 then (0 : Int) else 1) ≤ 1 := by split <;> omega
  have c2 : 0 ≤ (if h ≤ 11 then h else h - 12) ∧ (if h ≤ 11 then h else h - 12) ≤ 11 := by split <;> omega
  have c5 : (if h ≤ 11 then (0 : Int) else 1) * 12 + (if h ≤ 11 then h else h - 12) = h := by split <;> omega
  simp only [recP, Option.getD_some, c1, c2, hmi, hse, and_self, if_true, c5]
  refine (time_tail_char _ h mi (if se = 60 then 59 else se) (if se = 60 then 1000000000 else 0) (by omega) (by omega)
    (by split <;> omega) (by split <;> simp_all) _).mpr ?_
  cases n with
  | none => simp
  | some v => simp [hn v rfl]

theorem secs_consts : SECS_MIN = -8334601228800 ∧ SECS_MAX = 8210266876799 ∧ TS_MIN = -8334601228800 ∧
    TS_MAX = 8210266876799 := by decide

theorem dayNum_0_9999 (y : Int) (o : Int) (hy : 0 ≤ y ∧ y ≤ 9999) (ho : 1 ≤ o ∧ o ≤ 366) :
    -366 ≤ dayNumYo y o ∧ dayNumYo y o ≤ 3652425 := by
  unfold dayNumYo daysBeforeYear; omega

/-- **resolution of the scanned record**, existing date -/
theorem datetime_rec (y : Int) (m d : Nat) (h mi se : Int) (n : Option Int) (off : Int)
    (hy : 0 ≤ y ∧ y ≤ 9999) (hv : validYmd y m d = true) (hh : 0 ≤ h ∧ h ≤ 23)
    (hmi : 0 ≤ mi ∧ mi ≤ 59) (hse : 0 ≤ se ∧ se ≤ 60) (hn : ∀ v, n = some v → 0 ≤ v ∧ v ≤ 999999999)
    (hoff : -86400 < off ∧ off < 86400) :
    ∃ z, Parsed.to_datetime (recP (some y) (some (m : Int)) (some (d : Int)) (some (if h ≤ 11 then 0 else 1))
        (some (if h ≤ 11 then h else h - 12)) (some mi) (some se) n (some off)) = .ok (.ok z) ∧
      ZInv z ∧ z.off = off ∧
      instSecs z.utc = (dayNum y m d - EPOCH_DAY) * 86400 + (h * 3600 + mi * 60 + (if se = 60 then 59 else se)) - off ∧
      z.utc.time.frac = (if se = 60 then 1000000000 else 0) + n.getD 0 := by
  have hMIN : MIN_YEAR = -262143 := rfl
  have hMAX : MAX_YEAR = 262142 := rfl
  have hyr : MIN_YEAR ≤ y ∧ y ≤ MAX_YEAR := by omega
  obtain ⟨o1, o2⟩ := ordinal_bounds y m d hv
  obtain ⟨hdi, hdn⟩ := dateInv_of_yo y (ordinalOf y m d) hyr ⟨o1, o2⟩
  have hyl : yearLen y ≤ 366 := by unfold yearLen; split <;> omega
  generalize hT : (⟨h * 3600 + mi * 60 + (if se = 60 then 59 else se),
    (if se = 60 then 1000000000 else 0) + n.getD 0⟩ : Time) = T
  have hTs : T.secs = h * 3600 + mi * 60 + (if se = 60 then 59 else se) := by rw [← hT]
  have hTf : T.frac = (if se = 60 then 1000000000 else 0) + n.getD 0 := by rw [← hT]
  have hnb : 0 ≤ n.getD 0 ∧ n.getD 0 ≤ 999999999 := by
    cases n with
    | none => simp
    | some v => simpa using hn v rfl
  have hTv : TValid T := by
    unfold TValid; rw [hTs, hTf]
    refine ⟨?_, ?_, ?_, ?_⟩ <;> split <;> omega
  let ℓ : NaiveDT := ⟨dateOfYo y (ordinalOf y m d), T⟩
  have hℓ : NDTInv ℓ := ⟨hdi, hTv⟩
  have hsecs : instSecs ℓ = (dayNumYo y (ordinalOf y m d) - EPOCH_DAY) * 86400 + T.secs := by
    show (dayNumOf (dateOfYo y (ordinalOf y m d)) - EPOCH_DAY) * 86400 + T.secs = _
    rw [hdn]
  obtain ⟨c1, c2, c3, c4⟩ := secs_consts
  have hb := dayNum_0_9999 y (ordinalOf y m d) hy (by omega)
  have hE : EPOCH_DAY = 719163 := rfl
  have hTb : 0 ≤ T.secs ∧ T.secs < 86400 := ⟨hTv.1, hTv.2.1⟩
  have hext : ExtNDTInv ℓ := ⟨((dateInv_iff ℓ.date).mp hℓ.1).1, hℓ.2⟩
  obtain ⟨r, f1, f2, f3, _⟩ := from_local_spec off ℓ hoff hext
  have hin : InRangeSecs (instSecs ℓ - off) := by
    unfold InRangeSecs; rw [hsecs, c1, c2, hE]; omega
  have hr : r ≠ none := fun e => f3 e hin
  obtain ⟨z, rfl⟩ := Option.ne_none_iff_exists'.mp hr
  obtain ⟨g1, g2, g3, g4, g5⟩ := f2 z rfl
  refine ⟨z, ?_, ⟨⟨g5 hdi, g2.2⟩, by rw [g1]; exact hoff⟩, g1, ?_, by rw [g4, ← hTf]⟩
  · unfold Parsed.to_datetime
    rw [recP_offset]
    dsimp only
    unfold Parsed.to_naive_datetime_with_offset
    rw [date_rec, if_pos ⟨hyr.1, hyr.2, hv⟩, time_rec _ _ _ _ h mi se n hh hmi hse hn, hT, recP_timestamp]
    dsimp only
    rw [timestamp_spec ℓ hℓ]
    have hck : ckI64 (instSecs ℓ - off) = .ok (instSecs ℓ - off) :=
      ckI64_ok (by rw [hsecs, hE]; omega) (by rw [hsecs, hE]; omega)
    simp only [Res.bind, hck]
    have he : Zoned.east_opt off = some off := by unfold Zoned.east_opt; rw [if_pos hoff]
    simp only [Parsed.RP.bind, he]
    have f1' : Zoned.from_local_datetime off ⟨dateOfYo y (ordinalOf y m d), T⟩ = .ok (some z) := f1
    rw [f1']
  · rw [g3, hsecs, hTs]; rfl

/-- a non-existing date is refused with `OUT_OF_RANGE` -/
theorem datetime_rec_bad (y : Int) (m d : Nat) (h mi se : Int) (n : Option Int) (off : Int)
    (hv : validYmd y m d = false) (hh : 0 ≤ h ∧ h ≤ 23)
    (hmi : 0 ≤ mi ∧ mi ≤ 59) (hse : 0 ≤ se ∧ se ≤ 60) (hn : ∀ v, n = some v → 0 ≤ v ∧ v ≤ 999999999) :
    Parsed.to_datetime (recP (some y) (some (m : Int)) (some (d : Int)) (some (if h ≤ 11 then 0 else 1))
        (some (if h ≤ 11 then h else h - 12)) (some mi) (some se) n (some off)) = .ok (.error .outOfRange) := by
  unfold Parsed.to_datetime
  rw [recP_offset]
  dsimp only
  unfold Parsed.to_naive_datetime_with_offset
  rw [date_rec, if_neg (by rw [hv]; simp), time_rec _ _ _ _ h mi se n hh hmi hse hn, recP_timestamp]
  rfl

/-! ### the reader: scanner, "fully consumed", resolution -/

theorem max_offset_eq : Parse.MAX_RFC3339_OFFSET = 86340 := by decide

theorem matches_bounds (t : List Nat) (f : Fields) (hm : Matches t f) :
    f.year ≤ 9999 ∧ AllDigits f.fracDigits := by
  obtain ⟨y1, y2, y3, y4, _, _, _, _, _, _, _, _, _, _, _, fr, _, dy, _, _, _, _, _, _, hft, _, _, ey, _⟩ := hm
  refine ⟨ey ▸ num4_le y1 y2 y3 y4 dy, ?_⟩
  generalize f.fracDigits = ds at hft
  cases hft with
  | absent => exact allDigits_nil
  | present ds hne hd => exact (allDigits_iff _).mp hd

theorem monthLen_le (y : Int) (m : Nat) : monthLen y m ≤ 31 := by
  unfold monthLen; split <;> (try split) <;> omega

theorem validYmd_bounds (y : Int) (m d : Nat) (h : validYmd y m d = true) : 1 ≤ m ∧ m ≤ 12 ∧ 1 ≤ d ∧ d ≤ 31 := by
  unfold validYmd at h
  simp only [Bool.and_eq_true, decide_eq_true_eq] at h
  have := monthLen_le y m
  omega

/-- validity in the sense of the property = the scanner's range checks + the calendar check -/
theorem valid_iff (f : Fields) : Valid f ↔ ScanValid f ∧ validYmd f.year f.month f.day = true := by
  unfold Valid ScanValid
  rw [max_offset_eq]
  constructor
  · rintro ⟨a, b, c, d, e, g⟩
    obtain ⟨m1, m2, m3, m4⟩ := validYmd_bounds _ _ _ a
    exact ⟨⟨m1, m2, m3, m4, by omega, by omega, d, by omega, by omega⟩, a⟩
  · rintro ⟨⟨_, _, _, _, a, b, c, d, e⟩, g⟩
    exact ⟨g, by omega, by omega, c, by omega, by omega⟩

theorem fracNanos_nil : fracNanos [] = 0 := by decide

/-- the nanosecond field of the scanned record is in range -/
theorem nano_range (f : Fields) (hd : AllDigits f.fracDigits) (v : Int)
    (hv : (if f.fracDigits = [] then none else some (fracNanos f.fracDigits : Int)) = some v) :
    0 ≤ v ∧ v ≤ 999999999 := by
  split at hv
  · cases hv
  · injection hv with hv
    have := fracVal_lt _ hd
    rw [← fracNanos_eq] at this
    omega

/-- what `to_datetime` makes of the scanned record when the date exists -/
theorem resolve_ok (f : Fields) (hy : f.year ≤ 9999) (hd : AllDigits f.fracDigits) (hs : ScanValid f)
    (hv : validYmd f.year f.month f.day = true) :
    ∃ z, Parsed.to_datetime (recOf f) = .ok (.ok z) ∧ Denotes f z := by
  obtain ⟨s1, s2, s3, s4, s5, s6, s7, s8, s9⟩ := hs
  rw [max_offset_eq] at s9
  have hoff : -86400 < offsetOf f ∧ offsetOf f < 86400 := by unfold offsetOf; split <;> omega
  have hn := nano_range f hd
  obtain ⟨z, h1, h2, h3, h4, h5⟩ := datetime_rec (f.year : Int) f.month f.day (f.hour : Int) (f.minute : Int)
    (f.second : Int) _ (offsetOf f) (by omega) hv (by omega) (by omega) (by omega) hn hoff
  -- the test `(↑f.second : Int) = 60` of the record is the specification's `f.second = 60`
  have c60 : ((f.second : Int) = 60) = (f.second = 60) := propext (by omega)
  refine ⟨z, h1, h2, h3, ?_, ?_⟩
  · rw [h4]; unfold wallSecsOf
    simp only [c60]; omega
  · have e : (if f.fracDigits = [] then none else some (fracNanos f.fracDigits : Int)).getD 0 =
        (fracNanos f.fracDigits : Int) := by
      split
      · rename_i h; rw [h, fracNanos_nil]; rfl
      · rfl
    rw [h5, e]; unfold fracOf
    simp only [c60]; omega

/-- … and when it does not -/
theorem resolve_bad (f : Fields) (hd : AllDigits f.fracDigits) (hs : ScanValid f)
    (hv : validYmd f.year f.month f.day = false) :
    Parsed.to_datetime (recOf f) = .ok (.error .outOfRange) := by
  obtain ⟨s1, s2, s3, s4, s5, s6, s7, s8, s9⟩ := hs
  have hn := nano_range f hd
  exact datetime_rec_bad (f.year : Int) f.month f.day (f.hour : Int) (f.minute : Int) (f.second : Int) _
    (offsetOf f) hv (by omega) (by omega) (by omega) hn

open Chrono.M.Rfc3339 in
/-- **the reader on any text**: it returns the value denoted by a valid reading of the text, or an error —
never a panic -/
theorem parse_cases (s : List Nat) :
    (∃ f v, Matches s f ∧ Valid f ∧ Denotes f v ∧ parse_from_rfc3339 s = .ok (.ok v)) ∨
      ∃ e, parse_from_rfc3339 s = .ok (.error e) := by
  unfold parse_from_rfc3339
  split
  · rename_i e _; exact Or.inr ⟨e, rfl⟩
  · rename_i p rest hp
    split
    · obtain ⟨t, f, rfl, hm, hsv, rfl⟩ := scan_sound _ _ _ hp
      rw [List.append_nil]
      obtain ⟨b1, b4⟩ := matches_bounds t f hm
      cases hv : validYmd f.year f.month f.day with
      | true =>
        obtain ⟨z, hz, hden⟩ := resolve_ok f b1 b4 hsv hv
        exact Or.inl ⟨f, z, hm, (valid_iff f).mpr ⟨hsv, hv⟩, hden, hz⟩
      | false => exact Or.inr ⟨_, resolve_bad f b4 hsv hv⟩
    · exact Or.inr ⟨_, rfl⟩

open Chrono.M.Rfc3339 in
/-- **reader, completeness**: every valid reading is accepted -/
theorem parse_complete (s : List Nat) (f : Fields) (hm : Matches s f) (hv : Valid f) :
    ∃ v, parse_from_rfc3339 s = .ok (.ok v) ∧ Denotes f v := by
  obtain ⟨hsv, hymd⟩ := (valid_iff f).mp hv
  obtain ⟨b1, b4⟩ := matches_bounds s f hm
  obtain ⟨z, hz, hden⟩ := resolve_ok f b1 b4 hsv hymd
  refine ⟨z, ?_, hden⟩
  unfold parse_from_rfc3339
  have := scan_complete s f hm hsv []
  rw [List.append_nil] at this
  rw [this]
  exact hz

end Chrono.Proofs.Rfc3339
