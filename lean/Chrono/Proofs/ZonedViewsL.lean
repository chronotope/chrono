/-
  C04: the ISO week and the derived `Datelike` / `Timelike` views of a zone-aware value, on every wall
  clock incl. the two headroom days.  C01's `iso_week_spec'` (years of the range) is extended to the
  headroom dates `BEFORE_MIN` (a Wednesday whose ISO week is week 1 of `MIN_YEAR`) and `AFTER_MAX`
  (a Tuesday in week 1 of `MAX_YEAR + 1`) by kernel evaluation.  Namespace `Chrono.Proofs.ZNV`.
-/
import Chrono.Proofs.ZonedStepL
import Chrono.Proofs.IsoL
import Chrono.Model.ZonedDerived

namespace Chrono.Proofs.ZNV
open Chrono Chrono.M Chrono.Spec Chrono.Proofs Chrono.Proofs.ZN Chrono.Extracted

/-- the ISO week of the two headroom days, with the Thursday of their week in year-ordinal form -/
theorem iso_week_headroom :
    Date.iso_week Date.BEFORE_MIN =
      .ok (MIN_YEAR * 1024 + (((1 - 1) / 7 + 1 : Nat) : Int) * 16 + ((flagsOf MIN_YEAR : Nat) : Int)) ∧
    dayNumYo MIN_YEAR (1 : Nat) = isoThursday (dayNumOf Date.BEFORE_MIN) ∧ 1 ≤ yearLen MIN_YEAR ∧
    Date.iso_week Date.AFTER_MAX =
      .ok ((MAX_YEAR + 1) * 1024 + (((3 - 1) / 7 + 1 : Nat) : Int) * 16 + ((flagsOf (MAX_YEAR + 1) : Nat) : Int)) ∧
    dayNumYo (MAX_YEAR + 1) (3 : Nat) = isoThursday (dayNumOf Date.AFTER_MAX) ∧ 3 ≤ yearLen (MAX_YEAR + 1) := by
  decide +kernel

/-- `iso_week` on every date a wall clock can have: the Thursday of the date's week is the `ot`-th day
of year `Y`, the packed result carries `Y`, week `(ot − 1)/7 + 1` and the flags of `Y` -/
theorem iso_week_wall (d : Date) (h : HeadOrIn d) :
    ∃ (Y : Int) (ot : Nat), 1 ≤ ot ∧ ot ≤ yearLen Y ∧ dayNumYo Y ot = isoThursday (dayNumOf d) ∧
      Date.iso_week d = .ok (Y * 1024 + (((ot - 1) / 7 + 1 : Nat) : Int) * 16 + ((flagsOf Y : Nat) : Int)) := by
  obtain ⟨b1, b2, b3, a1, a2, a3⟩ := iso_week_headroom
  rcases h with h | h | h
  · have he := (dateInv_iff d).mp h
    obtain ⟨e, _, _, v3, v4⟩ := ext_eq d he.1
    have hyl := yearLen_ge d.year
    obtain ⟨Y, ot, h1, h2, h3, h4⟩ := iso_week_spec' d.year d.ordinal.toNat he.2 ⟨v3, v4⟩
    refine ⟨Y, ot, h1, h2, ?_, ?_⟩
    · rw [h3]
      congr 1
      conv => rhs; rw [e]
      rw [dayNumOf_yo _ _ (by omega)]
    · conv => lhs; rw [e]
      exact h4
  · subst h; exact ⟨MIN_YEAR, 1, by omega, b3, b2, b1⟩
  · subst h; exact ⟨MAX_YEAR + 1, 3, by omega, a3, a2, a1⟩

theorem pred32_ok (x : Int) (h : 1 ≤ x ∧ x ≤ 4294967296) : Zoned.pred32 x = .ok (x - 1) :=
  ckU32_ok (by omega) (by omega)

/-- the derived views, from the primary accessor values of a value whose wall clock is `l` -/
theorem derived_views (z : Zoned) (l : NaiveDT) (hl : Zoned.overflowing_naive_local z = .ok l)
    (y : Int) (m d : Nat) (o h mi s : Int)
    (hy : l.date.year = y) (hm : l.date.month = .ok m) (hd : l.date.day = .ok d) (ho : l.date.ordinal = o)
    (hh : l.time.hour = h) (hmi : l.time.minute = mi) (hs : l.time.second = s)
    (by_ : -262144 ≤ y ∧ y ≤ 262143) (bm : 1 ≤ m ∧ m ≤ 12) (bd : 1 ≤ d ∧ d ≤ 31) (bo : 1 ≤ o ∧ o ≤ 366)
    (bh : 0 ≤ h ∧ h < 24) (bmi : 0 ≤ mi ∧ mi < 60) (bs : 0 ≤ s ∧ s < 60) :
    Zoned.month0 z = .ok ((m : Int) - 1) ∧ Zoned.day0 z = .ok ((d : Int) - 1) ∧
    Zoned.ordinal0 z = .ok (o - 1) ∧ Zoned.quarter_v z = .ok (((m : Int) - 1) / 3 + 1) ∧
    Zoned.year_ce_v z = .ok (if y < 1 then (false, 1 - y) else (true, y)) ∧
    Zoned.hour12 z = .ok (decide (h ≥ 12), if h % 12 = 0 then 12 else h % 12) ∧
    Zoned.num_seconds_from_midnight z = .ok (h * 3600 + mi * 60 + s) := by
  refine ⟨?_, ?_, ?_, ?_, ?_, ?_, ?_⟩
  · unfold Zoned.month0; rw [hl, rbind_ok, hm, rbind_ok]; exact pred32_ok _ (by omega)
  · unfold Zoned.day0; rw [hl, rbind_ok, hd, rbind_ok]; exact pred32_ok _ (by omega)
  · unfold Zoned.ordinal0; rw [hl, rbind_ok, ho]; exact pred32_ok _ (by omega)
  · unfold Zoned.quarter_v Zoned.month; rw [hl, rbind_ok, hm, rbind_ok, pred32_ok _ (by omega), rbind_ok]
  · unfold Zoned.year_ce_v Zoned.year; rw [hl, rbind_ok, rbind_ok, hy]
    by_cases c : y < 1
    · rw [if_pos c, if_pos c, ckI32_ok (by omega) (by omega), rbind_ok, asU32_id (by omega) (by omega)]
    · rw [if_neg c, if_neg c, asU32_id (by omega) (by omega)]
  · unfold Zoned.hour12 Zoned.hour; rw [hl, rbind_ok, rbind_ok, hh]
  · unfold Zoned.num_seconds_from_midnight Zoned.hour Zoned.minute Zoned.second
    rw [hl, rbind_ok, rbind_ok, rbind_ok, rbind_ok, rbind_ok, rbind_ok, hh, hmi, hs,
      ckU32_ok (by omega) (by omega), rbind_ok, ckU32_ok (by omega) (by omega), rbind_ok,
      ckU32_ok (by omega) (by omega), rbind_ok, ckU32_ok (by omega) (by omega)]

end Chrono.Proofs.ZNV
