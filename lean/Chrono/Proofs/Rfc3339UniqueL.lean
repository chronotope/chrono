/-
  C10, gaps G3–G5: a text has at most one reading in the grammar (`matches_unique`); the calendar date
  of a day number is unique (`ymd_of_dayNum_unique`, from C01's `ymd_unique` and the monotone
  `daysBeforeYear`); the `AutoSi` digit count is the least of 0/3/6/9 that loses nothing.
  Namespace `Chrono.Proofs.Rfc3339U`.
-/
import Chrono.Proofs.Rfc3339WriteL

namespace Chrono.Proofs.Rfc3339U
open Chrono Chrono.M Chrono.Spec Chrono.Spec.Rfc3339 Chrono.Proofs

/-! ### G3: one reading per text -/

/-- a run of digits followed by a non-digit splits in one way only -/
theorem digits_split : ∀ (ds ds' : List Nat) (c c' : Nat) (t t' : List Nat),
    (∀ x ∈ ds, IsDig x) → (∀ x ∈ ds', IsDig x) → ¬ IsDig c → ¬ IsDig c' →
    ds ++ c :: t = ds' ++ c' :: t' → ds = ds' ∧ c :: t = c' :: t' := by
  intro ds
  induction ds with
  | nil =>
    intro ds' c c' t t' _ hd' hc _ h
    cases ds' with
    | nil => exact ⟨rfl, h⟩
    | cons a r =>
      simp only [List.nil_append, List.cons_append, List.cons.injEq] at h
      exact absurd (h.1 ▸ hd' a (by simp)) hc
  | cons a r ih =>
    intro ds' c c' t t' hd hd' hc hc' h
    cases ds' with
    | nil =>
      simp only [List.nil_append, List.cons_append, List.cons.injEq] at h
      exact absurd (h.1 ▸ hd a (by simp)) hc'
    | cons a' r' =>
      simp only [List.cons_append, List.cons.injEq] at h
      obtain ⟨e1, e2⟩ := ih r' c c' t t' (fun x hx => hd x (List.mem_cons_of_mem _ hx))
        (fun x hx => hd' x (List.mem_cons_of_mem _ hx)) hc hc' h.2
      exact ⟨by rw [h.1, e1], e2⟩

/-- fraction text and offset text are determined by their concatenation -/
theorem frac_off_unique (fr fr' a a' off off' : List Nat) (z z' n n' : Bool) (H H' M M' : Nat)
    (hf : FracText fr a) (hf' : FracText fr' a') (ho : OffsetText off z n H M) (ho' : OffsetText off' z' n' H' M')
    (h : fr ++ off = fr' ++ off') : a = a' ∧ off = off' := by
  obtain ⟨c, t, e, hc, hc46⟩ := Rfc3339.offsetText_head off z n H M ho
  obtain ⟨c', t', e', hc', hc46'⟩ := Rfc3339.offsetText_head off' z' n' H' M' ho'
  subst e; subst e'
  cases hf with
  | absent =>
    cases hf' with
    | absent => exact ⟨rfl, h⟩
    | present ds' _ _ =>
      simp only [List.nil_append, List.cons_append, List.cons.injEq] at h
      exact absurd h.1 hc46
  | present _ _ hd =>
    cases hf' with
    | absent =>
      simp only [List.nil_append, List.cons_append, List.cons.injEq] at h
      exact absurd h.1.symm hc46'
    | present _ _ hd' =>
      simp only [List.cons_append, List.cons.injEq, true_and] at h
      exact digits_split a a' c c' t t' hd hd' hc hc' h

/-- the offset fields read off an offset text -/
def offFields : List Nat → Bool × Bool × Nat × Nat
  | [90] => (true, false, 0, 0)
  | [122] => (true, false, 0, 0)
  | [43, a, b, 58, c, d] => (false, false, num2 a b, num2 c d)
  | [45, a, b, 58, c, d] => (false, true, num2 a b, num2 c d)
  | [226, 136, 146, a, b, 58, c, d] => (false, true, num2 a b, num2 c d)
  | _ => (false, false, 0, 0)

theorem offFields_spec (off : List Nat) (z n : Bool) (H M : Nat) (h : OffsetText off z n H M) :
    offFields off = (z, n, H, M) := by
  cases h <;> rfl

/-- an offset text shows one set of offset fields -/
theorem offsetText_unique (off off' : List Nat) (z z' n n' : Bool) (H H' M M' : Nat)
    (h : OffsetText off z n H M) (h' : OffsetText off' z' n' H' M') (e : off = off') :
    z = z' ∧ n = n' ∧ H = H' ∧ M = M' := by
  have e1 := offFields_spec off z n H M h
  have e2 := offFields_spec off' z' n' H' M' h'
  rw [e, e2] at e1
  simp only [Prod.mk.injEq] at e1
  exact ⟨e1.1.symm, e1.2.1.symm, e1.2.2.1.symm, e1.2.2.2.symm⟩

/-- **matches_unique**: the grammar is unambiguous — fixed widths up to the seconds, then a fraction
that ends at the first non-digit, then an offset whose form is fixed by its first byte -/
theorem matches_unique (s : List Nat) (f g : Fields) (hf : Matches s f) (hg : Matches s g) : f = g := by
  obtain ⟨y1, y2, y3, y4, mo1, mo2, d1, d2, sep, h1, h2, mi1, mi2, s1, s2, fr, off, _, _, _, _, _, _, _, hfr, hoff,
    hs, e1, e2, e3, e4, e5, e6⟩ := hf
  obtain ⟨y1', y2', y3', y4', mo1', mo2', d1', d2', sep', h1', h2', mi1', mi2', s1', s2', fr', off', _, _, _, _, _, _, _,
    hfr', hoff', hs', e1', e2', e3', e4', e5', e6'⟩ := hg
  rw [hs] at hs'
  simp only [List.cons_append, List.nil_append, List.cons.injEq, true_and] at hs'
  obtain ⟨rfl, rfl, rfl, rfl, rfl, rfl, rfl, rfl, rfl, rfl, rfl, rfl, rfl, rfl, rfl, htail⟩ := hs'
  obtain ⟨ea, eo⟩ := frac_off_unique fr fr' _ _ off off' _ _ _ _ _ _ _ _ hfr hfr' hoff hoff' htail
  obtain ⟨ez, en, eH, eM⟩ := offsetText_unique off off' _ _ _ _ _ _ _ _ hoff hoff' eo
  cases f; cases g
  simp only [Fields.mk.injEq]
  dsimp only at *
  exact ⟨by rw [e1, e1'], by rw [e2, e2'], by rw [e3, e3'], by rw [e4, e4'], by rw [e5, e5'], by rw [e6, e6'],
    ea, ez, en, eH, eM⟩

/-! ### G5: one calendar date per day number -/

theorem dayNumYo_inj (y y' : Int) (o o' : Nat) (ho : 1 ≤ o ∧ o ≤ yearLen y) (ho' : 1 ≤ o' ∧ o' ≤ yearLen y')
    (h : dayNumYo y o = dayNumYo y' o') : y = y' ∧ o = o' := by
  unfold dayNumYo at h
  have hy : y = y' := by
    rcases Int.lt_trichotomy y y' with hlt | heq | hgt
    · have := dby_mono (y + 1) y' (by omega)
      have := dby_step y
      omega
    · exact heq
    · have := dby_mono (y' + 1) y (by omega)
      have := dby_step y'
      omega
  subst hy
  exact ⟨rfl, by omega⟩

/-- the calendar date of a day number is unique (C01: `ymd_unique` + strictly increasing year starts) -/
theorem ymd_of_dayNum_unique (y y' : Int) (m d m' d' : Nat) (h : validYmd y m d = true)
    (h' : validYmd y' m' d' = true) (e : dayNum y m d = dayNum y' m' d') : y = y' ∧ m = m' ∧ d = d' := by
  have b := ParsedRes.ordinal_bounds y m d h
  have b' := ParsedRes.ordinal_bounds y' m' d' h'
  unfold dayNum at e
  obtain ⟨ey, eo⟩ := dayNumYo_inj y y' _ _ b b' e
  subst ey
  obtain ⟨u1, u2⟩ := ymd_unique y m d h
  obtain ⟨u1', u2'⟩ := ymd_unique y m' d' h'
  rw [eo] at u1 u2
  exact ⟨rfl, by rw [← u1, u1'], by rw [← u2, u2']⟩

/-! ### G4: `AutoSi` is the shortest lossless precision -/

/-- for sub-second nanoseconds `n`, the digit count `k` chosen by `AutoSi` is one of 0, 3, 6, 9, the
value shown is `n / 10^(9−k)` with nothing lost (`10^(9−k) ∣ n`), and every shorter count of the four
would lose something -/
theorem autoSi_shortest (n : Nat) (hn : n < 1000000000) :
    (wantedFrac .autoSi n).1 ∈ [0, 3, 6, 9] ∧ n % 10 ^ (9 - (wantedFrac .autoSi n).1) = 0 ∧
    (wantedFrac .autoSi n).2 = n / 10 ^ (9 - (wantedFrac .autoSi n).1) ∧
    ∀ k' ∈ [0, 3, 6, 9], k' < (wantedFrac .autoSi n).1 → n % 10 ^ (9 - k') ≠ 0 := by
  -- every count of the four below the one chosen, `K`, loses something
  have short : ∀ K ≤ 9, (0 < K → n ≠ 0) → (3 < K → n % 1000000 ≠ 0) → (6 < K → n % 1000 ≠ 0) →
      ∀ k' ∈ [0, 3, 6, 9], k' < K → n % 10 ^ (9 - k') ≠ 0 := by
    intro K hK a b c k' hk' hlt
    simp only [List.mem_cons, List.not_mem_nil, or_false] at hk'
    rcases hk' with rfl | rfl | rfl | rfl <;> omega
  unfold wantedFrac
  by_cases h1 : n = 0
  · subst h1
    simp
  · by_cases h2 : n % 1000000 = 0
    · simp only [h1, h2, if_true, if_false]
      exact ⟨by simp, by norm_num; omega, by norm_num, short 3 (by omega) (fun _ => h1) (by omega) (by omega)⟩
    · by_cases h3 : n % 1000 = 0
      · simp only [h1, h2, h3, if_true, if_false]
        exact ⟨by simp, by norm_num; omega, by norm_num, short 6 (by omega) (fun _ => h1) (fun _ => h2) (by omega)⟩
      · simp only [h1, h2, h3, if_false]
        exact ⟨by simp, Nat.mod_one n, by simp, short 9 (by omega) (fun _ => h1) (fun _ => h2) (fun _ => h3)⟩

end Chrono.Proofs.Rfc3339U
