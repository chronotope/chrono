/-
  C13, fourth lemma file: along a token chain every setter call is made with the value's own field, so
  it succeeds and the record keeps agreeing with the value (`Supplied`); which fields are set is what
  `Spec.carries` says (`Tracks`).  These are the facts C14's completeness theorems need.
  Namespace `Chrono.Proofs.RoundTrip`.
-/
import Chrono.Proofs.RoundTripChainL

namespace Chrono.Proofs.RoundTrip
open Chrono Chrono.M Chrono.M.Scan Chrono.Spec Chrono.Spec.Fields Chrono.Extracted Chrono.Proofs Chrono.Proofs.ParsedRes

/-! ### setters called with a value the field already agrees with -/

/-- a field just set to `v` holds `v` (the shape of `optIs (some v) v`) -/
theorem some_is {α} (v : α) : ∀ x, some v = some x → x = v := fun _ h => (Option.some.inj h).symm

theorem setIf_agree {α} [DecidableEq α] (old : Option α) (v : α) (h : ∀ x, old = some x → x = v) :
    Parsed.setIf old v = .ok (some v) := by
  unfold Parsed.setIf
  cases old with
  | none => rfl
  | some o => simp [h o rfl]

/-- the common shape of the range-checked setters: check the range, compare with the old field, store -/
theorem setRange_eq {lo hi v : Int} (hr : lo ≤ v ∧ v ≤ hi) (old : Option Int) (h : optIs old v)
    (upd : Option Int → Parsed) :
    (do let x ← Parsed.inRange v lo hi; let f ← Parsed.setIf old x; pure (upd f) : PRes Parsed) =
      .ok (upd (some v)) := by
  simp only [Parsed.inRange, hr, and_self, if_true, setIf_agree _ _ h, bind, Except.bind, pure, Except.pure]

/-- the same for the setters that convert to `i32` -/
theorem setI32_eq {v : Int} (hr : -2147483648 ≤ v ∧ v ≤ 2147483647) (old : Option Int) (h : optIs old v)
    (upd : Option Int → Parsed) :
    (do let x ← Parsed.toI32 v; let f ← Parsed.setIf old x; pure (upd f) : PRes Parsed) = .ok (upd (some v)) := by
  have : inI32 v = true := by simp [inI32, I32_MIN, I32_MAX, hr]
  simp only [Parsed.toI32, this, if_true, setIf_agree _ _ h, bind, Except.bind, pure, Except.pure]

section setters
variable (p : Parsed) (v : Int)

theorem set_year_eq (hr : -2147483648 ≤ v ∧ v ≤ 2147483647) (h : optIs p.year v) :
    p.set_year v = .ok { p with year := some v } :=
  setI32_eq hr p.year h fun f => { p with year := f }
theorem set_isoyear_eq (hr : -2147483648 ≤ v ∧ v ≤ 2147483647) (h : optIs p.isoyear v) :
    p.set_isoyear v = .ok { p with isoyear := some v } :=
  setI32_eq hr p.isoyear h fun f => { p with isoyear := f }
theorem set_offset_eq (hr : -2147483648 ≤ v ∧ v ≤ 2147483647) (h : optIs p.offset v) :
    p.set_offset v = .ok { p with offset := some v } :=
  setI32_eq hr p.offset h fun f => { p with offset := f }
theorem set_timestamp_eq (h : optIs p.timestamp v) : p.set_timestamp v = .ok { p with timestamp := some v } := by
  simp only [Parsed.set_timestamp, setIf_agree _ _ h, bind, Except.bind, pure, Except.pure]
theorem set_year_div_100_eq (hr : 0 ≤ v ∧ v ≤ 2147483647) (h : optIs p.year_div_100 v) :
    p.set_year_div_100 v = .ok { p with year_div_100 := some v } :=
  setRange_eq (hi := I32_MAX) hr p.year_div_100 h fun f => { p with year_div_100 := f }
theorem set_isoyear_div_100_eq (hr : 0 ≤ v ∧ v ≤ 2147483647) (h : optIs p.isoyear_div_100 v) :
    p.set_isoyear_div_100 v = .ok { p with isoyear_div_100 := some v } :=
  setRange_eq (hi := I32_MAX) hr p.isoyear_div_100 h fun f => { p with isoyear_div_100 := f }
theorem set_year_mod_100_eq (hr : 0 ≤ v ∧ v ≤ 99) (h : optIs p.year_mod_100 v) :
    p.set_year_mod_100 v = .ok { p with year_mod_100 := some v } :=
  setRange_eq hr p.year_mod_100 h fun f => { p with year_mod_100 := f }
theorem set_isoyear_mod_100_eq (hr : 0 ≤ v ∧ v ≤ 99) (h : optIs p.isoyear_mod_100 v) :
    p.set_isoyear_mod_100 v = .ok { p with isoyear_mod_100 := some v } :=
  setRange_eq hr p.isoyear_mod_100 h fun f => { p with isoyear_mod_100 := f }
theorem set_quarter_eq (hr : 1 ≤ v ∧ v ≤ 4) (h : optIs p.quarter v) :
    p.set_quarter v = .ok { p with quarter := some v } :=
  setRange_eq hr p.quarter h fun f => { p with quarter := f }
theorem set_month_eq (hr : 1 ≤ v ∧ v ≤ 12) (h : optIs p.month v) :
    p.set_month v = .ok { p with month := some v } :=
  setRange_eq hr p.month h fun f => { p with month := f }
theorem set_week_from_sun_eq (hr : 0 ≤ v ∧ v ≤ 53) (h : optIs p.week_from_sun v) :
    p.set_week_from_sun v = .ok { p with week_from_sun := some v } :=
  setRange_eq hr p.week_from_sun h fun f => { p with week_from_sun := f }
theorem set_week_from_mon_eq (hr : 0 ≤ v ∧ v ≤ 53) (h : optIs p.week_from_mon v) :
    p.set_week_from_mon v = .ok { p with week_from_mon := some v } :=
  setRange_eq hr p.week_from_mon h fun f => { p with week_from_mon := f }
theorem set_isoweek_eq (hr : 1 ≤ v ∧ v ≤ 53) (h : optIs p.isoweek v) :
    p.set_isoweek v = .ok { p with isoweek := some v } :=
  setRange_eq hr p.isoweek h fun f => { p with isoweek := f }
theorem set_ordinal_eq (hr : 1 ≤ v ∧ v ≤ 366) (h : optIs p.ordinal v) :
    p.set_ordinal v = .ok { p with ordinal := some v } :=
  setRange_eq hr p.ordinal h fun f => { p with ordinal := f }
theorem set_day_eq (hr : 1 ≤ v ∧ v ≤ 31) (h : optIs p.day v) :
    p.set_day v = .ok { p with day := some v } :=
  setRange_eq hr p.day h fun f => { p with day := f }
theorem set_minute_eq (hr : 0 ≤ v ∧ v ≤ 59) (h : optIs p.minute v) :
    p.set_minute v = .ok { p with minute := some v } :=
  setRange_eq hr p.minute h fun f => { p with minute := f }
theorem set_second_eq (hr : 0 ≤ v ∧ v ≤ 60) (h : optIs p.second v) :
    p.set_second v = .ok { p with second := some v } :=
  setRange_eq hr p.second h fun f => { p with second := f }
theorem set_nanosecond_eq (hr : 0 ≤ v ∧ v ≤ 999999999) (h : optIs p.nanosecond v) :
    p.set_nanosecond v = .ok { p with nanosecond := some v } :=
  setRange_eq hr p.nanosecond h fun f => { p with nanosecond := f }
theorem set_hour_eq (hr : 0 ≤ v ∧ v ≤ 23) (h1 : optIs p.hour_div_12 (v / 12)) (h2 : optIs p.hour_mod_12 (v % 12)) :
    p.set_hour v = .ok { p with hour_div_12 := some (v / 12), hour_mod_12 := some (v % 12) } := by
  have e1 : (if v ≤ 11 then ((0 : Int), v) else (1, v - 12)) = (v / 12, v % 12) := by
    split <;> (congr 1 <;> omega)
  simp only [Parsed.set_hour, Parsed.inRange, hr, and_self, if_true, bind, Except.bind, pure, Except.pure, e1,
    setIf_agree _ _ h1, setIf_agree _ _ h2]
theorem set_hour12_eq (w : Int) (hr : 1 ≤ v ∧ v ≤ 12) (hw : w = (if v = 12 then 0 else v)) (h : optIs p.hour_mod_12 w) :
    p.set_hour12 v = .ok { p with hour_mod_12 := some w } := by
  subst hw
  simp only [Parsed.set_hour12, Parsed.inRange, hr, and_self, if_true, setIf_agree _ _ h, bind, Except.bind, pure, Except.pure]
end setters

theorem set_ampm_eq (p : Parsed) (pm : Bool) (h : optIs p.hour_div_12 (if pm then 1 else 0)) :
    p.set_ampm pm = .ok { p with hour_div_12 := some (if pm then 1 else 0) } := by
  simp only [Parsed.set_ampm, setIf_agree _ _ h, bind, Except.bind, pure, Except.pure]
theorem set_weekday_eq (p : Parsed) (w : Weekday) (h : ∀ x, p.weekday = some x → x = w) :
    p.set_weekday w = .ok { p with weekday := some w } := by
  simp only [Parsed.set_weekday, setIf_agree _ _ h, bind, Except.bind, pure, Except.pure]

/-! ### the value's own fields -/

/-- the field values of the value a context shows: day `(Y, o)`, its ISO year/week and weekday, the
time of day, the fraction value the items print (`nv`), the printed offset, the timestamp -/
structure Truth where
  Y : Int
  o : Nat
  IY : Int
  IW : Int
  wd : Weekday
  t : Time
  nv : Int
  offv : Int
  tsv : Int

/-- every supplied field of the record is the value's field -/
structure Supplied (p : Parsed) (tr : Truth) : Prop where
  year : optIs p.year tr.Y
  year_div : ∀ x, p.year_div_100 = some x → 0 ≤ tr.Y ∧ x = tr.Y / 100
  year_mod : ∀ x, p.year_mod_100 = some x → 0 ≤ tr.Y ∧ x = tr.Y % 100
  isoyear : optIs p.isoyear tr.IY
  isoyear_div : ∀ x, p.isoyear_div_100 = some x → 0 ≤ tr.IY ∧ x = tr.IY / 100
  isoyear_mod : ∀ x, p.isoyear_mod_100 = some x → 0 ≤ tr.IY ∧ x = tr.IY % 100
  quarter : optIs p.quarter (quarterOfMonth (monthOfYo tr.Y tr.o))
  month : optIs p.month (monthOfYo tr.Y tr.o)
  week_from_sun : optIs p.week_from_sun (weekNo tr.Y tr.o 6)
  week_from_mon : optIs p.week_from_mon (weekNo tr.Y tr.o 0)
  isoweek : optIs p.isoweek tr.IW
  weekday : ∀ w, p.weekday = some w → w = tr.wd
  ordinal : optIs p.ordinal tr.o
  day : optIs p.day (dayOfYo tr.Y tr.o)
  hour_div : optIs p.hour_div_12 (hourOf tr.t / 12)
  hour_mod : optIs p.hour_mod_12 (hourOf tr.t % 12)
  minute : optIs p.minute (minuteOf tr.t)
  second : optIs p.second (secondOf tr.t + tr.t.frac / 1000000000)
  nano : optIs p.nanosecond tr.nv
  timestamp : optIs p.timestamp tr.tsv
  offset : optIs p.offset tr.offv

/-- the fields that are set are exactly the ones the items carry -/
structure Tracks (p : Parsed) (cr : Carries) (nv : Int) : Prop where
  year : p.year.isSome = cr.year
  year_div : p.year_div_100.isSome = cr.yearDiv
  year_mod : p.year_mod_100.isSome = cr.yearMod
  isoyear : p.isoyear.isSome = cr.isoYear
  isoyear_div : p.isoyear_div_100.isSome = cr.isoYearDiv
  isoyear_mod : p.isoyear_mod_100.isSome = cr.isoYearMod
  quarter : p.quarter.isSome = cr.quarter
  month : p.month.isSome = cr.month
  week_from_sun : p.week_from_sun.isSome = cr.weekSun
  week_from_mon : p.week_from_mon.isSome = cr.weekMon
  isoweek : p.isoweek.isSome = cr.isoWeek
  weekday : p.weekday.isSome = cr.weekday
  ordinal : p.ordinal.isSome = cr.ordinal
  day : p.day.isSome = cr.day
  hour_div : p.hour_div_12.isSome = (cr.hour24 || cr.ampm)
  hour_mod : p.hour_mod_12.isSome = (cr.hour24 || cr.hour12)
  minute : p.minute.isSome = cr.minute
  second : p.second.isSome = cr.second
  nano1 : p.nanosecond.isSome = true → cr.nano = true
  nano2 : cr.nano = true → p.nanosecond.isSome = true ∨ nv = 0
  timestamp : p.timestamp.isSome = cr.timestamp
  offset : p.offset.isSome = cr.offset

theorem supplied_new (tr : Truth) : Supplied Parsed.new tr := by
  constructor <;> intro x h <;> cases h

theorem tracks_new (nv : Int) : Tracks Parsed.new {} nv := by
  constructor <;> first | rfl | (intro h; cases h)

/-- the context shows the value whose fields are `tr` -/
structure CtxTruth (c : Ctx) (tr : Truth) : Prop where
  date : ∀ d, c.date = some d → d = dateOfYo tr.Y tr.o ∧ VD tr.Y tr.o ∧
    (∃ w, d.iso_week = .ok w ∧ IsoWeek.year w = tr.IY ∧ IsoWeek.week w = tr.IW) ∧ d.weekday = tr.wd
  time : ∀ t, c.time = some t → t = tr.t ∧ TValid t
  off : ∀ x, c.off = some x → tr.offv = roundedOffset x.2 ∧ -86400 < x.2 ∧ x.2 < 86400
  ts : ∀ v, numVal c .timestamp = some v → v = tr.tsv

/-- field-level expressibility of one item: two-digit year fields exist only for years ≥ 0, and every
fraction item prints the fraction `nv` the format prints as a whole -/
def ItemTruth (tr : Truth) : Item → Prop
  | .numeric .yearDiv100 _ | .numeric .yearMod100 _ => 0 ≤ tr.Y
  | .numeric .isoYearDiv100 _ | .numeric .isoYearMod100 _ => 0 ≤ tr.IY
  | .numeric .nanosecond _ | .fixed .nanosecond | .fixed .nanosecond9 | .fixed .nanosecond9NoDot =>
    tr.t.frac % 1000000000 = tr.nv
  | .fixed .nanosecond3 | .fixed .nanosecond3NoDot => tr.t.frac / 1000000 % 1000 * 1000000 = tr.nv
  | .fixed .nanosecond6 | .fixed .nanosecond6NoDot => tr.t.frac / 1000 % 1000000 * 1000 = tr.nv
  | _ => True

/-- the number a numeric item denotes, in terms of the value's fields -/
def truthVal (tr : Truth) : Numeric → Int
  | .year => tr.Y
  | .yearDiv100 => tr.Y / 100
  | .yearMod100 => tr.Y % 100
  | .isoYear => tr.IY
  | .isoYearDiv100 => tr.IY / 100
  | .isoYearMod100 => tr.IY % 100
  | .quarter => quarterOfMonth (monthOfYo tr.Y tr.o)
  | .month => monthOfYo tr.Y tr.o
  | .day => dayOfYo tr.Y tr.o
  | .weekFromSun => weekNo tr.Y tr.o 6
  | .weekFromMon => weekNo tr.Y tr.o 0
  | .isoWeek => tr.IW
  | .numDaysFromSun => tr.wd.num_days_from_sunday
  | .weekdayFromMon => tr.wd.number_from_monday
  | .ordinal => tr.o
  | .hour => hourOf tr.t
  | .hour12 => if hourOf tr.t % 12 = 0 then 12 else hourOf tr.t % 12
  | .minute => minuteOf tr.t
  | .second => secondOf tr.t + tr.t.frac / 1000000000
  | .nanosecond => tr.t.frac % 1000000000
  | .timestamp => tr.tsv

theorem numVal_truth (c : Ctx) (tr : Truth) (h : CtxTruth c tr) (n : Numeric) (v : Int)
    (hv : numVal c n = some v) : v = truthVal tr n := by
  cases n with
  | timestamp => exact h.ts v hv
  | hour | hour12 | minute | second | nanosecond =>
    cases ht : c.time with
    | none => simp [numVal, ht] at hv
    | some t =>
      obtain ⟨rfl, a, b, _⟩ := h.time t ht
      have e1 : tr.t.hour = hourOf tr.t := by
        unfold Time.hour Time.hms hourOf; dsimp only; omega
      simp only [numVal, ht, Option.map_some, Option.some.injEq] at hv
      subst hv
      -- `%H` is `e1`; minute, second and fraction are the accessor's own expressions; `%I` unfolds to the hour
      first | exact e1 | rfl | simp only [truthVal, Time.hour12, e1]
  | _ =>
    cases hd : c.date with
    | none => simp [numVal, hd] at hv
    | some d =>
      obtain ⟨rfl, hvd, ⟨w, hw, hy, hk⟩, hwd⟩ := h.date d hd
      obtain ⟨fy, fo, _, _, _, _, hm, hdd, m1, _, _, _, ws, wm, _⟩ := date_facts tr.Y tr.o hvd
      simp only [numVal, hd, Option.map_some, Option.bind_some, fy, fo, hm, hdd, hw, ws, wm, Option.some.injEq] at hv
      subst hv
      simp only [truthVal, hy, hk, hwd, Format.quarter, quarterOfMonth]
      try omega

theorem set_wd_sun (p : Parsed) (wd : Weekday) :
    Parsed.set_weekday_with_num_days_from_sunday p ((wd.num_days_from_sunday : Nat) : Int) = p.set_weekday wd := by
  cases wd <;> rfl
theorem set_wd_mon (p : Parsed) (wd : Weekday) :
    Parsed.set_weekday_with_number_from_monday p ((wd.number_from_monday : Nat) : Int) = p.set_weekday wd := by
  cases wd <;> rfl

/-- ranges of the value's fields -/
structure TruthOk (tr : Truth) : Prop where
  vd : VD tr.Y tr.o
  iy : -1000000 < tr.IY ∧ tr.IY < 1000000
  iw : 1 ≤ tr.IW ∧ tr.IW ≤ 53
  t : TValid tr.t
  nv : 0 ≤ tr.nv ∧ tr.nv ≤ 999999999
  off : -86400 ≤ tr.offv ∧ tr.offv ≤ 86400
  wd : ((tr.wd.toNat : Nat) : Int) = weekdayOf (dayNumYo tr.Y tr.o)
  iso : ∃ w, (dateOfYo tr.Y tr.o).iso_week = .ok w ∧ IsoWeek.year w = tr.IY ∧ IsoWeek.week w = tr.IW

/-- **one setter call of the chain**: made with the value's own field it succeeds, the record keeps
agreeing with the value, and exactly the item's fields become set -/
theorem step_fields (c : Ctx) (tr : Truth) (hc : CtxTruth c tr) (hok : TruthOk tr) (it : Item)
    (hp : provedItem it = true) (hx : ItemTruth tr it) (set : Parsed → PRes Parsed)
    (hfc : fieldCall c it = some set) (p : Parsed) (cr : Carries) (hS : Supplied p tr) (hT : Tracks p cr tr.nv) :
    ∃ p', set p = .ok p' ∧ Supplied p' tr ∧ Tracks p' (carriesItem cr it) tr.nv := by
  obtain ⟨hY1, hY2, ho1, ho2⟩ := hok.vd
  have hMIN : MIN_YEAR = -262143 := rfl
  have hMAX : MAX_YEAR = 262142 := rfl
  obtain ⟨_, _, _, o366, _, _, _, _, m1, m2, d1, d2, _, _, ws1, ws2, wm1, wm2, _⟩ := date_facts tr.Y tr.o hok.vd
  obtain ⟨t1, t2, t3, t4⟩ := hok.t
  have hh : 0 ≤ hourOf tr.t ∧ hourOf tr.t ≤ 23 := by unfold hourOf; omega
  have hmi : 0 ≤ minuteOf tr.t ∧ minuteOf tr.t ≤ 59 := by unfold minuteOf; omega
  have hse : 0 ≤ secondOf tr.t + tr.t.frac / 1000000000 ∧ secondOf tr.t + tr.t.frac / 1000000000 ≤ 60 := by
    unfold secondOf; omega
  cases it with
  | literal s =>
    cases hfc
    exact ⟨p, rfl, hS, by cases cr; exact hT⟩
  | space s =>
    cases hfc
    exact ⟨p, rfl, hS, by cases cr; exact hT⟩
  | error => cases hp
  | numeric n pad =>
    simp only [fieldCall, Option.map_eq_some_iff] at hfc
    obtain ⟨v, hv, rfl⟩ := hfc
    have hv' := numVal_truth c tr hc n v hv
    subst hv'
    cases n with
    | year =>
      exact ⟨_, set_year_eq p _ (by simp only [truthVal]; omega) hS.year,
        { hS with year := some_is _ }, { hT with year := rfl }⟩
    | yearDiv100 =>
      have h0 : 0 ≤ tr.Y := hx
      exact ⟨_, set_year_div_100_eq p _ (by simp only [truthVal]; omega)
          (fun x h => (hS.year_div x h).2),
        { hS with year_div := fun x h => by cases h; exact ⟨h0, rfl⟩ }, { hT with year_div := rfl }⟩
    | yearMod100 =>
      have h0 : 0 ≤ tr.Y := hx
      exact ⟨_, set_year_mod_100_eq p _ (by simp only [truthVal]; omega)
          (fun x h => (hS.year_mod x h).2),
        { hS with year_mod := fun x h => by cases h; exact ⟨h0, rfl⟩ }, { hT with year_mod := rfl }⟩
    | isoYear =>
      exact ⟨_, set_isoyear_eq p _ (by simp only [truthVal]; have := hok.iy; omega) hS.isoyear,
        { hS with isoyear := some_is _ }, { hT with isoyear := rfl }⟩
    | isoYearDiv100 =>
      have h0 : 0 ≤ tr.IY := hx
      exact ⟨_, set_isoyear_div_100_eq p _ (by simp only [truthVal]; have := hok.iy; omega)
          (fun x h => (hS.isoyear_div x h).2),
        { hS with isoyear_div := fun x h => by cases h; exact ⟨h0, rfl⟩ }, { hT with isoyear_div := rfl }⟩
    | isoYearMod100 =>
      have h0 : 0 ≤ tr.IY := hx
      exact ⟨_, set_isoyear_mod_100_eq p _ (by simp only [truthVal]; omega)
          (fun x h => (hS.isoyear_mod x h).2),
        { hS with isoyear_mod := fun x h => by cases h; exact ⟨h0, rfl⟩ }, { hT with isoyear_mod := rfl }⟩
    | quarter =>
      exact ⟨_, set_quarter_eq p _ (by simp only [truthVal, quarterOfMonth]; omega) hS.quarter,
        { hS with quarter := some_is _ }, { hT with quarter := rfl }⟩
    | month =>
      exact ⟨_, set_month_eq p _ (by simp only [truthVal]; omega) hS.month,
        { hS with month := some_is _ }, { hT with month := rfl }⟩
    | day =>
      exact ⟨_, set_day_eq p _ (by simp only [truthVal]; omega) hS.day,
        { hS with day := some_is _ }, { hT with day := rfl }⟩
    | weekFromSun =>
      exact ⟨_, set_week_from_sun_eq p _ ⟨ws1, ws2⟩ hS.week_from_sun,
        { hS with week_from_sun := some_is _ }, { hT with week_from_sun := rfl }⟩
    | weekFromMon =>
      exact ⟨_, set_week_from_mon_eq p _ ⟨wm1, wm2⟩ hS.week_from_mon,
        { hS with week_from_mon := some_is _ }, { hT with week_from_mon := rfl }⟩
    | isoWeek =>
      exact ⟨_, set_isoweek_eq p _ hok.iw hS.isoweek,
        { hS with isoweek := some_is _ }, { hT with isoweek := rfl }⟩
    | numDaysFromSun =>
      refine ⟨{ p with weekday := some tr.wd }, ?_, { hS with weekday := some_is _ },
        { hT with weekday := rfl }⟩
      show Parsed.set_weekday_with_num_days_from_sunday p _ = _
      rw [truthVal, set_wd_sun, set_weekday_eq p _ hS.weekday]
    | weekdayFromMon =>
      refine ⟨{ p with weekday := some tr.wd }, ?_, { hS with weekday := some_is _ },
        { hT with weekday := rfl }⟩
      show Parsed.set_weekday_with_number_from_monday p _ = _
      rw [truthVal, set_wd_mon, set_weekday_eq p _ hS.weekday]
    | ordinal =>
      exact ⟨_, set_ordinal_eq p _ (by simp only [truthVal]; omega) hS.ordinal,
        { hS with ordinal := some_is _ }, { hT with ordinal := rfl }⟩
    | hour =>
      exact ⟨_, set_hour_eq p _ hh hS.hour_div hS.hour_mod,
        { hS with hour_div := some_is _, hour_mod := some_is _ },
        { hT with hour_div := rfl, hour_mod := rfl }⟩
    | hour12 =>
      refine ⟨_, set_hour12_eq p _ (hourOf tr.t % 12) ?_ ?_ hS.hour_mod,
        { hS with hour_mod := some_is _ },
        { hT with hour_mod := by simp [carriesItem] }⟩
      · simp only [truthVal]; split <;> omega
      · simp only [truthVal]; split <;> split <;> omega
    | minute =>
      exact ⟨_, set_minute_eq p _ hmi hS.minute,
        { hS with minute := some_is _ }, { hT with minute := rfl }⟩
    | second =>
      exact ⟨_, set_second_eq p _ hse hS.second,
        { hS with second := some_is _ }, { hT with second := rfl }⟩
    | nanosecond =>
      have e : truthVal tr .nanosecond = tr.nv := hx
      rw [e]
      exact ⟨_, set_nanosecond_eq p _ hok.nv hS.nano, { hS with nano := some_is _ },
        { hT with nano1 := fun _ => rfl, nano2 := fun _ => Or.inl rfl }⟩
    | timestamp =>
      exact ⟨_, set_timestamp_eq p _ hS.timestamp,
        { hS with timestamp := some_is _ }, { hT with timestamp := rfl }⟩
  | fixed f =>
    have monthCase : ∀ set, ((numVal c .month).map fun (m : Int) (p : Parsed) => p.set_month m) = some set →
        ∃ p', set p = .ok p' ∧ Supplied p' tr ∧ Tracks p' { cr with month := true } tr.nv := by
      intro set h
      simp only [Option.map_eq_some_iff] at h
      obtain ⟨v, hv, rfl⟩ := h
      have hv' := numVal_truth c tr hc .month v hv
      subst hv'
      exact ⟨_, set_month_eq p _ (by simp only [truthVal]; omega) hS.month,
        { hS with month := some_is _ }, { hT with month := rfl }⟩
    have wdCase : ∀ set, (c.date.map fun (d : Date) (p : Parsed) => p.set_weekday d.weekday) = some set →
        ∃ p', set p = .ok p' ∧ Supplied p' tr ∧ Tracks p' { cr with weekday := true } tr.nv := by
      intro set h
      simp only [Option.map_eq_some_iff] at h
      obtain ⟨d, hd, rfl⟩ := h
      obtain ⟨_, _, _, hwd⟩ := hc.date d hd
      rw [hwd]
      exact ⟨_, set_weekday_eq p _ hS.weekday, { hS with weekday := some_is _ },
        { hT with weekday := rfl }⟩
    have ampmCase : ∀ set, (c.time.map fun (t : Time) (p : Parsed) => p.set_ampm t.hour12.1) = some set →
        ∃ p', set p = .ok p' ∧ Supplied p' tr ∧ Tracks p' { cr with ampm := true } tr.nv := by
      intro set h
      simp only [Option.map_eq_some_iff] at h
      obtain ⟨t, ht, rfl⟩ := h
      obtain ⟨rfl, _⟩ := hc.time t ht
      have e : (if tr.t.hour12.1 = true then (1 : Int) else 0) = hourOf tr.t / 12 := by
        simp only [Time.hour12, Time.hour, Time.hms, hourOf]
        by_cases hge : tr.t.secs / 60 / 60 ≥ 12
        · simp only [hge, decide_true, if_true]; omega
        · simp only [hge, decide_false, Bool.false_eq_true, if_false]; omega
      refine ⟨_, set_ampm_eq p _ (by rw [e]; exact hS.hour_div),
        { hS with hour_div := fun x h => by cases h; exact e }, { hT with hour_div := by simp }⟩
    have nanoCase : ∀ (g : Time → Int), g tr.t = tr.nv → ∀ set,
        (c.time.map fun (t : Time) (p : Parsed) => p.set_nanosecond (g t)) = some set →
        ∃ p', set p = .ok p' ∧ Supplied p' tr ∧ Tracks p' { cr with nano := true } tr.nv := by
      intro g hg set h
      simp only [Option.map_eq_some_iff] at h
      obtain ⟨t, ht, rfl⟩ := h
      obtain ⟨rfl, _⟩ := hc.time t ht
      dsimp only
      rw [hg]
      exact ⟨_, set_nanosecond_eq p _ hok.nv hS.nano, { hS with nano := some_is _ },
        { hT with nano1 := fun _ => rfl, nano2 := fun _ => Or.inl rfl }⟩
    have offCase : ∀ set, (c.off.map fun (o : List Nat × Int) (p : Parsed) => p.set_offset (roundedOffset o.2)) = some set →
        ∃ p', set p = .ok p' ∧ Supplied p' tr ∧ Tracks p' { cr with offset := true } tr.nv := by
      intro set h
      simp only [Option.map_eq_some_iff] at h
      obtain ⟨x, hx', rfl⟩ := h
      obtain ⟨e, _, _⟩ := hc.off x hx'
      dsimp only
      rw [← e]
      exact ⟨_, set_offset_eq p _ (by have := hok.off; omega) hS.offset,
        { hS with offset := some_is _ }, { hT with offset := rfl }⟩
    cases f with
    | shortMonthName => exact monthCase set hfc
    | longMonthName => exact monthCase set hfc
    | shortWeekdayName => exact wdCase set hfc
    | longWeekdayName => exact wdCase set hfc
    | lowerAmPm => exact ampmCase set hfc
    | upperAmPm => exact ampmCase set hfc
    | nanosecond =>
      simp only [fieldCall, Option.map_eq_some_iff] at hfc
      obtain ⟨t, ht, rfl⟩ := hfc
      obtain ⟨rfl, _⟩ := hc.time t ht
      have hn : tr.t.nanosecond % 1000000000 = tr.nv := hx
      dsimp only
      by_cases h0 : tr.t.nanosecond % 1000000000 = 0
      · rw [if_pos h0]
        exact ⟨p, rfl, hS, { hT with nano1 := fun _ => rfl, nano2 := fun _ => Or.inr (by rw [← hn]; exact h0) }⟩
      · rw [if_neg h0, hn]
        exact ⟨_, set_nanosecond_eq p _ hok.nv hS.nano, { hS with nano := some_is _ },
          { hT with nano1 := fun _ => rfl, nano2 := fun _ => Or.inl rfl }⟩
    | nanosecond3 => exact nanoCase (fun t => t.nanosecond / 1000000 % 1000 * 1000000) hx set hfc
    | nanosecond3NoDot => exact nanoCase (fun t => t.nanosecond / 1000000 % 1000 * 1000000) hx set hfc
    | nanosecond6 => exact nanoCase (fun t => t.nanosecond / 1000 % 1000000 * 1000) hx set hfc
    | nanosecond6NoDot => exact nanoCase (fun t => t.nanosecond / 1000 % 1000000 * 1000) hx set hfc
    | nanosecond9 => exact nanoCase (fun t => t.nanosecond % 1000000000) hx set hfc
    | nanosecond9NoDot => exact nanoCase (fun t => t.nanosecond % 1000000000) hx set hfc
    | timezoneOffset => exact offCase set hfc
    | timezoneOffsetColon => exact offCase set hfc
    | _ => exact absurd hp (by simp [provedItem])

/-- **all setter calls of a chain** -/
theorem chain_fields (c : Ctx) (tr : Truth) (hc : CtxTruth c tr) (hok : TruthOk tr) :
    ∀ (is : List Item) (tks : List Tok) (p : Parsed) (cr : Carries), TokensOf c is tks →
    (∀ it ∈ is, provedItem it = true) → (∀ it ∈ is, ItemTruth tr it) → Supplied p tr → Tracks p cr tr.nv →
    ∃ p', applyAll tks p = .ok p' ∧ Supplied p' tr ∧ Tracks p' (is.foldl carriesItem cr) tr.nv := by
  intro is
  induction is with
  | nil =>
    intro tks p cr h _ _ hS hT
    cases tks with
    | nil => exact ⟨p, rfl, hS, hT⟩
    | cons _ _ => exact absurd h (by simp [TokensOf])
  | cons it is ih =>
    intro tks p cr h hp hx hS hT
    cases tks with
    | nil => exact absurd h (by simp [TokensOf])
    | cons tk tks =>
      obtain ⟨⟨_, hfc⟩, htl⟩ := h
      obtain ⟨p1, h1, hS1, hT1⟩ := step_fields c tr hc hok it (hp it List.mem_cons_self)
        (hx it List.mem_cons_self) tk.set hfc p cr hS hT
      obtain ⟨p2, h2, hS2, hT2⟩ := ih tks p1 (carriesItem cr it) htl
        (fun x hx' => hp x (List.mem_cons_of_mem _ hx')) (fun x hx' => hx x (List.mem_cons_of_mem _ hx')) hS1 hT1
      exact ⟨p2, by simp only [applyAll, h1, h2], hS2, by simpa [List.foldl_cons] using hT2⟩

end Chrono.Proofs.RoundTrip
