/- Helper lemmas for the ISO-week part of C01. -/
import Chrono.Proofs.DateL
import Chrono.Proofs.IsoFin
import Chrono.Spec.IsoSpec

namespace Chrono.Proofs
open Chrono Chrono.M Chrono.Spec Chrono.Extracted

/-- the Thursday of the week of the `o`-th day of year `y`, as an ordinal relative to year `y` -/
theorem thursday_eq (y : Int) (o : Nat) :
    isoThursday (dayNumYo y o) = daysBeforeYear y + otOf o (flagsOf y) := by
  obtain ⟨_, _, _, hw⟩ := flagsOf_facts y
  unfold isoThursday weekdayOf dayNumYo otOf at *
  push_cast at *
  omega

theorem ywf_fields (Y : Int) (W F : Nat) (hW : W < 64) (hF : F < 16) :
    IsoWeek.year (Y * 1024 + (W : Int) * 16 + (F : Int)) = Y ∧
    IsoWeek.week (Y * 1024 + (W : Int) * 16 + (F : Int)) = W := by
  unfold IsoWeek.year IsoWeek.week
  omega

/-- the weekday bits of the flags advance by the length of the year -/
theorem flags_step (y : Int) : (flagsOf (y + 1) % 8) % 7 = (flagsOf y % 8 + yearLen y) % 7 := by
  have h1 := (flagsOf_facts (y + 1)).2.2.2
  have h0 := (flagsOf_facts y).2.2.2
  rw [dby_step y] at h1
  unfold weekdayOf at h0 h1
  generalize daysBeforeYear y = B at *
  omega

/-- the ISO week of the `o`-th day of year `y`: the Thursday of its week is the `ot`-th day of year
`Y`, and the packed result carries `Y`, week `(ot - 1) / 7 + 1` and the flags of `Y` -/
theorem iso_week_spec' (y : Int) (o : Nat) (hy : MIN_YEAR ≤ y ∧ y ≤ MAX_YEAR)
    (ho : 1 ≤ o ∧ o ≤ yearLen y) :
    ∃ (Y : Int) (ot : Nat), 1 ≤ ot ∧ ot ≤ yearLen Y ∧
      dayNumYo Y ot = isoThursday (dayNumYo y o) ∧
      Date.iso_week (dateOfYo y o) =
        .ok (Y * 1024 + (((ot - 1) / 7 + 1 : Nat) : Int) * 16 + ((flagsOf Y : Nat) : Int)) := by
  have hyl := yearLen_ge y
  obtain ⟨hf16, hf8, _, _⟩ := flagsOf_facts y
  obtain ⟨hyear, hord, hflags, _, _, _⟩ := dateOfYo_fields y o (by omega)
  have hnd := ndays_spec y
  obtain ⟨hA, hB, hC⟩ := iso_cases o (flagsOf y) ⟨ho.1, by rw [hnd]; exact ho.2⟩ hf16 hf8
  have hraw := rawweek_eq o (flagsOf y)
  rw [thursday_eq]
  unfold Date.iso_week IsoWeek.from_yof
  rw [hyear, hord, hflags]
  simp only [Int.toNat_natCast]
  rw [hnd] at hB hC
  rw [show MIN_YEAR = -262143 from rfl, show MAX_YEAR = 262142 from rfl] at hy
  generalize (o + YearFlags.isoweek_delta (flagsOf y)) / 7 = raw at *
  by_cases h1 : otOf o (flagsOf y) < 1
  · -- the Thursday is a day of the previous year, in its last week
    have hs := dby_step (y - 1)
    have hrel := flags_step (y - 1)
    rw [show y - 1 + 1 = y by omega] at hs hrel
    rw [← ndays_spec (y - 1)] at hrel
    obtain ⟨p1, p2, p3⟩ := iso_prev (flagsOf (y - 1)) (flagsOf y) o (flagsOf_facts (y - 1)).1
      (flagsOf_facts (y - 1)).2.1 hrel ho.1 h1
    rw [ndays_spec (y - 1)] at p1 p2 p3
    rw [if_pos (hA h1), ckI32_ok (by omega) (by omega)]
    dsimp only
    rw [from_year_spec]
    clear hA hB hC hraw hrel
    generalize otOf o (flagsOf y) = ot at *
    obtain ⟨k, hk⟩ := Int.eq_ofNat_of_zero_le (show 0 ≤ ot + (yearLen (y - 1) : Int) by omega)
    refine ⟨y - 1, k, by omega, by omega, by unfold dayNumYo; omega, ?_⟩
    rw [show YearFlags.nisoweeks (flagsOf (y - 1)) = (k - 1) / 7 + 1 by omega]
  · rw [if_neg (by intro hr; omega)]
    by_cases h2 : (yearLen y : Int) < otOf o (flagsOf y)
    · -- the Thursday is one of the first three days of the next year
      obtain ⟨hgt, h3⟩ := hB h2
      rw [if_pos hgt, ckI32_ok (by omega) (by omega)]
      dsimp only
      rw [from_year_spec]
      have hs := dby_step y
      have hl1 := yearLen_ge (y + 1)
      clear hA hB hC hraw
      generalize otOf o (flagsOf y) = ot at *
      obtain ⟨k, hk⟩ := Int.eq_ofNat_of_zero_le (show 0 ≤ ot - (yearLen y : Int) by omega)
      refine ⟨y + 1, k, by omega, by omega, by unfold dayNumYo; omega, ?_⟩
      rw [show (k - 1) / 7 + 1 = 1 by omega]
    · -- the Thursday is a day of this year
      obtain ⟨r1, r2⟩ := hC (by omega) (by omega)
      rw [if_neg (by omega)]
      dsimp only
      rw [from_year_spec]
      clear hA hB hC
      generalize otOf o (flagsOf y) = ot at *
      obtain ⟨k, hk⟩ := Int.eq_ofNat_of_zero_le (show 0 ≤ ot by omega)
      refine ⟨y, k, by omega, by omega, by unfold dayNumYo; omega, ?_⟩
      rw [show raw = (k - 1) / 7 + 1 by omega]

theorem wd_toNat_le (wd : Weekday) : wd.toNat ≤ 6 := by cases wd <;> decide

theorem wd_toNat_inj (a b : Weekday) (h : a.toNat = b.toNat) : a = b := by
  cases a <;> cases b <;> first | rfl | (exfalso; revert h; decide)

/-- the day number of an ISO week date in terms of the year's flags: chrono's `isoweek_delta` is
7 minus the offset of the Monday of week 1 from 31 December of the previous year -/
theorem isoDayNum_eq (y w wd : Int) :
    isoDayNum y w wd = daysBeforeYear y + 7 * w + wd - (YearFlags.isoweek_delta (flagsOf y) : Int) := by
  obtain ⟨hf16, hf8, _, hw⟩ := flagsOf_facts y
  unfold isoDayNum isoWeek1Monday dayNumYo YearFlags.isoweek_delta
  unfold weekdayOf at *
  dsimp only
  push_cast at hw
  by_cases hd : flagsOf y % 8 < 3
  · rw [if_pos hd]; push_cast; omega
  · rw [if_neg hd]; push_cast; omega

theorem isoWeekExists_iff (y : Int) (w : Nat) :
    isoWeekExists y w ↔ (1 ≤ w ∧ w ≤ YearFlags.nisoweeks (flagsOf y)) := by
  obtain ⟨hf16, hf8, _, _⟩ := flagsOf_facts y
  obtain ⟨n1, n2, n3, n4, _, _, _⟩ := nisoweeks_fin (flagsOf y) hf16 hf8
  have hnd := ndays_spec y
  have hs := dby_step y
  unfold isoWeekExists
  rw [isoDayNum_eq, hs]
  rw [hnd] at n1 n2
  generalize YearFlags.isoweek_delta (flagsOf y) = dl at *
  generalize YearFlags.nisoweeks (flagsOf y) = nw at *
  omega

/-- chrono's 53-week bit mask is the calendar rule -/
theorem nisoweeks_spec (y : Int) : YearFlags.nisoweeks (flagsOf y) = isoWeeksInYear y := by
  obtain ⟨hf16, hf8, hfl, hw⟩ := flagsOf_facts y
  obtain ⟨_, _, _, _, _, _, n7⟩ := nisoweeks_fin (flagsOf y) hf16 hf8
  rw [n7]
  unfold isoWeeksInYear dayNumYo
  unfold weekdayOf at *
  push_cast at hw
  apply ite_same
  cases hl : isLeap y
  · rw [hl] at hfl; simp at hfl; simp; omega
  · rw [hl] at hfl; simp at hfl; simp; omega

/-- evaluation of `from_isoywd_opt` for an existing week: the denoted day is the `o`-th day of some
year `Y` (previous, same or next year), and the result is that date iff `Y` is in range -/
theorem isoywd_eval (y : Int) (w : Nat) (wd : Weekday)
    (hw : 1 ≤ w ∧ w ≤ YearFlags.nisoweeks (flagsOf y)) :
    ∃ (Y : Int) (o : Nat), 1 ≤ o ∧ o ≤ yearLen Y ∧
      dayNumYo Y o = isoDayNum y w wd.toNat ∧
      Date.from_isoywd_opt y w wd =
        .ok (if MIN_YEAR ≤ Y ∧ Y ≤ MAX_YEAR ∧ 1 ≤ o ∧ o ≤ yearLen Y then some (dateOfYo Y o) else none) := by
  have hMIN : MIN_YEAR = -262143 := rfl
  have hMAX : MAX_YEAR = 262142 := rfl
  obtain ⟨hf16, hf8, _, _⟩ := flagsOf_facts y
  obtain ⟨n1, n2, n3, n4, _, _, _⟩ := nisoweeks_fin (flagsOf y) hf16 hf8
  have hnd := ndays_spec y
  have hyl := yearLen_ge y
  have hwd := wd_toNat_le wd
  rw [isoDayNum_eq]
  unfold Date.from_isoywd_opt
  rw [from_year_spec]
  dsimp only
  rw [if_neg (by omega)]
  rw [hnd] at n1 n2 ⊢
  generalize YearFlags.isoweek_delta (flagsOf y) = dl at *
  generalize YearFlags.nisoweeks (flagsOf y) = nw at *
  generalize wd.toNat = k at *
  by_cases hc : w * 7 + k ≤ dl
  · -- previous year
    rw [if_pos hc]
    have pnd := ndays_spec (y - 1)
    have pyl := yearLen_ge (y - 1)
    have hs := dby_step (y - 1)
    rw [show y - 1 + 1 = y by omega] at hs
    refine ⟨y - 1, w * 7 + k + yearLen (y - 1) - dl, by omega, by omega, ?_, ?_⟩
    · unfold dayNumYo; push_cast; omega
    · by_cases hi : -2147483648 ≤ y - 1 ∧ y - 1 ≤ 2147483647
      · rw [optI32_some hi.1 hi.2]
        dsimp only
        rw [from_year_spec, pnd, from_oaf_spec]
      · rw [optI32_none (by omega)]
        dsimp only
        congr 1; symm; apply ite_neg'; intro h; omega
  · rw [if_neg hc]
    by_cases hn : w * 7 + k - dl ≤ yearLen y
    · -- this year
      rw [if_pos hn, from_oaf_spec]
      refine ⟨y, w * 7 + k - dl, by omega, by omega, ?_, rfl⟩
      unfold dayNumYo; push_cast; omega
    · -- next year
      rw [if_neg hn]
      have hs := dby_step y
      have nyl := yearLen_ge (y + 1)
      refine ⟨y + 1, w * 7 + k - dl - yearLen y, by omega, by omega, ?_, ?_⟩
      · unfold dayNumYo; push_cast; omega
      · by_cases hi : -2147483648 ≤ y + 1 ∧ y + 1 ≤ 2147483647
        · rw [optI32_some hi.1 hi.2]
          dsimp only
          rw [from_year_spec, from_oaf_spec]
        · rw [optI32_none (by omega)]
          dsimp only
          congr 1; symm; apply ite_neg'; intro h; omega

theorem isoywd_none (y : Int) (w : Nat) (wd : Weekday)
    (hw : ¬ (1 ≤ w ∧ w ≤ YearFlags.nisoweeks (flagsOf y))) :
    Date.from_isoywd_opt y w wd = .ok none := by
  unfold Date.from_isoywd_opt
  rw [from_year_spec]
  dsimp only
  rw [if_pos (by omega)]

/-- the ISO year-week-weekday constructor, every argument tuple (all integers `y`, all `w`) -/
theorem ctor_isoywd' (y : Int) (w : Nat) (wd : Weekday) :
    ∃ r, Date.from_isoywd_opt y w wd = .ok r ∧
      (∀ d, r = some d → ∃ Y o, d = dateOfYo Y o ∧ MIN_YEAR ≤ Y ∧ Y ≤ MAX_YEAR ∧ 1 ≤ o ∧
        o ≤ yearLen Y ∧ dayNumYo Y o = isoDayNum y w wd.toNat) ∧
      (r = none ↔ ¬ (isoWeekExists y w ∧ dayNumYo MIN_YEAR 1 ≤ isoDayNum y w wd.toNat ∧
        isoDayNum y w wd.toNat ≤ dayNumYo MAX_YEAR 365)) := by
  by_cases hw : 1 ≤ w ∧ w ≤ YearFlags.nisoweeks (flagsOf y)
  · obtain ⟨Y, o, ho1, ho2, hdn, hev⟩ := isoywd_eval y w wd hw
    obtain ⟨hsome, hnone⟩ := yo_opt_dayNum Y o ⟨ho1, ho2⟩
    have hex := (isoWeekExists_iff y w).mpr hw
    rw [hdn] at hsome hnone
    exact ⟨_, hev, hsome, hnone.trans ⟨fun h c => h c.2, fun h c => h ⟨hex, c⟩⟩⟩
  · refine ⟨none, isoywd_none y w wd hw, ?_, ?_⟩
    · intro d hd; cases hd
    · constructor
      · intro _ h; exact hw ((isoWeekExists_iff y w).mp h.1)
      · intro _; rfl

theorem isoThursday_isoDayNum (y w : Int) (k : Nat) (hk : k ≤ 6) :
    isoThursday (isoDayNum y w k) = isoDayNum y w 3 ∧ weekdayOf (isoDayNum y w k) = k := by
  unfold isoThursday isoDayNum isoWeek1Monday weekdayOf
  generalize dayNumYo y 4 = n4
  omega

theorem isoywd_roundtrip' (y : Int) (w : Nat) (wd : Weekday) (d : Date)
    (h : Date.from_isoywd_opt y w wd = .ok (some d)) :
    ∃ ywf, d.iso_week = .ok ywf ∧ IsoWeek.year ywf = y ∧ IsoWeek.week ywf = w ∧ d.weekday = wd := by
  obtain ⟨r, hr, hsome, hnone⟩ := ctor_isoywd' y w wd
  rw [hr] at h
  have hrd : r = some d := Res.ok.inj h
  obtain ⟨Y, o, hd, hY1, hY2, ho1, ho2, hdn⟩ := hsome d hrd
  have hex : isoWeekExists y w := by
    by_cases hc : isoWeekExists y w
    · exact hc
    · have : r = none := hnone.mpr (fun hh => hc hh.1)
      rw [this] at hrd; cases hrd
  obtain ⟨hthu, hwk⟩ := isoThursday_isoDayNum y w wd.toNat (wd_toNat_le wd)
  obtain ⟨Y', ot, t1, t2, t3, t4⟩ := iso_week_spec' Y o ⟨hY1, hY2⟩ ⟨ho1, ho2⟩
  rw [hdn, hthu] at t3
  -- the Thursday is the k-th day of year y
  obtain ⟨e1, e2, e3⟩ := hex
  have hs := dby_step y
  obtain ⟨k, hk⟩ := Int.eq_ofNat_of_zero_le (show 0 ≤ isoDayNum y w 3 - daysBeforeYear y by omega)
  have hkdn : dayNumYo y k = isoDayNum y w 3 := by unfold dayNumYo; omega
  have hyl := yearLen_ge y
  obtain ⟨u1, u2⟩ := yo_unique Y' y ot k ⟨t1, t2⟩ ⟨by omega, by omega⟩ (by rw [t3, hkdn])
  subst u1 u2
  obtain ⟨hf16, hf8, _, _⟩ := flagsOf_facts Y'
  obtain ⟨_, _, n3, n4, _, _, _⟩ := nisoweeks_fin (flagsOf Y') hf16 hf8
  have hk2 := isoDayNum_eq Y' w 3
  have hweek : (ot - 1) / 7 + 1 = w := by omega
  rw [hweek] at t4
  have hw53 : w ≤ 53 := by omega
  obtain ⟨f1, f2⟩ := ywf_fields Y' w (flagsOf Y') (by omega) hf16
  refine ⟨_, by rw [hd]; exact t4, f1, f2, ?_⟩
  apply wd_toNat_inj
  have hylY := yearLen_ge Y
  have hwd := weekday_spec Y o (by omega)
  rw [hdn, hwk] at hwd
  rw [hd]
  exact Int.ofNat.inj hwd

theorem isoThursday_mono (a b : Int) (h : a ≤ b) : isoThursday a ≤ isoThursday b := by
  unfold isoThursday weekdayOf; omega

theorem isoThursday_wd (a : Int) : weekdayOf (isoThursday a) = 3 := by
  unfold isoThursday weekdayOf; omega

/-- the packed ISO week `Y·1024 + week·16 + flags` of a Thursday, given as the `t`-th day of year
`Y`, is strictly monotone in its day number: two Thursdays of a year lie in different weeks -/
theorem ywf_le_iff (Y1 Y2 : Int) (t1 t2 : Nat) (h1 : 1 ≤ t1 ∧ t1 ≤ yearLen Y1)
    (h2 : 1 ≤ t2 ∧ t2 ≤ yearLen Y2) (w1 : weekdayOf (dayNumYo Y1 t1) = 3)
    (w2 : weekdayOf (dayNumYo Y2 t2) = 3) :
    Y1 * 1024 + (((t1 - 1) / 7 + 1 : Nat) : Int) * 16 + ((flagsOf Y1 : Nat) : Int) ≤
      Y2 * 1024 + (((t2 - 1) / 7 + 1 : Nat) : Int) * 16 + ((flagsOf Y2 : Nat) : Int) ↔
    dayNumYo Y1 t1 ≤ dayNumYo Y2 t2 := by
  have hl1 := yearLen_ge Y1
  have hl2 := yearLen_ge Y2
  have f1 := (flagsOf_facts Y1).1
  have f2 := (flagsOf_facts Y2).1
  rcases Int.lt_trichotomy Y1 Y2 with h | h | h
  · have := (order_lt Y1 Y2 t1 t2 h1 h2 (Or.inl h)).2
    omega
  · subst h
    unfold dayNumYo weekdayOf at *
    omega
  · have := (order_lt Y2 Y1 t2 t1 h2 h1 (Or.inl h)).2
    omega

/-- ISO weeks (packed `ywf`, derived order) compare as the Thursdays of their weeks -/
theorem iso_week_le_iff (y1 y2 : Int) (o1 o2 : Nat) (hy1 : MIN_YEAR ≤ y1 ∧ y1 ≤ MAX_YEAR)
    (hy2 : MIN_YEAR ≤ y2 ∧ y2 ≤ MAX_YEAR) (h1 : 1 ≤ o1 ∧ o1 ≤ yearLen y1)
    (h2 : 1 ≤ o2 ∧ o2 ≤ yearLen y2) :
    ∃ a b, Date.iso_week (dateOfYo y1 o1) = .ok a ∧ Date.iso_week (dateOfYo y2 o2) = .ok b ∧
      (a ≤ b ↔ isoThursday (dayNumYo y1 o1) ≤ isoThursday (dayNumYo y2 o2)) ∧
      (b ≤ a ↔ isoThursday (dayNumYo y2 o2) ≤ isoThursday (dayNumYo y1 o1)) := by
  obtain ⟨Y1, t1, a1, a2, a3, a4⟩ := iso_week_spec' y1 o1 hy1 h1
  obtain ⟨Y2, t2, b1, b2, b3, b4⟩ := iso_week_spec' y2 o2 hy2 h2
  have w1 := isoThursday_wd (dayNumYo y1 o1)
  have w2 := isoThursday_wd (dayNumYo y2 o2)
  rw [← a3] at w1 ⊢
  rw [← b3] at w2 ⊢
  exact ⟨_, _, a4, b4, ywf_le_iff Y1 Y2 t1 t2 ⟨a1, a2⟩ ⟨b1, b2⟩ w1 w2,
    ywf_le_iff Y2 Y1 t2 t1 ⟨b1, b2⟩ ⟨a1, a2⟩ w2 w1⟩

/-! ### the pinned (pre-repair) constructor: `year - 1` / `year + 1` in plain `i32` arithmetic -/

/-- `from_isoywd_opt` as in the pinned chrono 0.4.40 source (finding #1): the neighbouring year is
computed with unchecked `year - 1` / `year + 1`, which the overflow-checked build turns into a panic -/
def isoywdPinned (year : Int) (week : Nat) (weekday : Weekday) : Res (Option Date) :=
  let flags := YearFlags.from_year year
  let nweeks := YearFlags.nisoweeks flags
  if week = 0 ∨ week > nweeks then .ok none
  else
    let weekord := week * 7 + weekday.toNat
    let delta := YearFlags.isoweek_delta flags
    if weekord ≤ delta then
      match ckI32 (year - 1) with
      | .panic => .panic
      | .ok py =>
        let pf := YearFlags.from_year py
        Date.from_ordinal_and_flags py (weekord + YearFlags.ndays pf - delta) pf
    else
      let ordinal := weekord - delta
      let ndays := YearFlags.ndays flags
      if ordinal ≤ ndays then Date.from_ordinal_and_flags year ordinal flags
      else
        match ckI32 (year + 1) with
        | .panic => .panic
        | .ok ny => Date.from_ordinal_and_flags ny (ordinal - ndays) (YearFlags.from_year ny)

end Chrono.Proofs
