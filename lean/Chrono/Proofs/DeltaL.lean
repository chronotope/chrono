/- C06: the `(secs, nanos)` representation against the nanosecond count it denotes — constructors,
arithmetic, accessors, `std::time::Duration`. -/
import Chrono.Spec.DeltaSpec
import Chrono.Proofs.PrimL
import Mathlib.Tactic.Linarith
import Mathlib.Tactic.Ring

namespace Chrono.Proofs
open Chrono Chrono.M Chrono.Spec Chrono.Extracted

/-! ### Rust's `/` and `%` by a positive divisor

Both are odd in the dividend, and for `0 ≤ x` they are the floor quotient and remainder; each
identity below is proved for `0 ≤ x` and carried over to `-x`. -/

theorem tdiv_tdiv (x : Int) {m n mn : Int} (hm : 0 ≤ m) (h : m * n = mn) :
    (x.tdiv m).tdiv n = x.tdiv mn := by
  subst h
  have nonneg : ∀ y : Int, 0 ≤ y → (y.tdiv m).tdiv n = y.tdiv (m * n) := fun y hy => by
    rw [Int.tdiv_eq_ediv_of_nonneg hy, Int.tdiv_eq_ediv_of_nonneg (Int.ediv_nonneg hy hm),
      Int.tdiv_eq_ediv_of_nonneg hy, Int.ediv_ediv_of_nonneg hm]
  rcases Int.le_total 0 x with h | h
  · exact nonneg x h
  · have := nonneg (-x) (by omega)
    rwa [Int.neg_tdiv, Int.neg_tdiv, Int.neg_tdiv, Int.neg_inj] at this

/-- the quotient by `n` from quotient and remainder by a multiple `n·m` -/
theorem tdiv_split (x : Int) {n m nm : Int} (hn : 0 < n) (hm : 0 < m) (h : n * m = nm) :
    x.tdiv n = x.tdiv nm * m + (x.tmod nm).tdiv n := by
  subst h
  have hnm : n * m ≠ 0 := Int.mul_ne_zero (by omega) (by omega)
  have nonneg : ∀ y : Int, 0 ≤ y → y.tdiv n = y.tdiv (n * m) * m + (y.tmod (n * m)).tdiv n :=
    fun y hy => by
    rw [Int.tdiv_eq_ediv_of_nonneg hy, Int.tdiv_eq_ediv_of_nonneg hy, Int.tmod_eq_emod_of_nonneg hy,
      Int.tdiv_eq_ediv_of_nonneg (Int.emod_nonneg y hnm)]
    calc y / n = (y % (n * m) + n * (m * (y / (n * m)))) / n := by
            rw [← Int.mul_assoc, Int.emod_add_mul_ediv]
      _ = y % (n * m) / n + m * (y / (n * m)) := Int.add_mul_ediv_left _ _ (by omega)
      _ = y / (n * m) * m + y % (n * m) / n := by rw [Int.add_comm, Int.mul_comm m]
  rcases Int.le_total 0 x with h | h
  · exact nonneg x h
  · have := nonneg (-x) (by omega)
    rwa [Int.neg_tdiv, Int.neg_tdiv, Int.neg_tmod, Int.neg_tdiv, Int.neg_mul, ← Int.neg_add,
      Int.neg_inj] at this

/-- quotient and remainder carry the sign of the dividend -/
theorem tdiv_tmod_sign (x : Int) {k : Int} (hk : 0 ≤ k) :
    (0 ≤ x → 0 ≤ x.tdiv k ∧ 0 ≤ x.tmod k) ∧ (x ≤ 0 → x.tdiv k ≤ 0 ∧ x.tmod k ≤ 0) := by
  refine ⟨fun h => ⟨Int.tdiv_nonneg h hk, Int.tmod_nonneg k h⟩, fun h => ?_⟩
  have h1 := Int.tdiv_nonneg (a := -x) (by omega) hk
  have h2 := Int.tmod_nonneg k (a := -x) (by omega)
  rw [Int.neg_tdiv] at h1
  rw [Int.neg_tmod] at h2
  omega

theorem tdiv_bound (x : Int) {k C : Int} (hk : 0 < k) (h : -(C * k) < x ∧ x < C * k) :
    -C < x.tdiv k ∧ x.tdiv k < C := by
  rw [tdiv_eq]
  split
  · have := Int.ediv_nonneg (a := x) (b := k) (by omega) (by omega)
    have := Int.ediv_lt_of_lt_mul hk h.2
    omega
  · have := Int.ediv_nonneg (a := -x) (b := k) (by omega) (by omega)
    have := Int.ediv_lt_of_lt_mul (a := -x) hk (by omega : -x < C * k)
    omega

/-- an `i64` value followed by an `i64` sum with a term of the same sign overflows exactly when the
total does -/
theorem optI64_add (p t : Int) (h : 0 ≤ p ∧ 0 ≤ t ∨ p ≤ 0 ∧ t ≤ 0) :
    (match optI64 p with
      | some p => optI64 (p + t)
      | none => none) = optI64 (p + t) := by
  by_cases hp : -9223372036854775808 ≤ p ∧ p ≤ 9223372036854775807
  · rw [optI64_some hp.1 hp.2]
  · rw [optI64_none (x := p) (by omega), optI64_none (by omega)]

/-! ### The representation: `ns`, `ofNs`, the invariant -/

theorem nsInRange_iff (n : Int) :
    nsInRange n ↔ -9223372036854775807000000 ≤ n ∧ n ≤ 9223372036854775807000000 := Iff.rfl

theorem DInv_iff (a : Delta) :
    DInv a ↔ 0 ≤ a.nanos ∧ a.nanos < 1000000000 ∧
      -9223372036854775807000000 ≤ a.secs * 1000000000 + a.nanos ∧
      a.secs * 1000000000 + a.nanos ≤ 9223372036854775807000000 := Iff.rfl

/-- the fields of a valid value, with the seconds well inside `i64` -/
theorem dinv_fields {a : Delta} (ha : DInv a) :
    (0 ≤ a.nanos ∧ a.nanos < 1000000000) ∧ -9223372036854776 ≤ a.secs ∧ a.secs ≤ 9223372036854775 := by
  rw [DInv_iff] at ha; omega

/-- quotient and remainder by 10⁹ are unique: the equation through which `ofNs` is used -/
theorem ofNs_eq {s n m : Int} (h0 : 0 ≤ n) (h1 : n < 1000000000) (h : s * 1000000000 + n = m) :
    ofNs m = ⟨s, n⟩ := by
  simp only [ofNs, Delta.mk.injEq]; omega

theorem ofNs_spec' (n : Int) (h : nsInRange n) : DInv (ofNs n) ∧ ns (ofNs n) = n := by
  rw [nsInRange_iff] at h
  rw [DInv_iff]
  simp only [ns, ofNs]
  omega

/-- a valid pair is the canonical representation of its count -/
theorem ofNs_ns (a : Delta) (ha : DInv a) : ofNs (ns a) = a := ofNs_eq ha.1 ha.2.1 rfl

theorem new_iff' (secs nanos : Int) (hn : 0 ≤ nanos) :
    Delta.new secs nanos =
      if nanos < 1000000000 ∧ nsInRange (ns ⟨secs, nanos⟩) then some ⟨secs, nanos⟩ else none := by
  unfold Delta.new
  apply ite_flip
  simp only [Delta.MIN, Delta.MAX, TD_MIN_S, TD_MIN_N, TD_MAX_S, TD_MAX_N, nsInRange_iff, ns]
  omega

/-- `new` on a pair with a valid nanosecond field, in terms of the count it denotes -/
theorem new_ofNs (secs nanos n : Int) (hn0 : 0 ≤ nanos) (hn1 : nanos < 1000000000)
    (hv : secs * 1000000000 + nanos = n) :
    Delta.new secs nanos = if nsInRange n then some (ofNs n) else none := by
  rw [new_iff' secs nanos hn0, ofNs_eq hn0 hn1 hv]
  apply ite_same
  simp only [ns, hv, hn1, true_and]

theorem try_seconds_exact (s : Int) :
    Delta.try_seconds s =
      if nsInRange (s * 1000000000) then some (ofNs (s * 1000000000)) else none :=
  new_ofNs s 0 _ (by omega) (by omega) (by omega)

/-- `checked_mul` by the unit overflows `i64` only when the count is out of range anyway, whatever the
unit -/
theorem try_unit_eq (unit n : Int) :
    Delta.try_unit unit n =
      if nsInRange (n * unit * 1000000000) then some (ofNs (n * unit * 1000000000)) else none := by
  unfold Delta.try_unit
  by_cases hr : -9223372036854775808 ≤ n * unit ∧ n * unit ≤ 9223372036854775807
  · rw [optI64_some hr.1 hr.2]
    exact try_seconds_exact (n * unit)
  · rw [optI64_none (by omega), ite_neg' _ _ (by rw [nsInRange_iff]; omega)]

theorem try_unit_exact' (unit n : Int)
    (_hu : unit = 1 ∨ unit = 60 ∨ unit = 3600 ∨ unit = 86400 ∨ unit = 604800)
    (_hn : -9223372036854775808 ≤ n ∧ n ≤ 9223372036854775807) :
    Delta.try_unit unit n =
      if nsInRange (n * unit * 1000000000) then some (ofNs (n * unit * 1000000000)) else none :=
  try_unit_eq unit n

theorem micro_nano_exact' (x : Int) (h : -9223372036854775808 ≤ x ∧ x ≤ 9223372036854775807) :
    Delta.microseconds x = ofNs (x * 1000) ∧ DInv (Delta.microseconds x) ∧
    Delta.nanoseconds x = ofNs x ∧ DInv (Delta.nanoseconds x) := by
  have e : Delta.microseconds x = ofNs (x * 1000) :=
    (ofNs_eq (s := x / 1000000) (n := x % 1000000 * 1000) (by omega) (by omega) (by omega)).symm
  have e' : Delta.nanoseconds x = ofNs x := rfl
  rw [e, e']
  exact ⟨rfl, (ofNs_spec' _ (by rw [nsInRange_iff]; omega)).1, rfl,
    (ofNs_spec' _ (by rw [nsInRange_iff]; omega)).1⟩

/-! ### Arithmetic -/

theorem add_exact' (a b : Delta) (ha : DInv a) (hb : DInv b) :
    Delta.checked_add a b =
      .ok (if nsInRange (ns a + ns b) then some (ofNs (ns a + ns b)) else none) := by
  obtain ⟨an, as⟩ := dinv_fields ha
  obtain ⟨bn, bs⟩ := dinv_fields hb
  have hN : NANOS_PER_SEC = 1000000000 := rfl
  unfold Delta.checked_add ns
  rw [ckI64_ok (by omega) (by omega), Res.bind_ok, ckI32_ok (by omega) (by omega), Res.bind_ok]
  by_cases hc : a.nanos + b.nanos ≥ NANOS_PER_SEC
  · rw [ite_pos' _ _ hc, ckI32_ok (by omega) (by omega), Res.bind_ok, ckI64_ok (by omega) (by omega),
      Res.bind_ok, asU32_id (by omega) (by omega)]
    exact congrArg Res.ok (new_ofNs _ _ _ (by omega) (by omega) (by omega))
  · rw [ite_neg' _ _ hc, asU32_id (by omega) (by omega)]
    exact congrArg Res.ok (new_ofNs _ _ _ (by omega) (by omega) (by omega))

theorem neg_abs_exact' (a : Delta) (ha : DInv a) :
    Delta.neg a = .ok (ofNs (-(ns a))) ∧
    Delta.abs a = .ok (ofNs (if ns a < 0 then -(ns a) else ns a)) := by
  obtain ⟨an, as⟩ := dinv_fields ha
  have hN : NANOS_PER_SEC = 1000000000 := rfl
  have hMIN : I64_MIN = -9223372036854775808 := rfl
  have hneg : Delta.neg a = .ok (ofNs (-(ns a))) := by
    unfold Delta.neg ns
    by_cases hc : a.nanos = 0
    · rw [ite_pos' _ _ hc, ckI64_ok (by omega) (by omega), Res.bind_ok]
      exact congrArg Res.ok (ofNs_eq (by omega) (by omega) (by omega)).symm
    · rw [ite_neg' _ _ hc, ckI64_ok (by omega) (by omega), Res.bind_ok, ckI64_ok (by omega) (by omega),
        Res.bind_ok, ckI32_ok (by omega) (by omega), Res.bind_ok]
      exact congrArg Res.ok (ofNs_eq (by omega) (by omega) (by omega)).symm
  refine ⟨hneg, ?_⟩
  unfold Delta.abs Delta.absI64 ns
  by_cases hc : a.secs < 0 ∧ a.nanos ≠ 0
  · rw [ite_pos' _ _ hc, ckI64_ok (by omega) (by omega), Res.bind_ok,
      ite_neg' _ _ (by omega : ¬ (a.secs + 1 = I64_MIN)), Res.bind_ok, ckI32_ok (by omega) (by omega),
      Res.bind_ok]
    exact congrArg Res.ok (ofNs_eq (by omega) (by omega) (by repeat' split <;> omega)).symm
  · rw [ite_neg' _ _ hc, ite_neg' _ _ (by omega : ¬ (a.secs = I64_MIN)), Res.bind_ok]
    exact congrArg Res.ok (ofNs_eq (by omega) (by omega) (by repeat' split <;> omega)).symm

/-! ### Accessors -/

/-- seconds and sub-second part in Rust's convention (both with the sign of the count) are its
truncated quotient and remainder by 10⁹ -/
theorem num_seconds_eq (a : Delta) (ha : DInv a) :
    a.num_seconds = Int.tdiv (ns a) 1000000000 ∧ a.subsec_nanos = Int.tmod (ns a) 1000000000 := by
  rw [DInv_iff] at ha
  have hN : NANOS_PER_SEC = 1000000000 := rfl
  unfold Delta.num_seconds Delta.subsec_nanos ns
  rw [tmod_eq, tdiv_eq]
  by_cases hc : a.secs < 0 ∧ a.nanos > 0
  · rw [ite_pos' _ _ hc, ite_pos' _ _ hc]; split <;> omega
  · rw [ite_neg' _ _ hc, ite_neg' _ _ hc]; split <;> omega

theorem accessors_spec' (a : Delta) (ha : DInv a) :
    a.num_seconds = Int.tdiv (ns a) 1000000000 ∧ a.subsec_nanos = Int.tmod (ns a) 1000000000 ∧
    a.num_milliseconds = .ok (Int.tdiv (ns a) 1000000) ∧
    a.num_microseconds = optI64 (Int.tdiv (ns a) 1000) ∧
    a.num_nanoseconds = optI64 (ns a) ∧
    a.num_minutes = Int.tdiv (ns a) 60000000000 ∧ a.num_hours = Int.tdiv (ns a) 3600000000000 ∧
    a.num_days = Int.tdiv (ns a) 86400000000000 ∧ a.num_weeks = Int.tdiv (ns a) 604800000000000 ∧
    a.subsec_millis = Int.tdiv (Int.tmod (ns a) 1000000000) 1000000 ∧
    a.subsec_micros = Int.tdiv (Int.tmod (ns a) 1000000000) 1000 := by
  obtain ⟨hsec, hsub⟩ := num_seconds_eq a ha
  have hX := (nsInRange_iff _).mp ha.2.2
  generalize ns a = X at *
  have hq := tdiv_bound X (k := 1000000000) (C := 9223372036854776) (by omega) (by omega)
  -- quotient and remainder by 10⁹ have the sign of `X`, so the partial sums below do not cancel
  have sgn := tdiv_tmod_sign X (k := 1000000000) (by omega)
  refine ⟨hsec, hsub, ?_, ?_, ?_, ?_, ?_, ?_, ?_, ?_, ?_⟩
  · have ht := tdiv_bound X (k := 1000000) (C := 9223372036854775808) (by omega) (by omega)
    rw [tdiv_split X (n := 1000000) (m := 1000) (nm := 1000000000) (by omega) (by omega) rfl] at ht ⊢
    unfold Delta.num_milliseconds
    rw [hsec, hsub]
    simp only [MILLIS_PER_SEC, NANOS_PER_MILLI]
    rw [ckI64_ok (by omega) (by omega), Res.bind_ok, ckI64_ok (by omega) (by omega)]
  · unfold Delta.num_microseconds
    simp only [MICROS_PER_SEC, NANOS_PER_MICRO]
    rw [hsec, hsub, tdiv_split X (n := 1000) (m := 1000000) (nm := 1000000000) (by omega) (by omega) rfl]
    have := tdiv_tmod_sign (X.tmod 1000000000) (k := 1000) (by omega)
    exact optI64_add _ _ (by omega)
  · have hX' : X.tdiv 1000000000 * 1000000000 + X.tmod 1000000000 = X := by
      have := Int.mul_tdiv_add_tmod X 1000000000; omega
    unfold Delta.num_nanoseconds
    simp only [NANOS_PER_SEC]
    rw [hsec, hsub]
    exact (optI64_add _ _ (by omega)).trans (congrArg optI64 hX')
  · unfold Delta.num_minutes; rw [hsec]; exact tdiv_tdiv X (by omega) rfl
  · unfold Delta.num_hours; rw [hsec]; exact tdiv_tdiv X (by omega) rfl
  · unfold Delta.num_days; rw [hsec]; exact tdiv_tdiv X (by omega) rfl
  · unfold Delta.num_weeks Delta.num_days; rw [hsec]
    exact (tdiv_tdiv _ (m := 86400) (n := 7) (mn := 604800) (by omega) rfl).trans
      (tdiv_tdiv X (by omega) rfl)
  · unfold Delta.subsec_millis; rw [hsub]; rfl
  · unfold Delta.subsec_micros; rw [hsub]; rfl

/-! ### Order and `std::time::Duration` -/

theorem std_spec' (secs nanos : Int) (_hs : 0 ≤ secs ∧ secs ≤ 18446744073709551615)
    (hn : 0 ≤ nanos ∧ nanos < 1000000000) (a : Delta) (ha : DInv a) :
    Delta.from_std secs nanos =
      (if nsInRange (secs * 1000000000 + nanos) then some ⟨secs, nanos⟩ else none) ∧
    Delta.to_std a = (if 0 ≤ ns a then some (a.secs, a.nanos) else none) := by
  rw [DInv_iff] at ha
  have hMAX : Delta.MAX.secs = 9223372036854775 := rfl
  constructor
  · unfold Delta.from_std
    by_cases hc : secs > Delta.MAX.secs
    · rw [ite_pos' _ _ hc, ite_neg' _ _ (by rw [nsInRange_iff]; omega)]
    · rw [ite_neg' _ _ hc, new_iff' _ _ hn.1]
      apply ite_same
      simp only [ns, hn.2, true_and]
  · unfold Delta.to_std ns
    apply ite_flip
    omega

end Chrono.Proofs
