/-
  Helper lemmas for C04, part 2: the date-level operations that `DateTime`'s field replacement and
  day / month stepping hand the wall-clock date to.  That date can be `BEFORE_MIN` / `AFTER_MAX` (the
  wall clock of a value at a range end), so they are needed on the calendar extended by one year at
  each end: field replacement and `diff_months` hold for a date of any year (Proofs/DateOpsL.lean);
  day stepping, proved by C03 for dates of the range, is extended here to the two headroom days.
-/
import Chrono.Proofs.ZonedL
import Chrono.Proofs.DateOpsL
import Chrono.Proofs.DateArithL

namespace Chrono.Proofs.ZN
open Chrono Chrono.M Chrono.Spec Chrono.Proofs Chrono.Extracted Chrono.Extracted.DateOps

/-! ### field replacement, any year -/

/-- the date (y, m, d) if it exists — no range check on the year (`with_mdf` / `with_ordinal` go
through `from_yof`, which does not look at the year) -/
def ymdAny? (y : Int) (m d : Nat) : Option Date :=
  if validYmd y m d = true then some (dateOfYo y (ordinalOf y m d)) else none
def yoAny? (y : Int) (o : Nat) : Option Date :=
  if 1 ≤ o ∧ o ≤ yearLen y then some (dateOfYo y o) else none

theorem with_month_any (y : Int) (o : Nat) (ho : 1 ≤ o ∧ o ≤ yearLen y) (m' : Nat) :
    (dateOfYo y o).with_month m' = .ok (ymdAny? y m' (dayOfYo y o)) :=
  with_month_eq y o ho m'

theorem with_day_any (y : Int) (o : Nat) (ho : 1 ≤ o ∧ o ≤ yearLen y) (d' : Nat) :
    (dateOfYo y o).with_day d' = .ok (ymdAny? y (monthOfYo y o) d') :=
  with_day_eq y o ho d'

theorem with_month0_any (y : Int) (o : Nat) (ho : 1 ≤ o ∧ o ≤ yearLen y) (m0 : Nat) :
    (dateOfYo y o).with_month0 m0 = .ok (ymdAny? y (m0 + 1) (dayOfYo y o)) :=
  (with_month0_succ y o ho m0).trans (with_month_eq y o ho (m0 + 1))

theorem with_day0_any (y : Int) (o : Nat) (ho : 1 ≤ o ∧ o ≤ yearLen y) (d0 : Nat) :
    (dateOfYo y o).with_day0 d0 = .ok (ymdAny? y (monthOfYo y o) (d0 + 1)) :=
  (with_day0_succ y o ho d0).trans (with_day_eq y o ho (d0 + 1))

theorem with_ordinal_any (y : Int) (o : Nat) (ho : 1 ≤ o ∧ o ≤ yearLen y) (o' : Nat) :
    (dateOfYo y o).with_ordinal o' = .ok (yoAny? y o') :=
  with_ordinal_eq y o ho o'

theorem with_ordinal0_any (y : Int) (o : Nat) (ho : 1 ≤ o ∧ o ≤ yearLen y) (o0 : Nat) :
    (dateOfYo y o).with_ordinal0 o0 = .ok (yoAny? y (o0 + 1)) :=
  (with_ordinal0_succ y o ho o0).trans (with_ordinal_eq y o ho (o0 + 1))

/-! ### month stepping on the extended calendar -/

/-- month stepping of a date of the extended calendar: `Months(0)` returns the date itself (also a
headroom date), otherwise C08's `addMonths?` (which validates the target year) -/
theorem months_ext (y : Int) (o : Nat) (hy : MIN_YEAR - 1 ≤ y ∧ y ≤ MAX_YEAR + 1)
    (ho : 1 ≤ o ∧ o ≤ yearLen y) (n : Nat) :
    (dateOfYo y o).checked_add_months n =
      .ok (if n = 0 then some (dateOfYo y o) else addMonths? y (monthOfYo y o) (dayOfYo y o) n) ∧
    (dateOfYo y o).checked_sub_months n =
      .ok (if n = 0 then some (dateOfYo y o) else addMonths? y (monthOfYo y o) (dayOfYo y o) (-(n : Int))) := by
  have hMIN : MIN_YEAR = -262143 := rfl
  have hMAX : MAX_YEAR = 262142 := rfl
  have hI : I32_MAX = 2147483647 := rfl
  obtain ⟨_, _, m3, _⟩ := month_day_spec y o ho.1 ho.2
  obtain ⟨hm1, hm12, hd1, _⟩ := (valid_iff y _ _).mp m3
  unfold Date.checked_add_months Date.checked_sub_months
  by_cases h0 : n = 0
  · rw [if_pos h0, if_pos h0, if_pos h0, if_pos h0]; exact ⟨rfl, rfl⟩
  · rw [if_neg h0, if_neg h0, if_neg h0, if_neg h0]
    by_cases hle : (n : Int) ≤ I32_MAX
    · rw [if_pos hle, if_pos hle]
      exact ⟨diff_months_eq y o (by omega) ho n, diff_months_eq y o (by omega) ho _⟩
    · rw [if_neg hle, if_neg hle]
      constructor
      · congr 1; symm
        rw [addMonths_none_iff _ _ _ _ hd1]
        right; unfold stepYear monthIndex; omega
      · congr 1; symm
        rw [addMonths_none_iff _ _ _ _ hd1]
        left; unfold stepYear monthIndex; omega


/-! ### day stepping from a wall-clock date (a date of the range or one of the two headroom days) -/

theorem cyclePath_shift (d1 d2 : Date) (n1 n2 : Int) (hq : d1.year / 400 = d2.year / 400)
    (hc : ((Date.yo_to_cycle (d1.year % 400).toNat d1.ordinal.toNat : Nat) : Int) + n1
        = ((Date.yo_to_cycle (d2.year % 400).toNat d2.ordinal.toNat : Nat) : Int) + n2) :
    cyclePath d1 n1 = cyclePath d2 n2 := by
  unfold cyclePath
  dsimp only
  rw [hq, hc]

theorem headroom_cycle_consts :
    Date.BEFORE_MIN.year / 400 = Date.MIN.year / 400 ∧
    ((Date.yo_to_cycle (Date.BEFORE_MIN.year % 400).toNat Date.BEFORE_MIN.ordinal.toNat : Nat) : Int) + 1
      = ((Date.yo_to_cycle (Date.MIN.year % 400).toNat Date.MIN.ordinal.toNat : Nat) : Int) ∧
    Date.AFTER_MAX.year / 400 = Date.MAX.year / 400 ∧
    ((Date.yo_to_cycle (Date.AFTER_MAX.year % 400).toNat Date.AFTER_MAX.ordinal.toNat : Nat) : Int)
      = ((Date.yo_to_cycle (Date.MAX.year % 400).toNat Date.MAX.ordinal.toNat : Nat) : Int) + 1 ∧
    (1 ≤ (Date.yo_to_cycle (Date.AFTER_MAX.year % 400).toNat Date.AFTER_MAX.ordinal.toNat : Nat)) ∧
    Date.BEFORE_MIN.ordinal = 366 ∧ Date.BEFORE_MIN.leap_year = true ∧
    Date.AFTER_MAX.ordinal = 1 ∧ Date.AFTER_MAX.leap_year = false ∧
    isLeap (MIN_YEAR - 1) = true ∧ isLeap (MAX_YEAR + 1) = false ∧ yearLen (MAX_YEAR + 1) = 365 := by
  decide +kernel

/-- `d` is a wall-clock date: in range, or one of the two headroom days -/
def HeadOrIn (d : Date) : Prop := DateInv d ∨ d = Date.BEFORE_MIN ∨ d = Date.AFTER_MAX

theorem day_consts : DAY_MIN = -95746129 ∧ DAY_MAX = 95745399 ∧
    dayNumOf Date.BEFORE_MIN = -95746130 ∧ dayNumOf Date.AFTER_MAX = 95745400 ∧
    ¬ DateInv Date.BEFORE_MIN ∧ ¬ DateInv Date.AFTER_MAX ∧
    ExtDateInv Date.BEFORE_MIN ∧ ExtDateInv Date.AFTER_MAX := by decide

/-- outcome of stepping a wall-clock date `d` by `k` days: a result is a date of the extended
calendar exactly `k` days away — in range, except for the same-year fast path out of a headroom day
away from the range; a refusal means the target day is outside the range -/
def DayStep (d : Date) (k : Int) (r : Option Date) : Prop :=
  (∀ d', r = some d' → ExtDateInv d' ∧ dayNumOf d' = dayNumOf d + k ∧
    (DateInv d' ∨ (d = Date.BEFORE_MIN ∧ k ≤ 0) ∨ (d = Date.AFTER_MAX ∧ 0 ≤ k))) ∧
  (r = none → ¬ (DAY_MIN ≤ dayNumOf d + k ∧ dayNumOf d + k ≤ DAY_MAX))

theorem dayStep_none (d : Date) (k : Int)
    (h : ¬ (DAY_MIN ≤ dayNumOf d + k ∧ dayNumOf d + k ≤ DAY_MAX)) : DayStep d k none :=
  ⟨fun d' h' => (by cases h'), fun _ => h⟩

/-- `add_days` from a day `(y, o)` of the extended calendar that has a date `(yn, on)` of the range
`δ` days away in the same 400-year cycle: inside the year the ordinal bits are replaced; otherwise
the cycle path computes what it computes from the neighbour for `k - δ` days -/
theorem add_days_near (y yn : Int) (o on : Nat) (δ k : Int) (hv : VYO y o)
    (hyn : MIN_YEAR ≤ yn ∧ yn ≤ MAX_YEAR) (hon : 1 ≤ on ∧ on ≤ yearLen yn)
    (hq : (dateOfYo y o).year / 400 = (dateOfYo yn on).year / 400)
    (hc : ((Date.yo_to_cycle ((dateOfYo y o).year % 400).toNat (dateOfYo y o).ordinal.toNat : Nat) : Int) + δ
      = ((Date.yo_to_cycle ((dateOfYo yn on).year % 400).toNat (dateOfYo yn on).ordinal.toNat : Nat) : Int))
    (hn : dayNumYo y o + δ = dayNumYo yn on)
    (hk : -2147483648 ≤ k ∧ k ≤ 2147483647) (hkδ : -2147483648 ≤ k - δ ∧ k - δ ≤ 2147483647) :
    ∃ r, Date.add_days (dateOfYo y o) k = .ok r ∧
      (∀ d', r = some d' → ExtDateInv d' ∧ dayNumOf d' = dayNumYo y o + k ∧
        (DateInv d' ∨ (1 ≤ (o : Int) + k ∧ (o : Int) + k ≤ yearLen y))) ∧
      (r = none → ¬ (DAY_MIN ≤ dayNumYo y o + k ∧ dayNumYo y o + k ≤ DAY_MAX)) := by
  have hsh := cyclePath_shift _ (dateOfYo yn on) k (k - δ) hq (by omega)
  clear hq hc
  obtain ⟨hv1, hv2, hv3, hv4⟩ := hv
  have ho : (1 : Int) ≤ o ∧ (o : Int) ≤ 366 ∧ o < 512 := by have := yearLen_ge y; omega
  obtain ⟨_, hord, _, _, _, hleap⟩ := dateOfYo_fields y o ho.2.2
  rw [add_days_eq, hord, hleap, fastOrd_spec y o k ⟨ho.1, ho.2.1⟩ hk]
  by_cases hfast : 1 ≤ (o : Int) + k ∧ (o : Int) + k ≤ yearLen y
  · obtain ⟨o2, ho2⟩ := Int.eq_ofNat_of_zero_le (show 0 ≤ (o : Int) + k by omega)
    have h2 : (1 ≤ o2 ∧ o2 ≤ yearLen y) ∧ o2 < 512 := by have := yearLen_ge y; omega
    rw [if_pos hfast]
    dsimp only
    rw [ho2, word_replace y o o2, from_yof_word y o2 h2.1]
    refine ⟨_, rfl, ?_, fun h => by cases h⟩
    intro d' hd'
    cases hd'
    refine ⟨ext_of_vyo y o2 ⟨hv1, hv2, h2.1.1, h2.1.2⟩, ?_, Or.inr (ho2 ▸ hfast)⟩
    rw [dayNumOf_yo _ _ h2.2, ← ho2]; unfold dayNumYo; omega
  · rw [if_neg hfast, hsh]
    obtain ⟨r, h1, h2, h3⟩ := cyclePath_spec yn on (k - δ) hyn hon hkδ
    refine ⟨r, h1, ?_, ?_⟩
    · intro d' hd'
      obtain ⟨y', o', e, b1, b2, b3, b4, b5⟩ := h2 d' hd'
      obtain ⟨i1, i2⟩ := inv_of_yo y' o' ⟨b1, b2⟩ ⟨b3, b4⟩
      rw [e]
      exact ⟨((dateInv_iff _).mp i1).1, by rw [i2, b5]; omega, Or.inl i1⟩
    · intro hr
      have := h3.mp hr
      rw [day_consts.1, day_consts.2.1]; omega

/-- `add_days` from the day before MIN, every count in `(-2³¹, 2³¹)` -/
theorem add_days_before_min (k : Int) (hk : -2147483647 ≤ k ∧ k ≤ 2147483647) :
    ∃ r, Date.add_days Date.BEFORE_MIN k = .ok r ∧ DayStep Date.BEFORE_MIN k r := by
  obtain ⟨q1, c1, -⟩ := headroom_cycle_consts
  obtain ⟨hb, -, hl366, hmin, -⟩ := headroom_consts
  have hn : dayNumYo (MIN_YEAR - 1) ((366 : Nat) : Int) + 1 = dayNumYo MIN_YEAR ((1 : Nat) : Int) := by decide
  rw [hb, hmin] at q1 c1
  obtain ⟨r, h1, h2, h3⟩ := add_days_near (MIN_YEAR - 1) MIN_YEAR 366 1 1 k
    ⟨Int.le_refl _, by decide, by decide, by decide⟩ (by decide) (by decide) q1 c1 hn (by omega) (by omega)
  rw [← dayNumOf_yo _ _ (by decide), ← hb] at h2 h3
  refine ⟨r, hb ▸ h1, fun d' hd' => ?_, h3⟩
  obtain ⟨a, b, c⟩ := h2 d' hd'
  exact ⟨a, b, c.imp_right fun h => Or.inl ⟨rfl, by rw [hl366] at h; omega⟩⟩

/-- `add_days` from the day after MAX, every `i32` count -/
theorem add_days_after_max (k : Int) (hk : -2147483648 ≤ k ∧ k ≤ 2147483647) :
    ∃ r, Date.add_days Date.AFTER_MAX k = .ok r ∧ DayStep Date.AFTER_MAX k r := by
  obtain ⟨-, -, q2, c2, c3, -⟩ := headroom_cycle_consts
  obtain ⟨-, ha, -, -, hmax, -⟩ := headroom_consts
  obtain ⟨dm, dM, -, da, -⟩ := day_consts
  by_cases hov : k + 1 ≤ 2147483647
  · have hn : dayNumYo (MAX_YEAR + 1) ((1 : Nat) : Int) + -1 = dayNumYo MAX_YEAR ((365 : Nat) : Int) := by decide
    rw [ha, hmax] at q2 c2
    obtain ⟨r, h1, h2, h3⟩ := add_days_near (MAX_YEAR + 1) MAX_YEAR 1 365 (-1) k
      ⟨by decide, Int.le_refl _, by decide, by decide⟩ (by decide) (by decide) q2 (by omega) hn hk (by omega)
    rw [← dayNumOf_yo _ _ (by decide), ← ha] at h2 h3
    refine ⟨r, ha ▸ h1, fun d' hd' => ?_, h3⟩
    obtain ⟨a, b, c⟩ := h2 d' hd'
    exact ⟨a, b, c.imp_right fun h => Or.inr ⟨rfl, by omega⟩⟩
  · -- `k = i32::MAX`: the cycle position plus `k` overflows, and the target is far outside the range
    refine ⟨none, ?_, dayStep_none _ _ (by rw [da, dm, dM]; omega)⟩
    obtain ⟨-, -, -, -, -, -, -, o1, l1, -, lp, yl⟩ := headroom_cycle_consts
    rw [add_days_eq, o1, l1, ← lp, fastOrd_spec (MAX_YEAR + 1) 1 k (by omega) hk, yl, if_neg (by omega)]
    unfold cyclePath
    dsimp only
    rw [optI32_none (by omega)]

theorem dayStep_of_shift (d : Date) (k : Int) (r : Option Date) (h : IsDayShift d k r) : DayStep d k r := by
  obtain ⟨c1, c2, _⟩ := dn_consts
  obtain ⟨dm, dM, _⟩ := day_consts
  refine ⟨?_, ?_⟩
  · intro d' hd'
    obtain ⟨a, b⟩ := h.2 d' hd'
    exact ⟨((dateInv_iff _).mp a).1, b, Or.inl a⟩
  · intro hr
    have := h.1.mp hr
    rw [c1, c2] at this; rw [dm, dM]; omega

theorem wall_checked_days (d : Date) (hd : HeadOrIn d) (c : Int) (hc : 0 ≤ c ∧ c ≤ 18446744073709551615) :
    (∃ r, Date.checked_add_days d c = .ok r ∧ DayStep d c r) ∧
    (∃ r, Date.checked_sub_days d c = .ok r ∧ DayStep d (-c) r) := by
  have hI : I32_MAX = 2147483647 := rfl
  obtain ⟨dm, dM, db, da, _⟩ := day_consts
  rcases hd with hd | hd | hd
  · obtain ⟨r1, a1, b1⟩ := checked_add_days_spec d c hd hc
    obtain ⟨r2, a2, b2⟩ := checked_sub_days_spec d c hd hc
    exact ⟨⟨r1, a1, dayStep_of_shift d c r1 b1⟩, ⟨r2, a2, dayStep_of_shift d (-c) r2 b2⟩⟩
  · subst hd
    unfold Date.checked_add_days Date.checked_sub_days
    by_cases h : c ≤ I32_MAX
    · rw [if_pos h, if_pos h, asI32_id (by omega) (by omega), ckI32_ok (by omega) (by omega)]
      exact ⟨add_days_before_min c (by omega), add_days_before_min (-c) (by omega)⟩
    · rw [if_neg h, if_neg h]
      exact ⟨⟨none, rfl, dayStep_none _ _ (by rw [db, dm, dM]; omega)⟩,
        ⟨none, rfl, dayStep_none _ _ (by rw [db, dm, dM]; omega)⟩⟩
  · subst hd
    unfold Date.checked_add_days Date.checked_sub_days
    by_cases h : c ≤ I32_MAX
    · rw [if_pos h, if_pos h, asI32_id (by omega) (by omega), ckI32_ok (by omega) (by omega)]
      exact ⟨add_days_after_max c (by omega), add_days_after_max (-c) (by omega)⟩
    · rw [if_neg h, if_neg h]
      exact ⟨⟨none, rfl, dayStep_none _ _ (by rw [da, dm, dM]; omega)⟩,
        ⟨none, rfl, dayStep_none _ _ (by rw [da, dm, dM]; omega)⟩⟩

/-- a reading (day `n`, second `s`) less than a day away from a reading of a day `nu` of the range
falls on a day of the range or next to it, and next to it only from within a day of that range end -/
theorem wall_day (n nu s su off : Int) (hnu : DAY_MIN ≤ nu ∧ nu ≤ DAY_MAX) (hs : 0 ≤ s ∧ s < 86400)
    (hsu : 0 ≤ su ∧ su < 86400) (ho : -86400 < off ∧ off < 86400)
    (h : (n - EPOCH_DAY) * 86400 + s = (nu - EPOCH_DAY) * 86400 + su + off) :
    (n = DAY_MIN - 1 ∨ n = DAY_MAX + 1 ∨ (DAY_MIN ≤ n ∧ n ≤ DAY_MAX)) ∧
    (n = DAY_MIN - 1 → (nu - EPOCH_DAY) * 86400 + su < SECS_MIN + 86400) ∧
    (n = DAY_MAX + 1 → SECS_MAX - 86400 < (nu - EPOCH_DAY) * 86400 + su) := by
  unfold SECS_MIN SECS_MAX; omega

/-- the wall-clock date of a well-formed value is a date of the range or one of the headroom days -/
theorem wall_date_cases (z : Zoned) (hz : ZInv z) (l : NaiveDT)
    (hl : Zoned.overflowing_naive_local z = .ok l) :
    ExtNDTInv l ∧ instSecs l = wallSecs z ∧ l.time.frac = z.utc.time.frac ∧ HeadOrIn l.date ∧
    (l.date = Date.BEFORE_MIN → instSecs z.utc < SECS_MIN + 86400) ∧
    (l.date = Date.AFTER_MAX → SECS_MAX - 86400 < instSecs z.utc) ∧
    InRangeSecs (instSecs z.utc) := by
  obtain ⟨b, c, d, -⟩ := naive_local_of z hz l hl
  obtain ⟨-, -, db, da, -⟩ := day_consts
  obtain ⟨hb, ha, -⟩ := headroom_consts
  have hue := (dateInv_iff z.utc.date).mp hz.1.1
  obtain ⟨-, vu⟩ := ext_eq z.utc.date hue.1
  obtain ⟨el, vl⟩ := ext_eq l.date b.1
  have hnu := (range_iff _ _ ⟨vu.2.2.1, vu.2.2.2⟩).mpr hue.2
  have hut : 0 ≤ z.utc.time.secs ∧ z.utc.time.secs < 86400 := ⟨hz.1.2.1, hz.1.2.2.1⟩
  have hdn := dayNumOf_ext l.date b.1
  obtain ⟨hcase, hlo, hhi⟩ := wall_day _ _ _ _ _ hnu ⟨b.2.1, b.2.2.1⟩ hut hz.2
    (by rw [← instSecs_ext l b.1, ← instSecs_ext z.utc hue.1]; exact c)
  rw [← instSecs_ext z.utc hue.1] at hlo hhi
  refine ⟨b, c, d, ?_, fun h => hlo (by rw [← hdn, h, db]; decide),
    fun h => hhi (by rw [← hdn, h, da]; decide), inrange_of_inv z.utc hz.1⟩
  rcases hcase with h | h | h
  · refine Or.inr (Or.inl ?_)
    rw [el, hb]
    exact date_of_daynum_unique _ _ _ _ ⟨vl.2.2.1, vl.2.2.2⟩ (by decide) (by rw [h]; decide)
  · refine Or.inr (Or.inr ?_)
    rw [el, ha]
    exact date_of_daynum_unique _ _ _ _ ⟨vl.2.2.1, vl.2.2.2⟩ (by decide) (by rw [h]; decide)
  · exact Or.inl ((dateInv_iff _).mpr ⟨b.1, (range_iff _ _ ⟨vl.2.2.1, vl.2.2.2⟩).mp h⟩)

end Chrono.Proofs.ZN
