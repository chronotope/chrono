/-
  C20, audit2 gap 2: the bodies of the sixteen serde timestamp modules, re-extracted on every run as terms
  (Extracted/SerdeBodies.lean: every operator, cast, comparison and callee), given their meaning by the generic
  evaluator of Model/SerdeTsEval.lean, ARE the hand-written functions of Model/SerdeTs.lean.

  `visRows` / `optRows` collect, per target, what the extractor found in each module: the struct the
  `de::Visitor` impl is for and the bodies of its methods; a visitor NAME in a `deserialize` / `visit_some`
  body is resolved through these rows (so `d.deserialize_i64(MicroSecondsTimestampVisitor)` inside
  `ts_milliseconds_option::visit_some` would select the microsecond bodies and the equality below would fail).
  Namespace `Chrono.Proofs.SerdeTsBodies`.
-/
import Chrono.Model.SerdeTsEval
import Chrono.Extracted.SerdeBodies
import Chrono.Spec.SerdeSpec
import Chrono.Spec.TimestampSpec
import Chrono.Proofs.PrimL
import Chrono.Proofs.SerdeL

namespace Chrono.Proofs.SerdeTsBodies
open Chrono Chrono.M Chrono.M.Serde Chrono.M.Serde.Code Chrono.Extracted Chrono.Spec Chrono.Spec.Ts Chrono.Spec.Serde

/-- per target: (struct the `de::Visitor` impl of the plain module is for, `visit_i64` body, `visit_u64` body) -/
def visRows : Target → List (Vis × Visit × Visit)
  | .utc => [(SB_utc_ts_seconds_impl, SB_utc_ts_seconds_i64, SB_utc_ts_seconds_u64),
      (SB_utc_ts_milliseconds_impl, SB_utc_ts_milliseconds_i64, SB_utc_ts_milliseconds_u64),
      (SB_utc_ts_microseconds_impl, SB_utc_ts_microseconds_i64, SB_utc_ts_microseconds_u64),
      (SB_utc_ts_nanoseconds_impl, SB_utc_ts_nanoseconds_i64, SB_utc_ts_nanoseconds_u64)]
  | .naive => [(SB_naive_ts_seconds_impl, SB_naive_ts_seconds_i64, SB_naive_ts_seconds_u64),
      (SB_naive_ts_milliseconds_impl, SB_naive_ts_milliseconds_i64, SB_naive_ts_milliseconds_u64),
      (SB_naive_ts_microseconds_impl, SB_naive_ts_microseconds_i64, SB_naive_ts_microseconds_u64),
      (SB_naive_ts_nanoseconds_impl, SB_naive_ts_nanoseconds_i64, SB_naive_ts_nanoseconds_u64)]

/-- the integer visitor of that name in the target's file -/
def visOf (tg : Target) (n : Vis) : WInt → Res (SR NaiveDT) :=
  match (visRows tg).find? (fun r => decide (r.1 = n)) with
  | some (_, bi, bu) => visitor bi bu
  | none => fun _ => .panic

/-- per target: (struct the impl of the `_option` module is for, `visit_some`, `visit_none`, `visit_unit` bodies) -/
def optRows : Target → List (Vis × De × Unitish × Unitish)
  | .utc => [(SB_utc_ts_seconds_option_impl, SB_utc_ts_seconds_option_some, SB_utc_ts_seconds_option_none, SB_utc_ts_seconds_option_unit),
      (SB_utc_ts_milliseconds_option_impl, SB_utc_ts_milliseconds_option_some, SB_utc_ts_milliseconds_option_none, SB_utc_ts_milliseconds_option_unit),
      (SB_utc_ts_microseconds_option_impl, SB_utc_ts_microseconds_option_some, SB_utc_ts_microseconds_option_none, SB_utc_ts_microseconds_option_unit),
      (SB_utc_ts_nanoseconds_option_impl, SB_utc_ts_nanoseconds_option_some, SB_utc_ts_nanoseconds_option_none, SB_utc_ts_nanoseconds_option_unit)]
  | .naive => [(SB_naive_ts_seconds_option_impl, SB_naive_ts_seconds_option_some, SB_naive_ts_seconds_option_none, SB_naive_ts_seconds_option_unit),
      (SB_naive_ts_milliseconds_option_impl, SB_naive_ts_milliseconds_option_some, SB_naive_ts_milliseconds_option_none, SB_naive_ts_milliseconds_option_unit),
      (SB_naive_ts_microseconds_option_impl, SB_naive_ts_microseconds_option_some, SB_naive_ts_microseconds_option_none, SB_naive_ts_microseconds_option_unit),
      (SB_naive_ts_nanoseconds_option_impl, SB_naive_ts_nanoseconds_option_some, SB_naive_ts_nanoseconds_option_none, SB_naive_ts_nanoseconds_option_unit)]

def optVisOf (tg : Target) (n : Vis) : WOpt → Res (SR (Option NaiveDT)) :=
  match (optRows tg).find? (fun r => decide (r.1 = n)) with
  | some (_, s, nn, u) => optVisitor s nn u (visOf tg)
  | none => fun _ => .panic

def serRow : Target → TsUnit → Ser
  | .utc, .secs => SB_utc_ts_seconds_ser
  | .utc, .millis => SB_utc_ts_milliseconds_ser
  | .utc, .micros => SB_utc_ts_microseconds_ser
  | .utc, .nanos => SB_utc_ts_nanoseconds_ser
  | .naive, .secs => SB_naive_ts_seconds_ser
  | .naive, .millis => SB_naive_ts_milliseconds_ser
  | .naive, .micros => SB_naive_ts_microseconds_ser
  | .naive, .nanos => SB_naive_ts_nanoseconds_ser

def serOptRow : Target → TsUnit → Ser
  | .utc, .secs => SB_utc_ts_seconds_option_ser
  | .utc, .millis => SB_utc_ts_milliseconds_option_ser
  | .utc, .micros => SB_utc_ts_microseconds_option_ser
  | .utc, .nanos => SB_utc_ts_nanoseconds_option_ser
  | .naive, .secs => SB_naive_ts_seconds_option_ser
  | .naive, .millis => SB_naive_ts_milliseconds_option_ser
  | .naive, .micros => SB_naive_ts_microseconds_option_ser
  | .naive, .nanos => SB_naive_ts_nanoseconds_option_ser

def deRow : Target → TsUnit → De
  | .utc, .secs => SB_utc_ts_seconds_de
  | .utc, .millis => SB_utc_ts_milliseconds_de
  | .utc, .micros => SB_utc_ts_microseconds_de
  | .utc, .nanos => SB_utc_ts_nanoseconds_de
  | .naive, .secs => SB_naive_ts_seconds_de
  | .naive, .millis => SB_naive_ts_milliseconds_de
  | .naive, .micros => SB_naive_ts_microseconds_de
  | .naive, .nanos => SB_naive_ts_nanoseconds_de

def deOptRow : Target → TsUnit → De
  | .utc, .secs => SB_utc_ts_seconds_option_de
  | .utc, .millis => SB_utc_ts_milliseconds_option_de
  | .utc, .micros => SB_utc_ts_microseconds_option_de
  | .utc, .nanos => SB_utc_ts_nanoseconds_option_de
  | .naive, .secs => SB_naive_ts_seconds_option_de
  | .naive, .millis => SB_naive_ts_milliseconds_option_de
  | .naive, .micros => SB_naive_ts_microseconds_option_de
  | .naive, .nanos => SB_naive_ts_nanoseconds_option_de

def someRow : Target → TsUnit → De
  | .utc, .secs => SB_utc_ts_seconds_option_some
  | .utc, .millis => SB_utc_ts_milliseconds_option_some
  | .utc, .micros => SB_utc_ts_microseconds_option_some
  | .utc, .nanos => SB_utc_ts_nanoseconds_option_some
  | .naive, .secs => SB_naive_ts_seconds_option_some
  | .naive, .millis => SB_naive_ts_milliseconds_option_some
  | .naive, .micros => SB_naive_ts_microseconds_option_some
  | .naive, .nanos => SB_naive_ts_nanoseconds_option_some

/-- `<target>::ts_<unit>::serialize`, read off the extracted body -/
def genSerialize (tg : Target) (u : TsUnit) : NaiveDT → Res (SR SOut) := evalSer (serRow tg u)
/-- `<target>::ts_<unit>_option::serialize` -/
def genSerializeOption (tg : Target) (u : TsUnit) : Option NaiveDT → Res (SR SOut) := evalSerOpt (serOptRow tg u)
/-- `<target>::ts_<unit>::deserialize` -/
def genDeserialize (tg : Target) (u : TsUnit) : WInt → Res (SR NaiveDT) := evalDe (deRow tg u) (visOf tg)
/-- `<target>::ts_<unit>_option::deserialize` -/
def genDeserializeOption (tg : Target) (u : TsUnit) : WOpt → Res (SR (Option NaiveDT)) :=
  evalDeOpt (deOptRow tg u) (optVisOf tg)

/-- the payload of a wire integer fits the type of the visitor method it is delivered to -/
def WIntOk : WInt → Prop
  | .i64 v => isI64 v
  | .u64 v => isU64 v
  | .other => True
def WOptOk : WOpt → Prop
  | .some w => WIntOk w
  | _ => True

theorem bind_ok' {α β} (a : α) (f : α → Res β) : (Res.ok a).bind f = f a := rfl
theorem bind_panic' {α β} (f : α → Res β) : (Res.panic : Res α).bind f = .panic := rfl
theorem bind_assoc' {α β γ} (r : Res α) (f : α → Res β) (g : β → Res γ) :
    (r.bind f).bind g = r.bind fun x => (f x).bind g := by cases r <;> rfl

/-- unfolds the evaluator on a body; `h0 : 0 ≤ value` turns the truncating `/`, `%` of a `visit_u64` body into
floor division and remainder (a `visit_i64` body has neither: any `0 ≤ _` will do) -/
macro "visit_tac" h0:term : tactic => `(tactic|
  (simp [evalVisit, evalArgs, evalE, Ctor.call, from_ts_or_invalid, bind_ok', bind_panic', bind_assoc', asT, asU64,
      Cmp.holds, I64_MAX, divGuard, tyOf, ck, naive_utc,
      Int.tdiv_eq_ediv_of_nonneg $h0, Int.tmod_eq_emod_of_nonneg $h0]
   <;> (try split) <;> (try simp [Ctor.call])))

/-! ### the 32 visitor bodies -/

theorem utc_secs_i64 (v : Int) : evalVisit .i64 v SB_utc_ts_seconds_i64 = Utc.SecondsTimestampVisitor.visit_i64 v := by
  unfold SB_utc_ts_seconds_i64 Utc.SecondsTimestampVisitor.visit_i64
  visit_tac (Int.le_refl 0)
theorem utc_secs_u64 (v : Int) (_ : isU64 v) : evalVisit .u64 v SB_utc_ts_seconds_u64 = Utc.SecondsTimestampVisitor.visit_u64 v := by
  unfold SB_utc_ts_seconds_u64 Utc.SecondsTimestampVisitor.visit_u64
  visit_tac (Int.le_refl 0)
theorem utc_millis_i64 (v : Int) : evalVisit .i64 v SB_utc_ts_milliseconds_i64 = Utc.MilliSecondsTimestampVisitor.visit_i64 v := by
  unfold SB_utc_ts_milliseconds_i64 Utc.MilliSecondsTimestampVisitor.visit_i64
  visit_tac (Int.le_refl 0)
theorem utc_millis_u64 (v : Int) (h : isU64 v) : evalVisit .u64 v SB_utc_ts_milliseconds_u64 = Utc.MilliSecondsTimestampVisitor.visit_u64 v := by
  unfold SB_utc_ts_milliseconds_u64 Utc.MilliSecondsTimestampVisitor.visit_u64
  visit_tac h.1
theorem utc_micros_i64 (v : Int) : evalVisit .i64 v SB_utc_ts_microseconds_i64 = Utc.MicroSecondsTimestampVisitor.visit_i64 v := by
  unfold SB_utc_ts_microseconds_i64 Utc.MicroSecondsTimestampVisitor.visit_i64
  visit_tac (Int.le_refl 0)
theorem utc_micros_u64 (v : Int) (h : isU64 v) : evalVisit .u64 v SB_utc_ts_microseconds_u64 = Utc.MicroSecondsTimestampVisitor.visit_u64 v := by
  unfold SB_utc_ts_microseconds_u64 Utc.MicroSecondsTimestampVisitor.visit_u64
  visit_tac h.1
theorem utc_nanos_i64 (v : Int) : evalVisit .i64 v SB_utc_ts_nanoseconds_i64 = Utc.NanoSecondsTimestampVisitor.visit_i64 v := by
  unfold SB_utc_ts_nanoseconds_i64 Utc.NanoSecondsTimestampVisitor.visit_i64
  visit_tac (Int.le_refl 0)
theorem utc_nanos_u64 (v : Int) (h : isU64 v) : evalVisit .u64 v SB_utc_ts_nanoseconds_u64 = Utc.NanoSecondsTimestampVisitor.visit_u64 v := by
  unfold SB_utc_ts_nanoseconds_u64 Utc.NanoSecondsTimestampVisitor.visit_u64
  visit_tac h.1
theorem naive_secs_i64 (v : Int) : evalVisit .i64 v SB_naive_ts_seconds_i64 = Naive.SecondsTimestampVisitor.visit_i64 v := by
  unfold SB_naive_ts_seconds_i64 Naive.SecondsTimestampVisitor.visit_i64
  visit_tac (Int.le_refl 0)
theorem naive_secs_u64 (v : Int) (_ : isU64 v) : evalVisit .u64 v SB_naive_ts_seconds_u64 = Naive.SecondsTimestampVisitor.visit_u64 v := by
  unfold SB_naive_ts_seconds_u64 Naive.SecondsTimestampVisitor.visit_u64
  visit_tac (Int.le_refl 0)
theorem naive_millis_i64 (v : Int) : evalVisit .i64 v SB_naive_ts_milliseconds_i64 = Naive.MilliSecondsTimestampVisitor.visit_i64 v := by
  unfold SB_naive_ts_milliseconds_i64 Naive.MilliSecondsTimestampVisitor.visit_i64
  visit_tac (Int.le_refl 0)
theorem naive_millis_u64 (v : Int) (h : isU64 v) : evalVisit .u64 v SB_naive_ts_milliseconds_u64 = Naive.MilliSecondsTimestampVisitor.visit_u64 v := by
  unfold SB_naive_ts_milliseconds_u64 Naive.MilliSecondsTimestampVisitor.visit_u64
  visit_tac h.1
theorem naive_micros_i64 (v : Int) : evalVisit .i64 v SB_naive_ts_microseconds_i64 = Naive.MicroSecondsTimestampVisitor.visit_i64 v := by
  unfold SB_naive_ts_microseconds_i64 Naive.MicroSecondsTimestampVisitor.visit_i64
  visit_tac (Int.le_refl 0)
theorem naive_micros_u64 (v : Int) (h : isU64 v) : evalVisit .u64 v SB_naive_ts_microseconds_u64 = Naive.MicroSecondsTimestampVisitor.visit_u64 v := by
  unfold SB_naive_ts_microseconds_u64 Naive.MicroSecondsTimestampVisitor.visit_u64
  visit_tac h.1
theorem naive_nanos_i64 (v : Int) : evalVisit .i64 v SB_naive_ts_nanoseconds_i64 = Naive.NanoSecondsTimestampVisitor.visit_i64 v := by
  unfold SB_naive_ts_nanoseconds_i64 Naive.NanoSecondsTimestampVisitor.visit_i64
  visit_tac (Int.le_refl 0)
theorem naive_nanos_u64 (v : Int) (h : isU64 v) : evalVisit .u64 v SB_naive_ts_nanoseconds_u64 = Naive.NanoSecondsTimestampVisitor.visit_u64 v := by
  unfold SB_naive_ts_nanoseconds_u64 Naive.NanoSecondsTimestampVisitor.visit_u64
  visit_tac h.1

/-! ### the sixteen modules -/

/-- the visitor a module's `deserialize` names resolves, through the extracted `impl de::Visitor` rows, to
bodies that mean the module's model, on every wire integer whose payload fits (`with_timezone(&Utc)` after
the millisecond visitor of src/datetime/serde.rs is the identity) -/
theorem vis_de (tg : Target) (u : TsUnit) (w : WInt) (hw : WIntOk w) :
    visOf tg (deRow tg u).visitor w = deserialize tg u w := by
  cases tg <;> cases u
  · rcases w with v | v | _
    exacts [utc_secs_i64 v, utc_secs_u64 v hw, rfl]
  · rcases w with v | v | _
    exacts [(utc_millis_i64 v).trans (Chrono.Proofs.Serde.and_utc_wrap _).symm,
      (utc_millis_u64 v hw).trans (Chrono.Proofs.Serde.and_utc_wrap _).symm, rfl]
  · rcases w with v | v | _
    exacts [utc_micros_i64 v, utc_micros_u64 v hw, rfl]
  · rcases w with v | v | _
    exacts [utc_nanos_i64 v, utc_nanos_u64 v hw, rfl]
  · rcases w with v | v | _
    exacts [naive_secs_i64 v, naive_secs_u64 v hw, rfl]
  · rcases w with v | v | _
    exacts [naive_millis_i64 v, naive_millis_u64 v hw, rfl]
  · rcases w with v | v | _
    exacts [naive_micros_i64 v, naive_micros_u64 v hw, rfl]
  · rcases w with v | v | _
    exacts [naive_nanos_i64 v, naive_nanos_u64 v hw, rfl]

theorem gen_serialize_eq (tg : Target) (u : TsUnit) (dt : NaiveDT) : genSerialize tg u dt = serialize tg u dt := by
  cases tg <;> cases u <;> rfl

theorem gen_serialize_option_eq (tg : Target) (u : TsUnit) (o : Option NaiveDT) :
    genSerializeOption tg u o = serialize_option tg u o := by
  cases tg <;> cases u <;> cases o <;> rfl

/-- the method each body requests from the deserializer -/
theorem methods_ok (tg : Target) (u : TsUnit) :
    (deRow tg u).m = .deserialize_i64 ∧ (deOptRow tg u).m = .deserialize_option ∧
    (someRow tg u).m = .deserialize_i64 := by
  cases tg <;> cases u <;> decide

theorem gen_deserialize_eq (tg : Target) (u : TsUnit) (w : WInt) (hw : WIntOk w) :
    genDeserialize tg u w = deserialize tg u w := by
  rw [← vis_de tg u w hw]
  cases tg <;> cases u <;> first | rfl | exact Chrono.Proofs.Serde.and_utc_wrap _

/-- `visit_some` names the same visitor as the plain module's `deserialize` -/
theorem gen_deserialize_option_eq (tg : Target) (u : TsUnit) (w : WOpt) (hw : WOptOk w) :
    genDeserializeOption tg u w = deserialize_option tg u w := by
  cases w with
  | some x =>
    rw [Chrono.Proofs.Serde.de_option_eq]
    show _ = (deserialize tg u x).bind _
    rw [← vis_de tg u x hw]
    cases tg <;> cases u <;> first | rfl | exact Chrono.Proofs.Serde.and_utc_opt_wrap _
  | _ => cases tg <;> cases u <;> rfl

/-- the eight extracted `visit_i64` bodies evaluated on `v` / the eight model methods -/
def evalVisitRows (v : Int) : List (Res (SR NaiveDT)) :=
  [evalVisit .i64 v SB_utc_ts_seconds_i64,
   evalVisit .i64 v SB_utc_ts_milliseconds_i64,
   evalVisit .i64 v SB_utc_ts_microseconds_i64,
   evalVisit .i64 v SB_utc_ts_nanoseconds_i64,
   evalVisit .i64 v SB_naive_ts_seconds_i64,
   evalVisit .i64 v SB_naive_ts_milliseconds_i64,
   evalVisit .i64 v SB_naive_ts_microseconds_i64,
   evalVisit .i64 v SB_naive_ts_nanoseconds_i64]
def modelVisitRows (v : Int) : List (Res (SR NaiveDT)) :=
  [Utc.SecondsTimestampVisitor.visit_i64 v,
   Utc.MilliSecondsTimestampVisitor.visit_i64 v,
   Utc.MicroSecondsTimestampVisitor.visit_i64 v,
   Utc.NanoSecondsTimestampVisitor.visit_i64 v,
   Naive.SecondsTimestampVisitor.visit_i64 v,
   Naive.MilliSecondsTimestampVisitor.visit_i64 v,
   Naive.MicroSecondsTimestampVisitor.visit_i64 v,
   Naive.NanoSecondsTimestampVisitor.visit_i64 v]
def evalVisitRowsU (v : Int) : List (Res (SR NaiveDT)) :=
  [evalVisit .u64 v SB_utc_ts_seconds_u64,
   evalVisit .u64 v SB_utc_ts_milliseconds_u64,
   evalVisit .u64 v SB_utc_ts_microseconds_u64,
   evalVisit .u64 v SB_utc_ts_nanoseconds_u64,
   evalVisit .u64 v SB_naive_ts_seconds_u64,
   evalVisit .u64 v SB_naive_ts_milliseconds_u64,
   evalVisit .u64 v SB_naive_ts_microseconds_u64,
   evalVisit .u64 v SB_naive_ts_nanoseconds_u64]
def modelVisitRowsU (v : Int) : List (Res (SR NaiveDT)) :=
  [Utc.SecondsTimestampVisitor.visit_u64 v,
   Utc.MilliSecondsTimestampVisitor.visit_u64 v,
   Utc.MicroSecondsTimestampVisitor.visit_u64 v,
   Utc.NanoSecondsTimestampVisitor.visit_u64 v,
   Naive.SecondsTimestampVisitor.visit_u64 v,
   Naive.MilliSecondsTimestampVisitor.visit_u64 v,
   Naive.MicroSecondsTimestampVisitor.visit_u64 v,
   Naive.NanoSecondsTimestampVisitor.visit_u64 v]

theorem visit_rows_eq (v : Int) :
    evalVisitRows v = modelVisitRows v ∧ (isU64 v → evalVisitRowsU v = modelVisitRowsU v) :=
  ⟨by
    simp only [evalVisitRows, modelVisitRows, utc_secs_i64, utc_millis_i64, utc_micros_i64, utc_nanos_i64,
      naive_secs_i64, naive_millis_i64, naive_micros_i64, naive_nanos_i64],
   fun h => by
    simp only [evalVisitRowsU, modelVisitRowsU, utc_secs_u64 v h, utc_millis_u64 v h, utc_micros_u64 v h,
      utc_nanos_u64 v h, naive_secs_u64 v h, naive_millis_u64 v h, naive_micros_u64 v h, naive_nanos_u64 v h]⟩

end Chrono.Proofs.SerdeTsBodies
