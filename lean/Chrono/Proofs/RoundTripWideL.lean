/-
  C13, round 3: lemmas for zone-aware values outside the comfortable domain.
  * `leap_item_same_ctx` / `leap_format_normalised_zoned`: a local reading in leap representation off second
    :59 (a UTC leap second seen at an offset with seconds) is formatted by every item except `%s` exactly like
    the normalised reading one second later (G6);
  * `timestamp_ext`: `NaiveDateTime::timestamp` of a reading in the headroom day (one day outside the range
    of `NaiveDate`) does not overflow and is the second count (G4);
  * `stamp_items_of_stampOnly`, `format_stamp_congr`: a timestamp-only item list consists of literals,
    white space, `%s` and offset items, and what it prints depends on the context only through
    `timestamp − offset` and the offset (G4).
  Namespace `Chrono.Proofs.RoundTrip`.
-/
import Chrono.Proofs.RoundTripTotalL
import Chrono.Proofs.RoundTripStampL
import Chrono.Proofs.RoundDtL

namespace Chrono.Proofs.RoundTrip
open Chrono Chrono.M Chrono.M.Scan Chrono.Spec Chrono.Extracted Chrono.Proofs

/-! ### G6: leap representation off :59 in a zone-aware context -/

/-- every item except `%s` (and the RFC items, which are outside the family) prints a time of day in leap
representation off :59 like the normalised time, whatever date and offset the context shows -/
theorem leap_item_same_ctx (d : Option Date) (off : Option (List Nat × Int)) (t : Time) (hv : TValid t)
    (hl : 1000000000 ≤ t.frac) (hs : t.secs % 60 ≠ 59) (it : Item) (hi : invertible it = true)
    (hnt : ∀ pad, it ≠ .numeric .timestamp pad) :
    Format.format_item d (some t) off it = Format.format_item d (some (leapNormal t)) off it :=
  leap_item_same d off t hv hl hs it
    (Or.inr ⟨hnt, fun h => (by rw [h] at hi; cases hi), fun h => (by rw [h] at hi; cases hi)⟩)

/-- **a zone-aware value whose local reading is in leap representation off :59** (a UTC leap second at :59
seen at an offset with seconds) **is formatted, by every format without `%s`, exactly like any value `z'` at
the same offset whose local reading is the normalised one** (one second later, no leap representation) -/
theorem leap_format_normalised_zoned (z z' : Zoned) (d : Date) (t : Time) (hv : TValid t)
    (hl : 1000000000 ≤ t.frac) (hs : t.secs % 60 ≠ 59)
    (h : z.overflowing_naive_local = .ok ⟨d, t⟩) (h' : z'.overflowing_naive_local = .ok ⟨d, leapNormal t⟩)
    (hoff : z'.off = z.off) (is : List Item) (hi : ∀ it ∈ is, invertible it = true)
    (hn : ∀ it ∈ is, ∀ pad, it ≠ .numeric .timestamp pad) :
    ParseFrom.formatItemsOf (.zoned z) is = ParseFrom.formatItemsOf (.zoned z') is := by
  simp only [ParseFrom.formatItemsOf, h, h', hoff, Format.W.ofRes]
  exact formatItemsR_congr is fun it hm => leap_item_same_ctx (some d) _ t hv hl hs it (hi it hm) (hn it hm)

/-! ### G4: the headroom day -/

/-- `timestamp()` of a reading of the extended calendar (the headroom day at either end included) is its
second count, with no intermediate overflow -/
theorem timestamp_ext (dt : NaiveDT) (h : ExtNDTInv dt) : NaiveDT.timestamp dt = .ok (instSecs dt) :=
  RoundDt.timestamp_ext dt h

/-- the items of a timestamp-only format: literals, white space, `%s`, `%z`, `%:z` (and the `Z`-printing
offset items no specifier produces) -/
def stampItem : Item → Bool
  | .literal _ | .space _ | .numeric .timestamp _ => true
  | .fixed .timezoneOffset | .fixed .timezoneOffsetColon | .fixed .timezoneOffsetZ
  | .fixed .timezoneOffsetColonZ => true
  | _ => false

/-- some field other than the timestamp and the offset is carried -/
def otherFlags (c : Carries) : Bool :=
  c.year || c.yearDiv || c.yearMod || c.isoYear || c.isoYearDiv || c.isoYearMod || c.quarter || c.month ||
  c.day || c.weekSun || c.weekMon || c.isoWeek || c.weekday || c.ordinal || c.hour24 || c.hour12 || c.ampm ||
  c.minute || c.second || c.nano

/-- an item leaves the flags as they are or raises one -/
theorem mono_otherFlags : ∀ cr it, otherFlags cr = true → otherFlags (carriesItem cr it) = true := by
  intro cr it h
  cases it with
  | numeric n p =>
    cases n with
    | timestamp => exact h
    | _ => simp only [carriesItem, otherFlags, Bool.or_true, Bool.true_or]
  | fixed f => cases f <;> simp only [carriesItem, otherFlags, Bool.or_true, Bool.true_or] <;> exact h
  | _ => exact h

theorem stamp_items_of_stampOnly (is : List Item) (hi : ∀ it ∈ is, invertible it = true)
    (hso : stampOnly (carries is) = true) : ∀ it ∈ is, stampItem it = true := by
  intro it hm
  by_contra hne
  -- an item the reader can invert that is none of these raises a flag that `stampOnly` wants down
  have hset : ∀ cr, otherFlags (carriesItem cr it) = true := by
    intro cr
    have hinv := hi it hm
    cases it with
    | numeric n p =>
      cases n with
      | timestamp => exact absurd rfl hne
      | _ => simp only [carriesItem, otherFlags, Bool.or_true, Bool.true_or]
    | fixed f =>
      cases f with
      | timezoneOffset | timezoneOffsetColon | timezoneOffsetZ | timezoneOffsetColonZ => exact absurd rfl hne
      | timezoneName | timezoneOffsetDoubleColon | timezoneOffsetTripleColon | timezoneOffsetPermissive
      | rfc2822 | rfc3339 => cases hinv
      | _ => simp only [carriesItem, otherFlags, Bool.or_true, Bool.true_or]
    | literal l => exact absurd rfl hne
    | space s => exact absurd rfl hne
    | error => cases hinv
  have := carries_mem otherFlags mono_otherFlags it hset is {} hm
  obtain ⟨k1, k2, k3, k4, k5, k6, k7, k8, k9, k10, k11, k12, k13, k14, k15, k16, k17, k18, k19, k20, _⟩ :=
    stampOnly_flags _ hso
  unfold carries at k1 k2 k3 k4 k5 k6 k7 k8 k9 k10 k11 k12 k13 k14 k15 k16 k17 k18 k19 k20
  simp [otherFlags, k1, k2, k3, k4, k5, k6, k7, k8, k9, k10, k11, k12, k13, k14, k15, k16, k17, k18, k19, k20] at this

theorem mono_offset : ∀ cr it, Carries.offset cr = true → Carries.offset (carriesItem cr it) = true := by
  intro cr it h
  cases it with
  | fixed f =>
    cases f with
    | timezoneOffset | timezoneOffsetColon | timezoneOffsetZ | timezoneOffsetColonZ => rfl
    | _ => exact h
  | numeric n p => cases n <;> exact h
  | _ => exact h

/-- without the offset flag no item is an offset item -/
theorem no_offset_items (is : List Item) (ho : (carries is).offset = false) :
    ∀ it ∈ is, (carriesItem {} it).offset = false := by
  intro it hm
  by_contra hne
  have hne' : (carriesItem {} it).offset = true := by simpa using hne
  have hset : ∀ cr, Carries.offset (carriesItem cr it) = true := by
    intro cr
    cases it with
    | fixed f =>
      cases f with
      | timezoneOffset | timezoneOffsetColon | timezoneOffsetZ | timezoneOffsetColonZ => rfl
      | _ => cases hne'
    | numeric n p => cases n <;> cases hne'
    | _ => cases hne'
  have := carries_mem Carries.offset mono_offset it hset is {} hm
  unfold carries at ho
  rw [ho] at this
  cases this

/-- what a timestamp-only item that is no offset item prints depends on the context only through
`timestamp() − offset`: two contexts that agree on it print alike -/
theorem format_stamp_item_congr (d d' : Date) (t t' : Time) (off off' : Option (List Nat × Int)) (a a' : Int)
    (hts : NaiveDT.timestamp ⟨d, t⟩ = .ok a) (hts' : NaiveDT.timestamp ⟨d', t'⟩ = .ok a')
    (he : a - (off.map (·.2)).getD 0 = a' - (off'.map (·.2)).getD 0)
    (it : Item) (hs : stampItem it = true) (hno : (carriesItem {} it).offset = false) :
    Format.format_item (some d) (some t) off it = Format.format_item (some d') (some t') off' it := by
  cases it with
  | literal l => rfl
  | space s => rfl
  | error => cases hs
  | numeric n pad =>
    cases n with
    | timestamp => simp only [Format.format_item, Format.format_numeric, hts, hts', Format.W.ofRes, he]
    | _ => cases hs
  | fixed f =>
    cases f with
    | timezoneOffset | timezoneOffsetColon | timezoneOffsetZ | timezoneOffsetColonZ => cases hno
    | _ => cases hs

theorem format_stamp_congr (d d' : Date) (t t' : Time) (off off' : Option (List Nat × Int)) (a a' : Int)
    (hts : NaiveDT.timestamp ⟨d, t⟩ = .ok a) (hts' : NaiveDT.timestamp ⟨d', t'⟩ = .ok a')
    (he : a - (off.map (·.2)).getD 0 = a' - (off'.map (·.2)).getD 0) :
    ∀ (is : List Item), (∀ it ∈ is, stampItem it = true) → (∀ it ∈ is, (carriesItem {} it).offset = false) →
      Format.formatItemsR (some d) (some t) off is = Format.formatItemsR (some d') (some t') off' is :=
  fun is hs hn => formatItemsR_congr is fun it hm =>
    format_stamp_item_congr d d' t t' off off' a a' hts hts' he it (hs it hm) (hn it hm)

end Chrono.Proofs.RoundTrip
