/-
  C18, finding F33 (repaired by the crate commit "Local must notice a change of TZ between two values
  whose hashes collide"): the refresh rule of `Cache::offset` AS IT WAS BEFORE THE REPAIR, kept here
  (outside the model, which mirrors the repaired code) so that what it did on two TZ values with equal
  `DefaultHasher` hash stays a kernel-checked statement.

  Before the repair `Source::Environment { hash: u64 }` held `DefaultHasher::new()` (SipHash-1-3, fixed
  key) of the TZ text and `out_of_date` compared hashes.  Everything else (`current_zone`, the window,
  `Cache::default`, the per-thread `TZ_INFO`) is the model's.  Core Lean only.
-/
import Chrono.Proofs.LocalCacheHistL
namespace Chrono.Proofs.LocalCache.BeforeF33
open Chrono.M.LocalCache Chrono.Spec.LocalCache Chrono.Proofs.LocalCache

/-- `enum Source` before the repair -/
inductive Source where
  | localTime (mtime : Nat)
  | environment (hash : Nat)
  deriving DecidableEq, Repr

/-- `Source::new` before the repair; `hash` stands for `DefaultHasher` over the bytes of the value -/
def Source.new (W : World) (hash : Bytes → Nat) (now : Nat) (env_tz : Option Bytes) : Source :=
  match env_tz with
  | some tz => .environment (hash tz)
  | none =>
    match W.ltMtime with
    | some m => .localTime m
    | none => .localTime now

structure Cache where
  zone : Zone
  source : Source
  last_checked : Nat
  deriving DecidableEq, Repr

def Cache.default (W : World) (hash : Bytes → Nat) (now : Nat) (env : EnvVal) : Cache :=
  let env_tz := env_var env
  { last_checked := now, source := Source.new W hash now env_tz, zone := current_zone W env_tz }

/-- the `out_of_date` match before the repair: two environment sources are compared by hash -/
def out_of_date (old new : Source) : Bool :=
  match old, new with
  | .environment _, .localTime _ => true
  | .localTime _, .environment _ => true
  | .localTime old_mtime, .localTime mtime => old_mtime != mtime
  | .environment old_hash, .environment hash => old_hash != hash

def Cache.offset (W : World) (hash : Bytes → Nat) (c : Cache) (now : Nat) (env : EnvVal) : Cache × Decision :=
  if within_window c.last_checked now then (c, .reused)
  else
    let env_tz := env_var env
    let new_source := Source.new W hash now env_tz
    if out_of_date c.source new_source then
      ({ zone := current_zone W env_tz, source := new_source, last_checked := now }, .reloaded)
    else
      ({ c with source := new_source, last_checked := now }, .rechecked)

structure State where
  env : EnvVal
  clock : Nat
  caches : Nat → Option Cache

def update (f : Nat → Option Cache) (t : Nat) (v : Option Cache) : Nat → Option Cache :=
  fun t' => if t' = t then v else f t'

def init (env : EnvVal) (clock : Nat) : State := { env := env, clock := clock, caches := fun _ => none }

def inner_offset (W : World) (hash : Bytes → Nat) (s : State) (t : Nat) : State × Zone × Decision :=
  match s.caches t with
  | some c =>
    let r := Cache.offset W hash c s.clock s.env
    ({ s with caches := update s.caches t (some r.1) }, r.1.zone, r.2)
  | none =>
    let r := Cache.offset W hash (Cache.default W hash s.clock s.env) s.clock s.env
    ({ s with caches := update s.caches t (some r.1) }, r.1.zone, .created)

/-- the model's `step`, with the pre-repair cache -/
def step (W : World) (hash : Bytes → Nat) (s : State) : Step → State × Option (Zone × Decision)
  | .setTZ v => ({ s with env := .val v }, none)
  | .setNotUnicode => ({ s with env := .notUnicode }, none)
  | .unsetTZ => ({ s with env := .unset }, none)
  | .advance ns => ({ s with clock := s.clock + ns }, none)
  | .convert t _ =>
    let r := inner_offset W hash s t
    (r.1, some r.2)
  | .spawn t => ({ s with caches := update s.caches t none }, none)

def run (W : World) (hash : Bytes → Nat) (s : State) : List Step → List (Zone × Decision)
  | [] => []
  | x :: xs =>
    let r := step W hash s x
    match r.2 with
    | some o => o :: run W hash r.1 xs
    | none => run W hash r.1 xs

/-- PRE-REPAIR BEHAVIOUR (finding F33), for every world, every hash function and every two values
`a`, `b` with equal hash: TZ = a, a conversion on thread `t`, TZ = b, `n ≥ 1 s` pass, a conversion on
the same thread — the second conversion re-reads the environment, finds the hash unchanged, keeps
the zone built for `a`. -/
theorem collision_unnoticed (W : World) (hash : Bytes → Nat) (a b : Bytes) (hcoll : hash a = hash b)
    (e0 : EnvVal) (k0 : Nat) (t : Nat) (l1 l2 : Bool) (n : Nat) (hn : ONE_SECOND ≤ n) :
    run W hash (init e0 k0) [.setTZ a, .convert t l1, .setTZ b, .advance n, .convert t l2] =
      [(current_zone W (some a), .created), (current_zone W (some a), .rechecked)] := by
  have hw0 : within_window k0 k0 = true := within_window_self k0
  have hw1 : within_window k0 (k0 + n) = false := not_within_window (Or.inr (Nat.add_le_add_left hn k0))
  simp [run, step, inner_offset, init, Cache.offset, Cache.default, update, hw0, hw1, Source.new,
    out_of_date, env_var, hcoll]

end Chrono.Proofs.LocalCache.BeforeF33

namespace Chrono.Proofs.LocalCache
open Chrono.M.LocalCache Chrono.Spec.LocalCache

/-- the same history in the model of the repaired code: the second conversion compares the texts,
finds them different, rebuilds the zone for `b` -/
theorem collision_noticed (W : World) (a b : Bytes) (hab : a ≠ b)
    (e0 : EnvVal) (k0 : Nat) (t : Nat) (l1 l2 : Bool) (n : Nat) (hn : ONE_SECOND ≤ n) :
    run W (init e0 k0) [.setTZ a, .convert t l1, .setTZ b, .advance n, .convert t l2] =
      [(current_zone W (some a), .created), (current_zone W (some b), .reloaded)] := by
  have hw0 : within_window k0 k0 = true := within_window_self k0
  have hw1 : within_window k0 (k0 + n) = false := not_within_window (Or.inr (Nat.add_le_add_left hn k0))
  simp [run, step, inner_offset, init, Cache.offset, Cache.default, update, hw0, hw1, Source.new,
    out_of_date, env_var, hab]

end Chrono.Proofs.LocalCache
