/-
  Helper lemmas for C14: `to_naive_datetime_with_offset` when date and time both resolve from the
  fields (the timestamp cross-check with the one-second leap allowance).
-/
import Chrono.Proofs.ParsedDateL
namespace Chrono.Proofs.ParsedRes
open Chrono Chrono.M Chrono.Spec Chrono.Spec.Fields Chrono.Extracted

theorem dayNumYo_bound (Y : Int) (o : Nat) (h1 : -262143 ≤ Y) (h2 : Y ≤ 262142) (ho : o ≤ 366) :
    -95746500 ≤ dayNumYo Y o ∧ dayNumYo Y o ≤ 95745800 := by
  unfold dayNumYo daysBeforeYear
  omega

theorem timestamp_spec (Y : Int) (o : Nat) (t : Time) (h : VD Y o) (ht : TValid t) :
    NaiveDT.timestamp ⟨dateOfYo Y o, t⟩ = .ok (timestampIs.instSecsLocal ⟨dateOfYo Y o, t⟩) ∧
    -9000000000000 ≤ timestampIs.instSecsLocal ⟨dateOfYo Y o, t⟩ ∧
    timestampIs.instSecsLocal ⟨dateOfYo Y o, t⟩ ≤ 9000000000000 := by
  obtain ⟨hy, hord, _, _, _, _, ho⟩ := vd_fields Y o h
  obtain ⟨h1, h2, h3, h4⟩ := h
  have hMIN : MIN_YEAR = -262143 := rfl
  have hMAX : MAX_YEAR = 262142 := rfl
  have hE : UNIX_EPOCH_DAY = 719163 := rfl
  have hyl := yearLen_ge Y
  have hnd := num_days_spec (dateOfYo Y o) (by rw [hy]; omega) (by rw [hy]; omega) (by rw [hord]; omega)
  rw [hy, hord] at hnd
  unfold NaiveDT.timestamp timestampIs.instSecsLocal
  simp only [hnd, hy, hord, Res.bind, Time.num_seconds_from_midnight, hE]
  obtain ⟨t0, t1, _, _⟩ := ht
  have hb := dayNumYo_bound Y o (by omega) (by omega) ho
  generalize dayNumYo Y o = N at hb ⊢
  clear hnd h3 h4 hyl
  rw [ckI64_ok (by omega) (by omega)]
  simp only []
  rw [ckI64_ok (by omega) (by omega)]
  simp only []
  rw [ckI64_ok (by omega) (by omega)]
  refine ⟨rfl, by omega, by omega⟩

/-- the first path of `to_naive_datetime_with_offset`: date and time both resolve -/
theorem dt_fields_path (p : Parsed) (off : Int) (hoff : -2147483648 ≤ off ∧ off ≤ 2147483647)
    (Y : Int) (o : Nat) (t : Time) (hvd : VD Y o) (htv : TValid t)
    (hd : Parsed.to_naive_date p = .ok (.ok (dateOfYo Y o))) (ht : Parsed.to_naive_time p = .ok t) :
    Parsed.to_naive_datetime_with_offset p off =
      .ok (match p.timestamp with
        | some g =>
          if g ≠ timestampIs.instSecsLocal ⟨dateOfYo Y o, t⟩ - off ∧
             ¬ (t.frac ≥ 1000000000 ∧ g = timestampIs.instSecsLocal ⟨dateOfYo Y o, t⟩ - off + 1)
          then .error .impossible else .ok ⟨dateOfYo Y o, t⟩
        | none => .ok ⟨dateOfYo Y o, t⟩) := by
  obtain ⟨hts, hb1, hb2⟩ := timestamp_spec Y o t hvd htv
  unfold Parsed.to_naive_datetime_with_offset
  rw [hd]
  simp only []
  rw [ht]
  simp only []
  rw [hts]
  simp only [Res.bind]
  rw [ckI64_ok (by omega) (by omega)]
  simp only []
  cases p.timestamp with
  | none => rfl
  | some g =>
    simp only [Time.nanosecond]
    by_cases hc : g ≠ timestampIs.instSecsLocal ⟨dateOfYo Y o, t⟩ - off ∧
        ¬ (t.frac ≥ 1000000000 ∧ g = timestampIs.instSecsLocal ⟨dateOfYo Y o, t⟩ - off + 1)
    · rw [if_pos hc]; exact ite_pos' _ _ hc
    · rw [if_neg hc]; exact ite_neg' _ _ hc


theorem resolve_year_complete (y q r : Option Int) (Y : Int) (hY : -2147483648 ≤ Y ∧ Y ≤ 2147483647)
    (h1 : optIs y Y) (h2 : centIs q r Y) (hd : GroupDeterminate y q r Y) :
    Parsed.resolve_year y q r = .ok (if y = none ∧ r = none then none else some Y) := by
  obtain ⟨hq, hr⟩ := h2
  obtain ⟨hu, hp⟩ := hd
  cases y with
  | some yv =>
    obtain rfl := h1 yv rfl
    rw [resolve_year_some, if_neg (fun h : some yv = none ∧ r = none => nomatch h.1)]
    split
    · rfl
    · rename_i hqr
      have h0 : 0 ≤ yv := by
        cases q with
        | some qv => exact (hq qv rfl).1
        | none =>
          cases r with
          | some rv => exact (hr rv rfl).1
          | none => exact absurd ⟨rfl, rfl⟩ hqr
      have hmod : Parsed.modOk r = true := by
        cases r with
        | none => rfl
        | some rv => have := hr rv rfl; simp [Parsed.modOk]; omega
      rw [if_pos hmod, if_neg (by omega), if_pos]
      constructor
      · cases q with
        | none => rfl
        | some qv => exact (hq qv rfl).2
      · cases r with
        | none => rfl
        | some rv => exact (hr rv rfl).2
  | none =>
    cases q with
    | none =>
      cases r with
      | none => rw [if_pos ⟨rfl, rfl⟩]; rfl
      | some rv =>
        obtain ⟨_, e⟩ := hr rv rfl
        have hpiv := hp rfl rfl nofun
        rw [if_neg (fun h : (none : Option Int) = none ∧ some rv = none => nomatch h.2)]
        unfold Parsed.resolve_year
        dsimp only
        rw [if_pos (by omega)]
        congr 2
        split <;> omega
    | some qv =>
      cases r with
      | none => exact absurd ⟨rfl, nofun, rfl⟩ hu
      | some rv =>
        obtain ⟨h0, e1⟩ := hq qv rfl
        obtain ⟨_, e2⟩ := hr rv rfl
        rw [resolve_year_cent, if_neg (fun h : (none : Option Int) = none ∧ some rv = none => nomatch h.2),
          if_pos (by omega), if_neg (by omega), if_pos (by omega)]
        congr 2
        omega

theorem weekOrd_of_weekNo (Y : Int) (o : Nat) (w : Int) (wd start : Weekday) (s : Int)
    (hs : (start.toNat : Int) = s)
    (hw : w = weekNo Y o s) (hwd : (wd.toNat : Int) = weekdayOf (dayNumYo Y o)) :
    weekOrd Y w wd start = o := by
  unfold weekOrd
  rw [hs, hwd, hw]
  unfold weekNo weekdayOf dayNumYo
  generalize daysBeforeYear Y = B
  push_cast
  omega

theorem iso_year_bound (Y : Int) (o : Nat) (h : VD Y o) (w : Int)
    (hw : (dateOfYo Y o).iso_week = .ok w) : Y - 1 ≤ IsoWeek.year w ∧ IsoWeek.year w ≤ Y + 1 := by
  obtain ⟨w', hw', hb⟩ := iso_week_year Y o h
  rw [hw] at hw'
  cases hw'
  exact hb

/-- whichever arm is selected rebuilds a day that passes all its checks: a calendar arm because the
fields it reads determine the day, the ISO arm provided its constructor returns the day -/
theorem armDate_complete (p : Parsed) (hp : InType p) (Y : Int) (o : Nat) (hvd : VD Y o)
    (hall : AllOk p Y o) (gy gi : Option Int) (hgy : ∀ y, gy = some y → y = Y)
    (hiso : ∀ y w wd, Parsed.dateArm p gy gi = .iso y w wd →
      Date.from_isoywd_opt y w.toNat wd = .ok (some (dateOfYo Y o)))
    (hsome : Parsed.dateArm p gy gi ≠ .none) :
    Parsed.armDate p (Parsed.dateArm p gy gi) = .ok (.ok (true, dateOfYo Y o)) := by
  obtain ⟨⟨_, _, a4, a9⟩, ⟨_, a7⟩, a8, a5, a6⟩ := id hall
  obtain ⟨v1, v2, v3, v4⟩ := id hvd
  obtain ⟨b, hb, hiff⟩ := full_check p Y o hp hvd
  obtain rfl : b = true := hiff.mpr hall
  obtain ⟨b1, b2, c1, c2, iall, _, _⟩ := checks_ok p Y o hp hvd
  have hb' := iall.mpr hall
  rw [Bool.and_eq_true, Bool.and_eq_true] at hb'
  obtain ⟨⟨hb1, hb2⟩, hb3⟩ := hb'
  obtain ⟨_, _, hval, hoo⟩ := month_day_spec Y o v3 v4
  have week : ∀ (wk : Int) (wd start : Weekday) (s : Int), (start.toNat : Int) = s → wk = weekNo Y o s →
      0 ≤ weekNo Y o s ∧ weekNo Y o s ≤ 53 → p.weekday = some wd →
      Parsed.resolve_week_date Y wk wd start = .ok (.ok (dateOfYo Y o)) := by
    intro wk wd start s hs ew hwk e3
    have hwo := weekOrd_of_weekNo Y o wk wd start s hs ew (a7 wd e3)
    have hMIN : MIN_YEAR = -262143 := rfl
    rw [resolve_week_date_spec, hwo, if_neg (by rw [ew]; omega), if_neg (fun h => h ⟨v1, v2⟩),
      if_neg (by omega), if_pos (by omega), Int.toNat_natCast]
  have hwks := weeks_from_spec Y o hvd
  rcases dateArm_cases p gy gi with ⟨y, m, d, e1, e2, e3, ha⟩ | ⟨y, oo, e1, e2, ha⟩ |
      ⟨y, wk, wd, e1, e2, e3, ha⟩ | ⟨y, wk, wd, e1, e2, e3, ha⟩ | ⟨y, wk, wd, e1, e2, e3, ha⟩ | ⟨ha, _⟩
  · obtain rfl := hgy y e1
    obtain rfl := a4 m e2
    obtain rfl := a9 d e3
    rw [ha]
    unfold Parsed.armDate
    simp only [Int.toNat_natCast]
    rw [ctor_ymd', if_pos ⟨v1, v2, hval⟩, hoo]
    simp only [Parsed.okOr, Parsed.RP.bind]
    rw [c2, andR_ok, hb2, hb3]
    rfl
  · obtain rfl := hgy y e1
    obtain rfl := a8 oo e2
    rw [ha]
    unfold Parsed.armDate
    simp only [Int.toNat_natCast]
    rw [ctor_yo', if_pos ⟨v1, v2, v3, v4⟩]
    simp only [Parsed.okOr, Parsed.RP.bind]
    rw [hb]
  · obtain rfl := hgy y e1
    rw [ha]
    unfold Parsed.armDate
    simp only []
    rw [week wk wd .sun 6 rfl (a5 wk e2) ⟨hwks.2.2.1, hwks.2.2.2.1⟩ e3]
    simp only [Parsed.RP.bind]
    rw [hb]
  · obtain rfl := hgy y e1
    rw [ha]
    unfold Parsed.armDate
    simp only []
    rw [week wk wd .mon 0 rfl (a6 wk e2) ⟨hwks.2.2.2.2.1, hwks.2.2.2.2.2⟩ e3]
    simp only [Parsed.RP.bind]
    rw [hb]
  · have hback := hiso y wk wd ha
    rw [ha]
    unfold Parsed.armDate
    simp only []
    rw [hback]
    simp only [Parsed.okOr, Parsed.RP.bind]
    rw [c1, andR_ok, hb1, hb3]
    rfl
  · exact absurd ha hsome

/-- `to_naive_date` once both year groups are resolved and the selected arm has produced the day:
only the quarter is left to compare -/
theorem date_of_arm (p : Parsed) (Y : Int) (o : Nat) (hvd : VD Y o) (gy gi : Option Int)
    (hgy : Parsed.resolve_year p.year p.year_div_100 p.year_mod_100 = .ok gy)
    (hgi : Parsed.resolve_year p.isoyear p.isoyear_div_100 p.isoyear_mod_100 = .ok gi)
    (harm : Parsed.armDate p (Parsed.dateArm p gy gi) = .ok (.ok (true, dateOfYo Y o)))
    (hq : optIs p.quarter (quarterOfMonth (monthOfYo Y o))) :
    Parsed.to_naive_date p = .ok (.ok (dateOfYo Y o)) := by
  obtain ⟨_, _, _, hm, _, _, _⟩ := vd_fields Y o hvd
  obtain ⟨_, _, hval, _⟩ := month_day_spec Y o hvd.2.2.1 hvd.2.2.2
  have hm1 : 1 ≤ monthOfYo Y o := by
    unfold validYmd at hval; simp at hval; omega
  unfold Parsed.to_naive_date
  rw [hgy, hgi]
  simp only []
  rw [harm]
  simp only [Parsed.RP.bind, Bool.not_true, Bool.false_eq_true, if_false]
  cases hpq : p.quarter with
  | none => rfl
  | some q =>
    simp only []
    rw [hm]
    simp only []
    rw [quarter_eq _ hm1, if_neg (fun hne => hne (hq q hpq))]

theorem allOk_of_agrees {p : Parsed} {Y : Int} {o : Nat} (hag : DateAgrees p Y o) : AllOk p Y o := by
  obtain ⟨a1, a2, _, a4, a5, a6, a7, a8, a9, hiso⟩ := hag
  exact ⟨⟨a1, a2, a4, a9⟩, ⟨hiso, a7⟩, a8, a5, a6⟩

theorem date_complete' (p : Parsed) (hp : InType p) (Y : Int) (o : Nat) (hvd : VD Y o)
    (hag : DateAgrees p Y o)
    (hdY : GroupDeterminate p.year p.year_div_100 p.year_mod_100 Y)
    (hdI : ∀ w, (dateOfYo Y o).iso_week = .ok w →
      GroupDeterminate p.isoyear p.isoyear_div_100 p.isoyear_mod_100 (IsoWeek.year w))
    (hc : UsesCalendar p) :
    Parsed.to_naive_date p = .ok (.ok (dateOfYo Y o)) := by
  obtain ⟨w, hw, i1, i2, _⟩ := hag.2.2.2.2.2.2.2.2.2
  have hMIN : MIN_YEAR = -262143 := rfl
  have hMAX : MAX_YEAR = 262142 := rfl
  obtain ⟨v1, v2, _, _⟩ := id hvd
  have hib := iso_year_bound Y o hvd w hw
  have hgy := resolve_year_complete _ _ _ Y (by omega) hag.1 hag.2.1 hdY
  have hgi := resolve_year_complete _ _ _ (IsoWeek.year w) (by omega) i1 i2 (hdI w hw)
  rw [if_neg (fun h => hc.1.elim (fun g => g h.1) (fun g => g h.2))] at hgy
  -- a calendar combination is present and the year is known, so the ISO arm is never reached
  have hcal : (some Y ≠ none ∧ ((p.month ≠ none ∧ p.day ≠ none) ∨ p.ordinal ≠ none ∨
      (p.week_from_sun ≠ none ∧ p.weekday ≠ none) ∨ (p.week_from_mon ≠ none ∧ p.weekday ≠ none))) :=
    ⟨nofun, hc.2⟩
  exact date_of_arm p Y o hvd _ _ hgy hgi
    (armDate_complete p hp Y o hvd (allOk_of_agrees hag) _ _ (fun y e => (Option.some.inj e).symm)
      (fun y w wd h => absurd h (dateArm_not_iso p _ _ hcal y w wd))
      (fun h => (dateArm_none_iff p _ _).mp h (.inl hcal)))
    hag.2.2.1

end Chrono.Proofs.ParsedRes
