/-
  C12, round 3 (whole format strings): literal / white-space text BETWEEN two specifiers.
  On a `%`-free run of well-formed UTF-8 followed by a `%`, the two run scanners of
  `parse_next_item` (`wsSpan`: white-space characters, `litSpan`: other characters, both walking whole
  characters) stop at the `%` at the latest — so the tokenizer cuts `text ++ "%…"` exactly where it cuts
  `text`, and `items (text ++ "%…") = items text ++ items "%…"`.
  (Well-formedness is needed: after a stray lead byte `litSpan` would step over the `%`.)
  Namespace `Chrono.Proofs.StrftimeText`.
-/
import Chrono.Proofs.StrftimeUtf8L
import Chrono.Proofs.StrftimeAppendL
namespace Chrono.Proofs.StrftimeText
open Chrono Chrono.M Chrono.M.Strftime Chrono.M.Tz Chrono.Spec.Utf8 Chrono.Proofs.Utf8 Chrono.Proofs.ScanBoundary
open Chrono.Proofs.StrftimeL Chrono.Proofs.FormatL

theorem wsLen37 (b : List Nat) : Scan.wsLen (37 :: b) = 0 := rfl

/-- a white-space character at the head of `s` is read whatever follows -/
theorem wsLen_append (s t : List Nat) (h : Scan.wsLen s ≠ 0) : Scan.wsLen (s ++ t) = Scan.wsLen s := by
  obtain ⟨w, r, hw, rfl, hl⟩ := Rfc2822.wsLen_inv s h
  rw [List.append_assoc, (Rfc2822.wsLen_ws w hw _).1, hl]

/-- an ASCII byte does not complete a white-space character: the bytes after the first are `≥ 128` -/
theorem wsLen_append_ascii (b0 : Nat) (r : List Nat) (x : Nat) (t : List Nat) (hx : x < 128)
    (h : Scan.wsLen (b0 :: r) = 0) : Scan.wsLen (b0 :: (r ++ x :: t)) = 0 := by
  by_cases h' : Scan.wsLen (b0 :: (r ++ x :: t)) = 0
  · exact h'
  exfalso
  obtain ⟨w, r', hw, e, _⟩ := Rfc2822.wsLen_inv _ h'
  have hpre : ∀ c', b0 :: r = w ++ c' → False := fun c' e' => by
    have := Rfc2822.wsLen_ws w hw c'
    rw [← e', h] at this
    omega
  rcases List.append_eq_append_iff.mp (show (b0 :: r) ++ x :: t = w ++ r' from e) with ⟨a', e1, e2⟩ | ⟨c', e1, _⟩
  · cases a' with
    | nil => exact hpre [] (by rw [e1, List.append_nil, List.append_nil])
    | cons y a'' =>
      injection e2 with hy _
      subst hy
      have key : ∀ w ∈ Spec.Rfc2822.WS, ∀ y ∈ w.tail, 128 ≤ y := by decide
      have := key w hw x (by rw [e1]; simp)
      omega
  · exact hpre c' e1

/-- `char::is_whitespace` of the first character does not see a following `%` -/
theorem wsLen_append37 (b0 : Nat) (r b : List Nat) :
    Scan.wsLen (b0 :: (r ++ 37 :: b)) = Scan.wsLen (b0 :: r) := by
  by_cases h : Scan.wsLen (b0 :: r) = 0
  · rw [h]; exact wsLen_append_ascii b0 r 37 b (by decide) h
  · exact wsLen_append (b0 :: r) (37 :: b) h

theorem wsLen_le (s : List Nat) : Scan.wsLen s ≤ s.length := by
  by_cases h : Scan.wsLen s = 0
  · omega
  · obtain ⟨w, r, _, hs, hl⟩ := Rfc2822.wsLen_inv s h
    rw [hl, hs, List.length_append]; omega

/-- the first character of a well-formed non-empty string: `charLen` of the lead byte is its length,
and what follows it is well-formed -/
theorem valid_head (b0 : Nat) (r : List Nat) (hv : validUtf8 (b0 :: r) = true) :
    Scan.charLen b0 ≤ (b0 :: r).length ∧ validUtf8 ((b0 :: r).drop (Scan.charLen b0)) = true := by
  obtain ⟨c, t', he, hlen, _, hvt⟩ := StrftimeUtf8.valid_first b0 r hv
  rw [← hlen, he]
  refine ⟨by rw [List.length_append]; omega, ?_⟩
  rw [List.drop_left]; exact hvt

/-! ### the run scanners -/

theorem wsSpanAux_le : ∀ (f : Nat) (s : List Nat) (acc : Nat), wsSpanAux f s acc ≤ acc + s.length := by
  intro f
  induction f with
  | zero => intro s acc; simp [wsSpanAux]
  | succ f ih =>
    intro s acc
    unfold wsSpanAux
    simp only
    split
    · omega
    · have h1 := wsLen_le s
      have := ih (s.drop (Scan.wsLen s)) (acc + Scan.wsLen s)
      rw [List.length_drop] at this
      omega

theorem litSpanAux_le : ∀ (f : Nat) (s : List Nat) (acc : Nat), validUtf8 s = true →
    litSpanAux f s acc ≤ acc + s.length := by
  intro f
  induction f with
  | zero => intro s acc _; simp [litSpanAux]
  | succ f ih =>
    intro s acc hv
    unfold litSpanAux
    split
    · omega
    · rename_i b tl
      split
      · omega
      · obtain ⟨h1, h2⟩ := valid_head b tl hv
        have := ih ((b :: tl).drop (Scan.charLen b)) (acc + Scan.charLen b) h2
        rw [List.length_drop] at this
        omega

/-- the white-space scanner stops at the `%` at the latest -/
theorem wsSpanAux_append : ∀ (n : Nat) (a : List Nat), a.length ≤ n → ∀ (b : List Nat) (f1 f2 acc : Nat),
    a.length ≤ f2 → a.length + 1 ≤ f1 → wsSpanAux f1 (a ++ 37 :: b) acc = wsSpanAux f2 a acc := by
  have nil : ∀ (b : List Nat) (f1 f2 acc : Nat), 1 ≤ f1 → wsSpanAux f1 ([] ++ 37 :: b) acc = wsSpanAux f2 [] acc := by
    intro b f1 f2 acc h1
    obtain ⟨g, rfl⟩ : ∃ g, f1 = g + 1 := ⟨f1 - 1, by omega⟩
    rw [List.nil_append, wsSpanAux]
    simp only [wsLen37, if_true]
    cases f2 <;> simp [wsSpanAux, Scan.wsLen]
  intro n
  induction n with
  | zero =>
    intro a ha b f1 f2 acc _ h1
    have : a = [] := List.eq_nil_of_length_eq_zero (by omega)
    subst this
    exact nil b f1 f2 acc h1
  | succ n ih =>
    intro a ha b f1 f2 acc h2 h1
    cases a with
    | nil => exact nil b f1 f2 acc h1
    | cons c r =>
      simp only [List.length_cons] at ha h1 h2
      obtain ⟨g1, rfl⟩ : ∃ g, f1 = g + 1 := ⟨f1 - 1, by omega⟩
      obtain ⟨g2, rfl⟩ : ∃ g, f2 = g + 1 := ⟨f2 - 1, by omega⟩
      rw [List.cons_append, wsSpanAux, wsSpanAux, wsLen_append37]
      split
      · rfl
      · rename_i h0
        have hle := wsLen_le (c :: r)
        rw [← List.cons_append, List.drop_append_of_le_length hle]
        have hl : ((c :: r).drop (Scan.wsLen (c :: r))).length ≤ n := by
          rw [List.length_drop, List.length_cons]; omega
        exact ih _ hl b g1 g2 _ (by rw [List.length_drop, List.length_cons]; omega)
          (by rw [List.length_drop, List.length_cons]; omega)

theorem wsSpan_append (a b : List Nat) : wsSpan (a ++ 37 :: b) = wsSpan a := by
  unfold wsSpan
  exact wsSpanAux_append a.length a (Nat.le_refl _) b _ _ 0 (Nat.le_refl _)
    (by rw [List.length_append, List.length_cons]; omega)

/-- the literal scanner stops at the `%` at the latest — on well-formed UTF-8 -/
theorem litSpanAux_append : ∀ (n : Nat) (a : List Nat), a.length ≤ n → validUtf8 a = true → (∀ x ∈ a, x ≠ 37) →
    ∀ (b : List Nat) (f1 f2 acc : Nat), a.length ≤ f2 → a.length + 1 ≤ f1 →
    litSpanAux f1 (a ++ 37 :: b) acc = litSpanAux f2 a acc := by
  have nil : ∀ (b : List Nat) (f1 f2 acc : Nat), 1 ≤ f1 → litSpanAux f1 ([] ++ 37 :: b) acc = litSpanAux f2 [] acc := by
    intro b f1 f2 acc h1
    obtain ⟨g, rfl⟩ : ∃ g, f1 = g + 1 := ⟨f1 - 1, by omega⟩
    rw [List.nil_append, litSpanAux]
    simp only [true_or, if_true]
    cases f2 <;> simp [litSpanAux]
  intro n
  induction n with
  | zero =>
    intro a ha _ _ b f1 f2 acc _ h1
    have : a = [] := List.eq_nil_of_length_eq_zero (by omega)
    subst this
    exact nil b f1 f2 acc h1
  | succ n ih =>
    intro a ha hv hf b f1 f2 acc h2 h1
    cases a with
    | nil => exact nil b f1 f2 acc h1
    | cons c r =>
      simp only [List.length_cons] at ha h1 h2
      obtain ⟨g1, rfl⟩ : ∃ g, f1 = g + 1 := ⟨f1 - 1, by omega⟩
      obtain ⟨g2, rfl⟩ : ∃ g, f2 = g + 1 := ⟨f2 - 1, by omega⟩
      rw [List.cons_append, litSpanAux, litSpanAux, wsLen_append37]
      split
      · rfl
      · obtain ⟨hle, hvd⟩ := valid_head c r hv
        have hp := charLen_pos c
        rw [← List.cons_append, List.drop_append_of_le_length hle]
        have hl : ((c :: r).drop (Scan.charLen c)).length ≤ n := by
          rw [List.length_drop, List.length_cons]; omega
        exact ih _ hl hvd (fun x hx => hf x (List.mem_of_mem_drop hx)) b g1 g2 _
          (by rw [List.length_drop, List.length_cons]; omega)
          (by rw [List.length_drop, List.length_cons]; omega)

theorem litSpan_append (a b : List Nat) (hv : validUtf8 a = true) (hf : ∀ x ∈ a, x ≠ 37) :
    litSpan (a ++ 37 :: b) = litSpan a := by
  unfold litSpan
  exact litSpanAux_append a.length a (Nat.le_refl _) hv hf b _ _ 0 (Nat.le_refl _)
    (by rw [List.length_append, List.length_cons]; omega)

/-! ### one tokenizer step on text -/

/-- one step on `text ++ "%…"`: the same cut and the same item as on `text` alone -/
theorem pni_text_append (c : Nat) (r b : List Nat) (hf : ∀ x ∈ c :: r, x ≠ 37) (hv : validUtf8 (c :: r) = true) :
    ∃ n it, 1 ≤ n ∧ n ≤ (c :: r).length ∧
      parse_next_item false (c :: r) = some ((c :: r).drop n, it, []) ∧
      parse_next_item false (c :: r ++ 37 :: b) = some ((c :: r).drop n ++ 37 :: b, it, []) := by
  have hc : c ≠ 37 := hf c (by simp)
  have e1 := parse_next_item_text_eq false c r hc
  have e2 := parse_next_item_text_eq false c (r ++ 37 :: b) hc
  rw [wsLen_append37] at e2
  by_cases hw : Scan.wsLen (c :: r) ≠ 0
  · rw [if_pos hw] at e1 e2
    have hle := wsLen_le (c :: r)
    have hsp := wsSpanAux_le ((c :: r).drop (Scan.wsLen (c :: r))).length ((c :: r).drop (Scan.wsLen (c :: r))) 0
    rw [List.length_drop] at hsp
    have hn : Scan.wsLen (c :: r) + wsSpan ((c :: r).drop (Scan.wsLen (c :: r))) ≤ (c :: r).length := by
      unfold wsSpan; rw [List.length_drop]; omega
    rw [← List.cons_append, List.drop_append_of_le_length hle, wsSpan_append,
      List.drop_append_of_le_length hn, List.take_append_of_le_length hn] at e2
    exact ⟨_, _, by omega, hn, e1, e2⟩
  · rw [if_neg hw] at e1 e2
    obtain ⟨hle, hvd⟩ := valid_head c r hv
    have hp := charLen_pos c
    have hsp := litSpanAux_le ((c :: r).drop (Scan.charLen c)).length ((c :: r).drop (Scan.charLen c)) 0 hvd
    rw [List.length_drop] at hsp
    have hn : Scan.charLen c + litSpan ((c :: r).drop (Scan.charLen c)) ≤ (c :: r).length := by
      unfold litSpan; rw [List.length_drop]; omega
    rw [← List.cons_append, List.drop_append_of_le_length hle,
      litSpan_append _ b hvd (fun x hx => hf x (List.mem_of_mem_drop hx)),
      List.drop_append_of_le_length hn, List.take_append_of_le_length hn] at e2
    exact ⟨_, _, by omega, hn, e1, e2⟩

/-! ### the whole tokenizer -/

/-- **`items (text ++ "%…") = items text ++ items "%…"`** for every `%`-free run of well-formed UTF-8
(literal characters and white space in any order, any Unicode) -/
theorem items_text_append : ∀ (n : Nat) (a : List Nat), a.length ≤ n → validUtf8 a = true → (∀ x ∈ a, x ≠ 37) →
    ∀ b : List Nat, items (a ++ 37 :: b) = items a ++ items (37 :: b) := by
  intro n
  induction n with
  | zero =>
    intro a ha _ _ b
    have : a = [] := List.eq_nil_of_length_eq_zero (by omega)
    subst this
    rfl
  | succ n ih =>
    intro a ha hv hf b
    cases a with
    | nil => rfl
    | cons c r =>
      obtain ⟨k, it, hk1, hk2, p1, p2⟩ := pni_text_append c r b hf hv
      have hvd : validUtf8 ((c :: r).drop k) = true :=
        bs_valid_rest hv (StrftimeUtf8.parse_next_item_good (c :: r) hv _ p1).1
      have hfd : ∀ x ∈ (c :: r).drop k, x ≠ 37 := fun x hx => hf x (List.mem_of_mem_drop hx)
      have hl : ((c :: r).drop k).length ≤ n := by
        rw [List.length_drop]; simp only [List.length_cons] at ha hk2 ⊢; omega
      have hrec := ih _ hl hvd hfd b
      have hlen : ((c :: r).drop k).length = (c :: r).length - k := List.length_drop
      unfold items at hrec ⊢
      rw [itemsAux, p2, itemsAux, p1]
      simp only [List.nil_append, List.cons_append]
      have hlen2 : ((c :: r).drop k ++ 37 :: b).length = (c :: r).length - k + (b.length + 1) := by
        rw [List.length_append, hlen]; rfl
      have hlen3 : (c :: (r ++ 37 :: b)).length = (c :: r).length + (b.length + 1) := by
        simp only [List.length_cons, List.length_append]; omega
      rw [StrftimeL.itemsAux_fuel false (c :: (r ++ 37 :: b)).length (((c :: r).drop k ++ 37 :: b).length + 1)
          ((c :: r).drop k ++ 37 :: b) (by rw [hlen2, hlen3]; omega) (by omega),
        hrec,
        StrftimeL.itemsAux_fuel false (c :: r).length (((c :: r).drop k).length + 1) ((c :: r).drop k)
          (by rw [hlen]; omega) (by omega)]

theorem items_text (a b : List Nat) (hv : validUtf8 a = true) (hf : ∀ x ∈ a, x ≠ 37) :
    items (a ++ 37 :: b) = items a ++ items (37 :: b) :=
  items_text_append a.length a (Nat.le_refl _) hv hf b

/-- every complete specifier text starts with `%` -/
theorem specTexts_head : ∀ a ∈ StrftimeAppend.specTextsLit, ∃ r, a = 37 :: r := by
  intro a ha
  have key : ∀ a ∈ StrftimeAppend.specTextsLit, a.head? = some 37 := by decide +kernel
  have := key a ha
  cases a with
  | nil => cases this
  | cons x r => simp only [List.head?_cons, Option.some.injEq] at this; exact ⟨r, by rw [this]⟩

/-- a format string given as segments `(text, specifier)` (text: `%`-free well-formed UTF-8, possibly
empty; specifier: a complete documented specifier text) followed by anything -/
theorem items_segments (segs : List (List Nat × List Nat))
    (hs : ∀ p ∈ segs, (∀ x ∈ p.1, x ≠ 37) ∧ validUtf8 p.1 = true ∧ p.2 ∈ Spec.StrftimeDoc.specTexts) (rest : List Nat) :
    items ((segs.map fun p => p.1 ++ p.2).flatten ++ rest) =
      (segs.map fun p => items p.1 ++ items p.2).flatten ++ items rest := by
  induction segs with
  | nil => rfl
  | cons p tl ih =>
    obtain ⟨h1, h2, h3⟩ := hs p (by simp)
    obtain ⟨r, hr⟩ := specTexts_head p.2 (by rw [← StrftimeAppend.specTexts_eq]; exact h3)
    simp only [List.map_cons, List.flatten_cons, List.append_assoc]
    have e : p.2 ++ ((tl.map fun p => p.1 ++ p.2).flatten ++ rest) =
        37 :: (r ++ ((tl.map fun p => p.1 ++ p.2).flatten ++ rest)) := by rw [hr]; rfl
    rw [e, items_text p.1 _ h2 h1, ← e, StrftimeAppend.items_append p.2 _ h3,
      ih (fun q hq => hs q (List.mem_cons_of_mem _ hq))]

end Chrono.Proofs.StrftimeText
