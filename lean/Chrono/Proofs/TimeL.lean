/- Helper lemmas for C07 (proofs of the statements in Props/C07.lean). -/
import Chrono.Spec.TimeSpec
import Chrono.Model.TimeCarry
import Chrono.Proofs.PrimL
import Chrono.Proofs.DeltaL

namespace Chrono.Proofs
open Chrono Chrono.M Chrono.Spec Chrono.Extracted

theorem optU32_some {x : Int} (h1 : 0 ≤ x) (h2 : x ≤ 4294967295) : optU32 x = some x := by
  simp [optU32, inU32, U32_MAX, h1, h2]

theorem optU32_none {x : Int} (h : 4294967295 < x) : optU32 x = none := by
  have : ¬ (x ≤ 4294967295) := by omega
  simp [optU32, inU32, U32_MAX, this]

/-- the two parts `overflowing_add_signed` reads from a duration: same sign, exact, bounded -/
theorem delta_parts (d : Delta) (h : DInv d) :
    ns d = d.num_seconds * 1000000000 + d.subsec_nanos ∧
    -1000000000 < d.subsec_nanos ∧ d.subsec_nanos < 1000000000 ∧
    (0 < d.num_seconds → 0 ≤ d.subsec_nanos) ∧ (d.num_seconds < 0 → d.subsec_nanos ≤ 0) ∧
    -9223372036854775 ≤ d.num_seconds ∧ d.num_seconds ≤ 9223372036854775 := by
  obtain ⟨s, n⟩ := d
  simp only [DInv, nsInRange, ns, NS_MAX] at h
  simp only [Delta.num_seconds, Delta.subsec_nanos, NANOS_PER_SEC, ns]
  by_cases hc : s < 0 ∧ n > 0
  · rw [if_pos hc, if_pos hc]; omega
  · rw [if_neg hc, if_neg hc]; omega

/-! ### the specification: `addLeap` through the ordinary read-back -/

/-- a position on the ordinary clock's line read back: time of day, and the whole days dropped in
seconds.  `addLeap` is this map outside the operand's own leap second. -/
def wrap (p : Int) : Time × Int :=
  (⟨p / 1000000000 % 86400, p % 1000000000⟩, p / 1000000000 - p / 1000000000 % 86400)

theorem wrap_spec (p : Int) :
    TValid (wrap p).1 ∧ (wrap p).1.frac < 1000000000 ∧ (wrap p).2 % 86400 = 0 ∧
    pos (wrap p).1 + (wrap p).2 * 1000000000 = p := by
  unfold wrap TValid pos
  dsimp only
  omega

/-- `wrap p` is the only pair with the properties of `wrap_spec`; facts about `wrap` follow from
this and not from its division and remainder -/
theorem wrap_unique (p : Int) (r : Time) (c : Int) (hv : TValid r) (hf : r.frac < 1000000000)
    (hc : c % 86400 = 0) (hp : pos r + c * 1000000000 = p) : wrap p = (r, c) := by
  obtain ⟨s, f⟩ := r
  unfold TValid at hv
  unfold pos at hp
  dsimp only at hv hf hp
  unfold wrap
  simp only [Prod.mk.injEq, Time.mk.injEq]
  omega

theorem wrap_periodic (p q k : Int) (h : q = p + k * 86400000000000) : (wrap q).1 = (wrap p).1 := by
  obtain ⟨v, hf, hc, hp⟩ := wrap_spec p
  rw [wrap_unique q (wrap p).1 ((wrap p).2 + k * 86400) v hf (by omega) (by omega)]

/-- an ordinary operand, or a leap second left backwards -/
theorem addLeap_plain (t : Time) (δ : Int)
    (h : t.frac < 1000000000 ∨ pos t + δ < (t.secs + 1) * 1000000000) :
    addLeap t δ = wrap (pos t + δ) := by
  unfold addLeap
  dsimp only
  rw [if_neg (by omega), if_neg (by omega)]
  rfl

/-- a leap second stayed in -/
theorem addLeap_inside (t : Time) (δ : Int) (hl : t.frac ≥ 1000000000)
    (h : (t.secs + 1) * 1000000000 ≤ pos t + δ ∧ pos t + δ < (t.secs + 2) * 1000000000) :
    addLeap t δ = (⟨t.secs, t.frac + δ⟩, 0) := by
  unfold addLeap
  dsimp only
  rw [if_pos (by omega)]
  unfold pos
  simp only [Prod.mk.injEq, Time.mk.injEq, and_true, true_and]
  omega

/-- a leap second skipped forwards: it is taken out of the reading -/
theorem addLeap_after (t : Time) (δ : Int) (hl : t.frac ≥ 1000000000)
    (h : (t.secs + 2) * 1000000000 ≤ pos t + δ) :
    addLeap t δ = wrap (pos t + δ - 1000000000) := by
  unfold addLeap
  dsimp only
  rw [if_neg (by omega), if_pos (by omega)]
  rfl

/-- `addLeap` sees its operand only through its second, whether it is a leap second, and the sum on
the line -/
theorem addLeap_congr (t u : Time) (δ ε : Int) (hs : t.secs = u.secs)
    (hl : t.frac ≥ 1000000000 ↔ u.frac ≥ 1000000000) (hp : pos t + δ = pos u + ε) :
    addLeap t δ = addLeap u ε := by
  unfold addLeap
  simp only [hs, hl, hp]

/-- a second step from a read-back result -/
theorem addLeap_wrap (p q : Int) :
    addLeap (wrap p).1 q = ((wrap (p + q)).1, (wrap (p + q)).2 - (wrap p).2) := by
  obtain ⟨_, hf, hc, hp⟩ := wrap_spec p
  obtain ⟨v, hf', hc', hp'⟩ := wrap_spec (p + q)
  rw [addLeap_plain _ q (Or.inl hf)]
  exact wrap_unique _ _ _ v hf' (by omega) (by omega)

theorem addLeap_facts (t : Time) (δ : Int) (ht : TValid t) :
    TValid (addLeap t δ).1 ∧ (addLeap t δ).2 % 86400 = 0 ∧
    (t.frac < 1000000000 →
      (addLeap t δ).1.frac < 1000000000 ∧
      pos (addLeap t δ).1 + (addLeap t δ).2 * 1000000000 = pos t + δ) ∧
    ((addLeap t δ).1.frac ≥ 1000000000 ↔
      (t.frac ≥ 1000000000 ∧ (t.secs + 1) * 1000000000 ≤ pos t + δ ∧
        pos t + δ < (t.secs + 2) * 1000000000)) := by
  obtain ⟨s, f⟩ := t
  simp only [TValid] at ht
  unfold addLeap pos TValid
  simp only []
  split
  · simp only []; omega
  · split
    · simp only []; omega
    · simp only []; omega

theorem addLeap_carry_bound (t : Time) (δ : Int) (ht : TValid t)
    (hδ : -9223372036854775807000000 ≤ δ ∧ δ ≤ 9223372036854775807000000) :
    -9223372036941200 ≤ (addLeap t δ).2 ∧ (addLeap t δ).2 ≤ 9223372036941200 := by
  obtain ⟨s, f⟩ := t
  simp only [TValid] at ht
  unfold addLeap pos
  simp only []
  split
  · simp only []; omega
  · split
    · simp only []; omega
    · simp only []; omega

/-- documented law: for durations of the same sign, adding in two steps equals adding the sum
(carries add up).  Steps of one sign cannot come back to the operand's leap second once they have
left it, so from there on both sides read the ordinary line. -/
theorem addLeap_assoc' (t : Time) (a b : Int) (ht : TValid t)
    (hab : (0 ≤ a ∧ 0 ≤ b) ∨ (a ≤ 0 ∧ b ≤ 0)) :
    addLeap t (a + b) =
      ((addLeap (addLeap t a).1 b).1, (addLeap t a).2 + (addLeap (addLeap t a).1 b).2) := by
  have hpos : pos t = t.secs * 1000000000 + t.frac := rfl
  unfold TValid at ht
  have fin : ∀ p : Int, wrap (p + b) =
      ((wrap (p + b)).1, (wrap p).2 + ((wrap (p + b)).2 - (wrap p).2)) :=
    fun p => Prod.ext rfl (by dsimp only; omega)
  by_cases h1 : t.frac < 1000000000 ∨ pos t + a < (t.secs + 1) * 1000000000
  · rw [addLeap_plain t a h1, addLeap_wrap, addLeap_plain t (a + b) (by omega), ← Int.add_assoc]
    exact fin _
  · by_cases h2 : pos t + a < (t.secs + 2) * 1000000000
    · rw [addLeap_inside t a (by omega) (by omega)]
      dsimp only
      rw [Int.zero_add]
      exact (addLeap_congr ⟨t.secs, t.frac + a⟩ t b (a + b) rfl (by dsimp only; omega)
        (by unfold pos; dsimp only; omega)).symm
    · have e : pos t + (a + b) - 1000000000 = pos t + a - 1000000000 + b := by omega
      rw [addLeap_after t a (by omega) (by omega), addLeap_wrap,
        addLeap_after t (a + b) (by omega) (by omega), e]
      exact fin _

/-! ### addition: the model against the specification -/

/-- the end of `add_tail`: seconds and a normalised fraction are read back as `wrap` reads the
position they make up -/
theorem add_tail_fin (S f : Int) (hS : -10000000000000000 ≤ S ∧ S ≤ 10000000000000000)
    (hf : 0 ≤ f ∧ f < 1000000000) :
    ((ckI64 (S - S % 86400)).bind fun remaining =>
      Res.ok ((⟨asU32 (S % 86400), asU32 f⟩ : Time), remaining)) = .ok (wrap (S * 1000000000 + f)) := by
  rw [ckI64_ok (by omega) (by omega), rbind_ok, asU32_id (by omega) (by omega),
    asU32_id (by omega) (by omega),
    wrap_unique _ ⟨S % 86400, f⟩ (S - S % 86400) (by unfold TValid; dsimp only; omega) hf.2
      (by omega) (by unfold pos; dsimp only; omega)]

/-- the common tail of the addition: exact on the plain line, wrapped modulo one day -/
theorem add_tail_ok (s f S F : Int) (hs : 0 ≤ s ∧ s ≤ 86400) (hf : 0 ≤ f ∧ f < 1000000000)
    (hS : -9223372036854775 ≤ S ∧ S ≤ 9223372036854775) (hF : -1000000000 < F ∧ F < 1000000000) :
    Time.add_tail s f S F = .ok (wrap ((s + S) * 1000000000 + f + F)) := by
  unfold Time.add_tail
  rw [ckI64_ok (by omega) (by omega), rbind_ok, ckI32_ok (by omega) (by omega), rbind_ok]
  dsimp only
  by_cases h1 : f + F < 0
  · have e : (s + S) * 1000000000 + f + F = (s + S - 1) * 1000000000 + (f + F + 1000000000) := by
      omega
    rw [if_pos h1, ckI32_ok (by omega) (by omega), rbind_ok, ckI64_ok (by omega) (by omega), rbind_ok,
      e, add_tail_fin _ _ (by omega) (by omega)]
  · rw [if_neg h1]
    by_cases h2 : f + F ≥ 1000000000
    · have e : (s + S) * 1000000000 + f + F = (s + S + 1) * 1000000000 + (f + F - 1000000000) := by
        omega
      rw [if_pos h2, ckI32_ok (by omega) (by omega), rbind_ok, ckI64_ok (by omega) (by omega),
        rbind_ok, e, add_tail_fin _ _ (by omega) (by omega)]
    · rw [if_neg h2, Int.add_assoc, add_tail_fin _ _ (by omega) (by omega)]

theorem add_spec' (t : Time) (d : Delta) (ht : TValid t) (hd : DInv d) :
    Time.overflowing_add_signed t d = .ok (addLeap t (ns d)) := by
  obtain ⟨hns, hF1, hF2, hpos, hneg, hS1, hS2⟩ := delta_parts d hd
  obtain ⟨s, f⟩ := t
  simp only [TValid] at ht
  have hp : pos ⟨s, f⟩ = s * 1000000000 + f := rfl
  unfold Time.overflowing_add_signed
  dsimp only
  rw [asI32_id (by omega) (by omega), hns]
  generalize d.num_seconds = S at *
  generalize d.subsec_nanos = F at *
  by_cases hl : f ≥ 1000000000
  · rw [if_pos hl]
    by_cases c1 : S > 0 ∨ (F > 0 ∧ f ≥ 2000000000 - F)
    · rw [if_pos c1, ckI32_ok (by omega) (by omega), rbind_ok,
        add_tail_ok s (f - 1000000000) S F (by omega) (by omega) ⟨hS1, hS2⟩ ⟨hF1, hF2⟩,
        addLeap_after _ _ hl (by dsimp only; omega)]
      exact congrArg (fun p => Res.ok (wrap p)) (by omega)
    · rw [if_neg c1]
      by_cases c2 : S < 0
      · rw [if_pos c2, ckI32_ok (by omega) (by omega), rbind_ok, ckI64_ok (by omega) (by omega),
          rbind_ok,
          add_tail_ok (s + 1) (f - 1000000000) S F (by omega) (by omega) ⟨hS1, hS2⟩ ⟨hF1, hF2⟩,
          addLeap_plain _ _ (Or.inr (by dsimp only; omega))]
        exact congrArg (fun p => Res.ok (wrap p)) (by omega)
      · -- no whole second to add: the fraction alone decides whether the leap second is left
        have hS : S = 0 := by omega
        subst hS
        rw [if_neg c2, ckI32_ok (by omega) (by omega), rbind_ok, asU32_id (by omega) (by omega)]
        by_cases hin : 1000000000 ≤ f + F
        · rw [addLeap_inside _ _ hl (by dsimp only; omega)]
          exact congrArg (fun x => Res.ok ((⟨s, x⟩ : Time), (0 : Int))) (by dsimp only; omega)
        · rw [addLeap_plain _ _ (Or.inr (by dsimp only; omega)),
            wrap_unique _ ⟨s, f + F⟩ 0 (by unfold TValid; dsimp only; omega) (by dsimp only; omega)
              rfl (by unfold pos; dsimp only; omega)]
  · rw [if_neg hl, add_tail_ok s f S F (by omega) (by omega) ⟨hS1, hS2⟩ ⟨hF1, hF2⟩,
      addLeap_plain _ _ (Or.inl (by dsimp only; omega))]
    exact congrArg (fun p => Res.ok (wrap p)) (by omega)

/-! ### subtraction -/

theorem sub_spec' (t : Time) (d : Delta) (ht : TValid t) (hd : DInv d) :
    Time.overflowing_sub_signed t d =
      .ok ((addLeap t (-(ns d))).1, -(addLeap t (-(ns d))).2) := by
  unfold Time.overflowing_sub_signed
  have hneg := (neg_abs_exact' d hd).1
  have hr : nsInRange (-(ns d)) := by
    have := hd.2.2
    simp only [nsInRange, NS_MAX] at *
    omega
  have hinv := ofNs_spec' (-(ns d)) hr
  rw [hneg, rbind_ok, add_spec' t _ ht hinv.1, rbind_ok, hinv.2]
  have hb := addLeap_carry_bound t (-(ns d)) ht (by
    simp only [nsInRange, NS_MAX] at hr; omega)
  rw [ckI64_ok (by omega) (by omega), rbind_ok]

/-! ### difference -/

theorem diffLeap_antisym (a b : Time) : diffLeap a b = -(diffLeap b a) := by
  unfold diffLeap; omega

/-- `diffLeap` with the two leap seconds gathered into the whole-second adjustment the code makes -/
theorem diffLeap_eq (a b : Time) :
    diffLeap a b =
      (if a.secs > b.secs ∧ b.frac ≥ 1000000000 then a.secs - b.secs + 1
       else if a.secs < b.secs ∧ a.frac ≥ 1000000000 then a.secs - b.secs - 1
       else a.secs - b.secs) * 1000000000 + (a.frac - b.frac) := by
  unfold diffLeap linePos pos
  (repeat' split) <;> omega

theorem diff_spec' (a b : Time) (ha : TValid a) (hb : TValid b) :
    Time.signed_duration_since a b = .ok (ofNs (diffLeap a b)) ∧ DInv (ofNs (diffLeap a b)) ∧
    -86401000000000 < diffLeap a b ∧ diffLeap a b < 86401000000000 := by
  have e := diffLeap_eq a b
  have hbound : -86401000000000 < diffLeap a b ∧ diffLeap a b < 86401000000000 := by
    unfold TValid at ha hb
    rw [e]
    (repeat' split) <;> omega
  have hr : nsInRange (diffLeap a b) := by
    simp only [nsInRange, NS_MAX]; omega
  refine ⟨?_, (ofNs_spec' _ hr).1, hbound⟩
  unfold Time.signed_duration_since
  dsimp only
  rw [new_ofNs _ (asU32 ((a.frac - b.frac) % 1000000000)) (diffLeap a b) (by unfold asU32; omega)
    (by unfold asU32; omega) (by rw [e]; unfold asU32; omega), if_pos hr]

/-- model-level reading of `sub = add ∘ neg` -/
theorem sub_is_add_neg' (t : Time) (d : Delta) (ht : TValid t) (hd : DInv d) :
    ∃ n, Delta.neg d = .ok n ∧ DInv n ∧ ns n = -(ns d) ∧
      Time.overflowing_sub_signed t d =
        (Time.overflowing_add_signed t n).bind (fun p => .ok (p.1, -p.2)) := by
  have hr : nsInRange (-(ns d)) := by
    have := hd.2.2
    simp only [nsInRange, NS_MAX] at *
    omega
  have hinv := ofNs_spec' (-(ns d)) hr
  refine ⟨ofNs (-(ns d)), (neg_abs_exact' d hd).1, hinv.1, hinv.2, ?_⟩
  rw [sub_spec' t d ht hd, add_spec' t _ ht hinv.1, rbind_ok, hinv.2]

/-! ### `std::time::Duration` operands -/

/-- once the amount is a day or more (in either direction), further whole days do not change the
time of day — also for a leap-second operand, which has been left by then -/
theorem addLeap_periodic_far (t : Time) (δ k : Int) (ht : TValid t)
    (h : k = 0 ∨ (86400000000000 ≤ δ ∧ 0 ≤ k) ∨ (δ ≤ -86400000000000 ∧ k ≤ 0)) :
    (addLeap t (δ + k * 86400000000000)).1 = (addLeap t δ).1 := by
  have hpos : pos t = t.secs * 1000000000 + t.frac := rfl
  unfold TValid at ht
  rcases h with rfl | h
  · rw [Int.zero_mul, Int.add_zero]
  · by_cases hl : t.frac < 1000000000 ∨ δ ≤ -86400000000000
    · rw [addLeap_plain t _ (by omega), addLeap_plain t δ (by omega)]
      exact wrap_periodic _ _ k (by omega)
    · rw [addLeap_after t _ (by omega) (by omega), addLeap_after t δ (by omega) (by omega)]
      exact wrap_periodic _ _ k (by omega)

theorem time_std_spec' (t : Time) (secs nanos : Int) (ht : TValid t) (hs : 0 ≤ secs)
    (hn : 0 ≤ nanos ∧ nanos < 1000000000) :
    Time.add_std t secs nanos = .ok (addLeap t (secs * 1000000000 + nanos)).1 ∧
    Time.sub_std t secs nanos = .ok (addLeap t (-(secs * 1000000000 + nanos))).1 := by
  -- `r` is the reduced number of seconds, `k` the whole days taken off: none, or `r` is a day or more
  obtain ⟨r, k, hred, hr0, hr1, hsplit, hfar⟩ : ∃ r k, Time.std_reduce secs = r ∧ 0 ≤ r ∧ r < 172800 ∧
      secs = r + k * 86400 ∧ (k = 0 ∨ (86400 ≤ r ∧ 0 ≤ k)) := by
    unfold Time.std_reduce
    split
    · exact ⟨_, secs / 86400 - 1, rfl, by omega⟩
    · exact ⟨_, 0, rfl, by omega⟩
  have hnew : Delta.new r nanos = some ⟨r, nanos⟩ := by
    rw [new_iff' _ _ hn.1, if_pos]
    simp only [nsInRange, ns, NS_MAX]
    omega
  have hd : DInv ⟨r, nanos⟩ := by
    simp only [DInv, nsInRange, ns, NS_MAX]
    omega
  have hns : ns ⟨r, nanos⟩ = r * 1000000000 + nanos := rfl
  have e1 : secs * 1000000000 + nanos = ns ⟨r, nanos⟩ + k * 86400000000000 := by omega
  have e2 : -(ns ⟨r, nanos⟩ + k * 86400000000000) = -(ns ⟨r, nanos⟩) + -k * 86400000000000 := by
    omega
  unfold Time.add_std Time.sub_std Time.add Time.sub
  rw [hred, hnew]
  dsimp only
  rw [add_spec' t _ ht hd, sub_spec' t _ ht hd, rbind_ok, rbind_ok, e1, e2,
    addLeap_periodic_far t _ k ht (by omega), addLeap_periodic_far t _ (-k) ht (by omega)]
  exact ⟨rfl, rfl⟩

/-! ### constructors -/

theorem hms_nano_iff' (h m s n : Int) :
    Time.from_hms_nano_opt h m s n =
      if okFields h m s n then some (ofFields h m s n) else none := by
  unfold Time.from_hms_nano_opt ofFields
  apply ite_flip
  unfold okFields
  omega

theorem hms_iff' (h m s : Int) :
    Time.from_hms_opt h m s = if h < 24 ∧ m < 60 ∧ s < 60 then some (ofFields h m s 0) else none := by
  unfold Time.from_hms_opt
  rw [hms_nano_iff']
  apply ite_same
  unfold okFields
  omega

/-- a nanosecond count that does not fit `u32` is refused as one that fits and is too large is -/
theorem hms_opt_nano (h m s x : Int) (hx : 0 ≤ x) :
    (match optU32 x with
      | some nano => Time.from_hms_nano_opt h m s nano
      | none => none) = if okFields h m s x then some (ofFields h m s x) else none := by
  by_cases hb : x ≤ 4294967295
  · rw [optU32_some hx hb]
    exact hms_nano_iff' h m s x
  · rw [optU32_none (by omega)]
    exact (ite_neg' _ _ (by unfold okFields; omega)).symm

theorem nsfm_iff' (secs nano : Int) :
    Time.from_num_seconds_from_midnight_opt secs nano =
      if secs < 86400 ∧ (nano < 1000000000 ∨ (secs % 60 = 59 ∧ nano < 2000000000))
      then some ⟨secs, nano⟩ else none := by
  unfold Time.from_num_seconds_from_midnight_opt
  apply ite_flip
  omega

theorem fdiv60 (h m s : Int) (hs : 0 ≤ s ∧ s < 60) :
    (h * 3600 + m * 60 + s) / 60 = h * 60 + m ∧ (h * 3600 + m * 60 + s) % 60 = s := by omega
theorem fdiv60' (h m : Int) (hm : 0 ≤ m ∧ m < 60) :
    (h * 60 + m) / 60 = h ∧ (h * 60 + m) % 60 = m := by omega
theorem fdiv3600 (h m s : Int) (hm : 0 ≤ m ∧ m < 60) (hs : 0 ≤ s ∧ s < 60) :
    (h * 3600 + m * 60 + s) / 3600 = h := by omega
theorem div60_60 (x : Int) : x / 60 / 60 = x / 3600 := by omega
theorem split3600 (x : Int) : x / 3600 * 3600 + x / 60 % 60 * 60 + x % 60 = x := by omega
theorem mod3600 (x : Int) : x % 3600 = x / 60 % 60 * 60 + x % 60 := by omega

theorem hms_ofFields (h m s n : Int) (hm : 0 ≤ m ∧ m < 60) (hs : 0 ≤ s ∧ s < 60) :
    (ofFields h m s n).hms = (h, m, s) := by
  unfold Time.hms ofFields
  simp only []
  rw [(fdiv60 h m s hs).1, (fdiv60 h m s hs).2, (fdiv60' h m hm).1, (fdiv60' h m hm).2]

/-- an accepted tuple is read back unchanged, and the value satisfies the strict invariant -/
theorem ofFields_ok (h m s n : Int) (h0 : 0 ≤ h) (m0 : 0 ≤ m) (s0 : 0 ≤ s) (n0 : 0 ≤ n)
    (hok : okFields h m s n) :
    TStrict (ofFields h m s n) ∧ (ofFields h m s n).hour = h ∧ (ofFields h m s n).minute = m ∧
    (ofFields h m s n).second = s ∧ (ofFields h m s n).nanosecond = n := by
  unfold okFields at hok
  have e := hms_ofFields h m s n ⟨m0, hok.2.1⟩ ⟨s0, hok.2.2.1⟩
  refine ⟨?_, ?_, ?_, ?_, rfl⟩
  · have e2 := (fdiv60 h m s ⟨s0, hok.2.2.1⟩).2
    unfold TStrict TValid ofFields
    simp only []
    rw [e2]
    omega
  · unfold Time.hour; rw [e]
  · unfold Time.minute; rw [e]
  · unfold Time.second; rw [e]

/-! ### accessors -/

theorem hms_eq (t : Time) : t.hms = (hourOf t, minuteOf t, secondOf t) := by
  unfold Time.hms hourOf minuteOf secondOf
  simp only []
  rw [div60_60]

theorem accessors' (t : Time) (ht : TValid t) :
    t.hour = hourOf t ∧ t.minute = minuteOf t ∧ t.second = secondOf t ∧ t.nanosecond = t.frac ∧
    0 ≤ hourOf t ∧ hourOf t < 24 ∧ 0 ≤ minuteOf t ∧ minuteOf t < 60 ∧ 0 ≤ secondOf t ∧
    secondOf t < 60 ∧ hourOf t * 3600 + minuteOf t * 60 + secondOf t = t.secs ∧
    t.num_seconds_from_midnight = t.secs ∧ t.num_seconds_from_midnight_default = .ok t.secs ∧
    t.hour12 = (decide (12 ≤ hourOf t), if hourOf t % 12 = 0 then 12 else hourOf t % 12) := by
  have eh : t.hour = hourOf t := by unfold Time.hour; rw [hms_eq]
  have em : t.minute = minuteOf t := by unfold Time.minute; rw [hms_eq]
  have es : t.second = secondOf t := by unfold Time.second; rw [hms_eq]
  simp only [TValid] at ht
  have b : 0 ≤ hourOf t ∧ hourOf t < 24 ∧ 0 ≤ minuteOf t ∧ minuteOf t < 60 ∧ 0 ≤ secondOf t ∧
      secondOf t < 60 := by
    unfold hourOf minuteOf secondOf; omega
  have hsum' : hourOf t * 3600 + minuteOf t * 60 + secondOf t = t.secs := split3600 t.secs
  refine ⟨eh, em, es, rfl, b.1, b.2.1, b.2.2.1, b.2.2.2.1, b.2.2.2.2.1, b.2.2.2.2.2, hsum', rfl,
    ?_, ?_⟩
  · unfold Time.num_seconds_from_midnight_default
    rw [eh, em, es]
    simp only [bind, Res.bind]
    rw [ckU32_ok (by omega) (by omega)]
    simp only []
    rw [ckU32_ok (by omega) (by omega)]
    simp only []
    rw [ckU32_ok (by omega) (by omega)]
    simp only []
    rw [ckU32_ok (by omega) (by omega), hsum']
  · unfold Time.hour12
    rw [eh]

/-! ### single-field replacement -/

theorem with_field' (t : Time) (v : Int) (ht : TValid t) (hv : 0 ≤ v) :
    t.with_hour v =
      (if v < 24 then some (ofFields v (minuteOf t) (secondOf t) t.frac) else none) ∧
    t.with_minute v =
      (if v < 60 then some (ofFields (hourOf t) v (secondOf t) t.frac) else none) ∧
    t.with_second v =
      (if v < 60 then some (ofFields (hourOf t) (minuteOf t) v t.frac) else none) ∧
    t.with_nanosecond v =
      (if v < 2000000000 then some (ofFields (hourOf t) (minuteOf t) (secondOf t) v) else none) := by
  obtain ⟨s, f⟩ := t
  unfold Time.with_hour Time.with_minute Time.with_second Time.with_nanosecond ofFields hourOf
    minuteOf secondOf
  dsimp only
  refine ⟨?_, ?_, ?_, ?_⟩
  · rw [ite_flip _ _ (show v ≥ 24 ↔ ¬ v < 24 by omega), mod3600 s, Int.add_assoc]
  · rw [ite_flip _ _ (show v ≥ 60 ↔ ¬ v < 60 by omega)]
  · rw [ite_flip _ _ (show v ≥ 60 ↔ ¬ v < 60 by omega),
      show s / 60 * 60 = s / 3600 * 3600 + s / 60 % 60 * 60 by omega]
  · rw [ite_flip _ _ (show v ≥ 2000000000 ↔ ¬ v < 2000000000 by omega), split3600 s]

/-- replacement keeps values valid (leap representation allowed on any second) -/
theorem ofFields_valid (h m s n : Int) (hh : 0 ≤ h ∧ h < 24) (hm : 0 ≤ m ∧ m < 60)
    (hs : 0 ≤ s ∧ s < 60) (hn : 0 ≤ n ∧ n < 2000000000) :
    TValid (ofFields h m s n) ∧ hourOf (ofFields h m s n) = h ∧ minuteOf (ofFields h m s n) = m ∧
    secondOf (ofFields h m s n) = s ∧ (ofFields h m s n).frac = n := by
  unfold TValid ofFields hourOf minuteOf secondOf
  simp only []
  rw [fdiv3600 h m s hm hs, (fdiv60 h m s hs).1, (fdiv60 h m s hs).2, (fdiv60' h m hm).2]
  simp only [and_true]
  omega

/-! ### offset shifts -/

theorem offset' (t : Time) (off : Int) (ht : TValid t) (ho : -86400 < off ∧ off < 86400) :
    Time.overflowing_add_offset t off = .ok (shiftOff t off) ∧
    Time.overflowing_sub_offset t off = .ok (shiftOff t (-off)) ∧
    (shiftOff t off).1.frac = t.frac ∧ TValid (shiftOff t off).1 ∧
    (-1 ≤ (shiftOff t off).2 ∧ (shiftOff t off).2 ≤ 1) ∧
    (shiftOff t off).1.secs + (shiftOff t off).2 * 86400 = t.secs + off := by
  obtain ⟨s, f⟩ := t
  simp only [TValid] at ht
  unfold Time.overflowing_add_offset Time.overflowing_sub_offset shiftOff TValid
  simp only []
  rw [asI32_id (by omega) (by omega), ckI32_ok (by omega) (by omega), rbind_ok,
    ckI32_ok (by omega) (by omega), rbind_ok]
  refine ⟨?_, ?_, ?_, ?_, ?_, ?_⟩
  · simp only [Res.ok.injEq, Prod.mk.injEq, Time.mk.injEq, asU32, and_true]; omega
  · simp only [Res.ok.injEq, Prod.mk.injEq, Time.mk.injEq, asU32, and_true]; omega
  · trivial
  · omega
  · omega
  · omega

/-! ### the carry applied to an abstract date -/

/-- a carry of whole days, in seconds, as `try_seconds` and `num_days` read it: the exact number of
days, or refused, and then the carry is beyond any window of dates -/
theorem carry_whole_days (c : Int) (hc : c % 86400 = 0) :
    (Delta.try_seconds c = none ∧ (c < -9000000000000000 ∨ 9000000000000000 < c)) ∨
    (Delta.try_seconds c = some ⟨c, 0⟩ ∧ (⟨c, 0⟩ : Delta).num_days = c / 86400) := by
  unfold Delta.try_seconds
  rw [new_iff' c 0 (by omega)]
  by_cases hr : (0:Int) < 1000000000 ∧ nsInRange (ns ⟨c, 0⟩)
  · refine Or.inr ⟨if_pos hr, ?_⟩
    have h : SECS_PER_DAY = 86400 := rfl
    unfold Delta.num_days Delta.num_seconds
    dsimp only
    rw [if_neg (by omega), tdiv_eq, h]
    split <;> omega
  · refine Or.inl ⟨if_neg hr, ?_⟩
    simp only [nsInRange, ns, NS_MAX] at hr
    omega

/-- the `i32` guard of `NaiveDate::checked_add_signed` refuses nothing that a window within ±10⁸
days would accept -/
theorem days_guard (lo hi day days : Int) (x : Time)
    (hw : -100000000 ≤ lo ∧ hi ≤ 100000000 ∧ lo ≤ day ∧ day ≤ hi) :
    (if days < I32_MIN ∨ days > I32_MAX then Res.ok none
     else match TimeCarry.add_days lo hi day days with
       | none => .ok none
       | some d => .ok (some (d, x))) =
    .ok (if lo ≤ day + days ∧ day + days ≤ hi then some (day + days, x) else none) := by
  have h1 : I32_MIN = -2147483648 := rfl
  have h2 : I32_MAX = 2147483647 := rfl
  by_cases hg : days < I32_MIN ∨ days > I32_MAX
  · rw [if_pos hg, if_neg (by omega)]
  · rw [if_neg hg]
    unfold TimeCarry.add_days
    by_cases hwin : lo ≤ day + days ∧ day + days ≤ hi
    · rw [if_pos hwin, if_pos hwin]
    · rw [if_neg hwin, if_neg hwin]

/-! ### derived order -/

/-- two points `(s, f)`, fractions below two seconds, on the line that holds the leap second of
either (the other point's leap second lies before a point iff it follows an earlier second): the
point on the earlier second lies earlier, since its fraction reaches a second only if it is a leap
second, and then the later point is pushed back by that second.  `s` is a second of the day in
`linePos`, of the time line in `dtLinePos`. -/
theorem line_lt (s1 f1 s2 f2 : Int) (h1 : f1 < 2000000000) (h2 : 0 ≤ f2) (h : s1 < s2) :
    s1 * 1000000000 + f1 + (if f2 ≥ 1000000000 ∧ s2 < s1 then 1000000000 else 0) <
    s2 * 1000000000 + f2 + (if f1 ≥ 1000000000 ∧ s1 < s2 then 1000000000 else 0) := by
  rw [if_neg (by omega)]
  split <;> omega

end Chrono.Proofs
