/-
  Helper lemmas for C11: every string of the specification relation ends in a digit, a letter
  or a closing parenthesis (the end of its zone or of its last comment) — never in white space.
-/
import Chrono.Proofs.Rfc2822ScanL
namespace Chrono.Proofs.Rfc2822
open Chrono Chrono.M Chrono.Spec Chrono.Spec.Rfc2822

/-- a byte a string of the relation can end with -/
def EndByte (b : Nat) : Prop := (48 ≤ b ∧ b ≤ 57) ∨ isAlpha b ∨ b = 41
instance (b : Nat) : Decidable (EndByte b) := by unfold EndByte; exact inferInstance

theorem getLast_append_some {b : Nat} (l₁ l₂ : List Nat) (h : l₂.getLast? = some b) :
    (l₁ ++ l₂).getLast? = some b := by
  rw [List.getLast?_append, h]; rfl

theorem getLast_cons_some {b : Nat} (a : Nat) (l : List Nat) (h : l.getLast? = some b) :
    (a :: l).getLast? = some b := getLast_append_some [a] l h

theorem comments_last {cc : List Nat} (h : Comments cc) : cc = [] ∨ cc.getLast? = some 41 := by
  induction h with
  | nil => exact Or.inl rfl
  | cons w a r _ _ _ ih =>
    right
    apply getLast_append_some
    apply getLast_cons_some
    apply getLast_append_some
    rcases ih with rfl | ih
    · rfl
    · exact getLast_cons_some 41 r ih

theorem zone_last {zz : List Nat} {off : Int} (h : Zone zz off) :
    ∃ b, zz.getLast? = some b ∧ ((48 ≤ b ∧ b ≤ 57) ∨ isAlpha b) := by
  cases h with
  | num neg h1 h2 m1 m2 _ _ _ hm2 => exact ⟨m2, rfl, Or.inl hm2⟩
  | name _ nm hours hmem hcase =>
    obtain ⟨_, hne, hl⟩ := zone_table_secs (nm, hours) hmem
    have hal := caseOf_alpha hl hcase
    cases hlast : zz.getLast? with
    | none =>
      exfalso
      rw [List.getLast?_eq_none_iff] at hlast
      subst hlast
      unfold CaseOf at hcase
      simp at hcase
      exact hne hcase
    | some b => exact ⟨b, rfl, Or.inr (hal b (List.mem_of_getLast? hlast))⟩
  | military c ha _ => exact ⟨c, rfl, Or.inr ha⟩

theorem rfc2822_last {s : List Nat} {f : Fields} (h : Rfc2822 s f) : ∃ b, s.getLast? = some b ∧ EndByte b := by
  obtain ⟨w0, dn, w1, dd, w2, mn, w3, yy, w4, hh, w5, w6, mm, ss, w7, zz, cc,
    _, _, _, _, _, _, _, _, _, _, _, _, _, _, _, _, _, _, _, _, _, _, _, hz, hc, rfl⟩ := h
  obtain ⟨b, hb, hbk⟩ := zone_last hz
  have key : ∃ b, (zz ++ cc).getLast? = some b ∧ EndByte b := by
    rcases comments_last hc with rfl | hl
    · exact ⟨b, by rw [List.append_nil]; exact hb, by unfold EndByte; rcases hbk with h | h <;> simp [h]⟩
    · exact ⟨41, getLast_append_some _ _ hl, Or.inr (Or.inr rfl)⟩
  obtain ⟨b', hb', he⟩ := key
  refine ⟨b', ?_, he⟩
  generalize zz ++ cc = tl at hb' ⊢
  repeat (first | apply getLast_append_some | apply getLast_cons_some)
  exact hb'

theorem ws_last_not_end : ∀ w ∈ WS, ∃ b, w.getLast? = some b ∧ ¬ EndByte b := by decide

end Chrono.Proofs.Rfc2822
