/- Helper lemmas for C03: day arithmetic on the packed date (proofs for Props/C03.lean). -/
import Chrono.Spec.ArithSpec
import Chrono.Proofs.DateL
import Chrono.Proofs.DeltaL

namespace Chrono.Proofs
open Chrono Chrono.M Chrono.Spec Chrono.Extracted

/-! ### the invariant in terms of `dateOfYo` -/

theorem inv_eq (d : Date) (h : DateInv d) :
    d = dateOfYo d.year d.ordinal.toNat ∧ 1 ≤ d.ordinal.toNat ∧ d.ordinal.toNat ≤ yearLen d.year ∧
    (d.ordinal.toNat : Int) = d.ordinal := by
  obtain ⟨_, _, h3, h4, h5⟩ := h
  have hyl := yearLen_ge d.year
  refine ⟨?_, by omega, by omega, by omega⟩
  apply date_eq_of_yof
  unfold dateOfYo
  dsimp only
  unfold Date.year Date.ordinal at *
  omega

theorem inv_of_yo (y : Int) (o : Nat) (hy : MIN_YEAR ≤ y ∧ y ≤ MAX_YEAR) (ho : 1 ≤ o ∧ o ≤ yearLen y) :
    DateInv (dateOfYo y o) ∧ dayNumOf (dateOfYo y o) = dayNumYo y o := by
  have hyl := yearLen_ge y
  obtain ⟨h1, h2, _, h4, _, _⟩ := dateOfYo_fields y o (by omega)
  unfold DateInv dayNumOf
  rw [h1, h2]
  refine ⟨⟨hy.1, hy.2, by omega, by omega, h4⟩, rfl⟩

theorem dn_consts : DN_MIN = -95746129 ∧ DN_MAX = 95745399 ∧ dayNumYo MIN_YEAR 1 = -95746129 ∧
    dayNumYo MAX_YEAR 365 = 95745399 ∧ daysBeforeYear MIN_YEAR = -95746130 ∧
    daysBeforeYear (MAX_YEAR + 1) = 95745399 := by decide

/-- every valid date in (year, ordinal) form, with its day number -/
theorem inv_yo (d : Date) (h : DateInv d) :
    ∃ y o, d = dateOfYo y o ∧ (MIN_YEAR ≤ y ∧ y ≤ MAX_YEAR) ∧ (1 ≤ o ∧ o ≤ yearLen y) ∧
      dayNumOf d = dayNumYo y o := by
  obtain ⟨he, ho1, ho2, hoc⟩ := inv_eq d h
  exact ⟨d.year, d.ordinal.toNat, he, ⟨h.1, h.2.1⟩, ⟨ho1, ho2⟩, by unfold dayNumOf; rw [hoc]⟩

/-- a result described in (year, ordinal) form is a valid date with that day number -/
theorem inv_of_yo_ex {d : Date} {n : Int}
    (h : ∃ y o, d = dateOfYo y o ∧ MIN_YEAR ≤ y ∧ y ≤ MAX_YEAR ∧ 1 ≤ o ∧ o ≤ yearLen y ∧ dayNumYo y o = n) :
    DateInv d ∧ dayNumOf d = n := by
  obtain ⟨y, o, e, b1, b2, b3, b4, b5⟩ := h
  obtain ⟨i1, i2⟩ := inv_of_yo y o ⟨b1, b2⟩ ⟨b3, b4⟩
  rw [e, i2]
  exact ⟨i1, b5⟩

/-- `range_iff_iso` with the two ends as numerals -/
theorem year_range_iff (y : Int) (o : Nat) (ho : 1 ≤ o ∧ o ≤ yearLen y) :
    (MIN_YEAR ≤ y ∧ y ≤ MAX_YEAR) ↔ (-95746129 ≤ dayNumYo y o ∧ dayNumYo y o ≤ 95745399) := by
  have h := range_iff_iso y o ho
  rw [dn_consts.2.2.1, dn_consts.2.2.2.1] at h
  exact h

/-- year length and day numbers of a year whose place in the 400-year cycle is `ym`, through the leap
counts of the cycle (what `YEAR_DELTAS` tabulates) -/
theorem cycle_year (y : Int) (ym : Nat) (h : y % 400 = ym) :
    yearLen y = 365 + (leapsBefore (ym + 1) - leapsBefore ym) ∧
    ∀ o : Nat, 1 ≤ o →
      dayNumYo y o = 146097 * (y / 400) + (ym * 365 + leapsBefore ym + o - 1 : Nat) - 365 := by
  obtain ⟨_, hle, hlf⟩ := leaps_fin ym (by omega)
  constructor
  · rw [← yearLen_mod400, h, hlf]
    unfold yearLen; split <;> rfl
  · intro o ho
    unfold dayNumYo
    rw [dby_mod400, h, dby_small ym (by omega)]
    omega

/-- the 400-year-cycle reconstruction shared by `add_days` and `from_num_days_from_ce_opt`:
cycle `Q`, day `c` of the cycle ↦ the date with day number `146097·Q + c − 365` -/
theorem cycle_path (Q : Int) (c ym ord : Nat) (hc : c < 146097) (hp : Date.cycle_to_yo c = (ym, ord)) :
    Date.from_ordinal_and_flags (Q * 400 + ym) ord (YearFlags.from_year_mod_400 ym) =
      .ok (if MIN_YEAR ≤ Q * 400 + ym ∧ Q * 400 + ym ≤ MAX_YEAR
           then some (dateOfYo (Q * 400 + ym) ord) else none) ∧
    ym < 400 ∧ 1 ≤ ord ∧ ord ≤ yearLen (Q * 400 + ym) ∧
    dayNumYo (Q * 400 + ym) ord = 146097 * Q + c - 365 := by
  obtain ⟨s1, s2, s3, s4⟩ := cycle_to_yo_spec c hc
  rw [hp] at s1 s2 s3 s4
  dsimp only at s1 s2 s3 s4
  have hymod : (Q * 400 + (ym : Int)) % 400 = ym := by omega
  have hflags : YearFlags.from_year_mod_400 (ym : Int) = flagsOf (Q * 400 + ym) := by
    have := from_year_spec (Q * 400 + ym)
    unfold YearFlags.from_year at this
    rw [hymod] at this
    exact this
  obtain ⟨hyl, hdn⟩ := cycle_year _ ym hymod
  have hord : ord ≤ yearLen (Q * 400 + (ym : Int)) := by rw [hyl]; exact s3
  refine ⟨?_, s1, s2, hord, by rw [hdn ord s2, s4, show (Q * 400 + (ym : Int)) / 400 = Q by omega]⟩
  rw [hflags, from_oaf_spec]
  congr 1
  apply ite_same
  constructor
  · intro h; exact ⟨h.1, h.2.1⟩
  · intro h; exact ⟨h.1, h.2, s2, hord⟩

/-- the fast-path test of `add_days` -/
def fastOrd (o : Int) (leap : Bool) (n : Int) : Option Int :=
  match optI32 (o + n) with
  | some o' => if o' > 0 ∧ o' ≤ 365 + (if leap then 1 else 0) then some o' else none
  | none => none

theorem fastOrd_spec (y : Int) (o n : Int) (ho : 1 ≤ o ∧ o ≤ 366)
    (hn : -2147483648 ≤ n ∧ n ≤ 2147483647) :
    fastOrd o (isLeap y) n = if 1 ≤ o + n ∧ o + n ≤ yearLen y then some (o + n) else none := by
  unfold fastOrd
  have hyl : (yearLen y : Int) = 365 + (if isLeap y then 1 else 0) := by
    unfold yearLen; cases isLeap y <;> simp
  by_cases hov : o + n ≤ 2147483647
  · rw [optI32_some (by omega) hov]
    dsimp only
    apply ite_same
    rw [hyl]
    cases isLeap y <;> simp <;> omega
  · rw [optI32_none (by omega)]
    dsimp only
    have hl := yearLen_ge y
    rw [ite_neg' _ _ (by omega)]

/-- the full (400-year cycle) path of `add_days`, verbatim -/
def cyclePath (d : Date) (days : Int) : Res (Option Date) :=
  let year := d.year
  let year_div_400 := year / 400
  let year_mod_400 := year % 400
  let cycle : Int := Date.yo_to_cycle year_mod_400.toNat d.ordinal.toNat
  match optI32 (cycle + days) with
  | none => .ok none
  | some cycle =>
    let cycle_div := cycle / 146097
    let cycle := cycle % 146097
    match ckI32 (year_div_400 + cycle_div) with
    | .panic => .panic
    | .ok yd =>
      let (ym, ordinal) := Date.cycle_to_yo cycle.toNat
      let flags := YearFlags.from_year_mod_400 ym
      match ckI32 (yd * 400) with
      | .panic => .panic
      | .ok y4 => match ckI32 (y4 + ym) with
        | .panic => .panic
        | .ok y => Date.from_ordinal_and_flags y ordinal flags

theorem add_days_eq (d : Date) (days : Int) : Date.add_days d days =
    match fastOrd d.ordinal d.leap_year days with
    | some o => (match Date.from_yof (d.yof - d.ordinal * 16 + o * 16) with
      | .ok r => .ok (some r) | .panic => .panic)
    | none => cyclePath d days := rfl

/-- the day number through the position in the 400-year cycle (`yo_to_cycle`), as `add_days` and
`signed_duration_since` compute it -/
theorem cycle_pos (y : Int) (o : Nat) (ho : 1 ≤ o ∧ o ≤ yearLen y) :
    dayNumYo y o = 146097 * (y / 400) + (Date.yo_to_cycle (y % 400).toNat o : Nat) - 365 ∧
    0 ≤ ((Date.yo_to_cycle (y % 400).toNat o : Nat) : Int) ∧
    ((Date.yo_to_cycle (y % 400).toNat o : Nat) : Int) < 146097 := by
  have hm0 : 0 ≤ y % 400 := Int.emod_nonneg _ (by decide)
  have hm1 : y % 400 < 400 := Int.emod_lt_of_pos _ (by decide)
  obtain ⟨ym, hym⟩ := Int.eq_ofNat_of_zero_le hm0
  obtain ⟨hyl, hdn⟩ := cycle_year y ym hym
  rw [hym, Int.toNat_natCast]
  unfold Date.yo_to_cycle
  rw [table_yd.2 ym (by omega)]
  have hle := (leaps_fin ym (by omega)).2.1
  have hle' : leapsBefore (ym + 1) ≤ 97 := by
    by_cases h : ym + 1 < 401
    · exact (leaps_fin (ym + 1) h).2.1
    · omega
  exact ⟨hdn o ho.1, by omega, by omega⟩

/-- the cycle path on the `o`-th day of year `y`, for every `i32` count -/
theorem cyclePath_spec (y : Int) (o : Nat) (n : Int) (hy : MIN_YEAR ≤ y ∧ y ≤ MAX_YEAR)
    (ho : 1 ≤ o ∧ o ≤ yearLen y) (hn : -2147483648 ≤ n ∧ n ≤ 2147483647) :
    ∃ r, cyclePath (dateOfYo y o) n = .ok r ∧
      (∀ d, r = some d → ∃ y' o', d = dateOfYo y' o' ∧ MIN_YEAR ≤ y' ∧ y' ≤ MAX_YEAR ∧ 1 ≤ o' ∧
        o' ≤ yearLen y' ∧ dayNumYo y' o' = dayNumYo y o + n) ∧
      (r = none ↔ (dayNumYo y o + n < -95746129 ∨ dayNumYo y o + n > 95745399)) := by
  have hyl := yearLen_ge y
  have hMIN : MIN_YEAR = -262143 := rfl
  have hMAX : MAX_YEAR = 262142 := rfl
  have hyear := (dateOfYo_fields y o (by omega)).1
  have hord := (dateOfYo_fields y o (by omega)).2.1
  obtain ⟨hdn0, hcb⟩ := cycle_pos y o ho
  unfold cyclePath
  rw [hyear, hord]
  dsimp only
  rw [Int.toNat_natCast]
  generalize ((Date.yo_to_cycle (y % 400).toNat o : Nat) : Int) = C at *
  clear hyear hord hyl ho
  by_cases hov : C + n ≤ 2147483647
  · rw [optI32_some (by omega) hov]
    dsimp only
    generalize hq : (C + n) / 146097 = q
    generalize hc : (C + n) % 146097 = c
    have hc0 : 0 ≤ c := by rw [← hc]; exact Int.emod_nonneg _ (by decide)
    have hc1 : c < 146097 := by rw [← hc]; exact Int.emod_lt_of_pos _ (by decide)
    have hdecomp : C + n = 146097 * q + c := by rw [← hq, ← hc]; omega
    clear hq hc
    obtain ⟨k, hk⟩ := Int.eq_ofNat_of_zero_le hc0
    subst hk
    rw [Int.toNat_natCast]
    have hqb : -14700 ≤ q ∧ q ≤ 14700 := by omega
    have hQ : -656 ≤ y / 400 ∧ y / 400 ≤ 655 := by omega
    rw [ckI32_ok (by omega) (by omega)]
    dsimp only
    rcases hp : Date.cycle_to_yo k with ⟨ym', ord'⟩
    obtain ⟨p1, s1, p2, p3, p4⟩ := cycle_path (y / 400 + q) k ym' ord' (by omega) hp
    dsimp only
    rw [ckI32_ok (by omega) (by omega)]
    dsimp only
    rw [ckI32_ok (by omega) (by omega)]
    dsimp only
    rw [p1]
    have hdn : dayNumYo ((y / 400 + q) * 400 + ↑ym') ↑ord' = dayNumYo y o + n := by omega
    have hr := year_range_iff ((y / 400 + q) * 400 + ↑ym') ord' ⟨by omega, by omega⟩
    rw [hdn] at hr
    by_cases hcond : MIN_YEAR ≤ (y / 400 + q) * 400 + ↑ym' ∧ (y / 400 + q) * 400 + ↑ym' ≤ MAX_YEAR
    · rw [if_pos hcond]
      have := hr.mp hcond
      exact ⟨_, rfl, fun d hd => ⟨_, _, (Option.some.inj hd).symm, hcond.1, hcond.2, p2, p3, hdn⟩,
        fun h => (nomatch h), fun h => by omega⟩
    · rw [if_neg hcond]
      have := mt hr.mpr hcond
      exact ⟨none, rfl, fun d hd => (nomatch hd), fun _ => by omega, fun _ => rfl⟩
  · rw [optI32_none (by omega)]
    exact ⟨none, rfl, nofun, fun _ => by omega, fun _ => rfl⟩

/-- `add_days` on the `o`-th day of year `y`, for every `i32` count: both paths -/
theorem add_days_yo (y : Int) (o : Nat) (n : Int) (hy : MIN_YEAR ≤ y ∧ y ≤ MAX_YEAR)
    (ho : 1 ≤ o ∧ o ≤ yearLen y) (hn : -2147483648 ≤ n ∧ n ≤ 2147483647) :
    ∃ r, Date.add_days (dateOfYo y o) n = .ok r ∧
      (∀ d, r = some d → ∃ y' o', d = dateOfYo y' o' ∧ MIN_YEAR ≤ y' ∧ y' ≤ MAX_YEAR ∧ 1 ≤ o' ∧
        o' ≤ yearLen y' ∧ dayNumYo y' o' = dayNumYo y o + n) ∧
      (r = none ↔ (dayNumYo y o + n < -95746129 ∨ dayNumYo y o + n > 95745399)) := by
  have hyl := yearLen_ge y
  obtain ⟨_, hord, _, _, _, hleap⟩ := dateOfYo_fields y o (by omega)
  rw [add_days_eq, hord, hleap, fastOrd_spec y o n (by omega) hn]
  by_cases hfast : 1 ≤ (o : Int) + n ∧ (o : Int) + n ≤ yearLen y
  · rw [if_pos hfast]
    dsimp only
    obtain ⟨o2, ho2⟩ := Int.eq_ofNat_of_zero_le (show 0 ≤ (o : Int) + n by omega)
    -- replacing the ordinal field gives the packed word of day `o + n` of the same year
    have hw : (dateOfYo y o).yof - (o : Int) * 16 + ((o : Int) + n) * 16 = (dateOfYo y o2).yof := by
      unfold dateOfYo; dsimp only; omega
    rw [hw, from_yof_word y o2 ⟨by omega, by omega⟩]
    dsimp only
    have hr := (year_range_iff y o2 ⟨by omega, by omega⟩).mp hy
    have hdn : dayNumYo y o2 = dayNumYo y o + n := by unfold dayNumYo; omega
    exact ⟨_, rfl, fun d hd => ⟨y, o2, (Option.some.inj hd).symm, hy.1, hy.2, by omega, by omega, hdn⟩,
      nofun, fun h => by omega⟩
  · rw [if_neg hfast]
    exact cyclePath_spec y o n hy ho hn

/-- `add_days` for every valid date and every `i32` count -/
theorem add_days_spec (d : Date) (n : Int) (hd : DateInv d) (hn : -2147483648 ≤ n ∧ n ≤ 2147483647) :
    ∃ r, Date.add_days d n = .ok r ∧ IsDayShift d n r := by
  obtain ⟨y, o, rfl, hy, ho, hdn⟩ := inv_yo d hd
  obtain ⟨r, h1, h2, h3⟩ := add_days_yo y o n hy ho hn
  obtain ⟨c1, c2, _⟩ := dn_consts
  rw [← hdn] at h2 h3
  exact ⟨r, h1, by rw [c1, c2]; exact h3, fun d' hd' => inv_of_yo_ex (h2 d' hd')⟩

/-- every valid date has its day number in `[DN_MIN, DN_MAX]` -/
theorem dn_bounds (d : Date) (hd : DateInv d) : -95746129 ≤ dayNumOf d ∧ dayNumOf d ≤ 95745399 := by
  obtain ⟨y, o, _, hy, ho, hdn⟩ := inv_yo d hd
  rw [hdn]
  exact (year_range_iff y o ho).mp hy

theorem dn_range (d : Date) (hd : DateInv d) : DN_MIN ≤ dayNumOf d ∧ dayNumOf d ≤ DN_MAX := by
  obtain ⟨c1, c2, _⟩ := dn_consts
  rw [c1, c2]
  exact dn_bounds d hd

/-- a shift that is certainly out of range is correctly refused -/
theorem shift_none (d : Date) (k : Int) (hd : DateInv d) (hk : k < -191491528 ∨ 191491528 < k) :
    IsDayShift d k none := by
  obtain ⟨c1, c2, _⟩ := dn_consts
  have hb := dn_bounds d hd
  rw [IsDayShift, c1, c2]
  exact ⟨⟨fun _ => by omega, fun _ => rfl⟩, nofun⟩

/-- `add_days` behind the guard of the signed entry points: a count outside `i32` is more than the
whole range of dates, so refusing it is exact -/
theorem add_days_guarded (d : Date) (k : Int) (hd : DateInv d) :
    ∃ r, (if k < I32_MIN ∨ k > I32_MAX then .ok none else Date.add_days d (asI32 k)) = .ok r ∧
      IsDayShift d k r := by
  have hI : I32_MAX = 2147483647 := rfl
  have hJ : I32_MIN = -2147483648 := rfl
  by_cases h : k < I32_MIN ∨ k > I32_MAX
  · rw [if_pos h]
    exact ⟨none, rfl, shift_none d k hd (by omega)⟩
  · rw [if_neg h, asI32_id (by omega) (by omega)]
    exact add_days_spec d k hd (by omega)

theorem checked_add_days_spec (d : Date) (c : Int) (hd : DateInv d) (hc : 0 ≤ c ∧ c ≤ 18446744073709551615) :
    ∃ r, Date.checked_add_days d c = .ok r ∧ IsDayShift d c r := by
  unfold Date.checked_add_days
  rw [ite_flip (d := c < I32_MIN ∨ c > I32_MAX) _ _ (by unfold I32_MIN I32_MAX; omega)]
  exact add_days_guarded d c hd

theorem checked_sub_days_spec (d : Date) (c : Int) (hd : DateInv d) (hc : 0 ≤ c ∧ c ≤ 18446744073709551615) :
    ∃ r, Date.checked_sub_days d c = .ok r ∧ IsDayShift d (-c) r := by
  unfold Date.checked_sub_days
  have hI : I32_MAX = 2147483647 := rfl
  by_cases h : c ≤ I32_MAX
  · rw [if_pos h, asI32_id (by omega) (by omega), ckI32_ok (by omega) (by omega)]
    exact add_days_spec d (-c) hd (by omega)
  · rw [if_neg h]
    exact ⟨none, rfl, shift_none d (-c) hd (by omega)⟩

/-- whole days of a duration: bounded by the `TimeDelta` range -/
theorem num_days_bound (δ : Delta) (hδ : DInv δ) :
    δ.num_days = wholeDays (ns δ) ∧ -106751991168 ≤ δ.num_days ∧ δ.num_days ≤ 106751991168 := by
  have h := (accessors_spec' δ hδ).2.2.2.2.2.2.2.1
  have hr := hδ.2.2
  simp only [nsInRange, NS_MAX] at hr
  refine ⟨h, ?_, ?_⟩ <;> (rw [h, tdiv_eq]; split <;> omega)

theorem date_add_signed_spec (d : Date) (δ : Delta) (hd : DateInv d) (hδ : DInv δ) :
    ∃ r, Date.checked_add_signed d δ = .ok r ∧ IsDayShift d (wholeDays (ns δ)) r := by
  rw [← (num_days_bound δ hδ).1]
  exact add_days_guarded d _ hd

theorem date_sub_signed_spec (d : Date) (δ : Delta) (hd : DateInv d) (hδ : DInv δ) :
    ∃ r, Date.checked_sub_signed d δ = .ok r ∧ IsDayShift d (-(wholeDays (ns δ))) r := by
  obtain ⟨h1, h2, h3⟩ := num_days_bound δ hδ
  unfold Date.checked_sub_signed
  rw [← h1, ckI64_ok (by omega) (by omega)]
  exact add_days_guarded d _ hd

/-- day number through the 400-year cycle position used by `signed_duration_since` -/
theorem dn_cycle (d : Date) (hd : DateInv d) :
    dayNumOf d = 146097 * (d.year / 400) + (Date.yo_to_cycle (d.year % 400).toNat d.ordinal.toNat : Nat) - 365 := by
  obtain ⟨_, ho1, ho2, hoc⟩ := inv_eq d hd
  unfold dayNumOf
  rw [← hoc]
  exact (cycle_pos d.year d.ordinal.toNat ⟨ho1, ho2⟩).1

theorem date_diff_spec (a b : Date) (ha : DateInv a) (hb : DateInv b) :
    Date.signed_duration_since a b = .ok (ofNs ((dayNumOf a - dayNumOf b) * NS_PER_DAY)) ∧
    DInv (ofNs ((dayNumOf a - dayNumOf b) * NS_PER_DAY)) ∧
    ns (ofNs ((dayNumOf a - dayNumOf b) * NS_PER_DAY)) = (dayNumOf a - dayNumOf b) * NS_PER_DAY := by
  have ba := dn_bounds a ha
  have bb := dn_bounds b hb
  have ca := dn_cycle a ha
  have cb := dn_cycle b hb
  have hN : NS_PER_DAY = 86400000000000 := rfl
  have hr : nsInRange ((dayNumOf a - dayNumOf b) * 86400 * 1000000000) := by
    simp only [nsInRange, NS_MAX]; omega
  have e : (dayNumOf a - dayNumOf b) * NS_PER_DAY = (dayNumOf a - dayNumOf b) * 86400 * 1000000000 := by
    rw [hN]; omega
  rw [e]
  refine ⟨?_, ofNs_spec' _ hr⟩
  unfold Date.signed_duration_since
  dsimp only
  have hdays : (a.year / 400 - b.year / 400) * 146097 +
      (((Date.yo_to_cycle (a.year % 400).toNat a.ordinal.toNat : Nat) : Int) -
        ((Date.yo_to_cycle (b.year % 400).toNat b.ordinal.toNat : Nat) : Int)) = dayNumOf a - dayNumOf b := by
    omega
  rw [hdays, ckI64_ok (by omega) (by omega)]
  dsimp only
  unfold Delta.try_days
  rw [try_unit_exact' SECS_PER_DAY _ (by right; right; right; left; rfl) (by omega)]
  have hS : SECS_PER_DAY = 86400 := rfl
  rw [hS, if_pos hr]

end Chrono.Proofs
