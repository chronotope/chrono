/-
  Helper lemmas for C04 (Props/C04.lean): one step (−1, 0, +1 day) of a packed date on the calendar
  extended by one year at each end, the offset shift of a naive date-time in terms of day numbers,
  uniqueness of a reading, the range filter.
-/
import Chrono.Proofs.DateL
import Chrono.Proofs.TimeL
import Chrono.Spec.ZonedSpec

namespace Chrono.Proofs
open Chrono Chrono.M Chrono.Spec Chrono.Extracted

/-- the two headroom dates are the calendar's own: right year, ordinal, leap flag and weekday flags -/
theorem headroom_consts :
    Date.BEFORE_MIN = dateOfYo (MIN_YEAR - 1) 366 ∧ Date.AFTER_MAX = dateOfYo (MAX_YEAR + 1) 1 ∧
    yearLen (MIN_YEAR - 1) = 366 ∧ Date.MIN = dateOfYo MIN_YEAR 1 ∧ Date.MAX = dateOfYo MAX_YEAR 365 ∧
    yearLen MAX_YEAR = 365 ∧ MIN_YEAR = -262143 ∧ MAX_YEAR = 262142 ∧
    dayNumYo MIN_YEAR 1 = -95746129 ∧ dayNumYo MAX_YEAR 365 = 95745399 := by decide

/-! ### valid (year, ordinal) pairs of the extended calendar -/

/-- `(y, o)` names a day of the extended calendar -/
def VYO (y : Int) (o : Nat) : Prop := MIN_YEAR - 1 ≤ y ∧ y ≤ MAX_YEAR + 1 ∧ 1 ≤ o ∧ o ≤ yearLen y

theorem ext_eq (d : Date) (h : ExtDateInv d) : d = dateOfYo d.year d.ordinal.toNat ∧ VYO d.year d.ordinal.toNat := by
  obtain ⟨h1, h2, h3, h4, h5⟩ := h
  have hyl := yearLen_ge d.year
  refine ⟨?_, h1, h2, by omega, by omega⟩
  apply date_eq_of_yof
  unfold dateOfYo
  dsimp only
  unfold Date.year Date.ordinal at *
  rw [← h5]
  have : ((d.yof / 16 % 512).toNat : Int) = d.yof / 16 % 512 := Int.toNat_of_nonneg (by omega)
  rw [this]
  omega

theorem ext_of_vyo (y : Int) (o : Nat) (h : VYO y o) : ExtDateInv (dateOfYo y o) := by
  obtain ⟨h1, h2, h3, h4⟩ := h
  have hyl := yearLen_ge y
  obtain ⟨f1, f2, _, f4, _, _⟩ := dateOfYo_fields y o (by omega)
  unfold ExtDateInv
  rw [f1, f2]
  exact ⟨h1, h2, by omega, by omega, f4⟩

theorem dayNumOf_yo (y : Int) (o : Nat) (ho : o < 512) : dayNumOf (dateOfYo y o) = dayNumYo y o := by
  obtain ⟨f1, f2, _⟩ := dateOfYo_fields y o ho
  unfold dayNumOf; rw [f1, f2]

/-- day numbers are ordered as (year, ordinal) pairs -/
theorem dayNumYo_lex (y1 y0 : Int) (o1 o0 : Nat) (ho1 : 1 ≤ o1 ∧ o1 ≤ yearLen y1)
    (ho0 : 1 ≤ o0 ∧ o0 ≤ yearLen y0) :
    (dayNumYo y1 o1 < dayNumYo y0 o0 ↔ (y1 < y0 ∨ (y1 = y0 ∧ o1 < o0))) ∧
    (dayNumYo y1 o1 = dayNumYo y0 o0 ↔ (y1 = y0 ∧ o1 = o0)) := by
  refine ⟨⟨fun h => ?_, fun h => (order_lt y1 y0 o1 o0 ho1 ho0 h).2⟩,
    yo_unique y1 y0 o1 o0 ho1 ho0, fun h => by rw [h.1, h.2]⟩
  rcases yo_le y1 y0 o1 o0 ho1 ho0 (Int.le_of_lt h) with h' | ⟨rfl, h'⟩
  · exact Or.inl h'
  · exact Or.inr ⟨rfl, Nat.lt_of_le_of_ne h' fun e => Int.lt_irrefl _ (e ▸ h)⟩

/-- in-range day numbers are exactly the days of in-range years -/
theorem range_iff (y : Int) (o : Nat) (ho : 1 ≤ o ∧ o ≤ yearLen y) :
    (DAY_MIN ≤ dayNumYo y o ∧ dayNumYo y o ≤ DAY_MAX) ↔ (MIN_YEAR ≤ y ∧ y ≤ MAX_YEAR) :=
  (range_iff_iso y o ho).symm

/-- one date per day number -/
theorem date_of_daynum_unique (y1 y2 : Int) (o1 o2 : Nat) (h1 : 1 ≤ o1 ∧ o1 ≤ yearLen y1)
    (h2 : 1 ≤ o2 ∧ o2 ≤ yearLen y2) (h : dayNumYo y1 o1 = dayNumYo y2 o2) : dateOfYo y1 o1 = dateOfYo y2 o2 :=
  date_eq_of_yof _ _ ((order_spec y1 y2 o1 o2 h1 h2).2.mpr h)

/-! ### one step of the date by a day carry -/

/-- the `match days { -1 => pred_opt, 1 => succ_opt, _ => self }` of the offset functions -/
def stepRes (d : Date) (c : Int) : Res (Option Date) :=
  if c = -1 then d.pred_opt else if c = 1 then d.succ_opt else .ok (some d)

/-- one step of a date of the extended calendar by a day carry `c ∈ {−1, 0, 1}`: the target day
`(y', o')` is `c` days away, in the same year or at the adjoining end of a neighbouring year, and
`pred_opt` / `succ_opt` return it unless they had to construct it in a year outside the range -/
theorem step_ext (y : Int) (o : Nat) (c : Int) (h : VYO y o) (hc : c = -1 ∨ c = 0 ∨ c = 1) :
    ∃ (y' : Int) (o' : Nat), (1 ≤ o' ∧ o' ≤ yearLen y') ∧ (y - 1 ≤ y' ∧ y' ≤ y + 1) ∧
      (y' < y → c = -1 ∧ o' = yearLen y') ∧ (y < y' → c = 1 ∧ o' = 1) ∧
      dayNumYo y' o' = dayNumYo y o + c ∧
      stepRes (dateOfYo y o) c =
        .ok (if y' = y ∨ (MIN_YEAR ≤ y' ∧ y' ≤ MAX_YEAR) then some (dateOfYo y' o') else none) := by
  obtain ⟨h1, h2, h3, h4⟩ := h
  have hi : -2147483648 ≤ y - 1 ∧ y + 1 ≤ 2147483647 := by
    rw [show MIN_YEAR = -262143 from rfl] at h1; rw [show MAX_YEAR = 262142 from rfl] at h2; omega
  have same : ∀ o1 : Nat, 1 ≤ o1 → o1 ≤ yearLen y → (o1 : Int) = o + c →
      stepRes (dateOfYo y o) c = .ok (some (dateOfYo y o1)) →
      ∃ (y' : Int) (o' : Nat), (1 ≤ o' ∧ o' ≤ yearLen y') ∧ (y - 1 ≤ y' ∧ y' ≤ y + 1) ∧
        (y' < y → c = -1 ∧ o' = yearLen y') ∧ (y < y' → c = 1 ∧ o' = 1) ∧
        dayNumYo y' o' = dayNumYo y o + c ∧
        stepRes (dateOfYo y o) c =
          .ok (if y' = y ∨ (MIN_YEAR ≤ y' ∧ y' ≤ MAX_YEAR) then some (dateOfYo y' o') else none) :=
    fun o1 a b e s => ⟨y, o1, ⟨a, b⟩, ⟨by omega, by omega⟩, fun h => absurd h (Int.lt_irrefl _),
      fun h => absurd h (Int.lt_irrefl _), by unfold dayNumYo; omega, by rw [s, if_pos (Or.inl rfl)]⟩
  rcases hc with hc | hc | hc <;> subst hc
  · have hp : stepRes (dateOfYo y o) (-1) = _ := (if_pos rfl).trans (pred_spec y o ⟨hi.1, by omega⟩ ⟨h3, h4⟩)
    by_cases hlt : 1 < o
    · rw [if_pos hlt] at hp; exact same (o - 1) (by omega) (by omega) (by omega) hp
    · have hl := yearLen_ge (y - 1)
      have hs := dby_step (y - 1)
      rw [Int.sub_add_cancel] at hs
      have hcond : (y - 1 = y ∨ (MIN_YEAR ≤ y - 1 ∧ y - 1 ≤ MAX_YEAR)) ↔ (MIN_YEAR ≤ y - 1 ∧ y - 1 ≤ MAX_YEAR) :=
        ⟨fun h => h.elim (fun h => by omega) id, Or.inr⟩
      rw [if_neg hlt] at hp
      exact ⟨y - 1, yearLen (y - 1), ⟨by omega, Nat.le_refl _⟩, ⟨Int.le_refl _, by omega⟩,
        fun _ => ⟨rfl, rfl⟩, fun h => by omega, by unfold dayNumYo; omega, by rw [hp, if_congr hcond rfl rfl]⟩
  · exact same o h3 h4 (by omega) ((if_neg (by decide)).trans (if_neg (by decide)))
  · have hp : stepRes (dateOfYo y o) 1 = _ :=
      ((if_neg (by decide)).trans (if_pos rfl)).trans (succ_spec y o ⟨by omega, hi.2⟩ ⟨h3, h4⟩)
    by_cases hlt : o < yearLen y
    · rw [if_pos hlt] at hp; exact same (o + 1) (by omega) hlt (by omega) hp
    · have hl := yearLen_ge (y + 1)
      have hs := dby_step y
      have hcond : (y + 1 = y ∨ (MIN_YEAR ≤ y + 1 ∧ y + 1 ≤ MAX_YEAR)) ↔ (MIN_YEAR ≤ y + 1 ∧ y + 1 ≤ MAX_YEAR) :=
        ⟨fun h => h.elim (fun h => by omega) id, Or.inr⟩
      rw [if_neg hlt] at hp
      exact ⟨y + 1, 1, ⟨Nat.le_refl _, by omega⟩, ⟨by omega, Int.le_refl _⟩,
        fun h => by omega, fun _ => ⟨rfl, rfl⟩, by unfold dayNumYo; omega, by rw [hp, if_congr hcond rfl rfl]⟩

/-! ### naive date-times: shifting by an offset -/

theorem instSecs_yo (y : Int) (o : Nat) (t : Time) (ho : o < 512) :
    instSecs ⟨dateOfYo y o, t⟩ = (dayNumYo y o - EPOCH_DAY) * 86400 + t.secs := by
  unfold instSecs
  dsimp only
  rw [dayNumOf_yo y o ho]

theorem dayNumOf_ext (d : Date) (h : ExtDateInv d) : dayNumOf d = dayNumYo d.year d.ordinal.toNat := by
  unfold dayNumOf; rw [Int.toNat_of_nonneg (Int.le_trans (by decide) h.2.2.1)]

theorem instSecs_ext (a : NaiveDT) (ha : ExtDateInv a.date) :
    instSecs a = (dayNumYo a.date.year a.date.ordinal.toNat - EPOCH_DAY) * 86400 + a.time.secs := by
  unfold instSecs; rw [dayNumOf_ext a.date ha]

theorem inrange_iff (n secs : Int) (h : 0 ≤ secs ∧ secs < 86400) :
    InRangeSecs ((n - EPOCH_DAY) * 86400 + secs) ↔ (DAY_MIN ≤ n ∧ n ≤ DAY_MAX) := by
  unfold InRangeSecs SECS_MIN SECS_MAX
  constructor <;> intro h' <;> omega

theorem dateInv_iff (d : Date) : DateInv d ↔ ExtDateInv d ∧ MIN_YEAR ≤ d.year ∧ d.year ≤ MAX_YEAR := by
  unfold DateInv ExtDateInv
  constructor
  · rintro ⟨a, b, c, d', e⟩; exact ⟨⟨by omega, by omega, c, d', e⟩, a, b⟩
  · rintro ⟨⟨_, _, c, d', e⟩, a, b⟩; exact ⟨a, b, c, d', e⟩

/-- the common shape of `checked_add_offset` / `checked_sub_offset` (shift by `e` seconds) -/
def shiftChecked (dt : NaiveDT) (e : Int) : Res (Option NaiveDT) :=
  (stepRes dt.date (shiftOff dt.time e).2).bind fun r =>
    .ok (r.map fun d => ⟨d, (shiftOff dt.time e).1⟩)

/-- the common shape of `overflowing_add_offset` / `overflowing_sub_offset` -/
def shiftOverflowing (dt : NaiveDT) (e : Int) : Res NaiveDT :=
  (stepRes dt.date (shiftOff dt.time e).2).bind fun r =>
    .ok ⟨r.getD (if (shiftOff dt.time e).2 = -1 then Date.BEFORE_MIN else Date.AFTER_MAX), (shiftOff dt.time e).1⟩

/-- a continuation after the carry match: the `if` on the carry distributes over `bind` -/
theorem stepRes_bind {β} (d : Date) (c : Int) (f : Option Date → Res β) :
    (stepRes d c).bind f =
      if c = -1 then d.pred_opt.bind f else if c = 1 then d.succ_opt.bind f else f (some d) := by
  unfold stepRes
  split
  · rfl
  · split <;> rfl

theorem checked_add_offset_eq (dt : NaiveDT) (off : Int) (ht : TValid dt.time) (ho : OffValid off) :
    dt.checked_add_offset off = shiftChecked dt off := by
  unfold NaiveDT.checked_add_offset shiftChecked
  rw [(offset' dt.time off ht ho).1, rbind_ok, stepRes_bind]; rfl

theorem checked_sub_offset_eq (dt : NaiveDT) (off : Int) (ht : TValid dt.time) (ho : OffValid off) :
    dt.checked_sub_offset off = shiftChecked dt (-off) := by
  unfold NaiveDT.checked_sub_offset shiftChecked
  rw [(offset' dt.time off ht ho).2.1, rbind_ok, stepRes_bind]; rfl

theorem overflowing_add_offset_eq (dt : NaiveDT) (off : Int) (ht : TValid dt.time) (ho : OffValid off) :
    dt.overflowing_add_offset off = shiftOverflowing dt off := by
  unfold NaiveDT.overflowing_add_offset shiftOverflowing
  rw [(offset' dt.time off ht ho).1, rbind_ok, stepRes_bind]
  split
  · rfl
  · split <;> rfl

/-- the reading `e` seconds (less than a day) after a reading `u` of the extended calendar: time of
day and day carry come from `shiftOff`, the date `(y', o')` from `step_ext`; it denotes
`instSecs u + e`, and its year is in range exactly when that instant is -/
theorem shift_core (u : NaiveDT) (e : Int) (hu : ExtNDTInv u) (he : -86400 < e ∧ e < 86400) :
    ∃ (y' : Int) (o' : Nat), (1 ≤ o' ∧ o' ≤ yearLen y') ∧ (u.date.year - 1 ≤ y' ∧ y' ≤ u.date.year + 1) ∧
      (y' < u.date.year → (shiftOff u.time e).2 = -1 ∧ o' = yearLen y') ∧
      (u.date.year < y' → (shiftOff u.time e).2 = 1 ∧ o' = 1) ∧
      TValid (shiftOff u.time e).1 ∧ (shiftOff u.time e).1.frac = u.time.frac ∧
      instSecs ⟨dateOfYo y' o', (shiftOff u.time e).1⟩ = instSecs u + e ∧
      (InRangeSecs (instSecs u + e) ↔ MIN_YEAR ≤ y' ∧ y' ≤ MAX_YEAR) ∧
      stepRes u.date (shiftOff u.time e).2 =
        .ok (if y' = u.date.year ∨ (MIN_YEAR ≤ y' ∧ y' ≤ MAX_YEAR) then some (dateOfYo y' o') else none) := by
  obtain ⟨hd, ht⟩ := hu
  obtain ⟨hdeq, hv⟩ := ext_eq u.date hd
  obtain ⟨-, -, hfrac, htv, hcr, hsum⟩ := offset' u.time e ht he
  obtain ⟨y', o', g1, g2, g3, g4, g5, hstep⟩ :=
    step_ext u.date.year u.date.ordinal.toNat (shiftOff u.time e).2 hv (by omega)
  rw [← hdeq] at hstep
  have ho' : o' < 512 := by have := yearLen_ge y'; omega
  have hinst : instSecs ⟨dateOfYo y' o', (shiftOff u.time e).1⟩ = instSecs u + e := by
    rw [instSecs_yo _ _ _ ho', instSecs_ext u hd, g5]; omega
  refine ⟨y', o', g1, g2, g3, g4, htv, hfrac, hinst, ?_, hstep⟩
  rw [← hinst, instSecs_yo _ _ _ ho', inrange_iff _ _ ⟨htv.1, htv.2.1⟩]
  exact range_iff y' o' g1

/-- shifting a reading of the extended calendar by less than a day: the checked form -/
theorem shiftChecked_spec (u : NaiveDT) (e : Int) (hu : ExtNDTInv u) (he : -86400 < e ∧ e < 86400) :
    ∃ r, shiftChecked u e = .ok r ∧
      (∀ v, r = some v → ExtNDTInv v ∧ instSecs v = instSecs u + e ∧ v.time.frac = u.time.frac ∧
        (DateInv u.date → DateInv v.date)) ∧
      (r = none → ¬ InRangeSecs (instSecs u + e)) ∧
      (DateInv u.date → r ≠ none → InRangeSecs (instSecs u + e)) := by
  obtain ⟨y', o', g1, g2, -, -, htv, hfrac, hinst, hir, hstep⟩ := shift_core u e hu he
  obtain ⟨-, hv1, hv2, -⟩ := ext_eq u.date hu.1
  have hyr : (dateOfYo y' o').year = y' := (dateOfYo_fields y' o' (by have := yearLen_ge y'; omega)).1
  -- a result was returned: from a date of the range, its year is in range
  have hin : DateInv u.date → (y' = u.date.year ∨ (MIN_YEAR ≤ y' ∧ y' ≤ MAX_YEAR)) →
      MIN_YEAR ≤ y' ∧ y' ≤ MAX_YEAR := fun hdu hc =>
    hc.elim (fun h => h ▸ ((dateInv_iff u.date).mp hdu).2) id
  unfold shiftChecked
  rw [hstep, rbind_ok]
  by_cases hcond : y' = u.date.year ∨ (MIN_YEAR ≤ y' ∧ y' ≤ MAX_YEAR)
  · have hext : ExtDateInv (dateOfYo y' o') := ext_of_vyo _ _ ⟨by omega, by omega, g1.1, g1.2⟩
    rw [if_pos hcond]
    refine ⟨_, rfl, ?_, fun h => (by cases h), fun hdu _ => hir.mpr (hin hdu hcond)⟩
    intro v hv
    cases hv
    exact ⟨⟨hext, htv⟩, hinst, hfrac,
      fun hdu => (dateInv_iff (dateOfYo y' o')).mpr ⟨hext, by rw [hyr]; exact hin hdu hcond⟩⟩
  · rw [if_neg hcond]
    exact ⟨_, rfl, fun v hv => (by cases hv), fun _ h => hcond (Or.inr (hir.mp h)), fun _ h => absurd rfl h⟩

/-- shifting an in-range reading by less than a day: the overflowing form is total and lands in the
extended calendar; the checked form refuses exactly when the shifted reading leaves the range -/
theorem shiftOverflowing_spec (u : NaiveDT) (e : Int) (hu : NDTInv u) (he : -86400 < e ∧ e < 86400) :
    ∃ l, shiftOverflowing u e = .ok l ∧ ExtNDTInv l ∧ instSecs l = instSecs u + e ∧
      l.time.frac = u.time.frac ∧
      shiftChecked u e = .ok (if InRangeSecs (instSecs u + e) then some l else none) ∧
      (DateInv l.date ↔ InRangeSecs (instSecs u + e)) := by
  obtain ⟨hd, hyr1, hyr2⟩ := (dateInv_iff u.date).mp hu.1
  obtain ⟨y', o', g1, g2, g3, g4, htv, hfrac, hinst, hir, hstep⟩ := shift_core u e ⟨hd, hu.2⟩ he
  have hext : ExtDateInv (dateOfYo y' o') := ext_of_vyo _ _ ⟨by omega, by omega, g1.1, g1.2⟩
  have hyr : (dateOfYo y' o').year = y' := (dateOfYo_fields y' o' (by have := yearLen_ge y'; omega)).1
  have hcond : (y' = u.date.year ∨ (MIN_YEAR ≤ y' ∧ y' ≤ MAX_YEAR)) ↔ InRangeSecs (instSecs u + e) :=
    ⟨fun h => hir.mpr (h.elim (fun h => h ▸ ⟨hyr1, hyr2⟩) id), fun h => Or.inr (hir.mp h)⟩
  refine ⟨⟨dateOfYo y' o', (shiftOff u.time e).1⟩, ?_, ⟨hext, htv⟩, hinst, hfrac, ?_, ?_⟩
  · unfold shiftOverflowing
    rw [hstep, rbind_ok]
    by_cases hc : y' = u.date.year ∨ (MIN_YEAR ≤ y' ∧ y' ≤ MAX_YEAR)
    · rw [if_pos hc]; rfl
    · -- the constructor refused: the target is the last day of `MIN_YEAR - 1` or the first of `MAX_YEAR + 1`
      obtain ⟨hb, ha, hl, -⟩ := headroom_consts
      rw [if_neg hc]
      refine congrArg (fun d => Res.ok (⟨d, (shiftOff u.time e).1⟩ : NaiveDT)) ?_
      rcases Int.lt_trichotomy y' u.date.year with h | h | h
      · obtain ⟨c1, c2⟩ := g3 h
        have : y' = MIN_YEAR - 1 := by omega
        rw [c1, c2, this, hl, hb]; rfl
      · exact absurd (Or.inl h) hc
      · obtain ⟨c1, c2⟩ := g4 h
        have : y' = MAX_YEAR + 1 := by omega
        rw [c1, c2, this, ha]; rfl
  · unfold shiftChecked
    rw [hstep, rbind_ok, if_congr hcond rfl rfl]
    split <;> rfl
  · rw [dateInv_iff, hyr, hir]; exact ⟨fun h => h.2, fun h => ⟨hext, h⟩⟩


/-! ### one reading per (second, fraction); comparison; the range filter -/

/-- a reading of the extended calendar splits its second count into day number and second of day -/
theorem reading_split (l : NaiveDT) (hl : ExtNDTInv l) :
    dayNumYo l.date.year l.date.ordinal.toNat = EPOCH_DAY + instSecs l / 86400 ∧
    l.time.secs = instSecs l % 86400 := by
  have h := instSecs_ext l hl.1
  have t1 := hl.2.1
  have t2 := hl.2.2.1
  generalize dayNumYo l.date.year l.date.ordinal.toNat = n at h ⊢
  generalize instSecs l = w at h ⊢
  omega

theorem ndt_unique (a b : NaiveDT) (ha : ExtNDTInv a) (hb : ExtNDTInv b) (hs : instSecs a = instSecs b)
    (hf : a.time.frac = b.time.frac) : a = b := by
  obtain ⟨ea, va⟩ := ext_eq a.date ha.1
  obtain ⟨eb, vb⟩ := ext_eq b.date hb.1
  obtain ⟨da, sa⟩ := reading_split a ha
  obtain ⟨db, sb⟩ := reading_split b hb
  have hd : a.date = b.date := by
    rw [ea, eb]
    exact date_of_daynum_unique _ _ _ _ ⟨va.2.2.1, va.2.2.2⟩ ⟨vb.2.2.1, vb.2.2.2⟩ (by rw [da, db, hs])
  have hsec : a.time.secs = b.time.secs := by rw [sa, sb, hs]
  cases a with | mk ad at_ => cases b with | mk bd bt =>
    cases at_ with | mk s1 f1 => cases bt with | mk s2 f2 =>
      dsimp only at hd hsec hf
      subst hd; subst hsec; subst hf; rfl

/-- the derived order of `NaiveDateTime` is the lexicographic order of (second, fraction) -/
theorem cmp_spec (a b : NaiveDT) (ha : ExtNDTInv a) (hb : ExtNDTInv b) :
    NaiveDT.cmp a b = cmpKey (instSecs a) a.time.frac (instSecs b) b.time.frac := by
  obtain ⟨ea, va⟩ := ext_eq a.date ha.1
  obtain ⟨eb, vb⟩ := ext_eq b.date hb.1
  obtain ⟨a1, a2, _, _⟩ := ha.2
  obtain ⟨b1, b2, _, _⟩ := hb.2
  obtain ⟨o1, o2⟩ := order_spec _ _ _ _ ⟨va.2.2.1, va.2.2.2⟩ ⟨vb.2.2.1, vb.2.2.2⟩
  obtain ⟨o3, _⟩ := order_spec _ _ _ _ ⟨vb.2.2.1, vb.2.2.2⟩ ⟨va.2.2.1, va.2.2.2⟩
  rw [← ea, ← eb] at o1 o2 o3
  rw [instSecs_ext a ha.1, instSecs_ext b hb.1]
  generalize dayNumYo a.date.year a.date.ordinal.toNat = n1 at *
  generalize dayNumYo b.date.year b.date.ordinal.toNat = n2 at *
  unfold NaiveDT.cmp Date.cmp Time.cmp cmpKey
  dsimp only
  by_cases h1 : a.date.yof < b.date.yof
  · have := o1.mp h1
    rw [if_pos h1, if_pos (by decide), if_pos (by omega)]
  · rw [if_neg h1]
    by_cases h2 : a.date.yof > b.date.yof
    · have := o3.mp h2
      rw [if_pos h2, if_pos (by decide), if_neg (by omega), if_pos (by omega)]
    · rw [if_neg h2, if_neg (by decide)]
      have : n1 = n2 := o2.mp (by omega)
      subst this
      have e1 : ((n1 - EPOCH_DAY) * 86400 + a.time.secs < (n1 - EPOCH_DAY) * 86400 + b.time.secs) ↔
          a.time.secs < b.time.secs := by omega
      have e2 : ((n1 - EPOCH_DAY) * 86400 + a.time.secs > (n1 - EPOCH_DAY) * 86400 + b.time.secs) ↔
          a.time.secs > b.time.secs := by omega
      simp only [e1, e2]

theorem instSecs_min_max : instSecs NaiveDT.MIN = SECS_MIN ∧ instSecs NaiveDT.MAX = SECS_MAX ∧
    ExtNDTInv NaiveDT.MIN ∧ ExtNDTInv NaiveDT.MAX ∧ NaiveDT.MIN.time.frac = 0 ∧
    NaiveDT.MAX.time.frac = 999999999 := by decide

namespace ZN

theorem inUtc_iff (s f : Int) : InUtcRange s f ↔ GeMinUtc s ∧ LeMaxUtc s f := by
  unfold InUtcRange InRangeSecs GeMinUtc LeMaxUtc
  constructor
  · rintro ⟨⟨a, b⟩, c⟩; exact ⟨a, by omega⟩
  · rintro ⟨a, b⟩; exact ⟨⟨a, by omega⟩, by omega⟩

theorem filter_lo (u : NaiveDT) (hu : ExtNDTInv u) :
    NaiveDT.cmp u NaiveDT.MIN ≥ 0 ↔ GeMinUtc (instSecs u) := by
  obtain ⟨m1, m2, m3, m4, m5, m6⟩ := instSecs_min_max
  obtain ⟨_, _, f1, f2⟩ := hu.2
  rw [cmp_spec u _ hu m3, m1, m5]
  unfold GeMinUtc cmpKey
  constructor
  · intro h; by_contra hc; rw [if_pos (by omega)] at h; omega
  · intro h
    by_cases c1 : instSecs u > SECS_MIN
    · rw [if_neg (by omega), if_pos c1]; omega
    · rw [if_neg (by omega), if_neg c1, if_neg (by omega)]; split <;> omega

theorem filter_hi (u : NaiveDT) (hu : ExtNDTInv u) :
    NaiveDT.cmp u NaiveDT.MAX ≤ 0 ↔ LeMaxUtc (instSecs u) u.time.frac := by
  obtain ⟨m1, m2, m3, m4, m5, m6⟩ := instSecs_min_max
  obtain ⟨_, _, f1, f2⟩ := hu.2
  rw [cmp_spec u _ hu m4, m2, m6]
  unfold LeMaxUtc cmpKey
  constructor
  · intro h
    by_cases c1 : instSecs u < SECS_MAX
    · exact Or.inl c1
    · right
      by_cases c2 : instSecs u > SECS_MAX
      · rw [if_neg c1, if_pos c2] at h; omega
      · rw [if_neg c1, if_neg c2] at h
        refine ⟨by omega, ?_⟩
        by_contra hc
        by_cases c3 : u.time.frac < 999999999
        · omega
        · rw [if_neg c3, if_pos (by omega)] at h; omega
  · intro h
    rcases h with h | ⟨h1, h2⟩
    · rw [if_pos h]; omega
    · rw [if_neg (by omega), if_neg (by omega)]; omega

end ZN

/-- the range filter of `map_local` / `with_time` on a reading of the extended calendar -/
theorem filter_spec (u : NaiveDT) (off : Int) (hu : ExtNDTInv u) :
    (Zoned.inUtcRange ⟨u, off⟩ = true ↔ InUtcRange (instSecs u) u.time.frac) ∧
    (InRangeSecs (instSecs u) → DateInv u.date) := by
  constructor
  · unfold Zoned.inUtcRange
    rw [Bool.and_eq_true, decide_eq_true_eq, decide_eq_true_eq, ZN.filter_lo u hu, ZN.filter_hi u hu,
      ZN.inUtc_iff]
  · intro hin
    obtain ⟨eu, vu⟩ := ext_eq u.date hu.1
    rw [instSecs_ext u hu.1, inrange_iff _ _ ⟨hu.2.1, hu.2.2.1⟩,
      range_iff _ _ ⟨vu.2.2.1, vu.2.2.2⟩] at hin
    exact (dateInv_iff u.date).mpr ⟨hu.1, hin⟩


/-- a reading of the range denotes a second of the range -/
theorem inrange_of_inv (u : NaiveDT) (hu : NDTInv u) : InRangeSecs (instSecs u) := by
  obtain ⟨hext, hy⟩ := (dateInv_iff u.date).mp hu.1
  obtain ⟨-, vu⟩ := ext_eq u.date hext
  rw [instSecs_ext u hext, inrange_iff _ _ ⟨hu.2.1, hu.2.2.1⟩, range_iff _ _ ⟨vu.2.2.1, vu.2.2.2⟩]
  exact hy

/-! ### zone-aware values -/

theorem naive_local_spec (z : Zoned) (hz : ZInv z) :
    ∃ l, Zoned.overflowing_naive_local z = .ok l ∧ ExtNDTInv l ∧ instSecs l = wallSecs z ∧
      l.time.frac = z.utc.time.frac ∧
      Zoned.naive_local z = (if InRangeSecs (wallSecs z) then .ok l else .panic) ∧
      (DateInv l.date ↔ InRangeSecs (wallSecs z)) := by
  obtain ⟨hu, ho⟩ := hz
  obtain ⟨l, h1, h2, h3, h4, h5, h6⟩ := shiftOverflowing_spec z.utc z.off hu ho
  refine ⟨l, ?_, h2, h3, h4, ?_, h6⟩
  · unfold Zoned.overflowing_naive_local; rw [overflowing_add_offset_eq _ _ hu.2 ho]; exact h1
  · unfold Zoned.naive_local wallSecs
    rw [checked_add_offset_eq _ _ hu.2 ho, h5, rbind_ok]
    by_cases h : InRangeSecs (instSecs z.utc + z.off)
    · rw [if_pos h, if_pos h]
    · rw [if_neg h, if_neg h]

/-- the same for a given wall clock `l` -/
theorem naive_local_of (z : Zoned) (hz : ZInv z) (l : NaiveDT) (hl : Zoned.overflowing_naive_local z = .ok l) :
    ExtNDTInv l ∧ instSecs l = wallSecs z ∧ l.time.frac = z.utc.time.frac ∧
      Zoned.naive_local z = (if InRangeSecs (wallSecs z) then .ok l else .panic) ∧
      (DateInv l.date ↔ InRangeSecs (wallSecs z)) := by
  obtain ⟨l', a, h⟩ := naive_local_spec z hz
  rw [hl] at a
  cases a
  exact h

theorem from_local_spec (off : Int) (nl : NaiveDT) (ho : OffValid off) (hnl : ExtNDTInv nl) :
    ∃ r, Zoned.from_local_datetime off nl = .ok r ∧
      (∀ z, r = some z → z.off = off ∧ ExtNDTInv z.utc ∧ instSecs z.utc = instSecs nl - off ∧
        z.utc.time.frac = nl.time.frac ∧ (DateInv nl.date → DateInv z.utc.date)) ∧
      (r = none → ¬ InRangeSecs (instSecs nl - off)) ∧
      (DateInv nl.date → r ≠ none → InRangeSecs (instSecs nl - off)) := by
  obtain ⟨r, h1, h2, h3, h4⟩ := shiftChecked_spec nl (-off) hnl (by unfold OffValid at ho; omega)
  rw [← Int.sub_eq_add_neg] at h2 h3 h4
  refine ⟨r.map fun u => ⟨u, off⟩, ?_, ?_, fun hr => h3 (Option.map_eq_none_iff.mp hr),
    fun hd hr => h4 hd fun h => hr (by rw [h]; rfl)⟩
  · unfold Zoned.from_local_datetime; rw [checked_sub_offset_eq _ _ hnl.2 ho, h1, rbind_ok]
  · intro z hz
    cases r with
    | none => cases hz
    | some v => cases hz; exact ⟨rfl, h2 v rfl⟩

/-- where `from_local_datetime` returns, `checked_sub_offset` did, and the result wraps its reading -/
theorem from_local_ok (off : Int) (nl : NaiveDT) (r : Option Zoned)
    (h : Zoned.from_local_datetime off nl = .ok r) :
    ∃ o, nl.checked_sub_offset off = .ok o ∧ r = o.map fun u => ⟨u, off⟩ := by
  unfold Zoned.from_local_datetime at h
  cases hc : nl.checked_sub_offset off with
  | panic => rw [hc] at h; cases h
  | ok o =>
    rw [hc, rbind_ok] at h
    exact ⟨o, rfl, (Res.ok.inj h).symm⟩

/-- the wall clock of `z` is the reading `nl` as soon as instants and fractions match -/
theorem local_back (z : Zoned) (hz : ZInv z) (nl : NaiveDT) (hnl : ExtNDTInv nl)
    (h1 : instSecs z.utc = instSecs nl - z.off) (h2 : z.utc.time.frac = nl.time.frac) :
    Zoned.overflowing_naive_local z = .ok nl := by
  obtain ⟨l, a, b, c, d, _, _⟩ := naive_local_spec z hz
  rw [a]
  congr 1
  exact ndt_unique l nl b hnl (by rw [c]; unfold wallSecs; omega) (by rw [d, h2])

/-- conversion of a reading of the extended calendar back to a value at `z`'s offset -/
theorem ZN.back_plain (z : Zoned) (hz : ZInv z) (nl : NaiveDT) (hnl : ExtNDTInv nl) :
    ∃ q, Zoned.from_local_datetime z.off nl = .ok q ∧
      (q = none → ¬ InRangeSecs (instSecs nl - z.off)) ∧
      (DateInv nl.date → q ≠ none → InRangeSecs (instSecs nl - z.off)) ∧
      ∀ z', q = some z' → z'.off = z.off ∧ ExtNDTInv z'.utc ∧ instSecs z'.utc = instSecs nl - z.off ∧
        z'.utc.time.frac = nl.time.frac ∧
        (InRangeSecs (instSecs nl - z.off) → ZInv z' ∧ Zoned.overflowing_naive_local z' = .ok nl) := by
  obtain ⟨q, h1, h2, h3, h4⟩ := from_local_spec z.off nl hz.2 hnl
  refine ⟨q, h1, h3, h4, ?_⟩
  intro z' hz'
  obtain ⟨a, b, c, d, _⟩ := h2 z' hz'
  refine ⟨a, b, c, d, ?_⟩
  intro hin
  have hzi : ZInv z' := ⟨⟨(filter_spec z'.utc z'.off b).2 (by rw [c]; exact hin), b.2⟩, by rw [a]; exact hz.2⟩
  exact ⟨hzi, local_back z' hzi nl hnl (by rw [a]; exact c) d⟩


/-- conversion back from a wall clock followed by the `MIN_UTC ..= MAX_UTC` filter -/
theorem back_filtered (z : Zoned) (hz : ZInv z) (nl : NaiveDT) (hnl : ExtNDTInv nl) :
    ∃ r, ((Zoned.from_local_datetime z.off nl).bind fun q =>
            match q with
            | some z' => .ok (if Zoned.inUtcRange z' then some z' else none)
            | none => .ok none) = .ok r ∧
      (∀ z', r = some z' → z'.off = z.off ∧ ZInv z' ∧ Zoned.overflowing_naive_local z' = .ok nl ∧
        instSecs z'.utc = instSecs nl - z.off ∧ z'.utc.time.frac = nl.time.frac ∧
        InUtcRange (instSecs z'.utc) z'.utc.time.frac) ∧
      (r = none ↔ ¬ InUtcRange (instSecs nl - z.off) nl.time.frac) := by
  obtain ⟨q, h1, h2, -, h4⟩ := ZN.back_plain z hz nl hnl
  rw [h1, rbind_ok]
  cases q with
  | none => exact ⟨none, rfl, nofun, fun _ h => h2 rfl h.1, fun _ => rfl⟩
  | some z' =>
    obtain ⟨a, b, c, d, e⟩ := h4 z' rfl
    have f1 := (filter_spec z'.utc z'.off b).1
    rw [show (⟨z'.utc, z'.off⟩ : Zoned) = z' by cases z'; rfl] at f1
    dsimp only
    by_cases hin : Zoned.inUtcRange z' = true
    · have hI := f1.mp hin
      obtain ⟨hzi, hw⟩ := e (c ▸ hI.1)
      rw [if_pos hin]
      refine ⟨_, rfl, fun z'' h => ?_, nofun, fun h => absurd (c ▸ d ▸ hI) h⟩
      cases h
      exact ⟨a, hzi, hw, c, d, hI⟩
    · rw [if_neg hin]
      exact ⟨none, rfl, nofun, fun _ h => hin (f1.mpr (c ▸ d ▸ h)), fun _ => rfl⟩

end Chrono.Proofs
