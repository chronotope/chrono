/-
  Lemmas for C19 on the extracted conversion tables (`Conv.matchArms`), the fused iterator, and the
  two text forms of a weekday set.
-/
import Chrono.Proofs.WeekdayL
import Chrono.Model.WeekdayConv
import Chrono.Model.WeekdaySetX
import Chrono.Spec.WeekdayLitSpec

namespace Chrono.Proofs.WeekdayConv
open Chrono Chrono.M Chrono.Spec Chrono.Proofs

/-- a `match` table with distinct literals and a rejecting wildcard arm returns `v` for `n` exactly
when `(n, v)` is one of its arms -/
theorem matchArms_none_iff (arms : List (Int × Nat)) (hnd : (arms.map Prod.fst).Nodup)
    (n : Int) (v : Nat) : Conv.matchArms arms none n = some v ↔ (n, v) ∈ arms := by
  induction arms with
  | nil => simp [Conv.matchArms]
  | cons p rest ih =>
    obtain ⟨k, x⟩ := p
    obtain ⟨hk, hrest⟩ := List.nodup_cons.mp hnd
    rw [Conv.matchArms, List.mem_cons, Prod.mk.injEq, ← ih hrest]
    by_cases h : n = k
    · subst h
      rw [if_pos rfl, Option.some.injEq]
      have hno : Conv.matchArms rest none n ≠ some v := fun hm =>
        hk (List.mem_map.mpr ⟨(n, v), (ih hrest).mp hm, rfl⟩)
      exact ⟨fun e => Or.inl ⟨rfl, e.symm⟩, fun e => e.elim (fun e => e.2.symm) (fun hm => absurd hm hno)⟩
    · rw [if_neg h]
      exact ⟨Or.inr, fun hm => hm.resolve_left fun e => h e.1⟩

/-- the generic step from "this extracted table is the numbering of the type, arm by arm" to "the
lookup accepts exactly the number of each value" -/
theorem conv_iff_of_table {α : Type} (all : List α) (num : α → Int) (disc : α → Nat)
    (ofDisc : Nat → Option α) (arms : List (Int × Nat))
    (htab : arms = all.map (fun a => (num a, disc a)))
    (hnum : (all.map num).Nodup)
    (hof : ∀ i a, ofDisc i = some a ↔ i = disc a)
    (hinj : ∀ a b, disc a = disc b → a = b)
    (hall : ∀ a, a ∈ all) (n : Int) (a : α) :
    (Conv.matchArms arms none n).bind ofDisc = some a ↔ n = num a := by
  have hnd : (arms.map Prod.fst).Nodup := by rw [htab, List.map_map]; exact hnum
  simp only [Option.bind_eq_some_iff, matchArms_none_iff arms hnd, hof]
  simp only [htab, List.mem_map, Prod.mk.injEq]
  constructor
  · rintro ⟨_, ⟨b, _, rfl, rfl⟩, hv⟩
    rw [hinj b a hv]
  · rintro rfl
    exact ⟨_, ⟨a, hall a, rfl, rfl⟩, rfl⟩

theorem weekday_ofDisc_iff (i : Nat) (w : Weekday) : Weekday.ofDisc i = some w ↔ i = w.toNat :=
  weekdayOfIdx_iff i w

theorem month_ofDisc_iff (i : Nat) (m : Month) : Month.ofDisc i = some m ↔ i = m.toNat :=
  getElem?_iff_of_enum Month.all Month.toNat (by decide) (fun a => by cases a <;> rfl) i m

/-- `ofDisc` is a left inverse of `toNat` -/
theorem month_toNat_inj (a b : Month) (h : a.toNat = b.toNat) : a = b :=
  Option.some.inj (((month_ofDisc_iff _ a).mpr rfl).symm.trans ((month_ofDisc_iff _ b).mpr h))

theorem month_number_eq (m : Month) : m.number_from_month = m.toNat + 1 := by cases m <;> rfl

theorem month_ofNumber_number (m : Month) : Month.ofNumber m.number_from_month = some m := by
  cases m <;> rfl

theorem month_ofNumber_none {n : Int} (h : n < 1 ∨ 12 < n) : Month.ofNumber n = none := by
  unfold Month.ofNumber
  repeat rw [if_neg (by omega : ¬ n = _)]

theorem month_ofNumber_iff (n : Int) (m : Month) :
    Month.ofNumber n = some m ↔ n = m.number_from_month := by
  constructor
  · intro h
    have hr : 1 ≤ n ∧ n ≤ 12 := by
      refine Decidable.by_contra fun hc => ?_
      rw [month_ofNumber_none (by omega)] at h; cases h
    have hi : (n - 1).toNat < 12 := by omega
    have hd := (month_ofDisc_iff _ _).mp (List.getElem?_eq_getElem hi)
    have hn : n = (Month.all[(n - 1).toNat]).number_from_month := by rw [month_number_eq]; omega
    rw [hn, month_ofNumber_number] at h
    injection h with h
    rw [← h, ← hn]
  · rintro rfl; exact month_ofNumber_number m

/-- a weekday table that is the numbering `0 … 6` arm by arm accepts exactly `w.toNat` for `w` -/
theorem weekday_table_iff (arms : List (Int × Nat))
    (htab : arms = Weekday.all.map (fun w => ((w.toNat : Int), w.toNat))) (n : Int) (w : Weekday) :
    (Conv.matchArms arms none n).bind Weekday.ofDisc = some w ↔ n = w.toNat :=
  conv_iff_of_table Weekday.all (fun w => (w.toNat : Int)) Weekday.toNat Weekday.ofDisc arms htab
    (by decide) weekday_ofDisc_iff (fun _ _ => Weekday.toNat_inj) weekday_all_complete n w

/-- a month table that is the numbering `1 … 12` arm by arm accepts exactly `number_from_month` -/
theorem month_table_iff (arms : List (Int × Nat))
    (htab : arms = Month.all.map (fun m => ((m.number_from_month : Int), m.toNat))) (n : Int) (m : Month) :
    (Conv.matchArms arms none n).bind Month.ofDisc = some m ↔ n = m.number_from_month :=
  conv_iff_of_table Month.all (fun m => (m.number_from_month : Int)) Month.toNat Month.ofDisc arms htab
    (by decide) month_ofDisc_iff month_toNat_inj month_all_complete n m

/-- a range check in front of a conversion keeps an iff whose right-hand side passes the check -/
theorem guard_bind_iff {α : Type} (c : Int → Bool) (f : Int → Option α) (n k : Int) (a : α)
    (hf : f n = some a ↔ n = k) (hk : c k = true) :
    (if c n = true then some n else none).bind f = some a ↔ n = k := by
  by_cases hu : c n = true
  · rw [if_pos hu]; exact hf
  · rw [if_neg hu]
    exact ⟨fun h => (by cases h), fun h => absurd (h ▸ hk) hu⟩

theorem via_checked_iff {α : Type} (f : Int → Option α) (n k : Int) (a : α)
    (hf : f n = some a ↔ n = k) (hk : inU32 k = true) :
    (Conv.viaU32 0 n).bind f = some a ↔ n = k :=
  guard_bind_iff inU32 f n k a hf hk

theorem to_i64_bind_iff {α : Type} (f : Int → Option α) (n k : Int) (a : α)
    (hf : f n = some a ↔ n = k) (hk : inI64 k = true) :
    (Conv.NumTraits.to_i64 n).bind f = some a ↔ n = k :=
  guard_bind_iff inI64 f n k a hf hk

theorem to_u64_bind_iff {α : Type} (f : Int → Option α) (n k : Int) (a : α)
    (hf : f n = some a ↔ n = k) (hk : inU64 k = true) :
    (Conv.NumTraits.to_u64 n).bind f = some a ↔ n = k :=
  guard_bind_iff inU64 f n k a hf hk

/-! ### iterator: fusedness -/

/-- a pull that returns `None` left the iterator unchanged and the set is empty: on a non-empty
set `next` and `next_back` hand out `some _` or panic -/
theorem pull_none {e : Bool} {x : Option Weekday} {it it' : WeekdaySet.Iter}
    {g : Weekday → WeekdaySet.Iter}
    (h : (if e = true then Res.ok (none, it) else
      match x with
      | some d => .ok (some d, g d)
      | none => .panic) = .ok (none, it')) : e = true ∧ it' = it := by
  by_cases he : e = true
  · rw [if_pos he] at h
    injection h with h
    injection h with _ h
    exact ⟨he, h.symm⟩
  · rw [if_neg he] at h
    cases x with
    | none => cases h
    | some d => injection h with h; injection h with h _; cases h

theorem next_none (it it' : WeekdaySet.Iter) (h : it.next = .ok (none, it')) :
    WeekdaySet.is_empty it.days = true ∧ it' = it :=
  pull_none ((WdSet.next_def it.days it.start).symm.trans h)

theorem next_back_none (it it' : WeekdaySet.Iter) (h : it.next_back = .ok (none, it')) :
    WeekdaySet.is_empty it.days = true ∧ it' = it :=
  pull_none ((WdSet.next_back_def it.days it.start).symm.trans h)

theorem empty_next (it : WeekdaySet.Iter) (he : WeekdaySet.is_empty it.days = true) :
    it.next = .ok (none, it) ∧ it.next_back = .ok (none, it) := by
  unfold WeekdaySet.Iter.next WeekdaySet.Iter.next_back
  rw [if_pos he, if_pos he]
  exact ⟨rfl, rfl⟩

theorem empty_runSchedule (sched : List Bool) (it : WeekdaySet.Iter)
    (he : WeekdaySet.is_empty it.days = true) :
    WeekdaySet.runSchedule sched it = .ok ([], [], it) := by
  induction sched with
  | nil => rfl
  | cons b bs ih =>
    obtain ⟨h1, h2⟩ := empty_next it he
    cases b
    · simp only [WeekdaySet.runSchedule, Bool.false_eq_true, if_false, h2, ih]
    · simp only [WeekdaySet.runSchedule, if_true, h1, ih]

end Chrono.Proofs.WeekdayConv

namespace Chrono.Proofs.WdSet
open Chrono Chrono.M Chrono.Spec

/-! ### `Display` of a set -/

theorem commaSep_cons (f : Weekday → List Nat) (d : Weekday) (r : List Weekday) :
    commaSep ((d :: r).map f) = f d ++ r.flatMap (fun e => [44, 32] ++ f e) := by
  induction r generalizing d with
  | nil => simp [commaSep]
  | cons e r ih =>
    rw [List.map_cons, List.map_cons, commaSep, ← List.map_cons, ih e, List.flatMap_cons]
    simp only [List.append_assoc]
    all_goals simp

/-- `Display` pulls the first item, drains the rest and joins the names: the comma-separated list
of the members in week order -/
theorem display_eq (hname : ∀ d : Weekday, d.display = capitalize (weekdayShortLit d))
    (s : Nat) (hs : s < 128) : WeekdaySet.display s = .ok (setDisplay s) := by
  have hdrain := fun s hs => drainFront_eq .mon 8 s hs (forward_length_lt s .mon)
  have hset : setDisplay s =
      [91] ++ commaSep ((forward s .mon).map fun d => capitalize (weekdayShortLit d)) ++ [93] := rfl
  rw [hset]
  unfold WeekdaySet.display WeekdaySet.iter
  cases hf : forward s .mon with
  | nil =>
    have hd := hdrain s hs
    rw [hf] at hd
    simp only [next_eq hs, hf, hd]
    rfl
  | cons d t =>
    obtain ⟨hn, htail, hlt⟩ := front_step hs hf
    have hd := hdrain _ hlt
    rw [htail] at hd
    simp only [hn, hd, commaSep_cons, hname, List.append_assoc]
/-! ### `Debug` of a set: a fixed frame around seven binary digits -/

theorem debug_prefix : [87, 101, 101, 107, 100, 97, 121, 83, 101, 116, 40] = asciiBytes "WeekdaySet(" := by
  decide

/-- `{:0>7b}` of a word below 128 is its seven bits, Sunday's first -/
theorem debug_digits : ∀ s < 128, WeekdaySet.padLeft0 7 (WeekdaySet.binDigits 8 s []) =
    Weekday.all.reverse.map (fun d => if mem s d then 49 else 48) := by
  decide +kernel

theorem digits_value : ∀ s < 128,
    (Weekday.all.reverse.map (fun d => if mem s d then 49 else 48)).foldl
      (fun acc c => 2 * acc + (c - 48)) 0 = s := by
  decide +kernel

theorem debug_eq (s : Nat) (hs : s < 128) : WeekdaySet.debug s = setDebug s := by
  unfold WeekdaySet.debug setDebug
  rw [debug_digits s hs, debug_prefix]

theorem wordOfDebug_setDebug (s : Nat) (hs : s < 128) : wordOfDebug (setDebug s) = s := by
  unfold wordOfDebug setDebug
  rw [← debug_prefix, List.append_assoc, List.drop_left' (by rfl), List.take_left' (by rfl)]
  exact digits_value s hs

/-! ### reading a set back from its `Display` text -/

/-- a byte that does not occur in `pat` cuts every occurrence of `pat` -/
theorem isPrefixOf_cut {pat : List Nat} {c : Nat} (hc : c ∉ pat) (y : List Nat) :
    ∀ u, pat.isPrefixOf (u ++ c :: y) = pat.isPrefixOf u := by
  induction pat with
  | nil => intro u; simp
  | cons p ps ih =>
    have hpc : (p == c) = false := by simpa using fun h : p = c => hc (h ▸ List.mem_cons_self)
    intro u
    cases u with
    | nil => simp [List.isPrefixOf, hpc]
    | cons a u => simp only [List.cons_append, List.isPrefixOf, ih (fun h => hc (List.mem_cons_of_mem _ h))]

theorem hasInfix_cut {pat : List Nat} (hne : pat ≠ []) {c : Nat} (hc : c ∉ pat) (x y : List Nat) :
    hasInfix pat (x ++ c :: y) = (hasInfix pat x || hasInfix pat y) := by
  have hemp : pat.isEmpty = false := by cases pat with | nil => exact absurd rfl hne | cons _ _ => rfl
  induction x with
  | nil =>
    have := isPrefixOf_cut hc y []
    simp only [List.nil_append] at this
    simp [hasInfix, this, hemp]
    exact fun h => absurd h hne
  | cons a x ih =>
    have := isPrefixOf_cut hc y (a :: x)
    simp only [List.cons_append] at this
    simp only [List.cons_append, hasInfix, this, ih, Bool.or_assoc]


/-- looking for a name in the `Display` text finds it exactly when it is one of the names joined,
provided the names are told apart by `hasInfix` and hold none of the bytes `[`, `,`, ` `, `]` -/
theorem hasInfix_display (f : Weekday → List Nat) (d : Weekday) (hne : f d ≠ [])
    (hsep : 91 ∉ f d ∧ 44 ∉ f d ∧ 32 ∉ f d ∧ 93 ∉ f d) (l : List Weekday) :
    hasInfix (f d) ([91] ++ commaSep (l.map f) ++ [93]) = l.any fun e => hasInfix (f d) (f e) := by
  obtain ⟨h91, h44, h32, h93⟩ := hsep
  have hnil : hasInfix (f d) [] = false := by
    cases h : f d with | nil => exact absurd h hne | cons _ _ => rfl
  have hrest : ∀ (r : List Weekday) (x : List Nat),
      hasInfix (f d) (x ++ (r.flatMap (fun e => [44, 32] ++ f e) ++ [93])) =
        (hasInfix (f d) x || r.any fun e => hasInfix (f d) (f e)) := by
    intro r
    induction r with
    | nil => intro x; exact (hasInfix_cut hne h93 x []).trans (by rw [hnil]; rfl)
    | cons e r ih =>
      intro x
      have e1 : x ++ (List.flatMap (fun e => [44, 32] ++ f e) (e :: r) ++ [93]) =
          x ++ 44 :: ([] ++ 32 :: (f e ++ (r.flatMap (fun e => [44, 32] ++ f e) ++ [93]))) := by simp
      rw [e1, hasInfix_cut hne h44, hasInfix_cut hne h32, hnil, ih, Bool.false_or, List.any_cons]
  have e2 : [91] ++ commaSep (l.map f) ++ [93] = [] ++ 91 :: (commaSep (l.map f) ++ [93]) := by simp
  rw [e2, hasInfix_cut hne h91, hnil, Bool.false_or]
  cases l with
  | nil => exact (hrest [] []).trans (by rw [hnil, Bool.false_or])
  | cons e r => rw [commaSep_cons, List.append_assoc, hrest, List.any_cons]

/-- the `Display` names are told apart by `hasInfix` and hold no punctuation of the set syntax -/
theorem display_names_ok : ∀ d ∈ Weekday.all,
    (∀ e ∈ Weekday.all, hasInfix (capitalize (weekdayShortLit d)) (capitalize (weekdayShortLit e)) =
      decide (e = d)) ∧
    capitalize (weekdayShortLit d) ≠ [] ∧ 91 ∉ capitalize (weekdayShortLit d) ∧
    44 ∉ capitalize (weekdayShortLit d) ∧ 32 ∉ capitalize (weekdayShortLit d) ∧
    93 ∉ capitalize (weekdayShortLit d) := by
  decide +kernel

/-- reading the members back from the `Display` text, by looking for each abbreviation -/
theorem wordOfDisplay_setDisplay (s : Nat) (hs : s < 128) : wordOfDisplay (setDisplay s) = s := by
  have hfilter : Weekday.all.filter (fun d => hasInfix (capitalize (weekdayShortLit d)) (setDisplay s)) =
      Weekday.all.filter (mem s) := List.filter_congr fun d hd => by
    obtain ⟨hinj, hne, hsep⟩ := display_names_ok d hd
    rw [setDisplay, members, hasInfix_display (fun d => capitalize (weekdayShortLit d)) d hne hsep,
      Bool.eq_iff_iff, List.any_eq_true]
    constructor
    · rintro ⟨e, he, h⟩
      rw [hinj e (weekday_all_complete e), decide_eq_true_iff] at h
      exact h ▸ (List.mem_filter.mp he).2
    · intro h
      exact ⟨d, List.mem_filter.mpr ⟨hd, h⟩, by rw [hinj d hd]; exact decide_eq_true rfl⟩
  rw [wordOfDisplay, hfilter, from_list_members hs]
end Chrono.Proofs.WdSet
