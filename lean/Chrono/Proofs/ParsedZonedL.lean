/-
  C14 with C04: `to_datetime`, `to_datetime_with_timezone` (fixed zones) — the
  value carries the offset and its wall clock is the resolved naive date-time; errors by value.
-/
import Chrono.Proofs.ParsedTsL
import Chrono.Props.C04
import Chrono.Spec.ParsedZoneSpec
namespace Chrono.Proofs.ParsedRes
open Chrono Chrono.M Chrono.Spec Chrono.Spec.Fields Chrono.Spec.Ts Chrono.Extracted Chrono.Proofs Chrono.Proofs.Ts

/- `NaiveOk` (Spec/ParsedResolveSpec.lean) and `ZonedOk` (Spec/ParsedZoneSpec.lean) are defined on the
Spec side and exported into this namespace -/
export Chrono.Spec.Fields (ZonedOk)

theorem naiveOk_inv (p : Parsed) (dt : NaiveDT) (off : Int) (h : NaiveOk p dt off) : NDTInv dt := by
  obtain ⟨Y, o, ⟨v1, v2, v3, v4⟩, hd, _, ht, _⟩ := h
  refine ⟨?_, ht.1⟩
  rw [hd]
  exact (dateInv_of_yo Y o ⟨v1, v2⟩ ⟨v3, v4⟩).1

/-- `from_local_datetime` for a fixed offset on a resolved wall clock: `None` → IMPOSSIBLE,
`Single` → the value whose offset is the zone's and whose wall clock is the input -/
theorem local_tail (off : Int) (dt : NaiveDT) (ho : OffValid off) (hdt : NDTInv dt) :
    ∃ r, Zoned.from_local_datetime off dt = .ok r ∧
      ∀ z, r = some z → z.off = off ∧ ZInv z ∧ Zoned.naive_local z = .ok dt := by
  obtain ⟨r, hr, _⟩ := Chrono.Props.C04.fromLocal_fails_iff off dt ho hdt
  refine ⟨r, hr, ?_⟩
  intro z hz
  subst hz
  obtain ⟨a, b, c, _⟩ := Chrono.Props.C04.local_of_fromLocal off dt ho hdt z hr
  exact ⟨a, b, c⟩

/-- `to_datetime`: never panics, errors by value; NOT_ENOUGH when neither offset nor timestamp is
given; a result carries the supplied offset (0 when only a timestamp is given) -/
theorem to_datetime_spec (p : Parsed) (hp : InType p) :
    ∃ r, Parsed.to_datetime p = .ok r ∧
      (∀ e, r = .error e → e = .notEnough ∨ e = .impossible ∨ e = .outOfRange) ∧
      (p.offset = none → p.timestamp = none → r = .error .notEnough) ∧
      (∀ z, r = .ok z → (p.offset = none → z.off = 0) ∧ ZonedOk p z z.off) := by
  have hoffT := hp.2.2.2.2.2.2.2.2.2.2.2.2.2.2.2.2.2.2.2
  have core : ∀ (offset : Int), (-2147483648 ≤ offset ∧ offset ≤ 2147483647) →
      (∀ x, p.offset = some x → x = offset) →
      ∃ r, (Parsed.RP.bind (Parsed.to_naive_datetime_with_offset p offset) fun datetime =>
        match Zoned.east_opt offset with
        | none => .ok (.error .outOfRange)
        | some off =>
          match Zoned.from_local_datetime off datetime with
          | .panic => .panic
          | .ok none => .ok (.error .impossible)
          | .ok (some t) => .ok (.ok t) : Parsed.RP Zoned) = .ok r ∧
      (∀ e, r = .error e → e = .notEnough ∨ e = .impossible ∨ e = .outOfRange) ∧
      (∀ z, r = .ok z → z.off = offset ∧ ZonedOk p z z.off) := by
    intro offset hoff hsup
    obtain ⟨r, hr, hk, hok⟩ := dt_main' p hp offset hoff
    rw [hr]
    cases r with
    | error e => exact ⟨_, rfl, (fun e' h => by cases h; exact hk e rfl), (fun z h => by cases h)⟩
    | ok dt =>
      simp only [bind_okok]
      have hn := hok dt rfl
      unfold Zoned.east_opt
      by_cases hv : -86400 < offset ∧ offset < 86400
      · rw [if_pos hv]
        simp only []
        obtain ⟨r2, hr2, h2⟩ := local_tail offset dt hv (naiveOk_inv p dt offset hn)
        rw [hr2]
        cases r2 with
        | none => exact ⟨_, rfl, (fun e' h => by cases h; simp), (fun z h => by cases h)⟩
        | some z =>
          refine ⟨_, rfl, (fun e' h => by cases h), ?_⟩
          intro z' h; cases h
          obtain ⟨a, b, c⟩ := h2 z rfl
          refine ⟨a, rfl, b, ?_, dt, c, ?_⟩
          · rw [a]; exact hsup
          · rw [a]; exact hn
      · rw [if_neg hv]
        exact ⟨_, rfl, (fun e' h => by cases h; simp), (fun z h => by cases h)⟩
  unfold Parsed.to_datetime
  cases hoffs : p.offset with
  | some off =>
    simp only []
    obtain ⟨r, hr, hk, hok⟩ := core off (hoffT off hoffs) (by rw [hoffs]; intro x hx; cases hx; rfl)
    refine ⟨r, hr, hk, (fun h => by cases h), ?_⟩
    intro z hz
    obtain ⟨_, b⟩ := hok z hz
    refine ⟨(fun h => by cases h), ?_⟩
    exact b
  | none =>
    cases hts : p.timestamp with
    | some g =>
      simp only []
      obtain ⟨r, hr, hk, hok⟩ := core 0 (by omega) (by rw [hoffs]; intro x hx; cases hx)
      refine ⟨r, hr, hk, (fun _ h => by cases h), ?_⟩
      intro z hz
      obtain ⟨a, b⟩ := hok z hz
      refine ⟨fun _ => a, ?_⟩
      exact b
    | none =>
      simp only []
      exact ⟨_, rfl, (fun e h => by cases h; simp), (fun _ _ => rfl), (fun z h => by cases h)⟩

/-- `to_datetime_with_timezone` for a fixed-offset zone `zone` (`Utc`: 0): never panics, errors by
value; a result carries the zone's offset, which equals the supplied offset field if any -/
theorem to_datetime_tz_spec (p : Parsed) (hp : InType p) (zone : Int) (hz : OffValid zone) :
    ∃ r, Parsed.to_datetime_with_timezone p zone = .ok r ∧
      (∀ e, r = .error e → e = .notEnough ∨ e = .impossible ∨ e = .outOfRange) ∧
      (∀ z, r = .ok z → ZonedOk p z zone) := by
  have hnT := hp.2.2.2.2.2.2.2.2.2.2.2.2.2.2.2.2.2.1
  have htT := hp.2.2.2.2.2.2.2.2.2.2.2.2.2.2.2.2.2.2.1
  unfold OffValid at hz
  have tail : ∀ (guessed : Int), (-2147483648 ≤ guessed ∧ guessed ≤ 2147483647) →
      (p.timestamp ≠ none → guessed = zone) →
      ∃ r, (Parsed.RP.bind (Parsed.to_naive_datetime_with_offset p guessed) fun datetime =>
        match Zoned.from_local_datetime zone datetime with
        | .panic => .panic
        | .ok none => .ok (.error .impossible)
        | .ok (some t) =>
          let check_offset : Bool := match p.offset with
            | some offset => t.off == offset
            | none => true
          if check_offset then .ok (.ok t) else .ok (.error .impossible) : Parsed.RP Zoned) = .ok r ∧
      (∀ e, r = .error e → e = .notEnough ∨ e = .impossible ∨ e = .outOfRange) ∧
      (∀ z, r = .ok z → ZonedOk p z zone) := by
    intro guessed hg hgz
    obtain ⟨r, hr, hk, hok⟩ := dt_main' p hp guessed hg
    rw [hr]
    cases r with
    | error e => exact ⟨_, rfl, (fun e' h => by cases h; exact hk e rfl), (fun z h => by cases h)⟩
    | ok dt =>
      simp only [bind_okok]
      have hn := hok dt rfl
      obtain ⟨r2, hr2, h2⟩ := local_tail zone dt hz (naiveOk_inv p dt guessed hn)
      rw [hr2]
      cases r2 with
      | none => exact ⟨_, rfl, (fun e' h => by cases h; simp), (fun z h => by cases h)⟩
      | some z =>
        obtain ⟨a, b, c⟩ := h2 z rfl
        have hn' : NaiveOk p dt zone := by
          obtain ⟨Y, o, h1, h2', h3, h4, h5, h6⟩ := hn
          refine ⟨Y, o, h1, h2', h3, h4, h5, ?_⟩
          intro g hgg
          have := hgz (by rw [hgg]; simp)
          rw [← this]; exact h6 g hgg
        simp only []
        cases hoffs : p.offset with
        | none =>
          simp only [if_true]
          refine ⟨_, rfl, (fun e' h => by cases h), ?_⟩
          intro z' h; cases h
          exact ⟨a, b, (fun x hx => by rw [hoffs] at hx; cases hx), dt, c, hn'⟩
        | some x =>
          simp only []
          by_cases hx : z.off = x
          · simp only [hx, beq_self_eq_true, if_true]
            refine ⟨_, rfl, (fun e' h => by cases h), ?_⟩
            intro z' h; cases h
            refine ⟨a, b, ?_, dt, c, hn'⟩
            intro x' hx'; rw [hoffs] at hx'; cases hx'; rw [← hx, a]
          · have : (z.off == x) = false := by simp [hx]
            simp only [this]
            exact ⟨_, rfl, (fun e' h => by cases h; simp), (fun z h => by cases h)⟩
  unfold Parsed.to_datetime_with_timezone
  cases hts : p.timestamp with
  | none =>
    simp only [bind_okok]
    have := tail 0 (by omega) (by intro h; exact absurd hts h)
    exact this
  | some g =>
    simp only []
    obtain ⟨r0, hr0, _, _⟩ := from_timestamp_spec g (p.nanosecond.getD 0) (by
      have := htT g hts; unfold isI64; exact this) (by
      cases hn : p.nanosecond with
      | none => simp
      | some n => have := hnT n hn; simp; omega)
    rw [hr0]
    cases r0 with
    | none =>
      simp only [okOr_none, bind_err]
      exact ⟨_, rfl, (fun e' h => by cases h; simp), (fun z h => by cases h)⟩
    | some d0 =>
      simp only [okOr_some, bind_okok]
      have := tail zone (by omega) (fun _ => rfl)
      exact this

end Chrono.Proofs.ParsedRes
