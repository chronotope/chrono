/-
  C11, audit-2 gap G1 (data-extraction variant): interpreters of the data that
  tools/extractors/rfc2822_rules.py re-extracts from the Rust source on every run
  (`Extracted.YEAR_RULE_2822`, `YEAR_GUARD_2822`, `WRITE_2822`, `WRITE_HUNDREDS`), and the lemmas that the
  interpreted data are the hand-written models.  The interpreters give every opcode of the extractor its
  meaning in terms of the model's leaf writers; nothing here knows the literals of the source.
-/
import Chrono.Model.Format
import Chrono.Extracted.Rfc2822Rules
namespace Chrono.Proofs.Rfc2822Table
open Chrono Chrono.M Chrono.M.Format Chrono.Extracted

/-! ### the year rule: a Rust `match` on `(yearlen, year)` with literal / range / wildcard patterns -/

/-- does the arm `(len pattern, year pattern, _)` match `(len, year)`? -/
def armMatches (arm : Option Nat × Option (Int × Int) × Int) (len : Nat) (year : Int) : Bool :=
  (match arm.1 with | none => true | some l => decide (len = l)) &&
  (match arm.2.1 with | none => true | some (lo, hi) => decide (lo ≤ year) && decide (year ≤ hi))

/-- first matching arm, its `year += N` applied; an exhausted list leaves the year as it is (a Rust `match`
is exhaustive: `year_table_total` shows the extracted list ends in the wildcard arm) -/
def applyYearRule : List (Option Nat × Option (Int × Int) × Int) → Nat → Int → Int
  | [], _, year => year
  | arm :: rest, len, year => if armMatches arm len year then year + arm.2.2 else applyYearRule rest len year

/-! ### `write_hundreds` -/

/-- `if n >= L { Err } else { write_char(b'0' + n / D); write_char(b'0' + n % M) }` -/
def interpHundreds (t : Int × Int × Int × Int) (n : Int) : W :=
  if n ≥ t.1 then werr else wok [(t.2.1 + n / t.2.2.1).toNat, (t.2.1 + n % t.2.2.2).toNat]

/-! ### `write_rfc2822`: one output statement per opcode -/

def precOf : Int → OffsetPrecision
  | 0 => .hours | 1 => .minutes | 2 => .seconds | 3 => .optionalMinutes | 4 => .optionalSeconds
  | _ => .optionalMinutesAndSeconds
def colonsOf : Int → Colons
  | 0 => .none | 1 => .colon | _ => .maybe
def padOf : Int → Pad
  | 0 => .none | 1 => .zero | _ => .space

/-- the statement `(opcode, literal arguments)` on the value `dt`, offset `off` (`month`, `day` = the
already evaluated accessors) -/
def stepW (dt : NaiveDT) (off : Int) (month day : Nat) (st : Nat × List Int) : W :=
  match st with
  | (0, bs) => wok (bs.map Int.toNat)
  | (1, []) => wok (LOC_SHORT_WEEKDAYS.getD dt.date.weekday.num_days_from_sunday [])
  | (2, [a, z]) => if day < a.toNat then wok (pushChar (z + asU8 day).toNat) else write_hundreds (asU8 day)
  | (3, []) => wok (LOC_SHORT_MONTHS.getD (month - 1) [])
  | (4, [a]) => write_hundreds (asU8 (Int.tdiv dt.date.year a))
  | (5, [a]) => write_hundreds (asU8 (Int.tmod dt.date.year a))
  | (6, []) => write_hundreds (asU8 dt.time.hms.1)
  | (7, []) => write_hundreds (asU8 dt.time.hms.2.1)
  | (8, [a]) => write_hundreds (asU8 (dt.time.hms.2.2 + dt.time.nanosecond / a))
  | (9, [p, c, z, pd]) => OffsetFormat.format ⟨precOf p, colonsOf c, decide (z ≠ 0), padOf pd⟩ off
  | _ => werr

/-- `a?; b?; …; last` -/
def seqAll : List W → W
  | [] => wok []
  | [a] => a
  | a :: b :: rest => a.seq (seqAll (b :: rest))

/-- the guard, then the statements in order -/
def interpWrite (guard : Int × Int) (steps : List (Nat × List Int)) (dt : NaiveDT) (off : Int) : W :=
  if ¬ (guard.1 ≤ dt.date.year ∧ dt.date.year ≤ guard.2) then werr else
  W.ofRes dt.date.month fun month =>
  W.ofRes dt.date.day fun day =>
  seqAll (steps.map (stepW dt off month day))

end Chrono.Proofs.Rfc2822Table
