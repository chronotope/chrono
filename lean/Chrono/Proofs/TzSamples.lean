/- Concrete files / rules for the kernel-evaluated statements of C16, and their evaluation. -/
import Chrono.Spec.TzSpec

namespace Chrono.Proofs.Tz
open Chrono Chrono.M.Tz Chrono.Spec.Tz

def asc (s : String) : List Nat := s.toList.map Char.toNat

/-- The kernel decodes a string literal from its UTF-8 bytes in quadratic time, whereas it unfolds the
literal to `String.ofList` of its characters at once: rewriting with this lemma before an evaluation
(`rw` unifies the literal with `String.ofList _`) hands the kernel the characters directly. -/
theorem asc_ofList (l : List Char) : asc (String.ofList l) = l.map Char.toNat := by
  rw [asc, String.toList_ofList]

def estEdt : List Nat := asc "EST" ++ [0] ++ asc "EDT" ++ [0]

/-- version 1: two transitions, two types, one leap second, indicators -/
def sampleV1 : TzFile :=
  { version := .V1
    v1 := { trans := [(-1000000000, 1), (1000000000, 0)]
            types := [⟨-18000, false, 0⟩, ⟨-14400, true, 4⟩]
            names := estEdt
            leaps := [(78796800, 1)]
            stdWalls := [1, 0]
            utLocals := [1, 0] }
    v2 := ⟨[], [], [], [], [], []⟩
    footer := [] }

/-- version 2, footer `EST5EDT,M3.2.0,M11.1.0`; the last transition (2023-11-14) is standard time -/
def sampleV2 : TzFile :=
  { version := .V2
    v1 := { trans := [], types := [⟨0, false, 0⟩], names := [0], leaps := [], stdWalls := [], utLocals := [] }
    v2 := { trans := [(1000000000, 1), (1700000000, 0)]
            types := [⟨-18000, false, 0⟩, ⟨-14400, true, 4⟩]
            names := estEdt
            leaps := []
            stdWalls := []
            utLocals := [] }
    footer := asc "EST5EDT,M3.2.0,M11.1.0" }

def sampleRule2 : Rule :=
  .alt ⟨⟨-18000, false, some (asc "EST")⟩, ⟨-14400, true, some (asc "EDT")⟩, .mwd 3 2 0, 7200, .mwd 11 1 0, 7200⟩

/-- version 3, footer with extensions (Greenland: negative rule times); the first transition needs
64 bits, the last one (2023-07-01) is daylight time -/
def sampleV3 : TzFile :=
  { version := .V3
    v1 := { trans := [(0, 0)], types := [⟨-10800, false, 0⟩], names := asc "-03" ++ [0], leaps := [],
            stdWalls := [0], utLocals := [0] }
    v2 := { trans := [(-5000000000, 0), (1688169600, 1)]
            types := [⟨-10800, false, 0⟩, ⟨-7200, true, 4⟩]
            names := asc "-03" ++ [0] ++ asc "-02" ++ [0]
            leaps := []
            stdWalls := [0, 0]
            utLocals := [0, 0] }
    footer := asc "<-03>3<-02>,M3.5.0/-2,M10.5.0/-1" }

def sampleRule3 : Rule :=
  .alt ⟨⟨-10800, false, some (asc "-03")⟩, ⟨-7200, true, some (asc "-02")⟩, .mwd 3 5 0, -7200, .mwd 10 5 0, -3600⟩

/-- the file of finding #10 (DESIGN.md §9): version 2, transitions at `0` and `i64::MAX − 5`, the
second one switching to UTC+2; no footer.  `transition time + offset` exceeds `i64::MAX`. -/
def sampleF10 : TzFile :=
  { version := .V2
    v1 := { trans := [], types := [⟨0, false, 0⟩], names := [0], leaps := [], stdWalls := [], utLocals := [] }
    v2 := { trans := [(0, 0), (9223372036854775802, 1)]
            types := [⟨0, false, 0⟩, ⟨7200, true, 4⟩]
            names := asc "UTC" ++ [0] ++ asc "XDT" ++ [0]
            leaps := []
            stdWalls := []
            utLocals := [] }
    footer := [] }

/-- offset of the footer's first newline in a written v2/v3 file -/
def footerStart (f : TzFile) : Nat := (encodeTzif f).length - (f.footer.length + 2)

theorem tzif_roundtrip_samples :
    parse (encodeTzif sampleV1) = .ok (absBlock sampleV1.v1 none)
      ∧ parse (encodeTzif sampleV2) = .ok (absBlock sampleV2.v2 (some sampleRule2))
      ∧ parse (encodeTzif sampleV3) = .ok (absBlock sampleV3.v2 (some sampleRule3)) := by
  decide +kernel

def ltt (off : Int) (dst : Bool) (n : String) : Ltt := ⟨off, dst, some (asc n)⟩

/-- (extensions?, rule) -/
def sampleRules : List (Bool × Rule) := [
  (false, .fixed (ltt 0 false "UTC")),
  (false, .fixed (ltt (-36000) false "HST")),
  (true, .fixed (ltt 86399 false "a-b+c12")),
  (false, .fixed (ltt (-86399) false "XYZxyz")),
  (false, .fixed (ltt 19800 false "+0530")),
  (false, .fixed (ltt (-1) false "ABC")),
  (false, sampleRule2),
  (true, sampleRule2),
  (true, sampleRule3),
  (false, .alt ⟨ltt 43200 false "NZST", ltt 46800 true "NZDT", .mwd 9 5 0, 9900, .mwd 4 1 0, 13500⟩),
  (false, .alt ⟨ltt 7200 false "IST", ltt 10800 true "IDT", .julian1 1, 0, .julian1 365, 89999⟩),
  (false, .alt ⟨ltt (-3600) false "AAA", ltt (-3600) true "BBBBBBB", .julian0 0, 1, .julian0 365, 59⟩),
  (true, .alt ⟨ltt 0 false "000", ltt 3600 true "a1+", .mwd 1 1 6, -604799, .mwd 12 5 0, 604799⟩),
  (true, .alt ⟨ltt 86399 false "E+S", ltt (-86399) true "-DS", .julian0 59, -1, .julian1 60, 90000⟩),
  (false, .alt ⟨ltt 3661 false "ABCD", ltt 60 true "EFGHI", .mwd 6 3 3, 3600, .julian0 200, 61⟩)]

theorem tz_roundtrip_samples :
    ∀ p ∈ sampleRules, RuleOk p.1 p.2 ∧ from_tz_string (renderTz p.2) p.1 = .ok p.2 := by
  decide +kernel

/-- (extensions?, text, rule): spellings OTHER than the canonical one — omitted DST offset, omitted
`/time`, `+` signs, zero-padded fields, `hh:mm` / `hh:mm:ss` with zero parts, quoted all-letter names -/
def sampleSpellings : List (Bool × List Nat × Rule) := [
  (false, asc "EST5EDT,M3.2.0,M11.1.0", sampleRule2),
  (true, asc "EST5EDT,M3.2.0,M11.1.0", sampleRule2),
  (false, asc "EST+05:00:00EDT+04,M03.02.00/02:00:00,M11.1.0/2", sampleRule2),
  (false, asc "<EST>5<EDT>,M3.2.0,M11.1.0", sampleRule2),
  (true, asc "<-03>3<-02>,M3.5.0/-2,M10.5.0/-1", sampleRule3),
  (true, asc "<-03>+3<-02>2,M3.5.0/-02:00,M10.5.0/-1:00:00", sampleRule3),
  (false, asc "UTC0", .fixed (ltt 0 false "UTC")),
  (false, asc "UTC-00:00", .fixed (ltt 0 false "UTC")),
  (false, asc "HST10", .fixed (ltt (-36000) false "HST")),
  (false, asc "NZST-12:00:00NZDT-13:00:00,M10.1.0/02:00:00,M3.3.0/02:00:00",
    .alt ⟨ltt 43200 false "NZST", ltt 46800 true "NZDT", .mwd 10 1 0, 7200, .mwd 3 3 0, 7200⟩),
  (false, asc "IST-2IDT,J1/0,365/24:59:59",
    .alt ⟨ltt 7200 false "IST", ltt 10800 true "IDT", .julian1 1, 0, .julian0 365, 89999⟩),
  (true, asc "AAA23:59:59BBB,0/167:59:59,J365/-167:59:59",
    .alt ⟨ltt (-86399) false "AAA", ltt (-82799) true "BBB", .julian0 0, 604799, .julian1 365, -604799⟩),
  (false, asc "AAA-23:59:59", .fixed (ltt 86399 false "AAA")),
  (false, asc "AAA-22:59:59BBB,J1,J365",
    .alt ⟨ltt 82799 false "AAA", ltt 86399 true "BBB", .julian1 1, 7200, .julian1 365, 7200⟩)]

theorem tz_spellings_samples : ∀ p ∈ sampleSpellings, from_tz_string p.2.1 p.1 = .ok p.2.2 := by
  unfold sampleSpellings
  repeat rw [asc_ofList]
  decide +kernel

/-- malformed rule texts (text, extensions?) -/
def badRuleTexts : List (List Nat × Bool) := [
  (asc "", false), (asc "EST", false), (asc "ES5", false), (asc "ABCDEFGH5", false),
  (asc "EST25", false), (asc "EST5:60", false), (asc "EST5:00:60", false), (asc "EST+-5", false),
  (asc "EST99999999999", false), (asc ":EST5", false), (asc "<EST5", false), (asc "<E!T>5", false),
  (asc "EST5EDT", false), (asc "EST5EDT,M3.2.0", false), (asc "EST5EDT25,1,2", false),
  (asc "EST5EDT,M13.2.0,M11.1.0", false), (asc "EST5EDT,M0.2.0,M11.1.0", false),
  (asc "EST5EDT,M3.6.0,M11.1.0", false), (asc "EST5EDT,M3.0.0,M11.1.0", false),
  (asc "EST5EDT,M3.2.7,M11.1.0", false), (asc "EST5EDT,J0,J1", false), (asc "EST5EDT,J366,J1", false),
  (asc "EST5EDT,366,1", false), (asc "EST5EDT,1/25,2", false), (asc "EST5EDT,1/-1,2", false),
  (asc "EST5EDT,1/168,2", true), (asc "EST5EDT,1/1:60,2", true), (asc "EST5EDT,1/1:1:60,2", true),
  (asc "EST5EDT,1,2,", false), (asc "EST5EDT,1,2 ", true), (asc "EST5EDT,65536,2", true),
  (asc "EST5EDT,M256.1.1,2", true), (asc "EST5EDT,J65536,2", true),
  -- F32: a stated or defaulted offset of 24 hours or more (field ranges respected: hh ≤ 24)
  (asc "AAA24", false), (asc "AAA-24", false), (asc "AAA+24:00:00", true), (asc "AAA24:00:01", false),
  (asc "AAA-24:59:59", false), (asc "XXX-24:30", false), (asc "AAA5BBB24,M3.2.0,M11.1.0", false),
  (asc "AAA5BBB-24,M3.2.0,M11.1.0", true), (asc "AAA24BBB5,M3.2.0,M11.1.0", false),
  (asc "AAA-23:00:00BBB,M3.2.0,M11.1.0", false), (asc "AAA-23:59:59BBB,J1,J365", true)]

/-! malformed files, all derived from the accepted `sampleV2` / `sampleV1` / `sampleV3` -/
def withV2 (f : TzFile) (g : Block → Block) : TzFile := { f with v2 := g f.v2 }
def rawFooter (f : TzFile) (foot : List Nat) : List Nat := (encodeTzif f).take (footerStart f) ++ foot
def setCount (bytes : List Nat) (hdr field : Nat) : List Nat :=
  let at_ := hdr + 20 + 4 * field
  bytes.take at_ ++ [255, 255, 255, 255] ++ bytes.drop (at_ + 4)
def hdr2 : Nat := (encHeader .V2 sampleV2.v1 ++ encBody 4 sampleV2.v1).length

def badFiles : List (List Nat) :=
  let b2 := encodeTzif sampleV2
  [ [], asc "TZif", asc "TZif2",
    b2.set 0 116, b2.set 3 70, b2.set 4 1, b2.set 4 49, b2.set 4 52, b2.set 4 0,
    b2.set (hdr2 + 3) 70, b2.set (hdr2 + 4) 52,
    setCount b2 0 0, setCount b2 0 1, setCount b2 0 2, setCount b2 0 3, setCount b2 0 4, setCount b2 0 5,
    setCount b2 hdr2 0, setCount b2 hdr2 1, setCount b2 hdr2 2, setCount b2 hdr2 3, setCount b2 hdr2 4,
    setCount b2 hdr2 5,
    -- unsorted / repeated transitions, indices out of bounds
    encodeTzif (withV2 sampleV2 fun b => { b with trans := [(1700000000, 1), (1000000000, 0)] }),
    encodeTzif (withV2 sampleV2 fun b => { b with trans := [(1700000000, 0), (1700000000, 0)] }),
    encodeTzif (withV2 sampleV2 fun b => { b with trans := [(1000000000, 2), (1700000000, 0)] }),
    encodeTzif (withV2 sampleV2 fun b => { b with types := [⟨-18000, false, 0⟩, ⟨-14400, true, 8⟩] }),
    encodeTzif (withV2 sampleV2 fun b => { b with types := [⟨-18000, false, 0⟩, ⟨-14400, true, 255⟩] }),
    -- DST flag, offset, designations
    (encodeTzif sampleV1).set (44 + 8 + 2 + 4) 2,
    encodeTzif (withV2 sampleV2 fun b => { b with types := [⟨-18000, false, 0⟩, ⟨-2147483648, true, 4⟩] }),
    -- F32: an offset of 24 hours or more in a type record (even one no transition refers to)
    encodeTzif (withV2 sampleV2 fun b => { b with types := [⟨-18000, false, 0⟩, ⟨86400, true, 4⟩] }),
    encodeTzif (withV2 sampleV2 fun b => { b with types := [⟨-18000, false, 0⟩, ⟨-86400, true, 4⟩] }),
    encodeTzif (withV2 sampleV2 fun b => { b with types := [⟨-18000, false, 0⟩, ⟨2147483647, true, 4⟩] }),
    encodeTzif (withV2 sampleV2 fun b => { b with types := [⟨-18000, false, 0⟩, ⟨-14400, true, 4⟩, ⟨90000, false, 0⟩] }),
    encodeTzif { sampleV1 with v1 := { sampleV1.v1 with types := sampleV1.v1.types.map fun t => { t with off := 86400 } } },
    encodeTzif (withV2 sampleV2 fun b => { b with names := asc "E!T" ++ [0] ++ asc "EDT" ++ [0] }),
    encodeTzif (withV2 sampleV2 fun b => { b with names := asc "ES" ++ [0, 0] ++ asc "EDT" ++ [0] }),
    encodeTzif (withV2 sampleV2 fun b => { b with names := asc "ESTTEDTT" }),
    -- indicators: the forbidden couple
    encodeTzif (withV2 sampleV2 fun b => { b with stdWalls := [0, 0], utLocals := [1, 0] }),
    encodeTzif (withV2 sampleV2 fun b => { b with utLocals := [0, 1] }),
    -- leap seconds
    encodeTzif (withV2 sampleV2 fun b => { b with leaps := [(78796800, 2)] }),
    encodeTzif (withV2 sampleV2 fun b => { b with leaps := [(-1, 1)] }),
    encodeTzif (withV2 sampleV2 fun b => { b with leaps := [(78796800, 1), (78796801, 2)] }),
    -- footer framing and content
    rawFooter sampleV2 [], rawFooter sampleV2 (sampleV2.footer ++ [10]),
    rawFooter sampleV2 ([10] ++ sampleV2.footer), rawFooter sampleV2 ([10, 58] ++ sampleV2.footer ++ [10]),
    rawFooter sampleV2 ([10] ++ sampleV2.footer ++ [0, 10]), rawFooter sampleV2 ([10, 195] ++ sampleV2.footer ++ [10]),
    rawFooter sampleV2 ([10, 11] ++ sampleV2.footer ++ [10]), rawFooter sampleV2 ([32, 10] ++ sampleV2.footer ++ [10]),
    rawFooter sampleV2 (asc "\nEST5EDT\n"), rawFooter sampleV2 (asc "\nnot a rule\n"),
    -- the rule contradicts the last transition; extensions in a version-2 file; trailing data (v1)
    encodeTzif (withV2 sampleV2 fun b => { b with trans := [(1000000000, 1), (1700000000, 1)] }),
    encodeTzif { sampleV3 with version := .V2 },
    encodeTzif sampleV1 ++ [0] ]

end Chrono.Proofs.Tz
