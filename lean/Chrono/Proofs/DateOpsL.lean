/- Helper lemmas for C08 (month stepping, field replacement, week helpers). -/
import Chrono.Model.DateOps
import Chrono.Spec.DateOpsSpec
import Chrono.Proofs.DateL

namespace Chrono.Proofs
open Chrono Chrono.M Chrono.Spec Chrono.Extracted Chrono.Extracted.DateOps

/-- replacing the ordinal bits of the packed word gives the word of that day of the year -/
theorem word_replace (y : Int) (o o' : Nat) :
    (dateOfYo y o).yof - (o : Int) * 16 + (o' : Int) * 16 = (dateOfYo y o').yof := by
  unfold dateOfYo; dsimp only; omega

theorem with_mdf_spec (y : Int) (o m d : Nat) (ho : o < 512) (hm : m ≤ 12) (hd : d ≤ 31) :
    (dateOfYo y o).with_mdf (m * 512 + d * 16 + flagsOf y) =
      .ok (if validYmd y m d = true then some (dateOfYo y (ordinalOf y m d)) else none) := by
  obtain ⟨_, hord, hfl, _, _, _⟩ := dateOfYo_fields y o ho
  obtain ⟨hf16, _, hleap, _⟩ := flagsOf_facts y
  unfold Date.with_mdf Date.year_flags Mdf.year_flags
  have hflags : ¬ ((dateOfYo y o).flags ≠ (m * 512 + d * 16 + flagsOf y) % 16) := by
    rw [hfl]; omega
  rw [if_neg hflags, mdf_ordinal y m d _ hm hd hf16 hleap]
  by_cases hval : validYmd y m d = true
  · rw [if_pos hval, if_pos hval]
    dsimp only
    rw [hord, word_replace, from_yof_word y _ (ordinal_bounds_c08 y m d hval)]
  · rw [if_neg hval, if_neg hval]

theorem ymdDate_inrange (y : Int) (m d : Nat) (hy : MIN_YEAR ≤ y ∧ y ≤ MAX_YEAR) :
    ymdDate? y m d = if validYmd y m d = true then some (dateOfYo y (ordinalOf y m d)) else none :=
  ite_same _ _ ⟨fun h => h.2.2, fun h => ⟨hy.1, hy.2, h⟩⟩

theorem yoDate_inrange (y : Int) (o : Nat) (hy : MIN_YEAR ≤ y ∧ y ≤ MAX_YEAR) :
    yoDate? y o = if 1 ≤ o ∧ o ≤ yearLen y then some (dateOfYo y o) else none :=
  ite_same _ _ ⟨fun h => h.2.2, fun h => ⟨hy.1, hy.2, h⟩⟩

/-- no year has a month above 12 or a day above 31 -/
theorem ymd_none (y : Int) (m d : Nat) (h : m > 12 ∨ d > 31) :
    (if validYmd y m d = true then some (dateOfYo y (ordinalOf y m d)) else none) = none :=
  ite_neg' _ _ (fun hv => by have := valid_bounds y m d hv; omega)

/-! ### field replacement

The `_eq` forms hold for a date of any year: the replacement stays inside the year, so the range of
years plays no part; the `_spec` forms restate them with `ymdDate?` / `yoDate?` for a year of the
range. -/

/-- `with_month`, every `u32` (indeed every natural) argument -/
theorem with_month_eq (y : Int) (o : Nat) (ho : 1 ≤ o ∧ o ≤ yearLen y) (m' : Nat) :
    (dateOfYo y o).with_month m' =
      .ok (if validYmd y m' (dayOfYo y o) = true
           then some (dateOfYo y (ordinalOf y m' (dayOfYo y o))) else none) := by
  have hyl := yearLen_ge y
  obtain ⟨hmdf, hm12, hd31⟩ := mdf_spec y o ho.1 ho.2
  have hf16 := (flagsOf_facts y).1
  unfold Date.with_month
  rw [hmdf]
  dsimp only
  unfold Mdf.with_month
  by_cases hgt : m' > 12
  · rw [if_pos hgt, ymd_none y _ _ (Or.inl hgt)]
  · rw [if_neg hgt]
    dsimp only
    rw [show (monthOfYo y o * 512 + dayOfYo y o * 16 + flagsOf y) % 512 + m' * 512
      = m' * 512 + dayOfYo y o * 16 + flagsOf y by omega]
    exact with_mdf_spec y o m' (dayOfYo y o) (by omega) (by omega) hd31

/-- `with_day`, every natural argument -/
theorem with_day_eq (y : Int) (o : Nat) (ho : 1 ≤ o ∧ o ≤ yearLen y) (d' : Nat) :
    (dateOfYo y o).with_day d' =
      .ok (if validYmd y (monthOfYo y o) d' = true
           then some (dateOfYo y (ordinalOf y (monthOfYo y o) d')) else none) := by
  have hyl := yearLen_ge y
  obtain ⟨hmdf, hm12, hd31⟩ := mdf_spec y o ho.1 ho.2
  have hf16 := (flagsOf_facts y).1
  unfold Date.with_day
  rw [hmdf]
  dsimp only
  unfold Mdf.with_day
  by_cases hgt : d' > 31
  · rw [if_pos hgt, ymd_none y _ _ (Or.inr hgt)]
  · rw [if_neg hgt]
    dsimp only
    rw [show (monthOfYo y o * 512 + dayOfYo y o * 16 + flagsOf y) / 16 % 32 = dayOfYo y o from
        (mdf_fields _ _ _ hd31 hf16).2,
      show monthOfYo y o * 512 + dayOfYo y o * 16 + flagsOf y - dayOfYo y o * 16 + d' * 16
        = monthOfYo y o * 512 + d' * 16 + flagsOf y by omega]
    exact with_mdf_spec y o (monthOfYo y o) d' (by omega) hm12 (by omega)

/-- `with_ordinal`, every natural argument -/
theorem with_ordinal_eq (y : Int) (o : Nat) (ho : 1 ≤ o ∧ o ≤ yearLen y) (o' : Nat) :
    (dateOfYo y o).with_ordinal o' =
      .ok (if 1 ≤ o' ∧ o' ≤ yearLen y then some (dateOfYo y o') else none) := by
  have hyl := yearLen_ge y
  have hylc := yearLen_add_bit y _ (flagsOf_facts y).2.2.1
  have hf16 := (flagsOf_facts y).1
  unfold Date.with_ordinal
  rw [show WO_ZERO = 0 from rfl, show WO_MAX = 366 from rfl]
  by_cases hr : o' = 0 ∨ o' > 366
  · rw [if_pos hr, if_neg (by omega)]
  · rw [if_neg hr, (dateOfYo_fields y o (by omega)).2.1, word_replace]
    dsimp only
    rw [ol_word y o' (by omega), show DATE_MAX_OL = 5856 from rfl]
    by_cases hle : o' ≤ yearLen y
    · rw [if_pos (by omega), from_yof_word y o' ⟨by omega, hle⟩, if_pos ⟨by omega, hle⟩]
    · rw [if_neg (by omega), if_neg (fun h => hle h.2)]

/-- the 0-based forms are the 1-based ones at the successor: `checked_add(1)` refuses only
`u32::MAX`, and no month, day or ordinal is that large -/
theorem with_month0_succ (y : Int) (o : Nat) (ho : 1 ≤ o ∧ o ≤ yearLen y) (m0 : Nat) :
    (dateOfYo y o).with_month0 m0 = (dateOfYo y o).with_month (m0 + 1) := by
  have hU : U32_MAX = 4294967295 := rfl
  unfold Date.with_month0
  by_cases h : (m0 : Int) + 1 ≤ U32_MAX
  · rw [if_pos h]
  · rw [if_neg h, with_month_eq y o ho, ymd_none y _ _ (Or.inl (by omega))]

theorem with_day0_succ (y : Int) (o : Nat) (ho : 1 ≤ o ∧ o ≤ yearLen y) (d0 : Nat) :
    (dateOfYo y o).with_day0 d0 = (dateOfYo y o).with_day (d0 + 1) := by
  have hU : U32_MAX = 4294967295 := rfl
  unfold Date.with_day0
  by_cases h : (d0 : Int) + 1 ≤ U32_MAX
  · rw [if_pos h]
  · rw [if_neg h, with_day_eq y o ho, ymd_none y _ _ (Or.inr (by omega))]

theorem with_ordinal0_succ (y : Int) (o : Nat) (ho : 1 ≤ o ∧ o ≤ yearLen y) (o0 : Nat) :
    (dateOfYo y o).with_ordinal0 o0 = (dateOfYo y o).with_ordinal (o0 + 1) := by
  have hyl := yearLen_ge y
  have hU : U32_MAX = 4294967295 := rfl
  unfold Date.with_ordinal0
  by_cases h : (o0 : Int) + 1 ≤ U32_MAX
  · rw [if_pos h]
  · rw [if_neg h, with_ordinal_eq y o ho, if_neg (by omega)]

theorem with_month_spec (y : Int) (o : Nat) (hy : MIN_YEAR ≤ y ∧ y ≤ MAX_YEAR) (ho : 1 ≤ o ∧ o ≤ yearLen y)
    (m' : Nat) :
    (dateOfYo y o).with_month m' = .ok (ymdDate? y m' (dayOfYo y o)) := by
  rw [ymdDate_inrange y _ _ hy, with_month_eq y o ho]

theorem with_day_spec (y : Int) (o : Nat) (hy : MIN_YEAR ≤ y ∧ y ≤ MAX_YEAR) (ho : 1 ≤ o ∧ o ≤ yearLen y)
    (d' : Nat) :
    (dateOfYo y o).with_day d' = .ok (ymdDate? y (monthOfYo y o) d') := by
  rw [ymdDate_inrange y _ _ hy, with_day_eq y o ho]

theorem with_month0_spec (y : Int) (o : Nat) (hy : MIN_YEAR ≤ y ∧ y ≤ MAX_YEAR) (ho : 1 ≤ o ∧ o ≤ yearLen y)
    (m0 : Nat) :
    (dateOfYo y o).with_month0 m0 = .ok (ymdDate? y (m0 + 1) (dayOfYo y o)) := by
  rw [with_month0_succ y o ho, with_month_spec y o hy ho]

theorem with_day0_spec (y : Int) (o : Nat) (hy : MIN_YEAR ≤ y ∧ y ≤ MAX_YEAR) (ho : 1 ≤ o ∧ o ≤ yearLen y)
    (d0 : Nat) :
    (dateOfYo y o).with_day0 d0 = .ok (ymdDate? y (monthOfYo y o) (d0 + 1)) := by
  rw [with_day0_succ y o ho, with_day_spec y o hy ho]

theorem with_ordinal_spec (y : Int) (o : Nat) (hy : MIN_YEAR ≤ y ∧ y ≤ MAX_YEAR) (ho : 1 ≤ o ∧ o ≤ yearLen y)
    (o' : Nat) :
    (dateOfYo y o).with_ordinal o' = .ok (yoDate? y o') := by
  rw [yoDate_inrange y _ hy, with_ordinal_eq y o ho]

theorem with_ordinal0_spec (y : Int) (o : Nat) (hy : MIN_YEAR ≤ y ∧ y ≤ MAX_YEAR) (ho : 1 ≤ o ∧ o ≤ yearLen y)
    (o0 : Nat) :
    (dateOfYo y o).with_ordinal0 o0 = .ok (yoDate? y (o0 + 1)) := by
  rw [with_ordinal0_succ y o ho, with_ordinal_spec y o hy ho]

/-- `with_year`, every integer argument: the same month and day in the new year -/
theorem with_year_spec (y : Int) (o : Nat) (ho : 1 ≤ o ∧ o ≤ yearLen y) (y' : Int) :
    (dateOfYo y o).with_year y' = .ok (ymdDate? y' (monthOfYo y o) (dayOfYo y o)) := by
  obtain ⟨hmdf, hm12, hd31⟩ := mdf_spec y o ho.1 ho.2
  have hf16 := (flagsOf_facts y).1
  have hnew : Mdf.new (monthOfYo y o) (dayOfYo y o) (YearFlags.from_year y')
      = some (monthOfYo y o * 512 + dayOfYo y o * 16 + YearFlags.from_year y') := if_pos ⟨hm12, hd31⟩
  have hc := ctor_ymd' y' (monthOfYo y o) (dayOfYo y o)
  unfold Date.from_ymd_opt at hc
  dsimp only at hc
  rw [hnew] at hc
  dsimp only at hc
  unfold Date.with_year
  rw [hmdf]
  dsimp only
  unfold Mdf.with_flags
  rw [show (monthOfYo y o * 512 + dayOfYo y o * 16 + flagsOf y)
        - (monthOfYo y o * 512 + dayOfYo y o * 16 + flagsOf y) % 16 + YearFlags.from_year y'
      = monthOfYo y o * 512 + dayOfYo y o * 16 + YearFlags.from_year y' by omega, hc]
  rfl

/-- the local month-length array of `diff_months` (as extracted) is the calendar's `monthLen` -/
theorem dm_day_max (y : Int) (k : Nat) (hk : k < 12) :
    (if k = DM_FEB_INDEX then (if yearLen y = DM_NDAYS_LEAP then DM_FEB_LEAP else DM_FEB_COMMON)
      else DM_DAYS.getD k 0) = monthLen y (k + 1) := by
  match k, hk with
  | 1, _ =>
    unfold yearLen monthLen
    cases isLeap y <;> decide
  | 0, _ | 2, _ | 3, _ | 4, _ | 5, _ | 6, _ | 7, _ | 8, _ | 9, _ | 10, _ | 11, _ => rfl

theorem ite_min (a b : Nat) : (if a > b then b else a) = min a b := by
  rw [Nat.min_def]; split <;> split <;> omega

theorem monthLen_pos (y : Int) (m : Nat) (h1 : 1 ≤ m) (h2 : m ≤ 12) : 28 ≤ monthLen y m ∧ monthLen y m ≤ 31 :=
  have h := month_facts y m h2 h1
  ⟨h.1, h.2.1⟩

/-- `diff_months`, every month count (the `i32` range is not even needed), a date of any year whose
month index `year·12 + month − 1` is an `i32` -/
theorem diff_months_eq (y : Int) (o : Nat) (hy : -2147483648 ≤ y * 12 ∧ y * 12 + 11 ≤ 2147483647)
    (ho : 1 ≤ o ∧ o ≤ yearLen y) (n : Int) :
    (dateOfYo y o).diff_months n = .ok (addMonths? y (monthOfYo y o) (dayOfYo y o) n) := by
  have hyl := yearLen_ge y
  have hMIN : MIN_YEAR = -262143 := rfl
  have hMAX : MAX_YEAR = 262142 := rfl
  obtain ⟨hyear, _, _, _, _, _⟩ := dateOfYo_fields y o (by omega)
  obtain ⟨m1, m2, m3, _⟩ := month_day_spec y o ho.1 ho.2
  obtain ⟨hm1, hm12, hd1, hdl⟩ := (valid_iff y _ _).mp m3
  unfold Date.diff_months
  rw [m1, m2, hyear]
  dsimp only
  rw [show DM_MUL = 12 from rfl, show DM_SUB = 1 from rfl, show DM_DIV = 12 from rfl,
    show DM_REM = 12 from rfl, show DM_ADD = 1 from rfl]
  generalize monthOfYo y o = m at *
  generalize dayOfYo y o = d at *
  rw [ckI32_ok (by omega) (by omega)]
  dsimp only
  rw [ckI32_ok (by omega) (by omega)]
  dsimp only
  rw [ckI32_ok (by omega) (by omega)]
  dsimp only
  unfold addMonths? stepDay stepYear stepMonth monthIndex
  generalize hT : y * 12 + (m : Int) - 1 + n = T
  by_cases hov : -2147483648 ≤ T ∧ T ≤ 2147483647
  · rw [optI32_some hov.1 hov.2]
    dsimp only
    have hk0 : 0 ≤ T % 12 := Int.emod_nonneg _ (by decide)
    have hk1 : T % 12 < 12 := Int.emod_lt_of_pos _ (by decide)
    generalize hK : (T % 12).toNat = k
    have hk : k < 12 := by omega
    rw [Nat.add_sub_cancel, if_pos (show k < DM_DAYS.length from hk), from_year_spec, ndays_spec,
      dm_day_max (T / 12) k hk, ite_min, ctor_ymd']
    rfl
  · rw [optI32_none (by omega)]
    dsimp only
    congr 1; symm
    unfold ymdDate?
    apply ite_neg'
    intro h
    omega

theorem diff_months_spec (y : Int) (o : Nat) (hy : MIN_YEAR ≤ y ∧ y ≤ MAX_YEAR) (ho : 1 ≤ o ∧ o ≤ yearLen y)
    (n : Int) :
    (dateOfYo y o).diff_months n = .ok (addMonths? y (monthOfYo y o) (dayOfYo y o) n) := by
  rw [show MIN_YEAR = -262143 from rfl, show MAX_YEAR = 262142 from rfl] at hy
  exact diff_months_eq y o (by omega) ho n

theorem ymd_fields (y : Int) (m d : Nat) (hv : validYmd y m d = true) :
    (dateOfYo y (ordinalOf y m d)).year = y ∧ (dateOfYo y (ordinalOf y m d)).month = .ok m ∧
    (dateOfYo y (ordinalOf y m d)).day = .ok d ∧ (dateOfYo y (ordinalOf y m d)).ordinal = ordinalOf y m d := by
  have hb := ordinal_bounds_c08 y m d hv
  have hyl := yearLen_ge y
  obtain ⟨h1, h2, _⟩ := dateOfYo_fields y (ordinalOf y m d) (by omega)
  obtain ⟨m1, m2, _, _⟩ := month_day_spec y (ordinalOf y m d) hb.1 hb.2
  obtain ⟨u1, u2⟩ := ymd_unique y m d hv
  rw [u1] at m1; rw [u2] at m2
  exact ⟨h1, m1, m2, h2⟩

theorem step_valid (y : Int) (m d : Nat) (n : Int) (hd : 1 ≤ d) :
    validYmd (stepYear y m n) (stepMonth y m n) (stepDay y m d n) = true ∧
    1 ≤ stepMonth y m n ∧ stepMonth y m n ≤ 12 := by
  have hk0 : 0 ≤ (monthIndex y m + n) % 12 := Int.emod_nonneg _ (by decide)
  have hk1 : (monthIndex y m + n) % 12 < 12 := Int.emod_lt_of_pos _ (by decide)
  have h12 : 1 ≤ stepMonth y m n ∧ stepMonth y m n ≤ 12 := by unfold stepMonth; omega
  have hl := monthLen_pos (stepYear y m n) (stepMonth y m n) h12.1 h12.2
  refine ⟨(valid_iff _ _ _).mpr ⟨h12.1, h12.2, ?_, ?_⟩, h12⟩
  · unfold stepDay; omega
  · unfold stepDay; omega

/-- stepping fails exactly when the target year leaves the supported range -/
theorem addMonths_none_iff (y : Int) (m d : Nat) (n : Int) (hd : 1 ≤ d) :
    addMonths? y m d n = none ↔ (stepYear y m n < MIN_YEAR ∨ stepYear y m n > MAX_YEAR) := by
  have hv := (step_valid y m d n hd).1
  unfold addMonths? ymdDate?
  constructor
  · intro h
    by_cases hc : MIN_YEAR ≤ stepYear y m n ∧ stepYear y m n ≤ MAX_YEAR
    · rw [if_pos ⟨hc.1, hc.2, hv⟩] at h; cases h
    · omega
  · intro h; apply ite_neg'; intro hc; omega

theorem addMonths_some (y : Int) (m d : Nat) (n : Int) (hd : 1 ≤ d)
    (hr : MIN_YEAR ≤ stepYear y m n ∧ stepYear y m n ≤ MAX_YEAR) :
    addMonths? y m d n =
      some (dateOfYo (stepYear y m n) (ordinalOf (stepYear y m n) (stepMonth y m n) (stepDay y m d n))) := by
  have hv := (step_valid y m d n hd).1
  unfold addMonths? ymdDate?
  rw [if_pos ⟨hr.1, hr.2, hv⟩]

theorem addMonths_zero (y : Int) (o : Nat) (hy : MIN_YEAR ≤ y ∧ y ≤ MAX_YEAR) (ho : 1 ≤ o ∧ o ≤ yearLen y) :
    addMonths? y (monthOfYo y o) (dayOfYo y o) 0 = some (dateOfYo y o) := by
  obtain ⟨_, _, m3, m4⟩ := month_day_spec y o ho.1 ho.2
  obtain ⟨hm1, hm12, hd1, hdl⟩ := (valid_iff y _ _).mp m3
  have e1 : stepYear y (monthOfYo y o) 0 = y := by unfold stepYear monthIndex; omega
  have e2 : stepMonth y (monthOfYo y o) 0 = monthOfYo y o := by unfold stepMonth monthIndex; omega
  have e3 : stepDay y (monthOfYo y o) (dayOfYo y o) 0 = dayOfYo y o := by
    unfold stepDay; rw [e1, e2]; omega
  unfold addMonths?
  rw [e1, e2, e3, ymdDate_inrange y _ _ hy, if_pos m3, m4]

/-- the body shared by `checked_add_months` and `checked_sub_months`, `s = ±n` the signed count:
zero months is the identity, a count above `i32::MAX` leaves the range of years in either direction -/
theorem months_signed (y : Int) (o : Nat) (hy : MIN_YEAR ≤ y ∧ y ≤ MAX_YEAR) (ho : 1 ≤ o ∧ o ≤ yearLen y)
    (n : Nat) (s : Int) (hs : s = n ∨ s = -(n : Int)) :
    (if n = 0 then .ok (some (dateOfYo y o))
      else if (n : Int) ≤ I32_MAX then (dateOfYo y o).diff_months s else .ok none) =
      .ok (addMonths? y (monthOfYo y o) (dayOfYo y o) s) := by
  have hMIN : MIN_YEAR = -262143 := rfl
  have hMAX : MAX_YEAR = 262142 := rfl
  have hI : I32_MAX = 2147483647 := rfl
  obtain ⟨_, _, m3, _⟩ := month_day_spec y o ho.1 ho.2
  obtain ⟨hm1, hm12, hd1, _⟩ := (valid_iff y _ _).mp m3
  by_cases h0 : n = 0
  · rw [if_pos h0, show s = 0 by omega, addMonths_zero y o hy ho]
  · rw [if_neg h0]
    by_cases hle : (n : Int) ≤ I32_MAX
    · rw [if_pos hle]; exact diff_months_spec y o hy ho s
    · rw [if_neg hle]; congr 1; symm
      rw [addMonths_none_iff _ _ _ _ hd1]
      unfold stepYear monthIndex; omega

theorem add_months_spec (y : Int) (o : Nat) (hy : MIN_YEAR ≤ y ∧ y ≤ MAX_YEAR) (ho : 1 ≤ o ∧ o ≤ yearLen y)
    (n : Nat) :
    (dateOfYo y o).checked_add_months n = .ok (addMonths? y (monthOfYo y o) (dayOfYo y o) n) :=
  months_signed y o hy ho n n (Or.inl rfl)

theorem sub_months_spec (y : Int) (o : Nat) (hy : MIN_YEAR ≤ y ∧ y ≤ MAX_YEAR) (ho : 1 ≤ o ∧ o ≤ yearLen y)
    (n : Nat) :
    (dateOfYo y o).checked_sub_months n = .ok (addMonths? y (monthOfYo y o) (dayOfYo y o) (-(n : Int))) :=
  months_signed y o hy ho n _ (Or.inr rfl)

theorem years_since_eq (y1 y0 : Int) (o1 o0 : Nat) (hy1 : MIN_YEAR ≤ y1 ∧ y1 ≤ MAX_YEAR)
    (hy0 : MIN_YEAR ≤ y0 ∧ y0 ≤ MAX_YEAR) (ho1 : 1 ≤ o1 ∧ o1 ≤ yearLen y1) (ho0 : 1 ≤ o0 ∧ o0 ≤ yearLen y0) :
    (dateOfYo y1 o1).years_since (dateOfYo y0 o0) =
      .ok (let k := y1 - y0 - (if monthOfYo y1 o1 * 32 + dayOfYo y1 o1 < monthOfYo y0 o0 * 32 + dayOfYo y0 o0
                                then 1 else 0)
           if k ≥ 0 then some k else none) := by
  have hMIN : MIN_YEAR = -262143 := rfl
  have hMAX : MAX_YEAR = 262142 := rfl
  have hl1 := yearLen_ge y1
  have hl0 := yearLen_ge y0
  obtain ⟨hyear1, _⟩ := dateOfYo_fields y1 o1 (by omega)
  obtain ⟨hyear0, _⟩ := dateOfYo_fields y0 o0 (by omega)
  obtain ⟨a1, a2, _, _⟩ := month_day_spec y1 o1 ho1.1 ho1.2
  obtain ⟨b1, b2, _, _⟩ := month_day_spec y0 o0 ho0.1 ho0.2
  unfold Date.years_since
  rw [hyear1, hyear0, a1, a2, b1, b2, ckI32_ok (by omega) (by omega)]
  dsimp only
  by_cases hlt : monthOfYo y1 o1 * 32 + dayOfYo y1 o1 < monthOfYo y0 o0 * 32 + dayOfYo y0 o0
  · rw [if_pos hlt, if_pos hlt, ckI32_ok (by omega) (by omega)]
    dsimp only
    split <;> rfl
  · rw [if_neg hlt, if_neg hlt]
    dsimp only
    rw [Int.sub_zero]
    split <;> rfl

theorem quarter_spec (y : Int) (o : Nat) (ho : 1 ≤ o ∧ o ≤ yearLen y) :
    (dateOfYo y o).quarter = .ok ((monthOfYo y o - 1) / 3 + 1) := by
  obtain ⟨m1, _, m3, _⟩ := month_day_spec y o ho.1 ho.2
  obtain ⟨hm1, _, _, _⟩ := (valid_iff y _ _).mp m3
  unfold Date.quarter
  rw [m1]
  dsimp only
  rw [show Q_SUB = 1 from rfl, show Q_DIV = 3 from rfl, show Q_ADD = 1 from rfl, if_neg (by omega)]

theorem year_ce_spec (y : Int) (o : Nat) (hy : MIN_YEAR ≤ y ∧ y ≤ MAX_YEAR) (ho : o < 512) :
    (dateOfYo y o).year_ce = .ok (if y < 1 then (false, 1 - y) else (true, y)) := by
  have hMIN : MIN_YEAR = -262143 := rfl
  have hMAX : MAX_YEAR = 262142 := rfl
  obtain ⟨hyear, _⟩ := dateOfYo_fields y o ho
  unfold Date.year_ce
  rw [hyear]
  dsimp only
  by_cases h : y < 1
  · rw [if_pos h, if_pos h, ckI32_ok (by omega) (by omega)]
    dsimp only
    rw [asU32_id (by omega) (by omega)]
  · rw [if_neg h, if_neg h, asU32_id (by omega) (by omega)]

theorem from_u32_spec (m : Nat) (h1 : 1 ≤ m) (h12 : m ≤ 12) :
    ∃ mo, Month.from_u32 (m : Int) = some mo ∧ mo.toNat + 1 = m := by
  have h : ∀ m : Nat, m < 13 → 1 ≤ m →
      (Month.from_u32 (m : Int)).map (fun mo => mo.toNat + 1) = some m := by decide
  exact Option.map_eq_some_iff.mp (h m (by omega) h1)

/-- `Month::num_days`: the calendar's month length for every year of the range; only February
looks at the year, so every other month answers for every `i32` year -/
theorem month_num_days_spec (mo : Month) (y : Int) :
    mo.num_days y = .ok (if mo = .feb ∧ (y < MIN_YEAR ∨ y > MAX_YEAR) then none
                         else some (monthLen y (mo.toNat + 1))) := by
  cases mo
  case feb =>
    unfold Month.num_days
    rw [if_pos (show Month.feb.toNat = 1 from rfl), show MN_FEB_MONTH = 2 from rfl, show MN_FEB_DAY = 1 from rfl, ctor_ymd']
    have hv : validYmd y 2 1 = true := by
      rw [valid_iff]; have := monthLen_pos y 2 (by omega) (by omega); omega
    by_cases hr : y < MIN_YEAR ∨ y > MAX_YEAR
    · rw [if_neg (by intro h; omega), if_pos ⟨rfl, hr⟩]
    · rw [if_pos ⟨by omega, by omega, hv⟩, if_neg (by intro h; exact hr h.2)]
      dsimp only
      have hb := ordinal_bounds_c08 y 2 1 hv
      have hyl := yearLen_ge y
      obtain ⟨_, _, _, _, _, hleap⟩ := dateOfYo_fields y (ordinalOf y 2 1) (by omega)
      rw [hleap]
      unfold monthLen
      cases isLeap y <;> rfl
  all_goals (unfold Month.num_days; rw [if_neg (by decide), if_neg (by intro h; cases h.1)]; rfl)

theorem num_days_in_month_spec (y : Int) (o : Nat) (hy : MIN_YEAR ≤ y ∧ y ≤ MAX_YEAR)
    (ho : 1 ≤ o ∧ o ≤ yearLen y) :
    (dateOfYo y o).num_days_in_month = .ok (monthLen y (monthOfYo y o)) := by
  have hyl := yearLen_ge y
  obtain ⟨hyear, _⟩ := dateOfYo_fields y o (by omega)
  obtain ⟨m1, _, m3, _⟩ := month_day_spec y o ho.1 ho.2
  obtain ⟨hm1, hm12, _, _⟩ := (valid_iff y _ _).mp m3
  obtain ⟨mo, hmo, hidx⟩ := from_u32_spec _ hm1 hm12
  unfold Date.num_days_in_month
  rw [m1]
  dsimp only
  rw [hmo]
  dsimp only
  rw [hyear, month_num_days_spec, if_neg (by intro h; omega), hidx]

theorem number_from_monday_eq (w : Weekday) : w.number_from_monday = w.toNat + 1 := by
  cases w <;> rfl
theorem num_days_from_monday_eq (w : Weekday) : w.num_days_from_monday = w.toNat := by
  cases w <;> rfl
theorem weekday_toNat_lt (w : Weekday) : w.toNat < 7 := by cases w <;> decide
theorem pred_toNat (w : Weekday) : w.pred.toNat = (w.toNat + 6) % 7 := by cases w <;> rfl

theorem nth_weekday_eq (y : Int) (m : Nat) (w : Weekday) (n : Nat) :
    Date.from_weekday_of_month_opt y m w n =
      .ok (if n = 0 then none else ymdDate? y m (nthWeekdayDay y m w.toNat n)) := by
  unfold Date.from_weekday_of_month_opt
  by_cases hn : n = 0
  · rw [if_pos hn, if_pos hn]
  · rw [if_neg hn, if_neg hn, ctor_ymd']
    by_cases hc : MIN_YEAR ≤ y ∧ y ≤ MAX_YEAR ∧ validYmd y m 1 = true
    · rw [if_pos hc]
      dsimp only
      have hb := ordinal_bounds_c08 y m 1 hc.2.2
      have hyl := yearLen_ge y
      have hwd := weekday_spec y (ordinalOf y m 1) (by omega)
      have hw7 := weekday_toNat_lt w
      have hf7 := weekday_toNat_lt (dateOfYo y (ordinalOf y m 1)).weekday
      rw [number_from_monday_eq, number_from_monday_eq, ctor_ymd']
      have hday : (n - 1) * 7 + (7 + (w.toNat + 1) - ((dateOfYo y (ordinalOf y m 1)).weekday.toNat + 1)) % 7 + 1
          = nthWeekdayDay y m w.toNat n := by
        unfold nthWeekdayDay dayNum
        rw [← hwd]
        omega
      rw [hday]
      rfl
    · rw [if_neg hc]
      dsimp only
      congr 1; symm
      unfold ymdDate?
      apply ite_neg'
      intro h
      apply hc
      refine ⟨h.1, h.2.1, ?_⟩
      obtain ⟨a, b, _, _⟩ := (valid_iff y m _).mp h.2.2
      rw [valid_iff]
      have := monthLen_pos y m a b
      omega

/-! ### (month, day) order is ordinal order within a year -/
theorem ymd_lex_ordinal (y1 y0 : Int) (m1 d1 m0 d0 : Nat) (h1 : validYmd y1 m1 d1 = true)
    (h0 : validYmd y0 m0 d0 = true) (hy : y1 = y0) :
    m1 * 32 + d1 < m0 * 32 + d0 ↔ ordinalOf y1 m1 d1 < ordinalOf y0 m0 d0 := by
  subst hy
  obtain ⟨a1, a2, a3, a4⟩ := (valid_iff _ _ _).mp h1
  obtain ⟨b1, b2, b3, b4⟩ := (valid_iff _ _ _).mp h0
  have ha := valid_bounds _ _ _ h1
  have hb := valid_bounds _ _ _ h0
  rw [ordinalOf_add y1 m1 d1, ordinalOf_add y1 m0 d0]
  rcases Nat.lt_trichotomy m1 m0 with h | h | h
  · have := month_end_le y1 m1 m0 a1 h b2
    omega
  · subst h; omega
  · have := month_end_le y1 m0 m1 b1 h a2
    omega

/-! ### day stepping (used by the week helpers) -/
theorem from_days_nf (N : Int) (h : -2147483648 ≤ N + 365 ∧ N + 365 ≤ 2147483647) :
    Date.from_num_days_from_ce_opt N =
      Date.from_ordinal_and_flags ((N + 365) / 146097 * 400 + ((Date.cycle_to_yo ((N + 365) % 146097).toNat).1 : Nat))
        (Date.cycle_to_yo ((N + 365) % 146097).toNat).2
        (YearFlags.from_year_mod_400 ((Date.cycle_to_yo ((N + 365) % 146097).toNat).1 : Nat)) := by
  unfold Date.from_num_days_from_ce_opt
  rw [optI32_some h.1 h.2]
  dsimp only
  have hc0 : 0 ≤ (N + 365) % 146097 := Int.emod_nonneg _ (by decide)
  have hc1 : (N + 365) % 146097 < 146097 := Int.emod_lt_of_pos _ (by decide)
  have hk : ((N + 365) % 146097).toNat < 146097 := by omega
  obtain ⟨s1, _, _, _⟩ := cycle_to_yo_spec _ hk
  generalize Date.cycle_to_yo ((N + 365) % 146097).toNat = p at *
  obtain ⟨ym, ord⟩ := p
  dsimp only at *
  rw [ckI32_ok (by omega) (by omega)]

/-- `add_days` moves the day number by exactly `days`, or fails exactly when that leaves the range -/
theorem add_days_spec_c08 (y : Int) (o : Nat) (hy : MIN_YEAR ≤ y ∧ y ≤ MAX_YEAR) (ho : 1 ≤ o ∧ o ≤ yearLen y)
    (days : Int) (hd : -1000000000 ≤ days ∧ days ≤ 1000000000) :
    ∃ r, (dateOfYo y o).add_days days = .ok r ∧ IsDateOfDayNum r (dayNumYo y o + days) := by
  have hMIN : MIN_YEAR = -262143 := rfl
  have hMAX : MAX_YEAR = 262142 := rfl
  have hyl := yearLen_ge y
  obtain ⟨hyear, hord, _, _, _, hleap⟩ := dateOfYo_fields y o (by omega)
  have hrange := (range_iff_iso y o ho).mp hy
  have hdmin : dayNumYo MIN_YEAR 1 = -95746129 := by decide
  have hdmax : dayNumYo MAX_YEAR 365 = 95745399 := by decide
  unfold Date.add_days
  rw [hord, hleap, hyear, optI32_some (by omega) (by omega)]
  dsimp only
  have hyl' : (365 + (if isLeap y = true then 1 else 0) : Int) = yearLen y := by
    unfold yearLen; cases isLeap y <;> simp
  rw [hyl']
  by_cases hfast : (o : Int) + days > 0 ∧ (o : Int) + days ≤ yearLen y
  · rw [if_pos hfast]
    dsimp only
    obtain ⟨k, hk⟩ := Int.eq_ofNat_of_zero_le (show 0 ≤ (o : Int) + days by omega)
    rw [hk, word_replace, from_yof_word y k ⟨by omega, by omega⟩]
    dsimp only
    have hr2 := (range_iff_iso y k ⟨by omega, by omega⟩).mp hy
    have hdn : dayNumYo y k = dayNumYo y o + days := by unfold dayNumYo; omega
    refine ⟨_, rfl, ?_, ?_⟩
    · constructor
      · intro h; cases h
      · intro h; exfalso; omega
    · intro d hd'
      exact ⟨y, k, (Option.some.inj hd').symm, hy.1, hy.2, by omega, by omega, hdn⟩
  · rw [if_neg hfast]
    dsimp only
    -- the slow path: the same computation as the day-number constructor on `dayNumYo y o + days`
    obtain ⟨ymn, hymn⟩ := Int.eq_ofNat_of_zero_le (Int.emod_nonneg y (by decide : (400 : Int) ≠ 0))
    have hm1 : y % 400 < 400 := Int.emod_lt_of_pos _ (by decide)
    rw [hymn]
    simp only [Int.toNat_natCast]
    unfold Date.yo_to_cycle
    rw [table_yd.2 ymn (by omega)]
    have hL := (leaps_fin ymn (by omega)).2.1
    have hident : dayNumYo y o + days + 365
        = ((ymn * 365 + leapsBefore ymn + o - 1 : Nat) : Int) + days + 146097 * (y / 400) := by
      unfold dayNumYo
      rw [dby_mod400 y, hymn, dby_small ymn (by omega)]
      omega
    generalize hT : ((ymn * 365 + leapsBefore ymn + o - 1 : Nat) : Int) + days = T at hident ⊢
    have hTb : -1000000000 ≤ T ∧ T ≤ 1000200000 := by omega
    have hq : -7000 ≤ T / 146097 ∧ T / 146097 ≤ 7000 := by clear hident hT; omega
    have hy400 : -700 ≤ y / 400 ∧ y / 400 ≤ 700 := by clear hident hT; omega
    rw [optI32_some (by omega) (by omega)]
    dsimp only
    have hN := from_days_nf (dayNumYo y o + days) (by omega)
    obtain ⟨r, hr, hsome, hnone⟩ := ctor_days' (dayNumYo y o + days) (by omega)
    rw [hN, hident, Int.add_mul_ediv_left _ _ (by decide), Int.add_mul_emod_self_left,
      Int.add_comm (T / 146097)] at hr
    have hk : (T % 146097).toNat < 146097 := by
      have := Int.emod_nonneg T (by decide : (146097 : Int) ≠ 0)
      have := Int.emod_lt_of_pos T (by decide : (0 : Int) < 146097)
      omega
    obtain ⟨s1, _, _, _⟩ := cycle_to_yo_spec _ hk
    generalize Date.cycle_to_yo (T % 146097).toNat = p at *
    obtain ⟨ym, ord⟩ := p
    dsimp only at *
    clear hident hT hN hL hrange
    rw [ckI32_ok (by omega) (by omega)]
    dsimp only
    rw [ckI32_ok (by omega) (by omega)]
    dsimp only
    rw [ckI32_ok (by omega) (by omega)]
    exact ⟨r, hr, hnone, hsome⟩


theorem daysBack_range (wd s : Int) : 0 ≤ daysBack wd s ∧ daysBack wd s ≤ 6 := by
  unfold daysBack; omega

/-- going back `daysBack` days lands on the chosen weekday -/
theorem daysBack_weekday (n s : Int) (hs : 0 ≤ s ∧ s < 7) :
    weekdayOf (n - daysBack (weekdayOf n) s) = s := by
  unfold daysBack weekdayOf; omega

theorem week_first_spec (y : Int) (o : Nat) (hy : MIN_YEAR ≤ y ∧ y ≤ MAX_YEAR) (ho : 1 ≤ o ∧ o ≤ yearLen y)
    (s : Weekday) :
    ∃ r, ((dateOfYo y o).week s).checked_first_day = .ok r ∧
      IsDateOfDayNum r (dayNumYo y o - daysBack (weekdayOf (dayNumYo y o)) s.toNat) := by
  have hyl := yearLen_ge y
  have hwd := weekday_spec y o (by omega)
  have hw7 := weekday_toNat_lt (dateOfYo y o).weekday
  have hs7 := weekday_toNat_lt s
  unfold NaiveWeek.checked_first_day Date.week
  dsimp only
  rw [num_days_from_monday_eq, num_days_from_monday_eq]
  have hdays : ((s.toNat : Int) - ((dateOfYo y o).weekday.toNat : Int)
        - (if (s.toNat : Int) > ((dateOfYo y o).weekday.toNat : Int) then 7 else 0))
      = -(daysBack (weekdayOf (dayNumYo y o)) s.toNat) := by
    rw [← hwd]; unfold daysBack; omega
  rw [hdays]
  have hb := daysBack_range (weekdayOf (dayNumYo y o)) s.toNat
  obtain ⟨r, hr, hspec⟩ := add_days_spec_c08 y o hy ho (-(daysBack (weekdayOf (dayNumYo y o)) s.toNat)) (by omega)
  exact ⟨r, hr, by rw [Int.sub_eq_add_neg]; exact hspec⟩

theorem week_last_spec (y : Int) (o : Nat) (hy : MIN_YEAR ≤ y ∧ y ≤ MAX_YEAR) (ho : 1 ≤ o ∧ o ≤ yearLen y)
    (s : Weekday) :
    ∃ r, ((dateOfYo y o).week s).checked_last_day = .ok r ∧
      IsDateOfDayNum r (dayNumYo y o - daysBack (weekdayOf (dayNumYo y o)) s.toNat + 6) := by
  have hyl := yearLen_ge y
  have hwd := weekday_spec y o (by omega)
  have hw7 := weekday_toNat_lt (dateOfYo y o).weekday
  have hs7 := weekday_toNat_lt s
  unfold NaiveWeek.checked_last_day Date.week
  dsimp only
  rw [num_days_from_monday_eq, num_days_from_monday_eq, pred_toNat]
  have hdays : ((((s.toNat + 6) % 7 : Nat) : Int) - ((dateOfYo y o).weekday.toNat : Int)
        + (if (((s.toNat + 6) % 7 : Nat) : Int) < ((dateOfYo y o).weekday.toNat : Int) then 7 else 0))
      = 6 - daysBack (weekdayOf (dayNumYo y o)) s.toNat := by
    rw [← hwd]; unfold daysBack; omega
  rw [hdays]
  have hb := daysBack_range (weekdayOf (dayNumYo y o)) s.toNat
  obtain ⟨r, hr, hspec⟩ := add_days_spec_c08 y o hy ho (6 - daysBack (weekdayOf (dayNumYo y o)) s.toNat) (by omega)
  refine ⟨r, hr, ?_⟩
  have e : dayNumYo y o - daysBack (weekdayOf (dayNumYo y o)) ↑s.toNat + 6
      = dayNumYo y o + (6 - daysBack (weekdayOf (dayNumYo y o)) ↑s.toNat) := by omega
  rw [e]; exact hspec

end Chrono.Proofs
