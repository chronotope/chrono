/-
  C16, part 6: decode soundness for ARBITRARY accepted bytes — the zone `parse` returns is, field by
  field, what the bytes say at the offsets the header counts determine (Spec/TzDecodeSpec.lean); and
  the version field of the second header.
-/
import Chrono.Proofs.TzLayoutL
import Chrono.Spec.TzDecodeSpec

set_option linter.unusedSimpArgs false
set_option linter.unusedVariables false

namespace Chrono.Proofs.TzDecode
open Chrono Chrono.M.Tz Chrono.Spec.Tz Chrono.Proofs Chrono.Proofs.Tz Chrono.Proofs.TzValid
  Chrono.Extracted.TzP

theorem post_state_fields (c : Cursor) (first : Bool) :
    Post (State.new c first) (fun r => Sliced r.1 c (if first then 4 else 8)) :=
  post_mono (post_state_layout c first) fun _ h => h.1

/-! ### `chunks_exact` by index -/
theorem chunksN_eq_range (k n : Nat) (l : List Nat) :
    chunksN k n l = (List.range k).map (fun i => record l n i) := by
  induction k generalizing l with
  | zero => rfl
  | succ k ih =>
    rw [chunksN, ih, List.range_succ_eq_map, List.map_cons, List.map_map]
    congr 1
    · simp [record, field]
    · apply List.map_congr_left
      intro i _
      simp only [Function.comp, record, field, List.drop_drop]
      congr 2
      rw [Nat.succ_mul]; omega

theorem chunks_exact_eq (k n : Nat) (l : List Nat) (hn : 0 < n) (hl : l.length = k * n) :
    chunks_exact n l = (List.range k).map (fun i => record l n i) := by
  unfold chunks_exact
  rw [hl, Nat.mul_div_cancel _ hn, chunksN_eq_range]

theorem record_len (l : List Nat) (n k i : Nat) (hl : l.length = k * n) (hi : i < k) :
    (record l n i).length = n := by
  unfold record field
  have h1 : (i + 1) * n ≤ k * n := Nat.mul_le_mul_right n hi
  rw [Nat.add_mul, Nat.one_mul] at h1
  simp only [List.length_take, List.length_drop]
  omega

theorem zip_range {α} (k : Nat) (f : Nat → α) (tys : List Nat) (h : k ≤ tys.length) :
    ((List.range k).map f).zip tys = (List.range k).map (fun i => (f i, tys.getD i 0)) := by
  induction k generalizing f tys with
  | zero => simp
  | succ k ih =>
    cases tys with
    | nil => simp at h
    | cons ty tys' =>
      rw [List.range_succ_eq_map, List.map_cons, List.map_map, List.zip_cons_cons,
        ih (f ∘ Nat.succ) tys' (by simpa using h), List.map_cons, List.map_map]
      congr 1

/-! ### the three record loops, inverted -/
theorem parse_time_val (a : List Nat) (v : Version) (t : Int) (h : parse_time a v = .ok t) :
    t = fieldTime v a := by
  cases v
  · simp only [parse_time, slice] at h
    split at h
    · simp only [P.bind_ok, read_be_i32] at h
      split at h
      · cases h
      · simp only [P.ok.injEq] at h
        simp only [fieldTime]
        rw [← h]; simp
    · cases h
  all_goals
    simp only [parse_time, read_be_i64] at h
    split at h
    · cases h
    · simp only [P.ok.injEq] at h
      simp only [fieldTime]
      exact h.symm

theorem parseTransitions_val (ts : Nat) (v : Version) (L : List (List Nat × Nat)) (res : List Transition)
    (hl : ∀ x ∈ L, x.1.length = ts) (h : parseTransitions ts v L = .ok res) :
    res = L.map (fun x => ⟨fieldTime v x.1, x.2⟩) := by
  induction L generalizing res with
  | nil => simp only [parseTransitions, P.ok.injEq] at h; rw [← h]; rfl
  | cons x rest ih =>
    obtain ⟨a, ty⟩ := x
    simp only [parseTransitions] at h
    rw [slice_full a ts (hl (a, ty) (by simp))] at h
    simp only [P.bind_ok] at h
    obtain ⟨t, ht, h⟩ := bind_eq_ok h
    obtain ⟨r', hr', h⟩ := bind_eq_ok h
    simp only [P.ok.injEq] at h
    rw [← h, ih r' (fun y hy => hl y (List.mem_cons_of_mem _ hy)) hr', parse_time_val a v t ht]
    rfl

theorem parseLeap_val (ts : Nat) (v : Version) (arr : List Nat) (l : LeapSecond) (hts : ts ≤ 8)
    (hl : arr.length = ts + 4) (h : parseLeap ts v arr = .ok l) : l = decLeapRec ts v arr := by
  unfold parseLeap at h
  rw [slice_ok _ _ _ (by omega) (by omega)] at h
  simp only [P.bind_ok] at h
  obtain ⟨t, ht, h⟩ := bind_eq_ok h
  rw [ckUsz_ok (by omega)] at h
  simp only [P.bind_ok] at h
  rw [slice_ok _ _ _ (by omega) (by omega)] at h
  simp only [P.bind_ok] at h
  obtain ⟨corr, hc, h⟩ := bind_eq_ok h
  simp only [P.ok.injEq] at h
  rw [← h]
  have e1 := parse_time_val _ v t ht
  unfold read_be_i32 at hc
  split at hc
  · cases hc
  · simp only [P.ok.injEq] at hc
    unfold decLeapRec
    rw [e1, ← hc]
    have e2 : (arr.drop ts).take (ts + 4 - ts) = arr.drop ts := by
      apply List.take_of_length_le
      simp only [List.length_drop]; omega
    rw [e2]
    simp

theorem parseLeaps_val (ts : Nat) (v : Version) (L : List (List Nat)) (res : List LeapSecond)
    (hts : ts ≤ 8) (hl : ∀ x ∈ L, x.length = ts + 4) (h : parseLeaps ts v L = .ok res) :
    res = L.map (decLeapRec ts v) := by
  induction L generalizing res with
  | nil => simp only [parseLeaps, P.ok.injEq] at h; rw [← h]; rfl
  | cons x rest ih =>
    simp only [parseLeaps] at h
    obtain ⟨l, hx, h⟩ := bind_eq_ok h
    obtain ⟨r', hr', h⟩ := bind_eq_ok h
    simp only [P.ok.injEq] at h
    rw [← h, ih r' (fun y hy => hl y (List.mem_cons_of_mem _ hy)) hr',
      parseLeap_val ts v x l hts (hl x (by simp)) hx]
    rfl

/-- one accepted type record: its value and the side conditions on `isdst` / `desigidx` -/
theorem parseType_val (names arr : List Nat) (t : Ltt) (hl : arr.length = 6)
    (hn : names.length < 4294967296) (h : parseType names.length names arr = .ok t) :
    t = decTypeRec names arr ∧ (arr.getD 4 0 = 0 ∨ arr.getD 4 0 = 1) ∧ arr.getD 5 0 < names.length
      ∧ 0 ∈ names.drop (arr.getD 5 0) := by
  obtain ⟨a, b, c, d, x, y, rfl⟩ : ∃ a b c d x y, arr = [a, b, c, d, x, y] := by
    match arr, hl with
    | [a, b, c, d, x, y], _ => exact ⟨a, b, c, d, x, y, rfl⟩
  have i4 : idx [a, b, c, d, x, y] 4 = .ok x := rfl
  have hs : slice [a, b, c, d, x, y] 0 4 = .ok [a, b, c, d] := rfl
  have hr : read_be_i32 [a, b, c, d] = .ok (asI32 (beNat [a, b, c, d])) := rfl
  unfold parseType at h
  rw [hs, P.bind_ok, hr, P.bind_ok, i4, P.bind_ok] at h
  match x, h with
  | 0, h =>
    obtain ⟨⟨h2, h3, -⟩, h1⟩ := desigArm_inv (bb := false) hn h
    exact ⟨h1, Or.inl rfl, h2, h3⟩
  | 1, h =>
    obtain ⟨⟨h2, h3, -⟩, h1⟩ := desigArm_inv (bb := true) hn h
    exact ⟨h1, Or.inr rfl, h2, h3⟩
  | n + 2, h => cases h

theorem parseTypes_val (names : List Nat) (L : List (List Nat)) (res : List Ltt)
    (hn : names.length < 4294967296) (hl : ∀ x ∈ L, x.length = 6)
    (h : parseTypes names.length names L = .ok res) :
    res = L.map (decTypeRec names)
      ∧ ∀ x ∈ L, (x.getD 4 0 = 0 ∨ x.getD 4 0 = 1) ∧ x.getD 5 0 < names.length
          ∧ 0 ∈ names.drop (x.getD 5 0) := by
  induction L generalizing res with
  | nil => simp only [parseTypes, P.ok.injEq] at h; rw [← h]; exact ⟨rfl, by simp⟩
  | cons x rest ih =>
    simp only [parseTypes] at h
    obtain ⟨t, hx, h⟩ := bind_eq_ok h
    obtain ⟨r', hr', h⟩ := bind_eq_ok h
    simp only [P.ok.injEq] at h
    obtain ⟨e1, s1⟩ := parseType_val names x t (hl x (by simp)) hn hx
    obtain ⟨e2, s2⟩ := ih r' (fun y hy => hl y (List.mem_cons_of_mem _ hy)) hr'
    refine ⟨by rw [← h, e1, e2]; rfl, ?_⟩
    intro y hy
    rcases List.mem_cons.mp hy with rfl | hy
    · exact s1
    · exact s2 y hy

/-! ### the zone of an accepted file -/
theorem parseRest_val {st : State} {fo : Option (List Nat)} {z : Zone} {blk : List Nat} {ts : Nat}
    (hts : ts = 4 ∨ ts = 8) (hs : Sliced st blk ts) (h : parseRest st fo = .ok z) :
    z = decodeBlock ts st.header.version blk z.rule ∧ TypeRecsOk ts blk := by
  obtain ⟨s0, -, q3, q4, q2, q5, f1, f2, f3, f4, f5, l1, l2, l3, l4, l5⟩ := hs
  have k : TYPE_RECORD = 6 := rfl
  have hts0 : 0 < ts := by omega
  unfold parseRest at h
  obtain ⟨tr, htr, h⟩ := bind_eq_ok h
  obtain ⟨ty, hty, h⟩ := bind_eq_ok h
  obtain ⟨lp, hlp, h⟩ := bind_eq_ok h
  split at h
  · cases h
  · obtain ⟨r, hr, h⟩ := bind_eq_ok h
    unfold Zone.new at h
    obtain ⟨u, _, h⟩ := bind_eq_ok h
    simp only [P.ok.injEq] at h
    subst h
    dsimp only
    -- transitions
    rw [s0, chunks_exact_eq (hdrCount blk 3) ts _ hts0 l1, zip_range _ _ _ (by omega)] at htr
    have e1 := parseTransitions_val ts st.header.version _ tr (by
      intro x hx
      simp only [List.mem_map, List.mem_range] at hx
      obtain ⟨i, hi, rfl⟩ := hx
      exact record_len _ _ _ _ l1 hi) htr
    -- types
    rw [q5, ← l4, k, chunks_exact_eq (hdrCount blk 4) 6 _ (by omega) l3] at hty
    obtain ⟨e2, sd⟩ := parseTypes_val st.names _ ty (by rw [l4]; exact hdrCount_lt blk 5) (by
      intro x hx
      simp only [List.mem_map, List.mem_range] at hx
      obtain ⟨i, hi, rfl⟩ := hx
      exact record_len _ _ _ _ l3 hi) hty
    -- leap records
    rw [s0, chunks_exact_eq (hdrCount blk 2) (ts + 4) _ (by omega) l5] at hlp
    have e3 := parseLeaps_val ts st.header.version _ lp (by omega) (by
      intro x hx
      simp only [List.mem_map, List.mem_range] at hx
      obtain ⟨i, hi, rfl⟩ := hx
      exact record_len _ _ _ _ l5 hi) hlp
    refine ⟨?_, ?_⟩
    · unfold decodeBlock
      rw [e1, e2, e3, List.map_map, List.map_map, List.map_map, f1, f2, f3, f4, f5]
      rfl
    · intro i hi
      have := sd (record st.local_time_types 6 i) (by
        simp only [List.mem_map, List.mem_range]
        exact ⟨i, hi, rfl⟩)
      have hlen : (namesArr ts blk).length = hdrCount blk 5 := by rw [← f4]; exact l4
      rw [f3, f4, hlen] at this
      exact this

theorem accepted_decode' (bytes : List Nat) (z : Zone) (h : parse bytes = .ok z) :
    (firstVersion bytes = some .V1 → z = decodeBlock 4 .V1 bytes none ∧ TypeRecsOk 4 bytes)
      ∧ (firstVersion bytes ≠ some .V1 → ∃ v2, secondVersion bytes = some v2
          ∧ firstVersion bytes = some v2
          ∧ z = decodeBlock 8 v2 (bytes.drop (announcedLen 4 bytes)) z.rule
          ∧ TypeRecsOk 8 (bytes.drop (announcedLen 4 bytes))
          ∧ parseFooter (footerOf bytes) v2 = .ok z.rule) := by
  unfold parse at h
  obtain ⟨⟨st, fo⟩, hb, hrest⟩ := bind_eq_ok h
  have hrule := parseRest_rule hrest
  obtain ⟨st1, c1, hs1, hc⟩ := parseBlocks_inv hb
  obtain ⟨sl1, e1, -⟩ := post_spec (post_state_layout bytes true) hs1
  simp only [if_true] at e1 sl1
  have hv1 := sl1.2.1
  unfold firstVersion
  rw [hv1]
  rcases hc with ⟨hver, -, rfl, rfl⟩ | ⟨hver, c2, hs2, hvv, rfl⟩
  · refine ⟨fun _ => ?_, fun hne => absurd (congrArg some hver) hne⟩
    obtain ⟨a, b⟩ := parseRest_val (Or.inl rfl) sl1 hrest
    simp only [parseFooterOpt, P.ok.injEq] at hrule
    rw [hver, ← hrule] at a
    exact ⟨a, b⟩
  · obtain ⟨sl2, -⟩ := post_spec (post_state_layout c1 false) hs2
    simp only [Bool.false_eq_true, if_false] at sl2
    refine ⟨fun hv => absurd (Option.some.inj hv) hver, fun _ => ?_⟩
    have hfo : footerOf bytes = c2 := by unfold footerOf; rw [hb]
    obtain ⟨a, b⟩ := parseRest_val (Or.inr rfl) sl2 hrest
    refine ⟨st.header.version, ?_, by rw [hvv], ?_, ?_, ?_⟩
    · unfold secondVersion
      rw [← List.drop_drop, ← e1]
      exact sl2.2.1
    · rw [← e1]; exact a
    · rw [← e1]; exact b
    · rw [hfo]; exact hrule

/-! ### `validate` looks at the rule last -/
theorem validate_drop_rule (tr : List Transition) (ty : List Ltt) (lp : List LeapSecond) (r : Option Rule)
    (h : validate ⟨tr, ty, lp, r⟩ = .ok ()) : validate ⟨tr, ty, lp, none⟩ = .ok () := by
  unfold validate at h ⊢
  dsimp only at h ⊢
  split at h
  · cases h
  · rename_i h1
    rw [if_neg h1]
    split at h
    · cases h
    · rename_i h2
      rw [if_neg h2]
      split at h
      · cases h
      · rename_i h3
        rw [if_neg h3]

end Chrono.Proofs.TzDecode
