/-
  Lemmas about the slice-recording copies of Model/ScanSlices.lean (property C15, gap 2 of the second
  review): (1) the recording changes nothing — the result component is the plain model's result;
  (2) on a well-formed UTF-8 text (and well-formed literals) every recorded slice is a good one (taken of a
  `&str`, skipping whole characters), on failing runs too; (3) a good slice evaluates to `.ok` under the
  `Res`-valued `sliceFrom` of Spec/StrSliceSpec.lean, so the replayed run never panics.
-/
import Chrono.Spec.StrSliceSpec
import Chrono.Proofs.Rfc3339SlicesL
import Chrono.Proofs.RoundTripChainL
namespace Chrono.Proofs.ScanSlices
open Chrono Chrono.M Chrono.M.Scan Chrono.M.Parse Chrono.M.Tz Chrono.Spec.Utf8 Chrono.Proofs.Utf8
open Chrono.M.Rfc3339Slices Chrono.M.ScanSlices Chrono.Proofs.Rfc3339Slices Chrono.Proofs.ScanBoundary
open Chrono.Spec.StrSlice

/-! ### (1) the recording changes nothing -/

theorem nanosecond_fixedT_fst (s : List Nat) (d : Nat) : (nanosecond_fixedT s d).1 = nanosecond_fixed s d := by
  unfold nanosecond_fixedT nanosecond_fixed
  rw [bindT_fst, numberT_fst]
  cases h : number s d (some d) with
  | error e => rfl
  | ok a =>
    obtain ⟨r, v⟩ := a
    show (if v * SCALE.getD d 0 > I64_MAX then _ else _ : T (List Nat × Int)).1 = _
    dsimp only
    split <;> rfl

theorem short_month0T_fst (s : List Nat) : (short_month0T s).1 = (short_month0 s).mapError convE := by
  unfold short_month0T
  cases h : short_month0 s with
  | error e => rfl
  | ok a => obtain ⟨r, v⟩ := a; rfl

theorem short_weekdayT_fst (s : List Nat) : (short_weekdayT s).1 = (short_weekday s).mapError convE := by
  unfold short_weekdayT
  cases h : short_weekday s with
  | error e => rfl
  | ok a => obtain ⟨r, v⟩ := a; rfl

theorem eatSuffixT_fst (s suffix : List Nat) : (eatSuffixT s suffix).1 = .ok (eatSuffix s suffix) := by
  unfold eatSuffixT eatSuffix
  split <;> rfl

theorem short_or_long_month0T_fst (s : List Nat) :
    (short_or_long_month0T s).1 = (short_or_long_month0 s).mapError convE := by
  unfold short_or_long_month0T short_or_long_month0
  simp only [bindT_fst, short_month0T_fst, eatSuffixT_fst]
  cases short_month0 s <;> rfl

theorem short_or_long_weekdayT_fst (s : List Nat) :
    (short_or_long_weekdayT s).1 = (short_or_long_weekday s).mapError convE := by
  unfold short_or_long_weekdayT short_or_long_weekday
  simp only [bindT_fst, short_weekdayT_fst, eatSuffixT_fst]
  cases short_weekday s <;> rfl

theorem timezone_offset_2822T_fst (s : List Nat) : (timezone_offset_2822T s).1 = timezone_offset_2822 s := by
  rw [timezone_offset_2822_eq]
  unfold timezone_offset_2822T
  split
  · rw [bindT_fst]; rfl
  · exact timezone_offsetT_fst s _ _ _ _

theorem comment_2822T_fst (s : List Nat) : (comment_2822T s).1 = comment_2822 s := by
  unfold comment_2822T
  cases h : comment_2822 s <;> rfl

theorem parseLiteralT_fst (s lit : List Nat) : (parseLiteralT s lit).1 = parseLiteral s lit := by
  unfold parseLiteralT parseLiteral
  split
  · rfl
  · split <;> rfl

theorem numericValT_fst (s : List Nat) (width : Option Nat) (signed : Bool) :
    (numericValT s width signed).1 = (if signed then
      match s with
      | 45 :: rest =>
        match number rest 1 none with
        | .ok (s', v) => .ok (s', -v)
        | .error e => .error e
      | 43 :: rest => number rest 1 none
      | _ => number s 1 width
    else number s 1 width : PRes (List Nat × Int)) := by
  unfold numericValT
  split
  · split
    · rename_i rest
      simp only [bindT_fst, numberT_fst, sliced, ok_bind]
      cases number rest 1 none <;> rfl
    · simp only [bindT_fst, numberT_fst, sliced, ok_bind]
    · rename_i h1 h2
      rw [numberT_fst]
      split
      · rename_i rest; exact absurd rfl (h1 rest)
      · rename_i rest; exact absurd rfl (h2 rest)
      · rfl
  · exact numberT_fst _ _ _

theorem parseNumericT_fst (p : Parsed) (s : List Nat) (n : Numeric) :
    (parseNumericT p s n).1 = parseNumeric p s n := by
  unfold parseNumericT parseNumeric
  rw [bindT_fst, numericValT_fst]
  generalize numericSpec n = spec
  obtain ⟨width, signed, set⟩ := spec
  dsimp only
  generalize (if signed = true then
      match trimStart s with
      | 45 :: rest =>
        match number rest 1 none with
        | .ok (s', v) => .ok (s', -v)
        | .error e => .error e
      | 43 :: rest => number rest 1 none
      | _ => number (trimStart s) 1 width
    else number (trimStart s) 1 width : PRes (List Nat × Int)) = r
  cases r with
  | error e => rfl
  | ok a => obtain ⟨s', v⟩ := a; rfl

theorem setOffsetT_fst (p : Parsed) (r : T (List Nat × Int)) : (setOffsetT p r).1 = setOffset p r.1 := by
  unfold setOffsetT setOffset
  rw [bindT_fst]
  cases r.1 with
  | error e => rfl
  | ok a => obtain ⟨s', v⟩ := a; rfl

theorem setNanoT_fst (p : Parsed) (r : T (List Nat × Int)) : (setNanoT p r).1 = setNano p r.1 := by
  unfold setNanoT setNano
  rw [bindT_fst]
  cases r.1 with
  | error e => rfl
  | ok a => obtain ⟨s', v⟩ := a; rfl

theorem ampmT_fst (p : Parsed) (s : List Nat) :
    (ampmT p s).1 = (match s with
    | a :: b :: rest =>
      if or32 a = 97 ∧ or32 b = 109 then (Parsed.set_ampm p false).map fun p' => (p', rest)
      else if or32 a = 112 ∧ or32 b = 109 then (Parsed.set_ampm p true).map fun p' => (p', rest)
      else .error .invalid
    | _ => .error .tooShort : PRes (Parsed × List Nat)) := by
  unfold ampmT
  match s with
  | [] => rfl
  | [_] => rfl
  | a :: b :: rest =>
    dsimp only
    by_cases h1 : or32 a = 97 ∧ or32 b = 109
    · rw [if_pos h1, if_pos h1, bindT_fst]; cases Parsed.set_ampm p false <;> rfl
    · rw [if_neg h1, if_neg h1]
      by_cases h2 : or32 a = 112 ∧ or32 b = 109
      · rw [if_pos h2, if_pos h2, bindT_fst]; cases Parsed.set_ampm p true <;> rfl
      · rw [if_neg h2, if_neg h2]; rfl

theorem mapError_match {α β : Type} (r : Except ScanErr α) (f : α → PRes β) :
    (r.mapError convE >>= f) = (match r with
      | .ok a => f a
      | .error .tooShort => .error .tooShort
      | .error .invalid => .error .invalid) := by
  cases r with
  | ok a => rfl
  | error e => cases e <;> rfl

theorem parseFixedBaseT_fst (p : Parsed) (s : List Nat) (f : Fixed) :
    (parseFixedBaseT p s f).1 = parseFixedBase p s f := by
  cases f <;> unfold parseFixedBaseT parseFixedBase <;> dsimp only
  case shortMonthName =>
    rw [bindT_fst, short_month0T_fst, mapError_match]
    cases short_month0 s with
    | ok a => obtain ⟨r, i⟩ := a; rfl
    | error e => cases e <;> rfl
  case longMonthName =>
    rw [bindT_fst, short_or_long_month0T_fst, mapError_match]
    cases short_or_long_month0 s with
    | ok a => obtain ⟨r, i⟩ := a; rfl
    | error e => cases e <;> rfl
  case shortWeekdayName =>
    rw [bindT_fst, short_weekdayT_fst, mapError_match]
    cases short_weekday s with
    | ok a => obtain ⟨r, i⟩ := a; rfl
    | error e => cases e <;> rfl
  case longWeekdayName =>
    rw [bindT_fst, short_or_long_weekdayT_fst, mapError_match]
    cases short_or_long_weekday s with
    | ok a => obtain ⟨r, i⟩ := a; rfl
    | error e => cases e <;> rfl
  case lowerAmPm | upperAmPm => exact ampmT_fst p s
  case nanosecond | nanosecond3 | nanosecond6 | nanosecond9 => exact dotNanoT_fst p s
  case nanosecond3NoDot | nanosecond6NoDot | nanosecond9NoDot =>
    split
    · rfl
    · rw [setNanoT_fst, nanosecond_fixedT_fst]
  case timezoneOffsetColon | timezoneOffsetDoubleColon | timezoneOffsetTripleColon | timezoneOffset
      | timezoneOffsetColonZ | timezoneOffsetZ | timezoneOffsetPermissive => rw [setOffsetT_fst, timezone_offsetT_fst]
  case timezoneName | rfc2822 | rfc3339 => rfl

theorem parseItemBaseT_fst (p : Parsed) (s : List Nat) (it : Item) :
    (parseItemBaseT p s it).1 = parseItemBase p s it := by
  cases it <;> unfold parseItemBaseT parseItemBase <;> dsimp only
  case literal lit =>
    rw [bindT_fst, parseLiteralT_fst]
    cases parseLiteral s lit <;> rfl
  case space => rfl
  case numeric n _ => exact parseNumericT_fst p s n
  case fixed f => exact parseFixedBaseT_fst p s f
  case error => rfl

theorem parseItemsBaseT_fst : ∀ (items : List Item) (p : Parsed) (s : List Nat),
    (parseItemsBaseT p s items).1 = parseItemsBase p s items := by
  intro items
  induction items with
  | nil => intro p s; rfl
  | cons it rest ih =>
    intro p s
    unfold parseItemsBaseT parseItemsBase
    rw [bindT_fst, parseItemBaseT_fst]
    cases parseItemBase p s it with
    | error e => rfl
    | ok a => obtain ⟨p', s'⟩ := a; exact ih p' s'

theorem utcOrOffsetT_fst (s : List Nat) :
    (utcOrOffsetT s).1 = (if s.length ≥ 3 ∧ lowerS (s.take 3) = [117, 116, 99] then .ok (s.drop 3, (0 : Int))
      else timezone_offset s .colonOrSpace true false true : PRes (List Nat × Int)) := by
  unfold utcOrOffsetT
  split
  · rfl
  · exact timezone_offsetT_fst _ _ _ _ _

theorem parse_rfc3339_relaxedT_fst (p : Parsed) (s : List Nat) :
    (parse_rfc3339_relaxedT p s).1 = parse_rfc3339_relaxed p s := by
  unfold parse_rfc3339_relaxedT parse_rfc3339_relaxed
  simp only [bindT_fst, parseItemsBaseT_fst, sepT_fst, utcOrOffsetT_fst]
  rfl

theorem wdayT_fst (p : Parsed) (s : List Nat) :
    (wdayT p s).1 = (match short_weekday s with
    | .ok (s', w) =>
      match s' with
      | 44 :: rest => (Parsed.set_weekday p w).map fun p' => (p', rest)
      | _ => .error PErr.invalid
    | .error _ => .ok (p, s) : PRes (Parsed × List Nat)) := by
  unfold wdayT
  cases short_weekday s with
  | error e => rfl
  | ok a =>
    obtain ⟨s', w⟩ := a
    dsimp only
    rw [bindT_fst]
    show (match s' with
      | 44 :: rest => bindT (sliced s' rest rest) fun rest => lift ((Parsed.set_weekday p w).map fun p' => (p', rest))
      | _ => fail .invalid : T (Parsed × List Nat)).1 = _
    split
    · rename_i rest; rw [bindT_fst]; rfl
    · rfl

theorem monthT_fst (p : Parsed) (s : List Nat) :
    (monthT p s).1 = (match short_month0 s with
    | .ok (s', m0) => (Parsed.set_month p (1 + (m0 : Int))).map fun p' => (p', s')
    | .error .tooShort => .error PErr.tooShort
    | .error .invalid => .error PErr.invalid : PRes (Parsed × List Nat)) := by
  unfold monthT
  rw [bindT_fst, short_month0T_fst, mapError_match]
  cases short_month0 s with
  | ok a => obtain ⟨r, i⟩ := a; rfl
  | error e => cases e <;> rfl

theorem secT_fst (p : Parsed) (s : List Nat) :
    (secT p s).1 = (match Scan.char (trimStart s) 58 with
    | .ok s_ => setField Parsed.set_second p (number s_ 2 (some 2))
    | .error _ => .ok (p, s) : PRes (Parsed × List Nat)) := by
  unfold secT
  cases Scan.char (trimStart s) 58 with
  | error e => rfl
  | ok s_ => simp only [bindT_fst, setFieldT_fst, numberT_fst, sliced, ok_bind]

theorem commentsAuxT_fst : ∀ (fuel : Nat) (s : List Nat), (commentsAuxT fuel s).1 = .ok (commentsAux fuel s) := by
  intro fuel
  induction fuel with
  | zero => intro s; rfl
  | succ f ih =>
    intro s
    unfold commentsAuxT commentsAux
    cases comment_2822 s with
    | error e => rfl
    | ok s' =>
      dsimp only
      rw [bindT_fst]
      exact ih s'

theorem parse_rfc2822T_fst (p : Parsed) (s : List Nat) : (parse_rfc2822T p s).1 = parse_rfc2822 p s := by
  unfold parse_rfc2822T parse_rfc2822
  simp only [bindT_fst, wdayT_fst, setFieldT_fst, numberT_fst, monthT_fst, charT_fst, secT_fst,
    timezone_offset_2822T_fst, commentsAuxT_fst]
  rfl

/-- one item of the plain `parse_internal` -/
def step (p : Parsed) (s : List Nat) (it : Item) : PRes (Parsed × List Nat) :=
  match it with
  | .fixed .rfc2822 => parse_rfc2822 p s
  | .fixed .rfc3339 => parse_rfc3339_relaxed p s
  | _ => parseItemBase p s it

theorem parse_internal_cons (p : Parsed) (s : List Nat) (it : Item) (rest : List Item) :
    parse_internal p s (it :: rest) = (match step p s it with
      | .ok (p', s') => parse_internal p' s' rest
      | .error e => .error e) := by
  conv => lhs; unfold parse_internal
  unfold step
  rfl

theorem stepT_fst (p : Parsed) (s : List Nat) (it : Item) : (stepT p s it).1 = step p s it := by
  unfold stepT
  split
  · exact parse_rfc2822T_fst p s
  · exact parse_rfc3339_relaxedT_fst p s
  · rename_i h1 h2
    rw [parseItemBaseT_fst]
    unfold step
    split
    · exact absurd rfl h1
    · exact absurd rfl h2
    · rfl

theorem parse_internalT_fst : ∀ (items : List Item) (p : Parsed) (s : List Nat),
    (parse_internalT p s items).1 = parse_internal p s items := by
  intro items
  induction items with
  | nil => intro p s; rfl
  | cons it rest ih =>
    intro p s
    rw [parse_internal_cons]
    unfold parse_internalT
    rw [bindT_fst, stepT_fst]
    cases step p s it with
    | error e => rfl
    | ok a => obtain ⟨p', s'⟩ := a; exact ih p' s'

/-! ### (2) every recorded slice is good — scan.rs -/

/-- `good_bindT`, the continuation being told that the string it is handed is a `&str` -/
theorem good_bind {α β : Type} {x : T α} {f : α → T β} {sa : α → List Nat} {sb : β → List Nat} (hx : GoodT x sa)
    (hf : ∀ a, validUtf8 (sa a) = true → GoodT (f a) sb) : GoodT (bindT x f) sb :=
  good_bindT x f sa sb hx fun a ha => hf a (hx.2 a ha)

theorem nanosecond_fixedT_good (s : List Nat) (d : Nat) (hv : validUtf8 s = true) :
    GoodT (nanosecond_fixedT s d) (·.1) := by
  unfold nanosecond_fixedT
  refine good_bind (numberT_good s d (some d) hv (by intro m hm; injection hm with hm; omega)) ?_; rintro ⟨r, v⟩ hr
  dsimp only
  split
  · exact good_fail _ _
  · exact good_ret _ _ hr

theorem short_month0T_good (s : List Nat) (hv : validUtf8 s = true) : GoodT (short_month0T s) (·.1) := by
  unfold short_month0T
  cases h : short_month0 s with
  | error e => exact good_fail _ _
  | ok a => obtain ⟨r, i⟩ := a; exact good_sliced s r _ _ hv (short_month0_bs s r i h) rfl

theorem short_weekdayT_good (s : List Nat) (hv : validUtf8 s = true) : GoodT (short_weekdayT s) (·.1) := by
  unfold short_weekdayT
  cases h : short_weekday s with
  | error e => exact good_fail _ _
  | ok a => obtain ⟨r, i⟩ := a; exact good_sliced s r _ _ hv (short_weekday_bs s r i h) rfl

theorem eatSuffixT_good (s suffix : List Nat) (hv : validUtf8 s = true) (hs : ∀ b ∈ suffix, b < 128) :
    GoodT (eatSuffixT s suffix) id := by
  unfold eatSuffixT
  split
  · rename_i hc
    exact good_sliced _ _ _ _ hv (drop_lower_bs s suffix hs hc.2) rfl
  · exact good_ret _ _ hv

theorem short_or_long_month0T_good (s : List Nat) (hv : validUtf8 s = true) :
    GoodT (short_or_long_month0T s) (·.1) := by
  unfold short_or_long_month0T
  refine good_bind (short_month0T_good s hv) ?_; rintro ⟨r, i⟩ hr
  refine good_bind (eatSuffixT_good r _ hr (suffix_tables_ascii.1 i)) ?_; intro r hr
  exact good_ret _ _ hr

theorem short_or_long_weekdayT_good (s : List Nat) (hv : validUtf8 s = true) :
    GoodT (short_or_long_weekdayT s) (·.1) := by
  unfold short_or_long_weekdayT
  refine good_bind (short_weekdayT_good s hv) ?_; rintro ⟨r, w⟩ hr
  refine good_bind (eatSuffixT_good r _ hr (suffix_tables_ascii.2 _)) ?_; intro r hr
  exact good_ret _ _ hr

theorem timezone_offset_2822T_good (s : List Nat) (hv : validUtf8 s = true) :
    GoodT (timezone_offset_2822T s) (·.1) := by
  unfold timezone_offset_2822T
  split
  · refine good_bind (sa := id) (good_sliced _ _ _ _ hv (takeAlpha_bs s) rfl) ?_; intro r hr
    refine good_lift _ _ ?_
    rintro ⟨a, v⟩ hz
    rw [show a = r from zoneName_rest _ _ _ hz]; exact hr
  · exact timezone_offsetT_good s _ _ _ _ hv

theorem comment_2822_trim (s : List Nat) : comment_2822 (trimStart s) = comment_2822 s := by
  unfold comment_2822
  rw [Chrono.Proofs.RoundTrip.trimStart_idem]

theorem comment_2822T_good (s : List Nat) (hv : validUtf8 s = true) : GoodT (comment_2822T s) id := by
  unfold comment_2822T
  have hvt : validUtf8 (trimStart s) = true := bs_valid_rest hv (trimStart_bs s)
  cases h : comment_2822 s with
  | error e => exact good_fail _ _
  | ok r =>
    have h' : comment_2822 (trimStart s) = .ok r := by rw [comment_2822_trim]; exact h
    exact good_sliced _ _ _ _ hvt (comment_2822_bs _ r hvt h') rfl

/-! ### (3) a good slice does not panic -/

theorem good_sliceOk (e : Slice) (h : GoodSlice e) : sliceOk e = true := by
  obtain ⟨hv, hb⟩ := h
  obtain ⟨h1, h2, h3, _⟩ := bs_boundary hv hb
  unfold sliceOk Spec.StrSlice.sliceFrom Slice.k
  rw [if_pos ⟨h1, h3⟩, ← h2]
  simp

theorem eval_of_good {α : Type} (x : T α) (str : α → List Nat) (h : GoodT x str) : evalSlices x = .ok x.1 := by
  unfold evalSlices
  rw [if_pos]
  exact List.all_eq_true.mpr (fun e he => good_sliceOk e (h.1 e he))

/-! ### (2) every recorded slice is good — parse.rs -/

theorem parseLiteralT_good (s lit : List Nat) (hv : validUtf8 s = true) (hl : validUtf8 lit = true) :
    GoodT (parseLiteralT s lit) id := by
  have hb := parseLiteral_bs s lit (s.drop lit.length) hl
  unfold parseLiteral at hb
  unfold parseLiteralT
  split
  · exact good_fail _ _
  · rename_i h1
    split
    · exact good_fail _ _
    · rename_i h2
      rw [if_neg h1, if_neg h2] at hb
      exact good_sliced _ _ _ _ hv (hb rfl) rfl

theorem numericValT_good (s : List Nat) (w : Option Nat) (signed : Bool) (hv : validUtf8 s = true)
    (hw : ∀ m, w = some m → 1 ≤ m) : GoodT (numericValT s w signed) (·.1) := by
  have none1 : ∀ m, (none : Option Nat) = some m → 1 ≤ m := by intro m hm; cases hm
  unfold numericValT
  split
  · split
    · rename_i rest
      refine good_bind (sa := id) (good_sliced _ _ _ _ hv (bs_cons 45 rest (by omega)) rfl) ?_; intro r hr
      refine good_bind (numberT_good r 1 none hr none1) ?_; rintro ⟨s', v⟩ hs
      exact good_ret _ _ hs
    · rename_i rest
      refine good_bind (sa := id) (good_sliced _ _ _ _ hv (bs_cons 43 rest (by omega)) rfl) ?_; intro r hr
      exact numberT_good r 1 none hr none1
    · exact numberT_good s 1 w hv hw
  · exact numberT_good s 1 w hv hw

theorem setterT_good (set : Parsed → Int → PRes Parsed) (p : Parsed) (r : T (List Nat × Int))
    (h : GoodT r (·.1)) :
    GoodT (bindT r fun (s', v) => lift (match set p v with
      | .ok p' => .ok (p', s')
      | .error e => .error e) : T (Parsed × List Nat)) (·.2) := by
  refine good_bind h ?_; rintro ⟨s', v⟩ hv
  refine good_lift _ _ ?_
  intro a hm
  cases hs : set p v with
  | error e => rw [hs] at hm; cases hm
  | ok p' => rw [hs] at hm; injection hm with hm; rw [← hm]; exact hv

theorem parseNumericT_good (p : Parsed) (s : List Nat) (n : Numeric) (hv : validUtf8 s = true) :
    GoodT (parseNumericT p s n) (·.2) := by
  unfold parseNumericT
  exact setterT_good _ p _ (numericValT_good _ _ _ (bs_valid_rest hv (trimStart_bs s)) (numericSpec_width n))

theorem setOffsetT_good (p : Parsed) (r : T (List Nat × Int)) (h : GoodT r (·.1)) : GoodT (setOffsetT p r) (·.2) :=
  setterT_good Parsed.set_offset p r h

theorem setNanoT_good (p : Parsed) (r : T (List Nat × Int)) (h : GoodT r (·.1)) : GoodT (setNanoT p r) (·.2) :=
  setterT_good Parsed.set_nanosecond p r h

theorem mapT_good {β : Type} (r : T (List Nat × β)) (f : β → PRes Parsed) (h : GoodT r (·.1)) :
    GoodT (bindT r fun x => lift ((f x.2).map fun p' => (p', x.1)) : T (Parsed × List Nat)) (·.2) := by
  refine good_bind h ?_; rintro ⟨s', v⟩ hv
  refine good_lift _ _ ?_
  intro a hm
  cases hs : f v with
  | error e => rw [hs] at hm; cases hm
  | ok p' => rw [hs] at hm; injection hm with hm; rw [← hm]; exact hv

theorem ampm_one (p : Parsed) (a b : Nat) (rest : List Nat) (v : Bool) (ha : a < 128) (hb : b < 128)
    (hv : validUtf8 (a :: b :: rest) = true) :
    GoodT (bindT (lift (Parsed.set_ampm p v)) fun p' => sliced (a :: b :: rest) rest (p', rest) :
      T (Parsed × List Nat)) (·.2) := by
  refine good_bindT _ _ (fun _ => rest) _ (good_lift _ _ ?_) ?_
  · intro _ _
    exact bs_valid_rest hv (bs_ascii [a, b] rest (by intro x hx; simp at hx; rcases hx with h | h <;> omega))
  · intro p' _
    exact good_sliced _ _ _ _ hv (bs_ascii [a, b] rest (by intro x hx; simp at hx; rcases hx with h | h <;> omega)) rfl

theorem ampmT_good (p : Parsed) (s : List Nat) (hv : validUtf8 s = true) : GoodT (ampmT p s) (·.2) := by
  unfold ampmT
  split
  · rename_i a b rest
    split
    · rename_i h
      exact ampm_one p a b rest false (or32_lt a (by omega)) (or32_lt b (by omega)) hv
    · split
      · rename_i h
        exact ampm_one p a b rest true (or32_lt a (by omega)) (or32_lt b (by omega)) hv
      · exact good_fail _ _
  · exact good_fail _ _

theorem parseFixedBaseT_good (p : Parsed) (s : List Nat) (f : Fixed) (hv : validUtf8 s = true) :
    GoodT (parseFixedBaseT p s f) (·.2) := by
  have hvt : validUtf8 (trimStart s) = true := bs_valid_rest hv (trimStart_bs s)
  cases f <;> unfold parseFixedBaseT <;> dsimp only
  case shortMonthName => exact mapT_good _ (fun (m0 : Nat) => Parsed.set_month p ((m0 : Int) + 1)) (short_month0T_good s hv)
  case longMonthName => exact mapT_good _ (fun (m0 : Nat) => Parsed.set_month p ((m0 : Int) + 1)) (short_or_long_month0T_good s hv)
  case shortWeekdayName => exact mapT_good _ (fun w => Parsed.set_weekday p w) (short_weekdayT_good s hv)
  case longWeekdayName => exact mapT_good _ (fun w => Parsed.set_weekday p w) (short_or_long_weekdayT_good s hv)
  case lowerAmPm | upperAmPm => exact ampmT_good p s hv
  case nanosecond | nanosecond3 | nanosecond6 | nanosecond9 => exact dotNanoT_good p s hv
  case nanosecond3NoDot | nanosecond6NoDot | nanosecond9NoDot =>
    split
    · exact good_fail _ _
    · exact setNanoT_good p _ (nanosecond_fixedT_good s _ hv)
  case timezoneName => exact good_ret _ _ (bs_valid_rest hv (skipNonWs_bs s hv))
  case timezoneOffsetColon | timezoneOffsetDoubleColon | timezoneOffsetTripleColon | timezoneOffset
      | timezoneOffsetColonZ | timezoneOffsetZ | timezoneOffsetPermissive =>
    exact setOffsetT_good p _ (timezone_offsetT_good _ _ _ _ _ hvt)
  case rfc2822 | rfc3339 => exact good_fail _ _

theorem parseItemBaseT_good (p : Parsed) (s : List Nat) (it : Item) (hv : validUtf8 s = true)
    (hl : ∀ lit, it = .literal lit → validUtf8 lit = true) : GoodT (parseItemBaseT p s it) (·.2) := by
  cases it <;> unfold parseItemBaseT <;> dsimp only
  case literal lit =>
    refine good_bind (sa := id) (parseLiteralT_good s lit hv (hl lit rfl)) ?_; intro s' hs
    exact good_ret _ _ hs
  case space => exact good_ret _ _ (bs_valid_rest hv (trimStart_bs s))
  case numeric n _ => exact parseNumericT_good p s n hv
  case fixed f => exact parseFixedBaseT_good p s f hv
  case error => exact good_fail _ _

theorem parseItemsBaseT_good : ∀ (items : List Item) (p : Parsed) (s : List Nat), validUtf8 s = true →
    ItemsUtf8 items → GoodT (parseItemsBaseT p s items) (·.2) := by
  intro items
  induction items with
  | nil => intro p s hv _; exact good_ret _ _ hv
  | cons it rest ih =>
    intro p s hv hl
    unfold parseItemsBaseT
    refine good_bind (parseItemBaseT_good p s it hv (fun lit he => hl lit (by rw [he]; simp))) ?_; rintro ⟨p', s'⟩ hs
    exact ih p' s' hs (fun lit hm => hl lit (List.mem_cons_of_mem _ hm))

theorem utcOrOffsetT_good (s : List Nat) (hv : validUtf8 s = true) : GoodT (utcOrOffsetT s) (·.1) := by
  unfold utcOrOffsetT
  split
  · rename_i hc
    exact good_sliced _ _ _ _ hv (drop_lower_bs s [117, 116, 99] (by intro b hb; simp at hb; omega) hc.2) rfl
  · exact timezone_offsetT_good s _ _ _ _ hv

theorem liftStr_good {α : Type} (r : PRes α) (s : List Nat) (hv : validUtf8 s = true) :
    GoodT (lift r) (fun _ => s) := good_lift _ _ (fun _ _ => hv)

theorem space_good (s : List Nat) (hv : validUtf8 s = true) : GoodT (lift (space s)) id :=
  good_lift _ _ (fun a ha => bs_valid_rest hv (space_bs s a ha))

theorem parse_rfc3339_relaxedT_good (p : Parsed) (s : List Nat) (hv : validUtf8 s = true) :
    GoodT (parse_rfc3339_relaxedT p s) (·.2) := by
  unfold parse_rfc3339_relaxedT
  refine good_bind (parseItemsBaseT_good DATE_ITEMS p s hv date_time_items_utf8.1) ?_; rintro ⟨p, s⟩ hv
  refine good_bind (sa := id) (sepT_good s hv) ?_; intro s hv
  refine good_bind (parseItemsBaseT_good TIME_ITEMS p s hv date_time_items_utf8.2) ?_; rintro ⟨p, s⟩ hv
  refine good_bind (utcOrOffsetT_good (trimStart s) (bs_valid_rest hv (trimStart_bs s))) ?_; rintro ⟨s, off⟩ hv
  refine good_bind (liftStr_good _ s hv) ?_; intro p _
  exact good_ret _ _ hv

theorem wdayT_good (p : Parsed) (s : List Nat) (hv : validUtf8 s = true) : GoodT (wdayT p s) (·.2) := by
  unfold wdayT
  cases h : short_weekday s with
  | error e => exact good_ret _ _ hv
  | ok a =>
    obtain ⟨s', w⟩ := a
    dsimp only
    refine good_bind (sa := id) (good_sliced _ _ _ _ hv (short_weekday_bs s s' w h) rfl) ?_; intro r hr
    split
    · rename_i rest
      refine good_bind (sa := id) (good_sliced _ _ _ _ hr (bs_cons 44 rest (by omega)) rfl) ?_; intro r2 hr2
      refine good_lift _ _ ?_
      intro a hm
      cases hs : Parsed.set_weekday p w with
      | error e => rw [hs] at hm; cases hm
      | ok p' => rw [hs] at hm; injection hm with hm; rw [← hm]; exact hr2
    · exact good_fail _ _

theorem monthT_good (p : Parsed) (s : List Nat) (hv : validUtf8 s = true) : GoodT (monthT p s) (·.2) :=
  mapT_good _ (fun (m0 : Nat) => Parsed.set_month p (1 + (m0 : Int))) (short_month0T_good s hv)

theorem secT_good (p : Parsed) (s : List Nat) (hv : validUtf8 s = true) : GoodT (secT p s) (·.2) := by
  unfold secT
  have hvt : validUtf8 (trimStart s) = true := bs_valid_rest hv (trimStart_bs s)
  cases h : Scan.char (trimStart s) 58 with
  | error e => exact good_ret _ _ hv
  | ok s_ =>
    dsimp only
    refine good_bind (sa := id) (good_sliced _ _ _ _ hvt (char_bs _ s_ 58 (by omega) h) rfl) ?_; intro r hr
    exact setFieldT_good _ p _ (numberT_good r 2 (some 2) hr (by intro m hm; injection hm with hm; omega))

theorem commentsAuxT_good : ∀ (fuel : Nat) (s : List Nat), validUtf8 s = true → GoodT (commentsAuxT fuel s) id := by
  intro fuel
  induction fuel with
  | zero => intro s hv; exact good_ret _ _ hv
  | succ f ih =>
    intro s hv
    unfold commentsAuxT
    have hvt : validUtf8 (trimStart s) = true := bs_valid_rest hv (trimStart_bs s)
    cases h : comment_2822 s with
    | error e => exact good_ret _ _ hv
    | ok s' =>
      dsimp only
      have h' : comment_2822 (trimStart s) = .ok s' := by rw [comment_2822_trim]; exact h
      refine good_bind (sa := id) (good_sliced _ _ _ _ hvt (comment_2822_bs _ s' hvt h') rfl) ?_; intro r hr
      exact ih r hr

theorem parse_rfc2822T_good (p : Parsed) (s : List Nat) (hv : validUtf8 s = true) :
    GoodT (parse_rfc2822T p s) (·.2) := by
  unfold parse_rfc2822T
  have trim : ∀ x, validUtf8 x = true → validUtf8 (trimStart x) = true := fun x hx => bs_valid_rest hx (trimStart_bs x)
  have fld : ∀ (set : Parsed → Int → PRes Parsed) (p : Parsed) (s : List Nat) (k m : Nat), k ≤ m → validUtf8 s = true →
      GoodT (setFieldT set p (numberT s k (some m))) (·.2) := fun set p s k m hkm hv =>
    setFieldT_good set p _ (numberT_good s k (some m) hv (by intro m' hm; injection hm with hm; omega))
  refine good_bind (wdayT_good p _ (trim s hv)) ?_; rintro ⟨p, s⟩ hv
  refine good_bind (fld Parsed.set_day p _ 1 2 (by omega) (trim s hv)) ?_; rintro ⟨p, s⟩ hv
  refine good_bind (space_good s hv) ?_; intro s hv
  refine good_bind (monthT_good p s hv) ?_; rintro ⟨p, s⟩ hv
  refine good_bind (space_good s hv) ?_; intro s hv
  refine good_bind (numberT_good s 2 none hv (by intro m hm; cases hm)) ?_; rintro ⟨s, year⟩ hv
  refine good_bind (liftStr_good _ s hv) ?_; intro p _
  refine good_bind (space_good s hv) ?_; intro s hv
  refine good_bind (fld Parsed.set_hour p s 2 2 (by omega) hv) ?_; rintro ⟨p, s⟩ hv
  refine good_bind (sa := id) (charT_good _ 58 (by omega) (trim s hv)) ?_; intro s hv
  refine good_bind (fld Parsed.set_minute p _ 2 2 (by omega) (trim s hv)) ?_; rintro ⟨p, s⟩ hv
  refine good_bind (secT_good p s hv) ?_; rintro ⟨p, s⟩ hv
  refine good_bind (space_good s hv) ?_; intro s hv
  refine good_bind (timezone_offset_2822T_good s hv) ?_; rintro ⟨s, off⟩ hv
  refine good_bind (liftStr_good _ s hv) ?_; intro p _
  refine good_bind (commentsAuxT_good s.length s hv) ?_; intro s hv
  exact good_ret _ _ hv

theorem stepT_good (p : Parsed) (s : List Nat) (it : Item) (hv : validUtf8 s = true)
    (hl : ∀ lit, it = .literal lit → validUtf8 lit = true) : GoodT (stepT p s it) (·.2) := by
  unfold stepT
  split
  · exact parse_rfc2822T_good p s hv
  · exact parse_rfc3339_relaxedT_good p s hv
  · exact parseItemBaseT_good p s it hv hl

/-- **every run of the item-driven parser on a `&str` with `&str` literals**: all slices good (failing runs
included), the remainder a `&str` -/
theorem parse_internalT_good : ∀ (items : List Item) (p : Parsed) (s : List Nat), validUtf8 s = true →
    ItemsUtf8 items → GoodT (parse_internalT p s items) (·.2) := by
  intro items
  induction items with
  | nil => intro p s hv _; exact good_ret _ _ hv
  | cons it rest ih =>
    intro p s hv hl
    unfold parse_internalT
    refine good_bind (stepT_good p s it hv (fun lit he => hl lit (by rw [he]; simp))) ?_; rintro ⟨p', s'⟩ hs
    exact ih p' s' hs (fun lit hm => hl lit (List.mem_cons_of_mem _ hm))

end Chrono.Proofs.ScanSlices
