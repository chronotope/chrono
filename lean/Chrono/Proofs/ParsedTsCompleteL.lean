/-
  C14: COMPLETENESS of the timestamp fall-back path of `to_naive_datetime_with_offset` (the resolver
  reconstructs year, ordinal, hour, minute, second from the timestamp field when the date/time fields
  are insufficient), for ordinary and leap-second readings: `ts_path_complete`, on `path_tail` (the
  setters and the two resolvers on the filled-in record).  Rests on C02's `from_timestamp_spec` /
  `inst_inj` and on the completeness theorems of the date and time resolvers (`date_complete_full`,
  `time_complete'`).  Also small facts about records that lack fields, for the instances in Props/C14.
-/
import Chrono.Proofs.ParsedTsL
import Chrono.Proofs.ParsedZonedL
namespace Chrono.Proofs.ParsedRes
open Chrono Chrono.M Chrono.Spec Chrono.Spec.Fields Chrono.Spec.Ts Chrono.Extracted Chrono.Proofs Chrono.Proofs.Ts

/-- a year group whose supplied members agree with a real year of the supported range is coherent -/
theorem coherent_of_agrees (y q r : Option Int) (Y : Int) (hY : -2147483648 ≤ Y ∧ Y ≤ 2147483647)
    (h1 : optIs y Y) (h2 : centIs q r Y) : GroupCoherent y q r := by
  obtain ⟨c1, c2⟩ := h2
  refine ⟨fun rv hr => ?_, fun yv hy hqr => ?_, fun _ qv rv hq hr => ?_⟩
  · have := c2 rv hr; omega
  · have e := h1 yv hy
    subst e
    refine ⟨?_, fun x hx => (c1 x hx).2, fun x hx => (c2 x hx).2⟩
    rcases hqr with h | h
    · obtain ⟨x, hx⟩ := Option.ne_none_iff_exists'.mp h
      exact (c1 x hx).1
    · obtain ⟨x, hx⟩ := Option.ne_none_iff_exists'.mp h
      exact (c2 x hx).1
  · have a := c1 qv hq
    have b := c2 rv hr
    omega

theorem optIn_none (lo hi : Int) : optIn none lo hi := fun _ h => by cases h
theorem optIs_none (v : Int) : optIs none v := fun _ h => by cases h

/-- an empty year group is determinate: the resolver does not consult it -/
theorem groupDeterminate_none (yr : Int) : GroupDeterminate none none none yr :=
  ⟨fun h => h.2.1 rfl, fun _ _ h => (h rfl).elim⟩

/-- a record without date fields agrees with every existing day -/
theorem dateAgrees_of_no_date (p : Parsed) (Y : Int) (o : Nat) (hvd : VD Y o)
    (h : p.year = none ∧ p.year_div_100 = none ∧ p.year_mod_100 = none ∧ p.quarter = none ∧
      p.month = none ∧ p.week_from_sun = none ∧ p.week_from_mon = none ∧ p.weekday = none ∧
      p.ordinal = none ∧ p.day = none ∧ p.isoyear = none ∧ p.isoyear_div_100 = none ∧
      p.isoyear_mod_100 = none ∧ p.isoweek = none) : DateAgrees p Y o := by
  obtain ⟨e1, e2, e3, e4, e5, e6, e7, e8, e9, e10, e11, e12, e13, e14⟩ := h
  obtain ⟨w, hw⟩ := iso_week_ok Y o hvd
  unfold DateAgrees IsoIs centIs
  rw [e1, e2, e3, e4, e5, e6, e7, e8, e9, e10, e11, e12, e13, e14]
  have hno : ∀ {α : Type} {P : α → Prop} (x : α), (none : Option α) = some x → P x := fun _ h => by cases h
  exact ⟨optIs_none _, ⟨hno, hno⟩, optIs_none _, optIs_none _, optIs_none _, optIs_none _, hno,
    optIs_none _, optIs_none _, w, hw, optIs_none _, ⟨hno, hno⟩, optIs_none _⟩

/-- supplied time fields that agree with a valid time of day (leap second or not) are in their
setters' ranges -/
theorem timeInRange_of_supplied (p : Parsed) (t : Time) (ht : TValid t)
    (h : TimeAgreesSupplied p t) : TimeInRange p := by
  obtain ⟨a1, a2, a3, a4, a5⟩ := h
  obtain ⟨t0, t1, f0, f1⟩ := ht
  obtain ⟨r1, r2, r3, r4, _⟩ := hms_split t.secs t0 t1
  refine ⟨fun x hx => ?_, fun x hx => ?_, fun x hx => ?_, fun x hx => ?_, fun x hx => ?_⟩
  · rw [a1 x hx]; exact r1
  · rw [a2 x hx]; exact r2
  · rw [a3 x hx]; exact r3
  · have := a4 x hx
    by_cases c : x = 60
    · rw [c]; decide
    · rw [if_neg c] at this
      rw [← this.1]
      exact ⟨r4.1, Int.le_trans r4.2 (by decide)⟩
  · have := a5 x hx; omega

/-- on supplied time fields that agree with a valid time of day the time resolver fails only for want
of fields -/
theorem time_err_of_supplied (p : Parsed) (t : Time) (ht : TValid t) (h : TimeAgreesSupplied p t)
    (e : PErr) (he : Parsed.to_naive_time p = .error e) : e = .notEnough ∧ ¬ TimeSufficient p := by
  rcases time_err' p e he with h1 | ⟨_, h2⟩
  · exact h1
  · exact absurd (timeInRange_of_supplied p t ht h) h2

/-- a field that agrees with `v` is absent or holds `v`: the setter of the fall-back path accepts it -/
theorem fits_of_optIs {o : Option Int} {v w : Int} (h : optIs o w) (e : w = v) : o = none ∨ o = some v := by
  cases o with
  | none => exact .inl rfl
  | some x => rw [h x rfl, e]; exact .inr rfl

/-- the two halves of the hour as `set_hour` writes them are those of the 12-hour clock -/
theorem hour_halves (a : Int) (h0 : 0 ≤ a) (h1 : a < 86400) :
    a / 3600 / 12 = (if a / 60 / 60 ≤ 11 then 0 else 1) ∧
    a / 3600 % 12 = (if a / 60 / 60 ≤ 11 then a / 60 / 60 else a / 60 / 60 - 12) := by
  have e : a / 60 / 60 = a / 3600 := Int.ediv_ediv_of_nonneg (by decide)
  have hH : 0 ≤ a / 3600 ∧ a / 3600 ≤ 23 := by omega
  rw [e]
  generalize a / 3600 = H at hH ⊢
  split <;> omega

/-- the seconds since the epoch of a reading on an existing day, as the instant functions count them -/
theorem instSecsLocal_eq (Y : Int) (o : Nat) (hvd : VD Y o) (t : Time) :
    timestampIs.instSecsLocal ⟨dateOfYo Y o, t⟩ = instSecs ⟨dateOfYo Y o, t⟩ := by
  obtain ⟨g1, g2, _⟩ := vd_fields Y o hvd
  have hE : EPOCH_DAY = 719163 := rfl
  unfold timestampIs.instSecsLocal instSecs dayNumOf
  rw [g1, g2, hE]

/-- a representable instant with a proper sub-second part is the timestamp of a date-time -/
theorem from_ts_some (g n : Int) (hg : TS_MIN ≤ g ∧ g ≤ TS_MAX) (hn : 0 ≤ n ∧ n < 1000000000) :
    ∃ u, NaiveDT.from_timestamp g n = .ok (some u) ∧ NDTInv u ∧ instSecs u = g ∧ u.time.frac = n := by
  obtain ⟨r0, hr0, hnone, hsome⟩ := from_timestamp_spec g n
    (by unfold isI64; rw [ts_min_val, ts_max_val] at hg; omega) hn.1
  cases r0 with
  | some d0 =>
    obtain ⟨hi, _, hs, hf⟩ := hsome d0 rfl
    exact ⟨d0, hr0, hi, hs, hf⟩
  | none => exact absurd ⟨hg.1, hg.2, Or.inl hn.2⟩ (hnone.mp rfl)

/-- the timestamp of a reading on an existing day denotes that reading at its whole second -/
theorem from_timestamp_local (Y : Int) (o : Nat) (t : Time) (hvd : VD Y o) (ht : TValid t) :
    NDTInv ⟨dateOfYo Y o, ⟨t.secs, 0⟩⟩ ∧
    NaiveDT.from_timestamp (timestampIs.instSecsLocal ⟨dateOfYo Y o, t⟩) 0 =
      .ok (some ⟨dateOfYo Y o, ⟨t.secs, 0⟩⟩) := by
  obtain ⟨v1, v2, v3, v4⟩ := id hvd
  have hinv : NDTInv ⟨dateOfYo Y o, ⟨t.secs, 0⟩⟩ :=
    ⟨(dateInv_of_yo Y o ⟨v1, v2⟩ ⟨v3, v4⟩).1, ht.1, ht.2.1, by dsimp only; omega, by dsimp only; omega⟩
  have hL : timestampIs.instSecsLocal ⟨dateOfYo Y o, t⟩ = instSecs ⟨dateOfYo Y o, ⟨t.secs, 0⟩⟩ :=
    instSecsLocal_eq Y o hvd t
  obtain ⟨u, hu, hi, hs, hf⟩ := from_ts_some _ 0 (hL ▸ instSecs_range _ hinv) (by decide)
  have e := Ts.inst_inj u _ hi hinv (hs.trans hL) hf
  subst e
  exact ⟨hinv, hu⟩

/-- one second before a whole-second date-time that is not the first representable one -/
theorem sub_one_second (d : NaiveDT) (hinv : NDTInv d) (hf : d.time.frac = 0) (hmin : TS_MIN < instSecs d) :
    ∃ d1, NaiveDT.checked_sub_signed d ⟨1, 0⟩ = .ok (some d1) ∧ NDTInv d1 ∧
      instSecs d1 = instSecs d - 1 ∧ d1.time.frac = 0 := by
  obtain ⟨r, hr, hnone, hsome⟩ := dt_sub_exact d ⟨1, 0⟩ hinv (by unfold NonLeap; omega) one_second.2.1
  rw [one_second.2.2] at hnone hsome
  cases r with
  | none =>
    have := hnone.mp rfl
    rw [ns_consts.1, ns_consts.2.1] at this
    unfold instNs at this
    have hmax := (instSecs_range d hinv).2
    rw [ts_min_val] at hmin
    rw [ts_max_val] at hmax
    omega
  | some d1 =>
    obtain ⟨j1, j2, j3⟩ := hsome d1 rfl
    unfold instNs at j3
    unfold NonLeap at j2
    have := j1.2.2.2.1
    exact ⟨d1, hr, j1, by omega, by omega⟩

/-- **the end of the fall-back path**: once the date-time to use is the reading `(Y, o, t)` at its
whole second and the second field holds `s` — 60 for a leap reading, the second of `t` otherwise —,
the four setters accept (every field they overwrite was absent or agrees) and the date and time
resolvers, now supplied with year, ordinal, hour, minute and second, return the reading -/
theorem path_tail (p : Parsed) (hp : InType p) (Y : Int) (o : Nat) (t : Time) (s : Int)
    (hvd : VD Y o) (ht : TValid t)
    (hs : if s = 60 then secondOf t = 59 ∧ 1000000000 ≤ t.frac else secondOf t = s ∧ t.frac < 1000000000)
    (hsold : p.second = none ∨ p.second = some s)
    (hag : DateAgrees p Y o)
    (hdI : ∀ w, (dateOfYo Y o).iso_week = .ok w →
      GroupDeterminate p.isoyear p.isoyear_div_100 p.isoyear_mod_100 (IsoWeek.year w))
    (hta : TimeAgreesSupplied p t) (hnano : p.nanosecond = none → t.frac % 1000000000 = 0) :
    (Parsed.RP.bind (Parsed.liftP (Parsed.set_year { p with second := some s } (dateOfYo Y o).year)) fun p1 =>
     Parsed.RP.bind (Parsed.liftP (Parsed.set_ordinal p1 (dateOfYo Y o).ordinal)) fun p2 =>
     Parsed.RP.bind (Parsed.liftP (Parsed.set_hour p2 (Time.hour ⟨t.secs, 0⟩))) fun p3 =>
     Parsed.RP.bind (Parsed.liftP (Parsed.set_minute p3 (Time.minute ⟨t.secs, 0⟩))) fun p4 =>
     Parsed.RP.bind (Parsed.to_naive_date p4) fun date =>
     Parsed.RP.bind (Parsed.liftP (Parsed.to_naive_time p4)) fun time =>
     (.ok (.ok ⟨date, time⟩) : Parsed.RP NaiveDT)) = .ok (.ok ⟨dateOfYo Y o, t⟩) := by
  obtain ⟨t0, t1, f0, f1⟩ := id ht
  obtain ⟨g1, g2, _, _, _, _, g7⟩ := vd_fields Y o hvd
  obtain ⟨v1, v2, v3, v4⟩ := id hvd
  have hMIN : MIN_YEAR = -262143 := rfl
  have hMAX : MAX_YEAR = 262142 := rfl
  have hhour : Time.hour ⟨t.secs, 0⟩ = t.secs / 60 / 60 := rfl
  have hmin : Time.minute ⟨t.secs, 0⟩ = t.secs / 60 % 60 := rfl
  have hs60 : 0 ≤ s ∧ s ≤ 60 := by unfold secondOf at hs; split at hs <;> omega
  have hy : -2147483648 ≤ Y ∧ Y ≤ 2147483647 := by omega
  have ho : 1 ≤ (o : Int) ∧ (o : Int) ≤ 366 := by omega
  have hh : 0 ≤ t.secs / 60 / 60 ∧ t.secs / 60 / 60 ≤ 23 := by omega
  have hmi : 0 ≤ t.secs / 60 % 60 ∧ t.secs / 60 % 60 ≤ 59 := by omega
  obtain ⟨hd12, hm12⟩ := hour_halves t.secs t0 t1
  obtain ⟨b1, b2, b3, _, b5⟩ := id hta
  have hfit : Fits p s Y o (t.secs / 60 / 60) (t.secs / 60 % 60) :=
    ⟨hsold, fits_of_optIs hag.1 rfl, fits_of_optIs hag.2.2.2.2.2.2.2.1 rfl,
      fits_of_optIs b1 hd12, fits_of_optIs b2 hm12, fits_of_optIs b3 rfl⟩
  rw [g1, g2, hhour, hmin, fill_chain p s Y o _ _ hsold hy ho hh hmi, if_pos hfit]
  -- the filled record holds year and ordinal, and all of hour, minute, second
  have hdate : Parsed.to_naive_date (filled p s Y o (t.secs / 60 / 60) (t.secs / 60 % 60)) =
      .ok (.ok (dateOfYo Y o)) := by
    obtain ⟨_, a2, a3, a4, a5, a6, a7, _, a9, a10⟩ := id hag
    exact date_complete_full _ (inType_filled p hp s Y o _ _ hs60 hy ho hh hmi) Y o hvd
      ⟨fun x hx => by cases hx; rfl, a2, a3, a4, a5, a6, a7, fun x hx => by cases hx; rfl, a9, a10⟩
      ⟨fun h => (by cases h.1), fun h _ _ => (by cases h)⟩ hdI
      (Or.inl ⟨Or.inl (Option.some_ne_none _), Or.inr (Or.inl (Option.some_ne_none _))⟩)
  have htime : Parsed.to_naive_time (filled p s Y o (t.secs / 60 / 60) (t.secs / 60 % 60)) = .ok t := by
    have hstrict : t.frac < 1000000000 ∨ t.secs % 60 = 59 := by
      unfold secondOf at hs; split at hs
      · exact .inr hs.1
      · exact .inl hs.2
    exact time_complete' _ t ⟨ht, hstrict⟩
      ⟨fun x hx => by cases hx; exact hd12.symm, fun x hx => by cases hx; exact hm12.symm,
        fun x hx => by cases hx; rfl, ⟨fun x hx => by cases hx; exact hs, fun h => by cases h⟩, b5, hnano⟩
      ⟨Option.some_ne_none _, Option.some_ne_none _, Option.some_ne_none _, fun _ => Option.some_ne_none _⟩
  rw [hdate, bind_okok, htime]
  rfl

/-- **completeness of the fall-back path**: the timestamp `g` is that of the local reading
`(Y, o, t)` at `off` — or, for a record that holds second 60, one more (the second after the leap
second), then representable —; a leap reading is announced by second 60 (`hsec`); every supplied
date field agrees with the day, every supplied time field with the time of day, the sub-second part
is zero without a nanosecond field and the ISO year group (left untouched by the path) is
determinate.  Then the path returns exactly that reading. -/
theorem ts_path_complete (p : Parsed) (hp : InType p) (off : Int) (Y : Int) (o : Nat) (t : Time)
    (hvd : VD Y o) (ht : TValid t) (hsec : p.second = some 60 ∨ t.frac < 1000000000)
    (hag : DateAgrees p Y o)
    (hdI : ∀ w, (dateOfYo Y o).iso_week = .ok w →
      GroupDeterminate p.isoyear p.isoyear_div_100 p.isoyear_mod_100 (IsoWeek.year w))
    (hta : TimeAgreesSupplied p t) (hnano : p.nanosecond = none → t.frac % 1000000000 = 0) (g : Int)
    (hg : g = timestampIs.instSecsLocal ⟨dateOfYo Y o, t⟩ - off ∨
      (p.second = some 60 ∧ g = timestampIs.instSecsLocal ⟨dateOfYo Y o, t⟩ - off + 1 ∧ g + off ≤ TS_MAX)) :
    Parsed.from_timestamp_path p off g = .ok (.ok ⟨dateOfYo Y o, t⟩) := by
  obtain ⟨_, hb1, hb2⟩ := timestamp_spec Y o t hvd ht
  obtain ⟨t0, t1, f0, f1⟩ := id ht
  obtain ⟨hinv0, hfrom⟩ := from_timestamp_local Y o t hvd ht
  have hL : timestampIs.instSecsLocal ⟨dateOfYo Y o, t⟩ = instSecs ⟨dateOfYo Y o, ⟨t.secs, 0⟩⟩ :=
    instSecsLocal_eq Y o hvd t
  have hrange := instSecs_range _ hinv0
  have hsec4 := hta.2.2.2.1
  -- with second 60 the record is unchanged by the allowance and the tail runs on it as it is
  have htail60 : p.second = some 60 → _ := fun h60 => by
    have h := path_tail p hp Y o t 60 hvd ht (by rw [if_pos rfl]; exact hsec4 60 h60) (.inr h60) hag hdI hta hnano
    have hp60 : { p with second := some 60 } = p := by cases p; cases h60; rfl
    rw [hp60] at h
    exact h
  generalize timestampIs.instSecsLocal ⟨dateOfYo Y o, t⟩ = L at *
  rw [ts_min_val, ts_max_val] at hrange
  unfold Parsed.from_timestamp_path
  rcases hg with rfl | ⟨h60, rfl, hmax⟩
  · have e0 : L - off + off = L := by omega
    rw [e0, optI64_some (by omega) (by omega)]
    simp only [hfrom, okOr_some, bind_okok]
    unfold Parsed.leap_adjust
    by_cases h60 : p.second = some 60
    · have h59 : Time.second ⟨t.secs, 0⟩ = 59 := by
        have := hsec4 60 h60; rw [if_pos rfl] at this; exact this.1
      rw [if_pos h60]
      dsimp only
      rw [if_pos h59, bind_okok]
      exact htail60 h60
    · -- the second of the reading goes into the record
      have hnl : t.frac < 1000000000 := hsec.resolve_left h60
      have hsold : p.second = none ∨ p.second = some (t.secs % 60) := by
        cases hs : p.second with
        | none => exact .inl rfl
        | some x =>
          have := hsec4 x hs
          rw [if_neg (fun c => h60 (by rw [hs, c]))] at this
          rw [← this.1]; exact .inr rfl
      have hset : Parsed.set_second p (Time.second ⟨t.secs, 0⟩) = .ok { p with second := some (t.secs % 60) } :=
        (set_second_ok _ _ _).mpr ⟨_, (inRange_ok _ _ _ _).mpr ⟨by show 0 ≤ t.secs % 60 ∧ t.secs % 60 ≤ 60; omega, rfl⟩, hsold, rfl⟩
      rw [if_neg h60]
      dsimp only
      rw [hset]
      simp only [Parsed.liftP, bind_okok]
      exact path_tail p hp Y o t (t.secs % 60) hvd ht (by rw [if_neg (by omega)]; exact ⟨rfl, hnl⟩) hsold
        hag hdI hta hnano
  · -- the timestamp of the second after the leap second: the allowance steps back to the reading
    have h59 : t.secs % 60 = 59 := by
      have := hsec4 60 h60; rw [if_pos rfl] at this; exact this.1
    have e0 : L - off + 1 + off = L + 1 := by omega
    rw [e0] at hmax ⊢
    rw [ts_max_val] at hmax
    rw [optI64_some (by omega) (by omega)]
    obtain ⟨dtm, hdtm, hinv, hsecs, hfrac⟩ := from_ts_some (L + 1) 0 (by rw [ts_min_val, ts_max_val]; omega) (by decide)
    simp only [hdtm, okOr_some, bind_okok]
    unfold Parsed.leap_adjust
    have hE : EPOCH_DAY = 719163 := rfl
    have hL' : L = (dayNumOf (dateOfYo Y o) - EPOCH_DAY) * 86400 + t.secs := hL
    have hs' : instSecs dtm = (dayNumOf dtm.date - EPOCH_DAY) * 86400 + dtm.time.secs := rfl
    obtain ⟨hdi, u0, u1, _, _⟩ := id hinv
    have hsec0 : dtm.time.second = 0 := by
      show dtm.time.secs % 60 = 0
      omega
    rw [if_pos h60, if_neg (by rw [hsec0]; decide), if_pos hsec0, one_second.1]
    dsimp only
    obtain ⟨d1, hr, j1, js, jf⟩ := sub_one_second dtm hinv hfrac (by rw [hsecs, ts_min_val]; omega)
    have hd1 : d1 = ⟨dateOfYo Y o, ⟨t.secs, 0⟩⟩ :=
      Ts.inst_inj d1 _ j1 hinv0 (by rw [js, hsecs, ← hL]; omega) jf
    subst hd1
    simp only [hr, okOr_some, bind_okok]
    exact htail60 h60

/-- the timestamp a zone-aware value denotes is that of its wall clock at its offset -/
theorem zoned_stamp (z : Zoned) (hz : ZInv z) (Y : Int) (o : Nat) (t : Time) (hvd : VD Y o) (ht : TValid t)
    (hl : Zoned.naive_local z = .ok ⟨dateOfYo Y o, t⟩) :
    Zoned.from_local_datetime z.off ⟨dateOfYo Y o, t⟩ = .ok (some z) ∧
    instSecs z.utc = timestampIs.instSecsLocal ⟨dateOfYo Y o, t⟩ - z.off ∧ z.utc.time.frac = t.frac := by
  obtain ⟨v1, v2, v3, v4⟩ := id hvd
  obtain ⟨i1, _⟩ := dateInv_of_yo Y o ⟨v1, v2⟩ ⟨v3, v4⟩
  have hfl := (Chrono.Props.C04.utc_of_fromUtc z.off z.utc hz.2 hz.1).2.2 _ hl
  have hzz : Zoned.from_utc_datetime z.off z.utc = z := by cases z; rfl
  rw [hzz] at hfl
  obtain ⟨_, _, _, _, e1, e2⟩ :=
    Chrono.Props.C04.local_of_fromLocal z.off ⟨dateOfYo Y o, t⟩ hz.2 ⟨i1, ht⟩ z hfl
  exact ⟨hfl, by rw [e1, instSecsLocal_eq Y o hvd t], e2⟩

/-- the last stage of `to_datetime`: once the naive stage, run at `z`'s offset, gives the wall clock of
`z`, the result is `z` (the offset to use is the offset field, or 0 beside a lone timestamp) -/
theorem to_datetime_of_naive (p : Parsed) (z : Zoned) (hz : ZInv z) (l : NaiveDT)
    (hfl : Zoned.from_local_datetime z.off l = .ok (some z))
    (hn : Parsed.to_naive_datetime_with_offset p z.off = .ok (.ok l))
    (hoff : p.offset = some z.off ∨ (p.offset = none ∧ p.timestamp ≠ none ∧ z.off = 0)) :
    Parsed.to_datetime p = .ok (.ok z) := by
  have hzo := hz.2
  unfold OffValid at hzo
  have he : Zoned.east_opt z.off = some z.off := by unfold Zoned.east_opt; rw [if_pos hzo]
  rcases hoff with h | ⟨h1, h2, h3⟩
  · simp only [Parsed.to_datetime, h, hn, Parsed.RP.bind, he, hfl]
  · obtain ⟨g, hg⟩ := Option.ne_none_iff_exists'.mp h2
    rw [h3] at hn he hfl
    simp only [Parsed.to_datetime, h1, hg, hn, Parsed.RP.bind, he, hfl]

end Chrono.Proofs.ParsedRes
