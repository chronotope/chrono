/-
  C10, audit2 gap L3: the `Z` the writer prints on request for offset zero is the UPPER-CASE `Z` (byte 90).
  `Matches` (and the harness's grammar oracle) accept `z` too, so without this only the byte-for-byte model
  comparison fixed the case.  Namespace `Chrono.Proofs.Rfc3339`.
-/
import Chrono.Proofs.Rfc3339WriteL

namespace Chrono.Proofs.Rfc3339
open Chrono Chrono.M Chrono.M.Format Chrono.M.Rfc3339 Chrono.Spec Chrono.Spec.Rfc3339

theorem writer_zulu_upper (z : Zoned) (hz : ZInv z) (hy : WallYear0to9999 (wallSecs z)) (h0 : z.off = 0)
    (sf : SecondsFormat) (t : List Nat) (h : to_rfc3339_opts z sf true = .ok t) :
    t.getLast? = some 90 := by
  obtain ⟨Y, mo, d, _, _, _, ht⟩ := to_rfc3339_opts_text z hz hy sf true
  rw [ht, h0] at h
  rw [← Res.ok.inj h, show offText true 0 = [90] from rfl]
  -- reassociated, the text is `_ ++ [90]`
  simp only [stampText, ← List.append_assoc, ← List.cons_append]
  exact List.getLast?_concat ..

end Chrono.Proofs.Rfc3339
