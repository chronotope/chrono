/-
  Helper lemmas for C13 (format-string round trip): white-space skipping (`trimStart`, `wsLen`), the
  generic chain lemma that lifts per-item inversion to item lists, and the items that need no arithmetic:
  literals, white space, am/pm, month and weekday names.  Namespace `Chrono.Proofs.RoundTrip`.
-/
import Chrono.Model.ParseFrom

namespace Chrono.Proofs.RoundTrip
open Chrono Chrono.M Chrono.M.Scan

/-! ### `trim_start` -/

theorem trimStartAux_fuel : ∀ (f1 f2 : Nat) (s : List Nat), s.length ≤ f1 → s.length ≤ f2 →
    trimStartAux f1 s = trimStartAux f2 s := by
  intro f1
  induction f1 with
  | zero =>
    intro f2 s h1 _
    have : s = [] := List.eq_nil_of_length_eq_zero (by omega)
    subst this
    cases f2 <;> simp [trimStartAux, wsLen]
  | succ f ih =>
    intro f2 s h1 h2
    cases f2 with
    | zero =>
      have : s = [] := List.eq_nil_of_length_eq_zero (by omega)
      subst this
      simp [trimStartAux, wsLen]
    | succ g =>
      simp only [trimStartAux]
      by_cases hn : wsLen s = 0
      · simp [hn]
      · simp only [hn, if_false]
        apply ih
        · simp only [List.length_drop]; omega
        · simp only [List.length_drop]; omega

/-- a string that does not start with white space is left alone -/
theorem trimStart_noop (s : List Nat) (h : wsLen s = 0) : trimStart s = s := by
  unfold trimStart
  cases hs : s.length with
  | zero => simp [trimStartAux]
  | succ n => simp [trimStartAux, h]

/-- one white-space character `c` (its UTF-8 bytes) in front is skipped -/
theorem trimStart_char (c s : List Nat) (hc : c ≠ []) (h : wsLen (c ++ s) = c.length) :
    trimStart (c ++ s) = trimStart s := by
  have hl : 0 < c.length := List.length_pos_iff.mpr hc
  unfold trimStart
  rw [show (c ++ s).length = (c.length + s.length - 1) + 1 by simp only [List.length_append]; omega]
  simp only [trimStartAux, h]
  rw [if_neg (by omega), List.drop_left]
  exact trimStartAux_fuel _ _ _ (by omega) (Nat.le_refl _)

/-- `cs` is a list of white-space characters, each given by its UTF-8 bytes -/
def WsChars (cs : List (List Nat)) : Prop := ∀ c ∈ cs, c ≠ [] ∧ ∀ s, wsLen (c ++ s) = c.length

theorem trimStart_run (cs : List (List Nat)) (s : List Nat) (h : WsChars cs) :
    trimStart (cs.flatten ++ s) = trimStart s := by
  induction cs with
  | nil => simp
  | cons c cs ih =>
    have hc := h c (List.mem_cons_self)
    rw [List.flatten_cons, List.append_assoc, trimStart_char c _ hc.1 (hc.2 _)]
    exact ih (fun c' hc' => h c' (List.mem_cons_of_mem _ hc'))

/-- the ASCII white-space bytes -/
def isAsciiWs (b : Nat) : Bool := (decide (9 ≤ b) && decide (b ≤ 13)) || b == 32

theorem wsLen_asciiWs (b : Nat) (s : List Nat) (h : isAsciiWs b = true) : wsLen (b :: s) = 1 := by
  have : (9 ≤ b ∧ b ≤ 13) ∨ b = 32 := by
    simp only [isAsciiWs, Bool.or_eq_true, Bool.and_eq_true, decide_eq_true_eq, beq_iff_eq] at h
    exact h
  simp only [wsLen, this, if_true]

/-- an ASCII byte other than the six ASCII white-space bytes does not start a white-space character -/
theorem wsLen_ascii (a : Nat) (t : List Nat) (h1 : a < 128) (h2 : ¬ ((9 ≤ a ∧ a ≤ 13) ∨ a = 32)) :
    wsLen (a :: t) = 0 := by
  simp only [wsLen, h2, if_false]
  split <;> first | rfl | omega

theorem wsLen_digit (b : Nat) (s : List Nat) (h : isDigit b = true) : wsLen (b :: s) = 0 := by
  simp only [isDigit, Bool.and_eq_true, decide_eq_true_eq] at h
  exact wsLen_ascii b s (by omega) (by omega)

/-- what may follow a token that reads digits greedily: the end, or a byte that is not a digit -/
def StopsDigits (rest : List Nat) : Prop := ∀ b t, rest = b :: t → isDigit b = false

/-! ### chains of tokens -/

/-- one iteration of the loop of `parse_internal` -/
def step (p : Parsed) (s : List Nat) (it : Item) : PRes (Parsed × List Nat) :=
  match it with
  | .fixed .rfc2822 => Parse.parse_rfc2822 p s
  | .fixed .rfc3339 => Parse.parse_rfc3339_relaxed p s
  | _ => Parse.parseItemBase p s it

theorem parse_internal_cons (p : Parsed) (s : List Nat) (it : Item) (is : List Item) :
    Parse.parse_internal p s (it :: is) =
      match step p s it with
      | .ok (p', s') => Parse.parse_internal p' s' is
      | .error e => .error e := by
  cases it with
  | fixed f => cases f <;> rfl
  | _ => rfl

/-- what one item contributes to a formatted text: its rendering and the setter call the reader
makes for it -/
structure Tok where
  text : List Nat
  set : Parsed → PRes Parsed

/-- reading the item from its rendering followed by `rest` consumes exactly the rendering and makes
exactly the setter call -/
def InvertsAt (it : Item) (tk : Tok) (rest : List Nat) : Prop :=
  ∀ p, step p (tk.text ++ rest) it = (tk.set p).map fun p' => (p', rest)

def applyAll : List Tok → Parsed → PRes Parsed
  | [], p => .ok p
  | tk :: tks, p =>
    match tk.set p with
    | .ok p' => applyAll tks p'
    | .error e => .error e

def flatText (tks : List Tok) : List Nat := (tks.map (·.text)).flatten

/-- every item inverts in front of what follows it -/
def Chain : List Item → List Tok → List Nat → Prop
  | [], [], _ => True
  | it :: is, tk :: tks, rest => InvertsAt it tk (flatText tks ++ rest) ∧ Chain is tks rest
  | _, _, _ => False

theorem chain_parse : ∀ (is : List Item) (tks : List Tok) (rest : List Nat) (p : Parsed),
    Chain is tks rest →
    Parse.parse_internal p (flatText tks ++ rest) is = (applyAll tks p).map fun p' => (p', rest) := by
  intro is
  induction is with
  | nil =>
    intro tks rest p h
    cases tks with
    | nil => rfl
    | cons _ _ => exact absurd h (by simp [Chain])
  | cons it is ih =>
    intro tks rest p h
    cases tks with
    | nil => exact absurd h (by simp [Chain])
    | cons tk tks =>
      obtain ⟨h1, h2⟩ := h
      rw [parse_internal_cons]
      have e : flatText (tk :: tks) ++ rest = tk.text ++ (flatText tks ++ rest) := by
        simp [flatText]
      rw [e, h1 p]
      simp only [applyAll]
      cases hs : tk.set p with
      | error e => rfl
      | ok p' => exact ih tks rest p' h2

theorem applyAll_congr : ∀ (tks tks' : List Tok) (p : Parsed),
    tks.map (·.set) = tks'.map (·.set) → applyAll tks p = applyAll tks' p := by
  intro tks
  induction tks with
  | nil =>
    intro tks' p h
    cases tks' with
    | nil => rfl
    | cons _ _ => simp at h
  | cons tk tks ih =>
    intro tks' p h
    cases tks' with
    | nil => simp at h
    | cons tk' tks' =>
      simp only [List.map_cons, List.cons.injEq] at h
      simp only [applyAll, h.1]
      cases tk'.set p with
      | error e => rfl
      | ok p' => exact ih tks' p' h.2

/-- a closed resolution result can be checked through a `Bool` (core `Except` has no `DecidableEq`) -/
theorem rp_eq_of_check {α} [DecidableEq α] (r : Parsed.RP α) (v : α)
    (h : (match r with | .ok (.ok a) => decide (a = v) | _ => false) = true) : r = .ok (.ok v) := by
  cases r with
  | panic => cases h
  | ok x =>
    cases x with
    | error e => cases h
    | ok a => simp only [decide_eq_true_eq] at h; rw [h]

/-! ### literals and white space -/

theorem literal_inverts (lit rest : List Nat) : InvertsAt (.literal lit) ⟨lit, .ok⟩ rest := by
  intro p
  simp only [step, Parse.parseItemBase, Parse.parseLiteral, List.length_append]
  rw [if_neg (by omega), List.take_left, if_neg (by simp), List.drop_left]
  rfl

/-- a white-space character at the head of a text: its bytes (as many as the lead byte announces) are a
prefix that is read as that one character whatever follows.  One `split` of `wsLen`; every arm names its
character. -/
theorem wsLen_char (b : Nat) (rest : List Nat) (h : wsLen (b :: rest) ≠ 0) :
    ∃ c r, b :: rest = c ++ r ∧ c.length = wsLen (b :: rest) ∧ c.length = charLen b ∧
      ∀ t, wsLen (c ++ t) = c.length := by
  by_cases h1 : (9 ≤ b ∧ b ≤ 13) ∨ b = 32
  · have e : ∀ t, wsLen (b :: t) = 1 := fun t => by simp only [wsLen, if_pos h1]
    exact ⟨[b], rest, rfl, (e rest).symm, by unfold charLen; rw [if_pos (by omega)]; rfl, e⟩
  · simp only [wsLen, if_neg h1] at h ⊢
    split at h
    · rename_i c t
      have hc : c = 133 ∨ c = 160 := Decidable.by_contra fun hc => h (if_neg hc)
      exact ⟨[194, c], t, rfl, (if_pos hc).symm, rfl, fun _ => if_pos hc⟩
    · exact ⟨[225, 154, 128], _, rfl, rfl, rfl, fun _ => rfl⟩
    · rename_i c t
      have hc : (128 ≤ c ∧ c ≤ 138) ∨ c = 168 ∨ c = 169 ∨ c = 175 := Decidable.by_contra fun hc => h (if_neg hc)
      exact ⟨[226, 128, c], t, rfl, (if_pos hc).symm, rfl, fun _ => if_pos hc⟩
    · exact ⟨[226, 129, 159], _, rfl, rfl, rfl, fun _ => rfl⟩
    · exact ⟨[227, 128, 128], _, rfl, rfl, rfl, fun _ => rfl⟩
    · exact absurd rfl h

theorem wsLen_prefix (s : List Nat) (h : wsLen s ≠ 0) :
    ∃ c r, s = c ++ r ∧ c.length = wsLen s ∧ c ≠ [] ∧ ∀ t, wsLen (c ++ t) = c.length := by
  cases s with
  | nil => exact absurd rfl h
  | cons b rest =>
    obtain ⟨c, r, e, hl, _, hw⟩ := wsLen_char b rest h
    exact ⟨c, r, e, hl, fun hc => h (by rw [← hl, hc]; rfl), hw⟩

/-- a white-space item skips *any* run of white-space characters (also none), provided what
follows does not start with white space -/
theorem space_inverts (sp : List Nat) (cs : List (List Nat)) (rest : List Nat) (h : WsChars cs)
    (hr : wsLen rest = 0) : InvertsAt (.space sp) ⟨cs.flatten, .ok⟩ rest := by
  intro p
  simp only [step, Parse.parseItemBase]
  rw [trimStart_run cs rest h, trimStart_noop rest hr]
  rfl

/-! ### am/pm -/

theorem or32_of_lowerB (a x : Nat) (hx : 97 ≤ x ∧ x ≤ 122) (h : lowerB a = x) : or32 a = x := by
  unfold lowerB at h
  unfold or32
  split at h <;> split <;> omega

/-- `%p`/`%P` read `AM`/`PM` in any letter case -/
theorem ampm_inverts (f : Fixed) (hf : f = .lowerAmPm ∨ f = .upperAmPm) (pm : Bool) (a b : Nat)
    (rest : List Nat) (ha : lowerB a = (if pm then 112 else 97)) (hb : lowerB b = 109) :
    InvertsAt (.fixed f) ⟨[a, b], fun p => p.set_ampm pm⟩ rest := by
  intro p
  have hb' : or32 b = 109 := or32_of_lowerB b 109 (by omega) hb
  have ha' : or32 a = (if pm then 112 else 97) := by
    cases pm
    · exact or32_of_lowerB a 97 (by omega) ha
    · exact or32_of_lowerB a 112 (by omega) ha
  rcases hf with rfl | rfl <;> cases pm <;>
    simp [step, Parse.parseItemBase, Parse.parseFixedBase, ha', hb', Except.map] at ha' ⊢ <;>
    cases p.set_ampm _ <;> rfl

/-! ### names: read in any letter case -/

theorem or32_alpha (x : Nat) (hx : isAsciiAlpha x = true) :
    or32 x = lowerB x ∧ 97 ≤ lowerB x ∧ lowerB x ≤ 122 := by
  simp only [isAsciiAlpha, Bool.or_eq_true, Bool.and_eq_true, decide_eq_true_eq] at hx
  unfold or32 lowerB
  split <;> split <;> omega

theorem or32_of_case (a x : Nat) (hx : isAsciiAlpha x = true) (h : lowerB a = lowerB x) :
    or32 a = or32 x := by
  obtain ⟨h1, h2⟩ := or32_alpha x hx
  rw [h1]; exact or32_of_lowerB a _ h2 h

theorem short_name_reads (tbl : List (List Nat)) (a b c i : Nat) (t rest : List Nat)
    (ha : isAsciiAlpha a = true) (hb : isAsciiAlpha b = true) (hc : isAsciiAlpha c = true)
    (hidx : findIdx tbl [or32 a, or32 b, or32 c] = some i) (ht : lowerS t = lowerS [a, b, c]) :
    short_name tbl (t ++ rest) = .ok (rest, i) := by
  have hl : t.length = 3 := by simpa [lowerS] using congrArg List.length ht
  rcases t with _ | ⟨a', _ | ⟨b', _ | ⟨c', _ | ⟨d', t'⟩⟩⟩⟩ <;> simp at hl
  simp only [lowerS, List.map_cons, List.map_nil, List.cons.injEq, and_true] at ht
  obtain ⟨h1, h2, h3⟩ := ht
  simp only [short_name, List.cons_append, List.nil_append, or32_of_case a' a ha h1,
    or32_of_case b' b hb h2, or32_of_case c' c hc h3, hidx]

theorem eatSuffix_reads (suf tsuf rest : List Nat) (h : lowerS tsuf = lowerS suf) :
    eatSuffix (tsuf ++ rest) suf = rest := by
  have hl : tsuf.length = suf.length := by simpa [lowerS] using congrArg List.length h
  unfold eatSuffix
  rw [← hl, List.take_left, List.drop_left, if_pos ⟨by simp, h⟩]

/-- a name `n3 ++ nsuf` in any letter case splits into its three-letter head and the rest -/
theorem split_case (t n3 nsuf : List Nat) (h3 : n3.length = 3) (h : lowerS t = lowerS (n3 ++ nsuf)) :
    lowerS (t.take 3) = lowerS n3 ∧ lowerS (t.drop 3) = lowerS nsuf := by
  unfold lowerS at *
  constructor
  · rw [List.map_take, h, List.map_append, List.take_left' (by simp [h3])]
  · rw [List.map_drop, h, List.map_append, List.drop_left' (by simp [h3])]

/-- table facts, checked on the extracted tables: the default short month name `m0` is three ASCII
letters that the reader's table maps to `m0`, and the long name is the short one plus the reader's
suffix (up to letter case) -/
def monthNameOk (m0 : Nat) : Bool :=
  match Extracted.LOC_SHORT_MONTHS.getD m0 [] with
  | [a, b, c] =>
    isAsciiAlpha a && isAsciiAlpha b && isAsciiAlpha c &&
    findIdx Extracted.SHORT_MONTHS [or32 a, or32 b, or32 c] == some m0 &&
    (Extracted.LOC_LONG_MONTHS.getD m0 []).take 3 == [a, b, c] &&
    lowerS ((Extracted.LOC_LONG_MONTHS.getD m0 []).drop 3) == lowerS (Extracted.LONG_MONTH_SUFFIXES.getD m0 [])
  | _ => false

theorem monthNames_ok : ∀ m0 : Nat, m0 < 12 → monthNameOk m0 = true := by decide

/-- `%b`/`%h` and `%B`: the default month names are read back in any letter case -/
theorem month_name_reads (m0 : Nat) (hm : m0 < 12) (t rest : List Nat) :
    (lowerS t = lowerS (Extracted.LOC_SHORT_MONTHS.getD m0 []) → short_month0 (t ++ rest) = .ok (rest, m0)) ∧
    (lowerS t = lowerS (Extracted.LOC_LONG_MONTHS.getD m0 []) → short_or_long_month0 (t ++ rest) = .ok (rest, m0)) := by
  have hk := monthNames_ok m0 hm
  unfold monthNameOk at hk
  split at hk
  · rename_i a b c hs
    simp only [Bool.and_eq_true, beq_iff_eq] at hk
    obtain ⟨⟨⟨⟨⟨ha, hb⟩, hc⟩, hidx⟩, htake⟩, hsuf⟩ := hk
    constructor
    · intro ht
      rw [hs] at ht
      exact short_name_reads _ a b c m0 t rest ha hb hc hidx ht
    · intro ht
      have hlong : Extracted.LOC_LONG_MONTHS.getD m0 [] = [a, b, c] ++ (Extracted.LOC_LONG_MONTHS.getD m0 []).drop 3 := by
        rw [← htake, List.take_append_drop]
      rw [hlong] at ht
      obtain ⟨h3, hd⟩ := split_case t [a, b, c] _ rfl ht
      have e : t ++ rest = t.take 3 ++ (t.drop 3 ++ rest) := by
        rw [← List.append_assoc, List.take_append_drop]
      unfold short_or_long_month0 short_month0
      rw [e, short_name_reads _ a b c m0 (t.take 3) _ ha hb hc hidx h3]
      simp only
      rw [eatSuffix_reads _ _ rest (hd.trans hsuf)]
  · cases hk

/-- the same facts for weekdays; names are indexed by `num_days_from_sunday` in the writer's
tables, by `num_days_from_monday` in the reader's suffix table -/
def weekdayNameOk (w : Weekday) : Bool :=
  match Extracted.LOC_SHORT_WEEKDAYS.getD w.num_days_from_sunday [] with
  | [a, b, c] =>
    isAsciiAlpha a && isAsciiAlpha b && isAsciiAlpha c &&
    (match findIdx Extracted.SHORT_WEEKDAYS [or32 a, or32 b, or32 c] with
     | some i => weekdayOfIdx i == some w
     | none => false) &&
    (Extracted.LOC_LONG_WEEKDAYS.getD w.num_days_from_sunday []).take 3 == [a, b, c] &&
    lowerS ((Extracted.LOC_LONG_WEEKDAYS.getD w.num_days_from_sunday []).drop 3) ==
      lowerS (Extracted.LONG_WEEKDAY_SUFFIXES.getD w.num_days_from_monday [])
  | _ => false

theorem weekdayNames_ok (w : Weekday) : weekdayNameOk w = true := by cases w <;> decide

theorem weekday_name_reads (w : Weekday) (t rest : List Nat) :
    (lowerS t = lowerS (Extracted.LOC_SHORT_WEEKDAYS.getD w.num_days_from_sunday []) →
      short_weekday (t ++ rest) = .ok (rest, w)) ∧
    (lowerS t = lowerS (Extracted.LOC_LONG_WEEKDAYS.getD w.num_days_from_sunday []) →
      short_or_long_weekday (t ++ rest) = .ok (rest, w)) := by
  have hk := weekdayNames_ok w
  unfold weekdayNameOk at hk
  split at hk
  · rename_i a b c hs
    simp only [Bool.and_eq_true, beq_iff_eq] at hk
    obtain ⟨⟨⟨⟨⟨ha, hb⟩, hc⟩, hidx⟩, htake⟩, hsuf⟩ := hk
    split at hidx
    · rename_i i hi
      simp only [beq_iff_eq] at hidx
      have hshort : ∀ (t' r : List Nat), lowerS t' = lowerS [a, b, c] → short_weekday (t' ++ r) = .ok (r, w) := by
        intro t' r ht'
        unfold short_weekday
        rw [short_name_reads _ a b c i t' r ha hb hc hi ht']
        simp only [hidx]
      constructor
      · intro ht
        rw [hs] at ht
        exact hshort t rest ht
      · intro ht
        have hlong : Extracted.LOC_LONG_WEEKDAYS.getD w.num_days_from_sunday [] =
            [a, b, c] ++ (Extracted.LOC_LONG_WEEKDAYS.getD w.num_days_from_sunday []).drop 3 := by
          rw [← htake, List.take_append_drop]
        rw [hlong] at ht
        obtain ⟨h3, hd⟩ := split_case t [a, b, c] _ rfl ht
        have e : t ++ rest = t.take 3 ++ (t.drop 3 ++ rest) := by
          rw [← List.append_assoc, List.take_append_drop]
        unfold short_or_long_weekday
        rw [e, hshort (t.take 3) _ h3]
        simp only
        rw [eatSuffix_reads _ _ rest (hd.trans hsuf)]
    · cases hidx
  · cases hk

end Chrono.Proofs.RoundTrip
