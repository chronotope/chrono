/- Helper lemmas for the C07 audit gaps (audit/C07.md §6): the two specifications `addLeap` and
   `diffLeap` linked (G1, G2), the acceptance rule as a property of values (G5), replacement read
   through the accessors (G6). -/
import Chrono.Proofs.TimeL
import Chrono.Spec.TimeDiffSpec

namespace Chrono.Proofs.TimeGaps
open Chrono Chrono.M Chrono.Spec Chrono.Proofs Chrono.Extracted

/-- the distance from `t` to a read-back point, carry included: `t`'s leap second is counted iff
the point's second of the day is later -/
theorem diff_wrap (t : Time) (q : Int) :
    diffLeap (wrap q).1 t + (wrap q).2 * 1000000000 =
      q - pos t + (if t.frac ≥ 1000000000 ∧ t.secs < (wrap q).1.secs then 1000000000 else 0) := by
  obtain ⟨_, hf, _, hp⟩ := wrap_spec q
  unfold diffLeap linePos
  rw [if_neg (fun h => by omega : ¬ ((wrap q).1.frac ≥ 1000000000 ∧ (wrap q).1.secs < t.secs))]
  omega

/-- `(t + δ) − t`, carry included, is `δ` up to `diffAddErr` -/
theorem diff_after_add (t : Time) (δ : Int) (ht : TValid t) :
    diffLeap (addLeap t δ).1 t + (addLeap t δ).2 * 1000000000 = δ + diffAddErr t δ := by
  have hpos : pos t = t.secs * 1000000000 + t.frac := rfl
  unfold TValid at ht
  unfold diffAddErr
  by_cases h1 : t.frac < 1000000000 ∨ pos t + δ < (t.secs + 1) * 1000000000
  · rw [addLeap_plain t δ h1, diff_wrap]
    (repeat' split) <;> omega
  · by_cases h2 : pos t + δ < (t.secs + 2) * 1000000000
    · rw [addLeap_inside t δ (by omega) (by omega), if_neg (by omega), if_neg (by omega)]
      unfold diffLeap linePos pos
      dsimp only
      rw [if_neg (by omega), if_neg (by omega)]
      omega
    · rw [addLeap_after t δ (by omega) (by omega), diff_wrap]
      (repeat' split) <;> omega

/-- no day crossed: no error.  An error needs the leap second to be left; without a carry the
position read back is the position reached, on the operand's own side of its leap second. -/
theorem diffAddErr_same_day (t : Time) (δ : Int) (h0 : (addLeap t δ).2 = 0) :
    diffAddErr t δ = 0 := by
  have hw : ∀ q, (wrap q).1.secs * 1000000000 + (wrap q).1.frac + (wrap q).2 * 1000000000 = q :=
    fun q => (wrap_spec q).2.2.2
  unfold diffAddErr
  rw [if_neg, if_neg]
  · intro ⟨hl, ha, hs⟩
    rw [addLeap_after t δ hl ha] at h0 hs
    have := hw (pos t + δ - 1000000000)
    have := (wrap_spec (pos t + δ - 1000000000)).2.1
    omega
  · intro ⟨_, hb, hs⟩
    rw [addLeap_plain t δ (Or.inr hb)] at h0 hs
    have := hw (pos t + δ)
    have := (wrap_spec (pos t + δ)).1.2.2.1
    omega

theorem diffAddErr_nonleap (t : Time) (δ : Int) (h : t.frac < 1000000000) : diffAddErr t δ = 0 := by
  unfold diffAddErr
  rw [if_neg (by omega), if_neg (by omega)]

/-! ### the acceptance rule as a property of values (G5) -/

/-- for a valid time, the strict invariant is the statement's acceptance rule on its four fields -/
theorem strict_iff_ok (t : Time) (ht : TValid t) :
    TStrict t ↔ okFields (hourOf t) (minuteOf t) (secondOf t) t.frac := by
  simp only [TValid] at ht
  unfold TStrict TValid okFields hourOf minuteOf secondOf
  omega

/-- … and exactly then the constructor, fed the four fields, returns the time itself -/
theorem strict_iff_ctor (t : Time) (ht : TValid t) :
    TStrict t ↔ Time.from_hms_nano_opt (hourOf t) (minuteOf t) (secondOf t) t.frac = some t := by
  rw [hms_nano_iff', strict_iff_ok t ht]
  have e : ofFields (hourOf t) (minuteOf t) (secondOf t) t.frac = t := by
    unfold ofFields hourOf minuteOf secondOf
    rw [split3600]
  constructor
  · intro h; rw [if_pos h, e]
  · intro h
    by_cases c : okFields (hourOf t) (minuteOf t) (secondOf t) t.frac
    · exact c
    · rw [if_neg c] at h; cases h

/-! ### replacement read through the accessors (G6) -/

theorem acc_ofFields (h m s n : Int) (hh : 0 ≤ h ∧ h < 24) (hm : 0 ≤ m ∧ m < 60)
    (hs : 0 ≤ s ∧ s < 60) (hn : 0 ≤ n ∧ n < 2000000000) :
    TValid (ofFields h m s n) ∧ (ofFields h m s n).hour = h ∧ (ofFields h m s n).minute = m ∧
    (ofFields h m s n).second = s ∧ (ofFields h m s n).nanosecond = n := by
  obtain ⟨v, e1, e2, e3, e4⟩ := ofFields_valid h m s n hh hm hs hn
  obtain ⟨a1, a2, a3, a4, _⟩ := accessors' (ofFields h m s n) v
  exact ⟨v, a1.trans e1, a2.trans e2, a3.trans e3, a4.trans e4⟩

theorem refused_iff {α : Type} {c : Prop} [Decidable c] (x : α) :
    (if c then some x else none) = none ↔ ¬ c := by
  by_cases h : c
  · rw [if_pos h]; exact ⟨fun e => (by cases e), fun n => absurd h n⟩
  · rw [if_neg h]; exact ⟨fun _ => h, fun _ => rfl⟩

end Chrono.Proofs.TimeGaps
