/-
  C09, `FixedOffset`: the writer's text of an offset of less than a day (`±hh:mm`, with `:ss` when the
  offset is not a whole minute) and what the offset scanner of the `FromStr` readers makes of it.
-/
import Chrono.Proofs.TextFormsL
namespace Chrono.Proofs.TextForms
open Chrono Chrono.M Chrono.M.Scan Chrono.M.Format Chrono.M.TextForms Chrono.Spec.Text
open Chrono.Proofs.RenderScan

theorem fmtInt_two (n : Nat) (h : n < 100) : fmtInt (n : Int) 2 .zero false = two n := by
  rw [fmtInt_eq_decN _ 2 (by omega) (by omega) (by norm_num; omega), Int.toNat_natCast, decN_two n h]

/-- `FixedOffset`'s text: sign, `hh:mm`, and `:ss` unless the offset is a whole minute -/
theorem offset_debug_eq (off : Int) (h : -86400 < off ∧ off < 86400) :
    offset_debug off = (if off < 0 then 45 else 43) ::
      (two (off.natAbs / 3600) ++ 58 :: (two (off.natAbs / 60 % 60) ++
        if off % 60 = 0 then [] else 58 :: two (off.natAbs % 60))) := by
  have ha : (if off < 0 then -off else off) = (off.natAbs : Int) ∧ off.natAbs < 86400 ∧
      (off % 60 = 0 ↔ (off.natAbs : Int) % 60 = 0) := by omega
  unfold offset_debug fixedOffsetName
  simp only [ha.1, ha.2.2]
  generalize off.natAbs = n at ha
  have e : (n : Int) / 60 / 60 = ((n / 3600 : Nat) : Int) ∧ (n : Int) / 60 % 60 = ((n / 60 % 60 : Nat) : Int) ∧
      (n : Int) % 60 = ((n % 60 : Nat) : Int) ∧ n / 3600 < 100 ∧ n / 60 % 60 < 100 ∧ n % 60 < 100 := by omega
  rw [e.1, e.2.1, e.2.2.1, fmtInt_two _ e.2.2.2.1, fmtInt_two _ e.2.2.2.2.1, fmtInt_two _ e.2.2.2.2.2]
  split <;> simp

/-- `colon_or_space` in front of a printable byte other than `:` removes one colon and stops -/
theorem colon_or_space_colon (c : Nat) (rest : List Nat) (h1 : 33 ≤ c) (h2 : c < 128) (h3 : c ≠ 58) :
    colon_or_space (58 :: c :: rest) = c :: rest := by
  have hw := wsLen_ascii c rest h1 h2
  simp only [colon_or_space, List.length_cons, colonOrSpaceAux, hw, if_true]
  split
  · rename_i e; injection e with e; exact absurd e h3
  · rfl

/-- the offset scanner of `FromStr` on `±hh:mm` followed by anything: the seconds of the offset are
lost (truncation toward zero) -/
theorem offset_scan (off : Int) (h : -86400 < off ∧ off < 86400) (rest : List Nat) (zulu missing : Bool) :
    timezone_offset ((if off < 0 then 45 else 43) ::
        (two (off.natAbs / 3600) ++ 58 :: (two (off.natAbs / 60 % 60) ++ rest))) .colonOrSpace zulu missing true =
      .ok (rest, if off < 0 then -((off.natAbs : Int) - (off.natAbs : Int) % 60)
                 else (off.natAbs : Int) - (off.natAbs : Int) % 60) := by
  generalize hn : off.natAbs = n
  have b : n / 3600 < 100 ∧ n / 60 % 60 < 60 ∧ 33 ≤ 48 + n / 60 % 60 / 10 ∧ 48 + n / 60 % 60 / 10 < 58 := by omega
  have hsep : consumeColon .colonOrSpace ([58] ++ (two (n / 60 % 60) ++ rest)) = .ok (two (n / 60 % 60) ++ rest) :=
    congrArg Except.ok (colon_or_space_colon _ _ b.2.2.1 (by omega) (by omega))
  rw [show ∀ a b : List Nat, 58 :: (a ++ b) = [58] ++ (a ++ b) from fun _ _ => rfl,
    tzoffset_two _ (by split <;> simp) _ _ b.1 b.2.1 [58] rest .colonOrSpace zulu missing true hsep]
  congr 2
  split <;> simp <;> omega

/-- `FixedOffset::from_str` on `±hh:mm` followed by anything (it does not look at what follows) -/
theorem offset_from_str_scan (off : Int) (h : -86400 < off ∧ off < 86400) (rest : List Nat) :
    offset_from_str ((if off < 0 then 45 else 43) ::
        (two (off.natAbs / 3600) ++ 58 :: (two (off.natAbs / 60 % 60) ++ rest))) =
      .ok (if off < 0 then -((off.natAbs : Int) - (off.natAbs : Int) % 60)
           else (off.natAbs : Int) - (off.natAbs : Int) % 60) := by
  unfold offset_from_str
  rw [offset_scan off h rest false false]
  simp only [Zoned.east_opt]
  rw [if_pos (by split <;> omega)]

/-- the writer's text of a whole-minute offset is the specification's -/
theorem offset_debug_text (off : Int) (h : WholeMinute off) : offset_debug off = offsetText off := by
  have b : off.natAbs / 3600 < 100 ∧ off.natAbs / 60 % 60 < 100 := by have := h.1; have := h.2.1; omega
  rw [offset_debug_eq off ⟨h.1, h.2.1⟩, if_pos h.2.2, offsetText, decN_two _ b.1, decN_two _ b.2]
  simp only [List.append_nil, List.append_assoc, List.cons_append, List.nil_append]

/-- ... and the scanner reads it back, consuming all of it -/
theorem offsetText_scan (off : Int) (h : WholeMinute off) (zulu missing : Bool) :
    timezone_offset (offsetText off) .colonOrSpace zulu missing true = .ok ([], off) := by
  have b : off.natAbs / 3600 < 100 ∧ off.natAbs / 60 % 60 < 100 ∧
      (if off < 0 then -((off.natAbs : Int) - (off.natAbs : Int) % 60)
        else (off.natAbs : Int) - (off.natAbs : Int) % 60) = off := by
    have := h.1; have := h.2.1; have := h.2.2; omega
  have := offset_scan off ⟨h.1, h.2.1⟩ [] zulu missing
  rw [b.2.2, List.append_nil] at this
  rw [offsetText, decN_two _ b.1, decN_two _ b.2.1, ← this]
  simp only [List.append_assoc, List.cons_append, List.nil_append]

/-- text that starts with a sign can follow a time of day, is not white space and is not `utc` -/
theorem sign_head (c : Nat) (hc : c = 43 ∨ c = 45) (tl : List Nat) :
    TailOk (c :: tl) ∧ wsLen (c :: tl) = 0 ∧
    ¬ ((c :: tl).length ≥ 3 ∧ lowerS (List.take 3 (c :: tl)) = [117, 116, 99]) := by
  rcases hc with rfl | rfl
  · refine ⟨tailOk_cons _ _ (by decide) (by decide), wsLen_ascii _ _ (by omega) (by omega), fun h => ?_⟩
    have := h.2; injection this with h1 _; revert h1; decide
  · refine ⟨tailOk_cons _ _ (by decide) (by decide), wsLen_ascii _ _ (by omega) (by omega), fun h => ?_⟩
    have := h.2; injection this with h1 _; revert h1; decide

end Chrono.Proofs.TextForms
