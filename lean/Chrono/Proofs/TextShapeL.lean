/-
  C09, audit gap L1: the specification's texts (`Spec.Text.yearText`, `dateText`, `fracText`,
  `timeText`, `offsetText`) have the shape the property statement describes (`Spec.Shape.*`,
  Spec/TextShapeSpec.lean).  Composed in Props/C09 with the `*_debug = wok (…Text …)` theorems, this
  gives the shape of what the writers print.
-/
import Chrono.Spec.TextShapeSpec
import Chrono.Proofs.TextFormsRtL
namespace Chrono.Proofs.TextShape
open Chrono Chrono.M Chrono.Proofs.TextForms Chrono.Proofs.RenderScan Chrono.Spec Chrono.Spec.Text
open Chrono.Spec.Shape

theorem digitsVal_eq (ds : List Nat) : digitsVal ds = valOf ds := rfl

theorem isDigits_of_all {ds : List Nat} (h : AllDigits ds) : IsDigits ds :=
  fun c hc => (isDigit_iff c).mp (h c hc)

theorem isDigits_decN (w n : Nat) : IsDigits (decN w n) := isDigits_of_all (decN_allDigits w n)

theorem digitsVal_decN (w n : Nat) (h : n < 10 ^ w) : digitsVal (decN w n) = n := by
  rw [digitsVal_eq, decN_val, Nat.mod_eq_of_lt h]

theorem twoDigits_decN (v : Nat) (h : v < 100) : TwoDigits v (decN 2 v) :=
  ⟨decN_length 2 v, isDigits_decN 2 v, digitsVal_decN 2 v (by omega)⟩

/-- the specification's year text has the stated shape -/
theorem yearShape_yearText (y : Int) (hy : -1000000 < y ∧ y < 1000000) : YearShape y (yearText y) := by
  unfold yearText
  by_cases h4 : 0 ≤ y ∧ y ≤ 9999
  · rw [if_pos h4]
    refine ⟨[], decN 4 y.toNat, rfl, isDigits_decN _ _, ?_, by rw [decN_length],
      by rw [decN_length]; intro h; omega, ?_, ?_, ?_⟩
    · rw [digitsVal_decN 4 _ (by omega)]; omega
    · exact ⟨fun h => (by cases h), fun h => by omega⟩
    · exact ⟨fun h => (by cases h), fun h => by omega⟩
    · exact ⟨fun _ => h4, fun _ => rfl⟩
  · rw [if_neg h4]
    obtain ⟨w4, w6, wlt⟩ := yearWidth_spec y.natAbs (by omega)
    have hhead : 4 < yearWidth y.natAbs → (decN (yearWidth y.natAbs) y.natAbs).head? ≠ some 48 := by
      intro hw
      unfold yearWidth at hw ⊢
      split
      · rename_i h; rw [if_pos h] at hw; omega
      · rename_i h
        split
        · obtain ⟨tl, hd⟩ := decN_cons 4 y.natAbs
          rw [hd]; intro hh; injection hh with hh; norm_num at hh; omega
        · obtain ⟨tl, hd⟩ := decN_cons 5 y.natAbs
          rw [hd]; intro hh; injection hh with hh; norm_num at hh; omega
    refine ⟨[if y < 0 then 45 else 43], decN (yearWidth y.natAbs) y.natAbs, rfl, isDigits_decN _ _,
      digitsVal_decN _ _ wlt, by rw [decN_length]; exact w4, by rw [decN_length]; exact hhead, ?_, ?_, ?_⟩
    · constructor
      · intro h; injection h with h _; split at h <;> omega
      · intro h; rw [if_pos h]
    · constructor
      · intro h; injection h with h _; split at h <;> omega
      · intro h; rw [if_neg (by omega)]
    · exact ⟨fun h => (by cases h), fun h => absurd h h4⟩

theorem dateShape_dateText (y : Int) (hy : -1000000 < y ∧ y < 1000000) (m d : Nat) (hm : m < 100)
    (hd : d < 100) : DateShape y m d (dateText y m d) :=
  ⟨yearText y, decN 2 m, decN 2 d, by simp only [dateText, List.append_assoc, List.cons_append, List.nil_append],
    yearShape_yearText y hy, twoDigits_decN m hm, twoDigits_decN d hd⟩

/-- the specification's fraction text has the stated shape -/
theorem fracShape_fracText (nano : Nat) (h : nano < 1000000000) : FracShape nano (fracText nano) := by
  unfold fracText
  by_cases h0 : nano = 0
  · subst h0; left; exact ⟨rfl, rfl⟩
  · right
    obtain ⟨hz, hc, hmul, hlt, hmin⟩ := fracDigits_spec nano h
    have hk : fracDigits nano ≠ 0 := fun h => h0 (hz.mp h)
    rw [if_neg hk]
    refine ⟨h0, fracDigits nano, _, rfl, isDigits_decN _ _, decN_length _ _, by omega, ?_, ?_⟩
    · rw [digitsVal_decN _ _ hlt, hmul]
    · intro k' hk' hlt' h0'
      have := hmin k' (Or.inr hk') h0'
      omega

/-- the specification's time text has the stated shape -/
theorem timeShape_timeText (t : Time) (ht : TStrict t) : TimeShapeOf t (timeText t) := by
  obtain ⟨b1, b2, b3, b4⟩ := time_bounds t ht
  obtain ⟨⟨t0, t1, t2, t3⟩, hl⟩ := ht
  have e1 : (t.secs / 3600).toNat = (hourOf t).toNat := rfl
  have e2 : (t.secs / 60 % 60).toNat = (minuteOf t).toNat := rfl
  have e3 : (if t.frac ≥ 1000000000 then 60 else (t.secs % 60).toNat) = shownSecond t := by
    unfold shownSecond secondOf; split <;> omega
  have e4 : (if t.frac ≥ 1000000000 then (t.frac - 1000000000).toNat else t.frac.toNat) = shownNano t := by
    unfold shownNano; split <;> omega
  unfold TimeShapeOf
  rw [e1, e2, e3, e4]
  exact ⟨decN 2 (hourOf t).toNat, decN 2 (minuteOf t).toNat, decN 2 (shownSecond t), fracText (shownNano t),
    by simp only [timeText, List.append_assoc, List.cons_append, List.nil_append],
    twoDigits_decN _ (by omega), twoDigits_decN _ (by omega), twoDigits_decN _ (by omega),
    fracShape_fracText _ b4⟩

/-- the specification's offset text has the stated shape -/
theorem offsetShape_offsetText (off : Int) (h : -86400 < off ∧ off < 86400) :
    OffsetShape off (offsetText off) := by
  refine ⟨if off < 0 then 45 else 43, decN 2 (off.natAbs / 3600), decN 2 (off.natAbs / 60 % 60), ?_, ?_, ?_,
    twoDigits_decN _ (by omega), twoDigits_decN _ (by omega)⟩
  · simp only [offsetText, List.append_assoc, List.cons_append, List.nil_append]
  · split <;> omega
  · split <;> omega

end Chrono.Proofs.TextShape
