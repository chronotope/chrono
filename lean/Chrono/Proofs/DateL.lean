/- Lemmas under C01.  The calendar specification first (months in order, the month that brackets an
ordinal), then each table lookup of the model as a consequence of the table equalities of
DateFin.lean by arithmetic, then the packed word (`dateOfYo_fields`, `from_yof_word`), the
constructors, the day count, order, successor and predecessor. -/
import Chrono.Model.Date
import Chrono.Spec.Calendar
import Chrono.Spec.DateSpec
import Chrono.Proofs.PrimL
import Chrono.Proofs.DateFin

namespace Chrono.Proofs
open Chrono Chrono.M Chrono.Spec Chrono.Extracted

theorem tables_ok' :
    YEAR_TO_FLAGS.length = 400 ∧ (∀ i < 400, YEAR_TO_FLAGS.getD i 0 = flagsOf i) ∧
    MDL_TO_OL.length = 832 ∧ (∀ i < 832, MDL_TO_OL.getD i 0 = mdlDelta i) ∧
    OL_TO_MDL.length = 733 ∧ (∀ i < 733, 1 < i → OL_TO_MDL.getD i 0 = olDelta i) ∧
    YEAR_DELTAS.length = 401 ∧ (∀ i < 401, YEAR_DELTAS.getD i 0 = leapsBefore i) :=
  ⟨table_y2f.1, table_y2f.2, table_mdl.1, table_mdl.2, table_ol.1, fun i hi _ => table_ol.2 i hi, table_yd.1, table_yd.2⟩

theorem isLeap_iff (y : Int) : isLeap y = true ↔ (y % 4 = 0 ∧ (y % 100 ≠ 0 ∨ y % 400 = 0)) := by
  unfold isLeap
  simp only [Bool.and_eq_true, Bool.or_eq_true, beq_iff_eq, bne_iff_ne, ne_eq]

theorem isLeap_mod400 (y : Int) : isLeap (y % 400) = isLeap y :=
  Bool.eq_iff_iff.mpr (by rw [isLeap_iff, isLeap_iff]; omega)

theorem dby_mod400 (y : Int) : daysBeforeYear y = daysBeforeYear (y % 400) + 146097 * (y / 400) := by
  unfold daysBeforeYear
  omega

theorem flagsOf_mod400 (y : Int) : flagsOf (y % 400) = flagsOf y := by
  unfold flagsOf
  rw [isLeap_mod400, dby_mod400 y]
  have : weekdayOf (daysBeforeYear (y % 400) + 146097 * (y / 400)) = weekdayOf (daysBeforeYear (y % 400)) := by
    unfold weekdayOf; omega
  rw [this]

theorem from_year_spec (y : Int) : YearFlags.from_year y = flagsOf y := by
  unfold YearFlags.from_year YearFlags.from_year_mod_400
  have h0 : 0 ≤ y % 400 := Int.emod_nonneg _ (by decide)
  have h1 : y % 400 < 400 := Int.emod_lt_of_pos _ (by decide)
  have hlt : (y % 400).toNat < 400 := by omega
  rw [table_y2f.2 _ hlt]
  have : (((y % 400).toNat : Nat) : Int) = y % 400 := Int.toNat_of_nonneg h0
  rw [this, flagsOf_mod400]

theorem flagsOf_facts (y : Int) :
    flagsOf y < 16 ∧ flagsOf y % 8 ≠ 0 ∧ flagsOf y / 8 = (if isLeap y then 0 else 1) ∧
    ((flagsOf y % 8 : Nat) : Int) % 7 = weekdayOf (daysBeforeYear y) := by
  unfold flagsOf weekdayOf
  have h0 : 0 ≤ (daysBeforeYear y + 6) % 7 := Int.emod_nonneg _ (by decide)
  have h1 : (daysBeforeYear y + 6) % 7 < 7 := Int.emod_lt_of_pos _ (by decide)
  generalize (daysBeforeYear y + 6) % 7 = w at *
  obtain ⟨k, hk⟩ := Int.eq_ofNat_of_zero_le h0
  subst hk
  simp only [Int.toNat_natCast]
  have hk7 : k < 7 := by omega
  cases isLeap y <;> (by_cases hz : k = 0 <;> simp [hz] <;> omega)

theorem valid_iff (y : Int) (m d : Nat) :
    validYmd y m d = true ↔ (1 ≤ m ∧ m ≤ 12 ∧ 1 ≤ d ∧ d ≤ monthLen y m) := by
  simp only [validYmd, Bool.and_eq_true, decide_eq_true_eq, and_assoc]

theorem ordinalOf_add (y : Int) (m d : Nat) : ordinalOf y m d = ordinalOf y m 0 + d := by
  unfold ordinalOf; omega

/-- what is read off the month tables, for either kind of year: month lengths, the last day of a
month is a day of the year, and `ordinal < 32·month + day` (so that a table delta is positive) -/
theorem month_facts (y : Int) : ∀ m ≤ 12, 1 ≤ m →
    28 ≤ monthLen y m ∧ monthLen y m ≤ 31 ∧ ordinalOf y m (monthLen y m) ≤ yearLen y ∧
    ordinalOf y m 0 < 32 * m := by
  unfold ordinalOf monthLen yearLen
  cases isLeap y <;> decide

theorem valid_bounds (y : Int) (m d : Nat) (h : validYmd y m d = true) : m ≤ 12 ∧ d ≤ 31 := by
  obtain ⟨h1, h2, _, h4⟩ := (valid_iff y m d).mp h
  have := month_facts y m h2 h1
  omega

theorem ordinal_bounds_c08 (y : Int) (m d : Nat) (h : validYmd y m d = true) :
    1 ≤ ordinalOf y m d ∧ ordinalOf y m d ≤ yearLen y := by
  obtain ⟨h1, h2, h3, h4⟩ := (valid_iff y m d).mp h
  have := month_facts y m h2 h1
  rw [ordinalOf_add] at this ⊢
  omega

theorem leap_congr (y y' : Int) (m d : Nat) (h : isLeap y = isLeap y') :
    validYmd y m d = validYmd y' m d ∧ ordinalOf y m d = ordinalOf y' m d ∧ yearLen y = yearLen y' := by
  refine ⟨?_, ?_, ?_⟩
  · unfold validYmd monthLen; rw [h]
  · unfold ordinalOf; rw [h]
  · unfold yearLen; rw [h]

theorem month_step (y : Int) : ∀ m < 12, 1 ≤ m →
    ordinalOf y (m + 1) 0 = ordinalOf y m 0 + monthLen y m := by
  unfold ordinalOf monthLen
  cases isLeap y <;> decide

theorem month_ends (y : Int) : ordinalOf y 1 0 = 0 ∧ ordinalOf y 12 0 + monthLen y 12 = yearLen y := by
  unfold ordinalOf monthLen yearLen
  cases isLeap y <;> decide

/-- the months begin in order -/
theorem month_mono (y : Int) (k m : Nat) (hk : 1 ≤ k) (hkm : k ≤ m) (hm : m ≤ 12) :
    ordinalOf y k 0 ≤ ordinalOf y m 0 := by
  induction hkm with
  | refl => exact Nat.le_refl _
  | @step n hkn ih =>
    have := month_step y n (by omega) (Nat.le_trans hk hkn)
    have := ih (by omega)
    show ordinalOf y k 0 ≤ ordinalOf y (n + 1) 0
    omega

/-- a month ends before a later month begins -/
theorem month_end_le (y : Int) (k m : Nat) (hk : 1 ≤ k) (hkm : k < m) (hm : m ≤ 12) :
    ordinalOf y k 0 + monthLen y k ≤ ordinalOf y m 0 := by
  rw [← month_step y k (by omega) hk]
  exact month_mono y (k + 1) m (by omega) hkm hm

theorem count_upto : ∀ m ≤ 12,
    ((List.range 13).filter (fun k => decide (1 ≤ k) && decide (k ≤ m))).length = m := by decide

theorem isLeap_rep (y : Int) : isLeap (if isLeap y = true then 0 else 1) = isLeap y := by
  cases isLeap y <;> decide

/-- `monthOfYo` counts the months that have begun: it is the month whose days bracket `o` -/
theorem monthOfYo_eq (y : Int) (o m : Nat) (h1 : 1 ≤ m) (h2 : m ≤ 12) (hlo : ordinalOf y m 0 < o)
    (hhi : o ≤ ordinalOf y m 0 + monthLen y m) : monthOfYo y o = m := by
  unfold monthOfYo monthOfOrdinal
  rw [← count_upto m h2]
  dsimp only
  congr 1
  apply List.filter_congr
  intro k hk
  have hk12 : k ≤ 12 := by have := List.mem_range.mp hk; omega
  by_cases hk1 : 1 ≤ k
  · rw [(leap_congr _ y k 1 (isLeap_rep y)).2.1, ordinalOf_add y k 1]
    congr 1
    apply decide_eq_decide.mpr
    constructor
    · intro h
      false_or_by_contra
      have := month_mono y (m + 1) k (by omega) (by omega) hk12
      have := month_step y m (by omega) h1
      omega
    · intro h
      have := month_mono y k m hk1 h h2
      omega
  · simp [hk1]

/-- every day of the year lies in some month -/
theorem month_exists (y : Int) (o : Nat) (ho : 1 ≤ o) : ∀ m, 1 ≤ m → m ≤ 12 →
    o ≤ ordinalOf y m 0 + monthLen y m →
    ∃ m', 1 ≤ m' ∧ m' ≤ 12 ∧ ordinalOf y m' 0 < o ∧ o ≤ ordinalOf y m' 0 + monthLen y m' := by
  intro m
  induction m with
  | zero => intro h; omega
  | succ n ih =>
    intro h1 h12 hle
    by_cases hlt : ordinalOf y (n + 1) 0 < o
    · exact ⟨n + 1, h1, h12, hlt, hle⟩
    · by_cases hn : n = 0
      · subst hn; have := (month_ends y).1; rw [Nat.zero_add] at hlt; omega
      · have := month_step y n (by omega) (by omega)
        exact ih (by omega) (by omega) (by omega)

theorem ordinal_bounds_fin : ∀ m ≤ 12, ∀ d ≤ 31, ∀ f < 16, validYmd (repYear f) m d = true →
    1 ≤ ordinalOf (repYear f) m d ∧ ordinalOf (repYear f) m d ≤ yearLen (repYear f) :=
  fun m _ d _ _ _ h => ordinal_bounds_c08 _ m d h

theorem isLeap_repYear (y : Int) : isLeap (repYear (flagsOf y)) = isLeap y := by
  unfold repYear
  rw [(flagsOf_facts y).2.2.1]
  cases isLeap y <;> decide

/-- the year that `mdlDelta` and `olDelta` take to stand for the leap bit `c` -/
theorem isLeap_bitYear (y : Int) (c : Nat) (hc : c = if isLeap y then 0 else 1) :
    isLeap (if c = 1 then 1 else 0) = isLeap y := by
  subst hc; cases isLeap y <;> decide

/-- the entry of `MDL_TO_OL` for month `m`, day `d` and leap bit `c` of year `y` -/
theorem mdl_lookup (y : Int) (m d c : Nat) (hm : m ≤ 12) (hd : d ≤ 31)
    (hc : c = if isLeap y then 0 else 1) :
    MDL_TO_OL.getD (m * 64 + d * 2 + c) 0 =
      if validYmd y m d then m * 64 + d * 2 + c - (ordinalOf y m d * 2 + c) else 0 := by
  have hc1 : c ≤ 1 := by rw [hc]; split <;> omega
  obtain ⟨hv, ho, _⟩ := leap_congr _ y m d (isLeap_bitYear y c hc)
  rw [table_mdl.2 _ (by omega), ← hv, ← ho]
  unfold mdlDelta
  rw [show (m * 64 + d * 2 + c) / 64 = m by omega, show (m * 64 + d * 2 + c) / 2 % 32 = d by omega,
    show (m * 64 + d * 2 + c) % 2 = c by omega]

/-- `ordinal < 32·month + day`: the table delta of a valid date is positive -/
theorem ordinalOf_lt (y : Int) (m d : Nat) (h : validYmd y m d = true) : ordinalOf y m d < m * 32 + d := by
  obtain ⟨h1, h2, _, _⟩ := (valid_iff y m d).mp h
  have := month_facts y m h2 h1
  rw [ordinalOf_add]; omega

theorem mdf_oaf (y : Int) (m d f : Nat) (hm : m ≤ 12) (hd : d ≤ 31) (hf : f < 16)
    (hl : f / 8 = if isLeap y then 0 else 1) :
    Mdf.ordinal_and_flags (m * 512 + d * 16 + f) =
      .ok (if validYmd y m d then some (ordinalOf y m d * 16 + f) else none) := by
  unfold Mdf.ordinal_and_flags
  rw [show (m * 512 + d * 16 + f) / 8 = m * 64 + d * 2 + f / 8 by omega, table_mdl.1,
    if_pos (by omega), mdl_lookup y m d _ hm hd hl]
  by_cases hv : validYmd y m d = true
  · have := ordinalOf_lt y m d hv
    rw [if_pos hv, if_pos hv, if_neg (by omega)]
    congr 2; omega
  · rw [if_neg hv, if_neg hv, if_pos rfl]

theorem mdf_ordinal (y : Int) (m d f : Nat) (hm : m ≤ 12) (hd : d ≤ 31) (hf : f < 16)
    (hl : f / 8 = if isLeap y then 0 else 1) :
    Mdf.ordinal (m * 512 + d * 16 + f) =
      .ok (if validYmd y m d then some (ordinalOf y m d) else none) := by
  unfold Mdf.ordinal
  rw [show (m * 512 + d * 16 + f) / 8 = m * 64 + d * 2 + f / 8 by omega, table_mdl.1,
    if_pos (by omega), mdl_lookup y m d _ hm hd hl]
  by_cases hv : validYmd y m d = true
  · have := ordinalOf_lt y m d hv
    rw [if_pos hv, if_pos hv, if_neg (by omega)]
    congr 2; omega
  · rw [if_neg hv, if_neg hv, if_pos rfl]

/-- `monthOfYo`, `dayOfYo` invert `ordinalOf` on the days of the year -/
theorem monthDay_spec (y : Int) (o : Nat) (ho1 : 1 ≤ o) (ho2 : o ≤ yearLen y) :
    validYmd y (monthOfYo y o) (dayOfYo y o) = true ∧ ordinalOf y (monthOfYo y o) (dayOfYo y o) = o := by
  obtain ⟨m, h1, h2, hlo, hhi⟩ := month_exists y o ho1 12 (by omega) (by omega) (by rw [(month_ends y).2]; exact ho2)
  have hm := monthOfYo_eq y o m h1 h2 hlo hhi
  unfold dayOfYo
  rw [hm, valid_iff, ordinalOf_add y m 1, ordinalOf_add y m (o - _ + 1)]
  omega

theorem yearLen_add_bit (y : Int) (c : Nat) (hc : c = if isLeap y then 0 else 1) : yearLen y + c = 366 := by
  subst hc; unfold yearLen; cases isLeap y <;> rfl

theorem ndays_spec (y : Int) : YearFlags.ndays (flagsOf y) = yearLen y := by
  have := yearLen_add_bit y _ (flagsOf_facts y).2.2.1
  unfold YearFlags.ndays; omega

/-- the entry of `OL_TO_MDL` for the `o`-th day of year `y`, `c` its leap bit -/
theorem olDelta_eq (y : Int) (o c : Nat) (ho1 : 1 ≤ o) (ho2 : o ≤ yearLen y)
    (hc : c = if isLeap y then 0 else 1) :
    olDelta (o * 2 + c) = monthOfYo y o * 64 + dayOfYo y o * 2 + c - (o * 2 + c) := by
  have hc1 : c ≤ 1 := by rw [hc]; split <;> omega
  have hleap : (c == 0) = isLeap y := by subst hc; cases isLeap y <;> rfl
  have hrep := isLeap_rep y
  unfold olDelta dayOfYo monthOfYo
  rw [show (o * 2 + c) / 2 = o by omega, show (o * 2 + c) % 2 = c by omega]
  dsimp only
  rw [hleap, (leap_congr _ y 0 0 hrep).2.2, if_pos ⟨ho1, ho2⟩, (leap_congr _ y _ 1 hrep).2.1]

theorem mdf_from_ol (y : Int) (o f : Nat) (ho1 : 1 ≤ o) (ho2 : o ≤ yearLen y) (hf : f < 16)
    (hl : f / 8 = if isLeap y then 0 else 1) :
    Mdf.from_ol (o * 2 + f / 8) f = .ok (monthOfYo y o * 512 + dayOfYo y o * 16 + f) := by
  obtain ⟨hv, hoo⟩ := monthDay_spec y o ho1 ho2
  have hlt := ordinalOf_lt y _ _ hv
  have hd31 := (valid_bounds y _ _ hv).2
  rw [hoo] at hlt
  have hy := yearLen_add_bit y _ hl
  have hol : 1 < o * 2 + f / 8 ∧ ((o * 2 + f / 8 : Nat) : Int) ≤ MAX_OL := by
    rw [show MAX_OL = 732 from rfl]; omega
  unfold Mdf.from_ol
  rw [if_pos hol, table_ol.2 _ (by omega), olDelta_eq y o _ ho1 ho2 hl]
  rw [show o * 2 + f / 8 + (monthOfYo y o * 64 + dayOfYo y o * 2 + f / 8 - (o * 2 + f / 8))
    = monthOfYo y o * 64 + dayOfYo y o * 2 + f / 8 by omega]
  refine congrArg Res.ok ?_
  omega

/-- `from_yof` accepts every word built from an existing ordinal and the year's flags -/
theorem from_yof_ok (y : Int) (o f : Nat) (ho1 : 1 ≤ o) (ho2 : o ≤ 366) (hf : f < 16) (hf8 : f % 8 ≠ 0)
    (h366 : o = 366 → f / 8 = 0) :
    Date.from_yof (y * 8192 + ((o * 16 + f : Nat) : Int)) = .ok ⟨y * 8192 + ((o * 16 + f : Nat) : Int)⟩ := by
  unfold Date.from_yof
  have hM : MAX_OL = 732 := rfl
  apply ite_pos'
  rw [hM]
  push_cast
  omega

theorem dateOfYo_fields (y : Int) (o : Nat) (ho : o < 512) :
    (dateOfYo y o).year = y ∧ (dateOfYo y o).ordinal = o ∧ (dateOfYo y o).flags = flagsOf y ∧
    (dateOfYo y o).yof % 16 = flagsOf y ∧ (dateOfYo y o).ol = o * 2 + flagsOf y / 8 ∧
    (dateOfYo y o).leap_year = isLeap y := by
  obtain ⟨hf16, hf8, hfl, _⟩ := flagsOf_facts y
  unfold dateOfYo Date.year Date.ordinal Date.flags Date.ol Date.leap_year
  dsimp only
  refine ⟨by omega, by omega, by omega, by omega, by omega, ?_⟩
  rw [show (y * 8192 + ↑o * 16 + ↑(flagsOf y)) / 8 % 2 = ((flagsOf y / 8 : Nat) : Int) by omega, hfl]
  cases isLeap y <;> rfl

theorem yearLen_ge (y : Int) : 365 ≤ yearLen y ∧ yearLen y ≤ 366 := by
  unfold yearLen; split <;> omega

/-- the `ol` bit field of the packed word, as the integer `succ_opt` and `from_yof` compute with -/
theorem ol_word (y : Int) (o : Nat) (ho : o < 512) :
    (dateOfYo y o).yof / 8 % 1024 = ((o * 2 + flagsOf y / 8 : Nat) : Int) := by
  rw [← (dateOfYo_fields y o ho).2.2.2.2.1]
  exact (Int.toNat_of_nonneg (Int.emod_nonneg _ (by decide))).symm

/-- the packed word of a date of the range is an `i32` -/
theorem yof_i32 (y : Int) (o : Nat) (hy : MIN_YEAR ≤ y ∧ y ≤ MAX_YEAR) (ho : o ≤ 366) :
    -2147483648 ≤ (dateOfYo y o).yof ∧ (dateOfYo y o).yof ≤ 2147483647 := by
  have hf := (flagsOf_facts y).1
  rw [show MIN_YEAR = -262143 from rfl, show MAX_YEAR = 262142 from rfl] at hy
  unfold dateOfYo; dsimp only; omega

/-- `from_yof` accepts the packed word of every existing day -/
theorem from_yof_word (y : Int) (o : Nat) (ho : 1 ≤ o ∧ o ≤ yearLen y) :
    Date.from_yof (dateOfYo y o).yof = .ok (dateOfYo y o) := by
  obtain ⟨hf16, hf8, hfl, _⟩ := flagsOf_facts y
  have hyl := yearLen_add_bit y _ hfl
  have e : (dateOfYo y o).yof = y * 8192 + ((o * 16 + flagsOf y : Nat) : Int) := by
    unfold dateOfYo; push_cast; omega
  have := from_yof_ok y o _ ho.1 (by omega) hf16 hf8 (by omega)
  rw [← e] at this
  exact this

theorem ctor_ymd' (y : Int) (m d : Nat) :
    Date.from_ymd_opt y m d =
      .ok (if MIN_YEAR ≤ y ∧ y ≤ MAX_YEAR ∧ validYmd y m d = true
           then some (dateOfYo y (ordinalOf y m d)) else none) := by
  unfold Date.from_ymd_opt
  rw [from_year_spec]
  obtain ⟨hf16, -, hfl, -⟩ := flagsOf_facts y
  unfold Mdf.new
  dsimp only
  by_cases hmd : m ≤ 12 ∧ d ≤ 31
  · rw [if_pos hmd]
    dsimp only
    unfold Date.from_mdf
    by_cases hy : y < MIN_YEAR ∨ y > MAX_YEAR
    · rw [if_pos hy, if_neg (fun h => by omega)]
    · rw [if_neg hy, mdf_oaf y m d _ hmd.1 hmd.2 hf16 hfl]
      by_cases hval : validYmd y m d = true
      · have hw : y * 8192 + ((ordinalOf y m d * 16 + flagsOf y : Nat) : Int)
            = (dateOfYo y (ordinalOf y m d)).yof := by unfold dateOfYo; push_cast; omega
        rw [if_pos hval]
        dsimp only
        rw [hw, from_yof_word _ _ (ordinal_bounds_c08 y m d hval), if_pos ⟨by omega, by omega, hval⟩]
      · rw [if_neg hval, if_neg (fun h => hval h.2.2)]
  · rw [if_neg hmd, if_neg (fun h => hmd (valid_bounds y m d h.2.2))]

/-- `from_ordinal_and_flags` with the year's own flags -/
theorem from_oaf_spec (y : Int) (o : Nat) :
    Date.from_ordinal_and_flags y o (flagsOf y) =
      .ok (if MIN_YEAR ≤ y ∧ y ≤ MAX_YEAR ∧ 1 ≤ o ∧ o ≤ yearLen y then some (dateOfYo y o) else none) := by
  unfold Date.from_ordinal_and_flags
  have hyl := yearLen_add_bit y _ (flagsOf_facts y).2.2.1
  have hf16 := (flagsOf_facts y).1
  by_cases hy : y < MIN_YEAR ∨ y > MAX_YEAR
  · rw [if_pos hy, if_neg (fun h => by omega)]
  · rw [if_neg hy]
    by_cases ho : o = 0 ∨ o > 366
    · rw [if_pos ho, if_neg (fun h => by omega)]
    · rw [if_neg ho, if_neg (fun h => h (from_year_spec y))]
      dsimp only
      rw [show DATE_MAX_OL = 5856 from rfl]
      by_cases hle : o ≤ yearLen y
      · rw [if_pos (by omega), show (y * 8192 + ↑o * 16 + ↑(flagsOf y) : Int) = (dateOfYo y o).yof from rfl,
          from_yof_word y o ⟨by omega, hle⟩, if_pos ⟨by omega, by omega, by omega, hle⟩]
      · rw [if_neg (by omega), if_neg (fun h => hle h.2.2.2)]

theorem ctor_yo' (y : Int) (o : Nat) :
    Date.from_yo_opt y o =
      .ok (if MIN_YEAR ≤ y ∧ y ≤ MAX_YEAR ∧ 1 ≤ o ∧ o ≤ yearLen y then some (dateOfYo y o) else none) := by
  unfold Date.from_yo_opt
  rw [from_year_spec]
  exact from_oaf_spec y o

theorem dby_neg_helper (x : Int) : (x * 1461) / 4 = 365 * x + x / 4 := by omega
theorem div100_4 (x : Int) : x / 100 / 4 = x / 400 := by omega

/-- the closed-form part of `num_days_from_ce`, for a year number `Y ≥ 0` shifted into the
non-negative cycles and the day count `N` of the cycles skipped -/
theorem num_days_tail (Y N o : Int) (hY : 0 ≤ Y ∧ Y ≤ 300000) (hN : -110000000 ≤ N ∧ N ≤ 0)
    (ho : 0 ≤ o ∧ o ≤ 366) :
    (do
      let div_100 := Int.tdiv Y 100
      let prod ← ckI32 (Y * 1461)
      let t ← ckI32 (prod / 4 - div_100)
      let t ← ckI32 (t + div_100 / 4)
      let ndays ← ckI32 (N + t)
      ckI32 (ndays + o) : Res Int) = .ok (N + (365 * Y + Y / 4 - Y / 100 + Y / 400) + o) := by
  have hb : 0 ≤ Y / 4 ∧ Y / 4 ≤ 75000 ∧ 0 ≤ Y / 100 ∧ Y / 100 ≤ 3000 ∧ 0 ≤ Y / 400 ∧ Y / 400 ≤ 750 := by
    omega
  simp only [tdiv_eq, if_pos hY.1, div100_4]
  rw [ckI32_ok (by omega) (by omega), Res.bind_ok, dby_neg_helper]
  generalize Y / 100 = c at *
  generalize Y / 400 = q at *
  generalize Y / 4 = a at *
  rw [ckI32_ok (by omega) (by omega), Res.bind_ok, ckI32_ok (by omega) (by omega), Res.bind_ok,
    ckI32_ok (by omega) (by omega), Res.bind_ok, ckI32_ok (by omega) (by omega)]

/-- chrono's shift/divide day-count formula equals the closed form, for every year of the range,
with no intermediate `i32` overflow -/
theorem num_days_spec (d : Date) (hy1 : -262145 ≤ d.year) (hy2 : d.year ≤ 262144)
    (ho : 0 ≤ d.ordinal ∧ d.ordinal ≤ 366) :
    Date.num_days_from_ce d = .ok (dayNumYo d.year d.ordinal) := by
  unfold Date.num_days_from_ce dayNumYo daysBeforeYear
  generalize d.year = y at *
  generalize d.ordinal = o at *
  rw [ckI32_ok (by omega) (by omega), Res.bind_ok]
  by_cases hneg : y - 1 < 0
  · -- shift by `e` cycles of 400 years = 146097 days into the non-negative years
    rw [if_pos hneg, tdiv_eq, if_pos (by omega)]
    generalize hE : 1 + -(y - 1) / 400 = e
    have he : 1 ≤ e ∧ e ≤ 700 := by omega
    have hY : 0 ≤ y - 1 + e * 400 ∧ y - 1 + e * 400 ≤ 400 := by omega
    rw [ckI32_ok (by omega) (by omega), Res.bind_ok, ckI32_ok (by omega) (by omega), Res.bind_ok,
      ckI32_ok (by omega) (by omega), Res.bind_ok, ckI32_ok (by omega) (by omega), Res.bind_ok,
      ckI32_ok (by omega) (by omega), Res.bind_ok]
    simp only [Res.pure_eq, Res.bind_ok]
    refine (num_days_tail (y - 1 + e * 400) (0 - e * 146097) o ⟨hY.1, by omega⟩ ⟨by omega, by omega⟩ ho).trans ?_
    congr 1
    clear hE
    omega
  · rw [if_neg hneg]
    simp only [Res.pure_eq, Res.bind_ok]
    refine (num_days_tail (y - 1) 0 o ⟨by omega, by omega⟩ ⟨by omega, by omega⟩ ho).trans ?_
    congr 1
    omega

theorem dby_step (y : Int) : daysBeforeYear (y + 1) = daysBeforeYear y + yearLen y := by
  unfold daysBeforeYear yearLen
  have h := isLeap_iff y
  cases hl : isLeap y
  · have : ¬ (y % 4 = 0 ∧ (y % 100 ≠ 0 ∨ y % 400 = 0)) := by rw [← h, hl]; simp
    simp; omega
  · have := h.mp hl
    simp; omega

theorem dby_mono (a b : Int) (h : a ≤ b) : daysBeforeYear a + 365 * (b - a) ≤ daysBeforeYear b := by
  obtain ⟨k, hk⟩ := Int.le.dest h
  subst hk
  induction k with
  | zero => simp
  | succ n ih =>
    have := ih (by omega)
    have hs := dby_step (a + n)
    have hl := yearLen_ge (a + n)
    push_cast at *
    rw [show a + (↑n + 1) = a + ↑n + 1 by omega, hs]
    omega

theorem weekdayOfNat_toNat : ∀ n < 7, (Date.weekdayOfNat n).toNat = n := by decide

/-- weekday from ordinal and flag bits equals the weekday of the day number -/
theorem weekday_spec (y : Int) (o : Nat) (ho : o < 512) :
    ((dateOfYo y o).weekday.toNat : Int) = weekdayOf (dayNumYo y o) := by
  obtain ⟨_, hord, _, hf, _, _⟩ := dateOfYo_fields y o ho
  have hw := (flagsOf_facts y).2.2.2
  have h8 : (dateOfYo y o).yof % 8 = ((flagsOf y % 8 : Nat) : Int) := by
    rw [← Int.emod_emod_of_dvd _ (by decide : (8 : Int) ∣ 16), hf]; rfl
  unfold Date.weekday
  rw [hord, h8, show ((o : Int) + ((flagsOf y % 8 : Nat) : Int)) % 7 = (((o + flagsOf y % 8) % 7 : Nat) : Int) from rfl,
    Int.toNat_natCast, weekdayOfNat_toNat _ (Nat.mod_lt _ (by decide))]
  unfold weekdayOf dayNumYo at *
  generalize daysBeforeYear y = B at *
  generalize flagsOf y % 8 = g at *
  omega

theorem mdf_fields (m d f : Nat) (hd : d ≤ 31) (hf : f < 16) :
    Mdf.month (m * 512 + d * 16 + f) = m ∧ Mdf.day (m * 512 + d * 16 + f) = d := by
  unfold Mdf.month Mdf.day; omega

theorem mdf_spec (y : Int) (o : Nat) (ho1 : 1 ≤ o) (ho2 : o ≤ yearLen y) :
    (dateOfYo y o).mdf = .ok (monthOfYo y o * 512 + dayOfYo y o * 16 + flagsOf y) ∧
    monthOfYo y o ≤ 12 ∧ dayOfYo y o ≤ 31 := by
  have hyl := yearLen_ge y
  obtain ⟨_, _, hfl, _, hol, _⟩ := dateOfYo_fields y o (by omega)
  obtain ⟨hf16, _, hleap, _⟩ := flagsOf_facts y
  refine ⟨?_, valid_bounds y _ _ (monthDay_spec y o ho1 ho2).1⟩
  unfold Date.mdf; rw [hol, hfl]; exact mdf_from_ol y o _ ho1 ho2 hf16 hleap

/-- month and day accessors: the unique valid (month, day) with that ordinal -/
theorem month_day_spec (y : Int) (o : Nat) (ho1 : 1 ≤ o) (ho2 : o ≤ yearLen y) :
    (dateOfYo y o).month = .ok (monthOfYo y o) ∧ (dateOfYo y o).day = .ok (dayOfYo y o) ∧
    validYmd y (monthOfYo y o) (dayOfYo y o) = true ∧
    ordinalOf y (monthOfYo y o) (dayOfYo y o) = o := by
  obtain ⟨hmdf, _, hd31⟩ := mdf_spec y o ho1 ho2
  obtain ⟨hm, hd⟩ := mdf_fields (monthOfYo y o) (dayOfYo y o) (flagsOf y) hd31 (flagsOf_facts y).1
  refine ⟨?_, ?_, monthDay_spec y o ho1 ho2⟩
  · unfold Date.month; rw [hmdf]; exact congrArg Res.ok hm
  · unfold Date.day; rw [hmdf]; exact congrArg Res.ok hd

/-- the calendar form is unique: a valid (month, day) of year `y` is recovered from its ordinal -/
theorem ymd_unique (y : Int) (m d : Nat) (h : validYmd y m d = true) :
    monthOfYo y (ordinalOf y m d) = m ∧ dayOfYo y (ordinalOf y m d) = d := by
  obtain ⟨h1, h2, h3, h4⟩ := (valid_iff y m d).mp h
  have hm := monthOfYo_eq y (ordinalOf y m d) m h1 h2 (by rw [ordinalOf_add y m d]; omega)
    (by rw [ordinalOf_add y m d]; omega)
  unfold dayOfYo
  rw [hm, ordinalOf_add y m 1, ordinalOf_add y m d]
  omega

/-- the packed word and the day number are both monotone in (year, ordinal) -/
theorem order_lt (y1 y2 : Int) (o1 o2 : Nat) (h1 : 1 ≤ o1 ∧ o1 ≤ yearLen y1)
    (h2 : 1 ≤ o2 ∧ o2 ≤ yearLen y2) (h : y1 < y2 ∨ (y1 = y2 ∧ o1 < o2)) :
    (dateOfYo y1 o1).yof < (dateOfYo y2 o2).yof ∧ dayNumYo y1 o1 < dayNumYo y2 o2 := by
  have hl1 := yearLen_ge y1
  have hl2 := yearLen_ge y2
  have hf1 := (flagsOf_facts y1).1
  have hf2 := (flagsOf_facts y2).1
  unfold dateOfYo dayNumYo
  dsimp only
  rcases h with hlt | ⟨heq, hlt⟩
  · have hm := dby_mono (y1 + 1) y2 (by omega)
    have hs := dby_step y1
    constructor <;> omega
  · subst heq
    constructor <;> omega

theorem order_spec (y1 y2 : Int) (o1 o2 : Nat) (h1 : 1 ≤ o1 ∧ o1 ≤ yearLen y1)
    (h2 : 1 ≤ o2 ∧ o2 ≤ yearLen y2) :
    ((dateOfYo y1 o1).yof < (dateOfYo y2 o2).yof ↔ dayNumYo y1 o1 < dayNumYo y2 o2) ∧
    ((dateOfYo y1 o1).yof = (dateOfYo y2 o2).yof ↔ dayNumYo y1 o1 = dayNumYo y2 o2) := by
  have tri : (y1 < y2 ∨ (y1 = y2 ∧ o1 < o2)) ∨ (y1 = y2 ∧ o1 = o2) ∨ (y2 < y1 ∨ (y2 = y1 ∧ o2 < o1)) := by
    omega
  rcases tri with h | ⟨hy, ho⟩ | h
  · have := order_lt y1 y2 o1 o2 h1 h2 h
    omega
  · subst hy ho
    omega
  · have := order_lt y2 y1 o2 o1 h2 h1 h
    omega

/-- a (year, ordinal) pair is determined by its day number, and day numbers order such pairs
lexicographically -/
theorem yo_le (y1 y2 : Int) (o1 o2 : Nat) (h1 : 1 ≤ o1 ∧ o1 ≤ yearLen y1)
    (h2 : 1 ≤ o2 ∧ o2 ≤ yearLen y2) (h : dayNumYo y1 o1 ≤ dayNumYo y2 o2) :
    y1 < y2 ∨ (y1 = y2 ∧ o1 ≤ o2) := by
  have tri : (y1 < y2 ∨ (y1 = y2 ∧ o1 ≤ o2)) ∨ (y2 < y1 ∨ (y2 = y1 ∧ o2 < o1)) := by omega
  rcases tri with h' | h'
  · exact h'
  · have := (order_lt y2 y1 o2 o1 h2 h1 h').2
    omega

theorem yo_unique (y1 y2 : Int) (o1 o2 : Nat) (h1 : 1 ≤ o1 ∧ o1 ≤ yearLen y1)
    (h2 : 1 ≤ o2 ∧ o2 ≤ yearLen y2) (h : dayNumYo y1 o1 = dayNumYo y2 o2) :
    y1 = y2 ∧ o1 = o2 := by
  have a := yo_le y1 y2 o1 o2 h1 h2 (by omega)
  have b := yo_le y2 y1 o2 o1 h2 h1 (by omega)
  omega

theorem dateOfYo_inj (y1 y2 : Int) (o1 o2 : Nat) (h1 : 1 ≤ o1 ∧ o1 ≤ yearLen y1)
    (h2 : 1 ≤ o2 ∧ o2 ≤ yearLen y2) (h : dateOfYo y1 o1 = dateOfYo y2 o2) : y1 = y2 ∧ o1 = o2 :=
  yo_unique y1 y2 o1 o2 h1 h2 (((order_spec y1 y2 o1 o2 h1 h2).2).mp (congrArg Date.yof h))

/-- a valid (year, ordinal) pair lies in the supported year range exactly when its day number lies
between the day numbers of MIN and MAX -/
theorem range_iff_iso (Y : Int) (o : Nat) (ho : 1 ≤ o ∧ o ≤ yearLen Y) :
    (MIN_YEAR ≤ Y ∧ Y ≤ MAX_YEAR) ↔
      (dayNumYo MIN_YEAR 1 ≤ dayNumYo Y o ∧ dayNumYo Y o ≤ dayNumYo MAX_YEAR 365) := by
  have hMIN : MIN_YEAR = -262143 := rfl
  have hMAX : MAX_YEAR = 262142 := rfl
  have hlmin : 1 ≤ 1 ∧ 1 ≤ yearLen MIN_YEAR := ⟨by omega, by have := yearLen_ge MIN_YEAR; omega⟩
  have hlmax : 1 ≤ 365 ∧ 365 ≤ yearLen MAX_YEAR := ⟨by omega, by have := yearLen_ge MAX_YEAR; omega⟩
  have hyl := yearLen_ge Y
  constructor
  · intro ⟨ha, hb⟩
    constructor
    · have hm := dby_mono MIN_YEAR Y ha
      unfold dayNumYo; omega
    · have hm := dby_mono (Y + 1) (MAX_YEAR + 1) (by omega)
      have hs := dby_step Y
      have hs2 := dby_step MAX_YEAR
      have : yearLen MAX_YEAR = 365 := by decide
      unfold dayNumYo; omega
  · intro ⟨ha, hb⟩
    have a := yo_le MIN_YEAR Y 1 o hlmin ho ha
    have b := yo_le Y MAX_YEAR o 365 ho hlmax hb
    omega

/-- the `o`-th day of year `Y`, kept only when `Y` is in range, is the date of its day number:
the common last step of the constructors that reach a date through its year and ordinal -/
theorem yo_opt_dayNum (Y : Int) (o : Nat) (ho : 1 ≤ o ∧ o ≤ yearLen Y) :
    (∀ d, (if MIN_YEAR ≤ Y ∧ Y ≤ MAX_YEAR ∧ 1 ≤ o ∧ o ≤ yearLen Y then some (dateOfYo Y o) else none) = some d →
      ∃ y o', d = dateOfYo y o' ∧ MIN_YEAR ≤ y ∧ y ≤ MAX_YEAR ∧ 1 ≤ o' ∧ o' ≤ yearLen y ∧
        dayNumYo y o' = dayNumYo Y o) ∧
    ((if MIN_YEAR ≤ Y ∧ Y ≤ MAX_YEAR ∧ 1 ≤ o ∧ o ≤ yearLen Y then some (dateOfYo Y o) else none) = none ↔
      ¬ (dayNumYo MIN_YEAR 1 ≤ dayNumYo Y o ∧ dayNumYo Y o ≤ dayNumYo MAX_YEAR 365)) := by
  rw [← range_iff_iso Y o ho]
  by_cases hY : MIN_YEAR ≤ Y ∧ Y ≤ MAX_YEAR
  · rw [if_pos ⟨hY.1, hY.2, ho.1, ho.2⟩]
    exact ⟨fun d hd => ⟨Y, o, (Option.some.inj hd).symm, hY.1, hY.2, ho.1, ho.2, rfl⟩,
      ⟨(fun h => nomatch h), fun h => absurd hY h⟩⟩
  · rw [if_neg (fun h => hY ⟨h.1, h.2.1⟩)]
    exact ⟨(fun d hd => nomatch hd), ⟨fun _ => hY, fun _ => rfl⟩⟩

theorem cycle_to_yo_eq (c : Nat) : Date.cycle_to_yo c =
    if c % 365 < YEAR_DELTAS.getD (c / 365) 0
    then (c / 365 - 1, c % 365 + 365 - YEAR_DELTAS.getD (c / 365 - 1) 0 + 1)
    else (c / 365, c % 365 - YEAR_DELTAS.getD (c / 365) 0 + 1) := rfl

theorem leaps_fin : ∀ i < 401, leapsBefore i ≤ leapsBefore (i + 1) ∧ leapsBefore i ≤ 97 ∧
    leapsBefore (i + 1) - leapsBefore i = (if isLeap i then 1 else 0) := by decide +kernel

theorem cycle_to_yo_spec (c : Nat) (hc : c < 146097) :
    (Date.cycle_to_yo c).1 < 400 ∧ 1 ≤ (Date.cycle_to_yo c).2 ∧
    (Date.cycle_to_yo c).2 ≤ 365 + (leapsBefore ((Date.cycle_to_yo c).1 + 1) - leapsBefore (Date.cycle_to_yo c).1) ∧
    (Date.cycle_to_yo c).1 * 365 + leapsBefore (Date.cycle_to_yo c).1 + (Date.cycle_to_yo c).2 - 1 = c := by
  rw [cycle_to_yo_eq]
  have h0 : c / 365 < 401 := by omega
  have h1 : c / 365 - 1 < 401 := by omega
  rw [table_yd.2 _ h0, table_yd.2 _ h1]
  have hL0 : leapsBefore 0 = 0 := by decide
  have hL400 : leapsBefore 400 = 97 := by decide
  have f0 := leaps_fin _ h0
  have f1 := leaps_fin _ h1
  by_cases hlt : c % 365 < leapsBefore (c / 365)
  · rw [if_pos hlt]
    dsimp only
    have hpos : 1 ≤ c / 365 := by
      rcases Nat.eq_zero_or_pos (c / 365) with h | h
      · rw [h, hL0] at hlt; omega
      · exact h
    have e : c / 365 - 1 + 1 = c / 365 := by omega
    rw [e] at f1 ⊢
    generalize leapsBefore (c / 365) = La at *
    generalize leapsBefore (c / 365 - 1) = Lb at *
    omega
  · rw [if_neg hlt]
    dsimp only
    have hne : c / 365 ≠ 400 := by
      intro h; rw [h, hL400] at hlt; omega
    generalize leapsBefore (c / 365) = La at *
    generalize leapsBefore (c / 365 + 1) = Lc at *
    omega

theorem dby_small (i : Nat) (hi : i < 401) : daysBeforeYear i = (i : Int) * 365 + leapsBefore i - 366 := by
  unfold daysBeforeYear leapsBefore
  omega

theorem yearLen_mod400 (y : Int) : yearLen (y % 400) = yearLen y := by
  unfold yearLen; rw [isLeap_mod400]

theorem ctor_days' (n : Int) (hn : -2147483648 ≤ n ∧ n ≤ 2147483647) :
    ∃ r, Date.from_num_days_from_ce_opt n = .ok r ∧
      (∀ d, r = some d → ∃ y o, d = dateOfYo y o ∧ MIN_YEAR ≤ y ∧ y ≤ MAX_YEAR ∧ 1 ≤ o ∧ o ≤ yearLen y ∧
        dayNumYo y o = n) ∧
      (r = none ↔ (n < dayNumYo MIN_YEAR 1 ∨ n > dayNumYo MAX_YEAR 365)) := by
  unfold Date.from_num_days_from_ce_opt
  by_cases hov : n + 365 > 2147483647
  · rw [optI32_none (Or.inr (by omega))]
    refine ⟨none, rfl, ?_, ?_⟩
    · intro d h; cases h
    · rw [show dayNumYo MAX_YEAR 365 = 95745399 by decide]
      constructor <;> intro _ <;> first | rfl | omega
  · rw [optI32_some (by omega) (by omega)]
    dsimp only
    generalize hq : (n + 365) / 146097 = q
    generalize hc : (n + 365) % 146097 = c
    have hc0 : 0 ≤ c := by rw [← hc]; exact Int.emod_nonneg _ (by decide)
    have hc1 : c < 146097 := by rw [← hc]; exact Int.emod_lt_of_pos _ (by decide)
    have hdecomp : n + 365 = 146097 * q + c := by rw [← hq, ← hc]; omega
    clear hq hc
    obtain ⟨k, hk⟩ := Int.eq_ofNat_of_zero_le hc0
    subst hk
    simp only [Int.toNat_natCast]
    obtain ⟨s1, s2, s3, s4⟩ := cycle_to_yo_spec k (by omega)
    generalize Date.cycle_to_yo k = p at *
    obtain ⟨ym, ord⟩ := p
    dsimp only at *
    rw [ckI32_ok (by omega) (by omega)]
    dsimp only
    -- flags of the cycle year are the flags of the year
    have hymod : (q * 400 + (ym : Int)) % 400 = ym := by omega
    have hflags : YearFlags.from_year_mod_400 (ym : Int) = flagsOf (q * 400 + ym) := by
      have := from_year_spec (q * 400 + ym)
      unfold YearFlags.from_year at this
      rw [hymod] at this
      exact this
    rw [hflags, from_oaf_spec]
    obtain ⟨_, hle, hlf⟩ := leaps_fin ym (by omega)
    -- ordinal bound is the year length
    have hyl : yearLen (q * 400 + (ym : Int)) = 365 + (leapsBefore (ym + 1) - leapsBefore ym) := by
      rw [← yearLen_mod400, hymod, hlf]
      unfold yearLen; split <;> rfl
    have hord : 1 ≤ ord ∧ ord ≤ yearLen (q * 400 + ↑ym) := ⟨s2, by rw [hyl]; exact s3⟩
    -- day number of the result
    have hdn : dayNumYo (q * 400 + (ym : Int)) ord = n := by
      unfold dayNumYo
      rw [dby_mod400, hymod, dby_small ym (by omega), show (q * 400 + (ym : Int)) / 400 = q by omega]
      omega
    obtain ⟨hsome, hnone⟩ := yo_opt_dayNum _ ord hord
    rw [hdn] at hsome hnone
    exact ⟨_, rfl, hsome, hnone.trans ⟨fun h => by omega, fun h => by omega⟩⟩

theorem ordinalOf_dec31 (y : Int) : ordinalOf y 12 31 = yearLen y ∧ validYmd y 12 31 = true := by
  unfold ordinalOf yearLen validYmd monthLen cumDays
  cases isLeap y <;> simp

/-- `succ_opt` adds 16 to the packed word while the ordinal stays inside the year (the word of the
next day), and otherwise builds day 1 of the next year; every year whose successor is an `i32` -/
theorem succ_spec (y : Int) (o : Nat) (hy : -2147483648 ≤ y + 1 ∧ y + 1 ≤ 2147483647)
    (ho : 1 ≤ o ∧ o ≤ yearLen y) :
    Date.succ_opt (dateOfYo y o) =
      .ok (if o < yearLen y then some (dateOfYo y (o + 1))
           else if MIN_YEAR ≤ y + 1 ∧ y + 1 ≤ MAX_YEAR then some (dateOfYo (y + 1) 1) else none) := by
  have hyl := yearLen_add_bit y _ (flagsOf_facts y).2.2.1
  have hf16 := (flagsOf_facts y).1
  unfold Date.succ_opt
  rw [ol_word y o (by omega), (dateOfYo_fields y o (by omega)).1]
  dsimp only
  by_cases hlt : o < yearLen y
  · have hw : ∀ a : Int, (dateOfYo y o).yof - a + (a + 16) = (dateOfYo y (o + 1)).yof := by
      intro a; unfold dateOfYo; dsimp only; push_cast; omega
    rw [if_pos hlt, hw, from_yof_word y (o + 1) ⟨by omega, hlt⟩]
    exact ite_pos' _ _ (by rw [show DATE_MAX_OL = 5856 from rfl]; omega)
  · have hl1 := yearLen_ge (y + 1)
    rw [if_neg hlt, ckI32_ok hy.1 hy.2]
    dsimp only
    rw [ctor_yo', ite_neg' _ _ (by rw [show DATE_MAX_OL = 5856 from rfl]; omega)]
    exact congrArg Res.ok (ite_same _ _ ⟨fun h => ⟨h.1, h.2.1⟩, fun h => ⟨h.1, h.2, by omega, by omega⟩⟩)

theorem pred_spec (y : Int) (o : Nat) (hy : -2147483648 ≤ y - 1 ∧ y - 1 ≤ 2147483647)
    (ho : 1 ≤ o ∧ o ≤ yearLen y) :
    Date.pred_opt (dateOfYo y o) =
      .ok (if 1 < o then some (dateOfYo y (o - 1))
           else if MIN_YEAR ≤ y - 1 ∧ y - 1 ≤ MAX_YEAR then some (dateOfYo (y - 1) (yearLen (y - 1)))
           else none) := by
  have hyl := yearLen_ge y
  obtain ⟨hyear, hord, -⟩ := dateOfYo_fields y o (by omega)
  unfold Date.pred_opt
  rw [hyear, hord]
  dsimp only
  by_cases hlt : 1 < o
  · have hw : (dateOfYo y o).yof - ↑o * 16 + (↑o * 16 - 16) = (dateOfYo y (o - 1)).yof := by
      unfold dateOfYo; dsimp only; omega
    rw [if_pos hlt, ite_pos' _ _ (by omega), hw, from_yof_word y (o - 1) ⟨by omega, by omega⟩]
  · obtain ⟨h31, hv⟩ := ordinalOf_dec31 (y - 1)
    rw [if_neg hlt, ite_neg' _ _ (by omega), ckI32_ok hy.1 hy.2]
    dsimp only
    rw [ctor_ymd', h31]
    exact congrArg Res.ok (ite_same _ _ ⟨fun h => ⟨h.1, h.2.1⟩, fun h => ⟨h.1, h.2, hv⟩⟩)

theorem date_eq_of_yof (a b : Date) (h : a.yof = b.yof) : a = b := by
  cases a; cases b; simp_all

theorem succ_ok' (y : Int) (o : Nat) (hy : MIN_YEAR ≤ y ∧ y ≤ MAX_YEAR) (ho : 1 ≤ o ∧ o ≤ yearLen y) :
    ∃ r, Date.succ_opt (dateOfYo y o) = .ok r ∧
      (r = none ↔ dateOfYo y o = Date.MAX) ∧
      (∀ d, r = some d → ∃ y' o', d = dateOfYo y' o' ∧ MIN_YEAR ≤ y' ∧ y' ≤ MAX_YEAR ∧ 1 ≤ o' ∧
        o' ≤ yearLen y' ∧ dayNumYo y' o' = dayNumYo y o + 1 ∧
        weekdayOf (dayNumYo y' o') = (weekdayOf (dayNumYo y o) + 1) % 7) := by
  have hyl := yearLen_ge y
  have hMIN : MIN_YEAR = -262143 := rfl
  have hMAX : MAX_YEAR = 262142 := rfl
  have hylmax : yearLen MAX_YEAR = 365 := by decide
  have hmax : dateOfYo y o = Date.MAX ↔ (y = MAX_YEAR ∧ o = 365) := by
    rw [show Date.MAX = dateOfYo MAX_YEAR 365 by decide]
    exact ⟨dateOfYo_inj y MAX_YEAR o 365 ho ⟨by omega, by omega⟩, fun ⟨h1, h2⟩ => by rw [h1, h2]⟩
  refine ⟨_, succ_spec y o (by omega) ho, ?_⟩
  rw [hmax]
  by_cases hlt : o < yearLen y
  · rw [if_pos hlt]
    refine ⟨⟨(fun h => nomatch h), ?_⟩, fun d hd =>
      ⟨y, o + 1, (Option.some.inj hd).symm, hy.1, hy.2, by omega, hlt, ?_, ?_⟩⟩
    · rintro ⟨rfl, rfl⟩; omega
    · unfold dayNumYo; push_cast; omega
    · unfold dayNumYo weekdayOf; push_cast; omega
  · rw [if_neg hlt]
    by_cases hm : MIN_YEAR ≤ y + 1 ∧ y + 1 ≤ MAX_YEAR
    · have hl1 := yearLen_ge (y + 1)
      have hs := dby_step y
      rw [if_pos hm]
      refine ⟨⟨(fun h => nomatch h), fun h => by omega⟩, fun d hd =>
        ⟨y + 1, 1, (Option.some.inj hd).symm, hm.1, hm.2, by omega, by omega, ?_, ?_⟩⟩
      · unfold dayNumYo; rw [hs]; push_cast; omega
      · unfold dayNumYo weekdayOf; rw [hs]; push_cast; omega
    · have : y = MAX_YEAR := by omega
      subst this
      rw [if_neg hm]
      exact ⟨⟨fun _ => ⟨rfl, by omega⟩, fun _ => rfl⟩, fun d hd => nomatch hd⟩

theorem pred_ok' (y : Int) (o : Nat) (hy : MIN_YEAR ≤ y ∧ y ≤ MAX_YEAR) (ho : 1 ≤ o ∧ o ≤ yearLen y) :
    ∃ r, Date.pred_opt (dateOfYo y o) = .ok r ∧
      (r = none ↔ dateOfYo y o = Date.MIN) ∧
      (∀ d, r = some d → ∃ y' o', d = dateOfYo y' o' ∧ MIN_YEAR ≤ y' ∧ y' ≤ MAX_YEAR ∧ 1 ≤ o' ∧
        o' ≤ yearLen y' ∧ dayNumYo y' o' = dayNumYo y o - 1) := by
  have hyl := yearLen_ge y
  have hMIN : MIN_YEAR = -262143 := rfl
  have hMAX : MAX_YEAR = 262142 := rfl
  have hmin : dateOfYo y o = Date.MIN ↔ (y = MIN_YEAR ∧ o = 1) := by
    rw [show Date.MIN = dateOfYo MIN_YEAR 1 by decide]
    exact ⟨dateOfYo_inj y MIN_YEAR o 1 ho ⟨by omega, by have := yearLen_ge MIN_YEAR; omega⟩,
      fun ⟨h1, h2⟩ => by rw [h1, h2]⟩
  refine ⟨_, pred_spec y o (by omega) ho, ?_⟩
  rw [hmin]
  by_cases hlt : 1 < o
  · rw [if_pos hlt]
    refine ⟨⟨(fun h => nomatch h), fun h => by omega⟩, fun d hd =>
      ⟨y, o - 1, (Option.some.inj hd).symm, hy.1, hy.2, by omega, by omega, ?_⟩⟩
    unfold dayNumYo; omega
  · rw [if_neg hlt]
    by_cases hm : MIN_YEAR ≤ y - 1 ∧ y - 1 ≤ MAX_YEAR
    · have hl1 := yearLen_ge (y - 1)
      have hs := dby_step (y - 1)
      rw [show y - 1 + 1 = y by omega] at hs
      rw [if_pos hm]
      refine ⟨⟨(fun h => nomatch h), fun h => by omega⟩, fun d hd =>
        ⟨y - 1, yearLen (y - 1), (Option.some.inj hd).symm, hm.1, hm.2, by omega, by omega, ?_⟩⟩
      unfold dayNumYo; rw [hs]; omega
    · rw [if_neg hm]
      exact ⟨⟨fun _ => ⟨by omega, by omega⟩, fun _ => rfl⟩, fun d hd => nomatch hd⟩

end Chrono.Proofs
