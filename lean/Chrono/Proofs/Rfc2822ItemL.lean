/-
  Helper lemmas for C11: the writer reached through the `Fixed::RFC2822` item
  (`DateTime::format_with_items([Item::Fixed(Fixed::RFC2822)])`, `DelayedFormat::write_to`) is the
  same `write_rfc2822` on the same wall-clock reading as `to_rfc2822`, without the `expect`; and the item
  INSIDE a longer item list: the writer between literal items (`DelayedFormat::write_to` over
  `pre ++ [RFC2822] ++ post`), the reader behind a literal item (`parse_internal` over `Literal a :: rest`).
-/
import Chrono.Proofs.Rfc2822WriteL
import Chrono.Proofs.FormatRfcL
namespace Chrono.Proofs.Rfc2822
open Chrono Chrono.M Chrono.Spec Chrono.Spec.Rfc2822 Chrono.Extracted Chrono.M.Format

/-- the single-item list: `write_to` is the item's writer -/
theorem formatItemsR_single (d : Option Date) (t : Option Time) (off : Option (List Nat × Int)) (it : Item) :
    formatItemsR d t off [it] = (format_item d t off it).seq (wok []) := rfl

/-- the item form on any value: `write_rfc2822` on the wall-clock reading -/
theorem format_item_eq (z : Zoned) :
    Rfc2822.format_item_rfc2822 z =
      match Zoned.overflowing_naive_local z with
      | .panic => .panic
      | .ok l => write_rfc2822 l z.off := by
  unfold Rfc2822.format_item_rfc2822 Rfc2822.ITEMS
  cases Zoned.overflowing_naive_local z with
  | panic => rfl
  | ok l =>
    simp only []
    rw [formatItemsR_single, FormatRfc.seq_nil]
    rfl

/-- a day number names one day: two wall-clock dates of the same value coincide -/
theorem wallDate_unique (z : Zoned) (Y Y' : Int) (o o' : Nat) (h : WallDate z Y o) (h' : WallDate z Y' o') :
    Y = Y' ∧ o = o' := by
  obtain ⟨a1, a2, a3⟩ := h
  obtain ⟨b1, b2, b3⟩ := h'
  have hyl := yearLen_ge Y
  have hyl' := yearLen_ge Y'
  have hd := date_of_daynum_unique Y Y' o o' ⟨a1, a2⟩ ⟨b1, b2⟩ (by rw [a3, b3])
  obtain ⟨f1, f2, _⟩ := dateOfYo_fields Y o (by omega)
  obtain ⟨g1, g2, _⟩ := dateOfYo_fields Y' o' (by omega)
  rw [hd] at f1 f2
  refine ⟨by rw [← f1, g1], ?_⟩
  have : (o : Int) = (o' : Int) := by rw [← f2, g2]
  omega

/-! ### the item inside a longer item list -/

/-- an item list of `Literal` / `Space` items only -/
def LitsOnly (l : List Item) : Prop := ∀ it ∈ l, (∃ s, it = .literal s) ∨ (∃ s, it = .space s)

/-- the text of the `Literal` / `Space` items of a list, in order -/
def litText : List Item → List Nat
  | [] => []
  | .literal s :: r => s ++ litText r
  | .space s :: r => s ++ litText r
  | _ :: r => litText r

theorem formatItemsR_append (d : Option Date) (t : Option Time) (off : Option (List Nat × Int)) (a b : List Item) :
    formatItemsR d t off (a ++ b) = (formatItemsR d t off a).seq (formatItemsR d t off b) :=
  FormatL.formatItemsR_append d t off a b

theorem formatItemsR_lits (d : Option Date) (t : Option Time) (off : Option (List Nat × Int)) (l : List Item)
    (h : LitsOnly l) : formatItemsR d t off l = wok (litText l) := by
  induction l with
  | nil => rfl
  | cons it rest ih =>
    have hr : LitsOnly rest := fun x hx => h x (List.mem_cons_of_mem _ hx)
    rcases h it (List.mem_cons_self) with ⟨s, rfl⟩ | ⟨s, rfl⟩
    · simp only [formatItemsR, format_item, ih hr, litText]; rfl
    · simp only [formatItemsR, format_item, ih hr, litText]; rfl

/-- **the item between literals**, any value: the literal text, what the single item writes, the literal
text; an error or a panic of the item is the error / panic of the whole list -/
theorem format_in_list (z : Zoned) (pre post : List Item) (hpre : LitsOnly pre) (hpost : LitsOnly post) :
    Rfc2822.format_with_items z (pre ++ [.fixed .rfc2822] ++ post) =
      match Rfc2822.format_item_rfc2822 z with
      | .ok (some t) => .ok (some (litText pre ++ t ++ litText post))
      | r => r := by
  unfold Rfc2822.format_with_items Rfc2822.format_item_rfc2822 Rfc2822.ITEMS
  cases Zoned.overflowing_naive_local z with
  | panic => rfl
  | ok l =>
    simp only []
    rw [formatItemsR_append, formatItemsR_append, formatItemsR_lits _ _ _ pre hpre,
      formatItemsR_lits _ _ _ post hpost, formatItemsR_single, FormatRfc.seq_nil]
    cases format_item (some l.date) (some l.time) (some (fixedOffsetName z.off, z.off)) (.fixed .rfc2822) with
    | panic => rfl
    | ok r =>
      cases r with
      | none => rfl
      | some x => simp only [W.seq, wok, List.append_assoc]

/-- a `Literal` item in front: it consumes exactly its text -/
theorem parseLiteral_self (a s : List Nat) : Parse.parseLiteral (a ++ s) a = .ok s := by
  unfold Parse.parseLiteral
  rw [if_neg (by simp), if_neg (by simp)]
  simp

theorem parse_internal_lit (p : Parsed) (a s : List Nat) (rest : List Item) :
    Parse.parse_internal p (a ++ s) (.literal a :: rest) = Parse.parse_internal p s rest := by
  rw [Parse.parse_internal]
  · simp only [Parse.parseItemBase, parseLiteral_self, Except.map]
  all_goals (intro h; cases h)

end Chrono.Proofs.Rfc2822
