/-
  C14 with C01's ISO-week theorems: the hypothesis of the ISO combination is discharged, and the
  inverse direction (ISO fields of a day rebuild the day) extends completeness to the ISO combination.
-/
import Chrono.Proofs.ParsedDtL
import Chrono.Proofs.IsoL
namespace Chrono.Proofs.ParsedRes
open Chrono Chrono.M Chrono.Spec Chrono.Spec.Fields Chrono.Extracted Chrono.Proofs

/-- C01's ISO-week round trip discharges the hypothesis of the ISO combination -/
theorem isoCtorSpec_holds : IsoCtorSpec := fun y w wd d h => isoywd_roundtrip' y w wd d h

theorem iso_arith (B n : Int) (ot f8 W : Nat) (h1 : 1 ≤ f8 ∧ f8 ≤ 7)
    (h2 : ((f8 : Nat) : Int) % 7 = (B + 6) % 7) (h3 : B + (ot : Int) = n - (n + 6) % 7 + 3)
    (h4 : (W : Int) = (n + 6) % 7) (h5 : 1 ≤ ot) :
    B + 7 * (((ot - 1) / 7 + 1 : Nat) : Int) + (W : Int) -
      (((if f8 < 3 then f8 + 7 else f8) : Nat) : Int) = n := by
  split <;> (push_cast; omega)

/-- inverse direction: the ISO year, week and weekday of an existing day rebuild that day -/
theorem isoywd_back (Y : Int) (o : Nat) (h : VD Y o) (w : Int)
    (hw : (dateOfYo Y o).iso_week = .ok w) :
    0 ≤ IsoWeek.week w ∧
    Date.from_isoywd_opt (IsoWeek.year w) (IsoWeek.week w).toNat (dateOfYo Y o).weekday =
      .ok (some (dateOfYo Y o)) := by
  obtain ⟨v1, v2, v3, v4⟩ := h
  obtain ⟨IY, ot, t1, t2, t3, t4⟩ := iso_week_spec' Y o ⟨v1, v2⟩ ⟨v3, v4⟩
  rw [t4] at hw
  cases hw
  have hylI := yearLen_ge IY
  obtain ⟨hf16, hf8, _, hwf⟩ := flagsOf_facts IY
  obtain ⟨f1, f2⟩ := ywf_fields IY ((ot - 1) / 7 + 1) (flagsOf IY) (by omega) hf16
  rw [f1, f2]
  simp only [Int.toNat_natCast]
  refine ⟨by omega, ?_⟩
  have hyl := yearLen_ge Y
  have hwd := weekday_spec Y o (by omega)
  generalize hWD : (dateOfYo Y o).weekday = wd at *
  have hwd6 := wd_toNat_le wd
  -- the denoted day number is the day itself
  have hthu := isoDayNum_eq IY (((ot - 1) / 7 + 1 : Nat) : Int) 3
  have hday := isoDayNum_eq IY (((ot - 1) / 7 + 1 : Nat) : Int) (wd.toNat : Int)
  have hthw := isoThursday_wd (dayNumYo Y o)
  have hdn : isoDayNum IY (((ot - 1) / 7 + 1 : Nat) : Int) (wd.toNat : Int) = dayNumYo Y o := by
    rw [hday]
    unfold isoThursday weekdayOf at t3
    unfold weekdayOf at hwd hwf
    unfold YearFlags.isoweek_delta
    dsimp only
    have t3' : daysBeforeYear IY + (ot : Int) = dayNumYo Y o - (dayNumYo Y o + 6) % 7 + 3 := by
      unfold dayNumYo at t3 ⊢; exact t3
    exact iso_arith (daysBeforeYear IY) (dayNumYo Y o) ot (flagsOf IY % 8) wd.toNat (by omega) hwf t3' hwd t1
  have hthu' : isoDayNum IY (((ot - 1) / 7 + 1 : Nat) : Int) 3 = dayNumYo IY ot := by
    have := (isoThursday_isoDayNum IY (((ot - 1) / 7 + 1 : Nat) : Int) wd.toNat hwd6).1
    rw [hdn] at this
    rw [← this, t3]
  obtain ⟨r, hr, hsome, hnone⟩ := ctor_isoywd' IY ((ot - 1) / 7 + 1) wd
  rw [hr]
  have hrange := (range_iff_iso Y o ⟨v3, v4⟩).mp ⟨v1, v2⟩
  have hs := dby_step IY
  have hex : isoWeekExists IY (((ot - 1) / 7 + 1 : Nat) : Int) := by
    unfold isoWeekExists
    rw [hthu']
    unfold dayNumYo
    refine ⟨by omega, by omega, by omega⟩
  cases r with
  | none =>
    exfalso
    exact (hnone.mp rfl) ⟨hex, by rw [hdn]; exact hrange⟩
  | some d' =>
    obtain ⟨Y', o', hd', _, _, o1, o2, hdn'⟩ := hsome d' rfl
    rw [hdn] at hdn'
    obtain ⟨e1, e2⟩ := yo_unique Y' Y o' o ⟨o1, o2⟩ ⟨v3, v4⟩ hdn'
    subst e1 e2
    rw [hd']


theorem date_complete_full (p : Parsed) (hp : InType p) (Y : Int) (o : Nat) (hvd : VD Y o)
    (hag : DateAgrees p Y o)
    (hdY : GroupDeterminate p.year p.year_div_100 p.year_mod_100 Y)
    (hdI : ∀ w, (dateOfYo Y o).iso_week = .ok w →
      GroupDeterminate p.isoyear p.isoyear_div_100 p.isoyear_mod_100 (IsoWeek.year w))
    (hc : UsesCalendar p ∨ UsesIso p) :
    Parsed.to_naive_date p = .ok (.ok (dateOfYo Y o)) := by
  obtain ⟨w, hw, i1, i2, i3⟩ := hag.2.2.2.2.2.2.2.2.2
  have hMIN : MIN_YEAR = -262143 := rfl
  have hMAX : MAX_YEAR = 262142 := rfl
  obtain ⟨v1, v2, _, _⟩ := id hvd
  have hib := iso_year_bound Y o hvd w hw
  have hgy := resolve_year_complete _ _ _ Y (by omega) hag.1 hag.2.1 hdY
  have hgi := resolve_year_complete _ _ _ (IsoWeek.year w) (by omega) i1 i2 (hdI w hw)
  obtain ⟨_, hback⟩ := isoywd_back Y o hvd w hw
  have hwdy := (vd_fields Y o hvd).2.2.2.2.2.1
  refine date_of_arm p Y o hvd _ _ hgy hgi
    (armDate_complete p hp Y o hvd (allOk_of_agrees hag) _ _ ?_ ?_ ?_) hag.2.2.1
  · intro y e
    split at e
    · cases e
    · exact (Option.some.inj e).symm
  · -- the ISO arm reads the fields that `isoywd_back` feeds to the constructor
    intro y wk wd ha
    obtain ⟨e1, e2, e3⟩ := dateArm_iso_fields p _ _ y wk wd ha
    split at e1
    · cases e1
    · cases e1
      have hwdeq : wd = (dateOfYo Y o).weekday := by
        apply wd_toNat_inj
        have : ((wd.toNat : Nat) : Int) = (((dateOfYo Y o).weekday.toNat : Nat) : Int) := by
          rw [hag.2.2.2.2.2.2.1 wd e3, hwdy]
        exact Int.ofNat.inj this
      rw [i3 wk e2, hwdeq, hback]
  · intro hn
    refine (dateArm_none_iff p _ _).mp hn ?_
    rcases hc with h | h
    · exact .inl ⟨by rw [if_neg (fun g => h.1.elim (fun k => k g.1) (fun k => k g.2))]; nofun, h.2⟩
    · exact .inr ⟨by rw [if_neg (fun g => h.1.elim (fun k => k g.1) (fun k => k g.2))]; nofun, h.2⟩

end Chrono.Proofs.ParsedRes
