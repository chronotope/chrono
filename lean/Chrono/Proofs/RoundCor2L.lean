/- Helper lemmas for the second-review gaps of C17: corollaries for leap-second inputs (unchanged iff
multiple, the second call), sub-second "multiples unchanged" / idempotence, and `DurationRound for
DateTime<Tz>` in an arbitrary zone related to the same call at the fixed offset the value carries. -/
import Chrono.Proofs.RoundSubDtL
import Chrono.Model.RoundTz

namespace Chrono.Proofs.RoundDt
open Chrono Chrono.M Chrono.M.Round Chrono.Spec Chrono.Spec.Round Chrono.Extracted Chrono.Extracted.Round
open Chrono.Proofs Chrono.Proofs.RoundL

/-! ### leap-second inputs -/

/-- a leap-second operand that is moved by `d` and comes back as itself was not moved -/
theorem moved_leap_self (dt : NaiveDT) (d : Int) (hl : ¬ NonLeap dt) (h : Moved dt d dt) : d = 0 := by
  obtain ⟨_, h2, h3, _⟩ := h
  unfold NonLeap at hl
  unfold stamp_after at h2
  by_cases hc : dt.time.frac ≥ 1000000000 ∧ dt.time.frac + d ≥ 2000000000
  · rw [if_pos hc] at h2; omega
  · rw [if_neg hc] at h2; omega

theorem dvd_of_sub_const (p m : Int) (h1 : p ∣ m) (h2 : p ∣ m - 1000000000) : p ∣ 1000000000 := by
  have := Int.dvd_sub h1 h2
  have e : m - (m - 1000000000) = 1000000000 := by omega
  rw [e] at this; exact this

theorem dvd_sub_const (p m : Int) (h1 : p ∣ m) (h2 : p ∣ 1000000000) : p ∣ m - 1000000000 :=
  Int.dvd_sub h1 h2

/-! ### the second call -/

/-- a value whose stamp is a multiple of the span comes back as it is, if that stamp is in the window -/
theorem naive_fixed (op : Op) (v : NaiveDT) (dur : Delta) (hv : NDTInv v) (hd : DInv dur)
    (hg : 0 < ns dur ∧ ns dur ≤ 9223372036854775807) (h : ns dur ∣ instNs v) :
    naive_duration op v dur =
      if InI64 (instNs v) then .ok (.ok v) else .ok (.err .TimestampExceedsLimit) := by
  obtain ⟨_, e2, e3⟩ := naive_eval op v dur hv hd
  by_cases hin : InI64 (instNs v)
  · obtain ⟨x, hx, _, hz⟩ := e3 hg hin
    rw [if_pos hin, hx, hz ((spec_fixed_iff _ _ _ hg.1).mp h)]
  · rw [if_neg hin]; exact e2 hg hin

theorem zoned_fixed (op : Op) (v : Zoned) (dur : Delta) (hv : ZInv v) (hd : DInv dur)
    (hg : 0 < ns dur ∧ ns dur ≤ 9223372036854775807) (h : ns dur ∣ wallNs v) :
    zoned_duration op v dur =
      if InI64 (wallNs v) then .ok (.ok v) else .ok (.err .TimestampExceedsLimit) := by
  obtain ⟨_, e2, e3⟩ := zoned_eval op v dur hv hd
  by_cases hin : InI64 (wallNs v)
  · obtain ⟨x, hx, _, hz⟩ := e3 hg hin
    rw [if_pos hin, hx, hz ((spec_fixed_iff _ _ _ hg.1).mp h)]
  · rw [if_neg hin]; exact e2 hg hin

/-- outside a leap second, exactly the multiples inside the window come back as they are -/
theorem naive_unchanged_iff (op : Op) (v : NaiveDT) (dur : Delta) (hv : NDTInv v) (hnl : NonLeap v)
    (hd : DInv dur) (hg : 0 < ns dur ∧ ns dur ≤ 9223372036854775807) :
    naive_duration op v dur = .ok (.ok v) ↔ (InI64 (instNs v) ∧ ns dur ∣ instNs v) := by
  constructor
  · intro h
    obtain ⟨_, hs, hm, _⟩ := naive_ok_inv op v v dur hv hd h
    obtain ⟨_, _, hst⟩ := moved_nonleap v v _ hnl hm
    exact ⟨hs, (spec_fixed_iff (kindOf op) _ _ hg.1).mpr (by omega)⟩
  · intro ⟨hin, h⟩
    rw [naive_fixed op v dur hv hd hg h, if_pos hin]

theorem zoned_unchanged_iff (op : Op) (v : Zoned) (dur : Delta) (hv : ZInv v) (hnl : NonLeap v.utc)
    (hd : DInv dur) (hg : 0 < ns dur ∧ ns dur ≤ 9223372036854775807) :
    zoned_duration op v dur = .ok (.ok v) ↔ (InI64 (wallNs v) ∧ ns dur ∣ wallNs v) := by
  constructor
  · intro h
    obtain ⟨_, hs, _, hm, _⟩ := zoned_ok_inv op v v dur hv hd h
    obtain ⟨_, _, hst⟩ := moved_nonleap v.utc v.utc _ hnl hm
    exact ⟨hs, (spec_fixed_iff (kindOf op) _ _ hg.1).mpr (by omega)⟩
  · intro ⟨hin, h⟩
    rw [zoned_fixed op v dur hv hd hg h, if_pos hin]

/-! ### sub-second: the specified field is a multiple; multiples are fixed -/

/-- the specified field is a multiple of the span for the digit count, and a valid field -/
theorem subsecSpec_field (round : Bool) (frac : Int) (d : Nat) (h0 : 0 ≤ frac) (h1 : frac < 2000000000) :
    digitSpan d ∣ (subsecSpec round frac d).1 ∧ 0 ≤ (subsecSpec round frac d).1 ∧
    (subsecSpec round frac d).1 < 2000000000 ∧
    ((subsecSpec round frac d).2 = 0 ∨ (subsecSpec round frac d).2 = 1) ∧
    ((subsecSpec round frac d).2 = 1 → (subsecSpec round frac d).1 = 0 ∧ 0 < frac) := by
  have hb := leapBase_cases frac h0 h1
  have hm := (subsecMove_bounds round frac d).2
  rcases subsec_move_lands round frac d h0 h1 with ⟨hc, hf, l0, l1⟩ | ⟨hc, hf, hend⟩
  · refine ⟨?_, by omega, by omega, Or.inl hc, fun h => by omega⟩
    rw [hf, subsecMove_eq, show ∀ x : Int, frac + (x - frac) = x from fun x => by omega]
    exact spec_dvd _ frac _
  · exact ⟨by rw [hf]; exact Int.dvd_zero _, by omega, by omega, Or.inr hc, fun _ => ⟨hf, by omega⟩⟩

/-- a field that is a multiple is specified to stay, and the move is zero -/
theorem subsecSpec_of_dvd (round : Bool) (frac : Int) (d : Nat) (h0 : 0 ≤ frac) (h1 : frac < 2000000000)
    (h : digitSpan d ∣ frac) : subsecSpec round frac d = (frac, 0) ∧ subsecMove round frac d = 0 := by
  have hm : subsecMove round frac d = 0 := by
    rw [subsecMove_eq, (spec_fixed_iff _ frac _ (digitSpan_pos d)).mp h, Int.sub_self]
  have hl := subsec_move_lands round frac d h0 h1
  rw [hm] at hl
  obtain ⟨hc, hf⟩ := lands_zero frac _ _ h1 hl
  exact ⟨Prod.ext hf hc, hm⟩

/-- the generic `SubsecRound` function returns `self` when the field is a multiple -/
theorem subsec_generic_fixed {α : Type} (round : Bool) (frac : Int) (orig : α)
    (add sub : α → Delta → Res α) (d : Nat) (h0 : 0 ≤ frac) (h1 : frac < 2000000000)
    (h : digitSpan d ∣ frac) : subsec_generic round (.ok frac) orig add sub d = .ok orig := by
  rw [subsec_generic_eq round frac orig add sub d h0, (subsecSpec_of_dvd round frac d h0 h1 h).2]
  rfl

theorem zoned_nanosecond_eq (z : Zoned) (hz : ZInv z) : Zoned.nanosecond z = .ok z.utc.time.frac := by
  obtain ⟨l, hl, _, _, hfrac, _, _⟩ := naive_local_spec z hz
  unfold Zoned.nanosecond
  rw [hl]
  simp only [Res.bind, Time.nanosecond]
  rw [hfrac]

/-! ### any zone -/

theorem apply_move_tz (offAt : NaiveDT → Int) (z : Zoned) (d : Int) :
    apply_move (tz_add offAt) (tz_sub offAt) z d =
      match apply_move Zoned.add Zoned.sub z d with
      | .panic => .panic
      | .ok v => .ok (retag offAt z d v) := by
  unfold apply_move retag
  by_cases h0 : d = 0
  · rw [if_pos h0, if_pos h0]; simp only []; rw [if_pos h0]
  · rw [if_neg h0, if_neg h0]
    by_cases hp : d > 0
    · rw [if_pos hp, if_pos hp]
      unfold Zoned.add tz_add
      rw [zoned_add_eq]
      cases z.utc.checked_add_signed (Delta.nanoseconds d) with
      | panic => rfl
      | ok r =>
        cases r with
        | none => rfl
        | some u => simp only [Res.bind, Option.map, expectSome]; rw [if_neg h0]
    · rw [if_neg hp, if_neg hp]
      unfold Zoned.sub tz_sub
      rw [zoned_sub_eq]
      cases z.utc.checked_sub_signed (Delta.nanoseconds (-d)) with
      | panic => rfl
      | ok r =>
        cases r with
        | none => rfl
        | some u => simp only [Res.bind, Option.map, expectSome]; rw [if_neg h0]

/-- the call in any zone, from the same call at the fixed offset the value carries: the same error, the
same absence of a panic, and the same UTC reading — seen at the zone's offset there when the value was
moved (`retag`) -/
theorem tz_vs_fixed' (offAt : NaiveDT → Int) (op : Op) (z : Zoned) (dur : Delta) (hz : ZInv z)
    (hd : DInv dur) :
    tz_duration offAt op z dur =
      match zoned_duration op z dur with
      | .panic => .panic
      | .ok (.err e) => .ok (.err e)
      | .ok (.ok v) =>
        .ok (.ok (retag offAt z (specOf (kindOf op) (wallNs z) (ns dur) - wallNs z) v)) := by
  obtain ⟨l, hl, hext, hsecs, hfrac, _, _⟩ := naive_local_spec z hz
  have hint := on_datetime_eq2 op (instSecs l) l.time.frac 0 dur hd
  rw [Int.add_zero, hsecs, hfrac] at hint
  have hwall : wallSecs z * 1000000000 + z.utc.time.frac = wallNs z := by
    unfold wallSecs wallNs instNs; omega
  rw [hwall] at hint
  unfold tz_duration zoned_duration
  rw [hl]
  simp only []
  rw [generic_eq op l hext z Zoned.add Zoned.sub dur, generic_eq op l hext z _ _ dur, hsecs, hfrac, hint]
  by_cases hb : ns dur ≤ 0 ∨ 9223372036854775807 < ns dur
  · rw [if_pos hb]; rfl
  · rw [if_neg hb]
    by_cases hw : ¬ InI64 (wallNs z)
    · rw [if_pos hw]; rfl
    · rw [if_neg hw]
      unfold finish
      simp only []
      rw [apply_move_tz]
      cases apply_move Zoned.add Zoned.sub z (specOf (kindOf op) (wallNs z) (ns dur) - wallNs z) <;> rfl

/-- `SubsecRound for DateTime<Tz>` in any zone, from the same call at the fixed offset -/
theorem tz_subsecs_vs_fixed' (offAt : NaiveDT → Int) (round : Bool) (z : Zoned) (digits : Nat)
    (hz : ZInv z) :
    tz_subsecs offAt round z digits =
      match zoned_subsecs round z digits with
      | .panic => .panic
      | .ok v => .ok (retag offAt z (subsecMove round z.utc.time.frac digits) v) := by
  have hf := hz.1.2.2.2
  unfold tz_subsecs zoned_subsecs
  rw [zoned_nanosecond_eq z hz, subsec_generic_eq _ _ _ _ _ _ hf.1, subsec_generic_eq _ _ _ _ _ _ hf.1,
    apply_move_tz]

end Chrono.Proofs.RoundDt
