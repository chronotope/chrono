/-
  C09, audit gap L4: `impl FromStr for NaiveTime` continues after a failed seconds run with the
  `Parsed` record as that run left it.  The stateful model (`TextForms.time_from_str_st`,
  Model/TextFormsExt.lean) and the state-dropping one used in the round-trip theorems
  (`TextForms.time_from_str`) agree on every input.
-/
import Chrono.Model.TextFormsExt
import Chrono.Proofs.TextFormsRtL
namespace Chrono.Proofs.TextFormsSt
open Chrono Chrono.M Chrono.M.Scan Chrono.M.TextForms Chrono.Proofs.TextForms

/-- a successful stateful run is the successful run of the item parser -/
theorem st_of_ok (items : List Item) (p : Parsed) (s : List Nat) (p' : Parsed) (s' : List Nat)
    (h : Parse.parseItemsBase p s items = .ok (p', s')) : parseItemsSt p s items = (p', .ok s') := by
  induction items generalizing p s with
  | nil =>
    simp only [Parse.parseItemsBase] at h
    injection h with h; injection h with h1 h2
    subst h1; subst h2; rfl
  | cons it rest ih =>
    unfold Parse.parseItemsBase at h
    unfold parseItemsSt
    cases hit : Parse.parseItemBase p s it with
    | error e => rw [hit] at h; cases h
    | ok r =>
      obtain ⟨q, t⟩ := r
      rw [hit] at h
      exact ih q t h

/-- a failed stateful run fails with the same error -/
theorem st_of_error (items : List Item) (p : Parsed) (s : List Nat) (e : PErr)
    (h : Parse.parseItemsBase p s items = .error e) : (parseItemsSt p s items).2 = .error e := by
  induction items generalizing p s with
  | nil => simp only [Parse.parseItemsBase] at h; cases h
  | cons it rest ih =>
    unfold Parse.parseItemsBase at h
    unfold parseItemsSt
    cases hit : Parse.parseItemBase p s it with
    | error e' => rw [hit] at h; injection h with h; subst h; rfl
    | ok r =>
      obtain ⟨q, t⟩ := r
      rw [hit] at h
      exact ih q t h

/-- the seconds run on text that is empty after white space: the literal `:` fails, nothing stored -/
theorem sn_st_blank (p : Parsed) (s : List Nat) (h : trimStart s = []) :
    (parseItemsSt p s SECOND_AND_NANOS).1 = p := by
  unfold SECOND_AND_NANOS parseItemsSt
  rw [item_space p s, h]
  rfl

/-- the trailing-white-space parse: all that is left must be white space -/
theorem parse_ws (q : Parsed) (s : List Nat) :
    Parse.parse q s TRAILING_WHITESPACE = if trimStart s = [] then .ok q else .error .tooLong := by
  unfold Parse.parse
  rw [parse_internal_base TRAILING_WHITESPACE ws_items_plain]
  have : Parse.parseItemsBase q s TRAILING_WHITESPACE = .ok (q, trimStart s) := rfl
  rw [this]
  cases trimStart s with
  | nil => rfl
  | cons c t => simp

/-- **L4**: threading the record of a failed seconds run through the rest of `from_str` changes
nothing — a failed run has stored something only if the text after the minutes, trimmed, starts with
`:`; then the trailing-white-space parse answers `TooLong` before the record is looked at -/
theorem time_from_str_st_eq (s : List Nat) : time_from_str_st s = time_from_str s := by
  unfold time_from_str_st time_from_str
  rw [parse_internal_base _ hm_items_plain]
  cases h1 : Parse.parseItemsBase Parsed.new s HOUR_AND_MINUTE with
  | error e =>
    have := st_of_error _ _ _ _ h1
    cases hh : parseItemsSt Parsed.new s HOUR_AND_MINUTE with
    | mk q r =>
      rw [hh] at this
      dsimp only at this
      subst this
      rfl
  | ok r1 =>
    obtain ⟨p, s1⟩ := r1
    rw [st_of_ok _ _ _ _ _ h1]
    dsimp only
    rw [parse_internal_base _ sn_items_plain]
    cases h2 : Parse.parseItemsBase p s1 SECOND_AND_NANOS with
    | ok r2 =>
      obtain ⟨p2, s2⟩ := r2
      rw [st_of_ok _ _ _ _ _ h2]
      rfl
    | error e =>
      have hE := st_of_error _ _ _ _ h2
      rw [hE]
      dsimp only
      rw [parse_ws, parse_ws]
      by_cases hb : trimStart s1 = []
      · rw [if_pos hb, if_pos hb, sn_st_blank p s1 hb]
      · rw [if_neg hb, if_neg hb]

/-- `DateTime<Local>`'s `FromStr` where `DateTime<FixedOffset>`'s succeeds: the same instant with the
zone's offset, which is the value read exactly when the zone's offset is the value's -/
theorem local_from_str_of_fixed (localOff : NaiveDT → Int) (s : List Nat) (z : Zoned)
    (h : fixed_from_str s = .ok (.ok z)) :
    local_from_str localOff s = .ok (.ok ⟨z.utc, localOff z.utc⟩) ∧
    (local_from_str localOff s = .ok (.ok z) ↔ localOff z.utc = z.off) := by
  have r : local_from_str localOff s = .ok (.ok ⟨z.utc, localOff z.utc⟩) := by
    unfold local_from_str; rw [h]; rfl
  refine ⟨r, ?_⟩
  rw [r]
  constructor
  · intro h
    injection h with h
    injection h with h
    exact congrArg Zoned.off h
  · intro h; rw [h]

end Chrono.Proofs.TextFormsSt
