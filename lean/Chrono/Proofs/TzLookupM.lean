/- Helper lemmas for C05, second file: what the wall-clock lookup guarantees WITHOUT any separation
   hypothesis (soundness of the earliest candidate). -/
import Chrono.Proofs.TzLookupL

set_option linter.unusedSimpArgs false
set_option linter.unusedVariables false

namespace Chrono.Proofs.TzL
open Chrono Chrono.M.Tz Chrono.M.TzL Chrono.Spec.Zone Chrono.Extracted.TzL Chrono.Proofs

/-! ### no separation: the earliest candidate is always a genuine reading -/

/-- the earliest candidate at one transition is either the type in force before the transition, read
strictly before it, or the new type read exactly at the transition -/
theorem window_earliest (prev after : Ltt) (T ℓ : Int) (h : ℓ ≤ T + max prev.off after.off)
    (hx : prev.off ≠ after.off → ℓ ≠ T + prev.off) :
    ∀ x, (windowAt prev after T ℓ).earliest = some x →
      (x.off = prev.off ∧ ℓ - x.off < T) ∨ (x.off = after.off ∧ ℓ - x.off = T) := by
  unfold windowAt
  (repeat' split) <;> simp only [Mapped.earliest] <;> intro x hx' <;> cases hx' <;> omega

/-- the loop, any table, NO separation hypothesis: the earliest candidate reads `ℓ` under the table's
step function -/
theorem loop_earliest_sound (z : Zone) (ℓ : Int) (ts : List Transition) : ∀ (prev : Ltt),
    Sorted ts → NoBoundary' z prev.off ts ℓ → InRange z ts →
    (-2147483648 ≤ prev.off ∧ prev.off ≤ 2147483647) →
    ∀ x, (outMap (fromLocalLoop z ts prev ℓ)).earliest = some x →
      stepOff z prev.off ts (ℓ - x.off) = x.off := by
  induction ts with
  | nil =>
    intro prev _ _ _ _ x hx
    simp only [fromLocalLoop, outMap, Mapped.earliest] at hx
    injection hx with e; subst e; rfl
  | cons tr rest ih =>
    intro prev hs hnb hr hp x hx
    have hs' : Sorted rest := (List.pairwise_cons.mp hs).2
    have hx0 := (List.pairwise_cons.mp hs).1
    have hT := hr.2 tr (List.mem_cons_self ..)
    have ha := hr.1 tr.idx
    have hr' : InRange z rest := ⟨hr.1, fun x hx' => hr.2 x (List.mem_cons_of_mem _ hx')⟩
    by_cases c : ℓ ≤ tr.time + max prev.off (typeAt z tr.idx).off
    · rw [loop_cons z tr rest prev ℓ hT hp ha, if_pos c] at hx
      rcases window_earliest prev (typeAt z tr.idx) tr.time ℓ c hnb.1 x hx with ⟨e, hlt⟩ | ⟨e, heq⟩
      · have c0 : ¬ tr.time ≤ ℓ - x.off := by omega
        simp only [stepOff, c0, if_false]; exact e.symm
      · have c1 : tr.time ≤ ℓ - x.off := by omega
        simp only [stepOff, c1, if_true]
        rw [stepOff_lt z _ rest _ (fun tr' h' => by have := hx0 tr' h'; omega)]; exact e.symm
    · rw [loop_cons z tr rest prev ℓ hT hp ha, if_neg c] at hx
      have h1 := ih (typeAt z tr.idx) hs' hnb.2 hr' ha x hx
      by_cases ct : tr.time ≤ ℓ - x.off
      · simp only [stepOff, ct, if_true]; exact h1
      · exfalso
        rw [stepOff_lt z _ rest _ (fun tr' h' => by have := hx0 tr' h'; omega)] at h1
        omega

end Chrono.Proofs.TzL
