/-
  C10, gap G1: the slice-recording copy of the strict RFC 3339 scanner (Model/Rfc3339Slices.lean)
  (1) computes exactly the model's results and (2) on a well-formed UTF-8 input records only slices
  taken at char boundaries of well-formed strings — in every run, failing ones included.
  Built on C15's byte-level library (Proofs/Utf8L.lean, Proofs/ScanBoundaryL.lean).
  Namespace `Chrono.Proofs.Rfc3339Slices`.
-/
import Chrono.Model.Rfc3339Slices
import Chrono.Proofs.ScanBoundaryL

namespace Chrono.Proofs.Rfc3339Slices
open Chrono Chrono.M Chrono.M.Scan Chrono.M.Parse Chrono.M.Tz Chrono.Spec.Utf8 Chrono.Proofs.Utf8
open Chrono.M.Rfc3339Slices

/-! ### (1) the recording changes nothing -/

theorem bindT_fst {α β : Type} (x : T α) (f : α → T β) :
    (bindT x f).1 = x.1 >>= fun a => (f a).1 := by
  unfold bindT
  cases h : x.1 <;> rfl

theorem ok_bind {α β : Type} (a : α) (f : α → PRes β) : ((Except.ok a : PRes α) >>= f) = f a := rfl

theorem numberT_fst (s : List Nat) (min : Nat) (max : Option Nat) : (numberT s min max).1 = number s min max := by
  unfold numberT
  cases h : number s min max with
  | error e => rfl
  | ok a => obtain ⟨r, v⟩ := a; rfl

theorem charT_fst (s : List Nat) (c : Nat) : (charT s c).1 = Scan.char s c := by
  unfold charT Scan.char
  cases s with
  | nil => rfl
  | cons b t => dsimp only; split <;> rfl

theorem nanosecondT_fst (s : List Nat) : (nanosecondT s).1 = nanosecond s := by
  unfold nanosecondT nanosecond
  rw [bindT_fst, numberT_fst]
  cases h : number s 1 (some 9) with
  | error e => rfl
  | ok a =>
    obtain ⟨r, v⟩ := a
    show (if v * SCALE.getD (s.length - r.length) 0 > I64_MAX then _ else _ : T (List Nat × Int)).1 = _
    dsimp only
    split <;> rfl

theorem tzSignT_fst (s : List Nat) (ms : Bool) : (tzSignT s ms).1 = tzSign s ms := by
  unfold tzSignT
  cases h : tzSign s ms with
  | error e => rfl
  | ok a => obtain ⟨r, v⟩ := a; rfl

theorem tzRestT_fst (s : List Nat) : (tzRestT s).1 = ScanBoundary.tzRest s := by
  unfold tzRestT ScanBoundary.tzRest
  split
  · rfl
  · split <;> rfl

theorem consumeColonT_fst (cm : ColonMode) (s : List Nat) : (consumeColonT cm s).1 = consumeColon cm s := by
  cases cm
  · exact charT_fst s 58
  · rfl
  · rfl

theorem timezone_offsetT_fst (s : List Nat) (cm : ColonMode) (z mm ms : Bool) :
    (timezone_offsetT s cm z mm ms).1 = timezone_offset s cm z mm ms := by
  rw [ScanBoundary.timezone_offset_eq]
  unfold timezone_offsetT
  cases tzZulu s z with
  | some r => rfl
  | none =>
    simp only [bindT_fst, tzSignT_fst]
    cases tzSign s ms with
    | error e => rfl
    | ok a =>
      obtain ⟨s1, neg⟩ := a
      rw [ok_bind]
      match s1 with
      | [] => rfl
      | [_] => rfl
      | h1 :: h2 :: s2 =>
        dsimp only
        split
        · simp only [bindT_fst, consumeColonT_fst, tzRestT_fst, sliced, lift, ok_bind]
          cases consumeColon cm s2 with
          | error e => rfl
          | ok s3 =>
            simp only [ok_bind]
            cases tzMins s3 mm <;> cases ScanBoundary.tzRest s3 <;> rfl
        · rfl

theorem setFieldT_fst (set : Parsed → Int → PRes Parsed) (p : Parsed) (r : T (List Nat × Int)) :
    (setFieldT set p r).1 = setField set p r.1 := by
  unfold setFieldT setField
  rw [bindT_fst]
  cases r.1 with
  | error e => rfl
  | ok a => obtain ⟨s', v⟩ := a; rfl

theorem sepT_fst (s : List Nat) :
    (sepT s).1 = (match s with
      | c :: rest => if c = 116 ∨ c = 84 ∨ c = 32 then .ok rest else .error PErr.invalid
      | [] => .error PErr.tooShort : PRes (List Nat)) := by
  unfold sepT
  cases s with
  | nil => rfl
  | cons b t => dsimp only; split <;> rfl

theorem dotNanoT_fst (p : Parsed) (s : List Nat) :
    (dotNanoT p s).1 = (match s with
      | 46 :: rest => setNano p (nanosecond rest)
      | _ => .ok (p, s) : PRes (Parsed × List Nat)) := by
  have key : ∀ rest, (bindT (sliced (46 :: rest) rest rest) fun rest =>
        bindT (nanosecondT rest) fun (s', v) =>
        lift (match Parsed.set_nanosecond p v with
          | .ok p' => .ok (p', s')
          | .error e => .error e) : T (Parsed × List Nat)).1 = setNano p (nanosecond rest) := by
    intro rest
    rw [bindT_fst]
    show (bindT (nanosecondT rest) _).1 = _
    rw [bindT_fst, nanosecondT_fst]
    unfold setNano
    cases nanosecond rest with
    | error e => rfl
    | ok a => obtain ⟨s', v⟩ := a; rfl
  unfold dotNanoT
  split
  · rename_i rest
    exact key rest
  · rename_i hne
    split
    · rename_i rest; exact absurd rfl (hne rest)
    · rfl

/-- the recording copy of `parse_rfc3339` returns what `parse_rfc3339` returns -/
theorem parse_rfc3339T_fst (p : Parsed) (s : List Nat) : (parse_rfc3339T p s).1 = parse_rfc3339 p s := by
  unfold parse_rfc3339T parse_rfc3339
  -- stage by stage, under the binders of the two `do` blocks
  simp only [bindT_fst, setFieldT_fst, numberT_fst, charT_fst, sepT_fst, dotNanoT_fst, timezone_offsetT_fst,
    apply_ite Prod.fst]
  rfl

/-! ### (2) every recorded slice is at a char boundary -/

/-- the slice was taken of a `&str` and what it skipped is whole characters -/
def GoodSlice (e : Slice) : Prop := validUtf8 e.src = true ∧ BoundarySuffix e.src e.rest

/-- in Rust's terms: the slice is `&src[k..]` of a `&str` with `k ≤ src.len()` at a char boundary, and yields a `&str` -/
theorem GoodSlice.boundary {e : Slice} (h : GoodSlice e) :
    validUtf8 e.src = true ∧ e.k ≤ e.src.length ∧ e.rest = e.src.drop e.k ∧
    isCharBoundary e.src e.k = true ∧ validUtf8 e.rest = true :=
  ⟨h.1, bs_boundary h.1 h.2⟩

/-- every slice recorded is good, and the string handed on after a success is a `&str` -/
def GoodT {α : Type} (x : T α) (str : α → List Nat) : Prop :=
  (∀ e ∈ x.2, GoodSlice e) ∧ ∀ a, x.1 = .ok a → validUtf8 (str a) = true

theorem good_bindT {α β : Type} (x : T α) (f : α → T β) (sa : α → List Nat) (sb : β → List Nat)
    (hx : GoodT x sa) (hf : ∀ a, x.1 = .ok a → GoodT (f a) sb) : GoodT (bindT x f) sb := by
  unfold bindT
  cases h : x.1 with
  | error e => exact ⟨hx.1, fun a ha => by cases ha⟩
  | ok a =>
    obtain ⟨g1, g2⟩ := hf a h
    refine ⟨?_, g2⟩
    intro e he
    rcases List.mem_append.mp he with he | he
    · exact hx.1 e he
    · exact g1 e he

/-- `good_bindT`, the continuation being told that the string it is handed is a `&str` -/
theorem good_then {α β : Type} {x : T α} {f : α → T β} {sa : α → List Nat} {sb : β → List Nat} (hx : GoodT x sa)
    (hf : ∀ a, validUtf8 (sa a) = true → GoodT (f a) sb) : GoodT (bindT x f) sb :=
  good_bindT x f sa sb hx fun a ha => hf a (hx.2 a ha)

theorem good_fail {α : Type} (e : PErr) (str : α → List Nat) : GoodT (fail e : T α) str := by
  constructor
  · intro x hx; cases hx
  · intro a ha; cases ha

theorem good_ret {α : Type} (a : α) (str : α → List Nat) (h : validUtf8 (str a) = true) : GoodT (ret a) str := by
  constructor
  · intro x hx; cases hx
  · intro b hb; injection hb with hb; rw [← hb]; exact h

theorem good_lift {α : Type} (r : PRes α) (str : α → List Nat) (h : ∀ a, r = .ok a → validUtf8 (str a) = true) :
    GoodT (lift r) str := by
  constructor
  · intro x hx; cases hx
  · exact h

theorem good_sliced {α : Type} (src rest : List Nat) (a : α) (str : α → List Nat) (hv : validUtf8 src = true)
    (hb : BoundarySuffix src rest) (hs : str a = rest) : GoodT (sliced src rest a) str := by
  refine ⟨?_, ?_⟩
  · intro e he
    have : e = ⟨src, rest⟩ := by simpa [sliced] using he
    rw [this]; exact ⟨hv, hb⟩
  · intro b hb'
    injection hb' with hb'
    rw [← hb', hs]; exact bs_valid_rest hv hb

theorem numberT_good (s : List Nat) (min : Nat) (max : Option Nat) (hv : validUtf8 s = true)
    (hmm : ∀ m, max = some m → min ≤ m) : GoodT (numberT s min max) (·.1) := by
  unfold numberT
  cases h : number s min max with
  | error e => exact good_fail e _
  | ok a =>
    obtain ⟨r, v⟩ := a
    exact good_sliced s r _ _ hv (ScanBoundary.number_bs s min max r v hmm h) rfl

theorem charT_good (s : List Nat) (c : Nat) (hc : c < 128) (hv : validUtf8 s = true) : GoodT (charT s c) id := by
  unfold charT
  cases s with
  | nil => exact good_fail _ _
  | cons b t =>
    dsimp only
    split
    · rename_i hb
      exact good_sliced _ _ _ _ hv (bs_cons b t (by omega)) rfl
    · exact good_fail _ _

theorem nanosecondT_good (s : List Nat) (hv : validUtf8 s = true) : GoodT (nanosecondT s) (·.1) := by
  unfold nanosecondT
  refine good_then (numberT_good s 1 (some 9) hv (by intro m hm; injection hm with hm; omega)) fun ⟨r, v⟩ hr => ?_
  dsimp only at hr ⊢
  split
  · exact good_fail _ _
  · exact good_sliced _ _ _ _ hr (ScanBoundary.dropDigits_bs r) rfl

theorem tzSignT_good (s : List Nat) (ms : Bool) (hv : validUtf8 s = true) : GoodT (tzSignT s ms) (·.1) := by
  unfold tzSignT
  cases h : tzSign s ms with
  | error e => exact good_fail e _
  | ok a =>
    obtain ⟨r, neg⟩ := a
    exact good_sliced s r _ _ hv (ScanBoundary.tzSign_bs s ms r neg h) rfl

theorem consumeColonT_good (cm : ColonMode) (s : List Nat) (hv : validUtf8 s = true) :
    GoodT (consumeColonT cm s) id := by
  cases cm
  · exact charT_good s 58 (by omega) hv
  · exact good_sliced _ _ _ _ hv (ScanBoundary.colon_or_space_bs s) rfl
  · exact good_ret _ _ hv

/-- after the minute digits have been matched, `&s[2..]` skips two ASCII bytes -/
theorem tzRestT_good (s : List Nat) (mm : Bool) (v : Int) (hv : validUtf8 s = true) (hm : tzMins s mm = .ok v) :
    GoodT (tzRestT s) id := by
  unfold tzRestT
  split
  · rename_i hl
    match s, hl, hm, hv with
    | m1 :: m2 :: t, _, hm, hv =>
      unfold tzMins at hm
      simp only at hm
      split at hm
      · rename_i hd
        have := Rfc2822.digit_of_isDigit hd.2.2
        exact good_sliced _ _ _ _ hv
          (bs_ascii [m1, m2] t (by intro b hb; simp at hb; rcases hb with rfl | rfl <;> omega)) rfl
      · split at hm <;> cases hm
  · split
    · exact good_ret _ _ hv
    · exact good_fail _ _

/-- `scan::timezone_offset`, every colon mode and flag combination, every run -/
theorem timezone_offsetT_good (s : List Nat) (cm : ColonMode) (z mm ms : Bool) (hv : validUtf8 s = true) :
    GoodT (timezone_offsetT s cm z mm ms) (·.1) := by
  unfold timezone_offsetT
  cases hz : tzZulu s z with
  | some r => exact good_sliced _ _ _ _ hv (ScanBoundary.tzZulu_bs s z r hz) rfl
  | none =>
    dsimp only
    refine good_then (tzSignT_good s ms hv) fun ⟨s1, neg⟩ hv1 => ?_
    dsimp only at hv1 ⊢
    match s1, hv1 with
    | [], _ => exact good_fail _ _
    | [_], _ => exact good_fail _ _
    | h1 :: h2 :: s2, hv1 =>
      dsimp only
      cases hd : (Scan.isDigit h1 && Scan.isDigit h2) with
      | false => exact good_fail _ _
      | true =>
        simp only [if_true]
        simp only [Bool.and_eq_true] at hd
        have d1 := Rfc2822.digit_of_isDigit hd.1
        have d2 := Rfc2822.digit_of_isDigit hd.2
        have b2 : BoundarySuffix (h1 :: h2 :: s2) s2 :=
          bs_ascii [h1, h2] s2 (by intro b hb; simp at hb; rcases hb with rfl | rfl <;> omega)
        refine good_then (sa := id) (good_sliced _ _ _ _ hv1 b2 rfl) fun s2' hv2 => ?_
        refine good_then (consumeColonT_good cm s2' hv2) fun s3 hv3 => ?_
        refine good_bindT _ _ (fun _ => s3) _ (good_lift _ _ (fun _ _ => hv3)) fun minutes hmin => ?_
        refine good_then (tzRestT_good s3 mm minutes hv3 hmin) fun s4 hv4 => ?_
        exact good_ret _ _ hv4

theorem setFieldT_good (set : Parsed → Int → PRes Parsed) (p : Parsed) (r : T (List Nat × Int))
    (h : GoodT r (·.1)) : GoodT (setFieldT set p r) (·.2) := by
  unfold setFieldT
  refine good_then h fun ⟨s', v⟩ hv => good_lift _ _ fun a hm => ?_
  cases hs : set p v with
  | error e => rw [hs] at hm; cases hm
  | ok p' => rw [hs] at hm; injection hm with hm; rw [← hm]; exact hv

theorem sepT_good (s : List Nat) (hv : validUtf8 s = true) : GoodT (sepT s) id := by
  unfold sepT
  cases s with
  | nil => exact good_fail _ _
  | cons b t =>
    dsimp only
    split
    · rename_i hb
      exact good_sliced _ _ _ _ hv (bs_cons b t (by omega)) rfl
    · exact good_fail _ _

theorem dotNanoT_good (p : Parsed) (s : List Nat) (hv : validUtf8 s = true) : GoodT (dotNanoT p s) (·.2) := by
  unfold dotNanoT
  split
  · rename_i rest
    refine good_then (sa := id) (good_sliced _ _ _ _ hv (bs_cons 46 rest (by omega)) rfl) fun r hr => ?_
    refine good_then (nanosecondT_good r hr) fun ⟨s', v⟩ hv' => good_lift _ _ fun a hm => ?_
    cases hs : Parsed.set_nanosecond p v with
    | error e => rw [hs] at hm; cases hm
    | ok p' => rw [hs] at hm; injection hm with hm; rw [← hm]; exact hv'
  · exact good_ret _ _ hv

theorem two (m : Nat) (h : some 2 = some m) : 2 ≤ m := by injection h with h; omega
theorem four (m : Nat) (h : some 4 = some m) : 4 ≤ m := by injection h with h; omega

/-- **every run of the strict scanner on a `&str`**: all slices good, the remainder a `&str` -/
theorem parse_rfc3339T_good (p : Parsed) (s : List Nat) (hv : validUtf8 s = true) :
    GoodT (parse_rfc3339T p s) (·.2) := by
  unfold parse_rfc3339T
  have fld : ∀ (set : Parsed → Int → PRes Parsed) (p : Parsed) (s : List Nat) (k : Nat), validUtf8 s = true →
      GoodT (setFieldT set p (numberT s k (some k))) (·.2) := fun set p s k hv =>
    setFieldT_good set p _ (numberT_good s k (some k) hv (by intro m hm; injection hm with hm; omega))
  refine good_then (fld _ p s 4 hv) fun ⟨p1, s1⟩ v1 => ?_
  refine good_then (charT_good s1 45 (by omega) v1) fun s2 v2 => ?_
  refine good_then (fld _ p1 s2 2 v2) fun ⟨p3, s3⟩ v3 => ?_
  refine good_then (charT_good s3 45 (by omega) v3) fun s4 v4 => ?_
  refine good_then (fld _ p3 s4 2 v4) fun ⟨p5, s5⟩ v5 => ?_
  refine good_then (sepT_good s5 v5) fun s6 v6 => ?_
  refine good_then (fld _ p5 s6 2 v6) fun ⟨p7, s7⟩ v7 => ?_
  refine good_then (charT_good s7 58 (by omega) v7) fun s8 v8 => ?_
  refine good_then (fld _ p7 s8 2 v8) fun ⟨p9, s9⟩ v9 => ?_
  refine good_then (charT_good s9 58 (by omega) v9) fun s10 v10 => ?_
  refine good_then (fld _ p9 s10 2 v10) fun ⟨p11, s11⟩ v11 => ?_
  refine good_then (dotNanoT_good p11 s11 v11) fun ⟨p12, s12⟩ v12 => ?_
  refine good_then (timezone_offsetT_good s12 .charColon true false true v12) fun ⟨s13, off⟩ v13 => ?_
  dsimp only at v13 ⊢
  split
  · exact good_fail _ _
  · exact good_bindT _ _ (fun _ => s13) _ (good_lift _ _ (fun _ _ => v13)) fun p14 _ => good_ret _ _ v13

end Chrono.Proofs.Rfc3339Slices
