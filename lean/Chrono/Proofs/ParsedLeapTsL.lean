/-
  C14: completeness of `to_naive_datetime_with_offset`, `to_datetime` and `to_datetime_with_timezone`
  (fixed zone) THROUGH THE TIMESTAMP, for ordinary and for leap-second readings alike.  A leap
  reading is one whose record carries `second = 60`; its timestamp is the instant of the reading (the
  second :59) or one more (the second after).  The hypotheses `hsec` and `hg` below say exactly this;
  the path itself is `ParsedRes.ts_path_complete` (Proofs/ParsedTsCompleteL.lean).
-/
import Chrono.Proofs.ParsedKindsL
namespace Chrono.Proofs.ParsedLeap
open Chrono Chrono.M Chrono.Spec Chrono.Spec.Fields Chrono.Spec.Ts Chrono.Extracted
open Chrono.Proofs Chrono.Proofs.Ts Chrono.Proofs.ParsedRes Chrono.Proofs.ParsedKinds

/-- a record with a timestamp whose fields are derived from one reading and do not hold a sufficient
date together with a sufficient time combination is resolved by the fall-back path: on derived fields
each component resolver gives a value or NOT_ENOUGH, never the errors that come first -/
theorem dt_falls_back (p : Parsed) (hp : InType p) (off : Int) (Y : Int) (o : Nat) (t : Time)
    (hvd : VD Y o) (ht : TValid t) (hag : DateAgrees p Y o)
    (hdY : GroupDeterminate p.year p.year_div_100 p.year_mod_100 Y)
    (hdI : ∀ w, (dateOfYo Y o).iso_week = .ok w →
      GroupDeterminate p.isoyear p.isoyear_div_100 p.isoyear_mod_100 (IsoWeek.year w))
    (hta : TimeAgreesSupplied p t) (g : Int) (hts : p.timestamp = some g)
    (hfb : ¬ (DateSufficient p ∧ TimeSufficient p)) :
    Parsed.to_naive_datetime_with_offset p off = Parsed.from_timestamp_path p off g := by
  have hd := date_of_derived p hp Y o hvd hag hdY hdI
  have hte := time_err_of_supplied p t ht hta
  have hnb : ¬ ∃ d t', Parsed.to_naive_date p = .ok (.ok d) ∧ Parsed.to_naive_time p = .ok t' := by
    rintro ⟨d, t', h1, h2⟩
    rcases hd with ⟨_, hds⟩ | ⟨h, _⟩
    · exact hfb ⟨hds, (time_sound' p t' h2).2.2.1⟩
    · rw [h] at h1; cases h1
  obtain ⟨rd, hrd, _, _, h3⟩ := dt_with_timestamp' p hp off g hts hnb
  have hde : ∀ e, rd = .error e → e = .notEnough := by
    rintro e rfl
    rcases hd with ⟨h, _⟩ | ⟨h, _⟩
    · rw [h] at hrd; cases hrd
    · rw [h] at hrd; cases hrd; rfl
  exact h3 (fun h => h.elim (fun h => by cases hde _ h) (fun h => by cases (hte _ h).1))
    (fun h => h.elim (fun h => by cases hde _ h) (fun h => by cases (hte _ h).1))

/-- **completeness of `to_naive_datetime_with_offset` through the timestamp**: the record does not
contain a sufficient date combination together with a sufficient time combination (so the resolver
falls back on the timestamp), its timestamp field is that of the local reading `(Y, o, t)` at `off` —
or one more for a record that holds second 60 —, a leap reading is announced by second 60, every
supplied date/time field agrees with the reading, the sub-second part is zero without a nanosecond
field and both year groups are determinate ⇒ exactly that reading -/
theorem dt_complete_ts (p : Parsed) (hp : InType p) (off : Int) (Y : Int) (o : Nat) (t : Time)
    (hvd : VD Y o) (ht : TValid t) (hsec : p.second = some 60 ∨ t.frac < 1000000000)
    (hag : DateAgrees p Y o)
    (hdY : GroupDeterminate p.year p.year_div_100 p.year_mod_100 Y)
    (hdI : ∀ w, (dateOfYo Y o).iso_week = .ok w →
      GroupDeterminate p.isoyear p.isoyear_div_100 p.isoyear_mod_100 (IsoWeek.year w))
    (hta : TimeAgreesSupplied p t) (hnano : p.nanosecond = none → t.frac % 1000000000 = 0)
    (g : Int) (hts : p.timestamp = some g)
    (hg : g = timestampIs.instSecsLocal ⟨dateOfYo Y o, t⟩ - off ∨
      (p.second = some 60 ∧ g = timestampIs.instSecsLocal ⟨dateOfYo Y o, t⟩ - off + 1 ∧ g + off ≤ TS_MAX))
    (hfb : ¬ (DateSufficient p ∧ TimeSufficient p)) :
    Parsed.to_naive_datetime_with_offset p off = .ok (.ok ⟨dateOfYo Y o, t⟩) := by
  rw [dt_falls_back p hp off Y o t hvd ht hag hdY hdI hta g hts hfb]
  exact ts_path_complete p hp off Y o t hvd ht hsec hag hdI hta hnano g hg

/-- **completeness of `to_datetime` through the timestamp**: `z` is a well-formed zone-aware value
with wall clock `(Y, o, t)`, the timestamp field is the instant of `z` (or one more, second 60), the
offset field is `z`'s offset (or absent, `z` at UTC), the other fields as in `dt_complete_ts` ⇒ `z` -/
theorem to_datetime_complete_ts (p : Parsed) (hp : InType p) (z : Zoned) (hz : ZInv z)
    (Y : Int) (o : Nat) (t : Time) (hvd : VD Y o) (ht : TValid t)
    (hsec : p.second = some 60 ∨ t.frac < 1000000000)
    (hl : Zoned.naive_local z = .ok ⟨dateOfYo Y o, t⟩)
    (hag : DateAgrees p Y o)
    (hdY : GroupDeterminate p.year p.year_div_100 p.year_mod_100 Y)
    (hdI : ∀ w, (dateOfYo Y o).iso_week = .ok w →
      GroupDeterminate p.isoyear p.isoyear_div_100 p.isoyear_mod_100 (IsoWeek.year w))
    (hta : TimeAgreesSupplied p t) (hnano : p.nanosecond = none → t.frac % 1000000000 = 0)
    (g : Int) (hts : p.timestamp = some g)
    (hg : g = instSecs z.utc ∨ (p.second = some 60 ∧ g = instSecs z.utc + 1 ∧ g + z.off ≤ TS_MAX))
    (hoff : p.offset = some z.off ∨ (p.offset = none ∧ z.off = 0))
    (hfb : ¬ (DateSufficient p ∧ TimeSufficient p)) :
    Parsed.to_datetime p = .ok (.ok z) := by
  obtain ⟨hfl, hst, _⟩ := zoned_stamp z hz Y o t hvd ht hl
  exact to_datetime_of_naive p z hz _ hfl
    (dt_complete_ts p hp z.off Y o t hvd ht hsec hag hdY hdI hta hnano g hts (by rw [← hst]; exact hg) hfb)
    (hoff.imp_right fun h => ⟨h.1, by rw [hts]; exact Option.some_ne_none g, h.2⟩)

/-- **completeness of `to_datetime_with_timezone` for the fixed zone `z.off` through the timestamp**:
as `to_datetime_complete_ts`; an offset field, if supplied, is the zone's offset, and the `+1`
timestamp must be representable as an instant too (the zone's offset is guessed from it first) -/
theorem to_datetime_tz_complete_ts (p : Parsed) (hp : InType p) (z : Zoned) (hz : ZInv z)
    (Y : Int) (o : Nat) (t : Time) (hvd : VD Y o) (ht : TValid t)
    (hsec : p.second = some 60 ∨ t.frac < 1000000000)
    (hl : Zoned.naive_local z = .ok ⟨dateOfYo Y o, t⟩)
    (hag : DateAgrees p Y o)
    (hdY : GroupDeterminate p.year p.year_div_100 p.year_mod_100 Y)
    (hdI : ∀ w, (dateOfYo Y o).iso_week = .ok w →
      GroupDeterminate p.isoyear p.isoyear_div_100 p.isoyear_mod_100 (IsoWeek.year w))
    (hta : TimeAgreesSupplied p t) (hnano : p.nanosecond = none → t.frac % 1000000000 = 0)
    (g : Int) (hts : p.timestamp = some g)
    (hg : g = instSecs z.utc ∨
      (p.second = some 60 ∧ g = instSecs z.utc + 1 ∧ g + z.off ≤ TS_MAX ∧ g ≤ TS_MAX))
    (hoff : ∀ x, p.offset = some x → x = z.off)
    (hfb : ¬ (DateSufficient p ∧ TimeSufficient p)) :
    Parsed.to_datetime_with_timezone p z.off = .ok (.ok z) := by
  obtain ⟨hfl, hst, hfr⟩ := zoned_stamp z hz Y o t hvd ht hl
  have hn := dt_complete_ts p hp z.off Y o t hvd ht hsec hag hdY hdI hta hnano g hts
    (by rw [← hst]; exact hg.imp_right fun h => ⟨h.1, h.2.1, h.2.2.1⟩) hfb
  -- the nanosecond field is a valid sub-second part, so the timestamp denotes an instant
  have hnv : 0 ≤ p.nanosecond.getD 0 ∧ p.nanosecond.getD 0 < 1000000000 := by
    cases hnn : p.nanosecond with
    | none => exact ⟨Int.le_refl 0, by decide⟩
    | some n =>
      have := hta.2.2.2.2 n hnn
      rw [Option.getD_some]; omega
  have hrange := Ts.instSecs_range z.utc hz.1
  have hgr : TS_MIN ≤ g ∧ g ≤ TS_MAX := by
    rcases hg with h | ⟨_, h1, _, h3⟩
    · rw [h]; exact hrange
    · exact ⟨by omega, h3⟩
  obtain ⟨u, hu, _⟩ := from_ts_some g (p.nanosecond.getD 0) hgr hnv
  simp only [Parsed.to_datetime_with_timezone, hts, hu, okOr_some, bind_okok, hn, hfl]
  cases hpo : p.offset with
  | none => rfl
  | some x => simp [hoff x hpo]

end Chrono.Proofs.ParsedLeap
