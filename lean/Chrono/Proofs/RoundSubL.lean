/- C17, sub-second part: the specified `(field, carried seconds)` pair of `SubsecRound` on the line of the
current second.  The one fact about the digit count that matters is that its span divides one second:
both ends of the current second are then multiples, so truncating and rounding stay between them. -/
import Chrono.Proofs.RoundCorL

namespace Chrono.Proofs.RoundL
open Chrono Chrono.M Chrono.M.Round Chrono.Spec Chrono.Spec.Round Chrono.Extracted.Round

theorem leapBase_cases (frac : Int) (h0 : 0 ≤ frac) (h1 : frac < 2000000000) :
    (leapBase frac = 0 ∧ frac < 1000000000) ∨ (leapBase frac = 1000000000 ∧ 1000000000 ≤ frac) := by
  unfold leapBase; split <;> omega

/-- the move `d` lands at field `f` with `c` seconds carried: inside the current second (leap fraction
kept), or exactly on its end, which is field 0 of the next second -/
def Lands (frac d f c : Int) : Prop :=
  (c = 0 ∧ f = frac + d ∧ leapBase frac ≤ f ∧ f < leapBase frac + 1000000000) ∨
  (c = 1 ∧ f = 0 ∧ frac + d = leapBase frac + 1000000000)

theorem apply_within_of_lands {frac d f c : Int} (h : Lands frac d f c) : apply_within frac d = (f, c) := by
  show (if frac + d ≥ leapBase frac + 1000000000 then (frac + d - (leapBase frac + 1000000000), 1)
    else (frac + d, 0)) = _
  rcases h with ⟨hc, hf, _, h3⟩ | ⟨hc, hf, h2⟩
  · rw [if_neg (by omega), hc, hf]
  · rw [if_pos (by omega), hc, hf, h2, Int.sub_self]

theorem lands_zero (frac f c : Int) (h1 : frac < 2000000000) (h : Lands frac 0 f c) : c = 0 ∧ f = frac := by
  unfold Lands leapBase at h
  rcases h with h | h
  · exact ⟨h.1, by omega⟩
  · exfalso; have := h.2.2; split at this <;> omega

/-- `fieldOf` of a point `v` of the current second, its end included, is where the move to `v` lands -/
theorem fieldOf_lands (frac v : Int) (h0 : leapBase frac ≤ v) (h1 : v ≤ leapBase frac + 1000000000) :
    Lands frac (v - frac) (fieldOf (leapBase frac) v).1 (fieldOf (leapBase frac) v).2 := by
  unfold fieldOf
  by_cases hv : v = leapBase frac + 1000000000
  · rw [if_pos hv]; exact Or.inr ⟨rfl, rfl, by omega⟩
  · rw [if_neg hv]; exact Or.inl ⟨rfl, by omega, h0, by omega⟩

/-- both ends of the current second are multiples of a span that divides one second, so the specified
results lie between them -/
theorem spec_within_second (frac K : Int) (hp : 0 < K) (hK : K ∣ 1000000000) (h0 : 0 ≤ frac)
    (h1 : frac < 2000000000) :
    leapBase frac ≤ truncSpec frac K ∧ truncSpec frac K ≤ roundSpec frac K ∧
    roundSpec frac K ≤ leapBase frac + 1000000000 := by
  have hb := leapBase_cases frac h0 h1
  have hlo : K ∣ leapBase frac := by
    rcases hb with ⟨e, _⟩ | ⟨e, _⟩ <;> rw [e]
    · exact Int.dvd_zero K
    · exact hK
  obtain ⟨o1, o2, _⟩ := spec_order frac K hp
  exact ⟨dvd_le_truncSpec frac K _ hp hlo (by omega), o1,
    Int.le_trans o2 (upSpec_le_dvd frac K _ hp (Int.dvd_add hlo hK) (by omega))⟩

/-- the specified move leads to the specified pair -/
theorem subsec_move_lands (round : Bool) (frac : Int) (digits : Nat) (h0 : 0 ≤ frac) (h1 : frac < 2000000000) :
    Lands frac (subsecMove round frac digits) (subsecSpec round frac digits).1
      (subsecSpec round frac digits).2 := by
  obtain ⟨w1, w2, w3⟩ := spec_within_second frac _ (digitSpan_pos digits) (digitSpan_dvd digits) h0 h1
  cases round
  · exact fieldOf_lands frac (truncSpec frac (digitSpan digits)) w1 (by omega)
  · exact fieldOf_lands frac (roundSpec frac (digitSpan digits)) (by omega) w3

theorem subsecMove_eq (round : Bool) (frac : Int) (digits : Nat) :
    subsecMove round frac digits =
      specOf (if round then .round else .trunc) frac (digitSpan digits) - frac := by
  cases round <;> rfl

theorem subsecMove_bounds (round : Bool) (frac : Int) (digits : Nat) :
    -1000000000 < subsecMove round frac digits ∧ subsecMove round frac digits < 1000000000 := by
  have hle := Int.le_of_dvd (by decide) (digitSpan_dvd digits)
  have := spec_bounds (if round then .round else .trunc) frac _ (digitSpan_pos digits)
  rw [subsecMove_eq]
  omega

end Chrono.Proofs.RoundL
