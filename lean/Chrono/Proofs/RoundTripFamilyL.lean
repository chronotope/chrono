/-
  C13, fifth lemma file: from "every supplied field is the value's field" and "the set fields are the
  carried ones" to the hypotheses of C14's completeness theorems, and the round trip per target type.
  Namespace `Chrono.Proofs.RoundTrip`.
-/
import Chrono.Proofs.RoundTripFieldsL
import Chrono.Props.C14

namespace Chrono.Proofs.RoundTrip
open Chrono Chrono.M Chrono.M.Scan Chrono.Spec Chrono.Spec.Fields Chrono.Extracted Chrono.Proofs Chrono.Proofs.ParsedRes

theorem isSome_false_iff {α} (o : Option α) : o.isSome = false ↔ o = none := by cases o <;> simp
theorem isSome_true_iff {α} (o : Option α) : o.isSome = true ↔ o ≠ none := by cases o <;> simp

/-- a field whose presence `Tracks` equates with a flag that is up is set -/
theorem ne_none_of_tracked {α} {o : Option α} {b : Bool} (h : o.isSome = b) (hb : b = true) : o ≠ none :=
  (isSome_true_iff o).mp (h ▸ hb)

/-- a field whose presence `Tracks` equates with a flag that is down is unset: whatever is said of its
content holds -/
theorem unset_vacuous {α} {o : Option α} {b : Bool} (h : o.isSome = b) (hb : b = false) {P : α → Prop} :
    ∀ x, o = some x → P x := by
  intro x hx; rw [hb, hx] at h; cases h

theorem optIn_of_optIs {o : Option Int} {v lo hi : Int} (h : optIs o v) (hv : lo ≤ v ∧ v ≤ hi) : optIn o lo hi :=
  fun x hx => h x hx ▸ hv

/-- the record holds values of the Rust field types (each group of fields against the ranges of its own
part of the value only) -/
theorem inType_of_supplied (p : Parsed) (tr : Truth) (hok : TruthOk tr) (hS : Supplied p tr)
    (hts : -10000000000000 ≤ tr.tsv ∧ tr.tsv ≤ 10000000000000) : InType p := by
  have year : optIn p.year (-2147483648) 2147483647 ∧ optIn p.year_div_100 (-2147483648) 2147483647 ∧
      optIn p.year_mod_100 (-2147483648) 2147483647 := by
    obtain ⟨hY1, hY2, _⟩ := hok.vd
    have hMIN : MIN_YEAR = -262143 := rfl
    have hMAX : MAX_YEAR = 262142 := rfl
    exact ⟨optIn_of_optIs hS.year (by omega), fun x h => by have := hS.year_div x h; omega,
      fun x h => by have := hS.year_mod x h; omega⟩
  have iso : optIn p.isoyear (-2147483648) 2147483647 ∧ optIn p.isoyear_div_100 (-2147483648) 2147483647 ∧
      optIn p.isoyear_mod_100 (-2147483648) 2147483647 ∧ optIn p.isoweek 0 4294967295 := by
    have := hok.iy; have := hok.iw
    exact ⟨optIn_of_optIs hS.isoyear (by omega), fun x h => by have := hS.isoyear_div x h; omega,
      fun x h => by have := hS.isoyear_mod x h; omega, optIn_of_optIs hS.isoweek (by omega)⟩
  have date : optIn p.quarter 0 4294967295 ∧ optIn p.month 0 4294967295 ∧ optIn p.week_from_sun 0 4294967295 ∧
      optIn p.week_from_mon 0 4294967295 ∧ optIn p.ordinal 0 4294967295 ∧ optIn p.day 0 4294967295 := by
    obtain ⟨_, _, _, o366, _, _, _, _, m1, m2, d1, d2, _, _, ws1, ws2, wm1, wm2, _⟩ := date_facts tr.Y tr.o hok.vd
    exact ⟨optIn_of_optIs hS.quarter (by unfold quarterOfMonth; omega), optIn_of_optIs hS.month (by omega),
      optIn_of_optIs hS.week_from_sun (by omega), optIn_of_optIs hS.week_from_mon (by omega),
      optIn_of_optIs hS.ordinal (by omega), optIn_of_optIs hS.day (by omega)⟩
  have time : optIn p.hour_div_12 0 4294967295 ∧ optIn p.hour_mod_12 0 4294967295 ∧
      optIn p.minute 0 4294967295 ∧ optIn p.second 0 4294967295 := by
    obtain ⟨t1, t2, t3, t4⟩ := hok.t
    exact ⟨optIn_of_optIs hS.hour_div (by unfold hourOf; omega), optIn_of_optIs hS.hour_mod (by unfold hourOf; omega),
      optIn_of_optIs hS.minute (by unfold minuteOf; omega), optIn_of_optIs hS.second (by unfold secondOf; omega)⟩
  have := hok.nv; have := hok.off
  exact ⟨year.1, year.2.1, year.2.2, iso.1, iso.2.1, iso.2.2.1, date.1, date.2.1, date.2.2.1, date.2.2.2.1, iso.2.2.2,
    date.2.2.2.2.1, date.2.2.2.2.2, time.1, time.2.1, time.2.2.1, time.2.2.2,
    optIn_of_optIs hS.nano (by omega), optIn_of_optIs hS.timestamp (by omega), optIn_of_optIs hS.offset (by omega)⟩

theorem dateAgrees_of_supplied (p : Parsed) (tr : Truth) (hok : TruthOk tr) (hS : Supplied p tr) :
    DateAgrees p tr.Y tr.o := by
  obtain ⟨w, hw, hy, hk⟩ := hok.iso
  refine ⟨hS.year, ⟨hS.year_div, hS.year_mod⟩, hS.quarter, hS.month, hS.week_from_sun, hS.week_from_mon,
    fun x h => ?_, hS.ordinal, hS.day, w, hw, ?_, ⟨?_, ?_⟩, ?_⟩
  · rw [hS.weekday x h]; exact hok.wd
  · rw [hy]; exact hS.isoyear
  · rw [hy]; exact hS.isoyear_div
  · rw [hy]; exact hS.isoyear_mod
  · rw [hk]; exact hS.isoweek

/-- a year group is determinate when it is usable and a lone two-digit year lies in the pivot range -/
theorem group_determinate (y q r : Option Int) (by_ bq br : Bool) (yr : Int)
    (hy : y.isSome = by_) (hq : q.isSome = bq) (hr : r.isSome = br)
    (hu : groupUsable by_ bq br = true) (hx : by_ = false → bq = false → br = true → 1970 ≤ yr ∧ yr ≤ 2069) :
    GroupDeterminate y q r yr := by
  refine ⟨?_, fun h1 h2 h3 => hx ?_ ?_ ?_⟩
  · rintro ⟨h1, h2, h3⟩
    subst h1 h3
    have : q.isSome = true := (isSome_true_iff q).mpr h2
    simp only [Option.isSome_none] at hy hr
    rw [← hy, ← hr, ← hq, this] at hu
    simp [groupUsable] at hu
  · rw [← hy]; subst h1; rfl
  · rw [← hq]; subst h2; rfl
  · rw [← hr]; exact (isSome_true_iff r).mpr h3

theorem uses_of_tracks (p : Parsed) (cr : Carries) (nv : Int) (hT : Tracks p cr nv) (hf : fullDate cr = true) :
    UsesCalendar p ∨ UsesIso p := by
  have y := hT.year; have r := hT.year_mod; have m := hT.month; have d := hT.day; have o := hT.ordinal
  have ws := hT.week_from_sun; have wm := hT.week_from_mon; have wd := hT.weekday
  have iy := hT.isoyear; have ir := hT.isoyear_mod; have iw := hT.isoweek
  simp only [fullDate, yearGroup, Bool.or_eq_true, Bool.and_eq_true] at hf
  rcases hf with ⟨hg, hc⟩ | ⟨⟨hg, hw⟩, hwd⟩
  · left
    refine ⟨?_, ?_⟩
    · rcases hg with h | h
      · exact Or.inl (ne_none_of_tracked y h)
      · exact Or.inr (ne_none_of_tracked r h)
    · rcases hc with ((⟨h1, h2⟩ | h) | ⟨h1, h2⟩) | ⟨h1, h2⟩
      · exact Or.inl ⟨ne_none_of_tracked m h1, ne_none_of_tracked d h2⟩
      · exact Or.inr (Or.inl (ne_none_of_tracked o h))
      · exact Or.inr (Or.inr (Or.inl ⟨ne_none_of_tracked ws h1, ne_none_of_tracked wd h2⟩))
      · exact Or.inr (Or.inr (Or.inr ⟨ne_none_of_tracked wm h1, ne_none_of_tracked wd h2⟩))
  · right
    refine ⟨?_, ne_none_of_tracked iw hw, ne_none_of_tracked wd hwd⟩
    rcases hg with h | h
    · exact Or.inl (ne_none_of_tracked iy h)
    · exact Or.inr (ne_none_of_tracked ir h)

theorem cutFrac_bounds (frac : Int) (k : Nat) (h : 0 ≤ frac) :
    0 ≤ cutFrac frac k ∧ cutFrac frac k ≤ frac % 1000000000 := by
  unfold cutFrac
  have hu : (0 : Int) < ((10 ^ (9 - k) : Nat) : Int) := by
    have : 0 < 10 ^ (9 - k) := Nat.pow_pos (by omega)
    exact_mod_cast this
  have hx : 0 ≤ frac % 1000000000 := by omega
  generalize frac % 1000000000 = x at *
  generalize ((10 ^ (9 - k) : Nat) : Int) = u at *
  exact ⟨Int.mul_nonneg (Int.ediv_nonneg hx (by omega)) (by omega), Int.ediv_mul_le x (by omega)⟩

/-- `truncTime`, field by field: without a seconds item the time is cut to the minute, otherwise the
fraction is cut to the printed digits (a leap second keeps its extra second) -/
theorem truncTime_secs (is : List Item) (t : Time) :
    (truncTime is t).secs = (if (carries is).second = false then t.secs / 60 * 60 else t.secs) := by
  by_cases hs : (carries is).second = false <;> simp [truncTime, hs]

theorem truncTime_frac (is : List Item) (t : Time) :
    (truncTime is t).frac = (if (carries is).second = false then 0 else
      (if t.frac ≥ 1000000000 then 1000000000 + cutFrac t.frac (fracDigits is) else cutFrac t.frac (fracDigits is))) := by
  by_cases hs : (carries is).second = false <;> simp [truncTime, hs]

/-- cutting to the printed precision keeps hour and minute -/
theorem truncTime_hm (is : List Item) (t : Time) :
    hourOf (truncTime is t) = hourOf t ∧ minuteOf (truncTime is t) = minuteOf t := by
  unfold hourOf minuteOf
  rw [truncTime_secs]
  split <;> omega

/-- the time the round trip must return is one the public constructors build, agrees with the record
on every field, reads 0 where the record has no field, and the record is sufficient -/
theorem time_of_supplied (is : List Item) (p : Parsed) (tr : Truth) (hok : TruthOk tr) (hS : Supplied p tr)
    (hT : Tracks p (carries is) tr.nv) (hfull : fullTime (carries is) = true)
    (hleap : 1000000000 ≤ tr.t.frac → tr.t.secs % 60 = 59)
    (hnv : tr.nv = (truncTime is tr.t).frac % 1000000000)
    (hnone : (carries is).nano = false → (truncTime is tr.t).frac % 1000000000 = 0) :
    TStrict (truncTime is tr.t) ∧ TimeAgrees p (truncTime is tr.t) ∧ TimeSufficient p := by
  obtain ⟨t1, t2, t3, t4⟩ := hok.t
  obtain ⟨c1, c2⟩ := cutFrac_bounds tr.t.frac (fracDigits is) t3
  have hsecs := truncTime_secs is tr.t
  have hfrac := truncTime_frac is tr.t
  simp only [fullTime, Bool.and_eq_true, Bool.or_eq_true, Bool.not_eq_true'] at hfull
  obtain ⟨⟨hh, hm⟩, hns⟩ := hfull
  obtain ⟨hhour, hmin⟩ := truncTime_hm is tr.t
  refine ⟨?_, ⟨by rw [hhour]; exact hS.hour_div, by rw [hhour]; exact hS.hour_mod, by rw [hmin]; exact hS.minute,
    ⟨?_, ?_⟩, ⟨?_, ?_⟩⟩, ⟨?_, ?_, ?_, ?_⟩⟩
  · unfold TStrict TValid
    rw [hsecs, hfrac]
    by_cases hs : (carries is).second = false
    · simp only [hs, if_true]; omega
    · simp only [hs, if_false]; split <;> omega
  · intro x h
    have hx := hS.second x h
    have hsec : (carries is).second = true := by rw [← hT.second]; simp [h]
    unfold secondOf at hx ⊢
    rw [hsecs, hfrac]
    simp only [hsec, Bool.true_eq_false, if_false]
    by_cases hl : tr.t.frac ≥ 1000000000
    · have := hleap hl
      have e : x = 60 := by omega
      simp only [e, if_true, hl]; omega
    · have e : ¬ x = 60 := by omega
      simp only [e, if_false, hl]; omega
  · intro h
    have hsec : (carries is).second = false := by rw [← hT.second]; simp [h]
    unfold secondOf
    rw [hsecs, hfrac]
    simp only [hsec, if_true]; omega
  · intro x h; rw [hS.nano x h, hnv]
  · intro h
    by_cases hn : (carries is).nano = true
    · rcases hT.nano2 hn with h' | h'
      · simp [h] at h'
      · rw [← hnv]; exact h'
    · exact hnone (by simpa using hn)
  · have := hT.hour_div
    rcases hh with h | ⟨_, h⟩
    · exact ne_none_of_tracked this (by simp [h])
    · exact ne_none_of_tracked this (by simp [h])
  · have := hT.hour_mod
    rcases hh with h | ⟨h, _⟩
    · exact ne_none_of_tracked this (by simp [h])
    · exact ne_none_of_tracked this (by simp [h])
  · exact ne_none_of_tracked hT.minute hm
  · intro h
    have hn : (carries is).nano = true := hT.nano1 ((isSome_true_iff _).mpr h)
    rcases hns with h' | h'
    · rw [hn] at h'; cases h'
    · exact ne_none_of_tracked hT.second h'

/-! ### facts about `Spec.carries` -/

theorem foldl_flag_mono (flag : Carries → Bool)
    (hmono : ∀ cr it, flag cr = true → flag (carriesItem cr it) = true) :
    ∀ (is : List Item) (cr : Carries), flag cr = true → flag (is.foldl carriesItem cr) = true := by
  intro is
  induction is with
  | nil => intro cr h; exact h
  | cons it is ih => intro cr h; exact ih _ (hmono cr it h)

/-- an item that sets a flag makes the flag of the whole list -/
theorem carries_mem (flag : Carries → Bool)
    (hmono : ∀ cr it, flag cr = true → flag (carriesItem cr it) = true)
    (it : Item) (hset : ∀ cr, flag (carriesItem cr it) = true) :
    ∀ (is : List Item) (cr : Carries), it ∈ is → flag (is.foldl carriesItem cr) = true := by
  intro is
  induction is with
  | nil => intro cr h; cases h
  | cons a is ih =>
    intro cr h
    rcases List.mem_cons.mp h with rfl | h
    · exact foldl_flag_mono flag hmono is _ (hset cr)
    · exact ih _ h

/-! every item only sets flags: a flag that is up stays up (`carriesItem` is a record update, so each
case is the hypothesis itself, or `rfl` where the item sets this very flag) -/

theorem mono_nano : ∀ cr it, Carries.nano cr = true → Carries.nano (carriesItem cr it) = true := by
  intro cr it h
  cases it with
  | numeric n p => cases n <;> first | exact h | rfl
  | fixed f => cases f <;> first | exact h | rfl
  | _ => exact h
theorem mono_yearDiv : ∀ cr it, Carries.yearDiv cr = true → Carries.yearDiv (carriesItem cr it) = true := by
  intro cr it h
  cases it with
  | numeric n p => cases n <;> first | exact h | rfl
  | fixed f => cases f <;> exact h
  | _ => exact h
theorem mono_yearMod : ∀ cr it, Carries.yearMod cr = true → Carries.yearMod (carriesItem cr it) = true := by
  intro cr it h
  cases it with
  | numeric n p => cases n <;> first | exact h | rfl
  | fixed f => cases f <;> exact h
  | _ => exact h
theorem mono_isoYearDiv : ∀ cr it, Carries.isoYearDiv cr = true → Carries.isoYearDiv (carriesItem cr it) = true := by
  intro cr it h
  cases it with
  | numeric n p => cases n <;> first | exact h | rfl
  | fixed f => cases f <;> exact h
  | _ => exact h
theorem mono_isoYearMod : ∀ cr it, Carries.isoYearMod cr = true → Carries.isoYearMod (carriesItem cr it) = true := by
  intro cr it h
  cases it with
  | numeric n p => cases n <;> first | exact h | rfl
  | fixed f => cases f <;> exact h
  | _ => exact h

theorem frac_item_sets (cr : Carries) (it : Item) (k : Nat) (h : itemFracDigits it = some k) :
    (carriesItem cr it).nano = true := by
  cases it with
  | numeric n p => cases n <;> simp [itemFracDigits] at h <;> simp [carriesItem]
  | fixed f => cases f <;> simp [itemFracDigits] at h <;> simp [carriesItem]
  | _ => simp [itemFracDigits] at h

theorem fracDigits_zero (is : List Item) (h : (carries is).nano = false) : fracDigits is = 0 := by
  have key : ∀ (is : List Item) (cr : Carries) (acc : Nat), (is.foldl carriesItem cr).nano = false →
      is.foldl (fun acc it => max acc ((itemFracDigits it).getD 0)) acc = acc := by
    intro is
    induction is with
    | nil => intro _ _ _; rfl
    | cons it is ih =>
      intro cr acc h
      simp only [List.foldl_cons] at h ⊢
      have hnot : (carriesItem cr it).nano = false := by
        cases hc : (carriesItem cr it).nano with
        | false => rfl
        | true => rw [foldl_flag_mono Carries.nano mono_nano is _ hc] at h; cases h
      have hz : itemFracDigits it = none := by
        cases hk : itemFracDigits it with
        | none => rfl
        | some k => rw [frac_item_sets cr it k hk] at hnot; cases hnot
      rw [hz]
      simp only [Option.getD_none, Nat.max_zero]
      exact ih _ acc h
  exact key is {} 0 h

/-! ### text to fields, for a value's context -/

/-- **parse ∘ format = the value's own fields**, for the proved items under the syntactic family
predicates -/
theorem fields_of_format (c : Ctx) (hcok : CtxOk c) (tr : Truth) (hc : CtxTruth c tr) (hok : TruthOk tr)
    (is : List Item) (text : List Nat) (hp : ∀ it ∈ is, provedItem it = true) (hexp : ∀ it ∈ is, ItemExpr c it)
    (hx : ∀ it ∈ is, ItemTruth tr it) (hsep : separated is = true) (hsafe : spaceSafe is = true)
    (hy : YearOk c is) (hfmt : Format.formatItemsR c.date c.time c.off is = Format.wok text) :
    ∃ p', Parse.parse Parsed.new text is = .ok p' ∧ Supplied p' tr ∧ Tracks p' (carries is) tr.nv := by
  obtain ⟨tks, htk, hflat⟩ := tokens_exist c hcok is text hp hexp hfmt
  have hchain := chain_of_separated c hcok is tks htk hp hexp hsep hsafe hy
  obtain ⟨p', hp', hS, hT⟩ := chain_fields c tr hc hok is tks Parsed.new {} htk hp hx (supplied_new tr) (tracks_new _)
  have hparse := chain2_parse is tks [] Parsed.new hchain
  rw [List.append_nil, hflat, hp'] at hparse
  refine ⟨p', ?_, hS, hT⟩
  unfold Parse.parse
  rw [hparse]
  rfl

/-! ### the side conditions of the chain, from `Spec.expressible` -/

theorem cutFrac_forms (frac : Int) :
    cutFrac frac 9 = frac % 1000000000 ∧ cutFrac frac 6 = frac / 1000 % 1000000 * 1000 ∧
    cutFrac frac 3 = frac / 1000000 % 1000 * 1000000 ∧ cutFrac frac 0 = 0 := by
  unfold cutFrac
  norm_num
  omega

theorem side_conditions (c : Ctx) (tr : Truth) (hc : CtxTruth c tr) (is : List Item)
    (hY : yearExpressible (carries is).year (carries is).yearDiv (carries is).yearMod
      (yearTouchesDigits .year is) tr.Y)
    (hI : yearExpressible (carries is).isoYear (carries is).isoYearDiv (carries is).isoYearMod
      (yearTouchesDigits .isoYear is) tr.IY)
    (hF : ∀ it ∈ is, onSome (itemFracDigits it) fun k => cutFrac tr.t.frac k = tr.nv) :
    (∀ it ∈ is, ItemExpr c it) ∧ (∀ it ∈ is, ItemTruth tr it) ∧ YearOk c is := by
  obtain ⟨_, y2, y3, y4⟩ := hY
  obtain ⟨_, i2, i3, i4⟩ := hI
  obtain ⟨f9, f6, f3, _⟩ := cutFrac_forms tr.t.frac
  have hyv : ∀ v, numVal c .year = some v → v = tr.Y := fun v h => numVal_truth c tr hc .year v h
  have hiv : ∀ v, numVal c .isoYear = some v → v = tr.IY := fun v h => numVal_truth c tr hc .isoYear v h
  refine ⟨fun it hm => ?_, fun it hm => ?_, ⟨fun ht v hv => ?_, fun ht v hv => ?_⟩⟩
  · cases it with
    | numeric n pad =>
      cases n <;> first
        | trivial
        | (intro v hv
           rw [hyv v hv]
           exact y2 (carries_mem Carries.yearDiv mono_yearDiv _ (fun cr => rfl) is {} hm))
        | (intro v hv
           rw [hiv v hv]
           exact i2 (carries_mem Carries.isoYearDiv mono_isoYearDiv _ (fun cr => rfl) is {} hm))
    | _ => trivial
  · have hfr := hF it hm
    cases it with
    | numeric n pad =>
      cases n <;> first
        | trivial
        | exact (y2 (carries_mem Carries.yearDiv mono_yearDiv _ (fun cr => rfl) is {} hm)).1
        | exact y3 (carries_mem Carries.yearMod mono_yearMod _ (fun cr => rfl) is {} hm)
        | exact (i2 (carries_mem Carries.isoYearDiv mono_isoYearDiv _ (fun cr => rfl) is {} hm)).1
        | exact i3 (carries_mem Carries.isoYearMod mono_isoYearMod _ (fun cr => rfl) is {} hm)
        | (simp only [itemFracDigits, onSome] at hfr; rw [f9] at hfr; exact hfr)
    | fixed f =>
      cases f <;> first
        | trivial
        | (simp only [itemFracDigits, onSome] at hfr; rw [f9] at hfr; exact hfr)
        | (simp only [itemFracDigits, onSome] at hfr; rw [f6] at hfr; exact hfr)
        | (simp only [itemFracDigits, onSome] at hfr; rw [f3] at hfr; exact hfr)
    | _ => trivial
  · rw [hyv v hv]; exact y4 ht
  · rw [hiv v hv]; exact i4 ht

/-- ISO fields, weekday and their ranges for an existing day -/
theorem truth_date (Y : Int) (o : Nat) (h : VD Y o) :
    ∃ (IY IW : Int) (wd : Weekday),
      (∃ w, (dateOfYo Y o).iso_week = .ok w ∧ IsoWeek.year w = IY ∧ IsoWeek.week w = IW) ∧
      (dateOfYo Y o).weekday = wd ∧ ((wd.toNat : Nat) : Int) = weekdayOf (dayNumYo Y o) ∧
      -1000000 < IY ∧ IY < 1000000 ∧ 1 ≤ IW ∧ IW ≤ 53 := by
  obtain ⟨_, _, _, _, _, _, _, _, _, _, _, _, _, _, _, _, _, _, w, hw, w1, w2, w3, w4⟩ := date_facts Y o h
  obtain ⟨_, _, _, _, _, hwd, _⟩ := vd_fields Y o h
  exact ⟨_, _, _, ⟨w, hw, rfl, rfl⟩, rfl, hwd, w3, w4, w1, w2⟩

/-- the leap clause of `Spec.expressible` (`exprLeapFor`) is the plain one for every format with a full
time (a timestamp-only format has no minute item) -/
theorem exprLeap_of_for (is : List Item) (v : ParseFrom.Value) (hft : fullTime (carries is) = true)
    (h : exprLeapFor is v) : exprLeap v := by
  rcases h with h | h
  · exfalso
    generalize carries is = c at h hft
    cases c
    simp only [stampOnly, beq_iff_eq, Carries.mk.injEq] at h
    simp [fullTime, h] at hft
  · exact h

theorem cutFrac_zero (k : Nat) : cutFrac 0 k = 0 := by simp [cutFrac]

theorem tvalid_zero : TValid ⟨0, 0⟩ := by unfold TValid; decide

/-! ### dates -/

/-- **round trip, target `NaiveDate`** (proved items) -/
theorem family_date (is : List Item) (Y : Int) (o : Nat) (hvd : VD Y o) (text : List Nat)
    (hp : ∀ it ∈ is, provedItem it = true) (hU : Unambiguous is .date) (hsafe : spaceSafe is = true)
    (hE : expressible is (.date (dateOfYo Y o)))
    (hfmt : ParseFrom.formatItemsOf (.date (dateOfYo Y o)) is = Format.wok text) :
    ∃ p', Parse.parse Parsed.new text is = .ok p' ∧
      ParseFrom.resolve .date p' = .ok (.ok (.date (dateOfYo Y o))) := by
  obtain ⟨IY, IW, wd, ⟨w, hw, hwy, hwk⟩, hwd, hwdn, iy1, iy2, iw1, iw2⟩ := truth_date Y o hvd
  obtain ⟨fy, _⟩ := date_facts Y o hvd
  let tr : Truth := ⟨Y, o, IY, IW, wd, ⟨0, 0⟩, 0, 0, 0⟩
  let c : Ctx := ⟨some (dateOfYo Y o), none, none⟩
  have hcok : CtxOk c := ⟨fun d h => (by cases h; exact ⟨Y, o, hvd, rfl⟩), fun t h => (by cases h), fun x h => (by cases h)⟩
  have hc : CtxTruth c tr :=
    ⟨fun d h => (by cases h; exact ⟨rfl, hvd, ⟨w, hw, hwy, hwk⟩, hwd⟩), fun t h => (by cases h),
     fun x h => (by cases h), fun v h => (by simp [numVal, c] at h)⟩
  have hok : TruthOk tr :=
    ⟨hvd, ⟨iy1, iy2⟩, ⟨iw1, iw2⟩, tvalid_zero, ⟨by simp [tr], by simp [tr]⟩, ⟨by simp [tr], by simp [tr]⟩, hwdn, ⟨w, hw, hwy, hwk⟩⟩
  obtain ⟨hEy, _, _, _, _⟩ := hE
  simp only [exprYears, shown, onSome, onOk, hw, fy, hwy] at hEy
  obtain ⟨hY, hI⟩ := hEy
  obtain ⟨_, ⟨hsep, _⟩, hg1, hg2, hfull, hnots⟩ := hU
  obtain ⟨hexp, hx, hy⟩ := side_conditions c tr hc is hY hI
    (fun it _ => by cases itemFracDigits it <;> simp [onSome, cutFrac_zero, tr])
  obtain ⟨p', hparse, hS, hT⟩ := fields_of_format c hcok tr hc hok is text hp hexp hx hsep hsafe hy hfmt
  refine ⟨p', hparse, ?_⟩
  have hd := Chrono.Props.C14.date_complete p' (inType_of_supplied p' tr hok hS ⟨by simp [tr], by simp [tr]⟩) Y o hvd
    (dateAgrees_of_supplied p' tr hok hS)
    (group_determinate _ _ _ _ _ _ Y hT.year hT.year_div hT.year_mod hg1 hY.1)
    (fun w' hw' => by
      rw [hw] at hw'; cases hw'
      rw [hwy]
      exact group_determinate _ _ _ _ _ _ IY hT.isoyear hT.isoyear_div hT.isoyear_mod hg2 hI.1)
    (uses_of_tracks p' _ _ hT hfull)
  simp only [ParseFrom.resolve, hd, Parsed.RP.bind]

/-! ### times -/

theorem yearExpressible_1970 (a b c d : Bool) : yearExpressible a b c d 1970 := by
  unfold yearExpressible
  refine ⟨fun _ _ _ => by omega, fun _ => by omega, fun _ => by omega, fun _ => by omega⟩

/-- the fraction the format prints, as the nanosecond field every fraction item must carry -/
theorem frac_conditions (is : List Item) (t : Time) (htv : TValid t) (hfull : fullTime (carries is) = true)
    (hEf : ∀ it ∈ is, onSome (itemFracDigits it) fun k => cutFrac t.frac k = cutFrac t.frac (fracDigits is)) :
    (∀ it ∈ is, onSome (itemFracDigits it) fun k => cutFrac t.frac k = (truncTime is t).frac % 1000000000) ∧
    ((carries is).nano = false → (truncTime is t).frac % 1000000000 = 0) ∧
    0 ≤ (truncTime is t).frac % 1000000000 ∧ (truncTime is t).frac % 1000000000 ≤ 999999999 := by
  obtain ⟨_, _, t3, t4⟩ := htv
  obtain ⟨c1, c2⟩ := cutFrac_bounds t.frac (fracDigits is) t3
  have hfrac := truncTime_frac is t
  have hmod : (carries is).second = true → (truncTime is t).frac % 1000000000 = cutFrac t.frac (fracDigits is) := by
    intro hs
    rw [hfrac]
    simp only [hs, Bool.true_eq_false, if_false]
    split <;> omega
  refine ⟨fun it hm => ?_, fun hn => ?_, by omega, by omega⟩
  · have h := hEf it hm
    cases hk : itemFracDigits it with
    | none => simp [onSome]
    | some k =>
      rw [hk] at h
      simp only [onSome] at h ⊢
      have hnano : (carries is).nano = true :=
        carries_mem Carries.nano mono_nano it (fun cr => frac_item_sets cr it k hk) is {} hm
      have hsec : (carries is).second = true := by
        simp only [fullTime, Bool.and_eq_true, Bool.or_eq_true, Bool.not_eq_true'] at hfull
        rcases hfull.2 with h' | h'
        · rw [hnano] at h'; cases h'
        · exact h'
      rw [hmod hsec]; exact h
  · rw [hfrac]
    have h0 : cutFrac t.frac (fracDigits is) = 0 := by
      rw [fracDigits_zero is hn]; exact (cutFrac_forms t.frac).2.2.2
    split
    · rfl
    · rw [h0]; split <;> omega

/-- **round trip, target `NaiveTime`** (proved items): the result is the time cut to the printed
precision -/
theorem family_time (is : List Item) (t : Time) (htv : TValid t) (text : List Nat)
    (hp : ∀ it ∈ is, provedItem it = true) (hU : Unambiguous is .time) (hsafe : spaceSafe is = true)
    (hE : expressible is (.time t))
    (hfmt : ParseFrom.formatItemsOf (.time t) is = Format.wok text) :
    ∃ p', Parse.parse Parsed.new text is = .ok p' ∧
      ParseFrom.resolve .time p' = .ok (.ok (.time (truncTime is t))) := by
  have hvd : VD 1970 1 := by unfold VD; decide
  have hw : (dateOfYo 1970 1).iso_week = .ok 2017306 := by decide +kernel
  have hwdn : ((Weekday.thu.toNat : Nat) : Int) = weekdayOf (dayNumYo 1970 ((1 : Nat) : Int)) := by decide
  have hiy : IsoWeek.year 2017306 = 1970 := by decide
  have hiw : IsoWeek.week 2017306 = 1 := by decide
  obtain ⟨_, ⟨hsep, _⟩, hg1, hg2, hfull⟩ := hU
  obtain ⟨_, hEl, _, _, hEf⟩ := hE
  have hEl := exprLeap_of_for is _ hfull hEl
  simp only [exprLeap, shown, onSome] at hEl
  simp only [exprFrac, shown, onSome] at hEf
  obtain ⟨hF, hnone, nv1, nv2⟩ := frac_conditions is t htv hfull hEf
  let tr : Truth := ⟨1970, 1, 1970, 1, .thu, t, (truncTime is t).frac % 1000000000, 0, 0⟩
  let c : Ctx := ⟨none, some t, none⟩
  have hcok : CtxOk c := ⟨fun d h => (by cases h), fun t' h => (by cases h; exact htv), fun x h => (by cases h)⟩
  have hc : CtxTruth c tr :=
    ⟨fun d h => (by cases h), fun t' h => (by cases h; exact ⟨rfl, htv⟩), fun x h => (by cases h),
     fun v h => (by simp [numVal, c] at h)⟩
  have hok : TruthOk tr :=
    ⟨hvd, ⟨by simp [tr], by simp [tr]⟩, ⟨by simp [tr], by simp [tr]⟩, htv, ⟨nv1, nv2⟩,
     ⟨by simp [tr], by simp [tr]⟩, hwdn, ⟨_, hw, hiy, hiw⟩⟩
  obtain ⟨hexp, hx, hy⟩ := side_conditions c tr hc is (yearExpressible_1970 _ _ _ _) (yearExpressible_1970 _ _ _ _) hF
  obtain ⟨p', hparse, hS, hT⟩ := fields_of_format c hcok tr hc hok is text hp hexp hx hsep hsafe hy hfmt
  refine ⟨p', hparse, ?_⟩
  obtain ⟨h1, h2, h3⟩ := time_of_supplied is p' tr hok hS hT hfull hEl rfl hnone
  have ht := Chrono.Props.C14.time_complete p' (truncTime is t) h1 h2 h3
  simp only [ParseFrom.resolve, ht, Parsed.RP.bind]

/-! ### date-times -/

/-- the common part of the two date-time targets: the record resolves (through
`to_naive_datetime_with_offset off'`) to the local reading cut to the printed precision -/
theorem family_datetime_core (is : List Item) (Y : Int) (o : Nat) (hvd : VD Y o) (t : Time) (htv : TValid t)
    (c : Ctx) (hcd : c.date = some (dateOfYo Y o)) (hct : c.time = some t)
    (hco : ∀ x, c.off = some x → -86400 < x.2 ∧ x.2 < 86400)
    (offv off' : Int) (hoffv : ∀ x, c.off = some x → offv = roundedOffset x.2)
    (hoffv' : -86400 ≤ offv ∧ offv ≤ 86400) (hoff' : -86400 < off' ∧ off' < 86400)
    (text : List Nat) (hp : ∀ it ∈ is, provedItem it = true)
    (hsep : separated is = true) (hg1 : groupUsable (carries is).year (carries is).yearDiv (carries is).yearMod = true)
    (hg2 : groupUsable (carries is).isoYear (carries is).isoYearDiv (carries is).isoYearMod = true)
    (hfd : fullDate (carries is) = true) (hft : fullTime (carries is) = true) (hsafe : spaceSafe is = true)
    (hY : ∀ w, (dateOfYo Y o).iso_week = .ok w →
      yearExpressible (carries is).year (carries is).yearDiv (carries is).yearMod (yearTouchesDigits .year is) Y ∧
      yearExpressible (carries is).isoYear (carries is).isoYearDiv (carries is).isoYearMod
        (yearTouchesDigits .isoYear is) (IsoWeek.year w))
    (hEl : 1000000000 ≤ t.frac → t.secs % 60 = 59)
    (hEf : ∀ it ∈ is, onSome (itemFracDigits it) fun k => cutFrac t.frac k = cutFrac t.frac (fracDigits is))
    (hstampOff : (carries is).timestamp = true → off' = (c.off.map (·.2)).getD 0)
    (hstampSec : (carries is).timestamp = true → (carries is).second = false → t.secs % 60 = 0)
    (hfmt : Format.formatItemsR c.date c.time c.off is = Format.wok text) :
    ∃ p', Parse.parse Parsed.new text is = .ok p' ∧
      Parsed.to_naive_datetime_with_offset p' off' = .ok (.ok ⟨dateOfYo Y o, truncTime is t⟩) ∧
      (∀ x, p'.offset = some x → x = offv) ∧ p'.offset.isSome = (carries is).offset ∧
      p'.timestamp.isSome = (carries is).timestamp := by
  obtain ⟨IY, IW, wd, ⟨w, hw, hwy, hwk⟩, hwd, hwdn, iy1, iy2, iw1, iw2⟩ := truth_date Y o hvd
  obtain ⟨s1, s2, s3⟩ := ParsedRes.timestamp_spec Y o t hvd htv
  obtain ⟨hYe, hIe⟩ := hY w hw
  rw [hwy] at hIe
  obtain ⟨hF, hnone, nv1, nv2⟩ := frac_conditions is t htv hft hEf
  let tr : Truth := ⟨Y, o, IY, IW, wd, t, (truncTime is t).frac % 1000000000, offv,
    timestampIs.instSecsLocal ⟨dateOfYo Y o, t⟩ - (c.off.map (·.2)).getD 0⟩
  have hcok : CtxOk c := ⟨fun d h => (by rw [hcd] at h; cases h; exact ⟨Y, o, hvd, rfl⟩),
    fun t' h => (by rw [hct] at h; cases h; exact htv), hco⟩
  have hoffr := hcok.off_bounds
  have hc : CtxTruth c tr :=
    ⟨fun d h => (by rw [hcd] at h; cases h; exact ⟨rfl, hvd, ⟨w, hw, hwy, hwk⟩, hwd⟩),
     fun t' h => (by rw [hct] at h; cases h; exact ⟨rfl, htv⟩),
     fun x h => ⟨hoffv x h, hco x h⟩,
     fun v h => (by simp only [numVal, hcd, hct, s1] at h; simpa [tr] using h.symm)⟩
  have hok : TruthOk tr := ⟨hvd, ⟨iy1, iy2⟩, ⟨iw1, iw2⟩, htv, ⟨nv1, nv2⟩, hoffv', hwdn, ⟨w, hw, hwy, hwk⟩⟩
  obtain ⟨hexp, hx, hy⟩ := side_conditions c tr hc is hYe hIe hF
  obtain ⟨p', hparse, hS, hT⟩ := fields_of_format c hcok tr hc hok is text hp hexp hx hsep hsafe hy hfmt
  refine ⟨p', hparse, ?_, hS.offset, hT.offset, hT.timestamp⟩
  obtain ⟨h1, h2, h3⟩ := time_of_supplied is p' tr hok hS hT hft hEl rfl hnone
  have hts : -10000000000000 ≤ tr.tsv ∧ tr.tsv ≤ 10000000000000 := by simp only [tr]; omega
  refine Chrono.Props.C14.datetime_complete_fields p' (inType_of_supplied p' tr hok hS hts) off' (by omega)
    Y o (truncTime is t) hvd (dateAgrees_of_supplied p' tr hok hS)
    (group_determinate _ _ _ _ _ _ Y hT.year hT.year_div hT.year_mod hg1 hYe.1)
    (fun w' hw' => by
      rw [hw] at hw'; cases hw'
      rw [hwy]
      exact group_determinate _ _ _ _ _ _ IY hT.isoyear hT.isoyear_div hT.isoyear_mod hg2 hIe.1)
    (uses_of_tracks p' _ _ hT hfd) h1 h2 h3 ?_
  intro g hg
  left
  have hcar : (carries is).timestamp = true := by rw [← hT.timestamp]; simp [hg]
  have hg' : g = timestampIs.instSecsLocal ⟨dateOfYo Y o, t⟩ - (c.off.map (·.2)).getD 0 := hS.timestamp g hg
  rw [hg', hstampOff hcar]
  have hsecs : (truncTime is t).secs = t.secs := by
    by_cases hs : (carries is).second = false
    · have := hstampSec hcar hs
      simp only [truncTime, hs, if_true]; omega
    · simp [truncTime, hs]
  simp only [timestampIs.instSecsLocal, hsecs]

/-- **round trip, target `NaiveDateTime`**, formats with a full date and a full time (proved items) -/
theorem family_naive (is : List Item) (Y : Int) (o : Nat) (hvd : VD Y o) (t : Time) (htv : TValid t)
    (text : List Nat) (hp : ∀ it ∈ is, provedItem it = true) (hU : Unambiguous is .naive)
    (hfd : fullDate (carries is) = true) (hft : fullTime (carries is) = true) (hsafe : spaceSafe is = true)
    (hE : expressible is (.naive ⟨dateOfYo Y o, t⟩))
    (hfmt : ParseFrom.formatItemsOf (.naive ⟨dateOfYo Y o, t⟩) is = Format.wok text) :
    ∃ p', Parse.parse Parsed.new text is = .ok p' ∧
      ParseFrom.resolve .naive p' = .ok (.ok (.naive ⟨dateOfYo Y o, truncTime is t⟩)) := by
  obtain ⟨fy, _⟩ := date_facts Y o hvd
  obtain ⟨_, ⟨hsep, _⟩, hg1, hg2, _⟩ := hU
  obtain ⟨hEy, hEl, _, hEs, hEf⟩ := hE
  have hEl := exprLeap_of_for is _ hft hEl
  simp only [exprLeap, shown, onSome] at hEl
  simp only [exprFrac, shown, onSome] at hEf
  simp only [exprYears, shown, onSome, fy] at hEy
  simp only [exprStamp, shown, onSome] at hEs
  obtain ⟨p', h1, h2, _⟩ := family_datetime_core is Y o hvd t htv ⟨some (dateOfYo Y o), some t, none⟩ rfl rfl
    (fun x h => by cases h) 0 0 (fun x h => by cases h) (by omega) (by omega) text hp hsep hg1 hg2 hfd hft hsafe
    (fun w hw => by rw [hw] at hEy; exact hEy) hEl hEf (fun _ => rfl)
    (fun hts hs => (hEs hts hfd hft).2 hs) hfmt
  exact ⟨p', h1, by simp only [ParseFrom.resolve, h2, Parsed.RP.bind]⟩

theorem wallInRange_vd (Y : Int) (o : Nat) (hvd : VD Y o) : wallInRange (dateOfYo Y o) = true := by
  obtain ⟨fy, _, _, _, y1, y2, _⟩ := date_facts Y o hvd
  have hMIN : MIN_YEAR = -262143 := rfl
  have hMAX : MAX_YEAR = 262142 := rfl
  simp only [wallInRange, fy, Bool.and_eq_true, decide_eq_true_eq]
  omega

theorem rounded_of_whole (off : Int) (h : off % 60 = 0) : roundedOffset off = off := by
  unfold roundedOffset; split <;> omega

theorem rounded_range (off : Int) (h : -86400 < off ∧ off < 86400) :
    -86400 ≤ roundedOffset off ∧ roundedOffset off ≤ 86400 := by
  unfold roundedOffset; split <;> omega

theorem to_datetime_of (p : Parsed) (off' : Int) (dt : NaiveDT)
    (hsel : p.offset = some off' ∨ (p.offset = none ∧ p.timestamp ≠ none ∧ off' = 0))
    (hn : Parsed.to_naive_datetime_with_offset p off' = .ok (.ok dt))
    (he : Zoned.east_opt off' = some off') :
    Parsed.to_datetime p =
      match Zoned.from_local_datetime off' dt with
      | .panic => .panic
      | .ok none => .ok (.error .impossible)
      | .ok (some t) => .ok (.ok t) := by
  rcases hsel with h | ⟨h1, h2, rfl⟩
  · simp only [Parsed.to_datetime, h, hn, Parsed.RP.bind, he]
    cases Zoned.from_local_datetime off' dt with
    | panic => rfl
    | ok r => cases r <;> rfl
  · cases hpt : p.timestamp with
    | none => exact absurd hpt h2
    | some g =>
      simp only [Parsed.to_datetime, h1, hpt, hn, Parsed.RP.bind, he]
      cases Zoned.from_local_datetime 0 dt with
      | panic => rfl
      | ok r => cases r <;> rfl

end Chrono.Proofs.RoundTrip
