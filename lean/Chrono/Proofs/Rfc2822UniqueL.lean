/-
  Helper lemmas for C11: the specification relation `Rfc2822 s f` is unambiguous — a string
  spells at most one tuple of fields, whatever their values (no range hypothesis).  The two
  decompositions of the string are peeled piece by piece: white-space runs end where a byte that
  starts no white-space character begins (`ws_cancel`, witnessed by `trimStart`), digit strings end at
  a non-digit (`digits_cancel`), names and two-digit fields have a fixed length, a zone is what
  `timezone_offset_2822` returns (`tz_spec`).
-/
import Chrono.Proofs.Rfc2822ScanL
namespace Chrono.Proofs.Rfc2822
open Chrono Chrono.M Chrono.Spec Chrono.Spec.Rfc2822 Chrono.M.Scan Chrono.M.Parse

theorem ws_cancel {w w' r r' : List Nat} (hw : Ws w) (hw' : Ws w') (hr : Scan.wsLen r = 0)
    (hr' : Scan.wsLen r' = 0) (h : w ++ r = w' ++ r') : r = r' := by
  rw [← trimStart_ws hw r hr, ← trimStart_ws hw' r' hr', h]

/-- empty, or starting with a byte that is no digit -/
def NonDigitHead (r : List Nat) : Prop := r = [] ∨ ∃ c t, r = c :: t ∧ Scan.isDigit c = false

theorem digits_cancel : ∀ {a a' : List Nat} {r r' : List Nat}, Digits a → Digits a' → NonDigitHead r →
    NonDigitHead r' → a ++ r = a' ++ r' → a = a' ∧ r = r' := by
  intro a
  induction a with
  | nil =>
    intro a' r r' _ ha' hr _ h
    cases a' with
    | nil => exact ⟨rfl, h⟩
    | cons d t =>
      exfalso
      have hd := isDigit_of (ha' d (by simp))
      simp only [List.nil_append, List.cons_append] at h
      rcases hr with hr | ⟨c, u, hr, hc⟩
      · rw [hr] at h; cases h
      · rw [hr] at h; injection h with h1 _; subst h1; rw [hd] at hc; cases hc
  | cons d t ih =>
    intro a' r r' ha ha' hr hr' h
    cases a' with
    | nil =>
      exfalso
      have hd := isDigit_of (ha d (by simp))
      simp only [List.nil_append, List.cons_append] at h
      rcases hr' with hr' | ⟨c, u, hr', hc⟩
      · rw [hr'] at h; cases h
      · rw [hr'] at h; injection h with h1 _; subst h1; rw [hd] at hc; cases hc
    | cons d' t' =>
      simp only [List.cons_append] at h
      injection h with h1 h2
      subst h1
      obtain ⟨e1, e2⟩ := ih (fun b hb => ha b (by simp [hb])) (fun b hb => ha' b (by simp [hb])) hr hr' h2
      exact ⟨by rw [e1], e2⟩

theorem ws1_nonDigit {w : List Nat} (h : Ws1 w) (r : List Nat) : NonDigitHead (w ++ r) := by
  obtain ⟨c, t, h1, h2, _⟩ := ws1_head h r
  exact Or.inr ⟨c, t, h1, h2⟩

theorem names_inj :
    (∀ i < 7, ∀ j < 7, dayNames.getD i [] = dayNames.getD j [] → i = j) ∧
    (∀ i < 12, ∀ j < 12, monthNames.getD i [] = monthNames.getD j [] → i = j) := by decide

/-- a three-letter name: three bytes, the first a letter -/
theorem name3 (tbl : List (List Nat)) (i : Nat) (v : List Nat)
    (ht : (tbl.getD i []).length = 3 ∧ ∀ b ∈ tbl.getD i [], 97 ≤ b ∧ b ≤ 122) (h : CaseOf (tbl.getD i []) v) :
    v.length = 3 ∧ (∀ r, Scan.wsLen (v ++ r) = 0) ∧ ∃ a t, v = a :: t ∧ isAlpha a := by
  have hal := caseOf_alpha ht.2 h
  obtain ⟨a, b, c, hv, _⟩ := caseOf3 _ v ht h
  subst hv
  exact ⟨rfl, fun r => alpha_head a _ (hal a (by simp)), a, [b, c], rfl, hal a (by simp)⟩

theorem udigit_not_alpha {d : Nat} (h : 48 ≤ d ∧ d ≤ 57) : ¬ isAlpha d := by
  unfold isAlpha; omega

/-! ### the time part: `hh *S ":" *S mm [ *S ":" ss ] 1*S zone comments` -/

/-- the string after the year's white space spells hour, minute, second and offset -/
def UTimeTail (R : List Nat) (hour min : Nat) (sec : Option Nat) (off : Int) : Prop :=
  ∃ hh w5 w6 mm ss w7 zz cc, Digits hh ∧ hh.length = 2 ∧ decVal hh = hour ∧ Ws w5 ∧ Ws w6 ∧
    Digits mm ∧ mm.length = 2 ∧ decVal mm = min ∧ Seconds ss sec ∧ Ws1 w7 ∧ Zone zz off ∧ Comments cc ∧
    R = hh ++ (w5 ++ (58 :: (w6 ++ (mm ++ (ss ++ (w7 ++ (zz ++ cc)))))))

theorem zoneTail_unique {w7 zz cc w7' zz' cc' : List Nat} {off off' : Int}
    (hw : Ws1 w7) (hz : Zone zz off) (hc : Comments cc)
    (hw' : Ws1 w7') (hz' : Zone zz' off') (hc' : Comments cc')
    (h : w7 ++ (zz ++ cc) = w7' ++ (zz' ++ cc')) : off = off' := by
  obtain ⟨t1, hd1⟩ := tz_spec hz cc (comments_noAlpha hc)
  obtain ⟨t2, hd2⟩ := tz_spec hz' cc' (comments_noAlpha hc')
  have e := ws_cancel (ws1_ws hw) (ws1_ws hw') (zone_wsLen cc hd1).1 (zone_wsLen cc' hd2).1 h
  rw [e, t2] at t1
  injection t1 with t1
  injection t1 with _ t1
  exact t1.symm

theorem timeTail_unique {R : List Nat} {hour hour' min min' : Nat} {sec sec' : Option Nat} {off off' : Int}
    (h : UTimeTail R hour min sec off) (h' : UTimeTail R hour' min' sec' off') :
    hour = hour' ∧ min = min' ∧ sec = sec' ∧ off = off' := by
  obtain ⟨hh, w5, w6, mm, ss, w7, zz, cc, hhd, hhl, hhv, hw5, hw6, hmd, hml, hmv, hs, hw7, hz, hc, rfl⟩ := h
  obtain ⟨hh', w5', w6', mm', ss', w7', zz', cc', hhd', hhl', hhv', hw5', hw6', hmd', hml', hmv', hs', hw7', hz', hc',
    e⟩ := h'
  -- hour
  obtain ⟨e1, ea⟩ := List.append_inj e (by rw [hhl, hhl'])
  subst e1
  clear e
  -- the colon
  have eb := ws_cancel hw5 hw5' (wsLen_head 58 _ (by omega) (by omega) (by omega))
    (wsLen_head 58 _ (by omega) (by omega) (by omega)) ea
  injection eb with _ ec
  -- minute
  have ed := ws_cancel hw6 hw6' (digits_head hmd (by omega) _) (digits_head hmd' (by omega) _) ec
  obtain ⟨e2, e⟩ := List.append_inj ed (by rw [hml, hml'])
  subst e2
  clear ea ec ed
  refine ⟨by rw [← hhv, ← hhv'], by rw [← hmv, ← hmv'], ?_⟩
  -- seconds
  obtain ⟨_, hd1⟩ := tz_spec hz cc (comments_noAlpha hc)
  obtain ⟨_, hd2⟩ := tz_spec hz' cc' (comments_noAlpha hc')
  have hz58 : ∀ {zz cc : List Nat} (t : List Nat), (∃ c u, zz = c :: u ∧ (c = 43 ∨ c = 45 ∨ isAlpha c)) →
      zz ++ cc ≠ 58 :: t := by
    rintro zz cc t ⟨c, u, rfl, hc⟩ heq
    simp only [List.cons_append] at heq
    injection heq with h1 _
    subst h1
    unfold isAlpha at hc
    omega
  rcases hs with ⟨rfl, rfl⟩ | ⟨w, d, hw, hd, hdl, rfl, rfl⟩ <;>
    rcases hs' with ⟨rfl, rfl⟩ | ⟨w', d', hw', hd', hdl', rfl, rfl⟩
  · simp only [List.nil_append] at e
    exact ⟨rfl, zoneTail_unique hw7 hz hc hw7' hz' hc' e⟩
  · exfalso
    simp only [List.nil_append, List.append_assoc, List.cons_append] at e
    have ea := ws_cancel (ws1_ws hw7) hw' (zone_wsLen cc hd1).1 (wsLen_head 58 _ (by omega) (by omega) (by omega)) e
    exact hz58 _ hd1 ea
  · exfalso
    simp only [List.nil_append, List.append_assoc, List.cons_append] at e
    have ea := ws_cancel hw (ws1_ws hw7') (wsLen_head 58 _ (by omega) (by omega) (by omega)) (zone_wsLen cc' hd2).1 e
    exact hz58 _ hd2 ea.symm
  · simp only [List.append_assoc, List.cons_append] at e
    have ea := ws_cancel hw hw' (wsLen_head 58 _ (by omega) (by omega) (by omega))
      (wsLen_head 58 _ (by omega) (by omega) (by omega)) e
    injection ea with _ eb
    obtain ⟨e3, ec⟩ := List.append_inj eb (by rw [hdl, hdl'])
    subst e3
    exact ⟨rfl, zoneTail_unique hw7 hz hc hw7' hz' hc' ec⟩

/-! ### the date part: `1*2DIGIT 1*S month 1*S 2*DIGIT 1*S time-tail` -/

def UDateTail (R : List Nat) (day month : Nat) (year : Int) (hour min : Nat) (sec : Option Nat) (off : Int) : Prop :=
  ∃ dd w2 mn w3 yy w4 T, Digits dd ∧ (dd.length = 1 ∨ dd.length = 2) ∧ decVal dd = day ∧ Ws1 w2 ∧
    MonthName mn month ∧ Ws1 w3 ∧ Digits yy ∧ 2 ≤ yy.length ∧ yearOf yy = year ∧ Ws1 w4 ∧
    UTimeTail T hour min sec off ∧ R = dd ++ (w2 ++ (mn ++ (w3 ++ (yy ++ (w4 ++ T)))))

theorem timeTail_head {T : List Nat} {hour min : Nat} {sec : Option Nat} {off : Int}
    (h : UTimeTail T hour min sec off) : Scan.wsLen T = 0 := by
  obtain ⟨hh, _, _, _, _, _, _, _, hhd, hhl, _, _, _, _, _, _, _, _, _, _, rfl⟩ := h
  exact digits_head hhd (by omega) _

theorem dateTail_unique {R : List Nat} {day day' month month' : Nat} {year year' : Int} {hour hour' min min' : Nat}
    {sec sec' : Option Nat} {off off' : Int}
    (h : UDateTail R day month year hour min sec off) (h' : UDateTail R day' month' year' hour' min' sec' off') :
    day = day' ∧ month = month' ∧ year = year' ∧ hour = hour' ∧ min = min' ∧ sec = sec' ∧ off = off' := by
  obtain ⟨dd, w2, mn, w3, yy, w4, T, hdd, hdl, hdv, hw2, hmn, hw3, hyd, hyl, hyv, hw4, hT, rfl⟩ := h
  obtain ⟨dd', w2', mn', w3', yy', w4', T', hdd', hdl', hdv', hw2', hmn', hw3', hyd', hyl', hyv', hw4', hT', e⟩ := h'
  obtain ⟨_, _, _, _, _, t5, _⟩ := name_tables
  -- day
  obtain ⟨e1, ea⟩ := digits_cancel hdd hdd' (ws1_nonDigit hw2 _) (ws1_nonDigit hw2' _) e
  subst e1
  clear e
  -- month
  obtain ⟨i, hi, hcase, rfl⟩ := hmn
  obtain ⟨i', hi', hcase', rfl⟩ := hmn'
  obtain ⟨l1, hh1, _⟩ := name3 monthNames i mn (t5 i hi) hcase
  obtain ⟨l1', hh1', _⟩ := name3 monthNames i' mn' (t5 i' hi') hcase'
  have eb := ws_cancel (ws1_ws hw2) (ws1_ws hw2') (hh1 _) (hh1' _) ea
  obtain ⟨e2, ec⟩ := List.append_inj eb (by rw [l1, l1'])
  subst e2
  clear ea eb
  have ei : i = i' := names_inj.2 i hi i' hi' (by unfold CaseOf at hcase hcase'; rw [← hcase, ← hcase'])
  subst ei
  -- year
  have ed := ws_cancel (ws1_ws hw3) (ws1_ws hw3') (digits_head hyd (by omega) _) (digits_head hyd' (by omega) _) ec
  obtain ⟨e3, ee⟩ := digits_cancel hyd hyd' (ws1_nonDigit hw4 _) (ws1_nonDigit hw4' _) ed
  subst e3
  clear ec ed
  -- time
  have ef := ws_cancel (ws1_ws hw4) (ws1_ws hw4') (timeTail_head hT) (timeTail_head hT') ee
  subst ef
  obtain ⟨t1, t2, t3, t4⟩ := timeTail_unique hT hT'
  exact ⟨by rw [← hdv, ← hdv'], rfl, by rw [← hyv, ← hyv'], t1, t2, t3, t4⟩

theorem dateTail_head {R : List Nat} {day month : Nat} {year : Int} {hour min : Nat} {sec : Option Nat} {off : Int}
    (h : UDateTail R day month year hour min sec off) :
    Scan.wsLen R = 0 ∧ ∃ d t, R = d :: t ∧ 48 ≤ d ∧ d ≤ 57 := by
  obtain ⟨dd, _, _, _, _, _, _, hdd, hdl, _, _, _, _, _, _, _, _, _, rfl⟩ := h
  refine ⟨digits_head hdd (by omega) _, ?_⟩
  cases dd with
  | nil => simp at hdl
  | cons d t => exact ⟨d, _, rfl, hdd d (by simp)⟩

/-! ### the whole relation -/

theorem rfc2822_split {s : List Nat} {f : Fields} : Rfc2822 s f ↔
    ∃ w0 dn w1 R, Ws w0 ∧ DayName dn f.weekday ∧ Ws w1 ∧
      UDateTail R f.day f.month f.year f.hour f.min f.sec f.off ∧ s = w0 ++ (dn ++ (w1 ++ R)) := by
  constructor
  · rintro ⟨w0, dn, w1, dd, w2, mn, w3, yy, w4, hh, w5, w6, mm, ss, w7, zz, cc,
      hw0, hdn, hw1, hdd, hdl, hdv, hw2, hmn, hw3, hyd, hyl, hyv, hw4, hhd, hhl, hhv, hw5, hw6, hmd, hml, hmv,
      hs, hw7, hz, hc, rfl⟩
    exact ⟨w0, dn, w1, _, hw0, hdn, hw1,
      ⟨dd, w2, mn, w3, yy, w4, _, hdd, hdl, hdv, hw2, hmn, hw3, hyd, hyl, hyv, hw4,
        ⟨hh, w5, w6, mm, ss, w7, zz, cc, hhd, hhl, hhv, hw5, hw6, hmd, hml, hmv, hs, hw7, hz, hc, rfl⟩, rfl⟩, rfl⟩
  · rintro ⟨w0, dn, w1, _, hw0, hdn, hw1,
      ⟨dd, w2, mn, w3, yy, w4, _, hdd, hdl, hdv, hw2, hmn, hw3, hyd, hyl, hyv, hw4,
        ⟨hh, w5, w6, mm, ss, w7, zz, cc, hhd, hhl, hhv, hw5, hw6, hmd, hml, hmv, hs, hw7, hz, hc, rfl⟩, rfl⟩, rfl⟩
    exact ⟨w0, dn, w1, dd, w2, mn, w3, yy, w4, hh, w5, w6, mm, ss, w7, zz, cc,
      hw0, hdn, hw1, hdd, hdl, hdv, hw2, hmn, hw3, hyd, hyl, hyv, hw4, hhd, hhl, hhv, hw5, hw6, hmd, hml, hmv,
      hs, hw7, hz, hc, rfl⟩

/-- **the relation is unambiguous**: a string spells at most one tuple of fields -/
theorem rfc2822_unambiguous (s : List Nat) (f f' : Fields) (h : Rfc2822 s f) (h' : Rfc2822 s f') : f = f' := by
  obtain ⟨w0, dn, w1, R, hw0, hdn, hw1, hR, rfl⟩ := rfc2822_split.mp h
  obtain ⟨w0', dn', w1', R', hw0', hdn', hw1', hR', e⟩ := rfc2822_split.mp h'
  obtain ⟨_, _, _, _, t4, _, _⟩ := name_tables
  obtain ⟨hR0, d, tR, hRd, hd⟩ := dateTail_head hR
  obtain ⟨hR0', d', tR', hRd', hd'⟩ := dateTail_head hR'
  have fin : f.weekday = f'.weekday → R = R' → f = f' := by
    intro hwd hRR
    subst hRR
    obtain ⟨a1, a2, a3, a4, a5, a6, a7⟩ := dateTail_unique hR hR'
    cases f; cases f'
    simp only [] at hwd a1 a2 a3 a4 a5 a6 a7
    simp only [Fields.mk.injEq]
    exact ⟨hwd, a1, a2, a3, a4, a5, a6, a7⟩
  rcases hdn with ⟨rfl, hwd⟩ | ⟨i, v, hi, hcase, rfl, hwd⟩ <;>
    rcases hdn' with ⟨rfl, hwd'⟩ | ⟨i', v', hi', hcase', rfl, hwd'⟩
  · simp only [List.nil_append] at e
    rw [← List.append_assoc, ← List.append_assoc w0'] at e
    have ea := ws_cancel (Ws.append hw0 hw1) (Ws.append hw0' hw1') hR0 hR0' e
    exact fin (by rw [hwd, hwd']) ea
  · exfalso
    obtain ⟨_, hh1, a, t, hv, ha⟩ := name3 dayNames i' v' (t4 i' hi') hcase'
    simp only [List.nil_append, List.append_assoc] at e
    rw [← List.append_assoc] at e
    have ea := ws_cancel (Ws.append hw0 hw1) hw0' hR0 (hh1 _) e
    rw [hRd, hv] at ea
    simp only [List.cons_append] at ea
    injection ea with e1 _
    subst e1
    exact udigit_not_alpha hd ha
  · exfalso
    obtain ⟨_, hh1, a, t, hv, ha⟩ := name3 dayNames i v (t4 i hi) hcase
    simp only [List.nil_append, List.append_assoc] at e
    rw [← List.append_assoc w0'] at e
    have ea := ws_cancel hw0 (Ws.append hw0' hw1') (hh1 _) hR0' e
    rw [hRd', hv] at ea
    simp only [List.cons_append] at ea
    injection ea with e1 _
    subst e1
    exact udigit_not_alpha hd' ha
  · obtain ⟨l1, hh1, _⟩ := name3 dayNames i v (t4 i hi) hcase
    obtain ⟨l1', hh1', _⟩ := name3 dayNames i' v' (t4 i' hi') hcase'
    simp only [List.append_assoc] at e
    have ea := ws_cancel hw0 hw0' (hh1 _) (hh1' _) e
    obtain ⟨e1, eb⟩ := List.append_inj ea (by rw [l1, l1'])
    subst e1
    clear e ea
    have ei : i = i' := names_inj.1 i hi i' hi' (by unfold CaseOf at hcase hcase'; rw [← hcase, ← hcase'])
    subst ei
    simp only [List.cons_append, List.nil_append] at eb
    injection eb with _ ec
    have ed := ws_cancel hw1 hw1' hR0 hR0' ec
    exact fin (by rw [hwd, hwd']) ed

end Chrono.Proofs.Rfc2822
