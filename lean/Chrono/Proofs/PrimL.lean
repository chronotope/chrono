/- Helper lemmas about the machine-integer primitives. -/
import Chrono.Prim
namespace Chrono.Proofs
open Chrono

theorem inI32_iff (x : Int) : inI32 x = true ↔ -2147483648 ≤ x ∧ x ≤ 2147483647 := by
  unfold inI32 I32_MIN I32_MAX
  rw [Bool.and_eq_true, decide_eq_true_iff, decide_eq_true_iff]

theorem inI64_iff (x : Int) : inI64 x = true ↔ -9223372036854775808 ≤ x ∧ x ≤ 9223372036854775807 := by
  unfold inI64 I64_MIN I64_MAX
  rw [Bool.and_eq_true, decide_eq_true_iff, decide_eq_true_iff]

theorem ckI64_ok {x : Int} (h1 : -9223372036854775808 ≤ x) (h2 : x ≤ 9223372036854775807) :
    ckI64 x = .ok x :=
  if_pos ((inI64_iff x).mpr ⟨h1, h2⟩)

theorem ckI32_ok {x : Int} (h1 : -2147483648 ≤ x) (h2 : x ≤ 2147483647) : ckI32 x = .ok x :=
  if_pos ((inI32_iff x).mpr ⟨h1, h2⟩)

theorem optI64_some {x : Int} (h1 : -9223372036854775808 ≤ x) (h2 : x ≤ 9223372036854775807) :
    optI64 x = some x :=
  if_pos ((inI64_iff x).mpr ⟨h1, h2⟩)

theorem optI64_none {x : Int} (h : x < -9223372036854775808 ∨ 9223372036854775807 < x) :
    optI64 x = none :=
  if_neg (fun c => by have := (inI64_iff x).mp c; omega)

theorem optI32_some {x : Int} (h1 : -2147483648 ≤ x) (h2 : x ≤ 2147483647) : optI32 x = some x :=
  if_pos ((inI32_iff x).mpr ⟨h1, h2⟩)

theorem optI32_none {x : Int} (h : x < -2147483648 ∨ 2147483647 < x) : optI32 x = none :=
  if_neg (fun c => by have := (inI32_iff x).mp c; omega)

theorem ckU32_ok {x : Int} (h1 : 0 ≤ x) (h2 : x ≤ 4294967295) : ckU32 x = .ok x := by
  simp [ckU32, inU32, U32_MAX, h1, h2]

theorem rbind_ok {α β} (a : α) (f : α → Res β) : (Res.ok a).bind f = f a := rfl

theorem asU32_id {x : Int} (h1 : 0 ≤ x) (h2 : x < 4294967296) : asU32 x = x := by
  unfold asU32; omega

theorem asI32_id {x : Int} (h1 : -2147483648 ≤ x) (h2 : x ≤ 2147483647) : asI32 x = x := by
  unfold asI32; simp only; split <;> omega

/-- Rust `/` (truncating) in terms of floor division, for use before `omega` -/
theorem tdiv_eq (x k : Int) : Int.tdiv x k = if 0 ≤ x then x / k else -((-x) / k) := by
  split
  · rename_i h; exact Int.tdiv_eq_ediv_of_nonneg h
  · rename_i h
    have h2 : 0 ≤ -x := by omega
    have := Int.tdiv_eq_ediv_of_nonneg (b := k) h2
    rw [← this, Int.neg_tdiv, Int.neg_neg]

/-- Rust `%` (truncating remainder) -/
theorem tmod_eq (x k : Int) : Int.tmod x k = x - k * (if 0 ≤ x then x / k else -((-x) / k)) := by
  rw [Int.tmod_def, tdiv_eq]

/-- instance-agnostic rewriting of conditionals (used instead of `split` when the `Decidable`
instances carry unfolded definitions) -/
theorem ite_flip {α : Type} {c d : Prop} {ic : Decidable c} {id : Decidable d} (x y : α)
    (h : c ↔ ¬ d) : @ite α c ic x y = @ite α d id y x := by
  by_cases hd : d
  · rw [if_pos hd, if_neg (fun hc => h.mp hc hd)]
  · rw [if_neg hd, if_pos (h.mpr hd)]

theorem ite_same {α : Type} {c d : Prop} {ic : Decidable c} {id : Decidable d} (x y : α)
    (h : c ↔ d) : @ite α c ic x y = @ite α d id x y := by
  by_cases hc : c
  · rw [if_pos hc, if_pos (h.mp hc)]
  · rw [if_neg hc, if_neg (fun hd => hc (h.mpr hd))]

theorem ite_pos' {α : Type} {c : Prop} {ic : Decidable c} (x y : α) (h : c) : @ite α c ic x y = x :=
  if_pos h
theorem ite_neg' {α : Type} {c : Prop} {ic : Decidable c} (x y : α) (h : ¬ c) : @ite α c ic x y = y :=
  if_neg h

end Chrono.Proofs
