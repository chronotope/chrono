/-
  C10, strict vs relaxed reader, offset part (lemmas for `C10.relaxed_offset_accepts_strict_partial`): the relaxed reader (`FromStr for DateTime<FixedOffset>`,
  the `%+` parsing item) scans the offset with `timezone_offset(s.trim_start(), colon_or_space, true, false, true)`
  (or `UTC`), the strict one with `timezone_offset(s, |s| char(s, b':'), true, false, true)`.
  Namespace `Chrono.Proofs.Rfc3339Relaxed`.
-/
import Chrono.Proofs.Rfc3339SlicesL

namespace Chrono.Proofs.Rfc3339Relaxed
open Chrono Chrono.M Chrono.M.Scan Chrono.M.Rfc3339Slices Chrono.Proofs.Rfc3339Slices

/-- `colon_or_space` stops at a digit that follows a single colon -/
theorem colon_then_digit (m1 : Nat) (t : List Nat) (h : 48 ≤ m1 ∧ m1 ≤ 57) :
    colon_or_space (58 :: m1 :: t) = m1 :: t := by
  unfold colon_or_space
  simp only [List.length_cons]
  unfold colonOrSpaceAux
  simp only
  unfold colonOrSpaceAux
  have h58 : m1 ≠ 58 := by omega
  have hw : wsLen (m1 :: t) = 0 := by
    unfold wsLen
    dsimp only
    rw [if_neg (by omega)]
    split <;> first | rfl | omega
  split
  · rename_i rest heq; injection heq with heq _; exact absurd heq h58
  · simp only [hw, if_true]

/-- what the minutes stage accepts starts with a digit -/
theorem tzMins_digit (s : List Nat) (v : Int) (h : tzMins s false = .ok v) :
    ∃ m1 t, s = m1 :: t ∧ 48 ≤ m1 ∧ m1 ≤ 57 := by
  unfold tzMins at h
  split at h
  · rename_i m1 m2 t
    split at h
    · rename_i hd; exact ⟨m1, m2 :: t, rfl, by omega, by omega⟩
    · split at h <;> cases h
  · simp at h

end Chrono.Proofs.Rfc3339Relaxed
