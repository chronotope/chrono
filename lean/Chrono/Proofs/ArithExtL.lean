/- Helper lemmas for the C03 audit gaps: length hints as pairs, interleaved iterator calls, the cursor
   after `k` calls, date-time ± Days, std::time::Duration forms, `expect` forms in range terms,
   assign forms. -/
import Chrono.Proofs.IterL
import Chrono.Model.ArithExt
import Chrono.Spec.ArithExtSpec

namespace Chrono.Proofs.ArithExt
open Chrono Chrono.M Chrono.Spec Chrono.Proofs Chrono.Extracted

/-! ### size_hint as a pair -/

theorem days_pair_eq (v : Date) : DaysIter.size_hint_pair v =
    (DaysIter.size_hint v).bind fun n => .ok (asUsize n, some (asUsize n)) := by
  unfold DaysIter.size_hint_pair DaysIter.size_hint
  cases Date.signed_duration_since Date.MAX v <;> rfl

theorem weeks_pair_eq (v : Date) : WeeksIter.size_hint_pair v =
    (WeeksIter.size_hint v).bind fun n => .ok (asUsize n, some (asUsize n)) := by
  unfold WeeksIter.size_hint_pair WeeksIter.size_hint
  cases Date.signed_duration_since Date.MAX v <;> rfl

theorem asUsize_id (n : Int) (h : 0 ≤ n ∧ n ≤ 191491528) : asUsize n = n := by
  unfold asUsize; omega

/-- both bounds of the pair are the number of forward steps that fit -/
theorem hint_pair_spec (v : Date) (hv : DateInv v) :
    DaysIter.size_hint_pair v = .ok (stepsFit (dayNumOf v) 1, some (stepsFit (dayNumOf v) 1)) ∧
    WeeksIter.size_hint_pair v = .ok (stepsFit (dayNumOf v) 7, some (stepsFit (dayNumOf v) 7)) := by
  obtain ⟨s1, s2⟩ := size_hint_spec v hv
  obtain ⟨f1, f2, _, _⟩ := stepsFit_eq (dayNumOf v)
  obtain ⟨c1, c2, _⟩ := dn_consts
  have hb := dn_bounds v hv
  rw [days_pair_eq, weeks_pair_eq, s1, s2]
  constructor
  · show Res.ok _ = _
    rw [asUsize_id _ (by omega)]
  · show Res.ok _ = _
    rw [asUsize_id _ (by omega)]

/-! ### interleaved calls on one cursor -/

theorem runScript_spec {next back : Date → Res (Option (Date × Date))} {s : Int}
    (hn : StepsBy next s) (hb : StepsBy back (-s)) :
    ∀ (script : List Bool) (v : Date), DateInv v →
      ∃ items, runScript next back script v = .ok items ∧
        items.map (Option.map dayNumOf) = specScript s script (dayNumOf v) ∧
        ∀ x, some x ∈ items → DateInv x := by
  intro script
  induction script with
  | nil => intro v _; exact ⟨[], rfl, rfl, by intro x hx; simp at hx⟩
  | cons b rest ih =>
    intro v hv
    -- the call that `b` selects is itself a stepping function, in its own direction
    have hst : StepsBy (fun v => if b then back v else next v) (if b then -s else s) := by
      cases b
      · exact hn
      · exact hb
    have htgt : (if b then dayNumOf v - s else dayNumOf v + s) = dayNumOf v + (if b then -s else s) := by
      cases b <;> rfl
    unfold runScript specScript
    rw [htgt]
    rcases step_total hst v hv with hc | ⟨n, hc⟩
    · have hout := (step_none hst v hv).mp hc
      obtain ⟨items, h0, h1, h2⟩ := ih v hv
      refine ⟨none :: items, by rw [hc]; dsimp only; rw [h0], ?_, fun x hx => h2 x (by simpa using hx)⟩
      rw [if_neg (by omega)]
      simp only [List.map_cons, Option.map_none, h1]
    · obtain ⟨_, hin, hdn⟩ := step_some hst v v n hv hc
      have hnb := dn_range n hin
      obtain ⟨items, h0, h1, h2⟩ := ih n hin
      refine ⟨some v :: items, by rw [hc]; dsimp only; rw [h0], ?_, fun x hx => ?_⟩
      · rw [if_pos (by omega)]
        simp only [List.map_cons, Option.map_some, h1, hdn]
      · rcases List.mem_cons.mp hx with hx | hx
        · rw [Option.some.inj hx]; exact hv
        · exact h2 x hx

/-! ### `expect` forms in range terms -/

/-- `expect` on a checked result that is refused exactly under `out` and otherwise satisfies `P` -/
theorem expect_shift {α} {r : Res (Option α)} {out : Prop} {P : α → Prop}
    (h : ∃ o, r = .ok o ∧ (o = none ↔ out) ∧ ∀ x, o = some x → P x) :
    (¬ out → ∃ x, expectSome r = .ok x ∧ P x) ∧ (out → expectSome r = .panic) := by
  obtain ⟨o, h0, h1, h2⟩ := h
  rw [h0]
  cases o with
  | none => exact ⟨fun h => absurd (h1.mp rfl) h, fun _ => rfl⟩
  | some x => exact ⟨fun _ => ⟨x, rfl, h2 x rfl⟩, fun h => nomatch h1.mpr h⟩

theorem expect_dayShift (d : Date) (k : Int) (r : Res (Option Date))
    (h : ∃ o, r = .ok o ∧ IsDayShift d k o) :
    (DN_MIN ≤ dayNumOf d + k ∧ dayNumOf d + k ≤ DN_MAX →
      ∃ x, expectSome r = .ok x ∧ DateInv x ∧ dayNumOf x = dayNumOf d + k) ∧
    (¬ (DN_MIN ≤ dayNumOf d + k ∧ dayNumOf d + k ≤ DN_MAX) → expectSome r = .panic) := by
  obtain ⟨g1, g2⟩ := expect_shift h
  exact ⟨fun hin => g1 (by omega), fun hout => g2 (by omega)⟩

theorem expect_instShift (dt : NaiveDT) (k : Int) (r : Res (Option NaiveDT))
    (h : ∃ o, r = .ok o ∧ IsInstShift dt k o) :
    (NS_MIN ≤ instNs dt + k ∧ instNs dt + k ≤ NS_MAX_DT →
      ∃ x, expectSome r = .ok x ∧ NDTInv x ∧ NonLeap x ∧ instNs x = instNs dt + k) ∧
    (¬ (NS_MIN ≤ instNs dt + k ∧ instNs dt + k ≤ NS_MAX_DT) → expectSome r = .panic) := by
  obtain ⟨g1, g2⟩ := expect_shift h
  exact ⟨fun hin => g1 (by omega), fun hout => g2 (by omega)⟩

theorem date_add_eq (d : Date) (δ : Delta) : Date.add d δ = expectSome (Date.checked_add_signed d δ) := by
  unfold Date.add expectSome
  cases Date.checked_add_signed d δ with
  | panic => rfl
  | ok o => cases o <;> rfl

theorem date_sub_eq (d : Date) (δ : Delta) : Date.sub d δ = expectSome (Date.checked_sub_signed d δ) := by
  unfold Date.sub expectSome
  cases Date.checked_sub_signed d δ with
  | panic => rfl
  | ok o => cases o <;> rfl

/-- `expect` commutes with re-attaching the offset -/
theorem expect_zoned (r : Res (Option NaiveDT)) (off : Int) :
    expectSome (r.bind fun o => .ok (o.map fun u => (⟨u, off⟩ : Zoned))) =
      (expectSome r).bind fun u => .ok ⟨u, off⟩ := by
  cases r with
  | panic => rfl
  | ok o => cases o <;> rfl

/-! ### date-time ± Days -/

/-- moving the date part by `k` days and keeping the time of day moves the instant by `k` days -/
theorem with_shifted_date (dt : NaiveDT) (k : Int) (r : Option Date) (h : NDTInv dt)
    (h1 : IsDayShift dt.date k r) :
    IsDayShift dt.date k ((r.map fun d => (⟨d, dt.time⟩ : NaiveDT)).map (·.date)) ∧
    ∀ x, (r.map fun d => (⟨d, dt.time⟩ : NaiveDT)) = some x →
      x.time = dt.time ∧ NDTInv x ∧ instNs x = instNs dt + k * NS_PER_DAY := by
  obtain ⟨g1, g2⟩ := attach_time dt.date k dt.time r h1
  refine ⟨g1, fun x hx => ?_⟩
  obtain ⟨et, ed⟩ := g2 x hx
  obtain ⟨i1, i2⟩ := h1.2 x.date ed
  refine ⟨et, ⟨i1, by rw [et]; exact h.2⟩, ?_⟩
  unfold instNs instSecs NS_PER_DAY
  rw [i2, et]
  omega

/-! ### std::time::Duration -/

theorem from_std_some (s n : Int) (hs : 0 ≤ s ∧ s ≤ 18446744073709551615) (hn : 0 ≤ n ∧ n < 1000000000)
    (hr : nsInRange (s * 1000000000 + n)) :
    Delta.from_std s n = some ⟨s, n⟩ ∧ DInv ⟨s, n⟩ ∧ ns ⟨s, n⟩ = s * 1000000000 + n := by
  have h := (std_spec' s n hs hn ⟨0, 0⟩ (by decide)).1
  rw [h, if_pos hr]
  exact ⟨rfl, ⟨hn.1, hn.2, hr⟩, rfl⟩

theorem from_std_none (s n : Int) (hs : 0 ≤ s ∧ s ≤ 18446744073709551615) (hn : 0 ≤ n ∧ n < 1000000000)
    (hr : ¬ nsInRange (s * 1000000000 + n)) : Delta.from_std s n = none := by
  have h := (std_spec' s n hs hn ⟨0, 0⟩ (by decide)).1
  rw [h, if_neg hr]

/-! ### assign forms -/

theorem zoned_add_assign_eq (z : Zoned) (δ : Delta) : Zoned.add_assign z δ = Zoned.add z δ := by
  unfold Zoned.add_assign Zoned.add Zoned.checked_add_signed Zoned.from_utc_datetime
  rw [expect_zoned]

theorem zoned_sub_assign_eq (z : Zoned) (δ : Delta) : Zoned.sub_assign z δ = Zoned.sub z δ := by
  unfold Zoned.sub_assign Zoned.sub Zoned.checked_sub_signed Zoned.from_utc_datetime
  rw [expect_zoned]

/-! ### fused: a refused call changes nothing -/

theorem fused (next back : Date → Res (Option (Date × Date))) (v : Date) (b : Bool)
    (hn : (if b then back v else next v) = .ok none) :
    ∀ k : Nat, runScript next back (List.replicate k b) v = .ok (List.replicate k none) := by
  intro k
  induction k with
  | zero => rfl
  | succ k ih =>
    rw [List.replicate_succ, List.replicate_succ]
    unfold runScript
    rw [hn]; dsimp only; rw [ih]

/-! ### the cursor after `k` successful calls (`Iterator::nth`, `advance_by`) -/

theorem stateAfter_spec {next : Date → Res (Option (Date × Date))} {s : Int} (hst : StepsBy next s) :
    ∀ (k : Nat) (v : Date), DateInv v →
      ∃ r, stateAfter next k v = .ok r ∧ IsDayShift v (k * s) r := by
  intro k
  induction k with
  | zero =>
    intro v hv
    have hb := dn_range v hv
    refine ⟨some v, rfl, ⟨fun h => (nomatch h), fun h => ?_⟩, fun d hd => ?_⟩
    · exfalso; simp at h; omega
    · rw [← Option.some.inj hd]; exact ⟨hv, by simp⟩
  | succ k ih =>
    intro v hv
    have hb := dn_range v hv
    have hks : ((k + 1 : Nat) : Int) * s = k * s + s := by push_cast; rw [Int.add_mul]; omega
    rw [hks]
    rcases step_total hst v hv with hn | ⟨n, hn⟩
    · have hout := (step_none hst v hv).mp hn
      refine ⟨none, by unfold stateAfter; rw [hn], ⟨fun _ => ?_, fun _ => rfl⟩, fun d hd => (nomatch hd)⟩
      -- the refused step points out of the range, and `k` more steps the same way point further out
      rcases Int.lt_trichotomy s 0 with h0 | h0 | h0
      · have := Int.mul_le_mul_of_nonneg_left (a := s) (b := 0) (c := (k : Int)) (Int.le_of_lt h0) (by omega)
        omega
      · omega
      · have := Int.mul_nonneg (a := (k : Int)) (b := s) (by omega) (by omega)
        omega
    · obtain ⟨_, hin, hdn⟩ := step_some hst v v n hv hn
      obtain ⟨r, h0, h1⟩ := ih n hin
      exact ⟨r, by unfold stateAfter; rw [hn]; exact h0, dshift_congr n v _ _ r (by omega) h1⟩

end Chrono.Proofs.ArithExt
