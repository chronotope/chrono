/-
  C09 round trips of the zone-aware values: `DateTime<FixedOffset>` and `DateTime<Utc>`, both forms.
-/
import Chrono.Proofs.TextFormsRtL
import Chrono.Proofs.TextFormsFin
import Chrono.Props.C04
namespace Chrono.Proofs.TextForms
open Chrono Chrono.M Chrono.M.Scan Chrono.M.Format Chrono.M.TextForms
open Chrono.Proofs Chrono.Proofs.RenderScan Chrono.Spec Chrono.Spec.Text Chrono.Spec.Fields Chrono.Proofs.ParsedRes Chrono.Extracted

/-! ### writers -/

theorem naive_debug_text (y : Int) (o : Nat) (hvd : VD y o) (t : Time) (ht : TValid t) :
    naive_debug ⟨dateOfYo y o, t⟩ = wok (dateText y (monthOfYo y o) (dayOfYo y o) ++ (84 :: timeText t)) := by
  unfold naive_debug
  rw [date_debug_text y o ⟨hvd.1, hvd.2.1⟩ hvd.2.2, time_debug_text t ht]
  rfl

theorem naive_display_text (y : Int) (o : Nat) (hvd : VD y o) (t : Time) (ht : TValid t) :
    naive_display ⟨dateOfYo y o, t⟩ = wok (dateText y (monthOfYo y o) (dayOfYo y o) ++ (32 :: timeText t)) := by
  unfold naive_display
  rw [date_debug_text y o ⟨hvd.1, hvd.2.1⟩ hvd.2.2, time_debug_text t ht]
  rfl

/-! ### the wall clock of a zone-aware value -/

/-- a naive date-time over a date of the extended calendar, the date in (year, ordinal) form -/
theorem ndt_yo (l : NaiveDT) (h : ExtDateInv l.date) : l = ⟨dateOfYo l.date.year l.date.ordinal.toNat, l.time⟩ :=
  congrArg (fun d => (⟨d, l.time⟩ : NaiveDT)) (ext_eq l.date h).1

/-- with a whole-minute offset a leap second stays on second 59 of the wall clock -/
theorem wall_strict (z : Zoned) (hm : z.off % 60 = 0) (hs : TStrict z.utc.time) (l : NaiveDT) (hv : TValid l.time)
    (h3 : instSecs l = wallSecs z) (h4 : l.time.frac = z.utc.time.frac) : TStrict l.time := by
  refine ⟨hv, ?_⟩
  obtain ⟨_, hleap⟩ := hs
  rw [h4]
  rcases hleap with hleap | hleap
  · exact Or.inl hleap
  · right
    unfold instSecs wallSecs instSecs at h3
    generalize dayNumOf l.date = A at h3
    generalize dayNumOf z.utc.date = B at h3
    have : EPOCH_DAY = 719163 := rfl
    omega

/-- a value whose wall clock is in range: the wall clock is an existing date and a time of day with
the same fraction field; with a whole-minute offset a leap second stays on second 59 -/
theorem local_facts (z : Zoned) (hz : ZInv z) (hm : z.off % 60 = 0) (hs : TStrict z.utc.time) (l : NaiveDT)
    (hl : Zoned.naive_local z = .ok l) :
    ∃ Y O, VD Y O ∧ l = ⟨dateOfYo Y O, l.time⟩ ∧ TStrict l.time ∧ Zoned.overflowing_naive_local z = .ok l := by
  obtain ⟨l', h1, h2, h3, h4, h5, h6⟩ := naive_local_spec z hz
  rw [hl] at h5
  by_cases hin : InRangeSecs (wallSecs z)
  · rw [if_pos hin] at h5
    injection h5 with h5
    subst h5
    obtain ⟨hext, hy1, hy2⟩ := (dateInv_iff l.date).mp (h6.mpr hin)
    obtain ⟨_, e2⟩ := ext_eq l.date hext
    exact ⟨_, _, ⟨hy1, hy2, e2.2.2.1, e2.2.2.2⟩, ndt_yo l hext, wall_strict z hm hs l h2.2 h3 h4, h1⟩
  · rw [if_neg hin] at h5; cases h5

/-- a value at offset zero is its own wall clock -/
theorem utc_local (u : NaiveDT) (hu : NDTInv u) :
    ZInv ⟨u, 0⟩ ∧ Zoned.overflowing_naive_local ⟨u, 0⟩ = .ok u ∧ Zoned.naive_local ⟨u, 0⟩ = .ok u := by
  have hz : ZInv ⟨u, 0⟩ := ⟨hu, by show OffValid 0; unfold OffValid; omega⟩
  have hext : ExtNDTInv u := ⟨((dateInv_iff u.date).mp hu.1).1, hu.2⟩
  have hov : Zoned.overflowing_naive_local ⟨u, 0⟩ = .ok u :=
    local_back ⟨u, 0⟩ hz u hext (by show instSecs u = instSecs u - 0; omega) rfl
  obtain ⟨l', h1, _, _, _, h5, h6⟩ := naive_local_spec ⟨u, 0⟩ hz
  rw [hov] at h1
  injection h1 with h1
  subst h1
  exact ⟨hz, hov, by rw [h5, if_pos (h6.mp hu.1)]⟩

/-! ### the relaxed RFC 3339 reader on date, separator, time, offset tail -/

theorem dateTextOf_dateOfYo (y : Int) (o : Nat) (ho : o ≤ yearLen y) :
    dateTextOf (dateOfYo y o) = dateText y (monthOfYo y o) (dayOfYo y o) := by
  obtain ⟨h1, h2, _⟩ := dateOfYo_fields y o (by have := yearLen_ge y; omega)
  unfold dateTextOf
  rw [h1, h2, Int.toNat_natCast]

theorem dateTextOf_yo (y : Int) (o : Nat) (hvd : VD y o) :
    dateTextOf (dateOfYo y o) = dateText y (monthOfYo y o) (dayOfYo y o) :=
  dateTextOf_dateOfYo y o hvd.2.2.2

/-- `parse_rfc3339_relaxed` on the text of a date (any year of up to six digits, month 1–12, day
1–31), `T`, `t` or a space, the text of a time of day and a tail of which the offset part of the reader
(after trimming white space) makes `offv`, leaving `rest` -/
theorem relaxed_reads (y : Int) (hy : -1000000 < y ∧ y < 1000000) (m d : Nat) (hm : 1 ≤ m ∧ m ≤ 12)
    (hd : 1 ≤ d ∧ d ≤ 31) (t : Time) (ht : TStrict t) (sep : Nat)
    (hsep : sep = 116 ∨ sep = 84 ∨ sep = 32) (tail tail' rest : List Nat) (offv : Int)
    (hoffv : -1000000 < offv ∧ offv < 1000000)
    (htail : TailOk tail) (htrim : trimStart (trimStart tail) = tail')
    (hT : (if tail'.length ≥ 3 ∧ lowerS (List.take 3 tail') = [117, 116, 99] then
             Except.ok (List.drop 3 tail', (0 : Int))
           else timezone_offset tail' .colonOrSpace true false true) = .ok (rest, offv)) :
    Parse.parse_rfc3339_relaxed Parsed.new (dateText y m d ++ (sep :: (timeText t ++ tail))) =
      .ok (dtRecord y m d t (some offv), rest) := by
  have hd := date_items Parsed.new rfl rfl rfl y hy m d hm hd (sep :: (timeText t ++ tail))
  have htm := time_items
    { Parsed.new with year := some y, month := some ((m : Nat) : Int), day := some ((d : Nat) : Int) }
    rfl rfl rfl rfl rfl t ht tail htail
  have hsepok : (if sep = 116 ∨ sep = 84 ∨ sep = 32 then (Except.ok (timeText t ++ tail) : PRes (List Nat))
      else Except.error PErr.invalid) = Except.ok (timeText t ++ tail) := by
    rw [if_pos hsep]
  unfold Parse.parse_rfc3339_relaxed
  simp only [bind, Except.bind, hd, hsepok, htm, htrim, hT]
  rw [set_offset_new _ rfl offv (by omega)]
  rfl

theorem relaxed_on_text (y : Int) (hy : -1000000 < y ∧ y < 1000000) (m d : Nat) (hm : 1 ≤ m ∧ m ≤ 12)
    (hd : 1 ≤ d ∧ d ≤ 31) (t : Time) (ht : TStrict t) (sep : Nat)
    (hsep : sep = 84 ∨ sep = 32) (tail tail' : List Nat) (offv : Int) (hoffv : -1000000 < offv ∧ offv < 1000000)
    (htail : TailOk tail) (htrim : trimStart (trimStart tail) = tail')
    (hT : (if tail'.length ≥ 3 ∧ lowerS (List.take 3 tail') = [117, 116, 99] then
             Except.ok (List.drop 3 tail', (0 : Int))
           else timezone_offset tail' .colonOrSpace true false true) = .ok ([], offv)) :
    Parse.parse_rfc3339_relaxed Parsed.new (dateText y m d ++ (sep :: (timeText t ++ tail))) =
      .ok (dtRecord y m d t (some offv), []) :=
  relaxed_reads y hy m d hm hd t ht sep (Or.inr hsep) tail tail' [] offv hoffv htail htrim hT

/-- `DateTime::<FixedOffset>::from_str` on such text: `TooLong` if more than white space is left over,
else the resolution of the stored fields -/
theorem fixed_reads (Y : Int) (O : Nat) (hy : -1000000 < Y ∧ Y < 1000000) (ho : 1 ≤ O ∧ O ≤ yearLen Y)
    (t : Time) (ht : TStrict t) (sep : Nat) (hsep : sep = 116 ∨ sep = 84 ∨ sep = 32)
    (tail tail' rest : List Nat) (v : Int) (hv : -1000000 < v ∧ v < 1000000)
    (htail : TailOk tail) (htrim : trimStart (trimStart tail) = tail')
    (hT : (if tail'.length ≥ 3 ∧ lowerS (List.take 3 tail') = [117, 116, 99] then
             Except.ok (List.drop 3 tail', (0 : Int))
           else timezone_offset tail' .colonOrSpace true false true) = .ok (rest, v)) :
    fixed_from_str (naiveText sep ⟨dateOfYo Y O, t⟩ ++ tail) =
      if trimStart rest ≠ [] then liftErr .tooLong
      else Parsed.to_datetime (dtRecord Y (monthOfYo Y O) (dayOfYo Y O) t (some v)) := by
  have htext : naiveText sep ⟨dateOfYo Y O, t⟩ ++ tail =
      dateText Y (monthOfYo Y O) (dayOfYo Y O) ++ (sep :: (timeText t ++ tail)) := by
    unfold naiveText
    rw [dateTextOf_dateOfYo Y O ho.2, List.append_assoc, List.cons_append]
  obtain ⟨a3, a4, a5, a6⟩ := month_day_bounds Y O ho.1 ho.2
  unfold fixed_from_str
  rw [htext, relaxed_reads Y hy _ _ ⟨a3, a4⟩ ⟨a5, a6⟩ t ht sep hsep tail tail' rest v hv htail htrim hT]

/-! ### resolution of the stored fields into the zone-aware value -/

theorem to_datetime_record (z : Zoned) (hz : ZInv z) (l : NaiveDT) (hl : Zoned.naive_local z = .ok l)
    (Y : Int) (O : Nat) (hvd : VD Y O) (he : l = ⟨dateOfYo Y O, l.time⟩) (hst : TStrict l.time) :
    Parsed.to_datetime (dtRecord Y (monthOfYo Y O) (dayOfYo Y O) l.time (some z.off)) = .ok (.ok z) := by
  obtain ⟨a1, a2, a3, a4, a5, a6⟩ := vd_month_day Y O hvd
  obtain ⟨hu, ho⟩ := hz
  have ho' : -86400 < z.off ∧ z.off < 86400 := ho
  have hp := inType_dtRecord Y (monthOfYo Y O) (dayOfYo Y O) l.time hst (some z.off) ⟨a1, a2⟩ a4 a6
    (by intro x hx; injection hx with hx; omega)
  have hres := naive_resolves _ hp z.off (by omega) Y O hvd l.time hst
    ⟨rfl, rfl, rfl, rfl, rfl, rfl, rfl, rfl, rfl, rfl, rfl, rfl, rfl, rfl⟩ ⟨rfl, rfl, rfl, rfl, rfl⟩ rfl
  rw [← he] at hres
  have hback := (Chrono.Props.C04.utc_of_fromUtc z.off z.utc ho hu).2.2 l (by
    have : Zoned.from_utc_datetime z.off z.utc = z := by cases z; rfl
    rw [this]; exact hl)
  have hz' : Zoned.from_utc_datetime z.off z.utc = z := by cases z; rfl
  rw [hz'] at hback
  have heast : Zoned.east_opt z.off = some z.off := by
    unfold Zoned.east_opt; rw [if_pos ho']
  unfold Parsed.to_datetime
  have f1 : (dtRecord Y (monthOfYo Y O) (dayOfYo Y O) l.time (some z.off)).offset = some z.off := rfl
  simp only [f1, hres, Parsed.RP.bind, heast, hback]

/-- the wall clock `l` of `z` written as date, `T` / `t` / space, time, and any tail the offset part of
the reader turns into `z`'s offset, reads as `z` -/
theorem fixed_from_text3 (z : Zoned) (hz : ZInv z) (hm : z.off % 60 = 0) (hs : TStrict z.utc.time) (l : NaiveDT)
    (hl : Zoned.naive_local z = .ok l) (sep : Nat) (hsep : sep = 116 ∨ sep = 84 ∨ sep = 32)
    (tail tail' : List Nat) (htail : TailOk tail) (htrim : trimStart (trimStart tail) = tail')
    (hT : (if tail'.length ≥ 3 ∧ lowerS (List.take 3 tail') = [117, 116, 99] then
             Except.ok (List.drop 3 tail', (0 : Int))
           else timezone_offset tail' .colonOrSpace true false true) = .ok ([], z.off)) :
    fixed_from_str (naiveText sep l ++ tail) = .ok (.ok z) := by
  obtain ⟨Y, O, hvd, he, hst, _⟩ := local_facts z hz hm hs l hl
  have ho : -86400 < z.off ∧ z.off < 86400 := hz.2
  obtain ⟨a1, a2, _⟩ := vd_month_day Y O hvd
  conv => lhs; rw [he]
  rw [fixed_reads Y O ⟨a1, a2⟩ hvd.2.2 l.time hst sep hsep tail tail' [] z.off (by omega) htail htrim hT]
  simp only [trimStart_nil, ne_eq, not_true_eq_false, if_false]
  exact to_datetime_record z hz l hl Y O hvd he hst

/-- the same for the two separators the writers use -/
theorem fixed_from_text (z : Zoned) (hz : ZInv z) (hm : z.off % 60 = 0) (hs : TStrict z.utc.time) (l : NaiveDT)
    (hl : Zoned.naive_local z = .ok l) (sep : Nat) (hsep : sep = 84 ∨ sep = 32) (tail tail' : List Nat)
    (htail : TailOk tail) (htrim : trimStart (trimStart tail) = tail')
    (hT : (if tail'.length ≥ 3 ∧ lowerS (List.take 3 tail') = [117, 116, 99] then
             Except.ok (List.drop 3 tail', (0 : Int))
           else timezone_offset tail' .colonOrSpace true false true) = .ok ([], z.off)) :
    fixed_from_str (naiveText sep l ++ tail) = .ok (.ok z) :=
  fixed_from_text3 z hz hm hs l hl sep (Or.inr hsep) tail tail' htail htrim hT


/-! ### from the representation invariants to (year, ordinal) form -/

/-- a date satisfying the representation invariant is the `ordinal`-th day of its year -/
theorem date_of_inv (d : Date) (hd : DateInv d) :
    VD d.year d.ordinal.toNat ∧ d = dateOfYo d.year d.ordinal.toNat := by
  obtain ⟨hext, hy1, hy2⟩ := (dateInv_iff d).mp hd
  obtain ⟨e1, e2⟩ := ext_eq d hext
  exact ⟨⟨hy1, hy2, e2.2.2.1, e2.2.2.2⟩, e1⟩

/-- the same for a naive date-time, with the two texts spelled out -/
theorem naive_of_inv (dt : NaiveDT) (h : NDTInv dt) :
    VD dt.date.year dt.date.ordinal.toNat ∧ dt = ⟨dateOfYo dt.date.year dt.date.ordinal.toNat, dt.time⟩ ∧
    naiveText 84 dt = dateText dt.date.year (monthOfYo dt.date.year dt.date.ordinal.toNat)
        (dayOfYo dt.date.year dt.date.ordinal.toNat) ++ (84 :: timeText dt.time) ∧
    naiveText 32 dt = dateText dt.date.year (monthOfYo dt.date.year dt.date.ordinal.toNat)
        (dayOfYo dt.date.year dt.date.ordinal.toNat) ++ (32 :: timeText dt.time) := by
  obtain ⟨hvd, he⟩ := date_of_inv dt.date h.1
  exact ⟨hvd, congrArg (fun d => (⟨d, dt.time⟩ : NaiveDT)) he, rfl, rfl⟩

end Chrono.Proofs.TextForms
