/-
  C09, outside the side condition "whole-minute offset" for ZONE-AWARE values (second review, G4): a
  `DateTime<FixedOffset>` whose offset has a seconds part prints `…±hh:mm:ss`; the relaxed reader takes
  `±hh:mm` as the offset and `DateTime::from_str` then finds `:ss` left over: `Err(TooLong)`.
-/
import Chrono.Proofs.TextFormsExtL
import Chrono.Proofs.TextFormsMoreL
namespace Chrono.Proofs.TextFormsSecs
open Chrono Chrono.M Chrono.M.Scan Chrono.M.Format Chrono.M.TextForms
open Chrono.Proofs Chrono.Proofs.TextForms Chrono.Proofs.TextFormsExt Chrono.Proofs.RenderScan Chrono.Spec Chrono.Spec.Text
open Chrono.Spec.Fields Chrono.Proofs.ParsedRes Chrono.Extracted

/-- every `Time` prints as some strict one does (a leap representation off second 59 as the following
second) -/
theorem timeText_strict (t : Time) (ht : TValid t) : ∃ t', TStrict t' ∧ timeText t = timeText t' := by
  by_cases h : t.frac ≥ 1000000000 ∧ t.secs % 60 ≠ 59
  · obtain ⟨t0, t1, t2, t3⟩ := ht
    have hv : TValid ⟨t.secs + 1, t.frac - 1000000000⟩ :=
      ⟨by dsimp only; omega, by dsimp only; omega, by dsimp only; omega, by dsimp only; omega⟩
    refine ⟨⟨t.secs + 1, t.frac - 1000000000⟩, ⟨hv, Or.inl (by dsimp only; omega)⟩, ?_⟩
    have e := TextFormsMore.time_debug_leap_off_59 t ⟨t0, t1, t2, t3⟩ h.1 h.2
    rw [time_debug_text t ⟨t0, t1, t2, t3⟩, time_debug_text _ hv] at e
    unfold wok at e
    injection e with e
    injection e with e
  · refine ⟨t, ⟨ht, ?_⟩, rfl⟩
    by_cases hl : t.frac < 1000000000
    · exact Or.inl hl
    · exact Or.inr (by omega)

/-- the tail `±hh:mm:ss` of an offset with a seconds part: the offset reader stops before `:ss` -/
theorem offset_tail_secs (off : Int) (h : -86400 < off ∧ off < 86400) (hs : off % 60 ≠ 0) :
    TailOk (offset_debug off) ∧ trimStart (trimStart (offset_debug off)) = offset_debug off ∧
    ∃ v : Int, -86400 < v ∧ v < 86400 ∧
      (if (offset_debug off).length ≥ 3 ∧ lowerS (List.take 3 (offset_debug off)) = [117, 116, 99] then
         Except.ok (List.drop 3 (offset_debug off), (0 : Int))
       else timezone_offset (offset_debug off) .colonOrSpace true false true) =
        .ok (58 :: two (off.natAbs % 60), v) := by
  rw [offset_debug_eq off h, if_neg hs]
  have hsg : (if off < 0 then 45 else 43 : Nat) = 43 ∨ (if off < 0 then 45 else 43 : Nat) = 45 := by
    split <;> simp
  obtain ⟨t1, t2, t3⟩ := sign_head _ hsg
    (two (off.natAbs / 3600) ++ 58 :: (two (off.natAbs / 60 % 60) ++ 58 :: two (off.natAbs % 60)))
  have e := trimStart_of_wsLen_zero _ t2
  refine ⟨t1, by rw [e, e], _, ?_, ?_, (if_neg t3).trans (offset_scan off h _ true false)⟩
  · split <;> omega
  · split <;> omega

/-- … and the same after the space the `Display` form puts before the offset -/
theorem offset_tail_secs_space (off : Int) (h : -86400 < off ∧ off < 86400) (hs : off % 60 ≠ 0) :
    trimStart (trimStart (32 :: offset_debug off)) = offset_debug off ∧
    trimStart (58 :: two (off.natAbs % 60)) ≠ [] := by
  rw [offset_debug_eq off h, if_neg hs]
  have hsg : (if off < 0 then 45 else 43 : Nat) = 43 ∨ (if off < 0 then 45 else 43 : Nat) = 45 := by
    split <;> simp
  generalize (if off < 0 then 45 else 43 : Nat) = sg at hsg
  refine ⟨?_, ?_⟩
  · rcases hsg with rfl | rfl <;> rfl
  · intro h; cases h

/-- **reader side**: the text of a wall clock `l` of the extended calendar — date, `T` or space, time —
followed by a tail whose offset part leaves text behind is answered with `Err(TooLong)` -/
theorem fixed_from_text_too_long (l : NaiveDT) (hv : VYO l.date.year l.date.ordinal.toNat)
    (he : l = ⟨dateOfYo l.date.year l.date.ordinal.toNat, l.time⟩) (ht : TValid l.time)
    (sep : Nat) (hsep : sep = 116 ∨ sep = 84 ∨ sep = 32) (tail tail' rest : List Nat) (v : Int)
    (hv' : -86400 < v ∧ v < 86400) (hrest : trimStart rest ≠ [])
    (htail : TailOk tail) (htrim : trimStart (trimStart tail) = tail')
    (hT : (if tail'.length ≥ 3 ∧ lowerS (List.take 3 tail') = [117, 116, 99] then
             Except.ok (List.drop 3 tail', (0 : Int))
           else timezone_offset tail' .colonOrSpace true false true) = .ok (rest, v)) :
    fixed_from_str (naiveText sep l ++ tail) = .ok (.error .tooLong) := by
  obtain ⟨t', hst', htt⟩ := timeText_strict l.time ht
  obtain ⟨a1, a2, _⟩ := vyo_month_day _ _ hv
  have e : naiveText sep l = naiveText sep ⟨dateOfYo l.date.year l.date.ordinal.toNat, t'⟩ := by
    conv => lhs; rw [he]
    unfold naiveText
    rw [htt]
  rw [e, fixed_reads _ _ ⟨a1, a2⟩ hv.2.2 t' hst' sep hsep tail tail' rest v (by omega) htail htrim hT, if_pos hrest]
  rfl

end Chrono.Proofs.TextFormsSecs
