/-
  C16, part 2: `TimeZone::validate` characterised.
  * the copy of the rule lookup that `validate`'s model calls (`find_ltt_for_validate`, three-valued,
    every arithmetic step checked) equals C05's model `TransitionRule::find_local_time_type`
    (`Option`-valued, unchecked arithmetic) on every rule `from_tz_string` can build;
  * `unix_leap_time_to_unix_time` equals its specification `leapToUnix`;
  * `validate z = ok ()` iff the structural conditions and `RuleAgrees z` hold.
-/
import Chrono.Spec.TzValidSpec
import Chrono.Proofs.TzEncL
import Chrono.Proofs.TzLookupL

set_option linter.unusedSimpArgs false
set_option linter.unusedVariables false

namespace Chrono.Proofs.TzValid
open Chrono Chrono.M.Tz Chrono.Spec.Tz Chrono.Proofs Chrono.Proofs.Tz

/-- `Result<T, Error>` of the `Option` models as the three-valued result of the `P` models -/
def toP {α} : Option α → P α
  | some a => .ok a
  | none => .err

/-! ### the second calendar, both copies -/

theorem leap_same (y : Int) : M.Tz.is_leap_year y = M.TzL.is_leap_year y := rfl

theorem bsearch_rank (l : List Int) (k : Int) : bsearchUpper l k = M.TzL.rankLE l k := by
  unfold bsearchUpper
  induction l with
  | nil => rfl
  | cons x xs ih =>
    simp only [List.takeWhile_cons, M.TzL.rankLE]
    by_cases c : x ≤ k
    · simp only [c, decide_true, if_true, List.length_cons, ih]
    · simp only [c, decide_false, if_false, List.length_nil, Bool.false_eq_true]

theorem ck64_np {x : Int} (h : ck64 x ≠ .panic) : ck64 x = .ok x := by
  unfold ck64 at *
  split
  · rfl
  · rename_i g; rw [if_neg g] at h; exact absurd rfl h

theorem idxI_getD (l : List Int) (i : Nat) (h : i < l.length) : idxI l i = .ok (l.getD i 0) := by
  unfold idxI
  rw [List.getElem?_eq_getElem h]
  simp [List.getD, List.getElem?_eq_getElem h]

theorem dse_val (y : Int) (m : Nat) (d : Int) (hy : I32r y) (hm : 1 ≤ m ∧ m ≤ 12)
    (hd : -100 ≤ d ∧ d ≤ 100) :
    M.Tz.days_since_unix_epoch y m d = .ok (M.TzL.days_since_unix_epoch y m d) := by
  have hp : M.Tz.days_since_unix_epoch y m d ≠ .panic := post_np (post_days y m d hy hm hd)
  have e : M.Tz.days_since_unix_epoch y m d = ck64 (M.TzL.days_since_unix_epoch y m d) := by
    unfold M.Tz.days_since_unix_epoch M.TzL.days_since_unix_epoch
    rw [if_neg (by omega)]
    rw [idxI_getD _ _ (by show m - 1 < 12; omega)]
    rfl
  rw [e] at hp ⊢
  exact ck64_np hp

theorem dse_bound (y : Int) (m : Nat) (d : Int) (hy : I32r y) (hm : 1 ≤ m ∧ m ≤ 12)
    (hd : -100 ≤ d ∧ d ≤ 100) :
    -800000000000 ≤ M.TzL.days_since_unix_epoch y m d ∧ M.TzL.days_since_unix_epoch y m d ≤ 800000000000 :=
  post_spec (post_days y m d hy hm hd) (dse_val y m d hy hm hd)

theorem rank_pos (x : Int) (xs : List Int) (k : Int) (h : x ≤ k) : 0 < M.TzL.rankLE (x :: xs) k := by
  simp [M.TzL.rankLE, h]

theorem rank_le_len (l : List Int) (k : Int) : M.TzL.rankLE l k ≤ l.length := by
  induction l with
  | nil => simp [M.TzL.rankLE]
  | cons x xs ih =>
    simp only [M.TzL.rankLE]
    split
    · simp; omega
    · simp

theorem julian0Date_val (lp : Int) (n : Nat) :
    julian0Date lp (n : Int) = .ok (M.TzL.rankLE (cumulLeap lp) (n : Int),
      1 + (n : Int) - (cumulLeap lp).getD (M.TzL.rankLE (cumulLeap lp) (n : Int) - 1) 0) := by
  unfold julian0Date
  rw [bsearch_rank]
  have h1 : 0 < M.TzL.rankLE (cumulLeap lp) (n : Int) := rank_pos _ _ _ (by omega)
  have h2 := rank_le_len (cumulLeap lp) (n : Int)
  have h3 : (cumulLeap lp).length = 12 := rfl
  rw [if_neg (by omega), idxI_getD _ _ (by omega)]
  rfl

theorem transition_date_val (d : RuleDay) (y : Int) (hd : DayOk d) (hy : I32r y) :
    d.transition_date y = .ok (M.TzL.transition_date d y) := by
  cases d with
  | julian1 n =>
    simp only [DayOk] at hd
    simp only [RuleDay.transition_date, julian1Date, M.TzL.transition_date, bsearch_rank]
    have h1 : 0 < M.TzL.rankLE Extracted.TzP.CUMUL_DAY_IN_MONTHS_NORMAL_YEAR ((n : Int) - 1) :=
      rank_pos _ _ _ (by omega)
    have h2 := rank_le_len Extracted.TzP.CUMUL_DAY_IN_MONTHS_NORMAL_YEAR ((n : Int) - 1)
    rw [if_neg (by omega), idxI_getD _ _ (by omega)]
    rfl
  | julian0 n =>
    simp only [RuleDay.transition_date]
    rw [julian0Date_val]
    rfl
  | mwd m w wd =>
    simp only [DayOk] at hd
    simp only [RuleDay.transition_date, M.TzL.transition_date]
    rw [if_neg (by omega), idxI_getD _ _ (by show m - 1 < 12; omega)]
    simp only [P.bind_ok]
    rw [dse_val y m 1 hy ⟨hd.1, hd.2.1⟩ (by omega)]
    rfl

theorem unix_time_val (d : RuleDay) (y t : Int) (hd : DayOk d) (hy : I32r y)
    (ht : -1000000 ≤ t ∧ t ≤ 1000000) : d.unix_time y t = .ok (M.TzL.unix_time d y t) := by
  have hdv : DateV (M.TzL.transition_date d y) :=
    post_spec (post_transition_date d y hd hy) (transition_date_val d y hd hy)
  obtain ⟨h1, h2, h3, h4⟩ := hdv
  unfold RuleDay.unix_time M.TzL.unix_time
  rw [transition_date_val d y hd hy]
  simp only [P.bind_ok]
  rw [dse_val y _ _ hy ⟨h1, h2⟩ (by omega)]
  simp only [P.bind_ok]
  have hb := dse_bound y (M.TzL.transition_date d y).1 (M.TzL.transition_date d y).2 hy ⟨h1, h2⟩ (by omega)
  have k : Extracted.TzP.SECONDS_PER_DAY = 86400 := rfl
  have k' : Extracted.TzL.SECONDS_PER_DAY = 86400 := rfl
  rw [k, k', ck64_ok (by omega) (by omega)]
  simp only [P.bind_ok]
  rw [ck64_ok (by omega) (by omega)]

theorem monthLoop_same (l : List Int) : ∀ (rd : Int) (m : Nat),
    (M.TzL.monthLoop l rd (m : Int)).2 = ((M.Tz.monthLoop l rd m : Nat) : Int) := by
  induction l with
  | nil => intro rd m; rfl
  | cons x xs ih =>
    intro rd m
    simp only [M.TzL.monthLoop, M.Tz.monthLoop]
    split
    · rfl
    · have := ih (rd - x) (m + 1)
      rw [← this]
      simp

theorem toP_ite (c : Prop) [Decidable c] (y : Int) (f : M.TzL.UtcDateTime) (hf : f.year = y) :
    (if c then P.ok y else .err) = toP (Option.map (·.year) (if c then some f else none)) := by
  split <;> simp [toP, hf]

theorem from_timespec_year_val (t : Int) :
    from_timespec_year t = toP ((M.TzL.from_timespec t).map (·.year)) := by
  unfold from_timespec_year M.TzL.from_timespec
  have e : Extracted.TzL.UNIX_OFFSET_SECS = Extracted.TzP.UNIX_OFFSET_SECS := rfl
  rw [e]
  cases optI64 (t - Extracted.TzP.UNIX_OFFSET_SECS) with
  | none => rfl
  | some s =>
    have ml0 : ∀ rd, (M.TzL.monthLoop Extracted.TzL.DAY_IN_MONTHS_LEAP_YEAR_FROM_MARCH rd 0).2
        = ((M.Tz.monthLoop Extracted.TzP.DAY_IN_MONTHS_LEAP_YEAR_FROM_MARCH rd 0 : Nat) : Int) :=
      fun rd => monthLoop_same _ rd 0
    have k1 : Extracted.TzL.SECONDS_PER_DAY = Extracted.TzP.SECONDS_PER_DAY := rfl
    have k2 : Extracted.TzL.DAYS_PER_400_YEARS = Extracted.TzP.DAYS_PER_400_YEARS := rfl
    have k3 : Extracted.TzL.DAYS_PER_100_YEARS = Extracted.TzP.DAYS_PER_100_YEARS := rfl
    have k4 : Extracted.TzL.DAYS_PER_4_YEARS = Extracted.TzP.DAYS_PER_4_YEARS := rfl
    have k5 : Extracted.TzL.DAYS_PER_NORMAL_YEAR = Extracted.TzP.DAYS_PER_NORMAL_YEAR := rfl
    have k6 : Extracted.TzL.OFFSET_YEAR = Extracted.TzP.OFFSET_YEAR := rfl
    have k7 : Extracted.TzL.MONTHS_PER_YEAR = Extracted.TzP.MONTHS_PER_YEAR := rfl
    simp only [k1, k2, k3, k4, k5, k6, k7, ml0, Int.natCast_add, Int.cast_ofNat_Int]
    exact toP_ite _ _ _ rfl

/-! ### the rule lookup: `validate`'s checked copy = C05's model -/

theorem alt_find_val (a : Alt) (t : Int) (h : RuleV (.alt a)) :
    a.find_ltt_for_validate t = toP (a.find_local_time_type t) := by
  obtain ⟨hs, hd, hd1, hd2, ht1, ht2, -, -⟩ := h
  have b1 : -1000000 ≤ a.dstStartTime - a.std.off ∧ a.dstStartTime - a.std.off ≤ 1000000 := by
    unfold LttV at hs; unfold TimeV at ht1; omega
  have b2 : -1000000 ≤ a.dstEndTime - a.dst.off ∧ a.dstEndTime - a.dst.off ≤ 1000000 := by
    unfold LttV at hd; unfold TimeV at ht2; omega
  unfold Alt.find_ltt_for_validate Alt.find_local_time_type
  rw [from_timespec_year_val]
  cases hft : M.TzL.from_timespec t with
  | none => rfl
  | some dt =>
    simp only [Option.map_some, toP, P.bind_ok]
    by_cases g : I32_MIN + 2 ≤ dt.year ∧ dt.year ≤ I32_MAX - 2
    · have hy : I32r (dt.year - 1) ∧ I32r dt.year ∧ I32r (dt.year + 1) := by
        simp only [I32_MIN, I32_MAX] at g; unfold I32r; omega
      obtain ⟨hp, hc, hn⟩ := hy
      rw [if_neg (by rw [← Bool.decide_and, decide_eq_true g]; decide), if_pos g,
        unix_time_val _ _ _ hd1 hc b1, unix_time_val _ _ _ hd2 hc b2, ck32_ok hp.1 hp.2, ck32_ok hn.1 hn.2]
      simp only [P.bind_ok, unix_time_val _ _ _ hd1 hp b1, unix_time_val _ _ _ hd2 hp b2,
        unix_time_val _ _ _ hd1 hn b1, unix_time_val _ _ _ hd2 hn b2]
      refine (congrArg (fun x => x >>= fun b => P.ok (if b = true then a.dst else a.std))
        (?_ : _ = P.ok (M.TzL.alt_is_dst a dt.year t))).trans rfl
      -- the same tree of `if`s on both sides, `P.ok` at the leaves on the left, at the root on the right
      unfold M.TzL.alt_is_dst
      simp only [apply_ite P.ok]
    · rw [if_pos (by rw [← Bool.decide_and, Bool.not_eq_true', decide_eq_false_iff_not]; exact g), if_neg g]

/-- the copy of the rule lookup that `validate`'s model calls IS C05's model of
`TransitionRule::find_local_time_type`, on every rule `from_tz_string` can build -/
theorem rule_find_val (r : Rule) (t : Int) (h : RuleV r) :
    r.find_ltt_for_validate t = toP (r.find_local_time_type t) := by
  cases r with
  | fixed x => rfl
  | alt a => exact alt_find_val a t h

/-! ### `unix_leap_time_to_unix_time` -/

theorem bsearch_le_len (l : List Int) (k : Int) : bsearchUpper l k ≤ l.length :=
  takeWhile_len_le _ _

theorem filter_nil_of_ge (ls : List LeapSecond) (k : Int) (h : ∀ l ∈ ls, k ≤ l.time) :
    ls.filter (fun l => decide (l.time < k)) = [] := by
  rw [List.filter_eq_nil_iff]
  intro a ha
  have := h a ha
  simp only [decide_eq_true_eq]; omega

/-- on a sorted leap-second table: the last record strictly before `k`, by binary-search rank -/
theorem leap_last (ls : List LeapSecond) (k : Int) (hs : LeapsSorted ls) :
    (ls.filter (fun l => decide (l.time < k))).getLast? =
      (if 0 < bsearchUpper (ls.map (·.time)) (k - 1)
        then ls[bsearchUpper (ls.map (·.time)) (k - 1) - 1]? else none) := by
  induction ls with
  | nil => simp [bsearchUpper]
  | cons x xs ih =>
    have hs' : LeapsSorted xs := (List.pairwise_cons.mp hs).2
    have hx := (List.pairwise_cons.mp hs).1
    have hb : bsearchUpper ((x :: xs).map (·.time)) (k - 1)
        = if x.time ≤ k - 1 then bsearchUpper (xs.map (·.time)) (k - 1) + 1 else 0 := by
      simp only [bsearchUpper, List.map_cons, List.takeWhile_cons]
      by_cases c : x.time ≤ k - 1 <;> simp [c]
    rw [hb]
    by_cases c : x.time < k
    · have c' : x.time ≤ k - 1 := by omega
      simp only [List.filter_cons, c, decide_true, if_true, c']
      rw [List.getLast?_cons, ih hs']
      have hle := bsearch_le_len (xs.map (·.time)) (k - 1)
      simp only [List.length_map] at hle
      by_cases g : 0 < bsearchUpper (xs.map (·.time)) (k - 1)
      · have e : bsearchUpper (xs.map (·.time)) (k - 1) + 1 - 1
            = (bsearchUpper (xs.map (·.time)) (k - 1) - 1) + 1 := by omega
        have hlt : bsearchUpper (xs.map (·.time)) (k - 1) - 1 < xs.length := by omega
        simp only [g, if_true, e, List.getElem?_cons_succ, List.getElem?_eq_getElem hlt,
          Option.getD_some, Nat.zero_lt_succ]
      · have g0 : bsearchUpper (xs.map (·.time)) (k - 1) = 0 := by omega
        simp [g0]
    · have c' : ¬ x.time ≤ k - 1 := by omega
      rw [filter_nil_of_ge]
      · simp [c']
      · intro l hl
        rcases List.mem_cons.mp hl with e | e
        · subst e; omega
        · have := hx l e; omega

theorem ulttut_val (leaps : List LeapSecond) (t : Int) (ht : I64r t) (hs : LeapsSorted leaps) :
    unix_leap_time_to_unix_time leaps t = toP (leapToUnix leaps t) := by
  unfold unix_leap_time_to_unix_time leapToUnix
  unfold I64r at ht
  by_cases g : t = I64_MIN
  · rw [if_pos g, if_pos g]; rfl
  · rw [if_neg g, if_neg g]
    have g' := g
    simp only [I64_MIN] at g'
    rw [ck64_ok (by omega) (by omega)]
    simp only [P.bind_ok]
    unfold leapCorrBefore
    rw [leap_last leaps t hs]
    have hle := bsearch_le_len (leaps.map (·.time)) (t - 1)
    simp only [List.length_map] at hle
    generalize bsearchUpper (leaps.map (·.time)) (t - 1) = idx at hle ⊢
    by_cases c : idx > 0
    · have c2 : 0 < idx := c
      have hlt : idx - 1 < leaps.length := by omega
      rw [if_pos c, if_pos c2, List.getElem?_eq_getElem hlt]
      simp only [P.bind_ok]
      cases optI64 (t - leaps[idx - 1].corr) <;> rfl
    · have c2 : ¬ 0 < idx := c
      rw [if_neg c, if_neg c2]
      simp only [P.bind_ok]
      cases optI64 (t - 0) <;> rfl

theorem satI64_gt (d : Int) (h : M.Tz.satI64 d ≥ Extracted.TzP.SECONDS_PER_28_DAYS - 1) : 0 < d := by
  have k : Extracted.TzP.SECONDS_PER_28_DAYS = 2419200 := rfl
  unfold M.Tz.satI64 at h
  simp only [I64_MAX, I64_MIN, k] at h
  omega

theorem checkLeapPairs_sorted (ls : List LeapSecond) (h : checkLeapPairs ls = true) : LeapsSorted ls := by
  induction ls with
  | nil => exact List.Pairwise.nil
  | cons x0 rest ih =>
    simp only [checkLeapPairs, Bool.and_eq_true] at h
    have hr := ih h.2
    refine List.pairwise_cons.mpr ⟨?_, hr⟩
    cases rest with
    | nil => intro y hy; cases hy
    | cons x1 r2 =>
      have h1 := h.1
      simp only [Bool.and_eq_true, decide_eq_true_eq] at h1
      have lt01 : x0.time < x1.time := by have := satI64_gt _ h1.1; omega
      intro y hy
      rcases List.mem_cons.mp hy with e | e
      · subst e; exact lt01
      · have := (List.pairwise_cons.mp hr).1 y e; omega

theorem checkLeaps_sorted (ls : List LeapSecond) (h : checkLeaps ls = true) : LeapsSorted ls := by
  unfold checkLeaps at h
  simp only [Bool.and_eq_true] at h
  exact checkLeapPairs_sorted ls h.2

/-! ### `validate` -/

theorem ltt_check_iff (a b : Ltt) :
    (a.off == b.off && a.dst == b.dst && nameEq a.name b.name) = true ↔ a = b := by
  obtain ⟨ao, ad, an⟩ := a
  obtain ⟨bo, bd, bn⟩ := b
  simp only [Bool.and_eq_true, beq_iff_eq, Ltt.mk.injEq]
  have hn : nameEq an bn = true ↔ an = bn := by
    cases an <;> cases bn <;> simp [nameEq]
  rw [hn, and_assoc]

theorem toP_ok {α} {o : Option α} {a : α} : toP o = .ok a ↔ o = some a := by
  cases o <;> simp [toP]

/-- the rule/transition part of `validate`, given the structural checks -/
theorem agree_core (leaps : List LeapSecond) (rule : Rule) (lastTime : Int) (lt : Ltt)
    (ht : I64r lastTime) (hr : RuleV rule) (hl : checkLeaps leaps = true) :
    (unix_leap_time_to_unix_time leaps lastTime >>= fun unix_time =>
      rule.find_ltt_for_validate unix_time >>= fun rule_ltt =>
      if lt.off == rule_ltt.off && lt.dst == rule_ltt.dst && nameEq lt.name rule_ltt.name
      then P.ok () else P.err) = P.ok () ↔
    ∃ ut, leapToUnix leaps lastTime = some ut ∧ rule.find_local_time_type ut = some lt := by
  rw [ulttut_val _ _ ht (checkLeaps_sorted _ hl)]
  cases hu : leapToUnix leaps lastTime with
  | none =>
    simp only [toP, P.bind_err]
    constructor
    · intro h; cases h
    · rintro ⟨ut', h1, -⟩; cases h1
  | some ut =>
    simp only [toP, P.bind_ok]
    rw [rule_find_val rule ut hr]
    cases hf : rule.find_local_time_type ut with
    | none =>
      simp only [toP, P.bind_err]
      constructor
      · intro h; cases h
      · rintro ⟨ut', h1, h3⟩
        cases h1
        rw [hf] at h3; cases h3
    | some rl =>
      simp only [toP, P.bind_ok]
      constructor
      · intro h
        split at h
        · rename_i c
          exact ⟨ut, rfl, by rw [hf, (ltt_check_iff _ _).mp c]⟩
        · cases h
      · rintro ⟨ut', h1, h3⟩
        cases h1
        rw [hf] at h3; cases h3
        rw [if_pos ((ltt_check_iff _ _).mpr rfl)]

/-- `TimeZone::validate` characterised: it accepts exactly the zones with at least one local time
type, strictly increasing transitions, type indices in range, a leap-second table meeting its
constraints, and whose rule agrees with the last transition (`RuleAgrees`).  Hypotheses: what the Rust
types guarantee of a constructed `TimeZone` (transition times are `i64`; a rule is one the constructors
`from_tz_string` goes through can build). -/
theorem validate_iff' (z : Zone) (ht : ∀ t ∈ z.transitions, I64r t.time)
    (hr : ∀ r, z.rule = some r → RuleV r) :
    validate z = .ok () ↔
      (z.types ≠ [] ∧ SortedStrict z.transitions ∧ (∀ t ∈ z.transitions, t.idx < z.types.length)
        ∧ checkLeaps z.leaps = true ∧ RuleAgrees z) := by
  unfold validate
  by_cases g0 : z.types.length = 0
  · rw [if_pos g0]
    constructor
    · intro h; cases h
    · rintro ⟨h, -⟩; exact absurd (List.eq_nil_of_length_eq_zero g0) h
  · rw [if_neg g0]
    have hne : z.types ≠ [] := by intro h; apply g0; rw [h]; rfl
    by_cases g1 : checkTransitions z.types.length z.transitions = true
    · rw [if_neg (by simp [g1])]
      have hv := checkTransitions_spec _ _ g1
      by_cases g2 : checkLeaps z.leaps = true
      · rw [if_neg (by simp [g2])]
        suffices hh : _ ↔ RuleAgrees z from
          hh.trans ⟨fun h => ⟨hne, hv.1, hv.2, g2, h⟩, fun h => h.2.2.2.2⟩
        unfold RuleAgrees
        cases hrule : z.rule with
        | none => simp
        | some rule =>
          cases hlast : z.transitions.getLast? with
          | none => simp
          | some last =>
            have hmem : last ∈ z.transitions := List.mem_of_getLast? hlast
            have hi := hv.2 last hmem
            simp only [List.getElem?_eq_getElem hi, P.bind_ok]
            refine (agree_core z.leaps rule last.time z.types[last.idx] (ht last hmem)
              (hr rule hrule) g2).trans ⟨?_, ?_⟩
            · rintro ⟨ut, h1, h2⟩ rule' last' e1 e2
              cases e1; cases e2
              exact ⟨ut, _, h1, List.getElem?_eq_getElem hi, h2⟩
            · intro h
              obtain ⟨ut, t, h1, h2, h3⟩ := h rule last rfl rfl
              rw [List.getElem?_eq_getElem hi] at h2
              cases h2
              exact ⟨ut, h1, h3⟩
      · rw [if_pos (by simp [g2])]
        constructor
        · intro h; cases h
        · rintro ⟨-, -, -, h, -⟩; exact absurd h g2
    · rw [if_pos (by simp [g1])]
      constructor
      · intro h; cases h
      · rintro ⟨-, h1, h2, -, -⟩; exact absurd (checkTransitions_of _ _ h1 h2) g1

/-! ### through C05's specification of a rule -/

theorem dayOk_validDay (d : RuleDay) : DayOk d ↔ TzL.ValidDay d := by
  cases d <;> exact Iff.rfl

/-- C05: under its restriction on rules (`TzL.RuleOk`: transitions more than a day inside the year)
and within ±2^55 s, the rule lookup is the specification `ruleOff` -/
theorem rule_find_spec (r : Rule) (t : Int) (hr : TzL.RuleOk (some r))
    (h : -36028797018963968 ≤ t ∧ t ≤ 36028797018963968) :
    r.find_local_time_type t = some (Spec.Zone.ruleOff r t) := by
  cases r with
  | fixed l => rfl
  | alt a => exact TzL.alt_find_ruleOff a hr.1 hr.2.1 t hr.2.2 h

theorem leapToUnix_nil (t : Int) (ht : I64r t) (h : t ≠ I64_MIN) : leapToUnix [] t = some t := by
  unfold leapToUnix leapCorrBefore
  unfold I64r at ht
  rw [if_neg h]
  simp only [List.filter_nil, List.getLast?_nil, Int.sub_zero]
  unfold optI64 inI64
  have k1 : I64_MIN = -9223372036854775808 := rfl
  have k2 : I64_MAX = 9223372036854775807 := rfl
  refine ite_pos' _ _ ?_
  simp only [Bool.and_eq_true, decide_eq_true_eq]
  omega

/-! ### the round trip with `validate` replaced by what it means -/

theorem ruleOk_ruleV (ext : Bool) (r : Rule) (h : RuleOk ext r) : RuleV r := by
  have lv : ∀ (t : Ltt) (d : Bool), LttOk t d → LttV t ∧ LttN t d := by
    intro t d ht
    obtain ⟨h1, h2, h3, h4⟩ := ht
    refine ⟨⟨by omega, by omega⟩, h1, ?_⟩
    cases hn : t.name with
    | none => rw [hn] at h2; exact h2.elim
    | some n => rw [hn] at h2; exact ⟨n, rfl, h2⟩
  have tv : ∀ t, TimeOk ext t → TimeV t := by
    intro t ht
    unfold TimeOk at ht
    unfold TimeV
    cases ext
    · have := ht.2 rfl; omega
    · exact ht.1 rfl
  cases r with
  | fixed t => exact lv t false h
  | alt a =>
    obtain ⟨h1, h2, h3, h4, h5, h6⟩ := h
    exact ⟨(lv _ _ h1).1, (lv _ _ h2).1, h3, h4, tv _ h5, tv _ h6, (lv _ _ h1).2, (lv _ _ h2).2⟩

theorem abs_times_i64 (v : Version) (ts : Nat) (b : Block) (rule : Option Rule)
    (h : ∀ t ∈ b.trans, TimeFits v ts t.1) : ∀ t ∈ (absBlock b rule).transitions, I64r t.time := by
  intro t ht
  simp only [absBlock, List.mem_map] at ht
  obtain ⟨p, hp, rfl⟩ := ht
  rcases h p hp with ⟨-, -, h32⟩ | ⟨-, -, h64⟩
  · unfold I32r at h32; unfold I64r; dsimp only; omega
  · exact h64

theorem abs_types_ne (b : Block) (rule : Option Rule) (hs : BlockShape b) : (absBlock b rule).types ≠ [] := by
  intro e
  have : b.types.length = 0 := by
    simp only [absBlock] at e
    simpa using congrArg List.length e
  exact hs.ty0 this

/-- the rule an admissible footer stands for is one `from_tz_string` builds -/
theorem footerOk_ruleV {v : Version} {footer : List Nat} {rule : Option Rule}
    (hfoot : FooterOk v footer rule) : ∀ r, rule = some r → RuleV r := by
  intro r hr
  rcases hfoot with ⟨-, e⟩ | ⟨r', e, hden⟩
  · rw [e] at hr; cases hr
  · rw [e] at hr; cases hr
    exact post_spec (post_from_tz_string _ _) (tz_accepts_all' _ _ _ hden)

theorem validate_abs (v : Version) (b : Block) (rule : Option Rule) (hs : BlockShape b)
    (hv : BlockVals v 8 b) (hfoot : ∀ r, rule = some r → RuleV r)
    (h1 : SortedStrict (absBlock b rule).transitions)
    (h2 : ∀ t ∈ (absBlock b rule).transitions, t.idx < (absBlock b rule).types.length)
    (h3 : checkLeaps (absBlock b rule).leaps = true) (h4 : RuleAgrees (absBlock b rule)) :
    validate (absBlock b rule) = .ok () :=
  (validate_iff' _ (abs_times_i64 _ _ _ rule hv.trans) hfoot).mpr
    ⟨abs_types_ne b rule hs, h1, h2, h3, h4⟩

/-! ### what the parser guarantees of an accepted zone (for C05's lookup theorems) -/

/-- everything `parse` establishes about the zone it returns -/
def Accepted (z : Zone) : Prop :=
  validate z = .ok () ∧ (∀ t ∈ z.transitions, I64r t.time) ∧ (∀ t ∈ z.types, LttOkZ t)
    ∧ (∀ x ∈ z.leaps, LeapOkZ x) ∧ (∀ r, z.rule = some r → RuleV r)

theorem post_parse_accepted (bytes : List Nat) : Post (parse bytes) Accepted := by
  unfold parse
  refine post_bind (post_parseBlocks bytes) ?_
  rintro ⟨st, footer⟩ - hs
  dsimp only at hs ⊢
  unfold parseRest
  have hts : st.time_size = 4 ∨ st.time_size = 8 := by
    rcases hs with h | h
    · exact Or.inl (by simpa using h.2.1)
    · exact Or.inr (by simpa using h.2.1)
  have hh : HeaderV st.header ∧ st.names.length = st.header.char_count := by
    rcases hs with h | h <;> exact ⟨h.1, h.2.2.2.2.2.1⟩
  obtain ⟨hhv, hnames⟩ := hh
  refine post_bind (post_parseTransitions _ _ (by omega) _ ?_) ?_
  · rintro ⟨a, ty⟩ hp
    exact chunks_exact_len _ _ a (List.of_mem_zip hp).1
  · intro tr _ htr
    refine post_bind (post_parseTypes _ _ hnames hhv.2.2.2.2.2.1 _ (chunks_exact_len 6 _)) ?_
    intro ty _ ⟨_, hty⟩
    refine post_bind (post_parseLeaps _ _ hts _ (chunks_exact_len _ _)) ?_
    intro lp _ hlp
    split
    · exact post_err
    · refine post_bind (Q := fun r => ∀ x, r = some x → RuleV x) ?_ ?_
      · cases footer with
        | none => exact post_ok (by simp)
        | some f => exact post_parseFooter _ _
      · intro r _ hr
        unfold Zone.new
        have hp := post_validate ⟨tr, ty, lp, r⟩ htr hr
        cases hval : validate ⟨tr, ty, lp, r⟩ with
        | ok u => exact post_ok ⟨by cases u; exact hval, htr, hty, hlp, hr⟩
        | err => exact post_err
        | panic => rw [hval] at hp; exact hp.elim

theorem sortedStrict_pairwise (l : List Transition) (h : SortedStrict l) : TzL.Sorted l := by
  unfold TzL.Sorted
  induction l with
  | nil => exact List.Pairwise.nil
  | cons a rest ih =>
    cases rest with
    | nil => exact List.pairwise_cons.mpr ⟨fun y hy => (by cases hy), List.Pairwise.nil⟩
    | cons b r2 =>
      obtain ⟨hab, hs⟩ := h
      have hr := ih hs
      refine List.pairwise_cons.mpr ⟨?_, hr⟩
      intro y hy
      rcases List.mem_cons.mp hy with e | e
      · subst e; exact hab
      · have := (List.pairwise_cons.mp hr).1 y e; omega

theorem parsed_zone_wellformed' (bytes : List Nat) (z : Zone) (h : parse bytes = .ok z) :
    Spec.Zone.Valid z ∧ TzL.Sorted z.transitions
      ∧ (∀ i, -2147483648 ≤ (M.TzL.typeAt z i).off ∧ (M.TzL.typeAt z i).off ≤ 2147483647)
      ∧ (∀ t ∈ z.transitions, I64r t.time)
      ∧ (∀ a, z.rule = some (.alt a) → TzL.ValidDay a.dstStart ∧ TzL.ValidDay a.dstEnd)
      ∧ LeapsSorted z.leaps ∧ RuleAgrees z := by
  obtain ⟨hval, htr, hty, -, hr⟩ := post_spec (post_parse_accepted bytes) h
  obtain ⟨v0, v1, v2, v3, v4⟩ := (validate_iff' z htr hr).mp hval
  have hs := sortedStrict_pairwise _ v1
  refine ⟨⟨v0, v2, hs⟩, hs, ?_, htr, ?_, checkLeaps_sorted _ v3, v4⟩
  · intro i
    unfold M.TzL.typeAt
    by_cases c : i < z.types.length
    · have e : z.types.getD i default = z.types[i] := by simp [List.getD, List.getElem?_eq_getElem c]
      rw [e]
      exact (hty _ (List.getElem_mem c)).1
    · have e : z.types.getD i default = default := by
        simp [List.getD, List.getElem?_eq_none (by omega : z.types.length ≤ i)]
      rw [e]
      exact ⟨(by decide), (by decide)⟩
  · intro a ha
    obtain ⟨-, -, d1, d2, -⟩ := hr _ ha
    exact ⟨(dayOk_validDay _).mp d1, (dayOk_validDay _).mp d2⟩

/-- `sampleV2`'s zone with the last transition (mid-November) switching to DAYLIGHT time: the footer
rule `EST5EDT,M3.2.0,M11.1.0` disagrees -/
def sampleBadZone : Zone :=
  absBlock { sampleV2.v2 with trans := [(1000000000, 1), (1700000000, 1)] } (some sampleRule2)

/-- the leap-second records of an accepted zone fit their fields -/
theorem post_parse_leaps (bytes : List Nat) : Post (parse bytes) (fun z => ∀ x ∈ z.leaps, LeapOkZ x) :=
  post_mono (post_parse_accepted bytes) fun _ h => h.2.2.2.1

end Chrono.Proofs.TzValid
