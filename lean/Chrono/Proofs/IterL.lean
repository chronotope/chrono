/- Helper lemmas for C03: the day and week iterators as instances of one stepping iterator (`StepsBy`),
   whose drains are counted by `stepsFit`; operator forms; zone-aware wrappers. -/
import Chrono.Proofs.DateTimeArithL

namespace Chrono.Proofs
open Chrono Chrono.M Chrono.Spec Chrono.Extracted

theorem ends_inv : DateInv Date.MIN ∧ DateInv Date.MAX ∧ dayNumOf Date.MIN = -95746129 ∧
    dayNumOf Date.MAX = 95745399 := by decide

theorem succ_shift (v : Date) (hv : DateInv v) : ∃ r, Date.succ_opt v = .ok r ∧ IsDayShift v 1 r := by
  obtain ⟨y, o, rfl, hy, ho, hdn⟩ := inv_yo v hv
  obtain ⟨r, h1, h2, h3⟩ := succ_ok' y o hy ho
  have hb := dn_range _ hv
  refine ⟨r, h1, ?_, fun d hd => ?_⟩
  · -- refused exactly at `MAX`, the one valid date with day number `DN_MAX`
    rw [h2]
    unfold DN_MIN DN_MAX at *
    constructor
    · intro h; rw [h]; omega
    · intro h; exact dayNum_inj _ _ hv ends_inv.2.1 (by omega)
  · obtain ⟨y', o', e, b1, b2, b3, b4, b5, _⟩ := h3 d hd
    exact inv_of_yo_ex ⟨y', o', e, b1, b2, b3, b4, by rw [hdn]; exact b5⟩

theorem pred_shift (v : Date) (hv : DateInv v) : ∃ r, Date.pred_opt v = .ok r ∧ IsDayShift v (-1) r := by
  obtain ⟨y, o, rfl, hy, ho, hdn⟩ := inv_yo v hv
  obtain ⟨r, h1, h2, h3⟩ := pred_ok' y o hy ho
  have hb := dn_range _ hv
  refine ⟨r, h1, ?_, fun d hd => ?_⟩
  · rw [h2]
    unfold DN_MIN DN_MAX at *
    constructor
    · intro h; rw [h]; omega
    · intro h; exact dayNum_inj _ _ hv ends_inv.1 (by omega)
  · obtain ⟨y', o', e, b1, b2, b3, b4, b5⟩ := h3 d hd
    exact inv_of_yo_ex ⟨y', o', e, b1, b2, b3, b4, by rw [hdn]; omega⟩

/-- a step function that yields the current value and moves by `s` days -/
def StepsBy (next : Date → Res (Option (Date × Date))) (s : Int) : Prop :=
  ∀ v, DateInv v → ∃ r, IsDayShift v s r ∧ next v = .ok (r.map fun n => (v, n))

variable {next : Date → Res (Option (Date × Date))} {s : Int}

theorem step_total (hst : StepsBy next s)
    (v : Date) (hv : DateInv v) :
    next v = .ok none ∨ ∃ v', next v = .ok (some (v, v')) := by
  obtain ⟨r, _, hn⟩ := hst v hv
  cases r with
  | none => left; exact hn
  | some n => right; exact ⟨n, hn⟩

theorem step_some (hst : StepsBy next s)
    (v item v' : Date) (hv : DateInv v) (h : next v = .ok (some (item, v'))) :
    item = v ∧ DateInv v' ∧ dayNumOf v' = dayNumOf v + s := by
  obtain ⟨r, hr, hn⟩ := hst v hv
  rw [hn] at h
  cases r with
  | none => cases h
  | some n =>
    simp only [Option.map, Res.ok.injEq, Option.some.injEq, Prod.mk.injEq] at h
    obtain ⟨h1, h2⟩ := h
    subst h1; subst h2
    exact ⟨rfl, hr.2 n rfl⟩

theorem step_none (hst : StepsBy next s)
    (v : Date) (hv : DateInv v) :
    next v = .ok none ↔ (dayNumOf v + s < DN_MIN ∨ DN_MAX < dayNumOf v + s) := by
  obtain ⟨r, hr, hn⟩ := hst v hv
  rw [hn, ← hr.1]
  cases r <;> simp

theorem days_next_steps : StepsBy DaysIter.next 1 := by
  intro v hv
  obtain ⟨r, h1, h2⟩ := succ_shift v hv
  refine ⟨r, h2, ?_⟩
  unfold DaysIter.next; rw [h1]; cases r <;> rfl

theorem days_back_steps : StepsBy DaysIter.next_back (-1) := by
  intro v hv
  obtain ⟨r, h1, h2⟩ := pred_shift v hv
  refine ⟨r, h2, ?_⟩
  unfold DaysIter.next_back; rw [h1]; cases r <;> rfl

theorem weeks_next_steps : StepsBy WeeksIter.next 7 := by
  intro v hv
  obtain ⟨r, h1, h2⟩ := checked_add_days_spec v 7 hv (by omega)
  refine ⟨r, h2, ?_⟩
  unfold WeeksIter.next; rw [h1]; cases r <;> rfl

theorem weeks_back_steps : StepsBy WeeksIter.next_back (-7) := by
  intro v hv
  obtain ⟨r, h1, h2⟩ := checked_sub_days_spec v 7 hv (by omega)
  refine ⟨r, h2, ?_⟩
  unfold WeeksIter.next_back; rw [h1]; cases r <;> rfl

theorem stepsFit_eq (n : Int) : stepsFit n 1 = DN_MAX - n ∧ stepsFit n 7 = (DN_MAX - n) / 7 ∧
    stepsFit n (-1) = n - DN_MIN ∧ stepsFit n (-7) = (n - DN_MIN) / 7 := by
  unfold stepsFit
  refine ⟨?_, ?_, ?_, ?_⟩ <;> simp

/-- `stepsFit` counts the steps by recursion on the cursor: from inside the range it is `0` exactly
when the first step already leaves the range, and one step uses up one -/
theorem stepsFit_rec (n s : Int) (hs : s ≠ 0) (hn : DN_MIN ≤ n ∧ n ≤ DN_MAX) :
    0 ≤ stepsFit n s ∧ (stepsFit n s = 0 ↔ (n + s < DN_MIN ∨ DN_MAX < n + s)) ∧
    stepsFit (n + s) s = stepsFit n s - 1 := by
  have key : ∀ d t : Int, 0 < t → 0 ≤ d → 0 ≤ d / t ∧ (d / t = 0 ↔ d < t) ∧ (d - t) / t = d / t - 1 := by
    intro d t ht hd
    refine ⟨Int.ediv_nonneg hd (by omega), ⟨fun h => ?_, Int.ediv_eq_zero_of_lt hd⟩, ?_⟩
    · have := (Int.ediv_lt_iff_lt_mul ht (a := d) (b := 1)).mp (by omega)
      omega
    · have := Int.add_mul_ediv_right d (-1) (c := t) (by omega)
      rw [show d - t = d + -1 * t by omega]
      omega
  unfold stepsFit
  by_cases h : s > 0
  · simp only [if_pos h]
    obtain ⟨k1, k2, k3⟩ := key (DN_MAX - n) s h (by omega)
    refine ⟨k1, by rw [k2]; omega, ?_⟩
    rw [show DN_MAX - (n + s) = DN_MAX - n - s by omega]
    exact k3
  · simp only [if_neg h]
    obtain ⟨k1, k2, k3⟩ := key (n - DN_MIN) (-s) (by omega) (by omega)
    refine ⟨k1, by rw [k2]; omega, ?_⟩
    rw [show n + s - DN_MIN = n - DN_MIN - -s by omega]
    exact k3

/-- `k` further steps fit exactly when the `k+1`-st lands inside the range -/
theorem lt_stepsFit_iff (n s : Int) (k : Nat) (hs : s ≠ 0) (hn : DN_MIN ≤ n ∧ n ≤ DN_MAX) :
    (k : Int) < stepsFit n s ↔ (DN_MIN ≤ n + k * s + s ∧ n + k * s + s ≤ DN_MAX) := by
  unfold stepsFit
  by_cases h : s > 0
  · rw [if_pos h]
    have hk := Int.mul_nonneg (Int.natCast_nonneg k) (Int.le_of_lt h)
    have := Int.le_ediv_iff_mul_le (a := (k : Int) + 1) (b := DN_MAX - n) h
    rw [Int.add_mul, Int.one_mul] at this
    omega
  · rw [if_neg h]
    have hk := Int.mul_nonneg (Int.natCast_nonneg k) (show 0 ≤ -s by omega)
    have := Int.le_ediv_iff_mul_le (a := (k : Int) + 1) (b := n - DN_MIN) (c := -s) (by omega)
    rw [Int.add_mul, Int.one_mul] at this
    rw [Int.mul_neg] at this hk
    omega

/-- draining any stepping iterator: as many items as fit (or as there is fuel for), the `k`-th one
`k` steps from the start; exhaustion is reported iff the fuel outlasts them -/
theorem drain_spec (hs : s ≠ 0)
    (hst : StepsBy next s) :
    ∀ (fuel : Nat) (start : Date), DateInv start →
      ∃ items fin, drain next fuel start = .ok (items, fin) ∧
        (items.length : Int) = min (fuel : Int) (stepsFit (dayNumOf start) s) ∧
        (fin = true ↔ stepsFit (dayNumOf start) s < fuel) ∧
        ∀ (k : Nat) (hk : k < items.length),
          DateInv items[k] ∧ dayNumOf items[k] = dayNumOf start + k * s := by
  intro fuel
  induction fuel with
  | zero =>
    intro start hv
    obtain ⟨f0, _, _⟩ := stepsFit_rec (dayNumOf start) s hs (dn_range start hv)
    refine ⟨[], false, rfl, ?_, ⟨fun h => (nomatch h), fun h => ?_⟩, fun k hk => (nomatch hk)⟩
    · simp only [List.length_nil]; omega
    · omega
  | succ fuel ih =>
    intro start hv
    obtain ⟨f0, f1, f2⟩ := stepsFit_rec (dayNumOf start) s hs (dn_range start hv)
    rcases step_total hst start hv with hn | ⟨n, hn⟩
    · have hz := f1.mpr ((step_none hst start hv).mp hn)
      refine ⟨[], true, by unfold drain; rw [hn], ?_, ⟨fun _ => ?_, fun _ => rfl⟩, fun k hk => (nomatch hk)⟩
      · simp only [List.length_nil]; omega
      · omega
    · obtain ⟨_, hin, hdn⟩ := step_some hst start start n hv hn
      obtain ⟨items, fin, h0, h1, h2, h3⟩ := ih n hin
      rw [hdn, f2] at h1 h2
      refine ⟨start :: items, fin, by unfold drain; rw [hn]; dsimp only; rw [h0], ?_, ?_, ?_⟩
      · simp only [List.length_cons]; omega
      · rw [h2]; omega
      · intro k hk
        cases k with
        | zero => exact ⟨hv, by simp⟩
        | succ k =>
          obtain ⟨q1, q2⟩ := h3 k (by simpa using hk)
          refine ⟨q1, ?_⟩
          simp only [List.getElem_cons_succ]
          rw [q2, hdn]
          push_cast
          rw [Int.add_mul]
          omega

/-- a first call that is refused ends the drain at once -/
theorem drain_refused (hst : StepsBy next s)
    (v : Date) (hv : DateInv v) (fuel : Nat)
    (hout : dayNumOf v + s < DN_MIN ∨ DN_MAX < dayNumOf v + s) :
    drain next (fuel + 1) v = .ok ([], true) := by
  unfold drain
  rw [(step_none hst v hv).mpr hout]

/-- a date is handed out only when the step beyond it still fits (`next` advances the cursor before
it returns the old one): the last date in the direction of travel is never handed out -/
theorem drain_items_fit (hs : s ≠ 0) (hst : StepsBy next s) (fuel : Nat) (v : Date) (items : List Date)
    (fin : Bool) (hv : DateInv v) (hd : drain next fuel v = .ok (items, fin)) (x : Date) (hx : x ∈ items) :
    DN_MIN ≤ dayNumOf x + s ∧ dayNumOf x + s ≤ DN_MAX := by
  obtain ⟨items', fin', a, b, _, d⟩ := drain_spec hs hst fuel v hv
  rw [hd] at a
  cases a
  obtain ⟨k, hk, e⟩ := List.mem_iff_getElem.mp hx
  rw [← e, (d k hk).2]
  exact (lt_stepsFit_iff _ s k hs (dn_range v hv)).mp (by omega)

/-- a list of valid dates whose `k`-th entry has day number `n0 + k·s` contains exactly the valid
dates on that progression below its length -/
theorem progression_mem (items : List Date) (n0 s : Int)
    (d : ∀ (k : Nat) (hk : k < items.length), DateInv items[k] ∧ dayNumOf items[k] = n0 + k * s)
    (x : Date) :
    x ∈ items ↔ DateInv x ∧ ∃ k : Nat, k < items.length ∧ dayNumOf x = n0 + k * s := by
  constructor
  · intro hm
    obtain ⟨k, hk, e⟩ := List.mem_iff_getElem.mp hm
    obtain ⟨d1, d2⟩ := d k hk
    rw [e] at d1 d2
    exact ⟨d1, k, hk, d2⟩
  · rintro ⟨hx, k, hk, e⟩
    obtain ⟨d1, d2⟩ := d k hk
    have : items[k] = x := dayNum_inj _ _ d1 hx (by rw [d2, e])
    rw [← this]
    exact List.getElem_mem hk

/-- a drain that has reported exhaustion has taken every step that fits -/
theorem drain_done (hs : s ≠ 0)
    (hst : StepsBy next s) (fuel : Nat) (v : Date) (hv : DateInv v) (items : List Date)
    (hd : drain next fuel v = .ok (items, true)) : (items.length : Int) = stepsFit (dayNumOf v) s := by
  obtain ⟨items', fin, a, b, c, _⟩ := drain_spec hs hst fuel v hv
  rw [hd] at a
  cases a
  have := c.mp rfl
  omega

/-- a drain that runs to exhaustion: its length; it hands out exactly the valid dates that lie a whole
number of steps from the start and still have a step in front of them; its last date is one step
short of the number that fit -/
theorem drain_complete (hs : s ≠ 0) (hst : StepsBy next s) (fuel : Nat) (v : Date) (hv : DateInv v)
    (hf : stepsFit (dayNumOf v) s < fuel) :
    ∃ items, drain next fuel v = .ok (items, true) ∧ (items.length : Int) = stepsFit (dayNumOf v) s ∧
      (∀ x, x ∈ items ↔ DateInv x ∧ (∃ k : Nat, dayNumOf x = dayNumOf v + k * s) ∧
        DN_MIN ≤ dayNumOf x + s ∧ dayNumOf x + s ≤ DN_MAX) ∧
      ∀ (hne : items ≠ []), DateInv (items.getLast hne) ∧
        dayNumOf (items.getLast hne) = dayNumOf v + (stepsFit (dayNumOf v) s - 1) * s := by
  obtain ⟨items, fin, a, b, c, d⟩ := drain_spec hs hst fuel v hv
  have hfin : fin = true := c.mpr hf
  subst hfin
  have hl : (items.length : Int) = stepsFit (dayNumOf v) s := by omega
  refine ⟨items, a, hl, fun x => ?_, fun hne => ?_⟩
  · rw [progression_mem items (dayNumOf v) s d x]
    constructor
    · rintro ⟨hx, k, hk, e⟩
      rw [e]
      exact ⟨hx, ⟨k, rfl⟩, (lt_stepsFit_iff _ s k hs (dn_range v hv)).mp (by omega)⟩
    · rintro ⟨hx, ⟨k, e⟩, hfit⟩
      rw [e] at hfit
      have := (lt_stepsFit_iff _ s k hs (dn_range v hv)).mpr hfit
      exact ⟨hx, k, by omega, e⟩
  · have hpos : 0 < items.length := List.length_pos_iff.mpr hne
    rw [List.getLast_eq_getElem]
    obtain ⟨q1, q2⟩ := d (items.length - 1) (by omega)
    refine ⟨q1, ?_⟩
    rw [q2, ← hl, show ((items.length - 1 : Nat) : Int) = (items.length : Int) - 1 by omega]

/-! ### length hints -/

/-- what one call does to the number of steps that fit in its direction: a successful call returns
the cursor, moves it and uses up one step; a call is refused exactly when no step fits -/
theorem hint_step (hs : s ≠ 0) (hst : StepsBy next s)
    (v : Date) (hv : DateInv v) :
    (∀ item v', next v = .ok (some (item, v')) → item = v ∧ DateInv v' ∧ dayNumOf v' = dayNumOf v + s ∧
      stepsFit (dayNumOf v') s = stepsFit (dayNumOf v) s - 1) ∧
    (next v = .ok none ↔ stepsFit (dayNumOf v) s = 0) := by
  obtain ⟨_, f1, f2⟩ := stepsFit_rec (dayNumOf v) s hs (dn_range v hv)
  refine ⟨fun item v' h => ?_, by rw [step_none hst v hv, f1]⟩
  obtain ⟨e, hi, hd⟩ := step_some hst v item v' hv h
  exact ⟨e, hi, hd, by rw [hd, f2]⟩

theorem size_hint_spec (v : Date) (hv : DateInv v) :
    DaysIter.size_hint v = .ok (stepsFit (dayNumOf v) 1) ∧
    WeeksIter.size_hint v = .ok (stepsFit (dayNumOf v) 7) := by
  obtain ⟨_, e2, _, e4⟩ := ends_inv
  obtain ⟨f1, f2, _, _⟩ := stepsFit_eq (dayNumOf v)
  have c2 : DN_MAX = 95745399 := dn_consts.2.1
  have hb := dn_bounds v hv
  obtain ⟨d1, d2, d3⟩ := date_diff_spec Date.MAX v e2 hv
  have hN : NS_PER_DAY = 86400000000000 := rfl
  have hacc := accessors_spec' _ d2
  unfold DaysIter.size_hint WeeksIter.size_hint
  rw [d1]
  dsimp only
  rw [hacc.2.2.2.2.2.2.2.1, hacc.2.2.2.2.2.2.2.2.1, d3, f1, f2, c2, e4, hN]
  constructor
  · congr 1; rw [tdiv_eq]; split <;> omega
  · congr 1; rw [tdiv_eq]; split <;> omega

/-! ### operator forms -/

theorem expectSome_iff {α} (r : Res (Option α)) (x : α) : expectSome r = .ok x ↔ r = .ok (some x) := by
  cases r with
  | panic => exact ⟨nofun, nofun⟩
  | ok o => cases o <;> simp [expectSome]

theorem expectSome_panic {α} (r : Res (Option α)) : expectSome r = .panic ↔ (r = .ok none ∨ r = .panic) := by
  cases r with
  | panic => exact ⟨fun _ => .inr rfl, fun _ => rfl⟩
  | ok o => cases o <;> simp [expectSome]

/-! ### subtraction is addition of the negated duration (leap-second operands included) -/

theorem general_unique (d : Date) (k : Int) (t : Time) (r r' : Option NaiveDT)
    (h1 : IsDayShift d k (r.map (·.date))) (h2 : ∀ x, r = some x → x.time = t)
    (h1' : IsDayShift d k (r'.map (·.date))) (h2' : ∀ x, r' = some x → x.time = t) : r = r' := by
  have hu := dayShift_unique' d k _ _ h1 h1'
  cases r with
  | none => cases r' with
    | none => rfl
    | some x' => nomatch hu
  | some x => cases r' with
    | none => nomatch hu
    | some x' =>
      obtain ⟨xd, xt⟩ := x
      obtain ⟨xd', xt'⟩ := x'
      cases Option.some.inj hu
      rw [show xt = xt' from (h2 _ rfl).trans (h2' _ rfl).symm]

/-- the negated duration is again a duration -/
theorem neg_delta (δ : Delta) (hδ : DInv δ) : DInv (ofNs (-(ns δ))) ∧ ns (ofNs (-(ns δ))) = -(ns δ) := by
  apply ofNs_spec'
  have := hδ.2.2
  rw [nsInRange_iff] at *
  omega

theorem dt_sub_is_add_neg (dt : NaiveDT) (δ : Delta) (hdt : NDTInv dt) (hδ : DInv δ) :
    NaiveDT.checked_sub_signed dt δ = NaiveDT.checked_add_signed dt (ofNs (-(ns δ))) := by
  obtain ⟨hi, hn⟩ := neg_delta δ hδ
  obtain ⟨r, a0, a1, a2⟩ := dt_sub_general dt δ hdt hδ
  obtain ⟨r', b0, b1, b2⟩ := dt_add_general dt _ hdt hi
  rw [hn] at b1 b2
  rw [a0, b0, general_unique _ _ _ r r' a1 a2 b1 b2]

/-! ### zone-aware wrappers -/

theorem zoned_add_eq (z : Zoned) (δ : Delta) :
    Zoned.checked_add_signed z δ = (z.utc.checked_add_signed δ).bind fun r => .ok (r.map fun u => ⟨u, z.off⟩) := rfl
theorem zoned_sub_eq (z : Zoned) (δ : Delta) :
    Zoned.checked_sub_signed z δ = (z.utc.checked_sub_signed δ).bind fun r => .ok (r.map fun u => ⟨u, z.off⟩) := rfl

end Chrono.Proofs
