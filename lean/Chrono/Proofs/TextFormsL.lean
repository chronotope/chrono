/-
  Helper lemmas for C09 (default text forms): the specification's digit strings (`decN`) against the
  writers' (`fmtInt`, `write_hundreds`), white space and literal items, the numeric items of the
  `FromStr` item lists, and the composition of the item lists.
-/
import Chrono.Model.TextForms
import Chrono.Spec.TextFormsSpec
import Chrono.Proofs.RenderScanL
import Chrono.Proofs.ParsedL
import Chrono.Proofs.DateL
namespace Chrono.Proofs.TextForms
open Chrono Chrono.M Chrono.M.Scan Chrono.M.Format Chrono.M.TextForms
open Chrono.Proofs.RenderScan Chrono.Spec Chrono.Spec.Text

/-! ### the specification's digit strings -/

theorem decN_length (w n : Nat) : (decN w n).length = w := by
  induction w generalizing n with
  | zero => rfl
  | succ w ih => simp [decN, ih]

theorem decN_allDigits (w n : Nat) : AllDigits (decN w n) := by
  induction w generalizing n with
  | zero => exact allDigits_nil
  | succ w ih =>
    unfold decN
    refine allDigits_append.mpr ⟨ih _, allDigits_cons.mpr ⟨?_, allDigits_nil⟩⟩
    rw [isDigit_iff]; omega

theorem decN_val (w n : Nat) : valOf (decN w n) = n % 10 ^ w := by
  induction w generalizing n with
  | zero => simp [decN, valOf, Nat.mod_one]
  | succ w ih =>
    unfold decN
    rw [valOf_append, ih]
    simp only [valOf, List.foldl_cons, List.foldl_nil, List.length_singleton, Nat.pow_one]
    rw [Nat.pow_succ, Nat.mul_comm (10 ^ w) 10, Nat.mod_mul]
    generalize n / 10 % 10 ^ w = q
    omega

/-- a digit string is determined by its length and its value -/
theorem digits_unique : ∀ (a b : List Nat), AllDigits a → AllDigits b → a.length = b.length →
    valOf a = valOf b → a = b := by
  intro a
  induction a with
  | nil => intro b _ _ hl _; cases b with
    | nil => rfl
    | cons _ _ => simp at hl
  | cons x xs ih =>
    intro b ha hb hl hv
    cases b with
    | nil => simp at hl
    | cons y ys =>
      obtain ⟨hx, hxs⟩ := allDigits_cons.mp ha
      obtain ⟨hy, hys⟩ := allDigits_cons.mp hb
      simp only [List.length_cons, Nat.add_right_cancel_iff] at hl
      rw [valOf_cons, valOf_cons, hl] at hv
      have b1 := valOf_lt xs hxs
      have b2 := valOf_lt ys hys
      rw [hl] at b1
      have dx := (isDigit_iff x).mp hx
      have dy := (isDigit_iff y).mp hy
      generalize 10 ^ ys.length = P at hv b1 b2
      have hxy : x - 48 = y - 48 := by
        rcases Nat.lt_trichotomy (x - 48) (y - 48) with h | h | h
        · exfalso
          have : (x - 48 + 1) * P ≤ (y - 48) * P := Nat.mul_le_mul_right _ h
          rw [Nat.add_mul] at this; omega
        · exact h
        · exfalso
          have : (y - 48 + 1) * P ≤ (x - 48) * P := Nat.mul_le_mul_right _ h
          rw [Nat.add_mul] at this; omega
      have hvv : valOf xs = valOf ys := by rw [hxy] at hv; omega
      rw [ih ys hxs hys hl hvv]
      congr 1; omega

theorem decN_two (n : Nat) (h : n < 100) : decN 2 n = two n := by
  simp only [decN, two, List.nil_append, List.cons_append]
  congr 2; omega

/-- `{:0w$}` of `0 ≤ v < 10^w` is the specification's `w`-digit string -/
theorem fmtInt_eq_decN (v : Int) (w : Nat) (h0 : 0 ≤ v) (hw : 1 ≤ w) (hlt : v < ((10 ^ w : Nat) : Int)) :
    fmtInt v w .zero false = decN w v.toNat := by
  obtain ⟨h1, h2, h3⟩ := fmtInt_pad_spec v w h0 hw hlt
  refine digits_unique _ _ h1 (decN_allDigits _ _) (by rw [h2, decN_length]) ?_
  rw [h3, decN_val, Nat.mod_eq_of_lt (by omega)]


/-! ### white space, literals -/

theorem trimStart_of_wsLen_zero (s : List Nat) (h : wsLen s = 0) : trimStart s = s := by
  unfold trimStart
  cases s.length with
  | zero => rfl
  | succ n => simp [trimStartAux, h]

/-- a printable ASCII byte is not white space -/
theorem wsLen_ascii (b : Nat) (rest : List Nat) (h1 : 33 ≤ b) (h2 : b < 128) : wsLen (b :: rest) = 0 := by
  unfold wsLen
  dsimp only
  rw [if_neg (by omega)]
  split <;> first | rfl | omega

theorem trimStart_ascii (b : Nat) (rest : List Nat) (h1 : 33 ≤ b) (h2 : b < 128) :
    trimStart (b :: rest) = b :: rest := trimStart_of_wsLen_zero _ (wsLen_ascii b rest h1 h2)

theorem trimStart_nil : trimStart [] = [] := rfl

/-- one space in front of text that does not start with white space -/
theorem trimStart_space (s : List Nat) (h : wsLen s = 0) : trimStart (32 :: s) = s := by
  have h1 : wsLen (32 :: s) = 1 := by simp [wsLen]
  unfold trimStart
  simp only [List.length_cons, trimStartAux, h1, List.drop_one, List.tail_cons]
  exact trimStart_of_wsLen_zero s h

theorem trimStart_two (v : Nat) (hv : v < 100) (rest : List Nat) : trimStart (two v ++ rest) = two v ++ rest := by
  unfold two
  exact trimStart_ascii _ _ (by omega) (by omega)

theorem parseLiteral_one (c : Nat) (rest : List Nat) : Parse.parseLiteral (c :: rest) [c] = .ok rest := by
  simp [Parse.parseLiteral]

/-! ### setters on an unset field -/

theorem set_year_new (p : Parsed) (h : p.year = none) (v : Int) (hv : -2147483648 ≤ v ∧ v ≤ 2147483647) :
    p.set_year v = .ok { p with year := some v } := by
  unfold Parsed.set_year Parsed.toI32 inI32 I32_MIN I32_MAX
  simp [h, hv.1, hv.2, Parsed.setIf, bind, Except.bind, pure, Except.pure]

theorem set_month_new (p : Parsed) (h : p.month = none) (v : Int) (hv : 1 ≤ v ∧ v ≤ 12) :
    p.set_month v = .ok { p with month := some v } := by
  unfold Parsed.set_month Parsed.inRange
  simp [h, hv.1, hv.2, Parsed.setIf, bind, Except.bind, pure, Except.pure]

theorem set_day_new (p : Parsed) (h : p.day = none) (v : Int) (hv : 1 ≤ v ∧ v ≤ 31) :
    p.set_day v = .ok { p with day := some v } := by
  unfold Parsed.set_day Parsed.inRange
  simp [h, hv.1, hv.2, Parsed.setIf, bind, Except.bind, pure, Except.pure]

theorem set_hour_new (p : Parsed) (h1 : p.hour_div_12 = none) (h2 : p.hour_mod_12 = none) (v : Int)
    (hv : 0 ≤ v ∧ v ≤ 23) :
    p.set_hour v = .ok { p with hour_div_12 := some (v / 12), hour_mod_12 := some (v % 12) } := by
  have e : (if v ≤ 11 then 0 else 1) = v / 12 ∧ (if v ≤ 11 then v else v - 12) = v % 12 := by omega
  rw [ParsedRes.set_hour_eq, if_pos hv, if_pos ⟨Or.inl h1, Or.inl h2⟩, e.1, e.2]

theorem set_minute_new (p : Parsed) (h : p.minute = none) (v : Int) (hv : 0 ≤ v ∧ v ≤ 59) :
    p.set_minute v = .ok { p with minute := some v } := by
  unfold Parsed.set_minute Parsed.inRange
  simp [h, hv.1, hv.2, Parsed.setIf, bind, Except.bind, pure, Except.pure]

theorem set_second_new (p : Parsed) (h : p.second = none) (v : Int) (hv : 0 ≤ v ∧ v ≤ 60) :
    p.set_second v = .ok { p with second := some v } := by
  unfold Parsed.set_second Parsed.inRange
  simp [h, hv.1, hv.2, Parsed.setIf, bind, Except.bind, pure, Except.pure]

theorem set_nanosecond_new (p : Parsed) (h : p.nanosecond = none) (v : Int) (hv : 0 ≤ v ∧ v ≤ 999999999) :
    p.set_nanosecond v = .ok { p with nanosecond := some v } := by
  unfold Parsed.set_nanosecond Parsed.inRange
  simp [h, hv.1, hv.2, Parsed.setIf, bind, Except.bind, pure, Except.pure]

theorem set_offset_new (p : Parsed) (h : p.offset = none) (v : Int) (hv : -2147483648 ≤ v ∧ v ≤ 2147483647) :
    p.set_offset v = .ok { p with offset := some v } := by
  unfold Parsed.set_offset Parsed.toI32 inI32 I32_MIN I32_MAX
  simp [h, hv.1, hv.2, Parsed.setIf, bind, Except.bind, pure, Except.pure]


/-! ### single items -/

theorem items_cons (p : Parsed) (s : List Nat) (it : Item) (rest : List Item) (p' : Parsed) (s' : List Nat)
    (h : Parse.parseItemBase p s it = .ok (p', s')) :
    Parse.parseItemsBase p s (it :: rest) = Parse.parseItemsBase p' s' rest := by
  simp [Parse.parseItemsBase, h]

theorem items_nil (p : Parsed) (s : List Nat) : Parse.parseItemsBase p s [] = .ok (p, s) := rfl

theorem items_append (p : Parsed) (s : List Nat) (a b : List Item) :
    Parse.parseItemsBase p s (a ++ b) =
      match Parse.parseItemsBase p s a with
      | .ok (p', s') => Parse.parseItemsBase p' s' b
      | .error e => .error e := by
  induction a generalizing p s with
  | nil => rfl
  | cons it a ih =>
    simp only [List.cons_append, Parse.parseItemsBase]
    cases Parse.parseItemBase p s it with
    | error e => rfl
    | ok r => exact ih r.1 r.2

theorem item_space (p : Parsed) (s : List Nat) : Parse.parseItemBase p s (.space []) = .ok (p, trimStart s) := rfl

theorem item_literal (p : Parsed) (c : Nat) (rest : List Nat) :
    Parse.parseItemBase p (c :: rest) (.literal [c]) = .ok (p, rest) := by
  simp [Parse.parseItemBase, parseLiteral_one, Except.map]

/-- `.space []` then a one-byte literal, on text that starts with that (printable ASCII) byte -/
theorem items_space_literal (p : Parsed) (c : Nat) (rest : List Nat) (items : List Item)
    (h1 : 33 ≤ c) (h2 : c < 128) :
    Parse.parseItemsBase p (c :: rest) (.space [] :: .literal [c] :: items) = Parse.parseItemsBase p rest items := by
  rw [items_cons _ _ _ _ _ _ (item_space p _), trimStart_ascii c rest h1 h2,
    items_cons _ _ _ _ _ _ (item_literal p c rest)]

theorem number_two_min1 (v : Nat) (hv : v < 100) (rest : List Nat) :
    number (two v ++ rest) 1 (some 2) = .ok (rest, (v : Int)) := by
  have := number_digits (two v) rest 1 (some 2) (allDigits_two v hv) (by simp [two])
    (by intro m hm; injection hm with hm; simp [two]; omega) (Or.inl rfl) (by simp [two])
  rwa [valOf_two v hv] at this

/-- a two-digit unsigned numeric item on its two digits -/
theorem item_two (p : Parsed) (n : Numeric) (set : Parsed → Int → PRes Parsed) (v : Nat) (hv : v < 100)
    (rest : List Nat) (p' : Parsed) (hspec : Parse.numericSpec n = (some 2, false, set))
    (hset : set p (v : Int) = .ok p') (pad : Pad) :
    Parse.parseItemBase p (two v ++ rest) (.numeric n pad) = .ok (p', rest) := by
  simp only [Parse.parseItemBase, Parse.parseNumeric, hspec, trimStart_two v hv rest,
    number_two_min1 v hv rest, Bool.false_eq_true, if_false, hset]

theorem number_decN (w n : Nat) (rest : List Nat) (min : Nat) (_hw1 : 1 ≤ w) (hw : w ≤ 18) (hn : n < 10 ^ w)
    (hmin : min ≤ w) (hr : NoDigitHead rest) :
    number (decN w n ++ rest) min none = .ok (rest, (n : Int)) := by
  have := number_digits (decN w n) rest min none (decN_allDigits w n) (by rw [decN_length]; exact hmin)
    (by intro m hm; cases hm) (Or.inr hr) (by rw [decN_length]; exact hw)
  rwa [decN_val, Nat.mod_eq_of_lt hn] at this

/-- the leading digit of a `w+1`-digit rendering -/
theorem decN_cons (w n : Nat) : ∃ tl, decN (w + 1) n = (48 + n / 10 ^ w % 10) :: tl := by
  induction w generalizing n with
  | zero => exact ⟨[], by simp [decN]⟩
  | succ w ih =>
    obtain ⟨tl, h⟩ := ih (n / 10)
    refine ⟨tl ++ [48 + n % 10], ?_⟩
    rw [show decN (w + 1 + 1) n = decN (w + 1) (n / 10) ++ [48 + n % 10] from rfl, h, Nat.div_div_eq_div_mul,
      Nat.pow_succ, Nat.mul_comm]
    rfl

theorem yearWidth_spec (n : Nat) (h : n < 1000000) :
    4 ≤ yearWidth n ∧ yearWidth n ≤ 6 ∧ n < 10 ^ yearWidth n := by
  unfold yearWidth
  split
  · omega
  · split <;> omega

/-- the sign handling of a signed numeric item, named so that it can be reasoned about on its own -/
def signedScan (s : List Nat) (width : Option Nat) : PRes (List Nat × Int) :=
  match s with
  | 45 :: rest =>
    match number rest 1 none with
    | .ok (s', v) => .ok (s', -v)
    | .error e => .error e
  | 43 :: rest => number rest 1 none
  | _ => number s 1 width

theorem parseNumeric_signed (p : Parsed) (s : List Nat) (n : Numeric) (w : Option Nat)
    (set : Parsed → Int → PRes Parsed) (h : Parse.numericSpec n = (w, true, set)) :
    Parse.parseNumeric p s n =
      match signedScan (trimStart s) w with
      | .error e => .error e
      | .ok (s', v) => match set p v with
        | .ok p' => .ok (p', s')
        | .error e => .error e := by
  unfold Parse.parseNumeric
  rw [h]
  rfl

theorem signedScan_digit (c : Nat) (tl : List Nat) (w : Option Nat) (hc : isDigit c = true) :
    signedScan (c :: tl) w = number (c :: tl) 1 w := by
  have := (isDigit_iff c).mp hc
  unfold signedScan
  split
  · rename_i heq; injection heq with e1 _; omega
  · rename_i heq; injection heq with e1 _; omega
  · rfl

/-- the year item on the specification's year text, followed by a non-digit -/
theorem item_year (p : Parsed) (h : p.year = none) (y : Int) (hy : -1000000 < y ∧ y < 1000000)
    (rest : List Nat) (hr : NoDigitHead rest) (pad : Pad) :
    Parse.parseItemBase p (yearText y ++ rest) (.numeric .year pad) = .ok ({ p with year := some y }, rest) := by
  have hset := set_year_new p h y (by omega)
  have hpn := fun s => parseNumeric_signed p s .year (some 4) Parsed.set_year rfl
  unfold yearText
  by_cases h4 : 0 ≤ y ∧ y ≤ 9999
  · rw [if_pos h4]
    have hnum : number (decN 4 y.toNat ++ rest) 1 (some 4) = .ok (rest, y) := by
      have := number_digits (decN 4 y.toNat) rest 1 (some 4) (decN_allDigits _ _) (by rw [decN_length]; omega)
        (by intro m hm; injection hm with hm; rw [decN_length]; omega) (Or.inl (by rw [decN_length]))
        (by rw [decN_length]; omega)
      rw [decN_val, Nat.mod_eq_of_lt (by omega)] at this
      rw [this]; congr 2; omega
    obtain ⟨tl, hd⟩ := decN_cons 3 y.toNat
    have htrim : trimStart (decN 4 y.toNat ++ rest) = decN 4 y.toNat ++ rest := by
      rw [hd]; exact trimStart_ascii _ _ (by omega) (by omega)
    have hscan : signedScan (decN 4 y.toNat ++ rest) (some 4) = .ok (rest, y) := by
      rw [← hnum, hd]
      exact signedScan_digit _ _ _ (by rw [isDigit_iff]; omega)
    simp only [Parse.parseItemBase, hpn, htrim, hscan, hset]
  · rw [if_neg h4]
    obtain ⟨w4, w6, wlt⟩ := yearWidth_spec y.natAbs (by omega)
    have hnum := number_decN (yearWidth y.natAbs) y.natAbs rest 1 (by omega) (by omega) wlt (by omega) hr
    have htrim : trimStart (((if y < 0 then 45 else 43) :: decN (yearWidth y.natAbs) y.natAbs) ++ rest) =
        (if y < 0 then 45 else 43) :: (decN (yearWidth y.natAbs) y.natAbs ++ rest) :=
      trimStart_ascii _ _ (by split <;> omega) (by split <;> omega)
    have hscan : signedScan ((if y < 0 then 45 else 43) :: (decN (yearWidth y.natAbs) y.natAbs ++ rest)) (some 4) =
        .ok (rest, y) := by
      by_cases hneg : y < 0
      · have e : -((y.natAbs : Nat) : Int) = y := by omega
        simp only [if_pos hneg, signedScan, hnum, e]
      · have e : ((y.natAbs : Nat) : Int) = y := by omega
        simp only [if_neg hneg, signedScan, hnum, e]
    simp only [Parse.parseItemBase, hpn, htrim, hscan, hset]


/-! ### the date items -/

theorem noDigitHead_45 (t : List Nat) : NoDigitHead (45 :: t) := noDigitHead_cons.mpr (by decide)

/-- `DATE_ITEMS` of the relaxed RFC 3339 reader (year, month, day with `-` between) on the
specification's date text -/
theorem date_items (p : Parsed) (hy : p.year = none) (hm : p.month = none) (hd : p.day = none)
    (y : Int) (hyr : -1000000 < y ∧ y < 1000000) (m d : Nat) (hm1 : 1 ≤ m ∧ m ≤ 12) (hd1 : 1 ≤ d ∧ d ≤ 31)
    (rest : List Nat) :
    Parse.parseItemsBase p (dateText y m d ++ rest) Parse.DATE_ITEMS =
      .ok ({ p with year := some y, month := some (m : Int), day := some (d : Int) }, rest) := by
  have e : dateText y m d ++ rest = yearText y ++ (45 :: (two m ++ (45 :: (two d ++ rest)))) := by
    simp only [dateText, decN_two m (by omega), decN_two d (by omega), List.append_assoc, List.cons_append,
      List.nil_append]
  rw [e]
  unfold Parse.DATE_ITEMS
  have s1 := item_year p hy y hyr (45 :: (two m ++ (45 :: (two d ++ rest)))) (noDigitHead_45 _) .zero
  have s2 := item_two { p with year := some y } .month Parsed.set_month m (by omega) (45 :: (two d ++ rest)) _ rfl
    (set_month_new { p with year := some y } hm m (by omega)) .zero
  have s3 := item_two { p with year := some y, month := some (m : Int) } .day Parsed.set_day d (by omega) rest _ rfl
    (set_day_new { p with year := some y, month := some (m : Int) } hd d (by omega)) .zero
  rw [items_cons _ _ _ _ _ _ s1, items_space_literal _ 45 _ _ (by omega) (by omega),
    items_cons _ _ _ _ _ _ s2, items_space_literal _ 45 _ _ (by omega) (by omega),
    items_cons _ _ _ _ _ _ s3, items_nil]

/-! ### the time items -/

/-- text that may follow a time of day: nothing, or a byte that is neither a digit nor `.` -/
def TailOk (rest : List Nat) : Prop := ∀ c t, rest = c :: t → isDigit c = false ∧ c ≠ 46

theorem tailOk_nil : TailOk [] := by intro c t h; cases h
theorem tailOk_cons (c : Nat) (t : List Nat) (h1 : isDigit c = false) (h2 : c ≠ 46) : TailOk (c :: t) := by
  intro c' t' e; injection e with e1 _; subst e1; exact ⟨h1, h2⟩
theorem TailOk.noDigit {rest : List Nat} (h : TailOk rest) : NoDigitHead rest :=
  fun c t e => (h c t e).1

theorem hm_items (p : Parsed) (h1 : p.hour_div_12 = none) (h2 : p.hour_mod_12 = none) (h3 : p.minute = none)
    (h mi : Nat) (hh : h ≤ 23) (hmi : mi ≤ 59) (rest : List Nat) :
    Parse.parseItemsBase p (two h ++ (58 :: (two mi ++ rest))) HOUR_AND_MINUTE =
      .ok ({ p with hour_div_12 := some ((h : Int) / 12), hour_mod_12 := some ((h : Int) % 12),
                    minute := some (mi : Int) }, rest) := by
  unfold HOUR_AND_MINUTE
  have s1 := item_two p .hour Parsed.set_hour h (by omega) (58 :: (two mi ++ rest)) _ rfl
    (set_hour_new p h1 h2 h (by omega)) .zero
  have s2 := item_two { p with hour_div_12 := some ((h : Int) / 12), hour_mod_12 := some ((h : Int) % 12) }
    .minute Parsed.set_minute mi (by omega) rest _ rfl
    (set_minute_new { p with hour_div_12 := some ((h : Int) / 12), hour_mod_12 := some ((h : Int) % 12) } h3 mi
      (by omega)) .zero
  rw [items_cons _ _ _ _ _ _ s1, items_space_literal _ 58 _ _ (by omega) (by omega),
    items_cons _ _ _ _ _ _ s2, items_nil]

/-- the number of fraction digits is 0 (exactly for a zero fraction), 3, 6 or 9; the digits left out
are zeros, what remains fits the width, and no smaller choice loses nothing -/
theorem fracDigits_spec (nano : Nat) (h : nano < 1000000000) :
    (fracDigits nano = 0 ↔ nano = 0) ∧
    (fracDigits nano = 0 ∨ fracDigits nano = 3 ∨ fracDigits nano = 6 ∨ fracDigits nano = 9) ∧
    nano / 10 ^ (9 - fracDigits nano) * 10 ^ (9 - fracDigits nano) = nano ∧
    nano / 10 ^ (9 - fracDigits nano) < 10 ^ fracDigits nano ∧
    (∀ k, k = 0 ∨ k = 3 ∨ k = 6 ∨ k = 9 → nano % 10 ^ (9 - k) = 0 → fracDigits nano ≤ k) := by
  unfold fracDigits
  by_cases h9 : nano % 1000000000 = 0
  · obtain rfl : nano = 0 := by omega
    exact ⟨by simp, Or.inl rfl, by simp, by simp, fun k _ _ => Nat.zero_le _⟩
  · rw [if_neg h9]
    by_cases h6 : nano % 1000000 = 0
    · rw [if_pos h6]
      refine ⟨by omega, by omega, by simp only [Nat.reduceSub, Nat.reducePow]; omega, by simp only [Nat.reduceSub, Nat.reducePow]; omega, ?_⟩
      rintro k (rfl | rfl | rfl | rfl) hz <;> simp only [Nat.reduceSub, Nat.reducePow] at hz <;> omega
    · rw [if_neg h6]
      by_cases h3 : nano % 1000 = 0
      · rw [if_pos h3]
        refine ⟨by omega, by omega, by simp only [Nat.reduceSub, Nat.reducePow]; omega, by simp only [Nat.reduceSub, Nat.reducePow]; omega, ?_⟩
        rintro k (rfl | rfl | rfl | rfl) hz <;> simp only [Nat.reduceSub, Nat.reducePow] at hz <;> omega
      · rw [if_neg h3]
        refine ⟨by omega, by omega, by simp only [Nat.reduceSub, Nat.reducePow, Nat.div_one, Nat.mul_one], by simp only [Nat.reduceSub, Nat.reducePow]; omega, ?_⟩
        rintro k (rfl | rfl | rfl | rfl) hz <;> simp only [Nat.reduceSub, Nat.reducePow] at hz <;> omega
theorem nanosecond_decN (k q : Nat) (rest : List Nat) (hk1 : 1 ≤ k) (hk9 : k ≤ 9) (hq : q < 10 ^ k)
    (hr : NoDigitHead rest) :
    nanosecond (decN k q ++ rest) = .ok (rest, ((q * 10 ^ (9 - k) : Nat) : Int)) := by
  rw [nanosecond_digits _ rest (decN_allDigits k q) (by rw [decN_length]; exact hk1) hr]
  unfold fracVal
  rw [List.take_of_length_le (by rw [decN_length]; exact hk9), decN_length, decN_val, Nat.mod_eq_of_lt hq]

/-- the optional-fraction item on the specification's fraction text -/
theorem item_frac (p : Parsed) (hn : p.nanosecond = none) (nano : Nat) (hlt : nano < 1000000000)
    (rest : List Nat) (hr : TailOk rest) :
    Parse.parseItemBase p (fracText nano ++ rest) (.fixed .nanosecond) =
      .ok (if nano = 0 then p else { p with nanosecond := some (nano : Int) }, rest) := by
  unfold fracText
  by_cases h0 : nano = 0
  · subst h0
    simp only [fracDigits, Nat.zero_mod, if_true, List.nil_append]
    cases rest with
    | nil => rfl
    | cons c t =>
      have := (hr c t rfl).2
      simp only [Parse.parseItemBase, Parse.parseFixedBase]
      split
      · rename_i heq; injection heq with e1 _; omega
      · rfl
  · obtain ⟨hz, hc, hmul, hlt', _⟩ := fracDigits_spec nano hlt
    have hk : fracDigits nano ≠ 0 := fun h => h0 (hz.mp h)
    rw [if_neg hk, if_neg h0]
    have hnano := nanosecond_decN (fracDigits nano) (nano / 10 ^ (9 - fracDigits nano)) rest (by omega) (by omega)
      hlt' hr.noDigit
    rw [hmul] at hnano
    simp only [Parse.parseItemBase, Parse.parseFixedBase, List.cons_append, hnano, Parse.setNano,
      set_nanosecond_new p hn nano (by omega)]

theorem sn_items (p : Parsed) (h1 : p.second = none) (h2 : p.nanosecond = none) (sec nano : Nat)
    (hs : sec ≤ 60) (hn : nano < 1000000000) (rest : List Nat) (hr : TailOk rest) :
    Parse.parseItemsBase p (58 :: (two sec ++ (fracText nano ++ rest))) SECOND_AND_NANOS =
      .ok (if nano = 0 then { p with second := some (sec : Int) }
           else { p with second := some (sec : Int), nanosecond := some (nano : Int) }, trimStart rest) := by
  unfold SECOND_AND_NANOS
  have s1 := item_two p .second Parsed.set_second sec (by omega) (fracText nano ++ rest) _ rfl
    (set_second_new p h1 sec (by omega)) .zero
  have s2 := item_frac { p with second := some (sec : Int) } h2 nano hn rest hr
  rw [items_space_literal _ 58 _ _ (by omega) (by omega), items_cons _ _ _ _ _ _ s1,
    items_cons _ _ _ _ _ _ s2, items_cons _ _ _ _ _ _ (item_space _ _), items_nil]


/-! ### the writers produce the specification's text -/

theorem seq_wok (a b : List Nat) : (wok a).seq (wok b) = wok (a ++ b) := rfl

theorem hundreds_u8 (n : Int) (h0 : 0 ≤ n) (h : n < 100) : write_hundreds (asU8 n) = wok (decN 2 n.toNat) := by
  have e : asU8 n = n := by unfold asU8; omega
  rw [e, write_hundreds_eq n h0 h, decN_two _ (by omega)]

theorem two_two (a b : Nat) (ha : a < 100) (hb : b < 100) : decN 2 a ++ decN 2 b = decN 4 (a * 100 + b) := by
  refine digits_unique _ _ (allDigits_append.mpr ⟨decN_allDigits _ _, decN_allDigits _ _⟩) (decN_allDigits _ _)
    (by rw [List.length_append, decN_length, decN_length, decN_length]) ?_
  rw [valOf_append, decN_val, decN_val, decN_val, decN_length]
  simp only [Nat.reducePow]
  omega

theorem digits_len (n : Nat) (hn : n < 1000000) :
    max 4 (Format.digits n).length = yearWidth n := by
  obtain ⟨h1, h2, h3, h4, _⟩ := digits_spec n
  have hlt := valOf_lt _ h1
  rw [h2] at hlt
  have h6 := h4 6 (by omega) (by omega)
  have hlow : ∀ k, 10 ^ k ≤ n → k < (Format.digits n).length := fun k hk =>
    Nat.lt_of_not_le fun hle => by
      have := Nat.pow_le_pow_right (show 1 ≤ 10 by omega) hle
      omega
  unfold yearWidth
  split
  · have := h4 4 (by omega) (by omega); omega
  · split
    · have := h4 5 (by omega) (by omega)
      have := hlow 4 (by omega)
      omega
    · have := hlow 5 (by omega)
      omega

/-- the year writer: four digits for 0..=9999, else sign and at least four digits -/
theorem write_year_text (y : Int) (hy : -1000000 < y ∧ y < 1000000) : TextForms.write_year y = wok (yearText y) := by
  unfold TextForms.write_year yearText
  by_cases h4 : 0 ≤ y ∧ y ≤ 9999
  · rw [if_pos h4, if_pos h4]
    have e1 : Int.tdiv y 100 = y / 100 := Int.tdiv_eq_ediv_of_nonneg h4.1
    have e2 : Int.tmod y 100 = y % 100 := Int.tmod_eq_emod_of_nonneg h4.1
    have b : 0 ≤ y / 100 ∧ y / 100 < 100 ∧ 0 ≤ y % 100 ∧ y % 100 < 100 ∧ (y / 100).toNat < 100 ∧
        (y % 100).toNat < 100 ∧ (y / 100).toNat * 100 + (y % 100).toNat = y.toNat := by omega
    rw [e1, e2, hundreds_u8 _ b.1 b.2.1, hundreds_u8 _ b.2.2.1 b.2.2.2.1, seq_wok,
      two_two _ _ b.2.2.2.2.1 b.2.2.2.2.2.1, b.2.2.2.2.2.2]
  · rw [if_neg h4, if_neg h4, fmtInt_zero_signed]
    congr 2
    obtain ⟨d1, d2, d3, _, _⟩ := digits_spec y.natAbs
    have hlen := digits_len y.natAbs (by omega)
    obtain ⟨_, _, wlt⟩ := yearWidth_spec y.natAbs (by omega)
    refine digits_unique _ _ (allDigits_append.mpr ⟨allDigits_replicate _, d1⟩) (decN_allDigits _ _) ?_ ?_
    · rw [decN_length, List.length_append, List.length_replicate]; omega
    · rw [valOf_append, valOf_replicate_zero, d2, decN_val, Nat.mod_eq_of_lt wlt]; simp

/-- `NaiveDate`'s text is the specification's, for the `o`-th day of any year of up to six digits -/
theorem date_debug_yo (y : Int) (o : Nat) (hy : -1000000 < y ∧ y < 1000000) (ho : 1 ≤ o ∧ o ≤ yearLen y) :
    date_debug (dateOfYo y o) = wok (dateText y (monthOfYo y o) (dayOfYo y o)) := by
  obtain ⟨m1, m2, m3, _⟩ := month_day_spec y o ho.1 ho.2
  obtain ⟨hyear, _⟩ := dateOfYo_fields y o (by have := yearLen_ge y; omega)
  obtain ⟨b1, b2⟩ := valid_bounds y _ _ m3
  unfold date_debug
  rw [hyear]
  unfold Date.month at m1
  unfold Date.day at m2
  cases hmdf : (dateOfYo y o).mdf with
  | panic => rw [hmdf] at m1; cases m1
  | ok mdf =>
    rw [hmdf] at m1 m2
    injection m1 with m1; injection m2 with m2
    simp only [W.ofRes]
    rw [m1, m2, write_year_text y hy, hundreds_u8 _ (by omega) (by omega),
      hundreds_u8 _ (by omega) (by omega)]
    simp only [seq_wok, dateText, Int.toNat_natCast, List.append_assoc]

/-- in particular for every date of the supported range -/
theorem date_debug_text (y : Int) (o : Nat) (hy : Extracted.MIN_YEAR ≤ y ∧ y ≤ Extracted.MAX_YEAR)
    (ho : 1 ≤ o ∧ o ≤ yearLen y) :
    date_debug (dateOfYo y o) = wok (dateText y (monthOfYo y o) (dayOfYo y o)) :=
  date_debug_yo y o
    ⟨by have : Extracted.MIN_YEAR = -262143 := rfl; omega, by have : Extracted.MAX_YEAR = 262142 := rfl; omega⟩ ho

theorem write_frac_text (nano : Int) (h0 : 0 ≤ nano) (h : nano < 1000000000) :
    write_frac nano = fracText nano.toNat := by
  unfold write_frac fracText fracDigits
  by_cases z : nano = 0
  · subst z; rfl
  · have z' : ¬ nano.toNat % 1000000000 = 0 := by omega
    rw [if_neg z, if_neg z']
    by_cases a : nano % 1000000 = 0
    · have a' : nano.toNat % 1000000 = 0 := by omega
      rw [if_pos a, if_pos a', if_neg (by omega), fmtInt_eq_decN _ 3 (by omega) (by omega) (by norm_num; omega)]
      simp only [List.singleton_append]
      congr 2; norm_num; omega
    · have a' : ¬ nano.toNat % 1000000 = 0 := by omega
      rw [if_neg a, if_neg a']
      by_cases b : nano % 1000 = 0
      · have b' : nano.toNat % 1000 = 0 := by omega
        rw [if_pos b, if_pos b', if_neg (by omega), fmtInt_eq_decN _ 6 (by omega) (by omega) (by norm_num; omega)]
        simp only [List.singleton_append]
        congr 2; norm_num; omega
      · have b' : ¬ nano.toNat % 1000 = 0 := by omega
        rw [if_neg b, if_neg b', if_neg (by omega), fmtInt_eq_decN _ 9 (by omega) (by omega) (by norm_num; omega)]
        simp only [List.singleton_append]
        congr 2; norm_num

/-- `NaiveTime`'s text is the specification's, for every well-formed time of day -/
theorem time_debug_text (t : Time) (ht : TValid t) : time_debug t = wok (timeText t) := by
  obtain ⟨t0, t1, t2, t3⟩ := ht
  unfold time_debug Time.hms timeText shownSecond shownNano hourOf minuteOf secondOf
  dsimp only
  have e1 : (t.secs / 60 / 60).toNat = (t.secs / 3600).toNat := by omega
  have e2 : (if t.frac ≥ 1000000000 then t.secs % 60 + 1 else t.secs % 60).toNat =
      (t.secs % 60).toNat + (if t.frac ≥ 1000000000 then 1 else 0) := by split <;> omega
  have e3 : (if t.frac ≥ 1000000000 then t.frac - 1000000000 else t.frac).toNat =
      (t.frac % 1000000000).toNat := by omega
  rw [hundreds_u8 _ (by omega) (by omega), hundreds_u8 _ (by omega) (by omega),
    hundreds_u8 _ (by omega) (by omega), write_frac_text _ (by omega) (by omega), e1, e2, e3]
  simp only [seq_wok, List.append_assoc]

end Chrono.Proofs.TextForms
