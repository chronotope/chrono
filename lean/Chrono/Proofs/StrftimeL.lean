/-
  `StrftimeItems::parse_next_item` (C12 / C15), the facts every later file about it starts from.
  The `%` arm is two nested blocks of `if`s and `match`es; they are walked once each, in
  `specArm_cases` (the `match spec` block) and `pct_cases` (what surrounds it), for an arbitrary
  invariant of the scanning position and an arbitrary property of the outcome.  What the other files
  prove about one call (progress, item-wise properties, UTF-8 boundaries, the bound on queued items)
  is an instance.  Progress is proved here: every call consumes at least one byte and queues at most 12
  items, hence the iterator ends and fuel is never exhausted.
-/
import Chrono.Proofs.FormatL
namespace Chrono.Proofs.StrftimeL
open Chrono Chrono.M Chrono.M.Format Chrono.M.Strftime Chrono.Extracted Chrono.Proofs.FormatL


theorem error_progress (l : Bool) (orig : List Nat) (el : Nat) (ch : Option Nat) (ho : orig ≠ [])
    (hel : l = true → 1 ≤ el - ch.getD 0) :
    (error l orig el ch).1.length < orig.length ∧ (l = true → 1 ≤ (error l orig el ch).2.2) := by
  have hpos : 0 < orig.length := List.length_pos_iff.mpr ho
  unfold error
  cases l with
  | false => simp; exact hpos
  | true =>
    have := hel rfl
    simp only [Bool.not_true, Bool.false_eq_true, if_false, List.length_drop]
    exact ⟨by omega, fun _ => this⟩

/-- `next!()` on a non-empty slice: the lead byte, the length of the character, the slice after it -/
theorem nextCh_cons (b : Nat) (rest : List Nat) :
    nextCh (b :: rest) = some (b, Scan.charLen b, (b :: rest).drop (Scan.charLen b)) := by
  obtain ⟨k, hk⟩ : ∃ k, Scan.charLen b = k + 1 := ⟨_, (Nat.sub_add_cancel (charLen_pos b)).symm⟩
  simp [nextCh, hk]

theorem nextCh_progress (s : List Nat) (c n : Nat) (r : List Nat) (h : nextCh s = some (c, n, r)) :
    r.length < s.length ∧ 1 ≤ n := by
  cases s with
  | nil => cases h
  | cons b rest =>
    rw [nextCh_cons] at h
    simp only [Option.some.injEq, Prod.mk.injEq] at h
    obtain ⟨_, rfl, rfl⟩ := h
    have := charLen_pos b
    simp only [List.length_drop, List.length_cons]
    omega

/-! ### the `match spec` block -/

theorem specTable_lt {c : Nat} {x : Item × List Item} (h : specTable c = some x) : c < 122 := by
  unfold specTable at h
  split at h <;> first | omega | cases h

/-- every row of `specTable` is among the values it takes below `'z'` -/
theorem specTable_mem {c : Nat} {x : Item × List Item} (h : specTable c = some x) :
    x ∈ (List.range 122).filterMap specTable :=
  List.mem_filterMap.mpr ⟨c, List.mem_range.mpr (specTable_lt h), h⟩

/-- the `Fixed` items the `match spec` block builds itself; all its other items are rows of `specTable` -/
def armFixed : List Fixed :=
  [.timezoneOffset, .timezoneOffsetPermissive, .timezoneOffsetTripleColon, .timezoneOffsetDoubleColon,
   .timezoneOffsetColon, .nanosecond, .nanosecond3, .nanosecond6, .nanosecond9, .nanosecond3NoDot,
   .nanosecond6NoDot, .nanosecond9NoDot]

/-- `(item, remainder) = self.error(..)` as the outcome of the block -/
def errArm (e : List Nat × Item × Nat) : Arm := .item e.2.1 e.1 [] e.2.2

section
variable (l : Bool) (o : List Nat) {I : List Nat → Nat → Prop} {P : Arm → Prop}
  (next : ∀ {rem el c n r}, I rem el → nextCh rem = some (c, n, r) → I r (if l then el + n else el))
  (fixd : ∀ {rem el} f, f ∈ armFixed → I rem el → P (.item (fixed f) rem [] el))
  (ret : ∀ {rem el}, I rem el → P (.ret (error l o el none).1 (error l o el none).2.1))
  (err : ∀ {rem el c n r}, I rem el → nextCh rem = some (c, n, r) →
    P (errArm (error l o (if l then el + n else el) (some n))))
include next fixd ret err

theorem fracArm_cases {rem el} (h0 : I rem el) (f : Fixed) (hf : f ∈ armFixed) :
    P (fracArm l o rem el (fixed f)) := by
  unfold fracArm
  cases hn : nextCh rem with
  | none => exact ret h0
  | some x =>
    obtain ⟨c, n, rem'⟩ := x
    dsimp only
    by_cases hc : c = 102
    · rw [if_pos hc]; exact fixd f hf (next h0 hn)
    · rw [if_neg hc]; exact err h0 hn

/-- What the `match spec` block can do, for an invariant `I rem el` of the scanning position that every
`next!()` preserves: it ends at such a position with one of its own `Fixed` items (`fixd`), with
`return Some(self.error(..))` (`ret`) or with the `error` item for the character just taken (`err`); or,
still at the position where it started, it skips an ASCII prefix `:`…`z` (`skip`), yields a row of
`specTable` (`table`), takes the `error` item for the specifier character (`err0`), or takes the item
of `error` and leaves the remainder alone (`colon`, the `':'` arm). -/
theorem specArm_cases (alt : Bool) (c n : Nat) {rem el} (h0 : I rem el)
    (skip : ∀ f p, f ∈ armFixed → (∀ b ∈ p, b < 128) → startsWith rem p = true →
      P (.item (fixed f) (rem.drop p.length) [] el))
    (table : ∀ it q, specTable c = some (it, q) → P (.item it rem q el))
    (err0 : specTable c = none → P (errArm (error l o el (some n))))
    (colon : P (.item (error l o el none).2.1 rem [] el)) :
    P (specArm l o rem el alt c n) := by
  have frac : ∀ {rem el}, I rem el → ∀ f, f ∈ armFixed → P (fracArm l o rem el (fixed f)) :=
    fun h f hf => fracArm_cases l o next fixd ret err h f hf
  unfold specArm
  by_cases h1 : c = 122
  · rw [if_pos h1]; cases alt <;> exact fixd _ (by decide) h0
  rw [if_neg h1]
  by_cases h2 : c = 58
  · rw [if_pos h2]
    by_cases s3 : startsWith rem [58, 58, 122] = true
    · rw [if_pos s3]; exact skip _ _ (by decide) (by decide) s3
    rw [if_neg s3]
    by_cases s2 : startsWith rem [58, 122] = true
    · rw [if_pos s2]; exact skip _ _ (by decide) (by decide) s2
    rw [if_neg s2]
    by_cases s1 : startsWith rem [122] = true
    · rw [if_pos s1]; exact skip _ _ (by decide) (by decide) s1
    rw [if_neg s1]; exact colon
  rw [if_neg h2]
  by_cases h3 : c = 46
  · rw [if_pos h3]
    cases hn : nextCh rem with
    | none => exact ret h0
    | some x =>
      obtain ⟨c1, n1, rem1⟩ := x
      have i1 := next h0 hn
      dsimp only
      by_cases d3 : c1 = 51
      · rw [if_pos d3]; exact frac i1 _ (by decide)
      rw [if_neg d3]
      by_cases d6 : c1 = 54
      · rw [if_pos d6]; exact frac i1 _ (by decide)
      rw [if_neg d6]
      by_cases d9 : c1 = 57
      · rw [if_pos d9]; exact frac i1 _ (by decide)
      rw [if_neg d9]
      by_cases df : c1 = 102
      · rw [if_pos df]; exact fixd _ (by decide) i1
      rw [if_neg df]; exact err h0 hn
  rw [if_neg h3]
  by_cases d3 : c = 51
  · rw [if_pos d3]; exact frac h0 _ (by decide)
  rw [if_neg d3]
  by_cases d6 : c = 54
  · rw [if_pos d6]; exact frac h0 _ (by decide)
  rw [if_neg d6]
  by_cases d9 : c = 57
  · rw [if_pos d9]; exact frac h0 _ (by decide)
  rw [if_neg d9]
  cases hs : specTable c with
  | some x => exact table x.1 x.2 hs
  | none => exact err0 hs

end

/-! ### progress -/

/-- progress of the block; a block that installs a queue (a composite specifier) stands after two bytes -/
def Arm.good (l : Bool) (orig : List Nat) : Arm → Prop
  | .item _ r q el' => r.length < orig.length ∧ q.length ≤ 12 ∧ (l = true → 1 ≤ el') ∧
      (q ≠ [] → r.length + 2 ≤ orig.length ∧ (l = true → 2 ≤ el'))
  | .ret r _ => r.length < orig.length

theorem error_rem2 (l : Bool) (orig : List Nat) (el : Nat) (ho : 2 ≤ orig.length) (hel : l = true → 2 ≤ el) :
    (error l orig el none).1.length + 2 ≤ orig.length := by
  unfold error
  cases l with
  | false => simp; exact ho
  | true =>
    have := hel rfl
    simp only [Bool.not_true, Bool.false_eq_true, if_false, List.length_drop, Option.getD_none]
    omega

theorem specArm_progress (l : Bool) (orig rem : List Nat) (el : Nat) (alt : Bool) (c n : Nat) (ho : orig ≠ [])
    (hel : l = true → 1 + n ≤ el) (hn : 1 ≤ n) (hrem : rem.length + 2 ≤ orig.length) :
    Arm.good l orig (specArm l orig rem el alt c n) := by
  have hel1 : l = true → 1 ≤ el := fun hl => by have := hel hl; omega
  have nq : ∀ {P : Prop}, ([] : List Item) ≠ [] → P := fun h => absurd rfl h
  refine specArm_cases l orig (I := fun rem el => rem.length < orig.length ∧ (l = true → 1 ≤ el))
    ?next ?fixd ?ret ?err alt c n ⟨by omega, hel1⟩ ?skip ?table ?err0 ?colon
  case next =>
    intro rem el c n r h hn
    have := nextCh_progress _ _ _ _ hn
    exact ⟨by omega, fun hl => by have := h.2 hl; rw [if_pos hl]; omega⟩
  case fixd => exact fun _ _ h => ⟨h.1, Nat.zero_le _, h.2, nq⟩
  case ret => exact fun h => (error_progress l orig _ none ho h.2).1
  case err =>
    intro rem el c n r h _
    have := error_progress l orig (if l = true then el + n else el) (some n) ho
      (fun hl => by have := h.2 hl; rw [if_pos hl]; show 1 ≤ el + n - n; omega)
    exact ⟨this.1, Nat.zero_le _, this.2, nq⟩
  case skip => exact fun _ p _ _ _ => ⟨by rw [List.length_drop]; omega, Nat.zero_le _, hel1, nq⟩
  case table =>
    intro it q hs
    exact ⟨by omega, (by decide +kernel : ∀ x ∈ (List.range 122).filterMap specTable, x.2.length ≤ 12) _
      (specTable_mem hs), hel1, fun _ => ⟨hrem, fun hl => by have := hel hl; omega⟩⟩
  case err0 =>
    intro _
    have := error_progress l orig el (some n) ho (fun hl => by have := hel hl; show 1 ≤ el - n; omega)
    exact ⟨this.1, Nat.zero_le _, this.2, nq⟩
  case colon => exact ⟨by omega, Nat.zero_le _, hel1, nq⟩

/-! ### one `parse_next_item` call -/

/-- the text arm of `parse_next_item`, as an equation -/
theorem parse_next_item_text_eq (l : Bool) (c : Nat) (r : List Nat) (hc : c ≠ 37) :
    parse_next_item l (c :: r) =
      if Scan.wsLen (c :: r) ≠ 0 then
        some ((c :: r).drop (Scan.wsLen (c :: r) + wsSpan ((c :: r).drop (Scan.wsLen (c :: r)))),
          .space ((c :: r).take (Scan.wsLen (c :: r) + wsSpan ((c :: r).drop (Scan.wsLen (c :: r))))), [])
      else
        some ((c :: r).drop (Scan.charLen c + litSpan ((c :: r).drop (Scan.charLen c))),
          .literal ((c :: r).take (Scan.charLen c + litSpan ((c :: r).drop (Scan.charLen c)))), []) := by
  unfold parse_next_item
  split
  · rename_i h; cases h
  · rename_i r0 h
    injection h with h1 _
    exact absurd h1 hc
  · rename_i b' tl h
    injection h with h1 h2
    subst h1; subst h2
    rfl

/-- the run scanners only add to their accumulator -/
theorem wsSpanAux_acc : ∀ (fuel : Nat) (s : List Nat) (acc : Nat), wsSpanAux fuel s acc = acc + wsSpanAux fuel s 0 := by
  intro fuel
  induction fuel with
  | zero => intro s acc; simp [wsSpanAux]
  | succ f ih =>
    intro s acc
    simp only [wsSpanAux]
    split
    · simp
    · rw [ih _ (acc + _), ih _ (0 + _)]; omega

theorem litSpanAux_acc : ∀ (fuel : Nat) (s : List Nat) (acc : Nat), litSpanAux fuel s acc = acc + litSpanAux fuel s 0 := by
  intro fuel
  induction fuel with
  | zero => intro s acc; simp [litSpanAux]
  | succ f ih =>
    intro s acc
    simp only [litSpanAux]
    split
    · simp
    · split
      · simp
      · rw [ih _ (acc + _), ih _ (0 + _)]; omega

/-- What the `%` arm of `parse_next_item` can do, for an invariant `I rem el` of the scanning position
that every `next!()` preserves and a property `A` of the outcome of the `match spec` block (entered
right after the specifier character was taken): `Some(self.error(..))` before the block (`eNone`: the
string ended; `eSome`: `#` in front of a specifier without alternate form), or after it what the block
returned (`ret`), its item and queue (`item`), its numeric item with the padding replaced (`pad`), or
`Some(self.error(..))` with the queue left installed, because a padding modifier stands in front of
something that is not a single numeric item (`padErr`). -/
theorem pct_cases (l : Bool) (rest : List Nat) {I : List Nat → Nat → Prop} {A : Arm → Prop}
    {T : List Nat × Item × List Item → Prop}
    (next : ∀ {rem el c n r}, I rem el → nextCh rem = some (c, n, r) → I r (if l then el + n else el))
    (arm : ∀ {rem el c n r} alt, I rem el → nextCh rem = some (c, n, r) →
      A (specArm l (37 :: rest) r (if l then el + n else el) alt c n))
    (eNone : ∀ {rem el}, I rem el →
      T ((error l (37 :: rest) el none).1, (error l (37 :: rest) el none).2.1, []))
    (eSome : ∀ {rem el c n r}, I rem el → nextCh rem = some (c, n, r) →
      T ((error l (37 :: rest) (if l then el + n else el) (some n)).1,
         (error l (37 :: rest) (if l then el + n else el) (some n)).2.1, []))
    (ret : ∀ {rem it}, A (.ret rem it) → T (rem, it, []))
    (item : ∀ {it rem q el}, A (.item it rem q el) → T (rem, it, q))
    (pad : ∀ {k p rem el} np, A (.item (.numeric k p) rem [] el) → T (rem, .numeric k np, []))
    (padErr : ∀ {it rem q el}, A (.item it rem q el) →
      T ((error l (37 :: rest) el none).1, (error l (37 :: rest) el none).2.1, q))
    (h0 : I rest (if l then 1 else 0)) {r : List Nat × Item × List Item}
    (h : parse_next_item l (37 :: rest) = some r) : T r := by
  suffices ∃ r', parse_next_item l (37 :: rest) = some r' ∧ T r' by
    obtain ⟨r', hr, ht⟩ := this
    rw [hr] at h
    injection h with h
    subst h
    exact ht
  unfold parse_next_item
  simp only
  cases hn : nextCh rest with
  | none => exact ⟨_, rfl, eNone h0⟩
  | some x =>
    obtain ⟨c0, n0, r1⟩ := x
    have i1 := next h0 hn
    dsimp only
    generalize hsec : (if ((padOf c0).isSome || c0 == 35) = true then _ else _ :
      Option (Option (Nat × Nat × List Nat × Nat))) = sec
    -- the specifier character is the last one taken, at a position satisfying `I`
    have hsec' : ∀ c n rem el, sec = some (some (c, n, rem, el)) →
        ∃ rem0 el0, I rem0 el0 ∧ nextCh rem0 = some (c, n, rem) ∧ el = if l then el0 + n else el0 := by
      intro c n rem el hs
      rw [← hsec] at hs
      split at hs
      · cases hn2 : nextCh r1 with
        | none => rw [hn2] at hs; cases hs
        | some y =>
          rw [hn2] at hs
          injection hs with hs
          injection hs with hs
          cases hs
          exact ⟨_, _, i1, hn2, rfl⟩
      · injection hs with hs
        injection hs with hs
        cases hs
        exact ⟨_, _, h0, hn, rfl⟩
    rcases sec with _ | _ | ⟨c, n, rem, el⟩
    · exact ⟨_, rfl, eNone i1⟩
    · exact ⟨_, rfl, eNone i1⟩
    · obtain ⟨rem0, el0, hi, hc, rfl⟩ := hsec' c n rem el rfl
      dsimp only
      by_cases ha : ((c0 == 35) && c != 122) = true
      · rw [if_pos ha]; exact ⟨_, rfl, eSome hi hc⟩
      rw [if_neg ha]
      have hA := arm (c0 == 35) hi hc
      generalize specArm l (37 :: rest) rem (if l then el0 + n else el0) (c0 == 35) c n = a at hA
      cases a with
      | ret rem' it => exact ⟨_, rfl, ret hA⟩
      | item it rem' q el' =>
        dsimp only
        cases padOf c0 with
        | none => exact ⟨_, rfl, item hA⟩
        | some np =>
          dsimp only
          cases it with
          | numeric k p =>
            dsimp only
            cases q with
            | nil => exact ⟨_, rfl, pad np hA⟩
            | cons _ _ => exact ⟨_, rfl, padErr hA⟩
          | _ => exact ⟨_, rfl, padErr hA⟩

/-- every call of `parse_next_item` consumes at least one byte and installs at most 12 queued items; a call
that installs a queue has consumed at least two bytes (`%` and the specifier character) -/
theorem parse_next_item_step (l : Bool) (s : List Nat) (r : List Nat × Item × List Item)
    (h : parse_next_item l s = some r) :
    r.1.length < s.length ∧ r.2.2.length ≤ 12 ∧ (r.2.2 ≠ [] → r.1.length + 2 ≤ s.length) := by
  have nq : ∀ {P : Prop}, ([] : List Item) ≠ [] → P := fun h => absurd rfl h
  cases s with
  | nil => simp [parse_next_item] at h
  | cons b rest =>
    by_cases hb : b = 37
    · subst hb
      have ho : (37 :: rest) ≠ [] := by simp
      have adv : ∀ {el : Nat} (n : Nat), (l = true → 1 ≤ el) → l = true → 1 + n ≤ if l = true then el + n else el :=
        fun n h hl => by have := h hl; rw [if_pos hl]; omega
      refine pct_cases l rest (I := fun rem el => rem.length < (37 :: rest).length ∧ (l = true → 1 ≤ el))
        (A := Arm.good l (37 :: rest)) (T := fun r => r.1.length < (37 :: rest).length ∧ r.2.2.length ≤ 12 ∧
          (r.2.2 ≠ [] → r.1.length + 2 ≤ (37 :: rest).length))
        ?next ?arm ?eNone ?eSome ?ret ?item ?pad ?padErr ⟨Nat.lt_succ_self _, fun hl => by rw [if_pos hl]⟩ h
      case next =>
        intro rem el c n r h hn
        have := nextCh_progress _ _ _ _ hn
        exact ⟨by omega, fun hl => by have := adv n h.2 hl; omega⟩
      case arm =>
        intro rem el c n r alt h hn
        have := nextCh_progress _ _ _ _ hn
        exact specArm_progress l _ _ _ alt c n ho (adv n h.2) this.2 (by omega)
      case eNone => exact fun h => ⟨(error_progress l _ _ none ho h.2).1, Nat.zero_le _, nq⟩
      case eSome =>
        intro rem el c n r h _
        exact ⟨(error_progress l _ (if l = true then el + n else el) (some n) ho
          (fun hl => by have := adv n h.2 hl; show 1 ≤ _ - n; omega)).1, Nat.zero_le _, nq⟩
      case ret => exact fun h => ⟨h, Nat.zero_le _, nq⟩
      case item => exact fun h => ⟨h.1, h.2.1, fun hq => (h.2.2.2 hq).1⟩
      case pad => exact fun _ h => ⟨h.1, Nat.zero_le _, nq⟩
      case padErr =>
        exact fun h => ⟨(error_progress l _ _ none ho h.2.2.1).1, h.2.1, fun hq =>
          error_rem2 l _ _ (Nat.le_trans (Nat.le_add_left _ _) (h.2.2.2 hq).1) (h.2.2.2 hq).2⟩
    · obtain ⟨n, hn, it, _, hp⟩ := parse_next_item_text l b rest hb
      rw [hp] at h
      simp only [Option.some.injEq] at h
      subst h
      simp only [List.length_drop, List.length_cons, List.length_nil]
      exact ⟨by omega, Nat.zero_le _, nq⟩

theorem parse_next_item_progress (l : Bool) (s : List Nat) (r : List Nat × Item × List Item)
    (h : parse_next_item l s = some r) : r.1.length < s.length ∧ r.2.2.length ≤ 12 :=
  ⟨(parse_next_item_step l s r h).1, (parse_next_item_step l s r h).2.1⟩

/-! ### properties of single items -/

/-- every item of the outcome satisfies `p` -/
def Arm.all (p : Item → Bool) : Arm → Prop
  | .item it _ q _ => p it = true ∧ q.all p = true
  | .ret _ it => p it = true

section
variable (l : Bool) (p : Item → Bool)
  (herr : ∀ o el ch, p (error l o el ch).2.1 = true)
  (hfix : ∀ f ∈ armFixed, p (fixed f) = true)
  (htab : ∀ x ∈ (List.range 122).filterMap specTable, p x.1 = true ∧ x.2.all p = true)
  (hnum : ∀ k pd, p (.numeric k pd) = true)
  (hsp : ∀ s, Scan.wsLen s ≠ 0 → p (.space (s.take (Scan.wsLen s + wsSpan (s.drop (Scan.wsLen s))))) = true)
  (hlit : ∀ t, p (.literal t) = true)
include herr hfix htab hnum hsp hlit

omit hnum hsp hlit in
theorem specArm_all (o rem : List Nat) (el : Nat) (alt : Bool) (c n : Nat) :
    Arm.all p (specArm l o rem el alt c n) := by
  refine specArm_cases l o (I := fun _ _ => True) ?next ?fixd ?ret ?err alt c n trivial
    ?skip ?table ?err0 ?colon
  case next => exact fun _ _ => trivial
  case fixd => exact fun f hf _ => ⟨hfix f hf, rfl⟩
  case ret => exact fun _ => herr _ _ _
  case err => exact fun _ _ => ⟨herr _ _ _, rfl⟩
  case skip => exact fun f _ hf _ _ => ⟨hfix f hf, rfl⟩
  case table => exact fun it q hs => htab _ (specTable_mem hs)
  case err0 => exact fun _ => ⟨herr _ _ _, rfl⟩
  case colon => exact ⟨herr _ _ _, rfl⟩

/-- A property of single items holds of the item and the queue of every call, if it holds of what
`error` yields, of the block's own `Fixed` items, of the rows of `specTable`, of numeric items whatever
their padding, and of the two kinds of text item. -/
theorem parse_next_item_all (s : List Nat) (r : List Nat × Item × List Item) (h : parse_next_item l s = some r) :
    p r.2.1 = true ∧ r.2.2.all p = true := by
  cases s with
  | nil => simp [parse_next_item] at h
  | cons b rest =>
    by_cases hb : b = 37
    · subst hb
      refine pct_cases l rest (I := fun _ _ => True) (A := Arm.all p)
        (T := fun r => p r.2.1 = true ∧ r.2.2.all p = true)
        ?next ?arm ?eNone ?eSome ?ret ?item ?pad ?padErr trivial h
      case next => exact fun _ _ => trivial
      case arm => exact fun alt _ _ => specArm_all l p herr hfix htab _ _ _ alt _ _
      case eNone => exact fun _ => ⟨herr _ _ _, rfl⟩
      case eSome => exact fun _ _ => ⟨herr _ _ _, rfl⟩
      case ret => exact fun h => ⟨h, rfl⟩
      case item => exact fun h => h
      case pad => exact fun _ _ => ⟨hnum _ _, rfl⟩
      case padErr => exact fun h => ⟨herr _ _ _, h.2⟩
    · rw [parse_next_item_text_eq l b rest hb] at h
      split at h
      · rename_i hw
        injection h with h
        subst h
        exact ⟨hsp _ hw, rfl⟩
      · injection h with h
        subst h
        exact ⟨hlit _, rfl⟩

end

/-- what holds of the item and the queue of every call holds of all items of the drained iterator -/
theorem itemsAux_all (l : Bool) (p : Item → Bool)
    (hcall : ∀ s r, parse_next_item l s = some r → p r.2.1 = true ∧ r.2.2.all p = true) :
    ∀ (fuel : Nat) (s : List Nat), (itemsAux l fuel s).all p = true := by
  intro fuel
  induction fuel with
  | zero => intro s; rfl
  | succ f ih =>
    intro s
    rw [itemsAux]
    cases hp : parse_next_item l s with
    | none => rfl
    | some r =>
      obtain ⟨h1, h2⟩ := hcall s r hp
      rw [List.all_cons, List.all_append, h1, h2, ih r.1]
      rfl

/-- more fuel than the byte length changes nothing -/
theorem itemsAux_fuel (l : Bool) : ∀ (f1 f2 : Nat) (s : List Nat), s.length < f1 → s.length < f2 →
    itemsAux l f1 s = itemsAux l f2 s := by
  intro f1
  induction f1 with
  | zero => intro f2 s h; omega
  | succ f ih =>
    intro f2 s h1 h2
    cases f2 with
    | zero => omega
    | succ g =>
      rw [itemsAux, itemsAux]
      cases hp : parse_next_item l s with
      | none => rfl
      | some r =>
        obtain ⟨rem, it, q⟩ := r
        have := (parse_next_item_progress l s _ hp).1
        dsimp only at this ⊢
        rw [ih g rem (by omega) (by omega)]

/-- the sharp linear bound: a call that queues items yields at most 13 from at least two bytes, any other
call one item from at least one byte; attained by `%c` -/
theorem itemsAux_length2 (l : Bool) : ∀ (f : Nat) (s : List Nat), 2 * (itemsAux l f s).length ≤ 13 * s.length := by
  intro f
  induction f with
  | zero => intro s; simp [itemsAux]
  | succ f ih =>
    intro s
    rw [itemsAux]
    cases hp : parse_next_item l s with
    | none => simp
    | some r =>
      obtain ⟨rem, it, q⟩ := r
      obtain ⟨h1, h2, h3⟩ := parse_next_item_step l s _ hp
      have := ih rem
      dsimp only at h1 h2 h3 ⊢
      simp only [List.length_cons, List.length_append]
      by_cases hq : q = []
      · subst hq; simp only [List.length_nil]; omega
      · have := h3 hq; omega

theorem itemsAux_length (l : Bool) : ∀ (f : Nat) (s : List Nat), (itemsAux l f s).length ≤ 13 * s.length := by
  intro f s
  have := itemsAux_length2 l f s
  omega

/-- the iterator `next`, called often enough, yields the queue and then the items of the remainder -/
theorem drain_eq (l : Bool) : ∀ (fuel : Nat) (st : State), st.queue.length + 13 * st.remainder.length < fuel →
    drain l fuel st = st.queue ++ itemsAux l (st.remainder.length + 1) st.remainder := by
  intro fuel
  induction fuel with
  | zero => intro st h; omega
  | succ f ih =>
    intro st h
    obtain ⟨s, queue⟩ := st
    dsimp only at h ⊢
    cases queue with
    | cons it q =>
      rw [drain]
      simp only [next]
      rw [ih ⟨s, q⟩ (by simp only [List.length_cons] at h; dsimp only; omega)]
      rfl
    | nil =>
      rw [drain]
      simp only [next]
      rw [itemsAux]
      cases hp : parse_next_item l s with
      | none => rfl
      | some r =>
        obtain ⟨rem, it, q⟩ := r
        obtain ⟨h1, h2⟩ := parse_next_item_progress l s _ hp
        dsimp only at h1 h2 ⊢
        simp only [List.length_nil, Nat.zero_add] at h
        rw [ih ⟨rem, q⟩ (by dsimp only; omega)]
        dsimp only
        rw [itemsAux_fuel l s.length (rem.length + 1) rem h1 (by omega)]
        rfl

end Chrono.Proofs.StrftimeL
