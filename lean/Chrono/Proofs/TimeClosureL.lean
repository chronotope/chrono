/- Helper lemmas for the second C07 audit (audit2/C07.md): M3 (`TValid` is reachable and closed), L1 (date-time
   subtraction = addition of the negation), L4 (the cross term of a date-time difference as a case definition). -/
import Chrono.Proofs.TimeCarryGapsL
import Chrono.Model.ArithOps

namespace Chrono.Proofs.TimeClosure
open Chrono Chrono.M Chrono.Spec Chrono.Proofs Chrono.Extracted

/-! ### M3 (a): every valid representation is built by two public calls -/

theorem reachable (t : Time) (ht : TValid t) :
    (Time.from_num_seconds_from_midnight_opt t.secs 0).bind (fun u => u.with_nanosecond t.frac) = some t := by
  unfold TValid at ht
  rw [nsfm_iff', if_pos (by omega)]
  show Time.with_nanosecond ⟨t.secs, 0⟩ t.frac = some t
  unfold Time.with_nanosecond
  rw [if_neg (by omega)]

/-! ### M3 (b): closure -/

/-- a constructor that accepts unsigned fields by a rule `c` no wider than `okFields` builds accepted
times only -/
theorem ctor_strict {c : Prop} [Decidable c] (o : Option Time) (h m s n : Int) (r : Time)
    (h0 : 0 ≤ h) (m0 : 0 ≤ m) (s0 : 0 ≤ s) (n0 : 0 ≤ n)
    (ho : o = if c then some (ofFields h m s n) else none) (hc : c → okFields h m s n)
    (e : o = some r) : TStrict r := by
  rw [ho] at e
  obtain ⟨hc', e'⟩ := Option.ite_none_right_eq_some.mp e
  rw [← Option.some.inj e']
  exact (ofFields_ok h m s n h0 m0 s0 n0 (hc hc')).1

/-! ### L1: date-time subtraction is addition of the negated duration -/

theorem dt_sub_is_add_neg (dt : NaiveDT) (d : Delta) (hdt : NDTInv dt) (hd : DInv d) :
    ∃ n, Delta.neg d = .ok n ∧ DInv n ∧ ns n = -(ns d) ∧
      NaiveDT.checked_sub_signed dt d = NaiveDT.checked_add_signed dt n := by
  obtain ⟨n, hn, hninv, hns, _⟩ := sub_is_add_neg' dt.time d hdt.2 hd
  obtain ⟨r2, e2, s2, v2⟩ := Proofs.TimeCarry.sub_outcome dt d hdt hd
  obtain ⟨r1, e1, s1, v1⟩ := Proofs.TimeCarry.add_outcome dt n hdt hninv
  refine ⟨n, hn, hninv, hns, ?_⟩
  rw [e1, e2]
  rw [hns] at s1 v1
  have hdate := dayShift_unique' _ _ _ _ s2 s1
  cases r1 with
  | none =>
    cases r2 with
    | none => rfl
    | some y => cases hdate
  | some x =>
    cases r2 with
    | none => cases hdate
    | some y =>
      have h1 := (v1 x rfl).1
      have h2 := (v2 y rfl).1
      have h3 : y.date = x.date := Option.some.inj hdate
      obtain ⟨xd, xt⟩ := x
      obtain ⟨yd, yt⟩ := y
      dsimp only at h1 h2 h3
      rw [h1, h2, h3]

/-! ### L2: the operator forms of `NaiveDateTime` panic exactly when the checked form refuses -/

theorem expect_char (dt : NaiveDT) (k : Int) (c : Res (Option NaiveDT)) (r : Option NaiveDT)
    (e : c = .ok r) (s : IsDayShift dt.date k (r.map (·.date))) :
    (expectSome c = .panic ↔ (dayNumOf dt.date + k < DN_MIN ∨ DN_MAX < dayNumOf dt.date + k)) ∧
    (∀ x, expectSome c = .ok x ↔ c = .ok (some x)) := by
  subst e
  cases r with
  | none =>
    refine ⟨⟨fun _ => s.1.mp rfl, fun _ => rfl⟩, ?_⟩
    intro x
    exact ⟨fun h => (by cases h), fun h => (by cases h)⟩
  | some y =>
    refine ⟨⟨fun h => (by cases h), fun h => ?_⟩, ?_⟩
    · have := s.1.mpr h; cases this
    · intro x
      constructor
      · intro h; have h' : y = x := Res.ok.inj h; rw [h']
      · intro h; have h' : y = x := Option.some.inj (Res.ok.inj h); rw [h']; rfl

/-! ### L4: the cross term as a case definition -/

theorem crossCase_eq (x o : NaiveDT) (hx : TValid x.time) (ho : TValid o.time) :
    crossErr x o = crossCase x o := by
  rw [Proofs.TimeGaps.crossErr_cases x o hx ho]; rfl

end Chrono.Proofs.TimeClosure
