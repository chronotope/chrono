/-
  C20, zone-aware values of the WHOLE domain (any offset of less than a day, any well-formed time of day,
  wall clock inside or outside `NaiveDate`'s range): what serde writes and what the reader makes of it, in
  terms of Spec (`wallSecs`, `roundMin`, `shownWallSecs`, `InRangeSecs`).  Used by Props/C20.lean.
-/
import Chrono.Proofs.SerdeAnyL
namespace Chrono.Proofs.SerdeAny
open Chrono Chrono.M Chrono.M.Scan Chrono.M.Format Chrono.M.TextForms Chrono.M.Serde
open Chrono.Spec Chrono.Spec.Text Chrono.Spec.Serde Chrono.Spec.Fields Chrono.Proofs.TextForms Chrono.Proofs.RenderScan
open Chrono.Proofs Chrono.Proofs.SerdeStr Chrono.Extracted Chrono.Proofs.ParsedRes

theorem shown_secs_frac (t : Time) :
    (shownTime t).secs = t.secs + (if t.frac ≥ 1000000000 ∧ t.secs % 60 ≠ 59 then 1 else 0) ∧
    (shownTime t).frac = (if t.frac ≥ 1000000000 ∧ t.secs % 60 ≠ 59 then t.frac - 1000000000 else t.frac) := by
  unfold shownTime
  by_cases h : t.frac ≥ 1000000000 ∧ t.secs % 60 ≠ 59
  · rw [if_pos h, if_pos h, if_pos h]; exact ⟨rfl, rfl⟩
  · rw [if_neg h, if_neg h, if_neg h]; exact ⟨by omega, rfl⟩

theorem offValid_natAbs (x : Int) : ¬ OffValid x ↔ 86400 ≤ x.natAbs := by
  unfold OffValid; omega

/-- the wall clock as shown, in terms of the value: a wall clock `l` at second `wallSecs z` with `z`'s
fraction field is shown at second `shownWallSecs z` with fraction field `shownWallFrac z` -/
theorem shown_wall (z : Zoned) (l : NaiveDT) (h3 : instSecs l = wallSecs z) (h4 : l.time.frac = z.utc.time.frac) :
    instSecs ⟨l.date, shownTime l.time⟩ = shownWallSecs z ∧ (shownTime l.time).frac = shownWallFrac z := by
  unfold shownWallSecs shownWallFrac shownTime
  rw [← h3, ← h4, Ts.instSecs_mod60 l]
  unfold instSecs
  split <;> exact ⟨by dsimp only; omega, rfl⟩

/-- the wall clock of any well-formed zone-aware value, with the text serde writes for it -/
theorem serde_write_any (z : Zoned) (hz : ZInv z) :
    ∃ l Y O, Zoned.overflowing_naive_local z = .ok l ∧ ExtNDTInv l ∧ instSecs l = wallSecs z ∧
      l.time.frac = z.utc.time.frac ∧ (DateInv l.date ↔ InRangeSecs (wallSecs z)) ∧
      l.date = dateOfYo Y O ∧ VYO Y O ∧
      DateTimeStr.serialize z = wok (dateText Y (monthOfYo Y O) (dayOfYo Y O) ++
        (84 :: (timeText (shownTime l.time) ++ zoneTextAny z.off))) := by
  obtain ⟨l, h1, h2, h3, h4, _, h6⟩ := naive_local_spec z hz
  obtain ⟨e1, e2⟩ := ext_eq l.date h2.1
  have hMIN : MIN_YEAR = -262143 := rfl
  have hMAX : MAX_YEAR = 262142 := rfl
  obtain ⟨v1, v2, v3, v4⟩ := e2
  refine ⟨l, l.date.year, l.date.ordinal.toNat, h1, h2, h3, h4, h6, e1, ⟨v1, v2, v3, v4⟩, ?_⟩
  unfold DateTimeStr.serialize
  rw [h1]
  show write_rfc3339 l z.off .autoSi true = _
  rw [serde_write_wall l _ _ (by omega) ⟨v3, v4⟩ e1 h2.2 z.off hz.2, ← timeText_shown l.time h2.2]

/-- **wall clock inside `NaiveDate`'s range, any offset, any time of day**: the text, and what
`DateTimeVisitor::visit_str` answers for it -/
theorem serde_rt_in_range (z : Zoned) (hz : ZInv z) (hw : InRangeSecs (wallSecs z)) :
    ∃ l text, NDTInv l ∧ instSecs l = wallSecs z ∧ l.time.frac = z.utc.time.frac ∧
      Zoned.overflowing_naive_local z = .ok l ∧
      DateTimeStr.serialize z = wok text ∧ text = naiveText 84 l ++ zoneTextAny z.off ∧
      ∃ r, DateTimeStr.visit_str text = .ok r ∧
        (r = .err ↔ (86400 ≤ (roundMin z.off).natAbs ∨ ¬ InRangeSecs (shownWallSecs z - roundMin z.off))) ∧
        (∀ z', r = .ok z' → z'.off = roundMin z.off ∧ NDTInv z'.utc ∧
          instSecs z'.utc = shownWallSecs z - roundMin z.off ∧ z'.utc.time.frac = shownWallFrac z) := by
  obtain ⟨l, Y, O, h1, h2, h3, h4, h6, he, hv, htxt⟩ := serde_write_any z hz
  have hdi : DateInv l.date := h6.mpr hw
  obtain ⟨_, hy1, hy2⟩ := (dateInv_iff l.date).mp hdi
  obtain ⟨v1, v2, v3, v4⟩ := hv
  obtain ⟨fy, _⟩ := dateOfYo_fields Y O (by have := yearLen_ge Y; omega)
  rw [he, fy] at hy1 hy2
  have hvd : VD Y O := ⟨hy1, hy2, v3, v4⟩
  have hMIN : MIN_YEAR = -262143 := rfl
  have hMAX : MAX_YEAR = 262142 := rfl
  have hst := shownTime_strict l.time h2.2
  obtain ⟨b1, b2, b3, _, _⟩ := roundMin_bounds z.off hz.2
  -- the text in terms of the wall clock
  have htext : naiveText 84 l ++ zoneTextAny z.off =
      dateText Y (monthOfYo Y O) (dayOfYo Y O) ++ (84 :: (timeText (shownTime l.time) ++ zoneTextAny z.off)) := by
    unfold naiveText
    rw [he, dateTextOf_yo Y O hvd, ← timeText_shown l.time h2.2, List.append_assoc, List.cons_append]
  obtain ⟨hsecs, hfrac⟩ := shown_wall z l h3 h4
  rw [he] at hsecs
  have hl'ext : ExtNDTInv ⟨dateOfYo Y O, shownTime l.time⟩ := ⟨by rw [← he]; exact h2.1, hst.1⟩
  have hl'di : DateInv (⟨dateOfYo Y O, shownTime l.time⟩ : NaiveDT).date := by rw [← he]; exact hdi
  refine ⟨l, _, ⟨hdi, h2.2⟩, h3, h4, h1, htxt, htext.symm, ?_⟩
  have hread := fixed_read_wall Y O (by omega) ⟨v3, v4⟩ (shownTime l.time) hst z.off hz.2
  obtain ⟨w1, w2, w3⟩ := to_datetime_wall Y O hvd (shownTime l.time) hst (roundMin z.off) (by omega)
  unfold DateTimeStr.visit_str
  rw [hread]
  by_cases hR : OffValid (roundMin z.off)
  · have heast : Zoned.east_opt (roundMin z.off) = some (roundMin z.off) := by
      unfold Zoned.east_opt; exact if_pos hR
    obtain ⟨q, hq, q2, q3, q4⟩ := from_local_spec (roundMin z.off) _ hR hl'ext
    have hR' := hR
    cases q with
    | none =>
      rw [w2 _ heast hq]
      refine ⟨.err, rfl, ⟨fun _ => Or.inr (by rw [← hsecs]; exact q3 rfl), fun _ => rfl⟩, fun z' h => by cases h⟩
    | some z' =>
      rw [w3 _ z' heast hq]
      obtain ⟨c1, c2, c3, c4, c5⟩ := q2 z' rfl
      refine ⟨.ok z', rfl, ⟨fun h => (by cases h), fun h => ?_⟩, fun z'' h => ?_⟩
      · exfalso
        rcases h with h | h
        · exact (offValid_natAbs _).mpr h hR'
        · apply h; rw [← hsecs]; exact q4 hl'di (by intro hh; cases hh)
      · injection h with h
        subst h
        exact ⟨c1, ⟨c5 hl'di, c2.2⟩, by rw [c3, hsecs], by rw [c4, hfrac]⟩
  · have heast : Zoned.east_opt (roundMin z.off) = none := by
      unfold Zoned.east_opt; exact if_neg hR
    rw [w1 heast]
    exact ⟨.err, rfl, ⟨fun _ => Or.inl ((offValid_natAbs _).mp hR), fun _ => rfl⟩, fun z' h => by cases h⟩

/-- **wall clock outside `NaiveDate`'s range** (possible within a day of either range end): serializing
succeeds, and `visit_str` answers `Err` for the text — never a value, never a panic; any offset, any time -/
theorem serde_rt_out_of_range (z : Zoned) (hz : ZInv z) (hw : ¬ InRangeSecs (wallSecs z)) :
    ∃ text, DateTimeStr.serialize z = wok text ∧ DateTimeStr.visit_str text = .ok .err := by
  obtain ⟨l, Y, O, h1, h2, h3, h4, h6, he, hv, htxt⟩ := serde_write_any z hz
  have hndi : ¬ DateInv l.date := fun h => hw (h6.mp h)
  obtain ⟨v1, v2, v3, v4⟩ := hv
  obtain ⟨fy, _⟩ := dateOfYo_fields Y O (by have := yearLen_ge Y; omega)
  have hout : Y < MIN_YEAR ∨ MAX_YEAR < Y := by
    by_contra hc
    apply hndi
    rw [dateInv_iff]
    refine ⟨h2.1, ?_, ?_⟩ <;> rw [he, fy] <;> omega
  have hMIN : MIN_YEAR = -262143 := rfl
  have hMAX : MAX_YEAR = 262142 := rfl
  have hst := shownTime_strict l.time h2.2
  obtain ⟨b1, b2, _⟩ := roundMin_bounds z.off hz.2
  refine ⟨_, htxt, ?_⟩
  obtain ⟨e, hee⟩ := to_datetime_wall_out Y O (by omega) hout ⟨v3, v4⟩ (shownTime l.time) hst (roundMin z.off)
    (by omega)
  unfold DateTimeStr.visit_str
  rw [fixed_read_wall Y O (by omega) ⟨v3, v4⟩ (shownTime l.time) hst z.off hz.2, hee]
  rfl

/-- a target that post-processes the visitor's value (`.map(|dt| dt.with_timezone(..))`): the round trip is
the round trip into the visitor's own type, post-processed -/
theorem strRoundTrip_map {α β γ : Type} (F : StrFormat) (w : α → W) (visit : List Nat → Res (SR β)) (f : β → γ)
    (v : α) :
    strRoundTrip F w (fun s => (visit s).bind fun r => .ok (r.map f)) v =
      (strRoundTrip F w visit v).bind fun r => .ok (r.map f) := by
  unfold strRoundTrip
  cases strSerializeW F w v with
  | panic => rfl
  | ok r =>
    cases r with
    | err => rfl
    | ok e =>
      show strDeserializeV F _ e = (strDeserializeV F visit e).bind _
      unfold strDeserializeV
      cases F.getStr e with
      | none => rfl
      | some s => rfl

end Chrono.Proofs.SerdeAny
