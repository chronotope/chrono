/-
  Helper lemmas for C10, writer side: the text `Format.write_rfc3339` produces for a wall clock with
  year 0–9999, and that this text is in the grammar of Spec/Rfc3339Spec.lean showing exactly the
  wall-clock fields.
-/
import Chrono.Proofs.Rfc3339L

namespace Chrono.Proofs.Rfc3339
open Chrono Chrono.M Chrono.M.Scan Chrono.M.Format Chrono.Spec Chrono.Spec.Rfc3339 Chrono.Proofs.RenderScan
open Chrono.Extracted Chrono.Proofs

theorem seq_wok (a b : List Nat) : (wok a).seq (wok b) = wok (a ++ b) := rfl

/-- the fraction text `write_rfc3339` appends for sub-second nanoseconds `n` -/
def fracText (sf : SecondsFormat) (n : Int) : List Nat :=
  match sf with
  | .secs => []
  | .millis => [46] ++ fmtInt (n / 1000000) 3 .zero false
  | .micros => [46] ++ fmtInt (n / 1000) 6 .zero false
  | .nanos => [46] ++ fmtInt n 9 .zero false
  | .autoSi =>
    if n = 0 then []
    else if n % 1000000 = 0 then [46] ++ fmtInt (n / 1000000) 3 .zero false
    else if n % 1000 = 0 then [46] ++ fmtInt (n / 1000) 6 .zero false
    else [46] ++ fmtInt n 9 .zero false

/-- the offset text at minute precision with a colon (`Z` on request for offset zero) -/
def offText (use_z : Bool) (off : Int) : List Nat :=
  if use_z = true ∧ off = 0 then [90]
  else (if off < 0 then 45 else 43) ::
    (two (((if off < 0 then -off else off) + 30) / 60 / 60).toNat ++ [58] ++
     two (((if off < 0 then -off else off) + 30) / 60 % 60).toNat)

/-- `write_rfc3339` with its `let`s expanded (definitional) -/
theorem write_rfc3339_unfold (date : Date) (time : Time) (off : Int) (sf : SecondsFormat) (use_z : Bool) :
    write_rfc3339 ⟨date, time⟩ off sf use_z =
      W.ofRes date.month fun month =>
      W.ofRes date.day fun day =>
      (if 0 ≤ date.year ∧ date.year ≤ 9999 then
        (write_hundreds (asU8 (Int.tdiv date.year 100))).seq (write_hundreds (asU8 (Int.tmod date.year 100)))
       else wok (fmtInt date.year 5 .zero true)).seq <| (wok [45]).seq <| (write_hundreds (asU8 month)).seq <|
      (wok [45]).seq <| (write_hundreds (asU8 day)).seq <| (wok [84]).seq <|
      (write_hundreds (asU8 (time.secs / 60 / 60))).seq <| (wok [58]).seq <|
      (write_hundreds (asU8 (time.secs / 60 % 60))).seq <| (wok [58]).seq <|
      (write_hundreds (asU8 (if time.frac ≥ 1000000000 then time.secs % 60 + 1 else time.secs % 60))).seq <|
      (wok (fracText sf (if time.frac ≥ 1000000000 then time.frac - 1000000000 else time.frac))).seq <|
      OffsetFormat.format ⟨.minutes, .colon, use_z, .zero⟩ off := by
  cases sf <;> rfl

theorem write_hundreds_u8 (x : Int) (h0 : 0 ≤ x) (h : x < 100) :
    write_hundreds (asU8 x) = wok (two x.toNat) := by
  rw [show asU8 x = x by unfold asU8; omega, write_hundreds_eq x h0 h]

theorem offset_format_eq (use_z : Bool) (off : Int) (hoff : -86400 < off ∧ off < 86400) :
    OffsetFormat.format ⟨.minutes, .colon, use_z, .zero⟩ off = wok (offText use_z off) := by
  rw [offset_minutes_eq .colon use_z off hoff]
  unfold offText colonText
  split <;> rfl

/-- the year as `write_rfc3339` writes it: four digits for 0–9999, otherwise signed (`{:+05}`) -/
def rfcYearText (y : Int) : List Nat :=
  if 0 ≤ y ∧ y ≤ 9999 then two (y / 100).toNat ++ two (y % 100).toNat else fmtInt y 5 .zero true

/-- **the text of `write_rfc3339`**, any year -/
theorem write_rfc3339_text (date : Date) (time : Time) (off : Int) (sf : SecondsFormat) (use_z : Bool)
    (mo d : Nat) (hmo : date.month = .ok mo) (hd : date.day = .ok d)
    (hmo' : mo ≤ 99) (hd' : d ≤ 99) (ht : TValid time) (hoff : -86400 < off ∧ off < 86400) :
    write_rfc3339 ⟨date, time⟩ off sf use_z =
      wok (rfcYearText date.year ++ (45 :: (two mo ++ (45 :: (two d ++
        (84 :: (two (time.secs / 3600).toNat ++ (58 :: (two (time.secs / 60 % 60).toNat ++ (58 ::
        (two (time.secs % 60 + (if time.frac ≥ 1000000000 then 1 else 0)).toNat ++
        (fracText sf (if time.frac ≥ 1000000000 then time.frac - 1000000000 else time.frac) ++
         offText use_z off)))))))))))) := by
  obtain ⟨t1, t2, t3, t4⟩ := ht
  have hyear : (if 0 ≤ date.year ∧ date.year ≤ 9999 then
        (write_hundreds (asU8 (Int.tdiv date.year 100))).seq (write_hundreds (asU8 (Int.tmod date.year 100)))
      else wok (fmtInt date.year 5 .zero true)) = wok (rfcYearText date.year) := by
    unfold rfcYearText
    split
    · rename_i hy
      rw [Int.tdiv_eq_ediv_of_nonneg hy.1, Int.tmod_eq_emod_of_nonneg hy.1,
        write_hundreds_u8 (date.year / 100) (by omega) (by omega),
        write_hundreds_u8 (date.year % 100) (by omega) (by omega), seq_wok]
    · rfl
  have hsec : (if time.frac ≥ 1000000000 then time.secs % 60 + 1 else time.secs % 60) =
      time.secs % 60 + (if time.frac ≥ 1000000000 then 1 else 0) := by split <;> omega
  have hss : time.secs % 60 + (if time.frac ≥ 1000000000 then 1 else 0) < 100 := by split <;> omega
  rw [write_rfc3339_unfold, hmo, hd]
  simp only [W.ofRes]
  rw [hyear, hsec, write_hundreds_u8 mo (by omega) (by omega), write_hundreds_u8 d (by omega) (by omega),
    write_hundreds_u8 (time.secs / 60 / 60) (by omega) (by omega),
    write_hundreds_u8 (time.secs / 60 % 60) (by omega) (by omega),
    write_hundreds_u8 _ (by omega) hss, offset_format_eq use_z off hoff,
    show time.secs / 60 / 60 = time.secs / 3600 by omega]
  rfl

/-- … for a date with year 0–9999 -/
theorem write_rfc3339_eq (date : Date) (time : Time) (off : Int) (sf : SecondsFormat) (use_z : Bool)
    (mo d : Nat) (hy : 0 ≤ date.year ∧ date.year ≤ 9999) (hmo : date.month = .ok mo) (hd : date.day = .ok d)
    (hmo' : mo ≤ 99) (hd' : d ≤ 99) (ht : TValid time) (hoff : -86400 < off ∧ off < 86400) :
    write_rfc3339 ⟨date, time⟩ off sf use_z =
      wok (two (date.year / 100).toNat ++ (two (date.year % 100).toNat ++ (45 :: (two mo ++ (45 :: (two d ++
        (84 :: (two (time.secs / 3600).toNat ++ (58 :: (two (time.secs / 60 % 60).toNat ++ (58 ::
        (two (time.secs % 60 + (if time.frac ≥ 1000000000 then 1 else 0)).toNat ++
        (fracText sf (if time.frac ≥ 1000000000 then time.frac - 1000000000 else time.frac) ++
         offText use_z off))))))))))))) := by
  rw [write_rfc3339_text date time off sf use_z mo d hmo hd hmo' hd' ht hoff, rfcYearText, if_pos hy,
    List.append_assoc]

/-! ### the text is in the grammar -/

theorem isDig_two (n : Nat) (h : n ≤ 99) : IsDig (48 + n / 10) ∧ IsDig (48 + n % 10) := by
  unfold IsDig; omega

theorem num2_two (n : Nat) (h : n ≤ 99) : num2 (48 + n / 10) (48 + n % 10) = n := by
  simp only [num2, dval]; omega

theorem two_ascii (n : Nat) (h : n ≤ 99) : ∀ c ∈ two n, c < 128 := by
  intro c hc
  simp only [two, List.mem_cons, List.not_mem_nil, or_false] at hc
  omega

/-- date, `T` and time of day in two-digit groups, followed by a fraction text and an offset text -/
def stampText (Y mo d hh mi ss : Nat) (fr offt : List Nat) : List Nat :=
  two (Y / 100) ++ (two (Y % 100) ++ (45 :: (two mo ++ (45 :: (two d ++ (84 :: (two hh ++ (58 ::
    (two mi ++ (58 :: (two ss ++ (fr ++ offt))))))))))))

theorem fracText_ascii {fr ds : List Nat} (h : FracText fr ds) : ∀ c ∈ fr, c < 128 := by
  intro c hc
  cases h with
  | absent => cases hc
  | present _ _ hd =>
    rcases List.mem_cons.mp hc with rfl | hc
    · omega
    · exact Nat.lt_of_le_of_lt (hd c hc).2 (by omega)

/-- such a text is in the grammar and shows the numbers it was assembled from; it has `T` at index 10
and is ASCII when the offset text is (so no U+2212) -/
theorem text_matches (Y mo d hh mi ss : Nat) (hY : Y ≤ 9999) (hmo : mo ≤ 99) (hd : d ≤ 99) (hhh : hh ≤ 99)
    (hmi : mi ≤ 99) (hss : ss ≤ 99) (fr ds offt : List Nat) (zulu neg : Bool) (H M : Nat)
    (hfr : FracText fr ds) (hoff : OffsetText offt zulu neg H M) (hoa : ∀ c ∈ offt, c < 128) :
    Matches (stampText Y mo d hh mi ss fr offt) ⟨Y, mo, d, hh, mi, ss, ds, zulu, neg, H, M⟩ ∧
    (stampText Y mo d hh mi ss fr offt).getD 10 0 = 84 ∧ ∀ c ∈ stampText Y mo d hh mi ss fr offt, c < 128 := by
  have hY1 : Y / 100 ≤ 99 := by omega
  have hY2 : Y % 100 ≤ 99 := by omega
  have a1 := isDig_two (Y / 100) hY1
  have a2 := isDig_two (Y % 100) hY2
  refine ⟨⟨48 + Y / 100 / 10, 48 + Y / 100 % 10, 48 + Y % 100 / 10, 48 + Y % 100 % 10, 48 + mo / 10, 48 + mo % 10,
    48 + d / 10, 48 + d % 10, 84, 48 + hh / 10, 48 + hh % 10, 48 + mi / 10, 48 + mi % 10, 48 + ss / 10, 48 + ss % 10,
    fr, offt, ⟨a1.1, a1.2, a2.1, a2.2⟩, isDig_two mo hmo, isDig_two d hd, Or.inl rfl, isDig_two hh hhh,
    isDig_two mi hmi, isDig_two ss hss, hfr, hoff, ?_, ?_, (num2_two mo hmo).symm, (num2_two d hd).symm,
    (num2_two hh hhh).symm, (num2_two mi hmi).symm, (num2_two ss hss).symm⟩, rfl, ?_⟩
  · simp only [stampText, two, List.cons_append, List.nil_append]
  · simp only [num4, dval]; omega
  · simp only [stampText, List.forall_mem_append, List.forall_mem_cons]
    exact ⟨two_ascii _ hY1, two_ascii _ hY2, by omega, two_ascii _ hmo, by omega, two_ascii _ hd,
      by omega, two_ascii _ hhh, by omega, two_ascii _ hmi, by omega, two_ascii _ hss, fracText_ascii hfr, hoa⟩

/-- the fraction digits `write_rfc3339` shows -/
def fracDigitsOf (sf : SecondsFormat) (n : Int) : List Nat := (fracText sf n).tail

theorem fracText_spec (sf : SecondsFormat) (n : Int) (h0 : 0 ≤ n) (h9 : n < 1000000000) :
    FracText (fracText sf n) (fracDigitsOf sf n) ∧ AllDigits (fracDigitsOf sf n) ∧
    ((fracDigitsOf sf n).length, valOf (fracDigitsOf sf n)) = wantedFrac sf n.toNat := by
  -- `.` and `v` zero-padded to `k` digits
  have key : ∀ (v : Int) (w k : Nat), v.toNat = w → 0 ≤ v → 1 ≤ k → v < ((10 ^ k : Nat) : Int) →
      FracText (46 :: fmtInt v k .zero false) (fmtInt v k .zero false) ∧ AllDigits (fmtInt v k .zero false) ∧
      ((fmtInt v k .zero false).length, valOf (fmtInt v k .zero false)) = (k, w) := by
    intro v w k hw hv hk hlt
    obtain ⟨p1, p2, p3⟩ := fmtInt_pad_spec v k hv hk hlt
    refine ⟨FracText.present _ ?_ ((allDigits_iff _).mpr p1), p1, by rw [p2, p3, hw]⟩
    intro e; rw [e, List.length_nil] at p2; omega
  have k3 := key (n / 1000000) (n.toNat / 1000000) 3 (by omega) (by omega) (by omega) (by omega)
  have k6 := key (n / 1000) (n.toNat / 1000) 6 (by omega) (by omega) (by omega) (by omega)
  have k9 := key n n.toNat 9 rfl h0 (by omega) (by omega)
  unfold fracDigitsOf
  cases sf with
  | secs => exact ⟨FracText.absent, allDigits_nil, rfl⟩
  | millis => exact k3
  | micros => exact k6
  | nanos => exact k9
  | autoSi =>
    simp only [fracText, wantedFrac]
    by_cases h1 : n = 0
    · rw [if_pos h1, if_pos (show n.toNat = 0 by omega)]; exact ⟨FracText.absent, allDigits_nil, rfl⟩
    · rw [if_neg h1, if_neg (show ¬ n.toNat = 0 by omega)]
      by_cases h2 : n % 1000000 = 0
      · rw [if_pos h2, if_pos (show n.toNat % 1000000 = 0 by omega)]; exact k3
      · rw [if_neg h2, if_neg (show ¬ n.toNat % 1000000 = 0 by omega)]
        by_cases h3 : n % 1000 = 0
        · rw [if_pos h3, if_pos (show n.toNat % 1000 = 0 by omega)]; exact k6
        · rw [if_neg h3, if_neg (show ¬ n.toNat % 1000 = 0 by omega)]; exact k9

/-- a sign, two digits, `:`, two digits is an offset text showing that sign and those numbers -/
theorem offsetText_numeric (neg : Prop) [Decidable neg] (H M : Nat) (hH : H ≤ 99) (hM : M ≤ 99) :
    OffsetText ((if neg then 45 else 43) :: (two H ++ [58] ++ two M)) false (decide neg) H M := by
  have d := (⟨(isDig_two H hH).1, (isDig_two H hH).2, (isDig_two M hM).1, (isDig_two M hM).2⟩ :
    IsDig (48 + H / 10) ∧ IsDig (48 + H % 10) ∧ IsDig (48 + M / 10) ∧ IsDig (48 + M % 10))
  by_cases h : neg
  · have := OffsetText.hyphen _ _ _ _ d
    rw [num2_two H hH, num2_two M hM] at this
    rw [if_pos h, decide_eq_true h]; exact this
  · have := OffsetText.plus _ _ _ _ d
    rw [num2_two H hH, num2_two M hM] at this
    rw [if_neg h, decide_eq_false h]; exact this

/-- the offset text of a whole-minute offset: `Z` exactly when asked for at offset zero, else the sign of
the offset (`+` for zero) and the hours and minutes of its absolute value -/
theorem offText_spec (use_z : Bool) (off : Int) (hr : -86400 < off ∧ off < 86400) (hm : off % 60 = 0) :
    OffsetText (offText use_z off) (decide (use_z = true ∧ off = 0)) (decide (off < 0)) (off.natAbs / 3600)
      (off.natAbs / 60 % 60) := by
  unfold offText
  by_cases hz : use_z = true ∧ off = 0
  · rw [if_pos hz, decide_eq_true hz, hz.2]; exact OffsetText.upperZ
  · obtain ⟨e1, e2⟩ := whole_minute_parts off hm
    have ha : (if off < 0 then -off else off) = (off.natAbs : Int) := by split <;> omega
    have hb : off.natAbs < 86400 := by omega
    rw [if_neg hz, decide_eq_false hz, e1, e2, ha]
    generalize off.natAbs = a at hb ⊢
    rw [show ((a : Int) / 3600).toNat = a / 3600 by omega, show ((a : Int) / 60 % 60).toNat = a / 60 % 60 by omega]
    exact offsetText_numeric (off < 0) _ _ (by omega) (by omega)

/-- the offset fields shown for a whole-minute offset denote it -/
theorem offsetOf_shown (off : Int) (hm : off % 60 = 0) (a b c d e g : Nat) (fr : List Nat) (zulu : Bool) :
    offsetOf ⟨a, b, c, d, e, g, fr, zulu, decide (off < 0), off.natAbs / 3600, off.natAbs / 60 % 60⟩ = off := by
  unfold offsetOf
  simp only [decide_eq_true_eq]
  split <;> omega

theorem offText_ascii (use_z : Bool) (off : Int) (hr : -86400 < off ∧ off < 86400) :
    ∀ c ∈ offText use_z off, c < 128 := by
  unfold offText
  split
  · simp
  · simp only [List.forall_mem_append, List.forall_mem_cons]
    exact ⟨by split <;> omega, ⟨two_ascii _ (by split <;> omega), by omega, by simp⟩, two_ascii _ (by omega)⟩

/-! ### the writer on a zone-aware value -/

theorem wall_consts : dayNum 0 1 1 = -365 ∧ dayNum 10000 1 1 = 3652060 := by decide

/-- a wall clock between 0000-01-01 and 9999-12-31 has a year between 0 and 9999 -/
theorem wall_year (y : Int) (o : Nat) (ho : 1 ≤ o ∧ o ≤ yearLen y) (secs : Int) (hs : 0 ≤ secs ∧ secs < 86400)
    (h : WallYear0to9999 ((dayNumYo y o - EPOCH_DAY) * 86400 + secs)) : 0 ≤ y ∧ y ≤ 9999 := by
  obtain ⟨c1, c2⟩ := wall_consts
  unfold WallYear0to9999 at h
  rw [c1, c2] at h
  have hstep := dby_step y
  have h0 : daysBeforeYear 0 = -366 := by decide
  have h1 : daysBeforeYear 10000 = 3652059 := by decide
  have hyl := yearLen_ge y
  unfold dayNumYo at h
  constructor
  · by_contra hc
    have := dby_mono (y + 1) 0 (by omega)
    omega
  · by_contra hc
    have := dby_mono 10000 y (by omega)
    omega

open Chrono.M.Rfc3339 in
/-- **the text of `to_rfc3339_opts`**: for a well-formed value whose wall clock lies in the years 0–9999
the rendering exists and is the calendar date of the wall-clock day, `T`, the second of the day in
hours, minutes and seconds (one more for a leap-second representation), the fraction text of the
sub-second nanoseconds and the offset text -/
theorem to_rfc3339_opts_text (z : Zoned) (hz : ZInv z) (hy : WallYear0to9999 (wallSecs z))
    (sf : SecondsFormat) (use_z : Bool) :
    ∃ Y mo d : Nat, Y ≤ 9999 ∧ validYmd Y mo d = true ∧ dayNum Y mo d = EPOCH_DAY + wallSecs z / 86400 ∧
      to_rfc3339_opts z sf use_z = .ok (stampText Y mo d (wallSecs z % 86400 / 3600).toNat
        (wallSecs z % 86400 / 60 % 60).toNat
        (wallSecs z % 86400 % 60 + (if z.utc.time.frac ≥ 1000000000 then 1 else 0)).toNat
        (fracText sf (z.utc.time.frac % 1000000000)) (offText use_z z.off)) := by
  obtain ⟨l, h1, h2, h3, h4, _, _⟩ := naive_local_spec z hz
  obtain ⟨he, _, _, v3, v4⟩ := ext_eq l.date h2.1
  obtain ⟨t1, t2, t3, t4⟩ := h2.2
  have hsecs := instSecs_ext l h2.1
  rw [h3] at hsecs
  generalize hyv : l.date.year = y at *
  generalize l.date.ordinal.toNat = o at *
  have hyr := wall_year y o ⟨v3, v4⟩ l.time.secs ⟨t1, t2⟩ (hsecs ▸ hy)
  obtain ⟨Y, rfl⟩ := Int.eq_ofNat_of_zero_le hyr.1
  obtain ⟨m1, m2, m3, m4⟩ := month_day_spec Y o v3 v4
  obtain ⟨b1, b2, b3, b4⟩ := validYmd_bounds _ _ _ m3
  have hw := write_rfc3339_eq l.date l.time z.off sf use_z (monthOfYo Y o) (dayOfYo Y o) (by rw [hyv]; exact hyr)
    (by rw [he]; exact m1) (by rw [he]; exact m2) (by omega) (by omega) ⟨t1, t2, t3, t4⟩ hz.2
  have hday : wallSecs z / 86400 = dayNumYo Y o - EPOCH_DAY := by omega
  have hsec : wallSecs z % 86400 = l.time.secs := by omega
  have hfr : (if l.time.frac ≥ 1000000000 then l.time.frac - 1000000000 else l.time.frac) =
      z.utc.time.frac % 1000000000 := by rw [← h4]; split <;> omega
  refine ⟨Y, monthOfYo Y o, dayOfYo Y o, by omega, m3, ?_, ?_⟩
  · rw [hday]
    unfold dayNum
    rw [m4]
    omega
  · unfold to_rfc3339_opts
    rw [h1]
    show expectText (write_rfc3339 ⟨l.date, l.time⟩ z.off sf use_z) = _
    rw [hw, hyv, hfr, hsec, ← h4]
    -- `(↑Y / 100).toNat` is `Y / 100` by computation, likewise `%`
    rfl

end Chrono.Proofs.Rfc3339
