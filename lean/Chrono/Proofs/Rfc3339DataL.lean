/-
  C10, gap G6: the data re-extracted from `parse_rfc3339` and `write_rfc3339` (field widths, separator
  bytes, punctuation bytes, `timezone_offset` flags, the writer's integer literals) tied to the MODEL's
  own literals, not to a second copy of them: `parse_rfc3339_with` / `write_rfc3339_with` are the model
  bodies with every such literal replaced by a cell of a data list, and instantiating them with the
  extracted lists gives exactly `Parse.parse_rfc3339` / `Format.write_rfc3339` (by `rfl`, in
  `C10.source_data_tied_to_model`).  A change of a width, a
  separator, a flag or a divisor in the Rust source (re-extracted on every run) or in the model makes
  the equality fail.
  Namespace `Chrono.Proofs.Rfc3339Data`.
-/
import Chrono.Model.Rfc3339
import Chrono.Extracted.Rfc3339

namespace Chrono.Proofs.Rfc3339Data
open Chrono Chrono.M Chrono.M.Scan Chrono.M.Parse Chrono.M.Format

/-- `Parse.parse_rfc3339` with the (min, max) of the six `scan::number` calls read from `w`, the separator
bytes from `seps`, the bytes of the five `scan::char` calls from `ch` and the three flags of the
`timezone_offset` call from `fl` -/
def parse_rfc3339_with (w seps ch : List Nat) (fl : List Bool) (p : Parsed) (s : List Nat) :
    PRes (Parsed × List Nat) := do
  let (p, s) ← setField Parsed.set_year p (number s (w.getD 0 0) (some (w.getD 1 0)))
  let s ← char s (ch.getD 0 0)
  let (p, s) ← setField Parsed.set_month p (number s (w.getD 2 0) (some (w.getD 3 0)))
  let s ← char s (ch.getD 1 0)
  let (p, s) ← setField Parsed.set_day p (number s (w.getD 4 0) (some (w.getD 5 0)))
  let s ← (match s with
    | c :: rest => if c = seps.getD 0 0 ∨ c = seps.getD 1 0 ∨ c = seps.getD 2 0 then .ok rest else .error PErr.invalid
    | [] => .error PErr.tooShort : PRes (List Nat))
  let (p, s) ← setField Parsed.set_hour p (number s (w.getD 6 0) (some (w.getD 7 0)))
  let s ← char s (ch.getD 2 0)
  let (p, s) ← setField Parsed.set_minute p (number s (w.getD 8 0) (some (w.getD 9 0)))
  let s ← char s (ch.getD 3 0)
  let (p, s) ← setField Parsed.set_second p (number s (w.getD 10 0) (some (w.getD 11 0)))
  let (p, s) ← (match s with
    | 46 :: rest => setNano p (nanosecond rest)
    | _ => .ok (p, s) : PRes (Parsed × List Nat))
  let (s, offset) ← timezone_offset s .charColon (fl.getD 0 false) (fl.getD 1 false) (fl.getD 2 false)
  if offset < -MAX_RFC3339_OFFSET ∨ offset > MAX_RFC3339_OFFSET then .error .outOfRange
  else do
    let p ← Parsed.set_offset p offset
    pure (p, s)

/-- `Format.write_rfc3339` with its fifteen integer literals, in source order, read from `l`:
`(0..=9999)`, `year / 100`, `year % 100`, `nano >= 1_000_000_000`, `sec += 1`, `nano -= 1_000_000_000`,
`Millis: nano / 1_000_000`, `Micros: nano / 1000`, `AutoSi: nano == 0`, `nano % 1_000_000 == 0`,
`nano / 1_000_000`, `nano % 1_000 == 0`, `nano / 1_000` -/
def write_rfc3339_with (l : List Int) (dt : NaiveDT) (off : Int) (secform : SecondsFormat) (use_z : Bool) : W :=
  let year := dt.date.year
  let y : W :=
    if 0 ≤ year ∧ year ≤ l.getD 0 0 then
      (write_hundreds (asU8 (Int.tdiv year (l.getD 1 0)))).seq (write_hundreds (asU8 (Int.tmod year (l.getD 2 0))))
    else wok (fmtInt year 5 .zero true)
  W.ofRes dt.date.month fun month =>
  W.ofRes dt.date.day fun day =>
  let (hour, min, sec0) := dt.time.hms
  let nano0 := dt.time.nanosecond
  let sec := if nano0 ≥ l.getD 3 0 then sec0 + l.getD 4 0 else sec0
  let nano := if nano0 ≥ l.getD 3 0 then nano0 - l.getD 5 0 else nano0
  let frac : List Nat :=
    match secform with
    | .secs => []
    | .millis => [46] ++ fmtInt (nano / l.getD 6 0) 3 .zero false
    | .micros => [46] ++ fmtInt (nano / l.getD 7 0) 6 .zero false
    | .nanos => [46] ++ fmtInt nano 9 .zero false
    | .autoSi =>
      if nano = l.getD 8 0 then []
      else if nano % l.getD 9 0 = l.getD 10 0 then [46] ++ fmtInt (nano / l.getD 11 0) 3 .zero false
      else if nano % l.getD 12 0 = l.getD 13 0 then [46] ++ fmtInt (nano / l.getD 14 0) 6 .zero false
      else [46] ++ fmtInt nano 9 .zero false
  y.seq <| (wok [45]).seq <| (write_hundreds (asU8 month)).seq <| (wok [45]).seq <|
  (write_hundreds (asU8 day)).seq <| (wok [84]).seq <|
  (write_hundreds (asU8 hour)).seq <| (wok [58]).seq <| (write_hundreds (asU8 min)).seq <|
  (wok [58]).seq <| (write_hundreds (asU8 sec)).seq <| (wok frac).seq <|
  OffsetFormat.format ⟨.minutes, .colon, use_z, .zero⟩ off

end Chrono.Proofs.Rfc3339Data
