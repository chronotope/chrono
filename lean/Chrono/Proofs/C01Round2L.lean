/-
  Helper lemmas for the second audit of C01 (audit2/C01.md): coherence of the calendar specification
  (closed-form day number ↔ leap rule, cumulative table ↔ month lengths), the bounds of the ordinal of
  a valid calendar form, and the checked `IsoWeek::week0`.
-/
import Chrono.Proofs.C01GapsL

namespace Chrono.Proofs.C01R2
open Chrono Chrono.M Chrono.Spec Chrono.Extracted Chrono.Proofs Chrono.Proofs.C01Gaps

/-! ### the specification is coherent -/

theorem dby_400 (y : Int) : daysBeforeYear (y + 400) = daysBeforeYear y + 146097 := by
  unfold daysBeforeYear; omega

theorem ordinalOf_jan1 (y : Int) : ordinalOf y 1 1 = 1 := by
  unfold ordinalOf cumDays; simp

/-- the first day of month `m + 1` follows the last day of month `m`: the cumulative table of
`ordinalOf` is the running sum of `monthLen` -/
theorem ordinalOf_month_step (y : Int) (m : Nat) (h1 : 1 ≤ m) (h2 : m < 12) :
    ordinalOf y (m + 1) 1 = ordinalOf y m (monthLen y m) + 1 := by
  rw [ordinalOf_add, ordinalOf_add y m, month_step y m h2 h1]

/-- a valid calendar form has an ordinal that exists in its year -/
theorem valid_ordinal_bounds (y : Int) (m d : Nat) (h : validYmd y m d = true) :
    1 ≤ ordinalOf y m d ∧ ordinalOf y m d ≤ yearLen y :=
  ordinal_bounds_c08 y m d h

/-! ### `IsoWeek::week0` with its `u32` subtraction -/

theorem week0r_spec (Y : Int) (W F : Nat) (hW1 : 1 ≤ W) (hW : W < 64) (hF : F < 16) :
    IsoWeek.week0r (Y * 1024 + (W : Int) * 16 + (F : Int)) = .ok (W - 1) := by
  unfold IsoWeek.week0r Date.subOne
  have e : ((Y * 1024 + (W : Int) * 16 + (F : Int)) / 16 % 64).toNat = W := by omega
  rw [e, if_neg (by omega)]

end Chrono.Proofs.C01R2
