/-
  Helper lemmas for C11: the scanning primitives on strings of the RFC 2822 grammar
  (white-space runs, decimal fields, day/month names, zones, comments).
-/
import Chrono.Spec.Rfc2822Spec
import Chrono.Model.Rfc2822
import Chrono.Model.ScanSlices
namespace Chrono.Proofs.Rfc2822
open Chrono Chrono.M Chrono.Spec Chrono.Spec.Rfc2822

/-! ### white space -/

theorem wsLen_ws (w : List Nat) (hw : w ∈ WS) (r : List Nat) :
    Scan.wsLen (w ++ r) = w.length ∧ 0 < w.length := by
  simp only [WS, List.mem_cons, List.mem_nil_iff, or_false] at hw
  rcases hw with h|h|h|h|h|h|h|h|h|h|h|h|h|h|h|h|h|h|h|h|h|h|h|h|h <;> subst h <;> exact ⟨rfl, by decide⟩

theorem Ws.append {a b : List Nat} (ha : Ws a) (hb : Ws b) : Ws (a ++ b) := by
  induction ha with
  | nil => simpa using hb
  | cons w r hw _ ih => rw [List.append_assoc]; exact Ws.cons w _ hw ih

theorem ws1_ws {a : List Nat} (h : Ws1 a) : Ws a := by
  obtain ⟨w, r, hw, hr, rfl⟩ := h; exact Ws.cons w r hw hr

theorem ws1_pos {a : List Nat} (h : Ws1 a) : 0 < a.length := by
  obtain ⟨w, r, hw, hr, rfl⟩ := h
  have := (wsLen_ws w hw []).2
  simp; omega

theorem trimStartAux_ws {w : List Nat} (hw : Ws w) (r : List Nat) (hr : Scan.wsLen r = 0) :
    ∀ fuel, (w ++ r).length ≤ fuel → Scan.trimStartAux fuel (w ++ r) = r := by
  induction hw with
  | nil =>
    intro fuel _
    cases fuel with
    | zero => rfl
    | succ f => simp [Scan.trimStartAux, hr]
  | cons w t hw _ ih =>
    intro fuel hf
    obtain ⟨h1, h2⟩ := wsLen_ws w hw (t ++ r)
    cases fuel with
    | zero => simp only [List.length_append] at hf; omega
    | succ f =>
      rw [List.append_assoc]
      simp only [Scan.trimStartAux, h1]
      rw [if_neg (by omega), List.drop_left]
      apply ih
      simp only [List.length_append] at hf ⊢; omega

theorem trimStart_ws {w : List Nat} (hw : Ws w) (r : List Nat) (hr : Scan.wsLen r = 0) :
    Scan.trimStart (w ++ r) = r := trimStartAux_ws hw r hr _ (Nat.le_refl _)

theorem trimStart_id (r : List Nat) (hr : Scan.wsLen r = 0) : Scan.trimStart r = r :=
  trimStart_ws Ws.nil r hr

theorem space_ws {w : List Nat} (hw : Ws1 w) (r : List Nat) (hr : Scan.wsLen r = 0) :
    Scan.space (w ++ r) = .ok r := by
  simp only [Scan.space]
  rw [trimStart_ws (ws1_ws hw) r hr]
  have := ws1_pos hw
  simp only [List.length_append]
  rw [if_pos (by omega)]

/-- a byte that starts no white-space character -/
theorem wsLen_head (b : Nat) (r : List Nat) (h1 : ¬ (9 ≤ b ∧ b ≤ 13)) (h2 : b ≠ 32) (h3 : b < 194) :
    Scan.wsLen (b :: r) = 0 := by
  simp only [Scan.wsLen]
  rw [if_neg (by omega)]
  split <;> first | rfl | omega

theorem wsLen_nil : Scan.wsLen [] = 0 := rfl


/-! ### decimal numbers -/

/-- value of a digit string on top of an accumulator, as `scan::number` computes it -/
def valAcc (n : Int) (ds : List Nat) : Int := ds.foldl (fun a b => a * 10 + ((b - 48 : Nat) : Int)) n

theorem valAcc_ge (ds : List Nat) : ∀ n : Int, 0 ≤ n → n ≤ valAcc n ds := by
  induction ds with
  | nil => intro n _; exact Int.le_refl _
  | cons d t ih =>
    intro n hn
    have := ih (n * 10 + ((d - 48 : Nat) : Int)) (by omega)
    simp only [valAcc, List.foldl_cons] at this ⊢
    omega

theorem valAcc_dec (ds : List Nat) : ∀ n : Nat, valAcc (n : Int) ds = ((ds.foldl (fun a b => a * 10 + (b - 48)) n : Nat) : Int) := by
  induction ds with
  | nil => intro n; rfl
  | cons d t ih =>
    intro n
    simp only [valAcc, List.foldl_cons]
    have := ih (n * 10 + (d - 48))
    simp only [valAcc] at this
    rw [← this]
    congr 1

theorem valAcc_zero (ds : List Nat) : valAcc 0 ds = (decVal ds : Int) := valAcc_dec ds 0

theorem isDigit_of {b : Nat} (h : 48 ≤ b ∧ b ≤ 57) : Scan.isDigit b = true := by
  simp [Scan.isDigit, h.1, h.2]

/-- what stops `scan::number` after the digits `ds` (counted from index `i`) -/
def Stops (rest : List Nat) (i min : Nat) (max : Option Nat) (len : Nat) : Prop :=
  max = some (i + len) ∨ rest = [] ∨ (∃ c t, rest = c :: t ∧ Scan.isDigit c = false ∧ min ≤ i + len)

theorem step_stop (rest : List Nat) (i min : Nat) (max : Option Nat) (n : Int)
    (h : rest = [] ∨ (∃ c t, rest = c :: t ∧ Scan.isDigit c = false ∧ min ≤ i)) :
    Scan.numberAux.step rest i min max n = .ok (rest, n) := by
  rcases h with h | ⟨c, t, h, hc, hm⟩
  · subst h; rw [Scan.numberAux.step.eq_1]
  · subst h
    rw [Scan.numberAux.step.eq_2]
    simp only [hc, Bool.not_false, if_true]
    rw [if_neg (by omega)]

theorem numberAux_digits (ds : List Nat) (rest : List Nat) (min : Nat) (max : Option Nat) :
    ∀ (i : Nat) (n : Int), Digits ds → 0 ≤ n → (∀ m, max = some m → i + ds.length ≤ m) →
      Stops rest i min max ds.length → valAcc n ds ≤ I64_MAX →
      Scan.numberAux (ds ++ rest) i min max n = .ok (rest, valAcc n ds) := by
  induction ds with
  | nil =>
    intro i n _ _ hmax hstop _
    simp only [List.nil_append, valAcc, List.foldl_nil, List.length_nil, Nat.add_zero, Stops] at *
    cases max with
    | none =>
      rw [Scan.numberAux.eq_2]
      exact step_stop rest i min none n (by simpa using hstop)
    | some m =>
      rw [Scan.numberAux.eq_1]
      by_cases hm : i ≥ m
      · rw [if_pos hm]
      · rw [if_neg hm]
        apply step_stop
        rcases hstop with h | h | h
        · injection h with h; omega
        · exact Or.inl h
        · exact Or.inr h
  | cons d t ih =>
    intro i n hd hn hmax hstop hv
    have hd0 : 48 ≤ d ∧ d ≤ 57 := hd d (by simp)
    have hdt : Digits t := fun b hb => hd b (by simp [hb])
    have hn' : 0 ≤ n * 10 + ((d - 48 : Nat) : Int) := by omega
    have hv' : valAcc (n * 10 + ((d - 48 : Nat) : Int)) t ≤ I64_MAX := by
      simpa [valAcc] using hv
    have hle := valAcc_ge t _ hn'
    have hstep : Scan.numberAux.step (d :: (t ++ rest)) i min max n
        = Scan.numberAux (t ++ rest) (i + 1) min max (n * 10 + ((d - 48 : Nat) : Int)) := by
      rw [Scan.numberAux.step.eq_2]
      simp only [isDigit_of hd0, Bool.not_true, Bool.false_eq_true, if_false]
      rw [if_neg (by omega)]
    have hrec := ih (i + 1) (n * 10 + ((d - 48 : Nat) : Int)) hdt hn'
      (by intro m hm; have := hmax m hm; simp only [List.length_cons] at this; omega)
      (by
        simp only [Stops, List.length_cons] at hstop ⊢
        rcases hstop with h | h | ⟨c, u, h, hc, hm⟩
        · left; rw [h]; congr 1; omega
        · right; left; exact h
        · right; right; exact ⟨c, u, h, hc, by omega⟩)
      hv'
    have hval : valAcc n (d :: t) = valAcc (n * 10 + ((d - 48 : Nat) : Int)) t := by
      simp [valAcc]
    rw [hval, ← hrec, List.cons_append]
    cases max with
    | none => rw [Scan.numberAux.eq_2, hstep]
    | some m =>
      rw [Scan.numberAux.eq_1]
      have := hmax m rfl
      simp only [List.length_cons] at this
      rw [if_neg (by omega), hstep]

/-- `scan::number` on `ds ++ rest` -/
theorem number_digits (ds rest : List Nat) (min : Nat) (max : Option Nat) (hd : Digits ds)
    (hmin : min ≤ ds.length) (hmax : ∀ m, max = some m → ds.length ≤ m)
    (hstop : max = some ds.length ∨ rest = [] ∨ ∃ c t, rest = c :: t ∧ Scan.isDigit c = false)
    (hv : (decVal ds : Int) ≤ I64_MAX) :
    Scan.number (ds ++ rest) min max = .ok (rest, (decVal ds : Int)) := by
  unfold Scan.number
  rw [if_neg (by simp only [List.length_append]; omega)]
  rw [← valAcc_zero] at hv ⊢
  apply numberAux_digits ds rest min max 0 0 hd (Int.le_refl _)
  · intro m hm; have := hmax m hm; omega
  · simp only [Stops, Nat.zero_add]
    rcases hstop with h | h | ⟨c, t, h, hc⟩
    · exact Or.inl h
    · exact Or.inr (Or.inl h)
    · exact Or.inr (Or.inr ⟨c, t, h, hc, hmin⟩)
  · exact hv

/-- digits that overflow an `i64` -/
theorem numberAux_overflow (ds rest : List Nat) (min : Nat) :
    ∀ (i : Nat) (n : Int), Digits ds → 0 ≤ n → n ≤ I64_MAX → valAcc n ds > I64_MAX →
      Scan.numberAux (ds ++ rest) i min none n = .error .outOfRange := by
  induction ds with
  | nil =>
    intro i n _ _ h1 h2
    simp only [valAcc, List.foldl_nil] at h2
    omega
  | cons d t ih =>
    intro i n hd hn h1 h2
    have hd0 : 48 ≤ d ∧ d ≤ 57 := hd d (by simp)
    have hdt : Digits t := fun b hb => hd b (by simp [hb])
    have hval : valAcc n (d :: t) = valAcc (n * 10 + ((d - 48 : Nat) : Int)) t := by
      simp [valAcc]
    rw [hval] at h2
    rw [List.cons_append, Scan.numberAux.eq_2, Scan.numberAux.step.eq_2]
    simp only [isDigit_of hd0, Bool.not_true, Bool.false_eq_true, if_false]
    by_cases hov : n * 10 + ((d - 48 : Nat) : Int) > I64_MAX
    · rw [if_pos hov]
    · rw [if_neg hov]
      exact ih (i + 1) _ hdt (by omega) (by omega) h2

theorem number_overflow (ds rest : List Nat) (min : Nat) (hd : Digits ds) (hmin : min ≤ ds.length)
    (hv : (decVal ds : Int) > I64_MAX) :
    Scan.number (ds ++ rest) min none = .error .outOfRange := by
  unfold Scan.number
  rw [if_neg (by simp only [List.length_append]; omega)]
  rw [← valAcc_zero] at hv
  exact numberAux_overflow ds rest min 0 0 hd (Int.le_refl _) (by unfold I64_MAX; omega) hv


/-! ### names -/

theorem lower_eq : (lower : Nat → Nat) = lowerB := by
  funext b; rfl

theorem caseOf_lowerS {word v : List Nat} (h : CaseOf word v) : lowerS v = word := by
  unfold CaseOf at h; unfold lowerS; rw [← lower_eq]; exact h

/-- `b | 32` of a letter is its lower-case form -/
theorem or32_of_lower (a l : Nat) (h : lower a = l) (h1 : 97 ≤ l) (h2 : l ≤ 122) : or32 a = l := by
  unfold lower at h
  unfold or32
  split at h <;> split <;> omega

theorem name_tables :
    Extracted.SHORT_WEEKDAYS = dayNames ∧ Extracted.SHORT_MONTHS = monthNames ∧
    (∀ i < 7, findIdx dayNames (dayNames.getD i []) = some i) ∧
    (∀ i < 12, findIdx monthNames (monthNames.getD i []) = some i) ∧
    (∀ i < 7, (dayNames.getD i []).length = 3 ∧ ∀ b ∈ dayNames.getD i [], 97 ≤ b ∧ b ≤ 122) ∧
    (∀ i < 12, (monthNames.getD i []).length = 3 ∧ ∀ b ∈ monthNames.getD i [], 97 ≤ b ∧ b ≤ 122) ∧
    (∀ i < 7, weekdayOfIdx i = weekdays[i]?) := by decide

theorem caseOf3 (word v : List Nat) (hw : word.length = 3 ∧ ∀ b ∈ word, 97 ≤ b ∧ b ≤ 122)
    (h : CaseOf word v) :
    ∃ a b c, v = [a, b, c] ∧ word = [or32 a, or32 b, or32 c] := by
  unfold CaseOf at h
  match v, h with
  | [a, b, c], h =>
    refine ⟨a, b, c, rfl, ?_⟩
    subst h
    simp only [List.map_cons, List.map_nil, List.cons.injEq, and_true]
    have hb := hw.2
    simp only [List.map_cons, List.map_nil, List.mem_cons, List.mem_nil_iff, or_false, forall_eq_or_imp, forall_eq] at hb
    exact ⟨(or32_of_lower a _ rfl hb.1.1 hb.1.2).symm, (or32_of_lower b _ rfl hb.2.1.1 hb.2.1.2).symm,
      (or32_of_lower c _ rfl hb.2.2.1 hb.2.2.2).symm⟩
  | [], h => subst h; simp at hw
  | [_], h => subst h; simp at hw
  | [_, _], h => subst h; simp at hw
  | _ :: _ :: _ :: _ :: _, h => subst h; simp at hw

theorem short_weekday_name (i : Nat) (hi : i < 7) (v rest : List Nat) (h : CaseOf (dayNames.getD i []) v) :
    ∃ w, weekdays[i]? = some w ∧ short_weekday (v ++ rest) = .ok (rest, w) := by
  obtain ⟨t1, _, t3, _, t5, _, t6⟩ := name_tables
  have hw := t5 i hi
  obtain ⟨a, b, c, rfl, hword⟩ := caseOf3 _ v hw h
  have hwd : ∃ w, weekdays[i]? = some w := by
    have : i < weekdays.length := hi
    exact ⟨weekdays[i], by simp [this]⟩
  obtain ⟨w, hwi⟩ := hwd
  refine ⟨w, hwi, ?_⟩
  unfold short_weekday short_name
  simp only [List.cons_append, List.nil_append, t1, ← hword, t3 i hi, t6 i hi, hwi]

theorem short_month_name (i : Nat) (hi : i < 12) (v rest : List Nat) (h : CaseOf (monthNames.getD i []) v) :
    short_month0 (v ++ rest) = .ok (rest, i) := by
  obtain ⟨_, t2, _, t4, _, t5, _⟩ := name_tables
  have hw := t5 i hi
  obtain ⟨a, b, c, rfl, hword⟩ := caseOf3 _ v hw h
  unfold short_month0 short_name
  simp only [List.cons_append, List.nil_append, t2, ← hword, t4 i hi]

/-- a string that starts with a digit has no day-name -/
theorem short_weekday_digit (d : Nat) (t : List Nat) (hd : 48 ≤ d ∧ d ≤ 57) :
    ∃ e, short_weekday (d :: t) = .error e := by
  have hor : or32 d = d := by unfold or32; split <;> omega
  unfold short_weekday short_name
  match t with
  | [] => exact ⟨_, rfl⟩
  | [_] => exact ⟨_, rfl⟩
  | b :: c :: r =>
    simp only [hor]
    have hnone : findIdx Extracted.SHORT_WEEKDAYS [d, or32 b, or32 c] = none := by
      unfold findIdx
      have : List.findIdx (fun x => x == [d, or32 b, or32 c]) Extracted.SHORT_WEEKDAYS = 7 := by
        have h1 : ∀ x y z : Nat, 97 ≤ x → ([x, y, z] == [d, or32 b, or32 c]) = false := by
          intro x y z hx
          simp only [List.cons_beq_cons, Bool.and_eq_false_imp, beq_iff_eq]
          intro h; omega
        simp [Extracted.SHORT_WEEKDAYS, List.findIdx_cons, h1]
      rw [this]; rfl
    rw [hnone]
    exact ⟨_, rfl⟩


/-! ### zones -/

theorem isAlpha_iff (b : Nat) : Scan.isAsciiAlpha b = true ↔ isAlpha b := by
  unfold Scan.isAsciiAlpha isAlpha
  simp only [Bool.or_eq_true, Bool.and_eq_true, decide_eq_true_eq]

/-- the rest of the input after a zone: nothing, or a byte that is no ASCII letter -/
def NoAlphaHead (rest : List Nat) : Prop := rest = [] ∨ ∃ c t, rest = c :: t ∧ ¬ isAlpha c

theorem takeAlpha_app (v rest : List Nat) (hv : ∀ b ∈ v, isAlpha b) (hr : NoAlphaHead rest) :
    Scan.takeAlpha (v ++ rest) = (v, rest) := by
  induction v with
  | nil =>
    rcases hr with h | ⟨c, t, h, hc⟩
    · subst h; rfl
    · subst h
      simp only [List.nil_append, Scan.takeAlpha]
      rw [if_neg (by rw [isAlpha_iff]; exact hc)]
  | cons b t ih =>
    have hb := hv b (by simp)
    simp only [List.cons_append, Scan.takeAlpha]
    rw [if_pos ((isAlpha_iff b).mpr hb), ih (fun x hx => hv x (by simp [hx]))]

theorem tz_name (v rest : List Nat) (hv : ∀ b ∈ v, isAlpha b) (hne : v ≠ []) (hr : NoAlphaHead rest) :
    Scan.timezone_offset_2822 (v ++ rest) = ScanSlices.zoneName v rest := by
  unfold Scan.timezone_offset_2822 ScanSlices.zoneName
  rw [takeAlpha_app v rest hv hr]
  have : v.length > 0 := by cases v with | nil => exact absurd rfl hne | cons _ _ => simp
  simp only [this, if_true]
  rfl

theorem lower_alpha (b l : Nat) (h : lower b = l) (hl : 97 ≤ l ∧ l ≤ 122) : isAlpha b := by
  unfold lower at h; unfold isAlpha; split at h <;> omega

/-- hours of a lower-cased zone name, as the `if` chain of `timezone_offset_2822` reads them -/
def zoneSecs (low : List Nat) : Option Int :=
  let is (t : String) : Bool := low == asciiBytes t
  if is "gmt" || is "ut" || is "z" then some 0
  else if is "edt" then some (-4 * 3600)
  else if is "est" || is "cdt" then some (-5 * 3600)
  else if is "cst" || is "mdt" then some (-6 * 3600)
  else if is "mst" || is "pdt" then some (-7 * 3600)
  else if is "pst" then some (-8 * 3600) else none

/-- the single-letter arm -/
def milRes (v rest : List Nat) : PRes (List Nat × Int) :=
  match v with
  | [c] =>
    if (97 ≤ c ∧ c ≤ 105) ∨ (107 ≤ c ∧ c ≤ 121) ∨ (65 ≤ c ∧ c ≤ 73) ∨ (75 ≤ c ∧ c ≤ 89)
    then .ok (rest, 0) else .error .invalid
  | _ => .error .invalid

/-- what the name branch returns, given the hours of the lower-cased name -/
def zoneOut (v rest : List Nat) : Option Int → PRes (List Nat × Int)
  | some h => .ok (rest, h)
  | none => milRes v rest

/-- the name branch is the table of names first, the single-letter arm for what is not in it -/
theorem zoneName_eq (v rest : List Nat) : ScanSlices.zoneName v rest = zoneOut v rest (zoneSecs (lowerS v)) := by
  unfold ScanSlices.zoneName zoneSecs
  simp only [apply_ite (zoneOut v rest)]
  rfl

theorem zoneName_some (v rest : List Nat) (h : Int) (hz : zoneSecs (lowerS v) = some h) :
    ScanSlices.zoneName v rest = .ok (rest, h) := by
  rw [zoneName_eq, hz]; rfl

theorem zone_table_secs : ∀ e ∈ zoneTable,
    zoneSecs e.1 = some (e.2 * 3600) ∧ e.1 ≠ [] ∧ ∀ b ∈ e.1, 97 ≤ b ∧ b ≤ 122 := by decide

theorem ascii_lits :
    asciiBytes "gmt" = [103, 109, 116] ∧ asciiBytes "ut" = [117, 116] ∧ asciiBytes "z" = [122] ∧
    asciiBytes "edt" = [101, 100, 116] ∧ asciiBytes "est" = [101, 115, 116] ∧
    asciiBytes "cdt" = [99, 100, 116] ∧ asciiBytes "cst" = [99, 115, 116] ∧
    asciiBytes "mdt" = [109, 100, 116] ∧ asciiBytes "mst" = [109, 115, 116] ∧
    asciiBytes "pdt" = [112, 100, 116] ∧ asciiBytes "pst" = [112, 115, 116] := by decide

theorem zoneName_letter (c : Nat) (rest : List Nat) (ha : isAlpha c) (hj : lower c ≠ 106) :
    ScanSlices.zoneName [c] rest = .ok (rest, 0) := by
  obtain ⟨e1, e2, e3, e4, e5, e6, e7, e8, e9, e10, e11⟩ := ascii_lits
  unfold isAlpha at ha
  unfold lower at hj
  unfold ScanSlices.zoneName
  simp only [e1, e2, e3, e4, e5, e6, e7, e8, e9, e10, e11, lowerS, List.map_cons, List.map_nil]
  by_cases hz : lowerB c = 122
  · simp [hz]
  · have hc : (97 ≤ c ∧ c ≤ 105) ∨ (107 ≤ c ∧ c ≤ 121) ∨ (65 ≤ c ∧ c ≤ 73) ∨ (75 ≤ c ∧ c ≤ 89) := by
      unfold lowerB at hz
      split at hj <;> split at hz <;> omega
    simp [hz, hc]


theorem tz_numeric (neg : Bool) (h1 h2 m1 m2 : Nat) (rest : List Nat)
    (hh1 : 48 ≤ h1 ∧ h1 ≤ 57) (hh2 : 48 ≤ h2 ∧ h2 ≤ 57) (hm1 : 48 ≤ m1 ∧ m1 ≤ 53) (hm2 : 48 ≤ m2 ∧ m2 ≤ 57) :
    Scan.timezone_offset_2822 ((if neg then 45 else 43) :: h1 :: h2 :: m1 :: m2 :: rest) =
      .ok (rest, (if neg then -1 else 1) *
        ((((h1 - 48) * 10 + (h2 - 48) : Nat) : Int) * 3600 + (((m1 - 48) * 10 + (m2 - 48) : Nat) : Int) * 60)) := by
  have d1 := isDigit_of hh1
  have d2 := isDigit_of hh2
  have d4 := isDigit_of hm2
  -- the sign byte is no letter, so the numeric form is tried
  have hna : Scan.isAsciiAlpha (if neg then 45 else 43) = false := by cases neg <;> decide
  unfold Scan.timezone_offset_2822
  simp only [Scan.takeAlpha, hna, Bool.false_eq_true, if_false, List.length_nil, gt_iff_lt, Nat.lt_irrefl]
  unfold Scan.timezone_offset
  cases neg <;> simp [d1, d2, d4, Scan.consumeColon, hm1.1, hm1.2]


/-! ### comments -/

theorem commentAux_text {a : List Nat} (ha : CText a) :
    ∀ (rest : List Nat) (d : Nat), Scan.commentAux (a ++ 41 :: rest) (some (d + 1, false)) =
      (if d = 0 then .ok rest else Scan.commentAux rest (some (d, false))) := by
  induction ha with
  | nil =>
    intro rest d
    simp only [List.nil_append, Scan.commentAux, if_true]
    by_cases hd : d = 0
    · simp [hd]
    · simp [hd]
  | char c t h1 h2 h3 _ ih =>
    intro rest d
    simp only [List.cons_append, Scan.commentAux, h1, h2, h3, if_false]
    exact ih rest d
  | esc c t _ ih =>
    intro rest d
    simp only [List.cons_append, Scan.commentAux]
    simp only [show (92 : Nat) ≠ 41 by decide, if_false, if_true]
    exact ih rest d
  | nest a t _ _ iha iht =>
    intro rest d
    simp only [List.cons_append, Scan.commentAux]
    simp only [show (40 : Nat) ≠ 41 by decide, show (40 : Nat) ≠ 92 by decide, if_false, if_true]
    rw [List.append_assoc, List.cons_append, iha (t ++ 41 :: rest) (d + 1)]
    rw [if_neg (by omega)]
    exact iht rest d

theorem comment_one {w a : List Nat} (hw : Ws w) (ha : CText a) (rest : List Nat) :
    Scan.comment_2822 (w ++ (40 :: (a ++ 41 :: rest))) = .ok rest := by
  unfold Scan.comment_2822
  rw [trimStart_ws hw _ (wsLen_head 40 _ (by omega) (by omega) (by omega))]
  simp only [Scan.commentAux, if_true]
  rw [commentAux_text ha rest 0, if_pos rfl]

theorem commentsAux_all {cc : List Nat} (hc : Comments cc) :
    ∀ fuel, cc.length ≤ fuel → Parse.commentsAux fuel cc = [] := by
  induction hc with
  | nil =>
    intro fuel _
    cases fuel with
    | zero => rfl
    | succ f => rfl
  | cons w a r hw ha _ ih =>
    intro fuel hf
    cases fuel with
    | zero => simp at hf
    | succ f =>
      simp only [Parse.commentsAux, comment_one hw ha r]
      apply ih
      simp only [List.length_append, List.length_cons] at hf
      omega

end Chrono.Proofs.Rfc2822
