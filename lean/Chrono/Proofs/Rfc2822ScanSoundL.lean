/-
  Helper lemmas for C11: the reader stages inverted and scanner soundness (`scan_sound`).  The inversions
  only recover the SHAPE of the input (a string of the grammar); which record the scanner builds on such a
  string, and inside which ranges, is then read off `parse_rfc2822_spec`.
-/
import Chrono.Proofs.Rfc2822InvL
import Chrono.Proofs.Rfc2822UniqueL
namespace Chrono.Proofs.Rfc2822
open Chrono Chrono.M Chrono.Spec Chrono.Spec.Rfc2822 Chrono.M.Scan Chrono.M.Parse

theorem bind_ok {α β} {x : PRes α} {f : α → PRes β} {r : β} (h : (x >>= f) = .ok r) :
    ∃ a, x = .ok a ∧ f a = .ok r :=
  (Chrono.Proofs.ParsedRes.ebind_ok x f r).mp h

theorem setField_ok {set : Parsed → Int → PRes Parsed} {p q : Parsed} {r : PRes (List Nat × Int)} {s' : List Nat}
    (h : setField set p r = .ok (q, s')) : ∃ v, r = .ok (s', v) ∧ set p v = .ok q := by
  unfold setField at h
  split at h
  · cases h
  · rename_i s v
    cases hs : set p v with
    | error e => rw [hs] at h; cases h
    | ok p' => rw [hs] at h; injection h with h; injection h with h1 h2; exact ⟨v, by rw [h2], by rw [hs, h1]⟩

/-! ### the stages, inverted -/

theorem zonePart_inv (p q : Parsed) (s : List Nat) (h : zonePart p s = .ok (q, [])) :
    ∃ w7 zz cc off, Ws1 w7 ∧ Zone zz off ∧ Comments cc ∧ s = w7 ++ (zz ++ cc) := by
  unfold zonePart at h
  obtain ⟨s1, hsp, h⟩ := bind_ok h
  obtain ⟨⟨s2, off⟩, htz, h⟩ := bind_ok h
  simp only [] at h
  obtain ⟨p1, _, h⟩ := bind_ok h
  injection h with h; injection h with _ hc
  obtain ⟨w7, hw7, hs1, _⟩ := space_inv s s1 hsp
  obtain ⟨zz, hz, hs2⟩ := tz_inv s1 s2 off htz
  exact ⟨w7, zz, s2, off, hw7, hz, commentsAux_inv _ _ (Nat.le_refl _) hc, by rw [hs1, hs2]⟩

theorem secPart_inv (p q : Parsed) (s : List Nat) (h : secPart p s = .ok (q, [])) :
    ∃ ss sec w7 zz cc off, Seconds ss sec ∧ Ws1 w7 ∧ Zone zz off ∧ Comments cc ∧ s = ss ++ (w7 ++ (zz ++ cc)) := by
  unfold secPart at h
  cases hch : Scan.char (Scan.trimStart s) 58 with
  | error e =>
    rw [hch] at h
    simp only [bind, Except.bind] at h
    obtain ⟨w7, zz, cc, off, a1, a2, a3, a4⟩ := zonePart_inv p q s h
    exact ⟨[], none, w7, zz, cc, off, Or.inl ⟨rfl, rfl⟩, a1, a2, a3, a4⟩
  | ok s_ =>
    rw [hch] at h
    obtain ⟨⟨p1, s2⟩, hf, h⟩ := bind_ok h
    obtain ⟨v, hnum, _⟩ := setField_ok hf
    obtain ⟨w, hw, hs, _⟩ := trimStart_inv s
    have hts := char_inv _ _ _ hch
    obtain ⟨ds, hd, hs_, _, hmin, hmax⟩ := number_inv s_ 2 (some 2) s2 v
      (by intro m hm; injection hm with hm; omega) hnum
    have hlen : ds.length = 2 := by have := hmax 2 rfl; omega
    obtain ⟨w7, zz, cc, off, a1, a2, a3, a4⟩ := zonePart_inv p1 q s2 h
    refine ⟨w ++ (58 :: ds), some (decVal ds), w7, zz, cc, off, Or.inr ⟨w, ds, hw, hd, hlen, rfl, rfl⟩,
      a1, a2, a3, ?_⟩
    rw [hs, hts, hs_, a4]; simp


theorem timePart_inv (p q : Parsed) (s : List Nat) (h : timePart p s = .ok (q, [])) :
    ∃ w4 T H M sec off, Ws1 w4 ∧ UTimeTail T H M sec off ∧ s = w4 ++ T := by
  unfold timePart at h
  obtain ⟨s1, hsp, h⟩ := bind_ok h
  obtain ⟨⟨p1, s2⟩, hf1, h⟩ := bind_ok h
  obtain ⟨v1, hn1, _⟩ := setField_ok hf1
  obtain ⟨s3, hch, h⟩ := bind_ok h
  obtain ⟨⟨p2, s4⟩, hf2, h⟩ := bind_ok h
  obtain ⟨v2, hn2, _⟩ := setField_ok hf2
  obtain ⟨w4, hw4, hs, _⟩ := space_inv s s1 hsp
  obtain ⟨hh, hhd, hs1, _, hmin1, hmax1⟩ := number_inv s1 2 (some 2) s2 v1
    (by intro m hm; injection hm with hm; omega) hn1
  have hhl : hh.length = 2 := by have := hmax1 2 rfl; omega
  obtain ⟨w5, hw5, hs2, _⟩ := trimStart_inv s2
  have hts2 := char_inv _ _ _ hch
  obtain ⟨w6, hw6, hs3, _⟩ := trimStart_inv s3
  obtain ⟨mm, hmd, hs3', _, hmin2, hmax2⟩ := number_inv _ 2 (some 2) s4 v2
    (by intro m hm; injection hm with hm; omega) hn2
  have hml : mm.length = 2 := by have := hmax2 2 rfl; omega
  obtain ⟨ss, sec, w7, zz, cc, off, a1, a2, a3, a4, a5⟩ := secPart_inv p2 q s4 h
  exact ⟨w4, _, decVal hh, decVal mm, sec, off, hw4, ⟨hh, w5, w6, mm, ss, w7, zz, cc, hhd, hhl, rfl, hw5, hw6,
    hmd, hml, rfl, a1, a2, a3, a4, rfl⟩, by rw [hs, hs1, hs2, hts2, hs3, hs3', a5]⟩

theorem yearPart_inv (p q : Parsed) (s : List Nat) (h : yearPart p s = .ok (q, [])) :
    ∃ w3 yy w4 T H M sec off, Ws1 w3 ∧ Digits yy ∧ 2 ≤ yy.length ∧ Ws1 w4 ∧ UTimeTail T H M sec off ∧
      s = w3 ++ (yy ++ (w4 ++ T)) := by
  unfold yearPart at h
  obtain ⟨s1, hsp, h⟩ := bind_ok h
  obtain ⟨⟨s2, v⟩, hn, h⟩ := bind_ok h
  simp only [] at h
  obtain ⟨p1, _, htp⟩ := bind_ok h
  obtain ⟨w3, hw3, hs, _⟩ := space_inv s s1 hsp
  obtain ⟨yy, hyd, hs1, _, hmin, _⟩ := number_inv s1 2 none s2 v (fun m hm => nomatch hm) hn
  obtain ⟨w4, T, H, M, sec, off, hw4, ht, hs2⟩ := timePart_inv p1 q s2 htp
  exact ⟨w3, yy, w4, T, H, M, sec, off, hw3, hyd, hmin, hw4, ht, by rw [hs, hs1, hs2]⟩

theorem datePart_inv (p q : Parsed) (s : List Nat) (h : datePart p s = .ok (q, [])) :
    ∃ w1 R day month year H M sec off, Ws w1 ∧ UDateTail R day month year H M sec off ∧ s = w1 ++ R := by
  unfold datePart at h
  simp only [] at h
  obtain ⟨⟨p1, s1⟩, hf, h⟩ := bind_ok h
  obtain ⟨v, hn, _⟩ := setField_ok hf
  simp only [] at h
  obtain ⟨s2, hsp, h⟩ := bind_ok h
  obtain ⟨⟨p2, s3'⟩, hmo', h⟩ := bind_ok h
  obtain ⟨w1, hw1, hs, _⟩ := trimStart_inv s
  obtain ⟨dd, hdd, hs0, _, hmin, hmax⟩ := number_inv _ 1 (some 2) s1 v
    (by intro m hm; injection hm with hm; omega) hn
  have hdl : dd.length = 1 ∨ dd.length = 2 := by have := hmax 2 rfl; omega
  obtain ⟨w2, hw2, hs1, _⟩ := space_inv s1 s2 hsp
  cases hmo : short_month0 s2 with
  | error e => rw [hmo] at hmo'; cases e <;> cases hmo'
  | ok r2 =>
  obtain ⟨s3, i⟩ := r2
  rw [hmo] at hmo'
  simp only [] at hmo'
  obtain ⟨hi, mn, hcase, hs2⟩ := short_month0_inv s2 s3 i hmo
  have hs3 : s3' = s3 := by
    cases hset2 : Parsed.set_month p1 (1 + (i : Int)) with
    | error e => rw [hset2] at hmo'; cases hmo'
    | ok p2' => rw [hset2] at hmo'; injection hmo' with hmo'; injection hmo' with _ h2; exact h2.symm
  subst hs3
  obtain ⟨w3, yy, w4, T, H, M, sec, off, c1, c2, c3, c4, c5, c6⟩ := yearPart_inv p2 q s3' h
  exact ⟨w1, _, decVal dd, i + 1, yearOf yy, H, M, sec, off, hw1,
    ⟨dd, w2, mn, w3, yy, w4, T, hdd, hdl, rfl, hw2, ⟨i, hi, hcase, rfl⟩, c1, c2, c3, rfl, c4, c5, rfl⟩,
    by rw [hs, hs0, hs1, hs2, c6]⟩


/-- scanner soundness: whatever `parse_rfc2822` consumes entirely is a string of the grammar, and the
record it builds is that of the spelled fields (which are inside the setter ranges) -/
theorem scan_sound (s : List Nat) (q : Parsed) (h : Parse.parse_rfc2822 Parsed.new s = .ok (q, [])) :
    ∃ f, Rfc2822 s f ∧ SetterRanges f ∧ f.month ≤ 12 ∧ 0 ≤ f.year ∧ q = parsedOf f := by
  have h0 := h
  rw [parse_eq] at h
  unfold parseCopy at h
  simp only [] at h
  obtain ⟨w0, hw0, hs, _⟩ := trimStart_inv s
  have fin : ∀ (p0 : Parsed) (wd : Option Weekday) (pre t0 : List Nat), DayName pre wd → s = w0 ++ (pre ++ t0) →
      datePart p0 t0 = .ok (q, []) →
      ∃ f, Rfc2822 s f ∧ SetterRanges f ∧ f.month ≤ 12 ∧ 0 ≤ f.year ∧ q = parsedOf f := by
    intro p0 wd pre t0 hdn hs0 hd
    obtain ⟨w1, R, day, month, year, H, M, sec, off, a1, a2, a3⟩ := datePart_inv p0 q t0 hd
    have hf : Rfc2822 s ⟨wd, day, month, year, H, M, sec, off⟩ :=
      rfc2822_split.mpr ⟨w0, pre, w1, R, hw0, hdn, a1, a2, by rw [hs0, a3]⟩
    -- the scanner is a function: on this string it returns what `parse_rfc2822_spec` says
    obtain ⟨hr, hq⟩ := ok_of_ite ((parse_rfc2822_spec s _ hf).symm.trans h0)
    obtain ⟨_, _, _, _, yy, _, _, _, _, _, _, ⟨i, hi, _, rfl⟩, _, _, _, rfl, _⟩ := a2
    have hyge := yearOf_ge yy
    exact ⟨_, hf, hr, by show i + 1 ≤ 12; omega, by show (0 : Int) ≤ yearOf yy; omega, (Prod.mk.inj hq).1⟩
  cases hsw : short_weekday (Scan.trimStart s) with
  | error e =>
    rw [hsw] at h
    simp only [bind, Except.bind] at h
    exact fin Parsed.new none [] (Scan.trimStart s) (Or.inl ⟨rfl, rfl⟩) (by simpa using hs) h
  | ok r =>
    obtain ⟨s1, w⟩ := r
    rw [hsw] at h
    simp only [] at h
    obtain ⟨i, v, hi, hcase, hv, hwi⟩ := short_weekday_inv _ s1 w hsw
    cases s1 with
    | nil => cases h
    | cons c t =>
      by_cases hc : c = 44
      · subst hc
        simp only [bind, Except.bind, Parsed.set_weekday, Parsed.setIf, Parsed.new, pure, Except.pure,
          Except.map] at h
        refine fin _ (some w) (v ++ [44]) t (Or.inr ⟨i, v, hi, hcase, rfl, hwi.symm⟩) ?_ h
        rw [hs, hv]; simp
      · exfalso
        revert h
        split
        · rename_i heq; injection heq with h1 _; exact absurd h1 hc
        · intro h; cases h

/-- `parse` with the single item `RFC2822` succeeds only by scanning a string of the grammar to its end -/
theorem parse_items_sound (s : List Nat) (p : Parsed) (hp : Parse.parse Parsed.new s Rfc2822.ITEMS = .ok p) :
    ∃ f, Rfc2822 s f ∧ SetterRanges f ∧ f.month ≤ 12 ∧ 0 ≤ f.year ∧ p = parsedOf f := by
  rw [parse_items_eq] at hp
  split at hp
  · rename_i p' hr
    injection hp with hp
    exact scan_sound s p (hp ▸ hr)
  · cases hp
  · cases hp

end Chrono.Proofs.Rfc2822
