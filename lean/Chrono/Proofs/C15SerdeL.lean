/-
  C15: the serde entry points return normally.  The sixteen timestamp modules on every valid value
  (leap-second representations and the nanosecond modules outside the `i64` window included: an error by
  value, never a panic) and on everything a data format can hand to their visitors.  (The four string
  visitors on every text: C20 `visit_str_never_panics`.)  Namespace `Chrono.Proofs.C15Serde`.
-/
import Chrono.Props.C20

namespace Chrono.Proofs.C15Serde
open Chrono Chrono.M Chrono.M.Serde Chrono.Spec Chrono.Spec.Ts Chrono.Spec.Serde Chrono.Proofs Chrono.Proofs.Ts

theorem bind_total {α β} {x : Res α} {a : α} (f : α → Res β) (hx : x = .ok a) (hf : ∀ a, ∃ r, f a = .ok r) :
    ∃ r, x.bind f = .ok r := by
  subst hx; exact hf a

/-- `timestamp_nanos_opt` never panics, on any valid value, leap-second representations included (the
count is formed in 128 bits and range-checked: absence by value) -/
theorem nanos_opt_total (dt : NaiveDT) (h : NDTInv dt) : ∃ r, NaiveDT.timestamp_nanos_opt dt = .ok r := by
  have hts := timestamp_spec dt h
  unfold NaiveDT.timestamp_nanos_opt
  rw [hts]
  exact ⟨_, rfl⟩

/-- what a data format can hand to an integer visitor: an `i64`, a `u64`, or something else -/
def WIntOk : WInt → Prop
  | .i64 v => isI64 v
  | .u64 v => isU64 v
  | .other => True
def WOptOk : WOpt → Prop
  | .some w => WIntOk w
  | _ => True

theorem ts_serialize_total (tg : Target) (u : TsUnit) (dt : NaiveDT) (h : NDTInv dt) :
    (∃ r, serialize tg u dt = .ok r) ∧ (∃ r, serialize_option tg u (some dt) = .ok r) ∧
    (∃ r, serialize_option tg u none = .ok r) := by
  have a1 := timestamp_spec dt h
  have a2 := timestamp_millis_spec dt h
  have a3 := timestamp_micros_spec dt h
  obtain ⟨o, a4⟩ := nanos_opt_total dt h
  have n1 : ∀ (k : Int → SOut) (o : Option Int), ∃ r, (match ok_or o with
      | .ok n => Res.ok (SR.ok (k n)) | .err => Res.ok SR.err) = .ok r := by
    intro k o; cases o <;> exact ⟨_, rfl⟩
  -- by unit; the two targets read the same accessor
  refine ⟨?_, ?_, ?_⟩
  · cases u
    · cases tg <;> exact bind_total _ a1 fun _ => ⟨_, rfl⟩
    · cases tg <;> exact bind_total _ a2 fun _ => ⟨_, rfl⟩
    · cases tg <;> exact bind_total _ a3 fun _ => ⟨_, rfl⟩
    · cases tg <;> exact bind_total _ a4 (n1 .i64)
  · cases u
    · cases tg <;> exact bind_total _ a1 fun _ => ⟨_, rfl⟩
    · cases tg <;> exact bind_total _ a2 fun _ => ⟨_, rfl⟩
    · cases tg <;> exact bind_total _ a3 fun _ => ⟨_, rfl⟩
    · cases tg <;> exact bind_total _ a4 (n1 .some)
  · cases tg <;> cases u <;> exact ⟨_, rfl⟩

theorem ts_deserialize_total (tg : Target) (u : TsUnit) (w : WInt) (hw : WIntOk w) :
    ∃ r, deserialize tg u w = .ok r ∧ ∀ dt, r = .ok dt → NDTInv dt := by
  obtain ⟨h1, h2, h3⟩ := Chrono.Props.C20.ts_rejects tg u (match w with | .i64 v => v | .u64 v => v | .other => 0)
  cases w with
  | i64 v => obtain ⟨r, hr, _, hv⟩ := h1 hw; exact ⟨r, hr, fun dt hd => (hv dt hd).1⟩
  | u64 v => obtain ⟨r, hr, _, hv⟩ := h2 hw; exact ⟨r, hr, fun dt hd => (hv dt hd).1⟩
  | other => exact ⟨_, h3, fun dt hd => by cases hd⟩

theorem ts_deserialize_option_total (tg : Target) (u : TsUnit) (w : WOpt) (hw : WOptOk w) :
    ∃ r, deserialize_option tg u w = .ok r ∧ ∀ dt, r = .ok (some dt) → NDTInv dt := by
  obtain ⟨h1, h2, h3, h4⟩ := Chrono.Props.C20.ts_option_reads tg u
  cases w with
  | none => exact ⟨_, h2, fun dt hd => by cases hd⟩
  | unit => exact ⟨_, h3, fun dt hd => by cases hd⟩
  | other => exact ⟨_, h4, fun dt hd => by cases hd⟩
  | some x =>
    obtain ⟨r, hr, hv⟩ := ts_deserialize_total tg u x hw
    rw [h1 x, hr]
    refine ⟨_, rfl, ?_⟩
    intro dt hd
    cases r with
    | err => cases hd
    | ok a => cases hd; exact hv _ rfl

end Chrono.Proofs.C15Serde
