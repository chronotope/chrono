/- Helper lemmas for C16, part 2: the TZif reader (no panic, validity of accepted zones). -/
import Chrono.Proofs.TzGrammarL

namespace Chrono.Proofs.Tz
open Chrono Chrono.M.Tz Chrono.Spec.Tz Chrono.Extracted.TzP

/-! ### primitives -/
theorem beNat_aux_lt (bs : List Nat) (a : Nat) :
    bs.foldl (fun a b => a * 256 + b % 256) a < (a + 1) * 256 ^ bs.length := by
  induction bs generalizing a with
  | nil => simp
  | cons b t ih =>
    simp only [List.foldl_cons, List.length_cons]
    have h := ih (a * 256 + b % 256)
    have h2 : (a * 256 + b % 256 + 1) ≤ (a + 1) * 256 := by omega
    calc _ < (a * 256 + b % 256 + 1) * 256 ^ t.length := h
      _ ≤ ((a + 1) * 256) * 256 ^ t.length := Nat.mul_le_mul_right _ h2
      _ = (a + 1) * 256 ^ (t.length + 1) := by rw [Nat.pow_succ, Nat.mul_assoc, Nat.mul_comm 256]

theorem beNat_lt (bs : List Nat) : beNat bs < 256 ^ bs.length := by
  have := beNat_aux_lt bs 0
  simpa [beNat] using this

theorem post_read_exact (c : Cursor) (n : Nat) :
    Post (read_exact c n) (fun r => r.1.length = n ∧ r.2.length + n = c.length ∧ r.1 = c.take n ∧ r.2 = c.drop n) := by
  rcases read_exact_cases c n with ⟨h1, h⟩ | h <;> rw [h]
  · refine post_ok ⟨?_, ?_, rfl, rfl⟩
    · simp [List.length_take]; omega
    · simp [List.length_drop]; omega
  · exact post_err

theorem post_read_be_u32 (c : Cursor) :
    Post (read_be_u32 c) (fun r => r.1 < 4294967296 ∧ r.2.length + 4 = c.length) := by
  unfold read_be_u32
  rcases post_cases (post_read_exact c 4) with e | ⟨⟨bs, c'⟩, e, h1, h2, -, -⟩ <;> simp only [e]
  · exact post_err
  · refine post_ok ⟨?_, h2⟩
    have := beNat_lt bs
    rw [h1] at this
    simpa using this

/-! ### header and data blocks -/
def HeaderV (h : Header) : Prop :=
  h.ut_local_count < 4294967296 ∧ h.std_wall_count < 4294967296 ∧ h.leap_count < 4294967296
    ∧ h.transition_count < 4294967296 ∧ h.type_count < 4294967296 ∧ h.char_count < 4294967296
    ∧ h.type_count ≠ 0 ∧ h.char_count ≠ 0

theorem post_header_new (c : Cursor) :
    Post (Header.new c) (fun r => HeaderV r.1 ∧ r.2.length ≤ c.length) := by
  unfold Header.new
  refine post_bind (post_read_exact _ _) ?_
  rintro ⟨magic, c1⟩ - ⟨-, l1, -, -⟩
  dsimp only at l1 ⊢
  split
  · exact post_err
  · refine post_bind (post_read_exact _ _) ?_
    rintro ⟨vb, c2⟩ - ⟨-, l2, -, -⟩
    dsimp only at l2 ⊢
    split
    · exact post_err
    · refine post_bind (post_read_exact _ _) ?_
      rintro ⟨rs, c3⟩ - ⟨-, l3, -, -⟩
      refine post_bind (post_read_be_u32 _) ?_
      rintro ⟨n1, c4⟩ - ⟨b1, l4⟩
      refine post_bind (post_read_be_u32 _) ?_
      rintro ⟨n2, c5⟩ - ⟨b2, l5⟩
      refine post_bind (post_read_be_u32 _) ?_
      rintro ⟨n3, c6⟩ - ⟨b3, l6⟩
      refine post_bind (post_read_be_u32 _) ?_
      rintro ⟨n4, c7⟩ - ⟨b4, l7⟩
      refine post_bind (post_read_be_u32 _) ?_
      rintro ⟨n5, c8⟩ - ⟨b5, l8⟩
      refine post_bind (post_read_be_u32 _) ?_
      rintro ⟨n6, c9⟩ - ⟨b6, l9⟩
      dsimp only at l3 l4 l5 l6 l7 l8 l9 b1 b2 b3 b4 b5 b6 ⊢
      split
      · exact post_err
      · rename_i g
        simp only [Bool.not_eq_true', Bool.not_eq_false, Bool.and_eq_true, bne_iff_ne, ne_eq] at g
        refine post_ok ⟨⟨b1, b2, b3, b4, b5, b6, g.1.1.1, g.1.1.2⟩, ?_⟩
        dsimp only
        omega

/-- the shape of a decoded pair of blocks -/
def StateV (first : Bool) (st : State) (total : Nat) : Prop :=
  HeaderV st.header ∧ st.time_size = (if first then 4 else 8)
    ∧ st.transition_times.length = st.header.transition_count * st.time_size
    ∧ st.transition_types.length = st.header.transition_count
    ∧ st.local_time_types.length = st.header.type_count * 6
    ∧ st.names.length = st.header.char_count
    ∧ st.leap_seconds.length = st.header.leap_count * (st.time_size + 4)
    ∧ st.header.transition_count * st.time_size ≤ total
    ∧ st.header.type_count * 6 ≤ total
    ∧ st.header.leap_count * (st.time_size + 4) ≤ total

theorem ckUsz_ok {x : Nat} (h : x < 18446744073709551616) : ckUsz x = .ok x := by
  simp [ckUsz, h]

theorem post_state_new (c : Cursor) (first : Bool) :
    Post (State.new c first) (fun r => StateV first r.1 c.length ∧ r.2.length ≤ c.length) := by
  unfold State.new
  refine post_bind (post_header_new _) ?_
  rintro ⟨hd, c0⟩ - ⟨hv, l0⟩
  obtain ⟨b1, b2, b3, b4, b5, b6, nz1, nz2⟩ := hv
  dsimp only at b1 b2 b3 b4 b5 b6 nz1 nz2
  have k : TYPE_RECORD = 6 := rfl
  have hts : (if first = true then 4 else 8) ≤ 8 := by split <;> omega
  dsimp only at l0 ⊢
  generalize hT : (if first = true then 4 else 8) = ts at hts ⊢
  rw [ckUsz_ok (by
    have : hd.transition_count * ts ≤ 4294967296 * 8 := Nat.mul_le_mul (by omega) hts
    omega)]
  simp only [P.bind_ok]
  refine post_bind (post_read_exact _ _) ?_
  rintro ⟨tt, c1⟩ - ⟨e1, l1, -, -⟩
  refine post_bind (post_read_exact _ _) ?_
  rintro ⟨ty, c2⟩ - ⟨e2, l2, -, -⟩
  rw [k, ckUsz_ok (by omega)]
  simp only [P.bind_ok]
  refine post_bind (post_read_exact _ _) ?_
  rintro ⟨lt, c3⟩ - ⟨e3, l3, -, -⟩
  refine post_bind (post_read_exact _ _) ?_
  rintro ⟨nm, c4⟩ - ⟨e4, l4, -, -⟩
  rw [ckUsz_ok (by
    have : hd.leap_count * (ts + 4) ≤ 4294967296 * 12 := Nat.mul_le_mul (by omega) (by omega)
    omega)]
  simp only [P.bind_ok]
  refine post_bind (post_read_exact _ _) ?_
  rintro ⟨ls, c5⟩ - ⟨e5, l5, -, -⟩
  refine post_bind (post_read_exact _ _) ?_
  rintro ⟨sw, c6⟩ - ⟨e6, l6, -, -⟩
  refine post_bind (post_read_exact _ _) ?_
  rintro ⟨ul, c7⟩ - ⟨e7, l7, -, -⟩
  dsimp only at e1 e2 e3 e4 e5 e6 e7 l1 l2 l3 l4 l5 l6 l7 ⊢
  refine post_ok ⟨⟨⟨b1, b2, b3, b4, b5, b6, nz1, nz2⟩, hT.symm ▸ rfl, e1, e2, e3, e4, e5, ?_, ?_, ?_⟩, ?_⟩
  all_goals dsimp only
  -- what is left follows from the length equations `l0 … l7` alone
  all_goals clear b1 b2 b3 b4 b5 b6 nz1 nz2 e1 e2 e3 e4 e5 e6 e7 hts hT
  all_goals omega

/-! ### the record loops -/
theorem chunksN_len (k n : Nat) (l : List Nat) (h : k * n ≤ l.length) :
    ∀ a ∈ chunksN k n l, a.length = n := by
  induction k generalizing l with
  | zero => intro a ha; simp [chunksN] at ha
  | succ k ih =>
    intro a ha
    simp only [chunksN, List.mem_cons] at ha
    have hn : n ≤ l.length := by
      have : n ≤ (k + 1) * n := Nat.le_mul_of_pos_left n (by omega)
      omega
    rcases ha with rfl | ha
    · simp [List.length_take]; omega
    · refine ih (l.drop n) ?_ a ha
      simp only [List.length_drop]
      have : (k + 1) * n = k * n + n := by rw [Nat.add_mul, Nat.one_mul]
      omega

theorem chunks_exact_len (n : Nat) (l : List Nat) : ∀ a ∈ chunks_exact n l, a.length = n :=
  chunksN_len _ _ _ (Nat.div_mul_le_self _ _)

theorem slice_ok (l : List Nat) (a b : Nat) (h1 : a ≤ b) (h2 : b ≤ l.length) :
    slice l a b = .ok ((l.drop a).take (b - a)) := by
  simp [slice, h1, h2]

theorem slice_len (l : List Nat) (a b : Nat) (h1 : a ≤ b) (h2 : b ≤ l.length) :
    ((l.drop a).take (b - a)).length = b - a := by
  simp [List.length_take, List.length_drop]; omega

def I64r (x : Int) : Prop := -9223372036854775808 ≤ x ∧ x ≤ 9223372036854775807

theorem asI32_range (x : Int) : I32r (asI32 x) := by
  unfold I32r asI32
  dsimp only
  split <;> omega

theorem asI64_range (x : Int) : I64r (asI64 x) := by
  unfold I64r asI64
  dsimp only
  split <;> omega

theorem post_read_be_i32 (bs : List Nat) : Post (read_be_i32 bs) I32r := by
  unfold read_be_i32
  split
  · exact post_err
  · exact post_ok (asI32_range _)

theorem post_read_be_i64 (bs : List Nat) : Post (read_be_i64 bs) I64r := by
  unfold read_be_i64
  split
  · exact post_err
  · exact post_ok (asI64_range _)

theorem post_parse_time (arr : List Nat) (v : Version) (h : 4 ≤ arr.length) :
    Post (parse_time arr v) I64r := by
  unfold parse_time
  cases v with
  | V1 =>
    dsimp only
    rw [slice_ok _ _ _ (by omega) h]
    simp only [P.bind_ok]
    exact post_mono (post_read_be_i32 _) (fun a ha => by unfold I32r at ha; unfold I64r; omega)
  | V2 => exact post_read_be_i64 _
  | V3 => exact post_read_be_i64 _

theorem post_parseTransitions (ts : Nat) (v : Version) (hts : 4 ≤ ts)
    (l : List (List Nat × Nat)) (hl : ∀ p ∈ l, p.1.length = ts) :
    Post (parseTransitions ts v l) (fun r => ∀ t ∈ r, I64r t.time) := by
  induction l with
  | nil => exact post_ok (by simp)
  | cons p rest ih =>
    obtain ⟨arr, ty⟩ := p
    simp only [parseTransitions]
    have ha : arr.length = ts := hl (arr, ty) (by simp)
    rw [slice_ok _ _ _ (by omega) (by omega)]
    simp only [P.bind_ok]
    refine post_bind (post_parse_time _ v ?_) ?_
    · simp [List.length_take]; omega
    · intro t _ ht
      refine post_bind (ih (fun p hp => hl p (List.mem_cons_of_mem _ hp))) ?_
      intro ts' _ hts'
      exact post_ok (List.forall_mem_cons.mpr ⟨ht, hts'⟩)

theorem nulPos_lt (l : List Nat) (p : Nat) (h : nulPos l = some p) : p < l.length := by
  induction l generalizing p with
  | nil => simp [nulPos] at h
  | cons c t ih =>
    simp only [nulPos] at h
    split at h
    · simp at h; subst h; simp
    · cases hn : nulPos t with
      | none => simp [hn] at h
      | some q =>
        simp [hn] at h
        subst h
        have := ih q hn
        simp; omega

/-- a decoded local time type: offset in `i32` and strictly within 24 h, designation legal -/
def LttOkZ (t : Ltt) : Prop := I32r t.off ∧ (-86400 < t.off ∧ t.off < 86400) ∧ ∀ n, t.name = some n → NameOk n

theorem idx_ok (l : List Nat) (i : Nat) (h : i < l.length) : ∃ b, idx l i = .ok b := by
  unfold idx
  rw [List.getElem?_eq_getElem h]
  exact ⟨_, rfl⟩

theorem post_parseType (cc : Nat) (names arr : List Nat) (hn : names.length = cc)
    (hcc : cc < 4294967296) (ha : arr.length = 6) :
    Post (parseType cc names arr) LttOkZ := by
  unfold parseType
  rw [slice_ok _ _ _ (by omega) (by omega)]
  simp only [P.bind_ok]
  refine post_bind (post_read_be_i32 _) ?_
  intro off _ hoff
  obtain ⟨b4, h4⟩ := idx_ok arr 4 (by omega)
  rw [h4]; simp only [P.bind_ok]
  refine post_bind (Q := fun _ => True) ?_ ?_
  · split <;> trivial
  · intro dst _ _
    obtain ⟨b5, h5⟩ := idx_ok arr 5 (by omega)
    rw [h5]; simp only [P.bind_ok]
    split
    · exact post_err
    · rename_i g
      have hs : sliceFrom names b5 = .ok (names.drop b5) := by simp [sliceFrom]; omega
      rw [hs]; simp only [P.bind_ok]
      split
      · exact post_err
      · rename_i pos hp
        have hpos := nulPos_lt _ _ hp
        simp only [List.length_drop] at hpos
        rw [ckUsz_ok (by omega)]
        simp only [P.bind_ok]
        rw [slice_ok _ _ _ (by omega) (by omega)]
        simp only [P.bind_ok]
        refine post_mono (post_ltt_new _ _ _) ?_
        rintro t ⟨rfl, h1, h2⟩
        exact ⟨hoff, h1, h2⟩

theorem post_parseTypes (cc : Nat) (names : List Nat) (hn : names.length = cc) (hcc : cc < 4294967296)
    (l : List (List Nat)) (hl : ∀ a ∈ l, a.length = 6) :
    Post (parseTypes cc names l) (fun r => r.length = l.length ∧ ∀ t ∈ r, LttOkZ t) := by
  induction l with
  | nil => exact post_ok (by simp)
  | cons arr rest ih =>
    simp only [parseTypes]
    refine post_bind (post_parseType cc names arr hn hcc (hl arr (by simp))) ?_
    intro t _ ht
    refine post_bind (ih (fun a ha => hl a (List.mem_cons_of_mem _ ha))) ?_
    intro ts _ ⟨hlen, hts⟩
    exact post_ok ⟨by simp [hlen], List.forall_mem_cons.mpr ⟨ht, hts⟩⟩

def LeapOkZ (l : LeapSecond) : Prop := I64r l.time ∧ I32r l.corr

theorem post_parseLeap (ts : Nat) (v : Version) (hts : ts = 4 ∨ ts = 8) (arr : List Nat)
    (ha : arr.length = ts + 4) : Post (parseLeap ts v arr) LeapOkZ := by
  unfold parseLeap
  rw [slice_ok _ _ _ (by omega) (by omega)]
  simp only [P.bind_ok]
  refine post_bind (post_parse_time _ v ?_) ?_
  · simp [List.length_take]; omega
  · intro t _ ht
    rw [ckUsz_ok (by omega)]
    simp only [P.bind_ok]
    rw [slice_ok _ _ _ (by omega) (by omega)]
    simp only [P.bind_ok]
    refine post_bind (post_read_be_i32 _) ?_
    intro corr _ hc
    exact post_ok ⟨ht, hc⟩

theorem post_parseLeaps (ts : Nat) (v : Version) (hts : ts = 4 ∨ ts = 8) (l : List (List Nat))
    (hl : ∀ a ∈ l, a.length = ts + 4) :
    Post (parseLeaps ts v l) (fun r => ∀ x ∈ r, LeapOkZ x) := by
  induction l with
  | nil => exact post_ok (by simp)
  | cons arr rest ih =>
    simp only [parseLeaps]
    refine post_bind (post_parseLeap ts v hts arr (hl arr (by simp))) ?_
    intro t _ ht
    refine post_bind (ih (fun a ha => hl a (List.mem_cons_of_mem _ ha))) ?_
    intro ls _ hls
    exact post_ok (List.forall_mem_cons.mpr ⟨ht, hls⟩)

theorem post_parseFooter (f : List Nat) (v : Version) :
    Post (parseFooter f v) (fun r => ∀ x, r = some x → RuleV x) := by
  unfold parseFooter
  split
  · exact post_err
  · split
    · exact post_err
    · dsimp only
      split
      · exact post_err
      · split
        · exact post_ok (by simp)
        · refine post_bind (post_from_tz_string _ _) ?_
          intro r _ hr
          exact post_ok (by intro x hx; cases hx; exact hr)

/-! ### `validate` -/
theorem takeWhile_len_le {α} (p : α → Bool) (l : List α) : (l.takeWhile p).length ≤ l.length := by
  induction l with
  | nil => simp
  | cons a t ih =>
    simp only [List.takeWhile_cons]
    split
    · simp; omega
    · simp

theorem checkTransitions_spec (n : Nat) (l : List Transition) (h : checkTransitions n l = true) :
    SortedStrict l ∧ ∀ t ∈ l, t.idx < n := by
  induction l with
  | nil => exact ⟨trivial, by simp⟩
  | cons t rest ih =>
    simp only [checkTransitions, Bool.and_eq_true, decide_eq_true_eq] at h
    obtain ⟨⟨h1, h2⟩, h3⟩ := h
    obtain ⟨ih1, ih2⟩ := ih h3
    refine ⟨?_, ?_⟩
    · cases rest with
      | nil => trivial
      | cons u r2 =>
        simp only [decide_eq_true_eq] at h2
        exact ⟨h2, ih1⟩
    · exact List.forall_mem_cons.mpr ⟨h1, ih2⟩

theorem post_ulttut (leaps : List LeapSecond) (t : Int) (ht : I64r t) :
    Post (unix_leap_time_to_unix_time leaps t) (fun _ => True) := by
  unfold unix_leap_time_to_unix_time
  unfold I64r at ht
  split
  · exact post_err
  · rename_i g
    simp only [I64_MIN] at g
    rw [ck64_ok (by omega) (by omega)]
    simp only [P.bind_ok]
    refine post_bind (Q := fun _ => True) ?_ ?_
    · split
      · rename_i hi
        have hle : bsearchUpper (leaps.map (·.time)) (t - 1) ≤ leaps.length := by
          unfold bsearchUpper
          have := takeWhile_len_le (fun k => decide (k ≤ t - 1)) (leaps.map (·.time))
          simpa using this
        have hlt : bsearchUpper (leaps.map (·.time)) (t - 1) - 1 < leaps.length := by omega
        rw [List.getElem?_eq_getElem hlt]
        trivial
      · trivial
    · intro corr _ _
      split <;> trivial

theorem post_validate (z : Zone) (ht : ∀ t ∈ z.transitions, I64r t.time)
    (hr : ∀ r, z.rule = some r → RuleV r) :
    Post (validate z) (fun _ => z.types ≠ [] ∧ SortedStrict z.transitions
      ∧ ∀ t ∈ z.transitions, t.idx < z.types.length) := by
  unfold validate
  split
  · exact post_err
  · rename_i g0
    split
    · exact post_err
    · rename_i g1
      simp only [Bool.not_eq_true', Bool.not_eq_false] at g1
      have hv := checkTransitions_spec _ _ g1
      have hne : z.types ≠ [] := by
        intro h; apply g0; rw [h]; rfl
      split
      · exact post_err
      · split
        · rename_i rule last hrule hlast
          have hmem : last ∈ z.transitions := List.mem_of_getLast? hlast
          have hidx := hv.2 last hmem
          rw [List.getElem?_eq_getElem hidx]
          simp only [P.bind_ok]
          refine post_bind (post_ulttut _ _ (ht last hmem)) ?_
          intro ut _ _
          refine post_bind (post_rule_find rule ut (hr rule hrule)) ?_
          intro rl _ _
          split
          · exact post_ok ⟨hne, hv⟩
          · exact post_err
        · exact post_ok ⟨hne, hv⟩

/-! ### the whole reader -/
theorem stateV_mono {first : Bool} {st : State} {n m : Nat} (h : StateV first st n) (hnm : n ≤ m) :
    StateV first st m := by
  obtain ⟨a, b, c, d, e, f, g, h1, h2, h3⟩ := h
  exact ⟨a, b, c, d, e, f, g, by omega, by omega, by omega⟩

theorem post_parseBlocks (bytes : List Nat) :
    Post (parseBlocks bytes) (fun r => StateV true r.1 bytes.length ∨ StateV false r.1 bytes.length) := by
  unfold parseBlocks
  refine post_bind (post_state_new _ _) ?_
  rintro ⟨st1, c1⟩ - ⟨hv1, l1⟩
  dsimp only at l1 ⊢
  split
  · split
    · exact post_ok (Or.inl hv1)
    · exact post_err
  · refine post_bind (post_state_new _ _) ?_
    rintro ⟨st2, c2⟩ - ⟨hv2, -⟩
    dsimp only
    split
    · exact post_err
    · exact post_ok (Or.inr (stateV_mono hv2 l1))

theorem post_zone_new (tr : List Transition) (ty : List Ltt) (lp : List LeapSecond) (r : Option Rule)
    (ht : ∀ t ∈ tr, I64r t.time) (hty : ∀ t ∈ ty, LttOkZ t) (hr : ∀ x, r = some x → RuleV x) :
    Post (Zone.new tr ty lp r) ZoneValid := by
  unfold Zone.new
  refine post_bind (post_validate ⟨tr, ty, lp, r⟩ ht hr) ?_
  rintro _ - ⟨h1, h2, h3⟩
  exact post_ok ⟨h1, h2, h3, fun t htm => ⟨(hty t htm).2.1, (hty t htm).2.2⟩⟩

theorem post_parse_of_state (st : State) (footer : Option (List Nat))
    (hs : StateV true st n ∨ StateV false st n) : Post (parseRest st footer) ZoneValid := by
  unfold parseRest
  have hts : st.time_size = 4 ∨ st.time_size = 8 := by
    rcases hs with h | h
    · exact Or.inl (by simpa using h.2.1)
    · exact Or.inr (by simpa using h.2.1)
  have hh : HeaderV st.header ∧ st.names.length = st.header.char_count := by
    rcases hs with h | h <;> exact ⟨h.1, h.2.2.2.2.2.1⟩
  obtain ⟨hhv, hnames⟩ := hh
  refine post_bind (post_parseTransitions _ _ (by omega) _ ?_) ?_
  · rintro ⟨a, ty⟩ hp
    exact chunks_exact_len _ _ a (List.of_mem_zip hp).1
  · intro tr _ htr
    refine post_bind (post_parseTypes _ _ hnames hhv.2.2.2.2.2.1 _ (chunks_exact_len 6 _)) ?_
    intro ty _ ⟨_, hty⟩
    refine post_bind (post_parseLeaps _ _ hts _ (chunks_exact_len _ _)) ?_
    intro lp _ _
    split
    · exact post_err
    · refine post_bind (Q := fun r => ∀ x, r = some x → RuleV x) ?_ ?_
      · cases footer with
        | none => exact post_ok (by simp)
        | some f => exact post_parseFooter _ _
      · intro r _ hr
        exact post_zone_new _ _ _ _ htr hty hr

theorem post_parse (bytes : List Nat) : Post (parse bytes) ZoneValid := by
  unfold parse
  refine post_bind (post_parseBlocks bytes) ?_
  rintro ⟨st, footer⟩ - hs
  exact post_parse_of_state st footer hs

theorem capacities_le (bytes : List Nat) : ∀ c ∈ capacities bytes, c ≤ bytes.length := by
  unfold capacities
  rcases post_cases (post_parseBlocks bytes) with e | ⟨⟨st, f⟩, e, h⟩ <;> simp only [e]
  · simp
  · have key : st.header.transition_count ≤ bytes.length ∧ st.header.type_count ≤ bytes.length
        ∧ st.header.leap_count ≤ bytes.length := by
      rcases h with h | h
      all_goals
        obtain ⟨_, hts, _, _, _, _, _, b1, b2, b3⟩ := h
        dsimp only at hts b1 b2 b3
        simp only [if_true, Bool.false_eq_true, if_false] at hts
        rw [hts] at b1 b3
        refine ⟨?_, ?_, ?_⟩ <;> omega
    intro c hc
    simp only [List.mem_cons, List.mem_nil_iff, or_false] at hc
    rcases hc with rfl | rfl | rfl
    · exact key.1
    · exact key.2.1
    · exact key.2.2

/-! ### rejections -/
theorem parse_err_of_header (bytes : List Nat) (h : Header.new bytes = .err) : parse bytes = .err := by
  simp [parse, parseBlocks, State.new, h]

theorem rejects_bad_magic' (bytes : List Nat) (h : bytes.take 4 ≠ MAGIC) : parse bytes = .err := by
  apply parse_err_of_header
  unfold Header.new
  rcases read_exact_cases bytes 4 with ⟨_, e⟩ | e <;> rw [e]
  · simp [h]
  · rfl

theorem rejects_bad_version' (bytes : List Nat) (h : versionOf ((bytes.drop 4).take 1) = none) :
    parse bytes = .err := by
  apply parse_err_of_header
  unfold Header.new
  rcases read_exact_cases bytes 4 with ⟨_, e⟩ | e <;> rw [e]
  · simp only [P.bind_ok]
    split
    · rfl
    · rcases read_exact_cases (bytes.drop 4) 1 with ⟨_, e2⟩ | e2 <;> rw [e2]
      · simp only [P.bind_ok, h]
      · rfl
  · rfl

theorem footer_framing' (f : List Nat) (v : Version)
    (h : ¬ (f.head? = some 10 ∧ f.getLast? = some 10)) : parseFooter f v = .err := by
  unfold parseFooter
  split
  · rfl
  · split
    · rfl
    · rename_i g
      simp only [Bool.or_eq_true, decide_eq_true_eq, Bool.not_eq_true', Bool.and_eq_false_iff, not_or,
        Bool.not_eq_false, beq_iff_eq] at g
      exact absurd g.2 h

/-- repair of finding F36: a footer shorter than two bytes is refused, whatever it is -/
theorem footer_short' (f : List Nat) (v : Version) (h : f.length < 2) : parseFooter f v = .err := by
  unfold parseFooter
  split
  · rfl
  · rw [if_pos (by simp [h])]

theorem footer_colon_nul' (f : List Nat) (v : Version)
    (h : (trimWs f).head? = some 58 ∨ 0 ∈ trimWs f) : parseFooter f v = .err := by
  unfold parseFooter
  split
  · rfl
  · split
    · rfl
    · dsimp only
      split
      · rfl
      · rename_i g
        simp only [Bool.or_eq_true, beq_iff_eq, List.contains_iff_mem, not_or] at g
        rcases h with h | h
        · exact absurd h g.1
        · exact absurd h g.2

end Chrono.Proofs.Tz
