/-
  Helper definitions and lemmas for the `gen_*_eq` theorems of Props/GenTime.lean (src/naive/time/mod.rs,
  src/offset/fixed.rs, the `Timelike` defaults of src/traits.rs read at `Self = NaiveTime`).
-/
import Chrono.Proofs.GenL
import Chrono.Model.Time

namespace Chrono.Proofs.GenTimeL
open Chrono Chrono.M Chrono.Extracted Chrono.Proofs.GenL

/-- the generated `NaiveTime` structure and the model's `Time` have the same two fields -/
abbrev tG (t : Time) : Gen.naive_time.NaiveTime := ⟨t.secs, t.frac⟩
/-- a `(NaiveTime, carry)` pair of the model in the generated representation -/
abbrev pG (p : Time × Int) : Gen.naive_time.NaiveTime × Int := (tG p.1, p.2)

/-- both fields of a `NaiveTime` are `u32`s -/
def U32Fields (t : Time) : Prop := (0 ≤ t.secs ∧ t.secs ≤ 4294967295) ∧ (0 ≤ t.frac ∧ t.frac ≤ 4294967295)
/-- the type invariant of `NaiveTime` (`secs < 86400`, `frac < 2·10^9`) -/
def Inv (t : Time) : Prop := (0 ≤ t.secs ∧ t.secs < 86400) ∧ (0 ≤ t.frac ∧ t.frac < 2000000000)
/-- the fields of a `TimeDelta` are an `i64` and an `i32` -/
def DFields (d : Delta) : Prop :=
  (-9223372036854775808 ≤ d.secs ∧ d.secs ≤ 9223372036854775807) ∧ (-2147483648 ≤ d.nanos ∧ d.nanos ≤ 2147483647)

theorem ckU32_def' (x : Int) : ckU32 x = if 0 ≤ x ∧ x ≤ 4294967295 then .ok x else .panic := ckU32_def x

theorem asI32_range (x : Int) : -2147483648 ≤ asI32 x ∧ asI32 x ≤ 2147483647 := by
  unfold asI32; simp only; split <;> omega

theorem ok_pair_eq {a b c d e f : Int} (h1 : a = d) (h2 : b = e) (h3 : c = f) :
    (Res.ok (Gen.naive_time.NaiveTime.mk a b, c) : Res (Gen.naive_time.NaiveTime × Int))
      = Res.ok (pG (⟨d, e⟩, f)) := by
  subst h1; subst h2; subst h3; rfl

/-- the text that the translator emits (three times: Rust code after an assigning `if` is duplicated into the
branches) for the part of `overflowing_add_signed` after the leap-second preamble -/
def genTail (secs frac sa fa : Int) : Res (Gen.naive_time.NaiveTime × Int) :=
  Res.bind (ckI64 (secs + sa)) fun secs =>
  Res.bind (ckI32 (frac + fa)) fun frac =>
  if frac < 0 then
    Res.bind (ckI32 (frac + 1000000000)) fun frac =>
    Res.bind (ckI64 (secs - 1)) fun secs =>
    let secs_in_day : Int := secs % 86400
    Res.bind (ckI64 (secs - secs_in_day)) fun remaining =>
    .ok (Gen.naive_time.NaiveTime.mk (asU32 secs_in_day) (asU32 frac), remaining)
  else
    if frac ≥ 1000000000 then
      Res.bind (ckI32 (frac - 1000000000)) fun frac =>
      Res.bind (ckI64 (secs + 1)) fun secs =>
      let secs_in_day : Int := secs % 86400
      Res.bind (ckI64 (secs - secs_in_day)) fun remaining =>
      .ok (Gen.naive_time.NaiveTime.mk (asU32 secs_in_day) (asU32 frac), remaining)
    else
      let secs_in_day : Int := secs % 86400
      Res.bind (ckI64 (secs - secs_in_day)) fun remaining =>
      .ok (Gen.naive_time.NaiveTime.mk (asU32 secs_in_day) (asU32 frac), remaining)

theorem genTail_eq (secs frac sa fa : Int) :
    genTail secs frac sa fa = rmap pG (Time.add_tail secs frac sa fa) := by
  unfold genTail Time.add_tail
  simp only [rmap_bind, rmap_ite]
  rfl

/-- the generated `overflowing_add_signed` with its three copies of the tail folded into `genTail` -/
theorem gen_oas_unfold (self : Gen.naive_time.NaiveTime) (rhs : Gen.time_delta.TimeDelta) :
    Gen.naive_time.NaiveTime.overflowing_add_signed self rhs =
      (let secs : Int := self.secs
       let frac : Int := asI32 self.frac
       Res.bind (Gen.time_delta.TimeDelta.num_seconds rhs) fun secs_to_add =>
       Res.bind (Gen.time_delta.TimeDelta.subsec_nanos rhs) fun frac_to_add =>
       if frac ≥ 1000000000 then
         Res.bind (if secs_to_add > 0 then .ok true
           else if frac_to_add > 0 then
               Res.bind (ckI32 (2000000000 - frac_to_add)) fun r1 =>
               .ok (decide (frac ≥ r1))
             else
               .ok false) fun r3 =>
         if r3 = true then
           Res.bind (ckI32 (frac - 1000000000)) fun frac => genTail secs frac secs_to_add frac_to_add
         else
           if secs_to_add < 0 then
             Res.bind (ckI32 (frac - 1000000000)) fun frac =>
             Res.bind (ckI64 (secs + 1)) fun secs => genTail secs frac secs_to_add frac_to_add
           else
             Res.bind (ckI32 (frac + frac_to_add)) fun r4 =>
             .ok (Gen.naive_time.NaiveTime.mk self.secs (asU32 r4), 0)
       else genTail secs frac secs_to_add frac_to_add) := rfl

/-- the flag the code computes in the leap-second preamble is the model's condition -/
theorem leap_test (sa fa f : Int) (hn : -2147483648 ≤ fa ∧ fa ≤ 2147483647) :
    (if sa > 0 then Res.ok true
      else if fa > 0 then Res.bind (ckI32 (2000000000 - fa)) fun r1 => .ok (decide (f ≥ r1))
      else .ok false) = .ok (decide (sa > 0 ∨ (fa > 0 ∧ f ≥ 2000000000 - fa))) := by
  by_cases h1 : sa > 0
  · rw [if_pos h1, decide_eq_true (Or.inl h1)]
  · rw [if_neg h1]
    by_cases h2 : fa > 0
    · rw [if_pos h2, GenL.ckI32_ok (by omega), bind_ok]
      exact congrArg Res.ok (decide_eq_decide.mpr ⟨fun h => .inr ⟨h2, h⟩, fun h => h.elim (absurd · h1) (·.2)⟩)
    · rw [if_neg h2, decide_eq_false (fun h => h.elim h1 (h2 ·.1))]

theorem subsec_nanos_range (d : Delta) (hd : -2147483648 ≤ d.nanos ∧ d.nanos ≤ 2147483647) :
    -2147483648 ≤ d.subsec_nanos ∧ d.subsec_nanos ≤ 2147483647 := by
  unfold Delta.subsec_nanos
  rw [show NANOS_PER_SEC = 1000000000 from rfl]
  split <;> omega

/-- the fields of a negated `TimeDelta` are machine integers (they come out of `ckI64` / `ckI32`) -/
theorem neg_fields (a n : Delta) (h : Delta.neg a = .ok n) : DFields n := by
  unfold Delta.neg at h
  split at h
  · obtain ⟨s, hs, h⟩ := bind_eq_ok h
    cases h
    exact ⟨ckI64_range hs, by dsimp only; omega⟩
  · obtain ⟨_, _, h⟩ := bind_eq_ok h
    obtain ⟨s, hs, h⟩ := bind_eq_ok h
    obtain ⟨m, hm, h⟩ := bind_eq_ok h
    cases h
    exact ⟨ckI64_range hs, ckI32_range hm⟩

end Chrono.Proofs.GenTimeL
