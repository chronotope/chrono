/-
  RenderScanL — the decimal render/scan lemma library shared by the text-form properties
  (C09 default text forms, C10 RFC 3339, C11 RFC 2822, C13 strftime round trips).

  Vocabulary
    `AllDigits ds`      every byte of `ds` is an ASCII digit (`Scan.isDigit`)
    `NoDigitHead s`     `s` is empty or starts with a non-digit byte
    `valOf ds`          the number a digit string denotes (leading zeros allowed)
    `two n`             the two-digit rendering `[48 + n/10, 48 + n%10]` (what `write_hundreds` writes)
    `fracVal ds`        nanoseconds denoted by the fraction digits `ds`: the first nine digits, scaled;
                        further digits are dropped (truncation)

  Scanning (`Scan.number`, `Scan.nanosecond`, `Scan.char`, `Scan.timezone_offset`)
    `number_digits`     scanning `ds ++ rest` returns `(rest, valOf ds)` when the run of digits stops
                        at the width limit, at the end of input, or at a non-digit
    `number_exact_iff`  `number s w (some w) = ok (rest, v)`  ↔  `s = ds ++ rest`, `w` digits, `v = valOf ds` (`w ≤ 18`)
    `number_inv`        inversion of a successful `number`
    `nanosecond_digits`, `nanosecond_inv`, `nanosecond_ok_iff`
    `char_ok_iff`, `tzoffset_ok` (numeric offset, any sign bytes / separator / colon mode) with its instances
    `tzoffset_two`, `tzoffset_numeric(_nocolon)`, `tzoffset_colon_ok`; `tzoffset_zulu`, `tzoffset_colon_inv`

  Rendering (`Format.digits`, `Format.fmtInt`, `Format.write_hundreds`, `Format.write_two`,
  `Format.OffsetFormat.format`)
    `digits_spec`       `digits n` is a non-empty digit string denoting `n`, no longer than needed
    `fmtInt_pad_spec`   `{:0w$}` of `0 ≤ v < 10^w` is a `w`-digit string denoting `v`
    `fmtInt_*`          the sign forms of `fmtInt`
    `write_hundreds_eq` `write_hundreds n = wok (two n.toNat)` for `0 ≤ n < 100`; `write_two_eq` for any padding
    `number_two`, `number_fmtInt`, `nanosecond_fmtInt`  render-then-scan round trips
    `offset_minutes_eq` the text of `OffsetFormat{Minutes, colons, zulu, Pad::Zero}`
-/
import Chrono.Model.Format
import Chrono.Model.Parse
import Chrono.Proofs.PrimL
import Mathlib.Tactic.Ring

namespace Chrono.Proofs.RenderScan
open Chrono Chrono.M Chrono.M.Scan

/-! ### vocabulary -/

def AllDigits (ds : List Nat) : Prop := ∀ c ∈ ds, isDigit c = true
def NoDigitHead (s : List Nat) : Prop := ∀ c t, s = c :: t → isDigit c = false
def valOf (ds : List Nat) : Nat := ds.foldl (fun a c => a * 10 + (c - 48)) 0
/-- the two-digit rendering of `n < 100` -/
def two (n : Nat) : List Nat := [48 + n / 10, 48 + n % 10]
/-- nanoseconds denoted by a string of fraction digits (digits after the ninth are dropped) -/
def fracVal (ds : List Nat) : Nat := valOf (ds.take 9) * 10 ^ (9 - (ds.take 9).length)

instance (ds : List Nat) : Decidable (AllDigits ds) := by unfold AllDigits; exact inferInstance

theorem isDigit_iff (c : Nat) : isDigit c = true ↔ 48 ≤ c ∧ c ≤ 57 := by
  simp [isDigit]

theorem isDigit_false_iff (c : Nat) : isDigit c = false ↔ ¬ (48 ≤ c ∧ c ≤ 57) := by
  rw [← isDigit_iff]; cases isDigit c <;> simp

theorem allDigits_nil : AllDigits [] := by intro c h; cases h

theorem allDigits_cons {c : Nat} {ds : List Nat} : AllDigits (c :: ds) ↔ isDigit c = true ∧ AllDigits ds := by
  unfold AllDigits
  constructor
  · intro h; exact ⟨h c (List.mem_cons_self ..), fun x hx => h x (List.mem_cons_of_mem _ hx)⟩
  · intro ⟨h1, h2⟩ x hx
    rcases List.mem_cons.mp hx with rfl | hx
    · exact h1
    · exact h2 x hx

theorem allDigits_append {a b : List Nat} : AllDigits (a ++ b) ↔ AllDigits a ∧ AllDigits b := by
  unfold AllDigits
  constructor
  · intro h; exact ⟨fun c hc => h c (List.mem_append_left _ hc), fun c hc => h c (List.mem_append_right _ hc)⟩
  · intro ⟨h1, h2⟩ c hc
    rcases List.mem_append.mp hc with hc | hc
    · exact h1 c hc
    · exact h2 c hc

theorem allDigits_replicate (k : Nat) : AllDigits (List.replicate k 48) := by
  intro c hc
  rw [List.eq_of_mem_replicate hc]; decide

theorem allDigits_take {ds : List Nat} (h : AllDigits ds) (k : Nat) : AllDigits (ds.take k) :=
  fun c hc => h c (List.mem_of_mem_take hc)

theorem allDigits_drop {ds : List Nat} (h : AllDigits ds) (k : Nat) : AllDigits (ds.drop k) :=
  fun c hc => h c (List.mem_of_mem_drop hc)

theorem noDigitHead_nil : NoDigitHead [] := by intro c t h; cases h

theorem noDigitHead_cons {c : Nat} {t : List Nat} : NoDigitHead (c :: t) ↔ isDigit c = false := by
  unfold NoDigitHead
  constructor
  · intro h; exact h c t rfl
  · intro h c' t' e; injection e with e1 _; rw [← e1]; exact h

/-! ### the value of a digit string -/

theorem foldl_val (ds : List Nat) : ∀ a : Nat,
    ds.foldl (fun a c => a * 10 + (c - 48)) a = a * 10 ^ ds.length + valOf ds := by
  induction ds with
  | nil => intro a; simp [valOf]
  | cons c ds ih =>
    intro a
    unfold valOf
    simp only [List.foldl_cons, List.length_cons]
    rw [ih, ih (0 * 10 + (c - 48))]
    ring

theorem valOf_nil : valOf [] = 0 := rfl

theorem valOf_cons (c : Nat) (ds : List Nat) : valOf (c :: ds) = (c - 48) * 10 ^ ds.length + valOf ds := by
  unfold valOf
  simp only [List.foldl_cons]
  rw [foldl_val]; simp [valOf]

theorem valOf_append (a b : List Nat) : valOf (a ++ b) = valOf a * 10 ^ b.length + valOf b := by
  unfold valOf
  rw [List.foldl_append, foldl_val]; rfl

theorem valOf_replicate_zero (k : Nat) : valOf (List.replicate k 48) = 0 := by
  induction k with
  | zero => rfl
  | succ k ih => rw [List.replicate_succ, valOf_cons, ih]; simp

theorem valOf_lt (ds : List Nat) (h : AllDigits ds) : valOf ds < 10 ^ ds.length := by
  induction ds with
  | nil => simp [valOf]
  | cons c ds ih =>
    obtain ⟨h1, h2⟩ := allDigits_cons.mp h
    have := ih h2
    rw [valOf_cons, List.length_cons, Nat.pow_succ]
    have hc := (isDigit_iff c).mp h1
    have : (c - 48) * 10 ^ ds.length ≤ 9 * 10 ^ ds.length := Nat.mul_le_mul_right _ (by omega)
    omega

theorem valOf_two (n : Nat) (h : n < 100) : valOf (two n) = n := by
  simp only [two, valOf, List.foldl_cons, List.foldl_nil]; omega

theorem allDigits_two (n : Nat) (h : n < 100) : AllDigits (two n) := by
  intro c hc
  simp only [two, List.mem_cons, List.not_mem_nil, or_false] at hc
  rw [isDigit_iff]
  rcases hc with rfl | rfl <;> omega

theorem two_length (n : Nat) : (two n).length = 2 := rfl

/-- two digits are `two` of their value -/
theorem two_of_digits (a b : Nat) (ha : isDigit a = true) (hb : isDigit b = true) :
    [a, b] = two (valOf [a, b]) ∧ valOf [a, b] = (a - 48) * 10 + (b - 48) ∧ valOf [a, b] < 100 := by
  have h1 := (isDigit_iff a).mp ha
  have h2 := (isDigit_iff b).mp hb
  have hv : valOf [a, b] = (a - 48) * 10 + (b - 48) := by simp [valOf]
  refine ⟨?_, hv, by omega⟩
  rw [hv, two]
  congr 1
  · omega
  · congr 1; omega

/-! ### `Scan.number` -/

theorem numberAux_some (s : List Nat) (i min m : Nat) (n : Int) :
    numberAux s i min (some m) n = if i ≥ m then .ok (s, n) else numberAux.step s i min (some m) n := by
  rw [numberAux]

theorem numberAux_none (s : List Nat) (i min : Nat) (n : Int) :
    numberAux s i min none n = numberAux.step s i min none n := by
  rw [numberAux]

theorem step_digit (c : Nat) (rest : List Nat) (i min : Nat) (max : Option Nat) (n : Int)
    (hc : isDigit c = true) :
    numberAux.step (c :: rest) i min max n =
      if n * 10 + ((c - 48 : Nat) : Int) > I64_MAX then .error .outOfRange
      else numberAux rest (i + 1) min max (n * 10 + ((c - 48 : Nat) : Int)) := by
  rw [numberAux.step]; simp [hc]

theorem step_nondigit (c : Nat) (rest : List Nat) (i min : Nat) (max : Option Nat) (n : Int)
    (hc : isDigit c = false) :
    numberAux.step (c :: rest) i min max n = if i < min then .error .invalid else .ok (c :: rest, n) := by
  rw [numberAux.step]; simp [hc]

/-- at the end of input the scan stops with what it has (the caller checks `min`) -/
theorem numberAux_nil (i min : Nat) (max : Option Nat) (n : Int) : numberAux [] i min max n = .ok ([], n) := by
  have hs : numberAux.step [] i min max n = .ok ([], n) := by rw [numberAux.step]
  cases max with
  | none => rw [numberAux_none, hs]
  | some m => rw [numberAux_some, hs, ite_self]

/-- a run of digits is consumed as long as the width limit allows and the value fits `i64` -/
theorem numberAux_digits (ds : List Nat) (hd : AllDigits ds) (rest : List Nat) (min : Nat)
    (max : Option Nat) : ∀ (i acc : Nat), (∀ m, max = some m → i + ds.length ≤ m) →
      acc * 10 ^ ds.length + valOf ds ≤ 9223372036854775807 →
      numberAux (ds ++ rest) i min max (acc : Int) =
        numberAux rest (i + ds.length) min max ((acc * 10 ^ ds.length + valOf ds : Nat) : Int) := by
  induction ds with
  | nil => intro i acc _ _; simp [valOf]
  | cons c ds ih =>
    intro i acc hm hv
    obtain ⟨h1, h2⟩ := allDigits_cons.mp hd
    rw [valOf_cons, List.length_cons, Nat.pow_succ] at hv
    have hpos : 1 ≤ 10 ^ ds.length := Nat.one_le_two_pow.trans (Nat.pow_le_pow_left (by omega) _)
    have hle : acc * 10 + (c - 48) ≤ (acc * 10 + (c - 48)) * 10 ^ ds.length :=
      Nat.le_mul_of_pos_right _ hpos
    have heq : (acc * 10 + (c - 48)) * 10 ^ ds.length + valOf ds =
        acc * (10 ^ ds.length * 10) + ((c - 48) * 10 ^ ds.length + valOf ds) := by ring
    have hcast : (acc : Int) * 10 + ((c - 48 : Nat) : Int) = ((acc * 10 + (c - 48) : Nat) : Int) := by
      push_cast; rfl
    have hstep : numberAux.step (c :: (ds ++ rest)) i min max (acc : Int) =
        numberAux (ds ++ rest) (i + 1) min max ((acc * 10 + (c - 48) : Nat) : Int) := by
      rw [step_digit _ _ _ _ _ _ h1, hcast, if_neg]
      simp only [I64_MAX]; omega
    have hrec := ih h2 (i + 1) (acc * 10 + (c - 48))
      (by intro m hmx; have := hm m hmx; simp only [List.length_cons] at this; omega)
      (by omega)
    have hfin : (acc * 10 + (c - 48)) * 10 ^ ds.length + valOf ds =
        acc * 10 ^ (c :: ds).length + valOf (c :: ds) := by
      rw [valOf_cons, List.length_cons, Nat.pow_succ]; exact heq
    have hidx : i + 1 + ds.length = i + (c :: ds).length := by simp only [List.length_cons]; omega
    rw [hfin, hidx] at hrec
    cases max with
    | none => rw [List.cons_append, numberAux_none, hstep, hrec]
    | some m =>
      have := hm m rfl
      simp only [List.length_cons] at this
      rw [List.cons_append, numberAux_some, if_neg (by omega), hstep, hrec]

/-- where a scan that has consumed its digits stops -/
theorem numberAux_stop (rest : List Nat) (i min : Nat) (max : Option Nat) (n : Int)
    (hmin : min ≤ i) (h : max = some i ∨ NoDigitHead rest) :
    numberAux rest i min max n = .ok (rest, n) := by
  rcases h with h | h
  · subst h; rw [numberAux_some, if_pos (Nat.le_refl _)]
  · have hs : numberAux.step rest i min max n = .ok (rest, n) := by
      cases rest with
      | nil => rw [numberAux.step]
      | cons c t => rw [step_nondigit _ _ _ _ _ _ (noDigitHead_cons.mp h), if_neg (by omega)]
    cases max with
    | none => rw [numberAux_none, hs]
    | some m =>
      rw [numberAux_some]
      split
      · rfl
      · exact hs

/-- **scan of a digit run**: `ds` followed by the end of input, a non-digit, or the width limit -/
theorem number_digits (ds rest : List Nat) (min : Nat) (max : Option Nat) (hd : AllDigits ds)
    (hmin : min ≤ ds.length) (hmax : ∀ m, max = some m → ds.length ≤ m)
    (hstop : max = some ds.length ∨ NoDigitHead rest) (hfit : ds.length ≤ 18) :
    number (ds ++ rest) min max = .ok (rest, (valOf ds : Int)) := by
  unfold number
  rw [if_neg (by simp only [List.length_append]; omega)]
  have hv := valOf_lt ds hd
  have hp : 10 ^ ds.length ≤ 10 ^ 18 := Nat.pow_le_pow_right (by omega) hfit
  have h := numberAux_digits ds hd rest min max 0 0 (by intro m hm; have := hmax m hm; omega)
    (by norm_num at hp ⊢; omega)
  simp only [Nat.zero_mul, Nat.zero_add, Nat.cast_zero] at h
  rw [h]
  exact numberAux_stop rest ds.length min max _ hmin hstop

/-- inversion of the digit loop -/
theorem numberAux_inv : ∀ (s : List Nat) (i min : Nat) (max : Option Nat) (acc : Nat) (rest : List Nat)
    (v : Int), (∀ m, max = some m → i ≤ m) → numberAux s i min max (acc : Int) = .ok (rest, v) →
    ∃ ds, AllDigits ds ∧ s = ds ++ rest ∧ v = ((acc * 10 ^ ds.length + valOf ds : Nat) : Int) ∧
      (∀ m, max = some m → i + ds.length ≤ m) ∧
      (max = some (i + ds.length) ∨ rest = [] ∨ (NoDigitHead rest ∧ min ≤ i + ds.length)) := by
  intro s
  induction s with
  | nil =>
    intro i min max acc rest v hm h
    rw [numberAux_nil] at h
    injection h with h; injection h with h1 h2
    subst h1 h2
    exact ⟨[], allDigits_nil, rfl, by simp [valOf], by intro m hmx; simpa using hm m hmx, Or.inr (Or.inl rfl)⟩
  | cons c t ih =>
    intro i min max acc rest v hm h
    -- the case "stopped by the width limit before looking at `c`"
    by_cases hlim : max = some i
    · subst hlim
      rw [numberAux_some, if_pos (Nat.le_refl _)] at h
      injection h with h; injection h with h1 h2
      exact ⟨[], allDigits_nil, by simpa using h1, by simp [valOf, ← h2], by intro m hmx; simpa using hm m hmx,
        Or.inl (by simp)⟩
    · have hstep : numberAux.step (c :: t) i min max (acc : Int) = .ok (rest, v) := by
        cases max with
        | none => rwa [numberAux_none] at h
        | some m =>
          rw [numberAux_some] at h
          have := hm m rfl
          have hne : ¬ i ≥ m := by
            intro hge; apply hlim; congr 1; omega
          rwa [if_neg hne] at h
      cases hc : isDigit c with
      | false =>
        rw [step_nondigit _ _ _ _ _ _ hc] at hstep
        split at hstep
        · cases hstep
        · injection hstep with h; injection h with h1 h2
          refine ⟨[], allDigits_nil, by simpa using h1, by simp [valOf, ← h2], by intro m hmx; simpa using hm m hmx,
            Or.inr (Or.inr ⟨?_, by simp; omega⟩)⟩
          rw [← h1]; exact noDigitHead_cons.mpr hc
      | true =>
        rw [step_digit _ _ _ _ _ _ hc] at hstep
        split at hstep
        · cases hstep
        · have hcast : (acc : Int) * 10 + ((c - 48 : Nat) : Int) = ((acc * 10 + (c - 48) : Nat) : Int) := by
            push_cast; rfl
          rw [hcast] at hstep
          have hm' : ∀ m, max = some m → i + 1 ≤ m := by
            intro m hmx
            have := hm m hmx
            have : i ≠ m := by intro e; apply hlim; rw [hmx, e]
            omega
          obtain ⟨ds, d1, d2, d3, d4, d5⟩ := ih (i + 1) min max (acc * 10 + (c - 48)) rest v hm' hstep
          have hfin : (acc * 10 + (c - 48)) * 10 ^ ds.length + valOf ds =
              acc * 10 ^ (c :: ds).length + valOf (c :: ds) := by
            rw [valOf_cons, List.length_cons, Nat.pow_succ]; ring
          have hidx : i + 1 + ds.length = i + (c :: ds).length := by simp only [List.length_cons]; omega
          refine ⟨c :: ds, allDigits_cons.mpr ⟨hc, d1⟩, by rw [d2]; rfl, by rw [d3, hfin], ?_, ?_⟩
          · intro m hmx; rw [← hidx]; exact d4 m hmx
          · rw [← hidx]; exact d5

/-- **inversion of `number`** (for `min ≤ max`) -/
theorem number_inv (s : List Nat) (min : Nat) (max : Option Nat) (rest : List Nat) (v : Int)
    (hmm : ∀ m, max = some m → min ≤ m) (h : number s min max = .ok (rest, v)) :
    ∃ ds, AllDigits ds ∧ s = ds ++ rest ∧ v = (valOf ds : Int) ∧ min ≤ ds.length ∧
      (∀ m, max = some m → ds.length ≤ m) ∧ (max = some ds.length ∨ NoDigitHead rest) := by
  unfold number at h
  split at h
  · cases h
  · rename_i hlen
    obtain ⟨ds, d1, d2, d3, d4, d5⟩ := numberAux_inv s 0 min max 0 rest v (by intro m _; omega)
      (by simpa using h)
    simp only [Nat.zero_mul, Nat.zero_add] at d3 d4 d5
    refine ⟨ds, d1, d2, d3, ?_, d4, ?_⟩
    · rcases d5 with d5 | d5 | d5
      · exact hmm _ d5
      · subst d5; rw [d2] at hlen; simp at hlen; omega
      · exact d5.2
    · rcases d5 with d5 | d5 | d5
      · exact Or.inl d5
      · subst d5; exact Or.inr noDigitHead_nil
      · exact Or.inr d5.1

/-- **fixed-width fields**: `number s w w` succeeds exactly on `w` digits -/
theorem number_exact_iff (s : List Nat) (w : Nat) (hw : w ≤ 18) (rest : List Nat) (v : Int) :
    number s w (some w) = .ok (rest, v) ↔
      ∃ ds, AllDigits ds ∧ ds.length = w ∧ s = ds ++ rest ∧ v = (valOf ds : Int) := by
  constructor
  · intro h
    obtain ⟨ds, d1, d2, d3, d4, d5, _⟩ := number_inv s w (some w) rest v (by intro m hm; injection hm with hm; omega) h
    exact ⟨ds, d1, by have := d5 w rfl; omega, d2, d3⟩
  · rintro ⟨ds, d1, d2, rfl, rfl⟩
    exact number_digits ds rest w (some w) d1 (by omega) (by intro m hm; injection hm with hm; omega)
      (Or.inl (by rw [d2])) (by omega)

/-- the fixed-width scan on exactly `w` digits -/
theorem number_exact_ok_of_digits (ds rest : List Nat) (w : Nat) (hw : w ≤ 18) (hd : AllDigits ds)
    (hl : ds.length = w) : number (ds ++ rest) w (some w) = .ok (rest, (valOf ds : Int)) :=
  (number_exact_iff _ w hw rest _).mpr ⟨ds, hd, hl, rfl, rfl⟩

theorem number_two (n : Nat) (h : n < 100) (rest : List Nat) :
    number (two n ++ rest) 2 (some 2) = .ok (rest, (n : Int)) := by
  have := number_exact_ok_of_digits (two n) rest 2 (by omega) (allDigits_two n h) rfl
  rwa [valOf_two n h] at this

/-! ### `Scan.char` -/

theorem char_ok_iff (s : List Nat) (c : Nat) (rest : List Nat) : Scan.char s c = .ok rest ↔ s = c :: rest := by
  unfold Scan.char
  cases s with
  | nil => simp
  | cons a t =>
    simp only
    constructor
    · intro h
      split at h
      · rename_i e; injection h with h; rw [e, h]
      · cases h
    · intro h; injection h with h1 h2; rw [if_pos h1, h2]

theorem char_cons (c : Nat) (rest : List Nat) : Scan.char (c :: rest) c = .ok rest :=
  (char_ok_iff _ _ _).mpr rfl

/-! ### `dropDigits`, `Scan.nanosecond` -/

theorem dropDigits_digits (ds rest : List Nat) (hd : AllDigits ds) (hr : NoDigitHead rest) :
    dropDigits (ds ++ rest) = rest := by
  induction ds with
  | nil =>
    cases rest with
    | nil => rfl
    | cons c t => simp only [List.nil_append, dropDigits, noDigitHead_cons.mp hr]; rfl
  | cons c ds ih =>
    obtain ⟨h1, h2⟩ := allDigits_cons.mp hd
    simp only [List.cons_append, dropDigits, h1, if_true]
    exact ih h2

theorem dropDigits_inv (s : List Nat) :
    ∃ ds, AllDigits ds ∧ s = ds ++ dropDigits s ∧ NoDigitHead (dropDigits s) := by
  induction s with
  | nil => exact ⟨[], allDigits_nil, rfl, noDigitHead_nil⟩
  | cons c t ih =>
    cases hc : isDigit c with
    | true =>
      obtain ⟨ds, d1, d2, d3⟩ := ih
      have e : dropDigits (c :: t) = dropDigits t := by simp only [dropDigits, hc, if_true]
      rw [e]
      exact ⟨c :: ds, allDigits_cons.mpr ⟨hc, d1⟩, by rw [List.cons_append, ← d2], d3⟩
    | false =>
      have e : dropDigits (c :: t) = c :: t := by simp [dropDigits, hc]
      rw [e]
      exact ⟨[], allDigits_nil, rfl, noDigitHead_cons.mpr hc⟩

theorem scale_getD (k : Nat) (h1 : 1 ≤ k) (h9 : k ≤ 9) : SCALE.getD k 0 = ((10 ^ (9 - k) : Nat) : Int) := by
  have : ∀ k < 10, 1 ≤ k → SCALE.getD k 0 = ((10 ^ (9 - k) : Nat) : Int) := by decide
  exact this k (by omega) h1

theorem fracVal_lt (ds : List Nat) (hd : AllDigits ds) : fracVal ds < 1000000000 := by
  unfold fracVal
  have ht := allDigits_take hd 9
  have hv := valOf_lt _ ht
  have hk9 : (ds.take 9).length ≤ 9 := by rw [List.length_take]; exact Nat.min_le_left ..
  have : 10 ^ (ds.take 9).length * 10 ^ (9 - (ds.take 9).length) = 10 ^ 9 := by
    rw [← Nat.pow_add]; congr 1; omega
  have h2 : 0 < 10 ^ (9 - (ds.take 9).length) := Nat.pow_pos (by omega)
  calc valOf (ds.take 9) * 10 ^ (9 - (ds.take 9).length)
      < 10 ^ (ds.take 9).length * 10 ^ (9 - (ds.take 9).length) := Nat.mul_lt_mul_of_pos_right hv h2
    _ = 10 ^ 9 := this
    _ = 1000000000 := by norm_num

/-- **fraction digits**: any non-empty run of digits followed by a non-digit (or the end) scans to
the nanoseconds denoted by its first nine digits -/
theorem nanosecond_digits (ds rest : List Nat) (hd : AllDigits ds) (hl : 1 ≤ ds.length)
    (hr : NoDigitHead rest) : nanosecond (ds ++ rest) = .ok (rest, (fracVal ds : Int)) := by
  have hsplit : ds ++ rest = ds.take 9 ++ (ds.drop 9 ++ rest) := by
    rw [← List.append_assoc, List.take_append_drop]
  have ht := allDigits_take hd 9
  have hlt : (ds.take 9).length = min 9 ds.length := List.length_take ..
  have hnum : number (ds ++ rest) 1 (some 9) = .ok (ds.drop 9 ++ rest, (valOf (ds.take 9) : Int)) := by
    rw [hsplit]
    refine number_digits (ds.take 9) _ 1 (some 9) ht (by omega)
      (by intro m hm; injection hm with hm; omega) ?_ (by omega)
    by_cases h9 : 9 ≤ ds.length
    · left; congr 1; omega
    · right
      have : ds.drop 9 = [] := List.drop_eq_nil_of_le (by omega)
      rw [this]; exact hr
  unfold nanosecond
  rw [hnum]
  simp only
  have hcons : (ds ++ rest).length - (ds.drop 9 ++ rest).length = (ds.take 9).length := by
    simp only [List.length_append, List.length_drop]; omega
  have hk1 : 1 ≤ (ds.take 9).length := by omega
  have hk9 : (ds.take 9).length ≤ 9 := by omega
  rw [hcons, scale_getD _ hk1 hk9, dropDigits_digits _ _ (allDigits_drop hd 9) hr]
  have hb : valOf (ds.take 9) * 10 ^ (9 - (ds.take 9).length) < 1000000000 := fracVal_lt ds hd
  have hcast : (valOf (ds.take 9) : Int) * ((10 ^ (9 - (ds.take 9).length) : Nat) : Int) =
      ((valOf (ds.take 9) * 10 ^ (9 - (ds.take 9).length) : Nat) : Int) := by push_cast; rfl
  rw [hcast, if_neg]
  · rfl
  · simp only [I64_MAX]; omega

/-- inversion of `nanosecond` -/
theorem nanosecond_inv (s rest : List Nat) (v : Int) (h : nanosecond s = .ok (rest, v)) :
    ∃ ds, AllDigits ds ∧ 1 ≤ ds.length ∧ s = ds ++ rest ∧ NoDigitHead rest ∧ v = (fracVal ds : Int) := by
  unfold nanosecond at h
  split at h
  · cases h
  · rename_i r1 v1 hnum
    obtain ⟨d1, a1, a2, a3, a4, a5, a6⟩ := number_inv s 1 (some 9) r1 v1
      (by intro m hm; injection hm with hm; omega) hnum
    obtain ⟨d2, b1, b2, b3⟩ := dropDigits_inv r1
    have hspec := nanosecond_digits (d1 ++ d2) (dropDigits r1) (allDigits_append.mpr ⟨a1, b1⟩)
      (by simp only [List.length_append]; omega) b3
    have hs : s = (d1 ++ d2) ++ dropDigits r1 := by rw [List.append_assoc, ← b2, ← a2]
    have hfull : nanosecond s = .ok (rest, v) := by
      unfold nanosecond; rw [hnum]; exact h
    rw [hs, hspec] at hfull
    injection hfull with hfull; injection hfull with e1 e2
    exact ⟨d1 ++ d2, allDigits_append.mpr ⟨a1, b1⟩, by simp only [List.length_append]; omega,
      by rw [← e1]; exact hs, by rw [← e1]; exact b3, e2.symm⟩

theorem nanosecond_ok_iff (s rest : List Nat) (v : Int) :
    nanosecond s = .ok (rest, v) ↔
      ∃ ds, AllDigits ds ∧ 1 ≤ ds.length ∧ s = ds ++ rest ∧ NoDigitHead rest ∧ v = (fracVal ds : Int) := by
  constructor
  · exact nanosecond_inv s rest v
  · rintro ⟨ds, h1, h2, rfl, h4, rfl⟩; exact nanosecond_digits ds rest h1 h2 h4

/-! ### rendering: `Format.digits`, `Format.fmtInt`, `write_hundreds`, `write_two` -/

theorem isDigit_digitChar (d : Nat) : isDigit (Delta.digitChar d) = true := by
  rw [isDigit_iff]; unfold Delta.digitChar; omega

theorem natDigitsAux_spec : ∀ (fuel n : Nat), n < fuel → ∃ ds : List Nat,
    (∀ acc, Delta.natDigitsAux fuel n acc = ds ++ acc) ∧ AllDigits ds ∧ valOf ds = n ∧ 1 ≤ ds.length ∧
    (∀ w, 1 ≤ w → n < 10 ^ w → ds.length ≤ w) ∧ (10 ≤ n → 10 ^ (ds.length - 1) ≤ n) := by
  intro fuel
  induction fuel with
  | zero => intro n h; omega
  | succ f ih =>
    intro n hn
    by_cases h10 : n < 10
    · refine ⟨[Delta.digitChar n], ?_, ?_, ?_, by simp, ?_, by omega⟩
      · intro acc; simp only [Delta.natDigitsAux, h10, if_true, List.singleton_append]
      · exact allDigits_cons.mpr ⟨isDigit_digitChar n, allDigits_nil⟩
      · simp only [valOf, List.foldl_cons, List.foldl_nil, Delta.digitChar]; omega
      · intro w hw _; simpa using hw
    · obtain ⟨ds, h1, h2, h3, h4, h5, h6⟩ := ih (n / 10) (by omega)
      refine ⟨ds ++ [Delta.digitChar (n % 10)], ?_, ?_, ?_, by simp, ?_, ?_⟩
      · intro acc
        simp only [Delta.natDigitsAux, h10, if_false, h1, List.append_assoc, List.singleton_append]
      · exact allDigits_append.mpr ⟨h2, allDigits_cons.mpr ⟨isDigit_digitChar _, allDigits_nil⟩⟩
      · rw [valOf_append, h3]
        simp only [valOf, List.foldl_cons, List.foldl_nil, Delta.digitChar, List.length_singleton]; omega
      · intro w hw hlt
        obtain ⟨w', rfl⟩ : ∃ w', w = w' + 1 := ⟨w - 1, by omega⟩
        have hw' : 1 ≤ w' := by
          rcases Nat.eq_zero_or_pos w' with h0 | h0
          · subst h0; simp at hlt; omega
          · exact h0
        have : n / 10 < 10 ^ w' := by rw [Nat.pow_succ] at hlt; omega
        have := h5 w' hw' this
        simp only [List.length_append, List.length_singleton]; omega
      · intro _
        simp only [List.length_append, List.length_singleton, Nat.add_sub_cancel]
        by_cases h100 : 10 ≤ n / 10
        · have := h6 h100
          obtain ⟨k, hk⟩ : ∃ k, ds.length = k + 1 := ⟨ds.length - 1, by omega⟩
          rw [hk] at this ⊢
          simp only [Nat.add_sub_cancel] at this
          rw [Nat.pow_succ]; omega
        · have hl : ds.length ≤ 1 := h5 1 (by omega) (by omega)
          have : ds.length = 1 := by omega
          rw [this]; omega

/-- **the digit printer**: `digits n` is a non-empty digit string denoting `n`, of minimal length -/
theorem digits_spec (n : Nat) :
    AllDigits (Format.digits n) ∧ valOf (Format.digits n) = n ∧ 1 ≤ (Format.digits n).length ∧
    (∀ w, 1 ≤ w → n < 10 ^ w → (Format.digits n).length ≤ w) ∧
    (10 ≤ n → 10 ^ ((Format.digits n).length - 1) ≤ n) := by
  obtain ⟨ds, h1, h2, h3, h4, h5, h6⟩ := natDigitsAux_spec (n + 1) n (by omega)
  have : Format.digits n = ds := by
    unfold Format.digits Delta.natDigits; rw [h1, List.append_nil]
  rw [this]; exact ⟨h2, h3, h4, h5, h6⟩

/-- `fmtInt` of a non-negative value without the `+` flag, zero padding -/
theorem fmtInt_zero_nonneg (v : Int) (w : Nat) (h0 : 0 ≤ v) :
    Format.fmtInt v w .zero false =
      List.replicate (w - (Format.digits v.toNat).length) 48 ++ Format.digits v.toNat := by
  unfold Format.fmtInt
  have hn : ¬ v < 0 := by omega
  have e : v.natAbs = v.toNat := by omega
  simp [hn, e]

/-- **`{:0w$}`** of `0 ≤ v < 10^w`: exactly `w` digits denoting `v` -/
theorem fmtInt_pad_spec (v : Int) (w : Nat) (h0 : 0 ≤ v) (hw : 1 ≤ w) (hlt : v < ((10 ^ w : Nat) : Int)) :
    AllDigits (Format.fmtInt v w .zero false) ∧ (Format.fmtInt v w .zero false).length = w ∧
    valOf (Format.fmtInt v w .zero false) = v.toNat := by
  rw [fmtInt_zero_nonneg v w h0]
  obtain ⟨h1, h2, h3, h4, _⟩ := digits_spec v.toNat
  have hl := h4 w hw (by omega)
  refine ⟨allDigits_append.mpr ⟨allDigits_replicate _, h1⟩, ?_, ?_⟩
  · simp only [List.length_append, List.length_replicate]; omega
  · rw [valOf_append, valOf_replicate_zero, h2]; simp

/-- `{}` (no width) of a non-negative value: its digits -/
theorem fmtInt_none_nonneg (v : Int) (w : Nat) (h0 : 0 ≤ v) :
    Format.fmtInt v w .none false = Format.digits v.toNat := by
  unfold Format.fmtInt
  have hn : ¬ v < 0 := by omega
  have e : v.natAbs = v.toNat := by omega
  simp [hn, e]

/-- `{}` of a negative value: `-` and the digits of the magnitude -/
theorem fmtInt_none_neg (v : Int) (w : Nat) (plus : Bool) (h0 : v < 0) :
    Format.fmtInt v w .none plus = 45 :: Format.digits v.natAbs := by
  unfold Format.fmtInt; simp [h0]

/-- `{:+0w$}`: explicit sign, then zero padding to `w - 1` digits -/
theorem fmtInt_zero_signed (v : Int) (w : Nat) :
    Format.fmtInt v w .zero true =
      (if v < 0 then 45 else 43) ::
        (List.replicate (w - 1 - (Format.digits v.natAbs).length) 48 ++ Format.digits v.natAbs) := by
  unfold Format.fmtInt
  by_cases h : v < 0 <;> simp [h]

/-- `{:0w$}` of a negative value: `-`, then zero padding to `w - 1` digits -/
theorem fmtInt_zero_neg (v : Int) (w : Nat) (h0 : v < 0) :
    Format.fmtInt v w .zero false =
      45 :: (List.replicate (w - 1 - (Format.digits v.natAbs).length) 48 ++ Format.digits v.natAbs) := by
  unfold Format.fmtInt; simp [h0]

theorem pushChar_ascii (c : Nat) (h : c < 128) : Format.pushChar c = [c] := by
  unfold Format.pushChar; rw [if_pos h]

/-- **`write_hundreds`** writes `two n` for `0 ≤ n < 100` (failure from 100 on: `write_hundreds_err`) -/
theorem write_hundreds_eq (n : Int) (h0 : 0 ≤ n) (h : n < 100) :
    Format.write_hundreds n = Format.wok (two n.toNat) := by
  have e : (48 + n / 10).toNat = 48 + n.toNat / 10 ∧ (48 + n % 10).toNat = 48 + n.toNat % 10 := by omega
  unfold Format.write_hundreds two
  rw [if_neg (by omega), e.1, e.2]

theorem write_hundreds_err (n : Int) (h : 100 ≤ n) : Format.write_hundreds n = Format.werr := by
  unfold Format.write_hundreds; rw [if_pos (by omega)]

/-- `write_two(v, pad)` for `v < 100`: the tens digit, or what the padding puts in its place when it
is zero, then the ones digit -/
theorem write_two_eq (n : Nat) (h : n < 100) (pad : Pad) :
    Format.write_two (n : Int) pad =
      (if n < 10 then (match pad with | .none => [] | .space => [32] | .zero => [48]) else [48 + n / 10]) ++
        [48 + n % 10] := by
  have e : (48 + (n : Int) % 10).toNat = 48 + n % 10 ∧ (48 + (n : Int) / 10).toNat = 48 + n / 10 ∧
      ((n : Int) / 10 = 0 ↔ n < 10) ∧ 48 + n % 10 < 128 ∧ 48 + n / 10 < 128 ∧ (n < 10 → 48 + n / 10 = 48) := by
    omega
  unfold Format.write_two
  simp only [e.1, e.2.1, e.2.2.1, pushChar_ascii _ e.2.2.2.1, pushChar_ascii _ e.2.2.2.2.1]
  split
  · rename_i h10; rw [e.2.2.2.2.2 h10]; cases pad <;> rfl
  · rfl

theorem write_two_zero (v : Int) (h0 : 0 ≤ v) (h : v < 100) : Format.write_two v .zero = two v.toNat := by
  obtain ⟨n, rfl⟩ := Int.eq_ofNat_of_zero_le h0
  rw [write_two_eq n (by omega), Int.toNat_natCast, two]
  split
  · rename_i h10; rw [Nat.div_eq_of_lt h10]; rfl
  · rfl

/-- `Pad::None`: one digit below ten, two from ten on -/
theorem write_two_none (v : Int) (h0 : 0 ≤ v) (h : v < 100) :
    Format.write_two v .none = if v < 10 then [48 + v.toNat] else two v.toNat := by
  obtain ⟨n, rfl⟩ := Int.eq_ofNat_of_zero_le h0
  rw [write_two_eq n (by omega), Int.toNat_natCast, two]
  by_cases h10 : n < 10
  · rw [if_pos h10, if_pos (by omega), Nat.mod_eq_of_lt h10]; rfl
  · rw [if_neg h10, if_neg (by omega)]; rfl

/-- `Pad::Space`: a space instead of the leading zero -/
theorem write_two_space (v : Int) (h0 : 0 ≤ v) (h : v < 100) :
    Format.write_two v .space = if v < 10 then [32, 48 + v.toNat] else two v.toNat := by
  obtain ⟨n, rfl⟩ := Int.eq_ofNat_of_zero_le h0
  rw [write_two_eq n (by omega), Int.toNat_natCast, two]
  by_cases h10 : n < 10
  · rw [if_pos h10, if_pos (by omega), Nat.mod_eq_of_lt h10]; rfl
  · rw [if_neg h10, if_neg (by omega)]; rfl
/-! ### render, then scan -/

/-- **zero-padded field round trip**: `{:0w$}` of `v`, scanned with `number(s, min, max)`, `min ≤ w ≤ max`,
followed by a non-digit (or with `max = w`) -/
theorem number_fmtInt (v : Int) (w : Nat) (rest : List Nat) (min : Nat) (max : Option Nat)
    (h0 : 0 ≤ v) (hw : 1 ≤ w) (hw18 : w ≤ 18) (hlt : v < ((10 ^ w : Nat) : Int)) (hmin : min ≤ w)
    (hmax : ∀ m, max = some m → w ≤ m) (hstop : max = some w ∨ NoDigitHead rest) :
    number (Format.fmtInt v w .zero false ++ rest) min max = .ok (rest, v) := by
  obtain ⟨h1, h2, h3⟩ := fmtInt_pad_spec v w h0 hw hlt
  have := number_digits (Format.fmtInt v w .zero false) rest min max h1 (by omega)
    (by intro m hm; have := hmax m hm; omega) (by rw [h2]; exact hstop) (by omega)
  rw [this, h3]
  congr 2; omega

/-- **plain decimal round trip**: `{}` of `v ≥ 0`, scanned with an unlimited or wide enough `number` -/
theorem number_digits_of (n : Nat) (rest : List Nat) (min : Nat) (max : Option Nat)
    (hn : n < 10 ^ 18) (hmin : min ≤ 1) (hmax : ∀ m, max = some m → 18 ≤ m) (hstop : NoDigitHead rest) :
    number (Format.digits n ++ rest) min max = .ok (rest, (n : Int)) := by
  obtain ⟨h1, h2, h3, h4, _⟩ := digits_spec n
  have hl := h4 18 (by omega) hn
  have := number_digits (Format.digits n) rest min max h1 (by omega)
    (by intro m hm; have := hmax m hm; omega) (Or.inr hstop) hl
  rw [this, h2]

/-- **fraction round trip**: the `k`-digit fraction writers (`.{:03}`, `.{:06}`, `.{:09}` after the
dot) scan back to `v · 10^(9−k)` nanoseconds -/
theorem nanosecond_fmtInt (v : Int) (k : Nat) (rest : List Nat) (h0 : 0 ≤ v) (hk1 : 1 ≤ k) (hk9 : k ≤ 9)
    (hlt : v < ((10 ^ k : Nat) : Int)) (hr : NoDigitHead rest) :
    nanosecond (Format.fmtInt v k .zero false ++ rest) = .ok (rest, v * ((10 ^ (9 - k) : Nat) : Int)) := by
  obtain ⟨h1, h2, h3⟩ := fmtInt_pad_spec v k h0 hk1 hlt
  rw [nanosecond_digits _ rest h1 (by omega) hr]
  unfold fracVal
  have ht : (Format.fmtInt v k .zero false).take 9 = Format.fmtInt v k .zero false :=
    List.take_of_length_le (by omega)
  rw [ht, h2, h3]
  congr 2
  push_cast
  congr 1; omega

/-! ### UTC offsets: `OffsetFormat::format` with minute precision, `scan::timezone_offset` -/

/-- the colon text between hours and minutes -/
def colonText (c : Format.Colons) : List Nat := if c = .colon then [58] else []

/-- the hour part with zero padding: sign and two digits -/
theorem hoursText_zero (sign : Nat) (h : Int) (h0 : 0 ≤ h) (hh : h < 100) :
    Format.hoursText .zero sign h = Format.wok (sign :: two h.toNat) := by
  unfold Format.hoursText
  by_cases h10 : h < 10
  · have e : (48 + h).toNat = 48 + h.toNat % 10 ∧ 48 + h.toNat % 10 < 128 ∧ h.toNat / 10 = 0 := by omega
    rw [if_pos h10, e.1, pushChar_ascii _ e.2.1, two, e.2.2]; rfl
  · rw [if_neg h10, write_hundreds_eq _ h0 hh]; rfl

/-- **offset writer, minute precision, zero padding** (`%z`, `%:z`, RFC 3339, RFC 2822): `Z` on
request for offset 0; otherwise sign, two-digit hours, optional colon, two-digit minutes of the offset
*rounded to the nearest minute* (`|off| < 86400`, so hours ≤ 24) -/
theorem offset_minutes_eq (colons : Format.Colons) (zulu : Bool) (off : Int)
    (h : -86400 < off ∧ off < 86400) :
    Format.OffsetFormat.format ⟨.minutes, colons, zulu, .zero⟩ off =
      if zulu = true ∧ off = 0 then Format.wok [90]
      else Format.wok ((if off < 0 then 45 else 43) ::
        (two (((if off < 0 then -off else off) + 30) / 60 / 60).toNat ++ colonText colons ++
         two (((if off < 0 then -off else off) + 30) / 60 % 60).toNat)) := by
  unfold Format.OffsetFormat.format Format.offsetParts Format.tailText
  by_cases hz : zulu = true ∧ off = 0
  · rw [if_pos hz, if_pos hz]
  · rw [if_neg hz, if_neg hz]
    have ha : 0 ≤ (if off < 0 then -off else off) ∧ (if off < 0 then -off else off) < 86400 := by omega
    generalize (if off < 0 then -off else off) = a at *
    generalize hm : (a + 30) / 60 = m
    have b : 0 ≤ a + 30 ∧ 0 ≤ m ∧ 0 ≤ m / 60 ∧ m / 60 < 100 ∧ 0 ≤ m % 60 ∧ m % 60 < 100 ∧
        m % 60 % 256 = m % 60 ∧ m / 60 % 256 = m / 60 := by omega
    have hprec : ∀ P : Prop, ¬ (Format.OffsetPrecision.minutes = Format.OffsetPrecision.optionalMinutes ∧ P) :=
      fun _ h => nomatch h.1
    simp only [Int.tdiv_eq_ediv_of_nonneg b.1, hm, Int.tmod_eq_emod_of_nonneg b.2.1,
      Int.tdiv_eq_ediv_of_nonneg b.2.1, asU8, b.2.2.2.2.2.2.1, b.2.2.2.2.2.2.2, hprec, if_false,
      hoursText_zero _ _ b.2.2.1 b.2.2.2.1, write_hundreds_eq _ b.2.2.2.2.1 b.2.2.2.2.2.1, true_or, if_true]
    cases colons <;> rfl
/-- for a whole-minute offset nothing is rounded -/
theorem whole_minute_parts (off : Int) (hm : off % 60 = 0) :
    ((if off < 0 then -off else off) + 30) / 60 / 60 = (if off < 0 then -off else off) / 3600 ∧
    ((if off < 0 then -off else off) + 30) / 60 % 60 = (if off < 0 then -off else off) / 60 % 60 := by
  omega

/-- the sign of a numeric offset: `+`, `-`, or U+2212 MINUS SIGN -/
def SignBytes (sg : List Nat) (neg : Bool) : Prop :=
  (sg = [43] ∧ neg = false) ∨ (sg = [45] ∧ neg = true) ∨ (sg = [226, 136, 146] ∧ neg = true)

/-- text that starts with a sign byte is not `Z` / `z`: `allow_zulu` plays no part -/
theorem tzoffset_sign_nozulu (c : Nat) (hc : c = 43 ∨ c = 45 ∨ c = 226) (s : List Nat) (cm : ColonMode)
    (zulu missing minus : Bool) :
    timezone_offset (c :: s) cm zulu missing minus = timezone_offset (c :: s) cm false missing minus := by
  cases zulu
  · rfl
  · rcases hc with rfl | rfl | rfl <;> rfl

/-- **offset reader on a numeric offset**: sign (U+2212 where allowed), two hour digits, a separator
`sep` that the mode's colon consumer removes, two minute digits of which the first is at most `5` -/
theorem tzoffset_ok (sg : List Nat) (neg : Bool) (h1 h2 m1 m2 : Nat) (sep rest : List Nat) (cm : ColonMode)
    (zulu missing minus : Bool) (hsg : SignBytes sg neg) (hmn : sg = [226, 136, 146] → minus = true)
    (d1 : isDigit h1 = true) (d2 : isDigit h2 = true) (d3 : isDigit m1 = true) (d4 : isDigit m2 = true)
    (hm : m1 ≤ 53) (hsep : consumeColon cm (sep ++ m1 :: m2 :: rest) = .ok (m1 :: m2 :: rest)) :
    timezone_offset (sg ++ h1 :: h2 :: (sep ++ m1 :: m2 :: rest)) cm zulu missing minus =
      .ok (rest, (if neg then -1 else 1) * ((valOf [h1,h2] : Int) * 3600 + (valOf [m1,m2] : Int) * 60)) := by
  have hm1 : 48 ≤ m1 ∧ m1 ≤ 53 := ⟨((isDigit_iff m1).mp d3).1, hm⟩
  rcases hsg with ⟨rfl, rfl⟩ | ⟨rfl, rfl⟩ | ⟨rfl, rfl⟩
  · rw [List.cons_append, tzoffset_sign_nozulu _ (by omega)]
    unfold timezone_offset
    simp [hsep, d1, d2, d4, hm1, valOf]
  · rw [List.cons_append, tzoffset_sign_nozulu _ (by omega)]
    unfold timezone_offset
    simp [hsep, d1, d2, d4, hm1, valOf]
  · rw [List.cons_append, tzoffset_sign_nozulu _ (by omega)]
    unfold timezone_offset
    simp [hsep, d1, d2, d4, hm1, valOf, hmn rfl]

/-- the same for `+` / `-` and the two-digit renderings of hours and minutes below 60 -/
theorem tzoffset_two (sign : Nat) (hsign : sign = 43 ∨ sign = 45) (hh mm : Nat) (hh100 : hh < 100)
    (mm60 : mm < 60) (sep rest : List Nat) (cm : ColonMode) (zulu missing minus : Bool)
    (hsep : consumeColon cm (sep ++ (two mm ++ rest)) = .ok (two mm ++ rest)) :
    timezone_offset (sign :: (two hh ++ (sep ++ (two mm ++ rest)))) cm zulu missing minus =
      .ok (rest, if sign = 45 then -((hh : Int) * 3600 + (mm : Int) * 60) else (hh : Int) * 3600 + (mm : Int) * 60) := by
  have h := tzoffset_ok [sign] (decide (sign = 45)) (48 + hh / 10) (48 + hh % 10) (48 + mm / 10) (48 + mm % 10)
    sep rest cm zulu missing minus (by rcases hsign with rfl | rfl <;> simp [SignBytes])
    (by rcases hsign with rfl | rfl <;> simp) (by rw [isDigit_iff]; omega) (by rw [isDigit_iff]; omega)
    (by rw [isDigit_iff]; omega) (by rw [isDigit_iff]; omega) (by omega) hsep
  have vh : valOf [48 + hh / 10, 48 + hh % 10] = hh := valOf_two hh hh100
  have vm : valOf [48 + mm / 10, 48 + mm % 10] = mm := valOf_two mm (by omega)
  rw [vh, vm] at h
  rcases hsign with rfl | rfl <;> simpa [two] using h

theorem tzoffset_numeric (sign : Nat) (hsign : sign = 43 ∨ sign = 45) (hh mm : Nat) (hh100 : hh < 100)
    (mm60 : mm < 60) (rest : List Nat) (zulu missing minus : Bool) :
    timezone_offset (sign :: (two hh ++ 58 :: (two mm ++ rest))) .charColon zulu missing minus =
      .ok (rest, if sign = 45 then -((hh : Int) * 3600 + (mm : Int) * 60) else (hh : Int) * 3600 + (mm : Int) * 60) :=
  tzoffset_two sign hsign hh mm hh100 mm60 [58] rest .charColon zulu missing minus (char_cons 58 _)

/-- the same without a colon (`%z`, RFC 2822) -/
theorem tzoffset_numeric_nocolon (sign : Nat) (hsign : sign = 43 ∨ sign = 45) (hh mm : Nat) (hh100 : hh < 100)
    (mm60 : mm < 60) (rest : List Nat) (zulu missing minus : Bool) :
    timezone_offset (sign :: (two hh ++ (two mm ++ rest))) .nothing zulu missing minus =
      .ok (rest, if sign = 45 then -((hh : Int) * 3600 + (mm : Int) * 60) else (hh : Int) * 3600 + (mm : Int) * 60) :=
  tzoffset_two sign hsign hh mm hh100 mm60 [] rest .nothing zulu missing minus rfl

/-- `Z` / `z` where the caller allows it -/
theorem tzoffset_zulu (c : Nat) (hc : c = 90 ∨ c = 122) (rest : List Nat) (cm : ColonMode) (missing minus : Bool) :
    timezone_offset (c :: rest) cm true missing minus = .ok (rest, 0) := by
  rcases hc with rfl | rfl <;> simp [timezone_offset]

/-- a successful read either took `Z` / `z` (where allowed) or went the numeric way, on which
`allow_zulu` plays no part -/
theorem tzoffset_zulu_cases (s : List Nat) (cm : ColonMode) (zulu missing minus : Bool) (rest : List Nat)
    (off : Int) (h : timezone_offset s cm zulu missing minus = .ok (rest, off)) :
    (zulu = true ∧ (s = 90 :: rest ∨ s = 122 :: rest) ∧ off = 0) ∨
    timezone_offset s cm false missing minus = .ok (rest, off) := by
  cases zulu
  · exact Or.inr h
  · unfold timezone_offset at h
    simp only [if_true] at h
    split at h
    · rename_i r hz
      injection h with h; injection h with e1 e2
      refine Or.inl ⟨rfl, ?_, e2.symm⟩
      split at hz
      · injection hz with hz; left; rw [← e1, hz]
      · injection hz with hz; right; rw [← e1, hz]
      · cases hz
    · exact Or.inr h
/-- **inversion of the offset reader** in the strict mode (`charColon`, minutes required): `Z`/`z`
where allowed, else sign (`+`, `-`, U+2212 where allowed), two digits, `:`, two digits, the first of
the minute digits at most `5` -/
theorem tzoffset_colon_inv (s rest : List Nat) (off : Int) (zulu minus : Bool)
    (h : timezone_offset s .charColon zulu false minus = .ok (rest, off)) :
      (zulu = true ∧ (s = 90 :: rest ∨ s = 122 :: rest) ∧ off = 0) ∨
      ∃ (sg : List Nat) (neg : Bool) (h1 h2 m1 m2 : Nat),
        SignBytes sg neg ∧ (sg = [226, 136, 146] → minus = true) ∧
        s = sg ++ h1 :: h2 :: 58 :: m1 :: m2 :: rest ∧ isDigit h1 = true ∧ isDigit h2 = true ∧
        isDigit m1 = true ∧ isDigit m2 = true ∧ m1 ≤ 53 ∧
        off = (if neg then -1 else 1) * ((valOf [h1,h2] : Int) * 3600 + (valOf [m1,m2] : Int) * 60) := by
  refine (tzoffset_zulu_cases s _ zulu _ _ rest off h).imp_right fun h' => ?_
  clear h
  rename' h' => h
  unfold timezone_offset at h
  simp only [Bool.false_eq_true, if_false] at h
  split at h
  · cases h
  · rename_i s1 neg hsign
    have hs : ∃ sg, SignBytes sg neg ∧ (sg = [226, 136, 146] → minus = true) ∧ s = sg ++ s1 := by
      split at hsign
      · injection hsign with e; injection e with e1 e2
        refine ⟨[43], Or.inl ⟨rfl, e2.symm⟩, ?_, ?_⟩
        · intro hx; cases hx
        · rw [e1]; rfl
      · injection hsign with e; injection e with e1 e2
        refine ⟨[45], Or.inr (Or.inl ⟨rfl, e2.symm⟩), ?_, ?_⟩
        · intro hx; cases hx
        · rw [e1]; rfl
      · split at hsign
        · rename_i hmin
          injection hsign with e; injection e with e1 e2
          exact ⟨[226, 136, 146], Or.inr (Or.inr ⟨rfl, e2.symm⟩), fun _ => hmin, by rw [e1]; rfl⟩
        · cases hsign
      · cases hsign
      · cases hsign
    obtain ⟨sg, hsg, hmn, rfl⟩ := hs
    rcases s1 with _ | ⟨h1, _ | ⟨h2, t⟩⟩
    · simp at h
    · simp at h
    · simp only at h
      split at h
      · rename_i hd
        simp only [Bool.and_eq_true] at hd
        split at h
        · cases h
        · rename_i s2 hc
          simp only [consumeColon] at hc
          rw [char_ok_iff] at hc
          split at h
          · cases h
          · rename_i minutes hm
            split at hm
            · rename_i m1 m2 tail
              split at hm
              · rename_i hmm
                injection hm with hm
                simp only [List.length_cons, ge_iff_le, Nat.le_add_left, if_true, List.drop_succ_cons,
                  List.drop_zero] at h
                injection h with h; injection h with e1 e2
                refine ⟨sg, neg, h1, h2, m1, m2, hsg, hmn, by rw [hc, e1], hd.1, hd.2,
                  by rw [isDigit_iff]; omega, hmm.2.2, hmm.2.1, ?_⟩
                have a1 := (isDigit_iff h1).mp hd.1
                have a2 := (isDigit_iff h2).mp hd.2
                have a3 := (isDigit_iff m2).mp hmm.2.2
                rw [← e2, ← hm]
                simp only [valOf, List.foldl_cons, List.foldl_nil]
                cases neg <;> simp
              · split at hm <;> cases hm
            · simp at hm
      · cases h

/-- the converse: every string of that shape is read, with the value it denotes -/
theorem tzoffset_colon_ok (sg : List Nat) (neg : Bool) (h1 h2 m1 m2 : Nat) (rest : List Nat) (zulu minus : Bool)
    (hsg : SignBytes sg neg) (hmn : sg = [226, 136, 146] → minus = true)
    (d1 : isDigit h1 = true) (d2 : isDigit h2 = true) (d3 : isDigit m1 = true) (d4 : isDigit m2 = true)
    (hm : m1 ≤ 53) :
    timezone_offset (sg ++ h1 :: h2 :: 58 :: m1 :: m2 :: rest) .charColon zulu false minus =
      .ok (rest, (if neg then -1 else 1) * ((valOf [h1,h2] : Int) * 3600 + (valOf [m1,m2] : Int) * 60)) :=
  tzoffset_ok sg neg h1 h2 m1 m2 [58] rest .charColon zulu false minus hsg hmn d1 d2 d3 d4 hm (char_cons 58 _)

end Chrono.Proofs.RenderScan
