/-
  Helper lemmas for C11: the reader `Parse.parse_rfc2822` cut into stages, each stage as an equation on its
  pieces of the grammar of Spec/Rfc2822Spec.lean, and their composition `parse_rfc2822_spec`: on a string of
  the grammar the scanner returns the spelled fields inside the setter ranges and `outOfRange` outside them
  (`parse_rfc2822_complete` is one branch).
-/
import Chrono.Proofs.Rfc2822L
import Chrono.Proofs.ParsedL
namespace Chrono.Proofs.Rfc2822
open Chrono Chrono.M Chrono.Spec Chrono.Spec.Rfc2822 Chrono.M.Scan Chrono.M.Parse

/-! ### the reader cut into its stages (copies of the code of `Parse.parse_rfc2822`) -/

def zonePart (p : Parsed) (s : List Nat) : PRes (Parsed × List Nat) := do
  let s ← space s
  let (s, off) ← timezone_offset_2822 s
  let p ← Parsed.set_offset p off
  pure (p, commentsAux s.length s)

def secPart (p : Parsed) (s : List Nat) : PRes (Parsed × List Nat) := do
  let (p, s) ← (match char (trimStart s) 58 with
    | .ok s_ => setField Parsed.set_second p (number s_ 2 (some 2))
    | .error _ => .ok (p, s) : PRes (Parsed × List Nat))
  zonePart p s

def timePart (p : Parsed) (s : List Nat) : PRes (Parsed × List Nat) := do
  let s ← space s
  let (p, s) ← setField Parsed.set_hour p (number s 2 (some 2))
  let s ← char (trimStart s) 58
  let s := trimStart s
  let (p, s) ← setField Parsed.set_minute p (number s 2 (some 2))
  secPart p s

def yearPart (p : Parsed) (s : List Nat) : PRes (Parsed × List Nat) := do
  let s ← space s
  let prevlen := s.length
  let (s, year) ← number s 2 none
  let yearlen := prevlen - s.length
  let year :=
    if yearlen = 2 ∧ 0 ≤ year ∧ year ≤ 49 then year + 2000
    else if yearlen = 2 ∧ 50 ≤ year ∧ year ≤ 99 then year + 1900
    else if yearlen = 3 then year + 1900
    else year
  let p ← Parsed.set_year p year
  timePart p s

def datePart (p : Parsed) (s : List Nat) : PRes (Parsed × List Nat) := do
  let s := trimStart s
  let (p, s) ← setField Parsed.set_day p (number s 1 (some 2))
  let s ← space s
  let (p, s) ← (match short_month0 s with
    | .ok (s', m0) => (Parsed.set_month p (1 + (m0 : Int))).map fun p' => (p', s')
    | .error .tooShort => .error PErr.tooShort
    | .error .invalid => .error PErr.invalid : PRes (Parsed × List Nat))
  yearPart p s

def parseCopy (p : Parsed) (s : List Nat) : PRes (Parsed × List Nat) := do
  let s := trimStart s
  let (p, s) ← (match short_weekday s with
    | .ok (s', w) =>
      match s' with
      | 44 :: rest => (Parsed.set_weekday p w).map fun p' => (p', rest)
      | _ => .error PErr.invalid
    | .error _ => .ok (p, s) : PRes (Parsed × List Nat))
  datePart p s

theorem parse_eq (p : Parsed) (s : List Nat) : Parse.parse_rfc2822 p s = parseCopy p s := by
  unfold Parse.parse_rfc2822 parseCopy datePart yearPart timePart secPart zonePart
  rfl

/-- `parse` with the single item `RFC2822` is the scanner, which has to consume all of the input -/
theorem parse_items_eq (p : Parsed) (s : List Nat) :
    Parse.parse p s Rfc2822.ITEMS = match Parse.parse_rfc2822 p s with
      | .ok (p', []) => .ok p'
      | .ok (_, _ :: _) => .error .tooLong
      | .error e => .error e := by
  unfold Parse.parse Rfc2822.ITEMS Parse.parse_internal
  cases Parse.parse_rfc2822 p s with
  | error e => rfl
  | ok r =>
    simp only [Parse.parse_internal]
    rfl

/-! ### heads of the pieces -/

theorem ws_first : ∀ w ∈ WS, (match w with
    | c :: _ => !Scan.isDigit c && !Scan.isAsciiAlpha c && decide (c ≠ 58) && decide (c ≠ 40)
    | [] => false) = true := by decide

/-- after `1*S`: the next byte is no digit, no letter -/
theorem ws1_head {w : List Nat} (h : Ws1 w) (r : List Nat) :
    ∃ c t, w ++ r = c :: t ∧ Scan.isDigit c = false ∧ ¬ isAlpha c := by
  obtain ⟨x, y, hx, _, rfl⟩ := h
  have := ws_first x hx
  cases x with
  | nil => simp at this
  | cons c t =>
    simp only [Bool.and_eq_true, Bool.not_eq_true', decide_eq_true_eq] at this
    refine ⟨c, t ++ y ++ r, by simp, this.1.1.1, ?_⟩
    rw [← isAlpha_iff]; simp [this.1.1.2]

theorem digits_head {ds : List Nat} (hd : Digits ds) (hl : 0 < ds.length) (r : List Nat) :
    Scan.wsLen (ds ++ r) = 0 := by
  cases ds with
  | nil => simp at hl
  | cons d t =>
    have := hd d (by simp)
    exact wsLen_head d _ (by omega) (by omega) (by omega)

theorem alpha_head (c : Nat) (r : List Nat) (h : isAlpha c) : Scan.wsLen (c :: r) = 0 := by
  unfold isAlpha at h
  exact wsLen_head c _ (by omega) (by omega) (by omega)

theorem caseOf_alpha {word v : List Nat} (hw : ∀ b ∈ word, 97 ≤ b ∧ b ≤ 122) (h : CaseOf word v) :
    ∀ b ∈ v, isAlpha b := by
  intro b hb
  unfold CaseOf at h
  have : lower b ∈ word := by rw [← h]; exact List.mem_map.mpr ⟨b, hb, rfl⟩
  exact lower_alpha b _ rfl (hw _ this)

theorem comments_noAlpha {cc : List Nat} (h : Comments cc) : NoAlphaHead cc := by
  cases h with
  | nil => exact Or.inl rfl
  | cons w a r hw _ _ =>
    right
    cases hw with
    | nil => exact ⟨40, _, rfl, by unfold isAlpha; omega⟩
    | cons x y hx hy =>
      obtain ⟨c, t, h1, _, h3⟩ := ws1_head ⟨x, y, hx, hy, rfl⟩ (40 :: (a ++ 41 :: r))
      exact ⟨c, t, h1, h3⟩

/-- `timezone_offset_2822` reads every zone of the specification -/
theorem tz_spec {zz : List Nat} {off : Int} (hz : Zone zz off) (cc : List Nat) (hc : NoAlphaHead cc) :
    Scan.timezone_offset_2822 (zz ++ cc) = .ok (cc, off) ∧
    (∃ c t, zz = c :: t ∧ (c = 43 ∨ c = 45 ∨ isAlpha c)) := by
  cases hz with
  | num neg h1 h2 m1 m2 hh1 hh2 hm1 hm2 =>
    refine ⟨tz_numeric neg h1 h2 m1 m2 cc hh1 hh2 hm1 hm2, _, _, rfl, ?_⟩
    cases neg <;> simp
  | name _ nm hours hmem hcase =>
    obtain ⟨hs, hne, hl⟩ := zone_table_secs (nm, hours) hmem
    have hal := caseOf_alpha hl hcase
    have hvne : zz ≠ [] := by
      intro hv; subst hv; unfold CaseOf at hcase; simp at hcase; exact hne hcase
    refine ⟨?_, ?_⟩
    · rw [tz_name zz cc hal hvne hc]
      apply zoneName_some
      rw [caseOf_lowerS hcase]; exact hs
    · cases zz with
      | nil => exact absurd rfl hvne
      | cons c t => exact ⟨c, t, rfl, Or.inr (Or.inr (hal c (by simp)))⟩
  | military c ha hj =>
    refine ⟨?_, c, [], rfl, Or.inr (Or.inr ha)⟩
    rw [tz_name [c] cc (by intro b hb; simp at hb; subst hb; exact ha) (by simp) hc]
    exact zoneName_letter c cc ha hj

theorem zone_wsLen {zz : List Nat} (cc : List Nat) (h : ∃ c t, zz = c :: t ∧ (c = 43 ∨ c = 45 ∨ isAlpha c)) :
    Scan.wsLen (zz ++ cc) = 0 ∧ Scan.char (zz ++ cc) 58 = .error .invalid := by
  obtain ⟨c, t, rfl, hc⟩ := h
  unfold isAlpha at hc
  refine ⟨wsLen_head c _ (by omega) (by omega) (by omega), ?_⟩
  simp only [List.cons_append, Scan.char]
  rw [if_neg (by omega)]

/-- a range-checked setter on a record whose field is still empty (`g` puts the field into the record) -/
theorem setRange_fresh (v lo hi : Int) (old : Option Int) (hold : old = none) (g : Option Int → Parsed) :
    (do let x ← Parsed.inRange v lo hi; let f ← Parsed.setIf old x; pure (g f) : PRes Parsed) =
      if lo ≤ v ∧ v ≤ hi then .ok (g (some v)) else .error .outOfRange := by
  subst hold
  unfold Parsed.inRange
  split <;> rfl

theorem setI32_fresh (v : Int) (old : Option Int) (hold : old = none) (g : Option Int → Parsed) :
    (do let x ← Parsed.toI32 v; let f ← Parsed.setIf old x; pure (g f) : PRes Parsed) =
      if -2147483648 ≤ v ∧ v ≤ 2147483647 then .ok (g (some v)) else .error .outOfRange := by
  subst hold
  unfold Parsed.toI32 inI32
  by_cases h : -2147483648 ≤ v ∧ v ≤ 2147483647
  · rw [if_pos h, if_pos (by
      simp only [I32_MIN, I32_MAX, Bool.and_eq_true]; exact ⟨decide_eq_true h.1, decide_eq_true h.2⟩)]
    rfl
  · rw [if_neg h, if_neg (by
      simp only [I32_MIN, I32_MAX, Bool.and_eq_true]
      exact fun hh => h ⟨of_decide_eq_true hh.1, of_decide_eq_true hh.2⟩)]
    rfl

theorem set_day_fresh (p : Parsed) (v : Int) (hp : p.day = none) :
    Parsed.set_day p v = if 1 ≤ v ∧ v ≤ 31 then .ok { p with day := some v } else .error .outOfRange :=
  setRange_fresh v 1 31 p.day hp fun f => { p with day := f }

theorem set_month_fresh (p : Parsed) (v : Int) (hp : p.month = none) :
    Parsed.set_month p v = if 1 ≤ v ∧ v ≤ 12 then .ok { p with month := some v } else .error .outOfRange :=
  setRange_fresh v 1 12 p.month hp fun f => { p with month := f }

theorem set_minute_fresh (p : Parsed) (v : Int) (hp : p.minute = none) :
    Parsed.set_minute p v = if 0 ≤ v ∧ v ≤ 59 then .ok { p with minute := some v } else .error .outOfRange :=
  setRange_fresh v 0 59 p.minute hp fun f => { p with minute := f }

theorem set_second_fresh (p : Parsed) (v : Int) (hp : p.second = none) :
    Parsed.set_second p v = if 0 ≤ v ∧ v ≤ 60 then .ok { p with second := some v } else .error .outOfRange :=
  setRange_fresh v 0 60 p.second hp fun f => { p with second := f }

theorem set_year_fresh (p : Parsed) (v : Int) (hp : p.year = none) :
    Parsed.set_year p v =
      if -2147483648 ≤ v ∧ v ≤ 2147483647 then .ok { p with year := some v } else .error .outOfRange :=
  setI32_fresh v p.year hp fun f => { p with year := f }

theorem set_offset_fresh (p : Parsed) (v : Int) (hp : p.offset = none) :
    Parsed.set_offset p v =
      if -2147483648 ≤ v ∧ v ≤ 2147483647 then .ok { p with offset := some v } else .error .outOfRange :=
  setI32_fresh v p.offset hp fun f => { p with offset := f }

theorem ok_of_ite {α} {c : Prop} [Decidable c] {a q : α} {e : PErr}
    (h : (if c then .ok a else .error e : PRes α) = .ok q) : c ∧ q = a := by
  split at h
  · rename_i hc; injection h with h; exact ⟨hc, h.symm⟩
  · cases h

theorem set_hour_fresh (p : Parsed) (H : Nat) (h1 : p.hour_div_12 = none) (h2 : p.hour_mod_12 = none) :
    Parsed.set_hour p (H : Int) =
      if H ≤ 23 then .ok { p with hour_div_12 := some ((H : Int) / 12), hour_mod_12 := some ((H : Int) % 12) }
      else .error .outOfRange := by
  unfold Parsed.set_hour
  simp only [Parsed.inRange, bind, Except.bind]
  by_cases hH : H ≤ 23
  · rw [if_pos hH, if_pos ⟨by omega, by omega⟩]
    by_cases h : (H : Int) ≤ 11
    · have e1 : (H : Int) / 12 = 0 := by omega
      have e2 : (H : Int) % 12 = H := by omega
      simp only [h, if_true, h1, h2, Parsed.setIf, pure, Except.pure, e1, e2]
    · have e1 : (H : Int) / 12 = 1 := by omega
      have e2 : (H : Int) % 12 = H - 12 := by omega
      simp only [h, if_false, h1, h2, Parsed.setIf, pure, Except.pure, e1, e2]
  · rw [if_neg hH, if_neg (by omega)]

theorem ite_ite_err {α} {a b : Prop} [Decidable a] [Decidable b] (x e : α) :
    (if a then if b then x else e else e) = if a ∧ b then x else e := by
  by_cases ha : a
  · simp only [ha, true_and, if_true]
  · simp only [ha, false_and, if_false]

theorem decVal_two (d : List Nat) (hd : Digits d) (hl : d.length = 2) : decVal d ≤ 99 := by
  match d, hl with
  | [a, b], _ =>
    have ha := hd a (by simp)
    have hb := hd b (by simp)
    simp only [decVal, List.foldl_cons, List.foldl_nil]
    omega

theorem number_two (d rest : List Nat) (hd : Digits d) (hl : d.length = 2) :
    Scan.number (d ++ rest) 2 (some 2) = .ok (rest, (decVal d : Int)) := by
  have := decVal_two d hd hl
  exact number_digits d rest 2 (some 2) hd (by omega) (by intro m hm; injection hm with hm; omega)
    (Or.inl (by rw [hl])) (by unfold I64_MAX; omega)


/-! ### the stages on the pieces of the grammar

Each stage reads its own pieces, whatever follows them, and hands over to the next stage, or returns
`outOfRange` from the first setter (or from `scan::number`) whose argument is outside its range. -/

/-- every zone of the specification denotes an offset an `i32` holds -/
theorem zone_off_i32 {zz : List Nat} {off : Int} (h : Zone zz off) :
    -2147483648 ≤ off ∧ off ≤ 2147483647 := by
  cases h with
  | num neg h1 h2 m1 m2 hh1 hh2 hm1 hm2 => cases neg <;> simp <;> omega
  | name _ nm hours hmem _ =>
    have : ∀ e ∈ zoneTable, -8 ≤ e.2 ∧ e.2 ≤ 0 := by decide
    have := this _ hmem
    simp only [] at this
    omega
  | military _ _ _ => omega

theorem zonePart_spec (p : Parsed) (w7 zz cc : List Nat) (off : Int) (hw : Ws1 w7) (hz : Zone zz off)
    (hc : NoAlphaHead cc) (hp : p.offset = none) :
    zonePart p (w7 ++ (zz ++ cc)) = .ok ({ p with offset := some off }, Parse.commentsAux cc.length cc) := by
  obtain ⟨htz, hhead⟩ := tz_spec hz cc hc
  obtain ⟨hws, _⟩ := zone_wsLen cc hhead
  unfold zonePart
  rw [space_ws hw _ hws]
  simp only [bind, Except.bind, htz, set_offset_fresh p off hp, if_pos (zone_off_i32 hz), pure, Except.pure]

theorem secPart_spec (p : Parsed) (ss w7 zz cc : List Nat) (sec : Option Nat) (off : Int)
    (hs : Seconds ss sec) (hw : Ws1 w7) (hz : Zone zz off) (hc : NoAlphaHead cc)
    (hp1 : p.second = none) (hp2 : p.offset = none) :
    secPart p (ss ++ (w7 ++ (zz ++ cc))) =
      if sec.getD 0 ≤ 60 then
        .ok ({ p with second := sec.map Int.ofNat, offset := some off }, Parse.commentsAux cc.length cc)
      else .error .outOfRange := by
  obtain ⟨_, hhead⟩ := tz_spec hz cc hc
  obtain ⟨hws, hch⟩ := zone_wsLen cc hhead
  unfold secPart
  rcases hs with ⟨rfl, rfl⟩ | ⟨w, d, hw', hd, hdl, rfl, rfl⟩
  · rw [List.nil_append, trimStart_ws (ws1_ws hw) _ hws, hch, Option.getD_none, if_pos (Nat.zero_le _)]
    simp only [bind, Except.bind]
    rw [zonePart_spec p w7 zz cc off hw hz hc hp2]
    cases p
    simp only [Option.map_none] at hp1 ⊢
    subst hp1
    rfl
  · simp only [List.append_assoc, List.cons_append, Option.getD_some]
    rw [trimStart_ws hw' _ (wsLen_head 58 _ (by omega) (by omega) (by omega))]
    simp only [Scan.char, if_true, number_two d _ hd hdl, setField, set_second_fresh p _ hp1, bind, Except.bind]
    by_cases hx : decVal d ≤ 60
    · rw [if_pos hx, if_pos (by omega)]
      simp only [Except.map]
      rw [zonePart_spec { p with second := some (decVal d : Int) } w7 zz cc off hw hz hc hp2]
      rfl
    · rw [if_neg hx, if_neg (by omega)]
      rfl

theorem timePart_spec (p : Parsed) (w4 hh w5 w6 mm rest : List Nat)
    (hw4 : Ws1 w4) (hhd : Digits hh) (hhl : hh.length = 2) (hw5 : Ws w5) (hw6 : Ws w6)
    (hmd : Digits mm) (hml : mm.length = 2)
    (hp1 : p.hour_div_12 = none) (hp2 : p.hour_mod_12 = none) (hp3 : p.minute = none) :
    timePart p (w4 ++ (hh ++ (w5 ++ (58 :: (w6 ++ (mm ++ rest)))))) =
      if decVal hh ≤ 23 ∧ decVal mm ≤ 59 then
        secPart { p with hour_div_12 := some ((decVal hh : Int) / 12), hour_mod_12 := some ((decVal hh : Int) % 12),
                         minute := some (decVal mm : Int) } rest
      else .error .outOfRange := by
  unfold timePart
  rw [space_ws hw4 _ (digits_head hhd (by omega) _)]
  simp only [bind, Except.bind, number_two hh _ hhd hhl, setField, set_hour_fresh p _ hp1 hp2]
  by_cases hH : decVal hh ≤ 23
  · rw [if_pos hH]
    simp only [Except.map]
    rw [trimStart_ws hw5 _ (wsLen_head 58 _ (by omega) (by omega) (by omega))]
    simp only [Scan.char, if_true]
    rw [trimStart_ws hw6 _ (digits_head hmd (by omega) _), number_two mm _ hmd hml]
    simp only []
    rw [set_minute_fresh]
    · by_cases hM : decVal mm ≤ 59
      · rw [if_pos ⟨by omega, by omega⟩, if_pos ⟨hH, hM⟩]
      · rw [if_neg (by omega), if_neg (fun h => hM h.2)]
    · exact hp3
  · rw [if_neg hH, if_neg (fun h => hH h.1)]
    rfl

theorem year_rule_eq (yy : List Nat) (hd : Digits yy) :
    (if yy.length = 2 ∧ (0 : Int) ≤ (decVal yy : Int) ∧ (decVal yy : Int) ≤ 49 then (decVal yy : Int) + 2000
     else if yy.length = 2 ∧ (50 : Int) ≤ (decVal yy : Int) ∧ (decVal yy : Int) ≤ 99 then (decVal yy : Int) + 1900
     else if yy.length = 3 then (decVal yy : Int) + 1900
     else (decVal yy : Int)) = yearOf yy := by
  unfold yearOf
  by_cases h2 : yy.length = 2
  · have := decVal_two yy hd h2
    simp only [h2, true_and, if_true]
    by_cases h49 : decVal yy ≤ 49
    · rw [if_pos (by omega), if_pos h49]
    · rw [if_neg (by omega), if_pos (by omega), if_neg h49]
  · simp only [h2, false_and, if_false]

theorem yearOf_ge (yy : List Nat) : (decVal yy : Int) ≤ yearOf yy := by
  unfold yearOf; split
  · split <;> omega
  · split <;> omega


theorem yearPart_spec (p : Parsed) (w3 yy w4 rest : List Nat) (hw3 : Ws1 w3) (hyd : Digits yy)
    (hyl : 2 ≤ yy.length) (hw4 : Ws1 w4) (hp0 : p.year = none) :
    yearPart p (w3 ++ (yy ++ (w4 ++ rest))) =
      if yearOf yy ≤ 2147483647 then timePart { p with year := some (yearOf yy) } (w4 ++ rest)
      else .error .outOfRange := by
  have hge := yearOf_ge yy
  obtain ⟨c, t, hct, hcd, _⟩ := ws1_head hw4 rest
  unfold yearPart
  rw [space_ws hw3 _ (digits_head hyd (by omega) _)]
  by_cases h64 : (decVal yy : Int) ≤ I64_MAX
  · have hnum := number_digits yy _ 2 none hyd hyl (by intro m hm; cases hm)
      (Or.inr (Or.inr ⟨c, t, hct, hcd⟩)) h64
    simp only [bind, Except.bind, hnum, List.length_append, Nat.add_sub_cancel]
    rw [year_rule_eq yy hyd, set_year_fresh p _ hp0]
    by_cases hY : yearOf yy ≤ 2147483647
    · rw [if_pos hY, if_pos ⟨by omega, hY⟩]
    · rw [if_neg hY, if_neg (fun h => hY h.2)]
  · -- the digits do not even fit an `i64`: `scan::number` itself reports the overflow
    simp only [bind, Except.bind, number_overflow yy _ 2 hyd hyl (by omega)]
    rw [if_neg (by unfold I64_MAX at h64; omega)]

theorem datePart_spec (p : Parsed) (w1 dd w2 mn rest : List Nat) (m : Nat)
    (hw1 : Ws w1) (hdd : Digits dd) (hdl : dd.length = 1 ∨ dd.length = 2) (hw2 : Ws1 w2)
    (hmn : MonthName mn m) (hq1 : p.day = none) (hq2 : p.month = none) :
    datePart p (w1 ++ (dd ++ (w2 ++ (mn ++ rest)))) =
      if 1 ≤ decVal dd ∧ decVal dd ≤ 31 then
        yearPart { p with day := some (decVal dd : Int), month := some (m : Int) } rest
      else .error .outOfRange := by
  obtain ⟨i, hi, hcase, rfl⟩ := hmn
  obtain ⟨_, _, _, _, _, t5, _⟩ := name_tables
  obtain ⟨a, b, c, rfl, _⟩ := caseOf3 _ mn (t5 i hi) hcase
  have hal := caseOf_alpha (t5 i hi).2 hcase
  have hd99 : decVal dd ≤ 99 := by
    rcases hdl with h | h
    · match dd, h with
      | [x], _ =>
        have := hdd x (by simp)
        simp only [decVal, List.foldl_cons, List.foldl_nil]; omega
    · exact decVal_two dd hdd h
  obtain ⟨c2, t2, hct, hcd, _⟩ := ws1_head hw2 ([a, b, c] ++ rest)
  have hnum := number_digits dd _ 1 (some 2) hdd (by omega) (by intro x hx; injection hx with hx; omega)
    (by
      rcases hdl with h | h
      · exact Or.inr (Or.inr ⟨c2, t2, hct, hcd⟩)
      · exact Or.inl (by rw [h])) (by unfold I64_MAX; omega)
  unfold datePart
  simp only []
  rw [trimStart_ws hw1 _ (digits_head hdd (by omega) _)]
  simp only [bind, Except.bind, hnum, setField, set_day_fresh p _ hq1]
  by_cases hD : 1 ≤ decVal dd ∧ decVal dd ≤ 31
  · rw [if_pos hD, if_pos ⟨by omega, by omega⟩]
    simp only [Except.map]
    rw [space_ws hw2 ([a, b, c] ++ rest) (alpha_head a _ (hal a (by simp)))]
    simp only [short_month_name i hi _ rest hcase]
    rw [set_month_fresh]
    · rw [if_pos ⟨by omega, by omega⟩]
      have : (1 : Int) + (i : Int) = ((i + 1 : Nat) : Int) := by omega
      simp only [this]
    · exact hq2
  · rw [if_neg hD, if_neg (by omega)]
    rfl

/-- the optional day-name: the weekday is recorded and the reader stands in front of the day, after white space
(the runs on both sides of an absent name are one run) -/
theorem dayPart_spec {w0 dn w1 dd : List Nat} {wd : Option Weekday} (hw0 : Ws w0) (hdn : DayName dn wd)
    (hw1 : Ws w1) (hdd : Digits dd) (hdl : 0 < dd.length) (rest : List Nat) :
    ∃ w, Ws w ∧ parseCopy Parsed.new (w0 ++ (dn ++ (w1 ++ (dd ++ rest)))) =
      datePart { weekday := wd } (w ++ (dd ++ rest)) := by
  unfold parseCopy
  simp only []
  rcases hdn with ⟨rfl, rfl⟩ | ⟨i, v, hi, hcase, rfl, hwd⟩
  · refine ⟨[], Ws.nil, ?_⟩
    rw [List.nil_append, ← List.append_assoc, trimStart_ws (Ws.append hw0 hw1) _ (digits_head hdd hdl _)]
    cases dd with
    | nil => simp at hdl
    | cons d t =>
      obtain ⟨e, he⟩ := short_weekday_digit d (t ++ rest) (hdd d (by simp))
      rw [List.cons_append, he]
      rfl
  · obtain ⟨_, _, _, _, t5, _, _⟩ := name_tables
    obtain ⟨a, b, c, rfl, _⟩ := caseOf3 _ v (t5 i hi) hcase
    have hal := caseOf_alpha (t5 i hi).2 hcase
    obtain ⟨w, hwi, hsw⟩ := short_weekday_name i hi [a, b, c] (44 :: (w1 ++ (dd ++ rest))) hcase
    refine ⟨w1, hw1, ?_⟩
    simp only [List.cons_append, List.nil_append] at hsw ⊢
    rw [trimStart_ws hw0 _ (alpha_head a _ (hal a (by simp))), hsw, hwd, hwi]
    rfl


/-- the field record the reader builds from the fields a string spells -/
def parsedOf (f : Fields) : Parsed :=
  { weekday := f.weekday, day := some (f.day : Int), month := some (f.month : Int), year := some f.year,
    hour_div_12 := some ((f.hour : Int) / 12), hour_mod_12 := some ((f.hour : Int) % 12),
    minute := some (f.min : Int), second := f.sec.map Int.ofNat, offset := some f.off }

/-- the setter ranges: what makes the scanner itself (before field resolution) succeed -/
def SetterRanges (f : Fields) : Prop :=
  1 ≤ f.day ∧ f.day ≤ 31 ∧ f.year ≤ 2147483647 ∧ f.hour ≤ 23 ∧ f.min ≤ 59 ∧ secOf f ≤ 60 ∧
  -2147483648 ≤ f.off ∧ f.off ≤ 2147483647
instance (f : Fields) : Decidable (SetterRanges f) := by unfold SetterRanges; exact inferInstance

/-- the grammar relation with an arbitrary text `tail` in the place of the trailing comments -/
def Rfc2822Pre (s : List Nat) (f : Fields) (tail : List Nat) : Prop :=
  ∃ w0 dn w1 dd w2 mn w3 yy w4 hh w5 w6 mm ss w7 zz,
    Ws w0 ∧ DayName dn f.weekday ∧ Ws w1 ∧
    Digits dd ∧ (dd.length = 1 ∨ dd.length = 2) ∧ decVal dd = f.day ∧
    Ws1 w2 ∧ MonthName mn f.month ∧ Ws1 w3 ∧
    Digits yy ∧ 2 ≤ yy.length ∧ yearOf yy = f.year ∧ Ws1 w4 ∧
    Digits hh ∧ hh.length = 2 ∧ decVal hh = f.hour ∧ Ws w5 ∧ Ws w6 ∧
    Digits mm ∧ mm.length = 2 ∧ decVal mm = f.min ∧
    Seconds ss f.sec ∧ Ws1 w7 ∧ Zone zz f.off ∧
    s = w0 ++ (dn ++ (w1 ++ (dd ++ (w2 ++ (mn ++ (w3 ++ (yy ++ (w4 ++ (hh ++ (w5 ++
          (58 :: (w6 ++ (mm ++ (ss ++ (w7 ++ (zz ++ tail))))))))))))))))

/-- a string of the grammar in front of any text `b` -/
theorem rfc2822_pre {s : List Nat} {f : Fields} (h : Rfc2822 s f) (b : List Nat) :
    ∃ cc, Comments cc ∧ Rfc2822Pre (s ++ b) f (cc ++ b) := by
  obtain ⟨w0, dn, w1, dd, w2, mn, w3, yy, w4, hh, w5, w6, mm, ss, w7, zz, cc,
    hw0, hdn, hw1, hdd, hdl, hdv, hw2, hmn, hw3, hyd, hyl, hyv, hw4, hhd, hhl, hhv, hw5, hw6, hmd, hml, hmv,
    hs, hw7, hz, hc, rfl⟩ := h
  exact ⟨cc, hc, w0, dn, w1, dd, w2, mn, w3, yy, w4, hh, w5, w6, mm, ss, w7, zz,
    hw0, hdn, hw1, hdd, hdl, hdv, hw2, hmn, hw3, hyd, hyl, hyv, hw4, hhd, hhl, hhv, hw5, hw6, hmd, hml, hmv,
    hs, hw7, hz, by simp only [List.append_assoc, List.cons_append]⟩

/-- **the scanner on the grammar**, with ANY text `cc` after the zone that does not start with a letter:
inside the setter ranges everything up to and including the zone is read as the fields it spells and
comments are skipped as far as they go; outside them the scanner returns `outOfRange` -/
theorem parse_rfc2822_tail (s : List Nat) (f : Fields) (cc : List Nat) (h : Rfc2822Pre s f cc)
    (hc : NoAlphaHead cc) :
    Parse.parse_rfc2822 Parsed.new s =
      if SetterRanges f then .ok (parsedOf f, Parse.commentsAux cc.length cc) else .error .outOfRange := by
  obtain ⟨wd, day, month, year, hour, min, sec, off⟩ := f
  obtain ⟨w0, dn, w1, dd, w2, mn, w3, yy, w4, hh, w5, w6, mm, ss, w7, zz,
    hw0, hdn, hw1, hdd, hdl, hdv, hw2, hmn, hw3, hyd, hyl, hyv, hw4, hhd, hhl, hhv, hw5, hw6, hmd, hml, hmv,
    hs, hw7, hz, rfl⟩ := h
  simp only [] at hdn hdv hmn hyv hhv hmv hs hz
  subst hdv hyv hhv hmv
  obtain ⟨w, hw, e⟩ := dayPart_spec hw0 hdn hw1 hdd (by omega)
    (w2 ++ (mn ++ (w3 ++ (yy ++ (w4 ++ (hh ++ (w5 ++ (58 :: (w6 ++ (mm ++ (ss ++ (w7 ++ (zz ++ cc)))))))))))))
  have hoff := zone_off_i32 hz
  rw [parse_eq, e, datePart_spec _ w dd w2 mn _ month hw hdd hdl hw2 hmn rfl rfl,
    yearPart_spec _ w3 yy w4 _ hw3 hyd hyl hw4 rfl,
    timePart_spec _ w4 hh w5 w6 mm _ hw4 hhd hhl hw5 hw6 hmd hml rfl rfl rfl,
    secPart_spec _ ss w7 zz cc sec off hs hw7 hz hc rfl rfl, ite_ite_err, ite_ite_err, ite_ite_err]
  -- the four range tests together are `SetterRanges`; its offset bounds hold for every zone (`hoff`)
  refine ite_congr (propext ?_) (fun _ => rfl) (fun _ => rfl)
  simp only [SetterRanges, secOf]
  omega

/-- scanner completeness with any text after the zone that does not start with a letter -/
theorem parse_rfc2822_complete_tail (s : List Nat) (f : Fields) (cc : List Nat) (h : Rfc2822Pre s f cc)
    (hc : NoAlphaHead cc) (hr : SetterRanges f) :
    Parse.parse_rfc2822 Parsed.new s = .ok (parsedOf f, Parse.commentsAux cc.length cc) := by
  rw [parse_rfc2822_tail s f cc h hc, if_pos hr]

/-- **the scanner on a string of the grammar**: it is consumed entirely and yields exactly the fields it spells
if these are inside the setter ranges, and is rejected with `outOfRange` otherwise -/
theorem parse_rfc2822_spec (s : List Nat) (f : Fields) (h : Rfc2822 s f) :
    Parse.parse_rfc2822 Parsed.new s =
      if SetterRanges f then .ok (parsedOf f, []) else .error .outOfRange := by
  obtain ⟨cc, hc, hp⟩ := rfc2822_pre h []
  rw [List.append_nil, List.append_nil] at hp
  rw [parse_rfc2822_tail s f cc hp (comments_noAlpha hc), commentsAux_all hc _ (Nat.le_refl _)]

theorem parse_items_spec (s : List Nat) (f : Fields) (h : Rfc2822 s f) :
    Parse.parse Parsed.new s Rfc2822.ITEMS =
      if SetterRanges f then .ok (parsedOf f) else .error .outOfRange := by
  rw [parse_items_eq, parse_rfc2822_spec s f h]
  by_cases hr : SetterRanges f
  · rw [if_pos hr, if_pos hr]
  · rw [if_neg hr, if_neg hr]

theorem parse_rfc2822_complete (s : List Nat) (f : Fields) (h : Rfc2822 s f) (hr : SetterRanges f) :
    Parse.parse_rfc2822 Parsed.new s = .ok (parsedOf f, []) := by
  rw [parse_rfc2822_spec s f h, if_pos hr]

/-- comments are skipped up to a text that starts no comment -/
theorem commentsAux_rest {cc : List Nat} (hc : Comments cc) (b : List Nat)
    (hb : ∃ e, Scan.comment_2822 b = .error e) :
    ∀ fuel, (cc ++ b).length ≤ fuel → Parse.commentsAux fuel (cc ++ b) = b := by
  obtain ⟨e, he⟩ := hb
  induction hc with
  | nil =>
    intro fuel _
    cases fuel with
    | zero => rfl
    | succ f => simp only [List.nil_append, Parse.commentsAux, he]
  | cons w a r hw ha _ ih =>
    intro fuel hf
    cases fuel with
    | zero => simp at hf
    | succ f =>
      have := comment_one hw ha (r ++ b)
      simp only [List.append_assoc, List.cons_append] at this ⊢
      simp only [Parse.commentsAux, this]
      apply ih
      simp only [List.length_append, List.length_cons] at hf ⊢
      omega

/-- **the item in front of more text**: a string of the grammar followed by a text `b` that starts neither
with a letter nor with a comment (`*S "("`): the scanner reads the fields and stops exactly in front of `b` -/
theorem parse_rfc2822_complete_rest (s : List Nat) (f : Fields) (h : Rfc2822 s f) (hr : SetterRanges f)
    (b : List Nat) (hb : NoAlphaHead b) (hcb : ∃ e, Scan.comment_2822 b = .error e) :
    Parse.parse_rfc2822 Parsed.new (s ++ b) = .ok (parsedOf f, b) := by
  obtain ⟨cc, hc, hp⟩ := rfc2822_pre h b
  have hna : NoAlphaHead (cc ++ b) := by
    cases hc with
    | nil => exact hb
    | cons w a r hw ha hr' =>
      rcases comments_noAlpha (Comments.cons w a r hw ha hr') with h0 | ⟨c, t, h1, h2⟩
      · exact absurd (congrArg List.length h0) (by simp)
      · exact Or.inr ⟨c, t ++ b, by rw [h1]; rfl, h2⟩
  rw [parse_rfc2822_complete_tail _ f (cc ++ b) hp hna hr, commentsAux_rest hc b hcb _ (Nat.le_refl _)]

end Chrono.Proofs.Rfc2822
