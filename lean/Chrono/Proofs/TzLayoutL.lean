/-
  C16, part 5: an accepted file has exactly the layout its header counts announce
  (counts that disagree with the data are rejected).  `Header.new` and `State.new` are characterised
  here once: the counts read, the five arrays sliced (`Sliced`), the length consumed; `parseBlocks_inv`
  gives the two shapes of an accepted file.
-/
import Chrono.Proofs.TzWrittenL
import Chrono.Spec.TzDecodeSpec

set_option linter.unusedSimpArgs false
set_option linter.unusedVariables false

namespace Chrono.Proofs.TzValid
open Chrono Chrono.M.Tz Chrono.Spec.Tz Chrono.Proofs Chrono.Proofs.Tz Chrono.Extracted.TzP

theorem hdrCount_lt (c : List Nat) (k : Nat) : hdrCount c k < 4294967296 := by
  unfold hdrCount
  have h1 := beNat_lt ((c.drop (20 + 4 * k)).take 4)
  have h2 : ((c.drop (20 + 4 * k)).take 4).length ≤ 4 := by simp [List.length_take]; omega
  have h3 : 256 ^ ((c.drop (20 + 4 * k)).take 4).length ≤ 256 ^ 4 := Nat.pow_le_pow_right (by omega) h2
  have h4 : (256 : Nat) ^ 4 = 4294967296 := by decide
  omega

theorem ckUsz_val {x n : Nat} (h : ckUsz x = .ok n) : n = x := by
  unfold ckUsz at h
  split at h
  · simp only [P.ok.injEq] at h; exact h.symm
  · cases h

theorem post_read_be_u32_at (c : Cursor) :
    Post (read_be_u32 c) (fun r => r.1 = beNat (c.take 4) ∧ r.2 = c.drop 4 ∧ 4 ≤ c.length) := by
  unfold read_be_u32
  rcases read_exact_cases c 4 with ⟨hl, h⟩ | h <;> rw [h]
  · exact post_ok ⟨rfl, rfl, hl⟩
  · exact post_err

/-- `Header.new` reads 44 bytes: the six counts are the big-endian words at offsets 20…43 and the
version is the one of byte 4 -/
theorem post_header_layout (c : Cursor) :
    Post (Header.new c) (fun r => r.2 = c.drop 44 ∧ 44 ≤ c.length
      ∧ versionOf ((c.drop 4).take 1) = some r.1.version
      ∧ r.1.ut_local_count = hdrCount c 0 ∧ r.1.std_wall_count = hdrCount c 1
      ∧ r.1.leap_count = hdrCount c 2 ∧ r.1.transition_count = hdrCount c 3
      ∧ r.1.type_count = hdrCount c 4 ∧ r.1.char_count = hdrCount c 5) := by
  have kr : RESERVED = 15 := rfl
  unfold Header.new
  refine post_bind (post_read_exact _ _) ?_
  rintro ⟨magic, c1⟩ - ⟨-, l1, -, e1⟩
  dsimp only at l1 e1 ⊢
  split
  · exact post_err
  · refine post_bind (post_read_exact _ _) ?_
    rintro ⟨vb, c2⟩ - ⟨-, l2, ev, e2⟩
    dsimp only at l2 ev e2 ⊢
    cases hv : versionOf vb with
    | none => exact post_err
    | some version =>
      dsimp only
      refine post_bind (post_read_exact _ _) ?_
      rintro ⟨rs, c3⟩ - ⟨-, l3, -, e3⟩
      refine post_bind (post_read_be_u32_at _) ?_
      rintro ⟨n1, c4⟩ - ⟨v1, e4, l4⟩
      refine post_bind (post_read_be_u32_at _) ?_
      rintro ⟨n2, c5⟩ - ⟨v2, e5, l5⟩
      refine post_bind (post_read_be_u32_at _) ?_
      rintro ⟨n3, c6⟩ - ⟨v3, e6, l6⟩
      refine post_bind (post_read_be_u32_at _) ?_
      rintro ⟨n4, c7⟩ - ⟨v4, e7, l7⟩
      refine post_bind (post_read_be_u32_at _) ?_
      rintro ⟨n5, c8⟩ - ⟨v5, e8, l8⟩
      refine post_bind (post_read_be_u32_at _) ?_
      rintro ⟨n6, c9⟩ - ⟨v6, e9, l9⟩
      dsimp only at l3 e3 v1 e4 l4 v2 e5 l5 v3 e6 l6 v4 e7 l7 v5 e8 l8 v6 e9 l9 ⊢
      rw [kr] at e3 l3
      have d3 : c3 = c.drop 20 := by rw [e3, e2, e1, List.drop_drop, List.drop_drop]
      have d4 : c4 = c.drop 24 := by rw [e4, d3, List.drop_drop]
      have d5 : c5 = c.drop 28 := by rw [e5, d4, List.drop_drop]
      have d6 : c6 = c.drop 32 := by rw [e6, d5, List.drop_drop]
      have d7 : c7 = c.drop 36 := by rw [e7, d6, List.drop_drop]
      have d8 : c8 = c.drop 40 := by rw [e8, d7, List.drop_drop]
      have d9 : c9 = c.drop 44 := by rw [e9, d8, List.drop_drop]
      split
      · exact post_err
      · refine post_ok ⟨d9, ?_, ?_, ?_, ?_, ?_, ?_, ?_, ?_⟩
        · rw [d8] at l9
          simp only [List.length_drop] at l9
          omega
        · dsimp only; rw [← e1, ← ev]; exact hv
        · dsimp only; rw [v1, d3]; rfl
        · dsimp only; rw [v2, d4]; rfl
        · dsimp only; rw [v3, d5]; rfl
        · dsimp only; rw [v4, d6]; rfl
        · dsimp only; rw [v5, d7]; rfl
        · dsimp only; rw [v6, d8]; rfl

/-- what seven successive reads after the 44-byte header have consumed is within the input -/
theorem reads_le {L x0 x1 x2 x3 x4 x5 x6 x7 n1 n2 n3 n4 n5 n6 n7 : Nat} (h0 : x0 + 44 = L)
    (h1 : x1 + n1 = x0) (h2 : x2 + n2 = x1) (h3 : x3 + n3 = x2) (h4 : x4 + n4 = x3)
    (h5 : x5 + n5 = x4) (h6 : x6 + n6 = x5) (h7 : x7 + n7 = x6) :
    44 + n1 + n2 + n3 + n4 + n5 + n6 + n7 ≤ L := by omega

/-- `st` is the state `State.new` slices from a block starting at the start of `blk`: the header
counts and the five arrays are the fields of `blk` at the offsets the counts determine -/
def Sliced (st : State) (blk : List Nat) (ts : Nat) : Prop :=
  st.time_size = ts
    ∧ versionOf ((blk.drop 4).take 1) = some st.header.version
    ∧ st.header.transition_count = hdrCount blk 3 ∧ st.header.type_count = hdrCount blk 4
    ∧ st.header.leap_count = hdrCount blk 2 ∧ st.header.char_count = hdrCount blk 5
    ∧ st.transition_times = timesArr ts blk
    ∧ st.transition_types = idxArr ts blk
    ∧ st.local_time_types = typesArr ts blk
    ∧ st.names = namesArr ts blk
    ∧ st.leap_seconds = leapsArr ts blk
    ∧ st.transition_times.length = hdrCount blk 3 * ts
    ∧ st.transition_types.length = hdrCount blk 3
    ∧ st.local_time_types.length = hdrCount blk 4 * 6
    ∧ st.names.length = hdrCount blk 5
    ∧ st.leap_seconds.length = hdrCount blk 2 * (ts + 4)

/-- `State.new` slices the arrays the counts announce and consumes exactly the header and that data
block -/
theorem post_state_layout (c : Cursor) (first : Bool) :
    Post (State.new c first) (fun r => Sliced r.1 c (if first then 4 else 8)
      ∧ r.2 = c.drop (announcedLen (if first then 4 else 8) c)
      ∧ announcedLen (if first then 4 else 8) c ≤ c.length) := by
  have k : TYPE_RECORD = 6 := rfl
  unfold State.new
  refine post_bind (post_header_layout _) ?_
  rintro ⟨hd, c0⟩ - ⟨e0, l0, hver, q0, q1, q2, q3, q4, q5⟩
  dsimp only at e0 l0 hver q0 q1 q2 q3 q4 q5 ⊢
  generalize hT : (if first = true then 4 else 8) = ts
  have hts : ts ≤ 8 := by rw [← hT]; split <;> omega
  have b3 := hdrCount_lt c 3
  have b4 := hdrCount_lt c 4
  have b2 := hdrCount_lt c 2
  rw [← q3] at b3; rw [← q4] at b4; rw [← q2] at b2
  rw [ckUsz_ok (by
    have : hd.transition_count * ts ≤ 4294967296 * 8 := Nat.mul_le_mul (by omega) hts
    omega)]
  simp only [P.bind_ok]
  refine post_bind (post_read_exact _ _) ?_
  rintro ⟨tt, c1⟩ - ⟨n1, l1, v1, e1⟩
  refine post_bind (post_read_exact _ _) ?_
  rintro ⟨ty, c2⟩ - ⟨n2, l2, v2, e2⟩
  rw [k, ckUsz_ok (by omega)]
  simp only [P.bind_ok]
  refine post_bind (post_read_exact _ _) ?_
  rintro ⟨lt, c3⟩ - ⟨n3, l3, v3, e3⟩
  refine post_bind (post_read_exact _ _) ?_
  rintro ⟨nm, c4⟩ - ⟨n4, l4, v4, e4⟩
  rw [ckUsz_ok (by
    have : hd.leap_count * (ts + 4) ≤ 4294967296 * 12 := Nat.mul_le_mul (by omega) (by omega)
    omega)]
  simp only [P.bind_ok]
  refine post_bind (post_read_exact _ _) ?_
  rintro ⟨ls, c5⟩ - ⟨n5, l5, v5, e5⟩
  refine post_bind (post_read_exact _ _) ?_
  rintro ⟨sw, c6⟩ - ⟨-, l6, -, e6⟩
  refine post_bind (post_read_exact _ _) ?_
  rintro ⟨ul, c7⟩ - ⟨-, l7, -, e7⟩
  dsimp only at n1 l1 v1 e1 n2 l2 v2 e2 n3 l3 v3 e3 n4 l4 v4 e4 n5 l5 v5 e5 l6 e6 l7 e7 ⊢
  have d1 : c1 = c.drop (44 + hd.transition_count * ts) := by
    rw [e1, e0, List.drop_drop]
  have d2 : c2 = c.drop (44 + hd.transition_count * ts + hd.transition_count) := by
    rw [e2, d1, List.drop_drop]
  have d3 : c3 = c.drop (44 + hd.transition_count * ts + hd.transition_count + hd.type_count * 6) := by
    rw [e3, d2, List.drop_drop]
  have d4 : c4 = c.drop (44 + hd.transition_count * ts + hd.transition_count + hd.type_count * 6
      + hd.char_count) := by
    rw [e4, d3, List.drop_drop]
  have hA : announcedLen ts c = 44 + hd.transition_count * ts + hd.transition_count + hd.type_count * 6
      + hd.char_count + hd.leap_count * (ts + 4) + hd.std_wall_count + hd.ut_local_count := by
    unfold announcedLen
    rw [← q0, ← q1, ← q2, ← q3, ← q4, ← q5]
  refine post_ok ⟨⟨rfl, hver, q3, q4, q2, q5, ?_, ?_, ?_, ?_, ?_, ?_, ?_, ?_, ?_, ?_⟩, ?_, ?_⟩
  · show tt = _
    rw [v1, e0]; unfold timesArr field; rw [← q3]
  · show ty = _
    rw [v2, d1]; unfold idxArr field offIdx; rw [← q3]
  · show lt = _
    rw [v3, d2]; unfold typesArr field offTypes offIdx; rw [← q3, ← q4]
  · show nm = _
    rw [v4, d3]; unfold namesArr field offNames offTypes offIdx; rw [← q3, ← q4, ← q5]
  · show ls = _
    rw [v5, d4]; unfold leapsArr field offLeaps offNames offTypes offIdx; rw [← q3, ← q4, ← q5, ← q2]
  · show tt.length = _
    rw [n1, q3]
  · show ty.length = _
    rw [n2, q3]
  · show lt.length = _
    rw [n3, q4]
  · show nm.length = _
    rw [n4, q5]
  · show ls.length = _
    rw [n5, q2]
  · show c7 = _
    rw [e7, e6, e5, d4, List.drop_drop, List.drop_drop, List.drop_drop, ← Nat.add_assoc, ← Nat.add_assoc, hA]
  · have hl0 : c0.length + 44 = c.length := by rw [e0, List.length_drop]; omega
    rw [hA]
    exact reads_le hl0 l1 l2 l3 l4 l5 l6 l7

/-! ### allocation requests in bytes -/
theorem announced_ge (ts : Nat) (c : List Nat) (hts : 4 ≤ ts) :
    5 * (hdrCount c 3 + hdrCount c 4 + hdrCount c 2) ≤ announcedLen ts c := by
  unfold announcedLen
  have h1 : hdrCount c 3 * 4 ≤ hdrCount c 3 * ts := Nat.mul_le_mul_left _ hts
  have h2 : hdrCount c 2 * 8 ≤ hdrCount c 2 * (ts + 4) := Nat.mul_le_mul_left _ (by omega)
  omega

/-! ### the rule of an accepted zone is what its footer denotes -/
theorem parseRest_rule {st : State} {fo : Option (List Nat)} {z : Zone} (h : parseRest st fo = .ok z) :
    parseFooterOpt fo st.header.version = .ok z.rule := by
  unfold parseRest at h
  obtain ⟨tr, _, h⟩ := bind_eq_ok h
  obtain ⟨ty, _, h⟩ := bind_eq_ok h
  obtain ⟨lp, _, h⟩ := bind_eq_ok h
  split at h
  · cases h
  · obtain ⟨r, hr, h⟩ := bind_eq_ok h
    unfold Zone.new at h
    obtain ⟨u, _, h⟩ := bind_eq_ok h
    simp only [P.ok.injEq] at h
    subst h
    exact hr

/-- the two ways `parseBlocks` succeeds: one version-1 block and nothing after it, or two blocks whose
headers carry the same version (not 1) and the footer after them -/
theorem parseBlocks_inv {bytes : List Nat} {st : State} {fo : Option (List Nat)}
    (h : parseBlocks bytes = .ok (st, fo)) :
    ∃ st1 c1, State.new bytes true = .ok (st1, c1) ∧
      ((st1.header.version = .V1 ∧ c1 = [] ∧ st = st1 ∧ fo = none)
        ∨ (st1.header.version ≠ .V1 ∧ ∃ c2, State.new c1 false = .ok (st, c2)
            ∧ st.header.version = st1.header.version ∧ fo = some c2)) := by
  unfold parseBlocks at h
  obtain ⟨⟨st1, c1⟩, hs1, h⟩ := bind_eq_ok h
  refine ⟨st1, c1, hs1, ?_⟩
  dsimp only at h
  split at h
  · rename_i hver
    split at h
    · rename_i he
      simp only [P.ok.injEq, Prod.mk.injEq] at h
      exact Or.inl ⟨hver, List.isEmpty_iff.mp he, h.1.symm, h.2.symm⟩
    · cases h
  · rename_i hver
    obtain ⟨⟨st2, c2⟩, hs2, h⟩ := bind_eq_ok h
    obtain ⟨hvv, h⟩ := ite_err_ok h
    simp only [Prod.mk.injEq] at h
    obtain ⟨rfl, rfl⟩ := h
    exact Or.inr ⟨fun e => hver e, c2, hs2, Classical.not_not.mp hvv, rfl⟩

theorem parseBlocks_footer {bytes : List Nat} {st : State} {fo : Option (List Nat)}
    (h : parseBlocks bytes = .ok (st, fo)) :
    (versionOf ((bytes.drop 4).take 1) = some .V1 ∧ fo = none)
      ∨ (versionOf ((bytes.drop 4).take 1) ≠ some .V1 ∧ ∃ c2, fo = some c2) := by
  obtain ⟨st1, c1, hs1, hc⟩ := parseBlocks_inv h
  obtain ⟨⟨-, hv1, -⟩, -⟩ := post_spec (post_state_layout bytes true) hs1
  dsimp only at hv1
  rw [hv1]
  rcases hc with ⟨hver, -, -, rfl⟩ | ⟨hver, c2, -, -, rfl⟩
  · exact Or.inl ⟨congrArg some hver, rfl⟩
  · exact Or.inr ⟨fun e => hver (Option.some.inj e), c2, rfl⟩

/-- what an `Ok` of the footer arm means -/
theorem parseFooter_ok_inv {f : List Nat} {v : Version} {r : Option Rule} (h : parseFooter f v = .ok r) :
    validUtf8 f = true ∧ (trimWs f).head? ≠ some 58 ∧ 0 ∉ trimWs f
      ∧ ((trimWs f = [] ∧ r = none) ∨ ∃ x, r = some x ∧ Denotes (v == .V3) (trimWs f) x) := by
  unfold parseFooter at h
  split at h
  · cases h
  · rename_i hu
    split at h
    · cases h
    · dsimp only at h
      split at h
      · cases h
      · rename_i hc
        simp only [Bool.or_eq_true, beq_iff_eq, List.contains_iff_mem, not_or] at hc
        refine ⟨by simpa using hu, hc.1, hc.2, ?_⟩
        split at h
        · rename_i he
          simp only [P.ok.injEq] at h
          exact Or.inl ⟨by simpa using he, h.symm⟩
        · obtain ⟨x, hx, h⟩ := bind_eq_ok h
          simp only [P.ok.injEq] at h
          exact Or.inr ⟨x, h.symm, tz_accepts_only' _ _ _ hx⟩

theorem accepted_footer' (bytes : List Nat) (z : Zone) (h : parse bytes = .ok z) :
    (versionOf ((bytes.drop 4).take 1) = some .V1 → z.rule = none)
      ∧ (versionOf ((bytes.drop 4).take 1) ≠ some .V1 →
          validUtf8 (footerOf bytes) = true ∧ (trimWs (footerOf bytes)).head? ≠ some 58
            ∧ 0 ∉ trimWs (footerOf bytes)
            ∧ ((trimWs (footerOf bytes) = [] ∧ z.rule = none)
                ∨ ∃ ext x, z.rule = some x ∧ Denotes ext (trimWs (footerOf bytes)) x)) := by
  unfold parse at h
  obtain ⟨⟨st, fo⟩, hb, hrest⟩ := bind_eq_ok h
  have hr := parseRest_rule hrest
  rcases parseBlocks_footer hb with ⟨hv, rfl⟩ | ⟨hv, c2, rfl⟩
  · refine ⟨fun _ => ?_, fun hne => absurd hv hne⟩
    simp only [parseFooterOpt, P.ok.injEq] at hr
    exact hr.symm
  · refine ⟨fun hv1 => absurd hv1 hv, fun _ => ?_⟩
    have hfo : footerOf bytes = c2 := by unfold footerOf; rw [hb]
    rw [hfo]
    obtain ⟨a, b, c, d⟩ := parseFooter_ok_inv (show parseFooter c2 st.header.version = .ok z.rule from hr)
    refine ⟨a, b, c, ?_⟩
    rcases d with d | ⟨x, hx, hd⟩
    · exact Or.inl d
    · exact Or.inr ⟨_, x, hx, hd⟩

end Chrono.Proofs.TzValid
