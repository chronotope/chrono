/-
  Lemmas for C12, documentation side (Spec/StrftimeDocSpec.lean): one formatting item on a value that
  has some of the three views; the name of a fixed offset; lists of items.  The date enters only through
  `StrftimeHeadroom.DateOk d Y o` (every date item shows `d` as day `o` of year `Y`), which holds for the
  dates of the range (`dateOk_range`, from C01) and for the two headroom dates (Proofs/StrftimeHeadroomL.lean).
-/
import Chrono.Proofs.FormatL
import Chrono.Proofs.FormatIsoL
import Chrono.Proofs.FormatRfcL
import Chrono.Spec.StrftimeDocSpec
namespace Chrono.Proofs.StrftimeDoc
open Chrono Chrono.M Chrono.M.Format Chrono.M.Strftime Chrono.Spec Chrono.Spec.Strftime Chrono.Spec.StrftimeDoc
open Chrono.Extracted Chrono.Proofs

/-- the views handed to the formatter -/
def dOf (hv : Views) (d : Date) : Option Date := if hv.date then some d else none
def tOf (hv : Views) (t : Time) : Option Time := if hv.time then some t else none
def oOf (hv : Views) (off : Int) : Option (List Nat × Int) := if hv.off then some (fixedOffsetName off, off) else none

def toW (r : Option (List Nat)) : W := match r with | some x => wok x | none => werr

/-- `FixedOffset`'s `Display` is `%:z`, or `%::z` when the offset has seconds -/
theorem zone_name_eq (off : Int) (h : -86400 < off ∧ off < 86400) : fixedOffsetName off = zoneText off := by
  unfold fixedOffsetName zoneText renderOffset two
  simp only [FormatL.number_eq]
  have habs : (if off < 0 then -off else off) = (off.natAbs : Int) := by split <;> omega
  rw [habs]
  have ha0 : (0 : Int) ≤ off.natAbs := by omega
  have ha1 : (off.natAbs : Int) < 86400 := by omega
  have hm : (off % 60 = 0) ↔ ((off.natAbs : Int) % 60 = 0) := by omega
  generalize (off.natAbs : Int) = a at *
  by_cases h0 : a % 60 = 0
  · rw [if_pos h0, if_pos (hm.mpr h0)]
    have e1 : (a + 30) / 60 = a / 60 := by omega
    simp only [e1, List.cons_append, List.nil_append, List.append_assoc]
  · rw [if_neg h0, if_neg (fun h => h0 (hm.mp h))]
    simp only [FormatL.div60_60, List.cons_append, List.nil_append, List.append_assoc]

theorem single (d : Option Date) (t : Option Time) (off : Option (List Nat × Int)) (it : Item) :
    formatItemsR d t off [it] = format_item d t off it := by
  simp only [formatItemsR, FormatRfc.seq_nil]

theorem of_some_map {a : W} {r : Option (List Nat)} (h : some a = r.map wok) : r.isSome → a = toW r := by
  intro hs
  cases r with
  | none => cases hs
  | some x => simp only [Option.map_some, Option.some.injEq] at h; exact h

end Chrono.Proofs.StrftimeDoc

namespace Chrono.Proofs.StrftimeHeadroom
open Chrono Chrono.M Chrono.M.Format Chrono.M.Strftime Chrono.Spec Chrono.Spec.Strftime Chrono.Spec.StrftimeDoc
open Chrono.Extracted Chrono.Proofs Chrono.Proofs.StrftimeDoc Chrono.Proofs.FormatL

/-- the numeric items that read only the date -/
def dateNumerics : List Numeric :=
  [.year, .yearDiv100, .yearMod100, .isoYear, .isoYearDiv100, .isoYearMod100, .quarter, .month, .day,
   .weekFromSun, .weekFromMon, .isoWeek, .numDaysFromSun, .weekdayFromMon, .ordinal]
/-- the fixed items that read only the date -/
def dateNames : List Fixed := [.shortMonthName, .longMonthName, .shortWeekdayName, .longWeekdayName]

/-- the date `d` is shown as the `o`-th day of year `Y` by every date item; its day number is the
calendar's (for `%s`), month and day answer (for `%+`) -/
structure DateOk (d : Date) (Y : Int) (o : Nat) : Prop where
  num : ∀ n ∈ dateNumerics, ∀ (pad : Pad) (t : Option Time) (off : Option Int) (tt : Time) (oo : Int),
    format_numeric (some d) t off n pad = wok (renderNumeric n pad Y o tt oo)
  names : ∀ f ∈ dateNames, ∀ (t : Option Time) (off : Option (List Nat × Int)) (tt : Time) (oo : Int),
    some (format_fixed (some d) t off f) = (renderFixed f Y o tt oo).map wok
  ndays : d.num_days_from_ce = .ok (dayNumYo Y o)
  bound : -100000000 ≤ dayNumYo Y o ∧ dayNumYo Y o ≤ 100000000
  md : ∃ m dd, d.month = .ok m ∧ d.day = .ok dd ∧ m < 100 ∧ dd < 100

/-- the date-only numeric items on a date of the range.  The accessors answer with the calendar's fields
(C01), `weeks_from` counts the week starts, `iso_week` is the ISO 8601 week date; what is left per item is
that the field has at most two digits (one for `%q %w %u`), so the `as u8` narrowing loses nothing. -/
theorem numeric_date (y : Int) (o : Nat) (hy : MIN_YEAR ≤ y ∧ y ≤ MAX_YEAR) (ho : 1 ≤ o ∧ o ≤ yearLen y)
    (n : Numeric) (hn : n ∈ dateNumerics) (pad : Pad) (t : Option Time) (off : Option Int) (tt : Time) (oo : Int) :
    format_numeric (some (dateOfYo y o)) t off n pad = wok (renderNumeric n pad y o tt oo) := by
  obtain ⟨hyr, hord, _, hm, hd, hv, _, _, hwd⟩ := Props.C01.accessors_ok y o hy ho
  obtain ⟨ywf, hiso, hiy, hiw⟩ := FormatIsoL.iso_week_spec y o hy ho
  obtain ⟨hm1, hm2, hd1, _⟩ := (Proofs.valid_iff y _ _).mp hv
  have hb := Proofs.valid_bounds y _ _ hv
  have hyl := Proofs.yearLen_ge y
  have hw := weekdayOf_range (dayNumYo y o)
  have hV : 0 ≤ isoWeek y o ∧ isoWeek y o < 100 := by rw [← hiw]; unfold IsoWeek.week; omega
  cases n
  case hour | hour12 | minute | second | nanosecond | timestamp => exact absurd hn (by decide)
  all_goals simp only [format_numeric, renderNumeric, numericValue, numericWidth, hyr, hord, hm, hd, hiso, hiy, hiw,
    W.ofRes, weeks_from_closed y o hy ho, show Weekday.sun.toNat = 6 from rfl, show Weekday.mon.toNat = 0 from rfl,
    Nat.cast_ofNat, Nat.cast_zero, wd_sun, wd_mon, hwd, quarter, write_year_ok, write_n, number_eq,
    Bool.false_eq_true, if_false]
  case yearMod100 | isoYearMod100 | month | day | isoWeek => rw [write_two_ok _ (by omega) (by omega), number_eq]
  case weekFromSun =>
    have := countStarts_closed y 6 (by omega) o
    rw [write_two_ok _ (by omega) (by omega), number_eq]
  case weekFromMon =>
    have := countStarts_closed y 0 (by omega) o
    rw [write_two_ok _ (by omega) (by omega), number_eq]
  case numDaysFromSun | weekdayFromMon => rw [write_one_ok _ (by omega) (by omega), number_eq]
  case quarter =>
    rw [write_one_ok _ (by omega) (by omega), number_eq]
    congr 2
    omega

/-- every date of the range -/
theorem dateOk_range (y : Int) (o : Nat) (hy : MIN_YEAR ≤ y ∧ y ≤ MAX_YEAR) (ho : 1 ≤ o ∧ o ≤ yearLen y) :
    DateOk (dateOfYo y o) y o := by
  obtain ⟨_, _, _, hm, hd, hv, _, hnd, _⟩ := Props.C01.accessors_ok y o hy ho
  have hb := Proofs.valid_bounds y _ _ hv
  have hyl := Proofs.yearLen_ge y
  have hdb := dayNum_bound y o hy (by omega)
  exact ⟨numeric_date y o hy ho, fixed_names y o hy ho, hnd, by omega, ⟨_, _, hm, hd, by omega, by omega⟩⟩

/-- `%+` as text: `Fixed::RFC3339` is the item list of `%Y-%m-%dT%H:%M:%S%.f%:z`, item by item -/
theorem rfc3339_text (d : Date) (Y : Int) (o : Nat) (hd : DateOk d Y o) (t : Time) (ht : TValid t) (name : List Nat)
    (off : Int) (hoff : -86400 < off ∧ off < 86400) :
    format_fixed (some d) (some t) (some (name, off)) .rfc3339 = wok (rfc3339Text Y o t off) := by
  obtain ⟨m, dd, hm, hdd, hm', hd'⟩ := hd.md
  have h := FormatRfc.rfc3339_expansion d t name off m dd hm hdd hm' hd' ht
  rw [single] at h
  simp only [format_item] at h
  rw [h]
  simp only [FormatRfc.rfc3339Expansion, formatItemsR, format_item, FormatRfc.seq_nil]
  rw [hd.num .year (by decide) .zero _ _ t off, hd.num .month (by decide) .zero _ _ t off,
    hd.num .day (by decide) .zero _ _ t off,
    FormatL.numeric_clock t ht _ _ Y o off .zero .hour (by decide),
    FormatL.numeric_clock t ht _ _ Y o off .zero .minute (by decide),
    FormatL.numeric_clock t ht _ _ Y o off .zero .second (by decide),
    of_some_map (FormatL.fixed_clock t ht _ _ Y o off .nanosecond (by decide)) rfl,
    of_some_map (FormatL.offset_ok off hoff _ _ name Y o t .timezoneOffsetColon (by decide)) rfl]
  simp only [renderFixed, toW, W.seq, wok, rfc3339Text, List.append_assoc]

end Chrono.Proofs.StrftimeHeadroom

namespace Chrono.Proofs.StrftimeDoc
open Chrono Chrono.M Chrono.M.Format Chrono.M.Strftime Chrono.Spec Chrono.Spec.Strftime Chrono.Spec.StrftimeDoc
open Chrono.Extracted Chrono.Proofs Chrono.Proofs.StrftimeHeadroom

/-! ### one item on a value with the views `hv`, for a date shown as day `o` of year `Y` -/

theorem rfc3339_text (y : Int) (o : Nat) (hy : MIN_YEAR ≤ y ∧ y ≤ MAX_YEAR) (ho : 1 ≤ o ∧ o ≤ yearLen y)
    (t : Time) (ht : TValid t) (name : List Nat) (off : Int) (hoff : -86400 < off ∧ off < 86400) :
    format_fixed (some (dateOfYo y o)) (some t) (some (name, off)) .rfc3339 = wok (rfc3339Text y o t off) :=
  StrftimeHeadroom.rfc3339_text _ y o (dateOk_range y o hy ho) t ht name off hoff

theorem numeric_on (d : Date) (Y : Int) (o : Nat) (hd : DateOk d Y o)
    (t : Time) (ht : TValid t) (off : Int) (hoff : -86400 < off ∧ off < 86400) (hv : Views) (n : Numeric) (pad : Pad) :
    format_item (dOf hv d) (tOf hv t) (oOf hv off) (.numeric n pad) =
      toW (renderItemOn hv (.numeric n pad) Y o t off) := by
  obtain ⟨D, T, O⟩ := hv
  have hO : ((oOf ⟨D, T, O⟩ off).map (·.2)) = (if O then some off else none) := by cases O <;> rfl
  have hoff' : ∀ v, (if O then some off else none : Option Int) = some v → -86400 < v ∧ v < 86400 := by
    intro v hv; cases O
    · cases hv
    · injection hv with hv; subst hv; exact hoff
  simp only [format_item, hO]
  cases n
  case timestamp =>
    cases D <;> cases T
    · cases O <;> rfl
    · cases O <;> rfl
    · cases O <;> rfl
    · simp only [dOf, tOf, if_true]
      rw [FormatL.timestamp_of_days d _ hd.ndays hd.bound t ht _ hoff' pad]
      cases O <;> rfl
  case hour | hour12 | minute | second | nanosecond =>
    cases T
    · cases D <;> cases O <;> rfl
    · simp only [tOf, if_true]
      rw [FormatL.numeric_clock t ht _ _ Y o (if O then off else 0) pad _ (by decide)]
      cases D <;> cases O <;> rfl
  all_goals
    cases D
    · cases T <;> cases O <;> rfl
    · simp only [dOf, if_true]
      rw [hd.num _ (by decide) pad _ _ t (if O then off else 0)]
      cases T <;> cases O <;> rfl

theorem fixed_on (d : Date) (Y : Int) (o : Nat) (hd : DateOk d Y o)
    (t : Time) (ht : TValid t) (off : Int) (hoff : -86400 < off ∧ off < 86400) (hv : Views) (f : Fixed)
    (hf : f ≠ .rfc2822) :
    format_item (dOf hv d) (tOf hv t) (oOf hv off) (.fixed f) =
      toW (renderItemOn hv (.fixed f) Y o t off) := by
  obtain ⟨D, T, O⟩ := hv
  simp only [format_item]
  cases f
  case rfc2822 => exact absurd rfl hf
  case rfc3339 =>
    cases D <;> cases T <;> cases O <;> try rfl
    simp only [dOf, tOf, oOf, if_true]
    rw [StrftimeHeadroom.rfc3339_text d Y o hd t ht _ off hoff]; rfl
  case timezoneOffsetPermissive => cases D <;> cases T <;> cases O <;> rfl
  case timezoneName =>
    cases O
    · cases D <;> cases T <;> rfl
    · simp only [oOf, if_true]
      rw [show format_fixed _ _ (some (fixedOffsetName off, off)) .timezoneName = wok (fixedOffsetName off) from (by cases D <;> cases T <;> rfl), zone_name_eq off hoff]
      cases D <;> cases T <;> rfl
  case shortMonthName | longMonthName | shortWeekdayName | longWeekdayName =>
    cases D
    · cases T <;> cases O <;> rfl
    · simp only [dOf, if_true]
      rw [of_some_map (hd.names _ (by decide) _ _ t (if O then off else 0)) rfl]
      cases T <;> cases O <;> rfl
  case timezoneOffset | timezoneOffsetColon | timezoneOffsetDoubleColon | timezoneOffsetTripleColon
      | timezoneOffsetZ | timezoneOffsetColonZ =>
    cases O
    · cases D <;> cases T <;> rfl
    · simp only [oOf, if_true]
      rw [of_some_map (FormatL.offset_ok off hoff _ _ _ Y o t _ (by decide)) rfl]
      cases D <;> cases T <;> rfl
  all_goals
    cases T
    · cases D <;> cases O <;> rfl
    · simp only [tOf, if_true]
      rw [of_some_map (FormatL.fixed_clock t ht _ _ Y o (if O then off else 0) _ (by decide)) rfl]
      cases D <;> cases O <;> rfl

/-- every item except the RFC 2822 one (which no specifier produces) -/
theorem item_on (d : Date) (Y : Int) (o : Nat) (hd : DateOk d Y o)
    (t : Time) (ht : TValid t) (off : Int) (hoff : -86400 < off ∧ off < 86400) (hv : Views) (it : Item)
    (hf : it ≠ .fixed .rfc2822) :
    format_item (dOf hv d) (tOf hv t) (oOf hv off) it = toW (renderItemOn hv it Y o t off) := by
  cases it with
  | literal s => obtain ⟨D, T, O⟩ := hv; cases D <;> cases T <;> cases O <;> rfl
  | space s => obtain ⟨D, T, O⟩ := hv; cases D <;> cases T <;> cases O <;> rfl
  | error => obtain ⟨D, T, O⟩ := hv; cases D <;> cases T <;> cases O <;> rfl
  | numeric n p => exact numeric_on d Y o hd t ht off hoff hv n p
  | fixed f => exact fixed_on d Y o hd t ht off hoff hv f (fun h => hf (by rw [h]))

/-- a whole item list: the concatenation of the item texts, or failure -/
theorem items_on (d : Date) (Y : Int) (o : Nat) (hd : DateOk d Y o)
    (t : Time) (ht : TValid t) (off : Int) (hoff : -86400 < off ∧ off < 86400) (hv : Views) (is : List Item)
    (hf : Item.fixed .rfc2822 ∉ is) :
    formatItemsR (dOf hv d) (tOf hv t) (oOf hv off) is = toW (renderItemsOn hv is Y o t off) := by
  induction is with
  | nil => rfl
  | cons it rest ih =>
    rw [formatItemsR, item_on d Y o hd t ht off hoff hv it (fun h => hf (by simp [h])),
      ih (fun h => hf (List.mem_cons_of_mem _ h)), renderItemsOn]
    cases renderItemOn hv it Y o t off <;> cases renderItemsOn hv rest Y o t off <;> rfl

theorem docTable_no_rfc2822 : ∀ e ∈ docTable, e.2 ≠ Item.fixed .rfc2822 := by decide +kernel

theorem renderItemOn_full (it : Item) (y : Int) (o : Nat) (t : Time) (off : Int) :
    renderItemOn ⟨true, true, true⟩ it y o t off = renderItem it y o t off := by
  unfold renderItemOn
  have : (viewsOf it).le ⟨true, true, true⟩ = true := by unfold Views.le; simp
  rw [this]; rfl

theorem toW_elim (r : Option (List Nat)) : toW r = r.elim werr wok := by cases r <;> rfl

end Chrono.Proofs.StrftimeDoc
