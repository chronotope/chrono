/-
  Helper lemmas for C12 (formatting): `W.seq` is a monoid; the decimal numerals of the specification
  (core's `Nat.toDigits`) are the model's; the `u8`-narrowing writers agree with plain padded numbers on
  the values they are called with; the clock, name and offset items over the C01 / C07 range facts (the
  date-only numeric items: `StrftimeHeadroom.numeric_date`, Proofs/StrftimeDocL.lean); the writer loop.
-/
import Chrono.Model.Format
import Chrono.Model.Strftime
import Chrono.Spec.StrftimeSpec
import Chrono.Spec.TimeSpec
import Chrono.Props.C01

namespace Chrono.Proofs.FormatRfc
open Chrono.M.Format

/-! ### writers in sequence: `W.seq` is a monoid with unit `wok []` -/

theorem nil_seq (a : W) : (wok []).seq a = a := by
  rcases a with (_ | x) | _ <;> rfl

theorem seq_nil (a : W) : a.seq (wok []) = a := by
  rcases a with (_ | x) | _
  · rfl
  · simp only [W.seq, wok, List.append_nil]
  · rfl

theorem seq_assoc (a b c : W) : (a.seq b).seq c = a.seq (b.seq c) := by
  rcases a with (_ | x) | _ <;> rcases b with (_ | y) | _ <;> rcases c with (_ | z) | _ <;>
    simp only [W.seq, List.append_assoc]

end Chrono.Proofs.FormatRfc

namespace Chrono.Proofs.FormatL
open Chrono Chrono.M Chrono.M.Format Chrono.M.Strftime Chrono.Spec Chrono.Spec.Strftime Chrono.Extracted

/-! ### the model's numerals, digit by digit -/

theorem natDigitsAux_acc (fuel n : Nat) (acc : List Nat) :
    Delta.natDigitsAux fuel n acc = Delta.natDigitsAux fuel n [] ++ acc := by
  induction fuel generalizing n acc with
  | zero => rfl
  | succ f ih =>
    unfold Delta.natDigitsAux
    split
    · rfl
    · rw [ih _ (_ :: acc), ih _ [_], List.append_assoc]; rfl

theorem natDigitsAux_fuel (f g n : Nat) (hf : n < f) (hg : n < g) (acc : List Nat) :
    Delta.natDigitsAux f n acc = Delta.natDigitsAux g n acc := by
  induction f generalizing g n acc with
  | zero => omega
  | succ f ih =>
    cases g with
    | zero => omega
    | succ g =>
      unfold Delta.natDigitsAux
      split
      · rfl
      · exact ih g _ (by omega) (by omega) _

theorem digits_lt (n : Nat) (h : n < 10) : digits n = [48 + n] := by
  unfold digits Delta.natDigits Delta.natDigitsAux
  rw [if_pos h, Delta.digitChar, Nat.mod_eq_of_lt h]

theorem digits_step (n : Nat) (h : 10 ≤ n) : digits n = digits (n / 10) ++ [48 + n % 10] := by
  unfold digits Delta.natDigits
  rw [Delta.natDigitsAux, if_neg (by omega), natDigitsAux_acc,
    natDigitsAux_fuel n (n / 10 + 1) _ (by omega) (by omega), Delta.digitChar, Nat.mod_mod]

theorem digits_two (n : Nat) (h1 : 10 ≤ n) (h2 : n < 100) : digits n = [48 + n / 10, 48 + n % 10] := by
  rw [digits_step n h1, digits_lt _ (by omega)]; rfl

/-! ### the specification's numerals are the model's -/

theorem digitChar_toNat : ∀ r < 10, (Nat.digitChar r).toNat = 48 + r := by decide

/-- core's `Nat.toDigits` satisfies the same two equations -/
theorem dec_eq (n : Nat) : dec n = digits n := by
  induction n using Nat.strongRecOn with
  | _ n ih =>
    unfold dec
    by_cases h : n < 10
    · rw [Nat.toDigits_of_lt_base h, digits_lt n h, List.map_singleton, digitChar_toNat n h]
    · rw [Nat.toDigits_of_base_le (by decide) (by omega), digits_step n (by omega), ← ih (n / 10) (by omega),
        List.map_append, List.map_singleton, digitChar_toNat _ (by omega)]
      rfl

/-- the specification's padded number is the model of `core::fmt`'s integer formatting -/
theorem number_eq (v : Int) (w : Nat) (pad : Pad) (plus : Bool) : number v w pad plus = fmtInt v w pad plus := by
  unfold number fmtInt
  rw [dec_eq]
  cases pad <;> simp only [Nat.sub_sub]

/-! ### padded numbers -/

/-- `fmtInt` of a natural number without the `+` flag: padding, then the numeral -/
theorem fmtInt_nat (n w : Nat) (p : Pad) :
    fmtInt n w p false =
      match p with
      | .none => digits n
      | .zero => List.replicate (w - (digits n).length) 48 ++ digits n
      | .space => List.replicate (w - (digits n).length) 32 ++ digits n := by
  have hs : ¬ ((n : Int) < 0) := by omega
  cases p <;>
    simp only [fmtInt, hs, if_false, Bool.false_eq_true, Int.natAbs_natCast, List.length_nil, Nat.sub_zero,
      Nat.zero_add, List.nil_append, List.append_nil]

/-- zero padding, one place at a time -/
theorem fmtInt_zero_step (n w : Nat) (hw : 1 ≤ w) :
    fmtInt n (w + 1) .zero false = fmtInt (n / 10 : Nat) w .zero false ++ [48 + n % 10] := by
  simp only [fmtInt_nat]
  by_cases c : n < 10
  · have : n / 10 = 0 := by omega
    rw [digits_lt n c, this, digits_lt 0 (by omega), Nat.mod_eq_of_lt c]
    simp only [List.length_singleton, Nat.add_sub_cancel, Nat.add_zero]
    obtain ⟨k, rfl⟩ : ∃ k, w = k + 1 := ⟨w - 1, by omega⟩
    rw [Nat.add_sub_cancel, List.replicate_succ']
  · rw [digits_step n (by omega), List.length_append, List.length_singleton, Nat.add_sub_add_right,
      List.append_assoc]

theorem fmtInt_two (n : Nat) (h : n < 100) : fmtInt n 2 .zero false = [48 + n / 10, 48 + n % 10] := by
  rw [fmtInt_zero_step n 1 (by omega), fmtInt_nat, digits_lt (n / 10) (by omega)]
  rfl

/-- four places are two pairs: why two `write_hundreds` write a year -/
theorem fmtInt_four (n : Nat) :
    fmtInt n 4 .zero false = fmtInt (n / 100 : Nat) 2 .zero false ++ fmtInt (n % 100 : Nat) 2 .zero false := by
  rw [fmtInt_zero_step n 3 (by omega), fmtInt_zero_step (n / 10) 2 (by omega), fmtInt_two (n % 100) (by omega),
    Nat.div_div_eq_div_mul, List.append_assoc]
  have e1 : n / 10 % 10 = n % 100 / 10 := by omega
  have e2 : n % 10 = n % 100 % 10 := by omega
  rw [e1, e2]; rfl

/-- a number that fills its width looks the same under every padding -/
theorem fmtInt_full (n w : Nat) (h : w ≤ (digits n).length) (p q : Pad) : fmtInt n w p false = fmtInt n w q false := by
  have e : w - (digits n).length = 0 := by omega
  cases p <;> cases q <;> simp only [fmtInt_nat, e, List.replicate_zero, List.nil_append]

/-! ### the narrowing writers on the values they are called with -/

theorem pad_mem (p : Pad) : p ∈ [Pad.none, Pad.zero, Pad.space] := by cases p <;> simp

theorem asU8_eq (v : Int) (h0 : 0 ≤ v) (h : v < 256) : asU8 v = v := by unfold asU8; omega

theorem pushChar_digit (d : Nat) (h : d < 10) : pushChar (48 + (d : Int)).toNat = [48 + d] := by
  have : (48 + (d : Int)).toNat = 48 + d := by omega
  rw [this, pushChar, if_pos (by omega)]

theorem write_two_ok (v : Int) (h0 : 0 ≤ v) (h : v < 100) (p : Pad) :
    write_two (asU8 v) p = number v 2 p false := by
  obtain ⟨n, rfl⟩ := Int.eq_ofNat_of_zero_le h0
  have e1 : (n : Int) % 10 = (n % 10 : Nat) := by omega
  have e2 : (n : Int) / 10 = (n / 10 : Nat) := by omega
  have p1 := pushChar_digit (n % 10) (by omega)
  have p2 := pushChar_digit (n / 10) (by omega)
  rw [number_eq, asU8_eq n (by omega) (by omega)]
  simp only [write_two, e1, e2, p1, p2, fmtInt_nat]
  by_cases c : n < 10
  · have c0 : n / 10 = 0 := by omega
    rw [digits_lt n c, Nat.mod_eq_of_lt c, c0]
    cases p <;> rfl
  · have c0 : ¬ ((n / 10 : Nat) : Int) = 0 := by omega
    rw [digits_two n (by omega) (by omega), if_neg c0]
    cases p <;> rfl

theorem write_one_ok (v : Int) (h0 : 0 ≤ v) (h : v < 10) : write_one (asU8 v) = number v 1 .none false := by
  obtain ⟨n, rfl⟩ := Int.eq_ofNat_of_zero_le h0
  rw [number_eq, asU8_eq n (by omega) (by omega), write_one, pushChar_digit n (by omega), fmtInt_nat,
    digits_lt n (by omega)]

theorem write_hundreds_eq (v : Int) (h0 : 0 ≤ v) (h : v < 100) : write_hundreds v = wok (two v) := by
  obtain ⟨n, rfl⟩ := Int.eq_ofNat_of_zero_le h0
  have e1 : (48 + (n : Int) % 10).toNat = 48 + n % 10 := by omega
  have e2 : (48 + (n : Int) / 10).toNat = 48 + n / 10 := by omega
  rw [two, number_eq, fmtInt_two n (by omega), write_hundreds, if_neg (by omega), e1, e2]

theorem write_hundreds_ok (v : Int) (h0 : 0 ≤ v) (h : v < 100) : write_hundreds (asU8 v) = wok (two v) := by
  rw [asU8_eq v h0 (by omega), write_hundreds_eq v h0 h]

theorem seq_wok (a b : List Nat) : (wok a).seq (wok b) = wok (a ++ b) := rfl

/-- the two `write_hundreds` of the year writers give the four-digit numeral on 0..=9999 -/
theorem year_hundreds_text (y : Int) (h0 : 0 ≤ y) (h1 : y ≤ 9999) :
    (write_hundreds (asU8 (Int.tdiv y 100))).seq (write_hundreds (asU8 (Int.tmod y 100))) =
      wok (fmtInt y 4 .zero false) := by
  obtain ⟨n, rfl⟩ := Int.eq_ofNat_of_zero_le h0
  have e1 : Int.tdiv n 100 = (n / 100 : Nat) := by rw [Int.tdiv_eq_ediv_of_nonneg h0]; omega
  have e2 : Int.tmod n 100 = (n % 100 : Nat) := by rw [Int.tmod_eq_emod_of_nonneg h0]; omega
  rw [e1, e2, write_hundreds_ok _ (by omega) (by omega), write_hundreds_ok _ (by omega) (by omega), seq_wok,
    two, two, number_eq, number_eq, fmtInt_four]

/-! ### weekdays and the year writer -/

theorem wd_sun (w : Weekday) : ((w.num_days_from_sunday : Nat) : Int) = ((w.toNat : Int) + 1) % 7 := by
  cases w <;> decide
theorem wd_mon (w : Weekday) : ((w.number_from_monday : Nat) : Int) = (w.toNat : Int) + 1 := by
  cases w <;> decide
theorem weekdayOf_range (n : Int) : 0 ≤ weekdayOf n ∧ weekdayOf n < 7 := by
  unfold weekdayOf; omega

theorem write_year_ok (v : Int) (pad : Pad) : write_year v pad = wok (yearText v pad) := by
  unfold write_year yearText
  by_cases h : 1000 ≤ v ∧ v ≤ 9999
  · rw [if_pos h, if_pos (by omega), year_hundreds_text v (by omega) h.2, number_eq]
    obtain ⟨n, rfl⟩ := Int.eq_ofNat_of_zero_le (show 0 ≤ v by omega)
    have hl : 4 ≤ (digits n).length := by
      rw [digits_step n (by omega), digits_step (n / 10) (by omega), digits_step (n / 10 / 10) (by omega),
        digits_lt (n / 10 / 10 / 10) (by omega)]
      simp only [List.length_append, List.length_singleton]
      exact Nat.le_refl 4
    rw [fmtInt_full n 4 hl pad .zero]
  · rw [if_neg h]
    by_cases h2 : 0 ≤ v ∧ v ≤ 9999
    · rw [if_pos h2]
      have : (decide (0 ≤ v) && decide (v < 10000)) = true := by simp; omega
      simp only [this, Bool.not_true, write_n, number_eq]; rfl
    · rw [if_neg h2]
      have : (decide (0 ≤ v) && decide (v < 10000)) = false := by
        rw [Bool.and_eq_false_iff]; simp; omega
      simp only [this, Bool.not_false, write_n, number_eq]; rfl

/-! ### clock specifiers and the timestamp -/

theorem div60_60 (x : Int) : x / 60 / 60 = x / 3600 := by omega

/-- clock specifiers: `%H %I %M %S %f` (and `%k %l`) -/
theorem numeric_clock (t : Time) (ht : TValid t) (d : Option Date) (off : Option Int) (y : Int) (o : Nat) (oo : Int)
    (pad : Pad) (n : Numeric) (hn : n ∈ [Numeric.hour, .hour12, .minute, .second, .nanosecond]) :
    format_numeric d (some t) off n pad = wok (renderNumeric n pad y o t oo) := by
  obtain ⟨h1, h2, h3, h4⟩ := ht
  simp only [List.mem_cons, List.mem_nil_iff, or_false] at hn
  rcases hn with rfl | rfl | rfl | rfl | rfl <;>
    simp only [format_numeric, renderNumeric, numericValue, numericWidth, Time.hour12, Time.hour, Time.minute,
      Time.second, Time.nanosecond, Time.hms, div60_60]
  · rw [write_two_ok _ (by omega) (by omega)]
  · have e : (if t.secs / 3600 % 12 = 0 then 12 else t.secs / 3600 % 12) = (t.secs / 3600 + 11) % 12 + 1 := by
      split <;> omega
    rw [e, write_two_ok _ (by omega) (by omega)]
  · rw [write_two_ok _ (by omega) (by omega)]
  · have e : t.secs % 60 + t.frac / 1000000000 = t.secs % 60 + (if t.frac ≥ 1000000000 then 1 else 0) := by
      split <;> omega
    rw [e, write_two_ok _ (by split <;> omega) (by split <;> omega)]
  · simp only [write_n, number_eq]; rfl

theorem dayNum_bound (y : Int) (o : Nat) (hy : MIN_YEAR ≤ y ∧ y ≤ MAX_YEAR) (ho : o ≤ 366) :
    -95746130 ≤ dayNumYo y o ∧ dayNumYo y o ≤ 95745400 := by
  have hMIN : MIN_YEAR = -262143 := rfl
  have hMAX : MAX_YEAR = 262142 := rfl
  unfold dayNumYo daysBeforeYear
  omega

/-- `%s` for any date whose day count is the calendar's day number `n`, in the bounds that keep the
arithmetic inside `i64` -/
theorem timestamp_of_days (d : Date) (n : Int) (hnd : d.num_days_from_ce = .ok n)
    (hb : -100000000 ≤ n ∧ n ≤ 100000000) (t : Time) (ht : TValid t) (off : Option Int)
    (hoff : ∀ v, off = some v → -86400 < v ∧ v < 86400) (pad : Pad) :
    format_numeric (some d) (some t) off .timestamp pad =
      wok (number ((n - dayNum 1970 1 1) * 86400 + t.secs - off.getD 0) 9 pad false) := by
  obtain ⟨h1, h2, h3, h4⟩ := ht
  have hU : UNIX_EPOCH_DAY = 719163 := rfl
  have hE : dayNum 1970 1 1 = 719163 := by decide
  have hoff' : -86400 < off.getD 0 ∧ off.getD 0 < 86400 := by
    cases off with
    | none => simp
    | some v => simpa using hoff v rfl
  simp only [format_numeric, NaiveDT.timestamp, hnd, Res.bind, W.ofRes, Time.num_seconds_from_midnight, hU, hE]
  -- the three checked `i64` steps of `timestamp()` and the subtraction of the offset
  iterate 4
    rw [Proofs.ckI64_ok (by omega) (by omega)]
    simp only []
  simp only [write_n, number_eq]; rfl

/-! ### `%U` / `%W` -/

/-- closed form of the count of `start`-weekdays among the first `o` days of a year -/
theorem countStarts_closed (y : Int) (s : Int) (hs : 0 ≤ s ∧ s < 7) (o : Nat) :
    (countStarts y o s : Int) = ((o : Int) - ((weekdayOf (dayNumYo y o) - s) % 7) + 6) / 7 := by
  unfold countStarts weekdayOf dayNumYo
  generalize daysBeforeYear y = D
  induction o with
  | zero => simp; omega
  | succ o ih =>
    rw [List.range_succ, List.filter_append, List.length_append]
    push_cast
    rw [ih]
    by_cases h : (D + ((o : Int) + 1) + 6) % 7 = s
    · simp [h]; omega
    · simp [h]; omega

theorem weeks_from_closed (y : Int) (o : Nat) (hy : MIN_YEAR ≤ y ∧ y ≤ MAX_YEAR) (ho : 1 ≤ o ∧ o ≤ yearLen y)
    (day : Weekday) :
    weeks_from (dateOfYo y o) day = (countStarts y o day.toNat : Int) := by
  obtain ⟨_, hord, _, _, _, _, _, _, hwd⟩ := Props.C01.accessors_ok y o hy ho
  have hw := weekdayOf_range (dayNumYo y o)
  rw [countStarts_closed y day.toNat (by cases day <;> decide) o]
  unfold weeks_from
  rw [hord, Proofs.tdiv_eq]
  have hds : ((Weekday.days_since (dateOfYo y o).weekday day : Nat) : Int)
      = (weekdayOf (dayNumYo y o) - (day.toNat : Int)) % 7 := by
    rw [← hwd]
    generalize (dateOfYo y o).weekday = w
    cases w <;> cases day <;> decide
  rw [hds]
  split <;> omega

/-! ### fixed items -/

theorem names_fin :
    (∀ m < 12, LOC_LONG_MONTHS.getD m [] = monthName (m + 1) ∧ LOC_SHORT_MONTHS.getD m [] = (monthName (m + 1)).take 3) ∧
    (∀ w < 7, LOC_LONG_WEEKDAYS.getD ((w + 1) % 7) [] = weekdayName w ∧
      LOC_SHORT_WEEKDAYS.getD ((w + 1) % 7) [] = (weekdayName w).take 3) := by decide +kernel

theorem wd_sun_nat (w : Weekday) : w.num_days_from_sunday = (w.toNat + 1) % 7 := by cases w <;> decide

/-- `%b %B %a %A` (and `%h`) -/
theorem fixed_names (y : Int) (o : Nat) (hy : MIN_YEAR ≤ y ∧ y ≤ MAX_YEAR) (ho : 1 ≤ o ∧ o ≤ yearLen y)
    (f : Fixed) (hf : f ∈ [Fixed.shortMonthName, .longMonthName, .shortWeekdayName, .longWeekdayName])
    (t : Option Time) (off : Option (List Nat × Int)) (tt : Time) (oo : Int) :
    some (format_fixed (some (dateOfYo y o)) t off f) = (renderFixed f y o tt oo).map wok := by
  obtain ⟨_, _, _, hm, _, hv, _, _, hwd⟩ := Props.C01.accessors_ok y o hy ho
  obtain ⟨hm1, hm2, _, _⟩ := (Proofs.valid_iff y _ _).mp hv
  have hw := weekdayOf_range (dayNumYo y o)
  obtain ⟨nm, nw⟩ := names_fin
  have e : monthOfYo y o - 1 + 1 = monthOfYo y o := by omega
  have hwn : (weekdayOf (dayNumYo y o)).toNat = (dateOfYo y o).weekday.toNat := by omega
  have hw7 : (dateOfYo y o).weekday.toNat < 7 := by omega
  simp only [List.mem_cons, List.mem_nil_iff, or_false] at hf
  rcases hf with rfl | rfl | rfl | rfl <;>
    simp only [format_fixed, renderFixed, hm, W.ofRes, Option.map_some, wd_sun_nat]
  · rw [(nm (monthOfYo y o - 1) (by omega)).2, e]
  · rw [(nm (monthOfYo y o - 1) (by omega)).1, e]
  · rw [(nw _ hw7).2, ← hwd]
  · rw [(nw _ hw7).1, ← hwd]

/-- the truncated fractions with the power of ten worked out -/
theorem fracDigits_eq (frac : Int) :
    fracDigits frac 3 = fmtInt (frac % 1000000000 / 1000000) 3 .zero false ∧
    fracDigits frac 6 = fmtInt (frac % 1000000000 / 1000) 6 .zero false ∧
    fracDigits frac 9 = fmtInt (frac % 1000000000) 9 .zero false := by
  have p3 : (10 : Int) ^ (9 - 3) = 1000000 := by decide
  have p6 : (10 : Int) ^ (9 - 6) = 1000 := by decide
  have p9 : (10 : Int) ^ (9 - 9) = 1 := by decide
  simp only [fracDigits, number_eq, p3, p6, p9, Int.ediv_one, and_self]

/-- `%P %p %.f %.3f %.6f %.9f %3f %6f %9f` -/
theorem fixed_clock (t : Time) (ht : TValid t) (d : Option Date) (off : Option (List Nat × Int)) (y : Int) (o : Nat)
    (oo : Int) (f : Fixed)
    (hf : f ∈ [Fixed.lowerAmPm, .upperAmPm, .nanosecond, .nanosecond3, .nanosecond6, .nanosecond9,
               .nanosecond3NoDot, .nanosecond6NoDot, .nanosecond9NoDot]) :
    some (format_fixed d (some t) off f) = (renderFixed f y o t oo).map wok := by
  obtain ⟨h1, h2, h3, h4⟩ := ht
  obtain ⟨f3, f6, f9⟩ := fracDigits_eq t.frac
  have e3 : t.frac / 1000000 % 1000 = t.frac % 1000000000 / 1000000 := by omega
  have e6 : t.frac / 1000 % 1000000 = t.frac % 1000000000 / 1000 := by omega
  have hpm : t.hour12.1 = decide (¬ t.secs < 43200) := by
    simp only [Time.hour12, Time.hour, Time.hms]; apply decide_eq_decide.mpr; omega
  simp only [List.mem_cons, List.mem_nil_iff, or_false] at hf
  rcases hf with rfl | rfl | rfl | rfl | rfl | rfl | rfl | rfl | rfl <;>
    simp only [format_fixed, renderFixed, Option.map_some, Time.nanosecond, hpm, fracAuto, f3, f6, f9, e3, e6,
      apply_ite wok, List.cons_append, List.nil_append]
  · by_cases h : t.secs < 43200 <;> simp [h] <;> rfl
  · by_cases h : t.secs < 43200 <;> simp [h] <;> rfl
  · rfl

/-! ### offsets -/

theorem hoursText_ok (h : Int) (h0 : 0 ≤ h) (h1 : h < 100) (s : Nat) : hoursText .zero s h = wok (s :: two h) := by
  unfold hoursText
  split
  · obtain ⟨n, rfl⟩ := Int.eq_ofNat_of_zero_le h0
    have c0 : n / 10 = 0 := by omega
    rw [two, number_eq, fmtInt_two n (by omega), pushChar_digit n (by omega), c0, Nat.mod_eq_of_lt (by omega)]
    rfl
  · rw [write_hundreds_eq h h0 h1]; rfl

theorem parts_minutes (a : Int) (h0 : 0 ≤ a) (h1 : a < 86400) :
    offsetParts .minutes a = ((a + 30) / 60 / 60, (a + 30) / 60 % 60, 0, .minutes) := by
  have e1 : Int.tdiv (a + 30) 60 = (a + 30) / 60 := Int.tdiv_eq_ediv_of_nonneg (by omega)
  have e2 : Int.tdiv ((a + 30) / 60) 60 = (a + 30) / 60 / 60 := Int.tdiv_eq_ediv_of_nonneg (by omega)
  have e3 : Int.tmod ((a + 30) / 60) 60 = (a + 30) / 60 % 60 := Int.tmod_eq_emod_of_nonneg (by omega)
  simp only [offsetParts, e1, e2, e3, asU8_eq _ (show 0 ≤ (a + 30) / 60 / 60 by omega) (by omega),
    asU8_eq _ (show 0 ≤ (a + 30) / 60 % 60 by omega) (by omega), reduceCtorEq, false_and, if_false]

theorem parts_seconds (a : Int) (h0 : 0 ≤ a) (h1 : a < 86400) :
    offsetParts .seconds a = (a / 60 / 60, a / 60 % 60, a % 60, .seconds) := by
  have e1 : Int.tdiv a 60 = a / 60 := Int.tdiv_eq_ediv_of_nonneg h0
  have e2 : Int.tdiv (a / 60) 60 = a / 60 / 60 := Int.tdiv_eq_ediv_of_nonneg (by omega)
  have e3 : Int.tmod (a / 60) 60 = a / 60 % 60 := Int.tmod_eq_emod_of_nonneg (by omega)
  have e4 : Int.tmod a 60 = a % 60 := Int.tmod_eq_emod_of_nonneg h0
  simp only [offsetParts, e1, e2, e3, e4, asU8_eq _ (show 0 ≤ a / 60 / 60 by omega) (by omega),
    asU8_eq _ (show 0 ≤ a / 60 % 60 by omega) (by omega), asU8_eq _ (show 0 ≤ a % 60 by omega) (by omega),
    ne_eq, not_true_eq_false, false_and, if_false]

theorem parts_hours (a : Int) (h0 : 0 ≤ a) (h1 : a < 86400) :
    offsetParts .hours a = (a / 3600, 0, 0, .hours) := by
  have e1 : Int.tdiv a 3600 = a / 3600 := Int.tdiv_eq_ediv_of_nonneg h0
  simp only [offsetParts, e1, asU8_eq _ (show 0 ≤ a / 3600 by omega) (by omega)]

/-- `OffsetFormat::format` with zero padding, in the four styles the strftime items use -/
theorem offset_format_ok (off : Int) (h : -86400 < off ∧ off < 86400) (style : OffsetStyle) (p : OffsetPrecision)
    (c : Colons)
    (hc : (style = .plain ∧ p = .minutes ∧ (c = .maybe ∨ c = .none)) ∨ (style = .colon ∧ p = .minutes ∧ c = .colon) ∨
       (style = .seconds ∧ p = .seconds ∧ c = .colon) ∨ (style = .hours ∧ p = .hours ∧ c = .none)) (z : Bool) :
    OffsetFormat.format ⟨p, c, z, .zero⟩ off = wok (if z = true ∧ off = 0 then [90] else renderOffset style off) := by
  unfold OffsetFormat.format
  dsimp only
  by_cases hz : z = true ∧ off = 0
  · rw [if_pos hz, if_pos hz]
  · rw [if_neg hz, if_neg hz]
    have habs : (if off < 0 then -off else off) = (off.natAbs : Int) := by split <;> omega
    rw [habs]
    have ha0 : (0 : Int) ≤ off.natAbs := by omega
    have ha1 : (off.natAbs : Int) < 86400 := by omega
    unfold renderOffset
    generalize (off.natAbs : Int) = a at *
    generalize (if off < 0 then 45 else 43 : Nat) = sg at *
    have w1 := write_hundreds_eq ((a + 30) / 60 % 60) (by omega) (by omega)
    have w2 := write_hundreds_eq (a / 60 % 60) (by omega) (by omega)
    have w3 := write_hundreds_eq (a % 60) (by omega) (by omega)
    -- every style alike: the parts, the hour text, the tail; what is left is list bookkeeping
    rcases hc with ⟨rfl, rfl, rfl | rfl⟩ | ⟨rfl, rfl, rfl⟩ | ⟨rfl, rfl, rfl⟩ | ⟨rfl, rfl, rfl⟩ <;>
      simp only [parts_minutes a ha0 ha1, parts_seconds a ha0 ha1, parts_hours a ha0 ha1, tailText, w1, w2, w3] <;>
      rw [hoursText_ok _ (by omega) (by omega) sg] <;>
      simp [W.seq, wok, div60_60]

/-- `%z %:z %::z %:::z` and the `Z` variants, every offset a `FixedOffset` can hold -/
theorem offset_ok (off : Int) (h : -86400 < off ∧ off < 86400) (d : Option Date) (t : Option Time) (name : List Nat)
    (y : Int) (o : Nat) (tt : Time) (f : Fixed)
    (hf : f ∈ [Fixed.timezoneOffset, .timezoneOffsetColon, .timezoneOffsetDoubleColon, .timezoneOffsetTripleColon,
               .timezoneOffsetZ, .timezoneOffsetColonZ]) :
    some (format_fixed d t (some (name, off)) f) = (renderFixed f y o tt off).map wok := by
  have o1 := offset_format_ok off h .plain .minutes .maybe (by decide)
  have o2 := offset_format_ok off h .colon .minutes .colon (by decide)
  have o3 := offset_format_ok off h .seconds .seconds .colon (by decide)
  have o4 := offset_format_ok off h .hours .hours .none (by decide)
  simp only [List.mem_cons, List.mem_nil_iff, or_false] at hf
  rcases hf with rfl | rfl | rfl | rfl | rfl | rfl <;>
    simp only [format_fixed, renderFixed, Option.map_some, o1, o2, o3, o4, Bool.false_eq_true, false_and, true_and,
      if_false]

/-! ### the writer loop -/

theorem formatItemsR_append (d : Option Date) (t : Option Time) (off : Option (List Nat × Int)) (a b : List Item) :
    formatItemsR d t off (a ++ b) = (formatItemsR d t off a).seq (formatItemsR d t off b) := by
  induction a with
  | nil => exact (FormatRfc.nil_seq _).symm
  | cons it rest ih => simp only [List.cons_append, formatItemsR, ih, FormatRfc.seq_assoc]

/-- an `Item::Error` anywhere in the list makes the whole formatting fail (or panic before reaching it) -/
theorem formatItems_error (d : Option Date) (t : Option Time) (off : Option (List Nat × Int)) (is : List Item)
    (h : Item.error ∈ is) : formatItems d t off is = none := by
  obtain ⟨a, b, rfl⟩ := List.append_of_mem h
  unfold formatItems
  rw [formatItemsR_append]
  cases formatItemsR d t off a with
  | panic => rfl
  | ok r => cases r <;> rfl

theorem charLen_pos (b : Nat) : 1 ≤ Scan.charLen b := by unfold Scan.charLen; split <;> (try split) <;> (try split) <;> omega

/-- a character that is not `%` starts a space or literal item -/
theorem parse_next_item_text (l : Bool) (b : Nat) (rest : List Nat) (hb : b ≠ 37) :
    ∃ n, 1 ≤ n ∧ ∃ it, (it = Item.space ((b :: rest).take n) ∨ it = Item.literal ((b :: rest).take n)) ∧
      parse_next_item l (b :: rest) = some ((b :: rest).drop n, it, []) := by
  unfold parse_next_item
  split
  · rename_i h; cases h
  · rename_i r0 h
    injection h with h1 h2
    exact absurd h1 hb
  · rename_i b' tl h
    injection h with h1 h2
    subst h1
    by_cases hw : Scan.wsLen (b :: rest) ≠ 0
    · rw [if_pos hw]
      exact ⟨_, by omega, _, Or.inl rfl, rfl⟩
    · rw [if_neg hw]
      have := charLen_pos b
      exact ⟨_, by omega, _, Or.inr rfl, rfl⟩

/-- text without `%` is copied unchanged, in both modes and whatever the value -/
theorem literal_copied_aux (l : Bool) (d : Option Date) (t : Option Time) (off : Option (List Nat × Int)) :
    ∀ (fuel : Nat) (s : List Nat), s.length < fuel → (∀ b ∈ s, b ≠ 37) →
      formatItemsR d t off (itemsAux l fuel s) = wok s := by
  intro fuel
  induction fuel with
  | zero => intro s h; omega
  | succ f ih =>
    intro s hl hs
    cases s with
    | nil => rfl
    | cons b rest =>
      obtain ⟨n, hn, it, hit, hp⟩ := parse_next_item_text l b rest (hs b (by simp))
      rw [itemsAux, hp]
      dsimp only
      rw [List.nil_append, formatItemsR]
      have hrec := ih ((b :: rest).drop n) (by simp only [List.length_drop, List.length_cons] at *; omega)
        (fun x hx => hs x (List.mem_of_mem_drop hx))
      rw [hrec]
      rcases hit with rfl | rfl <;>
      · simp only [format_item, W.seq, wok, List.take_append_drop]

theorem items_literal (s : List Nat) (hs : ∀ b ∈ s, b ≠ 37) (d : Option Date) (t : Option Time)
    (off : Option (List Nat × Int)) : formatItemsR d t off (items s) = wok s :=
  literal_copied_aux false d t off _ s (Nat.lt_succ_self _) hs

end Chrono.Proofs.FormatL
