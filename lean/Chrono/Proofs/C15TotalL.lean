/-
  C15: totality ("returns normally, fails by value, builds only valid values") of the text entry
  points, assembled from `Proofs/ScanBoundaryL.lean` (every record the parser can build is in type) and
  C14's resolver theorems.  Namespace `Chrono.Proofs.C15Total`.
-/
import Chrono.Proofs.ScanBoundaryL
import Chrono.Props.C14
import Chrono.Model.ParseFrom
import Chrono.Model.TextForms
import Chrono.Model.Rfc2822
import Chrono.Model.Rfc3339
import Chrono.Model.SerdeStr

namespace Chrono.Proofs.C15Total
open Chrono Chrono.M Chrono.M.Scan Chrono.M.Parse Chrono.Spec Chrono.Spec.Fields Chrono.Proofs
open Chrono.Proofs.ParsedRes Chrono.Proofs.ParseInType Chrono.Proofs.ScanBoundary Chrono.Proofs.Ts

/-- a value of one of the four target types satisfies its representation invariant -/
def ValueValid : ParseFrom.Value → Prop
  | .date d => DateInv d
  | .time t => TValid t
  | .naive dt => NDTInv dt
  | .zoned z => ZInv z

/-! ### the resolvers on an in-type record: a valid value or an error kind, never a panic -/

theorem date_total (p : Parsed) (hp : InType p) :
    ∃ r, Parsed.to_naive_date p = .ok r ∧ ∀ d, r = .ok d → DateInv d := by
  obtain ⟨r, hr, hok, _⟩ := date_main p hp
  refine ⟨r, hr, fun d hd => ?_⟩
  obtain ⟨Y, o, ⟨v1, v2, v3, v4⟩, he, _⟩ := hok d hd
  rw [he]; exact (dateInv_of_yo Y o ⟨v1, v2⟩ ⟨v3, v4⟩).1

theorem naive_total (p : Parsed) (hp : InType p) (off : Int) (hoff : -2147483648 ≤ off ∧ off ≤ 2147483647) :
    ∃ r, Parsed.to_naive_datetime_with_offset p off = .ok r ∧ ∀ dt, r = .ok dt → NDTInv dt := by
  obtain ⟨r, hr, _, hok⟩ := dt_main' p hp off hoff
  exact ⟨r, hr, fun dt hd => naiveOk_inv p dt off (hok dt hd)⟩

theorem zoned_total (p : Parsed) (hp : InType p) :
    ∃ r, Parsed.to_datetime p = .ok r ∧ ∀ z, r = .ok z → ZInv z := by
  obtain ⟨r, hr, _, _, hok⟩ := to_datetime_spec p hp
  exact ⟨r, hr, fun z hz => (hok z hz).2.2.1⟩

theorem zoned_tz_total (p : Parsed) (hp : InType p) (zone : Int) (hz : OffValid zone) :
    ∃ r, Parsed.to_datetime_with_timezone p zone = .ok r ∧ ∀ z, r = .ok z → ZInv z := by
  obtain ⟨r, hr, _, hok⟩ := to_datetime_tz_spec p hp zone hz
  exact ⟨r, hr, fun z hz => (hok z hz).2.1⟩

theorem rp_map_total {α β} {x : Parsed.RP α} {P : α → Prop} {Q : β → Prop} (f : α → β)
    (h : ∃ r, x = .ok r ∧ ∀ a, r = .ok a → P a) (hf : ∀ a, P a → Q (f a)) :
    ∃ r, Parsed.RP.bind x (fun a => .ok (.ok (f a))) = .ok r ∧ ∀ b, r = .ok b → Q b := by
  obtain ⟨r, rfl, hv⟩ := h
  cases r with
  | error e => exact ⟨_, rfl, fun _ h => by cases h⟩
  | ok a => exact ⟨_, rfl, fun b hb => by cases hb; exact hf a (hv a rfl)⟩

theorem resolve_total (t : ParseFrom.Target) (p : Parsed) (hp : InType p) :
    ∃ r, ParseFrom.resolve t p = .ok r ∧ ∀ v, r = .ok v → ValueValid v ∧ v.target = t := by
  cases t
  · exact rp_map_total ParseFrom.Value.date (date_total p hp) fun _ h => ⟨h, rfl⟩
  · exact rp_map_total ParseFrom.Value.time ⟨_, rfl, fun x hx => (Chrono.Props.C14.time_sound p x hx).1.1⟩
      fun _ h => ⟨h, rfl⟩
  · exact rp_map_total ParseFrom.Value.naive (naive_total p hp 0 (by omega)) fun _ h => ⟨h, rfl⟩
  · exact rp_map_total ParseFrom.Value.zoned (zoned_total p hp) fun _ h => ⟨h, rfl⟩

/-! ### `parse_from_str` / `parse_and_remainder`: arbitrary text × arbitrary format string -/

theorem fields_inType (s fmt : List Nat) (p : Parsed) (h : ParseFrom.fields s fmt = .ok p) : InType p :=
  parse_inType _ _ _ _ inType_new h

theorem fieldsRem_inType (s fmt : List Nat) (p : Parsed) (rest : List Nat)
    (h : ParseFrom.fieldsRem s fmt = .ok (p, rest)) : InType p :=
  (parse_internal_adv _ _ _ _ h).1 inType_new

theorem parse_from_str_total (t : ParseFrom.Target) (s fmt : List Nat) :
    ∃ r, ParseFrom.parse_from_str t s fmt = .ok r ∧ ∀ v, r = .ok v → ValueValid v ∧ v.target = t := by
  unfold ParseFrom.parse_from_str
  cases hf : ParseFrom.fields s fmt with
  | error e => exact ⟨_, rfl, fun _ h => by cases h⟩
  | ok p => exact resolve_total t p (fields_inType s fmt p hf)

theorem parse_and_remainder_total (t : ParseFrom.Target) (s fmt : List Nat) :
    ∃ r, ParseFrom.parse_and_remainder t s fmt = .ok r ∧
      ∀ v rest, r = .ok (v, rest) → ValueValid v ∧ v.target = t := by
  unfold ParseFrom.parse_and_remainder
  cases hf : ParseFrom.fieldsRem s fmt with
  | error e => exact ⟨_, rfl, fun _ _ h => by cases h⟩
  | ok pr =>
    obtain ⟨p, rest⟩ := pr
    obtain ⟨r, hr, hv⟩ := rp_map_total (Q := fun b => ValueValid b.1 ∧ b.1.target = t) (fun v => (v, rest))
      (resolve_total t p (fieldsRem_inType s fmt p rest hf)) fun _ h => h
    exact ⟨r, hr, fun v rest' h => hv (v, rest') h⟩

/-! ### the RFC 2822 / RFC 3339 readers and the `FromStr` impls -/

theorem rfc2822_total (s : List Nat) :
    ∃ r, Rfc2822.parse_from_rfc2822 s = .ok r ∧ ∀ z, r = .ok z → ZInv z := by
  unfold Rfc2822.parse_from_rfc2822
  cases hp : Parse.parse Parsed.new s Rfc2822.ITEMS with
  | error e => exact ⟨_, rfl, fun _ h => by cases h⟩
  | ok p => exact zoned_total p (parse_inType _ _ _ _ inType_new hp)

theorem rfc3339_total (s : List Nat) :
    ∃ r, Rfc3339.parse_from_rfc3339 s = .ok r ∧ ∀ z, r = .ok z → ZInv z := by
  unfold Rfc3339.parse_from_rfc3339
  cases hp : Parse.parse_rfc3339 Parsed.new s with
  | error e => exact ⟨_, rfl, fun _ h => by cases h⟩
  | ok pr =>
    obtain ⟨p, rest⟩ := pr
    cases rest with
    | nil => exact zoned_total p ((parse_rfc3339_adv (v := false) _ _ _ hp).1 inType_new)
    | cons _ _ => exact ⟨_, rfl, fun _ h => by cases h⟩

theorem date_from_str_total (s : List Nat) :
    ∃ r, TextForms.date_from_str s = .ok r ∧ ∀ d, r = .ok d → DateInv d := by
  unfold TextForms.date_from_str
  cases hp : Parse.parse Parsed.new s TextForms.DATE_ITEMS with
  | error e => exact ⟨_, rfl, fun _ h => by cases h⟩
  | ok p => exact date_total p (parse_inType _ _ _ _ inType_new hp)

theorem naive_from_str_total (s : List Nat) :
    ∃ r, TextForms.naive_from_str s = .ok r ∧ ∀ d, r = .ok d → NDTInv d := by
  unfold TextForms.naive_from_str
  cases hp : Parse.parse Parsed.new s TextForms.DATETIME_ITEMS with
  | error e => exact ⟨_, rfl, fun _ h => by cases h⟩
  | ok p => exact naive_total p (parse_inType _ _ _ _ inType_new hp) 0 (by omega)

theorem fixed_from_str_total (s : List Nat) :
    ∃ r, TextForms.fixed_from_str s = .ok r ∧ ∀ z, r = .ok z → ZInv z := by
  unfold TextForms.fixed_from_str
  cases hp : Parse.parse_rfc3339_relaxed Parsed.new s with
  | error e => exact ⟨_, rfl, fun _ h => by cases h⟩
  | ok pr =>
    obtain ⟨p, rest⟩ := pr
    simp only
    split
    · exact ⟨_, rfl, fun _ h => by cases h⟩
    · exact zoned_total p ((parse_rfc3339_relaxed_adv _ _ _ hp).1 inType_new)

theorem time_from_str_valid (s : List Nat) (t : Time) (h : TextForms.time_from_str s = .ok t) : TValid t := by
  unfold TextForms.time_from_str at h
  split at h
  · cases h
  · dsimp only at h
    split at h
    · cases h
    · exact (Chrono.Props.C14.time_sound _ t h).1.1

theorem offset_from_str_valid (s : List Nat) (o : Int) (h : TextForms.offset_from_str s = .ok o) : OffValid o := by
  unfold TextForms.offset_from_str at h
  split at h
  · cases h
  · split at h
    · rename_i ho; cases h; exact (Chrono.Props.C04.east_opt_iff _).2.2.1 _ ho
    · cases h

end Chrono.Proofs.C15Total
