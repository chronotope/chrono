/-
  Helper lemmas for C12: the ISO 8601 week date.  C01 shows that `Date.iso_week` packs the calendar
  year `Y` and the week `(ot − 1) / 7 + 1` of the Thursday of the date's week, given as the `ot`-th day
  of `Y`; here that pair is identified with the specification's `isoYear` / `isoWeek`, which pick the
  year among `y − 1`, `y`, `y + 1` by comparing the Thursday with the two year boundaries.
-/
import Chrono.Proofs.FormatL
namespace Chrono.Proofs.FormatIsoL
open Chrono Chrono.M Chrono.M.Format Chrono.Spec Chrono.Spec.Strftime Chrono.Extracted Chrono.Proofs.FormatL

/-- the year-ordinal form of the Thursday of the week of day `o` of year `y` is the ISO year and (in
whole weeks) the ISO week.  The Thursday is at most three days from a day of `y`, so it is a day of
`y − 1`, `y` or `y + 1`; `yo_form_unique` turns each case into `Y = …`. -/
theorem isoYear_isoWeek_of_thursday (y : Int) (o : Nat) (ho : 1 ≤ o ∧ o ≤ yearLen y) (Y : Int) (ot : Nat)
    (hot : 1 ≤ ot ∧ ot ≤ yearLen Y) (h : dayNumYo Y ot = isoThursday (dayNumYo y o)) :
    isoYear y o = Y ∧ isoWeek y o = ((ot - 1) / 7 + 1 : Nat) := by
  have hp := Proofs.dby_step (y - 1)
  rw [show y - 1 + 1 = y by omega] at hp
  have hn := Proofs.dby_step y
  have lp := Proofs.yearLen_ge (y - 1)
  have ln := Proofs.yearLen_ge (y + 1)
  have hw := weekdayOf_range (dayNumYo y o)
  obtain ⟨T, hT⟩ : ∃ T, T = isoThursday (dayNumYo y o) := ⟨_, rfl⟩
  have hb : daysBeforeYear y + o - 3 ≤ T ∧ T ≤ daysBeforeYear y + o + 3 := by
    rw [hT, isoThursday]; unfold dayNumYo at hw ⊢; omega
  rw [← hT] at h
  -- if the Thursday is a day of year `z`, then `z` is `Y`
  have key : ∀ z : Int, daysBeforeYear z < T → T ≤ daysBeforeYear z + yearLen z →
      z = Y ∧ T - daysBeforeYear z = ot := by
    intro z h1 h2
    obtain ⟨k, hk⟩ := Int.eq_ofNat_of_zero_le (show 0 ≤ T - daysBeforeYear z by omega)
    obtain ⟨e1, e2⟩ := Props.C01.yo_form_unique z Y k ot (by omega) hot (by rw [h]; unfold dayNumYo; omega)
    exact ⟨e1, by omega⟩
  have hY : isoYear y o = Y ∧ T - daysBeforeYear (isoYear y o) = ot := by
    unfold isoYear
    dsimp only
    rw [← hT]
    split
    · exact key (y - 1) (by omega) (by omega)
    · split
      · exact key (y + 1) (by omega) (by omega)
      · exact key y (by omega) (by omega)
  refine ⟨hY.1, ?_⟩
  unfold isoWeek
  rw [← hT, hY.2]
  omega

/-- the ISO week of the model is the ISO 8601 week date of the specification -/
theorem iso_week_spec (y : Int) (o : Nat) (hy : MIN_YEAR ≤ y ∧ y ≤ MAX_YEAR) (ho : 1 ≤ o ∧ o ≤ yearLen y) :
    ∃ ywf, (dateOfYo y o).iso_week = .ok ywf ∧ IsoWeek.year ywf = isoYear y o ∧
      IsoWeek.week ywf = isoWeek y o := by
  obtain ⟨ywf, Y, ot, h0, h1, h2, h3, h4, h5, -⟩ := Props.C01.iso_week_spec y o hy ho
  obtain ⟨e1, e2⟩ := isoYear_isoWeek_of_thursday y o ho Y ot ⟨h1, h2⟩ h3
  exact ⟨ywf, h0, by rw [h4, e1], by rw [h5, e2]⟩

end Chrono.Proofs.FormatIsoL
