/-
  C14: COMPLETENESS of the zone-aware resolvers on the FIELD path (date fields + time fields sufficient
  on their own, offset field / zone, optional agreeing timestamp): `to_datetime`,
  `to_datetime_with_timezone` (fixed zone), `to_datetime_with_timezone_gen` (any zone) and the step
  zones.  Rests on `date_complete_full`, `time_complete'`, `dt_fields_path`, `zoned_stamp` (C04) and the
  three-stage decomposition of Proofs/ParsedZoneL.lean.
-/
import Chrono.Proofs.ParsedTsCompleteL
import Chrono.Proofs.ParsedZoneL
namespace Chrono.Proofs.ParsedZF
open Chrono Chrono.M Chrono.M.TzL Chrono.Spec Chrono.Spec.Fields Chrono.Spec.Ts Chrono.Extracted
open Chrono.Proofs Chrono.Proofs.Ts Chrono.Proofs.ParsedRes Chrono.Proofs.ParsedZone

/-- completeness of `to_naive_datetime_with_offset` on the field path (the Proofs-level form of
`Props.C14.datetime_complete_fields`) -/
theorem dt_complete_fields (p : Parsed) (hp : InType p) (off : Int)
    (hoff : -2147483648 ≤ off ∧ off ≤ 2147483647) (Y : Int) (o : Nat) (t : Time) (hvd : VD Y o)
    (hag : DateAgrees p Y o)
    (hdY : GroupDeterminate p.year p.year_div_100 p.year_mod_100 Y)
    (hdI : ∀ w, (dateOfYo Y o).iso_week = .ok w →
      GroupDeterminate p.isoyear p.isoyear_div_100 p.isoyear_mod_100 (IsoWeek.year w))
    (hc : UsesCalendar p ∨ UsesIso p) (ht : TStrict t) (hta : TimeAgrees p t) (hts : TimeSufficient p)
    (hstamp : timestampIs p.timestamp ⟨dateOfYo Y o, t⟩ off) :
    Parsed.to_naive_datetime_with_offset p off = .ok (.ok ⟨dateOfYo Y o, t⟩) := by
  have hd := date_complete_full p hp Y o hvd hag hdY hdI hc
  have htt := time_complete' p t ht hta hts
  rw [dt_fields_path p off hoff Y o t hvd ht.1 hd htt]
  cases hg : p.timestamp with
  | none => rfl
  | some g =>
    simp only []
    rw [if_neg]
    rintro ⟨h1, h2⟩
    rcases hstamp g hg with h | h
    · exact h1 h
    · exact h2 h

/-- the timestamp field agrees with the instant of `z` (one more is allowed for a leap second) —
the second half of `Consistent` -/
def StampOf (ts : Option Int) (z : Zoned) : Prop :=
  ∀ g, ts = some g → g = instSecs z.utc ∨ (1000000000 ≤ z.utc.time.frac ∧ g = instSecs z.utc + 1)

/-- a timestamp that agrees with `z` agrees with `z`'s wall clock at `z`'s offset -/
theorem stamp_local (ts : Option Int) (z : Zoned) (hz : ZInv z) (Y : Int) (o : Nat) (t : Time)
    (hvd : VD Y o) (ht : TValid t) (hl : Zoned.naive_local z = .ok ⟨dateOfYo Y o, t⟩)
    (h : StampOf ts z) : timestampIs ts ⟨dateOfYo Y o, t⟩ z.off := by
  obtain ⟨_, hst, hfr⟩ := zoned_stamp z hz Y o t hvd ht hl
  intro g hg
  rcases h g hg with h | ⟨h1, h2⟩
  · left; rw [h, hst]
  · right
    refine ⟨?_, by rw [h2, hst]⟩
    show 1000000000 ≤ t.frac
    rw [← hfr]; exact h1

/-- **field-path completeness of `to_datetime`** -/
theorem to_datetime_complete_fields' (p : Parsed) (hp : InType p) (z : Zoned) (hz : ZInv z)
    (Y : Int) (o : Nat) (t : Time) (hvd : VD Y o) (ht : TStrict t)
    (hl : Zoned.naive_local z = .ok ⟨dateOfYo Y o, t⟩)
    (hag : DateAgrees p Y o)
    (hdY : GroupDeterminate p.year p.year_div_100 p.year_mod_100 Y)
    (hdI : ∀ w, (dateOfYo Y o).iso_week = .ok w →
      GroupDeterminate p.isoyear p.isoyear_div_100 p.isoyear_mod_100 (IsoWeek.year w))
    (hc : UsesCalendar p ∨ UsesIso p) (hta : TimeAgrees p t) (hts : TimeSufficient p)
    (hoff : p.offset = some z.off ∨ (p.offset = none ∧ p.timestamp ≠ none ∧ z.off = 0))
    (hstamp : StampOf p.timestamp z) :
    Parsed.to_datetime p = .ok (.ok z) := by
  have hzo := hz.2
  unfold OffValid at hzo
  exact to_datetime_of_naive p z hz _ (zoned_stamp z hz Y o t hvd ht.1 hl).1
    (dt_complete_fields p hp z.off (by omega) Y o t hvd hag hdY hdI hc ht hta hts
      (stamp_local _ z hz Y o t hvd ht.1 hl hstamp)) hoff

/-- the nanosecond field of a record agreeing with a time of day is a sub-second count -/
theorem nano_of_agrees (p : Parsed) (t : Time) (hta : TimeAgrees p t) :
    0 ≤ p.nanosecond.getD 0 ∧ p.nanosecond.getD 0 < 1000000000 := by
  cases hnn : p.nanosecond with
  | none => simp
  | some n =>
    have := hta.2.2.2.2.1 n hnn
    simp only [Option.getD_some]; omega

/-- **field-path completeness of `to_datetime_with_timezone`, fixed zone** (`hrep`: the supplied
timestamp is a representable instant — automatic unless it is the `+1` reading of a leap second at
the very last representable second, see `tz_leap_at_max`) -/
theorem to_datetime_tz_complete_fields (p : Parsed) (hp : InType p) (z : Zoned) (hz : ZInv z)
    (Y : Int) (o : Nat) (t : Time) (hvd : VD Y o) (ht : TStrict t)
    (hl : Zoned.naive_local z = .ok ⟨dateOfYo Y o, t⟩)
    (hag : DateAgrees p Y o)
    (hdY : GroupDeterminate p.year p.year_div_100 p.year_mod_100 Y)
    (hdI : ∀ w, (dateOfYo Y o).iso_week = .ok w →
      GroupDeterminate p.isoyear p.isoyear_div_100 p.isoyear_mod_100 (IsoWeek.year w))
    (hc : UsesCalendar p ∨ UsesIso p) (hta : TimeAgrees p t) (hts : TimeSufficient p)
    (hoff : ∀ x, p.offset = some x → x = z.off)
    (hstamp : StampOf p.timestamp z) (hrep : ∀ g, p.timestamp = some g → g ≤ TS_MAX) :
    Parsed.to_datetime_with_timezone p z.off = .ok (.ok z) := by
  obtain ⟨hfl, _, _⟩ := zoned_stamp z hz Y o t hvd ht.1 hl
  have hzo := hz.2
  unfold OffValid at hzo
  cases hg : p.timestamp with
  | none =>
    have hn := dt_complete_fields p hp 0 (by omega) Y o t hvd hag hdY hdI hc ht hta hts
      (by rw [hg]; intro g h; cases h)
    simp only [Parsed.to_datetime_with_timezone, hg, bind_okok, hn, hfl]
    cases hpo : p.offset with
    | none => rfl
    | some x => simp [hoff x hpo]
  | some g =>
    have hn := dt_complete_fields p hp z.off (by omega) Y o t hvd hag hdY hdI hc ht hta hts
      (stamp_local _ z hz Y o t hvd ht.1 hl hstamp)
    have hrange := instSecs_range z.utc hz.1
    have hgr : TS_MIN ≤ g ∧ g ≤ TS_MAX := by
      refine ⟨?_, hrep g hg⟩
      rcases hstamp g hg with h | ⟨_, h⟩ <;> omega
    obtain ⟨u, hu, _, _⟩ := from_ts_some g (p.nanosecond.getD 0) hgr (nano_of_agrees p t hta)
    simp only [Parsed.to_datetime_with_timezone, hg, hu, okOr_some, bind_okok, hn, hfl]
    cases hpo : p.offset with
    | none => rfl
    | some x => simp [hoff x hpo]

/-! ### any zone -/

/-- the consistent candidates are exactly `[z]` when `z` is a candidate, consistent, the candidates
are pairwise different and no other candidate is consistent -/
theorem consistent_single (p : Parsed) (m : Mapped Zoned) (z : Zoned) (hmem : z ∈ m.toList)
    (hcons : Consistent p z) (hnd : ∀ a b, m = .ambiguous a b → a ≠ b)
    (hother : ∀ c ∈ m.toList, c ≠ z → ¬ Consistent p c) : consistent p m = [z] := by
  cases m with
  | none => simp [Mapped.toList] at hmem
  | single a =>
    simp only [Mapped.toList, List.mem_cons, List.not_mem_nil, or_false] at hmem
    subst hmem
    unfold consistent
    simp only [Mapped.toList, List.filter, (consistentB_iff p z).mpr hcons]
  | ambiguous a b =>
    have hab := hnd a b rfl
    rw [consistent_pair]
    simp only [Mapped.toList, List.mem_cons, List.not_mem_nil, or_false] at hmem
    rcases hmem with rfl | rfl
    · rw [(consistentB_iff p z).mpr hcons,
        consistentB_false p b (hother b (by simp [Mapped.toList]) (fun h => hab h.symm))]
      rfl
    · rw [(consistentB_iff p z).mpr hcons,
        consistentB_false p a (hother a (by simp [Mapped.toList]) hab)]
      rfl

/-- **field-path completeness for ANY zone**: `z` is a well-formed value whose wall clock is the
day `(Y, o)` at time `t`; the date and time fields agree with that wall clock and are sufficient; the
guessed offset is `z`'s offset whenever a timestamp is supplied (the zone reports `z`'s offset at the
instant of the timestamp — for the instant of `z` itself this says that `z` is a value of this zone);
`z` is among the candidates the zone returns for its wall clock, is consistent with the offset and
timestamp fields and no other candidate is ⇒ exactly `z`. -/
theorem gen_complete_fields (p : Parsed) (hp : InType p) (ofu : NaiveDT → Res Int)
    (fl : NaiveDT → Res (Mapped Zoned)) (z : Zoned) (hz : ZInv z)
    (Y : Int) (o : Nat) (t : Time) (hvd : VD Y o) (ht : TStrict t)
    (hl : Zoned.naive_local z = .ok ⟨dateOfYo Y o, t⟩)
    (hag : DateAgrees p Y o)
    (hdY : GroupDeterminate p.year p.year_div_100 p.year_mod_100 Y)
    (hdI : ∀ w, (dateOfYo Y o).iso_week = .ok w →
      GroupDeterminate p.isoyear p.isoyear_div_100 p.isoyear_mod_100 (IsoWeek.year w))
    (hc : UsesCalendar p ∨ UsesIso p) (hta : TimeAgrees p t) (hts : TimeSufficient p)
    (g : Int) (hg : GuessIs p ofu g) (hgz : p.timestamp ≠ none → g = z.off)
    (m : Mapped Zoned) (hm : fl ⟨dateOfYo Y o, t⟩ = .ok m) (hcand : ∀ c ∈ m.toList, ZInv c)
    (hmem : z ∈ m.toList) (hcons : Consistent p z) (hnd : ∀ a b, m = .ambiguous a b → a ≠ b)
    (hother : ∀ c ∈ m.toList, c ≠ z → ¬ Consistent p c) :
    Parsed.to_datetime_with_timezone_gen p ofu fl = .ok (.ok z) := by
  have hzo := hz.2
  unfold OffValid at hzo
  have hgr : -2147483648 ≤ g ∧ g ≤ 2147483647 := by
    rcases hg with ⟨_, rfl⟩ | ⟨ts, u, h, _⟩
    · omega
    · rw [hgz (by rw [h]; simp)]; omega
  have hst : timestampIs p.timestamp ⟨dateOfYo Y o, t⟩ g := by
    cases hts' : p.timestamp with
    | none => intro x hx; cases hx
    | some ts =>
      rw [hgz (by rw [hts']; simp), ← hts']
      exact stamp_local _ z hz Y o t hvd ht.1 hl hcons.2
  have hn := dt_complete_fields p hp g hgr Y o t hvd hag hdY hdI hc ht hta hts hst
  rw [gen_resolution p hp ofu fl g _ m hg hn hm hcand,
    consistent_single p m z hmem hcons hnd hother]
  rfl

/-! ### step zones -/

/-- every well-formed value that reads `l` on the wall clock of the step zone and carries the zone's
offset at its own instant is among the candidates `from_local_datetime` returns for `l`, provided
the UTC readings of all listed offsets are representable (`hrep`; chrono's provided
`from_local_datetime` turns the whole answer into `None` otherwise) -/
theorem step_candidate_mem (zn : StepZone) (h1 : OffValid zn.o1) (h2 : OffValid zn.o2)
    (l : NaiveDT) (hl : NDTInv l) (c : Zoned) (hc : StepCandidate zn l c)
    (hrep : ∀ o ∈ (zn.local_offsets (instSecs l)).toList, InRangeSecs (instSecs l - o)) :
    ∃ m, zn.from_local_datetime l = .ok m ∧ c ∈ m.toList ∧
      (∀ a b, m = .ambiguous a b → a ≠ b) := by
  obtain ⟨hzi, _, hinst, hfrac, hoffat⟩ := hc
  have hoff : c.off ∈ (zn.local_offsets (instSecs l)).toList := by
    have := (candidates_iff zn (instSecs l) (instSecs c.utc)).mp (by rw [hoffat, hinst]; omega)
    rw [hinst] at this
    have e : instSecs l - (instSecs l - c.off) = c.off := by omega
    rw [e] at this
    exact this
  have hov : ∀ o, o ∈ (zn.local_offsets (instSecs l)).toList → OffValid o := by
    intro o ho
    rcases (local_offsets_mem zn _ o ho).1 with rfl | rfl
    · exact h1
    · exact h2
  -- a listed offset has a representable reading: `checked_sub_offset` answers `some`
  have sub : ∀ o, o ∈ (zn.local_offsets (instSecs l)).toList →
      ∃ u, l.checked_sub_offset o = .ok (some u) ∧ NDTInv u ∧ instSecs u = instSecs l - o ∧
        u.time.frac = l.time.frac := by
    intro o ho
    obtain ⟨r, hr, hnone⟩ := Chrono.Props.C04.fromLocal_fails_iff o l (hov o ho) hl
    obtain ⟨r', hr', hs⟩ := csub_spec o l (hov o ho) hl
    cases r' with
    | none =>
      exfalso
      have : r = none := by
        unfold Zoned.from_local_datetime at hr
        rw [hr'] at hr
        cases hr; rfl
      exact (hnone.mp this) (hrep o ho)
    | some u =>
      obtain ⟨a, _, c', d⟩ := hs u rfl
      exact ⟨u, hr', a.1, c', d⟩
  have same : ∀ u, NDTInv u → instSecs u = instSecs l - c.off → u.time.frac = l.time.frac →
      (⟨u, c.off⟩ : Zoned) = c := by
    intro u hu hs hf
    have : u = c.utc := Ts.inst_inj u c.utc hu hzi.1 (by rw [hs, hinst]) (by rw [hf, hfrac])
    subst this
    cases c; rfl
  unfold StepZone.from_local_datetime StepZone.offset_from_local_datetime
  rw [timestamp_spec l hl]
  simp only [Res.bind]
  cases hm : zn.local_offsets (instSecs l) with
  | none => rw [hm] at hoff; simp [Mapped.toList] at hoff
  | single o =>
    rw [hm] at hoff
    simp only [Mapped.toList, List.mem_cons, List.not_mem_nil, or_false] at hoff
    subst hoff
    obtain ⟨u, hu, hui, hus, huf⟩ := sub c.off (by rw [hm]; simp [Mapped.toList])
    simp only [hu]
    refine ⟨_, rfl, ?_, fun a b h => by cases h⟩
    simp only [Mapped.toList, List.mem_cons, List.not_mem_nil, or_false]
    exact (same u hui hus huf).symm
  | ambiguous a b =>
    obtain ⟨ua, hua, huai, huas, huaf⟩ := sub a (by rw [hm]; simp [Mapped.toList])
    obtain ⟨ub, hub, hubi, hubs, hubf⟩ := sub b (by rw [hm]; simp [Mapped.toList])
    obtain ⟨_, _, _, _, hlt⟩ := ambiguous_order zn _ a b hm
    simp only [hua, hub]
    refine ⟨_, rfl, ?_, ?_⟩
    · rw [hm] at hoff
      simp only [Mapped.toList, List.mem_cons, List.not_mem_nil, or_false] at hoff ⊢
      rcases hoff with h | h
      · left; subst h; exact (same ua huai huas huaf).symm
      · right; subst h; exact (same ub hubi hubs hubf).symm
    · intro a' b' h
      cases h
      intro hab
      have : a = b := congrArg Zoned.off hab
      omega

end Chrono.Proofs.ParsedZF
