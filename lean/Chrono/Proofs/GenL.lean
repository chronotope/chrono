/-
  Helper lemmas for the `gen_*_eq` theorems (Props/GenDate, GenDelta, GenWeekday): the machine-integer
  primitives as conditionals `omega` can read, the lemmas for comparing a generated body with the model's body
  step by step, and the arithmetic reading of bitwise OR on disjoint fields.
-/
import Chrono.Extracted.Gen
import Chrono.Model.Date
import Chrono.Model.Delta
import Chrono.Proofs.PrimL

namespace Chrono.Proofs.GenL
open Chrono Chrono.M Chrono.Extracted

/-! ### checks as conditionals on propositions -/
theorem ite_range {α} (lo hi x : Int) (u v : α) :
    (if (decide (lo ≤ x) && decide (x ≤ hi)) = true then u else v) = if lo ≤ x ∧ x ≤ hi then u else v := by
  by_cases h1 : lo ≤ x <;> by_cases h2 : x ≤ hi <;> simp [h1, h2]
theorem ckI32_def (x : Int) :
    ckI32 x = if -2147483648 ≤ x ∧ x ≤ 2147483647 then .ok x else .panic := ite_range _ _ x _ _
theorem ckI64_def (x : Int) :
    ckI64 x = if -9223372036854775808 ≤ x ∧ x ≤ 9223372036854775807 then .ok x else .panic := ite_range _ _ x _ _
theorem ckU32_def (x : Int) : ckU32 x = if 0 ≤ x ∧ x ≤ 4294967295 then .ok x else .panic := ite_range _ _ x _ _
theorem optI32_def (x : Int) :
    optI32 x = if -2147483648 ≤ x ∧ x ≤ 2147483647 then some x else none := ite_range _ _ x _ _
theorem optI64_def (x : Int) :
    optI64 x = if -9223372036854775808 ≤ x ∧ x ≤ 9223372036854775807 then some x else none := ite_range _ _ x _ _
theorem optU32_def (x : Int) : optU32 x = if 0 ≤ x ∧ x ≤ 4294967295 then some x else none := ite_range _ _ x _ _

theorem ckI32_ok {x : Int} (h : -2147483648 ≤ x ∧ x ≤ 2147483647) : ckI32 x = .ok x := by
  rw [ckI32_def, if_pos h]
theorem ckI64_ok {x : Int} (h : -9223372036854775808 ≤ x ∧ x ≤ 9223372036854775807) : ckI64 x = .ok x := by
  rw [ckI64_def, if_pos h]
theorem ckU32_ok {x : Int} (h : 0 ≤ x ∧ x ≤ 4294967295) : ckU32 x = .ok x := by
  rw [ckU32_def, if_pos h]
theorem ckI128_ok {x : Int}
    (h : -170141183460469231731687303715884105728 ≤ x ∧ x ≤ 170141183460469231731687303715884105727) :
    GenRt.ckI128 x = .ok x :=
  (ite_range _ _ x _ _).trans (if_pos h)

@[simp] theorem bind_ok {α β} (a : α) (f : α → Res β) : Res.bind (.ok a) f = f a := rfl
@[simp] theorem bind_panic {α β} (f : α → Res β) : Res.bind (.panic : Res α) f = .panic := rfl

theorem edivCk_ok {lo hi a b : Int} (hb : b ≠ 0) (h : lo ≤ a / b ∧ a / b ≤ hi) :
    GenRt.edivCk lo hi a b = .ok (a / b) := by
  simp only [GenRt.edivCk, if_neg hb, h.1, h.2, decide_true, Bool.and_self, if_true]
theorem emodCk_ok {lo a b : Int} (hb : b ≠ 0) (h : ¬ (a = lo ∧ b = -1)) :
    GenRt.emodCk lo a b = .ok (a % b) := by
  simp only [GenRt.emodCk, if_neg hb, if_neg h]
theorem tdivCk_ok {lo hi a b : Int} (hb : b ≠ 0) (h : lo ≤ Int.tdiv a b ∧ Int.tdiv a b ≤ hi) :
    GenRt.tdivCk lo hi a b = .ok (Int.tdiv a b) := by
  simp only [GenRt.tdivCk, if_neg hb, h.1, h.2, decide_true, Bool.and_self, if_true]
theorem tmodCk_ok {lo a b : Int} (hb : b ≠ 0) (h : ¬ (a = lo ∧ b = -1)) :
    GenRt.tmodCk lo a b = .ok (Int.tmod a b) := by
  simp only [GenRt.tmodCk, if_neg hb, if_neg h]

theorem idxN_ok {tbl : List Nat} {i : Int} (h : 0 ≤ i ∧ i < tbl.length) :
    GenRt.idxN tbl i = .ok (Int.ofNat (tbl.getD i.toNat 0)) := by
  simp only [GenRt.idxN, if_pos h]

/-- the generated `TimeDelta` structure and the model's `Delta` have the same two fields -/
abbrev dG (d : Delta) : Gen.time_delta.TimeDelta := ⟨d.secs, d.nanos⟩
/-- result of a `Res`-valued model function, mapped into the generated representation -/
abbrev rmap {α β} (f : α → β) (r : Res α) : Res β := Res.bind r fun x => .ok (f x)

/-! ### walking a generated body and the model's body in lock step

Where the two run the same checks in the same order, pushing `rmap` to the leaves makes them the same term;
where one of them relies on the range a value has because it passed a check, `ck*_bind_congr` hands that
range to the continuation. -/
theorem bind_eq {α β} (r : Res α) (f : α → Res β) : (r >>= f) = Res.bind r f := rfl
theorem rmap_bind {α β γ} (φ : β → γ) (r : Res α) (f : α → Res β) :
    rmap φ (Res.bind r f) = Res.bind r fun x => rmap φ (f x) := by cases r <;> rfl
theorem rmap_ite {α β} (φ : α → β) (c : Prop) [Decidable c] (x y : Res α) :
    rmap φ (if c then x else y) = if c then rmap φ x else rmap φ y := by split <;> rfl
/-- one test, written for the code's and for the model's representation of the data, guards both sides;
`F` is the map between the two result types (`rmap φ`, `Option.map φ`, `Res.ok`, …) -/
theorem ite_rmap {α β} {c c' : Prop} [Decidable c] [Decidable c'] {F : α → β} {a b : β} {a' b' : α}
    (hc : c ↔ c') (h1 : c → a = F a') (h2 : ¬c → b = F b') :
    (if c then a else b) = F (if c' then a' else b') := by
  by_cases h : c
  · rw [if_pos h, if_pos (hc.mp h)]; exact h1 h
  · rw [if_neg h, if_neg (fun h' => h (hc.mpr h'))]; exact h2 h
/-- one step of both bodies, already known to agree (`hg`), then continuations that agree on its result -/
theorem bind_rmap {α α' β β'} {ψ : α → α'} {φ : β → β'} {r : Res α} {g : Res α'} {F : α' → Res β'}
    {M : α → Res β} (hg : g = rmap ψ r) (h : ∀ x, F (ψ x) = rmap φ (M x)) :
    Res.bind g F = rmap φ (Res.bind r M) := by
  subst hg
  cases r with
  | ok x => exact h x
  | panic => rfl
/-- the same step on both sides -/
theorem bind_congr_rmap {α β β'} {φ : β → β'} {r : Res α} {F : α → Res β'} {M : α → Res β}
    (h : ∀ x, F x = rmap φ (M x)) : Res.bind r F = rmap φ (Res.bind r M) := by
  cases r with
  | ok x => exact h x
  | panic => rfl
theorem bind_panic_right {α β} (r : Res α) : Res.bind r (fun _ => (.panic : Res β)) = .panic := by
  cases r <;> rfl

theorem bind_eq_ok {α β} {r : Res α} {f : α → Res β} {y : β} (h : Res.bind r f = .ok y) :
    ∃ x, r = .ok x ∧ f x = .ok y := by
  cases r with
  | ok x => exact ⟨x, rfl, h⟩
  | panic => cases h
theorem ckI64_range {x y : Int} (h : ckI64 x = .ok y) : -9223372036854775808 ≤ y ∧ y ≤ 9223372036854775807 := by
  rw [ckI64_def] at h
  split at h
  · cases h; assumption
  · cases h
theorem ckI32_range {x y : Int} (h : ckI32 x = .ok y) : -2147483648 ≤ y ∧ y ≤ 2147483647 := by
  rw [ckI32_def] at h
  split at h
  · cases h; assumption
  · cases h

theorem ite_bind_congr {α β} {c : Prop} [Decidable c] {x : α} {f g : α → Res β} (h : c → f x = g x) :
    Res.bind (if c then .ok x else .panic) f = Res.bind (if c then .ok x else .panic) g := by
  split
  · exact h ‹c›
  · rfl
theorem ckI64_bind_congr {β} {x : Int} {f g : Int → Res β}
    (h : -9223372036854775808 ≤ x ∧ x ≤ 9223372036854775807 → f x = g x) :
    Res.bind (ckI64 x) f = Res.bind (ckI64 x) g := by
  rw [ckI64_def]; exact ite_bind_congr h
theorem ckI32_bind_congr {β} {x : Int} {f g : Int → Res β}
    (h : -2147483648 ≤ x ∧ x ≤ 2147483647 → f x = g x) : Res.bind (ckI32 x) f = Res.bind (ckI32 x) g := by
  rw [ckI32_def]; exact ite_bind_congr h

theorem asU32_range (x : Int) : 0 ≤ asU32 x ∧ asU32 x ≤ 4294967295 := by unfold asU32; omega

/-! ### bitwise OR of disjoint fields is addition -/
/-- OR with a value that fits in a field (bits lo … lo+w-1) which is clear in the other operand is addition -/
theorem nat_lor_field (A B lo w : Nat) (hA : A / 2 ^ lo % 2 ^ w = 0) (hB0 : B % 2 ^ lo = 0)
    (hB1 : B < 2 ^ lo * 2 ^ w) : A ||| B = A + B := by
  have hn : 2 ^ lo * 2 ^ w = 2 ^ (lo + w) := (Nat.pow_add 2 lo w).symm
  -- split at bit lo + w
  have hdiv : (A ||| B) / 2 ^ (lo + w) = A / 2 ^ (lo + w) := by
    have hb : B / 2 ^ (lo + w) = 0 := Nat.div_eq_of_lt (by rw [← hn]; exact hB1)
    rw [Nat.or_div_two_pow, hb, Nat.or_zero]
  have hAmod : A % 2 ^ (lo + w) = A % 2 ^ lo := by
    rw [← hn, Nat.mod_mul, hA, Nat.mul_zero, Nat.add_zero]
  have hBmod : B % 2 ^ (lo + w) = B := Nat.mod_eq_of_lt (by rw [← hn]; exact hB1)
  have hmod : (A ||| B) % 2 ^ (lo + w) = A % 2 ^ lo + B := by
    rw [Nat.or_mod_two_pow, hAmod, hBmod, Nat.or_comm]
    have hB : B = 2 ^ lo * (B / 2 ^ lo) := (Nat.mul_div_cancel' (Nat.dvd_of_mod_eq_zero hB0)).symm
    have := Nat.two_pow_add_eq_or_of_lt (Nat.mod_lt A (Nat.two_pow_pos lo)) (B / 2 ^ lo)
    rw [← hB] at this
    rw [← this, Nat.add_comm]
  have e1 := Nat.div_add_mod (A ||| B) (2 ^ (lo + w))
  have e2 := Nat.div_add_mod A (2 ^ (lo + w))
  rw [hdiv, hmod] at e1
  rw [hAmod] at e2
  omega

/-- unsigned operands: `b` lies in bits lo … lo+w-1, which are clear in `a` -/
theorem lorU_field (lo w : Nat) (a b : Int) (ha : 0 ≤ a) (hb : 0 ≤ b) (h1 : a / 2 ^ lo % 2 ^ w = 0)
    (h2 : b % 2 ^ lo = 0) (h3 : b < 2 ^ lo * 2 ^ w) : GenRt.lorU a b = a + b := by
  obtain ⟨A, rfl⟩ := Int.eq_ofNat_of_zero_le ha
  obtain ⟨B, rfl⟩ := Int.eq_ofNat_of_zero_le hb
  unfold GenRt.lorU
  rw [Int.toNat_natCast, Int.toNat_natCast,
    nat_lor_field A B lo w (by exact_mod_cast h1) (by exact_mod_cast h2) (by exact_mod_cast h3)]
  rfl

/-- the bit pattern of an `i32` is the number itself or, for a negative one, `2^32` more -/
theorem i32_pattern (a : Int) (ha : -2147483648 ≤ a ∧ a ≤ 2147483647) :
    (a % 2 ^ 32).toNat < 2 ^ 32 ∧ ∃ c : Int, (0 ≤ c ∧ c ≤ 1) ∧ ((a % 2 ^ 32).toNat : Int) = a + 2 ^ 32 * c :=
  ⟨by omega, if a < 0 then 1 else 0, by split <;> omega⟩

/-- reading a bit pattern back: the sign bit of the sum is the sign bit of `A` -/
theorem asI32_pattern (a c : Int) (A B : Nat) (ha : -2147483648 ≤ a ∧ a ≤ 2147483647) (hc : 0 ≤ c ∧ c ≤ 1)
    (hA : (A : Int) = a + 2 ^ 32 * c) (h32 : A + B < 2 ^ 32) (h31 : A < 2 ^ 31 → A + B < 2 ^ 31) :
    asI32 ((A + B : Nat) : Int) = a + B := by
  unfold asI32
  simp only
  split <;> omega

/-- `i32` operands: `b` lies in bits lo … lo+w-1 (below the sign bit), which are clear in the two's-complement
pattern of `a` -/
theorem lorI_field (lo w : Nat) (a b : Int) (hw : lo + w ≤ 31) (ha : -2147483648 ≤ a ∧ a ≤ 2147483647)
    (hb : 0 ≤ b) (h1 : a / 2 ^ lo % 2 ^ w = 0) (h2 : b % 2 ^ lo = 0) (h3 : b < 2 ^ lo * 2 ^ w) :
    GenRt.lorI 32 asI32 a b = a + b := by
  obtain ⟨B, rfl⟩ := Int.eq_ofNat_of_zero_le hb
  have hB : B < 2 ^ lo * 2 ^ w := by exact_mod_cast h3
  have hB31 : B < 2 ^ 31 :=
    Nat.lt_of_lt_of_le hB (by rw [← Nat.pow_add]; exact Nat.pow_le_pow_right (by decide) hw)
  have hBB : ((B : Int) % 2 ^ 32).toNat = B := by omega
  obtain ⟨hA32, c, hc, hAc⟩ := i32_pattern a ha
  unfold GenRt.lorI
  rw [hBB]
  generalize (a % 2 ^ 32).toNat = A at hA32 hAc ⊢
  -- 2^32 = 2^lo * (2^w * 2^k): adding a multiple of 2^32 to `a` leaves the field as it is
  have hfield : A / 2 ^ lo % 2 ^ w = 0 := by
    have e : (2 : Int) ^ 32 = 2 ^ lo * (2 ^ w * 2 ^ (32 - lo - w)) := by
      rw [← Int.pow_add, ← Int.pow_add]; congr 1; omega
    have : (A : Int) / 2 ^ lo % 2 ^ w = 0 := by
      rw [hAc, e, Int.mul_assoc, Int.add_mul_ediv_left _ _ (Int.pow_ne_zero (by decide)), Int.mul_assoc,
        Int.add_mul_emod_self_left, h1]
    exact_mod_cast this
  have hor := nat_lor_field A B lo w hfield (by exact_mod_cast h2) hB
  -- OR carries nothing into the sign bit or out of it
  have h32 : A ||| B < 2 ^ 32 := Nat.or_lt_two_pow hA32 (by omega)
  have h31 : A < 2 ^ 31 → A ||| B < 2 ^ 31 := fun h => Nat.or_lt_two_pow h hB31
  rw [hor] at h32 h31 ⊢
  exact asI32_pattern a c A B ha hc hAc h32 h31

theorem lor_small : ∀ p : Nat, p < 2 → ∀ f : Nat, f < 16 → (p * 8 ||| f) = max p (f / 8 % 2) * 8 + f % 8 := by
  decide +kernel

/-- `(mdl << 3) | flags` with a 4-bit `flags`: bit 3 is the OR of the two bit-3s -/
theorem nat_lor_bit3 (m f : Nat) (hf : f < 16) :
    (m * 8 ||| f) = (m / 2) * 16 + max (m % 2) (f / 8 % 2) * 8 + f % 8 := by
  have h1 : m * 8 = (m / 2) * 16 ||| (m % 2) * 8 := by
    rw [nat_lor_field ((m / 2) * 16) ((m % 2) * 8) 0 4 (by omega) (by omega) (by omega)]
    omega
  have h2 := lor_small (m % 2) (by omega) f hf
  have h3 : (m % 2) * 8 ||| f < 16 := by rw [h2]; omega
  rw [h1, Nat.or_assoc,
    nat_lor_field ((m / 2) * 16) ((m % 2) * 8 ||| f) 0 4 (by omega) (by omega) (by omega),
    h2]
  omega

/-- linear-time table check: every element `v` at index `i` (counted from `k`) satisfies `p i v` -/
def allIdx (p : Nat → Nat → Bool) : List Nat → Nat → Bool
  | [], _ => true
  | v :: t, k => p k v && allIdx p t (k + 1)

theorem allIdx_getD (p : Nat → Nat → Bool) (l : List Nat) (k : Nat) (h : allIdx p l k = true)
    (i : Nat) (hi : i < l.length) : p (k + i) (l.getD i 0) = true := by
  induction l generalizing k i with
  | nil => simp at hi
  | cons v t ih =>
    simp only [allIdx, Bool.and_eq_true] at h
    cases i with
    | zero => simpa using h.1
    | succ j =>
      have := ih (k + 1) h.2 j (by simpa using hi)
      simpa [Nat.add_assoc, Nat.add_comm 1 j] using this

theorem tbl_ol : OL_TO_MDL.length = 733 ∧ ∀ i : Nat, i < 733 → OL_TO_MDL.getD i 0 ≤ 100 := by
  have hl : OL_TO_MDL.length = 733 := by decide +kernel
  have h : allIdx (fun _ v => decide (v ≤ 100)) OL_TO_MDL 0 = true := by decide +kernel
  refine ⟨hl, fun i hi => ?_⟩
  simpa using allIdx_getD _ _ 0 h i (by omega)
theorem tbl_mdl : MDL_TO_OL.length = 832 ∧
    ∀ i : Nat, i < 832 → MDL_TO_OL.getD i 0 ≤ i ∧ MDL_TO_OL.getD i 0 ≤ 100 ∧
      (MDL_TO_OL.getD i 0 = 0 ∨ (2 ≤ i - MDL_TO_OL.getD i 0 ∧ i ≤ MDL_TO_OL.getD i 0 + 732)) ∧
      MDL_TO_OL.getD i 0 % 2 = 0 := by
  have hl : MDL_TO_OL.length = 832 := by decide +kernel
  have h : allIdx (fun i v => decide (v ≤ i ∧ v ≤ 100 ∧ (v = 0 ∨ (2 ≤ i - v ∧ i ≤ v + 732)) ∧ v % 2 = 0)) MDL_TO_OL 0 = true := by
    decide +kernel
  refine ⟨hl, fun i hi => ?_⟩
  simpa using allIdx_getD _ _ 0 h i (by omega)
theorem tbl_y2f : YEAR_TO_FLAGS.length = 400 ∧ ∀ i : Nat, i < 400 → YEAR_TO_FLAGS.getD i 0 < 16 := by
  have hl : YEAR_TO_FLAGS.length = 400 := by decide +kernel
  have h : allIdx (fun _ v => decide (v < 16)) YEAR_TO_FLAGS 0 = true := by decide +kernel
  refine ⟨hl, fun i hi => ?_⟩
  simpa using allIdx_getD _ _ 0 h i (by omega)
theorem tbl_yd : YEAR_DELTAS.length = 401 ∧ YEAR_DELTAS.getD 0 0 = 0 ∧
    ∀ i : Nat, i < 401 → YEAR_DELTAS.getD i 0 ≤ 97 := by
  have hl : YEAR_DELTAS.length = 401 := by decide +kernel
  have h : allIdx (fun _ v => decide (v ≤ 97)) YEAR_DELTAS 0 = true := by decide +kernel
  refine ⟨hl, by decide +kernel, fun i hi => ?_⟩
  simpa using allIdx_getD _ _ 0 h i (by omega)

/-- `u32`: `(m << 3) | flags` for a 4-bit `flags` -/
theorem lorU_bit3 (m f : Nat) (hm : m * 8 < 4294967296) (hf : f < 16) :
    GenRt.lorU ((m : Int) * 8 % 4294967296) f = ((m / 2 * 16 + max (m % 2) (f / 8 % 2) * 8 + f % 8 : Nat) : Int) := by
  unfold GenRt.lorU
  have e : ((m : Int) * 8 % 4294967296).toNat = m * 8 := by omega
  rw [e, Int.toNat_natCast, nat_lor_bit3 m f hf]
  rfl

theorem ok_some_mk_eq {a b c d : Int} (h1 : a = c) (h2 : b = d) :
    Res.ok (some (Gen.time_delta.TimeDelta.mk a b)) = Res.ok (Option.map dG (some ⟨c, d⟩)) := by
  subst h1; subst h2; rfl
theorem absCk_eq (x : Int) : GenRt.absCk (-9223372036854775808) x = Delta.absI64 x := rfl
theorem tdivCk64_eq (a b : Int) (hb : b ≠ 0) :
    GenRt.tdivCk (-9223372036854775808) 9223372036854775807 a b = ckI64 (Int.tdiv a b) := by
  unfold GenRt.tdivCk
  rw [if_neg hb, ckI64_def]
  exact ite_range _ _ _ _ _
/-- a truncated quotient lies in every symmetric interval that holds the dividend -/
theorem tdiv_bound (a k B : Int) (h : -B ≤ a ∧ a ≤ B) : -B ≤ Int.tdiv a k ∧ Int.tdiv a k ≤ B := by
  have := Int.natAbs_tdiv_le_natAbs a k
  omega
theorem mul_bound (x y : Int) (A B : Nat) (hx : x.natAbs ≤ A) (hy : y.natAbs ≤ B) :
    (x * y).natAbs ≤ A * B := by
  rw [Int.natAbs_mul]; exact Nat.mul_le_mul hx hy

theorem tbl_yd400 : YEAR_DELTAS.getD 400 0 = 97 := by decide +kernel

end Chrono.Proofs.GenL
