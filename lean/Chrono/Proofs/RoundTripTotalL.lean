/-
  C13: what happens on the values the family theorems exclude.
  * zone-aware values with a field format whose truncated local reading cannot be put back at the printed
    (minute-rounded) offset: the resolver answers IMPOSSIBLE (`family_zoned_total`);
  * a leap-second representation on a second other than :59 (only `with_nanosecond` builds it): a `NaiveTime`
    is formatted exactly like the normalised time one second later (`leap_format_normalised`).
  Namespace `Chrono.Proofs.RoundTrip`.
-/
import Chrono.Proofs.RoundTripFormatOkL
import Chrono.Proofs.ZonedL
import Chrono.Proofs.ZonedStepL

namespace Chrono.Proofs.RoundTrip
open Chrono Chrono.M Chrono.M.Scan Chrono.Spec Chrono.Spec.Fields Chrono.Extracted Chrono.Proofs Chrono.Proofs.ParsedRes

theorem truncTime_valid (is : List Item) (t : Time) (h : TValid t) : TValid (truncTime is t) := by
  obtain ⟨t1, t2, t3, t4⟩ := h
  obtain ⟨c1, c2⟩ := cutFrac_bounds t.frac (fracDigits is) t3
  unfold TValid truncTime
  dsimp only
  split
  · dsimp only; omega
  · dsimp only; split <;> omega

/-- a format that prints the second and nine fraction digits prints the whole time -/
theorem truncTime_exact (is : List Item) (t : Time) (h : TValid t) (hs : (carries is).second = true)
    (hf : fracDigits is = 9) : truncTime is t = t := by
  obtain ⟨_, _, t3, t4⟩ := h
  have e9 := (cutFrac_forms t.frac).1
  simp only [truncTime, hs, hf, e9, Bool.true_eq_false, if_false]
  cases t with
  | mk secs frac =>
    simp only [Time.mk.injEq, true_and]
    simp only at t3 t4
    split <;> omega

/-- putting a local reading (an existing day, a valid time) back at an offset never panics -/
theorem from_local_no_panic (off : Int) (ho : -86400 < off ∧ off < 86400) (Y : Int) (o : Nat) (hvd : VD Y o)
    (t : Time) (ht : TValid t) : ∃ r, Zoned.from_local_datetime off ⟨dateOfYo Y o, t⟩ = .ok r := by
  obtain ⟨v1, v2, v3, v4⟩ := hvd
  have hdi := (Chrono.Proofs.Ts.dateInv_of_yo Y o ⟨v1, v2⟩ ⟨v3, v4⟩).1
  have hext := ((Chrono.Proofs.dateInv_iff _).mp hdi).1
  obtain ⟨r, h, _⟩ := Chrono.Proofs.from_local_spec off ⟨dateOfYo Y o, t⟩ ho ⟨hext, ht⟩
  exact ⟨r, h⟩

/-- **round trip, target `DateTime<FixedOffset>`, field formats, total form**: whatever
`from_local_datetime` answers for the truncated local reading at the printed offset decides the result —
the value `Spec.truncate_to_precision` predicts, or IMPOSSIBLE when that instant lies outside the supported
range and the specification predicts nothing -/
theorem family_zoned_total (is : List Item) (z : Zoned) (Y : Int) (o : Nat) (hvd : VD Y o) (t : Time) (htv : TValid t)
    (hl : z.overflowing_naive_local = .ok ⟨dateOfYo Y o, t⟩) (hzo : -86400 < z.off ∧ z.off < 86400)
    (text : List Nat) (hp : ∀ it ∈ is, provedItem it = true) (hU : Unambiguous is .zoned)
    (hfd : fullDate (carries is) = true) (hft : fullTime (carries is) = true)
    (hot : (carries is).offset = true ∨ (carries is).timestamp = true) (hsafe : spaceSafe is = true)
    (hE : expressible is (.zoned z))
    (hfmt : ParseFrom.formatItemsOf (.zoned z) is = Format.wok text) :
    ∃ p', Parse.parse Parsed.new text is = .ok p' ∧
      ParseFrom.resolve .zoned p' =
        match truncate_to_precision is (.zoned z) with
        | some v' => .ok (.ok v')
        | none => .ok (.error .impossible) := by
  obtain ⟨fy, _⟩ := date_facts Y o hvd
  obtain ⟨_, ⟨hsep, _⟩, hg1, hg2, _⟩ := hU
  obtain ⟨hEy, hEl, hEo, hEs, hEf⟩ := hE
  have hEl := exprLeap_of_for is _ hft hEl
  simp only [exprLeap, shown, hl, onSome] at hEl
  simp only [exprFrac, shown, hl, onSome] at hEf
  simp only [exprYears, shown, hl, onSome, fy] at hEy
  simp only [exprStamp, shown, hl, onSome] at hEs
  simp only [exprOffset, shown, hl, onSome] at hEo
  simp only [ParseFrom.formatItemsOf, hl, Format.W.ofRes] at hfmt
  generalize hoff' : (if (carries is).offset = true then roundedOffset z.off else 0) = off'
  have hr1 : -86400 < off' ∧ off' < 86400 := by
    rw [← hoff']
    by_cases ho : (carries is).offset = true
    · rw [if_pos ho]; exact hEo ho
    · rw [if_neg ho]; omega
  have hstampOff : (carries is).timestamp = true → off' = z.off := by
    intro hts
    have := (hEs hts hfd hft).1
    rw [← hoff']
    by_cases ho : (carries is).offset = true
    · rw [if_pos ho] at this ⊢; exact rounded_of_whole _ this
    · rw [if_neg ho] at this ⊢; exact this.symm
  obtain ⟨p', h1, h2, hoS, hoI, htI⟩ := family_datetime_core is Y o hvd t htv
    ⟨some (dateOfYo Y o), some t, some (Format.fixedOffsetName z.off, z.off)⟩ rfl rfl
    (fun x h => by cases h; exact hzo) (roundedOffset z.off) off' (fun x h => by cases h; rfl)
    (rounded_range z.off hzo) hr1 text hp hsep hg1 hg2 hfd hft hsafe
    (fun w hw => by rw [hw] at hEy; exact hEy) hEl hEf hstampOff
    (fun hts hs => (hEs hts hfd hft).2 hs) hfmt
  refine ⟨p', h1, ?_⟩
  have hoffsel : p'.offset = some off' ∨ (p'.offset = none ∧ p'.timestamp ≠ none ∧ off' = 0) := by
    by_cases ho : (carries is).offset = true
    · rw [ho] at hoI
      cases hpo : p'.offset with
      | none => rw [hpo] at hoI; cases hoI
      | some x =>
        have := hoS x hpo
        left; rw [← hoff', if_pos ho, this]
    · have hto : (carries is).timestamp = true := by
        rcases hot with h | h
        · exact absurd h ho
        · exact h
      have ho' : (carries is).offset = false := by simpa using ho
      rw [ho'] at hoI
      rw [hto] at htI
      exact Or.inr ⟨(isSome_false_iff _).mp hoI, (isSome_true_iff _).mp htI, by rw [← hoff', if_neg ho]⟩
  have heast : Zoned.east_opt off' = some off' := by
    unfold Zoned.east_opt; rw [if_pos hr1]
  obtain ⟨r, hr⟩ := from_local_no_panic off' hr1 Y o hvd (truncTime is t) (truncTime_valid _ t htv)
  simp only [ParseFrom.resolve, to_datetime_of p' off' _ hoffsel h2 heast, truncate_to_precision, hfd, hft,
    Bool.and_self, if_true, hl, hoff', wallInRange_vd Y o hvd, hr]
  cases r <;> rfl

/-! ### leap-second representation on a second other than :59 -/

/-- the normalised reading of such a time: one second later, fraction below one second -/
def leapNormal (t : Time) : Time := ⟨t.secs + 1, t.frac - 1000000000⟩

/-- every item prints a time of day in leap representation off :59 like the normalised time, whatever date
and offset the context shows — except the items that print the instant as a whole (`%s` and the RFC items)
when there is a date to take it from: the normalised time is one second later -/
theorem leap_item_same (d : Option Date) (off : Option (List Nat × Int)) (t : Time) (hv : TValid t)
    (hl : 1000000000 ≤ t.frac) (hs : t.secs % 60 ≠ 59) (it : Item)
    (hi : d = none ∨ ((∀ pad, it ≠ .numeric .timestamp pad) ∧ it ≠ .fixed .rfc2822 ∧ it ≠ .fixed .rfc3339)) :
    Format.format_item d (some t) off it = Format.format_item d (some (leapNormal t)) off it := by
  obtain ⟨t1, t2, t3, t4⟩ := hv
  have hq : (t.secs + 1) / 60 = t.secs / 60 := by omega
  have hh : t.hour = (leapNormal t).hour := by
    unfold leapNormal Time.hour Time.hms; dsimp only; rw [hq]
  have hm : t.minute = (leapNormal t).minute := by
    unfold leapNormal Time.minute Time.hms; dsimp only; rw [hq]
  have h12 : t.hour12 = (leapNormal t).hour12 := by
    unfold Time.hour12; rw [hh]
  have hsec : t.second + t.nanosecond / 1000000000 =
      (leapNormal t).second + (leapNormal t).nanosecond / 1000000000 := by
    unfold leapNormal Time.second Time.nanosecond Time.hms; dsimp only; omega
  have hn9 : t.nanosecond % 1000000000 = (leapNormal t).nanosecond % 1000000000 := by
    unfold leapNormal Time.nanosecond; dsimp only; omega
  have hn3 : t.nanosecond / 1000000 % 1000 = (leapNormal t).nanosecond / 1000000 % 1000 := by
    unfold leapNormal Time.nanosecond; dsimp only; omega
  have hn6 : t.nanosecond / 1000 % 1000000 = (leapNormal t).nanosecond / 1000 % 1000000 := by
    unfold leapNormal Time.nanosecond; dsimp only; omega
  -- the items that read the time read it through the views above; the others need the date or the offset
  -- to be known before `format_numeric` / `format_fixed` say what they print
  cases it with
  | literal l => rfl
  | space s => rfl
  | error => rfl
  | numeric n pad =>
    cases n with
    | timestamp =>
      rcases hi with rfl | hi
      · rfl
      · exact absurd rfl (hi.1 pad)
    | hour | hour12 | minute | second | nanosecond =>
      simp only [Format.format_item, Format.format_numeric, hh, hm, h12, hsec, hn9]
    | _ => cases d <;> rfl
  | fixed f =>
    cases f with
    | rfc2822 | rfc3339 =>
      rcases hi with rfl | hi
      · rfl
      · simp only [ne_eq, not_true_eq_false, and_false, false_and] at hi
    | lowerAmPm | upperAmPm | nanosecond | nanosecond3 | nanosecond6 | nanosecond9 | nanosecond3NoDot
    | nanosecond6NoDot | nanosecond9NoDot =>
      simp only [Format.format_item, Format.format_fixed, h12, hn9, hn3, hn6]
    | _ => cases d <;> cases off <;> rfl

/-- two contexts in which every item of the list prints alike print the list alike -/
theorem formatItemsR_congr {d d' : Option Date} {t t' : Option Time} {off off' : Option (List Nat × Int)} :
    ∀ (is : List Item), (∀ it ∈ is, Format.format_item d t off it = Format.format_item d' t' off' it) →
      Format.formatItemsR d t off is = Format.formatItemsR d' t' off' is
  | [], _ => rfl
  | it :: is, h => by
    simp only [Format.formatItemsR, h it List.mem_cons_self,
      formatItemsR_congr is fun x hx => h x (List.mem_cons_of_mem _ hx)]

/-- **a `NaiveTime` in leap representation off second :59 is formatted, by every format string, exactly
like the normalised time one second later** — so what reads back is (the truncation of) that normalised
time, a different `NaiveTime` value -/
theorem leap_format_normalised (t : Time) (hv : TValid t) (hl : 1000000000 ≤ t.frac) (hs : t.secs % 60 ≠ 59)
    (is : List Item) :
    ParseFrom.formatItemsOf (.time t) is = ParseFrom.formatItemsOf (.time (leapNormal t)) is :=
  formatItemsR_congr is fun it _ => leap_item_same none none t hv hl hs it (Or.inl rfl)

/-- a format with a full date, a full time with the second and nine fraction digits, and an offset item
loses nothing of a zone-aware value with a whole-minute offset -/
theorem truncate_zoned_exact (is : List Item) (z : Zoned) (hz : ZInv z) (l : NaiveDT)
    (hl : z.overflowing_naive_local = .ok l) (htv : TValid l.time) (hw : wallInRange l.date = true)
    (hfd : fullDate (carries is) = true) (hft : fullTime (carries is) = true)
    (hs : (carries is).second = true) (hf : fracDigits is = 9) (ho : (carries is).offset = true)
    (hm : z.off % 60 = 0) : truncate_to_precision is (.zoned z) = some (.zoned z) := by
  cases l with
  | mk d t =>
    simp only [truncate_to_precision, hfd, hft, Bool.and_self, if_true, hl, ho, rounded_of_whole _ hm, hw,
      truncTime_exact is t htv hs hf, Chrono.Proofs.ZN.from_local_of_wall z hz ⟨d, t⟩ hl]

theorem truncTime_leap_ne (is : List Item) (t : Time) (hv : TValid t) (hl : 1000000000 ≤ t.frac)
    (hs : t.secs % 60 ≠ 59) : truncTime is (leapNormal t) ≠ t := by
  obtain ⟨t1, t2, t3, t4⟩ := hv
  have h0 : 0 ≤ (leapNormal t).frac := by unfold leapNormal; dsimp only; omega
  obtain ⟨c1, c2⟩ := cutFrac_bounds (leapNormal t).frac (fracDigits is) h0
  intro h
  have hf := congrArg Time.frac h
  unfold truncTime at hf
  dsimp only at hf
  have hlt : (leapNormal t).frac < 1000000000 := by unfold leapNormal; dsimp only; omega
  split at hf
  · dsimp only at hf; omega
  · dsimp only at hf
    rw [if_neg (by omega)] at hf
    omega

theorem leapNormal_valid (t : Time) (hv : TValid t) (hl : 1000000000 ≤ t.frac) (hs : t.secs % 60 ≠ 59) :
    TValid (leapNormal t) ∧ (leapNormal t).frac < 1000000000 := by
  obtain ⟨t1, t2, t3, t4⟩ := hv
  unfold TValid leapNormal
  dsimp only
  omega

end Chrono.Proofs.RoundTrip
