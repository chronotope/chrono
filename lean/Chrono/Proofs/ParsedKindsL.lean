/-
  C14: WHICH error `to_naive_datetime_with_offset` reports: NOT_ENOUGH / IMPOSSIBLE / OUT_OF_RANGE
  characterised through the results of the component resolvers and the Spec predicates
  `DateSufficient`, `TimeSufficient`, `GroupUsable`; and how NOT_ENOUGH reaches the zone-aware
  resolvers (their stage-by-stage theorems are in Props/C14.lean).
-/
import Chrono.Proofs.ParsedZFieldsL
namespace Chrono.Proofs.ParsedKinds
open Chrono Chrono.M Chrono.M.TzL Chrono.Spec Chrono.Spec.Fields Chrono.Spec.Ts Chrono.Extracted
open Chrono.Proofs Chrono.Proofs.Ts Chrono.Proofs.ParsedRes Chrono.Proofs.ParsedZone Chrono.Proofs.ParsedZF

/-- the fall-back path reports NOT_ENOUGH only for a century-only ISO year group: everything else it
needs it takes from the timestamp -/
theorem ts_path_not_enough (p : Parsed) (hp : InType p) (off timestamp : Int)
    (h : Parsed.from_timestamp_path p off timestamp = .ok (.error .notEnough)) :
    ¬ GroupUsable p.isoyear p.isoyear_div_100 p.isoyear_mod_100 := by
  rcases ts_path_form p hp off timestamp with ⟨e, he, hr⟩ | ⟨d', s', _, _, _, _, _, hp4, hr⟩
  · rw [hr] at h
    cases h
    rcases he with h' | h' <;> cases h'
  -- the record now holds year and ordinal, hour, minute and second: only the ISO year group can be wanting
  rw [hr] at h
  obtain ⟨r2, hr2, _, _, hne2⟩ := date_main _ hp4
  rw [hr2] at h
  cases r2 with
  | error e =>
    cases h
    exact fun hu => hne2 rfl ⟨fun hh => (by cases hh.1), hu,
      Or.inl ⟨Or.inl (Option.some_ne_none _), Or.inr (Or.inl (Option.some_ne_none _))⟩⟩
  | ok date =>
    rw [bind_okok, Parsed.liftP] at h
    cases htm : Parsed.to_naive_time (filled p s' d'.date.year d'.date.ordinal d'.time.hour d'.time.minute) with
    | ok t => rw [htm] at h; cases h
    | error e =>
      rw [htm] at h
      cases h
      rcases time_err' _ _ htm with ⟨_, h'⟩ | ⟨h', _⟩
      · exact absurd ⟨Option.some_ne_none _, Option.some_ne_none _, Option.some_ne_none _,
          fun _ => Option.some_ne_none _⟩ h'
      · cases h'

/-- `to_naive_datetime_with_offset` WITHOUT a timestamp field: the date resolver's error, else the
time resolver's error, else the pair -/
theorem dt_no_timestamp (p : Parsed) (hp : InType p) (off : Int)
    (hoff : -2147483648 ≤ off ∧ off ≤ 2147483647) (hts : p.timestamp = none) :
    ∃ rd, Parsed.to_naive_date p = .ok rd ∧
      Parsed.to_naive_datetime_with_offset p off = .ok (match rd, Parsed.to_naive_time p with
        | .error e, _ => .error e
        | .ok _, .error e => .error e
        | .ok d, .ok t => .ok ⟨d, t⟩) := by
  obtain ⟨rd, hrd, hokd, _, _⟩ := date_main p hp
  refine ⟨rd, hrd, ?_⟩
  cases rd with
  | error e =>
    unfold Parsed.to_naive_datetime_with_offset
    rw [hrd]
    simp only [hts]
  | ok d =>
    cases htm : Parsed.to_naive_time p with
    | error e =>
      unfold Parsed.to_naive_datetime_with_offset
      rw [hrd, htm]
      simp only [hts]
    | ok t =>
      obtain ⟨Y, o, hvd, rfl, _⟩ := hokd d rfl
      rw [dt_fields_path p off hoff Y o t hvd (time_sound' p t htm).1.1 hrd htm, hts]

/-- `to_naive_datetime_with_offset` WITH a timestamp field when date and time do not both resolve:
OUT_OF_RANGE if either resolver says so, else IMPOSSIBLE if either says so, else the fall-back path -/
theorem dt_with_timestamp (p : Parsed) (hp : InType p) (off ts : Int) (hts : p.timestamp = some ts)
    (hnb : ¬ ∃ d t, Parsed.to_naive_date p = .ok (.ok d) ∧ Parsed.to_naive_time p = .ok t) :
    ∃ rd, Parsed.to_naive_date p = .ok rd ∧
      Parsed.to_naive_datetime_with_offset p off =
        (if rd = .error .outOfRange ∨ Parsed.to_naive_time p = .error .outOfRange then .ok (.error .outOfRange)
         else if rd = .error .impossible ∨ Parsed.to_naive_time p = .error .impossible then .ok (.error .impossible)
         else Parsed.from_timestamp_path p off ts) := by
  obtain ⟨rd, hrd, _, _, _⟩ := date_main p hp
  refine ⟨rd, hrd, ?_⟩
  have errIs_iff : ∀ {α} [DecidableEq α] (x : PRes α) (k : PErr), Parsed.errIs x k = true ↔ x = .error k := by
    intro α _ x k
    cases x with
    | ok a => simp [Parsed.errIs]
    | error e => simp [Parsed.errIs]
  have tail : (match p.timestamp with
        | some timestamp =>
          if Parsed.errIs rd .outOfRange || Parsed.errIs (Parsed.to_naive_time p) .outOfRange then .ok (.error .outOfRange)
          else if Parsed.errIs rd .impossible || Parsed.errIs (Parsed.to_naive_time p) .impossible then .ok (.error .impossible)
          else Parsed.from_timestamp_path p off timestamp
        | none =>
          match rd with
          | .error e => .ok (.error e)
          | .ok _ => match Parsed.to_naive_time p with
            | .error e => .ok (.error e)
            | .ok _ => .panic : Parsed.RP NaiveDT) =
      (if rd = .error .outOfRange ∨ Parsed.to_naive_time p = .error .outOfRange then .ok (.error .outOfRange)
         else if rd = .error .impossible ∨ Parsed.to_naive_time p = .error .impossible then .ok (.error .impossible)
         else Parsed.from_timestamp_path p off ts) := by
    rw [hts]
    simp only [Bool.or_eq_true, errIs_iff]
  unfold Parsed.to_naive_datetime_with_offset
  rw [hrd]
  simp only []
  cases rd with
  | error e =>
    cases htm : Parsed.to_naive_time p with
    | error e2 => rw [htm] at tail; exact tail
    | ok t => rw [htm] at tail; exact tail
  | ok d =>
    cases htm : Parsed.to_naive_time p with
    | error e2 => rw [htm] at tail; exact tail
    | ok t => exact absurd ⟨d, t, hrd, htm⟩ hnb

/-- NOT_ENOUGH of the date-time resolver, EVERY record: it implies that the record does not hold a
sufficient date AND a sufficient time combination; and with a timestamp field it is reported only for
a century-only ISO year group (the timestamp supplies everything else) -/
theorem dt_not_enough_only (p : Parsed) (hp : InType p) (off : Int)
    (hoff : -2147483648 ≤ off ∧ off ≤ 2147483647)
    (h : Parsed.to_naive_datetime_with_offset p off = .ok (.error .notEnough)) :
    ¬ (DateSufficient p ∧ TimeSufficient p) ∧
    (p.timestamp ≠ none → ¬ GroupUsable p.isoyear p.isoyear_div_100 p.isoyear_mod_100) := by
  obtain ⟨rd0, hrd0, hokd, _, hned⟩ := date_main p hp
  cases hts : p.timestamp with
  | none =>
    refine ⟨?_, fun hh => absurd rfl hh⟩
    obtain ⟨rd, hrd, hres⟩ := dt_no_timestamp p hp off hoff hts
    rw [hrd0] at hrd; cases hrd
    rw [hres] at h
    cases rd0 with
    | error e =>
      simp only [] at h
      cases h
      exact fun hs => hned rfl hs.1
    | ok d =>
      cases htm : Parsed.to_naive_time p with
      | error e =>
        rw [htm] at h
        simp only [] at h
        cases h
        rcases time_err' p _ htm with ⟨_, h2⟩ | ⟨h1, _⟩
        · exact fun hs => h2 hs.2
        · cases h1
      | ok t => rw [htm] at h; cases h
  | some ts =>
    by_cases hb : ∃ d t, Parsed.to_naive_date p = .ok (.ok d) ∧ Parsed.to_naive_time p = .ok t
    · exfalso
      obtain ⟨d, t, hd, ht⟩ := hb
      obtain ⟨Y, o, hvd, rfl, _⟩ := hokd d (by rw [hrd0] at hd; cases hd; rfl)
      rw [dt_fields_path p off hoff Y o t hvd (time_sound' p t ht).1.1 hd ht, hts] at h
      simp only [] at h
      split at h <;> cases h
    · obtain ⟨rd, hrd, hres⟩ := dt_with_timestamp p hp off ts hts hb
      rw [hres] at h
      split at h
      · cases h
      · split at h
        · cases h
        · have hu := ts_path_not_enough p hp off ts h
          exact ⟨fun hs => hu hs.1.2.1, fun _ => hu⟩

/-- a later stage `T` that passes the naive stage's error on and otherwise ends in a value or in
IMPOSSIBLE / OUT_OF_RANGE reports NOT_ENOUGH exactly when the naive stage does -/
theorem not_enough_passed_on {α β : Type} (naive : Parsed.RP α) (T : Parsed.RP β) (r : PRes α)
    (hr : naive = .ok r) (he : ∀ e, r = .error e → T = .ok (.error e))
    (hok : ∀ a, r = .ok a → T ≠ .ok (.error .notEnough)) :
    T = .ok (.error .notEnough) ↔ naive = .ok (.error .notEnough) := by
  subst hr
  cases r with
  | error e =>
    rw [he e rfl]
    exact ⟨fun h => by cases h; rfl, fun h => by cases h; rfl⟩
  | ok a => exact ⟨fun h => absurd h (hok a rfl), fun h => by cases h⟩

/-- the date resolver on fields derived from one day with determinate year groups: that day, or
NOT_ENOUGH — never IMPOSSIBLE / OUT_OF_RANGE -/
theorem date_of_derived (p : Parsed) (hp : InType p) (Y : Int) (o : Nat) (hvd : VD Y o)
    (hag : DateAgrees p Y o)
    (hdY : GroupDeterminate p.year p.year_div_100 p.year_mod_100 Y)
    (hdI : ∀ w, (dateOfYo Y o).iso_week = .ok w →
      GroupDeterminate p.isoyear p.isoyear_div_100 p.isoyear_mod_100 (IsoWeek.year w)) :
    (Parsed.to_naive_date p = .ok (.ok (dateOfYo Y o)) ∧ DateSufficient p) ∨
    (Parsed.to_naive_date p = .ok (.error .notEnough) ∧ ¬ DateSufficient p) := by
  have hMIN : MIN_YEAR = -262143 := rfl
  have hMAX : MAX_YEAR = 262142 := rfl
  obtain ⟨v1, v2, _, _⟩ := id hvd
  by_cases hds : DateSufficient p
  · left
    refine ⟨date_complete_full p hp Y o hvd hag hdY hdI ?_, hds⟩
    rcases hds.2.2 with h | h
    · exact Or.inl h
    · exact Or.inr h
  · right
    obtain ⟨a1, a2, _, _, _, _, _, _, _, ⟨w, hw, j1, j2, _⟩⟩ := id hag
    have hib := iso_year_bound Y o hvd w hw
    exact ⟨(date_not_enough_iff p hp (coherent_of_agrees _ _ _ Y (by omega) a1 a2)
      (coherent_of_agrees _ _ _ _ (by omega) j1 j2)).mpr hds, hds⟩

/-- `dt_with_timestamp` as three implications (free of `Decidable` instances) -/
theorem dt_with_timestamp' (p : Parsed) (hp : InType p) (off ts : Int) (hts : p.timestamp = some ts)
    (hnb : ¬ ∃ d t, Parsed.to_naive_date p = .ok (.ok d) ∧ Parsed.to_naive_time p = .ok t) :
    ∃ rd, Parsed.to_naive_date p = .ok rd ∧
      ((rd = .error .outOfRange ∨ Parsed.to_naive_time p = .error .outOfRange) →
        Parsed.to_naive_datetime_with_offset p off = .ok (.error .outOfRange)) ∧
      (¬ (rd = .error .outOfRange ∨ Parsed.to_naive_time p = .error .outOfRange) →
        (rd = .error .impossible ∨ Parsed.to_naive_time p = .error .impossible) →
        Parsed.to_naive_datetime_with_offset p off = .ok (.error .impossible)) ∧
      (¬ (rd = .error .outOfRange ∨ Parsed.to_naive_time p = .error .outOfRange) →
        ¬ (rd = .error .impossible ∨ Parsed.to_naive_time p = .error .impossible) →
        Parsed.to_naive_datetime_with_offset p off = Parsed.from_timestamp_path p off ts) := by
  obtain ⟨rd, hrd, h⟩ := dt_with_timestamp p hp off ts hts hnb
  refine ⟨rd, hrd, fun h1 => ?_, fun h1 h2 => ?_, fun h1 h2 => ?_⟩
  · rw [h, if_pos h1]
  · rw [h, if_neg h1, if_pos h2]
  · rw [h, if_neg h1, if_neg h2]

end Chrono.Proofs.ParsedKinds
