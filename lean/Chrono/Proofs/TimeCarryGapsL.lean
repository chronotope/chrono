/- Helper lemmas for the C07 audit gap G1: the date-time difference against the distance on the
   extended line of date-times (`Spec.dtDiffLine`), and the cross terms between the two. -/
import Chrono.Proofs.TimeCarryL
import Chrono.Proofs.TimeGapsL

namespace Chrono.Proofs.TimeGaps
open Chrono Chrono.M Chrono.Spec Chrono.Proofs Chrono.Extracted

/-- the implementation's closed form (`datetime_diff`) against the extended-line distance of
date-times: they differ by the two cross terms -/
theorem dt_diff_vs_line (a b : NaiveDT) :
    (dayNumOf a.date - dayNumOf b.date) * 86400000000000 + diffLeap a.time b.time =
      dtDiffLine a b + crossErr a b - crossErr b a := by
  unfold dtDiffLine dtLinePos crossErr diffLeap linePos instNs instSecs pos
  generalize dayNumOf a.date = da
  generalize dayNumOf b.date = db
  omega

/-- the cross term vanishes on one date, and whenever `o` is not a leap second -/
theorem crossErr_zero (x o : NaiveDT)
    (h : o.time.frac < 1000000000 ∨ dayNumOf x.date = dayNumOf o.date) : crossErr x o = 0 := by
  unfold crossErr instSecs
  rcases h with h | h
  · rw [if_neg (by omega), if_neg (by omega)]; rfl
  · rw [h]
    split <;> split <;> omega

/-- exactly when the cross term does not vanish -/
theorem crossErr_cases (x o : NaiveDT) (hx : TValid x.time) (ho : TValid o.time) :
    crossErr x o =
      if o.time.frac ≥ 1000000000 ∧ dayNumOf o.date < dayNumOf x.date ∧ x.time.secs ≤ o.time.secs
      then -1000000000
      else if o.time.frac ≥ 1000000000 ∧ dayNumOf x.date < dayNumOf o.date ∧
        o.time.secs < x.time.secs
      then 1000000000 else 0 := by
  simp only [TValid] at hx ho
  unfold crossErr instSecs
  generalize dayNumOf x.date = dx
  generalize dayNumOf o.date = d0
  (repeat' split) <;> omega

end Chrono.Proofs.TimeGaps
