/- Helper lemmas for C20 (serde): the `TimeDelta` tuple form; every visitor of the sixteen timestamp modules
reduced to one canonical `from_timestamp` call; what the serializers write. -/
import Chrono.Proofs.DeltaL
import Chrono.Proofs.TimestampL
import Chrono.Spec.SerdeSpec
namespace Chrono.Proofs.Serde
open Chrono Chrono.M Chrono.M.Serde Chrono.Spec Chrono.Spec.Ts Chrono.Spec.Serde Chrono.Proofs Chrono.Proofs.Ts

/-! ## `TimeDelta` -/

theorem asU32_of_neg (n : Int) (h0 : -2147483648 ≤ n) (h1 : n < 0) : asU32 n = n + 4294967296 := by
  unfold asU32; omega

/-- reading an `(i64, i32)` tuple: closed form -/
theorem delta_de_eq (s n : Int) (hn : isI32 n) :
    TimeDelta.deserialize (s, n) =
      if 0 ≤ n ∧ n < 1000000000 ∧ nsInRange (s * 1000000000 + n) then .ok ⟨s, n⟩ else .err := by
  unfold isI32 at hn
  unfold TimeDelta.deserialize
  dsimp only
  by_cases h0 : 0 ≤ n
  · rw [asU32_id h0 (by omega), new_iff' s n h0]
    unfold ns; dsimp only
    by_cases h : n < 1000000000 ∧ nsInRange (s * 1000000000 + n)
    · rw [if_pos h, if_pos ⟨h0, h⟩]; rfl
    · rw [if_neg h, if_neg (by intro hh; exact h hh.2)]; rfl
  · rw [asU32_of_neg n hn.1 (by omega), new_iff' s (n + 4294967296) (by omega)]
    rw [if_neg (by omega), if_neg (by omega)]; rfl

/-! ## the visitors: one canonical form per unit -/

/-- `from_timestamp(v div P, (v mod P) · 10⁹/P)` with the `invalid_ts` error -/
def canon : TsUnit → Int → Res (SR NaiveDT)
  | .secs, v => from_ts_or_invalid v 0
  | .millis, v => from_ts_or_invalid (v / 1000) (v % 1000 * 1000000)
  | .micros, v => from_ts_or_invalid (v / 1000000) (v % 1000000 * 1000)
  | .nanos, v => from_ts_or_invalid (v / 1000000000) (v % 1000000000)

theorem naive_wrap (x : Res (Option NaiveDT)) :
    (x.bind fun r => Res.ok (ok_or (r.map naive_utc))) = (x.bind fun r => Res.ok (ok_or r)) := by
  cases x with
  | panic => rfl
  | ok r => cases r <;> rfl
theorem and_utc_wrap (x : Res (SR NaiveDT)) : (x.bind fun r => Res.ok (r.map and_utc)) = x := by
  cases x with
  | panic => rfl
  | ok r => cases r <;> rfl

theorem and_utc_opt_wrap (x : Res (SR (Option NaiveDT))) :
    (x.bind fun r => Res.ok (r.map fun o => o.map and_utc)) = x := by
  cases x with
  | panic => rfl
  | ok r =>
    cases r with
    | err => rfl
    | ok o => cases o <;> rfl

theorem i64max : I64_MAX = 9223372036854775807 := rfl

/-- all eight plain modules, signed input: the canonical form -/
theorem de_i64 (tg : Target) (u : TsUnit) (v : Int) : deserialize tg u (.i64 v) = canon u v := by
  cases tg <;> cases u
  · rfl
  · show ((NaiveDT.from_timestamp_millis v).bind fun r => Res.ok (ok_or r)).bind (fun r => Res.ok (r.map and_utc)) = _
    rw [and_utc_wrap, from_millis_eq]; rfl
  · show (ckI64 (v % 1000000 * 1000)).bind (fun n => from_ts_or_invalid (v / 1000000) (asU32 n)) = _
    rw [ckI64_ok (by omega) (by omega), rbind_ok, asU32_id (by omega) (by omega)]; rfl
  · show from_ts_or_invalid (v / 1000000000) (asU32 (v % 1000000000)) = _
    rw [asU32_id (by omega) (by omega)]; rfl
  · exact naive_wrap _
  · show ((NaiveDT.from_timestamp_millis v).bind fun r => Res.ok (ok_or (r.map naive_utc))) = _
    rw [naive_wrap, from_millis_eq]; rfl
  · show ((NaiveDT.from_timestamp_micros v).bind fun r => Res.ok (ok_or (r.map naive_utc))) = _
    rw [naive_wrap, from_micros_eq]; rfl
  · show ((NaiveDT.from_timestamp (v / 1000000000) (asU32 (v % 1000000000))).bind
      fun r => Res.ok (ok_or (r.map naive_utc))) = _
    rw [naive_wrap, asU32_id (by omega) (by omega)]; rfl

/-- all eight plain modules, unsigned input: the canonical form; the seconds modules refuse counts above
`i64::MAX` before the narrowing cast -/
theorem de_u64 (tg : Target) (u : TsUnit) (v : Int) (h : isU64 v) :
    deserialize tg u (.u64 v) =
      if u = .secs ∧ 9223372036854775807 < v then .ok .err else canon u v := by
  have := i64max
  unfold isU64 at h
  cases tg <;> cases u
  · show (if v > I64_MAX then Res.ok SR.err else from_ts_or_invalid (asI64 v) 0) = _
    by_cases hv : 9223372036854775807 < v
    · rw [if_pos (by omega), if_pos ⟨rfl, hv⟩]
    · rw [if_neg (by omega), if_neg (fun hh => hv hh.2), asI64_id (by omega) (by omega)]; rfl
  · rw [if_neg (fun hh => by cases hh.1)]
    show ((ckU64 (v % 1000 * 1000000)).bind fun n => from_ts_or_invalid (asI64 (v / 1000)) (asU32 n)).bind
      (fun r => Res.ok (r.map and_utc)) = _
    rw [and_utc_wrap, ckU64_ok (by omega) (by omega), rbind_ok, asI64_id (by omega) (by omega),
      asU32_id (by omega) (by omega)]; rfl
  · rw [if_neg (fun hh => by cases hh.1)]
    show ((ckU64 (v % 1000000 * 1000)).bind fun n => from_ts_or_invalid (asI64 (v / 1000000)) (asU32 n)) = _
    rw [ckU64_ok (by omega) (by omega), rbind_ok, asI64_id (by omega) (by omega), asU32_id (by omega) (by omega)]; rfl
  · rw [if_neg (fun hh => by cases hh.1)]
    show from_ts_or_invalid (asI64 (v / 1000000000)) (asU32 (v % 1000000000)) = _
    rw [asI64_id (by omega) (by omega), asU32_id (by omega) (by omega)]; rfl
  · show (if v > I64_MAX then Res.ok SR.err
      else (NaiveDT.from_timestamp (asI64 v) 0).bind fun r => Res.ok (ok_or (r.map naive_utc))) = _
    by_cases hv : 9223372036854775807 < v
    · rw [if_pos (by omega), if_pos ⟨rfl, hv⟩]
    · rw [if_neg (by omega), if_neg (fun hh => hv hh.2), asI64_id (by omega) (by omega), naive_wrap]; rfl
  · rw [if_neg (fun hh => by cases hh.1)]
    show ((ckU64 (v % 1000 * 1000000)).bind fun n =>
      (NaiveDT.from_timestamp (asI64 (v / 1000)) (asU32 n)).bind fun r => Res.ok (ok_or (r.map naive_utc))) = _
    rw [ckU64_ok (by omega) (by omega), rbind_ok, naive_wrap, asI64_id (by omega) (by omega),
      asU32_id (by omega) (by omega)]; rfl
  · rw [if_neg (fun hh => by cases hh.1)]
    show ((ckU64 (v % 1000000 * 1000)).bind fun n =>
      (NaiveDT.from_timestamp (asI64 (v / 1000000)) (asU32 n)).bind fun r => Res.ok (ok_or (r.map naive_utc))) = _
    rw [ckU64_ok (by omega) (by omega), rbind_ok, naive_wrap, asI64_id (by omega) (by omega),
      asU32_id (by omega) (by omega)]; rfl
  · rw [if_neg (fun hh => by cases hh.1)]
    show ((NaiveDT.from_timestamp (asI64 (v / 1000000000)) (asU32 (v % 1000000000))).bind
      fun r => Res.ok (ok_or (r.map naive_utc))) = _
    rw [naive_wrap, asI64_id (by omega) (by omega), asU32_id (by omega) (by omega)]; rfl

theorem de_other (tg : Target) (u : TsUnit) : deserialize tg u .other = .ok .err := by
  cases tg <;> cases u <;> rfl

/-- the `_option` modules: `Some(x)` goes to the plain module's visitor of the same unit -/
theorem de_option_eq (tg : Target) (u : TsUnit) (w : WOpt) :
    deserialize_option tg u w =
      match w with
      | .some x => (deserialize tg u x).bind fun r => .ok (r.map some)
      | .none => .ok (.ok none)
      | .unit => .ok (.ok none)
      | .other => .ok .err := by
  cases tg <;> cases u <;> cases w <;> try rfl
  -- utc milliseconds: the inner visitor is spelled out and `with_timezone(&Utc)` is mapped over the result
  rename_i x
  have swap : ∀ y : Res (SR NaiveDT),
      ((y.bind fun r => Res.ok (r.map some)).bind fun r => Res.ok (r.map fun o => o.map and_utc)) =
        (y.bind fun r => Res.ok (r.map and_utc)).bind fun r => Res.ok (r.map some) := by
    intro y
    cases y with
    | panic => rfl
    | ok r => cases r <;> rfl
  cases x with
  | i64 v => exact swap (Utc.MilliSecondsTimestampVisitor.visit_i64 v)
  | u64 v => exact swap (Utc.MilliSecondsTimestampVisitor.visit_u64 v)
  | other => rfl

/-! ### what the canonical form does -/

theorem from_ts_or_invalid_spec (q s : Int) (hq : isI64 q) (h0 : 0 ≤ s) (h1 : s < 1000000000) :
    ∃ r, from_ts_or_invalid q s = .ok r ∧
      (r = .err ↔ (q < TS_MIN ∨ q > TS_MAX)) ∧
      (∀ dt, r = .ok dt → NDTInv dt ∧ NonLeap dt ∧ instNs dt = q * 1000000000 + s) := by
  obtain ⟨r, e1, e2, e3⟩ := from_sub_spec q s hq h0 h1
  refine ⟨ok_or r, ?_, ?_, ?_⟩
  · unfold from_ts_or_invalid; rw [e1]; rfl
  · rw [← e2]; cases r <;> simp [ok_or]
  · intro dt hdt
    cases r with
    | none => cases hdt
    | some d =>
      have : d = dt := by injection hdt
      exact e3 dt (by rw [this])

/-- a unit of `n` ns goes `p` times into a second -/
theorem units (u : TsUnit) : 0 < nsPer u ∧ nsPer u * perSec u = 1000000000 := by cases u <;> decide

theorem perSec_ge (u : TsUnit) : 1 ≤ perSec u ∧ (u ≠ .secs → 1000 ≤ perSec u) := by cases u <;> decide

/-- floor division by a positive number keeps a value between bounds that hold of the multiples -/
theorem ediv_mem (v p a b : Int) (hp : 0 < p) (ha : a * p ≤ v) (hb : v ≤ b * p) : a ≤ v / p ∧ v / p ≤ b :=
  ⟨Int.le_ediv_of_mul_le hp ha, Int.ediv_le_of_le_mul hp hb⟩

theorem canon_eq (u : TsUnit) (v : Int) :
    canon u v = from_ts_or_invalid (v / perSec u) (v % perSec u * nsPer u) := by
  cases u
  · show from_ts_or_invalid v 0 = from_ts_or_invalid (v / 1) (v % 1 * 1000000000)
    rw [Int.ediv_one, Int.emod_one, Int.zero_mul]
  · rfl
  · rfl
  · show _ = from_ts_or_invalid (v / 1000000000) (v % 1000000000 * 1)
    rw [Int.mul_one]; rfl

/-- the canonical form, for every integer whose floor second fits `i64`: no panic; refused exactly when
the floor second is outside the representable range; otherwise the non-leap value exactly `v` units
from the epoch -/
theorem canon_spec (u : TsUnit) (v : Int) (hq : isI64 (v / perSec u)) :
    ∃ r, canon u v = .ok r ∧
      (r = .err ↔ (v / perSec u < TS_MIN ∨ v / perSec u > TS_MAX)) ∧
      (∀ dt, r = .ok dt → NDTInv dt ∧ NonLeap dt ∧ instNs dt = v * nsPer u) := by
  obtain ⟨hn, hnp⟩ := units u
  have hp := (perSec_ge u).1
  have h0 := Int.emod_nonneg v (show perSec u ≠ 0 by omega)
  have h1 : v % perSec u * nsPer u < 1000000000 := by
    rw [← hnp, Int.mul_comm]
    exact Int.mul_lt_mul_of_pos_left (Int.emod_lt_of_pos v (by omega)) hn
  obtain ⟨r, r1, r2, r3⟩ := from_ts_or_invalid_spec _ _ hq (Int.mul_nonneg h0 (by omega)) h1
  refine ⟨r, by rw [canon_eq, r1], r2, fun dt hdt => ?_⟩
  obtain ⟨a, b, c⟩ := r3 dt hdt
  refine ⟨a, b, ?_⟩
  -- `v = p·(v / p) + v % p` and `n·p = 10⁹`
  rw [c, ← hnp]
  conv => rhs; rw [← Int.mul_ediv_add_emod v (perSec u)]
  ring

/-- … so a count whose floor second is representable is read as a value -/
theorem canon_ok (u : TsUnit) (v : Int) (h : TS_MIN ≤ v / perSec u ∧ v / perSec u ≤ TS_MAX) :
    ∃ dt, canon u v = .ok (.ok dt) ∧ NDTInv dt ∧ NonLeap dt ∧ instNs dt = v * nsPer u := by
  obtain ⟨r, r1, r2, r3⟩ := canon_spec u v (by rw [ts_min_val, ts_max_val] at h; unfold isI64; omega)
  cases r with
  | err => have := r2.1 rfl; omega
  | ok d => exact ⟨d, r1, r3 d rfl⟩

/-- one value per instant among the non-leap values -/
theorem nonleap_unique (a b : NaiveDT) (ha : NDTInv a) (hb : NDTInv b) (la : NonLeap a) (lb : NonLeap b)
    (h : instNs a = instNs b) : a = b := by
  obtain ⟨_, _, _, a3, _⟩ := id ha
  obtain ⟨_, _, _, b3, _⟩ := id hb
  unfold NonLeap at la lb
  unfold instNs at h
  exact inst_inj a b ha hb (by omega) (by omega)

/-! ## the serializers -/

theorem nsPer_ge (u : TsUnit) (h : u ≠ .nanos) : 1000 ≤ nsPer u := by cases u <;> first | decide | exact absurd rfl h

/-- a count of nanoseconds `S·10⁹ + f`, `0 ≤ f < 10⁹`, in units of `n` ns where `n·p = 10⁹` -/
theorem units_arith (S f n p : Int) (hn : 0 < n) (hnp : n * p = 1000000000) (hf0 : 0 ≤ f) (hf : f < 1000000000) :
    (S * 1000000000 + f) / n / p = S ∧ (S * 1000000000 + f) / n * n = S * 1000000000 + f / n * n := by
  have hp : 0 < p := by
    rcases Int.lt_trichotomy p 0 with h | h | h
    · have := Int.mul_neg_of_pos_of_neg hn h; omega
    · rw [h] at hnp; omega
    · exact h
  have e : S * 1000000000 + f = f + n * (S * p) := by rw [← hnp]; ring
  have hq : f / n < p := Int.ediv_lt_of_lt_mul hn (by rw [Int.mul_comm, hnp]; exact hf)
  rw [e, Int.add_mul_ediv_left _ _ (by omega), Int.add_mul_ediv_right _ _ (by omega),
    Int.ediv_eq_zero_of_lt (Int.ediv_nonneg hf0 (by omega)) hq]
  constructor
  · omega
  · rw [← hnp]; ring

theorem tsOf_bounds (u : TsUnit) (dt : NaiveDT) (h : NDTInv dt) (hl : NonLeap dt) :
    tsOf u dt / perSec u = instSecs dt ∧ instNs (truncTo u dt) = tsOf u dt * nsPer u ∧
    NDTInv (truncTo u dt) ∧ NonLeap (truncTo u dt) ∧ (u ≠ .nanos → isI64 (tsOf u dt)) ∧
    truncTo .nanos dt = dt := by
  obtain ⟨hn, hnp⟩ := units u
  obtain ⟨i1, _, i3, i4⟩ := truncFrac_inv dt (nsPer u) hn h hl
  have t3 : 0 ≤ dt.time.frac := h.2.2.2.1
  obtain ⟨a1, a2⟩ := units_arith (instSecs dt) dt.time.frac (nsPer u) (perSec u) hn hnp t3 hl
  have hle : dt.time.frac / nsPer u * nsPer u ≤ dt.time.frac := Int.ediv_mul_le _ (by omega)
  refine ⟨a1, ?_, i1, ?_, ?_, ?_⟩
  · show instSecs (truncFrac dt (nsPer u)) * 1000000000 + (truncFrac dt (nsPer u)).time.frac = _
    rw [i3, i4]; exact a2.symm
  · show (truncFrac dt (nsPer u)).time.frac < 1000000000
    unfold NonLeap at hl
    omega
  · intro hu
    have hr := instSecs_range dt h
    rw [ts_min_val, ts_max_val] at hr
    have hk := nsPer_ge u hu
    unfold NonLeap at hl
    unfold tsOf isI64 instNs
    exact ediv_mem _ _ _ _ hn (by omega) (by omega)
  · show (⟨dt.date, ⟨dt.time.secs, dt.time.frac / 1 * 1⟩⟩ : NaiveDT) = dt
    rw [Int.ediv_one, Int.mul_one]
/-- the integer the modules of unit `u` hand to the serializer: what the unit's accessor returns (`None` only
from `timestamp_nanos_opt`) -/
def written : TsUnit → NaiveDT → Res (Option Int)
  | .secs, dt => (NaiveDT.timestamp dt).bind fun t => .ok (some t)
  | .millis, dt => (NaiveDT.timestamp_millis dt).bind fun t => .ok (some t)
  | .micros, dt => (NaiveDT.timestamp_micros dt).bind fun t => .ok (some t)
  | .nanos, dt => NaiveDT.timestamp_nanos_opt dt

/-- all sixteen serializers: the accessor, then `serialize_i64` resp. `serialize_some`, or the error -/
theorem serialize_eq (tg : Target) (u : TsUnit) (dt : NaiveDT) :
    serialize tg u dt = (written u dt).bind (fun o => .ok ((ok_or o).map .i64)) ∧
    serialize_option tg u (some dt) = (written u dt).bind (fun o => .ok ((ok_or o).map .some)) := by
  have hn : ∀ (x : Res (Option Int)) (c : Int → SOut),
      (x.bind fun o => match ok_or o with | .ok n => Res.ok (SR.ok (c n)) | .err => Res.ok SR.err) =
        x.bind fun o => .ok ((ok_or o).map c) := by
    intro x c
    cases x with
    | panic => rfl
    | ok o => cases o <;> rfl
  have hs : ∀ (x : Res Int) (c : Int → SOut),
      (x.bind fun t => Res.ok (SR.ok (c t))) =
        (x.bind fun t => .ok (some t)).bind fun o => .ok ((ok_or o).map c) := by
    intro x c
    cases x <;> rfl
  cases tg <;> cases u <;> first | exact ⟨hs _ _, hs _ _⟩ | exact ⟨hn _ _, hn _ _⟩

/-- what the accessors return on any valid value, leap-second representations included -/
theorem written_vals (dt : NaiveDT) (h : NDTInv dt) :
    written .secs dt = .ok (some (instSecs dt)) ∧ written .millis dt = .ok (some (instNs dt / 1000000)) ∧
    written .micros dt = .ok (some (instNs dt / 1000)) ∧
    written .nanos dt = .ok (if isI64 (instNs dt) then some (instNs dt) else none) := by
  have a1 := timestamp_spec dt h
  refine ⟨?_, ?_, ?_, ?_⟩
  · show (NaiveDT.timestamp dt).bind _ = _; rw [a1]; rfl
  · show (NaiveDT.timestamp_millis dt).bind _ = _; rw [timestamp_millis_spec dt h]; rfl
  · show (NaiveDT.timestamp_micros dt).bind _ = _; rw [timestamp_micros_spec dt h]; rfl
  · show NaiveDT.timestamp_nanos_opt dt = _
    unfold NaiveDT.timestamp_nanos_opt
    rw [a1]
    show Res.ok (optI64 (instNs dt)) = _
    by_cases hi : isI64 (instNs dt)
    · rw [if_pos hi, optI64_some hi.1 hi.2]
    · rw [if_neg hi, optI64_none (by unfold isI64 at hi; omega)]

/-- … and on a non-leap value: the exact timestamp in the unit, when it fits `i64` -/
theorem written_nonleap (u : TsUnit) (dt : NaiveDT) (h : NDTInv dt) (hl : NonLeap dt) :
    written u dt = .ok (if isI64 (tsOf u dt) then some (tsOf u dt) else none) := by
  obtain ⟨w1, w2, w3, w4⟩ := written_vals dt h
  obtain ⟨b1, _, _, _, b5, _⟩ := tsOf_bounds u dt h hl
  cases u
  · rw [if_pos (b5 (by decide)), w1]
    have e : tsOf .secs dt = instSecs dt := by rw [← b1]; exact (Int.ediv_one _).symm
    rw [e]
  · rw [if_pos (b5 (by decide)), w2]; rfl
  · rw [if_pos (b5 (by decide)), w3]; rfl
  · rw [w4, show tsOf .nanos dt = instNs dt from Int.ediv_one _]

end Chrono.Proofs.Serde
