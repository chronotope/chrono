/-
  Helper lemmas of the third round of C15 (audit 2: MEDIUM-6, LOW-7): generic facts about `expectSome`
  (`Option::expect` of a checked form), about `if … then .ok … else .panic` characterisations, and the
  zone-aware operators `DateTime<Tz> ± TimeDelta` in terms of the operators of the UTC value.
-/
import Chrono.Proofs.C15ArithL
import Chrono.Proofs.IterL
import Chrono.Proofs.ArithExtL
import Chrono.Props.C08
import Chrono.Proofs.ZonedL
import Chrono.Model.RoundDT

namespace Chrono.Proofs.C15Round3
open Chrono Chrono.M Chrono.Spec Chrono.Proofs Chrono.Proofs.C15Arith Chrono.Proofs.ArithExt

/-- `expect` of a checked form that itself never panics panics exactly on `None` (`Q`: whatever else is
known of the checked form's result) -/
theorem expectSome_panic_iff {α} {r : Res (Option α)} {Q : Option α → Prop} (h : ∃ o, r = .ok o ∧ Q o) :
    expectSome r = .panic ↔ r = .ok none := by
  obtain ⟨o, ho, _⟩ := h
  rw [expectSome_panic, ho]
  exact ⟨fun h => h.elim id nofun, Or.inl⟩

/-- "the value when representable, a panic when not" as an equivalence -/
theorem panic_iff_of_exact {α} {r : Res α} {P : Prop} {Q : α → Prop}
    (h1 : P → ∃ x, r = .ok x ∧ Q x) (h2 : ¬ P → r = .panic) : r = .panic ↔ ¬ P := by
  constructor
  · intro hp hP
    obtain ⟨x, hx, _⟩ := h1 hP
    rw [hx] at hp; cases hp
  · exact h2

theorem ite_panic_iff {α} {c : Prop} [Decidable c] {x : α} {r : Res α}
    (h : r = if c then .ok x else .panic) : r = .panic ↔ ¬ c := by
  rw [h]
  by_cases hc : c
  · rw [if_pos hc]; exact ⟨nofun, fun h => absurd hc h⟩
  · rw [if_neg hc]; exact ⟨fun _ => hc, fun _ => rfl⟩

/-- a rounding entry point that answers one error when the span guard `g` fails, another when the stamp
guard `s` fails, and otherwise a value with `P`: it returns normally, and a returned value has `P` -/
theorem rres_total {α} {r : Res (Round.RRes α)} {P : α → Prop} {g s : Prop} {e₁ e₂ : Round.RoundingError}
    (h1 : ¬ g → r = .ok (.err e₁)) (h2 : g → ¬ s → r = .ok (.err e₂))
    (h3 : g → s → ∃ v, r = .ok (.ok v) ∧ P v) : ∃ x, r = .ok x ∧ ∀ v, x = .ok v → P v := by
  by_cases hg : g
  · by_cases hs : s
    · obtain ⟨v, hv, hp⟩ := h3 hg hs
      exact ⟨_, hv, fun x hx => by cases hx; exact hp⟩
    · exact ⟨_, h2 hg hs, nofun⟩
  · exact ⟨_, h1 hg, nofun⟩

theorem bind_ok_panic_iff {α β} (r : Res α) (f : α → β) :
    (r.bind fun a => .ok (f a)) = .panic ↔ r = .panic := by
  cases r with
  | panic => exact ⟨fun _ => rfl, fun _ => rfl⟩
  | ok v => exact ⟨nofun, nofun⟩

/-- `DateTime<Tz> + TimeDelta` panics exactly when `NaiveDateTime + TimeDelta` of the UTC value does: the
offset does not enter the condition -/
theorem zoned_add_panic_iff (z : Zoned) (δ : Delta) :
    (Zoned.add z δ = .panic ↔ NaiveDT.add z.utc δ = .panic) ∧
    (Zoned.sub z δ = .panic ↔ NaiveDT.sub z.utc δ = .panic) := by
  have ea : Zoned.add z δ = (NaiveDT.add z.utc δ).bind fun u => .ok ⟨u, z.off⟩ := by
    unfold Zoned.add NaiveDT.add; rw [zoned_add_eq, expect_zoned]
  have es : Zoned.sub z δ = (NaiveDT.sub z.utc δ).bind fun u => .ok ⟨u, z.off⟩ := by
    unfold Zoned.sub NaiveDT.sub; rw [zoned_sub_eq, expect_zoned]
  rw [ea, es]
  exact ⟨bind_ok_panic_iff _ _, bind_ok_panic_iff _ _⟩

/-- the checked forms `DateTime::checked_add_signed / checked_sub_signed` never panic on a well-formed
value, and a value they return is well formed with the offset kept -/
theorem zoned_signed_okAnd (z : Zoned) (δ : Delta) (hz : ZInv z) (hδ : DInv δ) :
    OkAnd (Zoned.checked_add_signed z δ) (fun x => ZInv x ∧ x.off = z.off) ∧
    OkAnd (Zoned.checked_sub_signed z δ) (fun x => ZInv x ∧ x.off = z.off) := by
  obtain ⟨h1, h2⟩ := datetime_arith z.utc δ hz.1 hδ
  rw [zoned_add_eq, zoned_sub_eq]
  exact ⟨okAnd_map _ h1 fun _ hu => ⟨⟨hu, hz.2⟩, rfl⟩, okAnd_map _ h2 fun _ hu => ⟨⟨hu, hz.2⟩, rfl⟩⟩

/-- `NaiveDateTime`: month / day stepping and the eleven field replacements return normally on every valid
value and every argument, and what they return is valid (the date-level / time-level operation on one
part, the other part kept: C08 `naive_datetime_delegates`, which is `rfl`) -/
theorem naive_ops (dt : NaiveDT) (hdt : NDTInv dt) (v k : Nat) (y' w c : Int) (hw : 0 ≤ w)
    (hc : 0 ≤ c ∧ c ≤ 18446744073709551615) :
    OkAnd (dt.checked_add_months k) NDTInv ∧ OkAnd (dt.checked_sub_months k) NDTInv ∧
    OkAnd (NaiveDT.checked_add_days dt c) NDTInv ∧ OkAnd (NaiveDT.checked_sub_days dt c) NDTInv ∧
    OkAnd (dt.with_year y') NDTInv ∧ OkAnd (dt.with_month v) NDTInv ∧ OkAnd (dt.with_month0 v) NDTInv ∧
    OkAnd (dt.with_day v) NDTInv ∧ OkAnd (dt.with_day0 v) NDTInv ∧ OkAnd (dt.with_ordinal v) NDTInv ∧
    OkAnd (dt.with_ordinal0 v) NDTInv ∧
    OkAnd (dt.with_hour w) NDTInv ∧ OkAnd (dt.with_minute w) NDTInv ∧ OkAnd (dt.with_second w) NDTInv ∧
    OkAnd (dt.with_nanosecond w) NDTInv := by
  obtain ⟨_, _, a3, a4, _, a6, a7, a8, a9, a10, a11, a12, _, a14, a15, _, _⟩ :=
    date_ops dt.date hdt.1 k v y' 0 ⟨0, 0⟩ c (by omega) (by decide) hc
  obtain ⟨_, _, _, t1, t2, t3, t4⟩ := time_ops dt.time dt.time ⟨0, 0⟩ w hdt.2 hdt.2 (by decide) hw
  obtain ⟨e1, e2, e3, e4, e5, e6, e7, e8, e9, e10, e11, e12, e13⟩ :=
    Chrono.Props.C08.naive_datetime_delegates dt v k y' w
  dsimp only at e1 e2 e3 e4 e5 e6 e7 e8 e9 e10 e11 e12 e13
  rw [e1, e2, e3, e4, e5, e6, e7, e8, e9, e10, e11, e12, e13]
  unfold NaiveDT.checked_add_days NaiveDT.checked_sub_days
  have kt := fun {r} (h : OkAnd r DateInv) =>
    okAnd_map (Q := NDTInv) (fun d => ⟨d, dt.time⟩) h fun _ hd => ⟨hd, hdt.2⟩
  have kd := fun {o} (h : ∀ x, o = some x → TValid x) =>
    okAnd_map (r := .ok o) (Q := NDTInv) (fun t => ⟨dt.date, t⟩) ⟨o, rfl, h⟩ fun _ ht => ⟨hdt.1, ht⟩
  exact ⟨kt a3, kt a4, kt a14, kt a15, kt a6, kt a7, kt a8, kt a9, kt a10, kt a11, kt a12,
    kd t1, kd t2, kd t3, kd t4⟩

/-- `NaiveDateTime::checked_add_offset / checked_sub_offset` on every valid value and every offset a
`FixedOffset` can hold: no panic, a returned value is valid (`ZonedL.shiftChecked_spec`) -/
theorem offset_ops (dt : NaiveDT) (off : Int) (hdt : NDTInv dt) (ho : OffValid off) :
    OkAnd (dt.checked_add_offset off) NDTInv ∧ OkAnd (dt.checked_sub_offset off) NDTInv := by
  have hext : ExtNDTInv dt := ⟨((dateInv_iff dt.date).mp hdt.1).1, hdt.2⟩
  have ho' : -86400 < off ∧ off < 86400 := by unfold OffValid at ho; omega
  rw [checked_add_offset_eq dt off hdt.2 ho, checked_sub_offset_eq dt off hdt.2 ho]
  obtain ⟨r1, e1, p1, _⟩ := shiftChecked_spec dt off hext ho'
  obtain ⟨r2, e2, p2, _⟩ := shiftChecked_spec dt (-off) hext (by omega)
  refine ⟨⟨r1, e1, fun v hv => ?_⟩, ⟨r2, e2, fun v hv => ?_⟩⟩
  · obtain ⟨a, _, _, b⟩ := p1 v hv; exact ⟨b hdt.1, a.2⟩
  · obtain ⟨a, _, _, b⟩ := p2 v hv; exact ⟨b hdt.1, a.2⟩

end Chrono.Proofs.C15Round3
