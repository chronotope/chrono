/- Helper lemmas for C06: the Display text has the canonical shape of Spec/DeltaCanonSpec.lean. -/
import Chrono.Proofs.DeltaDisplayL
import Chrono.Spec.DeltaCanonSpec

namespace Chrono.Proofs.DeltaCanon
open Chrono Chrono.M Chrono.Spec Chrono.Proofs Chrono.Extracted

theorem digitChar_ne_48 (d : Nat) (h : d % 10 ≠ 0) : Delta.digitChar d ≠ 48 := by
  simp only [Delta.digitChar]; omega

/-- shape of what the digit printer produces -/
theorem natDigitsAux_canon : ∀ (fuel n : Nat), n < fuel → ∃ ds : List Nat,
    (∀ acc, Delta.natDigitsAux fuel n acc = ds ++ acc) ∧ ds ≠ [] ∧
    (∀ c ∈ ds, isDigit c = true) ∧ (n ≠ 0 → ds.head? ≠ some 48) ∧ (n = 0 → ds = [48]) ∧
    ds.getLast? = some (Delta.digitChar n) := by
  intro fuel
  induction fuel with
  | zero => intro n h; omega
  | succ f ih =>
    intro n hn
    by_cases h10 : n < 10
    · refine ⟨[Delta.digitChar n], ?_, by simp, ?_, ?_, ?_, by simp⟩
      · intro acc; simp only [Delta.natDigitsAux, h10, if_true, List.singleton_append]
      · intro c hc
        rw [List.mem_singleton] at hc
        subst hc; exact isDigit_digitChar n
      · intro h0
        simp only [List.head?_cons]
        intro hh
        exact digitChar_ne_48 n (by omega) (Option.some.inj hh)
      · intro h0; subst h0; rfl
    · obtain ⟨ds, h1, h2, h3, h4, _, _⟩ := ih (n / 10) (by omega)
      refine ⟨ds ++ [Delta.digitChar (n % 10)], ?_, by simp, ?_, ?_, ?_, ?_⟩
      · intro acc
        simp only [Delta.natDigitsAux, h10, if_false, h1, List.append_assoc, List.singleton_append]
      · intro c hc
        rw [List.mem_append, List.mem_singleton] at hc
        rcases hc with hc | hc
        · exact h3 c hc
        · subst hc; exact isDigit_digitChar _
      · intro _
        have : (ds ++ [Delta.digitChar (n % 10)]).head? = ds.head? := by
          cases ds with
          | nil => exact absurd rfl h2
          | cons x xs => rfl
        rw [this]; exact h4 (by omega)
      · intro h0; omega
      · rw [List.getLast?_append, List.getLast?_singleton]
        simp only [Option.some_or, Delta.digitChar]
        congr 2; omega

theorem natDigits_canon (n : Nat) :
    Delta.natDigits n ≠ [] ∧ (∀ c ∈ Delta.natDigits n, isDigit c = true) ∧
    (n ≠ 0 → (Delta.natDigits n).head? ≠ some 48) ∧ (n = 0 → Delta.natDigits n = [48]) ∧
    (Delta.natDigits n).getLast? = some (Delta.digitChar n) := by
  obtain ⟨ds, h1, h2⟩ := natDigitsAux_canon (n + 1) n (by omega)
  have : Delta.natDigits n = ds := by rw [Delta.natDigits, h1, List.append_nil]
  rw [this]; exact h2

theorem canonInt_natDigits (n : Nat) : canonInt (Delta.natDigits n) := by
  obtain ⟨h1, h2, h3, h4, _⟩ := natDigits_canon n
  refine ⟨h1, h2, fun hh => ?_⟩
  by_cases h0 : n = 0
  · exact h4 h0
  · exact absurd hh (h3 h0)

/-- the padded fraction: exactly `w` digits, the last one that of `n` -/
theorem padDigits_canon (n w : Nat) (hw : 1 ≤ w) (hn : n < 10 ^ w) :
    (Delta.padDigits n w).length = w ∧ (∀ c ∈ Delta.padDigits n w, isDigit c = true) ∧
    (Delta.padDigits n w).getLast? = some (Delta.digitChar n) := by
  obtain ⟨hl1, hl2⟩ := natDigits_len n
  have hl := hl2 w hw hn
  obtain ⟨c1, c2, _, _, c5⟩ := natDigits_canon n
  unfold Delta.padDigits
  refine ⟨?_, ?_, ?_⟩
  · simp only [List.length_append, List.length_replicate]; omega
  · intro c hc
    rw [List.mem_append] at hc
    rcases hc with hc | hc
    · rw [(List.mem_replicate.mp hc).2]; decide
    · exact c2 c hc
  · rw [List.getLast?_append, c5]; rfl

theorem bodyText_canon (ab : Delta) (h0 : 0 ≤ ab.secs) (h1 : 0 ≤ ab.nanos) (h2 : ab.nanos < 1000000000)
    (hnz : ¬ (ab.secs = 0 ∧ ab.nanos = 0)) :
    ∃ ip fr, bodyText ab = 84 :: (ip ++ fr ++ [83]) ∧ canonInt ip ∧ canonFrac fr ∧
      ¬ (ip = [48] ∧ fr = []) := by
  obtain ⟨S, N⟩ := ab
  dsimp only at h0 h1 h2 hnz
  unfold bodyText
  dsimp only
  rw [ite_neg' _ _ hnz]
  by_cases hN : N > 0
  · rw [ite_pos' _ _ hN]
    obtain ⟨t1, t2, t3, t4, t5⟩ := trimFraction_spec 9 N.toNat (by omega) (by omega)
    generalize Delta.trimFraction 9 N.toNat 9 = p at *
    obtain ⟨fd, figs⟩ := p
    dsimp only at *
    obtain ⟨p1, p2, p3⟩ := padDigits_canon fd figs t2 t4
    refine ⟨Delta.natDigits S.toNat, 46 :: Delta.padDigits fd figs, ?_, canonInt_natDigits _, ?_, ?_⟩
    · simp only [List.append_assoc, List.cons_append]
    · refine Or.inr ⟨_, rfl, by omega, by omega, p2, ?_⟩
      rw [p3]
      intro hh
      exact digitChar_ne_48 fd t5 (Option.some.inj hh)
    · intro hh; cases hh.2
  · rw [ite_neg' _ _ hN]
    refine ⟨Delta.natDigits S.toNat, [], by simp, canonInt_natDigits _, Or.inl rfl, ?_⟩
    intro hh
    have hS : S.toNat ≠ 0 := by omega
    have := (natDigits_canon S.toNat).2.2.1 hS
    rw [hh.1] at this
    exact this rfl

theorem display_canonical' (a : Delta) (ha : DInv a) :
    ∃ t, Delta.display a = .ok t ∧
      (ns a = 0 → t = [80, 48, 68]) ∧ (ns a ≠ 0 → canonText (decide (ns a < 0)) t) := by
  have hn0 := ha.1
  have hn1 := ha.2.1
  by_cases h : a.secs < 0
  · obtain ⟨ab, hd, hi, hs, hv, hneg⟩ := display_neg a ha h
    refine ⟨_, hd, fun hz => by omega, fun _ => ?_⟩
    have hnz : ¬ (ab.secs = 0 ∧ ab.nanos = 0) := by
      intro hh
      unfold ns at hv
      rw [hh.1, hh.2] at hv
      omega
    obtain ⟨ip, fr, e, c1, c2, c3⟩ := bodyText_canon _ hs hi.1 hi.2.1 hnz
    refine ⟨ip, fr, ?_, c1, c2, c3⟩
    rw [e, decide_eq_true hneg]
    simp
  · have hpos : 0 ≤ ns a := by simp only [ns]; omega
    refine ⟨_, display_nonneg a h, fun hz => ?_, fun hnz => ?_⟩
    · have h1 : a.secs = 0 ∧ a.nanos = 0 := by simp only [ns] at hz; omega
      unfold bodyText
      rw [ite_pos' _ _ h1]
    · have hnz' : ¬ (a.secs = 0 ∧ a.nanos = 0) := by
        intro hh; apply hnz; simp only [ns]; rw [hh.1, hh.2]; rfl
      obtain ⟨ip, fr, e, c1, c2, c3⟩ := bodyText_canon a (by omega) hn0 hn1 hnz'
      refine ⟨ip, fr, ?_, c1, c2, c3⟩
      rw [e, decide_eq_false (by omega)]
      simp

theorem canonText_head (neg : Bool) (t : List Nat) (h : canonText neg t) :
    t ≠ [80, 48, 68] ∧ (t.head? = some 45 ↔ neg = true) := by
  obtain ⟨ip, fr, e, _⟩ := h
  subst e
  cases neg <;> simp

end Chrono.Proofs.DeltaCanon
