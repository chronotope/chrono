/-
  Helper lemmas for the date-time forms of C08 (Props/C08.lean, second half): time-of-day field
  replacement, the `NaiveDateTime` forms, the zone-aware forms through `map_local`, and
  `DateTime::years_since`.  Built on C07's lemmas about `NaiveTime` (Proofs/TimeL.lean) and C04's about
  zone-aware values (Proofs/ZonedL.lean, ZonedDateL.lean, ZonedStepL.lean).
-/
import Chrono.Proofs.ZonedStepL
import Chrono.Spec.DateTimeOpsSpec

namespace Chrono.Proofs.DTO
open Chrono Chrono.M Chrono.Spec Chrono.Proofs Chrono.Proofs.ZN Chrono.Extracted

/-! ### time of day -/

theorem ofFields_has (h m s n : Int) (hh : 0 ≤ h ∧ h < 24) (hm : 0 ≤ m ∧ m < 60)
    (hs : 0 ≤ s ∧ s < 60) (hn : 0 ≤ n ∧ n < 2000000000) : HasFields (ofFields h m s n) h m s n := by
  obtain ⟨v, f1, f2, f3, f4⟩ := ofFields_valid h m s n hh hm hs hn
  obtain ⟨a1, a2, a3, a4, _⟩ := accessors' _ v
  exact ⟨v, by rw [a1, f1], by rw [a2, f2], by rw [a3, f3], by rw [a4, f4]⟩

/-- a well-formed time of day is determined by its four fields -/
theorem time_unique (a b : Time) (ha : TValid a) (hb : TValid b) (h1 : a.hour = b.hour)
    (h2 : a.minute = b.minute) (h3 : a.second = b.second) (h4 : a.nanosecond = b.nanosecond) : a = b := by
  obtain ⟨a1, a2, a3, a4, _, _, _, _, _, _, asum, _⟩ := accessors' a ha
  obtain ⟨b1, b2, b3, b4, _, _, _, _, _, _, bsum, _⟩ := accessors' b hb
  rw [a1, b1] at h1
  rw [a2, b2] at h2
  rw [a3, b3] at h3
  rw [a4, b4] at h4
  cases a; cases b
  simp only [Time.mk.injEq]
  dsimp only at asum bsum h4
  constructor
  · rw [← asum, ← bsum, h1, h2, h3]
  · exact h4

/-- `if p then some a else none` is absent exactly when `p` fails, and is `a` otherwise -/
theorem ite_some_cases {α} {p : Prop} [Decidable p] {a : α} :
    ((if p then some a else none) = none ↔ ¬ p) ∧
    ∀ b, (if p then some a else none) = some b → p ∧ a = b := by
  by_cases c : p
  · rw [if_pos c]
    exact ⟨⟨fun h => (nomatch h), fun h => absurd c h⟩, fun b h => ⟨c, Option.some.inj h⟩⟩
  · rw [if_neg c]
    exact ⟨⟨fun _ => c, fun _ => rfl⟩, fun b h => (nomatch h)⟩

/-- the four replacements of a well-formed time, on the fields it shows -/
theorem with_shown (t : Time) (v : Int) (ht : TValid t) (hv : 0 ≤ v) :
    t.with_hour v = (if v < 24 then some (ofFields v t.minute t.second t.nanosecond) else none) ∧
    t.with_minute v = (if v < 60 then some (ofFields t.hour v t.second t.nanosecond) else none) ∧
    t.with_second v = (if v < 60 then some (ofFields t.hour t.minute v t.nanosecond) else none) ∧
    t.with_nanosecond v = (if v < 2000000000 then some (ofFields t.hour t.minute t.second v) else none) := by
  obtain ⟨a1, a2, a3, a4, _⟩ := accessors' t ht
  rw [a1, a2, a3, a4]
  exact with_field' t v ht hv

/-- the fields a well-formed time shows are in range; second and nanosecond in closed form -/
theorem shown_bounds (t : Time) (ht : TValid t) :
    (0 ≤ t.hour ∧ t.hour < 24) ∧ (0 ≤ t.minute ∧ t.minute < 60) ∧ (0 ≤ t.second ∧ t.second < 60) ∧
    (0 ≤ t.nanosecond ∧ t.nanosecond < 2000000000) ∧ t.second = t.secs % 60 ∧ t.nanosecond = t.frac := by
  obtain ⟨a1, a2, a3, a4, b1, b2, b3, b4, b5, b6, _⟩ := accessors' t ht
  rw [a1, a2, a3, a4]
  exact ⟨⟨b1, b2⟩, ⟨b3, b4⟩, ⟨b5, b6⟩, ht.2.2, rfl, rfl⟩

theorem time_with_fields (t : Time) (v : Int) (ht : TValid t) (hv : 0 ≤ v) :
    ((t.with_hour v = none ↔ 24 ≤ v) ∧
      ∀ t', t.with_hour v = some t' → HasFields t' v t.minute t.second t.nanosecond) ∧
    ((t.with_minute v = none ↔ 60 ≤ v) ∧
      ∀ t', t.with_minute v = some t' → HasFields t' t.hour v t.second t.nanosecond) ∧
    ((t.with_second v = none ↔ 60 ≤ v) ∧
      ∀ t', t.with_second v = some t' → HasFields t' t.hour t.minute v t.nanosecond) ∧
    ((t.with_nanosecond v = none ↔ 2000000000 ≤ v) ∧
      ∀ t', t.with_nanosecond v = some t' → HasFields t' t.hour t.minute t.second v) := by
  obtain ⟨w1, w2, w3, w4⟩ := with_shown t v ht hv
  obtain ⟨bh, bm, bs, bn, -, -⟩ := shown_bounds t ht
  rw [w1, w2, w3, w4]
  refine ⟨⟨ite_some_cases.1.trans Int.not_lt, fun t' h => ?_⟩, ⟨ite_some_cases.1.trans Int.not_lt, fun t' h => ?_⟩,
    ⟨ite_some_cases.1.trans Int.not_lt, fun t' h => ?_⟩, ⟨ite_some_cases.1.trans Int.not_lt, fun t' h => ?_⟩⟩
  · obtain ⟨c, rfl⟩ := ite_some_cases.2 t' h
    exact ofFields_has _ _ _ _ ⟨hv, c⟩ bm bs bn
  · obtain ⟨c, rfl⟩ := ite_some_cases.2 t' h
    exact ofFields_has _ _ _ _ bh ⟨hv, c⟩ bs bn
  · obtain ⟨c, rfl⟩ := ite_some_cases.2 t' h
    exact ofFields_has _ _ _ _ bh bm ⟨hv, c⟩ bn
  · obtain ⟨c, rfl⟩ := ite_some_cases.2 t' h
    exact ofFields_has _ _ _ _ bh bm bs ⟨hv, c⟩

/-- the results of the time-of-day replacements are well-formed times -/
theorem time_with_valid (t : Time) (v : Int) (ht : TValid t) (hv : 0 ≤ v) :
    (∀ t', t.with_hour v = some t' → TValid t') ∧ (∀ t', t.with_minute v = some t' → TValid t') ∧
    (∀ t', t.with_second v = some t' → TValid t') ∧ (∀ t', t.with_nanosecond v = some t' → TValid t') := by
  obtain ⟨⟨_, h1⟩, ⟨_, h2⟩, ⟨_, h3⟩, ⟨_, h4⟩⟩ := time_with_fields t v ht hv
  exact ⟨fun t' h => (h1 t' h).1, fun t' h => (h2 t' h).1, fun t' h => (h3 t' h).1,
    fun t' h => (h4 t' h).1⟩

/-! ### `NaiveDateTime` forms on a reading of the extended calendar -/

/-- a `NaiveDateTime` operation that works on the date part keeps the time of day -/
theorem mapDate_ok (dt : NaiveDT) {r : Res (Option Date)} {o : Option Date} (h : r = .ok o) :
    dt.mapDate r = .ok (o.map fun d => ⟨d, dt.time⟩) := by
  rw [h]; rfl

theorem ndt_eta (l : NaiveDT) : (⟨l.date, l.time⟩ : NaiveDT) = l := by cases l; rfl

/-- the calendar-field replacements and month steps of a `NaiveDateTime` whose date is a date of the
calendar extended by one year at each end (a wall clock may be one) -/
theorem ndt_ops_ext (l : NaiveDT) (hext : ExtDateInv l.date) (v k : Nat) (y' : Int) :
    l.with_year y' = .ok ((ymdDate? y' (monthOfYo l.date.year l.date.ordinal.toNat)
        (dayOfYo l.date.year l.date.ordinal.toNat)).map fun d => ⟨d, l.time⟩) ∧
    l.with_month v = .ok (ymdReading? l.date.year v (dayOfYo l.date.year l.date.ordinal.toNat) l.time) ∧
    l.with_month0 v = .ok (ymdReading? l.date.year (v + 1) (dayOfYo l.date.year l.date.ordinal.toNat) l.time) ∧
    l.with_day v = .ok (ymdReading? l.date.year (monthOfYo l.date.year l.date.ordinal.toNat) v l.time) ∧
    l.with_day0 v = .ok (ymdReading? l.date.year (monthOfYo l.date.year l.date.ordinal.toNat) (v + 1) l.time) ∧
    l.with_ordinal v = .ok (yoReading? l.date.year v l.time) ∧
    l.with_ordinal0 v = .ok (yoReading? l.date.year (v + 1) l.time) ∧
    l.checked_add_months k = .ok ((if k = 0 then some l.date else
        addMonths? l.date.year (monthOfYo l.date.year l.date.ordinal.toNat)
          (dayOfYo l.date.year l.date.ordinal.toNat) k).map fun d => ⟨d, l.time⟩) ∧
    l.checked_sub_months k = .ok ((if k = 0 then some l.date else
        addMonths? l.date.year (monthOfYo l.date.year l.date.ordinal.toNat)
          (dayOfYo l.date.year l.date.ordinal.toNat) (-(k : Int))).map fun d => ⟨d, l.time⟩) := by
  obtain ⟨el, vl⟩ := ext_eq l.date hext
  have hy : MIN_YEAR - 1 ≤ l.date.year ∧ l.date.year ≤ MAX_YEAR + 1 := ⟨vl.1, vl.2.1⟩
  have ho : 1 ≤ l.date.ordinal.toNat ∧ l.date.ordinal.toNat ≤ yearLen l.date.year := ⟨vl.2.2.1, vl.2.2.2⟩
  have w1 := with_year_spec l.date.year l.date.ordinal.toNat ho y'
  have w2 := with_month_any l.date.year l.date.ordinal.toNat ho v
  have w3 := with_month0_any l.date.year l.date.ordinal.toNat ho v
  have w4 := with_day_any l.date.year l.date.ordinal.toNat ho v
  have w5 := with_day0_any l.date.year l.date.ordinal.toNat ho v
  have w6 := with_ordinal_any l.date.year l.date.ordinal.toNat ho v
  have w7 := with_ordinal0_any l.date.year l.date.ordinal.toNat ho v
  obtain ⟨m1, m2⟩ := months_ext l.date.year l.date.ordinal.toNat hy ho k
  rw [← el] at w1 w2 w3 w4 w5 w6 w7 m1 m2
  rw [ymdReading_eq, ymdReading_eq, ymdReading_eq, ymdReading_eq, yoReading_eq, yoReading_eq]
  exact ⟨mapDate_ok l w1, mapDate_ok l w2, mapDate_ok l w3, mapDate_ok l w4, mapDate_ok l w5, mapDate_ok l w6,
    mapDate_ok l w7, mapDate_ok l m1, mapDate_ok l m2⟩

/-! ### zone-aware forms -/

/-- the closure `DateTime::with_year` hands to `map_local`, against the specification's reading -/
theorem with_year_local (l : NaiveDT) (hext : ExtDateInv l.date) (y' : Int) :
    withYearLocal y' l = .ok (yearReading? l y') := by
  obtain ⟨n1, _⟩ := ndt_ops_ext l hext 0 0 y'
  unfold withYearLocal yearReading?
  by_cases hc : y' = l.date.year
  · rw [if_pos hc.symm, if_pos hc]
  · rw [if_neg (fun h => hc h.symm), if_neg hc, n1]
    refine congrArg Res.ok ?_
    unfold ymdDate? ymdReading?
    by_cases hr : MIN_YEAR ≤ y' ∧ y' ≤ MAX_YEAR
    · rw [if_pos hr]
      by_cases hv : validYmd y' (monthOfYo l.date.year l.date.ordinal.toNat)
          (dayOfYo l.date.year l.date.ordinal.toNat) = true
      · rw [if_pos ⟨hr.1, hr.2, hv⟩, if_pos hv]; rfl
      · rw [if_neg (fun h => hv h.2.2), if_neg hv]; rfl
    · rw [if_neg hr, if_neg (fun h => hr ⟨h.1, h.2.1⟩)]; rfl

theorem zoned_with_year_eq (z : Zoned) (y : Int) : Zoned.with_year z y = Zoned.map_local z (withYearLocal y) := rfl

/-- a well-formed value is "its own wall clock converted back, unfiltered" -/
theorem acts_self (z : Zoned) (hz : ZInv z) (l : NaiveDT) (hl : Zoned.overflowing_naive_local z = .ok l) :
    ActsOnWallWith (fun s _ => InRangeSecs s) z (some l) (some z) := by
  obtain ⟨h2, h3, h4, _, _, _, hur⟩ := wall_date_cases z hz l hl
  have hs : instSecs z.utc = instSecs l - z.off := by rw [h3]; unfold wallSecs; omega
  constructor
  · intro z' hz'
    cases hz'
    exact ⟨l, rfl, rfl, hz, hl, hs, h4.symm, hur⟩
  · constructor
    · intro h; cases h
    · intro h
      rcases h with h | ⟨nl, e, h⟩
      · cases h
      · cases e; exfalso; apply h; rw [← hs]; exact hur

/-- every date-field replacement and month step of a zone-aware value: what the `NaiveDateTime`
operation makes of the wall clock (`r0`), converted back at the same offset and filtered -/
theorem zoned_date_ops (z : Zoned) (hz : ZInv z) (l : NaiveDT)
    (hl : Zoned.overflowing_naive_local z = .ok l) (v k : Nat) (y' : Int) :
    (∃ r0 r, withYearLocal y' l = .ok r0 ∧ Zoned.with_year z y' = .ok r ∧ ActsOnWall z r0 r) ∧
    (∃ r0 r, l.with_month v = .ok r0 ∧ Zoned.with_month z v = .ok r ∧ ActsOnWall z r0 r) ∧
    (∃ r0 r, l.with_month0 v = .ok r0 ∧ Zoned.with_month0 z v = .ok r ∧ ActsOnWall z r0 r) ∧
    (∃ r0 r, l.with_day v = .ok r0 ∧ Zoned.with_day z v = .ok r ∧ ActsOnWall z r0 r) ∧
    (∃ r0 r, l.with_day0 v = .ok r0 ∧ Zoned.with_day0 z v = .ok r ∧ ActsOnWall z r0 r) ∧
    (∃ r0 r, l.with_ordinal v = .ok r0 ∧ Zoned.with_ordinal z v = .ok r ∧ ActsOnWall z r0 r) ∧
    (∃ r0 r, l.with_ordinal0 v = .ok r0 ∧ Zoned.with_ordinal0 z v = .ok r ∧ ActsOnWall z r0 r) ∧
    (∃ r0 r, l.checked_add_months k = .ok r0 ∧ Zoned.checked_add_months z k = .ok r ∧
      ActsOnWallWith (fun s _ => InRangeSecs s) z r0 r) ∧
    (∃ r0 r, l.checked_sub_months k = .ok r0 ∧ Zoned.checked_sub_months z k = .ok r ∧
      ActsOnWallWith (fun s _ => InRangeSecs s) z r0 r) := by
  obtain ⟨hext, _⟩ := wall_date_cases z hz l hl
  obtain ⟨-, n2, n3, n4, n5, n6, n7, n8, n9⟩ := ndt_ops_ext l hext.1 v k y'
  obtain ⟨⟨r1, a1, b1⟩, ⟨r2, a2, b2⟩, ⟨r3, a3, b3⟩, ⟨r4, a4, b4⟩, ⟨r5, a5, b5⟩, ⟨r6, a6, b6⟩, ⟨r7, a7, b7⟩⟩ :=
    zoned_with_date_fields z hz l hl v y'
  obtain ⟨⟨r8, a8, b8, c8⟩, ⟨r9, a9, b9, c9⟩⟩ := zoned_months z hz l hl k
  refine ⟨⟨_, r1, with_year_local l hext.1 y', a1, b1⟩, ⟨_, r2, n2, a2, b2⟩, ⟨_, r3, n3, a3, b3⟩, ⟨_, r4, n4, a4, b4⟩,
    ⟨_, r5, n5, a5, b5⟩, ⟨_, r6, n6, a6, b6⟩, ⟨_, r7, n7, a7, b7⟩, ⟨_, r8, n8, a8, ?_⟩, ⟨_, r9, n9, a9, ?_⟩⟩
  · by_cases h0 : k = 0
    · rw [if_pos h0, b8 h0]
      dsimp only [Option.map_some]
      rw [ndt_eta]
      exact acts_self z hz l hl
    · rw [if_neg h0]; exact c8 (by omega)
  · by_cases h0 : k = 0
    · rw [if_pos h0, b9 h0]
      dsimp only [Option.map_some]
      rw [ndt_eta]
      exact acts_self z hz l hl
    · rw [if_neg h0]; exact c9 (by omega)

/-- a replacement `f` in the time of day that returns well-formed times acts on the wall clock -/
theorem zoned_map_time (z : Zoned) (hz : ZInv z) (l : NaiveDT) (hl : Zoned.overflowing_naive_local z = .ok l)
    (f : Time → Option Time) (hf : ∀ t', f l.time = some t' → TValid t') :
    ∃ r0 r, l.mapTime (f l.time) = .ok r0 ∧
      Zoned.map_local z (fun dt => dt.mapTime (f dt.time)) = .ok r ∧ ActsOnWall z r0 r := by
  obtain ⟨hext, _⟩ := wall_date_cases z hz l hl
  have hv : ∀ nl, (f l.time).map (fun t => (⟨l.date, t⟩ : NaiveDT)) = some nl → ExtNDTInv nl := by
    intro nl hnl
    obtain ⟨t, ht, rfl⟩ := Option.map_eq_some_iff.mp hnl
    exact ⟨hext.1, hf t ht⟩
  obtain ⟨r, a, b⟩ := map_local_acts z hz (fun dt => dt.mapTime (f dt.time)) l _ hl rfl hv
  exact ⟨_, r, rfl, a, b⟩

/-- the time-of-day replacements of a zone-aware value -/
theorem zoned_time_ops (z : Zoned) (hz : ZInv z) (l : NaiveDT)
    (hl : Zoned.overflowing_naive_local z = .ok l) (w : Int) (hw : 0 ≤ w) :
    (∃ r0 r, l.with_hour w = .ok r0 ∧ Zoned.with_hour z w = .ok r ∧ ActsOnWall z r0 r) ∧
    (∃ r0 r, l.with_minute w = .ok r0 ∧ Zoned.with_minute z w = .ok r ∧ ActsOnWall z r0 r) ∧
    (∃ r0 r, l.with_second w = .ok r0 ∧ Zoned.with_second z w = .ok r ∧ ActsOnWall z r0 r) ∧
    (∃ r0 r, l.with_nanosecond w = .ok r0 ∧ Zoned.with_nanosecond z w = .ok r ∧ ActsOnWall z r0 r) := by
  obtain ⟨hext, _⟩ := wall_date_cases z hz l hl
  obtain ⟨v1, v2, v3, v4⟩ := time_with_valid l.time w hext.2 hw
  exact ⟨zoned_map_time z hz l hl (·.with_hour w) v1, zoned_map_time z hz l hl (·.with_minute w) v2,
    zoned_map_time z hz l hl (·.with_second w) v3, zoned_map_time z hz l hl (·.with_nanosecond w) v4⟩

/-! ### `DateTime::years_since` -/

/-- `time()` is the time of day of the wall clock -/
theorem zoned_time_eq (z : Zoned) (l : NaiveDT) (hl : Zoned.overflowing_naive_local z = .ok l) :
    Zoned.time z = .ok l.time := by
  unfold Zoned.overflowing_naive_local NaiveDT.overflowing_add_offset at hl
  unfold Zoned.time
  cases hp : Time.overflowing_add_offset z.utc.time z.off with
  | panic => rw [hp] at hl; cases hl
  | ok p =>
    rw [hp, rbind_ok] at hl
    rw [rbind_ok]
    by_cases c1 : p.2 = -1
    · rw [if_pos c1] at hl
      cases hq : z.utc.date.pred_opt with
      | panic => rw [hq] at hl; cases hl
      | ok q => rw [hq, rbind_ok] at hl; cases hl; rfl
    · rw [if_neg c1] at hl
      by_cases c2 : p.2 = 1
      · rw [if_pos c2] at hl
        cases hq : z.utc.date.succ_opt with
        | panic => rw [hq] at hl; cases hl
        | ok q => rw [hq, rbind_ok] at hl; cases hl; rfl
      · rw [if_neg c2] at hl; cases hl; rfl

theorem tupleLt_iff (m1 d1 : Nat) (t1 : Time) (m0 d0 : Nat) (t0 : Time) :
    Zoned.tupleLt m1 d1 t1 m0 d0 t0 = true ↔
      (m1 < m0 ∨ (m1 = m0 ∧ (d1 < d0 ∨ (d1 = d0 ∧
        (t1.secs < t0.secs ∨ (t1.secs = t0.secs ∧ t1.frac < t0.frac)))))) := by
  unfold Zoned.tupleLt Time.cmp
  by_cases hm : m1 = m0
  · by_cases hd : d1 = d0
    · rw [if_neg (by simpa using hm), if_neg (by simpa using hd), decide_eq_true_eq]
      constructor
      · intro h; right; refine ⟨hm, Or.inr ⟨hd, ?_⟩⟩
        by_cases c1 : t1.secs < t0.secs
        · left; exact c1
        · rw [if_neg c1] at h
          by_cases c2 : t1.secs > t0.secs
          · rw [if_pos c2] at h; omega
          · rw [if_neg c2] at h
            by_cases c3 : t1.frac < t0.frac
            · right; exact ⟨by omega, c3⟩
            · rw [if_neg c3] at h
              by_cases c4 : t1.frac > t0.frac
              · rw [if_pos c4] at h; omega
              · rw [if_neg c4] at h; omega
      · intro h
        have h' : t1.secs < t0.secs ∨ (t1.secs = t0.secs ∧ t1.frac < t0.frac) := by omega
        rcases h' with h' | ⟨h1, h2⟩
        · rw [if_pos h']; omega
        · rw [if_neg (by omega), if_neg (by omega), if_pos h2]; omega
    · rw [if_neg (by simpa using hm), if_pos (by simpa using hd), decide_eq_true_eq]
      omega
  · rw [if_pos (by simpa using hm), decide_eq_true_eq]
    omega

/-- the value `years_since` computes from the two years and the outcome of the tuple comparison -/
def yearsElapsed (y1 y0 : Int) (earlier : Bool) : Option Int :=
  if y1 - y0 - (if earlier = true then 1 else 0) ≥ 0 then some (y1 - y0 - (if earlier = true then 1 else 0))
  else none

/-- `years_since` on a lexicographic order `(year, rest)`, where the code's test `c` decides
`L` = "`rest₁ < rest₀`": the year difference, less one if `c`, is the number `k` of whole years with
`(y0 + k, rest₀) ≤ (y1, rest₁) < (y0 + k + 1, rest₀)`, and there is none exactly when
`(y1, rest₁) < (y0, rest₀)`.  `NaiveDate::years_since` (rest = month, day) and `DateTime::years_since`
(rest = month, day, time of day) are the two instances. -/
theorem whole_years (y1 y0 : Int) (c L : Prop) [Decidable c] (hc : c ↔ L) (k : Int) :
    ((if y1 - y0 - (if c then 1 else 0) ≥ 0 then some (y1 - y0 - (if c then 1 else 0)) else none) = some k ↔
      0 ≤ k ∧ ¬ (y1 < y0 + k ∨ (y1 = y0 + k ∧ L)) ∧ (y1 < y0 + k + 1 ∨ (y1 = y0 + k + 1 ∧ L))) ∧
    ((if y1 - y0 - (if c then 1 else 0) ≥ 0 then some (y1 - y0 - (if c then 1 else 0)) else none) = none ↔
      (y1 < y0 ∨ (y1 = y0 ∧ L))) := by
  rw [Option.ite_none_right_eq_some, ite_eq_right_iff, ← hc]
  by_cases h : c
  · simp only [h, if_true, and_true, reduceCtorEq, imp_false, Option.some.injEq]
    omega
  · simp only [h, if_false, and_false, or_false, reduceCtorEq, imp_false, Option.some.injEq]
    omega

theorem years_arith (y1 y0 : Int) (m1 d1 m0 d0 : Nat) (t1 t0 : Time) (k : Int) :
    (yearsElapsed y1 y0 (Zoned.tupleLt m1 d1 t1 m0 d0 t0) = some k ↔
        WholeYearsT y0 m0 d0 t0 y1 m1 d1 t1 k) ∧
    (yearsElapsed y1 y0 (Zoned.tupleLt m1 d1 t1 m0 d0 t0) = none ↔
        ymdtLt y1 m1 d1 t1 y0 m0 d0 t0) :=
  whole_years y1 y0 _ _ (tupleLt_iff m1 d1 t1 m0 d0 t0) k

/-- `month()` and `day()` read the wall clock -/
theorem zoned_month_day (z : Zoned) (hz : ZInv z) (l : NaiveDT) (hl : Zoned.overflowing_naive_local z = .ok l) :
    Zoned.month z = .ok (monthOfYo l.date.year l.date.ordinal.toNat) ∧
    Zoned.day z = .ok (dayOfYo l.date.year l.date.ordinal.toNat) := by
  obtain ⟨x, _⟩ := wall_date_cases z hz l hl
  obtain ⟨e, v⟩ := ext_eq l.date x.1
  obtain ⟨ma, da, _, _⟩ := month_day_spec l.date.year l.date.ordinal.toNat v.2.2.1 v.2.2.2
  rw [← e] at ma da
  unfold Zoned.month Zoned.day
  rw [hl]
  exact ⟨ma, da⟩

/-- `years_since` in terms of the two wall clocks -/
theorem zoned_years_since_eq (z b : Zoned) (hz : ZInv z) (hb : ZInv b) (l1 l0 : NaiveDT)
    (h1 : Zoned.overflowing_naive_local z = .ok l1) (h0 : Zoned.overflowing_naive_local b = .ok l0) :
    Zoned.years_since z b = .ok (yearsElapsed l1.date.year l0.date.year
      (Zoned.tupleLt (monthOfYo l1.date.year l1.date.ordinal.toNat)
        (dayOfYo l1.date.year l1.date.ordinal.toNat) l1.time
        (monthOfYo l0.date.year l0.date.ordinal.toNat)
        (dayOfYo l0.date.year l0.date.ordinal.toNat) l0.time)) := by
  obtain ⟨⟨⟨p1, p2, _⟩, _⟩, _⟩ := wall_date_cases z hz l1 h1
  obtain ⟨⟨⟨q1, q2, _⟩, _⟩, _⟩ := wall_date_cases b hb l0 h0
  obtain ⟨ma, da⟩ := zoned_month_day z hz l1 h1
  obtain ⟨mb, db⟩ := zoned_month_day b hb l0 h0
  -- wall-clock years lie within one of the supported range, so neither subtraction leaves `i32`
  have hy : -524288 ≤ l1.date.year - l0.date.year ∧ l1.date.year - l0.date.year ≤ 524288 := by
    have hMIN : MIN_YEAR = -262143 := rfl
    have hMAX : MAX_YEAR = 262142 := rfl
    omega
  unfold Zoned.years_since Zoned.year yearsElapsed
  rw [ma, da, mb, db, zoned_time_eq z l1 h1, zoned_time_eq b l0 h0, h1, h0]
  dsimp only [rbind_ok]
  rw [ckI32_ok (by omega) (by omega), rbind_ok]
  generalize Zoned.tupleLt _ _ _ _ _ _ = c
  have hc : 0 ≤ (if c = true then (1 : Int) else 0) ∧ (if c = true then (1 : Int) else 0) ≤ 1 := by
    cases c <;> decide
  generalize (if c = true then (1 : Int) else 0) = e at hc ⊢
  rw [ckI32_ok (by omega) (by omega), rbind_ok]

/-- the order of (year, month, day) is the order of the day numbers -/
theorem ymd_daynum (y1 y0 : Int) (o1 o0 : Nat) (ho1 : 1 ≤ o1 ∧ o1 ≤ yearLen y1)
    (ho0 : 1 ≤ o0 ∧ o0 ≤ yearLen y0) :
    (dayNumYo y1 o1 < dayNumYo y0 o0 ↔
      (y1 < y0 ∨ (y1 = y0 ∧ (monthOfYo y1 o1 < monthOfYo y0 o0 ∨
        (monthOfYo y1 o1 = monthOfYo y0 o0 ∧ dayOfYo y1 o1 < dayOfYo y0 o0))))) ∧
    (dayNumYo y1 o1 = dayNumYo y0 o0 ↔
      (y1 = y0 ∧ monthOfYo y1 o1 = monthOfYo y0 o0 ∧ dayOfYo y1 o1 = dayOfYo y0 o0)) := by
  obtain ⟨_, _, a3, a4⟩ := month_day_spec y1 o1 ho1.1 ho1.2
  obtain ⟨_, _, b3, b4⟩ := month_day_spec y0 o0 ho0.1 ho0.2
  have ha := valid_bounds _ _ _ a3
  have hb := valid_bounds _ _ _ b3
  have hord := ymd_lex_ordinal y1 y0 _ _ _ _ a3 b3
  rw [a4, b4] at hord
  have heq : y1 = y0 → (monthOfYo y1 o1 = monthOfYo y0 o0 ∧ dayOfYo y1 o1 = dayOfYo y0 o0 ↔ o1 = o0) := by
    intro hy
    subst hy
    constructor
    · intro h; rw [← a4, ← b4, h.1, h.2]
    · intro h; subst h; exact ⟨rfl, rfl⟩
  obtain ⟨hlt, he⟩ := dayNumYo_lex y1 y0 o1 o0 ho1 ho0
  rw [hlt, he]
  generalize monthOfYo y1 o1 = m1 at *
  generalize dayOfYo y1 o1 = d1 at *
  generalize monthOfYo y0 o0 = m0 at *
  generalize dayOfYo y0 o0 = d0 at *
  clear hlt he a3 b3 a4 b4
  constructor
  · constructor
    · intro h
      rcases h with h | ⟨h1, h2⟩
      · left; exact h
      · right; refine ⟨h1, ?_⟩
        have := (hord h1).mpr h2
        omega
    · intro h
      rcases h with h | ⟨h1, h2⟩
      · left; exact h
      · right; refine ⟨h1, (hord h1).mp (by omega)⟩
  · constructor
    · intro h; exact ⟨h.1, (heq h.1).mpr h.2⟩
    · intro h; exact ⟨h.1, (heq h.1).mp h.2⟩

/-- the order `years_since` compares by is the order of the wall clocks (whole seconds, then the
nanosecond field) -/
theorem ymdt_wall (l1 l0 : NaiveDT) (x1 : ExtNDTInv l1) (x0 : ExtNDTInv l0) :
    ymdtLt l1.date.year (monthOfYo l1.date.year l1.date.ordinal.toNat)
        (dayOfYo l1.date.year l1.date.ordinal.toNat) l1.time
      l0.date.year (monthOfYo l0.date.year l0.date.ordinal.toNat)
        (dayOfYo l0.date.year l0.date.ordinal.toNat) l0.time ↔
    (instSecs l1 < instSecs l0 ∨ (instSecs l1 = instSecs l0 ∧ l1.time.frac < l0.time.frac)) := by
  obtain ⟨-, v1⟩ := ext_eq l1.date x1.1
  obtain ⟨-, v0⟩ := ext_eq l0.date x0.1
  obtain ⟨hlt, heq⟩ := ymd_daynum l1.date.year l0.date.year l1.date.ordinal.toNat l0.date.ordinal.toNat
    ⟨v1.2.2.1, v1.2.2.2⟩ ⟨v0.2.2.1, v0.2.2.2⟩
  rw [instSecs_ext l1 x1.1, instSecs_ext l0 x0.1]
  obtain ⟨s1, s1', -⟩ := x1.2
  obtain ⟨s0, s0', -⟩ := x0.2
  -- the lexicographic order on five components is the one on (day number, second, fraction)
  have lex : ymdtLt l1.date.year (monthOfYo l1.date.year l1.date.ordinal.toNat)
        (dayOfYo l1.date.year l1.date.ordinal.toNat) l1.time
      l0.date.year (monthOfYo l0.date.year l0.date.ordinal.toNat)
        (dayOfYo l0.date.year l0.date.ordinal.toNat) l0.time ↔
      (dayNumYo l1.date.year l1.date.ordinal.toNat < dayNumYo l0.date.year l0.date.ordinal.toNat ∨
        (dayNumYo l1.date.year l1.date.ordinal.toNat = dayNumYo l0.date.year l0.date.ordinal.toNat ∧
          (l1.time.secs < l0.time.secs ∨ (l1.time.secs = l0.time.secs ∧ l1.time.frac < l0.time.frac)))) := by
    rw [hlt, heq]
    constructor
    · rintro (h | ⟨hy, h | ⟨hm, h | ⟨hd, h⟩⟩⟩)
      · exact .inl (.inl h)
      · exact .inl (.inr ⟨hy, .inl h⟩)
      · exact .inl (.inr ⟨hy, .inr ⟨hm, h⟩⟩)
      · exact .inr ⟨⟨hy, hm, hd⟩, h⟩
    · rintro ((h | ⟨hy, h | ⟨hm, h⟩⟩) | ⟨⟨hy, hm, hd⟩, h⟩)
      · exact .inl h
      · exact .inr ⟨hy, .inl h⟩
      · exact .inr ⟨hy, .inr ⟨hm, .inl h⟩⟩
      · exact .inr ⟨hy, .inr ⟨hm, .inr ⟨hd, h⟩⟩⟩
  rw [lex]
  clear lex hlt heq v1 v0 x1 x0
  generalize dayNumYo l1.date.year l1.date.ordinal.toNat = n1
  generalize dayNumYo l0.date.year l0.date.ordinal.toNat = n0
  constructor <;> intro h <;> omega

end Chrono.Proofs.DTO
