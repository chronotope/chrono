/- C05: the user-visible layer — `Cache::offset` (unix.rs), `TimeZone::from_local_datetime` for `Local`
   and the `MappedLocalTime` contract (earliest first). -/
import Chrono.Proofs.TzLookupL

set_option linter.unusedSimpArgs false
set_option linter.unusedVariables false

namespace Chrono.Proofs.TzL
open Chrono Chrono.M.Tz Chrono.M.TzL Chrono.Spec.Zone Chrono.Extracted.TzL Chrono.Proofs

theorem classifiesOff_map (off : Int → Int) (ℓ : Int) (r : Mapped Ltt) :
    ClassifiesOff off ℓ (r.map (·.off)) ↔ Classifies off ℓ r := by
  cases r <;> exact Iff.rfl

theorem earliest_map {α β} (m : Mapped α) (f : α → β) : (m.map f).earliest = m.earliest.map f := by
  cases m <;> rfl
theorem latest_map {α β} (m : Mapped α) (f : α → β) : (m.map f).latest = m.latest.map f := by
  cases m <;> rfl

theorem east_opt_some (o : Int) (h : -86400 < o ∧ o < 86400) : east_opt o = some o := by
  unfold east_opt; rw [if_pos h]
theorem east_opt_none (o : Int) (h : ¬ (-86400 < o ∧ o < 86400)) : east_opt o = none := by
  unfold east_opt; rw [if_neg h]

/-- lookup by wall clock through the glue when every candidate offset fits `FixedOffset` -/
theorem cache_offset_local (z : Zone) (ℓ : Int)
    (ho : ∀ x ∈ (z.find_local_time_type_from_local ℓ).toList, -86400 < x.off ∧ x.off < 86400) :
    cache_offset z ℓ true = .ok ((z.find_local_time_type_from_local ℓ).map (·.off)) := by
  unfold cache_offset
  simp only [Bool.not_true, Bool.false_eq_true, if_false]
  congr 1
  generalize z.find_local_time_type_from_local ℓ = r at *
  cases r with
  | none => rfl
  | single x =>
    have := ho x (by simp [Mapped.toList])
    simp only [Mapped.and_then, Mapped.map, east_opt_some _ this]
  | ambiguous x y =>
    have h1 := ho x (by simp [Mapped.toList])
    have h2 := ho y (by simp [Mapped.toList])
    simp only [Mapped.and_then, Mapped.map, east_opt_some _ h1, east_opt_some _ h2]

/-- `TimeZone::from_local_datetime` for `Local` when every candidate instant is a `NaiveDateTime` -/
theorem local_from_local_eq (z : Zone) (ℓ : Int)
    (ho : ∀ x ∈ (z.find_local_time_type_from_local ℓ).toList, -86400 < x.off ∧ x.off < 86400)
    (hg : ∀ x ∈ (z.find_local_time_type_from_local ℓ).toList, NDT_MIN_TS ≤ ℓ - x.off ∧ ℓ - x.off ≤ NDT_MAX_TS) :
    local_from_local_datetime z ℓ =
      .ok (((z.find_local_time_type_from_local ℓ).map (·.off)).map (fun o => (ℓ - o, o))) := by
  unfold local_from_local_datetime
  rw [cache_offset_local z ℓ ho]
  simp only
  congr 1
  generalize z.find_local_time_type_from_local ℓ = r at *
  cases r with
  | none => rfl
  | single x =>
    have := hg x (by simp [Mapped.toList])
    simp only [Mapped.and_then, Mapped.map, checked_sub_offset, if_pos this, Option.map]
  | ambiguous x y =>
    have h1 := hg x (by simp [Mapped.toList])
    have h2 := hg y (by simp [Mapped.toList])
    simp only [Mapped.and_then, Mapped.map, checked_sub_offset, if_pos h1, if_pos h2, Option.map]

end Chrono.Proofs.TzL
