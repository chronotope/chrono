/-
  Helper lemmas for C11: what the wall-clock fields of a value denote.  A value carrying the
  leap-second representation (nanosecond field ≥ 10⁹) on a second OTHER than :59 of a minute (only
  `with_nanosecond` builds it) is shown with `second + 1` (≤ 59), so the text denotes the following
  whole second; that second lies on the same UTC day, hence always inside the range.  Every other
  value is shown as itself to whole seconds.  `readBack` is both at once.
-/
import Chrono.Proofs.Rfc2822WriteL
namespace Chrono.Proofs.Rfc2822
open Chrono Chrono.M Chrono.Spec Chrono.Spec.Rfc2822 Chrono.Extracted Chrono.M.Format

/-- the following whole second of an in-band leap value is a well-formed value on the same UTC day,
one second later -/
theorem nextSec_facts (z : Zoned) (hz : ZInv z) (hl : InbandLeap z) :
    ZInv (nextSec z) ∧ instSecs (nextSec z).utc = instSecs z.utc + 1 ∧ (nextSec z).utc.time.frac = 0 ∧
    (nextSec z).off = z.off ∧ TStrict (nextSec z).utc.time := by
  obtain ⟨⟨hdi, t0, t1, f0, f1⟩, ho⟩ := hz
  obtain ⟨l1, l2⟩ := hl
  have hs : z.utc.time.secs + 1 < 86400 := by omega
  refine ⟨⟨⟨hdi, ?_, ?_, ?_, ?_⟩, ho⟩, ?_, rfl, rfl, ⟨?_, ?_, ?_, ?_⟩, Or.inl ?_⟩
  all_goals (unfold nextSec; (try unfold instSecs); dsimp only; omega)

/-- `readBack z` is well formed at the same offset; its second count is that of `z`, one more for the
in-band leap representation; it is a leap-second value exactly when `z` is one on :59 -/
theorem readBack_facts (z : Zoned) (hz : ZInv z) :
    ZInv (readBack z) ∧ (readBack z).off = z.off ∧
    instSecs (readBack z).utc = instSecs z.utc + (if InbandLeap z then 1 else 0) ∧
    (readBack z).utc.time.frac =
      (if z.utc.time.frac ≥ 1000000000 ∧ z.utc.time.secs % 60 = 59 then 1000000000 else 0) := by
  unfold readBack
  by_cases hl : InbandLeap z
  · obtain ⟨n1, n2, n3, n4, _⟩ := nextSec_facts z hz hl
    rw [if_pos hl, if_pos hl, if_neg (fun h => hl.2 h.2)]
    exact ⟨n1, n4, n2, n3⟩
  · obtain ⟨⟨hd, t0, t1, f0, f1⟩, ho⟩ := hz
    rw [if_neg hl, if_neg hl]
    refine ⟨⟨⟨hd, t0, t1, ?_, ?_⟩, ho⟩, rfl, (Int.add_zero _).symm, ?_⟩
    · show 0 ≤ (if z.utc.time.frac ≥ 1000000000 then 1000000000 else 0); split <;> omega
    · show (if z.utc.time.frac ≥ 1000000000 then 1000000000 else 0) < 2000000000; split <;> omega
    · show (if z.utc.time.frac ≥ 1000000000 then 1000000000 else 0) = _
      by_cases hf : z.utc.time.frac ≥ 1000000000
      · rw [if_pos hf, if_pos ⟨hf, Classical.not_not.mp fun h => hl ⟨hf, h⟩⟩]
      · rw [if_neg hf, if_neg fun h => hf h.1]

/-- the wall-clock fields of EVERY well-formed value with wall-clock year 0–9999 and whole-minute offset:
showable, valid, and denoting `readBack z` — never out of range, because `readBack z` is on the UTC day
of `z` -/
theorem fieldsOf_readBack (z : Zoned) (hz : ZInv z) (Y : Int) (o : Nat)
    (hw : WallDate z Y o) (hr : 0 ≤ Y ∧ Y ≤ 9999) (hoff : z.off % 60 = 0) :
    StdFields (fieldsOf z Y o) ∧ Valid (fieldsOf z Y o) ∧ Denotes (fieldsOf z Y o) (readBack z) := by
  obtain ⟨w1, w2, w3⟩ := hw
  obtain ⟨rz, roff, rsecs, rfrac⟩ := readBack_facts z hz
  have hS : 0 ≤ wallSecs z % 86400 ∧ wallSecs z % 86400 < 86400 := by omega
  obtain ⟨hstd, hvalid, h60, hloc⟩ :=
    wallFields_facts Y o w1 w2 hr (wallSecs z % 86400) z.utc.time.frac z.off hS hoff hz.2
  -- a whole-minute offset: the wall clock shows the second of the minute that the instant has
  have hs60 : wallSecs z % 86400 % 60 = z.utc.time.secs % 60 := by unfold wallSecs instSecs; omega
  rw [hs60] at h60 hloc
  have hl : localSecs (fieldsOf z Y o) - z.off = instSecs (readBack z).utc := by
    rw [rsecs]; unfold fieldsOf; rw [hloc, w3]
    show _ = instSecs z.utc + (if z.utc.time.frac ≥ 1000000000 ∧ z.utc.time.secs % 60 ≠ 59 then 1 else 0)
    unfold wallSecs; omega
  refine ⟨hstd, hvalid (hl ▸ Ts.instSecs_range _ rz.1), roff, hl.symm, ?_, rz⟩
  rw [rfrac]
  by_cases h : z.utc.time.frac ≥ 1000000000 ∧ z.utc.time.secs % 60 = 59
  · exact (if_pos h).trans (if_pos (h60.mpr h)).symm
  · exact (if_neg h).trans (if_neg (fun h' => h (h60.mp h'))).symm

/-- the wall-clock fields of a well-formed value with constructor-built time (leap second only on
:59), wall-clock year 0–9999 and whole-minute offset: showable, valid, and denoting the value
truncated to whole seconds -/
theorem fieldsOf_facts (z : Zoned) (hz : ZInv z) (hs : TStrict z.utc.time) (Y : Int) (o : Nat)
    (hw : WallDate z Y o) (hr : 0 ≤ Y ∧ Y ≤ 9999) (hoff : z.off % 60 = 0) :
    StdFields (fieldsOf z Y o) ∧ Valid (fieldsOf z Y o) ∧ Denotes (fieldsOf z Y o) (truncSecs z) := by
  have hl : ¬ InbandLeap z := fun hl => hs.2.elim (fun h => Int.not_le.mpr h hl.1) hl.2
  have h := fieldsOf_readBack z hz Y o hw hr hoff
  rwa [readBack, if_neg hl] at h

/-- the wall-clock fields of a well-formed value with the in-band leap representation on a second
other than :59, wall-clock year 0–9999 and whole-minute offset: showable, valid, and denoting the
FOLLOWING whole second (`nextSec z`) -/
theorem fieldsOf_facts_inband (z : Zoned) (hz : ZInv z) (hl : InbandLeap z) (Y : Int) (o : Nat)
    (hw : WallDate z Y o) (hr : 0 ≤ Y ∧ Y ≤ 9999) (hoff : z.off % 60 = 0) :
    StdFields (fieldsOf z Y o) ∧ Valid (fieldsOf z Y o) ∧ Denotes (fieldsOf z Y o) (nextSec z) := by
  have h := fieldsOf_readBack z hz Y o hw hr hoff
  rwa [readBack, if_pos hl] at h

end Chrono.Proofs.Rfc2822
