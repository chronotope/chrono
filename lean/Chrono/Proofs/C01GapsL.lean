/-
  Helper lemmas for the audit gaps of C01 (audit/C01.md): the order stated on `Date.cmp`, the
  range-end facts, day shifts in year-ordinal form.
-/
import Chrono.Proofs.IsoL
import Chrono.Proofs.DateArithL
import Chrono.Proofs.DateOpsL
import Chrono.Model.IsoWeekOrd
import Chrono.Model.DateViews

namespace Chrono.Proofs.C01Gaps
open Chrono Chrono.M Chrono.Spec Chrono.Extracted Chrono.Proofs

/-! ### order on `Date.cmp` (the function the driver op `d.cmp` evaluates) -/

theorem cmp_spec (y1 y2 : Int) (o1 o2 : Nat) (h1 : 1 ≤ o1 ∧ o1 ≤ yearLen y1)
    (h2 : 1 ≤ o2 ∧ o2 ≤ yearLen y2) :
    Date.cmp (dateOfYo y1 o1) (dateOfYo y2 o2) =
      (if dayNumYo y1 o1 < dayNumYo y2 o2 then -1 else if dayNumYo y1 o1 > dayNumYo y2 o2 then 1 else 0) := by
  obtain ⟨a, b⟩ := order_spec y1 y2 o1 o2 h1 h2
  obtain ⟨a', b'⟩ := order_spec y2 y1 o2 o1 h2 h1
  unfold Date.cmp
  by_cases c1 : dayNumYo y1 o1 < dayNumYo y2 o2
  · rw [if_pos c1, if_pos (a.mpr c1)]
  · rw [if_neg c1, if_neg (fun h => c1 (a.mp h))]
    by_cases c2 : dayNumYo y1 o1 > dayNumYo y2 o2
    · rw [if_pos c2, if_pos (a'.mpr c2)]
    · rw [if_neg c2, if_neg (fun h => c2 (a'.mp h))]

/-! ### range ends -/

/-- no date of the range lies before MIN or after MAX, and the day numbers of the range are exactly
the 191,491,529 integers between the two -/
theorem range_ends (y : Int) (o : Nat) (hy : MIN_YEAR ≤ y ∧ y ≤ MAX_YEAR) (ho : 1 ≤ o ∧ o ≤ yearLen y) :
    dayNumYo MIN_YEAR 1 ≤ dayNumYo y o ∧ dayNumYo y o ≤ dayNumYo MAX_YEAR 365 :=
  (range_iff_iso y o ho).mp hy

/-- every day number between those of MIN and MAX is the day number of a date of the range -/
theorem range_onto (n : Int) (h : dayNumYo MIN_YEAR 1 ≤ n ∧ n ≤ dayNumYo MAX_YEAR 365) :
    ∃ y o, MIN_YEAR ≤ y ∧ y ≤ MAX_YEAR ∧ 1 ≤ o ∧ o ≤ yearLen y ∧ dayNumYo y o = n := by
  have c1 : dayNumYo MIN_YEAR 1 = -95746129 := by decide
  have c2 : dayNumYo MAX_YEAR 365 = 95745399 := by decide
  obtain ⟨r, _, hsome, hnone⟩ := ctor_days' n (by omega)
  cases r with
  | none => exact absurd (hnone.mp rfl) (by omega)
  | some d =>
    obtain ⟨y, o, _, a1, a2, a3, a4, a5⟩ := hsome d rfl
    exact ⟨y, o, a1, a2, a3, a4, a5⟩

/-! ### day shifts in year-ordinal form (the theorems themselves are C03's: Proofs/DateArithL.lean) -/

/-- C03's `IsDayShift` outcome of a date given as `dateOfYo y o`, unpacked into C01's vocabulary -/
theorem shift_yo (y : Int) (o : Nat) (k : Int) (r : Option Date) (hy : MIN_YEAR ≤ y ∧ y ≤ MAX_YEAR)
    (ho : 1 ≤ o ∧ o ≤ yearLen y) (h : IsDayShift (dateOfYo y o) k r) :
    (r = none ↔ (dayNumYo y o + k < dayNumYo MIN_YEAR 1 ∨ dayNumYo MAX_YEAR 365 < dayNumYo y o + k)) ∧
    (∀ d, r = some d → ∃ y' o', d = dateOfYo y' o' ∧ MIN_YEAR ≤ y' ∧ y' ≤ MAX_YEAR ∧ 1 ≤ o' ∧
      o' ≤ yearLen y' ∧ dayNumYo y' o' = dayNumYo y o + k) := by
  obtain ⟨c1, c2, c3, c4, _, _⟩ := dn_consts
  obtain ⟨_, hdn⟩ := inv_of_yo y o hy ho
  obtain ⟨hn, hs⟩ := h
  rw [hdn, c1, c2] at hn
  refine ⟨by rw [c3, c4]; exact hn, ?_⟩
  intro d hd
  obtain ⟨hinv, hd'⟩ := hs d hd
  obtain ⟨he, p1, p2, p3⟩ := inv_eq d hinv
  refine ⟨d.year, d.ordinal.toNat, he, hinv.1, hinv.2.1, p1, p2, ?_⟩
  rw [← hdn, ← hd']
  unfold dayNumOf
  rw [p3]

/-- an `Option Date` described through `dateOfYo`, read on its packed word (the translated code
returns the word) -/
theorem map_yof {P : Int → Nat → Prop} {r : Option Date}
    (h : ∀ d, r = some d → ∃ y o, d = dateOfYo y o ∧ P y o) (w : Int) (hw : r.map Date.yof = some w) :
    ∃ y o, w = (dateOfYo y o).yof ∧ P y o := by
  obtain ⟨d, hd, rfl⟩ := Option.map_eq_some_iff.mp hw
  obtain ⟨y, o, e, hp⟩ := h d hd
  exact ⟨y, o, congrArg Date.yof e, hp⟩

/-! ### successor / predecessor on the user-visible weekday and order -/

theorem wd_succ_toNat (w : Weekday) : (w.succ.toNat : Int) = ((w.toNat : Int) + 1) % 7 := by
  cases w <;> decide

end Chrono.Proofs.C01Gaps
