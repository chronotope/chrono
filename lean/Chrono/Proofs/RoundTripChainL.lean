/-
  C13, third lemma file: the item lemmas stated for a value's context (what `format_item` writes for the
  value ⇒ what the reader sets; numeric items by the tables `numWrite` / `numRange`), how renderings start,
  and the derivation of the token chain from the syntactic predicate `Spec.separated` (for the formatted
  text and for its case / white-space perturbations).
  Namespace `Chrono.Proofs.RoundTrip`.
-/
import Chrono.Proofs.RoundTripItemsL
import Chrono.Proofs.ParsedIsoL
import Chrono.Proofs.ParsedDtL
import Chrono.Proofs.Rfc3339L
import Chrono.Spec.PerturbSpec

namespace Chrono.Proofs.RoundTrip
open Chrono Chrono.M Chrono.M.Scan Chrono.Spec Chrono.Spec.Fields Chrono.Extracted Chrono.Proofs Chrono.Proofs.ParsedRes

/-- the context is one a real value shows: an existing day of the supported range, a valid time of
day, an offset strictly inside ±24 h -/
def CtxOk (c : Ctx) : Prop :=
  (∀ d, c.date = some d → ∃ Y o, VD Y o ∧ d = dateOfYo Y o) ∧
  (∀ t, c.time = some t → TValid t) ∧
  (∀ o, c.off = some o → -86400 < o.2 ∧ o.2 < 86400)

/-- the two ways a context's date enters a proof: an existing day `dateOfYo Y o`, or none -/
theorem CtxOk.date_cases {c : Ctx} (hc : CtxOk c) {P : Prop}
    (h1 : ∀ Y o, VD Y o → c.date = some (dateOfYo Y o) → P) (h2 : c.date = none → P) : P := by
  cases hd : c.date with
  | none => exact h2 hd
  | some d => obtain ⟨Y, o, hvd, rfl⟩ := hc.1 d hd; exact h1 Y o hvd hd

theorem CtxOk.time_cases {c : Ctx} (hc : CtxOk c) {P : Prop}
    (h1 : ∀ t, TValid t → c.time = some t → P) (h2 : c.time = none → P) : P := by
  cases ht : c.time with
  | none => exact h2 ht
  | some t => exact h1 t (hc.2.1 t ht) ht

/-- the offset the timestamp item subtracts (0 without an offset) is below a day -/
theorem CtxOk.off_bounds {c : Ctx} (hc : CtxOk c) :
    -86400 < (c.off.map (·.2)).getD 0 ∧ (c.off.map (·.2)).getD 0 < 86400 := by
  cases ho : c.off with
  | none => simp
  | some x => simpa using hc.2.2 x ho

/-- accessor values and ranges of an existing day -/
theorem date_facts (Y : Int) (o : Nat) (h : VD Y o) :
    (dateOfYo Y o).year = Y ∧ (dateOfYo Y o).ordinal = o ∧ 1 ≤ o ∧ o ≤ 366 ∧ -262143 ≤ Y ∧ Y ≤ 262142 ∧
    (dateOfYo Y o).month = .ok (monthOfYo Y o) ∧ (dateOfYo Y o).day = .ok (dayOfYo Y o) ∧
    1 ≤ monthOfYo Y o ∧ monthOfYo Y o ≤ 12 ∧ 1 ≤ dayOfYo Y o ∧ dayOfYo Y o ≤ 31 ∧
    Format.weeks_from (dateOfYo Y o) .sun = weekNo Y o 6 ∧ Format.weeks_from (dateOfYo Y o) .mon = weekNo Y o 0 ∧
    0 ≤ weekNo Y o 6 ∧ weekNo Y o 6 ≤ 53 ∧ 0 ≤ weekNo Y o 0 ∧ weekNo Y o 0 ≤ 53 ∧
    (∃ w, (dateOfYo Y o).iso_week = .ok w ∧ 1 ≤ IsoWeek.week w ∧ IsoWeek.week w ≤ 53 ∧
      -1000000 < IsoWeek.year w ∧ IsoWeek.year w < 1000000) := by
  obtain ⟨hy, hord, _, hm, hd, _, ho⟩ := vd_fields Y o h
  obtain ⟨w1, w2, b1, b2, b3, b4⟩ := weeks_from_spec Y o h
  obtain ⟨v1, v2, v3, v4⟩ := h
  have hMIN : MIN_YEAR = -262143 := rfl
  have hMAX : MAX_YEAR = 262142 := rfl
  obtain ⟨_, _, hval, _⟩ := month_day_spec Y o v3 v4
  obtain ⟨m1, m2, m3, m4⟩ := Rfc3339.validYmd_bounds _ _ _ hval
  obtain ⟨IY, ot, t1, t2, _, t4⟩ := iso_week_spec' Y o ⟨v1, v2⟩ ⟨v3, v4⟩
  have hylI := yearLen_ge IY
  obtain ⟨hf16, _, _, _⟩ := flagsOf_facts IY
  obtain ⟨_, f2⟩ := ywf_fields IY ((ot - 1) / 7 + 1) (flagsOf IY) (by omega) hf16
  obtain ⟨i1, i2⟩ := iso_year_bound Y o ⟨v1, v2, v3, v4⟩ _ t4
  exact ⟨hy, hord, v3, ho, by omega, by omega, hm, hd, m1, m2, m3, m4, w1, w2, b1, b2, b3, b4,
    _, t4, by rw [f2]; omega, by rw [f2]; omega, by omega, by omega⟩

theorem stops_of_spec (rest : List Nat) (h : startsNonDigit rest = true ∨ rest = []) : StopsDigits rest := by
  intro b t e
  rcases h with h | h
  · subst e; simpa [startsNonDigit] using h
  · subst h; cases e

/-- the two-digit items (reader width 2, unsigned), from the value -/
theorem two_digit_val (n : Numeric) (hs : (Parse.numericSpec n).2.1 = false)
    (hw : (Parse.numericSpec n).1 = some 2)
    (v : Int) (hv : 0 ≤ v ∧ v < 100) (pad : Pad) (rest : List Nat) (hrest : StopsDigits rest ∨ pad = .zero) :
    InvertsAt (.numeric n pad) ⟨Format.write_two (asU8 v) pad, fun p => (Parse.numericSpec n).2.2 p v⟩ rest := by
  have e : v = ((v.toNat : Nat) : Int) := by omega
  rw [asU8_small v (by omega)]
  have h := write_two_numText v.toNat (by omega) pad
  rw [← e] at h
  exact numText_inverts n pad _ rest v 2 _ hs hw h (stops_or_zero pad rest hrest)

/-- the one-digit items (reader width 1: anything may follow) -/
theorem one_digit_val (n : Numeric) (hs : (Parse.numericSpec n).2.1 = false)
    (hw : (Parse.numericSpec n).1 = some 1)
    (v : Int) (hv : 0 ≤ v ∧ v < 10) (pad : Pad) (rest : List Nat) :
    InvertsAt (.numeric n pad) ⟨Format.write_one (asU8 v), fun p => (Parse.numericSpec n).2.2 p v⟩ rest := by
  have e : v = ((v.toNat : Nat) : Int) := by omega
  rw [asU8_small v (by omega)]
  have h := write_one_numText v.toNat (by omega)
  rw [← e] at h
  exact numText_inverts n pad _ rest v 1 true hs hw h (Or.inr rfl)

/-- the unsigned `write_n` items (`%C`, `%j`, `%f`): the reader's width is the printed width `w` -/
theorem write_n_val (n : Numeric) (w : Nat) (hs : (Parse.numericSpec n).2.1 = false)
    (hw : (Parse.numericSpec n).1 = some w) (hw1 : 1 ≤ w) (hw17 : w ≤ 17)
    (v : Int) (h0 : 0 ≤ v) (hlt : v.toNat < 10 ^ w) (pad : Pad) (rest : List Nat)
    (hrest : StopsDigits rest ∨ pad = .zero) :
    InvertsAt (.numeric n pad) ⟨Format.write_n w v pad false, fun p => (Parse.numericSpec n).2.2 p v⟩ rest := by
  have h := unum_inverts n pad _ rest _ w _ hs hw (fmtInt_unum v w pad h0 hw1 hw17 hlt) hrest
  rwa [Int.toNat_of_nonneg h0] at h

theorem wok_inj (a b : List Nat) (h : Format.wok a = Format.wok b) : a = b := by
  simpa [Format.wok] using h

theorem time_facts (t : Time) (h : TValid t) :
    0 ≤ t.hour ∧ t.hour < 24 ∧ 1 ≤ t.hour12.2 ∧ t.hour12.2 ≤ 12 ∧ 0 ≤ t.minute ∧ t.minute < 60 ∧
    0 ≤ t.second + t.nanosecond / 1000000000 ∧ t.second + t.nanosecond / 1000000000 ≤ 60 ∧
    0 ≤ t.nanosecond % 1000000000 ∧ t.nanosecond % 1000000000 < 1000000000 := by
  obtain ⟨h1, h2, h3, h4⟩ := h
  unfold Time.hour12 Time.hour Time.minute Time.second Time.nanosecond Time.hms
  dsimp only
  refine ⟨by omega, by omega, ?_, ?_, by omega, by omega, by omega, by omega, by omega, by omega⟩
  · split <;> omega
  · split <;> omega

/-! ### numeric items: what is written, in which range, and that it is read back -/

/-- what `format_numeric` writes for an item whose number is `v`: the year writer, `write_n` of width 2, 3
or 9 (for the timestamp after the `i64` check, the one arm that can fail), one digit, or (most items) two digits -/
def numWrite (n : Numeric) (v : Int) (pad : Pad) : Format.W :=
  match n with
  | .year | .isoYear => Format.write_year v pad
  | .yearDiv100 | .isoYearDiv100 => Format.wok (Format.write_n 2 v pad false)
  | .quarter | .numDaysFromSun | .weekdayFromMon => Format.wok (Format.write_one (asU8 v))
  | .ordinal => Format.wok (Format.write_n 3 v pad false)
  | .nanosecond => Format.wok (Format.write_n 9 v pad false)
  | .timestamp => Format.W.ofRes (ckI64 v) fun ts => Format.wok (Format.write_n 9 ts pad false)
  | _ => Format.wok (Format.write_two (asU8 v) pad)

/-- the numbers an item shows for an existing day, a valid time and an offset below a day -/
def numRange (n : Numeric) (v : Int) : Prop :=
  match n with
  | .year | .isoYear => -1000000 < v ∧ v < 1000000
  | .quarter | .numDaysFromSun | .weekdayFromMon => 0 ≤ v ∧ v < 10
  | .ordinal => 0 ≤ v ∧ v < 1000
  | .nanosecond => 0 ≤ v ∧ v < 1000000000
  | .timestamp => -10000000000000 < v ∧ v < 10000000000000
  | _ => 0 ≤ v ∧ v < 100

theorem ofRes_wok {α} {r : Res α} {f : α → Format.W} {text : List Nat}
    (h : Format.W.ofRes r f = Format.wok text) : ∃ a, r = .ok a ∧ f a = Format.wok text := by
  cases r with
  | ok a => exact ⟨a, rfl, h⟩
  | panic => cases h

/-- **the writer, by the table**: a successful `format_numeric` wrote `numWrite` of the item's number
(an accessor that fails makes the writer fail, so nothing is assumed of the context) -/
theorem format_numeric_val (c : Ctx) (n : Numeric) (pad : Pad) (text : List Nat)
    (hfmt : Format.format_numeric c.date c.time (c.off.map (·.2)) n pad = Format.wok text) :
    ∃ v, numVal c n = some v ∧ numWrite n v pad = Format.wok text := by
  obtain ⟨d, t, off⟩ := c
  cases n with
  | hour | hour12 | minute | second | nanosecond =>
    cases t with
    | none => cases d <;> cases hfmt
    | some t => cases d <;> exact ⟨_, rfl, hfmt⟩
  | timestamp =>
    cases d with
    | none => cases t <;> cases hfmt
    | some d =>
      cases t with
      | none => cases hfmt
      | some t =>
        obtain ⟨ts, hts, h⟩ := ofRes_wok hfmt
        exact ⟨_, by simp only [numVal, hts], h⟩
  | year | yearDiv100 | yearMod100 | weekFromSun | weekFromMon | numDaysFromSun | weekdayFromMon | ordinal =>
    cases d with
    | none => cases t <;> cases hfmt
    | some d => exact ⟨_, rfl, hfmt⟩
  | isoYear | isoYearDiv100 | isoYearMod100 | isoWeek | quarter | month | day =>
    cases d with
    | none => cases t <;> cases hfmt
    | some d =>
      obtain ⟨a, ha, h⟩ := ofRes_wok hfmt
      exact ⟨_, by simp only [numVal, Option.bind_some, ha], h⟩

/-- **the ranges, by the table**, for the date items: the context's date is an existing day `(Y, o)` -/
theorem numVal_range_date (c : Ctx) (Y : Int) (o : Nat) (hvd : VD Y o) (hd : c.date = some (dateOfYo Y o))
    (n : Numeric) (hn : n ∉ [Numeric.hour, .hour12, .minute, .second, .nanosecond, .timestamp]) (pad : Pad)
    (v : Int) (hv : numVal c n = some v) (hexp : ItemExpr c (.numeric n pad)) : numRange n v := by
  obtain ⟨fy, fo, o1, o2, y1, y2, hm, hdd, m1, m2, d1, d2, ws, wm, b1, b2, b3, b4, w, hw, w1, w2, w3, w4⟩ :=
    date_facts Y o hvd
  have hy : numVal c .year = some Y := by simp only [numVal, hd, Option.map_some, fy]
  have hiy : numVal c .isoYear = some (IsoWeek.year w) := by simp only [numVal, hd, Option.bind_some, hw]
  simp only [numVal, hd, Option.map_some, Option.bind_some, fy, fo, hm, hdd, hw, ws, wm] at hv
  cases n with
  | hour | hour12 | minute | second | nanosecond | timestamp => exact absurd (by simp) hn
  | yearDiv100 => cases hv; have := hexp Y hy; exact ⟨by omega, by omega⟩
  | isoYearDiv100 => cases hv; have := hexp _ hiy; exact ⟨by omega, by omega⟩
  | quarter => cases hv; unfold Format.quarter; exact ⟨by omega, by omega⟩
  | numDaysFromSun | weekdayFromMon => cases hv; cases (dateOfYo Y o).weekday <;> exact ⟨by decide, by decide⟩
  | _ => cases hv; exact ⟨by omega, by omega⟩

/-- **the ranges, by the table**: the number of an item on a value's context -/
theorem numVal_range (c : Ctx) (hc : CtxOk c) (n : Numeric) (pad : Pad) (v : Int) (hv : numVal c n = some v)
    (hexp : ItemExpr c (.numeric n pad)) : numRange n v := by
  cases n with
  | hour | hour12 | minute | second | nanosecond =>
    refine hc.time_cases (fun t htv ht => ?_) (fun ht => by simp [numVal, ht] at hv)
    obtain ⟨a1, a2, a3, a4, a5, a6, a7, a8, a9, a10⟩ := time_facts t htv
    simp only [numVal, ht, Option.map_some, Option.some.injEq] at hv
    subst hv
    exact ⟨by omega, by omega⟩
  | timestamp =>
    refine hc.date_cases (fun Y o hvd hd => ?_) (fun hd => by simp [numVal, hd] at hv)
    refine hc.time_cases (fun t htv ht => ?_) (fun ht => by simp [numVal, hd, ht] at hv)
    obtain ⟨s1, s2, s3⟩ := ParsedRes.timestamp_spec Y o t hvd htv
    have hoff := hc.off_bounds
    simp only [numVal, hd, ht, s1, Option.some.injEq] at hv
    subst hv
    exact ⟨by omega, by omega⟩
  | _ =>
    exact hc.date_cases (fun Y o hvd hd => numVal_range_date c Y o hvd hd _ (by decide) pad v hv hexp)
      (fun hd => by simp [numVal, hd] at hv)

/-- **the reader, by the table**: the text written for a number of the item's range is read back as that
number, by the reader lemma of the writer's shape -/
theorem numWrite_inverts (c : Ctx) (n : Numeric) (pad : Pad) (v : Int) (text rest : List Nat)
    (hv : numVal c n = some v) (hr : numRange n v) (hw : numWrite n v pad = Format.wok text)
    (hrest : RestOk c (.numeric n pad) rest) :
    InvertsAt (.numeric n pad) ⟨text, fun p => (Parse.numericSpec n).2.2 p v⟩ rest := by
  have stop2 : ∀ {pad : Pad}, ((startsNonDigit rest = true ∨ rest = []) ∨ pad = .zero) →
      StopsDigits rest ∨ pad = .zero := fun h => h.imp (stops_of_spec rest) id
  cases n with
  | year | isoYear =>
    obtain ⟨h1, h2⟩ := hr
    obtain ⟨text', e1, e2⟩ := write_year_text v pad ⟨by omega, by omega⟩
    cases wok_inj _ _ (e1.symm.trans hw)
    refine snum_inverts _ pad _ rest v _ rfl e2 ?_
    rcases hrest with h | ⟨hz, h⟩
    · exact Or.inl (stops_of_spec rest h)
    · exact Or.inr ⟨hz, h v hv⟩
  | yearDiv100 | isoYearDiv100 | ordinal | nanosecond =>
    obtain ⟨h1, h2⟩ := hr
    cases wok_inj _ _ hw
    exact write_n_val _ _ rfl rfl (by decide) (by decide) v h1 (by omega) pad rest (stop2 hrest)
  | quarter | numDaysFromSun | weekdayFromMon =>
    cases wok_inj _ _ hw
    exact one_digit_val _ rfl rfl v hr pad rest
  | timestamp =>
    obtain ⟨h1, h2⟩ := hr
    simp only [numWrite, Format.W.ofRes, ckI64_ok (x := v) (by omega) (by omega)] at hw
    cases wok_inj _ _ hw
    exact snum_inverts _ pad _ rest v False rfl (write_timestamp_text v pad ⟨by omega, by omega⟩)
      (Or.inl (stops_of_spec rest hrest))
  | _ =>
    cases wok_inj _ _ hw
    exact two_digit_val _ rfl rfl v hr pad rest (stop2 hrest)

theorem invertsAt_congr (it : Item) (text rest : List Nat) (set set' : Parsed → PRes Parsed)
    (h : ∀ p, set p = set' p) (hi : InvertsAt it ⟨text, set⟩ rest) : InvertsAt it ⟨text, set'⟩ rest := by
  intro p; have := hi p; simp only [h p] at this; exact this

theorem wsRunAux_chars : ∀ (fuel : Nat) (s : List Nat), wsRunAux fuel s = true →
    ∃ cs, WsChars cs ∧ cs.flatten = s
  | _, [], _ => ⟨[], fun c hc => (by cases hc), rfl⟩
  | 0, _ :: _, h => by simp [wsRunAux] at h
  | fuel + 1, b :: rest, h => by
    simp only [wsRunAux, Bool.and_eq_true, bne_iff_ne, ne_eq] at h
    obtain ⟨c, r, e, hl, hne, hw⟩ := wsLen_prefix (b :: rest) h.1
    have hd : (b :: rest).drop (wsLen (b :: rest)) = r := by
      rw [← hl]
      calc (b :: rest).drop c.length = (c ++ r).drop c.length := by rw [← e]
        _ = r := List.drop_left
    obtain ⟨cs, hcs, hf⟩ := wsRunAux_chars fuel r (by rw [← hd]; exact h.2)
    refine ⟨c :: cs, ?_, by rw [List.flatten_cons, hf, e]⟩
    intro c' hc'
    rcases List.mem_cons.mp hc' with rfl | hc'
    · exact ⟨hne, hw⟩
    · exact hcs c' hc'

/-- a run of white-space characters (what a white-space item of a format holds) splits into its
characters -/
theorem wsRun_chars (s : List Nat) (h : wsRun s = true) : ∃ cs, WsChars cs ∧ cs.flatten = s :=
  wsRunAux_chars s.length s h

/-- a run of white-space characters does not start with a digit or a dot -/
theorem wsRun_head (a : Nat) (t : List Nat) (h : wsRun (a :: t) = true) : a ≠ 46 := by
  intro e
  subst e
  simp [wsRun, wsRunAux, wsLen] at h

/-- `%.f`: nothing for a whole second, otherwise a dot and 3, 6 or 9 digits -/
theorem format_fixed_optfrac (d : Option Date) (t : Time) (off : Option (List Nat × Int)) :
    Format.format_fixed d (some t) off .nanosecond =
      (if t.nanosecond % 1000000000 = 0 then Format.wok []
       else if t.nanosecond % 1000000000 % 1000000 = 0 then
         Format.wok (46 :: Format.fmtInt (t.nanosecond % 1000000000 / 1000000) 3 .zero false)
       else if t.nanosecond % 1000000000 % 1000 = 0 then
         Format.wok (46 :: Format.fmtInt (t.nanosecond % 1000000000 / 1000) 6 .zero false)
       else Format.wok (46 :: Format.fmtInt (t.nanosecond % 1000000000) 9 .zero false)) := by
  cases d <;> rfl

/-- what `%.f` writes for the context's time: nothing for a whole second, otherwise a dot and the 3, 6 or 9
digits of `v`, where `v · 10^(9-k)` is the fraction -/
theorem optfrac_text (c : Ctx) (text : List Nat)
    (hfmt : Format.format_fixed c.date c.time c.off .nanosecond = Format.wok text) :
    ∃ t, c.time = some t ∧
      ((t.nanosecond % 1000000000 = 0 ∧ text = []) ∨
       (t.nanosecond % 1000000000 ≠ 0 ∧ ∃ (k : Nat) (v : Int), text = 46 :: Format.fmtInt v k .zero false ∧
          0 ≤ v ∧ v < ((10 ^ k : Nat) : Int) ∧ 1 ≤ k ∧ k ≤ 9 ∧
          v * ((10 ^ (9 - k) : Nat) : Int) = t.nanosecond % 1000000000)) := by
  cases ht : c.time with
  | none => rw [ht] at hfmt; cases hd : c.date <;> rw [hd] at hfmt <;> cases hfmt
  | some t =>
    rw [ht, format_fixed_optfrac] at hfmt
    refine ⟨t, rfl, ?_⟩
    have a : 0 ≤ t.nanosecond % 1000000000 ∧ t.nanosecond % 1000000000 < 1000000000 := by omega
    generalize t.nanosecond % 1000000000 = nano at *
    by_cases h0 : nano = 0
    · rw [if_pos h0] at hfmt
      exact Or.inl ⟨h0, (wok_inj _ _ hfmt).symm⟩
    · rw [if_neg h0] at hfmt
      refine Or.inr ⟨h0, ?_⟩
      by_cases h3 : nano % 1000000 = 0
      · rw [if_pos h3] at hfmt
        exact ⟨3, nano / 1000000, (wok_inj _ _ hfmt).symm, by omega, by norm_num; omega, by decide, by decide,
          by norm_num; omega⟩
      · rw [if_neg h3] at hfmt
        by_cases h6 : nano % 1000 = 0
        · rw [if_pos h6] at hfmt
          exact ⟨6, nano / 1000, (wok_inj _ _ hfmt).symm, by omega, by norm_num; omega, by decide, by decide,
            by norm_num; omega⟩
        · rw [if_neg h6] at hfmt
          exact ⟨9, nano, (wok_inj _ _ hfmt).symm, by omega, by norm_num; omega, by decide, by decide, by norm_num⟩

/-- what `%b` / `%B` write: the name of the month `m` of the context's day -/
theorem month_text (c : Ctx) (hc : CtxOk c) (f : Fixed) (hf : f = .shortMonthName ∨ f = .longMonthName)
    (text : List Nat) (hfmt : Format.format_fixed c.date c.time c.off f = Format.wok text) :
    ∃ m : Nat, 1 ≤ m ∧ m ≤ 12 ∧ numVal c .month = some (m : Int) ∧
      (f = .shortMonthName → text = LOC_SHORT_MONTHS.getD (m - 1) []) ∧
      (f = .longMonthName → text = LOC_LONG_MONTHS.getD (m - 1) []) := by
  refine hc.date_cases (fun Y o hvd hd => ?_) (fun hd => ?_)
  · obtain ⟨_, _, _, _, _, _, hm, _, m1, m2, _⟩ := date_facts Y o hvd
    rw [hd] at hfmt
    refine ⟨monthOfYo Y o, m1, m2, by simp [numVal, hd, hm], ?_⟩
    rcases hf with rfl | rfl
    · simp only [Format.format_fixed, Format.W.ofRes, hm] at hfmt
      exact ⟨fun _ => (wok_inj _ _ hfmt).symm, nofun⟩
    · simp only [Format.format_fixed, Format.W.ofRes, hm] at hfmt
      exact ⟨nofun, fun _ => (wok_inj _ _ hfmt).symm⟩
  · rw [hd] at hfmt; rcases hf with rfl | rfl <;> cases hfmt

/-- what `%a` / `%A` write: the name of the weekday of the context's day -/
theorem weekday_text (c : Ctx) (f : Fixed) (hf : f = .shortWeekdayName ∨ f = .longWeekdayName)
    (text : List Nat) (hfmt : Format.format_fixed c.date c.time c.off f = Format.wok text) :
    ∃ d, c.date = some d ∧
      (f = .shortWeekdayName → text = LOC_SHORT_WEEKDAYS.getD d.weekday.num_days_from_sunday []) ∧
      (f = .longWeekdayName → text = LOC_LONG_WEEKDAYS.getD d.weekday.num_days_from_sunday []) := by
  cases hd : c.date with
  | none => rw [hd] at hfmt; rcases hf with rfl | rfl <;> cases hfmt
  | some d =>
    rw [hd] at hfmt
    refine ⟨d, rfl, ?_⟩
    rcases hf with rfl | rfl
    · exact ⟨fun _ => (wok_inj _ _ hfmt).symm, nofun⟩
    · exact ⟨nofun, fun _ => (wok_inj _ _ hfmt).symm⟩

/-- what `%p` / `%P` write: two letters, `am` or `pm` up to letter case -/
theorem ampm_text (c : Ctx) (f : Fixed) (hf : f = .lowerAmPm ∨ f = .upperAmPm) (text : List Nat)
    (hfmt : Format.format_fixed c.date c.time c.off f = Format.wok text) :
    ∃ t a b, c.time = some t ∧ text = [a, b] ∧ isAsciiAlpha a = true ∧
      lowerB a = (if t.hour12.1 then 112 else 97) ∧ lowerB b = 109 := by
  cases ht : c.time with
  | none =>
    rw [ht] at hfmt
    rcases hf with rfl | rfl <;> cases hd : c.date <;> rw [hd] at hfmt <;> cases hfmt
  | some t =>
    rw [ht] at hfmt
    refine ⟨t, ?_⟩
    rcases hf with rfl | rfl
    · have : Format.format_fixed c.date (some t) c.off .lowerAmPm =
          Format.wok (lowerS (LOC_AM_PM.getD (if t.hour12.1 then 1 else 0) [])) := by cases c.date <;> rfl
      have e := wok_inj _ _ (this.symm.trans hfmt)
      cases hpm : t.hour12.1 <;> rw [hpm] at e <;> subst e <;> exact ⟨_, _, rfl, rfl, by decide, by decide, by decide⟩
    · have : Format.format_fixed c.date (some t) c.off .upperAmPm =
          Format.wok (LOC_AM_PM.getD (if t.hour12.1 then 1 else 0) []) := by cases c.date <;> rfl
      have e := wok_inj _ _ (this.symm.trans hfmt)
      cases hpm : t.hour12.1 <;> rw [hpm] at e <;> subst e <;> exact ⟨_, _, rfl, rfl, by decide, by decide, by decide⟩

/-- what `%z` / `%:z` write: a sign and a body, which the reader takes back as the rounded offset -/
theorem offset_text (c : Ctx) (hc : CtxOk c) (f : Fixed) (hf : f = .timezoneOffset ∨ f = .timezoneOffsetColon)
    (text rest : List Nat) (hfmt : Format.format_fixed c.date c.time c.off f = Format.wok text) :
    ∃ sg body x, c.off = some x ∧ text = sg :: body ∧ (sg = 43 ∨ sg = 45) ∧
      InvertsAt (.fixed f) ⟨text, fun p => p.set_offset (roundedOffset x.2)⟩ rest := by
  cases ho : c.off with
  | none =>
    rw [ho] at hfmt
    rcases hf with rfl | rfl <;> cases hd : c.date <;> cases ht : c.time <;> rw [hd, ht] at hfmt <;> cases hfmt
  | some x =>
    obtain ⟨name, off⟩ := x
    obtain ⟨sg, body, hsg, e1, e2⟩ := offset_inverts f hf c.date c.time name off (hc.2.2 _ ho) rest
    rw [ho] at hfmt
    have := wok_inj _ _ (e1.symm.trans hfmt); subst this
    exact ⟨sg, body, _, rfl, rfl, hsg, e2⟩

/-- what `%.3f %.6f %.9f` write for the context's time: a dot and the `k` digits of `v`, where the reader
has to store `v · 10^(9-k)` -/
theorem dotfrac_text (c : Ctx) (f : Fixed) (hf : f = .nanosecond3 ∨ f = .nanosecond6 ∨ f = .nanosecond9)
    (text : List Nat) (hfmt : Format.format_fixed c.date c.time c.off f = Format.wok text) :
    ∃ (k : Nat) (v : Int), text = 46 :: Format.fmtInt v k .zero false ∧ 0 ≤ v ∧ v < ((10 ^ k : Nat) : Int) ∧
      1 ≤ k ∧ k ≤ 9 ∧
      fieldCall c (.fixed f) = some fun p => p.set_nanosecond (v * ((10 ^ (9 - k) : Nat) : Int)) := by
  cases ht : c.time with
  | none =>
    rw [ht] at hfmt
    rcases hf with rfl | rfl | rfl <;> cases hd : c.date <;> rw [hd] at hfmt <;> cases hfmt
  | some t =>
    rw [ht] at hfmt
    have key : ∀ (k : Nat) (v : Int),
        Format.format_fixed c.date (some t) c.off f = Format.wok (46 :: Format.fmtInt v k .zero false) →
        text = 46 :: Format.fmtInt v k .zero false := fun k v h => (wok_inj _ _ (h.symm.trans hfmt)).symm
    rcases hf with rfl | rfl | rfl
    · exact ⟨3, t.nanosecond / 1000000 % 1000, key _ _ (by cases c.date <;> rfl), by omega, by norm_num; omega,
        by decide, by decide, by simp only [fieldCall, ht, Option.map_some]; rfl⟩
    · exact ⟨6, t.nanosecond / 1000 % 1000000, key _ _ (by cases c.date <;> rfl), by omega, by norm_num; omega,
        by decide, by decide, by simp only [fieldCall, ht, Option.map_some]; rfl⟩
    · exact ⟨9, t.nanosecond % 1000000000, key _ _ (by cases c.date <;> rfl), by omega, by norm_num; omega,
        by decide, by decide,
        by simp only [fieldCall, ht, Option.map_some, Nat.sub_self, Nat.pow_zero, Nat.cast_one, Int.mul_one]⟩

/-- the same for `%3f %6f %9f`, which print no dot -/
theorem nodotfrac_text (c : Ctx) (f : Fixed)
    (hf : f = .nanosecond3NoDot ∨ f = .nanosecond6NoDot ∨ f = .nanosecond9NoDot)
    (text : List Nat) (hfmt : Format.format_fixed c.date c.time c.off f = Format.wok text) :
    ∃ (k : Nat) (v : Int), text = Format.fmtInt v k .zero false ∧ 0 ≤ v ∧ v < ((10 ^ k : Nat) : Int) ∧
      ((f = .nanosecond3NoDot ∧ k = 3) ∨ (f = .nanosecond6NoDot ∧ k = 6) ∨ (f = .nanosecond9NoDot ∧ k = 9)) ∧
      fieldCall c (.fixed f) = some fun p => p.set_nanosecond (v * ((10 ^ (9 - k) : Nat) : Int)) := by
  cases ht : c.time with
  | none =>
    rw [ht] at hfmt
    rcases hf with rfl | rfl | rfl <;> cases hd : c.date <;> rw [hd] at hfmt <;> cases hfmt
  | some t =>
    rw [ht] at hfmt
    have key : ∀ (k : Nat) (v : Int),
        Format.format_fixed c.date (some t) c.off f = Format.wok (Format.fmtInt v k .zero false) →
        text = Format.fmtInt v k .zero false := fun k v h => (wok_inj _ _ (h.symm.trans hfmt)).symm
    rcases hf with rfl | rfl | rfl
    · exact ⟨3, t.nanosecond / 1000000 % 1000, key _ _ (by cases c.date <;> rfl), by omega, by norm_num; omega,
        .inl ⟨rfl, rfl⟩, by simp only [fieldCall, ht, Option.map_some]; rfl⟩
    · exact ⟨6, t.nanosecond / 1000 % 1000000, key _ _ (by cases c.date <;> rfl), by omega, by norm_num; omega,
        .inr (.inl ⟨rfl, rfl⟩), by simp only [fieldCall, ht, Option.map_some]; rfl⟩
    · exact ⟨9, t.nanosecond % 1000000000, key _ _ (by cases c.date <;> rfl), by omega, by norm_num; omega,
        .inr (.inr ⟨rfl, rfl⟩),
        by simp only [fieldCall, ht, Option.map_some, Nat.sub_self, Nat.pow_zero, Nat.cast_one, Int.mul_one]⟩

/-- **fixed items, for a value's context** -/
theorem fixed_inverts_ctx (c : Ctx) (hc : CtxOk c) (f : Fixed) (hp : provedItem (.fixed f) = true)
    (text rest : List Nat) (hfmt : Format.format_fixed c.date c.time c.off f = Format.wok text)
    (hrest : RestOk c (.fixed f) rest) :
    ∃ set, fieldCall c (.fixed f) = some set ∧ InvertsAt (.fixed f) ⟨text, set⟩ rest := by
  have monthCase : ∀ (f : Fixed), (f = .shortMonthName ∨ f = .longMonthName) →
      Format.format_fixed c.date c.time c.off f = Format.wok text →
      ∃ set, fieldCall c (.fixed f) = some set ∧ InvertsAt (.fixed f) ⟨text, set⟩ rest := by
    intro f hf hfmt
    obtain ⟨m, m1, m2, hv, hs, hl⟩ := month_text c hc f hf text hfmt
    obtain ⟨r1, r2⟩ := month_name_reads (m - 1) (by omega) text rest
    have hcast : ((m - 1 : Nat) : Int) + 1 = (m : Int) := by omega
    refine ⟨fun p => p.set_month m, by rcases hf with rfl | rfl <;> simp [fieldCall, hv], fun p => ?_⟩
    rcases hf with rfl | rfl
    · simp only [step, Parse.parseItemBase, Parse.parseFixedBase, r1 (by rw [hs rfl]), hcast]
    · simp only [step, Parse.parseItemBase, Parse.parseFixedBase, r2 (by rw [hl rfl]), hcast]
  have wdCase : ∀ (f : Fixed), (f = .shortWeekdayName ∨ f = .longWeekdayName) →
      Format.format_fixed c.date c.time c.off f = Format.wok text →
      ∃ set, fieldCall c (.fixed f) = some set ∧ InvertsAt (.fixed f) ⟨text, set⟩ rest := by
    intro f hf hfmt
    obtain ⟨d, hd, hs, hl⟩ := weekday_text c f hf text hfmt
    obtain ⟨r1, r2⟩ := weekday_name_reads d.weekday text rest
    refine ⟨fun p => p.set_weekday d.weekday, by rcases hf with rfl | rfl <;> simp [fieldCall, hd], fun p => ?_⟩
    rcases hf with rfl | rfl
    · simp only [step, Parse.parseItemBase, Parse.parseFixedBase, r1 (by rw [hs rfl])]
    · simp only [step, Parse.parseItemBase, Parse.parseFixedBase, r2 (by rw [hl rfl])]
  cases f with
  | shortMonthName => exact monthCase _ (Or.inl rfl) hfmt
  | longMonthName => exact monthCase _ (Or.inr rfl) hfmt
  | shortWeekdayName => exact wdCase _ (Or.inl rfl) hfmt
  | longWeekdayName => exact wdCase _ (Or.inr rfl) hfmt
  | lowerAmPm | upperAmPm =>
    obtain ⟨t, a, b, ht, rfl, _, ha, hb⟩ := ampm_text c _ (by simp) text hfmt
    exact ⟨_, by simp [fieldCall, ht], ampm_inverts _ (by simp) t.hour12.1 a b rest ha hb⟩
  | nanosecond =>
    obtain ⟨t, ht, h⟩ := optfrac_text c text hfmt
    refine ⟨_, (by simp only [fieldCall, ht, Option.map_some]; rfl), ?_⟩
    rcases h with ⟨h0, rfl⟩ | ⟨h0, k, v, rfl, v0, vk, k1, k9, e⟩
    · exact invertsAt_congr _ _ _ _ _ (fun p => by rw [if_pos h0]) (frac_empty_inverts rest hrest.2)
    · exact invertsAt_congr _ _ _ _ _ (fun p => by rw [if_neg h0, e])
        (frac_dot_inverts .nanosecond (Or.inl rfl) v k v0 k1 k9 vk rest (stops_of_spec rest hrest.1))
  | nanosecond3 | nanosecond6 | nanosecond9 =>
    obtain ⟨k, v, rfl, v0, vk, k1, k9, hcall⟩ := dotfrac_text c _ (by simp) text hfmt
    exact ⟨_, hcall, frac_dot_inverts _ (by simp) v k v0 k1 k9 vk rest (stops_of_spec rest hrest)⟩
  | nanosecond3NoDot | nanosecond6NoDot | nanosecond9NoDot =>
    obtain ⟨k, v, rfl, v0, vk, hk, hcall⟩ := nodotfrac_text c _ (by simp) text hfmt
    exact ⟨_, hcall, frac_nodot_inverts _ k hk v v0 vk rest⟩
  | timezoneOffset | timezoneOffsetColon =>
    obtain ⟨sg, body, x, ho, _, _, e2⟩ := offset_text c hc _ (by simp) text rest hfmt
    exact ⟨_, by simp only [fieldCall, ho, Option.map_some], e2⟩
  | _ => exact absurd hp (by simp [provedItem])

/-- **`item_inverts`, every proved item, for a value's context** -/
theorem item_inverts_ctx (c : Ctx) (hc : CtxOk c) (it : Item) (hp : provedItem it = true) (text : List Nat)
    (hfmt : Format.format_item c.date c.time c.off it = Format.wok text) (hexp : ItemExpr c it)
    (rest : List Nat) (hrest : RestOk c it rest) :
    ∃ set, fieldCall c it = some set ∧ InvertsAt it ⟨text, set⟩ rest := by
  cases it with
  | literal s =>
    have := wok_inj _ _ hfmt; subst this
    exact ⟨.ok, rfl, literal_inverts _ _⟩
  | space s =>
    have := wok_inj _ _ hfmt; subst this
    obtain ⟨cs, h1, h2⟩ := wsRun_chars s hp
    refine ⟨.ok, rfl, ?_⟩
    have := space_inverts s cs rest h1 hrest
    rw [h2] at this; exact this
  | numeric n pad =>
    -- what was written is `numWrite` of the item's number, which lies in the item's range and is read back
    obtain ⟨v, hv, hw⟩ := format_numeric_val c n pad text hfmt
    exact ⟨_, by simp only [fieldCall, hv, Option.map_some],
      numWrite_inverts c n pad v text rest hv (numVal_range c hc n pad v hv hexp) hw hrest⟩
  | fixed f => exact fixed_inverts_ctx c hc f hp text rest hfmt hrest
  | error => cases hp

theorem restOk_nil (c : Ctx) (it : Item) : RestOk c it [] := by
  cases it with
  | literal s => trivial
  | space s => rfl
  | numeric n pad => cases n <;> simp [RestOk]
  | fixed f => cases f <;> simp [RestOk]
  | error => trivial

/-! ### white-space items in front of readers that skip white space themselves -/

theorem wsLen_trimStartAux : ∀ (fuel : Nat) (s : List Nat), s.length ≤ fuel → wsLen (trimStartAux fuel s) = 0 := by
  intro fuel
  induction fuel with
  | zero =>
    intro s h
    have : s = [] := List.eq_nil_of_length_eq_zero (by omega)
    subst this; rfl
  | succ f ih =>
    intro s h
    simp only [trimStartAux]
    by_cases hn : wsLen s = 0
    · simp [hn]
    · simp only [hn, if_false]
      exact ih _ (by simp only [List.length_drop]; omega)

theorem trimStart_idem (s : List Nat) : trimStart (trimStart s) = trimStart s :=
  trimStart_noop _ (wsLen_trimStartAux _ _ (Nat.le_refl _))

/-- numbers, offsets and white-space items read the same whether or not leading white space has
already been removed -/
theorem lead_insensitive_step (it : Item) (h : leadInsensitive it = true) (p : Parsed) (s : List Nat) :
    step p (trimStart s) it = step p s it := by
  cases it with
  | numeric n pad =>
    simp only [step, Parse.parseItemBase]
    cases n <;> simp only [Parse.parseNumeric, trimStart_idem]
  | space sp => simp only [step, Parse.parseItemBase, trimStart_idem]
  | fixed f =>
    cases f <;> first
      | (simp [leadInsensitive] at h; done)
      | (simp only [step, Parse.parseItemBase, Parse.parseFixedBase, trimStart_idem])
  | literal l => exact absurd h (by simp [leadInsensitive])
  | error => exact absurd h (by simp [leadInsensitive])

/-- what a white-space item needs of the rest of the item list and of the text that follows: the
text does not start with white space, or the next item skips white space itself -/
def SpaceNext (is : List Item) (R : List Nat) : Prop :=
  wsLen R = 0 ∨ ∃ b is', is = b :: is' ∧ leadInsensitive b = true

/-- chains in which a white-space item may be followed by an item that skips white space itself -/
def Chain2 : List Item → List Tok → List Nat → Prop
  | [], [], _ => True
  | .space _ :: is, tk :: tks, rest =>
    ((∃ cs, WsChars cs ∧ tk.text = cs.flatten) ∧ tk.set = .ok ∧ SpaceNext is (flatText tks ++ rest)) ∧
      Chain2 is tks rest
  | it :: is, tk :: tks, rest => InvertsAt it tk (flatText tks ++ rest) ∧ Chain2 is tks rest
  | _, _, _ => False

theorem chain2_parse : ∀ (is : List Item) (tks : List Tok) (rest : List Nat) (p : Parsed),
    Chain2 is tks rest →
    Parse.parse_internal p (flatText tks ++ rest) is = (applyAll tks p).map fun p' => (p', rest) := by
  intro is
  induction is with
  | nil =>
    intro tks rest p h
    cases tks with
    | nil => rfl
    | cons _ _ => exact absurd h (by simp [Chain2])
  | cons it is ih =>
    intro tks rest p h
    cases tks with
    | nil => cases it <;> exact absurd h (by simp [Chain2])
    | cons tk tks =>
      have e : flatText (tk :: tks) ++ rest = tk.text ++ (flatText tks ++ rest) := by simp [flatText]
      have generic : InvertsAt it tk (flatText tks ++ rest) → Chain2 is tks rest →
          Parse.parse_internal p (flatText (tk :: tks) ++ rest) (it :: is) =
            (applyAll (tk :: tks) p).map fun p' => (p', rest) := by
        intro h1 h2
        rw [parse_internal_cons, e, h1 p]
        simp only [applyAll]
        cases hs : tk.set p with
        | error e => rfl
        | ok p' => exact ih tks rest p' h2
      cases it with
      | space sp =>
        obtain ⟨⟨⟨cs, hcs, htx⟩, hset, hnext⟩, h2⟩ := h
        rw [parse_internal_cons, e]
        have hstep : step p (tk.text ++ (flatText tks ++ rest)) (.space sp) =
            .ok (p, trimStart (flatText tks ++ rest)) := by
          simp only [step, Parse.parseItemBase, htx, trimStart_run cs _ hcs]
        rw [hstep]
        simp only [applyAll, hset]
        have hcont : Parse.parse_internal p (trimStart (flatText tks ++ rest)) is =
            Parse.parse_internal p (flatText tks ++ rest) is := by
          rcases hnext with h0 | ⟨b, is', rfl, hb⟩
          · rw [trimStart_noop _ h0]
          · rw [parse_internal_cons, parse_internal_cons, lead_insensitive_step b hb]
        rw [hcont]
        exact ih tks rest p h2
      | literal l => exact generic h.1 h.2
      | numeric n pad => exact generic h.1 h.2
      | fixed f => exact generic h.1 h.2
      | error => exact generic h.1 h.2

/-! ### how renderings start -/

def headAlpha (l : List Nat) : Bool :=
  match l with
  | h :: _ => isAsciiAlpha h
  | [] => false

theorem name_heads :
    (∀ i : Nat, i < 12 → headAlpha (LOC_SHORT_MONTHS.getD i []) = true ∧ headAlpha (LOC_LONG_MONTHS.getD i []) = true) ∧
    (∀ i : Nat, i < 7 → headAlpha (LOC_SHORT_WEEKDAYS.getD i []) = true ∧ headAlpha (LOC_LONG_WEEKDAYS.getD i []) = true) := by
  decide

theorem headAlpha_cons (l : List Nat) (h : headAlpha l = true) : ∃ a t, l = a :: t ∧ isAsciiAlpha a = true := by
  cases l with
  | nil => cases h
  | cons a t => exact ⟨a, t, rfl, h⟩

/-- names and am/pm start with an ASCII letter, offsets with their sign -/
theorem fixed_head (c : Ctx) (hc : CtxOk c) (f : Fixed)
    (hf : f ∈ [Fixed.shortMonthName, .longMonthName, .shortWeekdayName, .longWeekdayName, .lowerAmPm,
      .upperAmPm, .timezoneOffset, .timezoneOffsetColon])
    (tb : List Nat) (hfmt : Format.format_fixed c.date c.time c.off f = Format.wok tb) :
    ∃ a t, tb = a :: t ∧ (isAsciiAlpha a = true ∨ a = 43 ∨ a = 45) := by
  have alpha : ∀ l, headAlpha l = true → ∃ a t, l = a :: t ∧ (isAsciiAlpha a = true ∨ a = 43 ∨ a = 45) := by
    intro l h; obtain ⟨a, t, e, ha⟩ := headAlpha_cons l h; exact ⟨a, t, e, Or.inl ha⟩
  simp only [List.mem_cons, List.not_mem_nil, or_false] at hf
  rcases hf with rfl | rfl | rfl | rfl | rfl | rfl | rfl | rfl
  · obtain ⟨m, m1, m2, _, hs, _⟩ := month_text c hc _ (Or.inl rfl) tb hfmt
    rw [hs rfl]; exact alpha _ (name_heads.1 _ (by omega)).1
  · obtain ⟨m, m1, m2, _, _, hl⟩ := month_text c hc _ (Or.inr rfl) tb hfmt
    rw [hl rfl]; exact alpha _ (name_heads.1 _ (by omega)).2
  · obtain ⟨d, _, hs, _⟩ := weekday_text c _ (Or.inl rfl) tb hfmt
    rw [hs rfl]; exact alpha _ (name_heads.2 _ (by cases d.weekday <;> decide)).1
  · obtain ⟨d, _, _, hl⟩ := weekday_text c _ (Or.inr rfl) tb hfmt
    rw [hl rfl]; exact alpha _ (name_heads.2 _ (by cases d.weekday <;> decide)).2
  · obtain ⟨_, a, b, _, rfl, ha, _⟩ := ampm_text c _ (Or.inl rfl) tb hfmt
    exact ⟨a, [b], rfl, Or.inl ha⟩
  · obtain ⟨_, a, b, _, rfl, ha, _⟩ := ampm_text c _ (Or.inr rfl) tb hfmt
    exact ⟨a, [b], rfl, Or.inl ha⟩
  · obtain ⟨sg, body, _, _, rfl, hsg, _⟩ := offset_text c hc _ (Or.inl rfl) tb [] hfmt
    exact ⟨sg, body, rfl, Or.inr hsg⟩
  · obtain ⟨sg, body, _, _, rfl, hsg, _⟩ := offset_text c hc _ (Or.inr rfl) tb [] hfmt
    exact ⟨sg, body, rfl, Or.inr hsg⟩

theorem alpha_sign_facts (a : Nat) (h : isAsciiAlpha a = true ∨ a = 43 ∨ a = 45) :
    isDigit a = false ∧ a ≠ 46 ∧ a < 128 ∧ asciiWs a = false := by
  simp only [isAsciiAlpha, Bool.or_eq_true, Bool.and_eq_true, decide_eq_true_eq] at h
  simp only [isDigit, asciiWs, Bool.and_eq_false_iff, Bool.or_eq_false_iff, decide_eq_false_iff_not, beq_eq_false_iff_ne]
  omega

theorem wsLen_visible (a : Nat) (t : List Nat) (h1 : a < 128) (h2 : asciiWs a = false) : wsLen (a :: t) = 0 := by
  simp only [asciiWs, Bool.or_eq_false_iff, Bool.and_eq_false_iff, decide_eq_false_iff_not, beq_eq_false_iff_ne] at h2
  exact wsLen_ascii a t h1 (by omega)

/-- `%.3f %.6f %.9f` print a dot first -/
theorem dotfrac_head (c : Ctx) (f : Fixed) (hf : f = .nanosecond3 ∨ f = .nanosecond6 ∨ f = .nanosecond9)
    (tb : List Nat) (hfmt : Format.format_fixed c.date c.time c.off f = Format.wok tb) : ∃ t, tb = 46 :: t := by
  obtain ⟨k, v, rfl, _⟩ := dotfrac_text c f hf tb hfmt
  exact ⟨_, rfl⟩

/-- `%.f` prints nothing, or a dot first -/
theorem optfrac_head (c : Ctx) (tb : List Nat)
    (hfmt : Format.format_fixed c.date c.time c.off .nanosecond = Format.wok tb) : tb = [] ∨ ∃ t, tb = 46 :: t := by
  obtain ⟨_, _, h⟩ := optfrac_text c tb hfmt
  rcases h with ⟨_, e⟩ | ⟨_, k, v, e, _⟩
  · exact Or.inl e
  · exact Or.inr ⟨_, e⟩

/-- a zero-padded non-negative number starts with a digit -/
theorem fmtInt_zero_head (v : Int) (w : Nat) (h0 : 0 ≤ v) :
    ∃ a t, Format.fmtInt v w .zero false = a :: t ∧ isDigit a = true := by
  rw [RenderScan.fmtInt_zero_nonneg v w h0]
  obtain ⟨h1, _, h3, _, _⟩ := RenderScan.digits_spec v.toNat
  cases hk : w - (Format.digits v.toNat).length with
  | zero =>
    cases hd : Format.digits v.toNat with
    | nil => rw [hd] at h3; simp at h3
    | cons a t => exact ⟨a, t, by simp, h1 a (by rw [hd]; exact List.mem_cons_self)⟩
  | succ k => exact ⟨48, List.replicate k 48 ++ Format.digits v.toNat, by simp [List.replicate_succ], by decide⟩

/-- `%3f %6f %9f` print a digit first -/
theorem nodot_head (c : Ctx) (f : Fixed)
    (hf : f = .nanosecond3NoDot ∨ f = .nanosecond6NoDot ∨ f = .nanosecond9NoDot)
    (tb : List Nat) (hfmt : Format.format_fixed c.date c.time c.off f = Format.wok tb) :
    ∃ a t, tb = a :: t ∧ isDigit a = true := by
  obtain ⟨k, v, rfl, v0, _⟩ := nodotfrac_text c f hf tb hfmt
  exact fmtInt_zero_head v k v0

/-- a complete first character that is not white space stays so whatever follows the literal -/
theorem wsLen_complete (b : Nat) (rest x : List Nat) (h0 : wsLen (b :: rest) = 0)
    (hl : charLen b ≤ (b :: rest).length) : wsLen (b :: rest ++ x) = 0 := by
  -- a white-space character at the head of `b :: rest ++ x` would lie within `b :: rest` already
  apply Decidable.by_contra
  intro h
  obtain ⟨c, r, e, hlen, hc, hw⟩ := wsLen_char b (rest ++ x) h
  have hc' : (b :: rest).take c.length = c := by
    have := congrArg (List.take c.length) e
    rwa [List.take_left, ← List.cons_append, List.take_append_of_le_length (hc ▸ hl)] at this
  have e' := (List.take_append_drop c.length (b :: rest)).symm
  rw [hc'] at e'
  rw [e', hw] at h0
  exact h (hlen ▸ h0)

/-- the rendering of an item that `Spec.stopsNumber` accepts stops a number, and does not start with
a dot unless the item is a literal that does -/
theorem stops_head (c : Ctx) (hc : CtxOk c) (b : Item) (hp : provedItem b = true) (hs : stopsNumber b = true)
    (tb : List Nat) (hfmt : Format.format_item c.date c.time c.off b = Format.wok tb) (x : List Nat) :
    StopsDigits (tb ++ x) ∧ (startsWithDot b = false → ∀ t, tb ++ x ≠ 46 :: t) := by
  have fromHead : ∀ a t, tb = a :: t → isDigit a = false → a ≠ 46 →
      StopsDigits (tb ++ x) ∧ (startsWithDot b = false → ∀ t, tb ++ x ≠ 46 :: t) := by
    intro a t e h1 h2
    subst e
    refine ⟨fun b' t' e' => ?_, fun _ t' e' => ?_⟩
    · rw [List.cons_append] at e'; injection e' with e1 _; rw [← e1]; exact h1
    · rw [List.cons_append] at e'; injection e' with e1 _; exact h2 e1
  cases b with
  | literal s =>
    have := wok_inj _ _ hfmt; subst this
    cases s with
    | nil => simp [stopsNumber, startsNonDigit] at hs
    | cons a t =>
      have ha : isDigit a = false := by simpa [stopsNumber, startsNonDigit] using hs
      refine ⟨fun b' t' e' => ?_, fun hd t' e' => ?_⟩
      · rw [List.cons_append] at e'; injection e' with e1 _; rw [← e1]; exact ha
      · rw [List.cons_append] at e'; injection e' with e1 _
        subst e1; simp [startsWithDot] at hd
  | space s =>
    have := wok_inj _ _ hfmt; subst this
    cases s with
    | nil => simp [stopsNumber, startsNonDigit] at hs
    | cons a t =>
      have ha : isDigit a = false := by simpa [stopsNumber, startsNonDigit] using hs
      exact fromHead a t rfl ha (wsRun_head a t hp)
  | numeric n pad => simp [stopsNumber] at hs
  | fixed f =>
    by_cases hdf : f = .nanosecond3 ∨ f = .nanosecond6 ∨ f = .nanosecond9
    · obtain ⟨t, e⟩ := dotfrac_head c f hdf tb hfmt
      subst e
      refine ⟨fun b' t' e' => ?_, fun hd => ?_⟩
      · rw [List.cons_append] at e'; injection e' with e1 _; rw [← e1]; decide
      · rcases hdf with rfl | rfl | rfl <;> simp [startsWithDot] at hd
    · have hf : f ∈ [Fixed.shortMonthName, .longMonthName, .shortWeekdayName, .longWeekdayName, .lowerAmPm,
          .upperAmPm, .timezoneOffset, .timezoneOffsetColon] := by
        cases f <;> simp [stopsNumber] at hs hdf ⊢
      obtain ⟨a, t, e, ha⟩ := fixed_head c hc f hf tb hfmt
      obtain ⟨h1, h2, _, _⟩ := alpha_sign_facts a ha
      exact fromHead a t e h1 h2
  | error => cases hp

/-- the rendering of a name, am/pm or fixed-width fraction item does not start with white space -/
theorem after_space_fixed (c : Ctx) (hc : CtxOk c) (f : Fixed) (hs : afterSpaceOk (.fixed f) = true)
    (hl : ¬ leadInsensitive (.fixed f) = true) (tb : List Nat)
    (hfmt : Format.format_fixed c.date c.time c.off f = Format.wok tb) (x : List Nat) :
    wsLen (tb ++ x) = 0 := by
  by_cases hdf : f = .nanosecond3 ∨ f = .nanosecond6 ∨ f = .nanosecond9
  · obtain ⟨t, e⟩ := dotfrac_head c f hdf tb hfmt
    subst e
    exact wsLen_visible 46 _ (by decide) (by decide)
  · by_cases hnd : f = .nanosecond3NoDot ∨ f = .nanosecond6NoDot ∨ f = .nanosecond9NoDot
    · obtain ⟨a, t, e, ha⟩ := nodot_head c f hnd tb hfmt
      subst e
      exact wsLen_digit a _ ha
    · have hf : f ∈ [Fixed.shortMonthName, .longMonthName, .shortWeekdayName, .longWeekdayName, .lowerAmPm,
          .upperAmPm, .timezoneOffset, .timezoneOffsetColon] := by
        cases f <;> simp [afterSpaceOk, leadInsensitive, visibleLiteral] at hs hl hdf hnd ⊢
      obtain ⟨a, t, e, ha⟩ := fixed_head c hc f hf tb hfmt
      obtain ⟨_, _, h3, h4⟩ := alpha_sign_facts a ha
      subst e
      exact wsLen_visible a _ h3 h4

/-- after a white-space item: the next rendering does not start with white space, or the next reader
skips it anyway -/
theorem after_space_head (c : Ctx) (hc : CtxOk c) (b : Item) (is' : List Item) (hp : provedItem b = true)
    (hs : afterSpaceOk b = true) (tb : List Nat)
    (hfmt : Format.format_item c.date c.time c.off b = Format.wok tb) (x : List Nat) :
    SpaceNext (b :: is') (tb ++ x) := by
  by_cases hl : leadInsensitive b = true
  · exact Or.inr ⟨b, is', rfl, hl⟩
  · left
    cases b with
    | literal s =>
      have := wok_inj _ _ hfmt; subst this
      cases s with
      | nil => simp [afterSpaceOk, leadInsensitive, visibleLiteral] at hs
      | cons a t =>
        simp only [afterSpaceOk, leadInsensitive, visibleLiteral, Bool.false_or, Bool.and_eq_true,
          decide_eq_true_eq, beq_iff_eq] at hs
        exact wsLen_complete a t x hs.1 hs.2
    | space s => exact absurd rfl hl
    | numeric n pad => exact absurd rfl hl
    | fixed f => exact after_space_fixed c hc f hs hl tb hfmt x
    | error => cases hp

/-! ### from the syntactic predicates to the token chain -/

theorem seq_wok_inv (a b : Format.W) (text : List Nat) (h : a.seq b = Format.wok text) :
    ∃ t1 t2, a = Format.wok t1 ∧ b = Format.wok t2 ∧ text = t1 ++ t2 := by
  unfold Format.W.seq at h
  cases a with
  | panic => cases h
  | ok oa =>
    cases oa with
    | none => cases h
    | some x =>
      cases b with
      | panic => cases h
      | ok ob =>
        cases ob with
        | none => cases h
        | some y =>
          refine ⟨x, y, rfl, rfl, ?_⟩
          have := wok_inj (x ++ y) text h
          exact this.symm

/-- item by item: the token's text is the item's rendering, its setter the item's field call -/
def TokensOf (c : Ctx) : List Item → List Tok → Prop
  | [], [] => True
  | it :: is, tk :: tks =>
    (Format.format_item c.date c.time c.off it = Format.wok tk.text ∧ fieldCall c it = some tk.set) ∧
      TokensOf c is tks
  | _, _ => False

theorem tokens_exist (c : Ctx) (hc : CtxOk c) : ∀ (is : List Item) (text : List Nat),
    (∀ it ∈ is, provedItem it = true) → (∀ it ∈ is, ItemExpr c it) →
    Format.formatItemsR c.date c.time c.off is = Format.wok text →
    ∃ tks, TokensOf c is tks ∧ flatText tks = text := by
  intro is
  induction is with
  | nil =>
    intro text _ _ h
    have := wok_inj _ _ h
    exact ⟨[], trivial, by simpa [flatText] using this⟩
  | cons it is ih =>
    intro text hp he h
    simp only [Format.formatItemsR] at h
    obtain ⟨t1, t2, h1, h2, rfl⟩ := seq_wok_inv _ _ _ h
    obtain ⟨tks, hk, hf⟩ := ih t2 (fun x hx => hp x (List.mem_cons_of_mem _ hx))
      (fun x hx => he x (List.mem_cons_of_mem _ hx)) h2
    obtain ⟨set, hs, _⟩ := item_inverts_ctx c hc it (hp it List.mem_cons_self) t1 h1
      (he it List.mem_cons_self) [] (restOk_nil c it)
    exact ⟨⟨t1, set⟩ :: tks, ⟨⟨h1, hs⟩, hk⟩, by simp [flatText] at hf ⊢; rw [hf]⟩

/-- a `%Y`/`%G` that touches digits carries a year 0–9999 (from `Spec.expressible`) -/
def YearOk (c : Ctx) (is : List Item) : Prop :=
  (yearTouchesDigits .year is = true → ∀ v, numVal c .year = some v → 0 ≤ v ∧ v ≤ 9999) ∧
  (yearTouchesDigits .isoYear is = true → ∀ v, numVal c .isoYear = some v → 0 ≤ v ∧ v ≤ 9999)

theorem spec_of_stops (R : List Nat) (h : StopsDigits R) : startsNonDigit R = true ∨ R = [] := by
  cases R with
  | nil => exact Or.inr rfl
  | cons a t => left; simp [startsNonDigit, h a t rfl]

/-! ### perturbed segments: white space replaced by other white space, names in another letter case

The chain is derived once, for a text whose segments are perturbations (`PSegs`) of the formatter's segments,
followed by any text the last item's reader stops at; the formatter's own text is the instance `psegs_refl`. -/

/-- the perturbation of a segment in the reader's terms: a white-space character is any byte string the
reader's `wsLen` takes for one (so that the formatter's own white-space segment is a perturbation of
itself); `Spec.PerturbSeg` implies it (`pseg_of_perturb`) -/
def PSeg (it : Item) (seg seg' : List Nat) : Prop :=
  match it with
  | .space _ => ∃ cs : List (List Nat), WsChars cs ∧ seg' = cs.flatten ∧ (seg ≠ [] → cs ≠ [])
  | it => if caseFree it = true then lowerS seg' = lowerS seg else seg' = seg

def PSegs : List Item → List (List Nat) → List (List Nat) → Prop
  | [], [], [] => True
  | it :: is, s :: ss, s' :: ss' => PSeg it s s' ∧ PSegs is ss ss'
  | _, _, _ => False

theorem perturbSeg_space (sp seg seg' : List Nat) :
    PSeg (.space sp) seg seg' ↔
      ∃ cs : List (List Nat), WsChars cs ∧ seg' = cs.flatten ∧ (seg ≠ [] → cs ≠ []) := Iff.rfl

theorem perturbSeg_other (it : Item) (h : ∀ sp, it ≠ .space sp) (seg seg' : List Nat) :
    PSeg it seg seg' ↔ (if caseFree it = true then lowerS seg' = lowerS seg else seg' = seg) := by
  cases it with
  | space sp => exact absurd rfl (h sp)
  | _ => exact Iff.rfl

/-- the segment of an item that is neither white space nor a name stays as it is -/
theorem pseg_eq (it : Item) (seg seg' : List Nat) (hs : ∀ sp, it ≠ .space sp) (hcf : ¬ caseFree it = true)
    (h : PSeg it seg seg') : seg' = seg := by
  rw [perturbSeg_other it hs, if_neg hcf] at h
  exact h

/-- a non-empty run of white-space characters starts with a byte that is neither a digit nor a dot -/
theorem ws_run_head (cs : List (List Nat)) (h : WsChars cs) (hne : cs ≠ []) :
    ∃ a t, cs.flatten = a :: t ∧ isDigit a = false ∧ a ≠ 46 := by
  cases cs with
  | nil => exact absurd rfl hne
  | cons c cs' =>
    obtain ⟨hc1, hc2⟩ := h c List.mem_cons_self
    cases c with
    | nil => exact absurd rfl hc1
    | cons a t =>
      have hw := hc2 []
      rw [List.append_nil] at hw
      refine ⟨a, t ++ cs'.flatten, by simp, ?_, ?_⟩
      · cases hd : isDigit a with
        | false => rfl
        | true => rw [wsLen_digit a t hd] at hw; simp at hw
      · intro e; subst e; simp [wsLen] at hw

theorem lowerB_head (a a' : Nat) (h : lowerB a' = lowerB a) (ha : isAsciiAlpha a = true ∨ a = 43 ∨ a = 45) :
    isAsciiAlpha a' = true ∨ a' = 43 ∨ a' = 45 := by
  simp only [isAsciiAlpha, Bool.or_eq_true, Bool.and_eq_true, decide_eq_true_eq] at ha ⊢
  unfold lowerB at h
  split at h <;> split at h <;> omega

/-- the perturbed rendering of a name, am/pm or offset item still starts with a letter or a sign -/
theorem perturbed_fixed_head (c : Ctx) (hc : CtxOk c) (f : Fixed)
    (hf : f ∈ [Fixed.shortMonthName, .longMonthName, .shortWeekdayName, .longWeekdayName, .lowerAmPm,
      .upperAmPm, .timezoneOffset, .timezoneOffsetColon])
    (tb : List Nat) (hfmt : Format.format_fixed c.date c.time c.off f = Format.wok tb)
    (tb' : List Nat) (hP : PSeg (.fixed f) tb tb') :
    ∃ a t, tb' = a :: t ∧ (isAsciiAlpha a = true ∨ a = 43 ∨ a = 45) := by
  obtain ⟨a, t, e, ha⟩ := fixed_head c hc f hf tb hfmt
  rw [perturbSeg_other _ (fun sp h => by cases h)] at hP
  by_cases hcf : caseFree (.fixed f) = true
  · rw [if_pos hcf] at hP
    subst e
    cases tb' with
    | nil => simp [lowerS] at hP
    | cons a' t' =>
      simp only [lowerS, List.map_cons, List.cons.injEq] at hP
      exact ⟨a', t', rfl, lowerB_head a a' hP.1 ha⟩
  · rw [if_neg hcf] at hP
    subst hP
    exact ⟨a, t, e, ha⟩

/-- `stops_head` for a perturbed rendering -/
theorem stops_head_perturbed (c : Ctx) (hc : CtxOk c) (b : Item) (hp : provedItem b = true)
    (hs : stopsNumber b = true) (tb : List Nat)
    (hfmt : Format.format_item c.date c.time c.off b = Format.wok tb)
    (tb' : List Nat) (hP : PSeg b tb tb') (x : List Nat) :
    StopsDigits (tb' ++ x) ∧ (startsWithDot b = false → ∀ t, tb' ++ x ≠ 46 :: t) := by
  have fromHead : ∀ a t, tb' = a :: t → isDigit a = false → a ≠ 46 →
      StopsDigits (tb' ++ x) ∧ (startsWithDot b = false → ∀ t, tb' ++ x ≠ 46 :: t) := by
    intro a t e h1 h2
    subst e
    refine ⟨fun b' t' e' => ?_, fun _ t' e' => ?_⟩
    · rw [List.cons_append] at e'; injection e' with e1 _; rw [← e1]; exact h1
    · rw [List.cons_append] at e'; injection e' with e1 _; exact h2 e1
  cases b with
  | literal s =>
    have e := pseg_eq (.literal s) _ _ (fun sp h => by cases h) Bool.false_ne_true hP
    subst e
    exact stops_head c hc _ hp hs tb' hfmt x
  | space s =>
    have e := wok_inj _ _ hfmt
    obtain ⟨cs, hcs, rfl, hne⟩ := (perturbSeg_space s tb tb').mp hP
    have hs' : tb ≠ [] := by
      rw [← e]
      intro h0; subst h0
      simp [stopsNumber, startsNonDigit] at hs
    obtain ⟨a, t, e', h1, h2⟩ := ws_run_head cs hcs (hne hs')
    exact fromHead a t e' h1 h2
  | numeric n pad => simp [stopsNumber] at hs
  | fixed f =>
    by_cases hdf : f = .nanosecond3 ∨ f = .nanosecond6 ∨ f = .nanosecond9
    · have e := pseg_eq _ _ _ (fun sp h => by cases h)
        (by rcases hdf with rfl | rfl | rfl <;> exact Bool.false_ne_true) hP
      subst e
      exact stops_head c hc _ hp hs tb' hfmt x
    · have hf : f ∈ [Fixed.shortMonthName, .longMonthName, .shortWeekdayName, .longWeekdayName, .lowerAmPm,
          .upperAmPm, .timezoneOffset, .timezoneOffsetColon] := by
        cases f <;> simp [stopsNumber] at hs hdf ⊢
      obtain ⟨a, t, e, ha⟩ := perturbed_fixed_head c hc f hf tb hfmt tb' hP
      obtain ⟨h1, h2, _, _⟩ := alpha_sign_facts a ha
      exact fromHead a t e h1 h2
  | error => cases hp

/-- `after_space_head` for a perturbed rendering -/
theorem after_space_head_perturbed (c : Ctx) (hc : CtxOk c) (b : Item) (is' : List Item)
    (hp : provedItem b = true) (hs : afterSpaceOk b = true) (tb : List Nat)
    (hfmt : Format.format_item c.date c.time c.off b = Format.wok tb)
    (tb' : List Nat) (hP : PSeg b tb tb') (x : List Nat) :
    SpaceNext (b :: is') (tb' ++ x) := by
  by_cases hl : leadInsensitive b = true
  · exact Or.inr ⟨b, is', rfl, hl⟩
  · cases b with
    | literal s =>
      have e := pseg_eq (.literal s) _ _ (fun sp h => by cases h) Bool.false_ne_true hP
      subst e
      exact after_space_head c hc _ is' hp hs tb' hfmt x
    | space s => exact absurd rfl hl
    | numeric n pad => exact absurd rfl hl
    | fixed f =>
      by_cases hcf : caseFree (.fixed f) = true
      · left
        have hf : f ∈ [Fixed.shortMonthName, .longMonthName, .shortWeekdayName, .longWeekdayName, .lowerAmPm,
            .upperAmPm, .timezoneOffset, .timezoneOffsetColon] := by
          cases f <;> simp [caseFree] at hcf ⊢
        obtain ⟨a, t, e, ha⟩ := perturbed_fixed_head c hc f hf tb hfmt tb' hP
        obtain ⟨_, _, h3, h4⟩ := alpha_sign_facts a ha
        subst e
        exact wsLen_visible a _ h3 h4
      · have e := pseg_eq _ _ _ (fun sp h => by cases h) hcf hP
        subst e
        exact after_space_head c hc _ is' hp hs tb' hfmt x
    | error => cases hp

/-- `restOk_of_sep` with the facts about the following text as a hypothesis (so that it applies to the
rendering of the next item as well as to a perturbation of it) -/
theorem restOk_of_sep_gen (c : Ctx) (a b : Item) (rest : List Item) (hpa : provedItem a = true)
    (hnot : ∀ sp, a ≠ .space sp)
    (hsep : separated (a :: b :: rest) = true) (hy : YearOk c (a :: b :: rest)) (R : List Nat)
    (hstop : stopsNumber b = true → StopsDigits R ∧ (startsWithDot b = false → ∀ t, R ≠ 46 :: t))
    (hB : isNumber a = true → isOptFrac b = true → (startsNonDigit R = true ∨ R = [])) :
    RestOk c a R := by
  simp only [separated, Bool.and_eq_true, Bool.or_eq_true, Bool.not_eq_true'] at hsep
  obtain ⟨⟨hsd0, hdot⟩, _⟩ := hsep
  have stops : stopsNumber b = true → (startsNonDigit R = true ∨ R = []) :=
    fun h => spec_of_stops _ (hstop h).1
  cases a with
  | literal s => trivial
  | space s => exact absurd rfl (hnot s)
  | error => cases hpa
  | fixed f =>
    have hsd : selfDelimiting (.fixed f) = true ∨ stopsNumber b = true := by
      rcases hsd0 with h | h
      · exact h
      · exact absurd h.1 (by simp [isNumber])
    -- only the dot-fraction items are not self-delimiting: what follows them must stop a number
    cases f with
    | nanosecond =>
      have hsb := hsd.resolve_left (by decide)
      have hb : startsWithDot b = false := by
        rcases hdot with h | h
        · simp at h
        · exact h
      exact ⟨stops hsb, (hstop hsb).2 hb⟩
    | nanosecond3 | nanosecond6 | nanosecond9 => exact stops (hsd.resolve_left (by decide))
    | _ => trivial
  | numeric n pad =>
    have hyear : ∀ m : Numeric, (m = .year ∨ m = .isoYear) → n = m →
        selfDelimiting (.numeric n pad) = true → stopsNumber b = false →
        pad = .zero ∧ yearTouchesDigits m (.numeric n pad :: b :: rest) = true := by
      intro m hm hn h1 h2
      subst hn
      refine ⟨?_, by simp [yearTouchesDigits, h2]⟩
      rcases hm with rfl | rfl <;> cases pad <;> simp [selfDelimiting] at h1 ⊢
    by_cases hnd : stopsNumber b = true ∨ isOptFrac b = true
    · have := hnd.elim stops (hB rfl)
      cases n <;> simp only [RestOk] <;> first | trivial | exact this | exact Or.inl this
    · obtain ⟨hsb, hob⟩ := not_or.mp hnd
      have hsb' : stopsNumber b = false := by simpa using hsb
      have hself : selfDelimiting (.numeric n pad) = true := by
        rcases hsd0 with (h | h) | h
        · exact h
        · exact absurd h hsb
        · exact absurd h.2 hob
      cases n with
      | year =>
        obtain ⟨hp0, ht⟩ := hyear .year (Or.inl rfl) rfl hself hsb'
        exact Or.inr ⟨hp0, hy.1 ht⟩
      | isoYear =>
        obtain ⟨hp0, ht⟩ := hyear .isoYear (Or.inr rfl) rfl hself hsb'
        exact Or.inr ⟨hp0, hy.2 ht⟩
      | timestamp => simp [selfDelimiting] at hself
      | quarter | numDaysFromSun | weekdayFromMon => trivial
      | _ =>
        simp only [RestOk]
        right
        cases pad <;> simp [selfDelimiting] at hself ⊢

/-- what `Spec.separated` provides for an item followed by the rendering of the next one -/
theorem restOk_of_sep (c : Ctx) (hc : CtxOk c) (a b : Item) (rest : List Item) (hpa : provedItem a = true)
    (hpb : provedItem b = true) (hnot : ∀ sp, a ≠ .space sp)
    (hsep : separated (a :: b :: rest) = true) (hy : YearOk c (a :: b :: rest))
    (tb : List Nat) (hfmt : Format.format_item c.date c.time c.off b = Format.wok tb) (x : List Nat)
    (hB : isNumber a = true → isOptFrac b = true → (startsNonDigit (tb ++ x) = true ∨ tb ++ x = [])) :
    RestOk c a (tb ++ x) :=
  restOk_of_sep_gen c a b rest hpa hnot hsep hy _ (fun h => stops_head c hc b hpb h tb hfmt x) hB

/-- a number directly before `%.f`: what delimits `%.f` delimits the number too -/
theorem optfrac_stops (c : Ctx) (b : Item) (hb : isOptFrac b = true) (tb : List Nat)
    (hfmt : Format.format_item c.date c.time c.off b = Format.wok tb) (x : List Nat) (hR : RestOk c b x) :
    startsNonDigit (tb ++ x) = true ∨ tb ++ x = [] := by
  cases b with
  | fixed f =>
    cases f <;> first
      | (simp [isOptFrac] at hb; done)
      | (rcases optfrac_head c tb hfmt with e | ⟨t, e⟩
         · subst e; simpa using hR.1
         · subst e; left; rfl)
  | _ => simp [isOptFrac] at hb

theorem yearOk_tail (c : Ctx) (a b : Item) (rest : List Item) (h : YearOk c (a :: b :: rest)) :
    YearOk c (b :: rest) := by
  refine ⟨fun ht => h.1 ?_, fun ht => h.2 ?_⟩ <;> simp [yearTouchesDigits, ht]

/-! ### names and am/pm in any letter case, for a value's context -/

/-- the reader of a name or am/pm item takes ANY text that equals the item's rendering up to letter case,
and makes the item's own field call -/
theorem casefree_inverts_ctx (c : Ctx) (hc : CtxOk c) (f : Fixed) (hcf : caseFree (.fixed f) = true)
    (text rest : List Nat) (hfmt : Format.format_fixed c.date c.time c.off f = Format.wok text)
    (text' : List Nat) (hcase : lowerS text' = lowerS text) :
    ∃ set, fieldCall c (.fixed f) = some set ∧ InvertsAt (.fixed f) ⟨text', set⟩ rest := by
  have monthCase : ∀ (f : Fixed), (f = .shortMonthName ∨ f = .longMonthName) →
      Format.format_fixed c.date c.time c.off f = Format.wok text →
      ∃ set, fieldCall c (.fixed f) = some set ∧ InvertsAt (.fixed f) ⟨text', set⟩ rest := by
    intro f hf hfmt
    apply hc.date_cases
    · intro Y o hvd hd
      obtain ⟨_, _, _, _, _, _, hm, _, m1, m2, _⟩ := date_facts Y o hvd
      have hv : numVal c .month = some ((monthOfYo Y o : Nat) : Int) := by simp [numVal, hd, hm]
      obtain ⟨r1, r2⟩ := month_name_reads (monthOfYo Y o - 1) (by omega) text' rest
      have hcast : (((monthOfYo Y o - 1 : Nat) : Nat) : Int) + 1 = ((monthOfYo Y o : Nat) : Int) := by omega
      rw [hd] at hfmt
      refine ⟨fun p => p.set_month (monthOfYo Y o), by rcases hf with rfl | rfl <;> simp [fieldCall, hv],
        fun p => ?_⟩
      rcases hf with rfl | rfl
      · simp only [Format.format_fixed, Format.W.ofRes, hm] at hfmt
        simp only [step, Parse.parseItemBase, Parse.parseFixedBase, r1 (by rw [wok_inj _ _ hfmt]; exact hcase), hcast]
      · simp only [Format.format_fixed, Format.W.ofRes, hm] at hfmt
        simp only [step, Parse.parseItemBase, Parse.parseFixedBase, r2 (by rw [wok_inj _ _ hfmt]; exact hcase), hcast]
    · intro hd; rw [hd] at hfmt; rcases hf with rfl | rfl <;> cases hfmt
  have wdCase : ∀ (f : Fixed), (f = .shortWeekdayName ∨ f = .longWeekdayName) →
      Format.format_fixed c.date c.time c.off f = Format.wok text →
      ∃ set, fieldCall c (.fixed f) = some set ∧ InvertsAt (.fixed f) ⟨text', set⟩ rest := by
    intro f hf hfmt
    apply hc.date_cases
    · intro Y o hvd hd
      obtain ⟨r1, r2⟩ := weekday_name_reads (dateOfYo Y o).weekday text' rest
      rw [hd] at hfmt
      refine ⟨fun p => p.set_weekday (dateOfYo Y o).weekday, by rcases hf with rfl | rfl <;> simp [fieldCall, hd],
        fun p => ?_⟩
      rcases hf with rfl | rfl
      · simp only [Format.format_fixed] at hfmt
        simp only [step, Parse.parseItemBase, Parse.parseFixedBase, r1 (by rw [wok_inj _ _ hfmt]; exact hcase)]
      · simp only [Format.format_fixed] at hfmt
        simp only [step, Parse.parseItemBase, Parse.parseFixedBase, r2 (by rw [wok_inj _ _ hfmt]; exact hcase)]
    · intro hd; rw [hd] at hfmt; rcases hf with rfl | rfl <;> cases hfmt
  have ampmCase : ∀ (f : Fixed), (f = .lowerAmPm ∨ f = .upperAmPm) →
      Format.format_fixed c.date c.time c.off f = Format.wok text →
      ∃ set, fieldCall c (.fixed f) = some set ∧ InvertsAt (.fixed f) ⟨text', set⟩ rest := by
    intro f hf hfmt
    obtain ⟨t, a, b, ht, rfl, _, ha, hb⟩ := ampm_text c f hf text hfmt
    have hfc : fieldCall c (.fixed f) = some (fun p => p.set_ampm t.hour12.1) := by
      rcases hf with rfl | rfl <;> simp [fieldCall, ht]
    refine ⟨_, hfc, ?_⟩
    have hl : text'.length = 2 := by simpa [lowerS] using congrArg List.length hcase
    rcases text' with _ | ⟨a', _ | ⟨b', _ | ⟨c', t'⟩⟩⟩ <;> simp at hl
    simp only [lowerS, List.map_cons, List.map_nil, List.cons.injEq, and_true] at hcase
    exact ampm_inverts f hf t.hour12.1 a' b' rest (hcase.1.trans ha) (hcase.2.trans hb)
  cases f with
  | shortMonthName => exact monthCase _ (Or.inl rfl) hfmt
  | longMonthName => exact monthCase _ (Or.inr rfl) hfmt
  | shortWeekdayName => exact wdCase _ (Or.inl rfl) hfmt
  | longWeekdayName => exact wdCase _ (Or.inr rfl) hfmt
  | lowerAmPm => exact ampmCase _ (Or.inl rfl) hfmt
  | upperAmPm => exact ampmCase _ (Or.inr rfl) hfmt
  | _ => cases hcf

/-! ### the chain of the perturbed text -/

/-- the tokens of the perturbed text: the perturbed segments with the setter calls of the original tokens -/
def retok : List Tok → List (List Nat) → List Tok
  | tk :: tks, s :: ss => ⟨s, tk.set⟩ :: retok tks ss
  | _, _ => []

/-- what the item to the LEFT of `b :: is'` needs to know about the text `R` that the list's segments start:
it stops a number (when `b` does), it does not start with white space or `b` skips white space itself (when a
white-space item may precede `b`), and it delimits a number that stands directly before `b = %.f` -/
def HeadFacts (b : Item) (is' : List Item) (R : List Nat) : Prop :=
  (stopsNumber b = true → StopsDigits R ∧ (startsWithDot b = false → ∀ t, R ≠ 46 :: t)) ∧
  (afterSpaceOk b = true → SpaceNext (b :: is') R) ∧
  (isOptFrac b = true → startsNonDigit R = true ∨ R = [])

/-- the chain of a perturbed text followed by `rest`, together with the `HeadFacts` of that text -/
theorem chain_perturbed_aux (c : Ctx) (hc : CtxOk c) (rest : List Nat) :
    ∀ (is : List Item) (tks : List Tok) (ss' : List (List Nat)),
    TokensOf c is tks → PSegs is (tks.map (·.text)) ss' →
    (∀ it ∈ is, provedItem it = true) → (∀ it ∈ is, ItemExpr c it) →
    separated is = true → spaceSafe is = true → YearOk c is →
    (∀ a, is.getLast? = some a → RestOk c a rest) →
    Chain2 is (retok tks ss') rest ∧
      match is with
      | [] => True
      | b :: is' => HeadFacts b is' (flatText (retok tks ss') ++ rest) := by
  intro is
  induction is with
  | nil =>
    intro tks ss' h _ _ _ _ _ _ _
    cases tks with
    | nil => cases ss' <;> exact ⟨trivial, trivial⟩
    | cons _ _ => exact False.elim h
  | cons a is ih =>
    intro tks ss' h hP hp he hsep hsafe hy hlast
    cases tks with
    | nil => exact False.elim h
    | cons tk tks =>
    cases ss' with
    | nil => exact False.elim hP
    | cons s' ss' =>
    obtain ⟨⟨hfa, hca⟩, htl⟩ := h
    simp only [List.map_cons, PSegs] at hP
    obtain ⟨hPa, hPtl⟩ := hP
    have hpa := hp a List.mem_cons_self
    have hea := he a List.mem_cons_self
    have inv_of : (∀ sp, a ≠ .space sp) → ∀ R, RestOk c a R → InvertsAt a ⟨s', tk.set⟩ R := by
      intro hns R hR
      rw [perturbSeg_other a hns] at hPa
      by_cases hcf : caseFree a = true
      · rw [if_pos hcf] at hPa
        cases a with
        | fixed f =>
          obtain ⟨set, hs, hi⟩ := casefree_inverts_ctx c hc f hcf tk.text R hfa s' hPa
          have : set = tk.set := by rw [hca] at hs; injection hs with hs; exact hs.symm
          rw [this] at hi; exact hi
        | _ => simp [caseFree] at hcf
      · rw [if_neg hcf] at hPa
        subst hPa
        obtain ⟨set, hs, hi⟩ := item_inverts_ctx c hc a hpa tk.text hfa hea R hR
        have : set = tk.set := by rw [hca] at hs; injection hs with hs; exact hs.symm
        rw [this] at hi; exact hi
    have spaceTok : ∀ sp, a = .space sp → (∃ cs, WsChars cs ∧ s' = cs.flatten) ∧ tk.set = .ok := by
      intro sp e
      subst e
      obtain ⟨cs, hcs, e', _⟩ := (perturbSeg_space sp tk.text s').mp hPa
      refine ⟨⟨cs, hcs, e'⟩, ?_⟩
      have : fieldCall c (.space sp) = some .ok := rfl
      rw [this] at hca; injection hca with hca; exact hca.symm
    have eR : flatText (retok (tk :: tks) (s' :: ss')) ++ rest = s' ++ (flatText (retok tks ss') ++ rest) := by
      simp [flatText, retok]
    -- both conclusions for `a :: is`, from what is known of the text after the segment of `a`
    have build : Chain2 is (retok tks ss') rest →
        ((∀ sp, a ≠ .space sp) → RestOk c a (flatText (retok tks ss') ++ rest)) →
        (∀ sp, a = .space sp → SpaceNext is (flatText (retok tks ss') ++ rest)) →
        Chain2 (a :: is) (retok (tk :: tks) (s' :: ss')) rest := by
      intro htail hRest hSp
      show Chain2 (a :: is) (⟨s', tk.set⟩ :: retok tks ss') rest
      cases a with
      | space sp =>
        obtain ⟨h1, h2⟩ := spaceTok sp rfl
        exact ⟨⟨h1, h2, hSp sp rfl⟩, htail⟩
      | error => cases hpa
      | _ => exact ⟨inv_of (fun sp h => by cases h) _ (hRest (fun sp h => by cases h)), htail⟩
    have own : ((∀ sp, a ≠ .space sp) → RestOk c a (flatText (retok tks ss') ++ rest)) →
        HeadFacts a is (flatText (retok (tk :: tks) (s' :: ss')) ++ rest) := by
      intro hRest
      rw [eR]
      refine ⟨fun hs => stops_head_perturbed c hc a hpa hs tk.text hfa s' hPa _,
        fun hs => after_space_head_perturbed c hc a is hpa hs tk.text hfa s' hPa _, fun hob => ?_⟩
      -- a number directly before `%.f`: what delimits `%.f` delimits the number too
      have hns : ∀ sp, a ≠ .space sp := fun sp e => by subst e; simp [isOptFrac] at hob
      have hncf : ¬ caseFree a = true := by
        cases a with
        | fixed f => cases f <;> simp [isOptFrac, caseFree] at hob ⊢
        | _ => simp [isOptFrac] at hob
      rw [pseg_eq a _ _ hns hncf hPa]
      exact optfrac_stops c a hob tk.text hfa _ (hRest hns)
    cases is with
    | nil =>
      cases tks with
      | cons _ _ => exact False.elim htl
      | nil =>
      cases ss' with
      | cons _ _ => exact False.elim hPtl
      | nil =>
      have hR : RestOk c a (flatText (retok [] []) ++ rest) := by simpa [flatText, retok] using hlast a rfl
      exact ⟨build trivial (fun _ => hR) (fun sp e => Or.inl (by subst e; exact hR)), own fun _ => hR⟩
    | cons b is' =>
      obtain ⟨htail, hnext⟩ := ih tks ss' htl hPtl (fun x hx => hp x (List.mem_cons_of_mem _ hx))
        (fun x hx => he x (List.mem_cons_of_mem _ hx))
        (by simp only [separated, Bool.and_eq_true] at hsep; exact hsep.2)
        (by cases a <;> simp only [spaceSafe, Bool.and_eq_true] at hsafe <;> first | exact hsafe.2 | exact hsafe)
        (yearOk_tail c a b is' hy)
        (fun x hx => hlast x (by rw [List.getLast?_cons_cons]; exact hx))
      obtain ⟨g1, g2, g3⟩ := hnext
      have hRest : (∀ sp, a ≠ .space sp) → RestOk c a (flatText (retok tks ss') ++ rest) :=
        fun hns => restOk_of_sep_gen c a b is' hpa hns hsep hy _ g1 (fun _ hob => g3 hob)
      refine ⟨build htail hRest (fun sp e => g2 ?_), own hRest⟩
      subst e
      simp only [spaceSafe, Bool.and_eq_true] at hsafe
      exact hsafe.1

/-- **the token chain of a perturbed text followed by `rest`**, from the same syntactic predicates as
`chain_of_separated`; `rest` must be something the last item's reader stops at (`RestOk`) -/
theorem chain_of_separated_perturbed (c : Ctx) (hc : CtxOk c) (rest : List Nat) :
    ∀ (is : List Item) (tks : List Tok) (ss' : List (List Nat)),
    TokensOf c is tks → PSegs is (tks.map (·.text)) ss' →
    (∀ it ∈ is, provedItem it = true) → (∀ it ∈ is, ItemExpr c it) →
    separated is = true → spaceSafe is = true → YearOk c is →
    (∀ a, is.getLast? = some a → RestOk c a rest) → Chain2 is (retok tks ss') rest :=
  fun is tks ss' h hP hp he hsep hsafe hy hlast =>
    (chain_perturbed_aux c hc rest is tks ss' h hP hp he hsep hsafe hy hlast).1


/-- the formatter's own segments are a perturbation of themselves (in the reader's terms) -/
theorem psegs_refl (c : Ctx) : ∀ (is : List Item) (tks : List Tok), TokensOf c is tks →
    (∀ it ∈ is, provedItem it = true) → PSegs is (tks.map (·.text)) (tks.map (·.text))
  | [], [], _, _ => trivial
  | [], _ :: _, h, _ => False.elim h
  | _ :: _, [], h, _ => False.elim h
  | it :: is, tk :: tks, h, hp => by
    refine ⟨?_, psegs_refl c is tks h.2 (fun x hx => hp x (List.mem_cons_of_mem _ hx))⟩
    cases it with
    | space sp =>
      have e := wok_inj _ _ h.1.1
      obtain ⟨cs, h1, h2⟩ := wsRun_chars sp (hp _ List.mem_cons_self)
      refine ⟨cs, h1, by rw [h2]; exact e.symm, fun hne => ?_⟩
      intro h0; subst h0
      apply hne
      show tk.text = []
      rw [← e, ← h2]; rfl
    | literal l => simp [PSeg, caseFree]
    | numeric n p => simp [PSeg, caseFree]
    | fixed f => unfold PSeg; dsimp only; split <;> rfl
    | error => simp [PSeg, caseFree]

theorem retok_self : ∀ (tks : List Tok), retok tks (tks.map (·.text)) = tks
  | [] => rfl
  | tk :: tks => by simp [retok, retok_self tks]

/-- **the token chain from the syntactic predicates**: the formatter's own segments, nothing after them -/
theorem chain_of_separated (c : Ctx) (hc : CtxOk c) : ∀ (is : List Item) (tks : List Tok),
    TokensOf c is tks → (∀ it ∈ is, provedItem it = true) → (∀ it ∈ is, ItemExpr c it) →
    separated is = true → spaceSafe is = true → YearOk c is → Chain2 is tks [] := by
  intro is tks htk hp he hsep hsafe hy
  have h := chain_of_separated_perturbed c hc [] is tks _ htk (psegs_refl c is tks htk hp) hp he hsep hsafe hy
    (fun a _ => restOk_nil c a)
  rwa [retok_self] at h

end Chrono.Proofs.RoundTrip
