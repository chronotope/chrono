/-
  Lemmas for C19: the name scanners (`short_name`, `eatSuffix`) and the common shape of the two
  `FromStr` impls; weekday sets as bit masks (membership of `d` is bit `d.toNat`) and the set
  iterator, whose forward sequence splits at the start day exactly as `split_at` splits the word.
-/
import Chrono.Spec.WeekdaySpec

namespace Chrono.Proofs
open Chrono Chrono.M Chrono.Spec

theorem weekday_all_complete (d : Weekday) : d ∈ Weekday.all := by cases d <;> decide
theorem month_all_complete (m : Month) : m ∈ Month.all := by cases m <;> decide

theorem or32_eq_iff_lower (b c : Nat) (hc : 97 ≤ c ∧ c ≤ 122) : or32 b = c ↔ lowerB b = c := by
  unfold or32 lowerB
  split <;> split <;> omega

theorem lowerB_lower (c : Nat) (hc : 97 ≤ c ∧ c ≤ 122) : lowerB c = c := by
  unfold lowerB; split <;> omega

theorem lowerB_idem (b : Nat) : lowerB (lowerB b) = lowerB b := by
  unfold lowerB; split <;> (try split) <;> omega

theorem lowerS_idem (s : List Nat) : lowerS (lowerS s) = lowerS s := by
  unfold lowerS; simp [List.map_map, Function.comp_def, lowerB_idem]

theorem lowerS_of_lower (s : List Nat) (h : allLowerAlpha s = true) : lowerS s = s := by
  induction s with
  | nil => rfl
  | cons c cs ih =>
    simp only [allLowerAlpha, List.all_cons, Bool.and_eq_true, decide_eq_true_eq] at h
    have h2 : allLowerAlpha cs = true := h.2
    simp only [lowerS, List.map_cons, List.cons.injEq]
    exact ⟨lowerB_lower c h.1, ih h2⟩

/-- `findIdx` on a duplicate-free table finds exactly the position of the key -/
theorem findIdx_some_iff (tbl : List (List Nat)) (hnd : tbl.Nodup) (key : List Nat) (i : Nat) :
    findIdx tbl key = some i ↔ tbl[i]? = some key := by
  show (if tbl.idxOf key < tbl.length then some (tbl.idxOf key) else none) = some i ↔ _
  constructor
  · intro h
    split at h
    · rename_i hlt
      injection h with h
      subst h
      rw [List.getElem?_eq_getElem hlt, List.getElem_idxOf]
    · cases h
  · intro h
    obtain ⟨hlt, rfl⟩ := List.getElem?_eq_some_iff.mp h
    rw [hnd.idxOf_getElem i hlt, if_pos hlt]

theorem eatSuffix_nil_iff (rest suf : List Nat) :
    eatSuffix rest suf = [] ↔ rest = [] ∨ lowerS rest = lowerS suf := by
  have hlen : lowerS rest = lowerS suf → rest.length = suf.length := fun h => by
    simpa [lowerS] using congrArg List.length h
  unfold eatSuffix
  split
  · rename_i h
    obtain ⟨hge, htake⟩ := h
    constructor
    · intro hd
      rw [← Nat.le_antisymm (List.drop_eq_nil_iff.mp hd) hge, List.take_length] at htake
      exact Or.inr htake
    · rintro (rfl | h)
      · exact List.drop_nil
      · rw [← hlen h, List.drop_length]
  · rename_i h
    refine ⟨Or.inl, fun h' => h'.elim id fun h' => absurd ⟨Nat.le_of_eq (hlen h').symm, ?_⟩ h⟩
    rw [← hlen h', List.take_length]
    exact h'

theorem allLower_mem (t : List Nat) (h : allLowerAlpha t = true) (c : Nat) (hc : c ∈ t) :
    97 ≤ c ∧ c ≤ 122 := by
  unfold allLowerAlpha at h
  have := List.all_eq_true.mp h c hc
  simpa using this

/-- `| 32` and `to_ascii_lowercase` agree on a byte that either of them sends to a lower-case letter -/
theorem or32_eq_lowerB (b : Nat)
    (h : (97 ≤ or32 b ∧ or32 b ≤ 122) ∨ (97 ≤ lowerB b ∧ lowerB b ≤ 122)) : or32 b = lowerB b :=
  h.elim (fun h => ((or32_eq_iff_lower b _ h).mp rfl).symm) (fun h => (or32_eq_iff_lower b _ h).mpr rfl)

/-- `short_name` succeeds with index `i` exactly when the first three bytes, lower-cased, are the
`i`-th table entry -/
theorem short_name_iff (tbl : List (List Nat)) (hnd : tbl.Nodup)
    (hlow : ∀ t ∈ tbl, allLowerAlpha t = true) (s rest : List Nat) (i : Nat) :
    short_name tbl s = .ok (rest, i) ↔
      ∃ b0 b1 b2, s = b0 :: b1 :: b2 :: rest ∧ tbl[i]? = some [lowerB b0, lowerB b1, lowerB b2] := by
  have hkey : ∀ b0 b1 b2,
      [or32 b0, or32 b1, or32 b2] ∈ tbl ∨ [lowerB b0, lowerB b1, lowerB b2] ∈ tbl →
      [or32 b0, or32 b1, or32 b2] = [lowerB b0, lowerB b1, lowerB b2] := fun b0 b1 b2 h => by
    have h' : ∀ b ∈ [b0, b1, b2], or32 b = lowerB b := fun b hb => or32_eq_lowerB b <|
      h.imp (fun h => allLower_mem _ (hlow _ h) _ (List.mem_map_of_mem (f := or32) hb))
        (fun h => allLower_mem _ (hlow _ h) _ (List.mem_map_of_mem (f := lowerB) hb))
    rw [h' b0 (by simp), h' b1 (by simp), h' b2 (by simp)]
  constructor
  · intro h
    unfold short_name at h
    split at h
    · split at h
      · rename_i j hj
        injection h with h
        injection h with h1 h2
        subst h1 h2
        have hk := (findIdx_some_iff tbl hnd _ _).mp hj
        exact ⟨_, _, _, rfl, hkey _ _ _ (Or.inl (List.mem_of_getElem? hk)) ▸ hk⟩
      · cases h
    · cases h
  · rintro ⟨b0, b1, b2, rfl, hk⟩
    have hj := (findIdx_some_iff tbl hnd _ _).mpr hk
    rw [← hkey b0 b1 b2 (Or.inr (List.mem_of_getElem? hk))] at hj
    simp only [short_name, hj]

/-- a byte string whose lower-casing is `t ++ u` with `|t| = 3` splits accordingly -/
theorem lowerS_split3 (s t u : List Nat) (ht : t.length = 3) (h : lowerS s = t ++ u) :
    ∃ b0 b1 b2 rest, s = b0 :: b1 :: b2 :: rest ∧ t = [lowerB b0, lowerB b1, lowerB b2] ∧
      lowerS rest = u := by
  obtain ⟨s1, rest, rfl, rfl, hr⟩ := List.map_eq_append_iff.mp h
  rw [List.length_map] at ht
  match s1, ht with
  | [b0, b1, b2], _ => exact ⟨b0, b1, b2, rest, rfl, rfl, hr⟩

/-- the generic "short or long name, nothing left over" characterisation: `t` is entry `i` of the
table of short names, `suf` the (lower-case) rest of the long name -/
theorem name_nil_iff (tbl : List (List Nat)) (hnd : tbl.Nodup)
    (hlow : ∀ t ∈ tbl, allLowerAlpha t = true ∧ t.length = 3) (suf s t : List Nat) (i : Nat)
    (hk : tbl[i]? = some t) (hsuf : lowerS suf = suf) :
    (∃ rest, short_name tbl s = .ok (rest, i) ∧ eatSuffix rest suf = []) ↔
      (lowerS s = t ∨ lowerS s = t ++ suf) := by
  have hlow' : ∀ t ∈ tbl, allLowerAlpha t = true := fun t ht => (hlow t ht).1
  constructor
  · rintro ⟨rest, h1, h2⟩
    obtain ⟨b0, b1, b2, hs, hk'⟩ := (short_name_iff tbl hnd hlow' s rest i).mp h1
    rw [hk] at hk'
    injection hk' with hk'
    subst hs hk'
    rcases (eatSuffix_nil_iff rest suf).mp h2 with h | h
    · left; subst h; rfl
    · right; rw [← hsuf, ← h]; rfl
  · intro h
    have htl : t.length = 3 := (hlow t (List.mem_of_getElem? hk)).2
    have h' : ∃ u, lowerS s = t ++ u ∧ (u = [] ∨ u = lowerS suf) := by
      rcases h with h | h
      · exact ⟨[], by simpa using h, Or.inl rfl⟩
      · exact ⟨_, h, Or.inr hsuf.symm⟩
    obtain ⟨u, hu, hu'⟩ := h'
    obtain ⟨b0, b1, b2, rest, hs, ht, hr⟩ := lowerS_split3 s t u htl hu
    refine ⟨rest, (short_name_iff tbl hnd hlow' s rest i).mpr ⟨b0, b1, b2, hs, by rw [← ht]; exact hk⟩, ?_⟩
    apply (eatSuffix_nil_iff rest suf).mpr
    rcases hu' with e | e
    · left
      rw [e] at hr
      cases rest with
      | nil => rfl
      | cons a as => simp [lowerS] at hr
    · right; rw [hr, e]

theorem Weekday.parse_eq (s : List Nat) :
    Weekday.parse s =
      match short_name Extracted.SHORT_WEEKDAYS s with
      | .ok (rest, i) =>
        match weekdayOfIdx i with
        | some w => if eatSuffix rest (Extracted.LONG_WEEKDAY_SUFFIXES.getD w.num_days_from_monday []) = [] then some w else none
        | none => none
      | .error _ => none := by
  unfold Weekday.parse short_or_long_weekday short_weekday
  cases short_name Extracted.SHORT_WEEKDAYS s with
  | error e => rfl
  | ok p =>
    obtain ⟨rest, i⟩ := p
    simp only
    cases weekdayOfIdx i with
    | none => rfl
    | some w =>
      simp only
      cases eatSuffix rest (Extracted.LONG_WEEKDAY_SUFFIXES.getD w.num_days_from_monday []) with
      | nil => simp
      | cons a as => simp

theorem Month.parse_eq (s : List Nat) :
    Month.parse s =
      match short_name Extracted.SHORT_MONTHS s with
      | .ok (rest, i) =>
        if eatSuffix rest (Extracted.LONG_MONTH_SUFFIXES.getD i []) = [] then Month.ofIndex0 i else none
      | .error _ => none := by
  unfold Month.parse short_or_long_month0 short_month0
  cases short_name Extracted.SHORT_MONTHS s with
  | error e => rfl
  | ok p =>
    obtain ⟨rest, i⟩ := p
    simp only
    cases eatSuffix rest (Extracted.LONG_MONTH_SUFFIXES.getD i []) with
    | nil => simp
    | cons a as => simp

/-- a lookup in a list that enumerates a type in the order of its numbering `num` inverts `num` -/
theorem getElem?_iff_of_enum {α : Type} (all : List α) (num : α → Nat)
    (henum : all.map num = List.range all.length) (hall : ∀ a, all[num a]? = some a) (i : Nat) (a : α) :
    all[i]? = some a ↔ i = num a := by
  constructor
  · intro h
    obtain ⟨hi, _⟩ := List.getElem?_eq_some_iff.mp h
    have := congrArg (·[i]?) henum
    simp only [List.getElem?_map, h, Option.map_some, List.getElem?_range hi] at this
    exact (Option.some.inj this).symm
  · rintro rfl; exact hall a

theorem weekdayOfIdx_iff (i : Nat) (w : Weekday) : weekdayOfIdx i = some w ↔ i = w.toNat :=
  getElem?_iff_of_enum Weekday.all Weekday.toNat (by decide) (fun a => by cases a <;> rfl) i w

theorem monthOfIndex0_iff (i : Nat) (m : Month) : Month.ofIndex0 i = some m ↔ i = m.toNat := by
  unfold Month.ofIndex0
  constructor
  · intro h
    split at h <;> first | (cases h; rfl) | cases h
  · intro h; subst h; cases m <;> rfl

/-- the common shape of the two `FromStr` impls: the short name selects index `i`, the rest must be
nothing or the `i`-th long-name suffix, and `i` is decoded by `dec` -/
theorem parse_shape_iff {α : Type} (tbl sufs : List (List Nat)) (dec : Nat → Option α) (idx : α → Nat)
    (hdec : ∀ i a, dec i = some a ↔ i = idx a) (s : List Nat) (a : α) :
    (match short_name tbl s with
      | .ok (rest, i) => if eatSuffix rest (sufs.getD i []) = [] then dec i else none
      | .error _ => none) = some a ↔
      ∃ rest, short_name tbl s = .ok (rest, idx a) ∧ eatSuffix rest (sufs.getD (idx a) []) = [] := by
  cases short_name tbl s with
  | error e => simp
  | ok p =>
    obtain ⟨rest, i⟩ := p
    simp only [Except.ok.injEq, Prod.mk.injEq]
    constructor
    · intro h
      split at h
      · rename_i he
        obtain rfl := (hdec i a).mp h
        exact ⟨rest, ⟨rfl, rfl⟩, he⟩
      · cases h
    · rintro ⟨_, ⟨rfl, rfl⟩, h3⟩
      rw [if_pos h3]
      exact (hdec _ a).mpr rfl

theorem Weekday.parse_eq_shape (s : List Nat) :
    Weekday.parse s =
      match short_name Extracted.SHORT_WEEKDAYS s with
      | .ok (rest, i) =>
        if eatSuffix rest (Extracted.LONG_WEEKDAY_SUFFIXES.getD i []) = [] then weekdayOfIdx i else none
      | .error _ => none := by
  rw [Weekday.parse_eq]
  cases short_name Extracted.SHORT_WEEKDAYS s with
  | error e => rfl
  | ok p =>
    obtain ⟨rest, i⟩ := p
    dsimp only
    cases h : weekdayOfIdx i with
    | none => rw [ite_self]
    | some w =>
      have : w.num_days_from_monday = i := by rw [(weekdayOfIdx_iff i w).mp h]; cases w <;> rfl
      dsimp only
      rw [this]

theorem Weekday.toNat_inj {a b : Weekday} (h : a.toNat = b.toNat) : a = b :=
  Option.some.inj (((weekdayOfIdx_iff _ a).mpr rfl).symm.trans ((weekdayOfIdx_iff _ b).mpr h))

theorem Weekday.toNat_lt (d : Weekday) : d.toNat < 7 := by cases d <;> decide

theorem Weekday.exists_toNat {i : Nat} (h : i < 7) : ∃ d : Weekday, d.toNat = i :=
  ⟨Weekday.all[i], ((weekdayOfIdx_iff i _).mp (List.getElem?_eq_getElem h)).symm⟩

theorem weekday_ofInt_toNat (w : Weekday) : Weekday.ofInt w.toNat = some w := by cases w <;> rfl

theorem weekday_ofInt_none {n : Int} (h : n < 0 ∨ 6 < n) : Weekday.ofInt n = none := by
  unfold Weekday.ofInt
  repeat rw [if_neg (by omega : ¬ n = _)]

/-- the `match` table of the three weekday conversions: in range it inverts the discriminant, out of
range every arm fails -/
theorem weekday_ofInt_iff (n : Int) (w : Weekday) : Weekday.ofInt n = some w ↔ n = w.toNat := by
  constructor
  · intro h
    have hr : 0 ≤ n ∧ n ≤ 6 := by
      refine Decidable.by_contra fun hc => ?_
      rw [weekday_ofInt_none (by omega)] at h; cases h
    obtain ⟨d, hd⟩ := Weekday.exists_toNat (i := n.toNat) (by omega)
    have hn : n = d.toNat := by omega
    rw [hn, weekday_ofInt_toNat] at h
    injection h with h
    rw [← h, hn]
  · rintro rfl; exact weekday_ofInt_toNat w

/-! ### weekday sets: bit `d.toNat` of the word is membership of `d`, every operation is bitwise -/

namespace WdSet

theorem single_eq (d : Weekday) : WeekdaySet.single d = 2 ^ d.toNat := by cases d <;> rfl

theorem single_lt (d : Weekday) : WeekdaySet.single d < 128 := by
  rw [single_eq]; exact Nat.pow_lt_pow_right (by decide) (Weekday.toNat_lt d)

theorem mem_single (d e : Weekday) : mem (WeekdaySet.single d) e = decide (e = d) := by
  unfold mem
  rw [single_eq, Nat.testBit_two_pow]
  exact decide_eq_decide.mpr ⟨fun h => (Weekday.toNat_inj h).symm, fun h => h ▸ rfl⟩

/-- masking with a single bit tests that bit -/
theorem and_two_pow_ne_zero (s i : Nat) : (s &&& 2 ^ i != 0) = s.testBit i := by
  have hbit : ∀ j, (s &&& 2 ^ i).testBit j = (s.testBit j && decide (i = j)) := fun j => by
    rw [Nat.testBit_and, Nat.testBit_two_pow]
  cases h : s.testBit i with
  | true =>
    have h1 : (s &&& 2 ^ i).testBit i = true := by rw [hbit, h]; simp
    have : s &&& 2 ^ i ≠ 0 := fun h0 => by rw [h0, Nat.zero_testBit] at h1; cases h1
    simpa using this
  | false =>
    have : s &&& 2 ^ i = 0 := Nat.eq_of_testBit_eq fun j => by
      rw [hbit, Nat.zero_testBit]
      by_cases e : i = j
      · subst e; rw [h]; rfl
      · simp [e]
    rw [this]; rfl

theorem contains_eq (s : Nat) (d : Weekday) : WeekdaySet.contains s d = mem s d := by
  unfold WeekdaySet.contains mem
  rw [single_eq]
  exact and_two_pow_ne_zero s _

theorem contains_fun : WeekdaySet.contains = mem := funext fun s => funext (contains_eq s)

theorem mem_union (a b : Nat) (d : Weekday) : mem (a ||| b) d = (mem a d || mem b d) :=
  Nat.testBit_or _ _ _

theorem mem_inter (a b : Nat) (d : Weekday) : mem (a &&& b) d = (mem a d && mem b d) :=
  Nat.testBit_and _ _ _

theorem testBit_not8 {b : Nat} (hb : b < 256) (i : Nat) :
    (WeekdaySet.not8 b).testBit i = (decide (i < 8) && !b.testBit i) := by
  have : WeekdaySet.not8 b = 2 ^ 8 - (b + 1) := by unfold WeekdaySet.not8; omega
  rw [this]
  exact Nat.testBit_two_pow_sub_succ hb i

theorem mem_not8 {b : Nat} (hb : b < 256) (d : Weekday) : mem (WeekdaySet.not8 b) d = !mem b d := by
  unfold mem
  rw [testBit_not8 hb, decide_eq_true (Nat.lt_succ_of_lt (Weekday.toNat_lt d)), Bool.true_and]

/-- a word with bit 7 clear is determined by its members -/
theorem word_ext {a b : Nat} (ha : a < 128) (hb : b < 128) (h : ∀ d, mem a d = mem b d) : a = b :=
  Nat.eq_of_testBit_eq fun i => by
    rcases Nat.lt_or_ge i 7 with hi | hi
    · obtain ⟨d, rfl⟩ := Weekday.exists_toNat hi
      exact h d
    · have h7 : 2 ^ 7 ≤ 2 ^ i := Nat.pow_le_pow_right (by decide) hi
      rw [Nat.testBit_lt_two_pow (Nat.lt_of_lt_of_le ha h7),
        Nat.testBit_lt_two_pow (Nat.lt_of_lt_of_le hb h7)]

theorem is_subset_eq (a b : Nat) (ha : a < 128) :
    WeekdaySet.is_subset a b = Weekday.all.all (fun d => !mem a d || mem b d) := by
  rw [Bool.eq_iff_iff, List.all_eq_true]
  unfold WeekdaySet.is_subset WeekdaySet.intersection
  rw [beq_iff_eq]
  have key : ∀ d, (mem (a &&& b) d = mem a d) ↔ (!mem a d || mem b d) = true := fun d => by
    rw [mem_inter]; cases mem a d <;> cases mem b d <;> decide
  constructor
  · intro h d _
    exact (key d).mp (by rw [h])
  · intro h
    exact word_ext (Nat.lt_of_le_of_lt Nat.and_le_left ha) ha fun d =>
      (key d).mpr (h d (weekday_all_complete d))

theorem insert_spec (s : Nat) (d e : Weekday) :
    mem (WeekdaySet.insert s d).1 e = (mem s e || decide (e = d)) ∧
    (WeekdaySet.insert s d).2 = !mem s d := by
  unfold WeekdaySet.insert
  rw [contains_eq]
  cases h : mem s d with
  | false => exact ⟨by rw [← mem_single d e]; exact mem_union _ _ _, rfl⟩
  | true =>
    refine ⟨?_, rfl⟩
    show mem s e = _
    by_cases hed : e = d
    · rw [hed, h]; rfl
    · rw [decide_eq_false hed, Bool.or_false]

theorem remove_spec (s : Nat) (d e : Weekday) :
    mem (WeekdaySet.remove s d).1 e = (mem s e && !decide (e = d)) ∧
    (WeekdaySet.remove s d).2 = mem s d := by
  unfold WeekdaySet.remove
  rw [contains_eq]
  cases h : mem s d with
  | true =>
    refine ⟨?_, rfl⟩
    show mem (s &&& WeekdaySet.not8 (WeekdaySet.single d)) e = _
    rw [mem_inter, mem_not8 (Nat.lt_trans (single_lt d) (by decide)), mem_single]
  | false =>
    refine ⟨?_, rfl⟩
    show mem s e = _
    by_cases hed : e = d
    · rw [hed, h]; rfl
    · rw [decide_eq_false hed]; simp

theorem from_list_spec (ds : List Weekday) (e : Weekday) :
    mem (WeekdaySet.from_list ds) e = decide (e ∈ ds) ∧ WeekdaySet.from_list ds < 128 := by
  suffices h : ∀ acc, acc < 128 →
      (mem (ds.foldl (fun acc d => acc ||| WeekdaySet.single d) acc) e = (mem acc e || decide (e ∈ ds)) ∧
       ds.foldl (fun acc d => acc ||| WeekdaySet.single d) acc < 128) by
    have := h 0 (by decide)
    unfold WeekdaySet.from_list
    refine ⟨?_, this.2⟩
    rw [this.1, show mem 0 e = false from Nat.zero_testBit _, Bool.false_or]
  induction ds with
  | nil => intro acc h; simp [h]
  | cons d ds ih =>
    intro acc hacc
    have := ih _ (Nat.or_lt_two_pow (n := 7) hacc (single_lt d))
    simp only [List.foldl_cons]
    refine ⟨?_, this.2⟩
    rw [this.1, mem_union, mem_single]
    by_cases hed : e = d <;> simp [hed]

/-- the word built from the members of `s` is `s` -/
theorem from_list_members {s : Nat} (hs : s < 128) :
    WeekdaySet.from_list (Weekday.all.filter (mem s)) = s :=
  word_ext (from_list_spec _ .mon).2 hs fun e => by
    rw [(from_list_spec _ e).1, Bool.eq_iff_iff, decide_eq_true_iff, List.mem_filter]
    exact ⟨And.right, fun h => ⟨weekday_all_complete e, h⟩⟩

/-! ### iteration: the forward sequence splits at `start` like `split_at` splits the word -/

theorem cyclicFrom_perm (start : Weekday) : (cyclicFrom start).Perm Weekday.all := by
  cases start <;> decide

theorem forward_length (s : Nat) (start : Weekday) : (forward s start).length = card s :=
  ((cyclicFrom_perm start).filter _).length_eq

theorem forward_length_lt (s : Nat) (start : Weekday) : (forward s start).length < 8 :=
  Nat.lt_succ_of_le (List.length_filter_le _ (cyclicFrom start))

/-- length, emptiness, first (least weekday), last (greatest weekday), single_day: `count_ones`,
`trailing_zeros` and `leading_zeros` are tables over the seven bits -/
theorem len_first_last : ∀ s < 128,
    WeekdaySet.len s = card s ∧
    WeekdaySet.is_empty s = decide (card s = 0) ∧
    WeekdaySet.first s = Weekday.all.find? (mem s) ∧
    WeekdaySet.last s = Weekday.all.reverse.find? (mem s) ∧
    WeekdaySet.single_day s = (if card s = 1 then Weekday.all.find? (mem s) else none) := by
  decide +kernel

/-- the two masks of `split_at`: the days from `start` on, and the days before it -/
theorem mem_split_masks (start e : Weekday) :
    mem (128 - WeekdaySet.single start) e = decide (start.toNat ≤ e.toNat) ∧
    mem ((128 - WeekdaySet.single start) ^^^ 127) e = decide (e.toNat < start.toNat) := by
  cases start <;> cases e <;> exact ⟨rfl, rfl⟩

theorem cyclicFrom_eq (start : Weekday) :
    cyclicFrom start = Weekday.all.filter (fun e => decide (start.toNat ≤ e.toNat)) ++
      Weekday.all.filter (fun e => decide (e.toNat < start.toNat)) := by
  cases start <;> rfl

/-- the forward sequence is the members from `start` on, then the members before `start`, each
part in week order -/
theorem forward_eq (s : Nat) (start : Weekday) :
    forward s start = Weekday.all.filter (mem (WeekdaySet.split_at s start).2) ++
      Weekday.all.filter (mem (WeekdaySet.split_at s start).1) := by
  unfold forward WeekdaySet.split_at
  rw [cyclicFrom_eq, List.filter_append, List.filter_filter, List.filter_filter]
  congr 1 <;> refine List.filter_congr fun e _ => ?_
  · rw [mem_inter, (mem_split_masks start e).1]
  · rw [mem_inter, (mem_split_masks start e).2]

theorem split_at_lt {s : Nat} (hs : s < 128) (start : Weekday) :
    (WeekdaySet.split_at s start).1 < 128 ∧ (WeekdaySet.split_at s start).2 < 128 :=
  ⟨Nat.lt_of_le_of_lt Nat.and_le_left hs, Nat.lt_of_le_of_lt Nat.and_le_left hs⟩

theorem is_empty_iff {x : Nat} (hx : x < 128) :
    WeekdaySet.is_empty x = true ↔ Weekday.all.filter (mem x) = [] := by
  rw [(len_first_last x hx).2.1, decide_eq_true_iff, card, List.length_eq_zero_iff]

theorem first_eq {x : Nat} (hx : x < 128) :
    WeekdaySet.first x = (Weekday.all.filter (mem x)).head? := by
  rw [(len_first_last x hx).2.2.1, List.head?_filter]

theorem last_eq {x : Nat} (hx : x < 128) :
    WeekdaySet.last x = (Weekday.all.filter (mem x)).reverse.head? := by
  rw [(len_first_last x hx).2.2.2.1, ← List.filter_reverse, List.head?_filter]

theorem forward_nil_iff {s : Nat} (hs : s < 128) (start : Weekday) :
    forward s start = [] ↔ WeekdaySet.is_empty s = true := by
  rw [(len_first_last s hs).2.1, decide_eq_true_iff, ← forward_length s start, List.length_eq_zero_iff]

/-- `first` of "`x`, or `y` when `x` is empty" is the head of the members of `x` followed by those
of `y`; `last` is the head of the reverse of the members of `y` followed by those of `x` -/
theorem first_or {x y : Nat} (hx : x < 128) (hy : y < 128) :
    WeekdaySet.first (if WeekdaySet.is_empty x = true then y else x) =
      (Weekday.all.filter (mem x) ++ Weekday.all.filter (mem y)).head? := by
  by_cases he : WeekdaySet.is_empty x = true
  · rw [if_pos he, first_eq hy, (is_empty_iff hx).mp he]; rfl
  · rw [if_neg he, first_eq hx]
    cases hm : Weekday.all.filter (mem x) with
    | nil => exact absurd ((is_empty_iff hx).mpr hm) he
    | cons a l => rfl

theorem last_or {x y : Nat} (hx : x < 128) (hy : y < 128) :
    WeekdaySet.last (if WeekdaySet.is_empty x = true then y else x) =
      (Weekday.all.filter (mem y) ++ Weekday.all.filter (mem x)).reverse.head? := by
  rw [List.reverse_append]
  by_cases he : WeekdaySet.is_empty x = true
  · rw [if_pos he, last_eq hy, (is_empty_iff hx).mp he]; rfl
  · rw [if_neg he, last_eq hx]
    cases hm : (Weekday.all.filter (mem x)).reverse with
    | nil => exact absurd ((is_empty_iff hx).mpr (List.reverse_eq_nil_iff.mp hm)) he
    | cons a l => rfl

theorem next_def (s : Nat) (start : Weekday) :
    WeekdaySet.Iter.next ⟨s, start⟩ =
      if WeekdaySet.is_empty s = true then .ok (none, ⟨s, start⟩) else
      match WeekdaySet.first (if WeekdaySet.is_empty (WeekdaySet.split_at s start).2 = true
        then (WeekdaySet.split_at s start).1 else (WeekdaySet.split_at s start).2) with
      | some d => .ok (some d, ⟨(WeekdaySet.remove s d).1, start⟩)
      | none => .panic := rfl

theorem next_back_def (s : Nat) (start : Weekday) :
    WeekdaySet.Iter.next_back ⟨s, start⟩ =
      if WeekdaySet.is_empty s = true then .ok (none, ⟨s, start⟩) else
      match WeekdaySet.last (if WeekdaySet.is_empty (WeekdaySet.split_at s start).1 = true
        then (WeekdaySet.split_at s start).2 else (WeekdaySet.split_at s start).1) with
      | some d => .ok (some d, ⟨(WeekdaySet.remove s d).1, start⟩)
      | none => .panic := rfl

/-- a front pull hands out the head of the forward sequence -/
theorem next_eq {s : Nat} (hs : s < 128) (start : Weekday) :
    WeekdaySet.Iter.next ⟨s, start⟩ =
      match forward s start with
      | [] => .ok (none, ⟨s, start⟩)
      | d :: _ => .ok (some d, ⟨(WeekdaySet.remove s d).1, start⟩) := by
  have hne := forward_nil_iff hs start
  obtain ⟨hb, ha⟩ := split_at_lt hs start
  rw [next_def, first_or ha hb, ← forward_eq]
  cases hf : forward s start with
  | nil => rw [if_pos (hne.mp hf)]
  | cons d t => rw [if_neg (fun h => by rw [hne.mpr h] at hf; cases hf)]; rfl

/-- a back pull hands out the last element of the forward sequence -/
theorem next_back_eq {s : Nat} (hs : s < 128) (start : Weekday) :
    WeekdaySet.Iter.next_back ⟨s, start⟩ =
      match (forward s start).reverse with
      | [] => .ok (none, ⟨s, start⟩)
      | d :: _ => .ok (some d, ⟨(WeekdaySet.remove s d).1, start⟩) := by
  have hne := (List.reverse_eq_nil_iff.trans (forward_nil_iff hs start))
  obtain ⟨hb, ha⟩ := split_at_lt hs start
  rw [next_back_def, last_or hb ha, ← forward_eq]
  cases hf : (forward s start).reverse with
  | nil => rw [if_pos (hne.mp hf)]
  | cons d t => rw [if_neg (fun h => by rw [hne.mpr h] at hf; cases hf)]; rfl

theorem forward_nodup (s : Nat) (start : Weekday) : (forward s start).Nodup :=
  ((cyclicFrom_perm start).nodup_iff.mpr (by decide)).filter _

/-- removing `d` from the set removes it from the forward sequence -/
theorem forward_remove (s : Nat) (d start : Weekday) :
    forward (WeekdaySet.remove s d).1 start = (forward s start).filter (fun e => !decide (e = d)) := by
  unfold forward
  rw [List.filter_filter]
  exact List.filter_congr fun e _ => by rw [(remove_spec s d e).1, Bool.and_comm]

theorem filter_ne_mid {u v : List Weekday} {d : Weekday} (hnd : (u ++ d :: v).Nodup) :
    (u ++ d :: v).filter (fun e => !decide (e = d)) = u ++ v := by
  obtain ⟨_, hdv, huv⟩ := List.nodup_append.mp hnd
  have hd : ∀ e ∈ u ++ v, (!decide (e = d)) = true := fun e he => by
    have : e ≠ d := by
      rcases List.mem_append.mp he with h | h
      · exact huv e h d List.mem_cons_self
      · exact fun hed => (List.nodup_cons.mp hdv).1 (hed ▸ h)
    rw [decide_eq_false this]; rfl
  rw [List.filter_append, List.filter_cons_of_neg (by simp), ← List.filter_append]
  exact List.filter_eq_self.mpr hd

theorem remove_lt {s : Nat} (hs : s < 128) (d : Weekday) : (WeekdaySet.remove s d).1 < 128 := by
  unfold WeekdaySet.remove
  split
  · exact Nat.lt_of_le_of_lt Nat.and_le_left hs
  · exact hs

theorem front_step {s : Nat} (hs : s < 128) {start d : Weekday} {t : List Weekday}
    (hf : forward s start = d :: t) :
    WeekdaySet.Iter.next ⟨s, start⟩ = .ok (some d, ⟨(WeekdaySet.remove s d).1, start⟩) ∧
    forward (WeekdaySet.remove s d).1 start = t ∧ (WeekdaySet.remove s d).1 < 128 := by
  refine ⟨by rw [next_eq hs, hf], ?_, remove_lt hs d⟩
  rw [forward_remove, hf]
  exact filter_ne_mid (u := []) (hf ▸ forward_nodup s start)

theorem back_step {s : Nat} (hs : s < 128) {start d : Weekday} {t : List Weekday}
    (hf : (forward s start).reverse = d :: t) :
    WeekdaySet.Iter.next_back ⟨s, start⟩ = .ok (some d, ⟨(WeekdaySet.remove s d).1, start⟩) ∧
    forward (WeekdaySet.remove s d).1 start = t.reverse ∧ (WeekdaySet.remove s d).1 < 128 := by
  refine ⟨by rw [next_back_eq hs, hf], ?_, remove_lt hs d⟩
  have hf' : forward s start = t.reverse ++ [d] := by
    rw [← List.reverse_reverse (forward s start), hf, List.reverse_cons]
  rw [forward_remove, hf', filter_ne_mid (hf' ▸ forward_nodup s start), List.append_nil]

theorem stepOk_all {s : Nat} (hs : s < 128) (start : Weekday) : stepOk s start = true := by
  unfold stepOk
  rw [Bool.and_eq_true]
  constructor
  · cases hf : forward s start with
    | nil => rw [next_eq hs, hf]; exact beq_self_eq_true _
    | cons d t =>
      obtain ⟨hn, htail, hlt⟩ := front_step hs hf
      simp only [hn, htail, decide_eq_true hlt, beq_self_eq_true, Bool.and_self]
  · cases hf : (forward s start).reverse with
    | nil => rw [next_back_eq hs, hf]; exact beq_self_eq_true _
    | cons d t =>
      obtain ⟨hn, htail, hlt⟩ := back_step hs hf
      simp only [hn, htail, decide_eq_true hlt, beq_self_eq_true, Bool.and_self]

/-- draining with enough fuel yields the forward sequence -/
theorem drainFront_eq (start : Weekday) : ∀ fuel s, s < 128 → (forward s start).length < fuel →
    WeekdaySet.drainFront fuel ⟨s, start⟩ = .ok (forward s start) := by
  intro fuel
  induction fuel with
  | zero => intro s _ h; cases h
  | succ fuel ih =>
    intro s hs hlen
    cases hf : forward s start with
    | nil => simp only [WeekdaySet.drainFront, next_eq hs, hf]
    | cons d t =>
      obtain ⟨hn, htail, hlt⟩ := front_step hs hf
      have := ih _ hlt (by rw [htail]; rw [hf] at hlen; exact Nat.lt_of_succ_lt_succ hlen)
      simp only [WeekdaySet.drainFront, hn, this, htail]

theorem drainBack_eq (start : Weekday) : ∀ fuel s, s < 128 → (forward s start).length < fuel →
    WeekdaySet.drainBack fuel ⟨s, start⟩ = .ok (forward s start).reverse := by
  intro fuel
  induction fuel with
  | zero => intro s _ h; cases h
  | succ fuel ih =>
    intro s hs hlen
    rw [← List.length_reverse] at hlen
    cases hf : (forward s start).reverse with
    | nil => simp only [WeekdaySet.drainBack, next_back_eq hs, hf]
    | cons d t =>
      obtain ⟨hn, htail, hlt⟩ := back_step hs hf
      have := ih _ hlt (by
        rw [htail, List.length_reverse]; rw [hf] at hlen; exact Nat.lt_of_succ_lt_succ hlen)
      simp only [WeekdaySet.drainBack, hn, this, htail, List.reverse_reverse]

end WdSet

end Chrono.Proofs
