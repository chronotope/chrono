/-
  C14 with C02/C03: the timestamp fall-back path of `to_naive_datetime_with_offset` (fields
  reconstructed from the timestamp, second-60 allowance, the repaired checked subtraction), and the
  resolver as a whole (`dt_main'`).
-/
import Chrono.Proofs.ParsedIsoL
import Chrono.Proofs.TimestampL
import Chrono.Proofs.DateTimeArithL
import Chrono.Proofs.ZonedL
namespace Chrono.Proofs.ParsedRes
open Chrono Chrono.M Chrono.Spec Chrono.Spec.Fields Chrono.Spec.Ts Chrono.Extracted Chrono.Proofs Chrono.Proofs.Ts

theorem set_year_ok (p p1 : Parsed) (v : Int) :
    p.set_year v = .ok p1 ↔ ∃ x, Parsed.toI32 v = .ok x ∧ (p.year = none ∨ p.year = some x) ∧
      p1 = { p with year := some x } := setShape _ _ (fun f => { p with year := f }) p1
theorem set_ordinal_ok (p p1 : Parsed) (v : Int) :
    p.set_ordinal v = .ok p1 ↔ ∃ x, Parsed.inRange v 1 366 = .ok x ∧ (p.ordinal = none ∨ p.ordinal = some x) ∧
      p1 = { p with ordinal := some x } := setShape _ _ (fun f => { p with ordinal := f }) p1
theorem set_minute_ok (p p1 : Parsed) (v : Int) :
    p.set_minute v = .ok p1 ↔ ∃ x, Parsed.inRange v 0 59 = .ok x ∧ (p.minute = none ∨ p.minute = some x) ∧
      p1 = { p with minute := some x } := setShape _ _ (fun f => { p with minute := f }) p1
theorem set_second_ok (p p1 : Parsed) (v : Int) :
    p.set_second v = .ok p1 ↔ ∃ x, Parsed.inRange v 0 60 = .ok x ∧ (p.second = none ∨ p.second = some x) ∧
      p1 = { p with second := some x } := setShape _ _ (fun f => { p with second := f }) p1

theorem one_second : Delta.try_seconds 1 = some ⟨1, 0⟩ ∧ DInv ⟨1, 0⟩ ∧ ns ⟨1, 0⟩ = 1000000000 := by
  decide

theorem with_second_self (p : Parsed) (s : Int) (h : p.second = some s) :
    { p with second := some s } = p := by
  cases p; cases h; rfl

theorem leap_adjust_spec (p : Parsed) (dt : NaiveDT) (hdt : NDTInv dt) (hf : dt.time.frac = 0) :
    ∃ r, Parsed.leap_adjust p dt = .ok r ∧
      (∀ e, r = .error e → e = .impossible ∨ e = .outOfRange) ∧
      (∀ d' p', r = .ok (d', p') →
        NDTInv d' ∧ d'.time.frac = 0 ∧
        (∃ s', p' = { p with second := some s' } ∧ (p.second = none ∨ p.second = some s') ∧
          (if s' = 60 then d'.time.secs % 60 = 59 else s' = d'.time.secs % 60)) ∧
        (instSecs d' = instSecs dt ∨ (instSecs d' = instSecs dt - 1 ∧ p.second = some 60))) := by
  unfold Parsed.leap_adjust
  have hsec : dt.time.second = dt.time.secs % 60 := rfl
  obtain ⟨hdi, t0, t1, _, _⟩ := hdt
  by_cases h60 : p.second = some 60
  · rw [if_pos h60]
    by_cases h59 : dt.time.second = 59
    · rw [if_pos h59]
      refine ⟨_, rfl, (fun e h => by cases h), ?_⟩
      intro d' p' h
      cases h
      refine ⟨⟨hdi, t0, t1, by omega, by omega⟩, hf, ⟨60, (with_second_self p 60 h60).symm, Or.inr h60, ?_⟩,
        Or.inl rfl⟩
      rw [if_pos rfl, ← hsec]; exact h59
    · rw [if_neg h59]
      by_cases h0 : dt.time.second = 0
      · rw [if_pos h0, one_second.1]
        simp only []
        obtain ⟨r, hr, hnone, hsome⟩ := dt_sub_exact dt ⟨1, 0⟩ ⟨hdi, t0, t1, by omega, by omega⟩
          (by unfold NonLeap; omega) one_second.2.1
        rw [hr]
        cases r with
        | none =>
          simp only [Parsed.okOr, Parsed.RP.bind]
          exact ⟨_, rfl, (fun e h => by cases h; right; rfl), (fun d' p' h => by cases h)⟩
        | some d1 =>
          simp only [Parsed.okOr, Parsed.RP.bind]
          refine ⟨_, rfl, (fun e h => by cases h), ?_⟩
          intro d' p' h
          cases h
          obtain ⟨i1, i2, i3⟩ := hsome d1 rfl
          rw [one_second.2.2] at i3
          unfold instNs at i3
          unfold NonLeap at i2
          obtain ⟨_, u0, u1, u2, u3⟩ := id i1
          have hs1 : instSecs d1 = instSecs dt - 1 ∧ d1.time.frac = 0 := by
            rw [hf] at i3; omega
          have hd59 : d1.time.secs % 60 = 59 := by
            have e1 : instSecs d1 = (dayNumOf d1.date - EPOCH_DAY) * 86400 + d1.time.secs := rfl
            have e2 : instSecs dt = (dayNumOf dt.date - EPOCH_DAY) * 86400 + dt.time.secs := rfl
            rw [hsec] at h0
            omega
          refine ⟨i1, hs1.2, ⟨60, (with_second_self p 60 h60).symm, Or.inr h60, ?_⟩, Or.inr ⟨hs1.1, h60⟩⟩
          rw [if_pos rfl]; exact hd59
      · rw [if_neg h0]
        exact ⟨_, rfl, (fun e h => by cases h; left; rfl), (fun d' p' h => by cases h)⟩
  · have hr : 0 ≤ dt.time.second ∧ dt.time.second ≤ 60 := by rw [hsec]; omega
    unfold Parsed.set_second
    rw [if_neg h60, range_setter_eq, if_pos hr]
    by_cases hold : p.second = none ∨ p.second = some dt.time.second
    · rw [if_pos hold]
      refine ⟨_, rfl, nofun, fun d' p' h => ?_⟩
      cases h
      refine ⟨⟨hdi, t0, t1, by omega, by omega⟩, hf, ⟨dt.time.second, rfl, hold, ?_⟩, Or.inl rfl⟩
      rw [if_neg (by rw [hsec]; omega)]
      exact hsec
    · rw [if_neg hold]
      exact ⟨_, rfl, fun e h => by cases h; exact .inl rfl, fun d' p' h => by cases h⟩

theorem toI32_err (v : Int) (e : PErr) (h : Parsed.toI32 v = .error e) : e = .outOfRange := by
  unfold Parsed.toI32 at h; split at h <;> cases h; rfl
theorem inRange_err (v lo hi : Int) (e : PErr) (h : Parsed.inRange v lo hi = .error e) : e = .outOfRange := by
  unfold Parsed.inRange at h; split at h <;> cases h; rfl

/-- the record after the fall-back path has filled in second, year, ordinal, hour and minute -/
def filled (p : Parsed) (s y o h mi : Int) : Parsed :=
  { p with second := some s, year := some y, ordinal := some o,
           hour_div_12 := some (if h ≤ 11 then 0 else 1),
           hour_mod_12 := some (if h ≤ 11 then h else h - 12), minute := some mi }

/-- the fields of `p` that are overwritten were absent or already had that value -/
def Fits (p : Parsed) (s y o h mi : Int) : Prop :=
  (p.second = none ∨ p.second = some s) ∧ (p.year = none ∨ p.year = some y) ∧
  (p.ordinal = none ∨ p.ordinal = some o) ∧
  (p.hour_div_12 = none ∨ p.hour_div_12 = some (if h ≤ 11 then 0 else 1)) ∧
  (p.hour_mod_12 = none ∨ p.hour_mod_12 = some (if h ≤ 11 then h else h - 12)) ∧
  (p.minute = none ∨ p.minute = some mi)

instance (p : Parsed) (s y o h mi : Int) : Decidable (Fits p s y o h mi) := by
  unfold Fits; exact inferInstance

theorem bind_setShape (g : PRes Int) (x : Int) (hg : g = .ok x) (old : Option Int)
    (upd : Option Int → Parsed) {β : Type} (k : Parsed → Parsed.RP β) :
    Parsed.RP.bind (Parsed.liftP (do let a ← g; let f ← Parsed.setIf old a; pure (upd f))) k =
      if old = none ∨ old = some x then k (upd (some x)) else .ok (.error .impossible) := by
  subst hg
  cases old with
  | none => simp [Parsed.liftP, Parsed.RP.bind, Parsed.setIf, bind, Except.bind, pure, Except.pure]
  | some v =>
    by_cases hv : v = x
    · subst hv
      simp [Parsed.liftP, Parsed.RP.bind, Parsed.setIf, bind, Except.bind, pure, Except.pure]
    · simp [Parsed.liftP, Parsed.RP.bind, Parsed.setIf, bind, Except.bind, hv]

theorem bind_set_hour (q : Parsed) (h : Int) (hh : 0 ≤ h ∧ h ≤ 23) {β : Type}
    (k : Parsed → Parsed.RP β) :
    Parsed.RP.bind (Parsed.liftP (Parsed.set_hour q h)) k =
      if (q.hour_div_12 = none ∨ q.hour_div_12 = some (if h ≤ 11 then 0 else 1)) ∧
         (q.hour_mod_12 = none ∨ q.hour_mod_12 = some (if h ≤ 11 then h else h - 12))
      then k { q with hour_div_12 := some (if h ≤ 11 then 0 else 1),
                      hour_mod_12 := some (if h ≤ 11 then h else h - 12) }
      else .ok (.error .impossible) := by
  rw [set_hour_eq, if_pos hh]
  by_cases c : (q.hour_div_12 = none ∨ q.hour_div_12 = some (if h ≤ 11 then 0 else 1)) ∧
      (q.hour_mod_12 = none ∨ q.hour_mod_12 = some (if h ≤ 11 then h else h - 12))
  · rw [if_pos c, if_pos c]; rfl
  · rw [if_neg c, if_neg c]; rfl

/-- the four setters after the second: a filled record, or IMPOSSIBLE (values are in range) -/
theorem fill_chain (p : Parsed) (s y o h mi : Int) (hs : p.second = none ∨ p.second = some s)
    (hy : -2147483648 ≤ y ∧ y ≤ 2147483647) (ho : 1 ≤ o ∧ o ≤ 366) (hh : 0 ≤ h ∧ h ≤ 23)
    (hmi : 0 ≤ mi ∧ mi ≤ 59) {β : Type} (k : Parsed → Parsed.RP β) :
    (Parsed.RP.bind (Parsed.liftP (Parsed.set_year { p with second := some s } y)) fun p1 =>
     Parsed.RP.bind (Parsed.liftP (Parsed.set_ordinal p1 o)) fun p2 =>
     Parsed.RP.bind (Parsed.liftP (Parsed.set_hour p2 h)) fun p3 =>
     Parsed.RP.bind (Parsed.liftP (Parsed.set_minute p3 mi)) fun p4 => k p4) =
    (if Fits p s y o h mi then k (filled p s y o h mi) else .ok (.error .impossible)) := by
  unfold Parsed.set_year Parsed.set_ordinal Parsed.set_minute
  rw [bind_setShape _ y ((toI32_ok y y).mpr ⟨hy, rfl⟩)]
  try dsimp only
  by_cases c2 : p.year = none ∨ p.year = some y
  · rw [if_pos c2, bind_setShape _ o ((inRange_ok o 1 366 o).mpr ⟨ho, rfl⟩)]
    try dsimp only
    by_cases c3 : p.ordinal = none ∨ p.ordinal = some o
    · rw [if_pos c3, bind_set_hour _ h hh]
      try dsimp only
      by_cases c4 : (p.hour_div_12 = none ∨ p.hour_div_12 = some (if h ≤ 11 then 0 else 1)) ∧
          (p.hour_mod_12 = none ∨ p.hour_mod_12 = some (if h ≤ 11 then h else h - 12))
      · rw [if_pos c4, bind_setShape _ mi ((inRange_ok mi 0 59 mi).mpr ⟨hmi, rfl⟩)]
        try dsimp only
        by_cases c5 : p.minute = none ∨ p.minute = some mi
        · rw [if_pos c5, if_pos (show Fits p s y o h mi from ⟨hs, c2, c3, c4.1, c4.2, c5⟩)]
          rfl
        · rw [if_neg c5, if_neg (fun (hf : Fits p s y o h mi) => c5 hf.2.2.2.2.2)]
      · rw [if_neg c4, if_neg (fun (hf : Fits p s y o h mi) => c4 ⟨hf.2.2.2.1, hf.2.2.2.2.1⟩)]
    · rw [if_neg c3, if_neg (fun (hf : Fits p s y o h mi) => c3 hf.2.2.1)]
  · rw [if_neg c2, if_neg (fun (hf : Fits p s y o h mi) => c2 hf.2.1)]

theorem okOr_some {α} (a : α) (e : PErr) : Parsed.okOr (.ok (some a)) e = .ok (.ok a) := rfl
theorem okOr_none {α} (e : PErr) : Parsed.okOr (.ok (none : Option α)) e = .ok (.error e) := rfl
theorem bind_okok {α β} (a : α) (f : α → Parsed.RP β) : Parsed.RP.bind (.ok (.ok a)) f = f a := rfl
theorem bind_err {α β} (e : PErr) (f : α → Parsed.RP β) :
    Parsed.RP.bind (.ok (.error e)) f = .ok (.error e) := rfl

theorem optIn_some (v lo hi : Int) (h : lo ≤ v ∧ v ≤ hi) : optIn (some v) lo hi := by
  intro x hx; cases hx; exact h

theorem inType_filled (p : Parsed) (hp : InType p) (s y o h mi : Int) (hs : 0 ≤ s ∧ s ≤ 60)
    (hy : -2147483648 ≤ y ∧ y ≤ 2147483647) (ho : 1 ≤ o ∧ o ≤ 366) (hh : 0 ≤ h ∧ h ≤ 23)
    (hmi : 0 ≤ mi ∧ mi ≤ 59) : InType (filled p s y o h mi) := by
  obtain ⟨h1, h2, h3, h4, h5, h6, h7, h8, h9, h10, h11, h12, h13, h14, h15, h16, h17, h18, h19, h20⟩ := hp
  unfold filled
  exact ⟨optIn_some _ _ _ hy, h2, h3, h4, h5, h6, h7, h8, h9, h10, h11,
    optIn_some _ _ _ (by omega), h13,
    optIn_some _ _ _ (by split <;> omega), optIn_some _ _ _ (by split <;> omega),
    optIn_some _ _ _ (by omega), optIn_some _ _ _ (by omega), h18, h19, h20⟩

theorem optI64_eq_some (x v : Int) (h : optI64 x = some v) : v = x ∧ isI64 x := by
  unfold optI64 at h
  split at h
  · rename_i hin
    cases h
    have a : I64_MIN = -9223372036854775808 := rfl
    have b : I64_MAX = 9223372036854775807 := rfl
    simp only [inI64, Bool.and_eq_true, decide_eq_true_eq] at hin
    exact ⟨rfl, by unfold isI64; omega⟩
  · cases h

theorem secs_of_fields (a b : Int)
    (h1 : (if b / 60 / 60 ≤ 11 then 0 else 1) = a / 3600 / 12)
    (h2 : (if b / 60 / 60 ≤ 11 then b / 60 / 60 else b / 60 / 60 - 12) = a / 3600 % 12)
    (h3 : b / 60 % 60 = a / 60 % 60) (h4 : b % 60 = a % 60) : a = b := by
  have hH : a / 3600 = b / 60 / 60 := by
    generalize a / 3600 = A at *
    generalize b / 60 / 60 = H at *
    by_cases c : H ≤ 11
    · rw [if_pos c] at h1 h2; omega
    · rw [if_neg c] at h1 h2; omega
  omega

/-- the fall-back path up to the two resolver calls: an early IMPOSSIBLE / OUT_OF_RANGE, or the
date-time `d'` to use (that of the timestamp, or one second earlier when the record holds second 60)
and the second `s'` written into the record, which then fits and is resolved by date and time -/
theorem ts_path_form (p : Parsed) (hp : InType p) (off timestamp : Int) :
    (∃ e, (e = .impossible ∨ e = .outOfRange) ∧
      Parsed.from_timestamp_path p off timestamp = .ok (.error e)) ∨
    ∃ (d' : NaiveDT) (s' : Int), NDTInv d' ∧ d'.time.frac = 0 ∧
      (if s' = 60 then d'.time.secs % 60 = 59 else s' = d'.time.secs % 60) ∧
      (instSecs d' = timestamp + off ∨ (instSecs d' = timestamp + off - 1 ∧ p.second = some 60)) ∧
      Fits p s' d'.date.year d'.date.ordinal d'.time.hour d'.time.minute ∧
      InType (filled p s' d'.date.year d'.date.ordinal d'.time.hour d'.time.minute) ∧
      Parsed.from_timestamp_path p off timestamp =
        Parsed.RP.bind (Parsed.to_naive_date
          (filled p s' d'.date.year d'.date.ordinal d'.time.hour d'.time.minute)) fun date =>
        Parsed.RP.bind (Parsed.liftP (Parsed.to_naive_time
          (filled p s' d'.date.year d'.date.ordinal d'.time.hour d'.time.minute))) fun time =>
        .ok (.ok ⟨date, time⟩) := by
  unfold Parsed.from_timestamp_path
  cases hopt : optI64 (timestamp + off) with
  | none => exact .inl ⟨_, .inr rfl, rfl⟩
  | some ts =>
    obtain ⟨rfl, hi64⟩ := optI64_eq_some _ _ hopt
    obtain ⟨r0, hr0, _, hm0⟩ := from_timestamp_spec (timestamp + off) 0 hi64 (by omega)
    simp only [hr0]
    cases r0 with
    | none => exact .inl ⟨_, .inr rfl, rfl⟩
    | some dtm =>
      obtain ⟨hinv, _, hsecs, hfrac⟩ := hm0 dtm rfl
      obtain ⟨r1, hr1, he1, hok1⟩ := leap_adjust_spec p dtm hinv hfrac
      rw [okOr_some, bind_okok, hr1]
      cases r1 with
      | error e => exact .inl ⟨e, he1 e rfl, rfl⟩
      | ok dp =>
        obtain ⟨d', p'⟩ := dp
        obtain ⟨hinv', hfrac', ⟨s', rfl, hsold, hs'⟩, hinst⟩ := hok1 d' _ rfl
        rw [bind_okok]
        obtain ⟨hdi, t0, t1, _, _⟩ := id hinv'
        obtain ⟨oN, hdeq, hoN, y1, y2, o1, o2⟩ := dateInv_repr d'.date hdi
        have hyl := yearLen_ge d'.date.year
        have hMIN : MIN_YEAR = -262143 := rfl
        have hMAX : MAX_YEAR = 262142 := rfl
        have hhour : d'.time.hour = d'.time.secs / 60 / 60 := rfl
        have hmin : d'.time.minute = d'.time.secs / 60 % 60 := rfl
        have hs60 : 0 ≤ s' ∧ s' ≤ 60 := by split at hs' <;> omega
        have hy : -2147483648 ≤ d'.date.year ∧ d'.date.year ≤ 2147483647 := by omega
        have ho : 1 ≤ d'.date.ordinal ∧ d'.date.ordinal ≤ 366 := by omega
        have hh : 0 ≤ d'.time.hour ∧ d'.time.hour ≤ 23 := by omega
        have hmi : 0 ≤ d'.time.minute ∧ d'.time.minute ≤ 59 := by omega
        rw [fill_chain p s' d'.date.year d'.date.ordinal d'.time.hour d'.time.minute hsold hy ho hh hmi]
        by_cases hfit : Fits p s' d'.date.year d'.date.ordinal d'.time.hour d'.time.minute
        · rw [if_pos hfit]
          refine .inr ⟨d', s', hinv', hfrac', hs', ?_, hfit, inType_filled p hp _ _ _ _ _ hs60 hy ho hh hmi, rfl⟩
          rw [← hsecs]; exact hinst
        · rw [if_neg hfit]
          exact .inl ⟨_, .inl rfl, rfl⟩

/-- the fall-back path of `to_naive_datetime_with_offset`: never panics; a result is an existing day
and a constructible time that agree with every supplied field, and its timestamp (local reading
minus offset) is the supplied one, or one less when the result is a leap second -/
theorem ts_path_spec (p : Parsed) (hp : InType p) (off timestamp : Int)
    (hts : p.timestamp = some timestamp) :
    ∃ r, Parsed.from_timestamp_path p off timestamp = .ok r ∧
      (∀ e, r = .error e → e = .notEnough ∨ e = .impossible ∨ e = .outOfRange) ∧
      (∀ dt, r = .ok dt → NaiveOk p dt off) := by
  rcases ts_path_form p hp off timestamp with ⟨e, he, hr⟩ | ⟨d', s', hinv', _, hs', hinst, hfit, hp4, hr⟩
  · exact ⟨_, hr, (fun e' h => by cases h; exact .inr he), (fun dt h => by cases h)⟩
  rw [hr]
  obtain ⟨r2, hr2, hok2, hk2, _⟩ := date_main _ hp4
  rw [hr2]
  cases r2 with
  | error e => exact ⟨_, rfl, (fun e' h => by cases h; exact hk2 e rfl), (fun dt h => by cases h)⟩
  | ok date =>
    rw [bind_okok, Parsed.liftP]
    cases htm : Parsed.to_naive_time (filled p s' d'.date.year d'.date.ordinal d'.time.hour d'.time.minute) with
    | error e =>
      refine ⟨_, rfl, ?_, (fun dt h => by cases h)⟩
      intro e' h; cases h
      rcases time_err' _ e htm with ⟨h, _⟩ | ⟨h, _⟩ <;> simp [h]
    | ok t =>
      refine ⟨_, rfl, (fun e h => by cases h), ?_⟩
      intro dt h
      cases h
      unfold NaiveOk
      obtain ⟨Y, o, hvd, hdate, hag⟩ := hok2 date rfl
      obtain ⟨a1, a2, a3, a4, a5, a6, a7, a8, a9, a10⟩ := hag (Or.inl isoCtorSpec_holds)
      obtain ⟨ts1, ⟨b1, b2, b3, ⟨b4, _⟩, ⟨b5, _⟩⟩, _, _⟩ := time_sound' _ t htm
      obtain ⟨f1, f2, f3, f4, f5, f6⟩ := hfit
      -- the filled record holds the fields of `d'`, so the resolved day and time are those of `d'`
      have eY : d'.date.year = Y := a1 _ rfl
      have eO : d'.date.ordinal = (o : Int) := a8 _ rfl
      have e1 := b1 _ rfl
      have e2 := b2 _ rfl
      have e3 := b3 _ rfl
      have e4 := b4 s' rfl
      have e4' : d'.time.secs % 60 = secondOf t := by
        by_cases c60 : s' = 60
        · rw [if_pos c60] at hs' e4; rw [hs', e4.1]
        · rw [if_neg c60] at hs' e4; rw [← hs', e4.1]
      have hsecs_eq : t.secs = d'.time.secs :=
        secs_of_fields t.secs d'.time.secs e1 e2 e3 e4'
      refine ⟨Y, o, hvd, hdate, ⟨optIs_of_fits f2 eY, a2, a3, a4, a5, a6, a7, optIs_of_fits f3 eO, a9, a10⟩,
        ts1, ⟨optIs_of_fits f4 e1, optIs_of_fits f5 e2, optIs_of_fits f6 e3, ?_, b5⟩, fun g hg => ?_⟩
      · intro x hx; rcases f1 with g | g <;> rw [g] at hx <;> cases hx; exact e4
      · obtain rfl := Option.some.inj (hts.symm.trans hg)
        have hS : timestampIs.instSecsLocal ⟨date, t⟩ = instSecs d' := by
          unfold timestampIs.instSecsLocal instSecs dayNumOf
          have hE : EPOCH_DAY = 719163 := rfl
          obtain ⟨g1, g2, _⟩ := vd_fields Y o hvd
          rw [hdate, g1, g2, eY, eO, hE]
          simp only []
          rw [hsecs_eq]
        rw [hS]
        rcases hinst with hi | ⟨hi, h60⟩
        · left; omega
        · right
          have c60 : s' = 60 := by
            rcases f1 with g | g <;> rw [g] at h60 <;> cases h60; rfl
          rw [if_pos c60] at e4
          exact ⟨e4.2, by omega⟩

theorem timeSupplied_of_agrees (p : Parsed) (t : Time) (h : TimeAgrees p t) : TimeAgreesSupplied p t :=
  ⟨h.1, h.2.1, h.2.2.1, h.2.2.2.1.1, h.2.2.2.2.1⟩

/-- `to_naive_datetime_with_offset`, both paths, every record and every `i32` offset: never panics;
errors by value (three kinds); a result is an existing day and a constructible time of day that agree
with every supplied date and time field, and with the supplied timestamp at that offset (one-second
allowance for a leap-second result) -/
theorem dt_main' (p : Parsed) (hp : InType p) (off : Int) (hoff : -2147483648 ≤ off ∧ off ≤ 2147483647) :
    ∃ r, Parsed.to_naive_datetime_with_offset p off = .ok r ∧
      (∀ e, r = .error e → e = .notEnough ∨ e = .impossible ∨ e = .outOfRange) ∧
      (∀ dt, r = .ok dt → NaiveOk p dt off) := by
  unfold NaiveOk
  obtain ⟨rd, hrd, hokd, hkd, _⟩ := date_main p hp
  have tkinds : ∀ e, Parsed.to_naive_time p = .error e →
      e = .notEnough ∨ e = .impossible ∨ e = .outOfRange := by
    intro e h; rcases time_err' p e h with ⟨h, _⟩ | ⟨h, _⟩ <;> simp [h]
  -- what the second branch does once date/time are known not to be both Ok
  have second : ∀ (date : PRes Date) (time : PRes Time),
      (∀ e, date = .error e → e = .notEnough ∨ e = .impossible ∨ e = .outOfRange) →
      (∀ e, time = .error e → e = .notEnough ∨ e = .impossible ∨ e = .outOfRange) →
      (∀ d t, ¬ (date = .ok d ∧ time = .ok t)) →
      ∃ r, (match p.timestamp with
        | some timestamp =>
          if Parsed.errIs date .outOfRange || Parsed.errIs time .outOfRange then .ok (.error .outOfRange)
          else if Parsed.errIs date .impossible || Parsed.errIs time .impossible then .ok (.error .impossible)
          else Parsed.from_timestamp_path p off timestamp
        | none =>
          match date with
          | .error e => .ok (.error e)
          | .ok _ => match time with
            | .error e => .ok (.error e)
            | .ok _ => .panic : Parsed.RP NaiveDT) = .ok r ∧
      (∀ e, r = .error e → e = .notEnough ∨ e = .impossible ∨ e = .outOfRange) ∧
      (∀ dt, r = .ok dt → NaiveOk p dt off) := by
    intro date time kd kt hnb
    cases hts : p.timestamp with
    | some g =>
      simp only []
      split
      · exact ⟨_, rfl, (fun e h => by cases h; simp), (fun dt h => by cases h)⟩
      · split
        · exact ⟨_, rfl, (fun e h => by cases h; simp), (fun dt h => by cases h)⟩
        · exact ts_path_spec p hp off g hts
    | none =>
      simp only []
      cases date with
      | error e => exact ⟨_, rfl, (fun e' h => by cases h; exact kd e rfl), (fun dt h => by cases h)⟩
      | ok d =>
        cases time with
        | error e => exact ⟨_, rfl, (fun e' h => by cases h; exact kt e rfl), (fun dt h => by cases h)⟩
        | ok t => exact absurd ⟨rfl, rfl⟩ (hnb d t)
  cases rd with
  | error e =>
    unfold Parsed.to_naive_datetime_with_offset
    rw [hrd]
    simp only []
    cases htm : Parsed.to_naive_time p with
    | error e2 =>
      exact second (.error e) (.error e2) (fun e' h => by cases h; exact hkd e rfl)
        (fun e' h => by cases h; exact tkinds e2 htm) (fun d t h => by cases h.1)
    | ok t =>
      exact second (.error e) (.ok t) (fun e' h => by cases h; exact hkd e rfl)
        (fun e' h => by cases h) (fun d t h => by cases h.1)
  | ok d =>
    cases htm : Parsed.to_naive_time p with
    | error e2 =>
      unfold Parsed.to_naive_datetime_with_offset
      rw [hrd, htm]
      simp only []
      exact second (.ok d) (.error e2) (fun e' h => by cases h)
        (fun e' h => by cases h; exact tkinds e2 htm) (fun d t h => by cases h.2)
    | ok t =>
      obtain ⟨Y, o, hvd, rfl, hag⟩ := hokd d rfl
      have hag := hag (Or.inl isoCtorSpec_holds)
      obtain ⟨ts1, ta, _, _⟩ := time_sound' p t htm
      rw [dt_fields_path p off hoff Y o t hvd ts1.1 hrd htm]
      cases p.timestamp with
      | none =>
        exact ⟨_, rfl, nofun, fun dt h => by
          cases h
          exact ⟨Y, o, hvd, rfl, hag, ts1, timeSupplied_of_agrees p t ta, nofun⟩⟩
      | some g =>
        dsimp only
        split
        · exact ⟨_, rfl, fun e h => by cases h; exact .inr (.inl rfl), nofun⟩
        · rename_i hc
          refine ⟨_, rfl, nofun, fun dt h => ?_⟩
          cases h
          refine ⟨Y, o, hvd, rfl, hag, ts1, timeSupplied_of_agrees p t ta, fun g' hg' => ?_⟩
          cases hg'
          -- `hc`: not (different from the timestamp and not its leap-second successor)
          by_cases h1 : g = timestampIs.instSecsLocal ⟨dateOfYo Y o, t⟩ - off
          · exact .inl h1
          · exact .inr (Decidable.not_not.mp fun hn => hc ⟨h1, hn⟩)

end Chrono.Proofs.ParsedRes
