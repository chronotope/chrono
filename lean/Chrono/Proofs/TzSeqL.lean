/- C05: the per-year rule decision (`ruleDst`) equals the transition-sequence reading (`ruleDstSeq`)
   exactly when the start/end order is the same every year (`OrderStable`); what happens when it flips. -/
import Chrono.Spec.ZoneSeqSpec
import Chrono.Proofs.TzYearlyL

set_option linter.unusedSimpArgs false
set_option linter.unusedVariables false

namespace Chrono.Proofs.TzL
open Chrono Chrono.M.Tz Chrono.M.TzL Chrono.Spec.Zone Chrono.Extracted.TzL Chrono.Proofs

/-! ### rule transitions are localised by `InsideYear` -/

theorem inside_before (a : Alt) (hin : InsideYear a) (y Y : Int) (h : y < Y) :
    startAt a y < daysBeforeYear Y * 86400 - 86400 ∧ endAt a y < daysBeforeYear Y * 86400 - 86400 := by
  have i := hin y
  have m := dBY_mono (y + 1) Y (by omega)
  constructor <;> omega

theorem inside_after (a : Alt) (hin : InsideYear a) (y Y : Int) (h : Y < y) :
    daysBeforeYear (Y + 1) * 86400 + 86400 < startAt a y ∧ daysBeforeYear (Y + 1) * 86400 + 86400 < endAt a y := by
  have i := hin y
  have m := dBY_mono (Y + 1) y (by omega)
  constructor <;> omega

/-- under `InsideYear` no rule transition of any year lies within a day of any year boundary -/
theorem inside_no_transition_near_boundary (a : Alt) (hin : InsideYear a) (Y y : Int) :
    ¬ (daysBeforeYear Y * 86400 - 86400 ≤ startAt a y ∧ startAt a y ≤ daysBeforeYear Y * 86400 + 86400) ∧
    ¬ (daysBeforeYear Y * 86400 - 86400 ≤ endAt a y ∧ endAt a y ≤ daysBeforeYear Y * 86400 + 86400) := by
  have s := year_len Y
  rcases Int.lt_trichotomy y Y with l | e | g
  · have := inside_before a hin y Y l
    constructor <;> omega
  · subst e
    have := hin y
    constructor <;> omega
  · have := inside_after a hin y Y g
    constructor <;> omega

/-! ### `OrderStable` holds between any two years -/

theorem orderStable_nat (a : Alt) (ho : OrderStable a) (y : Int) (n : Nat) :
    (startAt a (y + n) ≤ endAt a (y + n)) ↔ (startAt a y ≤ endAt a y) := by
  induction n with
  | zero => simp
  | succ k ih =>
    have e : y + ((k + 1 : Nat) : Int) = (y + k) + 1 := by omega
    rw [e, ← ho (y + k)]
    exact ih

theorem orderStable_all (a : Alt) (ho : OrderStable a) (y y' : Int) :
    (startAt a y ≤ endAt a y) ↔ (startAt a y' ≤ endAt a y') := by
  by_cases c : y ≤ y'
  · have := orderStable_nat a ho y (y' - y).toNat
    have e : y + ((y' - y).toNat : Int) = y' := by omega
    rw [e] at this
    exact this.symm
  · have := orderStable_nat a ho y' (y - y').toNat
    have e : y' + ((y - y').toNat : Int) = y := by omega
    rw [e] at this
    exact this

theorem orderStableAt_add400 (a : Alt) (y : Int) : OrderStableAt a (y + 400) ↔ OrderStableAt a y := by
  unfold OrderStableAt
  have e : y + 400 + 1 = (y + 1) + 400 := by omega
  rw [e]
  simp only [startAt_add400, endAt_add400]
  omega

/-! ### the per-year decision and the transition sequence -/

/-- at a year boundary the per-year decision is the shape of the year on either side: daylight time in the
last second of `Y-1` exactly when `Y-1` is south-shaped (end before start), and in the first second of `Y`
exactly when `Y` is.  Where the shape flips the decision changes there, with no rule transition near. -/
theorem ruleDst_at_boundary (a : Alt) (hin : InsideYear a) (Y : Int) :
    ruleDst a (daysBeforeYear Y * 86400 - 1) = !decide (startAt a (Y - 1) ≤ endAt a (Y - 1)) ∧
    ruleDst a (daysBeforeYear Y * 86400) = !decide (startAt a Y ≤ endAt a Y) := by
  have iY := hin Y
  have iYm := hin (Y - 1)
  have s0 := year_len (Y - 1)
  have em : Y - 1 + 1 = Y := by omega
  rw [em] at iYm s0
  have s1 := year_len Y
  generalize hB : daysBeforeYear Y * 86400 = B at *
  have y1 : yearOf ((B - 1) / 86400) = Y - 1 :=
    isYearOf_unique _ _ _ (yearOf_spec _) (isYearOf_of_bounds (B - 1) (Y - 1) (by omega) (by rw [em]; omega))
  have y2 : yearOf (B / 86400) = Y :=
    isYearOf_unique _ _ _ (yearOf_spec _) (isYearOf_of_bounds B Y (by omega) (by omega))
  unfold ruleDst
  rw [y1, y2]
  exact ⟨ruleDstIn_outside a (Y - 1) _ (.inr ⟨by omega, by omega⟩),
    ruleDstIn_outside a Y _ (.inl ⟨by omega, by omega⟩)⟩

/-- under `InsideYear`, from a day before year `Y` begins to a day after it ends, the transition sequence
is read off year `Y` and the shape of `Y-1`: the transitions at or before `t` are those of the earlier years
and those of `Y` that are; the latest of them is `Y`'s start if that is at or before `t` and `Y`'s end is not
in between; failing both of `Y`'s, the later one of `Y-1` -/
theorem ruleDstSeq_in_year (a : Alt) (hin : InsideYear a) (Y t : Int)
    (ht : daysBeforeYear Y * 86400 - 86400 ≤ t ∧ t ≤ daysBeforeYear (Y + 1) * 86400 + 86400) :
    ruleDstSeq a t ↔
      (startAt a Y ≤ t ∧ (endAt a Y ≤ t → endAt a Y < startAt a Y)) ∨
      (¬ startAt a Y ≤ t ∧ ¬ endAt a Y ≤ t ∧ endAt a (Y - 1) < startAt a (Y - 1)) := by
  have iY := hin Y
  have iYm := hin (Y - 1)
  have em : Y - 1 + 1 = Y := by omega
  rw [em] at iYm
  -- years before `Y-1` lie before both transitions of `Y-1`, years after `Y` after `t`
  have far : ∀ y, (y < Y - 1 → startAt a y < startAt a (Y - 1) ∧ endAt a y < startAt a (Y - 1)) ∧
      (Y < y → t < startAt a y ∧ t < endAt a y) := fun y =>
    ⟨fun l => by have := inside_before a hin y (Y - 1) l; omega,
     fun g => by have := inside_after a hin y Y g; omega⟩
  -- so every year is `Y-1`, `Y`, or one of those
  have tri : ∀ y, y < Y - 1 ∨ y = Y - 1 ∨ y = Y ∨ Y < y := fun y => by omega
  constructor
  · rintro ⟨y, hy, hall⟩
    have hE := hall Y
    have hEm := hall (Y - 1) (by omega)
    rcases tri y with l | e | e | g
    · have := (far y).1 l; omega
    · subst e; omega
    · subst e; omega
    · have := (far y).2 g; omega
  · rintro (⟨h1, h2⟩ | ⟨h1, h2, h3⟩)
    · refine ⟨Y, h1, fun y' hy' => ?_⟩
      rcases tri y' with l | e | e | g
      · have := (far y').1 l; omega
      · subst e; omega
      · subst e; exact h2 hy'
      · have := (far y').2 g; omega
    · refine ⟨Y - 1, by omega, fun y' hy' => ?_⟩
      rcases tri y' with l | e | e | g
      · exact ((far y').1 l).2
      · subst e; exact h3
      · subst e; omega
      · have := (far y').2 g; omega

/-- within a day of that boundary the transition sequence knows only the shape of `Y-1`: its latest
transition is the latest one at all, and it is a start exactly when `Y-1` is south-shaped -/
theorem ruleDstSeq_at_boundary (a : Alt) (hin : InsideYear a) (Y t : Int)
    (ht : daysBeforeYear Y * 86400 - 86400 ≤ t ∧ t ≤ daysBeforeYear Y * 86400 + 86400) :
    ruleDstSeq a t ↔ ¬ startAt a (Y - 1) ≤ endAt a (Y - 1) := by
  have iY := hin Y
  have s := year_len Y
  rw [ruleDstSeq_in_year a hin Y t ⟨ht.1, by omega⟩]
  omega

end Chrono.Proofs.TzL
