/-
  Helper lemmas for C11: the pieces of the standard form `Www, D Mon YYYY HH:MM:SS +HHMM`
  (`Spec.Rfc2822.stdText`) are strings of the grammar spelling their own fields.
-/
import Chrono.Proofs.Rfc2822ResL
namespace Chrono.Proofs.Rfc2822
open Chrono Chrono.M Chrono.Spec Chrono.Spec.Rfc2822

/-- fields the standard form can show: day-name and seconds present, year 0–9999, whole-minute offset -/
def StdFields (f : Rfc2822.Fields) : Prop :=
  (∃ w, f.weekday = some w) ∧ 1 ≤ f.day ∧ f.day ≤ 31 ∧ 1 ≤ f.month ∧ f.month ≤ 12 ∧
  0 ≤ f.year ∧ f.year ≤ 9999 ∧ f.hour ≤ 23 ∧ f.min ≤ 59 ∧ (∃ s, f.sec = some s ∧ s ≤ 60) ∧
  f.off % 60 = 0 ∧ -86400 < f.off ∧ f.off < 86400

theorem dec2_spec (n : Nat) (h : n < 100) : Digits (dec2 n) ∧ (dec2 n).length = 2 ∧ decVal (dec2 n) = n := by
  refine ⟨?_, rfl, ?_⟩
  · intro b hb
    simp only [dec2, List.mem_cons, List.mem_nil_iff, or_false] at hb
    rcases hb with rfl | rfl <;> omega
  · simp only [decVal, dec2, List.foldl_cons, List.foldl_nil]; omega

theorem cap_tables :
    (∀ i < 7, CaseOf (dayNames.getD i []) (dayNamesCap.getD i [])) ∧
    (∀ i < 12, CaseOf (monthNames.getD i []) (monthNamesCap.getD i [])) := by decide

theorem ws_sp : Ws [32] := Ws.cons [32] [] (by decide) Ws.nil
theorem ws1_sp : Ws1 [32] := ⟨[32], [], by decide, Ws.nil, rfl⟩

theorem zone_cast {a b : List Nat} {x y : Int} (h : Zone a x) (h1 : a = b) (h2 : x = y) : Zone b y := by
  subst h1; subst h2; exact h

/-- the day of the month as the standard form shows it: one digit below 10, two from 10 on -/
theorem day_digits (d : Nat) (h : d < 100) :
    Digits (if d < 10 then [48 + d] else dec2 d) ∧
    ((if d < 10 then [48 + d] else dec2 d).length = 1 ∨ (if d < 10 then [48 + d] else dec2 d).length = 2) ∧
    decVal (if d < 10 then [48 + d] else dec2 d) = d := by
  split
  · refine ⟨?_, Or.inl rfl, ?_⟩
    · intro b hb; simp only [List.mem_cons, List.mem_nil_iff, or_false] at hb; subst hb; omega
    · simp only [decVal, List.foldl_cons, List.foldl_nil]; omega
  · obtain ⟨h1, h2, h3⟩ := dec2_spec d h
    exact ⟨h1, Or.inr h2, h3⟩

/-- a year 0–9999 as four digits -/
theorem year_digits (y : Nat) (h : y ≤ 9999) :
    Digits (dec2 (y / 100) ++ dec2 (y % 100)) ∧ (dec2 (y / 100) ++ dec2 (y % 100)).length = 4 ∧
    yearOf (dec2 (y / 100) ++ dec2 (y % 100)) = y := by
  refine ⟨fun b hb => ?_, rfl, ?_⟩
  · rcases List.mem_append.mp hb with hb | hb
    · exact (dec2_spec _ (by omega)).1 b hb
    · exact (dec2_spec _ (by omega)).1 b hb
  · unfold yearOf
    have hl : (dec2 (y / 100) ++ dec2 (y % 100)).length = 4 := rfl
    rw [if_neg (by omega), if_neg (by omega)]
    simp only [decVal, dec2, List.cons_append, List.nil_append, List.foldl_cons, List.foldl_nil]
    omega

/-- `±HHMM` is a numeric zone denoting `±(HH hours + MM minutes)` -/
theorem zone_num_dec2 (neg : Bool) (H M : Nat) (hH : H < 100) (hM : M < 60) :
    Zone ([if neg then 45 else 43] ++ dec2 H ++ dec2 M)
      ((if neg then -1 else 1) * ((H : Int) * 3600 + (M : Int) * 60)) := by
  have hz := Zone.num neg (48 + H / 10) (48 + H % 10) (48 + M / 10) (48 + M % 10)
    (by omega) (by omega) (by omega) (by omega)
  have eH : (48 + H / 10 - 48) * 10 + (48 + H % 10 - 48) = H := by omega
  have eM : (48 + M / 10 - 48) * 10 + (48 + M % 10 - 48) = M := by omega
  rw [eH, eM] at hz
  exact hz

/-- a whole-minute offset of less than a day, shown as sign, hours, minutes, is a numeric zone denoting it -/
theorem zone_digits (off : Int) (o1 : off % 60 = 0) (o2 : -86400 < off) (o3 : off < 86400) :
    Zone ([if off < 0 then 45 else 43] ++ dec2 (off.natAbs / 3600) ++ dec2 (off.natAbs / 60 % 60)) off := by
  have ha : off.natAbs < 86400 ∧ off.natAbs % 60 = 0 := by omega
  have hz := zone_num_dec2 (decide (off < 0)) (off.natAbs / 3600) (off.natAbs / 60 % 60) (by omega) (by omega)
  have e : ((off.natAbs / 3600 : Nat) : Int) * 3600 + ((off.natAbs / 60 % 60 : Nat) : Int) * 60 = off.natAbs := by
    omega
  rw [e] at hz
  by_cases hn : off < 0
  · simp only [hn, decide_true, if_true] at hz ⊢
    exact zone_cast hz rfl (by omega)
  · simp only [hn, decide_false, Bool.false_eq_true, if_false] at hz ⊢
    exact zone_cast hz rfl (by omega)

end Chrono.Proofs.Rfc2822
