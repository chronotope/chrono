/-
  C20: `visit_str` of the four string-form types on ARBITRARY text — an error or a valid value, never a
  panic (audit gap LOW-5).  The parser totality theorems are those of C15 (Proofs/C15TotalL.lean:
  `date_from_str_total`, `naive_from_str_total`, `fixed_from_str_total`, `time_from_str_valid`); this file
  only pushes them through the serde glue (`visitOf`, `.map(with_timezone)`).
-/
import Chrono.Proofs.C15TotalL
import Chrono.Spec.SerdeStrSpec
namespace Chrono.Proofs.SerdeVisit
open Chrono Chrono.M Chrono.M.Serde Chrono.Spec Chrono.Proofs.C15Total

theorem visitOf_total {α} (x : Parsed.RP α) (P : α → Prop) (h : ∃ r, x = .ok r ∧ ∀ a, r = .ok a → P a) :
    ∃ r, visitOf x = .ok r ∧ ∀ a, r = .ok a → P a := by
  obtain ⟨r, rfl, hv⟩ := h
  cases r with
  | error e => exact ⟨_, rfl, fun a ha => by cases ha⟩
  | ok a => exact ⟨_, rfl, fun b hb => by injection hb with hb; subst hb; exact hv a rfl⟩

theorem date_total (s : List Nat) : ∃ r, NaiveDateStr.visit_str s = .ok r ∧ ∀ d, r = .ok d → DateInv d :=
  visitOf_total _ _ (date_from_str_total s)

theorem time_total (s : List Nat) : ∃ r, NaiveTimeStr.visit_str s = .ok r ∧ ∀ t, r = .ok t → TValid t :=
  visitOf_total _ _ ⟨_, rfl, fun t ht => time_from_str_valid s t ht⟩

theorem naive_total (s : List Nat) :
    ∃ r, NaiveDateTimeStr.visit_str s = .ok r ∧ ∀ dt, r = .ok dt → NDTInv dt :=
  visitOf_total _ _ (naive_from_str_total s)

theorem fixed_total (s : List Nat) : ∃ r, DateTimeStr.visit_str s = .ok r ∧ ∀ z, r = .ok z → ZInv z :=
  visitOf_total _ ZInv (fixed_from_str_total s)

/-- a target that re-views the value at another offset (`Utc`: 0; `Local`: the zone's) -/
theorem mapped_total (s : List Nat) (off : NaiveDT → Int) (ho : ∀ u, OffValid (off u)) :
    ∃ r, ((DateTimeStr.visit_str s).bind fun r => .ok (r.map fun z => z.with_timezone (off z.utc))) = .ok r ∧
      ∀ z, r = .ok z → ZInv z ∧ z.off = off z.utc := by
  obtain ⟨r, hr, hv⟩ := fixed_total s
  rw [hr]
  refine ⟨_, rfl, ?_⟩
  intro z hz
  cases r with
  | err => cases hz
  | ok a =>
    simp only [SR.map] at hz
    injection hz with hz; subst hz
    exact ⟨⟨(hv a rfl).1, ho _⟩, rfl⟩

end Chrono.Proofs.SerdeVisit
