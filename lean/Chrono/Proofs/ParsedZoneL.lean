/-
  C14 for arbitrary time zones: `to_datetime_with_timezone_gen` (Model/ParsedZone.lean) decomposed
  into its three stages (guessed offset, naive resolution, choice among the zone's candidates), the
  choice characterised through the list of candidates consistent with the offset field, the
  fixed-zone model as an instance, and the step zones.
-/
import Chrono.Proofs.ParsedZonedL
import Chrono.Model.ParsedZone
namespace Chrono.Proofs.ParsedZone
open Chrono Chrono.M Chrono.M.TzL Chrono.Spec Chrono.Spec.Fields Chrono.Spec.Ts Chrono.Extracted
open Chrono.Proofs Chrono.Proofs.Ts Chrono.Proofs.ParsedRes

/-! ### the three stages -/

/-- stage 1: `guessed_offset` — 0 without a timestamp field, else the zone's offset at the instant
of the timestamp (OUT_OF_RANGE when that instant is not representable) -/
def guessed_offset (p : Parsed) (ofu : NaiveDT → Res Int) : Parsed.RP Int :=
  match p.timestamp with
  | some timestamp =>
    Parsed.RP.bind (Parsed.okOr (NaiveDT.from_timestamp timestamp (p.nanosecond.getD 0)) .outOfRange)
      fun dt => (match ofu dt with
        | .ok o => .ok (.ok o)
        | .panic => .panic : Parsed.RP Int)
  | none => .ok (.ok 0)

/- `Consistent`, `GuessIs`, `StepCandidate` are statement-level predicates: defined in
Spec/ParsedZoneSpec.lean (`Chrono.Spec.Fields`), re-exported here under their old names -/
export Chrono.Spec.Fields (Consistent GuessIs StepCandidate)

/-- `Consistent`, executable -/
def consistentB (p : Parsed) (c : Zoned) : Bool :=
  (match p.offset with
   | some x => c.off == x
   | none => true) &&
  (match p.timestamp with
   | some ts => decide (ts = instSecs c.utc) || (decide (1000000000 ≤ c.utc.time.frac) && decide (ts = instSecs c.utc + 1))
   | none => true)

theorem consistentB_iff (p : Parsed) (c : Zoned) : consistentB p c = true ↔ Consistent p c := by
  unfold consistentB Consistent
  cases p.offset <;> cases p.timestamp <;> simp

/-- the candidates of `m` that are consistent with the offset and timestamp fields, in order -/
def consistent (p : Parsed) (m : Mapped Zoned) : List Zoned := m.toList.filter (consistentB p)

/-- none → IMPOSSIBLE, exactly one → that one, two → NOT_ENOUGH -/
def choose : List Zoned → PRes Zoned
  | [] => .error .impossible
  | [c] => .ok c
  | _ => .error .notEnough

theorem zoned_nanosecond (c : Zoned) (hc : ZInv c) : Zoned.nanosecond c = .ok c.utc.time.frac := by
  obtain ⟨l, h1, _, _, h4, _⟩ := naive_local_spec c hc
  unfold Zoned.nanosecond
  rw [h1]
  show Res.ok l.time.frac = _
  rw [h4]

/-- the closure `check_offset` on a well-formed value: never panics, and says exactly whether the
value is consistent with the offset and timestamp fields -/
theorem check_offset_spec (p : Parsed) (c : Zoned) (hc : ZInv c) :
    Parsed.check_offset p c = .ok (consistentB p c) := by
  unfold Parsed.check_offset consistentB
  rw [timestamp_spec c.utc hc.1, zoned_nanosecond c hc]
  cases p.offset with
  | none =>
    cases p.timestamp with
    | none => rfl
    | some ts =>
      simp only [Res.bind]
      by_cases h : ts = instSecs c.utc
      · simp [h]
      · simp [h]
  | some x =>
    by_cases hx : c.off = x
    · cases p.timestamp with
      | none => simp [hx]
      | some ts =>
        simp only [Res.bind]
        by_cases h : ts = instSecs c.utc
        · simp [h, hx]
        · simp [h, hx]
    · simp [hx]

/-- stage 3: the `match tz.from_local_datetime(&datetime)` of the Rust function -/
def pickR (p : Parsed) (m : Mapped Zoned) : Parsed.RP Zoned :=
  match m with
  | .none => .ok (.error .impossible)
  | .single t =>
    (match Parsed.check_offset p t with
     | .panic => .panic
     | .ok true => .ok (.ok t)
     | .ok false => .ok (.error .impossible))
  | .ambiguous min max =>
    match Parsed.check_offset p min, Parsed.check_offset p max with
    | .panic, _ => .panic
    | _, .panic => .panic
    | .ok false, .ok false => .ok (.error .impossible)
    | .ok false, .ok true => .ok (.ok max)
    | .ok true, .ok false => .ok (.ok min)
    | .ok true, .ok true => .ok (.error .notEnough)

/-- the choice among well-formed candidates, read off the list of consistent candidates -/
theorem pickR_eq (p : Parsed) (m : Mapped Zoned) (hm : ∀ c ∈ m.toList, ZInv c) :
    pickR p m = .ok (choose (consistent p m)) := by
  unfold pickR consistent
  cases m with
  | none => rfl
  | single t =>
    simp only [Mapped.toList, List.filter]
    rw [check_offset_spec p t (hm t (by simp [Mapped.toList]))]
    cases consistentB p t <;> rfl
  | ambiguous a b =>
    simp only [Mapped.toList, List.filter]
    rw [check_offset_spec p a (hm a (by simp [Mapped.toList])),
      check_offset_spec p b (hm b (by simp [Mapped.toList]))]
    cases consistentB p a <;> cases consistentB p b <;> rfl

/-- the function is the composition of its three stages -/
theorem gen_eq (p : Parsed) (ofu : NaiveDT → Res Int) (fl : NaiveDT → Res (Mapped Zoned)) :
    Parsed.to_datetime_with_timezone_gen p ofu fl =
      Parsed.RP.bind (guessed_offset p ofu) fun g =>
      Parsed.RP.bind (Parsed.to_naive_datetime_with_offset p g) fun dt =>
      match fl dt with
      | .panic => .panic
      | .ok m => pickR p m := by
  unfold Parsed.to_datetime_with_timezone_gen guessed_offset
  congr 1
  funext g
  congr 1
  funext dt
  cases fl dt with
  | panic => rfl
  | ok m =>
    cases m with
    | none => rfl
    | single t => rfl
    | ambiguous a b => rfl

/-! ### stage 1 -/


theorem nano_nonneg (p : Parsed) (hp : InType p) : 0 ≤ p.nanosecond.getD 0 := by
  have hnT := hp.2.2.2.2.2.2.2.2.2.2.2.2.2.2.2.2.2.1
  cases hn : p.nanosecond with
  | none => simp
  | some n => have := hnT n hn; simp; omega

/-- stage 1, every record: OUT_OF_RANGE for a timestamp outside the representable range (or with a
nanosecond field that is no nanosecond), a panic only if the zone's function panics, else a guess -/
theorem guessed_spec (p : Parsed) (hp : InType p) (ofu : NaiveDT → Res Int) :
    (p.timestamp = none ∧ guessed_offset p ofu = .ok (.ok 0)) ∨
    (∃ ts, p.timestamp = some ts ∧ ¬ tsOk ts (p.nanosecond.getD 0) ∧
      guessed_offset p ofu = .ok (.error .outOfRange)) ∨
    (∃ ts u, p.timestamp = some ts ∧ NaiveDT.from_timestamp ts (p.nanosecond.getD 0) = .ok (some u) ∧
      NDTInv u ∧ instSecs u = ts ∧
      guessed_offset p ofu = (match ofu u with
        | .ok o => .ok (.ok o)
        | .panic => .panic)) := by
  have htT := hp.2.2.2.2.2.2.2.2.2.2.2.2.2.2.2.2.2.2.1
  unfold guessed_offset
  cases hts : p.timestamp with
  | none => exact Or.inl ⟨rfl, rfl⟩
  | some ts =>
    right
    obtain ⟨r0, hr0, hnone, hsome⟩ := from_timestamp_spec ts (p.nanosecond.getD 0)
      (by have := htT ts hts; unfold isI64; exact this) (nano_nonneg p hp)
    cases r0 with
    | none =>
      left
      refine ⟨ts, rfl, hnone.mp rfl, ?_⟩
      simp only [hr0, okOr_none, bind_err]
    | some u =>
      right
      obtain ⟨hi, _, hs, _⟩ := hsome u rfl
      refine ⟨ts, u, rfl, hr0, hi, hs, ?_⟩
      simp only [hr0, okOr_some, bind_okok]

theorem guessed_iff (p : Parsed) (hp : InType p) (ofu : NaiveDT → Res Int) (g : Int) :
    guessed_offset p ofu = .ok (.ok g) ↔ GuessIs p ofu g := by
  unfold GuessIs
  rcases guessed_spec p hp ofu with ⟨h1, h2⟩ | ⟨ts, h1, hbad, h2⟩ | ⟨ts, u, h1, h2, h3, h4, h5⟩
  · rw [h2]
    constructor
    · intro h; cases h; exact Or.inl ⟨h1, rfl⟩
    · rintro (⟨_, rfl⟩ | ⟨ts, u, h, _⟩)
      · rfl
      · rw [h1] at h; cases h
  · rw [h2]
    constructor
    · intro h; cases h
    · rintro (⟨h, _⟩ | ⟨ts', u, h, hf, _⟩)
      · rw [h1] at h; cases h
      · exfalso
        rw [h1] at h; cases h
        have htT := hp.2.2.2.2.2.2.2.2.2.2.2.2.2.2.2.2.2.2.1
        obtain ⟨r0, hr0, hnone, _⟩ := from_timestamp_spec ts (p.nanosecond.getD 0)
          (by have := htT ts h1; unfold isI64; exact this) (nano_nonneg p hp)
        rw [hf] at hr0
        cases hr0
        exact absurd (hnone.mpr hbad) (by simp)
  · rw [h5]
    constructor
    · intro h
      right
      refine ⟨ts, u, h1, h2, h3, h4, ?_⟩
      cases hofu : ofu u with
      | panic => rw [hofu] at h; cases h
      | ok o => rw [hofu] at h; cases h; rfl
    · rintro (⟨h, _⟩ | ⟨ts', u', h, hf, _, _, ho⟩)
      · rw [h1] at h; cases h
      · rw [h1] at h; cases h
        rw [h2] at hf; cases hf
        rw [ho]

/-! ### the whole function -/

/-- where a run that does not panic ends -/
theorem gen_reach (p : Parsed) (hp : InType p) (ofu : NaiveDT → Res Int)
    (fl : NaiveDT → Res (Mapped Zoned))
    (hofu : ∀ u o, NDTInv u → ofu u = .ok o → -2147483648 ≤ o ∧ o ≤ 2147483647)
    (hcand : ∀ l m c, NDTInv l → fl l = .ok m → c ∈ m.toList → ZInv c)
    (r : PRes Zoned) (h : Parsed.to_datetime_with_timezone_gen p ofu fl = .ok r) :
    (∃ ts, p.timestamp = some ts ∧ ¬ tsOk ts (p.nanosecond.getD 0) ∧ r = .error .outOfRange) ∨
    (∃ g e, GuessIs p ofu g ∧ Parsed.to_naive_datetime_with_offset p g = .ok (.error e) ∧
      (e = .notEnough ∨ e = .impossible ∨ e = .outOfRange) ∧ r = .error e) ∨
    (∃ g dt m, GuessIs p ofu g ∧ Parsed.to_naive_datetime_with_offset p g = .ok (.ok dt) ∧
      NaiveOk p dt g ∧ fl dt = .ok m ∧ r = choose (consistent p m)) := by
  rw [gen_eq] at h
  have tail : ∀ g, GuessIs p ofu g →
      (Parsed.RP.bind (Parsed.to_naive_datetime_with_offset p g) fun dt =>
        match fl dt with
        | .panic => .panic
        | .ok m => pickR p m : Parsed.RP Zoned) = .ok r →
      (∃ g e, GuessIs p ofu g ∧ Parsed.to_naive_datetime_with_offset p g = .ok (.error e) ∧
        (e = .notEnough ∨ e = .impossible ∨ e = .outOfRange) ∧ r = .error e) ∨
      (∃ g dt m, GuessIs p ofu g ∧ Parsed.to_naive_datetime_with_offset p g = .ok (.ok dt) ∧
        NaiveOk p dt g ∧ fl dt = .ok m ∧ r = choose (consistent p m)) := by
    intro g hg h
    have hgr : -2147483648 ≤ g ∧ g ≤ 2147483647 := by
      rcases hg with ⟨_, rfl⟩ | ⟨ts, u, _, _, hu, _, ho⟩
      · omega
      · exact hofu u g hu ho
    obtain ⟨r', hr', hk, hok⟩ := dt_main' p hp g hgr
    rw [hr'] at h
    cases r' with
    | error e =>
      left
      rw [bind_err] at h
      cases h
      exact ⟨g, e, hg, hr', hk e rfl, rfl⟩
    | ok dt =>
      right
      rw [bind_okok] at h
      have hn := hok dt rfl
      cases hm : fl dt with
      | panic => rw [hm] at h; cases h
      | ok m =>
        rw [hm] at h
        simp only [] at h
        rw [pickR_eq p m (fun c hc => hcand dt m c (naiveOk_inv p dt g hn) hm hc)] at h
        cases h
        exact ⟨g, dt, m, hg, hr', hn, hm, rfl⟩
  rcases guessed_spec p hp ofu with ⟨h1, h2⟩ | ⟨ts, h1, hbad, h2⟩ | ⟨ts, u, h1, h2, h3, h4, h5⟩
  · rw [h2, bind_okok] at h
    exact Or.inr (tail 0 (Or.inl ⟨h1, rfl⟩) h)
  · rw [h2, bind_err] at h
    cases h
    exact Or.inl ⟨ts, h1, hbad, rfl⟩
  · rw [h5] at h
    cases ho : ofu u with
    | panic => rw [ho] at h; cases h
    | ok o =>
      rw [ho] at h
      rw [bind_okok] at h
      exact Or.inr (tail o (Or.inr ⟨ts, u, h1, h2, h3, h4, ho⟩) h)

/-- the converse: once the first two stages succeed and the zone answers, the result is the choice
among the consistent candidates -/
theorem gen_resolution (p : Parsed) (hp : InType p) (ofu : NaiveDT → Res Int)
    (fl : NaiveDT → Res (Mapped Zoned)) (g : Int) (dt : NaiveDT) (m : Mapped Zoned)
    (hg : GuessIs p ofu g) (hdt : Parsed.to_naive_datetime_with_offset p g = .ok (.ok dt))
    (hm : fl dt = .ok m) (hc : ∀ c ∈ m.toList, ZInv c) :
    Parsed.to_datetime_with_timezone_gen p ofu fl = .ok (choose (consistent p m)) := by
  rw [gen_eq, (guessed_iff p hp ofu g).mpr hg, bind_okok, hdt, bind_okok, hm]
  exact pickR_eq p m hc

/-- the function panics only if one of the zone's two functions does (on a valid argument) -/
theorem gen_total (p : Parsed) (hp : InType p) (ofu : NaiveDT → Res Int)
    (fl : NaiveDT → Res (Mapped Zoned))
    (hofu : ∀ u, NDTInv u → ∃ o, ofu u = .ok o ∧ -2147483648 ≤ o ∧ o ≤ 2147483647)
    (hfl : ∀ l, NDTInv l → ∃ m, fl l = .ok m ∧ ∀ c ∈ m.toList, ZInv c) :
    ∃ r, Parsed.to_datetime_with_timezone_gen p ofu fl = .ok r := by
  rw [gen_eq]
  have tail : ∀ g, (-2147483648 ≤ g ∧ g ≤ 2147483647) →
      ∃ r, (Parsed.RP.bind (Parsed.to_naive_datetime_with_offset p g) fun dt =>
        match fl dt with
        | .panic => .panic
        | .ok m => pickR p m : Parsed.RP Zoned) = .ok r := by
    intro g hgr
    obtain ⟨r', hr', _, hok⟩ := dt_main' p hp g hgr
    rw [hr']
    cases r' with
    | error e => exact ⟨_, rfl⟩
    | ok dt =>
      rw [bind_okok]
      obtain ⟨m, hm, hc⟩ := hfl dt (naiveOk_inv p dt g (hok dt rfl))
      rw [hm]
      simp only []
      rw [pickR_eq p m hc]
      exact ⟨_, rfl⟩
  rcases guessed_spec p hp ofu with ⟨h1, h2⟩ | ⟨ts, h1, hbad, h2⟩ | ⟨ts, u, h1, h2, h3, h4, h5⟩
  · rw [h2, bind_okok]
    exact tail 0 (by omega)
  · rw [h2, bind_err]
    exact ⟨_, rfl⟩
  · rw [h5]
    obtain ⟨o, ho, hr⟩ := hofu u h3
    rw [ho, bind_okok]
    exact tail o hr

/-- a consistent candidate is a candidate, and is consistent -/
theorem consistent_mem (p : Parsed) (m : Mapped Zoned) (c : Zoned) (h : c ∈ consistent p m) :
    c ∈ m.toList ∧ Consistent p c := by
  unfold consistent at h
  rw [List.mem_filter] at h
  exact ⟨h.1, (consistentB_iff p c).mp h.2⟩

/-- what `choose` returns -/
theorem choose_ok (l : List Zoned) (z : Zoned) : choose l = .ok z ↔ l = [z] := by
  unfold choose
  split
  · simp
  · constructor
    · intro h; cases h; rfl
    · intro h; cases h; rfl
  · rename_i h1 h2
    constructor
    · intro h; cases h
    · intro h; exact absurd h (h2 z)

theorem choose_err (l : List Zoned) (e : PErr) (h : choose l = .error e) :
    (e = .impossible ∧ l = []) ∨ (e = .notEnough ∧ 2 ≤ l.length) := by
  unfold choose at h
  split at h
  · cases h; exact Or.inl ⟨rfl, rfl⟩
  · cases h
  · rename_i h1 h2
    cases h
    right
    refine ⟨rfl, ?_⟩
    match l, h1, h2 with
    | [], h1, _ => exact absurd rfl h1
    | [c], _, h2 => exact absurd rfl (h2 c)
    | _ :: _ :: _, _, _ => simp

/-! ### fixed zones -/

/-- nothing already proved is lost: the fixed-zone model of Model/ParsedResolve.lean is the generic
one at a zone whose offset is constant and whose `from_local_datetime` is `Single`/`None` — the
timestamp test of `check_offset`, which the fixed-zone model does not contain, always passes there -/
theorem fixed_is_instance (p : Parsed) (hp : InType p) (z : Int) (hz : OffValid z) :
    Parsed.to_datetime_with_timezone p z =
      Parsed.to_datetime_with_timezone_gen p (Parsed.fixed_offset_from_utc z) (Parsed.fixed_from_local z) := by
  rw [gen_eq]
  have hl : Parsed.to_datetime_with_timezone p z =
      Parsed.RP.bind (guessed_offset p (Parsed.fixed_offset_from_utc z)) fun g =>
      Parsed.RP.bind (Parsed.to_naive_datetime_with_offset p g) fun dt =>
        match Zoned.from_local_datetime z dt with
        | .panic => .panic
        | .ok none => .ok (.error .impossible)
        | .ok (some t) =>
          if (match p.offset with
              | some offset => t.off == offset
              | none => true) then .ok (.ok t) else .ok (.error .impossible) := by
    unfold Parsed.to_datetime_with_timezone guessed_offset Parsed.fixed_offset_from_utc
    rfl
  rw [hl]
  have tail : ∀ g, (-2147483648 ≤ g ∧ g ≤ 2147483647) → (p.timestamp ≠ none → g = z) →
      (Parsed.RP.bind (Parsed.to_naive_datetime_with_offset p g) fun dt =>
        match Zoned.from_local_datetime z dt with
        | .panic => .panic
        | .ok none => .ok (.error .impossible)
        | .ok (some t) =>
          if (match p.offset with
              | some offset => t.off == offset
              | none => true) then .ok (.ok t) else .ok (.error .impossible) : Parsed.RP Zoned) =
      (Parsed.RP.bind (Parsed.to_naive_datetime_with_offset p g) fun dt =>
        match Parsed.fixed_from_local z dt with
        | .panic => .panic
        | .ok m => pickR p m) := by
    intro g hgr hgz
    obtain ⟨r', hr', _, hok⟩ := dt_main' p hp g hgr
    rw [hr']
    cases r' with
    | error e => rfl
    | ok dt =>
      rw [bind_okok, bind_okok]
      have hn := hok dt rfl
      have hdi := naiveOk_inv p dt g hn
      unfold Parsed.fixed_from_local
      obtain ⟨r2, hr2, _⟩ := Chrono.Props.C04.fromLocal_fails_iff z dt hz hdi
      rw [hr2]
      cases r2 with
      | none => rfl
      | some t =>
        obtain ⟨a, b, _, _, e1, e2⟩ := Chrono.Props.C04.local_of_fromLocal z dt hz hdi t hr2
        simp only []
        unfold pickR
        simp only []
        rw [check_offset_spec p t b]
        have hts : consistentB p t = (match p.offset with
              | some offset => t.off == offset
              | none => true) := by
          unfold consistentB
          cases hts : p.timestamp with
          | none => simp
          | some ts =>
            obtain ⟨_, _, _, _, _, _, _, hstamp⟩ := hn
            have hg := hgz (by rw [hts]; simp)
            have hloc : timestampIs.instSecsLocal dt = instSecs dt := rfl
            have := hstamp ts hts
            rw [hloc, hg] at this
            have hc : (decide (ts = instSecs t.utc) ||
                (decide (1000000000 ≤ t.utc.time.frac) && decide (ts = instSecs t.utc + 1))) = true := by
              rw [e1, e2]
              rcases this with h | ⟨h1, h2⟩
              · simp [h]
              · simp [h1, h2]
            simp only [hc, Bool.and_true]
        rw [hts]
        generalize (match p.offset with
              | some offset => t.off == offset
              | none => true) = bb
        cases bb <;> rfl
  rcases guessed_spec p hp (Parsed.fixed_offset_from_utc z) with
    ⟨h1, h2⟩ | ⟨ts, h1, hbad, h2⟩ | ⟨ts, u, h1, h2, h3, h4, h5⟩
  · rw [h2, bind_okok, bind_okok]
    exact tail 0 (by omega) (fun h => absurd h1 h)
  · rw [h2, bind_err, bind_err]
  · have h5' : guessed_offset p (Parsed.fixed_offset_from_utc z) = .ok (.ok z) := h5
    unfold OffValid at hz
    rw [h5', bind_okok, bind_okok]
    exact tail z (by omega) (fun _ => rfl)

/-! ### step zones -/

/-- membership in the list of local offsets, spelt out: `o1` while `s − o1` is before the transition,
`o2` once `s − o2` is not -/
theorem mem_local_offsets (z : StepZone) (s o : Int) :
    o ∈ (z.local_offsets s).toList ↔ (o = z.o1 ∧ s - z.o1 < z.T) ∨ (o = z.o2 ∧ z.T ≤ s - z.o2) := by
  unfold StepZone.local_offsets
  by_cases h1 : s - z.o1 < z.T <;> by_cases h2 : z.T ≤ s - z.o2 <;>
    simp [h1, h2, Mapped.toList]

/-- first principles: the instants `u` that read `s` on the local clock of the step zone are exactly
`s − o` for the offsets `o` listed by `local_offsets` -/
theorem candidates_iff (z : StepZone) (s u : Int) :
    u + z.offset_at u = s ↔ (s - u) ∈ (z.local_offsets s).toList := by
  rw [mem_local_offsets]
  unfold StepZone.offset_at
  split <;> omega

/-- no instant is listed twice, and the earlier instant comes first -/
theorem ambiguous_order (z : StepZone) (s a b : Int) (h : z.local_offsets s = .ambiguous a b) :
    a = z.o1 ∧ b = z.o2 ∧ s - a < z.T ∧ z.T ≤ s - b ∧ s - a < s - b := by
  unfold StepZone.local_offsets at h
  by_cases h1 : s - z.o1 < z.T <;> by_cases h2 : z.T ≤ s - z.o2 <;>
    simp only [h1, h2, decide_true, decide_false] at h <;> cases h
  exact ⟨rfl, rfl, h1, h2, by omega⟩

theorem local_offsets_mem (z : StepZone) (s o : Int) (h : o ∈ (z.local_offsets s).toList) :
    (o = z.o1 ∨ o = z.o2) ∧ z.offset_at (s - o) = o := by
  unfold StepZone.offset_at
  rcases (mem_local_offsets z s o).mp h with ⟨rfl, h1⟩ | ⟨rfl, h2⟩
  · exact ⟨.inl rfl, by rw [if_pos h1]⟩
  · exact ⟨.inr rfl, by rw [if_neg (by omega)]⟩

/-- `checked_sub_offset` behind `Zoned.from_local_datetime` -/
theorem csub_spec (o : Int) (l : NaiveDT) (ho : OffValid o) (hl : NDTInv l) :
    ∃ r, l.checked_sub_offset o = .ok r ∧
      ∀ u, r = some u → ZInv ⟨u, o⟩ ∧ Zoned.naive_local ⟨u, o⟩ = .ok l ∧
        instSecs u = instSecs l - o ∧ u.time.frac = l.time.frac := by
  obtain ⟨r, hr, _⟩ := Chrono.Props.C04.fromLocal_fails_iff o l ho hl
  cases hcs : l.checked_sub_offset o with
  | panic =>
    unfold Zoned.from_local_datetime at hr
    rw [hcs] at hr
    cases hr
  | ok r' =>
    refine ⟨r', rfl, ?_⟩
    intro u hu
    subst hu
    have hz : Zoned.from_local_datetime o l = .ok (some ⟨u, o⟩) := by
      unfold Zoned.from_local_datetime
      rw [hcs]
      rfl
    obtain ⟨_, b, c, _, e1, e2⟩ := Chrono.Props.C04.local_of_fromLocal o l ho hl _ hz
    exact ⟨b, c, e1, e2⟩


/-- `from_local_datetime` of a step zone on a valid local date-time: never panics; every candidate
is a `StepCandidate`; the candidates' offsets are among `local_offsets`; two candidates are in
order of their instants -/
theorem step_from_local_spec (z : StepZone) (h1 : OffValid z.o1) (h2 : OffValid z.o2)
    (l : NaiveDT) (hl : NDTInv l) :
    ∃ m, z.from_local_datetime l = .ok m ∧
      (∀ c ∈ m.toList, StepCandidate z l c ∧ c.off ∈ (z.local_offsets (instSecs l)).toList) ∧
      (∀ a b, m = .ambiguous a b → instSecs a.utc < instSecs b.utc) := by
  have hov : ∀ o, o ∈ (z.local_offsets (instSecs l)).toList →
      OffValid o ∧ z.offset_at (instSecs l - o) = o := by
    intro o ho
    obtain ⟨hh, he⟩ := local_offsets_mem z _ o ho
    refine ⟨?_, he⟩
    rcases hh with rfl | rfl
    · exact h1
    · exact h2
  have one : ∀ o u, o ∈ (z.local_offsets (instSecs l)).toList → l.checked_sub_offset o = .ok (some u) →
      StepCandidate z l ⟨u, o⟩ := by
    intro o u ho hcs
    obtain ⟨hv, he⟩ := hov o ho
    obtain ⟨r, hr, hs⟩ := csub_spec o l hv hl
    rw [hcs] at hr
    cases hr
    obtain ⟨a, b, c, d⟩ := hs u rfl
    refine ⟨a, b, c, d, ?_⟩
    show z.offset_at (instSecs u) = o
    rw [c]; exact he
  unfold StepZone.from_local_datetime StepZone.offset_from_local_datetime
  rw [timestamp_spec l hl]
  simp only [Res.bind]
  cases hm : z.local_offsets (instSecs l) with
  | none =>
    exact ⟨.none, rfl, (fun c hc => by simp [Mapped.toList] at hc), (fun a b h => by cases h)⟩
  | single o =>
    simp only []
    have ho : o ∈ (z.local_offsets (instSecs l)).toList := by rw [hm]; simp [Mapped.toList]
    obtain ⟨r, hr, _⟩ := csub_spec o l (hov o ho).1 hl
    rw [hr]
    cases r with
    | none =>
      exact ⟨.none, rfl, (fun c hc => by simp [Mapped.toList] at hc), (fun a b h => by cases h)⟩
    | some u =>
      refine ⟨.single ⟨u, o⟩, rfl, ?_, (fun a b h => by cases h)⟩
      intro c hc
      simp only [Mapped.toList, List.mem_cons, List.not_mem_nil, or_false] at hc
      subst hc
      exact ⟨one o u ho hr, by rw [← hm]; exact ho⟩
  | ambiguous a b =>
    simp only []
    have ha : a ∈ (z.local_offsets (instSecs l)).toList := by rw [hm]; simp [Mapped.toList]
    have hb : b ∈ (z.local_offsets (instSecs l)).toList := by rw [hm]; simp [Mapped.toList]
    obtain ⟨ra, hra, _⟩ := csub_spec a l (hov a ha).1 hl
    obtain ⟨rb, hrb, _⟩ := csub_spec b l (hov b hb).1 hl
    rw [hra, hrb]
    cases ra with
    | none =>
      exact ⟨.none, rfl, (fun c hc => by simp [Mapped.toList] at hc), (fun a b h => by cases h)⟩
    | some ua =>
      cases rb with
      | none =>
        exact ⟨.none, rfl, (fun c hc => by simp [Mapped.toList] at hc), (fun a b h => by cases h)⟩
      | some ub =>
        have ca := one a ua ha hra
        have cb := one b ub hb hrb
        refine ⟨.ambiguous ⟨ua, a⟩ ⟨ub, b⟩, rfl, ?_, ?_⟩
        · intro c hc
          simp only [Mapped.toList, List.mem_cons, List.not_mem_nil, or_false] at hc
          rcases hc with rfl | rfl
          · exact ⟨ca, by rw [← hm]; exact ha⟩
          · exact ⟨cb, by rw [← hm]; exact hb⟩
        · intro a' b' h
          cases h
          obtain ⟨_, _, _, _, hlt⟩ := ambiguous_order z _ a b hm
          have e1 : instSecs ua = instSecs l - a := ca.2.2.1
          have e2 : instSecs ub = instSecs l - b := cb.2.2.1
          show instSecs ua < instSecs ub
          omega

/-- `offset_from_utc_datetime` of a step zone on a valid UTC date-time -/
theorem step_ofu_spec (z : StepZone) (h1 : OffValid z.o1) (h2 : OffValid z.o2)
    (u : NaiveDT) (hu : NDTInv u) :
    z.offset_from_utc_datetime u = .ok (z.offset_at (instSecs u)) ∧ OffValid (z.offset_at (instSecs u)) := by
  unfold StepZone.offset_from_utc_datetime
  rw [timestamp_spec u hu]
  refine ⟨rfl, ?_⟩
  unfold StepZone.offset_at
  split
  · exact h1
  · exact h2

/-! ### consequences used by Props/C14.lean -/

theorem consistent_pair (p : Parsed) (a b : Zoned) :
    consistent p (.ambiguous a b) =
      (bif consistentB p a then [a] else []) ++ (bif consistentB p b then [b] else []) := by
  unfold consistent
  simp only [Mapped.toList, List.filter]
  cases consistentB p a <;> cases consistentB p b <;> rfl

theorem consistentB_false (p : Parsed) (c : Zoned) (h : ¬ Consistent p c) : consistentB p c = false := by
  cases h' : consistentB p c with
  | false => rfl
  | true => exact absurd ((consistentB_iff p c).mp h') h

/-- two consistent candidates: an `Ambiguous` pair, both consistent -/
theorem consistent_two (p : Parsed) (m : Mapped Zoned) (h : 2 ≤ (consistent p m).length) :
    ∃ a b, m = .ambiguous a b ∧ Consistent p a ∧ Consistent p b := by
  cases m with
  | none => simp [consistent, Mapped.toList] at h
  | single t =>
    unfold consistent at h
    simp only [Mapped.toList, List.filter] at h
    cases hb : consistentB p t <;> rw [hb] at h <;> simp at h
  | ambiguous a b =>
    rw [consistent_pair] at h
    cases ha : consistentB p a <;> cases hb : consistentB p b <;> rw [ha, hb] at h <;>
      simp at h
    exact ⟨a, b, rfl, (consistentB_iff p a).mp ha, (consistentB_iff p b).mp hb⟩

theorem offValid_i32 (o : Int) (h : OffValid o) : -2147483648 ≤ o ∧ o ≤ 2147483647 := by
  unfold OffValid at h; omega

theorem step_hofu (z : StepZone) (h1 : OffValid z.o1) (h2 : OffValid z.o2) :
    ∀ u o, NDTInv u → z.offset_from_utc_datetime u = .ok o → -2147483648 ≤ o ∧ o ≤ 2147483647 := by
  intro u o hu ho
  obtain ⟨e, hv⟩ := step_ofu_spec z h1 h2 u hu
  rw [e] at ho
  cases ho
  exact offValid_i32 _ hv

theorem step_hcand (z : StepZone) (h1 : OffValid z.o1) (h2 : OffValid z.o2) :
    ∀ l m c, NDTInv l → z.from_local_datetime l = .ok m → c ∈ m.toList →
      StepCandidate z l c ∧ c.off ∈ (z.local_offsets (instSecs l)).toList := by
  intro l m c hl hm hc
  obtain ⟨m', hm', hcs, _⟩ := step_from_local_spec z h1 h2 l hl
  rw [hm] at hm'
  cases hm'
  exact hcs c hc

end Chrono.Proofs.ParsedZone
