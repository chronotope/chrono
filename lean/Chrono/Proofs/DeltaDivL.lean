/- C06: `checked_div` by a variable `i32`, and `Sum`. -/
import Chrono.Proofs.DeltaL
import Chrono.Spec.DeltaDisplaySpec

namespace Chrono.Proofs
open Chrono Chrono.M Chrono.Spec Chrono.Extracted

/-! ### `checked_div`

With `qs`, `c` the truncated quotient and remainder of the seconds by `k`, the code computes
`e = c·10⁹ / k`, `qn = nanos / k` and returns `(qs, qn + e)` after at most one carry.  Truncated
division acts on magnitudes (`Int.natAbs_tdiv`, `Int.natAbs_tmod`), so the sizes of the
intermediates are facts about `Nat` division. -/

/-- quotients by `K` of a number below `B` and of `c·B` with `c < K` add up to less than `B` -/
theorem div_add_div_lt (N c K B : Nat) (hN : N < B) (hc : c < K) : N / K + c * B / K < B := by
  apply Nat.lt_of_mul_lt_mul_right (a := K)
  have h1 := Nat.div_mul_le_self N K
  have h2 := Nat.div_mul_le_self (c * B) K
  have h3 : (c + 1) * B ≤ K * B := Nat.mul_le_mul_right B hc
  rw [Nat.add_mul, Nat.one_mul, Nat.mul_comm K B] at h3
  rw [Nat.add_mul]
  omega

theorem natAbs_lt {x : Int} {B : Nat} (h : x.natAbs < B) : -(B : Int) < x ∧ x < B := by omega

/-- quotient and remainder of seconds within `±B` by a divisor within `±K` -/
theorem div_secs_sizes (S k B K : Int) (hS : -B ≤ S ∧ S ≤ B) (hK : -K ≤ k ∧ k ≤ K) (hk0 : k ≠ 0) :
    (-B ≤ Int.tdiv S k ∧ Int.tdiv S k ≤ B) ∧ (-K < Int.tmod S k ∧ Int.tmod S k < K) := by
  have h1 := Int.natAbs_tdiv_le_natAbs S k
  have h2 : (Int.tmod S k).natAbs < k.natAbs := by
    rw [Int.natAbs_tmod]; exact Nat.mod_lt _ (Int.natAbs_pos.mpr hk0)
  exact ⟨by omega, by omega⟩

/-- the extra nanoseconds `c·10⁹ / k` from the remainder `c` of the seconds, alone and with
`nanos / k` added, stay below 10⁹ in magnitude -/
theorem div_nanos_sizes (S N k : Int) (hN : 0 ≤ N ∧ N < 1000000000) (hk0 : k ≠ 0) :
    (-1000000000 < Int.tdiv (Int.tmod S k * 1000000000) k ∧
      Int.tdiv (Int.tmod S k * 1000000000) k < 1000000000) ∧
    (-1000000000 < Int.tdiv N k + Int.tdiv (Int.tmod S k * 1000000000) k ∧
      Int.tdiv N k + Int.tdiv (Int.tmod S k * 1000000000) k < 1000000000) := by
  have hc : (Int.tmod S k).natAbs < k.natAbs := by
    rw [Int.natAbs_tmod]; exact Nat.mod_lt _ (Int.natAbs_pos.mpr hk0)
  have h := div_add_div_lt N.natAbs (Int.tmod S k).natAbs k.natAbs 1000000000 (by omega) hc
  have e1 : (Int.tdiv N k).natAbs = N.natAbs / k.natAbs := Int.natAbs_tdiv N k
  have e2 : (Int.tdiv (Int.tmod S k * 1000000000) k).natAbs =
      (Int.tmod S k).natAbs * 1000000000 / k.natAbs := by
    rw [Int.natAbs_tdiv, Int.natAbs_mul]; rfl
  rw [← e1, ← e2] at h
  have h4 := Int.natAbs_add_le (Int.tdiv N k) (Int.tdiv (Int.tmod S k * 1000000000) k)
  exact ⟨natAbs_lt (B := 1000000000) (by omega), natAbs_lt (B := 1000000000) (by omega)⟩

/-- the result times `k` misses the dividend by the two discarded remainders, each below `|k|` -/
theorem div_error (S N k : Int) (hk0 : k ≠ 0) :
    ((Int.tdiv S k * 1000000000 + (Int.tdiv N k + Int.tdiv (Int.tmod S k * 1000000000) k)) * k
      - (S * 1000000000 + N)).natAbs + 2 ≤ 2 * k.natAbs := by
  have hK : 0 < k.natAbs := Int.natAbs_pos.mpr hk0
  have bP : (Int.tmod (Int.tmod S k * 1000000000) k).natAbs < k.natAbs := by
    rw [Int.natAbs_tmod]; exact Nat.mod_lt _ hK
  have bN : (Int.tmod N k).natAbs < k.natAbs := by
    rw [Int.natAbs_tmod]; exact Nat.mod_lt _ hK
  have e : (Int.tdiv S k * 1000000000 + (Int.tdiv N k + Int.tdiv (Int.tmod S k * 1000000000) k)) * k
      - (S * 1000000000 + N) = -(Int.tmod (Int.tmod S k * 1000000000) k + Int.tmod N k) := by
    rw [Int.tmod_def (Int.tmod S k * 1000000000) k, Int.tmod_def N k, Int.tmod_def S k]; ring
  have := Int.natAbs_add_le (Int.tmod (Int.tmod S k * 1000000000) k) (Int.tmod N k)
  rw [e, Int.natAbs_neg]
  omega

/-- a number whose `k`-fold is within `2|k| − 2` of `A` is no larger than `A` can be -/
theorem natAbs_le_of_mul_near (R k A : Int) (M : Nat) (hM : 1 ≤ M) (hk0 : k ≠ 0) (hA : A.natAbs ≤ M)
    (h : (R * k - A).natAbs + 2 ≤ 2 * k.natAbs) : R.natAbs ≤ M := by
  have h2 : R.natAbs * k.natAbs ≤ A.natAbs + (R * k - A).natAbs := by
    rw [← Int.natAbs_mul]
    have := Int.natAbs_add_le A (R * k - A)
    rwa [show A + (R * k - A) = R * k by omega] at this
  obtain ⟨j, hj⟩ : ∃ j, k.natAbs = j + 1 := ⟨k.natAbs - 1, by have := Int.natAbs_pos.mpr hk0; omega⟩
  rw [hj] at h h2
  generalize (R * k - A).natAbs = d at h h2
  refine Nat.le_of_not_lt fun hR => ?_
  -- `(M + 1)(j + 1) ≤ |R|(j + 1) ≤ M + 2j` although `j ≤ M·j`
  have h1 : (M + 1) * (j + 1) ≤ R.natAbs * (j + 1) := Nat.mul_le_mul_right _ hR
  have h3 : 1 * j ≤ M * j := Nat.mul_le_mul_right _ hM
  rw [Nat.add_mul, Nat.mul_add, Nat.one_mul, Nat.mul_one] at h1
  rw [Nat.one_mul] at h3
  omega

/-- `checked_div` by a non-zero `i32`: never panics, never refuses, and returns the pair
`(qs, nanos)` normalised by at most one downward carry -/
theorem div_eq' (a : Delta) (k : Int) (ha : DInv a) (hk : -2147483648 ≤ k ∧ k ≤ 2147483647)
    (hk0 : k ≠ 0) :
    let qs := Int.tdiv a.secs k
    let nanos := Int.tdiv a.nanos k + Int.tdiv (Int.tmod a.secs k * 1000000000) k
    Delta.checked_div a k =
      .ok (some (if nanos < 0 then ⟨qs - 1, nanos + 1000000000⟩ else ⟨qs, nanos⟩)) ∧
    nanos < 1000000000 := by
  rw [DInv_iff] at ha
  have hN : NANOS_PER_SEC = 1000000000 := rfl
  obtain ⟨b1, b2⟩ := div_secs_sizes a.secs k 9223372036854776 2147483648 (by omega) (by omega) hk0
  obtain ⟨b3, b4⟩ := div_nanos_sizes a.secs a.nanos k ⟨ha.1, ha.2.1⟩ hk0
  dsimp only
  refine ⟨?_, b4.2⟩
  unfold Delta.checked_div
  rw [ite_neg' _ _ hk0]
  simp only [hN]
  generalize Int.tdiv a.secs k = qs at *
  generalize Int.tmod a.secs k = c at *
  rw [ckI64_ok (by omega) (by omega), Res.bind_ok, ckI64_ok (by omega) (by omega), Res.bind_ok]
  generalize Int.tdiv (c * 1000000000) k = e at *
  generalize Int.tdiv a.nanos k = qn at *
  rw [asI32_id (by omega) (by omega), ckI32_ok (by omega) (by omega), Res.bind_ok]
  by_cases hc : qn + e < 0
  · rw [ite_pos' _ _ hc, ite_pos' _ _ hc, ckI64_ok (by omega) (by omega), Res.bind_ok,
      ckI32_ok (by omega) (by omega), Res.bind_ok]
    rfl
  · rw [ite_neg' _ _ hc, ite_neg' _ _ hc, ite_neg' _ _ (by omega)]
    rfl

/-- division by a non-zero `i32` differs from the exact quotient by less than two nanoseconds -/
theorem div_spec' (a : Delta) (k : Int) (ha : DInv a) (hk : -2147483648 ≤ k ∧ k ≤ 2147483647)
    (hk0 : k ≠ 0) :
    ∃ r, Delta.checked_div a k = .ok (some r) ∧ DInv r ∧
      (ns r * k - ns a).natAbs < 2 * k.natAbs := by
  obtain ⟨heq, hlt⟩ := div_eq' a k ha hk hk0
  refine ⟨_, heq, ?_⟩
  have hA := (DInv_iff a).mp ha
  have h4 := (div_nanos_sizes a.secs a.nanos k ⟨hA.1, hA.2.1⟩ hk0).2
  have herr := div_error a.secs a.nanos k hk0
  have hR := natAbs_le_of_mul_near _ k _ 9223372036854775807000000 (by omega) hk0 (by omega) herr
  generalize Int.tdiv a.secs k = qs at *
  generalize Int.tdiv a.nanos k + Int.tdiv (Int.tmod a.secs k * 1000000000) k = nanos at *
  -- the carry does not change the count
  have e : ns (if nanos < 0 then ⟨qs - 1, nanos + 1000000000⟩ else ⟨qs, nanos⟩) =
      qs * 1000000000 + nanos := by
    split <;> simp only [ns] <;> omega
  have hn : 0 ≤ (if nanos < 0 then (⟨qs - 1, nanos + 1000000000⟩ : Delta) else ⟨qs, nanos⟩).nanos ∧
      (if nanos < 0 then (⟨qs - 1, nanos + 1000000000⟩ : Delta) else ⟨qs, nanos⟩).nanos < 1000000000 := by
    split <;> dsimp only <;> omega
  rw [e]
  exact ⟨⟨hn.1, hn.2, by rw [e, nsInRange_iff]; omega⟩, by unfold ns; omega⟩

theorem div_zero' (a : Delta) : Delta.checked_div a 0 = .ok none := by
  unfold Delta.checked_div
  exact ite_pos' _ _ rfl

/-! ### `Sum` -/

/-- what `sumNs` computes: the total, provided every non-empty prefix sum is in range -/
theorem sumNs_iff (xs : List Int) : ∀ (n m : Int), sumNs xs n = some m ↔
    (m = n + xs.sum ∧ ∀ i, 1 ≤ i → i ≤ xs.length → nsInRange (n + (xs.take i).sum)) := by
  induction xs with
  | nil =>
    intro n m
    simp only [sumNs, List.sum_nil, List.length_nil, Option.some.injEq]
    constructor
    · intro h; exact ⟨by omega, fun i h1 h2 => by omega⟩
    · intro h; omega
  | cons x xs ih =>
    intro n m
    simp only [sumNs, List.sum_cons, List.length_cons]
    by_cases hr : nsInRange (n + x)
    · rw [ite_pos' _ _ hr, ih]
      constructor
      · rintro ⟨h1, h2⟩
        refine ⟨by omega, fun i hi1 hi2 => ?_⟩
        obtain ⟨j, rfl⟩ : ∃ j, i = j + 1 := ⟨i - 1, by omega⟩
        rw [List.take_succ_cons, List.sum_cons]
        by_cases hj : j = 0
        · subst hj; simpa using hr
        · have := h2 j (by omega) (by omega)
          rwa [Int.add_assoc] at this
      · rintro ⟨h1, h2⟩
        refine ⟨by omega, fun i hi1 hi2 => ?_⟩
        have := h2 (i + 1) (by omega) (by omega)
        rwa [List.take_succ_cons, List.sum_cons, ← Int.add_assoc] at this
    · rw [ite_neg' _ _ hr]
      constructor
      · intro h; cases h
      · rintro ⟨_, h2⟩
        exfalso; apply hr
        have := h2 1 (by omega) (by omega)
        simpa using this

end Chrono.Proofs
