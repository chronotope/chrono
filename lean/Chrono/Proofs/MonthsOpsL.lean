/-
  Helper lemmas for C08's audit gaps MEDIUM-1 / LOW-3 / LOW-6 / LOW-7: the operator forms
  `+ Months` / `- Months` (Model/MonthsOps.lean: `expect` of the checked forms), the `Datelike` defaults
  inherited by `NaiveDateTime` / `DateTime<Tz>`, and the wall-clock meaning of month stepping for every
  reading of the extended calendar; also a step of one month either way, and the weekday of a date given
  by its day number.
-/
import Chrono.Proofs.DateTimeOpsL
import Chrono.Proofs.WeekdayL
import Chrono.Model.MonthsOps
import Chrono.Spec.MonthsOpsSpec

namespace Chrono.Proofs.MOps
open Chrono Chrono.M Chrono.Spec Chrono.Proofs Chrono.Proofs.ZN Chrono.Proofs.DTO Chrono.Extracted
  Chrono.Extracted.DateOps

theorem expectSome_ok {α} (r : Option α) : expectSome (Res.ok r) = orPanic r := by
  cases r <;> rfl

theorem orPanic_panic_iff {α} (r : Option α) : orPanic r = .panic ↔ r = none := by
  cases r with
  | none => exact ⟨fun _ => rfl, fun _ => rfl⟩
  | some a => exact ⟨fun h => (by cases h), fun h => (by cases h)⟩

theorem orPanic_ok_iff {α} (r : Option α) (a : α) : orPanic r = .ok a ↔ r = some a := by
  cases r with
  | none => exact ⟨fun h => (by cases h), fun h => (by cases h)⟩
  | some b =>
    constructor
    · intro h; unfold orPanic at h; dsimp only at h; injection h with h; rw [h]
    · intro h; injection h with h; rw [h]; rfl

/-- one month forward and one month back from month `m` of year `y` -/
theorem step_one (y : Int) (m : Nat) (hm : 1 ≤ m ∧ m ≤ 12) :
    stepMonth y m 1 = (if m = 12 then 1 else m + 1) ∧
    stepMonth y m (-1) = (if m = 1 then 12 else m - 1) ∧
    stepYear y m 1 = (if m = 12 then y + 1 else y) ∧
    stepYear y m (-1) = (if m = 1 then y - 1 else y) := by
  unfold stepMonth stepYear monthIndex
  refine ⟨?_, ?_, ?_, ?_⟩ <;> split <;> omega

/-- a date returned for day number `n` falls on the weekday of `n` -/
theorem weekday_of_dayNum (r : Option Date) (n : Int) (h : IsDateOfDayNum r n) (a : Date) (ha : r = some a)
    (w : Weekday) (hw : weekdayOf n = w.toNat) :
    a.weekday = w ∧ ∃ y o, a = dateOfYo y o ∧ (MIN_YEAR ≤ y ∧ y ≤ MAX_YEAR) ∧ (1 ≤ o ∧ o ≤ yearLen y) ∧
      dayNumYo y o = n := by
  obtain ⟨y, o, e, y1, y2, o1, o2, hn⟩ := h.2 a ha
  have hyl := yearLen_ge y
  refine ⟨?_, y, o, e, ⟨y1, y2⟩, ⟨o1, o2⟩, hn⟩
  rw [e]
  apply Weekday.toNat_inj
  have hwd := weekday_spec y o (by omega)
  rw [hn, hw] at hwd
  exact Int.ofNat_inj.mp hwd

/-- a week has both days only if it has each -/
theorem bothDays_some {f l : Option Date} {a b : Date} (h : bothDays f l = some (a, b)) :
    f = some a ∧ l = some b := by
  cases f with
  | none => cases h
  | some x =>
    cases l with
    | none => cases h
    | some y => cases h; exact ⟨rfl, rfl⟩

/-! ### `NaiveDate ± Months` -/

theorem date_months_op (y : Int) (o : Nat) (hy : MIN_YEAR ≤ y ∧ y ≤ MAX_YEAR) (ho : 1 ≤ o ∧ o ≤ yearLen y)
    (n : Nat) :
    (dateOfYo y o).add_months_op n = orPanic (addMonths? y (monthOfYo y o) (dayOfYo y o) n) ∧
    (dateOfYo y o).sub_months_op n = orPanic (addMonths? y (monthOfYo y o) (dayOfYo y o) (-(n : Int))) := by
  unfold Date.add_months_op Date.sub_months_op
  rw [add_months_spec y o hy ho n, sub_months_spec y o hy ho n, expectSome_ok, expectSome_ok]
  exact ⟨rfl, rfl⟩

/-! ### `NaiveDateTime ± Months`, every reading of the extended calendar -/

theorem ndt_months_op (l : NaiveDT) (hext : ExtDateInv l.date) (k : Nat) :
    l.add_months_op k = orPanic ((if k = 0 then some l.date else
        addMonths? l.date.year (monthOfYo l.date.year l.date.ordinal.toNat)
          (dayOfYo l.date.year l.date.ordinal.toNat) k).map fun d => ⟨d, l.time⟩) ∧
    l.sub_months_op k = orPanic ((if k = 0 then some l.date else
        addMonths? l.date.year (monthOfYo l.date.year l.date.ordinal.toNat)
          (dayOfYo l.date.year l.date.ordinal.toNat) (-(k : Int))).map fun d => ⟨d, l.time⟩) := by
  obtain ⟨_, _, _, _, _, _, _, n8, n9⟩ := ndt_ops_ext l hext 0 k 0
  unfold NaiveDT.add_months_op NaiveDT.sub_months_op
  rw [n8, n9, expectSome_ok, expectSome_ok]
  exact ⟨rfl, rfl⟩

/-! ### `DateTime<Tz> ± Months` -/

/-- the checked form, its operator, and when the operator panics -/
theorem zoned_months_op (z : Zoned) (hz : ZInv z) (l : NaiveDT)
    (hl : Zoned.overflowing_naive_local z = .ok l) (k : Nat) :
    (∃ r0 r, l.checked_add_months k = .ok r0 ∧ Zoned.checked_add_months z k = .ok r ∧
      ActsOnWallWith (fun s _ => InRangeSecs s) z r0 r ∧ (k = 0 → r = some z) ∧
      Zoned.add_months_op z k = orPanic r ∧
      (Zoned.add_months_op z k = .panic ↔
        (r0 = none ∨ ∃ nl, r0 = some nl ∧ ¬ InRangeSecs (instSecs nl - z.off)))) ∧
    (∃ r0 r, l.checked_sub_months k = .ok r0 ∧ Zoned.checked_sub_months z k = .ok r ∧
      ActsOnWallWith (fun s _ => InRangeSecs s) z r0 r ∧ (k = 0 → r = some z) ∧
      Zoned.sub_months_op z k = orPanic r ∧
      (Zoned.sub_months_op z k = .panic ↔
        (r0 = none ∨ ∃ nl, r0 = some nl ∧ ¬ InRangeSecs (instSecs nl - z.off)))) := by
  obtain ⟨_, _, _, _, _, _, _, ⟨ra0, ra, a1, a2, a3⟩, ⟨rs0, rs, s1, s2, s3⟩⟩ := zoned_date_ops z hz l hl 0 k 0
  obtain ⟨⟨ra', a4, a5, _⟩, ⟨rs', s4, s5, _⟩⟩ := zoned_months z hz l hl k
  rw [a2] at a4
  rw [s2] at s4
  injection a4 with a4
  injection s4 with s4
  subst a4 s4
  refine ⟨⟨ra0, ra, a1, a2, a3, a5, ?_, ?_⟩, ⟨rs0, rs, s1, s2, s3, s5, ?_, ?_⟩⟩
  · unfold Zoned.add_months_op; rw [a2, expectSome_ok]
  · unfold Zoned.add_months_op; rw [a2, expectSome_ok, orPanic_panic_iff]; exact a3.2
  · unfold Zoned.sub_months_op; rw [s2, expectSome_ok]
  · unfold Zoned.sub_months_op; rw [s2, expectSome_ok, orPanic_panic_iff]; exact s3.2

/-! ### the `Datelike` defaults as `NaiveDateTime` / `DateTime<Tz>` inherit them -/

theorem quarter_eq (d : Date) : Datelike.quarter d.month = d.quarter := by
  unfold Datelike.quarter Date.quarter; cases d.month <;> rfl

theorem year_ce_eq (d : Date) : Datelike.year_ce (.ok d.year) = d.year_ce := rfl

theorem num_days_in_month_eq (d : Date) :
    Datelike.num_days_in_month d.month (.ok d.year) = d.num_days_in_month := by
  unfold Datelike.num_days_in_month Date.num_days_in_month
  cases d.month with
  | panic => rfl
  | ok m =>
    dsimp only [Res.bind]
    cases Month.from_u32 m <;> rfl

/-- the three defaults on a date of the calendar extended by one year at each end -/
theorem datelike_ext (d : Date) (hd : HeadOrIn d) :
    Datelike.quarter d.month = .ok ((monthOfYo d.year d.ordinal.toNat - 1) / 3 + 1) ∧
    Datelike.year_ce (.ok d.year) = .ok (if d.year < 1 then (false, 1 - d.year) else (true, d.year)) ∧
    Datelike.num_days_in_month d.month (.ok d.year) =
      .ok (monthLen d.year (monthOfYo d.year d.ordinal.toNat)) := by
  rcases hd with h | h | h
  · have he := (dateInv_iff d).mp h
    obtain ⟨el, vl⟩ := ext_eq d he.1
    have ho : 1 ≤ d.ordinal.toNat ∧ d.ordinal.toNat ≤ yearLen d.year := ⟨vl.2.2.1, vl.2.2.2⟩
    have hyl := yearLen_ge d.year
    have q := quarter_spec d.year d.ordinal.toNat ho
    have c := year_ce_spec d.year d.ordinal.toNat he.2 (by omega)
    have n := num_days_in_month_spec d.year d.ordinal.toNat he.2 ho
    rw [← el] at q c n
    rw [quarter_eq, year_ce_eq, num_days_in_month_eq]
    exact ⟨q, c, n⟩
  · subst h; decide +kernel
  · subst h; decide +kernel

end Chrono.Proofs.MOps
