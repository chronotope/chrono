/- Helper lemmas for C07's date-time theorems: the packed `NaiveDateTime` model (Model/DateTime.lean,
   the one the C03/C07 harness compares against the crate) carries the time-of-day overflow into the
   packed date exactly as the day-number contract of Model/TimeCarry.lean says.  Rests on
   `dt_add_general` / `dt_sub_general` / `dt_diff_general` (Proofs/DateTimeArithL.lean: C07's `addLeap`
   glued to C01/C03's `add_days` by the carry). -/
import Chrono.Proofs.DateTimeArithL
import Chrono.Model.TimeCarry

namespace Chrono.Proofs.TimeCarry
open Chrono Chrono.M Chrono.Spec Chrono.Proofs Chrono.Extracted

/-- the shape shared by `checked_add_signed` (`k = ns δ`) and `checked_sub_signed` (`k = -ns δ`):
day shift by the carry, time of day from `addLeap`, valid result -/
def CarryOutcome (dt : NaiveDT) (k : Int) (r : Option NaiveDT) : Prop :=
  IsDayShift dt.date ((addLeap dt.time k).2 / 86400) (r.map (·.date)) ∧
  ∀ x, r = some x → x.time = (addLeap dt.time k).1 ∧ NDTInv x

theorem outcome_of (dt : NaiveDT) (k : Int) (r : Option NaiveDT) (hdt : NDTInv dt)
    (hs : IsDayShift dt.date ((addLeap dt.time k).2 / 86400) (r.map (·.date)))
    (ht : ∀ x, r = some x → x.time = (addLeap dt.time k).1) : CarryOutcome dt k r := by
  refine ⟨hs, ?_⟩
  intro x hx
  have e := ht x hx
  refine ⟨e, ?_, ?_⟩
  · exact (hs.2 x.date (by rw [hx]; rfl)).1
  · rw [e]; exact (addLeap_facts dt.time k hdt.2).1

theorem add_outcome (dt : NaiveDT) (δ : Delta) (hdt : NDTInv dt) (hδ : DInv δ) :
    ∃ r, NaiveDT.checked_add_signed dt δ = .ok r ∧ CarryOutcome dt (ns δ) r := by
  obtain ⟨r, h0, h1, h2⟩ := dt_add_general dt δ hdt hδ
  exact ⟨r, h0, outcome_of dt _ r hdt h1 h2⟩

theorem sub_outcome (dt : NaiveDT) (δ : Delta) (hdt : NDTInv dt) (hδ : DInv δ) :
    ∃ r, NaiveDT.checked_sub_signed dt δ = .ok r ∧ CarryOutcome dt (-(ns δ)) r := by
  obtain ⟨r, h0, h1, h2⟩ := dt_sub_general dt δ hdt hδ
  exact ⟨r, h0, outcome_of dt _ r hdt h1 h2⟩

/-- an outcome is, read through `dayNumOf`, the closed form of the day-number contract on the
window `[DN_MIN, DN_MAX]` -/
theorem outcome_image (dt : NaiveDT) (k : Int) (r : Option NaiveDT) (h : CarryOutcome dt k r) :
    (if DN_MIN ≤ dayNumOf dt.date + (addLeap dt.time k).2 / 86400 ∧
        dayNumOf dt.date + (addLeap dt.time k).2 / 86400 ≤ DN_MAX
     then some (dayNumOf dt.date + (addLeap dt.time k).2 / 86400, (addLeap dt.time k).1) else none) =
    r.map (fun x => (dayNumOf x.date, x.time)) := by
  obtain ⟨⟨hn, hs⟩, ht⟩ := h
  cases r with
  | none =>
    have := hn.mp rfl
    rw [if_neg (by omega)]
    rfl
  | some x =>
    have hne : ¬ (dayNumOf dt.date + (addLeap dt.time k).2 / 86400 < DN_MIN ∨
        DN_MAX < dayNumOf dt.date + (addLeap dt.time k).2 / 86400) := by
      intro hc
      have := hn.mpr hc
      cases this
    rw [if_pos (by omega)]
    have e1 := (hs x.date rfl).2
    have e2 := (ht x rfl).1
    show some _ = some (dayNumOf x.date, x.time)
    rw [e1, e2]

theorem window_ok (d : Date) (hd : DateInv d) :
    -100000000 ≤ DN_MIN ∧ DN_MAX ≤ 100000000 ∧ DN_MIN ≤ dayNumOf d ∧ dayNumOf d ≤ DN_MAX := by
  obtain ⟨c1, c2, _⟩ := dn_consts
  have := dn_bounds d hd
  rw [c1, c2]
  omega

end Chrono.Proofs.TimeCarry
