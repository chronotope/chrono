/- Helper lemmas for C16, part 6: the reader accepts exactly the strings of the TZ grammar
   (`Spec.Tz.Denotes`, Spec/TzGrammar.lean) and returns the rule they denote; the writer's canonical
   text is one of them, which gives the round trip. -/
import Chrono.Proofs.TzRoundL
import Chrono.Spec.TzGrammar

namespace Chrono.Proofs.Tz
open Chrono Chrono.M.Tz Chrono.Spec.Tz Chrono.Spec.Tz.Gr Chrono.Extracted.TzP

/-! ### character classes -/
theorem isDigit_iff (b : Nat) : isDigit b = true ↔ Digit b := by
  unfold isDigit Digit
  simp only [Bool.and_eq_true, decide_eq_true_eq]

theorem isAlpha_iff (b : Nat) : isAlpha b = true ↔ Alpha b := by
  unfold isAlpha Alpha
  simp only [Bool.or_eq_true, Bool.and_eq_true, decide_eq_true_eq]

theorem alpha_bounds {b : Nat} (h : isAlpha b = true) : 65 ≤ b ∧ b ≤ 122 := by
  have := (isAlpha_iff b).mp h
  unfold Alpha at this
  omega

theorem nameChar_iff (b : Nat) : nameChar b = true ↔ NameCh b := by
  unfold nameChar NameCh
  simp only [Bool.or_eq_true, beq_iff_eq, isDigit_iff, isAlpha_iff]
  constructor
  · rintro (((h | h) | h) | h)
    · exact Or.inl h
    · exact Or.inr (Or.inl h)
    · exact Or.inr (Or.inr (Or.inl h))
    · exact Or.inr (Or.inr (Or.inr h))
  · rintro (h | h | h | h)
    · exact Or.inl (Or.inl (Or.inl h))
    · exact Or.inl (Or.inl (Or.inr h))
    · exact Or.inl (Or.inr h)
    · exact Or.inr h

/-! ### numerals -/
theorem num_spec {s : List Nat} {n : Nat} (h : Num s n) :
    s ≠ [] ∧ (∀ d ∈ s, isDigit d = true) ∧ digitsVal s = n := by
  induction h with
  | one d hd =>
    refine ⟨by simp, ?_, ?_⟩
    · intro x hx
      simp only [List.mem_singleton] at hx
      subst hx
      exact (isDigit_iff _).mpr ⟨by omega, by omega⟩
    · simp [digitsVal]
  | snoc d hd p ih =>
    obtain ⟨_, h2, h3⟩ := ih
    refine ⟨by simp, ?_, ?_⟩
    · intro x hx
      simp only [List.mem_append, List.mem_singleton] at hx
      rcases hx with hx | rfl
      · exact h2 x hx
      · exact (isDigit_iff _).mpr ⟨by omega, by omega⟩
    · rw [digitsVal_snoc, h3]; omega

theorem num_head {s : List Nat} {n : Nat} (h : Num s n) : ∃ d t, s = d :: t ∧ isDigit d = true := by
  obtain ⟨h1, h2, _⟩ := num_spec h
  cases s with
  | nil => exact absurd rfl h1
  | cons d t => exact ⟨d, t, rfl, h2 d (by simp)⟩

/-- digits appended to a numeral continue it -/
theorem num_append {s : List Nat} {n : Nat} (p : Num s n) (t : List Nat) (hd : ∀ d ∈ t, isDigit d = true) :
    Num (s ++ t) (t.foldl (fun a d => a * 10 + (d - 48)) n) := by
  induction t generalizing s n with
  | nil => simpa using p
  | cons a t ih =>
    have ha := isDigit_bounds (hd a (by simp))
    have q : Num (s ++ [a]) (n * 10 + (a - 48)) := by
      have := Num.snoc (a - 48) (by omega) p
      rwa [show 48 + (a - 48) = a by omega, Nat.mul_comm 10 n] at this
    have := ih q (fun d h => hd d (List.mem_cons_of_mem _ h))
    simpa using this

/-- every non-empty digit string is a numeral of its value -/
theorem num_of_digits (ds : List Nat) (h0 : ds ≠ []) (hd : ∀ d ∈ ds, isDigit d = true) :
    Num ds (digitsVal ds) := by
  cases ds with
  | nil => exact absurd rfl h0
  | cons a t =>
    have ha := isDigit_bounds (hd a (by simp))
    have q : Num [a] (a - 48) := by
      have := Num.one (a - 48) (by omega)
      rwa [show 48 + (a - 48) = a by omega] at this
    have := num_append q t (fun d h => hd d (List.mem_cons_of_mem _ h))
    simpa [digitsVal] using this

theorem read_int_num {s : List Nat} {n : Nat} (p : Num s n) (max : Nat) (rest : List Nat) (hn : n ≤ max)
    (hs : StopAt isDigit rest) : read_int (s ++ rest) max = .ok ((n : Int), rest) := by
  obtain ⟨h1, h2, h3⟩ := num_spec p
  unfold read_int
  rw [read_while_append isDigit _ rest h2 hs]
  have hne : s.isEmpty = false := by
    cases s with
    | nil => exact absurd rfl h1
    | cons _ _ => rfl
  simp only [hne, h3]
  simp
  omega

/-! ### `hh[:mm[:ss]]` -/
theorem hms_head {s : List Nat} {h m sec : Nat} (p : Hms s h m sec) :
    ∃ d t, s = d :: t ∧ isDigit d = true := by
  cases p with
  | h ph => exact num_head ph
  | hm ph pm =>
    obtain ⟨d, t, e, hd⟩ := num_head ph
    exact ⟨d, t ++ _, by rw [e]; rfl, hd⟩
  | hms ph pm ps =>
    obtain ⟨d, t, e, hd⟩ := num_head ph
    exact ⟨d, t ++ _, by rw [e]; rfl, hd⟩

theorem parse_hhmmss_gr {s : List Nat} {h m sec : Nat} (p : Hms s h m sec) (rest : List Nat)
    (hh : h ≤ I32MAXN) (hm : m ≤ I32MAXN) (hs : sec ≤ I32MAXN) (st : StopH rest) :
    parse_hhmmss (s ++ rest) = .ok (((h : Int), (m : Int), (sec : Int)), rest) := by
  cases p with
  | h ph =>
    unfold parse_hhmmss
    rw [read_int_num ph _ _ hh st.1]
    simp only [P.bind_ok, rot_no 58 rest st.2]
    rfl
  | hm ph pm =>
    rename_i a b
    have e : a ++ 58 :: b ++ rest = a ++ 58 :: (b ++ rest) := by simp
    unfold parse_hhmmss
    rw [e, read_int_num ph _ _ hh (stopAt_cons digit_ne_colon)]
    simp only [P.bind_ok, rot_yes, if_true]
    rw [read_int_num pm _ _ hm st.1]
    simp only [P.bind_ok, rot_no 58 rest st.2]
    rfl
  | hms ph pm ps =>
    rename_i a b c
    have e : a ++ 58 :: (b ++ 58 :: c) ++ rest = a ++ 58 :: (b ++ 58 :: (c ++ rest)) := by simp
    unfold parse_hhmmss
    rw [e, read_int_num ph _ _ hh (stopAt_cons digit_ne_colon)]
    simp only [P.bind_ok, rot_yes, if_true]
    rw [read_int_num pm _ _ hm (stopAt_cons digit_ne_colon)]
    simp only [P.bind_ok, rot_yes, if_true]
    rw [read_int_num ps _ _ hs st.1]
    simp only [P.bind_ok]

theorem parse_sign_gr {ss : List Nat} {sg : Int} (p : Sign ss sg) (d : Nat) (t : List Nat)
    (hd : isDigit d = true) : parse_sign (ss ++ d :: t) = .ok (sg, d :: t) := by
  have hb := isDigit_bounds hd
  cases p with
  | none => exact parse_sign_other d t (by omega) (by omega)
  | plus => simp [parse_sign, peek, read_exact]
  | minus => exact parse_sign_minus _

theorem sign_pm {ss : List Nat} {sg : Int} (p : Sign ss sg) : sg = 1 ∨ sg = -1 := by
  cases p <;> simp

theorem parse_signed_gr {ss sb : List Nat} {sg : Int} {h m sec : Nat} (psg : Sign ss sg)
    (pb : Hms sb h m sec) (rest : List Nat) (hh : h ≤ I32MAXN) (hm : m ≤ I32MAXN) (hs : sec ≤ I32MAXN)
    (st : StopH rest) :
    parse_signed_hhmmss (ss ++ sb ++ rest) = .ok ((sg, (h : Int), (m : Int), (sec : Int)), rest) := by
  obtain ⟨d, t, e, hd⟩ := hms_head pb
  unfold parse_signed_hhmmss
  have e1 : ss ++ sb ++ rest = ss ++ d :: (t ++ rest) := by rw [e]; simp
  rw [e1, parse_sign_gr psg d _ hd]
  simp only [P.bind_ok]
  have e2 : d :: (t ++ rest) = sb ++ rest := by rw [e]; rfl
  rw [e2, parse_hhmmss_gr pb rest hh hm hs st]
  simp only [P.bind_ok]

theorem secs_eq (h m s : Nat) : secs h m s = (h : Int) * 3600 + (m : Int) * 60 + (s : Int) := by
  unfold secs; omega

theorem offset_bounds {s : List Nat} {o : Int} (p : Offset s o) : -89999 ≤ o ∧ o ≤ 89999 := by
  cases p with
  | mk psg pb hh hm hs =>
    rw [secs_eq]
    rcases sign_pm psg with rfl | rfl <;> omega

theorem parse_offset_gr {s : List Nat} {o : Int} (p : Offset s o) (rest : List Nat) (st : StopH rest) :
    parse_offset (s ++ rest) = .ok (o, rest) := by
  have hb := offset_bounds p
  cases p with
  | mk psg pb hh hm hs =>
    rename_i ss sb sg h m sec
    have k : I32MAXN = 2147483647 := rfl
    unfold parse_offset
    rw [parse_signed_gr psg pb rest (by omega) (by omega) (by omega) st]
    simp only [P.bind_ok]
    refine (hms_range_pass (H := 24) (M := 59) (S := 59) (by omega) (by omega) (by omega)).trans ?_
    rw [← secs_eq, ck32_ok (by omega) (by omega)]
    rfl

theorem time_bounds {ext : Bool} {s : List Nat} {t : Int} (p : Time ext s t) :
    -604799 ≤ t ∧ t ≤ 604799 ∧ (ext = false → 0 ≤ t ∧ t ≤ 89999) := by
  cases p with
  | posix pb hh hm hs => rw [secs_eq]; omega
  | ext psg pb hh hm hs =>
    rw [secs_eq]
    rcases sign_pm psg with rfl | rfl <;> simp <;> omega

theorem parse_rule_time_gr {s : List Nat} {t : Int} (p : Time false s t) (rest : List Nat) (st : StopH rest) :
    parse_rule_time (s ++ rest) = .ok (t, rest) := by
  cases p with
  | posix pb hh hm hs =>
    rename_i h m sec
    have k : I32MAXN = 2147483647 := rfl
    unfold parse_rule_time
    rw [parse_hhmmss_gr pb rest (by omega) (by omega) (by omega) st]
    simp only [P.bind_ok]
    refine (hms_range_pass (H := 24) (M := 59) (S := 59) (by omega) (by omega) (by omega)).trans ?_
    rw [← secs_eq, ck32_ok (by rw [secs_eq]; omega) (by rw [secs_eq]; omega)]
    rfl

theorem parse_rule_time_extended_gr {s : List Nat} {t : Int} (p : Time true s t) (rest : List Nat)
    (st : StopH rest) : parse_rule_time_extended (s ++ rest) = .ok (t, rest) := by
  have hb := time_bounds p
  cases p with
  | ext psg pb hh hm hs =>
    rename_i ss sb sg h m sec
    have k : I32MAXN = 2147483647 := rfl
    unfold parse_rule_time_extended
    rw [parse_signed_gr psg pb rest (by omega) (by omega) (by omega) st]
    simp only [P.bind_ok]
    refine (hms_range_pass (L := -167) (H := 167) (M := 59) (S := 59) (by omega) (by omega) (by omega)).trans ?_
    rw [← secs_eq, ck32_ok (by omega) (by omega)]
    rfl

/-! ### designations -/
theorem name_nameOk {s n : List Nat} (p : Name s n) : NameOk n := by
  cases p with
  | bare h3 h7 ha =>
    refine ⟨h3, h7, ?_⟩
    rw [List.all_eq_true]
    intro b hb
    exact (nameChar_iff b).mpr (Or.inr (Or.inl (ha b hb)))
  | quoted h3 h7 ha =>
    refine ⟨h3, h7, ?_⟩
    rw [List.all_eq_true]
    intro b hb
    exact (nameChar_iff b).mpr (ha b hb)

theorem parse_name_gr {s n : List Nat} (p : Name s n) (rest : List Nat) (st : StopAt isAlpha rest) :
    parse_name (s ++ rest) = .ok (n, rest) := by
  cases p with
  | bare h3 h7 ha =>
    exact parse_name_bare _ rest (by intro e; subst e; simp at h3)
      (fun d hd => (isAlpha_iff d).mpr (ha d hd)) st
  | quoted h3 h7 ha =>
    have e : 60 :: (n ++ [62]) ++ rest = 60 :: (n ++ 62 :: rest) := by simp
    rw [e]
    exact parse_name_quoted n rest (fun d hd => (nameChar_iff d).mpr (ha d hd))

/-- the first byte of a written designation: `<` or a letter -/
theorem name_head {s n : List Nat} (p : Name s n) (X : List Nat) :
    ∃ b t, s ++ X = b :: t ∧ (b = 60 ∨ isAlpha b = true) := by
  cases p with
  | bare h3 h7 ha =>
    cases s with
    | nil => simp at h3
    | cons a n' => exact ⟨a, _, rfl, Or.inr ((isAlpha_iff a).mpr (ha a (by simp)))⟩
  | quoted h3 h7 ha => exact ⟨60, _, rfl, Or.inl rfl⟩

theorem name_stopH {s n : List Nat} (p : Name s n) (X : List Nat) : StopH (s ++ X) := by
  obtain ⟨b, t, e, hb⟩ := name_head p X
  rw [e]
  rcases hb with rfl | hb
  · exact ⟨stopAt_cons (by decide), stopAt_cons (by decide)⟩
  · have := alpha_bounds hb
    exact ⟨stopAt_cons (alpha_not_digit hb), stopAt_cons (by simp; omega)⟩

/-- the first byte of a written offset: a sign or a digit -/
theorem offset_head {s : List Nat} {o : Int} (p : Offset s o) (X : List Nat) :
    ∃ b t, s ++ X = b :: t ∧ (b = 43 ∨ b = 45 ∨ isDigit b = true) := by
  cases p with
  | mk psg pb hh hm hs =>
    obtain ⟨d, t, e, hd⟩ := hms_head pb
    cases psg with
    | none => exact ⟨d, t ++ X, by rw [e]; rfl, Or.inr (Or.inr hd)⟩
    | plus => exact ⟨43, _, rfl, Or.inl rfl⟩
    | minus => exact ⟨45, _, rfl, Or.inr (Or.inl rfl)⟩

theorem offset_stop_alpha {s : List Nat} {o : Int} (p : Offset s o) (X : List Nat) :
    StopAt isAlpha (s ++ X) := by
  obtain ⟨b, t, e, hb⟩ := offset_head p X
  rw [e]
  apply stopAt_cons
  rcases hb with rfl | rfl | hb
  · decide
  · decide
  · exact digit_not_alpha hb

/-! ### rule days -/
theorem day_dayOk {s : List Nat} {d : RuleDay} (p : Day s d) : DayOk d := by
  cases p with
  | j1 _ h1 h2 => exact ⟨h1, h2⟩
  | j0 _ h2 => exact h2
  | mwd _ _ _ m1 m2 w1 w2 d2 => exact ⟨m1, m2, w1, w2, d2⟩

theorem dayTime_ok {ext : Bool} {s : List Nat} {d : RuleDay} {t : Int} (p : DayTime ext s d t) :
    DayOk d ∧ TimeV t := by
  cases p with
  | default pd => exact ⟨day_dayOk pd, by unfold TimeV; omega⟩
  | timed pd pt => exact ⟨day_dayOk pd, (time_bounds pt).1, (time_bounds pt).2.1⟩

/-- the three constructors on natural numbers: the day if it is in range (`DayOk`), else an error -/
theorem julian_1_nat (n : Nat) :
    RuleDay.julian_1 n = if 1 ≤ n ∧ n ≤ 365 then .ok (.julian1 n) else .err := by
  have j1 : JULIAN1_MIN = 1 := rfl
  have j2 : JULIAN1_MAX = 365 := rfl
  unfold RuleDay.julian_1
  split
  · rename_i g
    simp only [Bool.not_eq_true', Bool.and_eq_false_iff, decide_eq_false_iff_not] at g
    rw [if_neg (by omega)]
  · rename_i g
    simp only [Bool.not_eq_true', Bool.not_eq_false, Bool.and_eq_true, decide_eq_true_eq] at g
    rw [if_pos (by omega), Int.toNat_natCast]

theorem julian_0_nat (n : Nat) :
    RuleDay.julian_0 n = if n ≤ 365 then .ok (.julian0 n) else .err := by
  have j3 : JULIAN0_MAX = 365 := rfl
  unfold RuleDay.julian_0
  split
  · rw [if_neg (by omega)]
  · rw [if_pos (by omega), Int.toNat_natCast]

theorem month_weekday_nat (m w d : Nat) :
    RuleDay.month_weekday m w d
      = if 1 ≤ m ∧ m ≤ 12 ∧ 1 ≤ w ∧ w ≤ 5 ∧ d ≤ 6 then .ok (.mwd m w d) else .err := by
  have m1 : MONTH_MIN = 1 := rfl
  have m2 : MONTH_MAX = 12 := rfl
  have w1 : WEEK_MIN = 1 := rfl
  have w2 : WEEK_MAX = 5 := rfl
  have w3 : WEEKDAY_MAX = 6 := rfl
  unfold RuleDay.month_weekday
  by_cases h : 1 ≤ m ∧ m ≤ 12 ∧ 1 ≤ w ∧ w ≤ 5 ∧ d ≤ 6
  · rw [range_pass (by omega), range_pass (by omega), if_neg (by omega), if_pos h]
    simp only [Int.toNat_natCast]
  · rw [if_neg h]
    split
    · rfl
    · split
      · rfl
      · rename_i g1 g2
        simp only [Bool.not_eq_true', Bool.not_eq_false, Bool.and_eq_true, decide_eq_true_eq] at g1 g2
        rw [if_pos (by omega)]

theorem parse_date_gr {s : List Nat} {d : RuleDay} (p : Day s d) (rest : List Nat)
    (st : StopAt isDigit rest) : RuleDay.parse_date (s ++ rest) = .ok (d, rest) := by
  have u8 : U8MAXN = 255 := rfl
  have u16 : U16MAXN = 65535 := rfl
  cases p with
  | j1 p h1 h2 =>
    rename_i s' n
    simp only [List.cons_append]
    unfold RuleDay.parse_date
    simp only [peek_cons, read_exact_one, P.bind_ok]
    rw [read_int_num p _ rest (by omega) st]
    simp only [P.bind_ok, julian_1_nat, if_pos (And.intro h1 h2)]
  | j0 p h2 =>
    rename_i n
    obtain ⟨dg, t, e, hdg⟩ := num_head p
    have hb := isDigit_bounds hdg
    unfold RuleDay.parse_date
    have hp : peek (s ++ rest) = some dg := by rw [e]; rfl
    rw [hp]
    split
    · rename_i h; injection h with h; omega
    · rename_i h; injection h with h; omega
    · rw [read_int_num p _ rest (by omega) st]
      simp only [P.bind_ok, julian_0_nat, if_pos h2]
  | mwd pm pw pd m1 m2 w1 w2 d2 =>
    rename_i a b c m w wd
    have e : 77 :: (a ++ 46 :: (b ++ 46 :: c)) ++ rest
        = 77 :: (a ++ 46 :: (b ++ 46 :: (c ++ rest))) := by simp
    rw [e]
    unfold RuleDay.parse_date
    simp only [peek_cons, read_exact_one, P.bind_ok]
    rw [read_int_num pm _ _ (by omega) (stopAt_cons digit_ne_dot)]
    simp only [P.bind_ok, read_tag_one]
    rw [read_int_num pw _ _ (by omega) (stopAt_cons digit_ne_dot)]
    simp only [P.bind_ok, read_tag_one]
    rw [read_int_num pd _ _ (by omega) st]
    have hd : 1 ≤ m ∧ m ≤ 12 ∧ 1 ≤ w ∧ w ≤ 5 ∧ wd ≤ 6 := ⟨m1, m2, w1, w2, d2⟩
    simp only [P.bind_ok, month_weekday_nat, if_pos hd]

/-- `rest` is empty or starts with a byte that is neither a digit, nor `:`, nor `/` -/
def StopD (rest : List Nat) : Prop := StopH rest ∧ StopAt (fun b => b == 47) rest

theorem stopD_nil : StopD [] := ⟨stopH_nil, stopAt_nil _⟩
theorem stopD_comma (t : List Nat) : StopD (44 :: t) := ⟨stopH_comma t, stopAt_cons (by decide)⟩

theorem ruleday_parse_gr {ext : Bool} {s : List Nat} {d : RuleDay} {t : Int} (p : DayTime ext s d t)
    (rest : List Nat) (st : StopD rest) : RuleDay.parse (s ++ rest) ext = .ok ((d, t), rest) := by
  cases p with
  | default pd =>
    unfold RuleDay.parse
    rw [parse_date_gr pd rest st.1.1]
    simp only [P.bind_ok, rot_no 47 rest st.2]
    rfl
  | timed pd pt =>
    rename_i s' st' 
    have e : s' ++ 47 :: st' ++ rest = s' ++ 47 :: (st' ++ rest) := by simp
    unfold RuleDay.parse
    rw [e, parse_date_gr pd _ (stopAt_cons digit_ne_slash)]
    simp only [P.bind_ok, rot_yes]
    cases ext with
    | true =>
      simp only
      rw [parse_rule_time_extended_gr pt rest st.1]
      rfl
    | false =>
      simp only
      rw [parse_rule_time_gr pt rest st.1]
      rfl

theorem parse_dst_offset_gr {so : Int} {s : List Nat} {o : Int} (p : DstOffset so s o)
    (hso : -89999 ≤ so ∧ so ≤ 89999) (t : List Nat) :
    parse_dst_offset so (s ++ 44 :: t) = .ok (o, 44 :: t) := by
  cases p with
  | default =>
    have k : DEFAULT_DST_DELTA = 3600 := rfl
    unfold parse_dst_offset
    simp only [List.nil_append, peek_cons]
    rw [k, ck32_ok (by omega) (by omega)]
    rfl
  | given p =>
    obtain ⟨b, tl, e, hb⟩ := offset_head p (44 :: t)
    have hne : b ≠ 44 := by
      rcases hb with rfl | rfl | hb
      · decide
      · decide
      · have := isDigit_bounds hb; omega
    unfold parse_dst_offset
    rw [e, peek_cons]
    split
    · rename_i h; injection h with h; exact absurd h hne
    · rw [← e]; exact parse_offset_gr p _ (stopH_comma t)
    · rename_i h; cases h

theorem dstOffset_bounds {so : Int} {s : List Nat} {o : Int} (p : DstOffset so s o)
    (hso : -89999 ≤ so ∧ so ≤ 89999) : -93599 ≤ o ∧ o ≤ 89999 := by
  cases p with
  | default => omega
  | given p => have := offset_bounds p; omega

theorem dstOffset_stop_alpha {so : Int} {s : List Nat} {o : Int} (p : DstOffset so s o) (t : List Nat) :
    StopAt isAlpha (s ++ 44 :: t) := by
  cases p with
  | default => exact stopAt_cons (by decide)
  | given p => exact offset_stop_alpha p _

/-! ### every string of the grammar is read as the rule it denotes -/
theorem tz_accepts_all' (ext : Bool) (s : List Nat) (r : Rule) (h : Denotes ext s r) :
    from_tz_string s ext = .ok r := by
  cases h with
  | fixed pn po ho =>
    rename_i s1 s2 n o
    unfold Within24h at ho
    have hb := offset_bounds po
    unfold from_tz_string
    have st : StopAt isAlpha s2 := by simpa using offset_stop_alpha po []
    rw [parse_name_gr pn _ st]
    simp only [P.bind_ok]
    have e2 : s2 = s2 ++ [] := by simp
    rw [e2, parse_offset_gr po [] stopH_nil]
    simp only [P.bind_ok, List.isEmpty_nil, if_true]
    rw [ck32_ok (by omega) (by omega)]
    simp only [P.bind_ok]
    rw [ltt_new_ok (-o) false n (by omega) (name_nameOk pn)]
    rfl
  | alt pn1 po1 pn2 po2 pd1 pd2 ho1 ho2 =>
    rename_i s1 s2 s3 s4 s5 s6 n1 n2 o1 o2 t1 t2 d1 d2
    unfold Within24h at ho1 ho2
    have hb1 := offset_bounds po1
    have hb2 := dstOffset_bounds po2 hb1
    unfold from_tz_string
    rw [parse_name_gr pn1 _ (offset_stop_alpha po1 _)]
    simp only [P.bind_ok]
    rw [parse_offset_gr po1 _ (name_stopH pn2 _)]
    simp only [P.bind_ok]
    obtain ⟨b, tl, eh, _⟩ := name_head pn2 (s4 ++ 44 :: (s5 ++ 44 :: s6))
    have hne : (s3 ++ (s4 ++ 44 :: (s5 ++ 44 :: s6))).isEmpty = false := by rw [eh]; rfl
    rw [if_neg (by rw [hne]; simp)]
    rw [parse_name_gr pn2 _ (dstOffset_stop_alpha po2 _)]
    simp only [P.bind_ok]
    rw [parse_dst_offset_gr po2 hb1 _]
    simp only [P.bind_ok, List.isEmpty_cons, Bool.false_eq_true, if_false, read_tag_one]
    rw [ruleday_parse_gr pd1 _ (stopD_comma _)]
    simp only [P.bind_ok, read_tag_one]
    have e6 : s6 = s6 ++ [] := by simp
    rw [e6, ruleday_parse_gr pd2 [] stopD_nil]
    simp only [P.bind_ok, List.isEmpty_nil, Bool.not_true, Bool.false_eq_true, if_false]
    rw [ck32_ok (by omega) (by omega)]
    simp only [P.bind_ok]
    rw [ltt_new_ok (-o1) false n1 (by omega) (name_nameOk pn1)]
    simp only [P.bind_ok]
    rw [ck32_ok (by omega) (by omega)]
    simp only [P.bind_ok]
    rw [ltt_new_ok (-o2) true n2 (by omega) (name_nameOk pn2)]
    simp only [P.bind_ok]
    have hw : SECONDS_PER_WEEK = 604800 := rfl
    have b1 := (dayTime_ok pd1).2
    have b2 := (dayTime_ok pd2).2
    unfold TimeV at b1 b2
    unfold Alt.new
    rw [if_neg (by
      simp only [Bool.not_eq_true', Bool.not_eq_false, Bool.and_eq_true, decide_eq_true_eq, hw, iabs]
      constructor <;> split <;> omega)]
    rfl

/-! ### inversion: whatever a sub-reader consumes is a word of the corresponding grammar category -/
theorem take_takeWhile_len (p : Nat → Bool) (l : List Nat) :
    l.take (l.takeWhile p).length = l.takeWhile p := by
  induction l with
  | nil => rfl
  | cons a t ih =>
    by_cases h : p a = true
    · simp [h, ih]
    · simp [h]

theorem drop_takeWhile_head (p : Nat → Bool) (l : List Nat) (y : Nat) (t : List Nat)
    (h : l.drop (l.takeWhile p).length = y :: t) : p y = false := by
  induction l with
  | nil => simp at h
  | cons a r ih =>
    by_cases ha : p a = true
    · simp only [List.takeWhile_cons, ha, if_true, List.length_cons, List.drop_succ_cons] at h
      exact ih h
    · simp only [List.takeWhile_cons, ha] at h
      simp only [Bool.false_eq_true, if_false, List.length_nil, List.drop_zero, List.cons.injEq] at h
      obtain ⟨rfl, _⟩ := h
      simpa using ha

/-- what a sub-reader returns, together with the word it consumed -/
def Took {α} (c : Cursor) (G : List Nat → α → Prop) (r : α × Cursor) : Prop :=
  ∃ s, c = s ++ r.2 ∧ G s r.1

theorem post_read_while_g (c : Cursor) (p : Nat → Bool) :
    Post (read_while c p) (fun r => c = r.1 ++ r.2 ∧ (∀ d ∈ r.1, p d = true) ∧ StopAt p r.2) := by
  unfold read_while
  rcases read_exact_cases c (c.takeWhile p).length with ⟨_, h⟩ | h <;> rw [h]
  · have e := List.take_append_drop (c.takeWhile p).length c
    rw [take_takeWhile_len] at e ⊢
    exact post_ok ⟨e.symm, List.all_eq_true.mp List.all_takeWhile, fun b t => drop_takeWhile_head p c b t⟩
  · exact post_err

theorem post_read_int_g (c : Cursor) (max : Nat) :
    Post (read_int c max) (Took c (fun s v => ∃ n, Num s n ∧ v = (n : Int))) := by
  unfold read_int
  rcases post_cases (post_read_while_g c isDigit) with e | ⟨⟨ds, c'⟩, e, hc, hd, -⟩ <;> simp only [e]
  · exact post_err
  · refine post_ite (fun _ => post_err) fun hne => post_ite (fun _ => post_err) fun _ =>
      post_ok ⟨ds, hc, _, num_of_digits ds ?_ hd, rfl⟩
    intro h
    rw [h] at hne
    exact hne rfl

theorem post_rot_g (c : Cursor) (t : Nat) :
    Post (read_optional_tag c [t]) (fun r => (r.1 = true ∧ c = t :: r.2) ∨ (r.1 = false ∧ r.2 = c)) := by
  unfold read_optional_tag
  split
  · rename_i hp
    cases c with
    | nil => simp [List.isPrefixOf] at hp
    | cons x xs =>
      simp only [List.isPrefixOf, Bool.and_eq_true, beq_iff_eq] at hp
      rw [hp.1]
      exact post_ok (Or.inl ⟨rfl, rfl⟩)
  · exact post_ok (Or.inr ⟨rfl, rfl⟩)

theorem post_read_tag_g (c : Cursor) (t : Nat) : Post (read_tag c [t]) (fun c' => c = t :: c') := by
  unfold read_tag
  rcases read_exact_cases c 1 with ⟨_, h⟩ | h <;> simp only [List.length_singleton, h]
  · refine post_ite (fun hb => post_ok ?_) fun _ => post_err
    rw [← List.take_append_drop 1 c, hb]
    rfl
  · exact post_err

theorem post_parse_hhmmss_g (c : Cursor) :
    Post (parse_hhmmss c)
      (Took c (fun s v => ∃ h m sec, Hms s h m sec ∧ v = ((h : Int), (m : Int), (sec : Int)))) := by
  unfold parse_hhmmss
  refine post_bind (post_read_int_g _ _) ?_
  rintro ⟨hour, c1⟩ - ⟨a, ea, h, ph, rfl⟩
  dsimp only at ea
  refine post_bind (post_rot_g _ _) ?_
  rintro ⟨col, c2⟩ - hcol
  dsimp only at hcol
  rcases hcol with ⟨rfl, e1⟩ | ⟨rfl, rfl⟩
  · simp only [if_true]
    refine post_bind (post_read_int_g _ _) ?_
    rintro ⟨minute, c3⟩ - ⟨b, eb, m, pm, rfl⟩
    dsimp only at eb
    refine post_bind (post_rot_g _ _) ?_
    rintro ⟨col2, c4⟩ - hcol2
    dsimp only at hcol2
    rcases hcol2 with ⟨rfl, e3⟩ | ⟨rfl, rfl⟩
    · simp only [if_true]
      refine post_bind (post_read_int_g _ _) ?_
      rintro ⟨second, c5⟩ - ⟨d, ed, sec, ps, rfl⟩
      dsimp only at ed
      refine post_ok ⟨a ++ 58 :: (b ++ 58 :: d), ?_, h, m, sec, Hms.hms ph pm ps, rfl⟩
      rw [ea, e1, eb, e3, ed]; simp
    · refine post_ok ⟨a ++ 58 :: b, ?_, h, m, 0, Hms.hm ph pm, rfl⟩
      rw [ea, e1, eb]; simp
  · exact post_ok ⟨a, ea, h, 0, 0, Hms.h ph, rfl⟩

theorem peek_inv {c : Cursor} {b : Nat} (h : peek c = some b) : ∃ t, c = b :: t := by
  cases c with
  | nil => cases h
  | cons x t =>
    simp only [peek, List.head?_cons, Option.some.injEq] at h
    exact ⟨t, by rw [h]⟩

theorem post_parse_sign_g (c : Cursor) : Post (parse_sign c) (Took c Sign) := by
  unfold parse_sign
  split
  · rename_i hp
    obtain ⟨t, rfl⟩ := peek_inv hp
    simp only [read_exact_one, P.bind_ok]
    exact post_ok ⟨[43], rfl, Sign.plus⟩
  · rename_i hp
    obtain ⟨t, rfl⟩ := peek_inv hp
    simp only [read_exact_one, P.bind_ok]
    exact post_ok ⟨[45], rfl, Sign.minus⟩
  · exact post_ok ⟨[], rfl, Sign.none⟩

theorem post_parse_signed_g (c : Cursor) :
    Post (parse_signed_hhmmss c)
      (Took c (fun s v => ∃ ss sb sg h m sec, s = ss ++ sb ∧ Sign ss sg ∧ Hms sb h m sec
        ∧ v = (sg, (h : Int), (m : Int), (sec : Int)))) := by
  unfold parse_signed_hhmmss
  refine post_bind (post_parse_sign_g _) ?_
  rintro ⟨sg, c1⟩ - ⟨ss, e1, psg⟩
  dsimp only at e1 psg
  refine post_bind (post_parse_hhmmss_g _) ?_
  rintro ⟨⟨h', m', s'⟩, c2⟩ - ⟨sb, e2, h, m, sec, pb, ev⟩
  dsimp only at e2 ev
  simp only [Prod.mk.injEq] at ev
  obtain ⟨rfl, rfl, rfl⟩ := ev
  refine post_ok ⟨ss ++ sb, ?_, ss, sb, sg, h, m, sec, rfl, psg, pb, rfl⟩
  dsimp only
  rw [e1, e2]; simp

theorem post_parse_offset_g (c : Cursor) : Post (parse_offset c) (Took c Offset) := by
  unfold parse_offset
  refine post_bind (post_parse_signed_g _) ?_
  rintro ⟨⟨sg, h', m', s'⟩, c1⟩ - ⟨s, e1, ss, sb, sg0, h, m, sec, rfl, psg, pb, ev⟩
  dsimp only at e1 ev
  simp only [Prod.mk.injEq] at ev
  obtain ⟨rfl, rfl, rfl, rfl⟩ := ev
  -- the limits are `OFFSET_HOUR_MAX` … in the model: put as numerals they are ready for `omega`
  refine post_hms_range (H := 24) (M := 59) (S := 59) fun g1 g2 g3 => ?_
  have po : Offset (ss ++ sb) (sg * secs h m sec) := Offset.mk psg pb (by omega) (by omega) (by omega)
  have hb := offset_bounds po
  rw [← secs_eq, ck32_ok (by omega) (by omega)]
  exact post_ok ⟨ss ++ sb, e1, po⟩

theorem post_parse_rule_time_g (c : Cursor) : Post (parse_rule_time c) (Took c (Time false)) := by
  unfold parse_rule_time
  refine post_bind (post_parse_hhmmss_g _) ?_
  rintro ⟨⟨h', m', s'⟩, c1⟩ - ⟨sb, e1, h, m, sec, pb, ev⟩
  dsimp only at e1 ev
  simp only [Prod.mk.injEq] at ev
  obtain ⟨rfl, rfl, rfl⟩ := ev
  refine post_hms_range (H := 24) (M := 59) (S := 59) fun g1 g2 g3 => ?_
  have pt : Time false sb (secs h m sec) := Time.posix pb (by omega) (by omega) (by omega)
  have hb := time_bounds pt
  rw [← secs_eq, ck32_ok (by omega) (by omega)]
  exact post_ok ⟨sb, e1, pt⟩

theorem post_parse_rule_time_extended_g (c : Cursor) :
    Post (parse_rule_time_extended c) (Took c (Time true)) := by
  unfold parse_rule_time_extended
  refine post_bind (post_parse_signed_g _) ?_
  rintro ⟨⟨sg, h', m', s'⟩, c1⟩ - ⟨s, e1, ss, sb, sg0, h, m, sec, rfl, psg, pb, ev⟩
  dsimp only at e1 ev
  simp only [Prod.mk.injEq] at ev
  obtain ⟨rfl, rfl, rfl, rfl⟩ := ev
  refine post_hms_range (L := -167) (H := 167) (M := 59) (S := 59) fun g1 g2 g3 => ?_
  have pt : Time true (ss ++ sb) (sg * secs h m sec) := Time.ext psg pb (by omega) (by omega) (by omega)
  have hb := time_bounds pt
  rw [← secs_eq, ck32_ok (by omega) (by omega)]
  exact post_ok ⟨ss ++ sb, e1, pt⟩

/-- the written form of a designation the reader took: bare letters, or anything between `<` and `>` -/
def NameTok (s n : List Nat) : Prop := (s = n ∧ ∀ b ∈ n, isAlpha b = true) ∨ s = 60 :: (n ++ [62])

theorem post_parse_name_g (c : Cursor) : Post (parse_name c) (Took c NameTok) := by
  unfold parse_name
  split
  · rename_i hp
    obtain ⟨c1, rfl⟩ := peek_inv hp
    simp only [read_exact_one, P.bind_ok]
    -- `read_until c f` is `read_while c (fun b => !f b)`
    refine post_bind (post_read_while_g c1 fun b => !(b == 62)) ?_
    rintro ⟨n, c2⟩ - ⟨e, -, hstop⟩
    cases c2 with
    | nil => exact post_err
    | cons y t =>
      have hy : y = 62 := by simpa using hstop y t rfl
      subst hy
      simp only [read_exact_one, P.bind_ok]
      exact post_ok ⟨60 :: (n ++ [62]), by rw [e]; simp, Or.inr rfl⟩
  · refine post_mono (post_read_while_g _ _) ?_
    rintro ⟨n, c'⟩ ⟨h1, h2, -⟩
    exact ⟨n, h1, Or.inl ⟨rfl, h2⟩⟩

theorem name_of_tok {s n : List Nat} (h : NameTok s n) (hn : NameOk n) : Name s n := by
  obtain ⟨h3, h7, ha⟩ := hn
  rw [List.all_eq_true] at ha
  rcases h with ⟨rfl, hb⟩ | rfl
  · exact Name.bare h3 h7 (fun b hb' => (isAlpha_iff b).mp (hb b hb'))
  · exact Name.quoted h3 h7 (fun b hb' => (nameChar_iff b).mp (ha b hb'))

theorem post_parse_date_g (c : Cursor) : Post (RuleDay.parse_date c) (Took c Day) := by
  unfold RuleDay.parse_date
  split
  · rename_i hp
    obtain ⟨c1, rfl⟩ := peek_inv hp
    simp only [read_exact_one, P.bind_ok]
    refine post_bind (post_read_int_g _ _) ?_
    rintro ⟨month, c2⟩ - ⟨a, ea, m, pm, rfl⟩
    dsimp only at ea
    refine post_bind (post_read_tag_g _ _) ?_
    rintro c3 - e3
    dsimp only at e3
    refine post_bind (post_read_int_g _ _) ?_
    rintro ⟨week, c4⟩ - ⟨b, eb, w, pw, rfl⟩
    dsimp only at eb
    refine post_bind (post_read_tag_g _ _) ?_
    rintro c5 - e5
    dsimp only at e5
    refine post_bind (post_read_int_g _ _) ?_
    rintro ⟨wd, c6⟩ - ⟨cc, ec, d, pd, rfl⟩
    dsimp only at ec
    rw [month_weekday_nat]
    split
    · rename_i g
      refine post_ok ⟨77 :: (a ++ 46 :: (b ++ 46 :: cc)), ?_, Day.mwd pm pw pd g.1 g.2.1 g.2.2.1 g.2.2.2.1 g.2.2.2.2⟩
      dsimp only
      rw [ea, e3, eb, e5, ec]; simp
    · exact post_err
  · rename_i hp
    obtain ⟨c1, rfl⟩ := peek_inv hp
    simp only [read_exact_one, P.bind_ok]
    refine post_bind (post_read_int_g _ _) ?_
    rintro ⟨nn, c2⟩ - ⟨a, ea, n, pn, rfl⟩
    dsimp only at ea
    rw [julian_1_nat]
    split
    · rename_i g
      refine post_ok ⟨74 :: a, ?_, Day.j1 pn g.1 g.2⟩
      dsimp only
      rw [ea]; rfl
    · exact post_err
  · refine post_bind (post_read_int_g _ _) ?_
    rintro ⟨nn, c2⟩ - ⟨a, ea, n, pn, rfl⟩
    dsimp only at ea ⊢
    rw [julian_0_nat]
    split
    · rename_i g
      exact post_ok ⟨a, ea, Day.j0 pn g⟩
    · exact post_err

theorem post_ruleday_parse_g (c : Cursor) (ext : Bool) :
    Post (RuleDay.parse c ext) (Took c (fun s v => DayTime ext s v.1 v.2)) := by
  unfold RuleDay.parse
  refine post_bind (post_parse_date_g _) ?_
  rintro ⟨date, c1⟩ - ⟨s, e1, pd⟩
  dsimp only at e1 pd
  refine post_bind (post_rot_g _ _) ?_
  rintro ⟨slash, c2⟩ - hs
  dsimp only at hs
  have k : DEFAULT_RULE_TIME = 7200 := rfl
  rcases hs with ⟨rfl, e2⟩ | ⟨rfl, rfl⟩
  · cases ext <;> dsimp only
    · refine post_bind (post_parse_rule_time_g _) ?_
      rintro ⟨t, c3⟩ - ⟨st, e3, pt⟩
      dsimp only at e3 pt
      refine post_ok ⟨s ++ 47 :: st, ?_, DayTime.timed pd pt⟩
      dsimp only
      rw [e1, e2, e3]; simp
    · refine post_bind (post_parse_rule_time_extended_g _) ?_
      rintro ⟨t, c3⟩ - ⟨st, e3, pt⟩
      dsimp only at e3 pt
      refine post_ok ⟨s ++ 47 :: st, ?_, DayTime.timed pd pt⟩
      dsimp only
      rw [e1, e2, e3]; simp
  · dsimp only
    rw [k]
    exact post_ok ⟨s, e1, DayTime.default pd⟩

theorem post_parse_dst_offset_g (so : Int) (hso : -89999 ≤ so ∧ so ≤ 89999) (c : Cursor) :
    Post (parse_dst_offset so c) (Took c (DstOffset so)) := by
  unfold parse_dst_offset
  have k : DEFAULT_DST_DELTA = 3600 := rfl
  split
  · rw [k, ck32_ok (by omega) (by omega)]
    exact post_ok ⟨[], rfl, DstOffset.default⟩
  · refine post_mono (post_parse_offset_g c) ?_
    rintro ⟨o, c'⟩ ⟨s, e, po⟩
    exact ⟨s, e, DstOffset.given po⟩
  · exact post_err

/-! ### whatever the reader accepts is a string of the grammar, denoting the rule returned -/
theorem post_from_tz_string_g (s : List Nat) (ext : Bool) :
    Post (from_tz_string s ext) (Denotes ext s) := by
  unfold from_tz_string
  refine post_bind (post_parse_name_g _) ?_
  rintro ⟨stdn, c1⟩ - ⟨s1, e1, pn1⟩
  dsimp only at e1 pn1
  refine post_bind (post_parse_offset_g _) ?_
  rintro ⟨so, c2⟩ - ⟨s2, e2, po1⟩
  dsimp only at e2 po1
  have hso := offset_bounds po1
  dsimp only
  split
  · rename_i hemp
    have hc2 : c2 = [] := by simpa using hemp
    rw [ck32_ok (by omega) (by omega)]
    simp only [P.bind_ok]
    refine post_bind (post_ltt_new _ _ _) ?_
    rintro t - ⟨rfl, ho, hn⟩
    have := Denotes.fixed (ext := ext) (name_of_tok pn1 (hn _ rfl)) po1 (by unfold Within24h; omega)
    rw [e1, e2, hc2, List.append_nil]
    exact post_ok this
  · refine post_bind (post_parse_name_g _) ?_
    rintro ⟨dstn, c3⟩ - ⟨s3, e3, pn2⟩
    dsimp only at e3 pn2
    refine post_bind (post_parse_dst_offset_g so hso _) ?_
    rintro ⟨d_o, c4⟩ - ⟨s4, e4, po2⟩
    dsimp only at e4 po2
    have hdo := dstOffset_bounds po2 hso
    dsimp only
    split
    · exact post_err
    · refine post_bind (post_read_tag_g _ _) ?_
      rintro c5 - e5
      refine post_bind (post_ruleday_parse_g _ _) ?_
      rintro ⟨⟨d1, t1⟩, c6⟩ - ⟨s5, e6, pd1⟩
      dsimp only at e6 pd1
      refine post_bind (post_read_tag_g _ _) ?_
      rintro c7 - e7
      dsimp only at e7
      refine post_bind (post_ruleday_parse_g _ _) ?_
      rintro ⟨⟨d2, t2⟩, c8⟩ - ⟨s6, e8, pd2⟩
      dsimp only at e8 pd2
      dsimp only
      split
      · exact post_err
      · rename_i hemp
        have hc8 : c8 = [] := by simpa using hemp
        rw [ck32_ok (by omega) (by omega)]
        simp only [P.bind_ok]
        refine post_bind (post_ltt_new _ _ _) ?_
        rintro std - ⟨rfl, ho1, hn1⟩
        rw [ck32_ok (by omega) (by omega)]
        simp only [P.bind_ok]
        refine post_bind (post_ltt_new _ _ _) ?_
        rintro dst - ⟨rfl, ho2, hn2⟩
        refine post_bind (post_alt_new _ _ _ _ _ _) ?_
        rintro a - rfl
        have := Denotes.alt (ext := ext) (name_of_tok pn1 (hn1 _ rfl)) po1 (name_of_tok pn2 (hn2 _ rfl))
          po2 pd1 pd2 (by unfold Within24h; omega) (by unfold Within24h; omega)
        have es : s = s1 ++ (s2 ++ (s3 ++ (s4 ++ 44 :: (s5 ++ 44 :: s6)))) := by
          rw [e1, e2, e3, e4, e5, e6, e7, e8, hc8, List.append_nil]
        rw [es]
        exact post_ok this

theorem tz_accepts_only' (ext : Bool) (s : List Nat) (r : Rule) (h : from_tz_string s ext = .ok r) :
    Denotes ext s r :=
  post_spec (post_from_tz_string_g s ext) h

/-- the coarse bounds the rule lookup of `validate` needs hold of every rule the grammar denotes -/
theorem denotes_ruleV {ext : Bool} {s : List Nat} {r : Rule} (h : Denotes ext s r) : RuleV r := by
  cases h with
  | fixed pn po ho =>
    unfold Within24h at ho
    exact ⟨by unfold LttV; dsimp only; omega, rfl, _, rfl, name_nameOk pn⟩
  | alt pn1 po1 pn2 po2 pd1 pd2 ho1 ho2 =>
    unfold Within24h at ho1 ho2
    obtain ⟨hd1, ht1⟩ := dayTime_ok pd1
    obtain ⟨hd2, ht2⟩ := dayTime_ok pd2
    exact ⟨by unfold LttV; dsimp only; omega, by unfold LttV; dsimp only; omega, hd1, hd2, ht1, ht2,
      ⟨rfl, _, rfl, name_nameOk pn1⟩, ⟨rfl, _, rfl, name_nameOk pn2⟩⟩

theorem post_from_tz_string (s : List Nat) (ext : Bool) : Post (from_tz_string s ext) RuleV :=
  post_mono (post_from_tz_string_g s ext) fun _ => denotes_ruleV

/-! ### the canonical text is in the grammar, hence read back -/
theorem num_renderNat (n : Nat) : Num (renderNat n) n := by
  obtain ⟨h1, h2, h3⟩ := renderNat_spec n
  have := num_of_digits _ h1 h2
  rwa [h3] at this

theorem hms_render (a : Nat) : Hms (renderHmsAbs a) (a / 3600) (a / 60 % 60) (a % 60) := by
  unfold renderHmsAbs
  split
  · have := Hms.hms (num_renderNat (a / 3600)) (num_renderNat (a / 60 % 60)) (num_renderNat (a % 60))
    simpa using this
  · rename_i hs
    rw [Decidable.not_not.mp hs]
    split
    · have := Hms.hm (num_renderNat (a / 3600)) (num_renderNat (a / 60 % 60))
      simpa using this
    · rename_i hm
      rw [Decidable.not_not.mp hm, List.append_nil]
      exact Hms.h (num_renderNat _)

theorem secs_render (a : Nat) : secs (a / 3600) (a / 60 % 60) (a % 60) = a := by
  unfold secs; omega

/-- sign and magnitude of the canonical `[-]h[:m[:s]]` -/
theorem signed_render (v : Int) :
    ∃ ss sg, renderHms v = ss ++ renderHmsAbs v.natAbs ∧ Sign ss sg ∧ sg * (v.natAbs : Int) = v := by
  unfold renderHms
  split
  · exact ⟨[45], -1, rfl, Sign.minus, by omega⟩
  · exact ⟨[], 1, rfl, Sign.none, by omega⟩

theorem offset_render (v : Int) (hv : -86400 < v ∧ v < 86400) : Offset (renderHms v) v := by
  obtain ⟨ss, sg, e, ps, hsg⟩ := signed_render v
  have := Offset.mk ps (hms_render v.natAbs) (by omega) (by omega) (by omega)
  rwa [secs_render, hsg, ← e] at this

theorem time_render (ext : Bool) (t : Int) (ht : TimeOk ext t) : Time ext (renderHms t) t := by
  obtain ⟨ss, sg, e, ps, hsg⟩ := signed_render t
  cases ext with
  | true =>
    have hb := ht.1 rfl
    have := Time.ext ps (hms_render t.natAbs) (by omega) (by omega) (by omega)
    rwa [secs_render, hsg, ← e] at this
  | false =>
    have hb := ht.2 rfl
    have := Time.posix (hms_render t.natAbs) (by omega) (by omega) (by omega)
    rw [secs_render] at this
    have e' : renderHms t = renderHmsAbs t.natAbs := by unfold renderHms; rw [if_neg (by omega)]; rfl
    rwa [e', show t = (t.natAbs : Int) by omega]

theorem name_render (n : List Nat) (h : NameOk n) : Name (renderName n) n := by
  obtain ⟨h3, h7, hc⟩ := h
  unfold renderName
  split
  · rename_i ha
    exact Name.bare h3 h7 fun b hb => (isAlpha_iff b).mp (List.all_eq_true.mp ha b hb)
  · exact Name.quoted h3 h7 fun b hb => (nameChar_iff b).mp (List.all_eq_true.mp hc b hb)

theorem day_render (d : RuleDay) (h : DayOk d) : Day (renderDay d) d := by
  cases d with
  | julian1 n => exact Day.j1 (num_renderNat n) h.1 h.2
  | julian0 n => exact Day.j0 (num_renderNat n) h
  | mwd m w wd =>
    obtain ⟨m1, m2, w1, w2, d2⟩ := h
    have := Day.mwd (num_renderNat m) (num_renderNat w) (num_renderNat wd) m1 m2 w1 w2 d2
    simpa [renderDay] using this

theorem daytime_render (ext : Bool) (d : RuleDay) (t : Int) (hd : DayOk d) (ht : TimeOk ext t) :
    DayTime ext (renderDay d ++ 47 :: renderHms t) d t :=
  DayTime.timed (day_render d hd) (time_render ext t ht)

/-- the canonical text of a well-formed rule is in the grammar and denotes that rule -/
theorem canonical_denotes' (r : Rule) (ext : Bool) (h : RuleOk ext r) : Denotes ext (renderTz r) r := by
  cases r with
  | fixed t =>
    obtain ⟨n, e, hn, h1, h2⟩ := lttOk_elim h
    rw [e]
    have := Denotes.fixed (ext := ext) (name_render n hn) (offset_render (-t.off) (by omega)) (by unfold Within24h; omega)
    rwa [Int.neg_neg] at this
  | alt a =>
    obtain ⟨std, dst, d1, t1, d2, t2⟩ := a
    obtain ⟨hs, hd, hd1, hd2, ht1, ht2⟩ := h
    obtain ⟨n1, e1, hn1, a1, a2⟩ := lttOk_elim hs
    obtain ⟨n2, e2, hn2, b1, b2⟩ := lttOk_elim hd
    dsimp only at e1 e2 a1 a2 b1 b2 hd1 hd2 ht1 ht2
    rw [e1, e2]
    have := Denotes.alt (name_render n1 hn1) (offset_render (-std.off) (by omega)) (name_render n2 hn2)
      (DstOffset.given (offset_render (-dst.off) (by omega))) (daytime_render ext d1 t1 hd1 ht1)
      (daytime_render ext d2 t2 hd2 ht2) (by unfold Within24h; omega) (by unfold Within24h; omega)
    simpa [renderTz, Int.neg_neg] using this

theorem tz_roundtrip' (r : Rule) (ext : Bool) (h : RuleOk ext r) :
    from_tz_string (renderTz r) ext = .ok r :=
  tz_accepts_all' ext _ r (canonical_denotes' r ext h)

end Chrono.Proofs.Tz
