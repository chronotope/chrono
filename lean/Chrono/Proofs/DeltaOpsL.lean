/- C06: what the statements about operators, panicking constructors, closure of the range and the
derived relations in Props/C06.lean share. -/
import Chrono.Proofs.DeltaL
import Chrono.Proofs.DeltaDivL
import Chrono.Model.DeltaOps

namespace Chrono.Proofs.DeltaOps
open Chrono Chrono.M Chrono.Spec Chrono.Proofs Chrono.Extracted

theorem expect_ite (c : Prop) [Decidable c] (d : Delta) :
    Delta.expect (if c then some d else none) = if c then .ok d else .panic := by
  split <;> rfl

/-- an exact-or-refused result handed to `expect`: the value, or a panic instead of the refusal -/
theorem expect_eq {x : Option Delta} {c : Prop} [Decidable c] {d : Delta}
    (h : x = if c then some d else none) : Delta.expect x = if c then .ok d else .panic :=
  h ▸ expect_ite c d

/-- the operator impls: `checked_op(..).expect(..)` -/
theorem expect_bind {x : Res (Option Delta)} {c : Prop} [Decidable c] {d : Delta}
    (h : x = .ok (if c then some d else none)) :
    (x >>= Delta.expect) = if c then .ok d else .panic := by
  rw [h, Res.bind_ok]; exact expect_ite c d

theorem op_div_ok (a : Delta) (k : Int) (r : Delta) (h : Delta.checked_div a k = .ok (some r)) :
    Delta.div a k = .ok r := by
  unfold Delta.div
  rw [h, Res.bind_ok]
  rfl

theorem op_div_zero' (a : Delta) : Delta.div a 0 = .panic := by
  unfold Delta.div
  rw [div_zero' a, Res.bind_ok]
  rfl

/-! Whatever an exact-or-refused operation hands out is valid; `e` is the theorem that says the
operation is exact or refused, in each of the three shapes results come in. -/

theorem inv_of_some {x : Option Delta} {n : Int}
    (e : x = if nsInRange n then some (ofNs n) else none) (r : Delta) (h : x = some r) : DInv r := by
  subst e
  by_cases hr : nsInRange n
  · rw [ite_pos' _ _ hr] at h
    cases h
    exact (ofNs_spec' n hr).1
  · rw [ite_neg' _ _ hr] at h
    cases h

theorem inv_of_ok_some {x : Res (Option Delta)} {n : Int}
    (e : x = .ok (if nsInRange n then some (ofNs n) else none)) (r : Delta) (h : x = .ok (some r)) :
    DInv r :=
  inv_of_some rfl r (Res.ok.inj (e ▸ h))

theorem inv_of_ok {x : Res Delta} {n : Int}
    (e : x = if nsInRange n then .ok (ofNs n) else .panic) (r : Delta) (h : x = .ok r) : DInv r := by
  subst e
  by_cases hr : nsInRange n
  · rw [ite_pos' _ _ hr] at h
    cases h
    exact (ofNs_spec' n hr).1
  · rw [ite_neg' _ _ hr] at h
    cases h

end Chrono.Proofs.DeltaOps
