/- Helper lemmas for C17 at the level of the values: the stamp of a (possibly out-of-range) wall-clock
reading, `original ± TimeDelta::nanoseconds(d)` on a possibly leap-second operand (from C03's general
addition theorem and C07's extended-line rule), and their composition with the integer part. -/
import Chrono.Proofs.RoundSubL
import Chrono.Proofs.IterL
import Chrono.Proofs.ZonedL
import Chrono.Proofs.TimestampL
import Chrono.Model.RoundDT

namespace Chrono.Proofs.RoundDt
open Chrono Chrono.M Chrono.M.Round Chrono.Spec Chrono.Spec.Round Chrono.Extracted Chrono.Extracted.Round
open Chrono.Proofs Chrono.Proofs.RoundL

/-! ### the stamp of a reading of the extended calendar -/

theorem dayNum_ext_bounds (y o : Int) (hy : MIN_YEAR - 1 ≤ y ∧ y ≤ MAX_YEAR + 1) (ho : 1 ≤ o ∧ o ≤ 366) :
    -95746500 ≤ dayNumYo y o ∧ dayNumYo y o ≤ 95745800 := by
  have h1 := dby_mono (MIN_YEAR - 1) y hy.1
  have h2 := dby_mono y (MAX_YEAR + 1) hy.2
  have a : daysBeforeYear (MIN_YEAR - 1) = -95746496 := by decide
  have b : daysBeforeYear (MAX_YEAR + 1) = 95745399 := by decide
  unfold dayNumYo
  omega

/-- `timestamp()` of any reading of the extended calendar (the headroom day included) -/
theorem timestamp_ext (dt : NaiveDT) (h : ExtNDTInv dt) : NaiveDT.timestamp dt = .ok (instSecs dt) := by
  obtain ⟨hd, ht⟩ := h
  obtain ⟨h1, h2, h3, h4, _⟩ := hd
  obtain ⟨t1, t2, _, _⟩ := ht
  have hyl := yearLen_ge dt.date.year
  have hMIN : MIN_YEAR = -262143 := rfl
  have hMAX : MAX_YEAR = 262142 := rfl
  have hb := dayNum_ext_bounds dt.date.year dt.date.ordinal ⟨h1, h2⟩ ⟨h3, by omega⟩
  have hE : UNIX_EPOCH_DAY = 719163 := rfl
  have hE' : EPOCH_DAY = 719163 := rfl
  unfold NaiveDT.timestamp instSecs dayNumOf Time.num_seconds_from_midnight
  rw [num_days_spec dt.date (by omega) (by omega) (by omega)]
  simp only [Res.bind]
  rw [hE, hE']
  generalize dayNumYo dt.date.year dt.date.ordinal = g at *
  rw [ckI64_ok (by omega) (by omega)]
  simp only []
  rw [ckI64_ok (by omega) (by omega)]
  simp only []
  rw [ckI64_ok (by omega) (by omega)]

theorem instSecs_ext_bounds (dt : NaiveDT) (h : ExtNDTInv dt) :
    -8334700000000 ≤ instSecs dt ∧ instSecs dt ≤ 8210400000000 := by
  obtain ⟨hd, ht⟩ := h
  obtain ⟨h1, h2, h3, h4, _⟩ := hd
  obtain ⟨t1, t2, _, _⟩ := ht
  have hyl := yearLen_ge dt.date.year
  have hb := dayNum_ext_bounds dt.date.year dt.date.ordinal ⟨h1, h2⟩ ⟨h3, by omega⟩
  have hE' : EPOCH_DAY = 719163 := rfl
  unfold instSecs dayNumOf
  omega

/-- LOW-3 of the audit: the two models of `timestamp_nanos_opt` (on a `NaiveDT`, Model/DateTime.lean;
on `(timestamp, subsec)`, Model/Round.lean) agree, and the former never panics -/
theorem nanos_opt_bridge (dt : NaiveDT) (h : ExtNDTInv dt) :
    NaiveDT.timestamp_nanos_opt dt = .ok (Round.timestamp_nanos_opt (instSecs dt) dt.time.frac) := by
  have hts := timestamp_ext dt h
  unfold NaiveDT.timestamp_nanos_opt NaiveDT.timestamp_subsec_nanos Time.nanosecond
    Round.timestamp_nanos_opt
  rw [hts]
  simp only [Res.bind, STAMP_SCALE]

/-- the stamp for every nanosecond field, leap-second fields included (after fix 32de816 of
`timestamp_nanos_opt`): present exactly when the wall-clock line position is an `i64` -/
theorem timestamp_nanos_opt_eq2 (ts sub : Int) :
    Round.timestamp_nanos_opt ts sub =
      if InI64 (ts * 1000000000 + sub) then some (ts * 1000000000 + sub) else none := by
  unfold Round.timestamp_nanos_opt
  simp only [STAMP_SCALE]
  by_cases h : InI64 (ts * 1000000000 + sub)
  · rw [if_pos h, optI64_some h.1 h.2]
  · rw [if_neg h, optI64_none (by unfold InI64 at h; omega)]

/-! ### `original ± TimeDelta::nanoseconds(d)`, leap-second operands included -/

/-- the 64-bit window widened by one day on each side (the UTC reading of a zone-aware value whose
wall clock is inside the window) -/
def NearWindow (x : Int) : Prop :=
  -9223372036854775808 - 86400000000000 ≤ x ∧ x ≤ 9223372036854775807 + 86400000000000

/-- what `moved_general` says of the moved value -/
def Moved (dt : NaiveDT) (d : Int) (x : NaiveDT) : Prop :=
  NDTInv x ∧ instNs x = stamp_after (instNs dt) dt.time.frac d ∧
  (x.time.frac ≥ 1000000000 ↔ (dt.time.frac ≥ 1000000000 ∧ 1000000000 ≤ dt.time.frac + d ∧
    dt.time.frac + d < 2000000000)) ∧
  (TStrict dt.time → TStrict x.time)

/-- C07's extended-line sum, read on the stamp line -/
theorem addLeap_line (t : Time) (k : Int) (ht : TValid t) :
    pos (addLeap t k).1 + (addLeap t k).2 * 1000000000 = stamp_after (pos t) t.frac k := by
  unfold TValid at ht
  unfold addLeap pos stamp_after
  simp only []
  split
  · simp only []; rw [if_neg (by omega)]; omega
  · split
    · simp only []; rw [if_pos (by omega)]; omega
    · simp only []; rw [if_neg (by omega)]; omega

/-- a sum that is a leap-second representation lies in the operand's own leap second -/
theorem addLeap_leap_secs (t : Time) (k : Int) (h : (addLeap t k).1.frac ≥ 1000000000) :
    (addLeap t k).1.secs = t.secs := by
  unfold addLeap at h ⊢
  simp only [] at h ⊢
  split
  · rfl
  · rw [if_neg (by assumption)] at h; dsimp only at h; omega

/-- C03's general addition statement (`dt_add_general`: the date moved by the days carried out of C07's
extended-line sum) on second counts: refused exactly outside `MIN ..= MAX` -/
theorem shifted_secs (dt : NaiveDT) (k : Int) (r : Option NaiveDT) (hdt : NDTInv dt)
    (h1 : IsDayShift dt.date ((addLeap dt.time k).2 / 86400) (r.map (·.date)))
    (h2 : ∀ x, r = some x → x.time = (addLeap dt.time k).1) :
    let secs := instSecs dt - dt.time.secs + (addLeap dt.time k).2 + (addLeap dt.time k).1.secs
    (r = none ↔ (secs < instSecs NaiveDT.MIN ∨ instSecs NaiveDT.MAX < secs)) ∧
    ∀ x, r = some x → NDTInv x ∧ x.time = (addLeap dt.time k).1 ∧ instSecs x = secs := by
  intro secs
  obtain ⟨f1, f2, _⟩ := addLeap_facts dt.time k hdt.2
  obtain ⟨c1, c2, _⟩ := dn_consts
  have hmin : instSecs NaiveDT.MIN = (-95746129 - 719163) * 86400 := by decide
  have hmax : instSecs NaiveDT.MAX = (95745399 - 719163) * 86400 + 86399 := by decide
  have hE : EPOCH_DAY = 719163 := rfl
  have hs : secs = (dayNumOf dt.date + (addLeap dt.time k).2 / 86400 - 719163) * 86400 +
      (addLeap dt.time k).1.secs := by
    show instSecs dt - _ + _ + _ = _
    unfold instSecs; omega
  unfold TValid at f1
  obtain ⟨h1a, h1b⟩ := h1
  rw [c1, c2] at h1a
  rw [hs, hmin, hmax]
  constructor
  · constructor
    · intro e; have := h1a.mp (by rw [e]; rfl); omega
    · intro hh
      cases r with
      | none => rfl
      | some x => exfalso; have := h1a.mpr (by omega); cases this
  · intro x e
    subst e
    obtain ⟨hx1, hx2⟩ := h1b x.date rfl
    have ht := h2 x rfl
    exact ⟨⟨hx1, by rw [ht]; exact f1⟩, ht, by unfold instSecs; rw [hx2, ht, hE]⟩


theorem stamp_after_add (a b f k : Int) : stamp_after (a + b) f k = a + stamp_after b f k := by
  unfold stamp_after; split <;> omega

theorem stamp_after_near (a f k : Int) : a + k - 1000000000 ≤ stamp_after a f k ∧ stamp_after a f k ≤ a + k := by
  unfold stamp_after; split <;> omega

/-- C03's general addition statement read on the stamp line, for an operand inside the 64-bit window and
a move of at most `i64::MAX` ns: never refused; the result reads back as `stamp_after`; it is a leap-second
representation exactly when the move stays inside the operand's leap second. -/
theorem moved_general (dt : NaiveDT) (k : Int) (r : Option NaiveDT) (hdt : NDTInv dt)
    (hk : -9223372036854775807 ≤ k ∧ k ≤ 9223372036854775807) (hw : NearWindow (instNs dt))
    (h1 : IsDayShift dt.date ((addLeap dt.time k).2 / 86400) (r.map (·.date)))
    (h2 : ∀ x, r = some x → x.time = (addLeap dt.time k).1) :
    ∃ x, r = some x ∧ Moved dt k x := by
  have f1 := (addLeap_facts dt.time k hdt.2).1
  -- the stamp of the sum, whether or not it is representable
  have hst : (instSecs dt - dt.time.secs + (addLeap dt.time k).2 + (addLeap dt.time k).1.secs) * 1000000000 +
      (addLeap dt.time k).1.frac = stamp_after (instNs dt) dt.time.frac k := by
    have e : instNs dt = (instSecs dt - dt.time.secs) * 1000000000 + pos dt.time := by
      unfold instNs pos; omega
    rw [e, stamp_after_add, ← addLeap_line dt.time k hdt.2]; unfold pos; omega
  have hin : ¬ (instSecs dt - dt.time.secs + (addLeap dt.time k).2 + (addLeap dt.time k).1.secs <
        instSecs NaiveDT.MIN ∨
      instSecs NaiveDT.MAX < instSecs dt - dt.time.secs + (addLeap dt.time k).2 + (addLeap dt.time k).1.secs) := by
    have hmin : instSecs NaiveDT.MIN = (-95746129 - 719163) * 86400 := by decide
    have hmax : instSecs NaiveDT.MAX = (95745399 - 719163) * 86400 + 86399 := by decide
    have := stamp_after_near (instNs dt) dt.time.frac k
    unfold NearWindow at hw
    unfold TValid at f1
    omega
  obtain ⟨hnone, hsome⟩ := shifted_secs dt k r hdt h1 h2
  cases r with
  | none => exact absurd (hnone.mp rfl) hin
  | some x =>
    obtain ⟨hx, ht, hsecs⟩ := hsome x rfl
    refine ⟨x, rfl, hx, ?_, ?_, ?_⟩
    · unfold instNs; rw [hsecs, ht]; exact hst
    · rw [ht, (addLeap_facts dt.time k hdt.2).2.2.2]; unfold pos; omega
    · intro hs
      refine ⟨hx.2, ?_⟩
      rw [ht]
      by_cases hl : (addLeap dt.time k).1.frac ≥ 1000000000
      · right; rw [addLeap_leap_secs dt.time k hl]; exact hs.2.resolve_left (by have := (addLeap_facts dt.time k hdt.2).2.2.2.mp hl; omega)
      · left; omega

theorem nanos_delta (d : Int) (h : -9223372036854775807 ≤ d ∧ d ≤ 9223372036854775807) :
    DInv (Delta.nanoseconds d) ∧ ns (Delta.nanoseconds d) = d := by
  obtain ⟨_, _, e, hi⟩ := micro_nano_exact' d ⟨by omega, h.2⟩
  refine ⟨hi, ?_⟩
  rw [e]
  exact (ofNs_spec' d (by simp only [nsInRange, NS_MAX]; omega)).2

theorem moved_zero (dt : NaiveDT) (hdt : NDTInv dt) : Moved dt 0 dt := by
  have := hdt.2.2.2.2
  refine ⟨hdt, ?_, ?_, fun h => h⟩
  · unfold stamp_after; rw [if_neg (by omega)]; omega
  · omega

/-- `original ± TimeDelta::nanoseconds(|d|)` for a signed count `d ≠ 0`, on a `NaiveDateTime` (`z.utc`) and
on a `DateTime` with that UTC reading: `expect` of one checked result, which C03's general statement
describes -/
theorem signed_move (z : Zoned) (d : Int) (hz : NDTInv z.utc)
    (hk : -9223372036854775807 ≤ d ∧ d ≤ 9223372036854775807) (h0 : d ≠ 0) :
    ∃ r, apply_move NaiveDT.add NaiveDT.sub z.utc d = expectSome (.ok r) ∧
      apply_move Zoned.add Zoned.sub z d = expectSome (.ok (r.map fun u => ⟨u, z.off⟩)) ∧
      IsDayShift z.utc.date ((addLeap z.utc.time d).2 / 86400) (r.map (·.date)) ∧
      ∀ x, r = some x → x.time = (addLeap z.utc.time d).1 := by
  unfold apply_move
  rw [if_neg h0, if_neg h0]
  by_cases hp : d > 0
  · obtain ⟨hi, hn⟩ := nanos_delta d hk
    obtain ⟨r, e0, e1, e2⟩ := dt_add_general z.utc _ hz hi
    rw [hn] at e1 e2
    rw [if_pos hp, if_pos hp]
    exact ⟨r, by unfold NaiveDT.add; rw [e0], by unfold Zoned.add; rw [zoned_add_eq, e0]; rfl, e1, e2⟩
  · obtain ⟨hi, hn⟩ := nanos_delta (-d) ⟨by omega, by omega⟩
    obtain ⟨r, e0, e1, e2⟩ := dt_sub_general z.utc _ hz hi
    rw [hn, Int.neg_neg] at e1 e2
    rw [if_neg hp, if_neg hp]
    exact ⟨r, by unfold NaiveDT.sub; rw [e0], by unfold Zoned.sub; rw [zoned_sub_eq, e0]; rfl, e1, e2⟩

/-- the last step of `DurationRound for NaiveDateTime` (on `z.utc`) and `for DateTime<Tz>` (the UTC
reading moves, the offset is kept): no panic, and the value moved as `Moved` says -/
theorem move_eval (z : Zoned) (d : Int) (hz : NDTInv z.utc)
    (hk : -9223372036854775807 ≤ d ∧ d ≤ 9223372036854775807) (hw : NearWindow (instNs z.utc)) :
    ∃ x, apply_move NaiveDT.add NaiveDT.sub z.utc d = .ok x ∧
      apply_move Zoned.add Zoned.sub z d = .ok ⟨x, z.off⟩ ∧ Moved z.utc d x ∧ (d = 0 → x = z.utc) := by
  by_cases h0 : d = 0
  · subst h0
    exact ⟨z.utc, rfl, rfl, moved_zero z.utc hz, fun _ => rfl⟩
  · obtain ⟨r, ha, hb, h1, h2⟩ := signed_move z d hz hk h0
    obtain ⟨x, hx, hm⟩ := moved_general z.utc d r hz hk hw h1 h2
    exact ⟨x, by rw [ha, hx]; rfl, by rw [hb, hx]; rfl, hm, fun h => absurd h h0⟩

/-! ### composition -/

theorem refusedMax_eq (op : Op) : refusedMax op = 0 := by cases op <;> rfl

/-- the generic function is the integer path (`on_datetime`, what `rd.trunc/round/up` run) on the
stamp of `naive`, followed by the move of `original` -/
theorem generic_eq {α : Type} (op : Op) (naive : NaiveDT) (hn : ExtNDTInv naive) (orig : α)
    (add sub : α → Delta → Res α) (dur : Delta) :
    duration_generic op naive orig add sub dur =
      finish add sub orig (on_datetime op (instSecs naive) naive.time.frac 0 dur) := by
  unfold duration_generic on_datetime wall_stamp
  rw [nanos_opt_bridge naive hn, Int.add_zero, refusedMax_eq]
  cases dur.num_nanoseconds with
  | none => simp only []; rw [run_span_none]; rfl
  | some span =>
    simp only []
    by_cases hs : span ≤ 0
    · rw [if_pos hs, run_span_nonpos op _ span hs]; rfl
    · rw [if_neg hs]

theorem spec_move_bounds (k : Kind) (w p : Int) (hp : 0 < p ∧ p ≤ 9223372036854775807) :
    -9223372036854775807 ≤ specOf k w p - w ∧ specOf k w p - w ≤ 9223372036854775807 := by
  have := spec_bounds k w p hp.1
  omega

/-- the whole call for either receiver: the stamp is read from `naive`; `hmove` says what
`original ± TimeDelta::nanoseconds` does to `original` when that stamp is in the window -/
theorem generic_eval {α : Type} (op : Op) (naive : NaiveDT) (hn : ExtNDTInv naive) (orig : α)
    (add sub : α → Delta → Res α) (dur : Delta) (hd : DInv dur) (P : Int → α → Prop)
    (hmove : InI64 (instNs naive) → ∀ d, -9223372036854775807 ≤ d ∧ d ≤ 9223372036854775807 →
      ∃ x, apply_move add sub orig d = .ok x ∧ P d x) :
    (ns dur ≤ 0 ∨ 9223372036854775807 < ns dur →
      duration_generic op naive orig add sub dur = .ok (.err .DurationExceedsLimit)) ∧
    (0 < ns dur ∧ ns dur ≤ 9223372036854775807 → ¬ InI64 (instNs naive) →
      duration_generic op naive orig add sub dur = .ok (.err .TimestampExceedsLimit)) ∧
    (0 < ns dur ∧ ns dur ≤ 9223372036854775807 → InI64 (instNs naive) →
      ∃ x, duration_generic op naive orig add sub dur = .ok (.ok x) ∧
        P (specOf (kindOf op) (instNs naive) (ns dur) - instNs naive) x) := by
  have hint := on_datetime_eq2 op (instSecs naive) naive.time.frac 0 dur hd
  rw [Int.add_zero, show instSecs naive * 1000000000 + naive.time.frac = instNs naive from rfl] at hint
  rw [generic_eq op naive hn orig add sub dur, hint]
  refine ⟨fun hbad => ?_, fun hgood hno => ?_, fun hgood hok => ?_⟩
  · rw [if_pos hbad]; rfl
  · rw [if_neg (by omega), if_pos hno]; rfl
  · rw [if_neg (by omega), if_neg (not_not.mpr hok)]
    obtain ⟨x, hx, hP⟩ := hmove hok _ (spec_move_bounds (kindOf op) _ _ hgood)
    exact ⟨x, by unfold finish; simp only []; rw [hx], hP⟩

/-- `DurationRound for NaiveDateTime`, every valid value (leap-second representations included),
every valid `TimeDelta` -/
theorem naive_eval (op : Op) (dt : NaiveDT) (dur : Delta) (hdt : NDTInv dt) (hd : DInv dur) :
    (ns dur ≤ 0 ∨ 9223372036854775807 < ns dur →
      naive_duration op dt dur = .ok (.err .DurationExceedsLimit)) ∧
    (0 < ns dur ∧ ns dur ≤ 9223372036854775807 → ¬ InI64 (instNs dt) →
      naive_duration op dt dur = .ok (.err .TimestampExceedsLimit)) ∧
    (0 < ns dur ∧ ns dur ≤ 9223372036854775807 → InI64 (instNs dt) →
      ∃ x, naive_duration op dt dur = .ok (.ok x) ∧
        Moved dt (specOf (kindOf op) (instNs dt) (ns dur) - instNs dt) x ∧
        (specOf (kindOf op) (instNs dt) (ns dur) = instNs dt → x = dt)) := by
  obtain ⟨e1, e2, e3⟩ := generic_eval op dt ⟨((dateInv_iff dt.date).mp hdt.1).1, hdt.2⟩ dt NaiveDT.add
    NaiveDT.sub dur hd (fun d x => Moved dt d x ∧ (d = 0 → x = dt))
    (fun hok d hd' => by
      obtain ⟨x, ha, _, hm⟩ := move_eval ⟨dt, 0⟩ d hdt hd' (by unfold InI64 at hok; show NearWindow (instNs dt); unfold NearWindow; omega)
      exact ⟨x, ha, hm⟩)
  refine ⟨e1, e2, fun hg hin => ?_⟩
  obtain ⟨x, hx, hm, h0⟩ := e3 hg hin
  exact ⟨x, hx, hm, fun h => h0 (by omega)⟩

/-- `DurationRound for DateTime<FixedOffset>`: the stamp is that of the wall clock
(`overflowing_naive_local`, also when it lies in the headroom day outside chrono's range), the UTC
reading is moved, the offset is kept -/
theorem zoned_eval (op : Op) (z : Zoned) (dur : Delta) (hz : ZInv z) (hd : DInv dur) :
    (ns dur ≤ 0 ∨ 9223372036854775807 < ns dur →
      zoned_duration op z dur = .ok (.err .DurationExceedsLimit)) ∧
    (0 < ns dur ∧ ns dur ≤ 9223372036854775807 → ¬ InI64 (wallNs z) →
      zoned_duration op z dur = .ok (.err .TimestampExceedsLimit)) ∧
    (0 < ns dur ∧ ns dur ≤ 9223372036854775807 → InI64 (wallNs z) →
      ∃ x, zoned_duration op z dur = .ok (.ok ⟨x, z.off⟩) ∧
        Moved z.utc (specOf (kindOf op) (wallNs z) (ns dur) - wallNs z) x ∧
        (specOf (kindOf op) (wallNs z) (ns dur) = wallNs z → x = z.utc)) := by
  obtain ⟨l, hl, hext, hsecs, hfrac, _, _⟩ := naive_local_spec z hz
  have hwall : instNs l = wallNs z := by
    unfold instNs wallNs; rw [hsecs, hfrac]; unfold wallSecs instNs; omega
  have ho := hz.2
  obtain ⟨e1, e2, e3⟩ := generic_eval op l hext z Zoned.add Zoned.sub dur hd
    (fun d v => ∃ x, v = ⟨x, z.off⟩ ∧ Moved z.utc d x ∧ (d = 0 → x = z.utc))
    (fun hok d hd' => by
      obtain ⟨x, _, hx, hm, h0⟩ := move_eval z d hz.1 hd' (by
        rw [hwall] at hok; unfold InI64 wallNs at hok; unfold OffValid at ho; unfold NearWindow; omega)
      exact ⟨_, hx, x, rfl, hm, h0⟩)
  rw [hwall] at e2 e3
  unfold zoned_duration
  rw [hl]
  refine ⟨e1, e2, fun hg hin => ?_⟩
  obtain ⟨v, hv, x, rfl, hm, h0⟩ := e3 hg hin
  exact ⟨x, hv, hm, fun h => h0 (by omega)⟩

theorem moved_nonleap (dt x : NaiveDT) (d : Int) (hn : NonLeap dt) (h : Moved dt d x) :
    NDTInv x ∧ NonLeap x ∧ instNs x = instNs dt + d := by
  obtain ⟨h1, h2, h3, _⟩ := h
  unfold NonLeap at *
  refine ⟨h1, by omega, ?_⟩
  rw [h2]; unfold stamp_after; rw [if_neg (by omega)]

/-- an `Ok` result can only come from the third case of `naive_eval` -/
theorem naive_ok_inv (op : Op) (dt v : NaiveDT) (dur : Delta) (hdt : NDTInv dt) (hd : DInv dur)
    (h : naive_duration op dt dur = .ok (.ok v)) :
    (0 < ns dur ∧ ns dur ≤ 9223372036854775807) ∧ InI64 (instNs dt) ∧
    Moved dt (specOf (kindOf op) (instNs dt) (ns dur) - instNs dt) v ∧
    (specOf (kindOf op) (instNs dt) (ns dur) = instNs dt → v = dt) := by
  obtain ⟨e1, e2, e3⟩ := naive_eval op dt dur hdt hd
  by_cases hg : 0 < ns dur ∧ ns dur ≤ 9223372036854775807
  · by_cases hs : InI64 (instNs dt)
    · obtain ⟨x, hx, hm, hz⟩ := e3 hg hs
      rw [hx] at h
      cases h
      exact ⟨hg, hs, hm, hz⟩
    · rw [e2 hg hs] at h; cases h
  · rw [e1 (by omega)] at h; cases h

theorem zoned_ok_inv (op : Op) (z v : Zoned) (dur : Delta) (hz : ZInv z) (hd : DInv dur)
    (h : zoned_duration op z dur = .ok (.ok v)) :
    (0 < ns dur ∧ ns dur ≤ 9223372036854775807) ∧ InI64 (wallNs z) ∧
    v.off = z.off ∧ Moved z.utc (specOf (kindOf op) (wallNs z) (ns dur) - wallNs z) v.utc ∧
    (specOf (kindOf op) (wallNs z) (ns dur) = wallNs z → v = z) := by
  obtain ⟨e1, e2, e3⟩ := zoned_eval op z dur hz hd
  by_cases hg : 0 < ns dur ∧ ns dur ≤ 9223372036854775807
  · by_cases hs : InI64 (wallNs z)
    · obtain ⟨x, hx, hm, hzero⟩ := e3 hg hs
      rw [hx] at h
      cases h
      exact ⟨hg, hs, rfl, hm, fun e => by rw [hzero e]⟩
    · rw [e2 hg hs] at h; cases h
  · rw [e1 (by omega)] at h; cases h

/-- the corollaries of "the stamp of the result is `specOf k w p`", on integers -/
theorem spec_corollaries (op : Op) (w p : Int) (hp : 0 < p) :
    p ∣ specOf (kindOf op) w p ∧
    -p < specOf (kindOf op) w p - w ∧ specOf (kindOf op) w p - w < p ∧
    (op = .trunc → specOf (kindOf op) w p ≤ w) ∧ (op = .up → w ≤ specOf (kindOf op) w p) ∧
    (op = .round → 2 * (specOf (kindOf op) w p - w) ≤ p ∧ -p < 2 * (specOf (kindOf op) w p - w)) ∧
    (p ∣ w ↔ specOf (kindOf op) w p = w) := by
  have hb := spec_bounds (kindOf op) w p hp
  have hs := spec_sides w p hp
  refine ⟨spec_dvd _ w p, hb.1, hb.2, ?_, ?_, ?_, spec_fixed_iff _ w p hp⟩
  · intro e; subst e; exact hs.1
  · intro e; subst e; exact hs.2.1
  · intro e; subst e; exact hs.2.2

/-- `Moved` for an operand inside a leap second, spelled out -/
theorem moved_leap (dt x : NaiveDT) (d : Int) (hl : ¬ NonLeap dt) (h : Moved dt d x) :
    NDTInv x ∧
    (dt.time.frac + d < 2000000000 → instNs x = instNs dt + d) ∧
    (2000000000 ≤ dt.time.frac + d → instNs x = instNs dt + d - 1000000000 ∧ NonLeap x) ∧
    (¬ NonLeap x ↔ (1000000000 ≤ dt.time.frac + d ∧ dt.time.frac + d < 2000000000)) ∧
    (TStrict dt.time → TStrict x.time) := by
  obtain ⟨h1, h2, h3, h4⟩ := h
  unfold NonLeap at *
  unfold stamp_after at h2
  refine ⟨h1, ?_, ?_, by omega, h4⟩
  · intro hlt; rw [h2, if_neg (by omega)]
  · intro hge; rw [h2, if_pos (by omega)]; exact ⟨rfl, by omega⟩

end Chrono.Proofs.RoundDt
