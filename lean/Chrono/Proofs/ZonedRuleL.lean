/-
  C04, stepping: the failure set of `checked_add_days / checked_sub_days / checked_add_months /
  checked_sub_months` measured against a rule that does not mention the implementation's filters:

      a step succeeds  iff  the stepped INSTANT lies in `MIN_UTC ..= MAX_UTC`
                       and  the stepped WALL CLOCK is a reading of the nominal range.

  The implementation's own conditions (`zoned_add_days`, `zoned_sub_days`, `zoned_months` of
  Proofs/ZonedStepL.lean: a one-sided filter plus the date validation of `NaiveDate::add_days` /
  `checked_add_months`) are proved equivalent to that rule for day steps with `n > 0`; for month
  steps the only difference is a leap-second representation in the last second of the range.
  Namespace `Chrono.Proofs.ZNR`.
-/
import Chrono.Proofs.ZonedStepL

namespace Chrono.Proofs.ZNR
open Chrono Chrono.M Chrono.Spec Chrono.Proofs Chrono.Proofs.ZN Chrono.Extracted

/-- arithmetic core: a wall clock `w = i + off` whose day number is `dl`, second of day `sod`; the
range ends enter only as the names `DAY_MIN`, `DAY_MAX` -/
theorem add_core (i off dl sod f n : Int) (hw : (dl - EPOCH_DAY) * 86400 + sod = i + off)
    (hsod : 0 ≤ sod ∧ sod < 86400) (hoff : -86400 < off ∧ off < 86400) (hi : InRangeSecs i) (hn : 0 < n) :
    ((DAY_MIN ≤ dl + n ∧ dl + n ≤ DAY_MAX) ∧ LeMaxUtc (i + n * 86400) f) ↔
    (InUtcRange (i + n * 86400) f ∧ InRangeSecs (i + off + n * 86400)) := by
  unfold LeMaxUtc InUtcRange InRangeSecs SECS_MIN SECS_MAX at *
  omega

theorem sub_core (i off dl sod f n : Int) (hw : (dl - EPOCH_DAY) * 86400 + sod = i + off)
    (hsod : 0 ≤ sod ∧ sod < 86400) (_hoff : -86400 < off ∧ off < 86400) (hi : InRangeSecs i) (hn : 0 < n) :
    ((n = 0 ∨ (DAY_MIN ≤ dl - n ∧ dl - n ≤ DAY_MAX)) ∧ GeMinUtc (i - n * 86400)) ↔
    (InUtcRange (i - n * 86400) f ∧ InRangeSecs (i + off - n * 86400)) := by
  unfold GeMinUtc InUtcRange InRangeSecs SECS_MIN SECS_MAX at *
  omega

/-- **day steps forwards, `n > 0`**: the implementation's success condition is the rule -/
theorem add_days_rule (z : Zoned) (hz : ZInv z) (l : NaiveDT) (hl : Zoned.overflowing_naive_local z = .ok l)
    (n : Int) (hn : 0 < n) :
    ((DAY_MIN ≤ dayNumOf l.date + n ∧ dayNumOf l.date + n ≤ DAY_MAX) ∧
      LeMaxUtc (instSecs z.utc + n * 86400) z.utc.time.frac) ↔
    (InUtcRange (instSecs z.utc + n * 86400) z.utc.time.frac ∧ InRangeSecs (wallSecs z + n * 86400)) := by
  obtain ⟨hext, hls, _, _, _, _, hur⟩ := wall_date_cases z hz l hl
  exact add_core _ _ _ _ _ n hls ⟨hext.2.1, hext.2.2.1⟩ hz.2 hur hn

/-- **day steps backwards, `n > 0`** -/
theorem sub_days_rule (z : Zoned) (hz : ZInv z) (l : NaiveDT) (hl : Zoned.overflowing_naive_local z = .ok l)
    (n : Int) (hn : 0 < n) :
    ((n = 0 ∨ (DAY_MIN ≤ dayNumOf l.date - n ∧ dayNumOf l.date - n ≤ DAY_MAX)) ∧
      GeMinUtc (instSecs z.utc - n * 86400)) ↔
    (InUtcRange (instSecs z.utc - n * 86400) z.utc.time.frac ∧ InRangeSecs (wallSecs z - n * 86400)) := by
  obtain ⟨hext, hls, _, _, _, _, hur⟩ := wall_date_cases z hz l hl
  exact sub_core _ _ _ _ z.utc.time.frac n hls ⟨hext.2.1, hext.2.2.1⟩ hz.2 hur hn

/-- when can the two halves of the rule disagree: the stepped instant in `MIN_UTC ..= MAX_UTC` while
the stepped wall clock is outside the nominal range — only within a day of a range end and only
with the offset pointing outwards -/
theorem exception_shape (i off f : Int) (hoff : -86400 < off ∧ off < 86400)
    (hin : InUtcRange i f) (hout : ¬ InRangeSecs (i + off)) :
    (0 < off ∧ SECS_MAX - off < i ∧ SECS_MAX < i + off ∧ i + off ≤ SECS_MAX + 86399) ∨
    (off < 0 ∧ i < SECS_MIN - off ∧ i + off < SECS_MIN ∧ SECS_MIN - 86399 ≤ i + off) := by
  unfold InUtcRange InRangeSecs at *
  omega

/-- the same for a step of `n > 0` days from an instant of the range: forwards only the upper end can
be overshot, backwards only the lower -/
theorem exception_fwd (i off f n : Int) (hoff : -86400 < off ∧ off < 86400) (hi : SECS_MIN ≤ i) (hn : 0 < n)
    (hin : InUtcRange (i + n * 86400) f) (hout : ¬ InRangeSecs (i + off + n * 86400)) :
    0 < off ∧ SECS_MAX < i + off + n * 86400 ∧ i + off + n * 86400 ≤ SECS_MAX + 86399 := by
  rcases exception_shape (i + n * 86400) off f hoff hin (by rwa [Int.add_right_comm]) with h | h <;> omega

theorem exception_bwd (i off f n : Int) (hoff : -86400 < off ∧ off < 86400) (hi : i ≤ SECS_MAX) (hn : 0 < n)
    (hin : InUtcRange (i - n * 86400) f) (hout : ¬ InRangeSecs (i + off - n * 86400)) :
    off < 0 ∧ i + off - n * 86400 < SECS_MIN ∧ SECS_MIN - 86399 ≤ i + off - n * 86400 := by
  rcases exception_shape (i - n * 86400) off f hoff hin
    (by rwa [show i - n * 86400 + off = i + off - n * 86400 by omega]) with h | h <;> omega

/-- `¬ InRangeSecs` against `¬ InUtcRange`: they differ exactly on a leap-second representation in
the last second of the range -/
theorem inrange_vs_utc (s f : Int) :
    InRangeSecs s ↔ (InUtcRange s f ∨ (s = SECS_MAX ∧ f ≥ 1000000000)) := by
  have : SECS_MIN ≤ SECS_MAX := by decide
  unfold InUtcRange InRangeSecs
  omega

/-- the refusal condition of an operation without the `≤ MAX_UTC` filter, on a stepped date `x` with
the time of day `t` kept, in terms of `InUtcRange` -/
theorem refused_iff (x : Option Date) (t : Time) (off : Int) :
    ((x.map fun nd => (⟨nd, t⟩ : NaiveDT)) = none ∨
      ∃ nl, (x.map fun nd => (⟨nd, t⟩ : NaiveDT)) = some nl ∧ ¬ InRangeSecs (instSecs nl - off)) ↔
    (x = none ∨ ∃ nd, x = some nd ∧
      ¬ (InUtcRange (instSecs ⟨nd, t⟩ - off) t.frac ∨
         (instSecs ⟨nd, t⟩ - off = SECS_MAX ∧ t.frac ≥ 1000000000))) := by
  cases x with
  | none => exact ⟨fun _ => Or.inl rfl, fun _ => Or.inl rfl⟩
  | some nd =>
    constructor
    · rintro (h | ⟨nl, h, hn⟩)
      · cases h
      · cases h; exact Or.inr ⟨nd, rfl, by rw [← inrange_vs_utc]; exact hn⟩
    · rintro (h | ⟨nd', h, hn⟩)
      · cases h
      · cases h; exact Or.inr ⟨_, rfl, by rw [inrange_vs_utc _ t.frac]; exact hn⟩

end Chrono.Proofs.ZNR
