/-
  C20: the offset tail `±hh:mm` the RFC 3339 writer can produce for ANY offset of less than a day
  (0 … 1440 minutes after rounding, either sign, `±24:00` included) is read by the tail of the relaxed reader
  as that many minutes, with nothing left over.
-/
import Chrono.Proofs.TextFormsFin
import Chrono.Spec.SerdeStrAnySpec
namespace Chrono.Proofs.SerdeAny
open Chrono Chrono.M Chrono.M.Scan Chrono.M.Format Chrono.Spec.Serde Chrono.Spec.Text
open Chrono.Proofs.RenderScan Chrono.Proofs.TextForms

/-- **offset reader in the relaxed mode** (`colon_or_space` between hours and minutes; `RenderScan.tzoffset_numeric`
is the same for `charColon`): sign, two-digit hours, `:`, two-digit minutes below 60 -/
theorem tzoffset_relaxed (neg : Bool) (hh mm : Nat) (hh100 : hh < 100) (mm60 : mm < 60) (rest : List Nat)
    (zulu missing minus : Bool) :
    timezone_offset ((if neg then 45 else 43) :: (two hh ++ 58 :: (two mm ++ rest))) .colonOrSpace zulu missing minus =
      .ok (rest, if neg then -((hh : Int) * 3600 + (mm : Int) * 60) else (hh : Int) * 3600 + (mm : Int) * 60) := by
  -- `colon_or_space` takes the colon and stops at the first digit of the minutes
  have hsep : consumeColon .colonOrSpace ([58] ++ (two mm ++ rest)) = .ok (two mm ++ rest) :=
    congrArg Except.ok (colon_or_space_colon (48 + mm / 10) _ (by omega) (by omega) (by omega))
  cases neg
  · exact tzoffset_two 43 (Or.inl rfl) hh mm hh100 mm60 [58] rest .colonOrSpace zulu missing minus hsep
  · exact tzoffset_two 45 (Or.inr rfl) hh mm hh100 mm60 [58] rest .colonOrSpace zulu missing minus hsep

/-- what the tail of the relaxed reader makes of a `±hh:mm` tail of up to 1440 minutes -/
theorem tail_facts (neg : Bool) (m : Nat) (hm : m < 1441) :
    TailOk (signedHhmm neg m) ∧ trimStart (trimStart (signedHhmm neg m)) = signedHhmm neg m ∧
    (if (signedHhmm neg m).length ≥ 3 ∧ lowerS (List.take 3 (signedHhmm neg m)) = [117, 116, 99] then
        Except.ok (List.drop 3 (signedHhmm neg m), (0 : Int))
      else timezone_offset (signedHhmm neg m) .colonOrSpace true false true) =
      .ok ([], if neg then -((m : Int) * 60) else (m : Int) * 60) := by
  have hs : signedHhmm neg m = (if neg then 45 else 43) :: (two (m / 60) ++ 58 :: (two (m % 60) ++ [])) := by
    unfold signedHhmm
    rw [decN_two _ (by omega), decN_two _ (by omega), List.append_assoc, List.append_nil]
    rfl
  have hb : 33 ≤ (if neg then 45 else 43) ∧ (if neg then 45 else 43) < 128 := by cases neg <;> decide
  obtain ⟨t1, _, t3⟩ := sign_head (if neg then 45 else 43) (by cases neg <;> simp)
    (two (m / 60) ++ 58 :: (two (m % 60) ++ []))
  rw [hs]
  refine ⟨t1, by rw [trimStart_ascii _ _ hb.1 hb.2, trimStart_ascii _ _ hb.1 hb.2], ?_⟩
  rw [if_neg t3, tzoffset_relaxed neg (m / 60) (m % 60) (by omega) (by omega) [] true false true]
  congr 2
  split <;> omega

end Chrono.Proofs.SerdeAny
