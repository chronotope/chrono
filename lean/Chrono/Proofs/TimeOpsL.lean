/- Helper lemmas for the C07 audit gap G7: the operator impls of `NaiveTime` (Model/TimeOps.lean). -/
import Chrono.Proofs.TimeL
import Chrono.Model.TimeOps

namespace Chrono.Proofs.TimeGaps
open Chrono Chrono.M Chrono.Spec Chrono.Proofs Chrono.Extracted

theorem op_add (t : Time) (d : Delta) (ht : TValid t) (hd : DInv d) :
    Time.add t d = .ok (addLeap t (ns d)).1 := by
  unfold Time.add
  rw [add_spec' t d ht hd, rbind_ok]

theorem op_sub (t : Time) (d : Delta) (ht : TValid t) (hd : DInv d) :
    Time.sub t d = .ok (addLeap t (-(ns d))).1 := by
  unfold Time.sub
  rw [sub_spec' t d ht hd, rbind_ok]

/-- `shiftOff` in words: the second of the day moves by `off` modulo one day -/
theorem shiftOff_secs (t : Time) (off : Int) :
    (shiftOff t off).1 = ⟨(t.secs + off) % 86400, t.frac⟩ := rfl

end Chrono.Proofs.TimeGaps
