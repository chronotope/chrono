/- Helper lemmas for C16, part 4: proper prefixes of an accepted TZif file are rejected. -/
import Chrono.Proofs.TzParseL

namespace Chrono.Proofs.Tz
open Chrono Chrono.M.Tz Chrono.Spec.Tz Chrono.Extracted.TzP

/-! ### reading from a longer input: same value, the extra bytes stay in the remainder -/
/-- `r'` is what `r` becomes when `q` is appended to the input -/
def Rel {α} (q : List Nat) (r r' : P (α × Cursor)) : Prop :=
  ∀ a c', r = .ok (a, c') → r' = .ok (a, c' ++ q)

theorem rel_bind {α β} {q : List Nat} {r r' : P (α × Cursor)} {g : α × Cursor → P (β × Cursor)}
    (h1 : Rel q r r') (h2 : ∀ a c1, Rel q (g (a, c1)) (g (a, c1 ++ q))) :
    Rel q (r >>= g) (r' >>= g) := by
  intro b c' e
  cases r with
  | ok x =>
    obtain ⟨a, c1⟩ := x
    rw [h1 a c1 rfl]
    exact h2 a c1 b c' e
  | err => cases e
  | panic => cases e

theorem rel_bind_pure {α β} {q : List Nat} {r : P α} {g g' : α → P (β × Cursor)}
    (h2 : ∀ a, Rel q (g a) (g' a)) : Rel q (r >>= g) (r >>= g') := by
  intro b c' e
  cases r with
  | ok a => exact h2 a b c' e
  | err => cases e
  | panic => cases e

theorem rel_err {α} {q : List Nat} {r' : P (α × Cursor)} : Rel q (.err : P (α × Cursor)) r' := by
  intro a c e; cases e

theorem rel_ok {α} {q : List Nat} (a : α) (c : Cursor) : Rel q (.ok (a, c)) (.ok (a, c ++ q)) := by
  intro a' c' e; cases e; rfl

theorem rel_read_exact (q c : List Nat) (n : Nat) : Rel q (read_exact c n) (read_exact (c ++ q) n) := by
  intro a c' e
  unfold read_exact at e ⊢
  split at e
  · rename_i h
    cases e
    rw [if_pos (by simp; omega)]
    rw [List.take_append_of_le_length h, List.drop_append_of_le_length h]
  · cases e

theorem rel_read_be_u32 (q c : List Nat) : Rel q (read_be_u32 c) (read_be_u32 (c ++ q)) := by
  intro a c' e
  unfold read_be_u32 at e ⊢
  cases h : read_exact c 4 with
  | ok x =>
    obtain ⟨bs, c1⟩ := x
    rw [h] at e
    rw [rel_read_exact q c 4 bs c1 h]
    simp only at e ⊢
    cases e; rfl
  | err => rw [h] at e; cases e
  | panic => rw [h] at e; cases e

theorem rel_header_new (q c : List Nat) : Rel q (Header.new c) (Header.new (c ++ q)) := by
  unfold Header.new
  refine rel_bind (rel_read_exact q c 4) ?_
  intro magic c1
  dsimp only
  split
  · exact rel_err
  · refine rel_bind (rel_read_exact q c1 1) ?_
    intro vb c2
    dsimp only
    split
    · exact rel_err
    · refine rel_bind (rel_read_exact q c2 _) ?_
      intro _ c3
      refine rel_bind (rel_read_be_u32 q c3) ?_
      intro n1 c4
      refine rel_bind (rel_read_be_u32 q c4) ?_
      intro n2 c5
      refine rel_bind (rel_read_be_u32 q c5) ?_
      intro n3 c6
      refine rel_bind (rel_read_be_u32 q c6) ?_
      intro n4 c7
      refine rel_bind (rel_read_be_u32 q c7) ?_
      intro n5 c8
      refine rel_bind (rel_read_be_u32 q c8) ?_
      intro n6 c9
      dsimp only
      split
      · exact rel_err
      · exact rel_ok _ _

theorem rel_state_new (q c : List Nat) (first : Bool) :
    Rel q (State.new c first) (State.new (c ++ q) first) := by
  unfold State.new
  refine rel_bind (rel_header_new q c) ?_
  intro hd c0
  dsimp only
  refine rel_bind_pure ?_
  intro n1
  refine rel_bind (rel_read_exact q c0 _) ?_
  intro tt c1
  refine rel_bind (rel_read_exact q c1 _) ?_
  intro ty c2
  dsimp only
  refine rel_bind_pure ?_
  intro n3
  refine rel_bind (rel_read_exact q c2 _) ?_
  intro lt c3
  refine rel_bind (rel_read_exact q c3 _) ?_
  intro nm c4
  dsimp only
  refine rel_bind_pure ?_
  intro n5
  refine rel_bind (rel_read_exact q c4 _) ?_
  intro ls c5
  refine rel_bind (rel_read_exact q c5 _) ?_
  intro sw c6
  refine rel_bind (rel_read_exact q c6 _) ?_
  intro ul c7
  exact rel_ok _ _

/-! ### proper prefixes -/
theorem bind_eq_ok {α β} {r : P α} {g : α → P β} {z : β} (h : (r >>= g) = .ok z) :
    ∃ a, r = .ok a ∧ g a = .ok z := by
  cases r with
  | ok a => exact ⟨a, rfl, h⟩
  | err => cases h
  | panic => cases h

theorem ite_err_ok {α} {c : Prop} [Decidable c] {a b : α}
    (h : (if c then (.err : P α) else .ok a) = .ok b) : ¬ c ∧ a = b := by
  split at h
  · cases h
  · rename_i hc
    simp only [P.ok.injEq] at h
    exact ⟨hc, h⟩

theorem err_of_not_ok {bytes : List Nat} (h : ∀ z, parse bytes ≠ .ok z) : parse bytes = .err := by
  have np := post_np (post_parse bytes)
  cases hp : parse bytes with
  | ok z => exact absurd hp (h z)
  | err => rfl
  | panic => exact absurd hp np

theorem parseRest_ok_footer {st : State} {f : List Nat} {z : Zone} (h : parseRest st (some f) = .ok z) :
    ∃ r, parseFooter f st.header.version = .ok r := by
  unfold parseRest at h
  obtain ⟨tr, _, h⟩ := bind_eq_ok h
  obtain ⟨ty, _, h⟩ := bind_eq_ok h
  obtain ⟨lp, _, h⟩ := bind_eq_ok h
  split at h
  · cases h
  · obtain ⟨r, hr, _⟩ := bind_eq_ok h
    exact ⟨r, hr⟩

/-- cutting an accepted file: the prefix is rejected, or the cut lies in the footer (both data
blocks are sliced identically and the prefix's footer is the corresponding prefix of the footer) -/
theorem trunc_cases (p q : List Nat) (z : Zone) (hq : q ≠ []) (h : parse (p ++ q) = .ok z) :
    parse p = .err ∨ ∃ st c2, parseBlocks p = .ok (st, some c2)
      ∧ parseBlocks (p ++ q) = .ok (st, some (c2 ++ q)) := by
  have np := post_np (post_parse p)
  cases hS : State.new p true with
  | err => left; simp [parse, parseBlocks, hS]
  | panic => exact absurd (by simp [parse, parseBlocks, hS]) np
  | ok x =>
    obtain ⟨st1, c1⟩ := x
    have hfull := rel_state_new q p true st1 c1 hS
    cases hv : st1.header.version with
    | V1 =>
      exfalso
      simp [parse, parseBlocks, hfull, hv, hq] at h
    | V2 | V3 =>
      cases hS2 : State.new c1 false with
      | err => left; simp [parse, parseBlocks, hS, hv, hS2]
      | panic => exact absurd (by simp [parse, parseBlocks, hS, hv, hS2]) np
      | ok y =>
        obtain ⟨st2, c2⟩ := y
        have hfull2 := rel_state_new q c1 false st2 c2 hS2
        by_cases hne : st2.header.version = st1.header.version
        · right
          exact ⟨st2, c2, by simp [parseBlocks, hS, hv, hS2, hne], by simp [parseBlocks, hfull, hv, hfull2, hne]⟩
        · rw [hv] at hne
          left; simp [parse, parseBlocks, hS, hv, hS2, hne]

theorem parse_of_blocks {bytes : List Nat} {st : State} {fo : Option (List Nat)}
    (h : parseBlocks bytes = .ok (st, fo)) : parse bytes = parseRest st fo := by
  simp [parse, h]

/-- cutting an accepted file at `k`: the prefix is rejected outright, or what is left of the footer is
`c2`, the footer without the bytes cut off, and the prefix is rejected as soon as `c2` is -/
theorem cut_cases (bytes : List Nat) (z : Zone) (h : parse bytes = .ok z) (k : Nat) (hk : k < bytes.length) :
    parse (bytes.take k) = .err ∨ ∃ c2 v, footerOf bytes = c2 ++ bytes.drop k
      ∧ (parseFooter c2 v = .err → parse (bytes.take k) = .err) := by
  have hsplit : bytes.take k ++ bytes.drop k = bytes := List.take_append_drop k bytes
  have hq : bytes.drop k ≠ [] := by
    intro e
    have := congrArg List.length e
    simp at this; omega
  rw [← hsplit] at h
  rcases trunc_cases _ _ z hq h with h1 | ⟨st, c2, hp, hfull⟩
  · exact Or.inl h1
  · refine Or.inr ⟨c2, st.header.version, ?_, fun he => err_of_not_ok fun z' hz' => ?_⟩
    · rw [hsplit] at hfull
      unfold footerOf; rw [hfull]
    · rw [parse_of_blocks hp] at hz'
      obtain ⟨r, hr⟩ := parseRest_ok_footer hz'
      rw [he] at hr
      cases hr

/-- a cut in the header or in a data block (up to and including the exact end of the last block) -/
theorem rejects_truncated_blocks' (bytes : List Nat) (z : Zone) (h : parse bytes = .ok z) (k : Nat)
    (hk : k < bytes.length) (hcut : k + (footerOf bytes).length ≤ bytes.length) :
    parse (bytes.take k) = .err := by
  rcases cut_cases bytes z h k hk with h1 | ⟨c2, v, hfo, herr⟩
  · exact h1
  · have hlen : c2.length = 0 := by
      rw [hfo] at hcut
      simp at hcut; omega
    rw [List.eq_nil_of_length_eq_zero hlen] at herr
    exact herr (footer_framing' [] _ (by simp))

/-- a cut inside the footer, other than right after its first newline, when the footer has no
newline between its first and last byte -/
theorem rejects_truncated_footer' (bytes : List Nat) (z : Zone) (h : parse bytes = .ok z) (k : Nat)
    (hk : k < bytes.length) (hin : bytes.length < k + (footerOf bytes).length)
    (hne : k + (footerOf bytes).length ≠ bytes.length + 1)
    (hnl : ∀ j, 0 < j → j + 1 < (footerOf bytes).length → (footerOf bytes)[j]? ≠ some 10) :
    parse (bytes.take k) = .err := by
  rcases cut_cases bytes z h k hk with h1 | ⟨c2, v, hfo, herr⟩
  · exact h1
  · have hfl : (footerOf bytes).length = c2.length + (bytes.length - k) := by
      rw [hfo, List.length_append, List.length_drop]
    have hlast : c2.getLast? ≠ some 10 := by
      rw [List.getLast?_eq_getElem?]
      have := hnl (c2.length - 1) (by omega) (by omega)
      rw [hfo, List.getElem?_append_left (by omega)] at this
      exact this
    exact herr (footer_framing' c2 _ fun hh => hlast hh.2)

end Chrono.Proofs.Tz
