/-
  PINS of property C17: the decision tokens of every item the property is anchored in
  (properties.jsonl `anchors` + tools/anchor_extra.json), as they were in /repo at 32de816 when the
  model was validated against the source.  Written by tools/pin_anchors.py; the right-hand sides are
  compared by the kernel with lean/Chrono/Extracted/Anchors.lean, which tools/extractors/anchors.py
  regenerates from /repo's working tree on every check.  A theorem that fails here means: anchored
  code changed; the hand-written model may no longer mirror it.
-/
import Chrono.Extracted.Anchors
namespace Chrono.Pins.C17
open Chrono.Extracted.Anchors

/-- src/round.rs:fn duration_round -/
theorem src_round_rs_fn_duration_round : C17_src_round_rs_fn_duration_round =
    ["self", "v1", "TimeDelta", "->", "Result", "<", "Self", "Self", "Err", ">", "duration_round(", "self", "overflowing_naive_local(", "self", "v1", "§", "self", "v1", "TimeDelta", "->", "Result", "<", "Self", "Self", "Err", ">", "duration_round(", "self", "self", "v1", "§", "<", "T", ">", "v1", "NaiveDateTime", "v2", "T", "v3", "TimeDelta", "->", "Result", "<", "T", "RoundingError", ">", "T", "Timelike", "+", "Add", "<", "TimeDelta", "Output", "T", ">", "+", "Sub", "<", "TimeDelta", "Output", "T", ">", "if", "Some(", "v4", "v3", "num_nanoseconds(", "if", "v4", "<=", "0", "return", "Err(", "RoundingError", "DurationExceedsLimit", "v5", "v1", "and_utc(", "timestamp_nanos_opt(", "ok_or(", "RoundingError", "TimestampExceedsLimit", "?", "v6", "v5", "%", "v4", "if", "v6", "==", "0", "Ok(", "v2", "else", "let(", "v7", "v6", "if", "v6", "<", "0", "v6", "abs(", "v4", "-", "v6", "abs(", "else", "v4", "-", "v6", "v6", "if", "v7", "<=", "v6", "Ok(", "v2", "+", "TimeDelta", "nanoseconds(", "v7", "else", "Ok(", "v2", "-", "TimeDelta", "nanoseconds(", "v6", "else", "Err(", "RoundingError", "DurationExceedsLimit"] := rfl

/-- src/round.rs:fn duration_round_up -/
theorem src_round_rs_fn_duration_round_up : C17_src_round_rs_fn_duration_round_up =
    ["self", "v1", "TimeDelta", "->", "Result", "<", "Self", "Self", "Err", ">", "duration_round_up(", "self", "overflowing_naive_local(", "self", "v1", "§", "self", "v1", "TimeDelta", "->", "Result", "<", "Self", "Self", "Err", ">", "duration_round_up(", "self", "self", "v1", "§", "<", "T", ">", "v1", "NaiveDateTime", "v2", "T", "v3", "TimeDelta", "->", "Result", "<", "T", "RoundingError", ">", "T", "Timelike", "+", "Add", "<", "TimeDelta", "Output", "T", ">", "+", "Sub", "<", "TimeDelta", "Output", "T", ">", "if", "Some(", "v4", "v3", "num_nanoseconds(", "if", "v4", "<=", "0", "return", "Err(", "RoundingError", "DurationExceedsLimit", "v5", "v1", "and_utc(", "timestamp_nanos_opt(", "ok_or(", "RoundingError", "TimestampExceedsLimit", "?", "v6", "v5", "%", "v4", "match", "v6", "cmp(", "&", "0", "Ordering", "Equal", "=>", "Ok(", "v2", "Ordering", "Greater", "=>", "Ok(", "v2", "+", "TimeDelta", "nanoseconds(", "v4", "-", "v6", "Ordering", "Less", "=>", "Ok(", "v2", "+", "TimeDelta", "nanoseconds(", "v6", "abs(", "else", "Err(", "RoundingError", "DurationExceedsLimit"] := rfl

/-- src/round.rs:fn duration_trunc -/
theorem src_round_rs_fn_duration_trunc : C17_src_round_rs_fn_duration_trunc =
    ["self", "v1", "TimeDelta", "->", "Result", "<", "Self", "Self", "Err", ">", "duration_trunc(", "self", "overflowing_naive_local(", "self", "v1", "§", "self", "v1", "TimeDelta", "->", "Result", "<", "Self", "Self", "Err", ">", "duration_trunc(", "self", "self", "v1", "§", "<", "T", ">", "v1", "NaiveDateTime", "v2", "T", "v3", "TimeDelta", "->", "Result", "<", "T", "RoundingError", ">", "T", "Timelike", "+", "Add", "<", "TimeDelta", "Output", "T", ">", "+", "Sub", "<", "TimeDelta", "Output", "T", ">", "if", "Some(", "v4", "v3", "num_nanoseconds(", "if", "v4", "<=", "0", "return", "Err(", "RoundingError", "DurationExceedsLimit", "v5", "v1", "and_utc(", "timestamp_nanos_opt(", "ok_or(", "RoundingError", "TimestampExceedsLimit", "?", "v6", "v5", "%", "v4", "match", "v6", "cmp(", "&", "0", "Ordering", "Equal", "=>", "Ok(", "v2", "Ordering", "Greater", "=>", "Ok(", "v2", "-", "TimeDelta", "nanoseconds(", "v6", "Ordering", "Less", "=>", "Ok(", "v2", "-", "TimeDelta", "nanoseconds(", "v4", "-", "v6", "abs(", "else", "Err(", "RoundingError", "DurationExceedsLimit"] := rfl

/-- src/round.rs:fn round_subsecs -/
theorem src_round_rs_fn_round_subsecs : C17_src_round_rs_fn_round_subsecs =
    ["self", "v1", "u16", "->", "T", "v2", "span_for_digits(", "v1", "v3", "self", "nanosecond(", "%", "v2", "if", "v3", ">", "0", "v4", "v2", "-", "v3", "if", "v4", "<=", "v3", "self", "+", "TimeDelta", "nanoseconds(", "v4", "into(", "else", "self", "-", "TimeDelta", "nanoseconds(", "v3", "into(", "else", "self"] := rfl

/-- src/round.rs:fn span_for_digits -/
theorem src_round_rs_fn_span_for_digits : C17_src_round_rs_fn_span_for_digits =
    ["v1", "u16", "->", "u32", "match", "v1", "0", "=>", "1000000000", "1", "=>", "100000000", "2", "=>", "10000000", "3", "=>", "1000000", "4", "=>", "100000", "5", "=>", "10000", "6", "=>", "1000", "7", "=>", "100", "8", "=>", "10", "v2", "=>", "1"] := rfl

/-- src/round.rs:fn trunc_subsecs -/
theorem src_round_rs_fn_trunc_subsecs : C17_src_round_rs_fn_trunc_subsecs =
    ["self", "v1", "u16", "->", "T", "v2", "span_for_digits(", "v1", "v3", "self", "nanosecond(", "%", "v2", "if", "v3", ">", "0", "self", "-", "TimeDelta", "nanoseconds(", "v3", "into(", "else", "self"] := rfl

/-- src/round.rs:impl DurationRound for DateTime -/
theorem src_round_rs_impl_DurationRound_for_DateTime : C17_src_round_rs_impl_DurationRound_for_DateTime =
    ["<", "Tz", "TimeZone", ">", "DurationRound", "for", "DateTime", "<", "Tz", ">", "Err", "RoundingError", "duration_round(", "self", "v1", "TimeDelta", "->", "Result", "<", "Self", "Self", "Err", ">", "duration_round(", "self", "overflowing_naive_local(", "self", "v1", "duration_trunc(", "self", "v1", "TimeDelta", "->", "Result", "<", "Self", "Self", "Err", ">", "duration_trunc(", "self", "overflowing_naive_local(", "self", "v1", "duration_round_up(", "self", "v1", "TimeDelta", "->", "Result", "<", "Self", "Self", "Err", ">", "duration_round_up(", "self", "overflowing_naive_local(", "self", "v1"] := rfl

/-- src/round.rs:type RoundingError -/
theorem src_round_rs_type_RoundingError : C17_src_round_rs_type_RoundingError =
    ["DurationExceedsTimestamp", "DurationExceedsLimit", "TimestampExceedsLimit", "§", "v1", "Display", "for", "RoundingError", "fmt(", "&", "self", "v2", "&", "v1", "Formatter", "->", "v1", "Result", "match", "*", "self", "RoundingError", "DurationExceedsTimestamp", "=>", "write!(", "v2", "\"…\"", "RoundingError", "DurationExceedsLimit", "=>", "write!(", "v2", "\"…\"", "RoundingError", "TimestampExceedsLimit", "=>", "write!(", "v2", "\"…\"", "§", "v1", "v2", "Error", "for", "RoundingError", "description(", "&", "self", "->", "&", "str", "\"…\""] := rfl

/-- callee src/datetime/mod.rs:fn from_naive_utc_and_offset -/
theorem callee_src_datetime_mod_rs_fn_from_naive_utc_and_offset : C17_callee_src_datetime_mod_rs_fn_from_naive_utc_and_offset =
    ["v1", "NaiveDateTime", "v2", "Tz", "Offset", "->", "DateTime", "<", "Tz", ">", "DateTime", "v1", "v2"] := rfl

/-- callee src/datetime/mod.rs:fn overflowing_naive_local -/
theorem callee_src_datetime_mod_rs_fn_overflowing_naive_local : C17_callee_src_datetime_mod_rs_fn_overflowing_naive_local =
    ["&", "self", "->", "NaiveDateTime", "self", "v1", "overflowing_add_offset(", "self", "v2", "fix("] := rfl

/-- callee src/naive/datetime/mod.rs:fn and_utc -/
theorem callee_src_naive_datetime_mod_rs_fn_and_utc : C17_callee_src_naive_datetime_mod_rs_fn_and_utc =
    ["&", "self", "->", "DateTime", "<", "Utc", ">", "DateTime", "from_naive_utc_and_offset(", "*", "self", "Utc"] := rfl

/-- callee src/time_delta.rs:fn div_mod_floor_64 -/
theorem callee_src_time_delta_rs_fn_div_mod_floor_64 : C17_callee_src_time_delta_rs_fn_div_mod_floor_64 =
    ["v1", "i64", "v2", "i64", "->", "i64", "i64", "v1", "div_euclid(", "v2", "v1", "rem_euclid(", "v2"] := rfl

/-- callee src/time_delta.rs:fn nanoseconds -/
theorem callee_src_time_delta_rs_fn_nanoseconds : C17_callee_src_time_delta_rs_fn_nanoseconds =
    ["v1", "i64", "->", "TimeDelta", "let(", "v2", "v1", "div_mod_floor_64(", "v1", "NANOS_PER_SEC", "as", "i64", "TimeDelta", "v2", "v1", "v1", "as", "i32"] := rfl

/-- callee src/time_delta.rs:fn num_nanoseconds -/
theorem callee_src_time_delta_rs_fn_num_nanoseconds : C17_callee_src_time_delta_rs_fn_num_nanoseconds =
    ["&", "self", "->", "Option", "<", "i64", ">", "v1", "try_opt!(", "self", "num_seconds(", "checked_mul(", "NANOS_PER_SEC", "as", "i64", "v2", "self", "subsec_nanos(", "v1", "checked_add(", "v2", "as", "i64"] := rfl

/-- callee src/time_delta.rs:fn num_seconds -/
theorem callee_src_time_delta_rs_fn_num_seconds : C17_callee_src_time_delta_rs_fn_num_seconds =
    ["&", "self", "->", "i64", "if", "self", "v1", "<", "0", "&&", "self", "v2", ">", "0", "self", "v1", "+", "1", "else", "self", "v1"] := rfl

/-- callee src/time_delta.rs:fn subsec_nanos -/
theorem callee_src_time_delta_rs_fn_subsec_nanos : C17_callee_src_time_delta_rs_fn_subsec_nanos =
    ["&", "self", "->", "i32", "if", "self", "v1", "<", "0", "&&", "self", "v2", ">", "0", "self", "v2", "-", "NANOS_PER_SEC", "else", "self", "v2"] := rfl

end Chrono.Pins.C17
