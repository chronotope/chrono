/-
  PINS of property C16: the decision tokens of every item the property is anchored in
  (properties.jsonl `anchors` + tools/anchor_extra.json), as they were in /repo at 097d707 when the
  model was validated against the source.  Written by tools/pin_anchors.py; the right-hand sides are
  compared by the kernel with lean/Chrono/Extracted/Anchors.lean, which tools/extractors/anchors.py
  regenerates from /repo's working tree on every check.  A theorem that fails here means: anchored
  code changed; the hand-written model may no longer mirror it.
-/
import Chrono.Extracted.Anchors
namespace Chrono.Pins.C16
open Chrono.Extracted.Anchors

/-- src/offset/local/tz_info/parser.rs:fn new -/
theorem src_offset_local_tz_info_parser_rs_fn_new : C16_src_offset_local_tz_info_parser_rs_fn_new =
    ["v1", "&", "Cursor", "<", ">", "v2", "bool", "->", "Result", "<", "Self", "Error", ">", "v3", "Header", "new(", "v1", "?", "v4", "match", "v2", "true", "=>", "4", "false", "=>", "8", "Ok(", "Self", "v4", "v5", "v1", "read_exact(", "v3", "v6", "*", "v4", "?", "v7", "v1", "read_exact(", "v3", "v6", "?", "v8", "v1", "read_exact(", "v3", "v9", "*", "6", "?", "v10", "v1", "read_exact(", "v3", "v11", "?", "v12", "v1", "read_exact(", "v3", "v13", "*", "v4", "+", "4", "?", "v14", "v1", "read_exact(", "v3", "v15", "?", "v16", "v1", "read_exact(", "v3", "v17", "?", "v3", "§", "v1", "&", "Cursor", "->", "Result", "<", "Self", "Error", ">", "v2", "v1", "read_exact(", "4", "?", "if", "v2", "!=", "*", "b\"TZif\"", "return", "Err(", "Error", "InvalidTzFile(", "\"…\"", "v3", "match", "v1", "read_exact(", "1", "?", "0", "=>", "Version", "V1", "50", "=>", "Version", "V2", "51", "=>", "Version", "V3", "v4", "=>", "return", "Err(", "Error", "UnsupportedTzFile(", "\"…\"", "v1", "read_exact(", "15", "?", "v5", "v1", "read_be_u32(", "?", "v6", "v1", "read_be_u32(", "?", "v7", "v1", "read_be_u32(", "?", "v8", "v1", "read_be_u32(", "?", "v9", "v1", "read_be_u32(", "?", "v10", "v1", "read_be_u32(", "?", "if!(", "v9", "!=", "0", "&&", "v10", "!=", "0", "&&", "v5", "==", "0", "||", "v5", "==", "v9", "&&", "v6", "==", "0", "||", "v6", "==", "v9", "return", "Err(", "Error", "InvalidTzFile(", "\"…\"", "Ok(", "Self", "v3", "v5", "v5", "as", "usize", "v6", "v6", "as", "usize", "v7", "v7", "as", "usize", "v8", "v8", "as", "usize", "v9", "v9", "as", "usize", "v10", "v10", "as", "usize", "§", "v1", "&", "u8", "->", "Self", "Self", "v1", "v2", "0"] := rfl

/-- src/offset/local/tz_info/parser.rs:fn parse -/
theorem src_offset_local_tz_info_parser_rs_fn_parse : C16_src_offset_local_tz_info_parser_rs_fn_parse =
    ["v1", "&", "u8", "->", "Result", "<", "TimeZone", "Error", ">", "v2", "Cursor", "new(", "v1", "v3", "State", "new(", "&", "v2", "true", "?", "let(", "v3", "v4", "match", "v3", "v5", "v6", "Version", "V1", "=>", "match", "v2", "is_empty(", "true", "=>", "v3", "None", "false", "=>", "return", "Err(", "Error", "InvalidTzFile(", "\"…\"", "Version", "V2", "|", "Version", "V3", "=>", "v7", "v3", "v5", "v6", "v3", "State", "new(", "&", "v2", "false", "?", "if", "v3", "v5", "v6", "!=", "v7", "return", "Err(", "Error", "InvalidTzFile(", "\"…\"", "v3", "Some(", "v2", "remaining(", "v8", "Vec", "with_capacity(", "v3", "v5", "v9", "for(", "v10", "&", "v11", "in", "v3", "v12", "chunks_exact(", "v3", "v13", "zip(", "v3", "v14", "v15", "v3", "parse_time(", "&", "v10", "0", "..", "v3", "v13", "v3", "v5", "v6", "?", "v11", "v11", "as", "usize", "v8", "push(", "Transition", "new(", "v15", "v11", "v16", "Vec", "with_capacity(", "v3", "v5", "v17", "for", "v18", "in", "v3", "v16", "chunks_exact(", "6", "v19", "read_be_i32(", "&", "v18", "..", "?", "v20", "match", "v18", "4", "0", "=>", "false", "1", "=>", "true", "v21", "=>", "return", "Err(", "Error", "InvalidTzFile(", "\"…\"", "v22", "v18", "5", "as", "usize", "if", "v22", ">=", "v3", "v5", "v23", "return", "Err(", "Error", "InvalidTzFile(", "\"…\"", "v24", "match", "v3", "v25", "v22", "..", "iter(", "position(", "|", "&", "v26", "|", "v26", "==", "b'\\0'", "Some(", "v24", "=>", "v24", "None", "=>", "return", "Err(", "Error", "InvalidTzFile(", "\"…\"", "v27", "&", "v3", "v25", "v22", "..", "v22", "+", "v24", "v27", "if", "!", "v27", "is_empty(", "Some(", "v27", "else", "None", "v16", "push(", "LocalTimeType", "new(", "v19", "v20", "v27", "?", "v28", "Vec", "with_capacity(", "v3", "v5", "v29", "for", "v18", "in", "v3", "v28", "chunks_exact(", "v3", "v13", "+", "4", "v15", "v3", "parse_time(", "&", "v18", "0", "..", "v3", "v13", "v3", "v5", "v6", "?", "v30", "read_be_i32(", "&", "v18", "v3", "v13", "..", "v3", "v13", "+", "4", "?", "v28", "push(", "LeapSecond", "new(", "v15", "v30", "v31", "v3", "v32", "iter(", "copied(", "chain(", "v33", "repeat(", "0", "v34", "v3", "v35", "iter(", "copied(", "chain(", "v33", "repeat(", "0", "if", "v31", "zip(", "v34", "take(", "v3", "v5", "v17", "any(", "|", "v36", "|", "v36", "==", "0", "1", "return", "Err(", "Error", "InvalidTzFile(", "\"…\"", "v37", "match", "v4", "Some(", "v4", "=>", "v4", "str", "from_utf8(", "v4", "?", "if", "v4", "len(", "<", "2", "||", "!", "v4", "starts_with(", "'\\n'", "&&", "v4", "ends_with(", "'\\n'", "return", "Err(", "Error", "InvalidTzFile(", "\"…\"", "v38", "v4", "trim_matches(", "|", "v26", "char", "|", "v26", "is_ascii_whitespace(", "if", "v38", "starts_with(", "':'", "||", "v38", "contains(", "'\\0'", "return", "Err(", "Error", "InvalidTzFile(", "\"…\"", "match", "v38", "is_empty(", "true", "=>", "None", "false", "=>", "Some(", "TransitionRule", "from_tz_string(", "v38", "as_bytes(", "v3", "v5", "v6", "==", "Version", "V3", "?", "None", "=>", "None", "TimeZone", "new(", "v8", "v16", "v28", "v37"] := rfl

/-- src/offset/local/tz_info/parser.rs:fn parse_time -/
theorem src_offset_local_tz_info_parser_rs_fn_parse_time : C16_src_offset_local_tz_info_parser_rs_fn_parse_time =
    ["&", "self", "v1", "&", "u8", "v2", "Version", "->", "Result", "<", "i64", "Error", ">", "match", "v2", "Version", "V1", "=>", "Ok(", "read_be_i32(", "&", "v1", "..", "?", "into(", "Version", "V2", "|", "Version", "V3", "=>", "read_be_i64(", "v1"] := rfl

/-- src/offset/local/tz_info/parser.rs:fn read_exact -/
theorem src_offset_local_tz_info_parser_rs_fn_read_exact : C16_src_offset_local_tz_info_parser_rs_fn_read_exact =
    ["&", "self", "v1", "usize", "->", "Result", "<", "&", "u8", "v2", "Error", ">", "match(", "self", "v3", "get(", "..", "v1", "self", "v3", "get(", "v1", "..", "Some(", "v4", "Some(", "v3", "=>", "self", "v3", "v3", "self", "v5", "+=", "v1", "Ok(", "v4", "v6", "=>", "Err(", "v2", "Error", "from(", "ErrorKind", "UnexpectedEof"] := rfl

/-- src/offset/local/tz_info/rule.rs:fn from_tz_string -/
theorem src_offset_local_tz_info_rule_rs_fn_from_tz_string : C16_src_offset_local_tz_info_rule_rs_fn_from_tz_string =
    ["v1", "&", "u8", "v2", "bool", "->", "Result", "<", "Self", "Error", ">", "v3", "Cursor", "new(", "v1", "v4", "Some(", "parse_name(", "&", "v3", "?", "v5", "parse_offset(", "&", "v3", "?", "if", "v3", "is_empty(", "return", "Ok(", "LocalTimeType", "new(", "-", "v5", "false", "v4", "?", "into(", "v6", "Some(", "parse_name(", "&", "v3", "?", "v7", "match", "v3", "peek(", "Some(", "&", "b','", "=>", "v5", "-", "3600", "Some(", "v8", "=>", "parse_offset(", "&", "v3", "?", "None", "=>", "return", "Err(", "Error", "UnsupportedTzString(", "\"…\"", "if", "v3", "is_empty(", "return", "Err(", "Error", "UnsupportedTzString(", "\"…\"", "v3", "read_tag(", "b\",\"", "?", "let(", "v9", "v10", "RuleDay", "parse(", "&", "v3", "v2", "?", "v3", "read_tag(", "b\",\"", "?", "let(", "v11", "v12", "RuleDay", "parse(", "&", "v3", "v2", "?", "if", "!", "v3", "is_empty(", "return", "Err(", "Error", "InvalidTzString(", "\"…\"", "Ok(", "AlternateTime", "new(", "LocalTimeType", "new(", "-", "v5", "false", "v4", "?", "LocalTimeType", "new(", "-", "v7", "true", "v6", "?", "v9", "v10", "v11", "v12", "?", "into("] := rfl

/-- src/offset/local/tz_info/rule.rs:fn julian_0 -/
theorem src_offset_local_tz_info_rule_rs_fn_julian_0 : C16_src_offset_local_tz_info_rule_rs_fn_julian_0 =
    ["v1", "u16", "->", "Result", "<", "Self", "Error", ">", "if", "v1", ">", "365", "return", "Err(", "Error", "TransitionRule(", "\"…\"", "Ok(", "RuleDay", "Julian0WithLeap(", "v1"] := rfl

/-- src/offset/local/tz_info/rule.rs:fn julian_1 -/
theorem src_offset_local_tz_info_rule_rs_fn_julian_1 : C16_src_offset_local_tz_info_rule_rs_fn_julian_1 =
    ["v1", "u16", "->", "Result", "<", "Self", "Error", ">", "if!(", "1", "..=", "365", "contains(", "&", "v1", "return", "Err(", "Error", "TransitionRule(", "\"…\"", "Ok(", "RuleDay", "Julian1WithoutLeap(", "v1"] := rfl

/-- src/offset/local/tz_info/rule.rs:fn month_weekday -/
theorem src_offset_local_tz_info_rule_rs_fn_month_weekday : C16_src_offset_local_tz_info_rule_rs_fn_month_weekday =
    ["v1", "u8", "v2", "u8", "v3", "u8", "->", "Result", "<", "Self", "Error", ">", "if!(", "1", "..=", "12", "contains(", "&", "v1", "return", "Err(", "Error", "TransitionRule(", "\"…\"", "if!(", "1", "..=", "5", "contains(", "&", "v2", "return", "Err(", "Error", "TransitionRule(", "\"…\"", "if", "v3", ">", "6", "return", "Err(", "Error", "TransitionRule(", "\"…\"", "Ok(", "RuleDay", "MonthWeekday", "v1", "v2", "v3"] := rfl

/-- src/offset/local/tz_info/rule.rs:fn new -/
theorem src_offset_local_tz_info_rule_rs_fn_new : C16_src_offset_local_tz_info_rule_rs_fn_new =
    ["v1", "LocalTimeType", "v2", "LocalTimeType", "v3", "RuleDay", "v4", "i32", "v5", "RuleDay", "v6", "i32", "->", "Result", "<", "Self", "Error", ">", "if!(", "v4", "as", "i64", "abs(", "<", "SECONDS_PER_WEEK", "&&", "v6", "as", "i64", "abs(", "<", "SECONDS_PER_WEEK", "return", "Err(", "Error", "TransitionRule(", "\"…\"", "Ok(", "Self", "v1", "v2", "v3", "v4", "v5", "v6"] := rfl

/-- src/offset/local/tz_info/rule.rs:fn parse -/
theorem src_offset_local_tz_info_rule_rs_fn_parse : C16_src_offset_local_tz_info_rule_rs_fn_parse =
    ["v1", "&", "Cursor", "v2", "bool", "->", "Result", "<", "Self", "i32", "Error", ">", "v3", "match", "v1", "peek(", "Some(", "b'M'", "=>", "v1", "read_exact(", "1", "?", "v4", "v1", "read_int(", "?", "v1", "read_tag(", "b\".\"", "?", "v5", "v1", "read_int(", "?", "v1", "read_tag(", "b\".\"", "?", "v6", "v1", "read_int(", "?", "RuleDay", "month_weekday(", "v4", "v5", "v6", "?", "Some(", "b'J'", "=>", "v1", "read_exact(", "1", "?", "RuleDay", "julian_1(", "v1", "read_int(", "?", "?", "v7", "=>", "RuleDay", "julian_0(", "v1", "read_int(", "?", "?", "Ok(", "v3", "match(", "v1", "read_optional_tag(", "b\"/\"", "?", "v2", "false", "v7", "=>", "2", "*", "3600", "true", "true", "=>", "parse_rule_time_extended(", "v1", "?", "true", "false", "=>", "parse_rule_time(", "v1", "?"] := rfl

/-- src/offset/local/tz_info/rule.rs:fn parse_hhmmss -/
theorem src_offset_local_tz_info_rule_rs_fn_parse_hhmmss : C16_src_offset_local_tz_info_rule_rs_fn_parse_hhmmss =
    ["v1", "&", "Cursor", "->", "Result", "<", "i32", "i32", "i32", "Error", ">", "v2", "v1", "read_int(", "?", "v3", "0", "v4", "0", "if", "v1", "read_optional_tag(", "b\":\"", "?", "v3", "v1", "read_int(", "?", "if", "v1", "read_optional_tag(", "b\":\"", "?", "v4", "v1", "read_int(", "?", "Ok(", "v2", "v3", "v4"] := rfl

/-- src/offset/local/tz_info/rule.rs:fn parse_name -/
theorem src_offset_local_tz_info_rule_rs_fn_parse_name : C16_src_offset_local_tz_info_rule_rs_fn_parse_name =
    ["<", ">", "v1", "&", "Cursor", "<", ">", "->", "Result", "<", "&", "u8", "Error", ">", "match", "v1", "peek(", "Some(", "b'<'", "=>", "v2", "=>", "return", "Ok(", "v1", "read_while(", "u8", "v3", "?", "v1", "read_exact(", "1", "?", "v4", "v1", "read_until(", "|", "&", "v5", "|", "v5", "==", "b'>'", "?", "v1", "read_exact(", "1", "?", "Ok(", "v4"] := rfl

/-- src/offset/local/tz_info/rule.rs:fn parse_offset -/
theorem src_offset_local_tz_info_rule_rs_fn_parse_offset : C16_src_offset_local_tz_info_rule_rs_fn_parse_offset =
    ["v1", "&", "Cursor", "->", "Result", "<", "i32", "Error", ">", "let(", "v2", "v3", "v4", "v5", "parse_signed_hhmmss(", "v1", "?", "if!(", "0", "..=", "24", "contains(", "&", "v3", "return", "Err(", "Error", "InvalidTzString(", "\"…\"", "if!(", "0", "..=", "59", "contains(", "&", "v4", "return", "Err(", "Error", "InvalidTzString(", "\"…\"", "if!(", "0", "..=", "59", "contains(", "&", "v5", "return", "Err(", "Error", "InvalidTzString(", "\"…\"", "Ok(", "v2", "*", "v3", "*", "3600", "+", "v4", "*", "60", "+", "v5"] := rfl

/-- src/offset/local/tz_info/rule.rs:fn parse_rule_time -/
theorem src_offset_local_tz_info_rule_rs_fn_parse_rule_time : C16_src_offset_local_tz_info_rule_rs_fn_parse_rule_time =
    ["v1", "&", "Cursor", "->", "Result", "<", "i32", "Error", ">", "let(", "v2", "v3", "v4", "parse_hhmmss(", "v1", "?", "if!(", "0", "..=", "24", "contains(", "&", "v2", "return", "Err(", "Error", "InvalidTzString(", "\"…\"", "if!(", "0", "..=", "59", "contains(", "&", "v3", "return", "Err(", "Error", "InvalidTzString(", "\"…\"", "if!(", "0", "..=", "59", "contains(", "&", "v4", "return", "Err(", "Error", "InvalidTzString(", "\"…\"", "Ok(", "v2", "*", "3600", "+", "v3", "*", "60", "+", "v4"] := rfl

/-- src/offset/local/tz_info/rule.rs:fn parse_rule_time_extended -/
theorem src_offset_local_tz_info_rule_rs_fn_parse_rule_time_extended : C16_src_offset_local_tz_info_rule_rs_fn_parse_rule_time_extended =
    ["v1", "&", "Cursor", "->", "Result", "<", "i32", "Error", ">", "let(", "v2", "v3", "v4", "v5", "parse_signed_hhmmss(", "v1", "?", "if!(", "-", "167", "..=", "167", "contains(", "&", "v3", "return", "Err(", "Error", "InvalidTzString(", "\"…\"", "if!(", "0", "..=", "59", "contains(", "&", "v4", "return", "Err(", "Error", "InvalidTzString(", "\"…\"", "if!(", "0", "..=", "59", "contains(", "&", "v5", "return", "Err(", "Error", "InvalidTzString(", "\"…\"", "Ok(", "v2", "*", "v3", "*", "3600", "+", "v4", "*", "60", "+", "v5"] := rfl

/-- src/offset/local/tz_info/rule.rs:fn parse_signed_hhmmss -/
theorem src_offset_local_tz_info_rule_rs_fn_parse_signed_hhmmss : C16_src_offset_local_tz_info_rule_rs_fn_parse_signed_hhmmss =
    ["v1", "&", "Cursor", "->", "Result", "<", "i32", "i32", "i32", "i32", "Error", ">", "v2", "1", "if", "Some(", "&", "v3", "v1", "peek(", "if", "v3", "==", "b'+'", "||", "v3", "==", "b'-'", "v1", "read_exact(", "1", "?", "if", "v3", "==", "b'-'", "v2", "-", "1", "let(", "v4", "v5", "v6", "parse_hhmmss(", "v1", "?", "Ok(", "v2", "v4", "v5", "v6"] := rfl

/-- src/offset/local/tz_info/timezone.rs:fn find_local_time_type_from_local -/
theorem src_offset_local_tz_info_timezone_rs_fn_find_local_time_type_from_local : C16_src_offset_local_tz_info_timezone_rs_fn_find_local_time_type_from_local =
    ["&", "self", "v1", "NaiveDateTime", "->", "Result", "<", "MappedLocalTime", "<", "LocalTimeType", ">", "Error", ">", "self", "as_ref(", "find_local_time_type_from_local(", "v1", "§", "&", "self", "v1", "NaiveDateTime", "->", "Result", "<", "MappedLocalTime", "<", "LocalTimeType", ">", "Error", ">", "v2", "v1", "and_utc(", "timestamp(", "v3", "if", "!", "self", "v4", "is_empty(", "v5", "self", "v6", "0", "for", "v7", "in", "self", "v4", "v8", "self", "v6", "v7", "v9", "v10", "v7", "v11", "saturating_add(", "i64", "from(", "v8", "v12", "v13", "v7", "v11", "saturating_add(", "i64", "from(", "v5", "v12", "match", "v13", "cmp(", "&", "v10", "Ordering", "Greater", "=>", "if", "v2", "<", "v10", "return", "Ok(", "MappedLocalTime", "Single(", "v5", "else", "if", "v2", ">=", "v10", "&&", "v2", "<=", "v13", "return", "Ok(", "MappedLocalTime", "Ambiguous(", "v5", "v8", "Ordering", "Equal", "=>", "if", "v2", "<", "v13", "return", "Ok(", "MappedLocalTime", "Single(", "v5", "else", "if", "v2", "==", "v10", "return", "Ok(", "MappedLocalTime", "Single(", "v8", "Ordering", "Less", "=>", "if", "v2", "<=", "v13", "return", "Ok(", "MappedLocalTime", "Single(", "v5", "else", "if", "v2", "<", "v10", "return", "Ok(", "MappedLocalTime", "None", "else", "if", "v2", "==", "v10", "return", "Ok(", "MappedLocalTime", "Single(", "v8", "v5", "v8", "v5", "else", "self", "v6", "0", "if", "Some(", "v14", "self", "v14", "match", "v14", "find_local_time_type_from_local(", "v1", "Ok(", "v15", "=>", "Ok(", "v15", "Err(", "Error", "OutOfRange(", "v16", "=>", "Err(", "Error", "FindLocalTimeType(", "v16", "v17", "=>", "v17", "else", "Ok(", "MappedLocalTime", "Single(", "v3"] := rfl

/-- src/offset/local/tz_info/timezone.rs:fn new -/
theorem src_offset_local_tz_info_timezone_rs_fn_new : C16_src_offset_local_tz_info_timezone_rs_fn_new =
    ["v1", "Vec", "<", "Transition", ">", "v2", "Vec", "<", "LocalTimeType", ">", "v3", "Vec", "<", "LeapSecond", ">", "v4", "Option", "<", "TransitionRule", ">", "->", "Result", "<", "Self", "Error", ">", "v5", "Self", "v1", "v2", "v3", "v4", "v5", "as_ref(", "validate(", "?", "Ok(", "v5", "§", "v1", "i64", "v2", "usize", "->", "Self", "Self", "v1", "v2", "§", "v1", "i64", "v2", "i32", "->", "Self", "Self", "v1", "v2", "§", "v1", "&", "u8", "->", "Result", "<", "Self", "Error", ">", "v2", "v1", "len(", "if!(", "3", "..=", "7", "contains(", "&", "v2", "return", "Err(", "Error", "LocalTimeType(", "\"…\"", "v3", "0", "8", "v3", "0", "v1", "len(", "as", "u8", "v4", "0", "while", "v4", "<", "v2", "v5", "v1", "v4", "match", "v5", "b'0'", "..=", "b'9'", "|", "b'A'", "..=", "b'Z'", "|", "b'a'", "..=", "b'z'", "|", "b'+'", "|", "b'-'", "=>", "v6", "=>", "return", "Err(", "Error", "LocalTimeType(", "\"…\"", "v3", "v4", "+", "1", "v5", "v4", "+=", "1", "Ok(", "Self", "v3", "§", "v1", "i32", "v2", "bool", "v3", "Option", "<", "&", "u8", ">", "->", "Result", "<", "Self", "Error", ">", "if", "v1", "<=", "-", "86400", "||", "v1", ">=", "86400", "return", "Err(", "Error", "LocalTimeType(", "\"…\"", "v3", "match", "v3", "Some(", "v3", "=>", "TimeZoneName", "new(", "v3", "?", "None", "=>", "return", "Ok(", "Self", "v1", "v2", "v3", "None", "Ok(", "Self", "v1", "v2", "v3", "Some(", "v3"] := rfl

/-- src/offset/local/tz_info/timezone.rs:fn unix_time_to_unix_leap_time -/
theorem src_offset_local_tz_info_timezone_rs_fn_unix_time_to_unix_leap_time : C16_src_offset_local_tz_info_timezone_rs_fn_unix_time_to_unix_leap_time =
    ["&", "self", "v1", "i64", "->", "Result", "<", "i64", "Error", ">", "v2", "v1", "v3", "0", "while", "v3", "<", "self", "v4", "len(", "v5", "&", "self", "v4", "v3", "if", "v2", "<", "v5", "v2", "break", "v2", "match", "v1", "checked_add(", "v5", "v6", "as", "i64", "Some(", "v2", "=>", "v2", "None", "=>", "return", "Err(", "Error", "OutOfRange(", "\"…\"", "v3", "+=", "1", "Ok(", "v2"] := rfl

/-- src/offset/local/tz_info/timezone.rs:fn validate -/
theorem src_offset_local_tz_info_timezone_rs_fn_validate : C16_src_offset_local_tz_info_timezone_rs_fn_validate =
    ["&", "self", "->", "Result", "<", "Error", ">", "v1", "self", "v2", "len(", "if", "v1", "==", "0", "return", "Err(", "Error", "TimeZone(", "\"…\"", "v3", "0", "while", "v3", "<", "self", "v4", "len(", "if", "self", "v4", "v3", "v5", ">=", "v1", "return", "Err(", "Error", "TimeZone(", "\"…\"", "if", "v3", "+", "1", "<", "self", "v4", "len(", "&&", "self", "v4", "v3", "v6", ">=", "self", "v4", "v3", "+", "1", "v6", "return", "Err(", "Error", "TimeZone(", "\"…\"", "v3", "+=", "1", "if!(", "self", "v7", "is_empty(", "||", "self", "v7", "0", "v6", ">=", "0", "&&", "self", "v7", "0", "v8", "saturating_abs(", "==", "1", "return", "Err(", "Error", "TimeZone(", "\"…\"", "v9", "SECONDS_PER_28_DAYS", "-", "1", "v10", "0", "while", "v10", "<", "self", "v7", "len(", "if", "v10", "+", "1", "<", "self", "v7", "len(", "v11", "&", "self", "v7", "v10", "v12", "&", "self", "v7", "v10", "+", "1", "v13", "v12", "v6", "saturating_sub(", "v11", "v6", "v14", "v12", "v8", "saturating_sub(", "v11", "v8", "saturating_abs(", "if!(", "v13", ">=", "v9", "&&", "v14", "==", "1", "return", "Err(", "Error", "TimeZone(", "\"…\"", "v10", "+=", "1", "let(", "v15", "v16", "match(", "&", "self", "v15", "self", "v4", "last(", "Some(", "v17", "Some(", "v18", "=>", "v17", "v18", "v19", "=>", "return", "Ok(", "v20", "&", "self", "v2", "v16", "v5", "v21", "match", "self", "unix_leap_time_to_unix_time(", "v16", "v6", "Ok(", "v21", "=>", "v21", "Err(", "Error", "OutOfRange(", "v22", "=>", "return", "Err(", "Error", "TimeZone(", "v22", "Err(", "v23", "=>", "return", "Err(", "v23", "v24", "match", "v15", "find_local_time_type(", "v21", "Ok(", "v24", "=>", "v24", "Err(", "Error", "OutOfRange(", "v22", "=>", "return", "Err(", "Error", "TimeZone(", "v22", "Err(", "v23", "=>", "return", "Err(", "v23", "v25", "v20", "v26", "==", "v24", "v26", "&&", "v20", "v27", "==", "v24", "v27", "&&", "match(", "&", "v20", "v28", "&", "v24", "v28", "Some(", "v29", "Some(", "v30", "=>", "v29", "equal(", "v30", "None", "None", "=>", "true", "v19", "=>", "false", "if", "!", "v25", "return", "Err(", "Error", "TimeZone(", "\"…\"", "Ok("] := rfl

/-- src/offset/local/tz_info/timezone.rs:fn with_offset -/
theorem src_offset_local_tz_info_timezone_rs_fn_with_offset : C16_src_offset_local_tz_info_timezone_rs_fn_with_offset =
    ["v1", "i32", "->", "Result", "<", "Self", "Error", ">", "if", "v1", "<=", "-", "86400", "||", "v1", ">=", "86400", "return", "Err(", "Error", "LocalTimeType(", "\"…\"", "Ok(", "Self", "v1", "v2", "false", "v3", "None"] := rfl

/-- callee src/datetime/mod.rs:fn from_naive_utc_and_offset -/
theorem callee_src_datetime_mod_rs_fn_from_naive_utc_and_offset : C16_callee_src_datetime_mod_rs_fn_from_naive_utc_and_offset =
    ["v1", "NaiveDateTime", "v2", "Tz", "Offset", "->", "DateTime", "<", "Tz", ">", "DateTime", "v1", "v2"] := rfl

/-- callee src/naive/datetime/mod.rs:fn and_utc -/
theorem callee_src_naive_datetime_mod_rs_fn_and_utc : C16_callee_src_naive_datetime_mod_rs_fn_and_utc =
    ["&", "self", "->", "DateTime", "<", "Utc", ">", "DateTime", "from_naive_utc_and_offset(", "*", "self", "Utc"] := rfl

/-- callee src/offset/local/tz_info/parser.rs:fn peek -/
theorem callee_src_offset_local_tz_info_parser_rs_fn_peek : C16_callee_src_offset_local_tz_info_parser_rs_fn_peek =
    ["&", "self", "->", "Option", "<", "&", "u8", ">", "self", "remaining(", "first("] := rfl

/-- callee src/offset/local/tz_info/parser.rs:fn read_be_i32 -/
theorem callee_src_offset_local_tz_info_parser_rs_fn_read_be_i32 : C16_callee_src_offset_local_tz_info_parser_rs_fn_read_be_i32 =
    ["v1", "&", "u8", "->", "Result", "<", "i32", "Error", ">", "if", "v1", "len(", "!=", "4", "return", "Err(", "Error", "InvalidSlice(", "\"…\"", "v2", "0", "4", "v2", "copy_from_slice(", "v1", "Ok(", "i32", "from_be_bytes(", "v2"] := rfl

/-- callee src/offset/local/tz_info/parser.rs:fn read_be_i64 -/
theorem callee_src_offset_local_tz_info_parser_rs_fn_read_be_i64 : C16_callee_src_offset_local_tz_info_parser_rs_fn_read_be_i64 =
    ["v1", "&", "u8", "->", "Result", "<", "i64", "Error", ">", "if", "v1", "len(", "!=", "8", "return", "Err(", "Error", "InvalidSlice(", "\"…\"", "v2", "0", "8", "v2", "copy_from_slice(", "v1", "Ok(", "i64", "from_be_bytes(", "v2"] := rfl

/-- callee src/offset/local/tz_info/parser.rs:fn read_be_u32 -/
theorem callee_src_offset_local_tz_info_parser_rs_fn_read_be_u32 : C16_callee_src_offset_local_tz_info_parser_rs_fn_read_be_u32 =
    ["&", "self", "->", "Result", "<", "u32", "Error", ">", "v1", "0", "4", "v1", "copy_from_slice(", "self", "read_exact(", "4", "?", "Ok(", "u32", "from_be_bytes(", "v1"] := rfl

/-- callee src/offset/local/tz_info/parser.rs:fn read_int -/
theorem callee_src_offset_local_tz_info_parser_rs_fn_read_int : C16_callee_src_offset_local_tz_info_parser_rs_fn_read_int =
    ["<", "T", "FromStr", "<", "Err", "ParseIntError", ">>", "&", "self", "->", "Result", "<", "T", "Error", ">", "v1", "self", "read_while(", "u8", "v2", "?", "Ok(", "str", "from_utf8(", "v1", "?", "parse(", "?"] := rfl

/-- callee src/offset/local/tz_info/parser.rs:fn read_optional_tag -/
theorem callee_src_offset_local_tz_info_parser_rs_fn_read_optional_tag : C16_callee_src_offset_local_tz_info_parser_rs_fn_read_optional_tag =
    ["&", "self", "v1", "&", "u8", "->", "Result", "<", "bool", "v2", "Error", ">", "if", "self", "v3", "starts_with(", "v1", "self", "read_exact(", "v1", "len(", "?", "Ok(", "true", "else", "Ok(", "false"] := rfl

/-- callee src/offset/local/tz_info/parser.rs:fn read_tag -/
theorem callee_src_offset_local_tz_info_parser_rs_fn_read_tag : C16_callee_src_offset_local_tz_info_parser_rs_fn_read_tag =
    ["&", "self", "v1", "&", "u8", "->", "Result", "<", "v2", "Error", ">", "if", "self", "read_exact(", "v1", "len(", "?", "==", "v1", "Ok(", "else", "Err(", "v2", "Error", "from(", "ErrorKind", "InvalidData"] := rfl

/-- callee src/offset/local/tz_info/parser.rs:fn read_until -/
theorem callee_src_offset_local_tz_info_parser_rs_fn_read_until : C16_callee_src_offset_local_tz_info_parser_rs_fn_read_until =
    ["<", "F", "Fn(", "&", "u8", "->", "bool", ">", "&", "self", "v1", "F", "->", "Result", "<", "&", "u8", "v2", "Error", ">", "match", "self", "v3", "iter(", "position(", "v1", "None", "=>", "self", "read_exact(", "self", "v3", "len(", "Some(", "v4", "=>", "self", "read_exact(", "v4"] := rfl

/-- callee src/offset/local/tz_info/parser.rs:fn read_while -/
theorem callee_src_offset_local_tz_info_parser_rs_fn_read_while : C16_callee_src_offset_local_tz_info_parser_rs_fn_read_while =
    ["<", "F", "Fn(", "&", "u8", "->", "bool", ">", "&", "self", "v1", "F", "->", "Result", "<", "&", "u8", "v2", "Error", ">", "match", "self", "v3", "iter(", "position(", "|", "v4", "|", "!", "f(", "v4", "None", "=>", "self", "read_exact(", "self", "v3", "len(", "Some(", "v5", "=>", "self", "read_exact(", "v5"] := rfl

/-- callee src/offset/local/tz_info/parser.rs:fn remaining -/
theorem callee_src_offset_local_tz_info_parser_rs_fn_remaining : C16_callee_src_offset_local_tz_info_parser_rs_fn_remaining =
    ["&", "self", "->", "&", "u8", "self", "v1"] := rfl

/-- callee src/offset/local/tz_info/timezone.rs:fn equal -/
theorem callee_src_offset_local_tz_info_timezone_rs_fn_equal : C16_callee_src_offset_local_tz_info_timezone_rs_fn_equal =
    ["&", "self", "v1", "&", "Self", "->", "bool", "self", "v2", "==", "v1", "v2"] := rfl

/-- callee src/offset/local/tz_info/timezone.rs:fn unix_leap_time_to_unix_time -/
theorem callee_src_offset_local_tz_info_timezone_rs_fn_unix_leap_time_to_unix_time : C16_callee_src_offset_local_tz_info_timezone_rs_fn_unix_leap_time_to_unix_time =
    ["&", "self", "v1", "i64", "->", "Result", "<", "i64", "Error", ">", "if", "v1", "==", "i64", "MIN", "return", "Err(", "Error", "OutOfRange(", "\"…\"", "v2", "match", "self", "v3", "binary_search_by_key(", "&", "v1", "-", "1", "LeapSecond", "v1", "Ok(", "v4", "=>", "v4", "+", "1", "Err(", "v4", "=>", "v4", "v5", "if", "v2", ">", "0", "self", "v3", "v2", "-", "1", "v5", "else", "0", "match", "v1", "checked_sub(", "v5", "as", "i64", "Some(", "v6", "=>", "Ok(", "v6", "None", "=>", "Err(", "Error", "OutOfRange(", "\"…\""] := rfl

end Chrono.Pins.C16
