/-
  PINS of property C15: the decision tokens of every item the property is anchored in
  (properties.jsonl `anchors` + tools/anchor_extra.json), as they were in /repo at 32de816 when the
  model was validated against the source.  Written by tools/pin_anchors.py; the right-hand sides are
  compared by the kernel with lean/Chrono/Extracted/Anchors.lean, which tools/extractors/anchors.py
  regenerates from /repo's working tree on every check.  A theorem that fails here means: anchored
  code changed; the hand-written model may no longer mirror it.
-/
import Chrono.Extracted.Anchors
namespace Chrono.Pins.C15
open Chrono.Extracted.Anchors

/-- src/datetime/mod.rs:fn checked_add_days -/
theorem src_datetime_mod_rs_fn_checked_add_days : C15_src_datetime_mod_rs_fn_checked_add_days =
    ["self", "v1", "Days", "->", "Option", "<", "Self", ">", "if", "v1", "==", "Days", "new(", "0", "return", "Some(", "self", "self", "overflowing_naive_local(", "checked_add_days(", "v1", "and_then(", "|", "v2", "|", "self", "timezone(", "from_local_datetime(", "&", "v2", "single(", "filter(", "|", "v2", "|", "v2", "<=", "&", "DateTime", "<", "Utc", ">", "MAX_UTC"] := rfl

/-- src/datetime/mod.rs:fn checked_sub_days -/
theorem src_datetime_mod_rs_fn_checked_sub_days : C15_src_datetime_mod_rs_fn_checked_sub_days =
    ["self", "v1", "Days", "->", "Option", "<", "Self", ">", "self", "overflowing_naive_local(", "checked_sub_days(", "v1", "and_then(", "|", "v2", "|", "self", "timezone(", "from_local_datetime(", "&", "v2", "single(", "filter(", "|", "v2", "|", "v2", ">=", "&", "DateTime", "<", "Utc", ">", "MIN_UTC"] := rfl

/-- src/datetime/mod.rs:fn map_local -/
theorem src_datetime_mod_rs_fn_map_local : C15_src_datetime_mod_rs_fn_map_local =
    ["<", "Tz", "TimeZone", "F", ">", "v1", "&", "DateTime", "<", "Tz", ">", "v2", "F", "->", "Option", "<", "DateTime", "<", "Tz", ">>", "F", "FnMut(", "NaiveDateTime", "->", "Option", "<", "NaiveDateTime", ">", "f(", "v1", "overflowing_naive_local(", "and_then(", "|", "v3", "|", "v1", "timezone(", "from_local_datetime(", "&", "v3", "single(", "filter(", "|", "v1", "|", "v1", ">=", "&", "DateTime", "<", "Utc", ">", "MIN_UTC", "&&", "v1", "<=", "&", "DateTime", "<", "Utc", ">", "MAX_UTC"] := rfl

/-- src/datetime/mod.rs:fn overflowing_naive_local -/
theorem src_datetime_mod_rs_fn_overflowing_naive_local : C15_src_datetime_mod_rs_fn_overflowing_naive_local =
    ["&", "self", "->", "NaiveDateTime", "self", "v1", "overflowing_add_offset(", "self", "v2", "fix("] := rfl

/-- src/datetime/mod.rs:fn to_rfc3339 -/
theorem src_datetime_mod_rs_fn_to_rfc3339 : C15_src_datetime_mod_rs_fn_to_rfc3339 =
    ["&", "self", "->", "String", "v1", "String", "with_capacity(", "32", "v2", "self", "overflowing_naive_local(", "v3", "self", "v3", "fix(", "write_rfc3339(", "&", "v1", "v2", "v3", "SecondsFormat", "AutoSi", "false", "expect(", "\"…\"", "v1"] := rfl

/-- src/datetime/mod.rs:fn to_rfc3339_opts -/
theorem src_datetime_mod_rs_fn_to_rfc3339_opts : C15_src_datetime_mod_rs_fn_to_rfc3339_opts =
    ["&", "self", "v1", "SecondsFormat", "v2", "bool", "->", "String", "v3", "String", "with_capacity(", "38", "v4", "self", "overflowing_naive_local(", "write_rfc3339(", "&", "v3", "v4", "self", "v5", "fix(", "v1", "v2", "expect(", "\"…\"", "v3"] := rfl

/-- src/datetime/mod.rs:fn with_time -/
theorem src_datetime_mod_rs_fn_with_time : C15_src_datetime_mod_rs_fn_with_time =
    ["&", "self", "v1", "NaiveTime", "->", "LocalResult", "<", "Self", ">", "self", "timezone(", "from_local_datetime(", "&", "self", "overflowing_naive_local(", "date(", "and_time(", "v1", "and_then(", "|", "v2", "|", "if", "v2", ">=", "DateTime", "<", "Utc", ">", "MIN_UTC", "&&", "v2", "<=", "DateTime", "<", "Utc", ">", "MAX_UTC", "Some(", "v2", "else", "None"] := rfl

/-- src/datetime/serde.rs:impl Serialize for DateTime -/
theorem src_datetime_serde_rs_impl_Serialize_for_DateTime : C15_src_datetime_serde_rs_impl_Serialize_for_DateTime =
    ["<", "Tz", "TimeZone", ">", "v1", "Serialize", "for", "DateTime", "<", "Tz", ">", "v2", "<", "S", ">", "&", "self", "v3", "S", "->", "Result", "<", "S", "Ok", "S", "Error", ">", "S", "v1", "Serializer", "FormatIso8601", "<", "Tz", "TimeZone", ">", "v4", "&", "DateTime", "<", "Tz", ">", "<", "Tz", "TimeZone", ">", "v5", "Display", "for", "FormatIso8601", "<", "Tz", ">", "fmt(", "&", "self", "v6", "&", "v5", "Formatter", "->", "v5", "Result", "v7", "self", "v4", "overflowing_naive_local(", "v8", "self", "v4", "v8", "fix(", "write_rfc3339(", "v6", "v7", "v8", "SecondsFormat", "AutoSi", "true", "v3", "collect_str(", "&", "FormatIso8601", "v4", "self"] := rfl

/-- src/format/parse.rs:fn parse_internal -/
theorem src_format_parse_rs_fn_parse_internal : C15_src_format_parse_rs_fn_parse_internal =
    ["<", "I", "B", ">", "v1", "&", "Parsed", "v2", "&", "str", "v3", "I", "->", "Result", "<", "&", "str", "ParseError", ">", "I", "Iterator", "<", "Item", "B", ">", "B", "Borrow", "<", "Item", "<", ">>", "v4", "!", "v5", "v6", "v7", "=>", "match", "v6", "Ok(", "v8", "v9", "=>", "v2", "v8", "v9", "Err(", "v6", "=>", "return", "Err(", "v6", "for", "v10", "in", "v3", "match", "*", "v10", "borrow(", "Item", "Literal(", "v11", "=>", "if", "v2", "len(", "<", "v11", "len(", "return", "Err(", "TOO_SHORT", "if", "!", "v2", "starts_with(", "v11", "return", "Err(", "INVALID", "v2", "&", "v2", "v11", "len(", "..", "Item", "OwnedLiteral(", "v11", "=>", "if", "v2", "len(", "<", "v11", "len(", "return", "Err(", "TOO_SHORT", "if", "!", "v2", "starts_with(", "&", "v11", "..", "return", "Err(", "INVALID", "v2", "&", "v2", "v11", "len(", "..", "Item", "Space(", "v12", "=>", "v2", "v2", "trim_start(", "Item", "OwnedSpace(", "v12", "=>", "v2", "v2", "trim_start(", "Item", "Numeric(", "v13", "v14", "=>", "Numeric", "*", "Setter", "fn(", "&", "Parsed", "i64", "->", "ParseResult", "<", ">", "let(", "v15", "v16", "v17", "usize", "bool", "Setter", "match", "*", "v13", "Year", "=>", "4", "true", "Parsed", "v18", "YearDiv100", "=>", "2", "false", "Parsed", "v19", "YearMod100", "=>", "2", "false", "Parsed", "v20", "IsoYear", "=>", "4", "true", "Parsed", "v21", "IsoYearDiv100", "=>", "2", "false", "Parsed", "v22", "IsoYearMod100", "=>", "2", "false", "Parsed", "v23", "Quarter", "=>", "1", "false", "Parsed", "v24", "Month", "=>", "2", "false", "Parsed", "v25", "Day", "=>", "2", "false", "Parsed", "v26", "WeekFromSun", "=>", "2", "false", "Parsed", "v27", "WeekFromMon", "=>", "2", "false", "Parsed", "v28", "IsoWeek", "=>", "2", "false", "Parsed", "v29", "NumDaysFromSun", "=>", "1", "false", "v30", "WeekdayFromMon", "=>", "1", "false", "v31", "Ordinal", "=>", "3", "false", "Parsed", "v32", "Hour", "=>", "2", "false", "Parsed", "v33", "Hour12", "=>", "2", "false", "Parsed", "v34", "Minute", "=>", "2", "false", "Parsed", "v35", "Second", "=>", "2", "false", "Parsed", "v36", "Nanosecond", "=>", "9", "false", "Parsed", "v37", "Timestamp", "=>", "usize", "MAX", "true", "Parsed", "v38", "Internal(", "v39", "=>", "match", "v39", "v40", "v2", "v2", "trim_start(", "v9", "if", "v16", "if", "v2", "starts_with(", "'-'", "v9", "try_consume!(", "v41", "number(", "&", "v2", "1", "..", "1", "usize", "MAX", "0", "checked_sub(", "v9", "ok_or(", "OUT_OF_RANGE", "?", "else", "if", "v2", "starts_with(", "'+'", "try_consume!(", "v41", "number(", "&", "v2", "1", "..", "1", "usize", "MAX", "else", "try_consume!(", "v41", "number(", "v2", "1", "v15", "else", "try_consume!(", "v41", "number(", "v2", "1", "v15", "set(", "v1", "v9", "?", "Item", "Fixed(", "v13", "=>", "Fixed", "*", "match", "v13", "&", "ShortMonthName", "=>", "v42", "try_consume!(", "v41", "short_month0(", "v2", "v1", "set_month(", "i64", "from(", "v42", "+", "1", "?", "&", "LongMonthName", "=>", "v42", "try_consume!(", "v41", "short_or_long_month0(", "v2", "v1", "set_month(", "i64", "from(", "v42", "+", "1", "?", "&", "ShortWeekdayName", "=>", "v43", "try_consume!(", "v41", "short_weekday(", "v2", "v1", "set_weekday(", "v43", "?", "&", "LongWeekdayName", "=>", "v43", "try_consume!(", "v41", "short_or_long_weekday(", "v2", "v1", "set_weekday(", "v43", "?", "&", "LowerAmPm", "|", "&", "UpperAmPm", "=>", "if", "v2", "len(", "<", "2", "return", "Err(", "TOO_SHORT", "v44", "match(", "v2", "as_bytes(", "0", "|", "32", "v2", "as_bytes(", "1", "|", "32", "b'a'", "b'm'", "=>", "false", "b'p'", "b'm'", "=>", "true", "v12", "=>", "return", "Err(", "INVALID", "v1", "set_ampm(", "v44", "?", "v2", "&", "v2", "2", "..", "&", "Nanosecond", "|", "&", "Nanosecond3", "|", "&", "Nanosecond6", "|", "&", "Nanosecond9", "=>", "if", "v2", "starts_with(", "'.'", "v45", "try_consume!(", "v41", "nanosecond(", "&", "v2", "1", "..", "v1", "set_nanosecond(", "v45", "?", "&", "Internal(", "InternalFixed", "v46", "InternalInternal", "Nanosecond3NoDot", "=>", "if", "v2", "len(", "<", "3", "return", "Err(", "TOO_SHORT", "v45", "try_consume!(", "v41", "nanosecond_fixed(", "v2", "3", "v1", "set_nanosecond(", "v45", "?", "&", "Internal(", "InternalFixed", "v46", "InternalInternal", "Nanosecond6NoDot", "=>", "if", "v2", "len(", "<", "6", "return", "Err(", "TOO_SHORT", "v45", "try_consume!(", "v41", "nanosecond_fixed(", "v2", "6", "v1", "set_nanosecond(", "v45", "?", "&", "Internal(", "InternalFixed", "v46", "InternalInternal", "Nanosecond9NoDot", "=>", "if", "v2", "len(", "<", "9", "return", "Err(", "TOO_SHORT", "v45", "try_consume!(", "v41", "nanosecond_fixed(", "v2", "9", "v1", "set_nanosecond(", "v45", "?", "&", "TimezoneName", "=>", "try_consume!(", "Ok(", "v2", "trim_start_matches(", "|", "v47", "char", "|", "!", "v47", "is_whitespace(", "&", "TimezoneOffsetColon", "|", "&", "TimezoneOffsetDoubleColon", "|", "&", "TimezoneOffsetTripleColon", "|", "&", "TimezoneOffset", "=>", "v48", "try_consume!(", "v41", "timezone_offset(", "v2", "trim_start(", "v41", "v49", "false", "false", "true", "v1", "set_offset(", "i64", "from(", "v48", "?", "&", "TimezoneOffsetColonZ", "|", "&", "TimezoneOffsetZ", "=>", "v48", "try_consume!(", "v41", "timezone_offset(", "v2", "trim_start(", "v41", "v49", "true", "false", "true", "v1", "set_offset(", "i64", "from(", "v48", "?", "&", "Internal(", "InternalFixed", "v46", "InternalInternal", "TimezoneOffsetPermissive", "=>", "v48", "try_consume!(", "v41", "timezone_offset(", "v2", "trim_start(", "v41", "v49", "true", "true", "true", "v1", "set_offset(", "i64", "from(", "v48", "?", "&", "RFC2822", "=>", "try_consume!(", "parse_rfc2822(", "v1", "v2", "&", "RFC3339", "=>", "try_consume!(", "parse_rfc3339_relaxed(", "v1", "v2", "Item", "Error", "=>", "return", "Err(", "BAD_FORMAT", "Ok(", "v2"] := by decide +kernel

/-- src/format/parsed.rs:fn to_naive_datetime_with_offset -/
theorem src_format_parsed_rs_fn_to_naive_datetime_with_offset : C15_src_format_parsed_rs_fn_to_naive_datetime_with_offset =
    ["&", "self", "v1", "i32", "->", "ParseResult", "<", "NaiveDateTime", ">", "v2", "self", "to_naive_date(", "v3", "self", "to_naive_time(", "if", "let(", "Ok(", "v2", "Ok(", "v3", "v2", "v3", "v4", "v2", "and_time(", "v3", "v5", "v4", "and_utc(", "timestamp(", "-", "i64", "from(", "v1", "if", "Some(", "v6", "self", "v5", "if", "v6", "!=", "v5", "&&", "!", "v4", "nanosecond(", ">=", "1000000000", "&&", "v6", "==", "v5", "+", "1", "return", "Err(", "IMPOSSIBLE", "Ok(", "v4", "else", "if", "Some(", "v5", "self", "v5", "ParseError", "as", "PE", "ParseErrorKind", "Impossible", "OutOfRange", "match(", "v2", "v3", "Err(", "PE(", "OutOfRange", "v7", "|", "v7", "Err(", "PE(", "OutOfRange", "=>", "return", "Err(", "OUT_OF_RANGE", "Err(", "PE(", "Impossible", "v7", "|", "v7", "Err(", "PE(", "Impossible", "=>", "return", "Err(", "IMPOSSIBLE", "v7", "v7", "=>", "v8", "v5", "checked_add(", "i64", "from(", "v1", "ok_or(", "OUT_OF_RANGE", "?", "v4", "DateTime", "from_timestamp(", "v8", "0", "ok_or(", "OUT_OF_RANGE", "?", "naive_utc(", "v9", "self", "clone(", "if", "v9", "v10", "==", "Some(", "60", "match", "v4", "second(", "59", "=>", "0", "=>", "v4", "v4", "checked_sub_signed(", "TimeDelta", "try_seconds(", "1", "unwrap(", "ok_or(", "OUT_OF_RANGE", "?", "v7", "=>", "return", "Err(", "IMPOSSIBLE", "else", "v9", "set_second(", "i64", "from(", "v4", "second(", "?", "v9", "set_year(", "i64", "from(", "v4", "year(", "?", "v9", "set_ordinal(", "i64", "from(", "v4", "ordinal(", "?", "v9", "set_hour(", "i64", "from(", "v4", "hour(", "?", "v9", "set_minute(", "i64", "from(", "v4", "minute(", "?", "v2", "v9", "to_naive_date(", "?", "v3", "v9", "to_naive_time(", "?", "Ok(", "v2", "and_time(", "v3", "else", "v2", "?", "v3", "?", "unreachable!("] := rfl

/-- src/format/scan.rs:fn comment_2822 -/
theorem src_format_scan_rs_fn_comment_2822 : C15_src_format_scan_rs_fn_comment_2822 =
    ["v1", "&", "str", "->", "ParseResult", "<", "&", "str", ">", "CommentState", "*", "v1", "v1", "trim_start(", "v2", "Start", "for(", "v3", "v4", "in", "v1", "bytes(", "enumerate(", "v2", "match(", "v2", "v4", "Start", "b'('", "=>", "Next(", "1", "Next(", "1", "b')'", "=>", "return", "Ok(", "&", "v1", "v3", "+", "1", "..", "Next(", "v5", "b'\\\\'", "=>", "Escape(", "v5", "Next(", "v5", "b'('", "=>", "Next(", "v5", "+", "1", "Next(", "v5", "b')'", "=>", "Next(", "v5", "-", "1", "Next(", "v5", "v6", "|", "Escape(", "v5", "v6", "=>", "Next(", "v5", "v6", "=>", "return", "Err(", "INVALID", "Err(", "TOO_SHORT"] := rfl

/-- src/format/scan.rs:fn short_month0 -/
theorem src_format_scan_rs_fn_short_month0 : C15_src_format_scan_rs_fn_short_month0 =
    ["v1", "&", "str", "->", "ParseResult", "<", "&", "str", "u8", ">", "if", "v1", "len(", "<", "3", "return", "Err(", "TOO_SHORT", "v2", "v1", "as_bytes(", "v3", "match(", "v2", "0", "|", "32", "v2", "1", "|", "32", "v2", "2", "|", "32", "b'j'", "b'a'", "b'n'", "=>", "0", "b'f'", "b'e'", "b'b'", "=>", "1", "b'm'", "b'a'", "b'r'", "=>", "2", "b'a'", "b'p'", "b'r'", "=>", "3", "b'm'", "b'a'", "b'y'", "=>", "4", "b'j'", "b'u'", "b'n'", "=>", "5", "b'j'", "b'u'", "b'l'", "=>", "6", "b'a'", "b'u'", "b'g'", "=>", "7", "b's'", "b'e'", "b'p'", "=>", "8", "b'o'", "b'c'", "b't'", "=>", "9", "b'n'", "b'o'", "b'v'", "=>", "10", "b'd'", "b'e'", "b'c'", "=>", "11", "v4", "=>", "return", "Err(", "INVALID", "Ok(", "&", "v1", "3", "..", "v3"] := rfl

/-- src/format/scan.rs:fn short_weekday -/
theorem src_format_scan_rs_fn_short_weekday : C15_src_format_scan_rs_fn_short_weekday =
    ["v1", "&", "str", "->", "ParseResult", "<", "&", "str", "Weekday", ">", "if", "v1", "len(", "<", "3", "return", "Err(", "TOO_SHORT", "v2", "v1", "as_bytes(", "v3", "match(", "v2", "0", "|", "32", "v2", "1", "|", "32", "v2", "2", "|", "32", "b'm'", "b'o'", "b'n'", "=>", "Weekday", "Mon", "b't'", "b'u'", "b'e'", "=>", "Weekday", "Tue", "b'w'", "b'e'", "b'd'", "=>", "Weekday", "Wed", "b't'", "b'h'", "b'u'", "=>", "Weekday", "Thu", "b'f'", "b'r'", "b'i'", "=>", "Weekday", "Fri", "b's'", "b'a'", "b't'", "=>", "Weekday", "Sat", "b's'", "b'u'", "b'n'", "=>", "Weekday", "Sun", "v4", "=>", "return", "Err(", "INVALID", "Ok(", "&", "v1", "3", "..", "v3"] := rfl

/-- src/format/scan.rs:fn timezone_offset -/
theorem src_format_scan_rs_fn_timezone_offset : C15_src_format_scan_rs_fn_timezone_offset =
    ["<", "F", ">", "v1", "&", "str", "v2", "F", "v3", "bool", "v4", "bool", "v5", "bool", "->", "ParseResult", "<", "&", "str", "i32", ">", "F", "FnMut(", "&", "str", "->", "ParseResult", "<", "&", "str", ">", "if", "v3", "if", "Some(", "&", "b'Z'", "|", "&", "b'z'", "v1", "as_bytes(", "first(", "return", "Ok(", "&", "v1", "1", "..", "0", "digits(", "v1", "&", "str", "->", "ParseResult", "<", "u8", "u8", ">", "v6", "v1", "as_bytes(", "if", "v6", "len(", "<", "2", "Err(", "TOO_SHORT", "else", "Ok(", "v6", "0", "v6", "1", "v7", "match", "v1", "chars(", "next(", "Some(", "'+'", "=>", "v1", "&", "v1", "'+'", "len_utf8(", "..", "false", "Some(", "'-'", "=>", "v1", "&", "v1", "'-'", "len_utf8(", "..", "true", "Some(", "'−'", "=>", "if", "!", "v5", "return", "Err(", "INVALID", "v1", "&", "v1", "'−'", "len_utf8(", "..", "true", "Some(", "v8", "=>", "return", "Err(", "INVALID", "None", "=>", "return", "Err(", "TOO_SHORT", "v9", "match", "digits(", "v1", "?", "v10", "b'0'", "..=", "b'9'", "v11", "b'0'", "..=", "b'9'", "=>", "i32", "from(", "v10", "-", "b'0'", "*", "10", "+", "v11", "-", "b'0'", "v8", "=>", "return", "Err(", "INVALID", "v1", "&", "v1", "2", "..", "v1", "consume_colon(", "v1", "?", "v12", "if", "Ok(", "v13", "digits(", "v1", "match", "v13", "v14", "b'0'", "..=", "b'5'", "v15", "b'0'", "..=", "b'9'", "=>", "i32", "from(", "v14", "-", "b'0'", "*", "10", "+", "v15", "-", "b'0'", "b'6'", "..=", "b'9'", "b'0'", "..=", "b'9'", "=>", "return", "Err(", "OUT_OF_RANGE", "v8", "=>", "return", "Err(", "INVALID", "else", "if", "v4", "0", "else", "return", "Err(", "TOO_SHORT", "v1", "match", "v1", "len(", "v16", "if", "v16", ">=", "2", "=>", "&", "v1", "2", "..", "0", "=>", "v1", "v8", "=>", "return", "Err(", "TOO_SHORT", "v17", "v9", "*", "3600", "+", "v12", "*", "60", "Ok(", "v1", "if", "v7", "-", "v17", "else", "v17"] := rfl

/-- src/format/strftime.rs:fn error -/
theorem src_format_strftime_rs_fn_error : C15_src_format_strftime_rs_fn_error =
    ["<", ">", "&", "self", "v1", "&", "str", "v2", "&", "usize", "v3", "Option", "<", "char", ">", "->", "&", "str", "Item", "<", ">", "if", "!", "self", "v4", "return(", "&", "v1", "v1", "len(", "..", "Item", "Error", "if", "Some(", "v5", "v3", "*", "v2", "-=", "v5", "len_utf8(", "&", "v1", "*", "v2", "..", "Item", "Literal(", "&", "v1", "..", "*", "v2"] := rfl

/-- src/format/strftime.rs:fn next -/
theorem src_format_strftime_rs_fn_next : C15_src_format_strftime_rs_fn_next =
    ["&", "self", "->", "Option", "<", "Item", "<", ">>", "if", "Some(", "v1", "v2", "self", "v3", "split_first(", "self", "v3", "v2", "return", "Some(", "v1", "clone(", "if", "!", "self", "v4", "is_empty(", "let(", "v2", "v1", "self", "parse_next_item(", "self", "v4", "?", "self", "v4", "v2", "return", "Some(", "v1", "let(", "v2", "v1", "self", "parse_next_item(", "self", "v2", "?", "self", "v2", "v2", "Some(", "v1"] := rfl

/-- src/format/strftime.rs:fn parse_next_item -/
theorem src_format_strftime_rs_fn_parse_next_item : C15_src_format_strftime_rs_fn_parse_next_item =
    ["&", "self", "v1", "&", "str", "->", "Option", "<", "&", "str", "Item", "<", ">", ">", "InternalInternal", "*", "Item", "Literal", "Space", "Numeric", "*", "D_FMT", "&", "Item", "<", ">", "&", "num0(", "Month", "Literal(", "\"/\"", "num0(", "Day", "Literal(", "\"/\"", "num0(", "YearMod100", "D_T_FMT", "&", "Item", "<", ">", "&", "fixed(", "Fixed", "ShortWeekdayName", "Space(", "\" \"", "fixed(", "Fixed", "ShortMonthName", "Space(", "\" \"", "nums(", "Day", "Space(", "\" \"", "num0(", "Hour", "Literal(", "\":\"", "num0(", "Minute", "Literal(", "\":\"", "num0(", "Second", "Space(", "\" \"", "num0(", "Year", "T_FMT", "&", "Item", "<", ">", "&", "num0(", "Hour", "Literal(", "\":\"", "num0(", "Minute", "Literal(", "\":\"", "num0(", "Second", "T_FMT_AMPM", "&", "Item", "<", ">", "&", "num0(", "Hour12", "Literal(", "\":\"", "num0(", "Minute", "Literal(", "\":\"", "num0(", "Second", "Space(", "\" \"", "fixed(", "Fixed", "UpperAmPm", "match", "v1", "chars(", "next(", "None", "=>", "None", "Some(", "'%'", "=>", "v2", "v1", "v1", "&", "v1", "1", "..", "v3", "0", "if", "self", "v4", "v3", "+=", "1", "v5", "!", "v6", "=>", "match", "v1", "chars(", "next(", "Some(", "v7", "=>", "v1", "&", "v1", "v7", "len_utf8(", "..", "if", "self", "v4", "v3", "+=", "v7", "len_utf8(", "v7", "None", "=>", "return", "Some(", "self", "error(", "v2", "&", "v3", "None", "v8", "next!(", "v9", "match", "v8", "'-'", "=>", "Some(", "Pad", "None", "'0'", "=>", "Some(", "Pad", "Zero", "'_'", "=>", "Some(", "Pad", "Space", "v10", "=>", "None", "v11", "v8", "==", "'#'", "v8", "if", "v9", "is_some(", "||", "v11", "next!(", "else", "v8", "if", "v11", "&&", "!", "HAVE_ALTERNATES", "contains(", "v8", "return", "Some(", "self", "error(", "v2", "&", "v3", "Some(", "v8", "v5", "!", "v12", "v13", "v14", "v15", "v14", "+", "*", "=>", "QUEUE", "&", "Item", "<", ">", "&", "v15", "+", "self", "v12", "QUEUE", "v13", "v5", "!", "v16", "v17", "v14", "=>", "self", "v12", "&", "v17", "1", "..", "v17", "0", "clone(", "v18", "match", "v8", "'A'", "=>", "fixed(", "Fixed", "LongWeekdayName", "'B'", "=>", "fixed(", "Fixed", "LongMonthName", "'C'", "=>", "num0(", "YearDiv100", "'D'", "=>", "v12", "!", "num0(", "Month", "Literal(", "\"/\"", "num0(", "Day", "Literal(", "\"/\"", "num0(", "YearMod100", "'F'", "=>", "v12", "!", "num0(", "Year", "Literal(", "\"-\"", "num0(", "Month", "Literal(", "\"-\"", "num0(", "Day", "'G'", "=>", "num0(", "IsoYear", "'H'", "=>", "num0(", "Hour", "'I'", "=>", "num0(", "Hour12", "'M'", "=>", "num0(", "Minute", "'P'", "=>", "fixed(", "Fixed", "LowerAmPm", "'R'", "=>", "v12", "!", "num0(", "Hour", "Literal(", "\":\"", "num0(", "Minute", "'S'", "=>", "num0(", "Second", "'T'", "=>", "v12", "!", "num0(", "Hour", "Literal(", "\":\"", "num0(", "Minute", "Literal(", "\":\"", "num0(", "Second", "'U'", "=>", "num0(", "WeekFromSun", "'V'", "=>", "num0(", "IsoWeek", "'W'", "=>", "num0(", "WeekFromMon", "'X'", "=>", "queue_from_slice!(", "T_FMT", "'X'", "=>", "self", "switch_to_locale_str(", "v19", "v20", "T_FMT", "'Y'", "=>", "num0(", "Year", "'Z'", "=>", "fixed(", "Fixed", "TimezoneName", "'a'", "=>", "fixed(", "Fixed", "ShortWeekdayName", "'b'", "|", "'h'", "=>", "fixed(", "Fixed", "ShortMonthName", "'c'", "=>", "queue_from_slice!(", "D_T_FMT", "'c'", "=>", "self", "switch_to_locale_str(", "v19", "v21", "D_T_FMT", "'d'", "=>", "num0(", "Day", "'e'", "=>", "nums(", "Day", "'f'", "=>", "num0(", "Nanosecond", "'g'", "=>", "num0(", "IsoYearMod100", "'j'", "=>", "num0(", "Ordinal", "'k'", "=>", "nums(", "Hour", "'l'", "=>", "nums(", "Hour12", "'m'", "=>", "num0(", "Month", "'n'", "=>", "Space(", "\"\\n\"", "'p'", "=>", "fixed(", "Fixed", "UpperAmPm", "'q'", "=>", "num(", "Quarter", "'r'", "=>", "queue_from_slice!(", "T_FMT_AMPM", "'r'", "=>", "if", "self", "v22", "is_some(", "&&", "v19", "t_fmt_ampm(", "self", "v22", "unwrap(", "is_empty(", "self", "switch_to_locale_str(", "v19", "v20", "T_FMT", "else", "self", "switch_to_locale_str(", "v19", "v23", "T_FMT_AMPM", "'s'", "=>", "num(", "Timestamp", "'t'", "=>", "Space(", "\"\\t\"", "'u'", "=>", "num(", "WeekdayFromMon", "'v'", "=>", "v12", "!", "nums(", "Day", "Literal(", "\"-\"", "fixed(", "Fixed", "ShortMonthName", "Literal(", "\"-\"", "num0(", "Year", "'w'", "=>", "num(", "NumDaysFromSun", "'x'", "=>", "queue_from_slice!(", "D_FMT", "'x'", "=>", "self", "switch_to_locale_str(", "v19", "v24", "D_FMT", "'y'", "=>", "num0(", "YearMod100", "'z'", "=>", "if", "v11", "internal_fixed(", "TimezoneOffsetPermissive", "else", "fixed(", "Fixed", "TimezoneOffset", "'+'", "=>", "fixed(", "Fixed", "RFC3339", "':'", "=>", "if", "v1", "starts_with(", "\"::z\"", "v1", "&", "v1", "3", "..", "fixed(", "Fixed", "TimezoneOffsetTripleColon", "else", "if", "v1", "starts_with(", "\":z\"", "v1", "&", "v1", "2", "..", "fixed(", "Fixed", "TimezoneOffsetDoubleColon", "else", "if", "v1", "starts_with(", "'z'", "v1", "&", "v1", "1", "..", "fixed(", "Fixed", "TimezoneOffsetColon", "else", "self", "error(", "v2", "&", "v3", "None", "'.'", "=>", "match", "next!(", "'3'", "=>", "match", "next!(", "'f'", "=>", "fixed(", "Fixed", "Nanosecond3", "v25", "=>", "v26", "self", "error(", "v2", "&", "v3", "Some(", "v25", "v1", "v26", "v26", "'6'", "=>", "match", "next!(", "'f'", "=>", "fixed(", "Fixed", "Nanosecond6", "v25", "=>", "v26", "self", "error(", "v2", "&", "v3", "Some(", "v25", "v1", "v26", "v26", "'9'", "=>", "match", "next!(", "'f'", "=>", "fixed(", "Fixed", "Nanosecond9", "v25", "=>", "v26", "self", "error(", "v2", "&", "v3", "Some(", "v25", "v1", "v26", "v26", "'f'", "=>", "fixed(", "Fixed", "Nanosecond", "v25", "=>", "v26", "self", "error(", "v2", "&", "v3", "Some(", "v25", "v1", "v26", "v26", "'3'", "=>", "match", "next!(", "'f'", "=>", "internal_fixed(", "Nanosecond3NoDot", "v25", "=>", "v26", "self", "error(", "v2", "&", "v3", "Some(", "v25", "v1", "v26", "v26", "'6'", "=>", "match", "next!(", "'f'", "=>", "internal_fixed(", "Nanosecond6NoDot", "v25", "=>", "v26", "self", "error(", "v2", "&", "v3", "Some(", "v25", "v1", "v26", "v26", "'9'", "=>", "match", "next!(", "'f'", "=>", "internal_fixed(", "Nanosecond9NoDot", "v25", "=>", "v26", "self", "error(", "v2", "&", "v3", "Some(", "v25", "v1", "v26", "v26", "'%'", "=>", "Literal(", "\"%\"", "v25", "=>", "v26", "self", "error(", "v2", "&", "v3", "Some(", "v25", "v1", "v26", "v26", "if", "Some(", "v27", "v9", "match", "v18", "Item", "Numeric(", "v28", "v29", "if", "self", "v12", "is_empty(", "=>", "Some(", "v1", "Item", "Numeric(", "v28", "clone(", "v27", "v10", "=>", "Some(", "self", "error(", "v2", "&", "v3", "None", "else", "Some(", "v1", "v18", "Some(", "v25", "if", "v25", "is_whitespace(", "=>", "v30", "v1", "find(", "|", "v25", "char", "|", "!", "v25", "is_whitespace(", "unwrap_or(", "v1", "len(", "assert!(", "v30", ">", "0", "v18", "Space(", "&", "v1", "..", "v30", "v1", "&", "v1", "v30", "..", "Some(", "v1", "v18", "v10", "=>", "v30", "v1", "find(", "|", "v25", "char", "|", "v25", "is_whitespace(", "||", "v25", "==", "'%'", "unwrap_or(", "v1", "len(", "assert!(", "v30", ">", "0", "v18", "Literal(", "&", "v1", "..", "v30", "v1", "&", "v1", "v30", "..", "Some(", "v1", "v18"] := by decide +kernel

/-- src/naive/date/mod.rs:fn add_days -/
theorem src_naive_date_mod_rs_fn_add_days : C15_src_naive_date_mod_rs_fn_add_days =
    ["self", "v1", "i32", "->", "Option", "<", "Self", ">", "ORDINAL_MASK", "i32", "8176", "if", "Some(", "v2", "self", "yof(", "&", "ORDINAL_MASK", ">>", "4", "checked_add(", "v1", "if", "v2", ">", "0", "&&", "v2", "<=", "365", "+", "self", "leap_year(", "as", "i32", "v3", "self", "yof(", "&", "!", "ORDINAL_MASK", "return", "Some(", "NaiveDate", "from_yof(", "v3", "|", "v2", "<<", "4", "v4", "self", "year(", "let(", "v5", "v6", "div_mod_floor(", "v4", "400", "v7", "yo_to_cycle(", "v6", "as", "u32", "self", "ordinal(", "v7", "try_opt!(", "v7", "as", "i32", "checked_add(", "v1", "let(", "v8", "v7", "div_mod_floor(", "v7", "146097", "v5", "+=", "v8", "let(", "v6", "v2", "cycle_to_yo(", "v7", "as", "u32", "v9", "YearFlags", "from_year_mod_400(", "v6", "as", "i32", "NaiveDate", "from_ordinal_and_flags(", "v5", "*", "400", "+", "v6", "as", "i32", "v2", "v9"] := rfl

/-- src/naive/date/mod.rs:fn diff_months -/
theorem src_naive_date_mod_rs_fn_diff_months : C15_src_naive_date_mod_rs_fn_diff_months =
    ["self", "v1", "i32", "->", "Option", "<", "Self", ">", "v1", "try_opt!(", "self", "year(", "*", "12", "+", "self", "month(", "as", "i32", "-", "1", "checked_add(", "v1", "v2", "v1", "div_euclid(", "12", "v3", "v1", "rem_euclid(", "12", "as", "u32", "+", "1", "v4", "YearFlags", "from_year(", "v2", "v5", "if", "v4", "ndays(", "==", "366", "29", "else", "28", "v6", "31", "v5", "31", "30", "31", "30", "31", "31", "30", "31", "30", "31", "v7", "v6", "v3", "-", "1", "as", "usize", "v8", "self", "day(", "if", "v8", ">", "v7", "v8", "v7", "NaiveDate", "from_ymd_opt(", "v2", "v3", "v8"] := rfl

/-- src/naive/date/mod.rs:fn from_isoywd_opt -/
theorem src_naive_date_mod_rs_fn_from_isoywd_opt : C15_src_naive_date_mod_rs_fn_from_isoywd_opt =
    ["v1", "i32", "v2", "u32", "v3", "Weekday", "->", "Option", "<", "NaiveDate", ">", "v4", "YearFlags", "from_year(", "v1", "v5", "v4", "nisoweeks(", "if", "v2", "==", "0", "||", "v2", ">", "v5", "return", "None", "v6", "v2", "*", "7", "+", "v3", "as", "u32", "v7", "v4", "isoweek_delta(", "let(", "v1", "v8", "v4", "if", "v6", "<=", "v7", "v9", "try_opt!(", "v1", "checked_sub(", "1", "v10", "YearFlags", "from_year(", "v9", "v9", "v6", "+", "v10", "ndays(", "-", "v7", "v10", "else", "v8", "v6", "-", "v7", "v11", "v4", "ndays(", "if", "v8", "<=", "v11", "v1", "v8", "v4", "else", "v12", "try_opt!(", "v1", "checked_add(", "1", "v13", "YearFlags", "from_year(", "v12", "v12", "v8", "-", "v11", "v13", "NaiveDate", "from_ordinal_and_flags(", "v1", "v8", "v4"] := rfl

/-- src/naive/date/mod.rs:fn from_num_days_from_ce_opt -/
theorem src_naive_date_mod_rs_fn_from_num_days_from_ce_opt : C15_src_naive_date_mod_rs_fn_from_num_days_from_ce_opt =
    ["v1", "i32", "->", "Option", "<", "NaiveDate", ">", "v1", "try_opt!(", "v1", "checked_add(", "365", "v2", "v1", "div_euclid(", "146097", "v3", "v1", "rem_euclid(", "146097", "let(", "v4", "v5", "cycle_to_yo(", "v3", "as", "u32", "v6", "YearFlags", "from_year_mod_400(", "v4", "as", "i32", "NaiveDate", "from_ordinal_and_flags(", "v2", "*", "400", "+", "v4", "as", "i32", "v5", "v6"] := rfl

/-- src/naive/date/mod.rs:fn from_yof -/
theorem src_naive_date_mod_rs_fn_from_yof : C15_src_naive_date_mod_rs_fn_from_yof =
    ["v1", "i32", "->", "NaiveDate", "debug_assert!(", "v1", "&", "OL_MASK", ">>", "3", ">", "1", "debug_assert!(", "v1", "&", "OL_MASK", ">>", "3", "<=", "MAX_OL", "debug_assert!(", "v1", "&", "7", "!=", "0", "NaiveDate", "v1", "NonZeroI32", "new_unchecked(", "v1"] := rfl

/-- src/round.rs:impl DurationRound for DateTime -/
theorem src_round_rs_impl_DurationRound_for_DateTime : C15_src_round_rs_impl_DurationRound_for_DateTime =
    ["<", "Tz", "TimeZone", ">", "DurationRound", "for", "DateTime", "<", "Tz", ">", "Err", "RoundingError", "duration_round(", "self", "v1", "TimeDelta", "->", "Result", "<", "Self", "Self", "Err", ">", "duration_round(", "self", "overflowing_naive_local(", "self", "v1", "duration_trunc(", "self", "v1", "TimeDelta", "->", "Result", "<", "Self", "Self", "Err", ">", "duration_trunc(", "self", "overflowing_naive_local(", "self", "v1", "duration_round_up(", "self", "v1", "TimeDelta", "->", "Result", "<", "Self", "Self", "Err", ">", "duration_round_up(", "self", "overflowing_naive_local(", "self", "v1"] := rfl

/-- src/time_delta.rs:fn checked_mul -/
theorem src_time_delta_rs_fn_checked_mul : C15_src_time_delta_rs_fn_checked_mul =
    ["&", "self", "v1", "i32", "->", "Option", "<", "TimeDelta", ">", "v2", "self", "v3", "as", "i64", "*", "v1", "as", "i64", "let(", "v4", "v3", "div_mod_floor_64(", "v2", "NANOS_PER_SEC", "as", "i64", "v5", "i128", "self", "v5", "as", "i128", "*", "v1", "as", "i128", "+", "v4", "as", "i128", "if", "v5", "<=", "i64", "MIN", "as", "i128", "||", "v5", ">=", "i64", "MAX", "as", "i128", "return", "None", "TimeDelta", "new(", "v5", "as", "i64", "v3", "as", "u32"] := rfl

/-- callee src/datetime/mod.rs:fn from_naive_utc_and_offset -/
theorem callee_src_datetime_mod_rs_fn_from_naive_utc_and_offset : C15_callee_src_datetime_mod_rs_fn_from_naive_utc_and_offset =
    ["v1", "NaiveDateTime", "v2", "Tz", "Offset", "->", "DateTime", "<", "Tz", ">", "DateTime", "v1", "v2"] := rfl

/-- callee src/format/formatting.rs:fn write_hundreds -/
theorem callee_src_format_formatting_rs_fn_write_hundreds : C15_callee_src_format_formatting_rs_fn_write_hundreds =
    ["v1", "&", "Write", "v2", "u8", "->", "v3", "Result", "if", "v2", ">=", "100", "return", "Err(", "v3", "Error", "v4", "b'0'", "+", "v2", "/", "10", "v5", "b'0'", "+", "v2", "%", "10", "v1", "write_char(", "v4", "as", "char", "?", "v1", "write_char(", "v5", "as", "char"] := rfl

/-- callee src/format/formatting.rs:fn write_rfc3339 -/
theorem callee_src_format_formatting_rs_fn_write_rfc3339 : C15_callee_src_format_formatting_rs_fn_write_rfc3339 =
    ["v1", "&", "Write", "v2", "NaiveDateTime", "v3", "FixedOffset", "v4", "SecondsFormat", "v5", "bool", "->", "v6", "Result", "v7", "v2", "date(", "year(", "if(", "0", "..=", "9999", "contains(", "&", "v7", "write_hundreds(", "v1", "v7", "/", "100", "as", "u8", "?", "write_hundreds(", "v1", "v7", "%", "100", "as", "u8", "?", "else", "write!(", "v1", "\"{:+05}\"", "v7", "?", "v1", "write_char(", "'-'", "?", "write_hundreds(", "v1", "v2", "date(", "month(", "as", "u8", "?", "v1", "write_char(", "'-'", "?", "write_hundreds(", "v1", "v2", "date(", "day(", "as", "u8", "?", "v1", "write_char(", "'T'", "?", "let(", "v8", "v9", "v10", "v2", "time(", "hms(", "v11", "v2", "nanosecond(", "if", "v11", ">=", "1000000000", "v10", "+=", "1", "v11", "-=", "1000000000", "write_hundreds(", "v1", "v8", "as", "u8", "?", "v1", "write_char(", "':'", "?", "write_hundreds(", "v1", "v9", "as", "u8", "?", "v1", "write_char(", "':'", "?", "v10", "v10", "write_hundreds(", "v1", "v10", "as", "u8", "?", "match", "v4", "SecondsFormat", "Secs", "=>", "SecondsFormat", "Millis", "=>", "write!(", "v1", "\".{:03}\"", "v11", "/", "1000000", "?", "SecondsFormat", "Micros", "=>", "write!(", "v1", "\".{:06}\"", "v11", "/", "1000", "?", "SecondsFormat", "Nanos", "=>", "write!(", "v1", "\".{:09}\"", "v11", "?", "SecondsFormat", "AutoSi", "=>", "if", "v11", "==", "0", "else", "if", "v11", "%", "1000000", "==", "0", "write!(", "v1", "\".{:03}\"", "v11", "/", "1000000", "?", "else", "if", "v11", "%", "1000", "==", "0", "write!(", "v1", "\".{:06}\"", "v11", "/", "1000", "?", "else", "write!(", "v1", "\".{:09}\"", "v11", "?", "SecondsFormat", "__NonExhaustive", "=>", "unreachable!(", "OffsetFormat", "v12", "OffsetPrecision", "Minutes", "v13", "Colons", "Colon", "v14", "v5", "v15", "Pad", "Zero", "format(", "v1", "v3"] := rfl

/-- callee src/format/locales.rs:fn t_fmt_ampm -/
theorem callee_src_format_locales_rs_fn_t_fmt_ampm : C15_callee_src_format_locales_rs_fn_t_fmt_ampm =
    ["v1", "Locale", "->", "&", "str", "locale_match!(", "v1", "=>", "LC_TIME", "T_FMT_AMPM"] := rfl

/-- callee src/format/mod.rs:fn internal_fixed -/
theorem callee_src_format_mod_rs_fn_internal_fixed : C15_callee_src_format_mod_rs_fn_internal_fixed =
    ["v1", "InternalInternal", "->", "Item", "<", ">", "Item", "Fixed(", "Fixed", "Internal(", "InternalFixed", "v1"] := rfl

/-- callee src/format/mod.rs:fn num -/
theorem callee_src_format_mod_rs_fn_num : C15_callee_src_format_mod_rs_fn_num =
    ["v1", "Numeric", "->", "Item", "<", ">", "Item", "Numeric(", "v1", "Pad", "None"] := rfl

/-- callee src/format/mod.rs:fn num0 -/
theorem callee_src_format_mod_rs_fn_num0 : C15_callee_src_format_mod_rs_fn_num0 =
    ["v1", "Numeric", "->", "Item", "<", ">", "Item", "Numeric(", "v1", "Pad", "Zero"] := rfl

/-- callee src/format/mod.rs:fn nums -/
theorem callee_src_format_mod_rs_fn_nums : C15_callee_src_format_mod_rs_fn_nums =
    ["v1", "Numeric", "->", "Item", "<", ">", "Item", "Numeric(", "v1", "Pad", "Space"] := rfl

/-- callee src/format/parse.rs:fn parse_rfc2822 -/
theorem callee_src_format_parse_rs_fn_parse_rfc2822 : C15_callee_src_format_parse_rs_fn_parse_rfc2822 =
    ["<", ">", "v1", "&", "Parsed", "v2", "&", "str", "->", "ParseResult", "<", "&", "str", ">", "v3", "!", "v4", "v5", "v6", "=>", "let(", "v7", "v8", "v5", "?", "v2", "v7", "v8", "v2", "v2", "trim_start(", "if", "Ok(", "v7", "v9", "v10", "short_weekday(", "v2", "if", "!", "v7", "starts_with(", "','", "return", "Err(", "INVALID", "v2", "&", "v7", "1", "..", "v1", "set_weekday(", "v9", "?", "v2", "v2", "trim_start(", "v1", "set_day(", "try_consume!(", "v10", "number(", "v2", "1", "2", "?", "v2", "v10", "space(", "v2", "?", "v1", "set_month(", "1", "+", "i64", "from(", "try_consume!(", "v10", "short_month0(", "v2", "?", "v2", "v10", "space(", "v2", "?", "v11", "v2", "len(", "v12", "try_consume!(", "v10", "number(", "v2", "2", "usize", "MAX", "v13", "v11", "-", "v2", "len(", "match(", "v13", "v12", "2", "0", "..=", "49", "=>", "v12", "+=", "2000", "2", "50", "..=", "99", "=>", "v12", "+=", "1900", "3", "v14", "=>", "v12", "+=", "1900", "v14", "v14", "=>", "v1", "set_year(", "v12", "?", "v2", "v10", "space(", "v2", "?", "v1", "set_hour(", "try_consume!(", "v10", "number(", "v2", "2", "2", "?", "v2", "v10", "char(", "v2", "trim_start(", "b':'", "?", "trim_start(", "v1", "set_minute(", "try_consume!(", "v10", "number(", "v2", "2", "2", "?", "if", "Ok(", "v7", "v10", "char(", "v2", "trim_start(", "b':'", "v1", "set_second(", "try_consume!(", "v10", "number(", "v7", "2", "2", "?", "v2", "v10", "space(", "v2", "?", "v1", "set_offset(", "i64", "from(", "try_consume!(", "v10", "timezone_offset_2822(", "v2", "?", "while", "Ok(", "v15", "v10", "comment_2822(", "v2", "v2", "v15", "Ok(", "v2"] := rfl

/-- callee src/format/parse.rs:fn parse_rfc3339_relaxed -/
theorem callee_src_format_parse_rs_fn_parse_rfc3339_relaxed : C15_callee_src_format_parse_rs_fn_parse_rfc3339_relaxed =
    ["<", ">", "v1", "&", "Parsed", "v2", "&", "str", "->", "ParseResult", "<", "&", "str", ">", "DATE_ITEMS", "&", "Item", "<", ">", "&", "Item", "Numeric(", "Numeric", "Year", "Pad", "Zero", "Item", "Space(", "\"\"", "Item", "Literal(", "\"-\"", "Item", "Numeric(", "Numeric", "Month", "Pad", "Zero", "Item", "Space(", "\"\"", "Item", "Literal(", "\"-\"", "Item", "Numeric(", "Numeric", "Day", "Pad", "Zero", "TIME_ITEMS", "&", "Item", "<", ">", "&", "Item", "Numeric(", "Numeric", "Hour", "Pad", "Zero", "Item", "Space(", "\"\"", "Item", "Literal(", "\":\"", "Item", "Numeric(", "Numeric", "Minute", "Pad", "Zero", "Item", "Space(", "\"\"", "Item", "Literal(", "\":\"", "Item", "Numeric(", "Numeric", "Second", "Pad", "Zero", "Item", "Fixed(", "Fixed", "Nanosecond", "Item", "Space(", "\"\"", "v2", "parse_internal(", "v1", "v2", "DATE_ITEMS", "iter(", "?", "v2", "match", "v2", "as_bytes(", "first(", "Some(", "&", "b't'", "|", "&", "b'T'", "|", "&", "b' '", "=>", "&", "v2", "1", "..", "Some(", "v3", "=>", "return", "Err(", "INVALID", "None", "=>", "return", "Err(", "TOO_SHORT", "v2", "parse_internal(", "v1", "v2", "TIME_ITEMS", "iter(", "?", "v2", "v2", "trim_start(", "let(", "v2", "v4", "if", "v2", "len(", ">=", "3", "&&", "\"UTC\"", "as_bytes(", "eq_ignore_ascii_case(", "&", "v2", "as_bytes(", "..", "&", "v2", "3", "..", "0", "else", "v5", "timezone_offset(", "v2", "v5", "v6", "true", "false", "true", "?", "v1", "set_offset(", "i64", "from(", "v4", "?", "Ok(", "v2"] := rfl

/-- callee src/format/parsed.rs:fn resolve_week_date -/
theorem callee_src_format_parsed_rs_fn_resolve_week_date : C15_callee_src_format_parsed_rs_fn_resolve_week_date =
    ["v1", "i32", "v2", "u32", "v3", "Weekday", "v4", "Weekday", "->", "ParseResult", "<", "NaiveDate", ">", "if", "v2", ">", "53", "return", "Err(", "OUT_OF_RANGE", "v5", "NaiveDate", "from_yo_opt(", "v1", "1", "ok_or(", "OUT_OF_RANGE", "?", "v6", "1", "+", "v4", "days_since(", "v5", "weekday(", "as", "i32", "v3", "v3", "days_since(", "v4", "as", "i32", "v7", "v6", "+", "v2", "as", "i32", "-", "1", "*", "7", "+", "v3", "if", "v7", "<=", "0", "return", "Err(", "IMPOSSIBLE", "v5", "with_ordinal(", "v7", "as", "u32", "ok_or(", "IMPOSSIBLE"] := rfl

/-- callee src/format/parsed.rs:fn resolve_year -/
theorem callee_src_format_parsed_rs_fn_resolve_year : C15_callee_src_format_parsed_rs_fn_resolve_year =
    ["v1", "Option", "<", "i32", ">", "v2", "Option", "<", "i32", ">", "v3", "Option", "<", "i32", ">", "->", "ParseResult", "<", "Option", "<", "i32", ">>", "match(", "v1", "v2", "v3", "v1", "None", "None", "=>", "Ok(", "v1", "Some(", "v1", "v2", "v3", "Some(", "0", "..=", "99", "|", "Some(", "v1", "v2", "v3", "None", "=>", "if", "v1", "<", "0", "return", "Err(", "IMPOSSIBLE", "v4", "v1", "/", "100", "v5", "v1", "%", "100", "if", "v2", "unwrap_or(", "v4", "==", "v4", "&&", "v3", "unwrap_or(", "v5", "==", "v5", "Ok(", "Some(", "v1", "else", "Err(", "IMPOSSIBLE", "None", "Some(", "v2", "Some(", "v3", "0", "..=", "99", "=>", "if", "v2", "<", "0", "return", "Err(", "IMPOSSIBLE", "v1", "v2", "checked_mul(", "100", "and_then(", "|", "v6", "|", "v6", "checked_add(", "v3", "Ok(", "Some(", "v1", "ok_or(", "OUT_OF_RANGE", "?", "None", "None", "Some(", "v3", "0", "..=", "99", "=>", "Ok(", "Some(", "v3", "+", "if", "v3", "<", "70", "2000", "else", "1900", "None", "Some(", "v7", "None", "=>", "Err(", "NOT_ENOUGH", "v7", "v7", "Some(", "v7", "=>", "Err(", "OUT_OF_RANGE"] := rfl

/-- callee src/format/parsed.rs:fn set_ampm -/
theorem callee_src_format_parsed_rs_fn_set_ampm : C15_callee_src_format_parsed_rs_fn_set_ampm =
    ["&", "self", "v1", "bool", "->", "ParseResult", "<", ">", "set_if_consistent(", "&", "self", "v2", "v1", "as", "u32"] := rfl

/-- callee src/format/parsed.rs:fn set_day -/
theorem callee_src_format_parsed_rs_fn_set_day : C15_callee_src_format_parsed_rs_fn_set_day =
    ["&", "self", "v1", "i64", "->", "ParseResult", "<", ">", "if!(", "1", "..=", "31", "contains(", "&", "v1", "return", "Err(", "OUT_OF_RANGE", "set_if_consistent(", "&", "self", "v2", "v1", "as", "u32"] := rfl

/-- callee src/format/parsed.rs:fn set_hour -/
theorem callee_src_format_parsed_rs_fn_set_hour : C15_callee_src_format_parsed_rs_fn_set_hour =
    ["&", "self", "v1", "i64", "->", "ParseResult", "<", ">", "let(", "v2", "v3", "match", "v1", "v4", "0", "..=", "11", "=>", "0", "v4", "as", "u32", "v4", "12", "..=", "23", "=>", "1", "v4", "as", "u32", "-", "12", "v5", "=>", "return", "Err(", "OUT_OF_RANGE", "set_if_consistent(", "&", "self", "v2", "v2", "?", "set_if_consistent(", "&", "self", "v3", "v3"] := rfl

/-- callee src/format/parsed.rs:fn set_if_consistent -/
theorem callee_src_format_parsed_rs_fn_set_if_consistent : C15_callee_src_format_parsed_rs_fn_set_if_consistent =
    ["<", "T", "PartialEq", ">", "v1", "&", "Option", "<", "T", ">", "v2", "T", "->", "ParseResult", "<", ">", "match", "v1", "Some(", "v1", "if", "*", "v1", "!=", "v2", "=>", "Err(", "IMPOSSIBLE", "v3", "=>", "*", "v1", "Some(", "v2", "Ok("] := rfl

/-- callee src/format/parsed.rs:fn set_minute -/
theorem callee_src_format_parsed_rs_fn_set_minute : C15_callee_src_format_parsed_rs_fn_set_minute =
    ["&", "self", "v1", "i64", "->", "ParseResult", "<", ">", "if!(", "0", "..=", "59", "contains(", "&", "v1", "return", "Err(", "OUT_OF_RANGE", "set_if_consistent(", "&", "self", "v2", "v1", "as", "u32"] := rfl

/-- callee src/format/parsed.rs:fn set_month -/
theorem callee_src_format_parsed_rs_fn_set_month : C15_callee_src_format_parsed_rs_fn_set_month =
    ["&", "self", "v1", "i64", "->", "ParseResult", "<", ">", "if!(", "1", "..=", "12", "contains(", "&", "v1", "return", "Err(", "OUT_OF_RANGE", "set_if_consistent(", "&", "self", "v2", "v1", "as", "u32"] := rfl

/-- callee src/format/parsed.rs:fn set_nanosecond -/
theorem callee_src_format_parsed_rs_fn_set_nanosecond : C15_callee_src_format_parsed_rs_fn_set_nanosecond =
    ["&", "self", "v1", "i64", "->", "ParseResult", "<", ">", "if!(", "0", "..=", "999999999", "contains(", "&", "v1", "return", "Err(", "OUT_OF_RANGE", "set_if_consistent(", "&", "self", "v2", "v1", "as", "u32"] := rfl

/-- callee src/format/parsed.rs:fn set_offset -/
theorem callee_src_format_parsed_rs_fn_set_offset : C15_callee_src_format_parsed_rs_fn_set_offset =
    ["&", "self", "v1", "i64", "->", "ParseResult", "<", ">", "set_if_consistent(", "&", "self", "v2", "i32", "try_from(", "v1", "map_err(", "|", "v3", "|", "OUT_OF_RANGE", "?"] := rfl

/-- callee src/format/parsed.rs:fn set_ordinal -/
theorem callee_src_format_parsed_rs_fn_set_ordinal : C15_callee_src_format_parsed_rs_fn_set_ordinal =
    ["&", "self", "v1", "i64", "->", "ParseResult", "<", ">", "if!(", "1", "..=", "366", "contains(", "&", "v1", "return", "Err(", "OUT_OF_RANGE", "set_if_consistent(", "&", "self", "v2", "v1", "as", "u32"] := rfl

/-- callee src/format/parsed.rs:fn set_second -/
theorem callee_src_format_parsed_rs_fn_set_second : C15_callee_src_format_parsed_rs_fn_set_second =
    ["&", "self", "v1", "i64", "->", "ParseResult", "<", ">", "if!(", "0", "..=", "60", "contains(", "&", "v1", "return", "Err(", "OUT_OF_RANGE", "set_if_consistent(", "&", "self", "v2", "v1", "as", "u32"] := rfl

/-- callee src/format/parsed.rs:fn set_weekday -/
theorem callee_src_format_parsed_rs_fn_set_weekday : C15_callee_src_format_parsed_rs_fn_set_weekday =
    ["&", "self", "v1", "Weekday", "->", "ParseResult", "<", ">", "set_if_consistent(", "&", "self", "v2", "v1"] := rfl

/-- callee src/format/parsed.rs:fn set_year -/
theorem callee_src_format_parsed_rs_fn_set_year : C15_callee_src_format_parsed_rs_fn_set_year =
    ["&", "self", "v1", "i64", "->", "ParseResult", "<", ">", "set_if_consistent(", "&", "self", "v2", "i32", "try_from(", "v1", "map_err(", "|", "v3", "|", "OUT_OF_RANGE", "?"] := rfl

/-- callee src/format/parsed.rs:fn to_naive_date -/
theorem callee_src_format_parsed_rs_fn_to_naive_date : C15_callee_src_format_parsed_rs_fn_to_naive_date =
    ["&", "self", "->", "ParseResult", "<", "NaiveDate", ">", "resolve_year(", "v1", "Option", "<", "i32", ">", "v2", "Option", "<", "i32", ">", "v3", "Option", "<", "i32", ">", "->", "ParseResult", "<", "Option", "<", "i32", ">>", "match(", "v1", "v2", "v3", "v1", "None", "None", "=>", "Ok(", "v1", "Some(", "v1", "v2", "v3", "Some(", "0", "..=", "99", "|", "Some(", "v1", "v2", "v3", "None", "=>", "if", "v1", "<", "0", "return", "Err(", "IMPOSSIBLE", "v4", "v1", "/", "100", "v5", "v1", "%", "100", "if", "v2", "unwrap_or(", "v4", "==", "v4", "&&", "v3", "unwrap_or(", "v5", "==", "v5", "Ok(", "Some(", "v1", "else", "Err(", "IMPOSSIBLE", "None", "Some(", "v2", "Some(", "v3", "0", "..=", "99", "=>", "if", "v2", "<", "0", "return", "Err(", "IMPOSSIBLE", "v1", "v2", "checked_mul(", "100", "and_then(", "|", "v6", "|", "v6", "checked_add(", "v3", "Ok(", "Some(", "v1", "ok_or(", "OUT_OF_RANGE", "?", "None", "None", "Some(", "v3", "0", "..=", "99", "=>", "Ok(", "Some(", "v3", "+", "if", "v3", "<", "70", "2000", "else", "1900", "None", "Some(", "v7", "None", "=>", "Err(", "NOT_ENOUGH", "v7", "v7", "Some(", "v7", "=>", "Err(", "OUT_OF_RANGE", "v8", "resolve_year(", "self", "v9", "self", "v10", "self", "v11", "?", "v12", "resolve_year(", "self", "v13", "self", "v14", "self", "v15", "?", "v16", "|", "v17", "NaiveDate", "|", "v9", "v17", "year(", "let(", "v10", "v11", "if", "v9", ">=", "0", "Some(", "v9", "/", "100", "Some(", "v9", "%", "100", "else", "None", "None", "v18", "v17", "month(", "v19", "v17", "day(", "self", "v9", "unwrap_or(", "v9", "==", "v9", "&&", "self", "v10", "or(", "v10", "==", "v10", "&&", "self", "v11", "or(", "v11", "==", "v11", "&&", "self", "v18", "unwrap_or(", "v18", "==", "v18", "&&", "self", "v19", "unwrap_or(", "v19", "==", "v19", "v20", "|", "v17", "NaiveDate", "|", "v21", "v17", "iso_week(", "v13", "v21", "year(", "v22", "v21", "week(", "v23", "v17", "weekday(", "let(", "v14", "v15", "if", "v13", ">=", "0", "Some(", "v13", "/", "100", "Some(", "v13", "%", "100", "else", "None", "None", "self", "v13", "unwrap_or(", "v13", "==", "v13", "&&", "self", "v14", "or(", "v14", "==", "v14", "&&", "self", "v15", "or(", "v15", "==", "v15", "&&", "self", "v22", "unwrap_or(", "v22", "==", "v22", "&&", "self", "v23", "unwrap_or(", "v23", "==", "v23", "v24", "|", "v17", "NaiveDate", "|", "v25", "v17", "ordinal(", "v26", "v17", "weeks_from(", "Weekday", "Sun", "v27", "v17", "weeks_from(", "Weekday", "Mon", "self", "v25", "unwrap_or(", "v25", "==", "v25", "&&", "self", "v26", "map_or(", "v26", "|", "v6", "|", "v6", "as", "i32", "==", "v26", "&&", "self", "v27", "map_or(", "v27", "|", "v6", "|", "v6", "as", "i32", "==", "v27", "let(", "v28", "v29", "match(", "v8", "v12", "self", "Some(", "v9", "v7", "&", "Parsed", "v18", "Some(", "v18", "v19", "Some(", "v19", "..", "=>", "v17", "NaiveDate", "from_ymd_opt(", "v9", "v18", "v19", "ok_or(", "OUT_OF_RANGE", "?", "verify_isoweekdate(", "v17", "&&", "verify_ordinal(", "v17", "v17", "Some(", "v9", "v7", "&", "Parsed", "v25", "Some(", "v25", "..", "=>", "v17", "NaiveDate", "from_yo_opt(", "v9", "v25", "ok_or(", "OUT_OF_RANGE", "?", "verify_ymd(", "v17", "&&", "verify_isoweekdate(", "v17", "&&", "verify_ordinal(", "v17", "v17", "Some(", "v9", "v7", "&", "Parsed", "v26", "Some(", "v21", "v23", "Some(", "v23", "..", "=>", "v17", "resolve_week_date(", "v9", "v21", "v23", "Weekday", "Sun", "?", "verify_ymd(", "v17", "&&", "verify_isoweekdate(", "v17", "&&", "verify_ordinal(", "v17", "v17", "Some(", "v9", "v7", "&", "Parsed", "v27", "Some(", "v21", "v23", "Some(", "v23", "..", "=>", "v17", "resolve_week_date(", "v9", "v21", "v23", "Weekday", "Mon", "?", "verify_ymd(", "v17", "&&", "verify_isoweekdate(", "v17", "&&", "verify_ordinal(", "v17", "v17", "v7", "Some(", "v13", "&", "Parsed", "v22", "Some(", "v22", "v23", "Some(", "v23", "..", "=>", "v17", "NaiveDate", "from_isoywd_opt(", "v13", "v22", "v23", "v17", "v17", "ok_or(", "OUT_OF_RANGE", "?", "verify_ymd(", "v17", "&&", "verify_ordinal(", "v17", "v17", "v7", "v7", "v7", "=>", "return", "Err(", "NOT_ENOUGH", "if", "!", "v28", "return", "Err(", "IMPOSSIBLE", "else", "if", "Some(", "v30", "self", "v31", "if", "v30", "!=", "v29", "quarter(", "return", "Err(", "IMPOSSIBLE", "Ok(", "v29"] := by decide +kernel

/-- callee src/format/parsed.rs:fn to_naive_time -/
theorem callee_src_format_parsed_rs_fn_to_naive_time : C15_callee_src_format_parsed_rs_fn_to_naive_time =
    ["&", "self", "->", "ParseResult", "<", "NaiveTime", ">", "v1", "match", "self", "v1", "Some(", "v2", "0", "..=", "1", "=>", "v2", "Some(", "v3", "=>", "return", "Err(", "OUT_OF_RANGE", "None", "=>", "return", "Err(", "NOT_ENOUGH", "v4", "match", "self", "v4", "Some(", "v2", "0", "..=", "11", "=>", "v2", "Some(", "v3", "=>", "return", "Err(", "OUT_OF_RANGE", "None", "=>", "return", "Err(", "NOT_ENOUGH", "v5", "v1", "*", "12", "+", "v4", "v6", "match", "self", "v6", "Some(", "v2", "0", "..=", "59", "=>", "v2", "Some(", "v3", "=>", "return", "Err(", "OUT_OF_RANGE", "None", "=>", "return", "Err(", "NOT_ENOUGH", "let(", "v7", "v8", "match", "self", "v7", "unwrap_or(", "0", "v2", "0", "..=", "59", "=>", "v2", "0", "60", "=>", "59", "1000000000", "v3", "=>", "return", "Err(", "OUT_OF_RANGE", "v8", "+=", "match", "self", "v9", "Some(", "v2", "0", "..=", "999999999", "if", "self", "v7", "is_some(", "=>", "v2", "Some(", "0", "..=", "999999999", "=>", "return", "Err(", "NOT_ENOUGH", "Some(", "v3", "=>", "return", "Err(", "OUT_OF_RANGE", "None", "=>", "0", "NaiveTime", "from_hms_nano_opt(", "v5", "v6", "v7", "v8", "ok_or(", "OUT_OF_RANGE"] := rfl

/-- callee src/format/scan.rs:fn char -/
theorem callee_src_format_scan_rs_fn_char : C15_callee_src_format_scan_rs_fn_char =
    ["v1", "&", "str", "v2", "u8", "->", "ParseResult", "<", "&", "str", ">", "match", "v1", "as_bytes(", "first(", "Some(", "&", "v3", "if", "v3", "==", "v2", "=>", "Ok(", "&", "v1", "1", "..", "Some(", "v4", "=>", "Err(", "INVALID", "None", "=>", "Err(", "TOO_SHORT"] := rfl

/-- callee src/format/scan.rs:fn digits -/
theorem callee_src_format_scan_rs_fn_digits : C15_callee_src_format_scan_rs_fn_digits =
    ["v1", "&", "str", "->", "ParseResult", "<", "u8", "u8", ">", "v2", "v1", "as_bytes(", "if", "v2", "len(", "<", "2", "Err(", "TOO_SHORT", "else", "Ok(", "v2", "0", "v2", "1"] := rfl

/-- callee src/format/scan.rs:fn nanosecond_fixed -/
theorem callee_src_format_scan_rs_fn_nanosecond_fixed : C15_callee_src_format_scan_rs_fn_nanosecond_fixed =
    ["v1", "&", "str", "v2", "usize", "->", "ParseResult", "<", "&", "str", "i64", ">", "let(", "v1", "v3", "number(", "v1", "v2", "v2", "?", "SCALE", "i64", "10", "0", "100000000", "10000000", "1000000", "100000", "10000", "1000", "100", "10", "1", "v3", "v3", "checked_mul(", "SCALE", "v2", "ok_or(", "OUT_OF_RANGE", "?", "Ok(", "v1", "v3"] := rfl

/-- callee src/format/scan.rs:fn number -/
theorem callee_src_format_scan_rs_fn_number : C15_callee_src_format_scan_rs_fn_number =
    ["v1", "&", "str", "v2", "usize", "v3", "usize", "->", "ParseResult", "<", "&", "str", "i64", ">", "assert!(", "v2", "<=", "v3", "v4", "v1", "as_bytes(", "if", "v4", "len(", "<", "v2", "return", "Err(", "TOO_SHORT", "v5", "0", "for(", "v6", "v7", "in", "v4", "iter(", "take(", "v3", "cloned(", "enumerate(", "if", "!", "v7", "is_ascii_digit(", "if", "v6", "<", "v2", "return", "Err(", "INVALID", "else", "return", "Ok(", "&", "v1", "v6", "..", "v5", "v5", "match", "v5", "checked_mul(", "10", "and_then(", "|", "v5", "|", "v5", "checked_add(", "v7", "-", "b'0'", "as", "i64", "Some(", "v5", "=>", "v5", "None", "=>", "return", "Err(", "OUT_OF_RANGE", "Ok(", "&", "v1", "v8", "v9", "min(", "v3", "v4", "len(", "..", "v5"] := rfl

/-- callee src/format/scan.rs:fn short_or_long_month0 -/
theorem callee_src_format_scan_rs_fn_short_or_long_month0 : C15_callee_src_format_scan_rs_fn_short_or_long_month0 =
    ["v1", "&", "str", "->", "ParseResult", "<", "&", "str", "u8", ">", "LONG_MONTH_SUFFIXES", "&", "u8", "12", "b\"uary\"", "b\"ruary\"", "b\"ch\"", "b\"il\"", "b\"\"", "b\"e\"", "b\"y\"", "b\"ust\"", "b\"tember\"", "b\"ober\"", "b\"ember\"", "b\"ember\"", "let(", "v1", "v2", "short_month0(", "v1", "?", "v3", "LONG_MONTH_SUFFIXES", "v2", "as", "usize", "if", "v1", "len(", ">=", "v3", "len(", "&&", "v1", "as_bytes(", "..", "v3", "len(", "eq_ignore_ascii_case(", "v3", "v1", "&", "v1", "v3", "len(", "..", "Ok(", "v1", "v2"] := rfl

/-- callee src/format/scan.rs:fn short_or_long_weekday -/
theorem callee_src_format_scan_rs_fn_short_or_long_weekday : C15_callee_src_format_scan_rs_fn_short_or_long_weekday =
    ["v1", "&", "str", "->", "ParseResult", "<", "&", "str", "Weekday", ">", "LONG_WEEKDAY_SUFFIXES", "&", "u8", "7", "b\"day\"", "b\"sday\"", "b\"nesday\"", "b\"rsday\"", "b\"day\"", "b\"urday\"", "b\"day\"", "let(", "v1", "v2", "short_weekday(", "v1", "?", "v3", "LONG_WEEKDAY_SUFFIXES", "v2", "num_days_from_monday(", "as", "usize", "if", "v1", "len(", ">=", "v3", "len(", "&&", "v1", "as_bytes(", "..", "v3", "len(", "eq_ignore_ascii_case(", "v3", "v1", "&", "v1", "v3", "len(", "..", "Ok(", "v1", "v2"] := rfl

/-- callee src/format/scan.rs:fn space -/
theorem callee_src_format_scan_rs_fn_space : C15_callee_src_format_scan_rs_fn_space =
    ["v1", "&", "str", "->", "ParseResult", "<", "&", "str", ">", "v2", "v1", "trim_start(", "if", "v2", "len(", "<", "v1", "len(", "Ok(", "v2", "else", "if", "v1", "is_empty(", "Err(", "TOO_SHORT", "else", "Err(", "INVALID"] := rfl

/-- callee src/format/scan.rs:fn timezone_offset_2822 -/
theorem callee_src_format_scan_rs_fn_timezone_offset_2822 : C15_callee_src_format_scan_rs_fn_timezone_offset_2822 =
    ["v1", "&", "str", "->", "ParseResult", "<", "&", "str", "i32", ">", "v2", "v1", "as_bytes(", "iter(", "position(", "|", "&", "v3", "|", "!", "v3", "is_ascii_alphabetic(", "unwrap_or(", "v1", "len(", "if", "v2", ">", "0", "v4", "&", "v1", "as_bytes(", "..", "v2", "v1", "&", "v1", "v2", "..", "v5", "|", "v6", "|", "Ok(", "v1", "v6", "*", "3600", "if", "v4", "eq_ignore_ascii_case(", "b\"gmt\"", "||", "v4", "eq_ignore_ascii_case(", "b\"ut\"", "||", "v4", "eq_ignore_ascii_case(", "b\"z\"", "return", "offset_hours(", "0", "else", "if", "v4", "eq_ignore_ascii_case(", "b\"edt\"", "return", "offset_hours(", "-", "4", "else", "if", "v4", "eq_ignore_ascii_case(", "b\"est\"", "||", "v4", "eq_ignore_ascii_case(", "b\"cdt\"", "return", "offset_hours(", "-", "5", "else", "if", "v4", "eq_ignore_ascii_case(", "b\"cst\"", "||", "v4", "eq_ignore_ascii_case(", "b\"mdt\"", "return", "offset_hours(", "-", "6", "else", "if", "v4", "eq_ignore_ascii_case(", "b\"mst\"", "||", "v4", "eq_ignore_ascii_case(", "b\"pdt\"", "return", "offset_hours(", "-", "7", "else", "if", "v4", "eq_ignore_ascii_case(", "b\"pst\"", "return", "offset_hours(", "-", "8", "else", "if", "v4", "len(", "==", "1", "if", "b'a'", "..=", "b'i'", "|", "b'k'", "..=", "b'y'", "|", "b'A'", "..=", "b'I'", "|", "b'K'", "..=", "b'Y'", "v4", "0", "return", "Ok(", "v1", "0", "Err(", "INVALID", "else", "timezone_offset(", "v1", "|", "v1", "|", "Ok(", "v1", "false", "false", "false"] := rfl

/-- callee src/format/strftime.rs:fn switch_to_locale_str -/
theorem callee_src_format_strftime_rs_fn_switch_to_locale_str : C15_callee_src_format_strftime_rs_fn_switch_to_locale_str =
    ["&", "self", "v1", "Fn(", "Locale", "->", "&", "str", "v2", "&", "Item", "<", ">", "->", "Item", "<", ">", "if", "Some(", "v3", "self", "v3", "assert!(", "self", "v4", "is_empty(", "let(", "v5", "v6", "self", "parse_next_item(", "localized_fmt_str(", "v3", "unwrap(", "self", "v4", "v5", "v6", "else", "self", "v7", "&", "v2", "1", "..", "v2", "0", "clone("] := rfl

/-- callee src/naive/date/mod.rs:fn cycle_to_yo -/
theorem callee_src_naive_date_mod_rs_fn_cycle_to_yo : C15_callee_src_naive_date_mod_rs_fn_cycle_to_yo =
    ["v1", "u32", "->", "u32", "u32", "v2", "v1", "/", "365", "v3", "v1", "%", "365", "v4", "YEAR_DELTAS", "v2", "as", "usize", "as", "u32", "if", "v3", "<", "v4", "v2", "-=", "1", "v3", "+=", "365", "-", "YEAR_DELTAS", "v2", "as", "usize", "as", "u32", "else", "v3", "-=", "v4", "v2", "v3", "+", "1"] := rfl

/-- callee src/naive/date/mod.rs:fn div_mod_floor -/
theorem callee_src_naive_date_mod_rs_fn_div_mod_floor : C15_callee_src_naive_date_mod_rs_fn_div_mod_floor =
    ["v1", "i32", "v2", "i32", "->", "i32", "i32", "v1", "div_euclid(", "v2", "v1", "rem_euclid(", "v2"] := rfl

/-- callee src/naive/date/mod.rs:fn from_mdf -/
theorem callee_src_naive_date_mod_rs_fn_from_mdf : C15_callee_src_naive_date_mod_rs_fn_from_mdf =
    ["v1", "i32", "v2", "Mdf", "->", "Option", "<", "NaiveDate", ">", "if", "v1", "<", "MIN_YEAR", "||", "v1", ">", "MAX_YEAR", "return", "None", "Some(", "NaiveDate", "from_yof(", "v1", "<<", "13", "|", "try_opt!(", "v2", "ordinal_and_flags("] := rfl

/-- callee src/naive/date/mod.rs:fn from_ordinal_and_flags -/
theorem callee_src_naive_date_mod_rs_fn_from_ordinal_and_flags : C15_callee_src_naive_date_mod_rs_fn_from_ordinal_and_flags =
    ["v1", "i32", "v2", "u32", "v3", "YearFlags", "->", "Option", "<", "NaiveDate", ">", "if", "v1", "<", "MIN_YEAR", "||", "v1", ">", "MAX_YEAR", "return", "None", "if", "v2", "==", "0", "||", "v2", ">", "366", "return", "None", "debug_assert!(", "YearFlags", "from_year(", "v1", "==", "v3", "v4", "v1", "<<", "13", "|", "v2", "<<", "4", "as", "i32", "|", "v3", "as", "i32", "match", "v4", "&", "OL_MASK", "<=", "MAX_OL", "true", "=>", "Some(", "NaiveDate", "from_yof(", "v4", "false", "=>", "None"] := rfl

/-- callee src/naive/date/mod.rs:fn from_ymd_opt -/
theorem callee_src_naive_date_mod_rs_fn_from_ymd_opt : C15_callee_src_naive_date_mod_rs_fn_from_ymd_opt =
    ["v1", "i32", "v2", "u32", "v3", "u32", "->", "Option", "<", "NaiveDate", ">", "v4", "YearFlags", "from_year(", "v1", "if", "Some(", "v5", "Mdf", "new(", "v2", "v3", "v4", "NaiveDate", "from_mdf(", "v1", "v5", "else", "None"] := rfl

/-- callee src/naive/date/mod.rs:fn from_yo_opt -/
theorem callee_src_naive_date_mod_rs_fn_from_yo_opt : C15_callee_src_naive_date_mod_rs_fn_from_yo_opt =
    ["v1", "i32", "v2", "u32", "->", "Option", "<", "NaiveDate", ">", "v3", "YearFlags", "from_year(", "v1", "NaiveDate", "from_ordinal_and_flags(", "v1", "v2", "v3"] := rfl

/-- callee src/naive/date/mod.rs:fn leap_year -/
theorem callee_src_naive_date_mod_rs_fn_leap_year : C15_callee_src_naive_date_mod_rs_fn_leap_year =
    ["&", "self", "->", "bool", "self", "yof(", "&", "8", "==", "0"] := rfl

/-- callee src/naive/date/mod.rs:fn weeks_from -/
theorem callee_src_naive_date_mod_rs_fn_weeks_from : C15_callee_src_naive_date_mod_rs_fn_weeks_from =
    ["&", "self", "v1", "Weekday", "->", "i32", "self", "ordinal(", "as", "i32", "-", "self", "weekday(", "days_since(", "v1", "as", "i32", "+", "6", "/", "7"] := rfl

/-- callee src/naive/date/mod.rs:fn yo_to_cycle -/
theorem callee_src_naive_date_mod_rs_fn_yo_to_cycle : C15_callee_src_naive_date_mod_rs_fn_yo_to_cycle =
    ["v1", "u32", "v2", "u32", "->", "u32", "v1", "*", "365", "+", "YEAR_DELTAS", "v1", "as", "usize", "as", "u32", "+", "v2", "-", "1"] := rfl

/-- callee src/naive/date/mod.rs:fn yof -/
theorem callee_src_naive_date_mod_rs_fn_yof : C15_callee_src_naive_date_mod_rs_fn_yof =
    ["&", "self", "->", "i32", "self", "v1", "get("] := rfl

/-- callee src/naive/datetime/mod.rs:fn and_utc -/
theorem callee_src_naive_datetime_mod_rs_fn_and_utc : C15_callee_src_naive_datetime_mod_rs_fn_and_utc =
    ["&", "self", "->", "DateTime", "<", "Utc", ">", "DateTime", "from_naive_utc_and_offset(", "*", "self", "Utc"] := rfl

/-- callee src/naive/datetime/mod.rs:fn checked_sub_offset -/
theorem callee_src_naive_datetime_mod_rs_fn_checked_sub_offset : C15_callee_src_naive_datetime_mod_rs_fn_checked_sub_offset =
    ["self", "v1", "FixedOffset", "->", "Option", "<", "NaiveDateTime", ">", "let(", "v2", "v3", "self", "v2", "overflowing_sub_offset(", "v1", "v4", "match", "v3", "-", "1", "=>", "try_opt!(", "self", "v4", "pred_opt(", "1", "=>", "try_opt!(", "self", "v4", "succ_opt(", "v5", "=>", "self", "v4", "Some(", "NaiveDateTime", "v4", "v2"] := rfl

/-- callee src/naive/internals.rs:fn from_year -/
theorem callee_src_naive_internals_rs_fn_from_year : C15_callee_src_naive_internals_rs_fn_from_year =
    ["v1", "i32", "->", "YearFlags", "v1", "v1", "rem_euclid(", "400", "YearFlags", "from_year_mod_400(", "v1"] := rfl

/-- callee src/naive/internals.rs:fn from_year_mod_400 -/
theorem callee_src_naive_internals_rs_fn_from_year_mod_400 : C15_callee_src_naive_internals_rs_fn_from_year_mod_400 =
    ["v1", "i32", "->", "YearFlags", "YEAR_TO_FLAGS", "v1", "as", "usize"] := rfl

/-- callee src/naive/internals.rs:fn isoweek_delta -/
theorem callee_src_naive_internals_rs_fn_isoweek_delta : C15_callee_src_naive_internals_rs_fn_isoweek_delta =
    ["&", "self", "->", "u32", "YearFlags(", "v1", "*", "self", "v2", "v1", "&", "7", "as", "u32", "if", "v2", "<", "3", "v2", "+=", "7", "v2"] := rfl

/-- callee src/naive/internals.rs:fn ndays -/
theorem callee_src_naive_internals_rs_fn_ndays : C15_callee_src_naive_internals_rs_fn_ndays =
    ["&", "self", "->", "u32", "YearFlags(", "v1", "*", "self", "366", "-", "v1", ">>", "3", "as", "u32"] := rfl

/-- callee src/naive/internals.rs:fn nisoweeks -/
theorem callee_src_naive_internals_rs_fn_nisoweeks : C15_callee_src_naive_internals_rs_fn_nisoweeks =
    ["&", "self", "->", "u32", "YearFlags(", "v1", "*", "self", "52", "+", "1030", ">>", "v1", "as", "usize", "&", "1"] := rfl

/-- callee src/naive/internals.rs:fn ordinal_and_flags -/
theorem callee_src_naive_internals_rs_fn_ordinal_and_flags : C15_callee_src_naive_internals_rs_fn_ordinal_and_flags =
    ["&", "self", "->", "Option", "<", "i32", ">", "v1", "self", ">>", "3", "match", "MDL_TO_OL", "v1", "as", "usize", "XX", "=>", "None", "v2", "=>", "Some(", "self", "as", "i32", "-", "v2", "as", "i32", "<<", "3"] := rfl

/-- callee src/naive/time/mod.rs:fn from_hms_nano_opt -/
theorem callee_src_naive_time_mod_rs_fn_from_hms_nano_opt : C15_callee_src_naive_time_mod_rs_fn_from_hms_nano_opt =
    ["v1", "u32", "v2", "u32", "v3", "u32", "v4", "u32", "->", "Option", "<", "NaiveTime", ">", "if(", "v1", ">=", "24", "||", "v2", ">=", "60", "||", "v3", ">=", "60", "||", "v4", ">=", "1000000000", "&&", "v3", "!=", "59", "||", "v4", ">=", "2000000000", "return", "None", "v5", "v1", "*", "3600", "+", "v2", "*", "60", "+", "v3", "Some(", "NaiveTime", "v5", "v6", "v4"] := rfl

/-- callee src/naive/time/mod.rs:fn hms -/
theorem callee_src_naive_time_mod_rs_fn_hms : C15_callee_src_naive_time_mod_rs_fn_hms =
    ["&", "self", "->", "u32", "u32", "u32", "v1", "self", "v2", "%", "60", "v3", "self", "v2", "/", "60", "v4", "v3", "%", "60", "v5", "v3", "/", "60", "v5", "v4", "v1"] := rfl

/-- callee src/offset/mod.rs:fn from_local_datetime -/
theorem callee_src_offset_mod_rs_fn_from_local_datetime : C15_callee_src_offset_mod_rs_fn_from_local_datetime =
    ["&", "self", "v1", "&", "NaiveDateTime", "->", "MappedLocalTime", "<", "DateTime", "<", "Self", ">>", "self", "offset_from_local_datetime(", "v1", "and_then(", "|", "v2", "|", "v1", "checked_sub_offset(", "v2", "fix(", "map(", "|", "v3", "|", "DateTime", "from_naive_utc_and_offset(", "v3", "v2"] := rfl

/-- callee src/time_delta.rs:fn div_mod_floor_64 -/
theorem callee_src_time_delta_rs_fn_div_mod_floor_64 : C15_callee_src_time_delta_rs_fn_div_mod_floor_64 =
    ["v1", "i64", "v2", "i64", "->", "i64", "i64", "v1", "div_euclid(", "v2", "v1", "rem_euclid(", "v2"] := rfl

/-- callee src/time_delta.rs:fn try_seconds -/
theorem callee_src_time_delta_rs_fn_try_seconds : C15_callee_src_time_delta_rs_fn_try_seconds =
    ["v1", "i64", "->", "Option", "<", "TimeDelta", ">", "TimeDelta", "new(", "v1", "0"] := rfl

/-- callee src/weekday.rs:fn days_since -/
theorem callee_src_weekday_rs_fn_days_since : C15_callee_src_weekday_rs_fn_days_since =
    ["&", "self", "v1", "Weekday", "->", "u32", "v2", "*", "self", "as", "u32", "v3", "v1", "as", "u32", "if", "v2", "<", "v3", "7", "+", "v2", "-", "v3", "else", "v2", "-", "v3"] := rfl

/-- callee src/weekday.rs:fn num_days_from_monday -/
theorem callee_src_weekday_rs_fn_num_days_from_monday : C15_callee_src_weekday_rs_fn_num_days_from_monday =
    ["&", "self", "->", "u32", "self", "days_since(", "Weekday", "Mon"] := rfl

end Chrono.Pins.C15
