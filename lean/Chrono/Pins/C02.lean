/-
  PINS of property C02: the decision tokens of every item the property is anchored in
  (properties.jsonl `anchors` + tools/anchor_extra.json), as they were in /repo at 770977e when the
  model was validated against the source.  Written by tools/pin_anchors.py; the right-hand sides are
  compared by the kernel with lean/Chrono/Extracted/Anchors.lean, which tools/extractors/anchors.py
  regenerates from /repo's working tree on every check.  A theorem that fails here means: anchored
  code changed; the hand-written model may no longer mirror it.
-/
import Chrono.Extracted.Anchors
namespace Chrono.Pins.C02
open Chrono.Extracted.Anchors

/-- src/datetime/mod.rs:const UNIX_EPOCH_DAY -/
theorem src_datetime_mod_rs_const_UNIX_EPOCH_DAY : C02_src_datetime_mod_rs_const_UNIX_EPOCH_DAY =
    ["i64", "719163"] := rfl

/-- src/datetime/mod.rs:fn from_timestamp -/
theorem src_datetime_mod_rs_fn_from_timestamp : C02_src_datetime_mod_rs_fn_from_timestamp =
    ["v1", "i64", "v2", "u32", "->", "Option", "<", "Self", ">", "v3", "v1", "div_euclid(", "86400", "+", "UNIX_EPOCH_DAY", "v1", "v1", "rem_euclid(", "86400", "if", "v3", "<", "i32", "MIN", "as", "i64", "||", "v3", ">", "i32", "MAX", "as", "i64", "return", "None", "v4", "try_opt!(", "NaiveDate", "from_num_days_from_ce_opt(", "v3", "as", "i32", "v5", "try_opt!(", "NaiveTime", "from_num_seconds_from_midnight_opt(", "v1", "as", "u32", "v2", "Some(", "v4", "and_time(", "v5", "and_utc("] := rfl

/-- src/datetime/mod.rs:fn from_timestamp_micros -/
theorem src_datetime_mod_rs_fn_from_timestamp_micros : C02_src_datetime_mod_rs_fn_from_timestamp_micros =
    ["v1", "i64", "->", "Option", "<", "Self", ">", "v2", "v1", "div_euclid(", "1000000", "v3", "v1", "rem_euclid(", "1000000", "as", "u32", "*", "1000", "Self", "from_timestamp(", "v2", "v3"] := rfl

/-- src/datetime/mod.rs:fn from_timestamp_millis -/
theorem src_datetime_mod_rs_fn_from_timestamp_millis : C02_src_datetime_mod_rs_fn_from_timestamp_millis =
    ["v1", "i64", "->", "Option", "<", "Self", ">", "v2", "v1", "div_euclid(", "1000", "v3", "v1", "rem_euclid(", "1000", "as", "u32", "*", "1000000", "Self", "from_timestamp(", "v2", "v3"] := rfl

/-- src/datetime/mod.rs:fn from_timestamp_nanos -/
theorem src_datetime_mod_rs_fn_from_timestamp_nanos : C02_src_datetime_mod_rs_fn_from_timestamp_nanos =
    ["v1", "i64", "->", "Self", "v2", "v1", "div_euclid(", "1000000000", "v3", "v1", "rem_euclid(", "1000000000", "as", "u32", "expect(", "Self", "from_timestamp(", "v2", "v3", "\"…\""] := rfl

/-- src/datetime/mod.rs:fn naive_utc -/
theorem src_datetime_mod_rs_fn_naive_utc : C02_src_datetime_mod_rs_fn_naive_utc =
    ["&", "self", "->", "NaiveDateTime", "self", "v1"] := rfl

/-- src/datetime/mod.rs:fn timestamp -/
theorem src_datetime_mod_rs_fn_timestamp : C02_src_datetime_mod_rs_fn_timestamp =
    ["&", "self", "->", "i64", "v1", "self", "v2", "date(", "num_days_from_ce(", "as", "i64", "v3", "self", "v2", "time(", "num_seconds_from_midnight(", "as", "i64", "v1", "-", "UNIX_EPOCH_DAY", "*", "86400", "+", "v3"] := rfl

/-- src/datetime/mod.rs:fn timestamp_micros -/
theorem src_datetime_mod_rs_fn_timestamp_micros : C02_src_datetime_mod_rs_fn_timestamp_micros =
    ["&", "self", "->", "i64", "v1", "self", "timestamp(", "*", "1000000", "v1", "+", "self", "timestamp_subsec_micros(", "as", "i64"] := rfl

/-- src/datetime/mod.rs:fn timestamp_millis -/
theorem src_datetime_mod_rs_fn_timestamp_millis : C02_src_datetime_mod_rs_fn_timestamp_millis =
    ["&", "self", "->", "i64", "v1", "self", "timestamp(", "*", "1000", "v1", "+", "self", "timestamp_subsec_millis(", "as", "i64"] := rfl

/-- src/datetime/mod.rs:fn timestamp_nanos -/
theorem src_datetime_mod_rs_fn_timestamp_nanos : C02_src_datetime_mod_rs_fn_timestamp_nanos =
    ["&", "self", "->", "i64", "expect(", "self", "timestamp_nanos_opt(", "\"…\""] := rfl

/-- src/datetime/mod.rs:fn timestamp_nanos_opt -/
theorem src_datetime_mod_rs_fn_timestamp_nanos_opt : C02_src_datetime_mod_rs_fn_timestamp_nanos_opt =
    ["&", "self", "->", "Option", "<", "i64", ">", "v1", "self", "timestamp(", "as", "i128", "*", "1000000000", "+", "self", "timestamp_subsec_nanos(", "as", "i128", "if", "v1", "<", "i64", "MIN", "as", "i128", "||", "v1", ">", "i64", "MAX", "as", "i128", "return", "None", "Some(", "v1", "as", "i64"] := rfl

/-- src/datetime/mod.rs:fn timestamp_subsec_micros -/
theorem src_datetime_mod_rs_fn_timestamp_subsec_micros : C02_src_datetime_mod_rs_fn_timestamp_subsec_micros =
    ["&", "self", "->", "u32", "self", "timestamp_subsec_nanos(", "/", "1000"] := rfl

/-- src/datetime/mod.rs:fn timestamp_subsec_millis -/
theorem src_datetime_mod_rs_fn_timestamp_subsec_millis : C02_src_datetime_mod_rs_fn_timestamp_subsec_millis =
    ["&", "self", "->", "u32", "self", "timestamp_subsec_nanos(", "/", "1000000"] := rfl

/-- src/datetime/mod.rs:fn timestamp_subsec_nanos -/
theorem src_datetime_mod_rs_fn_timestamp_subsec_nanos : C02_src_datetime_mod_rs_fn_timestamp_subsec_nanos =
    ["&", "self", "->", "u32", "self", "v1", "time(", "nanosecond("] := rfl

/-- src/datetime/mod.rs:fn with_timezone -/
theorem src_datetime_mod_rs_fn_with_timezone : C02_src_datetime_mod_rs_fn_with_timezone =
    ["<", "Tz2", "TimeZone", ">", "&", "self", "v1", "&", "Tz2", "->", "DateTime", "<", "Tz2", ">", "v1", "from_utc_datetime(", "&", "self", "v2"] := rfl

/-- src/datetime/mod.rs:impl From for DateTime -/
theorem src_datetime_mod_rs_impl_From_for_DateTime : C02_src_datetime_mod_rs_impl_From_for_DateTime =
    ["From", "<", "DateTime", "<", "Utc", ">>", "for", "DateTime", "<", "FixedOffset", ">", "from(", "v1", "DateTime", "<", "Utc", ">", "->", "Self", "v1", "with_timezone(", "&", "FixedOffset", "east_opt(", "0", "unwrap(", "§", "From", "<", "DateTime", "<", "Utc", ">>", "for", "DateTime", "<", "Local", ">", "from(", "v1", "DateTime", "<", "Utc", ">", "->", "Self", "v1", "with_timezone(", "&", "Local", "§", "From", "<", "DateTime", "<", "FixedOffset", ">>", "for", "DateTime", "<", "Utc", ">", "from(", "v1", "DateTime", "<", "FixedOffset", ">", "->", "Self", "v1", "with_timezone(", "&", "Utc", "§", "From", "<", "DateTime", "<", "FixedOffset", ">>", "for", "DateTime", "<", "Local", ">", "from(", "v1", "DateTime", "<", "FixedOffset", ">", "->", "Self", "v1", "with_timezone(", "&", "Local", "§", "From", "<", "DateTime", "<", "Local", ">>", "for", "DateTime", "<", "Utc", ">", "from(", "v1", "DateTime", "<", "Local", ">", "->", "Self", "v1", "with_timezone(", "&", "Utc", "§", "From", "<", "DateTime", "<", "Local", ">>", "for", "DateTime", "<", "FixedOffset", ">", "from(", "v1", "DateTime", "<", "Local", ">", "->", "Self", "v1", "with_timezone(", "&", "v1", "offset(", "fix(", "§", "From", "<", "SystemTime", ">", "for", "DateTime", "<", "Utc", ">", "from(", "v1", "SystemTime", "->", "DateTime", "<", "Utc", ">", "let(", "v2", "v3", "match", "v1", "duration_since(", "UNIX_EPOCH", "Ok(", "v4", "=>", "v4", "as_secs(", "as", "i64", "v4", "subsec_nanos(", "Err(", "v5", "=>", "v4", "v5", "duration(", "let(", "v2", "v3", "v4", "as_secs(", "as", "i64", "v4", "subsec_nanos(", "if", "v3", "==", "0", "-", "v2", "0", "else", "-", "v2", "-", "1", "1000000000", "-", "v3", "Utc", "timestamp_opt(", "v2", "v3", "unwrap(", "§", "From", "<", "SystemTime", ">", "for", "DateTime", "<", "Local", ">", "from(", "v1", "SystemTime", "->", "DateTime", "<", "Local", ">", "DateTime", "<", "Utc", ">", "from(", "v1", "with_timezone(", "&", "Local", "§", "<", "Tz", "TimeZone", ">", "From", "<", "DateTime", "<", "Tz", ">>", "for", "SystemTime", "from(", "v1", "DateTime", "<", "Tz", ">", "->", "SystemTime", "v2", "v1", "timestamp(", "v3", "v1", "timestamp_subsec_nanos(", "if", "v2", "<", "0", "UNIX_EPOCH", "-", "Duration", "new(", "-", "v2", "as", "u64", "0", "+", "Duration", "new(", "0", "v3", "else", "UNIX_EPOCH", "+", "Duration", "new(", "v2", "as", "u64", "v3", "§", "From", "<", "v1", "Date", ">", "for", "DateTime", "<", "Utc", ">", "from(", "v2", "v1", "Date", "->", "DateTime", "<", "Utc", ">", "DateTime", "<", "Utc", ">", "from(", "&", "v2", "§", "From", "<", "&", "v1", "Date", ">", "for", "DateTime", "<", "Utc", ">", "from(", "v2", "&", "v1", "Date", "->", "DateTime", "<", "Utc", ">", "Utc", "timestamp_millis_opt(", "v2", "get_time(", "as", "i64", "unwrap(", "§", "From", "<", "DateTime", "<", "Utc", ">>", "for", "v1", "Date", "from(", "v2", "DateTime", "<", "Utc", ">", "->", "v1", "Date", "v3", "v4", "JsValue", "from_f64(", "v2", "timestamp_millis(", "as", "f64", "v1", "Date", "new(", "&", "v3"] := rfl

/-- src/datetime/mod.rs:impl From for SystemTime -/
theorem src_datetime_mod_rs_impl_From_for_SystemTime : C02_src_datetime_mod_rs_impl_From_for_SystemTime =
    ["From", "<", "SystemTime", ">", "for", "DateTime", "<", "Utc", ">", "from(", "v1", "SystemTime", "->", "DateTime", "<", "Utc", ">", "let(", "v2", "v3", "match", "v1", "duration_since(", "UNIX_EPOCH", "Ok(", "v4", "=>", "v4", "as_secs(", "as", "i64", "v4", "subsec_nanos(", "Err(", "v5", "=>", "v4", "v5", "duration(", "let(", "v2", "v3", "v4", "as_secs(", "as", "i64", "v4", "subsec_nanos(", "if", "v3", "==", "0", "-", "v2", "0", "else", "-", "v2", "-", "1", "1000000000", "-", "v3", "Utc", "timestamp_opt(", "v2", "v3", "unwrap(", "§", "From", "<", "SystemTime", ">", "for", "DateTime", "<", "Local", ">", "from(", "v1", "SystemTime", "->", "DateTime", "<", "Local", ">", "DateTime", "<", "Utc", ">", "from(", "v1", "with_timezone(", "&", "Local", "§", "<", "Tz", "TimeZone", ">", "From", "<", "DateTime", "<", "Tz", ">>", "for", "SystemTime", "from(", "v1", "DateTime", "<", "Tz", ">", "->", "SystemTime", "v2", "v1", "timestamp(", "v3", "v1", "timestamp_subsec_nanos(", "if", "v2", "<", "0", "UNIX_EPOCH", "-", "Duration", "new(", "-", "v2", "as", "u64", "0", "+", "Duration", "new(", "0", "v3", "else", "UNIX_EPOCH", "+", "Duration", "new(", "v2", "as", "u64", "v3"] := rfl

/-- src/naive/datetime/mod.rs:fn from_timestamp -/
theorem src_naive_datetime_mod_rs_fn_from_timestamp : C02_src_naive_datetime_mod_rs_fn_from_timestamp =
    ["v1", "i64", "v2", "u32", "->", "NaiveDateTime", "v3", "expect(", "DateTime", "from_timestamp(", "v1", "v2", "\"…\"", "v3", "naive_utc("] := rfl

/-- src/naive/datetime/mod.rs:fn from_timestamp_micros -/
theorem src_naive_datetime_mod_rs_fn_from_timestamp_micros : C02_src_naive_datetime_mod_rs_fn_from_timestamp_micros =
    ["v1", "i64", "->", "Option", "<", "NaiveDateTime", ">", "v2", "v1", "div_euclid(", "1000000", "v3", "v1", "rem_euclid(", "1000000", "as", "u32", "*", "1000", "Some(", "try_opt!(", "DateTime", "<", "Utc", ">", "from_timestamp(", "v2", "v3", "naive_utc("] := rfl

/-- src/naive/datetime/mod.rs:fn from_timestamp_millis -/
theorem src_naive_datetime_mod_rs_fn_from_timestamp_millis : C02_src_naive_datetime_mod_rs_fn_from_timestamp_millis =
    ["v1", "i64", "->", "Option", "<", "NaiveDateTime", ">", "Some(", "try_opt!(", "DateTime", "from_timestamp_millis(", "v1", "naive_utc("] := rfl

/-- src/naive/datetime/mod.rs:fn from_timestamp_nanos -/
theorem src_naive_datetime_mod_rs_fn_from_timestamp_nanos : C02_src_naive_datetime_mod_rs_fn_from_timestamp_nanos =
    ["v1", "i64", "->", "Option", "<", "NaiveDateTime", ">", "v2", "v1", "div_euclid(", "NANOS_PER_SEC", "as", "i64", "v3", "v1", "rem_euclid(", "NANOS_PER_SEC", "as", "i64", "as", "u32", "Some(", "try_opt!(", "DateTime", "from_timestamp(", "v2", "v3", "naive_utc("] := rfl

/-- src/naive/datetime/mod.rs:fn from_timestamp_opt -/
theorem src_naive_datetime_mod_rs_fn_from_timestamp_opt : C02_src_naive_datetime_mod_rs_fn_from_timestamp_opt =
    ["v1", "i64", "v2", "u32", "->", "Option", "<", "NaiveDateTime", ">", "Some(", "try_opt!(", "DateTime", "from_timestamp(", "v1", "v2", "naive_utc("] := rfl

/-- src/naive/datetime/mod.rs:fn timestamp -/
theorem src_naive_datetime_mod_rs_fn_timestamp : C02_src_naive_datetime_mod_rs_fn_timestamp =
    ["&", "self", "->", "i64", "self", "and_utc(", "timestamp("] := rfl

/-- src/naive/datetime/mod.rs:fn timestamp_micros -/
theorem src_naive_datetime_mod_rs_fn_timestamp_micros : C02_src_naive_datetime_mod_rs_fn_timestamp_micros =
    ["&", "self", "->", "i64", "self", "and_utc(", "timestamp_micros("] := rfl

/-- src/naive/datetime/mod.rs:fn timestamp_millis -/
theorem src_naive_datetime_mod_rs_fn_timestamp_millis : C02_src_naive_datetime_mod_rs_fn_timestamp_millis =
    ["&", "self", "->", "i64", "self", "and_utc(", "timestamp_millis("] := rfl

/-- src/naive/datetime/mod.rs:fn timestamp_nanos -/
theorem src_naive_datetime_mod_rs_fn_timestamp_nanos : C02_src_naive_datetime_mod_rs_fn_timestamp_nanos =
    ["&", "self", "->", "i64", "self", "and_utc(", "timestamp_nanos("] := rfl

/-- src/naive/datetime/mod.rs:fn timestamp_nanos_opt -/
theorem src_naive_datetime_mod_rs_fn_timestamp_nanos_opt : C02_src_naive_datetime_mod_rs_fn_timestamp_nanos_opt =
    ["&", "self", "->", "Option", "<", "i64", ">", "self", "and_utc(", "timestamp_nanos_opt("] := rfl

/-- src/naive/datetime/mod.rs:fn timestamp_subsec_micros -/
theorem src_naive_datetime_mod_rs_fn_timestamp_subsec_micros : C02_src_naive_datetime_mod_rs_fn_timestamp_subsec_micros =
    ["&", "self", "->", "u32", "self", "and_utc(", "timestamp_subsec_micros("] := rfl

/-- src/naive/datetime/mod.rs:fn timestamp_subsec_millis -/
theorem src_naive_datetime_mod_rs_fn_timestamp_subsec_millis : C02_src_naive_datetime_mod_rs_fn_timestamp_subsec_millis =
    ["&", "self", "->", "u32", "self", "and_utc(", "timestamp_subsec_millis("] := rfl

/-- src/naive/datetime/mod.rs:fn timestamp_subsec_nanos -/
theorem src_naive_datetime_mod_rs_fn_timestamp_subsec_nanos : C02_src_naive_datetime_mod_rs_fn_timestamp_subsec_nanos =
    ["&", "self", "->", "u32", "self", "and_utc(", "timestamp_subsec_nanos("] := rfl

/-- src/offset/mod.rs:fn from_utc_datetime -/
theorem src_offset_mod_rs_fn_from_utc_datetime : C02_src_offset_mod_rs_fn_from_utc_datetime =
    ["&", "self", "v1", "&", "NaiveDateTime", "->", "DateTime", "<", "Self", ">", "DateTime", "from_naive_utc_and_offset(", "*", "v1", "self", "offset_from_utc_datetime(", "v1"] := rfl

/-- src/offset/mod.rs:fn timestamp -/
theorem src_offset_mod_rs_fn_timestamp : C02_src_offset_mod_rs_fn_timestamp =
    ["&", "self", "v1", "i64", "v2", "u32", "->", "DateTime", "<", "Self", ">", "self", "timestamp_opt(", "v1", "v2", "unwrap("] := rfl

/-- src/offset/mod.rs:fn timestamp_micros -/
theorem src_offset_mod_rs_fn_timestamp_micros : C02_src_offset_mod_rs_fn_timestamp_micros =
    ["&", "self", "v1", "i64", "->", "MappedLocalTime", "<", "DateTime", "<", "Self", ">>", "match", "DateTime", "from_timestamp_micros(", "v1", "Some(", "v2", "=>", "MappedLocalTime", "Single(", "self", "from_utc_datetime(", "&", "v2", "naive_utc(", "None", "=>", "MappedLocalTime", "None"] := rfl

/-- src/offset/mod.rs:fn timestamp_millis -/
theorem src_offset_mod_rs_fn_timestamp_millis : C02_src_offset_mod_rs_fn_timestamp_millis =
    ["&", "self", "v1", "i64", "->", "DateTime", "<", "Self", ">", "self", "timestamp_millis_opt(", "v1", "unwrap("] := rfl

/-- src/offset/mod.rs:fn timestamp_millis_opt -/
theorem src_offset_mod_rs_fn_timestamp_millis_opt : C02_src_offset_mod_rs_fn_timestamp_millis_opt =
    ["&", "self", "v1", "i64", "->", "MappedLocalTime", "<", "DateTime", "<", "Self", ">>", "match", "DateTime", "from_timestamp_millis(", "v1", "Some(", "v2", "=>", "MappedLocalTime", "Single(", "self", "from_utc_datetime(", "&", "v2", "naive_utc(", "None", "=>", "MappedLocalTime", "None"] := rfl

/-- src/offset/mod.rs:fn timestamp_nanos -/
theorem src_offset_mod_rs_fn_timestamp_nanos : C02_src_offset_mod_rs_fn_timestamp_nanos =
    ["&", "self", "v1", "i64", "->", "DateTime", "<", "Self", ">", "self", "from_utc_datetime(", "&", "DateTime", "from_timestamp_nanos(", "v1", "naive_utc("] := rfl

/-- src/offset/mod.rs:fn timestamp_opt -/
theorem src_offset_mod_rs_fn_timestamp_opt : C02_src_offset_mod_rs_fn_timestamp_opt =
    ["&", "self", "v1", "i64", "v2", "u32", "->", "MappedLocalTime", "<", "DateTime", "<", "Self", ">>", "match", "DateTime", "from_timestamp(", "v1", "v2", "Some(", "v3", "=>", "MappedLocalTime", "Single(", "self", "from_utc_datetime(", "&", "v3", "naive_utc(", "None", "=>", "MappedLocalTime", "None"] := rfl

/-- src/time_delta.rs:const NANOS_PER_SEC -/
theorem src_time_delta_rs_const_NANOS_PER_SEC : C02_src_time_delta_rs_const_NANOS_PER_SEC =
    ["i32", "1000000000"] := rfl

/-- callee src/datetime/mod.rs:fn from_naive_utc_and_offset -/
theorem callee_src_datetime_mod_rs_fn_from_naive_utc_and_offset : C02_callee_src_datetime_mod_rs_fn_from_naive_utc_and_offset =
    ["v1", "NaiveDateTime", "v2", "Tz", "Offset", "->", "DateTime", "<", "Tz", ">", "DateTime", "v1", "v2"] := rfl

/-- callee src/naive/date/mod.rs:fn cycle_to_yo -/
theorem callee_src_naive_date_mod_rs_fn_cycle_to_yo : C02_callee_src_naive_date_mod_rs_fn_cycle_to_yo =
    ["v1", "u32", "->", "u32", "u32", "v2", "v1", "/", "365", "v3", "v1", "%", "365", "v4", "YEAR_DELTAS", "v2", "as", "usize", "as", "u32", "if", "v3", "<", "v4", "v2", "-=", "1", "v3", "+=", "365", "-", "YEAR_DELTAS", "v2", "as", "usize", "as", "u32", "else", "v3", "-=", "v4", "v2", "v3", "+", "1"] := rfl

/-- callee src/naive/date/mod.rs:fn from_num_days_from_ce_opt -/
theorem callee_src_naive_date_mod_rs_fn_from_num_days_from_ce_opt : C02_callee_src_naive_date_mod_rs_fn_from_num_days_from_ce_opt =
    ["v1", "i32", "->", "Option", "<", "NaiveDate", ">", "v1", "try_opt!(", "v1", "checked_add(", "365", "v2", "v1", "div_euclid(", "146097", "v3", "v1", "rem_euclid(", "146097", "let(", "v4", "v5", "cycle_to_yo(", "v3", "as", "u32", "v6", "YearFlags", "from_year_mod_400(", "v4", "as", "i32", "NaiveDate", "from_ordinal_and_flags(", "v2", "*", "400", "+", "v4", "as", "i32", "v5", "v6"] := rfl

/-- callee src/naive/date/mod.rs:fn from_ordinal_and_flags -/
theorem callee_src_naive_date_mod_rs_fn_from_ordinal_and_flags : C02_callee_src_naive_date_mod_rs_fn_from_ordinal_and_flags =
    ["v1", "i32", "v2", "u32", "v3", "YearFlags", "->", "Option", "<", "NaiveDate", ">", "if", "v1", "<", "MIN_YEAR", "||", "v1", ">", "MAX_YEAR", "return", "None", "if", "v2", "==", "0", "||", "v2", ">", "366", "return", "None", "debug_assert!(", "YearFlags", "from_year(", "v1", "==", "v3", "v4", "v1", "<<", "13", "|", "v2", "<<", "4", "as", "i32", "|", "v3", "as", "i32", "match", "v4", "&", "OL_MASK", "<=", "MAX_OL", "true", "=>", "Some(", "NaiveDate", "from_yof(", "v4", "false", "=>", "None"] := rfl

/-- callee src/naive/datetime/mod.rs:fn and_utc -/
theorem callee_src_naive_datetime_mod_rs_fn_and_utc : C02_callee_src_naive_datetime_mod_rs_fn_and_utc =
    ["&", "self", "->", "DateTime", "<", "Utc", ">", "DateTime", "from_naive_utc_and_offset(", "*", "self", "Utc"] := rfl

/-- callee src/naive/internals.rs:fn from_year -/
theorem callee_src_naive_internals_rs_fn_from_year : C02_callee_src_naive_internals_rs_fn_from_year =
    ["v1", "i32", "->", "YearFlags", "v1", "v1", "rem_euclid(", "400", "YearFlags", "from_year_mod_400(", "v1"] := rfl

/-- callee src/naive/internals.rs:fn from_year_mod_400 -/
theorem callee_src_naive_internals_rs_fn_from_year_mod_400 : C02_callee_src_naive_internals_rs_fn_from_year_mod_400 =
    ["v1", "i32", "->", "YearFlags", "YEAR_TO_FLAGS", "v1", "as", "usize"] := rfl

/-- callee src/naive/time/mod.rs:fn from_num_seconds_from_midnight_opt -/
theorem callee_src_naive_time_mod_rs_fn_from_num_seconds_from_midnight_opt : C02_callee_src_naive_time_mod_rs_fn_from_num_seconds_from_midnight_opt =
    ["v1", "u32", "v2", "u32", "->", "Option", "<", "NaiveTime", ">", "if", "v1", ">=", "86400", "||", "v2", ">=", "2000000000", "||", "v2", ">=", "1000000000", "&&", "v1", "%", "60", "!=", "59", "return", "None", "Some(", "NaiveTime", "v1", "v3", "v2"] := rfl

/-- callee src/offset/fixed.rs:fn east_opt -/
theorem callee_src_offset_fixed_rs_fn_east_opt : C02_callee_src_offset_fixed_rs_fn_east_opt =
    ["v1", "i32", "->", "Option", "<", "FixedOffset", ">", "if", "-", "86400", "<", "v1", "&&", "v1", "<", "86400", "Some(", "FixedOffset", "v2", "v1", "else", "None"] := rfl

/-- callee src/time_delta.rs:fn subsec_nanos -/
theorem callee_src_time_delta_rs_fn_subsec_nanos : C02_callee_src_time_delta_rs_fn_subsec_nanos =
    ["&", "self", "->", "i32", "if", "self", "v1", "<", "0", "&&", "self", "v2", ">", "0", "self", "v2", "-", "NANOS_PER_SEC", "else", "self", "v2"] := rfl

end Chrono.Pins.C02
