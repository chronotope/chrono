/-
  PINS of property C20: the decision tokens of every item the property is anchored in
  (properties.jsonl `anchors` + tools/anchor_extra.json), as they were in /repo at 32de816 when the
  model was validated against the source.  Written by tools/pin_anchors.py; the right-hand sides are
  compared by the kernel with lean/Chrono/Extracted/Anchors.lean, which tools/extractors/anchors.py
  regenerates from /repo's working tree on every check.  A theorem that fails here means: anchored
  code changed; the hand-written model may no longer mirror it.
-/
import Chrono.Extracted.Anchors
namespace Chrono.Pins.C20
open Chrono.Extracted.Anchors

/-- src/datetime/serde.rs:impl Deserialize for DateTime -/
theorem src_datetime_serde_rs_impl_Deserialize_for_DateTime : C20_src_datetime_serde_rs_impl_Deserialize_for_DateTime =
    ["<", ">", "v1", "Deserialize", "<", ">", "for", "DateTime", "<", "FixedOffset", ">", "v2", "<", "D", ">", "v3", "D", "->", "Result", "<", "Self", "D", "Error", ">", "D", "v1", "Deserializer", "<", ">", "v3", "deserialize_str(", "DateTimeVisitor", "§", "<", ">", "v1", "Deserialize", "<", ">", "for", "DateTime", "<", "Utc", ">", "v2", "<", "D", ">", "v3", "D", "->", "Result", "<", "Self", "D", "Error", ">", "D", "v1", "Deserializer", "<", ">", "v3", "deserialize_str(", "DateTimeVisitor", "map(", "|", "v4", "|", "v4", "with_timezone(", "&", "Utc", "§", "<", ">", "v1", "Deserialize", "<", ">", "for", "DateTime", "<", "Local", ">", "v2", "<", "D", ">", "v3", "D", "->", "Result", "<", "Self", "D", "Error", ">", "D", "v1", "Deserializer", "<", ">", "v3", "deserialize_str(", "DateTimeVisitor", "map(", "|", "v4", "|", "v4", "with_timezone(", "&", "Local"] := rfl

/-- src/datetime/serde.rs:impl Serialize for DateTime -/
theorem src_datetime_serde_rs_impl_Serialize_for_DateTime : C20_src_datetime_serde_rs_impl_Serialize_for_DateTime =
    ["<", "Tz", "TimeZone", ">", "v1", "Serialize", "for", "DateTime", "<", "Tz", ">", "v2", "<", "S", ">", "&", "self", "v3", "S", "->", "Result", "<", "S", "Ok", "S", "Error", ">", "S", "v1", "Serializer", "FormatIso8601", "<", "Tz", "TimeZone", ">", "v4", "&", "DateTime", "<", "Tz", ">", "<", "Tz", "TimeZone", ">", "v5", "Display", "for", "FormatIso8601", "<", "Tz", ">", "fmt(", "&", "self", "v6", "&", "v5", "Formatter", "->", "v5", "Result", "v7", "self", "v4", "overflowing_naive_local(", "v8", "self", "v4", "v8", "fix(", "write_rfc3339(", "v6", "v7", "v8", "SecondsFormat", "AutoSi", "true", "v3", "collect_str(", "&", "FormatIso8601", "v4", "self"] := rfl

/-- src/datetime/serde.rs:mod ts_microseconds -/
theorem src_datetime_serde_rs_mod_ts_microseconds : C20_src_datetime_serde_rs_mod_ts_microseconds =
    ["v1", "v2", "v3", "v4", "v5", "v3", "v6", "DateTime", "Utc", "MicroSecondsTimestampVisitor", "v7", "<", "S", ">", "v8", "&", "DateTime", "<", "Utc", ">", "v9", "S", "->", "Result", "<", "S", "Ok", "S", "Error", ">", "S", "v5", "Serializer", "v9", "serialize_i64(", "v8", "timestamp_micros(", "v10", "<", "D", ">", "v11", "D", "->", "Result", "<", "DateTime", "<", "Utc", ">", "D", "Error", ">", "D", "v4", "Deserializer", "<", ">", "v11", "deserialize_i64(", "MicroSecondsTimestampVisitor", "v4", "Visitor", "<", ">", "for", "MicroSecondsTimestampVisitor", "Value", "DateTime", "<", "Utc", ">", "expecting(", "&", "self", "v12", "&", "v2", "Formatter", "->", "v2", "Result", "v12", "write_str(", "\"…\"", "v13", "<", "E", ">", "self", "v14", "i64", "->", "Result", "<", "Self", "Value", "E", ">", "E", "v4", "Error", "DateTime", "from_timestamp(", "v14", "div_euclid(", "1000000", "v14", "rem_euclid(", "1000000", "*", "1000", "as", "u32", "ok_or_else(", "||", "invalid_ts(", "v14", "v15", "<", "E", ">", "self", "v14", "u64", "->", "Result", "<", "Self", "Value", "E", ">", "E", "v4", "Error", "DateTime", "from_timestamp(", "v14", "/", "1000000", "as", "i64", "v14", "%", "1000000", "*", "1000", "as", "u32", "ok_or_else(", "||", "invalid_ts(", "v14"] := rfl

/-- src/datetime/serde.rs:mod ts_microseconds_option -/
theorem src_datetime_serde_rs_mod_ts_microseconds_option : C20_src_datetime_serde_rs_mod_ts_microseconds_option =
    ["v1", "v2", "v3", "v4", "v5", "MicroSecondsTimestampVisitor", "DateTime", "Utc", "v6", "<", "S", ">", "v7", "&", "Option", "<", "DateTime", "<", "Utc", ">>", "v8", "S", "->", "Result", "<", "S", "Ok", "S", "Error", ">", "S", "v5", "Serializer", "match", "*", "v7", "Some(", "v9", "=>", "v8", "serialize_some(", "&", "v9", "timestamp_micros(", "None", "=>", "v8", "serialize_none(", "v10", "<", "D", ">", "v11", "D", "->", "Result", "<", "Option", "<", "DateTime", "<", "Utc", ">>", "D", "Error", ">", "D", "v4", "Deserializer", "<", ">", "v11", "deserialize_option(", "OptionMicroSecondsTimestampVisitor", "OptionMicroSecondsTimestampVisitor", "<", ">", "v4", "Visitor", "<", ">", "for", "OptionMicroSecondsTimestampVisitor", "Value", "Option", "<", "DateTime", "<", "Utc", ">>", "expecting(", "&", "self", "v12", "&", "v2", "Formatter", "->", "v2", "Result", "v12", "write_str(", "\"…\"", "v13", "<", "D", ">", "self", "v11", "D", "->", "Result", "<", "Self", "Value", "D", "Error", ">", "D", "v4", "Deserializer", "<", ">", "v11", "deserialize_i64(", "MicroSecondsTimestampVisitor", "map(", "Some", "v14", "<", "E", ">", "self", "->", "Result", "<", "Self", "Value", "E", ">", "E", "v4", "Error", "Ok(", "None", "v15", "<", "E", ">", "self", "->", "Result", "<", "Self", "Value", "E", ">", "E", "v4", "Error", "Ok(", "None"] := rfl

/-- src/datetime/serde.rs:mod ts_milliseconds -/
theorem src_datetime_serde_rs_mod_ts_milliseconds : C20_src_datetime_serde_rs_mod_ts_milliseconds =
    ["v1", "v2", "v3", "v4", "v5", "v3", "v6", "DateTime", "Utc", "MilliSecondsTimestampVisitor", "v7", "<", "S", ">", "v8", "&", "DateTime", "<", "Utc", ">", "v9", "S", "->", "Result", "<", "S", "Ok", "S", "Error", ">", "S", "v5", "Serializer", "v9", "serialize_i64(", "v8", "timestamp_millis(", "v10", "<", "D", ">", "v11", "D", "->", "Result", "<", "DateTime", "<", "Utc", ">", "D", "Error", ">", "D", "v4", "Deserializer", "<", ">", "v11", "deserialize_i64(", "MilliSecondsTimestampVisitor", "map(", "|", "v8", "|", "v8", "with_timezone(", "&", "Utc", "v4", "Visitor", "<", ">", "for", "MilliSecondsTimestampVisitor", "Value", "DateTime", "<", "Utc", ">", "expecting(", "&", "self", "v12", "&", "v2", "Formatter", "->", "v2", "Result", "v12", "write_str(", "\"…\"", "v13", "<", "E", ">", "self", "v14", "i64", "->", "Result", "<", "Self", "Value", "E", ">", "E", "v4", "Error", "DateTime", "from_timestamp_millis(", "v14", "ok_or_else(", "||", "invalid_ts(", "v14", "v15", "<", "E", ">", "self", "v14", "u64", "->", "Result", "<", "Self", "Value", "E", ">", "E", "v4", "Error", "DateTime", "from_timestamp(", "v14", "/", "1000", "as", "i64", "v14", "%", "1000", "*", "1000000", "as", "u32", "ok_or_else(", "||", "invalid_ts(", "v14"] := rfl

/-- src/datetime/serde.rs:mod ts_milliseconds_option -/
theorem src_datetime_serde_rs_mod_ts_milliseconds_option : C20_src_datetime_serde_rs_mod_ts_milliseconds_option =
    ["v1", "v2", "v3", "v4", "v5", "MilliSecondsTimestampVisitor", "DateTime", "Utc", "v6", "<", "S", ">", "v7", "&", "Option", "<", "DateTime", "<", "Utc", ">>", "v8", "S", "->", "Result", "<", "S", "Ok", "S", "Error", ">", "S", "v5", "Serializer", "match", "*", "v7", "Some(", "v9", "=>", "v8", "serialize_some(", "&", "v9", "timestamp_millis(", "None", "=>", "v8", "serialize_none(", "v10", "<", "D", ">", "v11", "D", "->", "Result", "<", "Option", "<", "DateTime", "<", "Utc", ">>", "D", "Error", ">", "D", "v4", "Deserializer", "<", ">", "v11", "deserialize_option(", "OptionMilliSecondsTimestampVisitor", "map(", "|", "v7", "|", "v7", "map(", "|", "v9", "|", "v9", "with_timezone(", "&", "Utc", "OptionMilliSecondsTimestampVisitor", "<", ">", "v4", "Visitor", "<", ">", "for", "OptionMilliSecondsTimestampVisitor", "Value", "Option", "<", "DateTime", "<", "Utc", ">>", "expecting(", "&", "self", "v12", "&", "v2", "Formatter", "->", "v2", "Result", "v12", "write_str(", "\"…\"", "v13", "<", "D", ">", "self", "v11", "D", "->", "Result", "<", "Self", "Value", "D", "Error", ">", "D", "v4", "Deserializer", "<", ">", "v11", "deserialize_i64(", "MilliSecondsTimestampVisitor", "map(", "Some", "v14", "<", "E", ">", "self", "->", "Result", "<", "Self", "Value", "E", ">", "E", "v4", "Error", "Ok(", "None", "v15", "<", "E", ">", "self", "->", "Result", "<", "Self", "Value", "E", ">", "E", "v4", "Error", "Ok(", "None"] := rfl

/-- src/datetime/serde.rs:mod ts_nanoseconds -/
theorem src_datetime_serde_rs_mod_ts_nanoseconds : C20_src_datetime_serde_rs_mod_ts_nanoseconds =
    ["v1", "v2", "v3", "v4", "v5", "v3", "v6", "DateTime", "Utc", "NanoSecondsTimestampVisitor", "v7", "<", "S", ">", "v8", "&", "DateTime", "<", "Utc", ">", "v9", "S", "->", "Result", "<", "S", "Ok", "S", "Error", ">", "S", "v5", "Serializer", "v9", "serialize_i64(", "v8", "timestamp_nanos_opt(", "ok_or(", "v5", "Error", "custom(", "\"…\"", "?", "v10", "<", "D", ">", "v11", "D", "->", "Result", "<", "DateTime", "<", "Utc", ">", "D", "Error", ">", "D", "v4", "Deserializer", "<", ">", "v11", "deserialize_i64(", "NanoSecondsTimestampVisitor", "v4", "Visitor", "<", ">", "for", "NanoSecondsTimestampVisitor", "Value", "DateTime", "<", "Utc", ">", "expecting(", "&", "self", "v12", "&", "v2", "Formatter", "->", "v2", "Result", "v12", "write_str(", "\"…\"", "v13", "<", "E", ">", "self", "v14", "i64", "->", "Result", "<", "Self", "Value", "E", ">", "E", "v4", "Error", "DateTime", "from_timestamp(", "v14", "div_euclid(", "1000000000", "v14", "rem_euclid(", "1000000000", "as", "u32", "ok_or_else(", "||", "invalid_ts(", "v14", "v15", "<", "E", ">", "self", "v14", "u64", "->", "Result", "<", "Self", "Value", "E", ">", "E", "v4", "Error", "DateTime", "from_timestamp(", "v14", "/", "1000000000", "as", "i64", "v14", "%", "1000000000", "as", "u32", "ok_or_else(", "||", "invalid_ts(", "v14"] := rfl

/-- src/datetime/serde.rs:mod ts_nanoseconds_option -/
theorem src_datetime_serde_rs_mod_ts_nanoseconds_option : C20_src_datetime_serde_rs_mod_ts_nanoseconds_option =
    ["v1", "v2", "v3", "v4", "v5", "DateTime", "Utc", "NanoSecondsTimestampVisitor", "v6", "<", "S", ">", "v7", "&", "Option", "<", "DateTime", "<", "Utc", ">>", "v8", "S", "->", "Result", "<", "S", "Ok", "S", "Error", ">", "S", "v5", "Serializer", "match", "*", "v7", "Some(", "v9", "=>", "v8", "serialize_some(", "&", "v9", "timestamp_nanos_opt(", "ok_or(", "v5", "Error", "custom(", "\"…\"", "?", "None", "=>", "v8", "serialize_none(", "v10", "<", "D", ">", "v11", "D", "->", "Result", "<", "Option", "<", "DateTime", "<", "Utc", ">>", "D", "Error", ">", "D", "v4", "Deserializer", "<", ">", "v11", "deserialize_option(", "OptionNanoSecondsTimestampVisitor", "OptionNanoSecondsTimestampVisitor", "<", ">", "v4", "Visitor", "<", ">", "for", "OptionNanoSecondsTimestampVisitor", "Value", "Option", "<", "DateTime", "<", "Utc", ">>", "expecting(", "&", "self", "v12", "&", "v2", "Formatter", "->", "v2", "Result", "v12", "write_str(", "\"…\"", "v13", "<", "D", ">", "self", "v11", "D", "->", "Result", "<", "Self", "Value", "D", "Error", ">", "D", "v4", "Deserializer", "<", ">", "v11", "deserialize_i64(", "NanoSecondsTimestampVisitor", "map(", "Some", "v14", "<", "E", ">", "self", "->", "Result", "<", "Self", "Value", "E", ">", "E", "v4", "Error", "Ok(", "None", "v15", "<", "E", ">", "self", "->", "Result", "<", "Self", "Value", "E", ">", "E", "v4", "Error", "Ok(", "None"] := rfl

/-- src/datetime/serde.rs:mod ts_seconds -/
theorem src_datetime_serde_rs_mod_ts_seconds : C20_src_datetime_serde_rs_mod_ts_seconds =
    ["v1", "v2", "v3", "v4", "v5", "v3", "v6", "DateTime", "Utc", "SecondsTimestampVisitor", "v7", "<", "S", ">", "v8", "&", "DateTime", "<", "Utc", ">", "v9", "S", "->", "Result", "<", "S", "Ok", "S", "Error", ">", "S", "v5", "Serializer", "v9", "serialize_i64(", "v8", "timestamp(", "v10", "<", "D", ">", "v11", "D", "->", "Result", "<", "DateTime", "<", "Utc", ">", "D", "Error", ">", "D", "v4", "Deserializer", "<", ">", "v11", "deserialize_i64(", "SecondsTimestampVisitor", "v4", "Visitor", "<", ">", "for", "SecondsTimestampVisitor", "Value", "DateTime", "<", "Utc", ">", "expecting(", "&", "self", "v12", "&", "v2", "Formatter", "->", "v2", "Result", "v12", "write_str(", "\"…\"", "v13", "<", "E", ">", "self", "v14", "i64", "->", "Result", "<", "Self", "Value", "E", ">", "E", "v4", "Error", "DateTime", "from_timestamp(", "v14", "0", "ok_or_else(", "||", "invalid_ts(", "v14", "v15", "<", "E", ">", "self", "v14", "u64", "->", "Result", "<", "Self", "Value", "E", ">", "E", "v4", "Error", "if", "v14", ">", "i64", "MAX", "as", "u64", "Err(", "invalid_ts(", "v14", "else", "DateTime", "from_timestamp(", "v14", "as", "i64", "0", "ok_or_else(", "||", "invalid_ts(", "v14"] := rfl

/-- src/datetime/serde.rs:mod ts_seconds_option -/
theorem src_datetime_serde_rs_mod_ts_seconds_option : C20_src_datetime_serde_rs_mod_ts_seconds_option =
    ["v1", "v2", "v3", "v4", "v5", "SecondsTimestampVisitor", "DateTime", "Utc", "v6", "<", "S", ">", "v7", "&", "Option", "<", "DateTime", "<", "Utc", ">>", "v8", "S", "->", "Result", "<", "S", "Ok", "S", "Error", ">", "S", "v5", "Serializer", "match", "*", "v7", "Some(", "v9", "=>", "v8", "serialize_some(", "&", "v9", "timestamp(", "None", "=>", "v8", "serialize_none(", "v10", "<", "D", ">", "v11", "D", "->", "Result", "<", "Option", "<", "DateTime", "<", "Utc", ">>", "D", "Error", ">", "D", "v4", "Deserializer", "<", ">", "v11", "deserialize_option(", "OptionSecondsTimestampVisitor", "OptionSecondsTimestampVisitor", "<", ">", "v4", "Visitor", "<", ">", "for", "OptionSecondsTimestampVisitor", "Value", "Option", "<", "DateTime", "<", "Utc", ">>", "expecting(", "&", "self", "v12", "&", "v2", "Formatter", "->", "v2", "Result", "v12", "write_str(", "\"…\"", "v13", "<", "D", ">", "self", "v11", "D", "->", "Result", "<", "Self", "Value", "D", "Error", ">", "D", "v4", "Deserializer", "<", ">", "v11", "deserialize_i64(", "SecondsTimestampVisitor", "map(", "Some", "v14", "<", "E", ">", "self", "->", "Result", "<", "Self", "Value", "E", ">", "E", "v4", "Error", "Ok(", "None", "v15", "<", "E", ">", "self", "->", "Result", "<", "Self", "Value", "E", ">", "E", "v4", "Error", "Ok(", "None"] := rfl

/-- src/datetime/serde.rs:type DateTimeVisitor -/
theorem src_datetime_serde_rs_type_DateTimeVisitor : C20_src_datetime_serde_rs_type_DateTimeVisitor =
    ["v1", "Visitor", "<", ">", "for", "DateTimeVisitor", "Value", "DateTime", "<", "FixedOffset", ">", "expecting(", "&", "self", "v2", "&", "v3", "Formatter", "->", "v3", "Result", "v2", "write_str(", "\"…\"", "v4", "<", "E", ">", "self", "v5", "&", "str", "->", "Result", "<", "Self", "Value", "E", ">", "E", "v1", "Error", "v5", "parse(", "map_err(", "E", "v6"] := rfl

/-- src/lib.rs:fn invalid_ts -/
theorem src_lib_rs_fn_invalid_ts : C20_src_lib_rs_fn_invalid_ts =
    ["<", "E", "T", ">", "v1", "T", "->", "E", "E", "v2", "Error", "T", "v3", "Display", "E", "custom(", "SerdeError", "InvalidTimestamp(", "v1"] := rfl

/-- src/month.rs:mod month_serde -/
theorem src_month_rs_mod_month_serde : C20_src_month_rs_mod_month_serde =
    ["Month", "v1", "v2", "v3", "v4", "v5", "v3", "Serialize", "for", "Month", "v6", "<", "S", ">", "&", "self", "v7", "S", "->", "Result", "<", "S", "Ok", "S", "Error", ">", "S", "v3", "Serializer", "v7", "collect_str(", "self", "name(", "MonthVisitor", "v2", "Visitor", "<", ">", "for", "MonthVisitor", "Value", "Month", "expecting(", "&", "self", "v8", "&", "v5", "Formatter", "->", "v5", "Result", "v8", "write_str(", "\"Month\"", "v9", "<", "E", ">", "self", "v10", "&", "str", "->", "Result", "<", "Self", "Value", "E", ">", "E", "v2", "Error", "v10", "parse(", "map_err(", "|", "v11", "|", "E", "custom(", "\"…\"", "<", ">", "v2", "Deserialize", "<", ">", "for", "Month", "v12", "<", "D", ">", "v13", "D", "->", "Result", "<", "Self", "D", "Error", ">", "D", "v2", "Deserializer", "<", ">", "v13", "deserialize_str(", "MonthVisitor"] := rfl

/-- src/naive/date/mod.rs:mod serde -/
theorem src_naive_date_mod_rs_mod_serde : C20_src_naive_date_mod_rs_mod_serde =
    ["NaiveDate", "v1", "v2", "v3", "v4", "v5", "v5", "Serialize", "for", "NaiveDate", "v6", "<", "S", ">", "&", "self", "v7", "S", "->", "Result", "<", "S", "Ok", "S", "Error", ">", "S", "v5", "Serializer", "FormatWrapped", "<", "D", ">", "v8", "&", "D", "<", "D", "v2", "Debug", ">", "v2", "Display", "for", "FormatWrapped", "<", "D", ">", "fmt(", "&", "self", "v9", "&", "v2", "Formatter", "->", "v2", "Result", "self", "v8", "fmt(", "v9", "v7", "collect_str(", "&", "FormatWrapped", "v8", "&", "self", "NaiveDateVisitor", "v4", "Visitor", "<", ">", "for", "NaiveDateVisitor", "Value", "NaiveDate", "expecting(", "&", "self", "v10", "&", "v2", "Formatter", "->", "v2", "Result", "v10", "write_str(", "\"…\"", "v11", "<", "E", ">", "self", "v12", "&", "str", "->", "Result", "<", "Self", "Value", "E", ">", "E", "v4", "Error", "v12", "parse(", "map_err(", "E", "v13", "<", ">", "v4", "Deserialize", "<", ">", "for", "NaiveDate", "v14", "<", "D", ">", "v15", "D", "->", "Result", "<", "Self", "D", "Error", ">", "D", "v4", "Deserializer", "<", ">", "v15", "deserialize_str(", "NaiveDateVisitor"] := rfl

/-- src/naive/datetime/serde.rs:fn deserialize -/
theorem src_naive_datetime_serde_rs_fn_deserialize : C20_src_naive_datetime_serde_rs_fn_deserialize =
    ["<", "D", ">", "v1", "D", "->", "Result", "<", "Self", "D", "Error", ">", "D", "v2", "Deserializer", "<", ">", "v1", "deserialize_str(", "NaiveDateTimeVisitor", "§", "<", "D", ">", "v1", "D", "->", "Result", "<", "NaiveDateTime", "D", "Error", ">", "D", "v2", "Deserializer", "<", ">", "v1", "deserialize_i64(", "NanoSecondsTimestampVisitor", "§", "<", "D", ">", "v1", "D", "->", "Result", "<", "Option", "<", "NaiveDateTime", ">", "D", "Error", ">", "D", "v2", "Deserializer", "<", ">", "v1", "deserialize_option(", "OptionNanoSecondsTimestampVisitor", "§", "<", "D", ">", "v1", "D", "->", "Result", "<", "NaiveDateTime", "D", "Error", ">", "D", "v2", "Deserializer", "<", ">", "v1", "deserialize_i64(", "MicroSecondsTimestampVisitor", "§", "<", "D", ">", "v1", "D", "->", "Result", "<", "Option", "<", "NaiveDateTime", ">", "D", "Error", ">", "D", "v2", "Deserializer", "<", ">", "v1", "deserialize_option(", "OptionMicroSecondsTimestampVisitor", "§", "<", "D", ">", "v1", "D", "->", "Result", "<", "NaiveDateTime", "D", "Error", ">", "D", "v2", "Deserializer", "<", ">", "v1", "deserialize_i64(", "MilliSecondsTimestampVisitor", "§", "<", "D", ">", "v1", "D", "->", "Result", "<", "Option", "<", "NaiveDateTime", ">", "D", "Error", ">", "D", "v2", "Deserializer", "<", ">", "v1", "deserialize_option(", "OptionMilliSecondsTimestampVisitor", "§", "<", "D", ">", "v1", "D", "->", "Result", "<", "NaiveDateTime", "D", "Error", ">", "D", "v2", "Deserializer", "<", ">", "v1", "deserialize_i64(", "SecondsTimestampVisitor", "§", "<", "D", ">", "v1", "D", "->", "Result", "<", "Option", "<", "NaiveDateTime", ">", "D", "Error", ">", "D", "v2", "Deserializer", "<", ">", "v1", "deserialize_option(", "OptionSecondsTimestampVisitor"] := rfl

/-- src/naive/datetime/serde.rs:fn expecting -/
theorem src_naive_datetime_serde_rs_fn_expecting : C20_src_naive_datetime_serde_rs_fn_expecting =
    ["&", "self", "v1", "&", "v2", "Formatter", "->", "v2", "Result", "v1", "write_str(", "\"…\"", "§", "&", "self", "v1", "&", "v2", "Formatter", "->", "v2", "Result", "v1", "write_str(", "\"…\"", "§", "&", "self", "v1", "&", "v2", "Formatter", "->", "v2", "Result", "v1", "write_str(", "\"…\"", "§", "&", "self", "v1", "&", "v2", "Formatter", "->", "v2", "Result", "v1", "write_str(", "\"…\"", "§", "&", "self", "v1", "&", "v2", "Formatter", "->", "v2", "Result", "v1", "write_str(", "\"…\"", "§", "&", "self", "v1", "&", "v2", "Formatter", "->", "v2", "Result", "v1", "write_str(", "\"…\"", "§", "&", "self", "v1", "&", "v2", "Formatter", "->", "v2", "Result", "v1", "write_str(", "\"…\"", "§", "&", "self", "v1", "&", "v2", "Formatter", "->", "v2", "Result", "v1", "write_str(", "\"…\"", "§", "&", "self", "v1", "&", "v2", "Formatter", "->", "v2", "Result", "v1", "write_str(", "\"…\""] := rfl

/-- src/naive/datetime/serde.rs:fn fmt -/
theorem src_naive_datetime_serde_rs_fn_fmt : C20_src_naive_datetime_serde_rs_fn_fmt =
    ["&", "self", "v1", "&", "v2", "Formatter", "->", "v2", "Result", "self", "v3", "fmt(", "v1"] := rfl

/-- src/naive/datetime/serde.rs:fn serialize -/
theorem src_naive_datetime_serde_rs_fn_serialize : C20_src_naive_datetime_serde_rs_fn_serialize =
    ["<", "S", ">", "&", "self", "v1", "S", "->", "Result", "<", "S", "Ok", "S", "Error", ">", "S", "v2", "Serializer", "FormatWrapped", "<", "D", ">", "v3", "&", "D", "<", "D", "v4", "Debug", ">", "v4", "Display", "for", "FormatWrapped", "<", "D", ">", "fmt(", "&", "self", "v5", "&", "v4", "Formatter", "->", "v4", "Result", "self", "v3", "fmt(", "v5", "v1", "collect_str(", "&", "FormatWrapped", "v3", "&", "self", "§", "<", "S", ">", "v1", "&", "NaiveDateTime", "v2", "S", "->", "Result", "<", "S", "Ok", "S", "Error", ">", "S", "v3", "Serializer", "v2", "serialize_i64(", "v1", "and_utc(", "timestamp_nanos_opt(", "ok_or(", "v3", "Error", "custom(", "\"…\"", "?", "§", "<", "S", ">", "v1", "&", "Option", "<", "NaiveDateTime", ">", "v2", "S", "->", "Result", "<", "S", "Ok", "S", "Error", ">", "S", "v3", "Serializer", "match", "*", "v1", "Some(", "v4", "=>", "v2", "serialize_some(", "&", "v4", "and_utc(", "timestamp_nanos_opt(", "ok_or(", "v3", "Error", "custom(", "\"…\"", "?", "None", "=>", "v2", "serialize_none(", "§", "<", "S", ">", "v1", "&", "NaiveDateTime", "v2", "S", "->", "Result", "<", "S", "Ok", "S", "Error", ">", "S", "v3", "Serializer", "v2", "serialize_i64(", "v1", "and_utc(", "timestamp_micros(", "§", "<", "S", ">", "v1", "&", "Option", "<", "NaiveDateTime", ">", "v2", "S", "->", "Result", "<", "S", "Ok", "S", "Error", ">", "S", "v3", "Serializer", "match", "*", "v1", "Some(", "v4", "=>", "v2", "serialize_some(", "&", "v4", "and_utc(", "timestamp_micros(", "None", "=>", "v2", "serialize_none(", "§", "<", "S", ">", "v1", "&", "NaiveDateTime", "v2", "S", "->", "Result", "<", "S", "Ok", "S", "Error", ">", "S", "v3", "Serializer", "v2", "serialize_i64(", "v1", "and_utc(", "timestamp_millis(", "§", "<", "S", ">", "v1", "&", "Option", "<", "NaiveDateTime", ">", "v2", "S", "->", "Result", "<", "S", "Ok", "S", "Error", ">", "S", "v3", "Serializer", "match", "*", "v1", "Some(", "v4", "=>", "v2", "serialize_some(", "&", "v4", "and_utc(", "timestamp_millis(", "None", "=>", "v2", "serialize_none(", "§", "<", "S", ">", "v1", "&", "NaiveDateTime", "v2", "S", "->", "Result", "<", "S", "Ok", "S", "Error", ">", "S", "v3", "Serializer", "v2", "serialize_i64(", "v1", "and_utc(", "timestamp(", "§", "<", "S", ">", "v1", "&", "Option", "<", "NaiveDateTime", ">", "v2", "S", "->", "Result", "<", "S", "Ok", "S", "Error", ">", "S", "v3", "Serializer", "match", "*", "v1", "Some(", "v4", "=>", "v2", "serialize_some(", "&", "v4", "and_utc(", "timestamp(", "None", "=>", "v2", "serialize_none("] := rfl

/-- src/naive/datetime/serde.rs:fn visit_i64 -/
theorem src_naive_datetime_serde_rs_fn_visit_i64 : C20_src_naive_datetime_serde_rs_fn_visit_i64 =
    ["<", "E", ">", "self", "v1", "i64", "->", "Result", "<", "Self", "Value", "E", ">", "E", "v2", "Error", "DateTime", "from_timestamp(", "v1", "div_euclid(", "1000000000", "v1", "rem_euclid(", "1000000000", "as", "u32", "map(", "|", "v3", "|", "v3", "naive_utc(", "ok_or_else(", "||", "invalid_ts(", "v1", "§", "<", "E", ">", "self", "v1", "i64", "->", "Result", "<", "Self", "Value", "E", ">", "E", "v2", "Error", "DateTime", "from_timestamp_micros(", "v1", "map(", "|", "v3", "|", "v3", "naive_utc(", "ok_or_else(", "||", "invalid_ts(", "v1", "§", "<", "E", ">", "self", "v1", "i64", "->", "Result", "<", "Self", "Value", "E", ">", "E", "v2", "Error", "DateTime", "from_timestamp_millis(", "v1", "map(", "|", "v3", "|", "v3", "naive_utc(", "ok_or_else(", "||", "invalid_ts(", "v1", "§", "<", "E", ">", "self", "v1", "i64", "->", "Result", "<", "Self", "Value", "E", ">", "E", "v2", "Error", "DateTime", "from_timestamp(", "v1", "0", "map(", "|", "v3", "|", "v3", "naive_utc(", "ok_or_else(", "||", "invalid_ts(", "v1"] := rfl

/-- src/naive/datetime/serde.rs:fn visit_none -/
theorem src_naive_datetime_serde_rs_fn_visit_none : C20_src_naive_datetime_serde_rs_fn_visit_none =
    ["<", "E", ">", "self", "->", "Result", "<", "Self", "Value", "E", ">", "E", "v1", "Error", "Ok(", "None", "§", "<", "E", ">", "self", "->", "Result", "<", "Self", "Value", "E", ">", "E", "v1", "Error", "Ok(", "None", "§", "<", "E", ">", "self", "->", "Result", "<", "Self", "Value", "E", ">", "E", "v1", "Error", "Ok(", "None", "§", "<", "E", ">", "self", "->", "Result", "<", "Self", "Value", "E", ">", "E", "v1", "Error", "Ok(", "None"] := rfl

/-- src/naive/datetime/serde.rs:fn visit_some -/
theorem src_naive_datetime_serde_rs_fn_visit_some : C20_src_naive_datetime_serde_rs_fn_visit_some =
    ["<", "D", ">", "self", "v1", "D", "->", "Result", "<", "Self", "Value", "D", "Error", ">", "D", "v2", "Deserializer", "<", ">", "v1", "deserialize_i64(", "NanoSecondsTimestampVisitor", "map(", "Some", "§", "<", "D", ">", "self", "v1", "D", "->", "Result", "<", "Self", "Value", "D", "Error", ">", "D", "v2", "Deserializer", "<", ">", "v1", "deserialize_i64(", "MicroSecondsTimestampVisitor", "map(", "Some", "§", "<", "D", ">", "self", "v1", "D", "->", "Result", "<", "Self", "Value", "D", "Error", ">", "D", "v2", "Deserializer", "<", ">", "v1", "deserialize_i64(", "MilliSecondsTimestampVisitor", "map(", "Some", "§", "<", "D", ">", "self", "v1", "D", "->", "Result", "<", "Self", "Value", "D", "Error", ">", "D", "v2", "Deserializer", "<", ">", "v1", "deserialize_i64(", "SecondsTimestampVisitor", "map(", "Some"] := rfl

/-- src/naive/datetime/serde.rs:fn visit_str -/
theorem src_naive_datetime_serde_rs_fn_visit_str : C20_src_naive_datetime_serde_rs_fn_visit_str =
    ["<", "E", ">", "self", "v1", "&", "str", "->", "Result", "<", "Self", "Value", "E", ">", "E", "v2", "Error", "v1", "parse(", "map_err(", "E", "v3"] := rfl

/-- src/naive/datetime/serde.rs:fn visit_u64 -/
theorem src_naive_datetime_serde_rs_fn_visit_u64 : C20_src_naive_datetime_serde_rs_fn_visit_u64 =
    ["<", "E", ">", "self", "v1", "u64", "->", "Result", "<", "Self", "Value", "E", ">", "E", "v2", "Error", "DateTime", "from_timestamp(", "v1", "/", "1000000000", "as", "i64", "v1", "%", "1000000000", "as", "u32", "map(", "|", "v3", "|", "v3", "naive_utc(", "ok_or_else(", "||", "invalid_ts(", "v1", "§", "<", "E", ">", "self", "v1", "u64", "->", "Result", "<", "Self", "Value", "E", ">", "E", "v2", "Error", "DateTime", "from_timestamp(", "v1", "/", "1000000", "as", "i64", "v1", "%", "1000000", "*", "1000", "as", "u32", "map(", "|", "v3", "|", "v3", "naive_utc(", "ok_or_else(", "||", "invalid_ts(", "v1", "§", "<", "E", ">", "self", "v1", "u64", "->", "Result", "<", "Self", "Value", "E", ">", "E", "v2", "Error", "DateTime", "from_timestamp(", "v1", "/", "1000", "as", "i64", "v1", "%", "1000", "*", "1000000", "as", "u32", "map(", "|", "v3", "|", "v3", "naive_utc(", "ok_or_else(", "||", "invalid_ts(", "v1", "§", "<", "E", ">", "self", "v1", "u64", "->", "Result", "<", "Self", "Value", "E", ">", "E", "v2", "Error", "if", "v1", ">", "i64", "MAX", "as", "u64", "Err(", "invalid_ts(", "v1", "else", "DateTime", "from_timestamp(", "v1", "as", "i64", "0", "map(", "|", "v3", "|", "v3", "naive_utc(", "ok_or_else(", "||", "invalid_ts(", "v1"] := rfl

/-- src/naive/datetime/serde.rs:fn visit_unit -/
theorem src_naive_datetime_serde_rs_fn_visit_unit : C20_src_naive_datetime_serde_rs_fn_visit_unit =
    ["<", "E", ">", "self", "->", "Result", "<", "Self", "Value", "E", ">", "E", "v1", "Error", "Ok(", "None", "§", "<", "E", ">", "self", "->", "Result", "<", "Self", "Value", "E", ">", "E", "v1", "Error", "Ok(", "None", "§", "<", "E", ">", "self", "->", "Result", "<", "Self", "Value", "E", ">", "E", "v1", "Error", "Ok(", "None", "§", "<", "E", ">", "self", "->", "Result", "<", "Self", "Value", "E", ">", "E", "v1", "Error", "Ok(", "None"] := rfl

/-- src/naive/datetime/serde.rs:impl Deserialize -/
theorem src_naive_datetime_serde_rs_impl_Deserialize : C20_src_naive_datetime_serde_rs_impl_Deserialize =
    ["<", ">", "v1", "Deserialize", "<", ">", "for", "NaiveDateTime", "v2", "<", "D", ">", "v3", "D", "->", "Result", "<", "Self", "D", "Error", ">", "D", "v1", "Deserializer", "<", ">", "v3", "deserialize_str(", "NaiveDateTimeVisitor"] := rfl

/-- src/naive/datetime/serde.rs:impl Serialize -/
theorem src_naive_datetime_serde_rs_impl_Serialize : C20_src_naive_datetime_serde_rs_impl_Serialize =
    ["v1", "Serialize", "for", "NaiveDateTime", "v2", "<", "S", ">", "&", "self", "v3", "S", "->", "Result", "<", "S", "Ok", "S", "Error", ">", "S", "v1", "Serializer", "FormatWrapped", "<", "D", ">", "v4", "&", "D", "<", "D", "v5", "Debug", ">", "v5", "Display", "for", "FormatWrapped", "<", "D", ">", "fmt(", "&", "self", "v6", "&", "v5", "Formatter", "->", "v5", "Result", "self", "v4", "fmt(", "v6", "v3", "collect_str(", "&", "FormatWrapped", "v4", "&", "self"] := rfl

/-- src/naive/datetime/serde.rs:mod ts_microseconds -/
theorem src_naive_datetime_serde_rs_mod_ts_microseconds : C20_src_naive_datetime_serde_rs_mod_ts_microseconds =
    ["v1", "v2", "v3", "v4", "v5", "v3", "v6", "DateTime", "NaiveDateTime", "v7", "<", "S", ">", "v8", "&", "NaiveDateTime", "v9", "S", "->", "Result", "<", "S", "Ok", "S", "Error", ">", "S", "v5", "Serializer", "v9", "serialize_i64(", "v8", "and_utc(", "timestamp_micros(", "v10", "<", "D", ">", "v11", "D", "->", "Result", "<", "NaiveDateTime", "D", "Error", ">", "D", "v4", "Deserializer", "<", ">", "v11", "deserialize_i64(", "MicroSecondsTimestampVisitor", "pub(", "MicroSecondsTimestampVisitor", "v4", "Visitor", "<", ">", "for", "MicroSecondsTimestampVisitor", "Value", "NaiveDateTime", "expecting(", "&", "self", "v12", "&", "v2", "Formatter", "->", "v2", "Result", "v12", "write_str(", "\"…\"", "v13", "<", "E", ">", "self", "v14", "i64", "->", "Result", "<", "Self", "Value", "E", ">", "E", "v4", "Error", "DateTime", "from_timestamp_micros(", "v14", "map(", "|", "v8", "|", "v8", "naive_utc(", "ok_or_else(", "||", "invalid_ts(", "v14", "v15", "<", "E", ">", "self", "v14", "u64", "->", "Result", "<", "Self", "Value", "E", ">", "E", "v4", "Error", "DateTime", "from_timestamp(", "v14", "/", "1000000", "as", "i64", "v14", "%", "1000000", "*", "1000", "as", "u32", "map(", "|", "v8", "|", "v8", "naive_utc(", "ok_or_else(", "||", "invalid_ts(", "v14"] := rfl

/-- src/naive/datetime/serde.rs:mod ts_microseconds_option -/
theorem src_naive_datetime_serde_rs_mod_ts_microseconds_option : C20_src_naive_datetime_serde_rs_mod_ts_microseconds_option =
    ["v1", "v2", "v3", "v4", "v5", "v6", "MicroSecondsTimestampVisitor", "NaiveDateTime", "v7", "<", "S", ">", "v8", "&", "Option", "<", "NaiveDateTime", ">", "v9", "S", "->", "Result", "<", "S", "Ok", "S", "Error", ">", "S", "v5", "Serializer", "match", "*", "v8", "Some(", "v10", "=>", "v9", "serialize_some(", "&", "v10", "and_utc(", "timestamp_micros(", "None", "=>", "v9", "serialize_none(", "v11", "<", "D", ">", "v12", "D", "->", "Result", "<", "Option", "<", "NaiveDateTime", ">", "D", "Error", ">", "D", "v4", "Deserializer", "<", ">", "v12", "deserialize_option(", "OptionMicroSecondsTimestampVisitor", "OptionMicroSecondsTimestampVisitor", "<", ">", "v4", "Visitor", "<", ">", "for", "OptionMicroSecondsTimestampVisitor", "Value", "Option", "<", "NaiveDateTime", ">", "expecting(", "&", "self", "v13", "&", "v2", "Formatter", "->", "v2", "Result", "v13", "write_str(", "\"…\"", "v14", "<", "D", ">", "self", "v12", "D", "->", "Result", "<", "Self", "Value", "D", "Error", ">", "D", "v4", "Deserializer", "<", ">", "v12", "deserialize_i64(", "MicroSecondsTimestampVisitor", "map(", "Some", "v15", "<", "E", ">", "self", "->", "Result", "<", "Self", "Value", "E", ">", "E", "v4", "Error", "Ok(", "None", "v16", "<", "E", ">", "self", "->", "Result", "<", "Self", "Value", "E", ">", "E", "v4", "Error", "Ok(", "None"] := rfl

/-- src/naive/datetime/serde.rs:mod ts_milliseconds -/
theorem src_naive_datetime_serde_rs_mod_ts_milliseconds : C20_src_naive_datetime_serde_rs_mod_ts_milliseconds =
    ["v1", "v2", "v3", "v4", "v5", "v3", "v6", "DateTime", "NaiveDateTime", "v7", "<", "S", ">", "v8", "&", "NaiveDateTime", "v9", "S", "->", "Result", "<", "S", "Ok", "S", "Error", ">", "S", "v5", "Serializer", "v9", "serialize_i64(", "v8", "and_utc(", "timestamp_millis(", "v10", "<", "D", ">", "v11", "D", "->", "Result", "<", "NaiveDateTime", "D", "Error", ">", "D", "v4", "Deserializer", "<", ">", "v11", "deserialize_i64(", "MilliSecondsTimestampVisitor", "pub(", "MilliSecondsTimestampVisitor", "v4", "Visitor", "<", ">", "for", "MilliSecondsTimestampVisitor", "Value", "NaiveDateTime", "expecting(", "&", "self", "v12", "&", "v2", "Formatter", "->", "v2", "Result", "v12", "write_str(", "\"…\"", "v13", "<", "E", ">", "self", "v14", "i64", "->", "Result", "<", "Self", "Value", "E", ">", "E", "v4", "Error", "DateTime", "from_timestamp_millis(", "v14", "map(", "|", "v8", "|", "v8", "naive_utc(", "ok_or_else(", "||", "invalid_ts(", "v14", "v15", "<", "E", ">", "self", "v14", "u64", "->", "Result", "<", "Self", "Value", "E", ">", "E", "v4", "Error", "DateTime", "from_timestamp(", "v14", "/", "1000", "as", "i64", "v14", "%", "1000", "*", "1000000", "as", "u32", "map(", "|", "v8", "|", "v8", "naive_utc(", "ok_or_else(", "||", "invalid_ts(", "v14"] := rfl

/-- src/naive/datetime/serde.rs:mod ts_milliseconds_option -/
theorem src_naive_datetime_serde_rs_mod_ts_milliseconds_option : C20_src_naive_datetime_serde_rs_mod_ts_milliseconds_option =
    ["v1", "v2", "v3", "v4", "v5", "v6", "MilliSecondsTimestampVisitor", "NaiveDateTime", "v7", "<", "S", ">", "v8", "&", "Option", "<", "NaiveDateTime", ">", "v9", "S", "->", "Result", "<", "S", "Ok", "S", "Error", ">", "S", "v5", "Serializer", "match", "*", "v8", "Some(", "v10", "=>", "v9", "serialize_some(", "&", "v10", "and_utc(", "timestamp_millis(", "None", "=>", "v9", "serialize_none(", "v11", "<", "D", ">", "v12", "D", "->", "Result", "<", "Option", "<", "NaiveDateTime", ">", "D", "Error", ">", "D", "v4", "Deserializer", "<", ">", "v12", "deserialize_option(", "OptionMilliSecondsTimestampVisitor", "OptionMilliSecondsTimestampVisitor", "<", ">", "v4", "Visitor", "<", ">", "for", "OptionMilliSecondsTimestampVisitor", "Value", "Option", "<", "NaiveDateTime", ">", "expecting(", "&", "self", "v13", "&", "v2", "Formatter", "->", "v2", "Result", "v13", "write_str(", "\"…\"", "v14", "<", "D", ">", "self", "v12", "D", "->", "Result", "<", "Self", "Value", "D", "Error", ">", "D", "v4", "Deserializer", "<", ">", "v12", "deserialize_i64(", "MilliSecondsTimestampVisitor", "map(", "Some", "v15", "<", "E", ">", "self", "->", "Result", "<", "Self", "Value", "E", ">", "E", "v4", "Error", "Ok(", "None", "v16", "<", "E", ">", "self", "->", "Result", "<", "Self", "Value", "E", ">", "E", "v4", "Error", "Ok(", "None"] := rfl

/-- src/naive/datetime/serde.rs:mod ts_nanoseconds -/
theorem src_naive_datetime_serde_rs_mod_ts_nanoseconds : C20_src_naive_datetime_serde_rs_mod_ts_nanoseconds =
    ["v1", "v2", "v3", "v4", "v5", "v3", "v6", "DateTime", "NaiveDateTime", "v7", "<", "S", ">", "v8", "&", "NaiveDateTime", "v9", "S", "->", "Result", "<", "S", "Ok", "S", "Error", ">", "S", "v5", "Serializer", "v9", "serialize_i64(", "v8", "and_utc(", "timestamp_nanos_opt(", "ok_or(", "v5", "Error", "custom(", "\"…\"", "?", "v10", "<", "D", ">", "v11", "D", "->", "Result", "<", "NaiveDateTime", "D", "Error", ">", "D", "v4", "Deserializer", "<", ">", "v11", "deserialize_i64(", "NanoSecondsTimestampVisitor", "pub(", "NanoSecondsTimestampVisitor", "v4", "Visitor", "<", ">", "for", "NanoSecondsTimestampVisitor", "Value", "NaiveDateTime", "expecting(", "&", "self", "v12", "&", "v2", "Formatter", "->", "v2", "Result", "v12", "write_str(", "\"…\"", "v13", "<", "E", ">", "self", "v14", "i64", "->", "Result", "<", "Self", "Value", "E", ">", "E", "v4", "Error", "DateTime", "from_timestamp(", "v14", "div_euclid(", "1000000000", "v14", "rem_euclid(", "1000000000", "as", "u32", "map(", "|", "v8", "|", "v8", "naive_utc(", "ok_or_else(", "||", "invalid_ts(", "v14", "v15", "<", "E", ">", "self", "v14", "u64", "->", "Result", "<", "Self", "Value", "E", ">", "E", "v4", "Error", "DateTime", "from_timestamp(", "v14", "/", "1000000000", "as", "i64", "v14", "%", "1000000000", "as", "u32", "map(", "|", "v8", "|", "v8", "naive_utc(", "ok_or_else(", "||", "invalid_ts(", "v14"] := rfl

/-- src/naive/datetime/serde.rs:mod ts_nanoseconds_option -/
theorem src_naive_datetime_serde_rs_mod_ts_nanoseconds_option : C20_src_naive_datetime_serde_rs_mod_ts_nanoseconds_option =
    ["v1", "v2", "v3", "v4", "v5", "v6", "NanoSecondsTimestampVisitor", "NaiveDateTime", "v7", "<", "S", ">", "v8", "&", "Option", "<", "NaiveDateTime", ">", "v9", "S", "->", "Result", "<", "S", "Ok", "S", "Error", ">", "S", "v5", "Serializer", "match", "*", "v8", "Some(", "v10", "=>", "v9", "serialize_some(", "&", "v10", "and_utc(", "timestamp_nanos_opt(", "ok_or(", "v5", "Error", "custom(", "\"…\"", "?", "None", "=>", "v9", "serialize_none(", "v11", "<", "D", ">", "v12", "D", "->", "Result", "<", "Option", "<", "NaiveDateTime", ">", "D", "Error", ">", "D", "v4", "Deserializer", "<", ">", "v12", "deserialize_option(", "OptionNanoSecondsTimestampVisitor", "OptionNanoSecondsTimestampVisitor", "<", ">", "v4", "Visitor", "<", ">", "for", "OptionNanoSecondsTimestampVisitor", "Value", "Option", "<", "NaiveDateTime", ">", "expecting(", "&", "self", "v13", "&", "v2", "Formatter", "->", "v2", "Result", "v13", "write_str(", "\"…\"", "v14", "<", "D", ">", "self", "v12", "D", "->", "Result", "<", "Self", "Value", "D", "Error", ">", "D", "v4", "Deserializer", "<", ">", "v12", "deserialize_i64(", "NanoSecondsTimestampVisitor", "map(", "Some", "v15", "<", "E", ">", "self", "->", "Result", "<", "Self", "Value", "E", ">", "E", "v4", "Error", "Ok(", "None", "v16", "<", "E", ">", "self", "->", "Result", "<", "Self", "Value", "E", ">", "E", "v4", "Error", "Ok(", "None"] := rfl

/-- src/naive/datetime/serde.rs:mod ts_seconds -/
theorem src_naive_datetime_serde_rs_mod_ts_seconds : C20_src_naive_datetime_serde_rs_mod_ts_seconds =
    ["v1", "v2", "v3", "v4", "v5", "v3", "v6", "DateTime", "NaiveDateTime", "v7", "<", "S", ">", "v8", "&", "NaiveDateTime", "v9", "S", "->", "Result", "<", "S", "Ok", "S", "Error", ">", "S", "v5", "Serializer", "v9", "serialize_i64(", "v8", "and_utc(", "timestamp(", "v10", "<", "D", ">", "v11", "D", "->", "Result", "<", "NaiveDateTime", "D", "Error", ">", "D", "v4", "Deserializer", "<", ">", "v11", "deserialize_i64(", "SecondsTimestampVisitor", "pub(", "SecondsTimestampVisitor", "v4", "Visitor", "<", ">", "for", "SecondsTimestampVisitor", "Value", "NaiveDateTime", "expecting(", "&", "self", "v12", "&", "v2", "Formatter", "->", "v2", "Result", "v12", "write_str(", "\"…\"", "v13", "<", "E", ">", "self", "v14", "i64", "->", "Result", "<", "Self", "Value", "E", ">", "E", "v4", "Error", "DateTime", "from_timestamp(", "v14", "0", "map(", "|", "v8", "|", "v8", "naive_utc(", "ok_or_else(", "||", "invalid_ts(", "v14", "v15", "<", "E", ">", "self", "v14", "u64", "->", "Result", "<", "Self", "Value", "E", ">", "E", "v4", "Error", "if", "v14", ">", "i64", "MAX", "as", "u64", "Err(", "invalid_ts(", "v14", "else", "DateTime", "from_timestamp(", "v14", "as", "i64", "0", "map(", "|", "v8", "|", "v8", "naive_utc(", "ok_or_else(", "||", "invalid_ts(", "v14"] := rfl

/-- src/naive/datetime/serde.rs:mod ts_seconds_option -/
theorem src_naive_datetime_serde_rs_mod_ts_seconds_option : C20_src_naive_datetime_serde_rs_mod_ts_seconds_option =
    ["v1", "v2", "v3", "v4", "v5", "v6", "SecondsTimestampVisitor", "NaiveDateTime", "v7", "<", "S", ">", "v8", "&", "Option", "<", "NaiveDateTime", ">", "v9", "S", "->", "Result", "<", "S", "Ok", "S", "Error", ">", "S", "v5", "Serializer", "match", "*", "v8", "Some(", "v10", "=>", "v9", "serialize_some(", "&", "v10", "and_utc(", "timestamp(", "None", "=>", "v9", "serialize_none(", "v11", "<", "D", ">", "v12", "D", "->", "Result", "<", "Option", "<", "NaiveDateTime", ">", "D", "Error", ">", "D", "v4", "Deserializer", "<", ">", "v12", "deserialize_option(", "OptionSecondsTimestampVisitor", "OptionSecondsTimestampVisitor", "<", ">", "v4", "Visitor", "<", ">", "for", "OptionSecondsTimestampVisitor", "Value", "Option", "<", "NaiveDateTime", ">", "expecting(", "&", "self", "v13", "&", "v2", "Formatter", "->", "v2", "Result", "v13", "write_str(", "\"…\"", "v14", "<", "D", ">", "self", "v12", "D", "->", "Result", "<", "Self", "Value", "D", "Error", ">", "D", "v4", "Deserializer", "<", ">", "v12", "deserialize_i64(", "SecondsTimestampVisitor", "map(", "Some", "v15", "<", "E", ">", "self", "->", "Result", "<", "Self", "Value", "E", ">", "E", "v4", "Error", "Ok(", "None", "v16", "<", "E", ">", "self", "->", "Result", "<", "Self", "Value", "E", ">", "E", "v4", "Error", "Ok(", "None"] := rfl

/-- src/naive/time/serde.rs:fn deserialize -/
theorem src_naive_time_serde_rs_fn_deserialize : C20_src_naive_time_serde_rs_fn_deserialize =
    ["<", "D", ">", "v1", "D", "->", "Result", "<", "Self", "D", "Error", ">", "D", "v2", "Deserializer", "<", ">", "v1", "deserialize_str(", "NaiveTimeVisitor"] := rfl

/-- src/naive/time/serde.rs:fn expecting -/
theorem src_naive_time_serde_rs_fn_expecting : C20_src_naive_time_serde_rs_fn_expecting =
    ["&", "self", "v1", "&", "v2", "Formatter", "->", "v2", "Result", "v1", "write_str(", "\"…\""] := rfl

/-- src/naive/time/serde.rs:fn serialize -/
theorem src_naive_time_serde_rs_fn_serialize : C20_src_naive_time_serde_rs_fn_serialize =
    ["<", "S", ">", "&", "self", "v1", "S", "->", "Result", "<", "S", "Ok", "S", "Error", ">", "S", "v2", "Serializer", "v1", "collect_str(", "&", "self"] := rfl

/-- src/naive/time/serde.rs:fn visit_str -/
theorem src_naive_time_serde_rs_fn_visit_str : C20_src_naive_time_serde_rs_fn_visit_str =
    ["<", "E", ">", "self", "v1", "&", "str", "->", "Result", "<", "Self", "Value", "E", ">", "E", "v2", "Error", "v1", "parse(", "map_err(", "E", "v3"] := rfl

/-- src/time_delta.rs:mod serde -/
theorem src_time_delta_rs_mod_serde : C20_src_time_delta_rs_mod_serde =
    ["TimeDelta", "v1", "Deserialize", "Deserializer", "Serialize", "Serializer", "v2", "Error", "Serialize", "for", "TimeDelta", "v3", "<", "S", "Serializer", ">", "&", "self", "v4", "S", "->", "Result", "<", "S", "Ok", "S", "Error", ">", "<", "i64", "i32", "as", "Serialize", ">", "serialize(", "&", "self", "v5", "self", "v6", "v4", "<", ">", "Deserialize", "<", ">", "for", "TimeDelta", "v7", "<", "D", "Deserializer", "<", ">>", "v8", "D", "->", "Result", "<", "Self", "D", "Error", ">", "let(", "v5", "v6", "<", "i64", "i32", "as", "Deserialize", ">", "deserialize(", "v8", "?", "TimeDelta", "new(", "v5", "v6", "as", "u32", "ok_or(", "Error", "custom(", "\"…\""] := rfl

/-- src/weekday.rs:mod weekday_serde -/
theorem src_weekday_rs_mod_weekday_serde : C20_src_weekday_rs_mod_weekday_serde =
    ["Weekday", "v1", "v2", "v3", "v4", "v5", "v5", "Serialize", "for", "Weekday", "v6", "<", "S", ">", "&", "self", "v7", "S", "->", "Result", "<", "S", "Ok", "S", "Error", ">", "S", "v5", "Serializer", "v7", "collect_str(", "&", "self", "WeekdayVisitor", "v4", "Visitor", "<", ">", "for", "WeekdayVisitor", "Value", "Weekday", "expecting(", "&", "self", "v8", "&", "v2", "Formatter", "->", "v2", "Result", "v8", "write_str(", "\"Weekday\"", "v9", "<", "E", ">", "self", "v10", "&", "str", "->", "Result", "<", "Self", "Value", "E", ">", "E", "v4", "Error", "v10", "parse(", "map_err(", "|", "v11", "|", "E", "custom(", "\"…\"", "<", ">", "v4", "Deserialize", "<", ">", "for", "Weekday", "v12", "<", "D", ">", "v13", "D", "->", "Result", "<", "Self", "D", "Error", ">", "D", "v4", "Deserializer", "<", ">", "v13", "deserialize_str(", "WeekdayVisitor"] := rfl

/-- callee src/datetime/mod.rs:fn from_naive_utc_and_offset -/
theorem callee_src_datetime_mod_rs_fn_from_naive_utc_and_offset : C20_callee_src_datetime_mod_rs_fn_from_naive_utc_and_offset =
    ["v1", "NaiveDateTime", "v2", "Tz", "Offset", "->", "DateTime", "<", "Tz", ">", "DateTime", "v1", "v2"] := rfl

/-- callee src/datetime/mod.rs:fn overflowing_naive_local -/
theorem callee_src_datetime_mod_rs_fn_overflowing_naive_local : C20_callee_src_datetime_mod_rs_fn_overflowing_naive_local =
    ["&", "self", "->", "NaiveDateTime", "self", "v1", "overflowing_add_offset(", "self", "v2", "fix("] := rfl

/-- callee src/format/formatting.rs:fn write_hundreds -/
theorem callee_src_format_formatting_rs_fn_write_hundreds : C20_callee_src_format_formatting_rs_fn_write_hundreds =
    ["v1", "&", "Write", "v2", "u8", "->", "v3", "Result", "if", "v2", ">=", "100", "return", "Err(", "v3", "Error", "v4", "b'0'", "+", "v2", "/", "10", "v5", "b'0'", "+", "v2", "%", "10", "v1", "write_char(", "v4", "as", "char", "?", "v1", "write_char(", "v5", "as", "char"] := rfl

/-- callee src/format/formatting.rs:fn write_rfc3339 -/
theorem callee_src_format_formatting_rs_fn_write_rfc3339 : C20_callee_src_format_formatting_rs_fn_write_rfc3339 =
    ["v1", "&", "Write", "v2", "NaiveDateTime", "v3", "FixedOffset", "v4", "SecondsFormat", "v5", "bool", "->", "v6", "Result", "v7", "v2", "date(", "year(", "if(", "0", "..=", "9999", "contains(", "&", "v7", "write_hundreds(", "v1", "v7", "/", "100", "as", "u8", "?", "write_hundreds(", "v1", "v7", "%", "100", "as", "u8", "?", "else", "write!(", "v1", "\"{:+05}\"", "v7", "?", "v1", "write_char(", "'-'", "?", "write_hundreds(", "v1", "v2", "date(", "month(", "as", "u8", "?", "v1", "write_char(", "'-'", "?", "write_hundreds(", "v1", "v2", "date(", "day(", "as", "u8", "?", "v1", "write_char(", "'T'", "?", "let(", "v8", "v9", "v10", "v2", "time(", "hms(", "v11", "v2", "nanosecond(", "if", "v11", ">=", "1000000000", "v10", "+=", "1", "v11", "-=", "1000000000", "write_hundreds(", "v1", "v8", "as", "u8", "?", "v1", "write_char(", "':'", "?", "write_hundreds(", "v1", "v9", "as", "u8", "?", "v1", "write_char(", "':'", "?", "v10", "v10", "write_hundreds(", "v1", "v10", "as", "u8", "?", "match", "v4", "SecondsFormat", "Secs", "=>", "SecondsFormat", "Millis", "=>", "write!(", "v1", "\".{:03}\"", "v11", "/", "1000000", "?", "SecondsFormat", "Micros", "=>", "write!(", "v1", "\".{:06}\"", "v11", "/", "1000", "?", "SecondsFormat", "Nanos", "=>", "write!(", "v1", "\".{:09}\"", "v11", "?", "SecondsFormat", "AutoSi", "=>", "if", "v11", "==", "0", "else", "if", "v11", "%", "1000000", "==", "0", "write!(", "v1", "\".{:03}\"", "v11", "/", "1000000", "?", "else", "if", "v11", "%", "1000", "==", "0", "write!(", "v1", "\".{:06}\"", "v11", "/", "1000", "?", "else", "write!(", "v1", "\".{:09}\"", "v11", "?", "SecondsFormat", "__NonExhaustive", "=>", "unreachable!(", "OffsetFormat", "v12", "OffsetPrecision", "Minutes", "v13", "Colons", "Colon", "v14", "v5", "v15", "Pad", "Zero", "format(", "v1", "v3"] := rfl

/-- callee src/month.rs:fn name -/
theorem callee_src_month_rs_fn_name : C20_callee_src_month_rs_fn_name =
    ["&", "self", "->", "&", "str", "match", "*", "self", "Month", "January", "=>", "\"January\"", "Month", "February", "=>", "\"February\"", "Month", "March", "=>", "\"March\"", "Month", "April", "=>", "\"April\"", "Month", "May", "=>", "\"May\"", "Month", "June", "=>", "\"June\"", "Month", "July", "=>", "\"July\"", "Month", "August", "=>", "\"August\"", "Month", "September", "=>", "\"September\"", "Month", "October", "=>", "\"October\"", "Month", "November", "=>", "\"November\"", "Month", "December", "=>", "\"December\""] := rfl

/-- callee src/naive/datetime/mod.rs:fn and_utc -/
theorem callee_src_naive_datetime_mod_rs_fn_and_utc : C20_callee_src_naive_datetime_mod_rs_fn_and_utc =
    ["&", "self", "->", "DateTime", "<", "Utc", ">", "DateTime", "from_naive_utc_and_offset(", "*", "self", "Utc"] := rfl

/-- callee src/naive/time/mod.rs:fn hms -/
theorem callee_src_naive_time_mod_rs_fn_hms : C20_callee_src_naive_time_mod_rs_fn_hms =
    ["&", "self", "->", "u32", "u32", "u32", "v1", "self", "v2", "%", "60", "v3", "self", "v2", "/", "60", "v4", "v3", "%", "60", "v5", "v3", "/", "60", "v5", "v4", "v1"] := rfl

end Chrono.Pins.C20
