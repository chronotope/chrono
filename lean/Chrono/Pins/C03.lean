/-
  PINS of property C03: the decision tokens of every item the property is anchored in
  (properties.jsonl `anchors` + tools/anchor_extra.json), as they were in /repo at 770977e when the
  model was validated against the source.  Written by tools/pin_anchors.py; the right-hand sides are
  compared by the kernel with lean/Chrono/Extracted/Anchors.lean, which tools/extractors/anchors.py
  regenerates from /repo's working tree on every check.  A theorem that fails here means: anchored
  code changed; the hand-written model may no longer mirror it.
-/
import Chrono.Extracted.Anchors
namespace Chrono.Pins.C03
open Chrono.Extracted.Anchors

/-- src/datetime/mod.rs:fn checked_add_signed -/
theorem src_datetime_mod_rs_fn_checked_add_signed : C03_src_datetime_mod_rs_fn_checked_add_signed =
    ["self", "v1", "TimeDelta", "->", "Option", "<", "DateTime", "<", "Tz", ">>", "v2", "self", "v2", "checked_add_signed(", "v1", "?", "v3", "self", "timezone(", "Some(", "v3", "from_utc_datetime(", "&", "v2"] := rfl

/-- src/datetime/mod.rs:fn checked_sub_signed -/
theorem src_datetime_mod_rs_fn_checked_sub_signed : C03_src_datetime_mod_rs_fn_checked_sub_signed =
    ["self", "v1", "TimeDelta", "->", "Option", "<", "DateTime", "<", "Tz", ">>", "v2", "self", "v2", "checked_sub_signed(", "v1", "?", "v3", "self", "timezone(", "Some(", "v3", "from_utc_datetime(", "&", "v2"] := rfl

/-- src/datetime/mod.rs:fn signed_duration_since -/
theorem src_datetime_mod_rs_fn_signed_duration_since : C03_src_datetime_mod_rs_fn_signed_duration_since =
    ["<", "Tz2", "TimeZone", ">", "self", "v1", "Borrow", "<", "DateTime", "<", "Tz2", ">>", "->", "TimeDelta", "self", "v2", "signed_duration_since(", "v1", "borrow(", "v2"] := rfl

/-- src/datetime/mod.rs:impl Add -/
theorem src_datetime_mod_rs_impl_Add : C03_src_datetime_mod_rs_impl_Add =
    ["<", "Tz", "TimeZone", ">", "Add", "<", "TimeDelta", ">", "for", "DateTime", "<", "Tz", ">", "Output", "DateTime", "<", "Tz", ">", "add(", "self", "v1", "TimeDelta", "->", "DateTime", "<", "Tz", ">", "self", "checked_add_signed(", "v1", "expect(", "\"…\"", "§", "<", "Tz", "TimeZone", ">", "Add", "<", "Duration", ">", "for", "DateTime", "<", "Tz", ">", "Output", "DateTime", "<", "Tz", ">", "add(", "self", "v1", "Duration", "->", "DateTime", "<", "Tz", ">", "v1", "TimeDelta", "from_std(", "v1", "expect(", "\"…\"", "self", "checked_add_signed(", "v1", "expect(", "\"…\"", "§", "<", "Tz", "TimeZone", ">", "Add", "<", "FixedOffset", ">", "for", "DateTime", "<", "Tz", ">", "Output", "DateTime", "<", "Tz", ">", "add(", "self", "v1", "FixedOffset", "->", "DateTime", "<", "Tz", ">", "self", "v2", "self", "naive_utc(", "checked_add_offset(", "v1", "expect(", "\"…\"", "self", "§", "<", "Tz", "TimeZone", ">", "Add", "<", "Months", ">", "for", "DateTime", "<", "Tz", ">", "Output", "DateTime", "<", "Tz", ">", "add(", "self", "v1", "Months", "->", "Self", "Output", "self", "checked_add_months(", "v1", "expect(", "\"…\"", "§", "<", "Tz", "TimeZone", ">", "Add", "<", "Days", ">", "for", "DateTime", "<", "Tz", ">", "Output", "DateTime", "<", "Tz", ">", "add(", "self", "v1", "Days", "->", "Self", "Output", "self", "checked_add_days(", "v1", "expect(", "\"…\""] := rfl

/-- src/datetime/mod.rs:impl AddAssign -/
theorem src_datetime_mod_rs_impl_AddAssign : C03_src_datetime_mod_rs_impl_AddAssign =
    ["<", "Tz", "TimeZone", ">", "AddAssign", "<", "TimeDelta", ">", "for", "DateTime", "<", "Tz", ">", "add_assign(", "&", "self", "v1", "TimeDelta", "v2", "self", "v2", "checked_add_signed(", "v1", "expect(", "\"…\"", "v3", "self", "timezone(", "*", "self", "v3", "from_utc_datetime(", "&", "v2", "§", "<", "Tz", "TimeZone", ">", "AddAssign", "<", "Duration", ">", "for", "DateTime", "<", "Tz", ">", "add_assign(", "&", "self", "v1", "Duration", "v1", "TimeDelta", "from_std(", "v1", "expect(", "\"…\"", "*", "self", "+=", "v1"] := rfl

/-- src/datetime/mod.rs:impl Ord -/
theorem src_datetime_mod_rs_impl_Ord : C03_src_datetime_mod_rs_impl_Ord =
    ["<", "Tz", "TimeZone", ">", "Ord", "for", "DateTime", "<", "Tz", ">", "cmp(", "&", "self", "v1", "&", "DateTime", "<", "Tz", ">", "->", "Ordering", "self", "v2", "cmp(", "&", "v1", "v2"] := rfl

/-- src/datetime/mod.rs:impl PartialEq -/
theorem src_datetime_mod_rs_impl_PartialEq : C03_src_datetime_mod_rs_impl_PartialEq =
    ["<", "Tz", "TimeZone", "Tz2", "TimeZone", ">", "PartialEq", "<", "DateTime", "<", "Tz2", ">>", "for", "DateTime", "<", "Tz", ">", "eq(", "&", "self", "v1", "&", "DateTime", "<", "Tz2", ">", "->", "bool", "self", "v2", "==", "v1", "v2"] := rfl

/-- src/datetime/mod.rs:impl PartialOrd -/
theorem src_datetime_mod_rs_impl_PartialOrd : C03_src_datetime_mod_rs_impl_PartialOrd =
    ["<", "Tz", "TimeZone", "Tz2", "TimeZone", ">", "PartialOrd", "<", "DateTime", "<", "Tz2", ">>", "for", "DateTime", "<", "Tz", ">", "partial_cmp(", "&", "self", "v1", "&", "DateTime", "<", "Tz2", ">", "->", "Option", "<", "Ordering", ">", "self", "v2", "partial_cmp(", "&", "v1", "v2"] := rfl

/-- src/datetime/mod.rs:impl Sub -/
theorem src_datetime_mod_rs_impl_Sub : C03_src_datetime_mod_rs_impl_Sub =
    ["<", "Tz", "TimeZone", ">", "Sub", "<", "TimeDelta", ">", "for", "DateTime", "<", "Tz", ">", "Output", "DateTime", "<", "Tz", ">", "sub(", "self", "v1", "TimeDelta", "->", "DateTime", "<", "Tz", ">", "self", "checked_sub_signed(", "v1", "expect(", "\"…\"", "§", "<", "Tz", "TimeZone", ">", "Sub", "<", "Duration", ">", "for", "DateTime", "<", "Tz", ">", "Output", "DateTime", "<", "Tz", ">", "sub(", "self", "v1", "Duration", "->", "DateTime", "<", "Tz", ">", "v1", "TimeDelta", "from_std(", "v1", "expect(", "\"…\"", "self", "checked_sub_signed(", "v1", "expect(", "\"…\"", "§", "<", "Tz", "TimeZone", ">", "Sub", "<", "FixedOffset", ">", "for", "DateTime", "<", "Tz", ">", "Output", "DateTime", "<", "Tz", ">", "sub(", "self", "v1", "FixedOffset", "->", "DateTime", "<", "Tz", ">", "self", "v2", "self", "naive_utc(", "checked_sub_offset(", "v1", "expect(", "\"…\"", "self", "§", "<", "Tz", "TimeZone", ">", "Sub", "<", "Months", ">", "for", "DateTime", "<", "Tz", ">", "Output", "DateTime", "<", "Tz", ">", "sub(", "self", "v1", "Months", "->", "Self", "Output", "self", "checked_sub_months(", "v1", "expect(", "\"…\"", "§", "<", "Tz", "TimeZone", ">", "Sub", "<", "DateTime", "<", "Tz", ">>", "for", "DateTime", "<", "Tz", ">", "Output", "TimeDelta", "sub(", "self", "v1", "DateTime", "<", "Tz", ">", "->", "TimeDelta", "self", "signed_duration_since(", "v1", "§", "<", "Tz", "TimeZone", ">", "Sub", "<", "&", "DateTime", "<", "Tz", ">>", "for", "DateTime", "<", "Tz", ">", "Output", "TimeDelta", "sub(", "self", "v1", "&", "DateTime", "<", "Tz", ">", "->", "TimeDelta", "self", "signed_duration_since(", "v1", "§", "<", "Tz", "TimeZone", ">", "Sub", "<", "Days", ">", "for", "DateTime", "<", "Tz", ">", "Output", "DateTime", "<", "Tz", ">", "sub(", "self", "v1", "Days", "->", "Self", "Output", "self", "checked_sub_days(", "v1", "expect(", "\"…\""] := rfl

/-- src/datetime/mod.rs:impl SubAssign -/
theorem src_datetime_mod_rs_impl_SubAssign : C03_src_datetime_mod_rs_impl_SubAssign =
    ["<", "Tz", "TimeZone", ">", "SubAssign", "<", "TimeDelta", ">", "for", "DateTime", "<", "Tz", ">", "sub_assign(", "&", "self", "v1", "TimeDelta", "v2", "self", "v2", "checked_sub_signed(", "v1", "expect(", "\"…\"", "v3", "self", "timezone(", "*", "self", "v3", "from_utc_datetime(", "&", "v2", "§", "<", "Tz", "TimeZone", ">", "SubAssign", "<", "Duration", ">", "for", "DateTime", "<", "Tz", ">", "sub_assign(", "&", "self", "v1", "Duration", "v1", "TimeDelta", "from_std(", "v1", "expect(", "\"…\"", "*", "self", "-=", "v1"] := rfl

/-- src/naive/date/mod.rs:fn add_days -/
theorem src_naive_date_mod_rs_fn_add_days : C03_src_naive_date_mod_rs_fn_add_days =
    ["self", "v1", "i32", "->", "Option", "<", "Self", ">", "ORDINAL_MASK", "i32", "8176", "if", "Some(", "v2", "self", "yof(", "&", "ORDINAL_MASK", ">>", "4", "checked_add(", "v1", "if", "v2", ">", "0", "&&", "v2", "<=", "365", "+", "self", "leap_year(", "as", "i32", "v3", "self", "yof(", "&", "!", "ORDINAL_MASK", "return", "Some(", "NaiveDate", "from_yof(", "v3", "|", "v2", "<<", "4", "v4", "self", "year(", "let(", "v5", "v6", "div_mod_floor(", "v4", "400", "v7", "yo_to_cycle(", "v6", "as", "u32", "self", "ordinal(", "v7", "try_opt!(", "v7", "as", "i32", "checked_add(", "v1", "let(", "v8", "v7", "div_mod_floor(", "v7", "146097", "v5", "+=", "v8", "let(", "v6", "v2", "cycle_to_yo(", "v7", "as", "u32", "v9", "YearFlags", "from_year_mod_400(", "v6", "as", "i32", "NaiveDate", "from_ordinal_and_flags(", "v5", "*", "400", "+", "v6", "as", "i32", "v2", "v9"] := rfl

/-- src/naive/date/mod.rs:fn checked_add_days -/
theorem src_naive_date_mod_rs_fn_checked_add_days : C03_src_naive_date_mod_rs_fn_checked_add_days =
    ["self", "v1", "Days", "->", "Option", "<", "Self", ">", "match", "v1", "<=", "i32", "MAX", "as", "u64", "true", "=>", "self", "add_days(", "v1", "as", "i32", "false", "=>", "None"] := rfl

/-- src/naive/date/mod.rs:fn checked_add_signed -/
theorem src_naive_date_mod_rs_fn_checked_add_signed : C03_src_naive_date_mod_rs_fn_checked_add_signed =
    ["self", "v1", "TimeDelta", "->", "Option", "<", "NaiveDate", ">", "v2", "v1", "num_days(", "if", "v2", "<", "i32", "MIN", "as", "i64", "||", "v2", ">", "i32", "MAX", "as", "i64", "return", "None", "self", "add_days(", "v2", "as", "i32"] := rfl

/-- src/naive/date/mod.rs:fn checked_sub_days -/
theorem src_naive_date_mod_rs_fn_checked_sub_days : C03_src_naive_date_mod_rs_fn_checked_sub_days =
    ["self", "v1", "Days", "->", "Option", "<", "Self", ">", "match", "v1", "<=", "i32", "MAX", "as", "u64", "true", "=>", "self", "add_days(", "-", "v1", "as", "i32", "false", "=>", "None"] := rfl

/-- src/naive/date/mod.rs:fn checked_sub_signed -/
theorem src_naive_date_mod_rs_fn_checked_sub_signed : C03_src_naive_date_mod_rs_fn_checked_sub_signed =
    ["self", "v1", "TimeDelta", "->", "Option", "<", "NaiveDate", ">", "v2", "-", "v1", "num_days(", "if", "v2", "<", "i32", "MIN", "as", "i64", "||", "v2", ">", "i32", "MAX", "as", "i64", "return", "None", "self", "add_days(", "v2", "as", "i32"] := rfl

/-- src/naive/date/mod.rs:fn iter_days -/
theorem src_naive_date_mod_rs_fn_iter_days : C03_src_naive_date_mod_rs_fn_iter_days =
    ["&", "self", "->", "NaiveDateDaysIterator", "NaiveDateDaysIterator", "v1", "*", "self"] := rfl

/-- src/naive/date/mod.rs:fn iter_weeks -/
theorem src_naive_date_mod_rs_fn_iter_weeks : C03_src_naive_date_mod_rs_fn_iter_weeks =
    ["&", "self", "->", "NaiveDateWeeksIterator", "NaiveDateWeeksIterator", "v1", "*", "self"] := rfl

/-- src/naive/date/mod.rs:fn signed_duration_since -/
theorem src_naive_date_mod_rs_fn_signed_duration_since : C03_src_naive_date_mod_rs_fn_signed_duration_since =
    ["self", "v1", "NaiveDate", "->", "TimeDelta", "v2", "self", "year(", "v3", "v1", "year(", "let(", "v4", "v5", "div_mod_floor(", "v2", "400", "let(", "v6", "v7", "div_mod_floor(", "v3", "400", "v8", "yo_to_cycle(", "v5", "as", "u32", "self", "ordinal(", "as", "i64", "v9", "yo_to_cycle(", "v7", "as", "u32", "v1", "ordinal(", "as", "i64", "v10", "v4", "as", "i64", "-", "v6", "as", "i64", "*", "146097", "+", "v8", "-", "v9", "expect(", "TimeDelta", "try_days(", "v10", "\"…\""] := rfl

/-- src/naive/date/mod.rs:impl Add -/
theorem src_naive_date_mod_rs_impl_Add : C03_src_naive_date_mod_rs_impl_Add =
    ["Add", "<", "TimeDelta", ">", "for", "NaiveDate", "Output", "NaiveDate", "add(", "self", "v1", "TimeDelta", "->", "NaiveDate", "self", "checked_add_signed(", "v1", "expect(", "\"…\"", "§", "Add", "<", "Months", ">", "for", "NaiveDate", "Output", "NaiveDate", "add(", "self", "v1", "Months", "->", "Self", "Output", "self", "checked_add_months(", "v1", "expect(", "\"…\"", "§", "Add", "<", "Days", ">", "for", "NaiveDate", "Output", "NaiveDate", "add(", "self", "v1", "Days", "->", "Self", "Output", "self", "checked_add_days(", "v1", "expect(", "\"…\""] := rfl

/-- src/naive/date/mod.rs:impl AddAssign -/
theorem src_naive_date_mod_rs_impl_AddAssign : C03_src_naive_date_mod_rs_impl_AddAssign =
    ["AddAssign", "<", "TimeDelta", ">", "for", "NaiveDate", "add_assign(", "&", "self", "v1", "TimeDelta", "*", "self", "self", "add(", "v1"] := rfl

/-- src/naive/date/mod.rs:impl Sub -/
theorem src_naive_date_mod_rs_impl_Sub : C03_src_naive_date_mod_rs_impl_Sub =
    ["Sub", "<", "Months", ">", "for", "NaiveDate", "Output", "NaiveDate", "sub(", "self", "v1", "Months", "->", "Self", "Output", "self", "checked_sub_months(", "v1", "expect(", "\"…\"", "§", "Sub", "<", "Days", ">", "for", "NaiveDate", "Output", "NaiveDate", "sub(", "self", "v1", "Days", "->", "Self", "Output", "self", "checked_sub_days(", "v1", "expect(", "\"…\"", "§", "Sub", "<", "TimeDelta", ">", "for", "NaiveDate", "Output", "NaiveDate", "sub(", "self", "v1", "TimeDelta", "->", "NaiveDate", "self", "checked_sub_signed(", "v1", "expect(", "\"…\"", "§", "Sub", "<", "NaiveDate", ">", "for", "NaiveDate", "Output", "TimeDelta", "sub(", "self", "v1", "NaiveDate", "->", "TimeDelta", "self", "signed_duration_since(", "v1"] := rfl

/-- src/naive/date/mod.rs:impl SubAssign -/
theorem src_naive_date_mod_rs_impl_SubAssign : C03_src_naive_date_mod_rs_impl_SubAssign =
    ["SubAssign", "<", "TimeDelta", ">", "for", "NaiveDate", "sub_assign(", "&", "self", "v1", "TimeDelta", "*", "self", "self", "sub(", "v1"] := rfl

/-- src/naive/date/mod.rs:type NaiveDateDaysIterator -/
theorem src_naive_date_mod_rs_type_NaiveDateDaysIterator : C03_src_naive_date_mod_rs_type_NaiveDateDaysIterator =
    ["v1", "NaiveDate", "§", "Iterator", "for", "NaiveDateDaysIterator", "Item", "NaiveDate", "next(", "&", "self", "->", "Option", "<", "Self", "Item", ">", "v1", "self", "v2", "self", "v2", "v1", "succ_opt(", "?", "Some(", "v1", "size_hint(", "&", "self", "->", "usize", "Option", "<", "usize", ">", "v3", "NaiveDate", "MAX", "signed_duration_since(", "self", "v2", "num_days(", "v3", "as", "usize", "Some(", "v3", "as", "usize", "§", "ExactSizeIterator", "for", "NaiveDateDaysIterator", "§", "DoubleEndedIterator", "for", "NaiveDateDaysIterator", "next_back(", "&", "self", "->", "Option", "<", "Self", "Item", ">", "v1", "self", "v2", "self", "v2", "v1", "pred_opt(", "?", "Some(", "v1", "§", "FusedIterator", "for", "NaiveDateDaysIterator"] := rfl

/-- src/naive/date/mod.rs:type NaiveDateWeeksIterator -/
theorem src_naive_date_mod_rs_type_NaiveDateWeeksIterator : C03_src_naive_date_mod_rs_type_NaiveDateWeeksIterator =
    ["v1", "NaiveDate", "§", "Iterator", "for", "NaiveDateWeeksIterator", "Item", "NaiveDate", "next(", "&", "self", "->", "Option", "<", "Self", "Item", ">", "v1", "self", "v2", "self", "v2", "v1", "checked_add_days(", "Days", "new(", "7", "?", "Some(", "v1", "size_hint(", "&", "self", "->", "usize", "Option", "<", "usize", ">", "v3", "NaiveDate", "MAX", "signed_duration_since(", "self", "v2", "num_weeks(", "v3", "as", "usize", "Some(", "v3", "as", "usize", "§", "ExactSizeIterator", "for", "NaiveDateWeeksIterator", "§", "DoubleEndedIterator", "for", "NaiveDateWeeksIterator", "next_back(", "&", "self", "->", "Option", "<", "Self", "Item", ">", "v1", "self", "v2", "self", "v2", "v1", "checked_sub_days(", "Days", "new(", "7", "?", "Some(", "v1", "§", "FusedIterator", "for", "NaiveDateWeeksIterator"] := rfl

/-- src/naive/datetime/mod.rs:fn checked_add_days -/
theorem src_naive_datetime_mod_rs_fn_checked_add_days : C03_src_naive_datetime_mod_rs_fn_checked_add_days =
    ["self", "v1", "Days", "->", "Option", "<", "Self", ">", "Some(", "Self", "v2", "try_opt!(", "self", "v2", "checked_add_days(", "v1", "..", "self"] := rfl

/-- src/naive/datetime/mod.rs:fn checked_add_signed -/
theorem src_naive_datetime_mod_rs_fn_checked_add_signed : C03_src_naive_datetime_mod_rs_fn_checked_add_signed =
    ["self", "v1", "TimeDelta", "->", "Option", "<", "NaiveDateTime", ">", "let(", "v2", "v3", "self", "v2", "overflowing_add_signed(", "v1", "v3", "try_opt!(", "TimeDelta", "try_seconds(", "v3", "v4", "try_opt!(", "self", "v4", "checked_add_signed(", "v3", "Some(", "NaiveDateTime", "v4", "v2"] := rfl

/-- src/naive/datetime/mod.rs:fn checked_sub_days -/
theorem src_naive_datetime_mod_rs_fn_checked_sub_days : C03_src_naive_datetime_mod_rs_fn_checked_sub_days =
    ["self", "v1", "Days", "->", "Option", "<", "Self", ">", "Some(", "Self", "v2", "try_opt!(", "self", "v2", "checked_sub_days(", "v1", "..", "self"] := rfl

/-- src/naive/datetime/mod.rs:fn checked_sub_signed -/
theorem src_naive_datetime_mod_rs_fn_checked_sub_signed : C03_src_naive_datetime_mod_rs_fn_checked_sub_signed =
    ["self", "v1", "TimeDelta", "->", "Option", "<", "NaiveDateTime", ">", "let(", "v2", "v3", "self", "v2", "overflowing_sub_signed(", "v1", "v3", "try_opt!(", "TimeDelta", "try_seconds(", "v3", "v4", "try_opt!(", "self", "v4", "checked_sub_signed(", "v3", "Some(", "NaiveDateTime", "v4", "v2"] := rfl

/-- src/naive/datetime/mod.rs:fn signed_duration_since -/
theorem src_naive_datetime_mod_rs_fn_signed_duration_since : C03_src_naive_datetime_mod_rs_fn_signed_duration_since =
    ["self", "v1", "NaiveDateTime", "->", "TimeDelta", "expect(", "self", "v2", "signed_duration_since(", "v1", "v2", "checked_add(", "&", "self", "v3", "signed_duration_since(", "v1", "v3", "\"…\""] := rfl

/-- src/naive/datetime/mod.rs:impl Add -/
theorem src_naive_datetime_mod_rs_impl_Add : C03_src_naive_datetime_mod_rs_impl_Add =
    ["Add", "<", "TimeDelta", ">", "for", "NaiveDateTime", "Output", "NaiveDateTime", "add(", "self", "v1", "TimeDelta", "->", "NaiveDateTime", "self", "checked_add_signed(", "v1", "expect(", "\"…\"", "§", "Add", "<", "Duration", ">", "for", "NaiveDateTime", "Output", "NaiveDateTime", "add(", "self", "v1", "Duration", "->", "NaiveDateTime", "v1", "TimeDelta", "from_std(", "v1", "expect(", "\"…\"", "self", "checked_add_signed(", "v1", "expect(", "\"…\"", "§", "Add", "<", "FixedOffset", ">", "for", "NaiveDateTime", "Output", "NaiveDateTime", "add(", "self", "v1", "FixedOffset", "->", "NaiveDateTime", "self", "checked_add_offset(", "v1", "expect(", "\"…\"", "§", "Add", "<", "Months", ">", "for", "NaiveDateTime", "Output", "NaiveDateTime", "add(", "self", "v1", "Months", "->", "Self", "Output", "self", "checked_add_months(", "v1", "expect(", "\"…\"", "§", "Add", "<", "Days", ">", "for", "NaiveDateTime", "Output", "NaiveDateTime", "add(", "self", "v1", "Days", "->", "Self", "Output", "self", "checked_add_days(", "v1", "expect(", "\"…\""] := rfl

/-- src/naive/datetime/mod.rs:impl AddAssign -/
theorem src_naive_datetime_mod_rs_impl_AddAssign : C03_src_naive_datetime_mod_rs_impl_AddAssign =
    ["AddAssign", "<", "TimeDelta", ">", "for", "NaiveDateTime", "add_assign(", "&", "self", "v1", "TimeDelta", "*", "self", "self", "add(", "v1", "§", "AddAssign", "<", "Duration", ">", "for", "NaiveDateTime", "add_assign(", "&", "self", "v1", "Duration", "*", "self", "self", "add(", "v1"] := rfl

/-- src/naive/datetime/mod.rs:impl Sub -/
theorem src_naive_datetime_mod_rs_impl_Sub : C03_src_naive_datetime_mod_rs_impl_Sub =
    ["Sub", "<", "TimeDelta", ">", "for", "NaiveDateTime", "Output", "NaiveDateTime", "sub(", "self", "v1", "TimeDelta", "->", "NaiveDateTime", "self", "checked_sub_signed(", "v1", "expect(", "\"…\"", "§", "Sub", "<", "Duration", ">", "for", "NaiveDateTime", "Output", "NaiveDateTime", "sub(", "self", "v1", "Duration", "->", "NaiveDateTime", "v1", "TimeDelta", "from_std(", "v1", "expect(", "\"…\"", "self", "checked_sub_signed(", "v1", "expect(", "\"…\"", "§", "Sub", "<", "FixedOffset", ">", "for", "NaiveDateTime", "Output", "NaiveDateTime", "sub(", "self", "v1", "FixedOffset", "->", "NaiveDateTime", "self", "checked_sub_offset(", "v1", "expect(", "\"…\"", "§", "Sub", "<", "Months", ">", "for", "NaiveDateTime", "Output", "NaiveDateTime", "sub(", "self", "v1", "Months", "->", "Self", "Output", "self", "checked_sub_months(", "v1", "expect(", "\"…\"", "§", "Sub", "<", "NaiveDateTime", ">", "for", "NaiveDateTime", "Output", "TimeDelta", "sub(", "self", "v1", "NaiveDateTime", "->", "TimeDelta", "self", "signed_duration_since(", "v1", "§", "Sub", "<", "Days", ">", "for", "NaiveDateTime", "Output", "NaiveDateTime", "sub(", "self", "v1", "Days", "->", "Self", "Output", "self", "checked_sub_days(", "v1", "expect(", "\"…\""] := rfl

/-- src/naive/datetime/mod.rs:impl SubAssign -/
theorem src_naive_datetime_mod_rs_impl_SubAssign : C03_src_naive_datetime_mod_rs_impl_SubAssign =
    ["SubAssign", "<", "TimeDelta", ">", "for", "NaiveDateTime", "sub_assign(", "&", "self", "v1", "TimeDelta", "*", "self", "self", "sub(", "v1", "§", "SubAssign", "<", "Duration", ">", "for", "NaiveDateTime", "sub_assign(", "&", "self", "v1", "Duration", "*", "self", "self", "sub(", "v1"] := rfl

/-- src/naive/time/mod.rs:fn overflowing_add_signed -/
theorem src_naive_time_mod_rs_fn_overflowing_add_signed : C03_src_naive_time_mod_rs_fn_overflowing_add_signed =
    ["&", "self", "v1", "TimeDelta", "->", "NaiveTime", "i64", "v2", "self", "v2", "as", "i64", "v3", "self", "v3", "as", "i32", "v4", "v1", "num_seconds(", "v5", "v1", "subsec_nanos(", "if", "v3", ">=", "1000000000", "if", "v4", ">", "0", "||", "v5", ">", "0", "&&", "v3", ">=", "2000000000", "-", "v5", "v3", "-=", "1000000000", "else", "if", "v4", "<", "0", "v3", "-=", "1000000000", "v2", "+=", "1", "else", "return(", "NaiveTime", "v2", "self", "v2", "v3", "v3", "+", "v5", "as", "u32", "0", "v2", "v2", "+", "v4", "v3", "+=", "v5", "if", "v3", "<", "0", "v3", "+=", "1000000000", "v2", "-=", "1", "else", "if", "v3", ">=", "1000000000", "v3", "-=", "1000000000", "v2", "+=", "1", "v6", "v2", "rem_euclid(", "86400", "v7", "v2", "-", "v6", "NaiveTime", "v2", "v6", "as", "u32", "v3", "v3", "as", "u32", "v7"] := rfl

/-- callee src/datetime/mod.rs:fn from_naive_utc_and_offset -/
theorem callee_src_datetime_mod_rs_fn_from_naive_utc_and_offset : C03_callee_src_datetime_mod_rs_fn_from_naive_utc_and_offset =
    ["v1", "NaiveDateTime", "v2", "Tz", "Offset", "->", "DateTime", "<", "Tz", ">", "DateTime", "v1", "v2"] := rfl

/-- callee src/naive/date/mod.rs:fn cycle_to_yo -/
theorem callee_src_naive_date_mod_rs_fn_cycle_to_yo : C03_callee_src_naive_date_mod_rs_fn_cycle_to_yo =
    ["v1", "u32", "->", "u32", "u32", "v2", "v1", "/", "365", "v3", "v1", "%", "365", "v4", "YEAR_DELTAS", "v2", "as", "usize", "as", "u32", "if", "v3", "<", "v4", "v2", "-=", "1", "v3", "+=", "365", "-", "YEAR_DELTAS", "v2", "as", "usize", "as", "u32", "else", "v3", "-=", "v4", "v2", "v3", "+", "1"] := rfl

/-- callee src/naive/date/mod.rs:fn div_mod_floor -/
theorem callee_src_naive_date_mod_rs_fn_div_mod_floor : C03_callee_src_naive_date_mod_rs_fn_div_mod_floor =
    ["v1", "i32", "v2", "i32", "->", "i32", "i32", "v1", "div_euclid(", "v2", "v1", "rem_euclid(", "v2"] := rfl

/-- callee src/naive/date/mod.rs:fn from_ordinal_and_flags -/
theorem callee_src_naive_date_mod_rs_fn_from_ordinal_and_flags : C03_callee_src_naive_date_mod_rs_fn_from_ordinal_and_flags =
    ["v1", "i32", "v2", "u32", "v3", "YearFlags", "->", "Option", "<", "NaiveDate", ">", "if", "v1", "<", "MIN_YEAR", "||", "v1", ">", "MAX_YEAR", "return", "None", "if", "v2", "==", "0", "||", "v2", ">", "366", "return", "None", "debug_assert!(", "YearFlags", "from_year(", "v1", "==", "v3", "v4", "v1", "<<", "13", "|", "v2", "<<", "4", "as", "i32", "|", "v3", "as", "i32", "match", "v4", "&", "OL_MASK", "<=", "MAX_OL", "true", "=>", "Some(", "NaiveDate", "from_yof(", "v4", "false", "=>", "None"] := rfl

/-- callee src/naive/date/mod.rs:fn leap_year -/
theorem callee_src_naive_date_mod_rs_fn_leap_year : C03_callee_src_naive_date_mod_rs_fn_leap_year =
    ["&", "self", "->", "bool", "self", "yof(", "&", "8", "==", "0"] := rfl

/-- callee src/naive/date/mod.rs:fn yo_to_cycle -/
theorem callee_src_naive_date_mod_rs_fn_yo_to_cycle : C03_callee_src_naive_date_mod_rs_fn_yo_to_cycle =
    ["v1", "u32", "v2", "u32", "->", "u32", "v1", "*", "365", "+", "YEAR_DELTAS", "v1", "as", "usize", "as", "u32", "+", "v2", "-", "1"] := rfl

/-- callee src/naive/date/mod.rs:fn yof -/
theorem callee_src_naive_date_mod_rs_fn_yof : C03_callee_src_naive_date_mod_rs_fn_yof =
    ["&", "self", "->", "i32", "self", "v1", "get("] := rfl

/-- callee src/naive/datetime/mod.rs:fn checked_add_offset -/
theorem callee_src_naive_datetime_mod_rs_fn_checked_add_offset : C03_callee_src_naive_datetime_mod_rs_fn_checked_add_offset =
    ["self", "v1", "FixedOffset", "->", "Option", "<", "NaiveDateTime", ">", "let(", "v2", "v3", "self", "v2", "overflowing_add_offset(", "v1", "v4", "match", "v3", "-", "1", "=>", "try_opt!(", "self", "v4", "pred_opt(", "1", "=>", "try_opt!(", "self", "v4", "succ_opt(", "v5", "=>", "self", "v4", "Some(", "NaiveDateTime", "v4", "v2"] := rfl

/-- callee src/naive/datetime/mod.rs:fn checked_sub_offset -/
theorem callee_src_naive_datetime_mod_rs_fn_checked_sub_offset : C03_callee_src_naive_datetime_mod_rs_fn_checked_sub_offset =
    ["self", "v1", "FixedOffset", "->", "Option", "<", "NaiveDateTime", ">", "let(", "v2", "v3", "self", "v2", "overflowing_sub_offset(", "v1", "v4", "match", "v3", "-", "1", "=>", "try_opt!(", "self", "v4", "pred_opt(", "1", "=>", "try_opt!(", "self", "v4", "succ_opt(", "v5", "=>", "self", "v4", "Some(", "NaiveDateTime", "v4", "v2"] := rfl

/-- callee src/naive/internals.rs:fn from_year -/
theorem callee_src_naive_internals_rs_fn_from_year : C03_callee_src_naive_internals_rs_fn_from_year =
    ["v1", "i32", "->", "YearFlags", "v1", "v1", "rem_euclid(", "400", "YearFlags", "from_year_mod_400(", "v1"] := rfl

/-- callee src/naive/internals.rs:fn from_year_mod_400 -/
theorem callee_src_naive_internals_rs_fn_from_year_mod_400 : C03_callee_src_naive_internals_rs_fn_from_year_mod_400 =
    ["v1", "i32", "->", "YearFlags", "YEAR_TO_FLAGS", "v1", "as", "usize"] := rfl

/-- callee src/naive/time/mod.rs:fn overflowing_sub_signed -/
theorem callee_src_naive_time_mod_rs_fn_overflowing_sub_signed : C03_callee_src_naive_time_mod_rs_fn_overflowing_sub_signed =
    ["&", "self", "v1", "TimeDelta", "->", "NaiveTime", "i64", "let(", "v2", "v1", "self", "overflowing_add_signed(", "v1", "neg(", "v2", "-", "v1"] := rfl

/-- callee src/offset/mod.rs:fn from_utc_datetime -/
theorem callee_src_offset_mod_rs_fn_from_utc_datetime : C03_callee_src_offset_mod_rs_fn_from_utc_datetime =
    ["&", "self", "v1", "&", "NaiveDateTime", "->", "DateTime", "<", "Self", ">", "DateTime", "from_naive_utc_and_offset(", "*", "v1", "self", "offset_from_utc_datetime(", "v1"] := rfl

/-- callee src/time_delta.rs:fn from_std -/
theorem callee_src_time_delta_rs_fn_from_std : C03_callee_src_time_delta_rs_fn_from_std =
    ["v1", "Duration", "->", "Result", "<", "TimeDelta", "OutOfRangeError", ">", "if", "v1", "as_secs(", ">", "MAX", "v2", "as", "u64", "return", "Err(", "OutOfRangeError(", "match", "TimeDelta", "new(", "v1", "as_secs(", "as", "i64", "v1", "subsec_nanos(", "Some(", "v3", "=>", "Ok(", "v3", "None", "=>", "Err(", "OutOfRangeError("] := rfl

/-- callee src/time_delta.rs:fn num_seconds -/
theorem callee_src_time_delta_rs_fn_num_seconds : C03_callee_src_time_delta_rs_fn_num_seconds =
    ["&", "self", "->", "i64", "if", "self", "v1", "<", "0", "&&", "self", "v2", ">", "0", "self", "v1", "+", "1", "else", "self", "v1"] := rfl

/-- callee src/time_delta.rs:fn num_weeks -/
theorem callee_src_time_delta_rs_fn_num_weeks : C03_callee_src_time_delta_rs_fn_num_weeks =
    ["&", "self", "->", "i64", "self", "num_days(", "/", "7"] := rfl

/-- callee src/time_delta.rs:fn subsec_nanos -/
theorem callee_src_time_delta_rs_fn_subsec_nanos : C03_callee_src_time_delta_rs_fn_subsec_nanos =
    ["&", "self", "->", "i32", "if", "self", "v1", "<", "0", "&&", "self", "v2", ">", "0", "self", "v2", "-", "NANOS_PER_SEC", "else", "self", "v2"] := rfl

/-- callee src/time_delta.rs:fn try_days -/
theorem callee_src_time_delta_rs_fn_try_days : C03_callee_src_time_delta_rs_fn_try_days =
    ["v1", "i64", "->", "Option", "<", "TimeDelta", ">", "TimeDelta", "try_seconds(", "try_opt!(", "v1", "checked_mul(", "SECS_PER_DAY"] := rfl

/-- callee src/time_delta.rs:fn try_seconds -/
theorem callee_src_time_delta_rs_fn_try_seconds : C03_callee_src_time_delta_rs_fn_try_seconds =
    ["v1", "i64", "->", "Option", "<", "TimeDelta", ">", "TimeDelta", "new(", "v1", "0"] := rfl

end Chrono.Pins.C03
