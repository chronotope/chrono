/-
  PINS of property C08: the decision tokens of every item the property is anchored in
  (properties.jsonl `anchors` + tools/anchor_extra.json), as they were in /repo at 32de816 when the
  model was validated against the source.  Written by tools/pin_anchors.py; the right-hand sides are
  compared by the kernel with lean/Chrono/Extracted/Anchors.lean, which tools/extractors/anchors.py
  regenerates from /repo's working tree on every check.  A theorem that fails here means: anchored
  code changed; the hand-written model may no longer mirror it.
-/
import Chrono.Extracted.Anchors
namespace Chrono.Pins.C08
open Chrono.Extracted.Anchors

/-- src/datetime/mod.rs:fn checked_add_months -/
theorem src_datetime_mod_rs_fn_checked_add_months : C08_src_datetime_mod_rs_fn_checked_add_months =
    ["self", "v1", "Months", "->", "Option", "<", "DateTime", "<", "Tz", ">>", "self", "overflowing_naive_local(", "checked_add_months(", "v1", "?", "and_local_timezone(", "Tz", "from_offset(", "&", "self", "v2", "single("] := rfl

/-- src/datetime/mod.rs:fn checked_sub_months -/
theorem src_datetime_mod_rs_fn_checked_sub_months : C08_src_datetime_mod_rs_fn_checked_sub_months =
    ["self", "v1", "Months", "->", "Option", "<", "DateTime", "<", "Tz", ">>", "self", "overflowing_naive_local(", "checked_sub_months(", "v1", "?", "and_local_timezone(", "Tz", "from_offset(", "&", "self", "v2", "single("] := rfl

/-- src/datetime/mod.rs:fn years_since -/
theorem src_datetime_mod_rs_fn_years_since : C08_src_datetime_mod_rs_fn_years_since =
    ["&", "self", "v1", "Self", "->", "Option", "<", "u32", ">", "v2", "self", "year(", "-", "v1", "year(", "v3", "self", "month(", "self", "day(", "self", "time(", "<", "v1", "month(", "v1", "day(", "v1", "time(", "v2", "-=", "match", "v3", "true", "=>", "1", "false", "=>", "0", "match", "v2", ">=", "0", "true", "=>", "Some(", "v2", "as", "u32", "false", "=>", "None"] := rfl

/-- src/datetime/mod.rs:impl Datelike for DateTime -/
theorem src_datetime_mod_rs_impl_Datelike_for_DateTime : C08_src_datetime_mod_rs_impl_Datelike_for_DateTime =
    ["<", "Tz", "TimeZone", ">", "Datelike", "for", "DateTime", "<", "Tz", ">", "year(", "&", "self", "->", "i32", "self", "overflowing_naive_local(", "year(", "month(", "&", "self", "->", "u32", "self", "overflowing_naive_local(", "month(", "month0(", "&", "self", "->", "u32", "self", "overflowing_naive_local(", "month0(", "day(", "&", "self", "->", "u32", "self", "overflowing_naive_local(", "day(", "day0(", "&", "self", "->", "u32", "self", "overflowing_naive_local(", "day0(", "ordinal(", "&", "self", "->", "u32", "self", "overflowing_naive_local(", "ordinal(", "ordinal0(", "&", "self", "->", "u32", "self", "overflowing_naive_local(", "ordinal0(", "weekday(", "&", "self", "->", "Weekday", "self", "overflowing_naive_local(", "weekday(", "iso_week(", "&", "self", "->", "IsoWeek", "self", "overflowing_naive_local(", "iso_week(", "with_year(", "&", "self", "v1", "i32", "->", "Option", "<", "DateTime", "<", "Tz", ">>", "map_local(", "self", "|", "v2", "|", "match", "v2", "year(", "==", "v1", "true", "=>", "Some(", "v2", "false", "=>", "v2", "with_year(", "v1", "with_month(", "&", "self", "v3", "u32", "->", "Option", "<", "DateTime", "<", "Tz", ">>", "map_local(", "self", "|", "v4", "|", "v4", "with_month(", "v3", "with_month0(", "&", "self", "v5", "u32", "->", "Option", "<", "DateTime", "<", "Tz", ">>", "map_local(", "self", "|", "v4", "|", "v4", "with_month0(", "v5", "with_day(", "&", "self", "v6", "u32", "->", "Option", "<", "DateTime", "<", "Tz", ">>", "map_local(", "self", "|", "v4", "|", "v4", "with_day(", "v6", "with_day0(", "&", "self", "v7", "u32", "->", "Option", "<", "DateTime", "<", "Tz", ">>", "map_local(", "self", "|", "v4", "|", "v4", "with_day0(", "v7", "with_ordinal(", "&", "self", "v8", "u32", "->", "Option", "<", "DateTime", "<", "Tz", ">>", "map_local(", "self", "|", "v4", "|", "v4", "with_ordinal(", "v8", "with_ordinal0(", "&", "self", "v9", "u32", "->", "Option", "<", "DateTime", "<", "Tz", ">>", "map_local(", "self", "|", "v4", "|", "v4", "with_ordinal0(", "v9"] := rfl

/-- src/datetime/mod.rs:impl Months -/
theorem src_datetime_mod_rs_impl_Months : C08_src_datetime_mod_rs_impl_Months =
    ["<", "Tz", "TimeZone", ">", "Add", "<", "Months", ">", "for", "DateTime", "<", "Tz", ">", "Output", "DateTime", "<", "Tz", ">", "add(", "self", "v1", "Months", "->", "Self", "Output", "self", "checked_add_months(", "v1", "expect(", "\"…\"", "§", "<", "Tz", "TimeZone", ">", "Sub", "<", "Months", ">", "for", "DateTime", "<", "Tz", ">", "Output", "DateTime", "<", "Tz", ">", "sub(", "self", "v1", "Months", "->", "Self", "Output", "self", "checked_sub_months(", "v1", "expect(", "\"…\""] := rfl

/-- src/datetime/mod.rs:impl Timelike for DateTime -/
theorem src_datetime_mod_rs_impl_Timelike_for_DateTime : C08_src_datetime_mod_rs_impl_Timelike_for_DateTime =
    ["<", "Tz", "TimeZone", ">", "Timelike", "for", "DateTime", "<", "Tz", ">", "hour(", "&", "self", "->", "u32", "self", "overflowing_naive_local(", "hour(", "minute(", "&", "self", "->", "u32", "self", "overflowing_naive_local(", "minute(", "second(", "&", "self", "->", "u32", "self", "overflowing_naive_local(", "second(", "nanosecond(", "&", "self", "->", "u32", "self", "overflowing_naive_local(", "nanosecond(", "with_hour(", "&", "self", "v1", "u32", "->", "Option", "<", "DateTime", "<", "Tz", ">>", "map_local(", "self", "|", "v2", "|", "v2", "with_hour(", "v1", "with_minute(", "&", "self", "v3", "u32", "->", "Option", "<", "DateTime", "<", "Tz", ">>", "map_local(", "self", "|", "v2", "|", "v2", "with_minute(", "v3", "with_second(", "&", "self", "v4", "u32", "->", "Option", "<", "DateTime", "<", "Tz", ">>", "map_local(", "self", "|", "v2", "|", "v2", "with_second(", "v4", "with_nanosecond(", "&", "self", "v5", "u32", "->", "Option", "<", "DateTime", "<", "Tz", ">>", "map_local(", "self", "|", "v2", "|", "v2", "with_nanosecond(", "v5"] := rfl

/-- src/month.rs:fn num_days -/
theorem src_month_rs_fn_num_days : C08_src_month_rs_fn_num_days =
    ["&", "self", "v1", "i32", "->", "Option", "<", "u8", ">", "Some(", "match", "*", "self", "Month", "January", "=>", "31", "Month", "February", "=>", "match", "NaiveDate", "from_ymd_opt(", "v1", "2", "1", "?", "leap_year(", "true", "=>", "29", "false", "=>", "28", "Month", "March", "=>", "31", "Month", "April", "=>", "30", "Month", "May", "=>", "31", "Month", "June", "=>", "30", "Month", "July", "=>", "31", "Month", "August", "=>", "31", "Month", "September", "=>", "30", "Month", "October", "=>", "31", "Month", "November", "=>", "30", "Month", "December", "=>", "31"] := rfl

/-- src/month.rs:impl Months -/
theorem src_month_rs_impl_Months : C08_src_month_rs_impl_Months =
    ["Months", "new(", "v1", "u32", "->", "Self", "Self(", "v1", "as_u32(", "&", "self", "->", "u32", "self"] := rfl

/-- src/naive/date/mod.rs:fn checked_add_months -/
theorem src_naive_date_mod_rs_fn_checked_add_months : C08_src_naive_date_mod_rs_fn_checked_add_months =
    ["self", "v1", "Months", "->", "Option", "<", "Self", ">", "if", "v1", "==", "0", "return", "Some(", "self", "match", "v1", "<=", "i32", "MAX", "as", "u32", "true", "=>", "self", "diff_months(", "v1", "as", "i32", "false", "=>", "None"] := rfl

/-- src/naive/date/mod.rs:fn checked_sub_months -/
theorem src_naive_date_mod_rs_fn_checked_sub_months : C08_src_naive_date_mod_rs_fn_checked_sub_months =
    ["self", "v1", "Months", "->", "Option", "<", "Self", ">", "if", "v1", "==", "0", "return", "Some(", "self", "match", "v1", "<=", "i32", "MAX", "as", "u32", "true", "=>", "self", "diff_months(", "-", "v1", "as", "i32", "false", "=>", "None"] := rfl

/-- src/naive/date/mod.rs:fn diff_months -/
theorem src_naive_date_mod_rs_fn_diff_months : C08_src_naive_date_mod_rs_fn_diff_months =
    ["self", "v1", "i32", "->", "Option", "<", "Self", ">", "v1", "try_opt!(", "self", "year(", "*", "12", "+", "self", "month(", "as", "i32", "-", "1", "checked_add(", "v1", "v2", "v1", "div_euclid(", "12", "v3", "v1", "rem_euclid(", "12", "as", "u32", "+", "1", "v4", "YearFlags", "from_year(", "v2", "v5", "if", "v4", "ndays(", "==", "366", "29", "else", "28", "v6", "31", "v5", "31", "30", "31", "30", "31", "31", "30", "31", "30", "31", "v7", "v6", "v3", "-", "1", "as", "usize", "v8", "self", "day(", "if", "v8", ">", "v7", "v8", "v7", "NaiveDate", "from_ymd_opt(", "v2", "v3", "v8"] := rfl

/-- src/naive/date/mod.rs:fn from_weekday_of_month -/
theorem src_naive_date_mod_rs_fn_from_weekday_of_month : C08_src_naive_date_mod_rs_fn_from_weekday_of_month =
    ["v1", "i32", "v2", "u32", "v3", "Weekday", "v4", "u8", "->", "NaiveDate", "expect(", "NaiveDate", "from_weekday_of_month_opt(", "v1", "v2", "v3", "v4", "\"…\""] := rfl

/-- src/naive/date/mod.rs:fn from_weekday_of_month_opt -/
theorem src_naive_date_mod_rs_fn_from_weekday_of_month_opt : C08_src_naive_date_mod_rs_fn_from_weekday_of_month_opt =
    ["v1", "i32", "v2", "u32", "v3", "Weekday", "v4", "u8", "->", "Option", "<", "NaiveDate", ">", "if", "v4", "==", "0", "return", "None", "v5", "try_opt!(", "NaiveDate", "from_ymd_opt(", "v1", "v2", "1", "weekday(", "v6", "7", "+", "v3", "number_from_monday(", "-", "v5", "number_from_monday(", "%", "7", "v7", "v4", "-", "1", "as", "u32", "*", "7", "+", "v6", "+", "1", "NaiveDate", "from_ymd_opt(", "v1", "v2", "v7"] := rfl

/-- src/naive/date/mod.rs:fn week -/
theorem src_naive_date_mod_rs_fn_week : C08_src_naive_date_mod_rs_fn_week =
    ["&", "self", "v1", "Weekday", "->", "NaiveWeek", "NaiveWeek", "new(", "*", "self", "v1"] := rfl

/-- src/naive/date/mod.rs:fn with_day -/
theorem src_naive_date_mod_rs_fn_with_day : C08_src_naive_date_mod_rs_fn_with_day =
    ["&", "self", "v1", "u32", "->", "Option", "<", "NaiveDate", ">", "self", "with_mdf(", "self", "mdf(", "with_day(", "v1", "?"] := rfl

/-- src/naive/date/mod.rs:fn with_day0 -/
theorem src_naive_date_mod_rs_fn_with_day0 : C08_src_naive_date_mod_rs_fn_with_day0 =
    ["&", "self", "v1", "u32", "->", "Option", "<", "NaiveDate", ">", "v2", "v1", "checked_add(", "1", "?", "self", "with_mdf(", "self", "mdf(", "with_day(", "v2", "?"] := rfl

/-- src/naive/date/mod.rs:fn with_mdf -/
theorem src_naive_date_mod_rs_fn_with_mdf : C08_src_naive_date_mod_rs_fn_with_mdf =
    ["&", "self", "v1", "Mdf", "->", "Option", "<", "NaiveDate", ">", "debug_assert!(", "self", "year_flags(", "==", "v1", "year_flags(", "match", "v1", "ordinal(", "Some(", "v2", "=>", "Some(", "NaiveDate", "from_yof(", "self", "yof(", "&", "!", "ORDINAL_MASK", "|", "v2", "<<", "4", "as", "i32", "None", "=>", "None"] := rfl

/-- src/naive/date/mod.rs:fn with_month -/
theorem src_naive_date_mod_rs_fn_with_month : C08_src_naive_date_mod_rs_fn_with_month =
    ["&", "self", "v1", "u32", "->", "Option", "<", "NaiveDate", ">", "self", "with_mdf(", "self", "mdf(", "with_month(", "v1", "?"] := rfl

/-- src/naive/date/mod.rs:fn with_month0 -/
theorem src_naive_date_mod_rs_fn_with_month0 : C08_src_naive_date_mod_rs_fn_with_month0 =
    ["&", "self", "v1", "u32", "->", "Option", "<", "NaiveDate", ">", "v2", "v1", "checked_add(", "1", "?", "self", "with_mdf(", "self", "mdf(", "with_month(", "v2", "?"] := rfl

/-- src/naive/date/mod.rs:fn with_ordinal -/
theorem src_naive_date_mod_rs_fn_with_ordinal : C08_src_naive_date_mod_rs_fn_with_ordinal =
    ["&", "self", "v1", "u32", "->", "Option", "<", "NaiveDate", ">", "if", "v1", "==", "0", "||", "v1", ">", "366", "return", "None", "v2", "self", "yof(", "&", "!", "ORDINAL_MASK", "|", "v1", "<<", "4", "as", "i32", "match", "v2", "&", "OL_MASK", "<=", "MAX_OL", "true", "=>", "Some(", "NaiveDate", "from_yof(", "v2", "false", "=>", "None"] := rfl

/-- src/naive/date/mod.rs:fn with_ordinal0 -/
theorem src_naive_date_mod_rs_fn_with_ordinal0 : C08_src_naive_date_mod_rs_fn_with_ordinal0 =
    ["&", "self", "v1", "u32", "->", "Option", "<", "NaiveDate", ">", "v2", "v1", "checked_add(", "1", "?", "self", "with_ordinal(", "v2"] := rfl

/-- src/naive/date/mod.rs:fn with_year -/
theorem src_naive_date_mod_rs_fn_with_year : C08_src_naive_date_mod_rs_fn_with_year =
    ["&", "self", "v1", "i32", "->", "Option", "<", "NaiveDate", ">", "v2", "self", "mdf(", "v3", "YearFlags", "from_year(", "v1", "v2", "v2", "with_flags(", "v3", "NaiveDate", "from_mdf(", "v1", "v2"] := rfl

/-- src/naive/date/mod.rs:fn years_since -/
theorem src_naive_date_mod_rs_fn_years_since : C08_src_naive_date_mod_rs_fn_years_since =
    ["&", "self", "v1", "Self", "->", "Option", "<", "u32", ">", "v2", "self", "year(", "-", "v1", "year(", "if(", "self", "month(", "<<", "5", "|", "self", "day(", "<", "v1", "month(", "<<", "5", "|", "v1", "day(", "v2", "-=", "1", "match", "v2", ">=", "0", "true", "=>", "Some(", "v2", "as", "u32", "false", "=>", "None"] := rfl

/-- src/naive/date/mod.rs:impl Months -/
theorem src_naive_date_mod_rs_impl_Months : C08_src_naive_date_mod_rs_impl_Months =
    ["Add", "<", "Months", ">", "for", "NaiveDate", "Output", "NaiveDate", "add(", "self", "v1", "Months", "->", "Self", "Output", "self", "checked_add_months(", "v1", "expect(", "\"…\"", "§", "Sub", "<", "Months", ">", "for", "NaiveDate", "Output", "NaiveDate", "sub(", "self", "v1", "Months", "->", "Self", "Output", "self", "checked_sub_months(", "v1", "expect(", "\"…\""] := rfl

/-- src/naive/datetime/mod.rs:fn checked_add_months -/
theorem src_naive_datetime_mod_rs_fn_checked_add_months : C08_src_naive_datetime_mod_rs_fn_checked_add_months =
    ["self", "v1", "Months", "->", "Option", "<", "NaiveDateTime", ">", "Some(", "Self", "v2", "try_opt!(", "self", "v2", "checked_add_months(", "v1", "v3", "self", "v3"] := rfl

/-- src/naive/datetime/mod.rs:fn checked_sub_months -/
theorem src_naive_datetime_mod_rs_fn_checked_sub_months : C08_src_naive_datetime_mod_rs_fn_checked_sub_months =
    ["self", "v1", "Months", "->", "Option", "<", "NaiveDateTime", ">", "Some(", "Self", "v2", "try_opt!(", "self", "v2", "checked_sub_months(", "v1", "v3", "self", "v3"] := rfl

/-- src/naive/datetime/mod.rs:impl Datelike for NaiveDateTime -/
theorem src_naive_datetime_mod_rs_impl_Datelike_for_NaiveDateTime : C08_src_naive_datetime_mod_rs_impl_Datelike_for_NaiveDateTime =
    ["Datelike", "for", "NaiveDateTime", "year(", "&", "self", "->", "i32", "self", "v1", "year(", "month(", "&", "self", "->", "u32", "self", "v1", "month(", "month0(", "&", "self", "->", "u32", "self", "v1", "month0(", "day(", "&", "self", "->", "u32", "self", "v1", "day(", "day0(", "&", "self", "->", "u32", "self", "v1", "day0(", "ordinal(", "&", "self", "->", "u32", "self", "v1", "ordinal(", "ordinal0(", "&", "self", "->", "u32", "self", "v1", "ordinal0(", "weekday(", "&", "self", "->", "Weekday", "self", "v1", "weekday(", "iso_week(", "&", "self", "->", "IsoWeek", "self", "v1", "iso_week(", "with_year(", "&", "self", "v2", "i32", "->", "Option", "<", "NaiveDateTime", ">", "self", "v1", "with_year(", "v2", "map(", "|", "v3", "|", "NaiveDateTime", "v1", "v3", "..", "*", "self", "with_month(", "&", "self", "v4", "u32", "->", "Option", "<", "NaiveDateTime", ">", "self", "v1", "with_month(", "v4", "map(", "|", "v3", "|", "NaiveDateTime", "v1", "v3", "..", "*", "self", "with_month0(", "&", "self", "v5", "u32", "->", "Option", "<", "NaiveDateTime", ">", "self", "v1", "with_month0(", "v5", "map(", "|", "v3", "|", "NaiveDateTime", "v1", "v3", "..", "*", "self", "with_day(", "&", "self", "v6", "u32", "->", "Option", "<", "NaiveDateTime", ">", "self", "v1", "with_day(", "v6", "map(", "|", "v3", "|", "NaiveDateTime", "v1", "v3", "..", "*", "self", "with_day0(", "&", "self", "v7", "u32", "->", "Option", "<", "NaiveDateTime", ">", "self", "v1", "with_day0(", "v7", "map(", "|", "v3", "|", "NaiveDateTime", "v1", "v3", "..", "*", "self", "with_ordinal(", "&", "self", "v8", "u32", "->", "Option", "<", "NaiveDateTime", ">", "self", "v1", "with_ordinal(", "v8", "map(", "|", "v3", "|", "NaiveDateTime", "v1", "v3", "..", "*", "self", "with_ordinal0(", "&", "self", "v9", "u32", "->", "Option", "<", "NaiveDateTime", ">", "self", "v1", "with_ordinal0(", "v9", "map(", "|", "v3", "|", "NaiveDateTime", "v1", "v3", "..", "*", "self"] := rfl

/-- src/naive/datetime/mod.rs:impl Months -/
theorem src_naive_datetime_mod_rs_impl_Months : C08_src_naive_datetime_mod_rs_impl_Months =
    ["Add", "<", "Months", ">", "for", "NaiveDateTime", "Output", "NaiveDateTime", "add(", "self", "v1", "Months", "->", "Self", "Output", "self", "checked_add_months(", "v1", "expect(", "\"…\"", "§", "Sub", "<", "Months", ">", "for", "NaiveDateTime", "Output", "NaiveDateTime", "sub(", "self", "v1", "Months", "->", "Self", "Output", "self", "checked_sub_months(", "v1", "expect(", "\"…\""] := rfl

/-- src/naive/datetime/mod.rs:impl Timelike for NaiveDateTime -/
theorem src_naive_datetime_mod_rs_impl_Timelike_for_NaiveDateTime : C08_src_naive_datetime_mod_rs_impl_Timelike_for_NaiveDateTime =
    ["Timelike", "for", "NaiveDateTime", "hour(", "&", "self", "->", "u32", "self", "v1", "hour(", "minute(", "&", "self", "->", "u32", "self", "v1", "minute(", "second(", "&", "self", "->", "u32", "self", "v1", "second(", "nanosecond(", "&", "self", "->", "u32", "self", "v1", "nanosecond(", "with_hour(", "&", "self", "v2", "u32", "->", "Option", "<", "NaiveDateTime", ">", "self", "v1", "with_hour(", "v2", "map(", "|", "v3", "|", "NaiveDateTime", "v1", "v3", "..", "*", "self", "with_minute(", "&", "self", "v4", "u32", "->", "Option", "<", "NaiveDateTime", ">", "self", "v1", "with_minute(", "v4", "map(", "|", "v3", "|", "NaiveDateTime", "v1", "v3", "..", "*", "self", "with_second(", "&", "self", "v5", "u32", "->", "Option", "<", "NaiveDateTime", ">", "self", "v1", "with_second(", "v5", "map(", "|", "v3", "|", "NaiveDateTime", "v1", "v3", "..", "*", "self", "with_nanosecond(", "&", "self", "v6", "u32", "->", "Option", "<", "NaiveDateTime", ">", "self", "v1", "with_nanosecond(", "v6", "map(", "|", "v3", "|", "NaiveDateTime", "v1", "v3", "..", "*", "self"] := rfl

/-- src/naive/internals.rs:fn ordinal -/
theorem src_naive_internals_rs_fn_ordinal : C08_src_naive_internals_rs_fn_ordinal =
    ["&", "self", "->", "Option", "<", "u32", ">", "v1", "self", ">>", "3", "match", "MDL_TO_OL", "v1", "as", "usize", "XX", "=>", "None", "v2", "=>", "Some(", "v1", "-", "v2", "as", "u8", "as", "u32", ">>", "1"] := rfl

/-- src/naive/internals.rs:fn with_day -/
theorem src_naive_internals_rs_fn_with_day : C08_src_naive_internals_rs_fn_with_day =
    ["&", "self", "v1", "u32", "->", "Option", "<", "Mdf", ">", "if", "v1", ">", "31", "return", "None", "Mdf(", "v2", "*", "self", "Some(", "Mdf(", "v2", "&", "!", "496", "|", "v1", "<<", "4"] := rfl

/-- src/naive/internals.rs:fn with_flags -/
theorem src_naive_internals_rs_fn_with_flags : C08_src_naive_internals_rs_fn_with_flags =
    ["&", "self", "YearFlags(", "v1", "YearFlags", "->", "Mdf", "Mdf(", "v2", "*", "self", "Mdf(", "v2", "&", "!", "15", "|", "v1", "as", "u32"] := rfl

/-- src/naive/internals.rs:fn with_month -/
theorem src_naive_internals_rs_fn_with_month : C08_src_naive_internals_rs_fn_with_month =
    ["&", "self", "v1", "u32", "->", "Option", "<", "Mdf", ">", "if", "v1", ">", "12", "return", "None", "Mdf(", "v2", "*", "self", "Some(", "Mdf(", "v2", "&", "511", "|", "v1", "<<", "9"] := rfl

/-- src/naive/mod.rs:fn checked_days -/
theorem src_naive_mod_rs_fn_checked_days : C08_src_naive_mod_rs_fn_checked_days =
    ["&", "self", "->", "Option", "<", "RangeInclusive", "<", "NaiveDate", ">>", "match(", "self", "checked_first_day(", "self", "checked_last_day(", "Some(", "v1", "Some(", "v2", "=>", "Some(", "v1", "..=", "v2", "v3", "v3", "=>", "None"] := rfl

/-- src/naive/mod.rs:fn checked_first_day -/
theorem src_naive_mod_rs_fn_checked_first_day : C08_src_naive_mod_rs_fn_checked_first_day =
    ["&", "self", "->", "Option", "<", "NaiveDate", ">", "v1", "self", "v1", "num_days_from_monday(", "as", "i32", "v2", "self", "v3", "weekday(", "num_days_from_monday(", "as", "i32", "v4", "v1", "-", "v2", "-", "if", "v1", ">", "v2", "7", "else", "0", "self", "v3", "add_days(", "v4"] := rfl

/-- src/naive/mod.rs:fn checked_last_day -/
theorem src_naive_mod_rs_fn_checked_last_day : C08_src_naive_mod_rs_fn_checked_last_day =
    ["&", "self", "->", "Option", "<", "NaiveDate", ">", "v1", "self", "v2", "pred(", "num_days_from_monday(", "as", "i32", "v3", "self", "v4", "weekday(", "num_days_from_monday(", "as", "i32", "v5", "v1", "-", "v3", "+", "if", "v1", "<", "v3", "7", "else", "0", "self", "v4", "add_days(", "v5"] := rfl

/-- src/naive/mod.rs:fn days -/
theorem src_naive_mod_rs_fn_days : C08_src_naive_mod_rs_fn_days =
    ["&", "self", "->", "RangeInclusive", "<", "NaiveDate", ">", "match", "self", "checked_days(", "Some(", "v1", "=>", "v1", "None", "=>", "panic!(", "\"{}\"", "\"…\""] := rfl

/-- src/naive/mod.rs:fn first_day -/
theorem src_naive_mod_rs_fn_first_day : C08_src_naive_mod_rs_fn_first_day =
    ["&", "self", "->", "NaiveDate", "expect(", "self", "checked_first_day(", "\"…\""] := rfl

/-- src/naive/mod.rs:fn last_day -/
theorem src_naive_mod_rs_fn_last_day : C08_src_naive_mod_rs_fn_last_day =
    ["&", "self", "->", "NaiveDate", "expect(", "self", "checked_last_day(", "\"…\""] := rfl

/-- src/naive/time/mod.rs:fn with_hour -/
theorem src_naive_time_mod_rs_fn_with_hour : C08_src_naive_time_mod_rs_fn_with_hour =
    ["&", "self", "v1", "u32", "->", "Option", "<", "NaiveTime", ">", "if", "v1", ">=", "24", "return", "None", "v2", "v1", "*", "3600", "+", "self", "v2", "%", "3600", "Some(", "NaiveTime", "v2", "..", "*", "self"] := rfl

/-- src/naive/time/mod.rs:fn with_minute -/
theorem src_naive_time_mod_rs_fn_with_minute : C08_src_naive_time_mod_rs_fn_with_minute =
    ["&", "self", "v1", "u32", "->", "Option", "<", "NaiveTime", ">", "if", "v1", ">=", "60", "return", "None", "v2", "self", "v2", "/", "3600", "*", "3600", "+", "v1", "*", "60", "+", "self", "v2", "%", "60", "Some(", "NaiveTime", "v2", "..", "*", "self"] := rfl

/-- src/naive/time/mod.rs:fn with_nanosecond -/
theorem src_naive_time_mod_rs_fn_with_nanosecond : C08_src_naive_time_mod_rs_fn_with_nanosecond =
    ["&", "self", "v1", "u32", "->", "Option", "<", "NaiveTime", ">", "if", "v1", ">=", "2000000000", "return", "None", "Some(", "NaiveTime", "v2", "v1", "..", "*", "self"] := rfl

/-- src/naive/time/mod.rs:fn with_second -/
theorem src_naive_time_mod_rs_fn_with_second : C08_src_naive_time_mod_rs_fn_with_second =
    ["&", "self", "v1", "u32", "->", "Option", "<", "NaiveTime", ">", "if", "v1", ">=", "60", "return", "None", "v2", "self", "v2", "/", "60", "*", "60", "+", "v1", "Some(", "NaiveTime", "v2", "..", "*", "self"] := rfl

/-- src/traits.rs:fn num_days_in_month -/
theorem src_traits_rs_fn_num_days_in_month : C08_src_traits_rs_fn_num_days_in_month =
    ["&", "self", "->", "u8", "v1", "FromPrimitive", "v2", "Month", "from_u32(", "self", "month(", "unwrap(", "v2", "num_days(", "self", "year(", "unwrap("] := rfl

/-- src/traits.rs:fn quarter -/
theorem src_traits_rs_fn_quarter : C08_src_traits_rs_fn_quarter =
    ["&", "self", "->", "u32", "self", "month(", "-", "1", "div_euclid(", "3", "+", "1"] := rfl

/-- src/traits.rs:fn year_ce -/
theorem src_traits_rs_fn_year_ce : C08_src_traits_rs_fn_year_ce =
    ["&", "self", "->", "bool", "u32", "v1", "self", "year(", "if", "v1", "<", "1", "false", "1", "-", "v1", "as", "u32", "else", "true", "v1", "as", "u32"] := rfl

/-- callee src/datetime/mod.rs:fn from_naive_utc_and_offset -/
theorem callee_src_datetime_mod_rs_fn_from_naive_utc_and_offset : C08_callee_src_datetime_mod_rs_fn_from_naive_utc_and_offset =
    ["v1", "NaiveDateTime", "v2", "Tz", "Offset", "->", "DateTime", "<", "Tz", ">", "DateTime", "v1", "v2"] := rfl

/-- callee src/datetime/mod.rs:fn overflowing_naive_local -/
theorem callee_src_datetime_mod_rs_fn_overflowing_naive_local : C08_callee_src_datetime_mod_rs_fn_overflowing_naive_local =
    ["&", "self", "->", "NaiveDateTime", "self", "v1", "overflowing_add_offset(", "self", "v2", "fix("] := rfl

/-- callee src/month.rs:fn as_u32 -/
theorem callee_src_month_rs_fn_as_u32 : C08_callee_src_month_rs_fn_as_u32 =
    ["&", "self", "->", "u32", "self"] := rfl

/-- callee src/month.rs:fn from_u32 -/
theorem callee_src_month_rs_fn_from_u32 : C08_callee_src_month_rs_fn_from_u32 =
    ["v1", "u32", "->", "Option", "<", "Month", ">", "match", "v1", "1", "=>", "Some(", "Month", "January", "2", "=>", "Some(", "Month", "February", "3", "=>", "Some(", "Month", "March", "4", "=>", "Some(", "Month", "April", "5", "=>", "Some(", "Month", "May", "6", "=>", "Some(", "Month", "June", "7", "=>", "Some(", "Month", "July", "8", "=>", "Some(", "Month", "August", "9", "=>", "Some(", "Month", "September", "10", "=>", "Some(", "Month", "October", "11", "=>", "Some(", "Month", "November", "12", "=>", "Some(", "Month", "December", "v2", "=>", "None"] := rfl

/-- callee src/naive/date/mod.rs:fn add_days -/
theorem callee_src_naive_date_mod_rs_fn_add_days : C08_callee_src_naive_date_mod_rs_fn_add_days =
    ["self", "v1", "i32", "->", "Option", "<", "Self", ">", "ORDINAL_MASK", "i32", "8176", "if", "Some(", "v2", "self", "yof(", "&", "ORDINAL_MASK", ">>", "4", "checked_add(", "v1", "if", "v2", ">", "0", "&&", "v2", "<=", "365", "+", "self", "leap_year(", "as", "i32", "v3", "self", "yof(", "&", "!", "ORDINAL_MASK", "return", "Some(", "NaiveDate", "from_yof(", "v3", "|", "v2", "<<", "4", "v4", "self", "year(", "let(", "v5", "v6", "div_mod_floor(", "v4", "400", "v7", "yo_to_cycle(", "v6", "as", "u32", "self", "ordinal(", "v7", "try_opt!(", "v7", "as", "i32", "checked_add(", "v1", "let(", "v8", "v7", "div_mod_floor(", "v7", "146097", "v5", "+=", "v8", "let(", "v6", "v2", "cycle_to_yo(", "v7", "as", "u32", "v9", "YearFlags", "from_year_mod_400(", "v6", "as", "i32", "NaiveDate", "from_ordinal_and_flags(", "v5", "*", "400", "+", "v6", "as", "i32", "v2", "v9"] := rfl

/-- callee src/naive/date/mod.rs:fn cycle_to_yo -/
theorem callee_src_naive_date_mod_rs_fn_cycle_to_yo : C08_callee_src_naive_date_mod_rs_fn_cycle_to_yo =
    ["v1", "u32", "->", "u32", "u32", "v2", "v1", "/", "365", "v3", "v1", "%", "365", "v4", "YEAR_DELTAS", "v2", "as", "usize", "as", "u32", "if", "v3", "<", "v4", "v2", "-=", "1", "v3", "+=", "365", "-", "YEAR_DELTAS", "v2", "as", "usize", "as", "u32", "else", "v3", "-=", "v4", "v2", "v3", "+", "1"] := rfl

/-- callee src/naive/date/mod.rs:fn div_mod_floor -/
theorem callee_src_naive_date_mod_rs_fn_div_mod_floor : C08_callee_src_naive_date_mod_rs_fn_div_mod_floor =
    ["v1", "i32", "v2", "i32", "->", "i32", "i32", "v1", "div_euclid(", "v2", "v1", "rem_euclid(", "v2"] := rfl

/-- callee src/naive/date/mod.rs:fn from_mdf -/
theorem callee_src_naive_date_mod_rs_fn_from_mdf : C08_callee_src_naive_date_mod_rs_fn_from_mdf =
    ["v1", "i32", "v2", "Mdf", "->", "Option", "<", "NaiveDate", ">", "if", "v1", "<", "MIN_YEAR", "||", "v1", ">", "MAX_YEAR", "return", "None", "Some(", "NaiveDate", "from_yof(", "v1", "<<", "13", "|", "try_opt!(", "v2", "ordinal_and_flags("] := rfl

/-- callee src/naive/date/mod.rs:fn from_ordinal_and_flags -/
theorem callee_src_naive_date_mod_rs_fn_from_ordinal_and_flags : C08_callee_src_naive_date_mod_rs_fn_from_ordinal_and_flags =
    ["v1", "i32", "v2", "u32", "v3", "YearFlags", "->", "Option", "<", "NaiveDate", ">", "if", "v1", "<", "MIN_YEAR", "||", "v1", ">", "MAX_YEAR", "return", "None", "if", "v2", "==", "0", "||", "v2", ">", "366", "return", "None", "debug_assert!(", "YearFlags", "from_year(", "v1", "==", "v3", "v4", "v1", "<<", "13", "|", "v2", "<<", "4", "as", "i32", "|", "v3", "as", "i32", "match", "v4", "&", "OL_MASK", "<=", "MAX_OL", "true", "=>", "Some(", "NaiveDate", "from_yof(", "v4", "false", "=>", "None"] := rfl

/-- callee src/naive/date/mod.rs:fn from_ymd_opt -/
theorem callee_src_naive_date_mod_rs_fn_from_ymd_opt : C08_callee_src_naive_date_mod_rs_fn_from_ymd_opt =
    ["v1", "i32", "v2", "u32", "v3", "u32", "->", "Option", "<", "NaiveDate", ">", "v4", "YearFlags", "from_year(", "v1", "if", "Some(", "v5", "Mdf", "new(", "v2", "v3", "v4", "NaiveDate", "from_mdf(", "v1", "v5", "else", "None"] := rfl

/-- callee src/naive/date/mod.rs:fn leap_year -/
theorem callee_src_naive_date_mod_rs_fn_leap_year : C08_callee_src_naive_date_mod_rs_fn_leap_year =
    ["&", "self", "->", "bool", "self", "yof(", "&", "8", "==", "0"] := rfl

/-- callee src/naive/date/mod.rs:fn mdf -/
theorem callee_src_naive_date_mod_rs_fn_mdf : C08_callee_src_naive_date_mod_rs_fn_mdf =
    ["&", "self", "->", "Mdf", "Mdf", "from_ol(", "self", "yof(", "&", "OL_MASK", ">>", "3", "self", "year_flags("] := rfl

/-- callee src/naive/date/mod.rs:fn yo_to_cycle -/
theorem callee_src_naive_date_mod_rs_fn_yo_to_cycle : C08_callee_src_naive_date_mod_rs_fn_yo_to_cycle =
    ["v1", "u32", "v2", "u32", "->", "u32", "v1", "*", "365", "+", "YEAR_DELTAS", "v1", "as", "usize", "as", "u32", "+", "v2", "-", "1"] := rfl

/-- callee src/naive/date/mod.rs:fn yof -/
theorem callee_src_naive_date_mod_rs_fn_yof : C08_callee_src_naive_date_mod_rs_fn_yof =
    ["&", "self", "->", "i32", "self", "v1", "get("] := rfl

/-- callee src/naive/datetime/mod.rs:fn and_local_timezone -/
theorem callee_src_naive_datetime_mod_rs_fn_and_local_timezone : C08_callee_src_naive_datetime_mod_rs_fn_and_local_timezone =
    ["<", "Tz", "TimeZone", ">", "&", "self", "v1", "Tz", "->", "MappedLocalTime", "<", "DateTime", "<", "Tz", ">>", "v1", "from_local_datetime(", "self"] := rfl

/-- callee src/naive/datetime/mod.rs:fn checked_sub_offset -/
theorem callee_src_naive_datetime_mod_rs_fn_checked_sub_offset : C08_callee_src_naive_datetime_mod_rs_fn_checked_sub_offset =
    ["self", "v1", "FixedOffset", "->", "Option", "<", "NaiveDateTime", ">", "let(", "v2", "v3", "self", "v2", "overflowing_sub_offset(", "v1", "v4", "match", "v3", "-", "1", "=>", "try_opt!(", "self", "v4", "pred_opt(", "1", "=>", "try_opt!(", "self", "v4", "succ_opt(", "v5", "=>", "self", "v4", "Some(", "NaiveDateTime", "v4", "v2"] := rfl

/-- callee src/naive/internals.rs:fn from_ol -/
theorem callee_src_naive_internals_rs_fn_from_ol : C08_callee_src_naive_internals_rs_fn_from_ol =
    ["v1", "i32", "YearFlags(", "v2", "YearFlags", "->", "Mdf", "debug_assert!(", "v1", ">", "1", "&&", "v1", "<=", "MAX_OL", "as", "i32", "Mdf(", "v1", "as", "u32", "+", "OL_TO_MDL", "v1", "as", "usize", "as", "u32", "<<", "3", "|", "v2", "as", "u32"] := rfl

/-- callee src/naive/internals.rs:fn from_year -/
theorem callee_src_naive_internals_rs_fn_from_year : C08_callee_src_naive_internals_rs_fn_from_year =
    ["v1", "i32", "->", "YearFlags", "v1", "v1", "rem_euclid(", "400", "YearFlags", "from_year_mod_400(", "v1"] := rfl

/-- callee src/naive/internals.rs:fn from_year_mod_400 -/
theorem callee_src_naive_internals_rs_fn_from_year_mod_400 : C08_callee_src_naive_internals_rs_fn_from_year_mod_400 =
    ["v1", "i32", "->", "YearFlags", "YEAR_TO_FLAGS", "v1", "as", "usize"] := rfl

/-- callee src/naive/internals.rs:fn ndays -/
theorem callee_src_naive_internals_rs_fn_ndays : C08_callee_src_naive_internals_rs_fn_ndays =
    ["&", "self", "->", "u32", "YearFlags(", "v1", "*", "self", "366", "-", "v1", ">>", "3", "as", "u32"] := rfl

/-- callee src/naive/internals.rs:fn ordinal_and_flags -/
theorem callee_src_naive_internals_rs_fn_ordinal_and_flags : C08_callee_src_naive_internals_rs_fn_ordinal_and_flags =
    ["&", "self", "->", "Option", "<", "i32", ">", "v1", "self", ">>", "3", "match", "MDL_TO_OL", "v1", "as", "usize", "XX", "=>", "None", "v2", "=>", "Some(", "self", "as", "i32", "-", "v2", "as", "i32", "<<", "3"] := rfl

/-- callee src/offset/mod.rs:fn from_local_datetime -/
theorem callee_src_offset_mod_rs_fn_from_local_datetime : C08_callee_src_offset_mod_rs_fn_from_local_datetime =
    ["&", "self", "v1", "&", "NaiveDateTime", "->", "MappedLocalTime", "<", "DateTime", "<", "Self", ">>", "self", "offset_from_local_datetime(", "v1", "and_then(", "|", "v2", "|", "v1", "checked_sub_offset(", "v2", "fix(", "map(", "|", "v3", "|", "DateTime", "from_naive_utc_and_offset(", "v3", "v2"] := rfl

/-- callee src/weekday.rs:fn days_since -/
theorem callee_src_weekday_rs_fn_days_since : C08_callee_src_weekday_rs_fn_days_since =
    ["&", "self", "v1", "Weekday", "->", "u32", "v2", "*", "self", "as", "u32", "v3", "v1", "as", "u32", "if", "v2", "<", "v3", "7", "+", "v2", "-", "v3", "else", "v2", "-", "v3"] := rfl

/-- callee src/weekday.rs:fn num_days_from_monday -/
theorem callee_src_weekday_rs_fn_num_days_from_monday : C08_callee_src_weekday_rs_fn_num_days_from_monday =
    ["&", "self", "->", "u32", "self", "days_since(", "Weekday", "Mon"] := rfl

/-- callee src/weekday.rs:fn number_from_monday -/
theorem callee_src_weekday_rs_fn_number_from_monday : C08_callee_src_weekday_rs_fn_number_from_monday =
    ["&", "self", "->", "u32", "self", "days_since(", "Weekday", "Mon", "+", "1"] := rfl

end Chrono.Pins.C08
