/-
  PINS of property C14: the decision tokens of every item the property is anchored in
  (properties.jsonl `anchors` + tools/anchor_extra.json), as they were in /repo at 770977e when the
  model was validated against the source.  Written by tools/pin_anchors.py; the right-hand sides are
  compared by the kernel with lean/Chrono/Extracted/Anchors.lean, which tools/extractors/anchors.py
  regenerates from /repo's working tree on every check.  A theorem that fails here means: anchored
  code changed; the hand-written model may no longer mirror it.
-/
import Chrono.Extracted.Anchors
namespace Chrono.Pins.C14
open Chrono.Extracted.Anchors

/-- src/datetime/mod.rs:fn from_timestamp -/
theorem src_datetime_mod_rs_fn_from_timestamp : C14_src_datetime_mod_rs_fn_from_timestamp =
    ["v1", "i64", "v2", "u32", "->", "Option", "<", "Self", ">", "v3", "v1", "div_euclid(", "86400", "+", "UNIX_EPOCH_DAY", "v1", "v1", "rem_euclid(", "86400", "if", "v3", "<", "i32", "MIN", "as", "i64", "||", "v3", ">", "i32", "MAX", "as", "i64", "return", "None", "v4", "try_opt!(", "NaiveDate", "from_num_days_from_ce_opt(", "v3", "as", "i32", "v5", "try_opt!(", "NaiveTime", "from_num_seconds_from_midnight_opt(", "v1", "as", "u32", "v2", "Some(", "v4", "and_time(", "v5", "and_utc("] := rfl

/-- src/format/parsed.rs:fn resolve_week_date -/
theorem src_format_parsed_rs_fn_resolve_week_date : C14_src_format_parsed_rs_fn_resolve_week_date =
    ["v1", "i32", "v2", "u32", "v3", "Weekday", "v4", "Weekday", "->", "ParseResult", "<", "NaiveDate", ">", "if", "v2", ">", "53", "return", "Err(", "OUT_OF_RANGE", "v5", "NaiveDate", "from_yo_opt(", "v1", "1", "ok_or(", "OUT_OF_RANGE", "?", "v6", "1", "+", "v4", "days_since(", "v5", "weekday(", "as", "i32", "v3", "v3", "days_since(", "v4", "as", "i32", "v7", "v6", "+", "v2", "as", "i32", "-", "1", "*", "7", "+", "v3", "if", "v7", "<=", "0", "return", "Err(", "IMPOSSIBLE", "v5", "with_ordinal(", "v7", "as", "u32", "ok_or(", "IMPOSSIBLE"] := rfl

/-- src/format/parsed.rs:fn resolve_year -/
theorem src_format_parsed_rs_fn_resolve_year : C14_src_format_parsed_rs_fn_resolve_year =
    ["v1", "Option", "<", "i32", ">", "v2", "Option", "<", "i32", ">", "v3", "Option", "<", "i32", ">", "->", "ParseResult", "<", "Option", "<", "i32", ">>", "match(", "v1", "v2", "v3", "v1", "None", "None", "=>", "Ok(", "v1", "Some(", "v1", "v2", "v3", "Some(", "0", "..=", "99", "|", "Some(", "v1", "v2", "v3", "None", "=>", "if", "v1", "<", "0", "return", "Err(", "IMPOSSIBLE", "v4", "v1", "/", "100", "v5", "v1", "%", "100", "if", "v2", "unwrap_or(", "v4", "==", "v4", "&&", "v3", "unwrap_or(", "v5", "==", "v5", "Ok(", "Some(", "v1", "else", "Err(", "IMPOSSIBLE", "None", "Some(", "v2", "Some(", "v3", "0", "..=", "99", "=>", "if", "v2", "<", "0", "return", "Err(", "IMPOSSIBLE", "v1", "v2", "checked_mul(", "100", "and_then(", "|", "v6", "|", "v6", "checked_add(", "v3", "Ok(", "Some(", "v1", "ok_or(", "OUT_OF_RANGE", "?", "None", "None", "Some(", "v3", "0", "..=", "99", "=>", "Ok(", "Some(", "v3", "+", "if", "v3", "<", "70", "2000", "else", "1900", "None", "Some(", "v7", "None", "=>", "Err(", "NOT_ENOUGH", "v7", "v7", "Some(", "v7", "=>", "Err(", "OUT_OF_RANGE"] := rfl

/-- src/format/parsed.rs:fn set_ampm -/
theorem src_format_parsed_rs_fn_set_ampm : C14_src_format_parsed_rs_fn_set_ampm =
    ["&", "self", "v1", "bool", "->", "ParseResult", "<", ">", "set_if_consistent(", "&", "self", "v2", "v1", "as", "u32"] := rfl

/-- src/format/parsed.rs:fn set_day -/
theorem src_format_parsed_rs_fn_set_day : C14_src_format_parsed_rs_fn_set_day =
    ["&", "self", "v1", "i64", "->", "ParseResult", "<", ">", "if!(", "1", "..=", "31", "contains(", "&", "v1", "return", "Err(", "OUT_OF_RANGE", "set_if_consistent(", "&", "self", "v2", "v1", "as", "u32"] := rfl

/-- src/format/parsed.rs:fn set_hour -/
theorem src_format_parsed_rs_fn_set_hour : C14_src_format_parsed_rs_fn_set_hour =
    ["&", "self", "v1", "i64", "->", "ParseResult", "<", ">", "let(", "v2", "v3", "match", "v1", "v4", "0", "..=", "11", "=>", "0", "v4", "as", "u32", "v4", "12", "..=", "23", "=>", "1", "v4", "as", "u32", "-", "12", "v5", "=>", "return", "Err(", "OUT_OF_RANGE", "set_if_consistent(", "&", "self", "v2", "v2", "?", "set_if_consistent(", "&", "self", "v3", "v3"] := rfl

/-- src/format/parsed.rs:fn set_hour12 -/
theorem src_format_parsed_rs_fn_set_hour12 : C14_src_format_parsed_rs_fn_set_hour12 =
    ["&", "self", "v1", "i64", "->", "ParseResult", "<", ">", "if!(", "1", "..=", "12", "contains(", "&", "v1", "return", "Err(", "OUT_OF_RANGE", "if", "v1", "==", "12", "v1", "0", "set_if_consistent(", "&", "self", "v2", "v1", "as", "u32"] := rfl

/-- src/format/parsed.rs:fn set_if_consistent -/
theorem src_format_parsed_rs_fn_set_if_consistent : C14_src_format_parsed_rs_fn_set_if_consistent =
    ["<", "T", "PartialEq", ">", "v1", "&", "Option", "<", "T", ">", "v2", "T", "->", "ParseResult", "<", ">", "match", "v1", "Some(", "v1", "if", "*", "v1", "!=", "v2", "=>", "Err(", "IMPOSSIBLE", "v3", "=>", "*", "v1", "Some(", "v2", "Ok("] := rfl

/-- src/format/parsed.rs:fn set_isoweek -/
theorem src_format_parsed_rs_fn_set_isoweek : C14_src_format_parsed_rs_fn_set_isoweek =
    ["&", "self", "v1", "i64", "->", "ParseResult", "<", ">", "if!(", "1", "..=", "53", "contains(", "&", "v1", "return", "Err(", "OUT_OF_RANGE", "set_if_consistent(", "&", "self", "v2", "v1", "as", "u32"] := rfl

/-- src/format/parsed.rs:fn set_isoyear -/
theorem src_format_parsed_rs_fn_set_isoyear : C14_src_format_parsed_rs_fn_set_isoyear =
    ["&", "self", "v1", "i64", "->", "ParseResult", "<", ">", "set_if_consistent(", "&", "self", "v2", "i32", "try_from(", "v1", "map_err(", "|", "v3", "|", "OUT_OF_RANGE", "?"] := rfl

/-- src/format/parsed.rs:fn set_isoyear_div_100 -/
theorem src_format_parsed_rs_fn_set_isoyear_div_100 : C14_src_format_parsed_rs_fn_set_isoyear_div_100 =
    ["&", "self", "v1", "i64", "->", "ParseResult", "<", ">", "if!(", "0", "..=", "i32", "MAX", "as", "i64", "contains(", "&", "v1", "return", "Err(", "OUT_OF_RANGE", "set_if_consistent(", "&", "self", "v2", "v1", "as", "i32"] := rfl

/-- src/format/parsed.rs:fn set_isoyear_mod_100 -/
theorem src_format_parsed_rs_fn_set_isoyear_mod_100 : C14_src_format_parsed_rs_fn_set_isoyear_mod_100 =
    ["&", "self", "v1", "i64", "->", "ParseResult", "<", ">", "if!(", "0", "..", "contains(", "&", "v1", "return", "Err(", "OUT_OF_RANGE", "set_if_consistent(", "&", "self", "v2", "v1", "as", "i32"] := rfl

/-- src/format/parsed.rs:fn set_minute -/
theorem src_format_parsed_rs_fn_set_minute : C14_src_format_parsed_rs_fn_set_minute =
    ["&", "self", "v1", "i64", "->", "ParseResult", "<", ">", "if!(", "0", "..=", "59", "contains(", "&", "v1", "return", "Err(", "OUT_OF_RANGE", "set_if_consistent(", "&", "self", "v2", "v1", "as", "u32"] := rfl

/-- src/format/parsed.rs:fn set_month -/
theorem src_format_parsed_rs_fn_set_month : C14_src_format_parsed_rs_fn_set_month =
    ["&", "self", "v1", "i64", "->", "ParseResult", "<", ">", "if!(", "1", "..=", "12", "contains(", "&", "v1", "return", "Err(", "OUT_OF_RANGE", "set_if_consistent(", "&", "self", "v2", "v1", "as", "u32"] := rfl

/-- src/format/parsed.rs:fn set_nanosecond -/
theorem src_format_parsed_rs_fn_set_nanosecond : C14_src_format_parsed_rs_fn_set_nanosecond =
    ["&", "self", "v1", "i64", "->", "ParseResult", "<", ">", "if!(", "0", "..=", "999999999", "contains(", "&", "v1", "return", "Err(", "OUT_OF_RANGE", "set_if_consistent(", "&", "self", "v2", "v1", "as", "u32"] := rfl

/-- src/format/parsed.rs:fn set_offset -/
theorem src_format_parsed_rs_fn_set_offset : C14_src_format_parsed_rs_fn_set_offset =
    ["&", "self", "v1", "i64", "->", "ParseResult", "<", ">", "set_if_consistent(", "&", "self", "v2", "i32", "try_from(", "v1", "map_err(", "|", "v3", "|", "OUT_OF_RANGE", "?"] := rfl

/-- src/format/parsed.rs:fn set_ordinal -/
theorem src_format_parsed_rs_fn_set_ordinal : C14_src_format_parsed_rs_fn_set_ordinal =
    ["&", "self", "v1", "i64", "->", "ParseResult", "<", ">", "if!(", "1", "..=", "366", "contains(", "&", "v1", "return", "Err(", "OUT_OF_RANGE", "set_if_consistent(", "&", "self", "v2", "v1", "as", "u32"] := rfl

/-- src/format/parsed.rs:fn set_quarter -/
theorem src_format_parsed_rs_fn_set_quarter : C14_src_format_parsed_rs_fn_set_quarter =
    ["&", "self", "v1", "i64", "->", "ParseResult", "<", ">", "if!(", "1", "..=", "4", "contains(", "&", "v1", "return", "Err(", "OUT_OF_RANGE", "set_if_consistent(", "&", "self", "v2", "v1", "as", "u32"] := rfl

/-- src/format/parsed.rs:fn set_second -/
theorem src_format_parsed_rs_fn_set_second : C14_src_format_parsed_rs_fn_set_second =
    ["&", "self", "v1", "i64", "->", "ParseResult", "<", ">", "if!(", "0", "..=", "60", "contains(", "&", "v1", "return", "Err(", "OUT_OF_RANGE", "set_if_consistent(", "&", "self", "v2", "v1", "as", "u32"] := rfl

/-- src/format/parsed.rs:fn set_timestamp -/
theorem src_format_parsed_rs_fn_set_timestamp : C14_src_format_parsed_rs_fn_set_timestamp =
    ["&", "self", "v1", "i64", "->", "ParseResult", "<", ">", "set_if_consistent(", "&", "self", "v2", "v1"] := rfl

/-- src/format/parsed.rs:fn set_week_from_mon -/
theorem src_format_parsed_rs_fn_set_week_from_mon : C14_src_format_parsed_rs_fn_set_week_from_mon =
    ["&", "self", "v1", "i64", "->", "ParseResult", "<", ">", "if!(", "0", "..=", "53", "contains(", "&", "v1", "return", "Err(", "OUT_OF_RANGE", "set_if_consistent(", "&", "self", "v2", "v1", "as", "u32"] := rfl

/-- src/format/parsed.rs:fn set_week_from_sun -/
theorem src_format_parsed_rs_fn_set_week_from_sun : C14_src_format_parsed_rs_fn_set_week_from_sun =
    ["&", "self", "v1", "i64", "->", "ParseResult", "<", ">", "if!(", "0", "..=", "53", "contains(", "&", "v1", "return", "Err(", "OUT_OF_RANGE", "set_if_consistent(", "&", "self", "v2", "v1", "as", "u32"] := rfl

/-- src/format/parsed.rs:fn set_weekday -/
theorem src_format_parsed_rs_fn_set_weekday : C14_src_format_parsed_rs_fn_set_weekday =
    ["&", "self", "v1", "Weekday", "->", "ParseResult", "<", ">", "set_if_consistent(", "&", "self", "v2", "v1"] := rfl

/-- src/format/parsed.rs:fn set_year -/
theorem src_format_parsed_rs_fn_set_year : C14_src_format_parsed_rs_fn_set_year =
    ["&", "self", "v1", "i64", "->", "ParseResult", "<", ">", "set_if_consistent(", "&", "self", "v2", "i32", "try_from(", "v1", "map_err(", "|", "v3", "|", "OUT_OF_RANGE", "?"] := rfl

/-- src/format/parsed.rs:fn set_year_div_100 -/
theorem src_format_parsed_rs_fn_set_year_div_100 : C14_src_format_parsed_rs_fn_set_year_div_100 =
    ["&", "self", "v1", "i64", "->", "ParseResult", "<", ">", "if!(", "0", "..=", "i32", "MAX", "as", "i64", "contains(", "&", "v1", "return", "Err(", "OUT_OF_RANGE", "set_if_consistent(", "&", "self", "v2", "v1", "as", "i32"] := rfl

/-- src/format/parsed.rs:fn set_year_mod_100 -/
theorem src_format_parsed_rs_fn_set_year_mod_100 : C14_src_format_parsed_rs_fn_set_year_mod_100 =
    ["&", "self", "v1", "i64", "->", "ParseResult", "<", ">", "if!(", "0", "..", "contains(", "&", "v1", "return", "Err(", "OUT_OF_RANGE", "set_if_consistent(", "&", "self", "v2", "v1", "as", "i32"] := rfl

/-- src/format/parsed.rs:fn to_datetime -/
theorem src_format_parsed_rs_fn_to_datetime : C14_src_format_parsed_rs_fn_to_datetime =
    ["&", "self", "->", "ParseResult", "<", "DateTime", "<", "FixedOffset", ">>", "v1", "match(", "self", "v1", "self", "v2", "Some(", "v3", "v4", "=>", "v3", "None", "Some(", "v4", "=>", "0", "None", "None", "=>", "return", "Err(", "NOT_ENOUGH", "v5", "self", "to_naive_datetime_with_offset(", "v1", "?", "v1", "FixedOffset", "east_opt(", "v1", "ok_or(", "OUT_OF_RANGE", "?", "match", "v1", "from_local_datetime(", "&", "v5", "MappedLocalTime", "None", "=>", "Err(", "IMPOSSIBLE", "MappedLocalTime", "Single(", "v6", "=>", "Ok(", "v6", "MappedLocalTime", "Ambiguous(", "..", "=>", "Err(", "NOT_ENOUGH"] := rfl

/-- src/format/parsed.rs:fn to_datetime_with_timezone -/
theorem src_format_parsed_rs_fn_to_datetime_with_timezone : C14_src_format_parsed_rs_fn_to_datetime_with_timezone =
    ["<", "Tz", "TimeZone", ">", "&", "self", "v1", "&", "Tz", "->", "ParseResult", "<", "DateTime", "<", "Tz", ">>", "v2", "0", "if", "Some(", "v3", "self", "v3", "v4", "self", "v4", "unwrap_or(", "0", "v5", "DateTime", "from_timestamp(", "v3", "v4", "ok_or(", "OUT_OF_RANGE", "?", "naive_utc(", "v2", "v1", "offset_from_utc_datetime(", "&", "v5", "fix(", "local_minus_utc(", "v6", "|", "v5", "&", "DateTime", "<", "Tz", ">", "|", "if", "Some(", "v7", "self", "v7", "if", "v5", "offset(", "fix(", "local_minus_utc(", "!=", "v7", "return", "false", "if", "Some(", "v8", "self", "v3", "v3", "v5", "timestamp(", "if", "v8", "!=", "v3", "&&", "!", "v5", "nanosecond(", ">=", "1000000000", "&&", "v8", "==", "v3", "+", "1", "return", "false", "true", "v9", "self", "to_naive_datetime_with_offset(", "v2", "?", "match", "v1", "from_local_datetime(", "&", "v9", "MappedLocalTime", "None", "=>", "Err(", "IMPOSSIBLE", "MappedLocalTime", "Single(", "v10", "=>", "if", "check_offset(", "&", "v10", "Ok(", "v10", "else", "Err(", "IMPOSSIBLE", "MappedLocalTime", "Ambiguous(", "v11", "v12", "=>", "match(", "check_offset(", "&", "v11", "check_offset(", "&", "v12", "false", "false", "=>", "Err(", "IMPOSSIBLE", "false", "true", "=>", "Ok(", "v12", "true", "false", "=>", "Ok(", "v11", "true", "true", "=>", "Err(", "NOT_ENOUGH"] := rfl

/-- src/format/parsed.rs:fn to_fixed_offset -/
theorem src_format_parsed_rs_fn_to_fixed_offset : C14_src_format_parsed_rs_fn_to_fixed_offset =
    ["&", "self", "->", "ParseResult", "<", "FixedOffset", ">", "FixedOffset", "east_opt(", "self", "v1", "ok_or(", "NOT_ENOUGH", "?", "ok_or(", "OUT_OF_RANGE"] := rfl

/-- src/format/parsed.rs:fn to_naive_date -/
theorem src_format_parsed_rs_fn_to_naive_date : C14_src_format_parsed_rs_fn_to_naive_date =
    ["&", "self", "->", "ParseResult", "<", "NaiveDate", ">", "resolve_year(", "v1", "Option", "<", "i32", ">", "v2", "Option", "<", "i32", ">", "v3", "Option", "<", "i32", ">", "->", "ParseResult", "<", "Option", "<", "i32", ">>", "match(", "v1", "v2", "v3", "v1", "None", "None", "=>", "Ok(", "v1", "Some(", "v1", "v2", "v3", "Some(", "0", "..=", "99", "|", "Some(", "v1", "v2", "v3", "None", "=>", "if", "v1", "<", "0", "return", "Err(", "IMPOSSIBLE", "v4", "v1", "/", "100", "v5", "v1", "%", "100", "if", "v2", "unwrap_or(", "v4", "==", "v4", "&&", "v3", "unwrap_or(", "v5", "==", "v5", "Ok(", "Some(", "v1", "else", "Err(", "IMPOSSIBLE", "None", "Some(", "v2", "Some(", "v3", "0", "..=", "99", "=>", "if", "v2", "<", "0", "return", "Err(", "IMPOSSIBLE", "v1", "v2", "checked_mul(", "100", "and_then(", "|", "v6", "|", "v6", "checked_add(", "v3", "Ok(", "Some(", "v1", "ok_or(", "OUT_OF_RANGE", "?", "None", "None", "Some(", "v3", "0", "..=", "99", "=>", "Ok(", "Some(", "v3", "+", "if", "v3", "<", "70", "2000", "else", "1900", "None", "Some(", "v7", "None", "=>", "Err(", "NOT_ENOUGH", "v7", "v7", "Some(", "v7", "=>", "Err(", "OUT_OF_RANGE", "v8", "resolve_year(", "self", "v9", "self", "v10", "self", "v11", "?", "v12", "resolve_year(", "self", "v13", "self", "v14", "self", "v15", "?", "v16", "|", "v17", "NaiveDate", "|", "v9", "v17", "year(", "let(", "v10", "v11", "if", "v9", ">=", "0", "Some(", "v9", "/", "100", "Some(", "v9", "%", "100", "else", "None", "None", "v18", "v17", "month(", "v19", "v17", "day(", "self", "v9", "unwrap_or(", "v9", "==", "v9", "&&", "self", "v10", "or(", "v10", "==", "v10", "&&", "self", "v11", "or(", "v11", "==", "v11", "&&", "self", "v18", "unwrap_or(", "v18", "==", "v18", "&&", "self", "v19", "unwrap_or(", "v19", "==", "v19", "v20", "|", "v17", "NaiveDate", "|", "v21", "v17", "iso_week(", "v13", "v21", "year(", "v22", "v21", "week(", "v23", "v17", "weekday(", "let(", "v14", "v15", "if", "v13", ">=", "0", "Some(", "v13", "/", "100", "Some(", "v13", "%", "100", "else", "None", "None", "self", "v13", "unwrap_or(", "v13", "==", "v13", "&&", "self", "v14", "or(", "v14", "==", "v14", "&&", "self", "v15", "or(", "v15", "==", "v15", "&&", "self", "v22", "unwrap_or(", "v22", "==", "v22", "&&", "self", "v23", "unwrap_or(", "v23", "==", "v23", "v24", "|", "v17", "NaiveDate", "|", "v25", "v17", "ordinal(", "v26", "v17", "weeks_from(", "Weekday", "Sun", "v27", "v17", "weeks_from(", "Weekday", "Mon", "self", "v25", "unwrap_or(", "v25", "==", "v25", "&&", "self", "v26", "map_or(", "v26", "|", "v6", "|", "v6", "as", "i32", "==", "v26", "&&", "self", "v27", "map_or(", "v27", "|", "v6", "|", "v6", "as", "i32", "==", "v27", "let(", "v28", "v29", "match(", "v8", "v12", "self", "Some(", "v9", "v7", "&", "Parsed", "v18", "Some(", "v18", "v19", "Some(", "v19", "..", "=>", "v17", "NaiveDate", "from_ymd_opt(", "v9", "v18", "v19", "ok_or(", "OUT_OF_RANGE", "?", "verify_isoweekdate(", "v17", "&&", "verify_ordinal(", "v17", "v17", "Some(", "v9", "v7", "&", "Parsed", "v25", "Some(", "v25", "..", "=>", "v17", "NaiveDate", "from_yo_opt(", "v9", "v25", "ok_or(", "OUT_OF_RANGE", "?", "verify_ymd(", "v17", "&&", "verify_isoweekdate(", "v17", "&&", "verify_ordinal(", "v17", "v17", "Some(", "v9", "v7", "&", "Parsed", "v26", "Some(", "v21", "v23", "Some(", "v23", "..", "=>", "v17", "resolve_week_date(", "v9", "v21", "v23", "Weekday", "Sun", "?", "verify_ymd(", "v17", "&&", "verify_isoweekdate(", "v17", "&&", "verify_ordinal(", "v17", "v17", "Some(", "v9", "v7", "&", "Parsed", "v27", "Some(", "v21", "v23", "Some(", "v23", "..", "=>", "v17", "resolve_week_date(", "v9", "v21", "v23", "Weekday", "Mon", "?", "verify_ymd(", "v17", "&&", "verify_isoweekdate(", "v17", "&&", "verify_ordinal(", "v17", "v17", "v7", "Some(", "v13", "&", "Parsed", "v22", "Some(", "v22", "v23", "Some(", "v23", "..", "=>", "v17", "NaiveDate", "from_isoywd_opt(", "v13", "v22", "v23", "v17", "v17", "ok_or(", "OUT_OF_RANGE", "?", "verify_ymd(", "v17", "&&", "verify_ordinal(", "v17", "v17", "v7", "v7", "v7", "=>", "return", "Err(", "NOT_ENOUGH", "if", "!", "v28", "return", "Err(", "IMPOSSIBLE", "else", "if", "Some(", "v30", "self", "v31", "if", "v30", "!=", "v29", "quarter(", "return", "Err(", "IMPOSSIBLE", "Ok(", "v29"] := by decide +kernel

/-- src/format/parsed.rs:fn to_naive_datetime_with_offset -/
theorem src_format_parsed_rs_fn_to_naive_datetime_with_offset : C14_src_format_parsed_rs_fn_to_naive_datetime_with_offset =
    ["&", "self", "v1", "i32", "->", "ParseResult", "<", "NaiveDateTime", ">", "v2", "self", "to_naive_date(", "v3", "self", "to_naive_time(", "if", "let(", "Ok(", "v2", "Ok(", "v3", "v2", "v3", "v4", "v2", "and_time(", "v3", "v5", "v4", "and_utc(", "timestamp(", "-", "i64", "from(", "v1", "if", "Some(", "v6", "self", "v5", "if", "v6", "!=", "v5", "&&", "!", "v4", "nanosecond(", ">=", "1000000000", "&&", "v6", "==", "v5", "+", "1", "return", "Err(", "IMPOSSIBLE", "Ok(", "v4", "else", "if", "Some(", "v5", "self", "v5", "ParseError", "as", "PE", "ParseErrorKind", "Impossible", "OutOfRange", "match(", "v2", "v3", "Err(", "PE(", "OutOfRange", "v7", "|", "v7", "Err(", "PE(", "OutOfRange", "=>", "return", "Err(", "OUT_OF_RANGE", "Err(", "PE(", "Impossible", "v7", "|", "v7", "Err(", "PE(", "Impossible", "=>", "return", "Err(", "IMPOSSIBLE", "v7", "v7", "=>", "v8", "v5", "checked_add(", "i64", "from(", "v1", "ok_or(", "OUT_OF_RANGE", "?", "v4", "DateTime", "from_timestamp(", "v8", "0", "ok_or(", "OUT_OF_RANGE", "?", "naive_utc(", "v9", "self", "clone(", "if", "v9", "v10", "==", "Some(", "60", "match", "v4", "second(", "59", "=>", "0", "=>", "v4", "v4", "checked_sub_signed(", "TimeDelta", "try_seconds(", "1", "unwrap(", "ok_or(", "OUT_OF_RANGE", "?", "v7", "=>", "return", "Err(", "IMPOSSIBLE", "else", "v9", "set_second(", "i64", "from(", "v4", "second(", "?", "v9", "set_year(", "i64", "from(", "v4", "year(", "?", "v9", "set_ordinal(", "i64", "from(", "v4", "ordinal(", "?", "v9", "set_hour(", "i64", "from(", "v4", "hour(", "?", "v9", "set_minute(", "i64", "from(", "v4", "minute(", "?", "v2", "v9", "to_naive_date(", "?", "v3", "v9", "to_naive_time(", "?", "Ok(", "v2", "and_time(", "v3", "else", "v2", "?", "v3", "?", "unreachable!("] := rfl

/-- src/format/parsed.rs:fn to_naive_time -/
theorem src_format_parsed_rs_fn_to_naive_time : C14_src_format_parsed_rs_fn_to_naive_time =
    ["&", "self", "->", "ParseResult", "<", "NaiveTime", ">", "v1", "match", "self", "v1", "Some(", "v2", "0", "..=", "1", "=>", "v2", "Some(", "v3", "=>", "return", "Err(", "OUT_OF_RANGE", "None", "=>", "return", "Err(", "NOT_ENOUGH", "v4", "match", "self", "v4", "Some(", "v2", "0", "..=", "11", "=>", "v2", "Some(", "v3", "=>", "return", "Err(", "OUT_OF_RANGE", "None", "=>", "return", "Err(", "NOT_ENOUGH", "v5", "v1", "*", "12", "+", "v4", "v6", "match", "self", "v6", "Some(", "v2", "0", "..=", "59", "=>", "v2", "Some(", "v3", "=>", "return", "Err(", "OUT_OF_RANGE", "None", "=>", "return", "Err(", "NOT_ENOUGH", "let(", "v7", "v8", "match", "self", "v7", "unwrap_or(", "0", "v2", "0", "..=", "59", "=>", "v2", "0", "60", "=>", "59", "1000000000", "v3", "=>", "return", "Err(", "OUT_OF_RANGE", "v8", "+=", "match", "self", "v9", "Some(", "v2", "0", "..=", "999999999", "if", "self", "v7", "is_some(", "=>", "v2", "Some(", "0", "..=", "999999999", "=>", "return", "Err(", "NOT_ENOUGH", "Some(", "v3", "=>", "return", "Err(", "OUT_OF_RANGE", "None", "=>", "0", "NaiveTime", "from_hms_nano_opt(", "v5", "v6", "v7", "v8", "ok_or(", "OUT_OF_RANGE"] := rfl

/-- src/naive/date/mod.rs:fn iso_week -/
theorem src_naive_date_mod_rs_fn_iso_week : C14_src_naive_date_mod_rs_fn_iso_week =
    ["&", "self", "->", "IsoWeek", "IsoWeek", "from_yof(", "self", "year(", "self", "ordinal(", "self", "year_flags("] := rfl

/-- src/naive/date/mod.rs:fn with_ordinal -/
theorem src_naive_date_mod_rs_fn_with_ordinal : C14_src_naive_date_mod_rs_fn_with_ordinal =
    ["&", "self", "v1", "u32", "->", "Option", "<", "NaiveDate", ">", "if", "v1", "==", "0", "||", "v1", ">", "366", "return", "None", "v2", "self", "yof(", "&", "!", "ORDINAL_MASK", "|", "v1", "<<", "4", "as", "i32", "match", "v2", "&", "OL_MASK", "<=", "MAX_OL", "true", "=>", "Some(", "NaiveDate", "from_yof(", "v2", "false", "=>", "None"] := rfl

/-- src/naive/datetime/mod.rs:fn checked_sub_signed -/
theorem src_naive_datetime_mod_rs_fn_checked_sub_signed : C14_src_naive_datetime_mod_rs_fn_checked_sub_signed =
    ["self", "v1", "TimeDelta", "->", "Option", "<", "NaiveDateTime", ">", "let(", "v2", "v3", "self", "v2", "overflowing_sub_signed(", "v1", "v3", "try_opt!(", "TimeDelta", "try_seconds(", "v3", "v4", "try_opt!(", "self", "v4", "checked_sub_signed(", "v3", "Some(", "NaiveDateTime", "v4", "v2"] := rfl

/-- src/traits.rs:fn quarter -/
theorem src_traits_rs_fn_quarter : C14_src_traits_rs_fn_quarter =
    ["&", "self", "->", "u32", "self", "month(", "-", "1", "div_euclid(", "3", "+", "1"] := rfl

/-- callee src/datetime/mod.rs:fn from_naive_utc_and_offset -/
theorem callee_src_datetime_mod_rs_fn_from_naive_utc_and_offset : C14_callee_src_datetime_mod_rs_fn_from_naive_utc_and_offset =
    ["v1", "NaiveDateTime", "v2", "Tz", "Offset", "->", "DateTime", "<", "Tz", ">", "DateTime", "v1", "v2"] := rfl

/-- callee src/naive/date/mod.rs:fn cycle_to_yo -/
theorem callee_src_naive_date_mod_rs_fn_cycle_to_yo : C14_callee_src_naive_date_mod_rs_fn_cycle_to_yo =
    ["v1", "u32", "->", "u32", "u32", "v2", "v1", "/", "365", "v3", "v1", "%", "365", "v4", "YEAR_DELTAS", "v2", "as", "usize", "as", "u32", "if", "v3", "<", "v4", "v2", "-=", "1", "v3", "+=", "365", "-", "YEAR_DELTAS", "v2", "as", "usize", "as", "u32", "else", "v3", "-=", "v4", "v2", "v3", "+", "1"] := rfl

/-- callee src/naive/date/mod.rs:fn from_isoywd_opt -/
theorem callee_src_naive_date_mod_rs_fn_from_isoywd_opt : C14_callee_src_naive_date_mod_rs_fn_from_isoywd_opt =
    ["v1", "i32", "v2", "u32", "v3", "Weekday", "->", "Option", "<", "NaiveDate", ">", "v4", "YearFlags", "from_year(", "v1", "v5", "v4", "nisoweeks(", "if", "v2", "==", "0", "||", "v2", ">", "v5", "return", "None", "v6", "v2", "*", "7", "+", "v3", "as", "u32", "v7", "v4", "isoweek_delta(", "let(", "v1", "v8", "v4", "if", "v6", "<=", "v7", "v9", "try_opt!(", "v1", "checked_sub(", "1", "v10", "YearFlags", "from_year(", "v9", "v9", "v6", "+", "v10", "ndays(", "-", "v7", "v10", "else", "v8", "v6", "-", "v7", "v11", "v4", "ndays(", "if", "v8", "<=", "v11", "v1", "v8", "v4", "else", "v12", "try_opt!(", "v1", "checked_add(", "1", "v13", "YearFlags", "from_year(", "v12", "v12", "v8", "-", "v11", "v13", "NaiveDate", "from_ordinal_and_flags(", "v1", "v8", "v4"] := rfl

/-- callee src/naive/date/mod.rs:fn from_mdf -/
theorem callee_src_naive_date_mod_rs_fn_from_mdf : C14_callee_src_naive_date_mod_rs_fn_from_mdf =
    ["v1", "i32", "v2", "Mdf", "->", "Option", "<", "NaiveDate", ">", "if", "v1", "<", "MIN_YEAR", "||", "v1", ">", "MAX_YEAR", "return", "None", "Some(", "NaiveDate", "from_yof(", "v1", "<<", "13", "|", "try_opt!(", "v2", "ordinal_and_flags("] := rfl

/-- callee src/naive/date/mod.rs:fn from_num_days_from_ce_opt -/
theorem callee_src_naive_date_mod_rs_fn_from_num_days_from_ce_opt : C14_callee_src_naive_date_mod_rs_fn_from_num_days_from_ce_opt =
    ["v1", "i32", "->", "Option", "<", "NaiveDate", ">", "v1", "try_opt!(", "v1", "checked_add(", "365", "v2", "v1", "div_euclid(", "146097", "v3", "v1", "rem_euclid(", "146097", "let(", "v4", "v5", "cycle_to_yo(", "v3", "as", "u32", "v6", "YearFlags", "from_year_mod_400(", "v4", "as", "i32", "NaiveDate", "from_ordinal_and_flags(", "v2", "*", "400", "+", "v4", "as", "i32", "v5", "v6"] := rfl

/-- callee src/naive/date/mod.rs:fn from_ordinal_and_flags -/
theorem callee_src_naive_date_mod_rs_fn_from_ordinal_and_flags : C14_callee_src_naive_date_mod_rs_fn_from_ordinal_and_flags =
    ["v1", "i32", "v2", "u32", "v3", "YearFlags", "->", "Option", "<", "NaiveDate", ">", "if", "v1", "<", "MIN_YEAR", "||", "v1", ">", "MAX_YEAR", "return", "None", "if", "v2", "==", "0", "||", "v2", ">", "366", "return", "None", "debug_assert!(", "YearFlags", "from_year(", "v1", "==", "v3", "v4", "v1", "<<", "13", "|", "v2", "<<", "4", "as", "i32", "|", "v3", "as", "i32", "match", "v4", "&", "OL_MASK", "<=", "MAX_OL", "true", "=>", "Some(", "NaiveDate", "from_yof(", "v4", "false", "=>", "None"] := rfl

/-- callee src/naive/date/mod.rs:fn from_ymd_opt -/
theorem callee_src_naive_date_mod_rs_fn_from_ymd_opt : C14_callee_src_naive_date_mod_rs_fn_from_ymd_opt =
    ["v1", "i32", "v2", "u32", "v3", "u32", "->", "Option", "<", "NaiveDate", ">", "v4", "YearFlags", "from_year(", "v1", "if", "Some(", "v5", "Mdf", "new(", "v2", "v3", "v4", "NaiveDate", "from_mdf(", "v1", "v5", "else", "None"] := rfl

/-- callee src/naive/date/mod.rs:fn from_yo_opt -/
theorem callee_src_naive_date_mod_rs_fn_from_yo_opt : C14_callee_src_naive_date_mod_rs_fn_from_yo_opt =
    ["v1", "i32", "v2", "u32", "->", "Option", "<", "NaiveDate", ">", "v3", "YearFlags", "from_year(", "v1", "NaiveDate", "from_ordinal_and_flags(", "v1", "v2", "v3"] := rfl

/-- callee src/naive/date/mod.rs:fn weeks_from -/
theorem callee_src_naive_date_mod_rs_fn_weeks_from : C14_callee_src_naive_date_mod_rs_fn_weeks_from =
    ["&", "self", "v1", "Weekday", "->", "i32", "self", "ordinal(", "as", "i32", "-", "self", "weekday(", "days_since(", "v1", "as", "i32", "+", "6", "/", "7"] := rfl

/-- callee src/naive/date/mod.rs:fn yof -/
theorem callee_src_naive_date_mod_rs_fn_yof : C14_callee_src_naive_date_mod_rs_fn_yof =
    ["&", "self", "->", "i32", "self", "v1", "get("] := rfl

/-- callee src/naive/datetime/mod.rs:fn and_utc -/
theorem callee_src_naive_datetime_mod_rs_fn_and_utc : C14_callee_src_naive_datetime_mod_rs_fn_and_utc =
    ["&", "self", "->", "DateTime", "<", "Utc", ">", "DateTime", "from_naive_utc_and_offset(", "*", "self", "Utc"] := rfl

/-- callee src/naive/datetime/mod.rs:fn checked_sub_offset -/
theorem callee_src_naive_datetime_mod_rs_fn_checked_sub_offset : C14_callee_src_naive_datetime_mod_rs_fn_checked_sub_offset =
    ["self", "v1", "FixedOffset", "->", "Option", "<", "NaiveDateTime", ">", "let(", "v2", "v3", "self", "v2", "overflowing_sub_offset(", "v1", "v4", "match", "v3", "-", "1", "=>", "try_opt!(", "self", "v4", "pred_opt(", "1", "=>", "try_opt!(", "self", "v4", "succ_opt(", "v5", "=>", "self", "v4", "Some(", "NaiveDateTime", "v4", "v2"] := rfl

/-- callee src/naive/internals.rs:fn from_year -/
theorem callee_src_naive_internals_rs_fn_from_year : C14_callee_src_naive_internals_rs_fn_from_year =
    ["v1", "i32", "->", "YearFlags", "v1", "v1", "rem_euclid(", "400", "YearFlags", "from_year_mod_400(", "v1"] := rfl

/-- callee src/naive/internals.rs:fn from_year_mod_400 -/
theorem callee_src_naive_internals_rs_fn_from_year_mod_400 : C14_callee_src_naive_internals_rs_fn_from_year_mod_400 =
    ["v1", "i32", "->", "YearFlags", "YEAR_TO_FLAGS", "v1", "as", "usize"] := rfl

/-- callee src/naive/internals.rs:fn isoweek_delta -/
theorem callee_src_naive_internals_rs_fn_isoweek_delta : C14_callee_src_naive_internals_rs_fn_isoweek_delta =
    ["&", "self", "->", "u32", "YearFlags(", "v1", "*", "self", "v2", "v1", "&", "7", "as", "u32", "if", "v2", "<", "3", "v2", "+=", "7", "v2"] := rfl

/-- callee src/naive/internals.rs:fn ndays -/
theorem callee_src_naive_internals_rs_fn_ndays : C14_callee_src_naive_internals_rs_fn_ndays =
    ["&", "self", "->", "u32", "YearFlags(", "v1", "*", "self", "366", "-", "v1", ">>", "3", "as", "u32"] := rfl

/-- callee src/naive/internals.rs:fn nisoweeks -/
theorem callee_src_naive_internals_rs_fn_nisoweeks : C14_callee_src_naive_internals_rs_fn_nisoweeks =
    ["&", "self", "->", "u32", "YearFlags(", "v1", "*", "self", "52", "+", "1030", ">>", "v1", "as", "usize", "&", "1"] := rfl

/-- callee src/naive/internals.rs:fn ordinal_and_flags -/
theorem callee_src_naive_internals_rs_fn_ordinal_and_flags : C14_callee_src_naive_internals_rs_fn_ordinal_and_flags =
    ["&", "self", "->", "Option", "<", "i32", ">", "v1", "self", ">>", "3", "match", "MDL_TO_OL", "v1", "as", "usize", "XX", "=>", "None", "v2", "=>", "Some(", "self", "as", "i32", "-", "v2", "as", "i32", "<<", "3"] := rfl

/-- callee src/naive/time/mod.rs:fn from_hms_nano_opt -/
theorem callee_src_naive_time_mod_rs_fn_from_hms_nano_opt : C14_callee_src_naive_time_mod_rs_fn_from_hms_nano_opt =
    ["v1", "u32", "v2", "u32", "v3", "u32", "v4", "u32", "->", "Option", "<", "NaiveTime", ">", "if(", "v1", ">=", "24", "||", "v2", ">=", "60", "||", "v3", ">=", "60", "||", "v4", ">=", "1000000000", "&&", "v3", "!=", "59", "||", "v4", ">=", "2000000000", "return", "None", "v5", "v1", "*", "3600", "+", "v2", "*", "60", "+", "v3", "Some(", "NaiveTime", "v5", "v6", "v4"] := rfl

/-- callee src/naive/time/mod.rs:fn from_num_seconds_from_midnight_opt -/
theorem callee_src_naive_time_mod_rs_fn_from_num_seconds_from_midnight_opt : C14_callee_src_naive_time_mod_rs_fn_from_num_seconds_from_midnight_opt =
    ["v1", "u32", "v2", "u32", "->", "Option", "<", "NaiveTime", ">", "if", "v1", ">=", "86400", "||", "v2", ">=", "2000000000", "||", "v2", ">=", "1000000000", "&&", "v1", "%", "60", "!=", "59", "return", "None", "Some(", "NaiveTime", "v1", "v3", "v2"] := rfl

/-- callee src/naive/time/mod.rs:fn overflowing_add_signed -/
theorem callee_src_naive_time_mod_rs_fn_overflowing_add_signed : C14_callee_src_naive_time_mod_rs_fn_overflowing_add_signed =
    ["&", "self", "v1", "TimeDelta", "->", "NaiveTime", "i64", "v2", "self", "v2", "as", "i64", "v3", "self", "v3", "as", "i32", "v4", "v1", "num_seconds(", "v5", "v1", "subsec_nanos(", "if", "v3", ">=", "1000000000", "if", "v4", ">", "0", "||", "v5", ">", "0", "&&", "v3", ">=", "2000000000", "-", "v5", "v3", "-=", "1000000000", "else", "if", "v4", "<", "0", "v3", "-=", "1000000000", "v2", "+=", "1", "else", "return(", "NaiveTime", "v2", "self", "v2", "v3", "v3", "+", "v5", "as", "u32", "0", "v2", "v2", "+", "v4", "v3", "+=", "v5", "if", "v3", "<", "0", "v3", "+=", "1000000000", "v2", "-=", "1", "else", "if", "v3", ">=", "1000000000", "v3", "-=", "1000000000", "v2", "+=", "1", "v6", "v2", "rem_euclid(", "86400", "v7", "v2", "-", "v6", "NaiveTime", "v2", "v6", "as", "u32", "v3", "v3", "as", "u32", "v7"] := rfl

/-- callee src/naive/time/mod.rs:fn overflowing_sub_signed -/
theorem callee_src_naive_time_mod_rs_fn_overflowing_sub_signed : C14_callee_src_naive_time_mod_rs_fn_overflowing_sub_signed =
    ["&", "self", "v1", "TimeDelta", "->", "NaiveTime", "i64", "let(", "v2", "v1", "self", "overflowing_add_signed(", "v1", "neg(", "v2", "-", "v1"] := rfl

/-- callee src/offset/fixed.rs:fn east_opt -/
theorem callee_src_offset_fixed_rs_fn_east_opt : C14_callee_src_offset_fixed_rs_fn_east_opt =
    ["v1", "i32", "->", "Option", "<", "FixedOffset", ">", "if", "-", "86400", "<", "v1", "&&", "v1", "<", "86400", "Some(", "FixedOffset", "v2", "v1", "else", "None"] := rfl

/-- callee src/offset/fixed.rs:fn local_minus_utc -/
theorem callee_src_offset_fixed_rs_fn_local_minus_utc : C14_callee_src_offset_fixed_rs_fn_local_minus_utc =
    ["&", "self", "->", "i32", "self", "v1"] := rfl

/-- callee src/offset/mod.rs:fn from_local_datetime -/
theorem callee_src_offset_mod_rs_fn_from_local_datetime : C14_callee_src_offset_mod_rs_fn_from_local_datetime =
    ["&", "self", "v1", "&", "NaiveDateTime", "->", "MappedLocalTime", "<", "DateTime", "<", "Self", ">>", "self", "offset_from_local_datetime(", "v1", "and_then(", "|", "v2", "|", "v1", "checked_sub_offset(", "v2", "fix(", "map(", "|", "v3", "|", "DateTime", "from_naive_utc_and_offset(", "v3", "v2"] := rfl

/-- callee src/time_delta.rs:fn num_seconds -/
theorem callee_src_time_delta_rs_fn_num_seconds : C14_callee_src_time_delta_rs_fn_num_seconds =
    ["&", "self", "->", "i64", "if", "self", "v1", "<", "0", "&&", "self", "v2", ">", "0", "self", "v1", "+", "1", "else", "self", "v1"] := rfl

/-- callee src/time_delta.rs:fn subsec_nanos -/
theorem callee_src_time_delta_rs_fn_subsec_nanos : C14_callee_src_time_delta_rs_fn_subsec_nanos =
    ["&", "self", "->", "i32", "if", "self", "v1", "<", "0", "&&", "self", "v2", ">", "0", "self", "v2", "-", "NANOS_PER_SEC", "else", "self", "v2"] := rfl

/-- callee src/time_delta.rs:fn try_seconds -/
theorem callee_src_time_delta_rs_fn_try_seconds : C14_callee_src_time_delta_rs_fn_try_seconds =
    ["v1", "i64", "->", "Option", "<", "TimeDelta", ">", "TimeDelta", "new(", "v1", "0"] := rfl

/-- callee src/weekday.rs:fn days_since -/
theorem callee_src_weekday_rs_fn_days_since : C14_callee_src_weekday_rs_fn_days_since =
    ["&", "self", "v1", "Weekday", "->", "u32", "v2", "*", "self", "as", "u32", "v3", "v1", "as", "u32", "if", "v2", "<", "v3", "7", "+", "v2", "-", "v3", "else", "v2", "-", "v3"] := rfl

end Chrono.Pins.C14
