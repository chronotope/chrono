/-
  PINS of property C19: the decision tokens of every item the property is anchored in
  (properties.jsonl `anchors` + tools/anchor_extra.json), as they were in /repo at b30ed81 when the
  model was validated against the source.  Written by tools/pin_anchors.py; the right-hand sides are
  compared by the kernel with lean/Chrono/Extracted/Anchors.lean, which tools/extractors/anchors.py
  regenerates from /repo's working tree on every check.  A theorem that fails here means: anchored
  code changed; the hand-written model may no longer mirror it.
-/
import Chrono.Extracted.Anchors
namespace Chrono.Pins.C19
open Chrono.Extracted.Anchors

/-- src/format/mod.rs:impl FromStr for Weekday -/
theorem src_format_mod_rs_impl_FromStr_for_Weekday : C19_src_format_mod_rs_impl_FromStr_for_Weekday =
    ["FromStr", "for", "Weekday", "Err", "ParseWeekdayError", "from_str(", "v1", "&", "str", "->", "Result", "<", "Self", "Self", "Err", ">", "if", "Ok(", "\"\"", "v2", "v3", "short_or_long_weekday(", "v1", "Ok(", "v2", "else", "Err(", "ParseWeekdayError", "v4"] := rfl

/-- src/format/scan.rs:fn short_or_long_month0 -/
theorem src_format_scan_rs_fn_short_or_long_month0 : C19_src_format_scan_rs_fn_short_or_long_month0 =
    ["v1", "&", "str", "->", "ParseResult", "<", "&", "str", "u8", ">", "LONG_MONTH_SUFFIXES", "&", "u8", "12", "b\"uary\"", "b\"ruary\"", "b\"ch\"", "b\"il\"", "b\"\"", "b\"e\"", "b\"y\"", "b\"ust\"", "b\"tember\"", "b\"ober\"", "b\"ember\"", "b\"ember\"", "let(", "v1", "v2", "short_month0(", "v1", "?", "v3", "LONG_MONTH_SUFFIXES", "v2", "as", "usize", "if", "v1", "len(", ">=", "v3", "len(", "&&", "v1", "as_bytes(", "..", "v3", "len(", "eq_ignore_ascii_case(", "v3", "v1", "&", "v1", "v3", "len(", "..", "Ok(", "v1", "v2"] := rfl

/-- src/format/scan.rs:fn short_or_long_weekday -/
theorem src_format_scan_rs_fn_short_or_long_weekday : C19_src_format_scan_rs_fn_short_or_long_weekday =
    ["v1", "&", "str", "->", "ParseResult", "<", "&", "str", "Weekday", ">", "LONG_WEEKDAY_SUFFIXES", "&", "u8", "7", "b\"day\"", "b\"sday\"", "b\"nesday\"", "b\"rsday\"", "b\"day\"", "b\"urday\"", "b\"day\"", "let(", "v1", "v2", "short_weekday(", "v1", "?", "v3", "LONG_WEEKDAY_SUFFIXES", "v2", "num_days_from_monday(", "as", "usize", "if", "v1", "len(", ">=", "v3", "len(", "&&", "v1", "as_bytes(", "..", "v3", "len(", "eq_ignore_ascii_case(", "v3", "v1", "&", "v1", "v3", "len(", "..", "Ok(", "v1", "v2"] := rfl

/-- src/month.rs:fn name -/
theorem src_month_rs_fn_name : C19_src_month_rs_fn_name =
    ["&", "self", "->", "&", "str", "match", "*", "self", "Month", "January", "=>", "\"January\"", "Month", "February", "=>", "\"February\"", "Month", "March", "=>", "\"March\"", "Month", "April", "=>", "\"April\"", "Month", "May", "=>", "\"May\"", "Month", "June", "=>", "\"June\"", "Month", "July", "=>", "\"July\"", "Month", "August", "=>", "\"August\"", "Month", "September", "=>", "\"September\"", "Month", "October", "=>", "\"October\"", "Month", "November", "=>", "\"November\"", "Month", "December", "=>", "\"December\""] := rfl

/-- src/month.rs:fn num_days -/
theorem src_month_rs_fn_num_days : C19_src_month_rs_fn_num_days =
    ["&", "self", "v1", "i32", "->", "Option", "<", "u8", ">", "Some(", "match", "*", "self", "Month", "January", "=>", "31", "Month", "February", "=>", "match", "NaiveDate", "from_ymd_opt(", "v1", "2", "1", "?", "leap_year(", "true", "=>", "29", "false", "=>", "28", "Month", "March", "=>", "31", "Month", "April", "=>", "30", "Month", "May", "=>", "31", "Month", "June", "=>", "30", "Month", "July", "=>", "31", "Month", "August", "=>", "31", "Month", "September", "=>", "30", "Month", "October", "=>", "31", "Month", "November", "=>", "30", "Month", "December", "=>", "31"] := rfl

/-- src/month.rs:fn number_from_month -/
theorem src_month_rs_fn_number_from_month : C19_src_month_rs_fn_number_from_month =
    ["&", "self", "->", "u32", "match", "*", "self", "Month", "January", "=>", "1", "Month", "February", "=>", "2", "Month", "March", "=>", "3", "Month", "April", "=>", "4", "Month", "May", "=>", "5", "Month", "June", "=>", "6", "Month", "July", "=>", "7", "Month", "August", "=>", "8", "Month", "September", "=>", "9", "Month", "October", "=>", "10", "Month", "November", "=>", "11", "Month", "December", "=>", "12"] := rfl

/-- src/month.rs:fn pred -/
theorem src_month_rs_fn_pred : C19_src_month_rs_fn_pred =
    ["&", "self", "->", "Month", "match", "*", "self", "Month", "January", "=>", "Month", "December", "Month", "February", "=>", "Month", "January", "Month", "March", "=>", "Month", "February", "Month", "April", "=>", "Month", "March", "Month", "May", "=>", "Month", "April", "Month", "June", "=>", "Month", "May", "Month", "July", "=>", "Month", "June", "Month", "August", "=>", "Month", "July", "Month", "September", "=>", "Month", "August", "Month", "October", "=>", "Month", "September", "Month", "November", "=>", "Month", "October", "Month", "December", "=>", "Month", "November"] := rfl

/-- src/month.rs:fn succ -/
theorem src_month_rs_fn_succ : C19_src_month_rs_fn_succ =
    ["&", "self", "->", "Month", "match", "*", "self", "Month", "January", "=>", "Month", "February", "Month", "February", "=>", "Month", "March", "Month", "March", "=>", "Month", "April", "Month", "April", "=>", "Month", "May", "Month", "May", "=>", "Month", "June", "Month", "June", "=>", "Month", "July", "Month", "July", "=>", "Month", "August", "Month", "August", "=>", "Month", "September", "Month", "September", "=>", "Month", "October", "Month", "October", "=>", "Month", "November", "Month", "November", "=>", "Month", "December", "Month", "December", "=>", "Month", "January"] := rfl

/-- src/month.rs:impl FromPrimitive -/
theorem src_month_rs_impl_FromPrimitive : C19_src_month_rs_impl_FromPrimitive =
    ["v1", "FromPrimitive", "for", "Month", "from_u64(", "v2", "u64", "->", "Option", "<", "Month", ">", "Self", "from_u32(", "u32", "try_from(", "v2", "ok(", "?", "from_i64(", "v2", "i64", "->", "Option", "<", "Month", ">", "Self", "from_u32(", "u32", "try_from(", "v2", "ok(", "?", "from_u32(", "v2", "u32", "->", "Option", "<", "Month", ">", "match", "v2", "1", "=>", "Some(", "Month", "January", "2", "=>", "Some(", "Month", "February", "3", "=>", "Some(", "Month", "March", "4", "=>", "Some(", "Month", "April", "5", "=>", "Some(", "Month", "May", "6", "=>", "Some(", "Month", "June", "7", "=>", "Some(", "Month", "July", "8", "=>", "Some(", "Month", "August", "9", "=>", "Some(", "Month", "September", "10", "=>", "Some(", "Month", "October", "11", "=>", "Some(", "Month", "November", "12", "=>", "Some(", "Month", "December", "v3", "=>", "None"] := rfl

/-- src/month.rs:impl TryFrom -/
theorem src_month_rs_impl_TryFrom : C19_src_month_rs_impl_TryFrom =
    ["TryFrom", "<", "u8", ">", "for", "Month", "Error", "OutOfRange", "try_from(", "v1", "u8", "->", "Result", "<", "Self", "Self", "Error", ">", "match", "v1", "1", "=>", "Ok(", "Month", "January", "2", "=>", "Ok(", "Month", "February", "3", "=>", "Ok(", "Month", "March", "4", "=>", "Ok(", "Month", "April", "5", "=>", "Ok(", "Month", "May", "6", "=>", "Ok(", "Month", "June", "7", "=>", "Ok(", "Month", "July", "8", "=>", "Ok(", "Month", "August", "9", "=>", "Ok(", "Month", "September", "10", "=>", "Ok(", "Month", "October", "11", "=>", "Ok(", "Month", "November", "12", "=>", "Ok(", "Month", "December", "v2", "=>", "Err(", "OutOfRange", "new("] := rfl

/-- src/weekday.rs:fn days_since -/
theorem src_weekday_rs_fn_days_since : C19_src_weekday_rs_fn_days_since =
    ["&", "self", "v1", "Weekday", "->", "u32", "v2", "*", "self", "as", "u32", "v3", "v1", "as", "u32", "if", "v2", "<", "v3", "7", "+", "v2", "-", "v3", "else", "v2", "-", "v3"] := rfl

/-- src/weekday.rs:fn num_days_from_monday -/
theorem src_weekday_rs_fn_num_days_from_monday : C19_src_weekday_rs_fn_num_days_from_monday =
    ["&", "self", "->", "u32", "self", "days_since(", "Weekday", "Mon"] := rfl

/-- src/weekday.rs:fn num_days_from_sunday -/
theorem src_weekday_rs_fn_num_days_from_sunday : C19_src_weekday_rs_fn_num_days_from_sunday =
    ["&", "self", "->", "u32", "self", "days_since(", "Weekday", "Sun"] := rfl

/-- src/weekday.rs:fn number_from_monday -/
theorem src_weekday_rs_fn_number_from_monday : C19_src_weekday_rs_fn_number_from_monday =
    ["&", "self", "->", "u32", "self", "days_since(", "Weekday", "Mon", "+", "1"] := rfl

/-- src/weekday.rs:fn number_from_sunday -/
theorem src_weekday_rs_fn_number_from_sunday : C19_src_weekday_rs_fn_number_from_sunday =
    ["&", "self", "->", "u32", "self", "days_since(", "Weekday", "Sun", "+", "1"] := rfl

/-- src/weekday.rs:fn pred -/
theorem src_weekday_rs_fn_pred : C19_src_weekday_rs_fn_pred =
    ["&", "self", "->", "Weekday", "match", "*", "self", "Weekday", "Mon", "=>", "Weekday", "Sun", "Weekday", "Tue", "=>", "Weekday", "Mon", "Weekday", "Wed", "=>", "Weekday", "Tue", "Weekday", "Thu", "=>", "Weekday", "Wed", "Weekday", "Fri", "=>", "Weekday", "Thu", "Weekday", "Sat", "=>", "Weekday", "Fri", "Weekday", "Sun", "=>", "Weekday", "Sat"] := rfl

/-- src/weekday.rs:fn succ -/
theorem src_weekday_rs_fn_succ : C19_src_weekday_rs_fn_succ =
    ["&", "self", "->", "Weekday", "match", "*", "self", "Weekday", "Mon", "=>", "Weekday", "Tue", "Weekday", "Tue", "=>", "Weekday", "Wed", "Weekday", "Wed", "=>", "Weekday", "Thu", "Weekday", "Thu", "=>", "Weekday", "Fri", "Weekday", "Fri", "=>", "Weekday", "Sat", "Weekday", "Sat", "=>", "Weekday", "Sun", "Weekday", "Sun", "=>", "Weekday", "Mon"] := rfl

/-- src/weekday.rs:impl Display -/
theorem src_weekday_rs_impl_Display : C19_src_weekday_rs_impl_Display =
    ["v1", "Display", "for", "Weekday", "fmt(", "&", "self", "v2", "&", "v1", "Formatter", "->", "v1", "Result", "v2", "pad(", "match", "*", "self", "Weekday", "Mon", "=>", "\"Mon\"", "Weekday", "Tue", "=>", "\"Tue\"", "Weekday", "Wed", "=>", "\"Wed\"", "Weekday", "Thu", "=>", "\"Thu\"", "Weekday", "Fri", "=>", "\"Fri\"", "Weekday", "Sat", "=>", "\"Sat\"", "Weekday", "Sun", "=>", "\"Sun\"", "§", "v1", "Display", "for", "ParseWeekdayError", "fmt(", "&", "self", "v2", "&", "v1", "Formatter", "->", "v1", "Result", "v2", "write_fmt(", "format_args!(", "\"{:?}\"", "self"] := rfl

/-- src/weekday.rs:impl FromPrimitive -/
theorem src_weekday_rs_impl_FromPrimitive : C19_src_weekday_rs_impl_FromPrimitive =
    ["v1", "FromPrimitive", "for", "Weekday", "from_i64(", "v2", "i64", "->", "Option", "<", "Weekday", ">", "match", "v2", "0", "=>", "Some(", "Weekday", "Mon", "1", "=>", "Some(", "Weekday", "Tue", "2", "=>", "Some(", "Weekday", "Wed", "3", "=>", "Some(", "Weekday", "Thu", "4", "=>", "Some(", "Weekday", "Fri", "5", "=>", "Some(", "Weekday", "Sat", "6", "=>", "Some(", "Weekday", "Sun", "v3", "=>", "None", "from_u64(", "v2", "u64", "->", "Option", "<", "Weekday", ">", "match", "v2", "0", "=>", "Some(", "Weekday", "Mon", "1", "=>", "Some(", "Weekday", "Tue", "2", "=>", "Some(", "Weekday", "Wed", "3", "=>", "Some(", "Weekday", "Thu", "4", "=>", "Some(", "Weekday", "Fri", "5", "=>", "Some(", "Weekday", "Sat", "6", "=>", "Some(", "Weekday", "Sun", "v3", "=>", "None"] := rfl

/-- src/weekday.rs:impl TryFrom -/
theorem src_weekday_rs_impl_TryFrom : C19_src_weekday_rs_impl_TryFrom =
    ["TryFrom", "<", "u8", ">", "for", "Weekday", "Error", "OutOfRange", "try_from(", "v1", "u8", "->", "Result", "<", "Self", "Self", "Error", ">", "match", "v1", "0", "=>", "Ok(", "Weekday", "Mon", "1", "=>", "Ok(", "Weekday", "Tue", "2", "=>", "Ok(", "Weekday", "Wed", "3", "=>", "Ok(", "Weekday", "Thu", "4", "=>", "Ok(", "Weekday", "Fri", "5", "=>", "Ok(", "Weekday", "Sat", "6", "=>", "Ok(", "Weekday", "Sun", "v2", "=>", "Err(", "OutOfRange", "new("] := rfl

/-- src/weekday_set.rs:fn contains -/
theorem src_weekday_set_rs_fn_contains : C19_src_weekday_set_rs_fn_contains =
    ["self", "v1", "Weekday", "->", "bool", "self", "&", "Self", "single(", "v1", "!=", "0"] := rfl

/-- src/weekday_set.rs:fn difference -/
theorem src_weekday_set_rs_fn_difference : C19_src_weekday_set_rs_fn_difference =
    ["self", "v1", "Self", "->", "Self", "Self(", "self", "&", "!", "v1"] := rfl

/-- src/weekday_set.rs:fn first -/
theorem src_weekday_set_rs_fn_first : C19_src_weekday_set_rs_fn_first =
    ["self", "->", "Option", "<", "Weekday", ">", "if", "self", "is_empty(", "return", "None", "v1", "1", "<<", "self", "trailing_zeros(", "Self(", "v1", "single_day("] := rfl

/-- src/weekday_set.rs:fn fmt -/
theorem src_weekday_set_rs_fn_fmt : C19_src_weekday_set_rs_fn_fmt =
    ["&", "self", "v1", "&", "v2", "Formatter", "<", ">", "->", "v2", "Result", "write!(", "v1", "\"…\"", "self", "§", "&", "self", "v1", "&", "v2", "v3", "Formatter", "<", ">", "->", "v2", "v3", "Result", "write!(", "v1", "\"[\"", "?", "v4", "self", "iter(", "Weekday", "Mon", "if", "Some(", "v5", "v4", "next(", "write!(", "v1", "\"{first}\"", "?", "for", "v6", "in", "v4", "write!(", "v1", "\", {weekday}\"", "?", "write!(", "v1", "\"]\""] := rfl

/-- src/weekday_set.rs:fn from_iter -/
theorem src_weekday_set_rs_fn_from_iter : C19_src_weekday_set_rs_fn_from_iter =
    ["<", "T", "IntoIterator", "<", "Item", "Weekday", ">>", "v1", "T", "->", "Self", "v1", "into_iter(", "map(", "Self", "v2", "fold(", "Self", "EMPTY", "Self", "v3"] := rfl

/-- src/weekday_set.rs:fn insert -/
theorem src_weekday_set_rs_fn_insert : C19_src_weekday_set_rs_fn_insert =
    ["&", "self", "v1", "Weekday", "->", "bool", "if", "self", "contains(", "v1", "return", "false", "self", "|=", "Self", "single(", "v1", "true"] := rfl

/-- src/weekday_set.rs:fn intersection -/
theorem src_weekday_set_rs_fn_intersection : C19_src_weekday_set_rs_fn_intersection =
    ["self", "v1", "Self", "->", "Self", "Self(", "self", "&", "v1"] := rfl

/-- src/weekday_set.rs:fn is_empty -/
theorem src_weekday_set_rs_fn_is_empty : C19_src_weekday_set_rs_fn_is_empty =
    ["self", "->", "bool", "self", "len(", "==", "0"] := rfl

/-- src/weekday_set.rs:fn is_subset -/
theorem src_weekday_set_rs_fn_is_subset : C19_src_weekday_set_rs_fn_is_subset =
    ["self", "v1", "Self", "->", "bool", "self", "intersection(", "v1", "==", "self"] := rfl

/-- src/weekday_set.rs:fn iter -/
theorem src_weekday_set_rs_fn_iter : C19_src_weekday_set_rs_fn_iter =
    ["self", "v1", "Weekday", "->", "WeekdaySetIter", "WeekdaySetIter", "v2", "self", "v1"] := rfl

/-- src/weekday_set.rs:fn last -/
theorem src_weekday_set_rs_fn_last : C19_src_weekday_set_rs_fn_last =
    ["self", "->", "Option", "<", "Weekday", ">", "if", "self", "is_empty(", "return", "None", "v1", "1", "<<", "7", "-", "self", "leading_zeros(", "Self(", "v1", "single_day("] := rfl

/-- src/weekday_set.rs:fn len -/
theorem src_weekday_set_rs_fn_len : C19_src_weekday_set_rs_fn_len =
    ["self", "->", "u8", "self", "count_ones(", "as", "u8", "§", "&", "self", "->", "usize", "self", "v1", "len(", "into("] := rfl

/-- src/weekday_set.rs:fn next -/
theorem src_weekday_set_rs_fn_next : C19_src_weekday_set_rs_fn_next =
    ["&", "self", "->", "Option", "<", "Self", "Item", ">", "if", "self", "v1", "is_empty(", "return", "None", "let(", "v2", "v3", "self", "v1", "split_at(", "self", "v4", "v1", "if", "v3", "is_empty(", "v2", "else", "v3", "v5", "v1", "first(", "expect(", "\"…\"", "self", "v1", "remove(", "v5", "Some(", "v5"] := rfl

/-- src/weekday_set.rs:fn next_back -/
theorem src_weekday_set_rs_fn_next_back : C19_src_weekday_set_rs_fn_next_back =
    ["&", "self", "->", "Option", "<", "Self", "Item", ">", "if", "self", "v1", "is_empty(", "return", "None", "let(", "v2", "v3", "self", "v1", "split_at(", "self", "v4", "v1", "if", "v2", "is_empty(", "v3", "else", "v2", "v5", "v1", "last(", "expect(", "\"…\"", "self", "v1", "remove(", "v5", "Some(", "v5"] := rfl

/-- src/weekday_set.rs:fn remove -/
theorem src_weekday_set_rs_fn_remove : C19_src_weekday_set_rs_fn_remove =
    ["&", "self", "v1", "Weekday", "->", "bool", "if", "self", "contains(", "v1", "self", "&=", "!", "Self", "single(", "v1", "return", "true", "false"] := rfl

/-- src/weekday_set.rs:fn single -/
theorem src_weekday_set_rs_fn_single : C19_src_weekday_set_rs_fn_single =
    ["v1", "Weekday", "->", "Self", "match", "v1", "Weekday", "Mon", "=>", "Self(", "1", "Weekday", "Tue", "=>", "Self(", "2", "Weekday", "Wed", "=>", "Self(", "4", "Weekday", "Thu", "=>", "Self(", "8", "Weekday", "Fri", "=>", "Self(", "16", "Weekday", "Sat", "=>", "Self(", "32", "Weekday", "Sun", "=>", "Self(", "64"] := rfl

/-- src/weekday_set.rs:fn single_day -/
theorem src_weekday_set_rs_fn_single_day : C19_src_weekday_set_rs_fn_single_day =
    ["self", "->", "Option", "<", "Weekday", ">", "match", "self", "Self(", "1", "=>", "Some(", "Weekday", "Mon", "Self(", "2", "=>", "Some(", "Weekday", "Tue", "Self(", "4", "=>", "Some(", "Weekday", "Wed", "Self(", "8", "=>", "Some(", "Weekday", "Thu", "Self(", "16", "=>", "Some(", "Weekday", "Fri", "Self(", "32", "=>", "Some(", "Weekday", "Sat", "Self(", "64", "=>", "Some(", "Weekday", "Sun", "v1", "=>", "None"] := rfl

/-- src/weekday_set.rs:fn split_at -/
theorem src_weekday_set_rs_fn_split_at : C19_src_weekday_set_rs_fn_split_at =
    ["self", "v1", "Weekday", "->", "Self", "Self", "v2", "128", "-", "Self", "single(", "v1", "v3", "v2", "^", "127", "Self(", "self", "&", "v3", "Self(", "self", "&", "v2"] := rfl

/-- src/weekday_set.rs:fn symmetric_difference -/
theorem src_weekday_set_rs_fn_symmetric_difference : C19_src_weekday_set_rs_fn_symmetric_difference =
    ["self", "v1", "Self", "->", "Self", "Self(", "self", "^", "v1"] := rfl

/-- src/weekday_set.rs:fn union -/
theorem src_weekday_set_rs_fn_union : C19_src_weekday_set_rs_fn_union =
    ["self", "v1", "Self", "->", "Self", "Self(", "self", "|", "v1"] := rfl

/-- src/weekday_set.rs:type Display -/
theorem src_weekday_set_rs_type_Display : C19_src_weekday_set_rs_type_Display =
    ["v1", "Display", "for", "WeekdaySet", "fmt(", "&", "self", "v2", "&", "v3", "v1", "Formatter", "<", ">", "->", "v3", "v1", "Result", "write!(", "v2", "\"[\"", "?", "v4", "self", "iter(", "Weekday", "Mon", "if", "Some(", "v5", "v4", "next(", "write!(", "v2", "\"{first}\"", "?", "for", "v6", "in", "v4", "write!(", "v2", "\", {weekday}\"", "?", "write!(", "v2", "\"]\""] := rfl

/-- src/weekday_set.rs:type FromIterator -/
theorem src_weekday_set_rs_type_FromIterator : C19_src_weekday_set_rs_type_FromIterator =
    ["FromIterator", "<", "Weekday", ">", "for", "WeekdaySet", "v1", "<", "T", "IntoIterator", "<", "Item", "Weekday", ">>", "v2", "T", "->", "Self", "v2", "into_iter(", "map(", "Self", "v3", "fold(", "Self", "EMPTY", "Self", "v4"] := rfl

/-- callee src/format/scan.rs:fn short_month0 -/
theorem callee_src_format_scan_rs_fn_short_month0 : C19_callee_src_format_scan_rs_fn_short_month0 =
    ["v1", "&", "str", "->", "ParseResult", "<", "&", "str", "u8", ">", "if", "v1", "len(", "<", "3", "return", "Err(", "TOO_SHORT", "v2", "v1", "as_bytes(", "v3", "match(", "v2", "0", "|", "32", "v2", "1", "|", "32", "v2", "2", "|", "32", "b'j'", "b'a'", "b'n'", "=>", "0", "b'f'", "b'e'", "b'b'", "=>", "1", "b'm'", "b'a'", "b'r'", "=>", "2", "b'a'", "b'p'", "b'r'", "=>", "3", "b'm'", "b'a'", "b'y'", "=>", "4", "b'j'", "b'u'", "b'n'", "=>", "5", "b'j'", "b'u'", "b'l'", "=>", "6", "b'a'", "b'u'", "b'g'", "=>", "7", "b's'", "b'e'", "b'p'", "=>", "8", "b'o'", "b'c'", "b't'", "=>", "9", "b'n'", "b'o'", "b'v'", "=>", "10", "b'd'", "b'e'", "b'c'", "=>", "11", "v4", "=>", "return", "Err(", "INVALID", "Ok(", "&", "v1", "3", "..", "v3"] := rfl

/-- callee src/format/scan.rs:fn short_weekday -/
theorem callee_src_format_scan_rs_fn_short_weekday : C19_callee_src_format_scan_rs_fn_short_weekday =
    ["v1", "&", "str", "->", "ParseResult", "<", "&", "str", "Weekday", ">", "if", "v1", "len(", "<", "3", "return", "Err(", "TOO_SHORT", "v2", "v1", "as_bytes(", "v3", "match(", "v2", "0", "|", "32", "v2", "1", "|", "32", "v2", "2", "|", "32", "b'm'", "b'o'", "b'n'", "=>", "Weekday", "Mon", "b't'", "b'u'", "b'e'", "=>", "Weekday", "Tue", "b'w'", "b'e'", "b'd'", "=>", "Weekday", "Wed", "b't'", "b'h'", "b'u'", "=>", "Weekday", "Thu", "b'f'", "b'r'", "b'i'", "=>", "Weekday", "Fri", "b's'", "b'a'", "b't'", "=>", "Weekday", "Sat", "b's'", "b'u'", "b'n'", "=>", "Weekday", "Sun", "v4", "=>", "return", "Err(", "INVALID", "Ok(", "&", "v1", "3", "..", "v3"] := rfl

/-- callee src/month.rs:fn from_u32 -/
theorem callee_src_month_rs_fn_from_u32 : C19_callee_src_month_rs_fn_from_u32 =
    ["v1", "u32", "->", "Option", "<", "Month", ">", "match", "v1", "1", "=>", "Some(", "Month", "January", "2", "=>", "Some(", "Month", "February", "3", "=>", "Some(", "Month", "March", "4", "=>", "Some(", "Month", "April", "5", "=>", "Some(", "Month", "May", "6", "=>", "Some(", "Month", "June", "7", "=>", "Some(", "Month", "July", "8", "=>", "Some(", "Month", "August", "9", "=>", "Some(", "Month", "September", "10", "=>", "Some(", "Month", "October", "11", "=>", "Some(", "Month", "November", "12", "=>", "Some(", "Month", "December", "v2", "=>", "None"] := rfl

/-- callee src/naive/date/mod.rs:fn from_mdf -/
theorem callee_src_naive_date_mod_rs_fn_from_mdf : C19_callee_src_naive_date_mod_rs_fn_from_mdf =
    ["v1", "i32", "v2", "Mdf", "->", "Option", "<", "NaiveDate", ">", "if", "v1", "<", "MIN_YEAR", "||", "v1", ">", "MAX_YEAR", "return", "None", "Some(", "NaiveDate", "from_yof(", "v1", "<<", "13", "|", "try_opt!(", "v2", "ordinal_and_flags("] := rfl

/-- callee src/naive/date/mod.rs:fn from_ymd_opt -/
theorem callee_src_naive_date_mod_rs_fn_from_ymd_opt : C19_callee_src_naive_date_mod_rs_fn_from_ymd_opt =
    ["v1", "i32", "v2", "u32", "v3", "u32", "->", "Option", "<", "NaiveDate", ">", "v4", "YearFlags", "from_year(", "v1", "if", "Some(", "v5", "Mdf", "new(", "v2", "v3", "v4", "NaiveDate", "from_mdf(", "v1", "v5", "else", "None"] := rfl

/-- callee src/naive/date/mod.rs:fn leap_year -/
theorem callee_src_naive_date_mod_rs_fn_leap_year : C19_callee_src_naive_date_mod_rs_fn_leap_year =
    ["&", "self", "->", "bool", "self", "yof(", "&", "8", "==", "0"] := rfl

/-- callee src/naive/date/mod.rs:fn yof -/
theorem callee_src_naive_date_mod_rs_fn_yof : C19_callee_src_naive_date_mod_rs_fn_yof =
    ["&", "self", "->", "i32", "self", "v1", "get("] := rfl

/-- callee src/naive/internals.rs:fn from_year -/
theorem callee_src_naive_internals_rs_fn_from_year : C19_callee_src_naive_internals_rs_fn_from_year =
    ["v1", "i32", "->", "YearFlags", "v1", "v1", "rem_euclid(", "400", "YearFlags", "from_year_mod_400(", "v1"] := rfl

/-- callee src/naive/internals.rs:fn from_year_mod_400 -/
theorem callee_src_naive_internals_rs_fn_from_year_mod_400 : C19_callee_src_naive_internals_rs_fn_from_year_mod_400 =
    ["v1", "i32", "->", "YearFlags", "YEAR_TO_FLAGS", "v1", "as", "usize"] := rfl

/-- callee src/naive/internals.rs:fn ordinal_and_flags -/
theorem callee_src_naive_internals_rs_fn_ordinal_and_flags : C19_callee_src_naive_internals_rs_fn_ordinal_and_flags =
    ["&", "self", "->", "Option", "<", "i32", ">", "v1", "self", ">>", "3", "match", "MDL_TO_OL", "v1", "as", "usize", "XX", "=>", "None", "v2", "=>", "Some(", "self", "as", "i32", "-", "v2", "as", "i32", "<<", "3"] := rfl

end Chrono.Pins.C19
