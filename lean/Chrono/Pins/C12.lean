/-
  PINS of property C12: the decision tokens of every item the property is anchored in
  (properties.jsonl `anchors` + tools/anchor_extra.json), as they were in /repo at b30ed81 when the
  model was validated against the source.  Written by tools/pin_anchors.py; the right-hand sides are
  compared by the kernel with lean/Chrono/Extracted/Anchors.lean, which tools/extractors/anchors.py
  regenerates from /repo's working tree on every check.  A theorem that fails here means: anchored
  code changed; the hand-written model may no longer mirror it.
-/
import Chrono.Extracted.Anchors
namespace Chrono.Pins.C12
open Chrono.Extracted.Anchors

/-- src/datetime/mod.rs:fn format -/
theorem src_datetime_mod_rs_fn_format : C12_src_datetime_mod_rs_fn_format =
    ["<", ">", "&", "self", "v1", "&", "str", "->", "DelayedFormat", "<", "StrftimeItems", "<", ">>", "self", "format_with_items(", "StrftimeItems", "new(", "v1"] := rfl

/-- src/datetime/mod.rs:fn format_with_items -/
theorem src_datetime_mod_rs_fn_format_with_items : C12_src_datetime_mod_rs_fn_format_with_items =
    ["<", "I", "B", ">", "&", "self", "v1", "I", "->", "DelayedFormat", "<", "I", ">", "I", "Iterator", "<", "Item", "B", ">", "+", "Clone", "B", "Borrow", "<", "Item", "<", ">>", "v2", "self", "overflowing_naive_local(", "DelayedFormat", "new_with_offset(", "Some(", "v2", "date(", "Some(", "v2", "time(", "&", "self", "v3", "v1"] := rfl

/-- src/format/formatting.rs:fn format -/
theorem src_format_formatting_rs_fn_format : C12_src_format_formatting_rs_fn_format =
    ["<", "I", "B", ">", "v1", "&", "v2", "Formatter", "v3", "Option", "<", "&", "NaiveDate", ">", "v4", "Option", "<", "&", "NaiveTime", ">", "v5", "Option", "<", "&", "String", "FixedOffset", ">", "v6", "I", "->", "v2", "Result", "I", "Iterator", "<", "Item", "B", ">", "+", "Clone", "B", "Borrow", "<", "Item", "<", ">>", "DelayedFormat", "v3", "v3", "copied(", "v4", "v4", "copied(", "v5", "v5", "cloned(", "v6", "v7", "default_locale(", "fmt(", "v1", "§", "&", "self", "v1", "&", "Write", "v2", "FixedOffset", "->", "v3", "Result", "v2", "v2", "local_minus_utc(", "if", "self", "v4", "&&", "v2", "==", "0", "v1", "write_char(", "'Z'", "?", "return", "Ok(", "let(", "v5", "v2", "if", "v2", "<", "0", "'-'", "-", "v2", "else", "'+'", "v2", "v6", "v7", "0", "v8", "0", "v9", "match", "self", "v9", "OffsetPrecision", "Hours", "=>", "v6", "v2", "/", "3600", "as", "u8", "OffsetPrecision", "Hours", "OffsetPrecision", "Minutes", "|", "OffsetPrecision", "OptionalMinutes", "=>", "v10", "v2", "+", "30", "/", "60", "v7", "v10", "%", "60", "as", "u8", "v6", "v10", "/", "60", "as", "u8", "if", "self", "v9", "==", "OffsetPrecision", "OptionalMinutes", "&&", "v7", "==", "0", "OffsetPrecision", "Hours", "else", "OffsetPrecision", "Minutes", "OffsetPrecision", "Seconds", "|", "OffsetPrecision", "OptionalSeconds", "|", "OffsetPrecision", "OptionalMinutesAndSeconds", "=>", "v10", "v2", "/", "60", "v8", "v2", "%", "60", "as", "u8", "v7", "v10", "%", "60", "as", "u8", "v6", "v10", "/", "60", "as", "u8", "if", "self", "v9", "!=", "OffsetPrecision", "Seconds", "&&", "v8", "==", "0", "if", "self", "v9", "==", "OffsetPrecision", "OptionalMinutesAndSeconds", "&&", "v7", "==", "0", "OffsetPrecision", "Hours", "else", "OffsetPrecision", "Minutes", "else", "OffsetPrecision", "Seconds", "v11", "self", "v11", "==", "Colons", "Colon", "if", "v6", "<", "10", "if", "self", "v12", "==", "Pad", "Space", "v1", "write_char(", "' '", "?", "v1", "write_char(", "v5", "?", "if", "self", "v12", "==", "Pad", "Zero", "v1", "write_char(", "'0'", "?", "v1", "write_char(", "b'0'", "+", "v6", "as", "char", "?", "else", "v1", "write_char(", "v5", "?", "write_hundreds(", "v1", "v6", "?", "if", "OffsetPrecision", "Minutes", "|", "OffsetPrecision", "Seconds", "v9", "if", "v11", "v1", "write_char(", "':'", "?", "write_hundreds(", "v1", "v7", "?", "if", "OffsetPrecision", "Seconds", "v9", "if", "v11", "v1", "write_char(", "':'", "?", "write_hundreds(", "v1", "v8", "?", "Ok("] := rfl

/-- src/format/formatting.rs:fn format_fixed -/
theorem src_format_formatting_rs_fn_format_fixed : C12_src_format_formatting_rs_fn_format_fixed =
    ["&", "self", "v1", "&", "Write", "v2", "&", "Fixed", "->", "v3", "Result", "Fixed", "*", "InternalInternal", "*", "match(", "v2", "self", "v4", "self", "v5", "self", "v6", "as_ref(", "ShortMonthName", "Some(", "v7", "v8", "v8", "=>", "v1", "write_str(", "short_months(", "self", "v9", "v7", "month0(", "as", "usize", "LongMonthName", "Some(", "v7", "v8", "v8", "=>", "v1", "write_str(", "long_months(", "self", "v9", "v7", "month0(", "as", "usize", "ShortWeekdayName", "Some(", "v7", "v8", "v8", "=>", "v1", "write_str(", "short_weekdays(", "self", "v9", "v7", "weekday(", "num_days_from_sunday(", "as", "usize", "LongWeekdayName", "Some(", "v7", "v8", "v8", "=>", "v1", "write_str(", "long_weekdays(", "self", "v9", "v7", "weekday(", "num_days_from_sunday(", "as", "usize", "LowerAmPm", "v8", "Some(", "v10", "v8", "=>", "v11", "if", "v10", "hour12(", "am_pm(", "self", "v9", "1", "else", "am_pm(", "self", "v9", "0", "for", "v12", "in", "v11", "chars(", "flat_map(", "|", "v12", "|", "v12", "to_lowercase(", "v1", "write_char(", "v12", "?", "Ok(", "UpperAmPm", "v8", "Some(", "v10", "v8", "=>", "v11", "if", "v10", "hour12(", "am_pm(", "self", "v9", "1", "else", "am_pm(", "self", "v9", "0", "v1", "write_str(", "v11", "Nanosecond", "v8", "Some(", "v10", "v8", "=>", "v13", "v10", "nanosecond(", "%", "1000000000", "if", "v13", "==", "0", "Ok(", "else", "v1", "write_str(", "decimal_point(", "self", "v9", "?", "if", "v13", "%", "1000000", "==", "0", "write!(", "v1", "\"{:03}\"", "v13", "/", "1000000", "else", "if", "v13", "%", "1000", "==", "0", "write!(", "v1", "\"{:06}\"", "v13", "/", "1000", "else", "write!(", "v1", "\"{:09}\"", "v13", "Nanosecond3", "v8", "Some(", "v10", "v8", "=>", "v1", "write_str(", "decimal_point(", "self", "v9", "?", "write!(", "v1", "\"{:03}\"", "v10", "nanosecond(", "/", "1000000", "%", "1000", "Nanosecond6", "v8", "Some(", "v10", "v8", "=>", "v1", "write_str(", "decimal_point(", "self", "v9", "?", "write!(", "v1", "\"{:06}\"", "v10", "nanosecond(", "/", "1000", "%", "1000000", "Nanosecond9", "v8", "Some(", "v10", "v8", "=>", "v1", "write_str(", "decimal_point(", "self", "v9", "?", "write!(", "v1", "\"{:09}\"", "v10", "nanosecond(", "%", "1000000000", "Internal(", "InternalFixed", "v14", "Nanosecond3NoDot", "v8", "Some(", "v10", "v8", "=>", "write!(", "v1", "\"{:03}\"", "v10", "nanosecond(", "/", "1000000", "%", "1000", "Internal(", "InternalFixed", "v14", "Nanosecond6NoDot", "v8", "Some(", "v10", "v8", "=>", "write!(", "v1", "\"{:06}\"", "v10", "nanosecond(", "/", "1000", "%", "1000000", "Internal(", "InternalFixed", "v14", "Nanosecond9NoDot", "v8", "Some(", "v10", "v8", "=>", "write!(", "v1", "\"{:09}\"", "v10", "nanosecond(", "%", "1000000000", "TimezoneName", "v8", "v8", "Some(", "v15", "v8", "=>", "write!(", "v1", "\"{}\"", "v15", "TimezoneOffset", "|", "TimezoneOffsetZ", "v8", "v8", "Some(", "v8", "v6", "=>", "v16", "OffsetFormat", "v17", "OffsetPrecision", "Minutes", "v18", "Colons", "Maybe", "v19", "*", "v2", "==", "TimezoneOffsetZ", "v20", "Pad", "Zero", "v16", "format(", "v1", "*", "v6", "TimezoneOffsetColon", "|", "TimezoneOffsetColonZ", "v8", "v8", "Some(", "v8", "v6", "=>", "v16", "OffsetFormat", "v17", "OffsetPrecision", "Minutes", "v18", "Colons", "Colon", "v19", "*", "v2", "==", "TimezoneOffsetColonZ", "v20", "Pad", "Zero", "v16", "format(", "v1", "*", "v6", "TimezoneOffsetDoubleColon", "v8", "v8", "Some(", "v8", "v6", "=>", "v16", "OffsetFormat", "v17", "OffsetPrecision", "Seconds", "v18", "Colons", "Colon", "v19", "false", "v20", "Pad", "Zero", "v16", "format(", "v1", "*", "v6", "TimezoneOffsetTripleColon", "v8", "v8", "Some(", "v8", "v6", "=>", "v16", "OffsetFormat", "v17", "OffsetPrecision", "Hours", "v18", "Colons", "None", "v19", "false", "v20", "Pad", "Zero", "v16", "format(", "v1", "*", "v6", "RFC2822", "Some(", "v7", "Some(", "v10", "Some(", "v8", "v6", "=>", "write_rfc2822(", "v1", "NaiveDateTime", "new(", "v7", "v10", "*", "v6", "RFC3339", "Some(", "v7", "Some(", "v10", "Some(", "v8", "v6", "=>", "write_rfc3339(", "v1", "NaiveDateTime", "new(", "v7", "v10", "*", "v6", "SecondsFormat", "AutoSi", "false", "v8", "=>", "Err(", "v3", "Error"] := by decide +kernel

/-- src/format/formatting.rs:fn format_item -/
theorem src_format_formatting_rs_fn_format_item : C12_src_format_formatting_rs_fn_format_item =
    ["v1", "&", "v2", "Formatter", "v3", "Option", "<", "&", "NaiveDate", ">", "v4", "Option", "<", "&", "NaiveTime", ">", "v5", "Option", "<", "&", "String", "FixedOffset", ">", "v6", "&", "Item", "<", ">", "->", "v2", "Result", "DelayedFormat", "v3", "v3", "copied(", "v4", "v4", "copied(", "v5", "v5", "cloned(", "v7", "v6", "into_iter(", "v8", "default_locale(", "fmt(", "v1"] := rfl

/-- src/format/formatting.rs:fn format_numeric -/
theorem src_format_formatting_rs_fn_format_numeric : C12_src_format_formatting_rs_fn_format_numeric =
    ["&", "self", "v1", "&", "Write", "v2", "&", "Numeric", "v3", "Pad", "->", "v4", "Result", "self", "Numeric", "*", "write_one(", "v1", "&", "Write", "v5", "u8", "->", "v4", "Result", "v1", "write_char(", "b'0'", "+", "v5", "as", "char", "write_two(", "v1", "&", "Write", "v5", "u8", "v3", "Pad", "->", "v4", "Result", "v6", "b'0'", "+", "v5", "%", "10", "match(", "v5", "/", "10", "v3", "0", "Pad", "None", "=>", "0", "Pad", "Space", "=>", "v1", "write_char(", "' '", "?", "v7", "v8", "=>", "v1", "write_char(", "b'0'", "+", "v7", "as", "char", "?", "v1", "write_char(", "v6", "as", "char", "write_year(", "v1", "&", "Write", "v9", "i32", "v3", "Pad", "->", "v4", "Result", "if(", "1000", "..=", "9999", "contains(", "&", "v9", "write_hundreds(", "v1", "v9", "/", "100", "as", "u8", "?", "write_hundreds(", "v1", "v9", "%", "100", "as", "u8", "else", "write_n(", "v1", "4", "v9", "as", "i64", "v3", "!", "0", "..", "v10", "contains(", "&", "v9", "write_n(", "v1", "&", "Write", "v11", "usize", "v5", "i64", "v3", "Pad", "v12", "bool", "->", "v4", "Result", "if", "v12", "match", "v3", "Pad", "None", "=>", "write!(", "v1", "\"{:+}\"", "v5", "Pad", "Zero", "=>", "write!(", "v1", "\"{:+01$}\"", "v5", "v11", "+", "1", "Pad", "Space", "=>", "write!(", "v1", "\"{:+1$}\"", "v5", "v11", "+", "1", "else", "match", "v3", "Pad", "None", "=>", "write!(", "v1", "\"{}\"", "v5", "Pad", "Zero", "=>", "write!(", "v1", "\"{:01$}\"", "v5", "v11", "Pad", "Space", "=>", "write!(", "v1", "\"{:1$}\"", "v5", "v11", "match(", "v2", "self", "v13", "self", "v14", "Year", "Some(", "v15", "v8", "=>", "write_year(", "v1", "v15", "year(", "v3", "YearDiv100", "Some(", "v15", "v8", "=>", "write_n(", "v1", "2", "v15", "year(", "div_euclid(", "100", "as", "i64", "v3", "false", "YearMod100", "Some(", "v15", "v8", "=>", "write_two(", "v1", "v15", "year(", "rem_euclid(", "100", "as", "u8", "v3", "IsoYear", "Some(", "v15", "v8", "=>", "write_year(", "v1", "v15", "iso_week(", "year(", "v3", "IsoYearDiv100", "Some(", "v15", "v8", "=>", "write_n(", "v1", "2", "v15", "iso_week(", "year(", "div_euclid(", "100", "as", "i64", "v3", "false", "IsoYearMod100", "Some(", "v15", "v8", "=>", "write_two(", "v1", "v15", "iso_week(", "year(", "rem_euclid(", "100", "as", "u8", "v3", "Quarter", "Some(", "v15", "v8", "=>", "write_one(", "v1", "v15", "quarter(", "as", "u8", "Month", "Some(", "v15", "v8", "=>", "write_two(", "v1", "v15", "month(", "as", "u8", "v3", "Day", "Some(", "v15", "v8", "=>", "write_two(", "v1", "v15", "day(", "as", "u8", "v3", "WeekFromSun", "Some(", "v15", "v8", "=>", "write_two(", "v1", "v15", "weeks_from(", "Weekday", "Sun", "as", "u8", "v3", "WeekFromMon", "Some(", "v15", "v8", "=>", "write_two(", "v1", "v15", "weeks_from(", "Weekday", "Mon", "as", "u8", "v3", "IsoWeek", "Some(", "v15", "v8", "=>", "write_two(", "v1", "v15", "iso_week(", "week(", "as", "u8", "v3", "NumDaysFromSun", "Some(", "v15", "v8", "=>", "write_one(", "v1", "v15", "weekday(", "num_days_from_sunday(", "as", "u8", "WeekdayFromMon", "Some(", "v15", "v8", "=>", "write_one(", "v1", "v15", "weekday(", "number_from_monday(", "as", "u8", "Ordinal", "Some(", "v15", "v8", "=>", "write_n(", "v1", "3", "v15", "ordinal(", "as", "i64", "v3", "false", "Hour", "v8", "Some(", "v16", "=>", "write_two(", "v1", "v16", "hour(", "as", "u8", "v3", "Hour12", "v8", "Some(", "v16", "=>", "write_two(", "v1", "v16", "hour12(", "as", "u8", "v3", "Minute", "v8", "Some(", "v16", "=>", "write_two(", "v1", "v16", "minute(", "as", "u8", "v3", "Second", "v8", "Some(", "v16", "=>", "write_two(", "v1", "v16", "second(", "+", "v16", "nanosecond(", "/", "1000000000", "as", "u8", "v3", "Nanosecond", "v8", "Some(", "v16", "=>", "write_n(", "v1", "9", "v16", "nanosecond(", "%", "1000000000", "as", "i64", "v3", "false", "Timestamp", "Some(", "v15", "Some(", "v16", "=>", "v17", "self", "v18", "as_ref(", "map(", "|", "v8", "v19", "|", "i64", "from(", "v19", "local_minus_utc(", "v20", "v15", "and_time(", "v16", "and_utc(", "timestamp(", "-", "v17", "unwrap_or(", "0", "write_n(", "v1", "9", "v20", "v3", "false", "Internal(", "v8", "v8", "v8", "=>", "Ok(", "v8", "=>", "Err(", "v4", "Error"] := by decide +kernel

/-- src/format/formatting.rs:fn write_n -/
theorem src_format_formatting_rs_fn_write_n : C12_src_format_formatting_rs_fn_write_n =
    ["v1", "&", "Write", "v2", "usize", "v3", "i64", "v4", "Pad", "v5", "bool", "->", "v6", "Result", "if", "v5", "match", "v4", "Pad", "None", "=>", "write!(", "v1", "\"{:+}\"", "v3", "Pad", "Zero", "=>", "write!(", "v1", "\"{:+01$}\"", "v3", "v2", "+", "1", "Pad", "Space", "=>", "write!(", "v1", "\"{:+1$}\"", "v3", "v2", "+", "1", "else", "match", "v4", "Pad", "None", "=>", "write!(", "v1", "\"{}\"", "v3", "Pad", "Zero", "=>", "write!(", "v1", "\"{:01$}\"", "v3", "v2", "Pad", "Space", "=>", "write!(", "v1", "\"{:1$}\"", "v3", "v2"] := rfl

/-- src/format/formatting.rs:fn write_one -/
theorem src_format_formatting_rs_fn_write_one : C12_src_format_formatting_rs_fn_write_one =
    ["v1", "&", "Write", "v2", "u8", "->", "v3", "Result", "v1", "write_char(", "b'0'", "+", "v2", "as", "char"] := rfl

/-- src/format/formatting.rs:fn write_two -/
theorem src_format_formatting_rs_fn_write_two : C12_src_format_formatting_rs_fn_write_two =
    ["v1", "&", "Write", "v2", "u8", "v3", "Pad", "->", "v4", "Result", "v5", "b'0'", "+", "v2", "%", "10", "match(", "v2", "/", "10", "v3", "0", "Pad", "None", "=>", "0", "Pad", "Space", "=>", "v1", "write_char(", "' '", "?", "v6", "v7", "=>", "v1", "write_char(", "b'0'", "+", "v6", "as", "char", "?", "v1", "write_char(", "v5", "as", "char"] := rfl

/-- src/format/formatting.rs:fn write_year -/
theorem src_format_formatting_rs_fn_write_year : C12_src_format_formatting_rs_fn_write_year =
    ["v1", "&", "Write", "v2", "i32", "v3", "Pad", "->", "v4", "Result", "if(", "1000", "..=", "9999", "contains(", "&", "v2", "write_hundreds(", "v1", "v2", "/", "100", "as", "u8", "?", "write_hundreds(", "v1", "v2", "%", "100", "as", "u8", "else", "write_n(", "v1", "4", "v2", "as", "i64", "v3", "!", "0", "..", "v5", "contains(", "&", "v2"] := rfl

/-- src/format/locales.rs:fn am_pm -/
theorem src_format_locales_rs_fn_am_pm : C12_src_format_locales_rs_fn_am_pm =
    ["v1", "Locale", "->", "&", "&", "str", "locale_match!(", "v1", "=>", "LC_TIME", "AM_PM", "§", "v1", "Locale", "->", "&", "&", "str", "&", "\"AM\"", "\"PM\""] := rfl

/-- src/format/locales.rs:fn d_fmt -/
theorem src_format_locales_rs_fn_d_fmt : C12_src_format_locales_rs_fn_d_fmt =
    ["v1", "Locale", "->", "&", "str", "locale_match!(", "v1", "=>", "LC_TIME", "D_FMT"] := rfl

/-- src/format/locales.rs:fn d_t_fmt -/
theorem src_format_locales_rs_fn_d_t_fmt : C12_src_format_locales_rs_fn_d_t_fmt =
    ["v1", "Locale", "->", "&", "str", "locale_match!(", "v1", "=>", "LC_TIME", "D_T_FMT"] := rfl

/-- src/format/locales.rs:fn decimal_point -/
theorem src_format_locales_rs_fn_decimal_point : C12_src_format_locales_rs_fn_decimal_point =
    ["v1", "Locale", "->", "&", "str", "locale_match!(", "v1", "=>", "LC_NUMERIC", "DECIMAL_POINT", "§", "v1", "Locale", "->", "&", "str", "\".\""] := rfl

/-- src/format/locales.rs:fn default_locale -/
theorem src_format_locales_rs_fn_default_locale : C12_src_format_locales_rs_fn_default_locale =
    ["->", "Locale", "Locale", "POSIX", "§", "->", "Locale", "Locale"] := rfl

/-- src/format/locales.rs:fn long_months -/
theorem src_format_locales_rs_fn_long_months : C12_src_format_locales_rs_fn_long_months =
    ["v1", "Locale", "->", "&", "&", "str", "locale_match!(", "v1", "=>", "LC_TIME", "MON", "§", "v1", "Locale", "->", "&", "&", "str", "&", "\"January\"", "\"February\"", "\"March\"", "\"April\"", "\"May\"", "\"June\"", "\"July\"", "\"August\"", "\"September\"", "\"October\"", "\"November\"", "\"December\""] := rfl

/-- src/format/locales.rs:fn long_weekdays -/
theorem src_format_locales_rs_fn_long_weekdays : C12_src_format_locales_rs_fn_long_weekdays =
    ["v1", "Locale", "->", "&", "&", "str", "locale_match!(", "v1", "=>", "LC_TIME", "DAY", "§", "v1", "Locale", "->", "&", "&", "str", "&", "\"Sunday\"", "\"Monday\"", "\"Tuesday\"", "\"Wednesday\"", "\"Thursday\"", "\"Friday\"", "\"Saturday\""] := rfl

/-- src/format/locales.rs:fn short_months -/
theorem src_format_locales_rs_fn_short_months : C12_src_format_locales_rs_fn_short_months =
    ["v1", "Locale", "->", "&", "&", "str", "locale_match!(", "v1", "=>", "LC_TIME", "ABMON", "§", "v1", "Locale", "->", "&", "&", "str", "&", "\"Jan\"", "\"Feb\"", "\"Mar\"", "\"Apr\"", "\"May\"", "\"Jun\"", "\"Jul\"", "\"Aug\"", "\"Sep\"", "\"Oct\"", "\"Nov\"", "\"Dec\""] := rfl

/-- src/format/locales.rs:fn short_weekdays -/
theorem src_format_locales_rs_fn_short_weekdays : C12_src_format_locales_rs_fn_short_weekdays =
    ["v1", "Locale", "->", "&", "&", "str", "locale_match!(", "v1", "=>", "LC_TIME", "ABDAY", "§", "v1", "Locale", "->", "&", "&", "str", "&", "\"Sun\"", "\"Mon\"", "\"Tue\"", "\"Wed\"", "\"Thu\"", "\"Fri\"", "\"Sat\""] := rfl

/-- src/format/locales.rs:fn t_fmt -/
theorem src_format_locales_rs_fn_t_fmt : C12_src_format_locales_rs_fn_t_fmt =
    ["v1", "Locale", "->", "&", "str", "locale_match!(", "v1", "=>", "LC_TIME", "T_FMT"] := rfl

/-- src/format/locales.rs:fn t_fmt_ampm -/
theorem src_format_locales_rs_fn_t_fmt_ampm : C12_src_format_locales_rs_fn_t_fmt_ampm =
    ["v1", "Locale", "->", "&", "str", "locale_match!(", "v1", "=>", "LC_TIME", "T_FMT_AMPM"] := rfl

/-- src/format/strftime.rs:const D_FMT -/
theorem src_format_strftime_rs_const_D_FMT : C12_src_format_strftime_rs_const_D_FMT =
    ["&", "Item", "<", ">", "&", "num0(", "Month", "Literal(", "\"/\"", "num0(", "Day", "Literal(", "\"/\"", "num0(", "YearMod100"] := rfl

/-- src/format/strftime.rs:const D_T_FMT -/
theorem src_format_strftime_rs_const_D_T_FMT : C12_src_format_strftime_rs_const_D_T_FMT =
    ["&", "Item", "<", ">", "&", "fixed(", "Fixed", "ShortWeekdayName", "Space(", "\" \"", "fixed(", "Fixed", "ShortMonthName", "Space(", "\" \"", "nums(", "Day", "Space(", "\" \"", "num0(", "Hour", "Literal(", "\":\"", "num0(", "Minute", "Literal(", "\":\"", "num0(", "Second", "Space(", "\" \"", "num0(", "Year"] := rfl

/-- src/format/strftime.rs:const T_FMT -/
theorem src_format_strftime_rs_const_T_FMT : C12_src_format_strftime_rs_const_T_FMT =
    ["&", "Item", "<", ">", "&", "num0(", "Hour", "Literal(", "\":\"", "num0(", "Minute", "Literal(", "\":\"", "num0(", "Second"] := rfl

/-- src/format/strftime.rs:const T_FMT_AMPM -/
theorem src_format_strftime_rs_const_T_FMT_AMPM : C12_src_format_strftime_rs_const_T_FMT_AMPM =
    ["&", "Item", "<", ">", "&", "num0(", "Hour12", "Literal(", "\":\"", "num0(", "Minute", "Literal(", "\":\"", "num0(", "Second", "Space(", "\" \"", "fixed(", "Fixed", "UpperAmPm"] := rfl

/-- src/format/strftime.rs:fn parse_next_item -/
theorem src_format_strftime_rs_fn_parse_next_item : C12_src_format_strftime_rs_fn_parse_next_item =
    ["&", "self", "v1", "&", "str", "->", "Option", "<", "&", "str", "Item", "<", ">", ">", "InternalInternal", "*", "Item", "Literal", "Space", "Numeric", "*", "D_FMT", "&", "Item", "<", ">", "&", "num0(", "Month", "Literal(", "\"/\"", "num0(", "Day", "Literal(", "\"/\"", "num0(", "YearMod100", "D_T_FMT", "&", "Item", "<", ">", "&", "fixed(", "Fixed", "ShortWeekdayName", "Space(", "\" \"", "fixed(", "Fixed", "ShortMonthName", "Space(", "\" \"", "nums(", "Day", "Space(", "\" \"", "num0(", "Hour", "Literal(", "\":\"", "num0(", "Minute", "Literal(", "\":\"", "num0(", "Second", "Space(", "\" \"", "num0(", "Year", "T_FMT", "&", "Item", "<", ">", "&", "num0(", "Hour", "Literal(", "\":\"", "num0(", "Minute", "Literal(", "\":\"", "num0(", "Second", "T_FMT_AMPM", "&", "Item", "<", ">", "&", "num0(", "Hour12", "Literal(", "\":\"", "num0(", "Minute", "Literal(", "\":\"", "num0(", "Second", "Space(", "\" \"", "fixed(", "Fixed", "UpperAmPm", "match", "v1", "chars(", "next(", "None", "=>", "None", "Some(", "'%'", "=>", "v2", "v1", "v1", "&", "v1", "1", "..", "v3", "0", "if", "self", "v4", "v3", "+=", "1", "v5", "!", "v6", "=>", "match", "v1", "chars(", "next(", "Some(", "v7", "=>", "v1", "&", "v1", "v7", "len_utf8(", "..", "if", "self", "v4", "v3", "+=", "v7", "len_utf8(", "v7", "None", "=>", "return", "Some(", "self", "error(", "v2", "&", "v3", "None", "v8", "next!(", "v9", "match", "v8", "'-'", "=>", "Some(", "Pad", "None", "'0'", "=>", "Some(", "Pad", "Zero", "'_'", "=>", "Some(", "Pad", "Space", "v10", "=>", "None", "v11", "v8", "==", "'#'", "v8", "if", "v9", "is_some(", "||", "v11", "next!(", "else", "v8", "if", "v11", "&&", "!", "HAVE_ALTERNATES", "contains(", "v8", "return", "Some(", "self", "error(", "v2", "&", "v3", "Some(", "v8", "v5", "!", "v12", "v13", "v14", "v15", "v14", "+", "*", "=>", "QUEUE", "&", "Item", "<", ">", "&", "v15", "+", "self", "v12", "QUEUE", "v13", "v5", "!", "v16", "v17", "v14", "=>", "self", "v12", "&", "v17", "1", "..", "v17", "0", "clone(", "v18", "match", "v8", "'A'", "=>", "fixed(", "Fixed", "LongWeekdayName", "'B'", "=>", "fixed(", "Fixed", "LongMonthName", "'C'", "=>", "num0(", "YearDiv100", "'D'", "=>", "v12", "!", "num0(", "Month", "Literal(", "\"/\"", "num0(", "Day", "Literal(", "\"/\"", "num0(", "YearMod100", "'F'", "=>", "v12", "!", "num0(", "Year", "Literal(", "\"-\"", "num0(", "Month", "Literal(", "\"-\"", "num0(", "Day", "'G'", "=>", "num0(", "IsoYear", "'H'", "=>", "num0(", "Hour", "'I'", "=>", "num0(", "Hour12", "'M'", "=>", "num0(", "Minute", "'P'", "=>", "fixed(", "Fixed", "LowerAmPm", "'R'", "=>", "v12", "!", "num0(", "Hour", "Literal(", "\":\"", "num0(", "Minute", "'S'", "=>", "num0(", "Second", "'T'", "=>", "v12", "!", "num0(", "Hour", "Literal(", "\":\"", "num0(", "Minute", "Literal(", "\":\"", "num0(", "Second", "'U'", "=>", "num0(", "WeekFromSun", "'V'", "=>", "num0(", "IsoWeek", "'W'", "=>", "num0(", "WeekFromMon", "'X'", "=>", "queue_from_slice!(", "T_FMT", "'X'", "=>", "self", "switch_to_locale_str(", "v19", "v20", "T_FMT", "'Y'", "=>", "num0(", "Year", "'Z'", "=>", "fixed(", "Fixed", "TimezoneName", "'a'", "=>", "fixed(", "Fixed", "ShortWeekdayName", "'b'", "|", "'h'", "=>", "fixed(", "Fixed", "ShortMonthName", "'c'", "=>", "queue_from_slice!(", "D_T_FMT", "'c'", "=>", "self", "switch_to_locale_str(", "v19", "v21", "D_T_FMT", "'d'", "=>", "num0(", "Day", "'e'", "=>", "nums(", "Day", "'f'", "=>", "num0(", "Nanosecond", "'g'", "=>", "num0(", "IsoYearMod100", "'j'", "=>", "num0(", "Ordinal", "'k'", "=>", "nums(", "Hour", "'l'", "=>", "nums(", "Hour12", "'m'", "=>", "num0(", "Month", "'n'", "=>", "Space(", "\"\\n\"", "'p'", "=>", "fixed(", "Fixed", "UpperAmPm", "'q'", "=>", "num(", "Quarter", "'r'", "=>", "queue_from_slice!(", "T_FMT_AMPM", "'r'", "=>", "if", "self", "v22", "is_some(", "&&", "v19", "t_fmt_ampm(", "self", "v22", "unwrap(", "is_empty(", "self", "switch_to_locale_str(", "v19", "v20", "T_FMT", "else", "self", "switch_to_locale_str(", "v19", "v23", "T_FMT_AMPM", "'s'", "=>", "num(", "Timestamp", "'t'", "=>", "Space(", "\"\\t\"", "'u'", "=>", "num(", "WeekdayFromMon", "'v'", "=>", "v12", "!", "nums(", "Day", "Literal(", "\"-\"", "fixed(", "Fixed", "ShortMonthName", "Literal(", "\"-\"", "num0(", "Year", "'w'", "=>", "num(", "NumDaysFromSun", "'x'", "=>", "queue_from_slice!(", "D_FMT", "'x'", "=>", "self", "switch_to_locale_str(", "v19", "v24", "D_FMT", "'y'", "=>", "num0(", "YearMod100", "'z'", "=>", "if", "v11", "internal_fixed(", "TimezoneOffsetPermissive", "else", "fixed(", "Fixed", "TimezoneOffset", "'+'", "=>", "fixed(", "Fixed", "RFC3339", "':'", "=>", "if", "v1", "starts_with(", "\"::z\"", "v1", "&", "v1", "3", "..", "fixed(", "Fixed", "TimezoneOffsetTripleColon", "else", "if", "v1", "starts_with(", "\":z\"", "v1", "&", "v1", "2", "..", "fixed(", "Fixed", "TimezoneOffsetDoubleColon", "else", "if", "v1", "starts_with(", "'z'", "v1", "&", "v1", "1", "..", "fixed(", "Fixed", "TimezoneOffsetColon", "else", "self", "error(", "v2", "&", "v3", "None", "'.'", "=>", "match", "next!(", "'3'", "=>", "match", "next!(", "'f'", "=>", "fixed(", "Fixed", "Nanosecond3", "v25", "=>", "v26", "self", "error(", "v2", "&", "v3", "Some(", "v25", "v1", "v26", "v26", "'6'", "=>", "match", "next!(", "'f'", "=>", "fixed(", "Fixed", "Nanosecond6", "v25", "=>", "v26", "self", "error(", "v2", "&", "v3", "Some(", "v25", "v1", "v26", "v26", "'9'", "=>", "match", "next!(", "'f'", "=>", "fixed(", "Fixed", "Nanosecond9", "v25", "=>", "v26", "self", "error(", "v2", "&", "v3", "Some(", "v25", "v1", "v26", "v26", "'f'", "=>", "fixed(", "Fixed", "Nanosecond", "v25", "=>", "v26", "self", "error(", "v2", "&", "v3", "Some(", "v25", "v1", "v26", "v26", "'3'", "=>", "match", "next!(", "'f'", "=>", "internal_fixed(", "Nanosecond3NoDot", "v25", "=>", "v26", "self", "error(", "v2", "&", "v3", "Some(", "v25", "v1", "v26", "v26", "'6'", "=>", "match", "next!(", "'f'", "=>", "internal_fixed(", "Nanosecond6NoDot", "v25", "=>", "v26", "self", "error(", "v2", "&", "v3", "Some(", "v25", "v1", "v26", "v26", "'9'", "=>", "match", "next!(", "'f'", "=>", "internal_fixed(", "Nanosecond9NoDot", "v25", "=>", "v26", "self", "error(", "v2", "&", "v3", "Some(", "v25", "v1", "v26", "v26", "'%'", "=>", "Literal(", "\"%\"", "v25", "=>", "v26", "self", "error(", "v2", "&", "v3", "Some(", "v25", "v1", "v26", "v26", "if", "Some(", "v27", "v9", "match", "v18", "Item", "Numeric(", "v28", "v29", "if", "self", "v12", "is_empty(", "=>", "Some(", "v1", "Item", "Numeric(", "v28", "clone(", "v27", "v10", "=>", "Some(", "self", "error(", "v2", "&", "v3", "None", "else", "Some(", "v1", "v18", "Some(", "v25", "if", "v25", "is_whitespace(", "=>", "v30", "v1", "find(", "|", "v25", "char", "|", "!", "v25", "is_whitespace(", "unwrap_or(", "v1", "len(", "assert!(", "v30", ">", "0", "v18", "Space(", "&", "v1", "..", "v30", "v1", "&", "v1", "v30", "..", "Some(", "v1", "v18", "v10", "=>", "v30", "v1", "find(", "|", "v25", "char", "|", "v25", "is_whitespace(", "||", "v25", "==", "'%'", "unwrap_or(", "v1", "len(", "assert!(", "v30", ">", "0", "v18", "Literal(", "&", "v1", "..", "v30", "v1", "&", "v1", "v30", "..", "Some(", "v1", "v18"] := by decide +kernel

/-- src/format/strftime.rs:fn switch_to_locale_str -/
theorem src_format_strftime_rs_fn_switch_to_locale_str : C12_src_format_strftime_rs_fn_switch_to_locale_str =
    ["&", "self", "v1", "Fn(", "Locale", "->", "&", "str", "v2", "&", "Item", "<", ">", "->", "Item", "<", ">", "if", "Some(", "v3", "self", "v3", "assert!(", "self", "v4", "is_empty(", "let(", "v5", "v6", "self", "parse_next_item(", "localized_fmt_str(", "v3", "unwrap(", "self", "v4", "v5", "v6", "else", "self", "v7", "&", "v2", "1", "..", "v2", "0", "clone("] := rfl

/-- src/format/strftime.rs:impl Iterator for StrftimeItems -/
theorem src_format_strftime_rs_impl_Iterator_for_StrftimeItems : C12_src_format_strftime_rs_impl_Iterator_for_StrftimeItems =
    ["<", ">", "Iterator", "for", "StrftimeItems", "<", ">", "Item", "Item", "<", ">", "next(", "&", "self", "->", "Option", "<", "Item", "<", ">>", "if", "Some(", "v1", "v2", "self", "v3", "split_first(", "self", "v3", "v2", "return", "Some(", "v1", "clone(", "if", "!", "self", "v4", "is_empty(", "let(", "v2", "v1", "self", "parse_next_item(", "self", "v4", "?", "self", "v4", "v2", "return", "Some(", "v1", "let(", "v2", "v1", "self", "parse_next_item(", "self", "v2", "?", "self", "v2", "v2", "Some(", "v1"] := rfl

/-- src/naive/date/mod.rs:fn format -/
theorem src_naive_date_mod_rs_fn_format : C12_src_naive_date_mod_rs_fn_format =
    ["<", ">", "&", "self", "v1", "&", "str", "->", "DelayedFormat", "<", "StrftimeItems", "<", ">>", "self", "format_with_items(", "StrftimeItems", "new(", "v1"] := rfl

/-- src/naive/date/mod.rs:fn format_with_items -/
theorem src_naive_date_mod_rs_fn_format_with_items : C12_src_naive_date_mod_rs_fn_format_with_items =
    ["<", "I", "B", ">", "&", "self", "v1", "I", "->", "DelayedFormat", "<", "I", ">", "I", "Iterator", "<", "Item", "B", ">", "+", "Clone", "B", "Borrow", "<", "Item", "<", ">>", "DelayedFormat", "new(", "Some(", "*", "self", "None", "v1"] := rfl

/-- src/naive/date/mod.rs:fn weeks_from -/
theorem src_naive_date_mod_rs_fn_weeks_from : C12_src_naive_date_mod_rs_fn_weeks_from =
    ["&", "self", "v1", "Weekday", "->", "i32", "self", "ordinal(", "as", "i32", "-", "self", "weekday(", "days_since(", "v1", "as", "i32", "+", "6", "/", "7"] := rfl

/-- src/naive/datetime/mod.rs:fn format -/
theorem src_naive_datetime_mod_rs_fn_format : C12_src_naive_datetime_mod_rs_fn_format =
    ["<", ">", "&", "self", "v1", "&", "str", "->", "DelayedFormat", "<", "StrftimeItems", "<", ">>", "self", "format_with_items(", "StrftimeItems", "new(", "v1"] := rfl

/-- src/naive/datetime/mod.rs:fn format_with_items -/
theorem src_naive_datetime_mod_rs_fn_format_with_items : C12_src_naive_datetime_mod_rs_fn_format_with_items =
    ["<", "I", "B", ">", "&", "self", "v1", "I", "->", "DelayedFormat", "<", "I", ">", "I", "Iterator", "<", "Item", "B", ">", "+", "Clone", "B", "Borrow", "<", "Item", "<", ">>", "DelayedFormat", "new(", "Some(", "self", "v2", "Some(", "self", "v3", "v1"] := rfl

/-- src/naive/isoweek.rs:fn from_yof -/
theorem src_naive_isoweek_rs_fn_from_yof : C12_src_naive_isoweek_rs_fn_from_yof =
    ["v1", "i32", "v2", "u32", "v3", "YearFlags", "->", "Self", "v4", "v2", "+", "v3", "isoweek_delta(", "/", "7", "let(", "v1", "v5", "if", "v4", "<", "1", "v6", "YearFlags", "from_year(", "v1", "-", "1", "nisoweeks(", "v1", "-", "1", "v6", "else", "v7", "v3", "nisoweeks(", "if", "v4", ">", "v7", "v1", "+", "1", "1", "else", "v1", "v4", "v8", "YearFlags", "from_year(", "v1", "IsoWeek", "v9", "v1", "<<", "10", "|", "v5", "<<", "4", "as", "i32", "|", "i32", "from(", "v8"] := rfl

/-- src/naive/time/mod.rs:fn format -/
theorem src_naive_time_mod_rs_fn_format : C12_src_naive_time_mod_rs_fn_format =
    ["<", ">", "&", "self", "v1", "&", "str", "->", "DelayedFormat", "<", "StrftimeItems", "<", ">>", "self", "format_with_items(", "StrftimeItems", "new(", "v1"] := rfl

/-- src/naive/time/mod.rs:fn format_with_items -/
theorem src_naive_time_mod_rs_fn_format_with_items : C12_src_naive_time_mod_rs_fn_format_with_items =
    ["<", "I", "B", ">", "&", "self", "v1", "I", "->", "DelayedFormat", "<", "I", ">", "I", "Iterator", "<", "Item", "B", ">", "+", "Clone", "B", "Borrow", "<", "Item", "<", ">>", "DelayedFormat", "new(", "None", "Some(", "*", "self", "v1"] := rfl

/-- src/traits.rs:fn hour12 -/
theorem src_traits_rs_fn_hour12 : C12_src_traits_rs_fn_hour12 =
    ["&", "self", "->", "bool", "u32", "v1", "self", "hour(", "v2", "v1", "%", "12", "if", "v2", "==", "0", "v2", "12", "v1", ">=", "12", "v2"] := rfl

/-- callee src/datetime/mod.rs:fn from_naive_utc_and_offset -/
theorem callee_src_datetime_mod_rs_fn_from_naive_utc_and_offset : C12_callee_src_datetime_mod_rs_fn_from_naive_utc_and_offset =
    ["v1", "NaiveDateTime", "v2", "Tz", "Offset", "->", "DateTime", "<", "Tz", ">", "DateTime", "v1", "v2"] := rfl

/-- callee src/datetime/mod.rs:fn overflowing_naive_local -/
theorem callee_src_datetime_mod_rs_fn_overflowing_naive_local : C12_callee_src_datetime_mod_rs_fn_overflowing_naive_local =
    ["&", "self", "->", "NaiveDateTime", "self", "v1", "overflowing_add_offset(", "self", "v2", "fix("] := rfl

/-- callee src/format/formatting.rs:fn new_with_offset -/
theorem callee_src_format_formatting_rs_fn_new_with_offset : C12_callee_src_format_formatting_rs_fn_new_with_offset =
    ["<", "Off", ">", "v1", "Option", "<", "NaiveDate", ">", "v2", "Option", "<", "NaiveTime", ">", "v3", "&", "Off", "v4", "I", "->", "DelayedFormat", "<", "I", ">", "Off", "Offset", "+", "Display", "v5", "v3", "to_string(", "v3", "fix(", "DelayedFormat", "v1", "v2", "v6", "Some(", "v5", "v4", "v7", "default_locale("] := rfl

/-- callee src/format/formatting.rs:fn write_hundreds -/
theorem callee_src_format_formatting_rs_fn_write_hundreds : C12_callee_src_format_formatting_rs_fn_write_hundreds =
    ["v1", "&", "Write", "v2", "u8", "->", "v3", "Result", "if", "v2", ">=", "100", "return", "Err(", "v3", "Error", "v4", "b'0'", "+", "v2", "/", "10", "v5", "b'0'", "+", "v2", "%", "10", "v1", "write_char(", "v4", "as", "char", "?", "v1", "write_char(", "v5", "as", "char"] := rfl

/-- callee src/format/formatting.rs:fn write_rfc2822 -/
theorem callee_src_format_formatting_rs_fn_write_rfc2822 : C12_callee_src_format_formatting_rs_fn_write_rfc2822 =
    ["v1", "&", "Write", "v2", "NaiveDateTime", "v3", "FixedOffset", "->", "v4", "Result", "v5", "v2", "year(", "if!(", "0", "..=", "9999", "contains(", "&", "v5", "return", "Err(", "v4", "Error", "v6", "default_locale(", "v1", "write_str(", "short_weekdays(", "v6", "v2", "weekday(", "num_days_from_sunday(", "as", "usize", "?", "v1", "write_str(", "\", \"", "?", "v7", "v2", "day(", "if", "v7", "<", "10", "v1", "write_char(", "b'0'", "+", "v7", "as", "u8", "as", "char", "?", "else", "write_hundreds(", "v1", "v7", "as", "u8", "?", "v1", "write_char(", "' '", "?", "v1", "write_str(", "short_months(", "v6", "v2", "month0(", "as", "usize", "?", "v1", "write_char(", "' '", "?", "write_hundreds(", "v1", "v5", "/", "100", "as", "u8", "?", "write_hundreds(", "v1", "v5", "%", "100", "as", "u8", "?", "v1", "write_char(", "' '", "?", "let(", "v8", "v9", "v10", "v2", "time(", "hms(", "write_hundreds(", "v1", "v8", "as", "u8", "?", "v1", "write_char(", "':'", "?", "write_hundreds(", "v1", "v9", "as", "u8", "?", "v1", "write_char(", "':'", "?", "v10", "v10", "+", "v2", "nanosecond(", "/", "1000000000", "write_hundreds(", "v1", "v10", "as", "u8", "?", "v1", "write_char(", "' '", "?", "OffsetFormat", "v11", "OffsetPrecision", "Minutes", "v12", "Colons", "None", "v13", "false", "v14", "Pad", "Zero", "format(", "v1", "v3"] := rfl

/-- callee src/format/formatting.rs:fn write_rfc3339 -/
theorem callee_src_format_formatting_rs_fn_write_rfc3339 : C12_callee_src_format_formatting_rs_fn_write_rfc3339 =
    ["v1", "&", "Write", "v2", "NaiveDateTime", "v3", "FixedOffset", "v4", "SecondsFormat", "v5", "bool", "->", "v6", "Result", "v7", "v2", "date(", "year(", "if(", "0", "..=", "9999", "contains(", "&", "v7", "write_hundreds(", "v1", "v7", "/", "100", "as", "u8", "?", "write_hundreds(", "v1", "v7", "%", "100", "as", "u8", "?", "else", "write!(", "v1", "\"{:+05}\"", "v7", "?", "v1", "write_char(", "'-'", "?", "write_hundreds(", "v1", "v2", "date(", "month(", "as", "u8", "?", "v1", "write_char(", "'-'", "?", "write_hundreds(", "v1", "v2", "date(", "day(", "as", "u8", "?", "v1", "write_char(", "'T'", "?", "let(", "v8", "v9", "v10", "v2", "time(", "hms(", "v11", "v2", "nanosecond(", "if", "v11", ">=", "1000000000", "v10", "+=", "1", "v11", "-=", "1000000000", "write_hundreds(", "v1", "v8", "as", "u8", "?", "v1", "write_char(", "':'", "?", "write_hundreds(", "v1", "v9", "as", "u8", "?", "v1", "write_char(", "':'", "?", "v10", "v10", "write_hundreds(", "v1", "v10", "as", "u8", "?", "match", "v4", "SecondsFormat", "Secs", "=>", "SecondsFormat", "Millis", "=>", "write!(", "v1", "\".{:03}\"", "v11", "/", "1000000", "?", "SecondsFormat", "Micros", "=>", "write!(", "v1", "\".{:06}\"", "v11", "/", "1000", "?", "SecondsFormat", "Nanos", "=>", "write!(", "v1", "\".{:09}\"", "v11", "?", "SecondsFormat", "AutoSi", "=>", "if", "v11", "==", "0", "else", "if", "v11", "%", "1000000", "==", "0", "write!(", "v1", "\".{:03}\"", "v11", "/", "1000000", "?", "else", "if", "v11", "%", "1000", "==", "0", "write!(", "v1", "\".{:06}\"", "v11", "/", "1000", "?", "else", "write!(", "v1", "\".{:09}\"", "v11", "?", "SecondsFormat", "__NonExhaustive", "=>", "unreachable!(", "OffsetFormat", "v12", "OffsetPrecision", "Minutes", "v13", "Colons", "Colon", "v14", "v5", "v15", "Pad", "Zero", "format(", "v1", "v3"] := rfl

/-- callee src/format/mod.rs:fn internal_fixed -/
theorem callee_src_format_mod_rs_fn_internal_fixed : C12_callee_src_format_mod_rs_fn_internal_fixed =
    ["v1", "InternalInternal", "->", "Item", "<", ">", "Item", "Fixed(", "Fixed", "Internal(", "InternalFixed", "v1"] := rfl

/-- callee src/format/mod.rs:fn num -/
theorem callee_src_format_mod_rs_fn_num : C12_callee_src_format_mod_rs_fn_num =
    ["v1", "Numeric", "->", "Item", "<", ">", "Item", "Numeric(", "v1", "Pad", "None"] := rfl

/-- callee src/format/mod.rs:fn num0 -/
theorem callee_src_format_mod_rs_fn_num0 : C12_callee_src_format_mod_rs_fn_num0 =
    ["v1", "Numeric", "->", "Item", "<", ">", "Item", "Numeric(", "v1", "Pad", "Zero"] := rfl

/-- callee src/format/mod.rs:fn nums -/
theorem callee_src_format_mod_rs_fn_nums : C12_callee_src_format_mod_rs_fn_nums =
    ["v1", "Numeric", "->", "Item", "<", ">", "Item", "Numeric(", "v1", "Pad", "Space"] := rfl

/-- callee src/naive/datetime/mod.rs:fn and_utc -/
theorem callee_src_naive_datetime_mod_rs_fn_and_utc : C12_callee_src_naive_datetime_mod_rs_fn_and_utc =
    ["&", "self", "->", "DateTime", "<", "Utc", ">", "DateTime", "from_naive_utc_and_offset(", "*", "self", "Utc"] := rfl

/-- callee src/naive/internals.rs:fn from_year -/
theorem callee_src_naive_internals_rs_fn_from_year : C12_callee_src_naive_internals_rs_fn_from_year =
    ["v1", "i32", "->", "YearFlags", "v1", "v1", "rem_euclid(", "400", "YearFlags", "from_year_mod_400(", "v1"] := rfl

/-- callee src/naive/internals.rs:fn from_year_mod_400 -/
theorem callee_src_naive_internals_rs_fn_from_year_mod_400 : C12_callee_src_naive_internals_rs_fn_from_year_mod_400 =
    ["v1", "i32", "->", "YearFlags", "YEAR_TO_FLAGS", "v1", "as", "usize"] := rfl

/-- callee src/naive/internals.rs:fn isoweek_delta -/
theorem callee_src_naive_internals_rs_fn_isoweek_delta : C12_callee_src_naive_internals_rs_fn_isoweek_delta =
    ["&", "self", "->", "u32", "YearFlags(", "v1", "*", "self", "v2", "v1", "&", "7", "as", "u32", "if", "v2", "<", "3", "v2", "+=", "7", "v2"] := rfl

/-- callee src/naive/internals.rs:fn nisoweeks -/
theorem callee_src_naive_internals_rs_fn_nisoweeks : C12_callee_src_naive_internals_rs_fn_nisoweeks =
    ["&", "self", "->", "u32", "YearFlags(", "v1", "*", "self", "52", "+", "1030", ">>", "v1", "as", "usize", "&", "1"] := rfl

/-- callee src/naive/time/mod.rs:fn hms -/
theorem callee_src_naive_time_mod_rs_fn_hms : C12_callee_src_naive_time_mod_rs_fn_hms =
    ["&", "self", "->", "u32", "u32", "u32", "v1", "self", "v2", "%", "60", "v3", "self", "v2", "/", "60", "v4", "v3", "%", "60", "v5", "v3", "/", "60", "v5", "v4", "v1"] := rfl

/-- callee src/offset/fixed.rs:fn local_minus_utc -/
theorem callee_src_offset_fixed_rs_fn_local_minus_utc : C12_callee_src_offset_fixed_rs_fn_local_minus_utc =
    ["&", "self", "->", "i32", "self", "v1"] := rfl

/-- callee src/weekday.rs:fn days_since -/
theorem callee_src_weekday_rs_fn_days_since : C12_callee_src_weekday_rs_fn_days_since =
    ["&", "self", "v1", "Weekday", "->", "u32", "v2", "*", "self", "as", "u32", "v3", "v1", "as", "u32", "if", "v2", "<", "v3", "7", "+", "v2", "-", "v3", "else", "v2", "-", "v3"] := rfl

/-- callee src/weekday.rs:fn num_days_from_sunday -/
theorem callee_src_weekday_rs_fn_num_days_from_sunday : C12_callee_src_weekday_rs_fn_num_days_from_sunday =
    ["&", "self", "->", "u32", "self", "days_since(", "Weekday", "Sun"] := rfl

/-- callee src/weekday.rs:fn number_from_monday -/
theorem callee_src_weekday_rs_fn_number_from_monday : C12_callee_src_weekday_rs_fn_number_from_monday =
    ["&", "self", "->", "u32", "self", "days_since(", "Weekday", "Mon", "+", "1"] := rfl

end Chrono.Pins.C12
