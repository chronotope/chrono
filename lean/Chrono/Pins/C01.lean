/-
  PINS of property C01: the decision tokens of every item the property is anchored in
  (properties.jsonl `anchors` + tools/anchor_extra.json), as they were in /repo at 32de816 when the
  model was validated against the source.  Written by tools/pin_anchors.py; the right-hand sides are
  compared by the kernel with lean/Chrono/Extracted/Anchors.lean, which tools/extractors/anchors.py
  regenerates from /repo's working tree on every check.  A theorem that fails here means: anchored
  code changed; the hand-written model may no longer mirror it.
-/
import Chrono.Extracted.Anchors
namespace Chrono.Pins.C01
open Chrono.Extracted.Anchors

/-- src/naive/date/mod.rs:const MAX -/
theorem src_naive_date_mod_rs_const_MAX : C01_src_naive_date_mod_rs_const_MAX =
    ["NaiveDate", "NaiveDate", "from_yof(", "MAX_YEAR", "<<", "13", "|", "365", "<<", "4", "|", "14", "/", "*", "G", "*", "/"] := rfl

/-- src/naive/date/mod.rs:const MAX_YEAR -/
theorem src_naive_date_mod_rs_const_MAX_YEAR : C01_src_naive_date_mod_rs_const_MAX_YEAR =
    ["i32", "i32", "MAX", ">>", "13", "-", "1"] := rfl

/-- src/naive/date/mod.rs:const MIN -/
theorem src_naive_date_mod_rs_const_MIN : C01_src_naive_date_mod_rs_const_MIN =
    ["NaiveDate", "NaiveDate", "from_yof(", "MIN_YEAR", "<<", "13", "|", "1", "<<", "4", "|", "10", "/", "*", "D", "*", "/"] := rfl

/-- src/naive/date/mod.rs:const MIN_YEAR -/
theorem src_naive_date_mod_rs_const_MIN_YEAR : C01_src_naive_date_mod_rs_const_MIN_YEAR =
    ["i32", "i32", "MIN", ">>", "13", "+", "1"] := rfl

/-- src/naive/date/mod.rs:const YEAR_DELTAS -/
theorem src_naive_date_mod_rs_const_YEAR_DELTAS : C01_src_naive_date_mod_rs_const_YEAR_DELTAS =
    ["&", "u8", "401", "&", "0", "1", "1", "1", "1", "2", "2", "2", "2", "3", "3", "3", "3", "4", "4", "4", "4", "5", "5", "5", "5", "6", "6", "6", "6", "7", "7", "7", "7", "8", "8", "8", "8", "9", "9", "9", "9", "10", "10", "10", "10", "11", "11", "11", "11", "12", "12", "12", "12", "13", "13", "13", "13", "14", "14", "14", "14", "15", "15", "15", "15", "16", "16", "16", "16", "17", "17", "17", "17", "18", "18", "18", "18", "19", "19", "19", "19", "20", "20", "20", "20", "21", "21", "21", "21", "22", "22", "22", "22", "23", "23", "23", "23", "24", "24", "24", "24", "25", "25", "25", "25", "25", "25", "25", "25", "26", "26", "26", "26", "27", "27", "27", "27", "28", "28", "28", "28", "29", "29", "29", "29", "30", "30", "30", "30", "31", "31", "31", "31", "32", "32", "32", "32", "33", "33", "33", "33", "34", "34", "34", "34", "35", "35", "35", "35", "36", "36", "36", "36", "37", "37", "37", "37", "38", "38", "38", "38", "39", "39", "39", "39", "40", "40", "40", "40", "41", "41", "41", "41", "42", "42", "42", "42", "43", "43", "43", "43", "44", "44", "44", "44", "45", "45", "45", "45", "46", "46", "46", "46", "47", "47", "47", "47", "48", "48", "48", "48", "49", "49", "49", "49", "49", "49", "49", "49", "50", "50", "50", "50", "51", "51", "51", "51", "52", "52", "52", "52", "53", "53", "53", "53", "54", "54", "54", "54", "55", "55", "55", "55", "56", "56", "56", "56", "57", "57", "57", "57", "58", "58", "58", "58", "59", "59", "59", "59", "60", "60", "60", "60", "61", "61", "61", "61", "62", "62", "62", "62", "63", "63", "63", "63", "64", "64", "64", "64", "65", "65", "65", "65", "66", "66", "66", "66", "67", "67", "67", "67", "68", "68", "68", "68", "69", "69", "69", "69", "70", "70", "70", "70", "71", "71", "71", "71", "72", "72", "72", "72", "73", "73", "73", "73", "73", "73", "73", "73", "74", "74", "74", "74", "75", "75", "75", "75", "76", "76", "76", "76", "77", "77", "77", "77", "78", "78", "78", "78", "79", "79", "79", "79", "80", "80", "80", "80", "81", "81", "81", "81", "82", "82", "82", "82", "83", "83", "83", "83", "84", "84", "84", "84", "85", "85", "85", "85", "86", "86", "86", "86", "87", "87", "87", "87", "88", "88", "88", "88", "89", "89", "89", "89", "90", "90", "90", "90", "91", "91", "91", "91", "92", "92", "92", "92", "93", "93", "93", "93", "94", "94", "94", "94", "95", "95", "95", "95", "96", "96", "96", "96", "97", "97", "97", "97"] := by decide +kernel

/-- src/naive/date/mod.rs:fn cycle_to_yo -/
theorem src_naive_date_mod_rs_fn_cycle_to_yo : C01_src_naive_date_mod_rs_fn_cycle_to_yo =
    ["v1", "u32", "->", "u32", "u32", "v2", "v1", "/", "365", "v3", "v1", "%", "365", "v4", "YEAR_DELTAS", "v2", "as", "usize", "as", "u32", "if", "v3", "<", "v4", "v2", "-=", "1", "v3", "+=", "365", "-", "YEAR_DELTAS", "v2", "as", "usize", "as", "u32", "else", "v3", "-=", "v4", "v2", "v3", "+", "1"] := rfl

/-- src/naive/date/mod.rs:fn day0 -/
theorem src_naive_date_mod_rs_fn_day0 : C01_src_naive_date_mod_rs_fn_day0 =
    ["&", "self", "->", "u32", "self", "mdf(", "day(", "-", "1"] := rfl

/-- src/naive/date/mod.rs:fn from_isoywd_opt -/
theorem src_naive_date_mod_rs_fn_from_isoywd_opt : C01_src_naive_date_mod_rs_fn_from_isoywd_opt =
    ["v1", "i32", "v2", "u32", "v3", "Weekday", "->", "Option", "<", "NaiveDate", ">", "v4", "YearFlags", "from_year(", "v1", "v5", "v4", "nisoweeks(", "if", "v2", "==", "0", "||", "v2", ">", "v5", "return", "None", "v6", "v2", "*", "7", "+", "v3", "as", "u32", "v7", "v4", "isoweek_delta(", "let(", "v1", "v8", "v4", "if", "v6", "<=", "v7", "v9", "try_opt!(", "v1", "checked_sub(", "1", "v10", "YearFlags", "from_year(", "v9", "v9", "v6", "+", "v10", "ndays(", "-", "v7", "v10", "else", "v8", "v6", "-", "v7", "v11", "v4", "ndays(", "if", "v8", "<=", "v11", "v1", "v8", "v4", "else", "v12", "try_opt!(", "v1", "checked_add(", "1", "v13", "YearFlags", "from_year(", "v12", "v12", "v8", "-", "v11", "v13", "NaiveDate", "from_ordinal_and_flags(", "v1", "v8", "v4"] := rfl

/-- src/naive/date/mod.rs:fn from_mdf -/
theorem src_naive_date_mod_rs_fn_from_mdf : C01_src_naive_date_mod_rs_fn_from_mdf =
    ["v1", "i32", "v2", "Mdf", "->", "Option", "<", "NaiveDate", ">", "if", "v1", "<", "MIN_YEAR", "||", "v1", ">", "MAX_YEAR", "return", "None", "Some(", "NaiveDate", "from_yof(", "v1", "<<", "13", "|", "try_opt!(", "v2", "ordinal_and_flags("] := rfl

/-- src/naive/date/mod.rs:fn from_num_days_from_ce_opt -/
theorem src_naive_date_mod_rs_fn_from_num_days_from_ce_opt : C01_src_naive_date_mod_rs_fn_from_num_days_from_ce_opt =
    ["v1", "i32", "->", "Option", "<", "NaiveDate", ">", "v1", "try_opt!(", "v1", "checked_add(", "365", "v2", "v1", "div_euclid(", "146097", "v3", "v1", "rem_euclid(", "146097", "let(", "v4", "v5", "cycle_to_yo(", "v3", "as", "u32", "v6", "YearFlags", "from_year_mod_400(", "v4", "as", "i32", "NaiveDate", "from_ordinal_and_flags(", "v2", "*", "400", "+", "v4", "as", "i32", "v5", "v6"] := rfl

/-- src/naive/date/mod.rs:fn from_ordinal_and_flags -/
theorem src_naive_date_mod_rs_fn_from_ordinal_and_flags : C01_src_naive_date_mod_rs_fn_from_ordinal_and_flags =
    ["v1", "i32", "v2", "u32", "v3", "YearFlags", "->", "Option", "<", "NaiveDate", ">", "if", "v1", "<", "MIN_YEAR", "||", "v1", ">", "MAX_YEAR", "return", "None", "if", "v2", "==", "0", "||", "v2", ">", "366", "return", "None", "debug_assert!(", "YearFlags", "from_year(", "v1", "==", "v3", "v4", "v1", "<<", "13", "|", "v2", "<<", "4", "as", "i32", "|", "v3", "as", "i32", "match", "v4", "&", "OL_MASK", "<=", "MAX_OL", "true", "=>", "Some(", "NaiveDate", "from_yof(", "v4", "false", "=>", "None"] := rfl

/-- src/naive/date/mod.rs:fn from_ymd_opt -/
theorem src_naive_date_mod_rs_fn_from_ymd_opt : C01_src_naive_date_mod_rs_fn_from_ymd_opt =
    ["v1", "i32", "v2", "u32", "v3", "u32", "->", "Option", "<", "NaiveDate", ">", "v4", "YearFlags", "from_year(", "v1", "if", "Some(", "v5", "Mdf", "new(", "v2", "v3", "v4", "NaiveDate", "from_mdf(", "v1", "v5", "else", "None"] := rfl

/-- src/naive/date/mod.rs:fn from_yo_opt -/
theorem src_naive_date_mod_rs_fn_from_yo_opt : C01_src_naive_date_mod_rs_fn_from_yo_opt =
    ["v1", "i32", "v2", "u32", "->", "Option", "<", "NaiveDate", ">", "v3", "YearFlags", "from_year(", "v1", "NaiveDate", "from_ordinal_and_flags(", "v1", "v2", "v3"] := rfl

/-- src/naive/date/mod.rs:fn iso_week -/
theorem src_naive_date_mod_rs_fn_iso_week : C01_src_naive_date_mod_rs_fn_iso_week =
    ["&", "self", "->", "IsoWeek", "IsoWeek", "from_yof(", "self", "year(", "self", "ordinal(", "self", "year_flags("] := rfl

/-- src/naive/date/mod.rs:fn leap_year -/
theorem src_naive_date_mod_rs_fn_leap_year : C01_src_naive_date_mod_rs_fn_leap_year =
    ["&", "self", "->", "bool", "self", "yof(", "&", "8", "==", "0"] := rfl

/-- src/naive/date/mod.rs:fn mdf -/
theorem src_naive_date_mod_rs_fn_mdf : C01_src_naive_date_mod_rs_fn_mdf =
    ["&", "self", "->", "Mdf", "Mdf", "from_ol(", "self", "yof(", "&", "OL_MASK", ">>", "3", "self", "year_flags("] := rfl

/-- src/naive/date/mod.rs:fn month0 -/
theorem src_naive_date_mod_rs_fn_month0 : C01_src_naive_date_mod_rs_fn_month0 =
    ["&", "self", "->", "u32", "self", "month(", "-", "1"] := rfl

/-- src/naive/date/mod.rs:fn num_days_from_ce -/
theorem src_naive_date_mod_rs_fn_num_days_from_ce : C01_src_naive_date_mod_rs_fn_num_days_from_ce =
    ["&", "self", "->", "i32", "v1", "self", "year(", "-", "1", "v2", "0", "if", "v1", "<", "0", "v3", "1", "+", "-", "v1", "/", "400", "v1", "+=", "v3", "*", "400", "v2", "-=", "v3", "*", "146097", "v4", "v1", "/", "100", "v2", "+=", "v1", "*", "1461", ">>", "2", "-", "v4", "+", "v4", ">>", "2", "v2", "+", "self", "ordinal(", "as", "i32"] := rfl

/-- src/naive/date/mod.rs:fn ordinal0 -/
theorem src_naive_date_mod_rs_fn_ordinal0 : C01_src_naive_date_mod_rs_fn_ordinal0 =
    ["&", "self", "->", "u32", "self", "ordinal(", "-", "1"] := rfl

/-- src/naive/date/mod.rs:fn pred_opt -/
theorem src_naive_date_mod_rs_fn_pred_opt : C01_src_naive_date_mod_rs_fn_pred_opt =
    ["&", "self", "->", "Option", "<", "NaiveDate", ">", "v1", "self", "yof(", "&", "ORDINAL_MASK", "-", "1", "<<", "4", "match", "v1", ">", "0", "true", "=>", "Some(", "NaiveDate", "from_yof(", "self", "yof(", "&", "!", "ORDINAL_MASK", "|", "v1", "false", "=>", "NaiveDate", "from_ymd_opt(", "self", "year(", "-", "1", "12", "31"] := rfl

/-- src/naive/date/mod.rs:fn succ_opt -/
theorem src_naive_date_mod_rs_fn_succ_opt : C01_src_naive_date_mod_rs_fn_succ_opt =
    ["&", "self", "->", "Option", "<", "NaiveDate", ">", "v1", "self", "yof(", "&", "OL_MASK", "+", "1", "<<", "4", "match", "v1", "<=", "MAX_OL", "true", "=>", "Some(", "NaiveDate", "from_yof(", "self", "yof(", "&", "!", "OL_MASK", "|", "v1", "false", "=>", "NaiveDate", "from_yo_opt(", "self", "year(", "+", "1", "1"] := rfl

/-- src/naive/date/mod.rs:fn weekday -/
theorem src_naive_date_mod_rs_fn_weekday : C01_src_naive_date_mod_rs_fn_weekday =
    ["&", "self", "->", "Weekday", "match(", "self", "yof(", "&", "ORDINAL_MASK", ">>", "4", "+", "self", "yof(", "&", "WEEKDAY_FLAGS_MASK", "%", "7", "0", "=>", "Weekday", "Mon", "1", "=>", "Weekday", "Tue", "2", "=>", "Weekday", "Wed", "3", "=>", "Weekday", "Thu", "4", "=>", "Weekday", "Fri", "5", "=>", "Weekday", "Sat", "v1", "=>", "Weekday", "Sun", "§", "&", "self", "->", "Weekday", "self", "weekday("] := rfl

/-- src/naive/date/mod.rs:fn yo_to_cycle -/
theorem src_naive_date_mod_rs_fn_yo_to_cycle : C01_src_naive_date_mod_rs_fn_yo_to_cycle =
    ["v1", "u32", "v2", "u32", "->", "u32", "v1", "*", "365", "+", "YEAR_DELTAS", "v1", "as", "usize", "as", "u32", "+", "v2", "-", "1"] := rfl

/-- src/naive/internals.rs:const MDL_TO_OL -/
theorem src_naive_internals_rs_const_MDL_TO_OL : C01_src_naive_internals_rs_const_MDL_TO_OL =
    ["&", "i8", "MAX_MDL", "as", "usize", "+", "1", "&", "XX", "XX", "XX", "XX", "XX", "XX", "XX", "XX", "XX", "XX", "XX", "XX", "XX", "XX", "XX", "XX", "XX", "XX", "XX", "XX", "XX", "XX", "XX", "XX", "XX", "XX", "XX", "XX", "XX", "XX", "XX", "XX", "XX", "XX", "XX", "XX", "XX", "XX", "XX", "XX", "XX", "XX", "XX", "XX", "XX", "XX", "XX", "XX", "XX", "XX", "XX", "XX", "XX", "XX", "XX", "XX", "XX", "XX", "XX", "XX", "XX", "XX", "XX", "XX", "XX", "XX", "64", "64", "64", "64", "64", "64", "64", "64", "64", "64", "64", "64", "64", "64", "64", "64", "64", "64", "64", "64", "64", "64", "64", "64", "64", "64", "64", "64", "64", "64", "64", "64", "64", "64", "64", "64", "64", "64", "64", "64", "64", "64", "64", "64", "64", "64", "64", "64", "64", "64", "64", "64", "64", "64", "64", "64", "64", "64", "64", "64", "64", "64", "XX", "XX", "66", "66", "66", "66", "66", "66", "66", "66", "66", "66", "66", "66", "66", "66", "66", "66", "66", "66", "66", "66", "66", "66", "66", "66", "66", "66", "66", "66", "66", "66", "66", "66", "66", "66", "66", "66", "66", "66", "66", "66", "66", "66", "66", "66", "66", "66", "66", "66", "66", "66", "66", "66", "66", "66", "66", "66", "66", "XX", "XX", "XX", "XX", "XX", "XX", "XX", "72", "74", "72", "74", "72", "74", "72", "74", "72", "74", "72", "74", "72", "74", "72", "74", "72", "74", "72", "74", "72", "74", "72", "74", "72", "74", "72", "74", "72", "74", "72", "74", "72", "74", "72", "74", "72", "74", "72", "74", "72", "74", "72", "74", "72", "74", "72", "74", "72", "74", "72", "74", "72", "74", "72", "74", "72", "74", "72", "74", "72", "74", "XX", "XX", "74", "76", "74", "76", "74", "76", "74", "76", "74", "76", "74", "76", "74", "76", "74", "76", "74", "76", "74", "76", "74", "76", "74", "76", "74", "76", "74", "76", "74", "76", "74", "76", "74", "76", "74", "76", "74", "76", "74", "76", "74", "76", "74", "76", "74", "76", "74", "76", "74", "76", "74", "76", "74", "76", "74", "76", "74", "76", "74", "76", "XX", "XX", "XX", "XX", "78", "80", "78", "80", "78", "80", "78", "80", "78", "80", "78", "80", "78", "80", "78", "80", "78", "80", "78", "80", "78", "80", "78", "80", "78", "80", "78", "80", "78", "80", "78", "80", "78", "80", "78", "80", "78", "80", "78", "80", "78", "80", "78", "80", "78", "80", "78", "80", "78", "80", "78", "80", "78", "80", "78", "80", "78", "80", "78", "80", "78", "80", "XX", "XX", "80", "82", "80", "82", "80", "82", "80", "82", "80", "82", "80", "82", "80", "82", "80", "82", "80", "82", "80", "82", "80", "82", "80", "82", "80", "82", "80", "82", "80", "82", "80", "82", "80", "82", "80", "82", "80", "82", "80", "82", "80", "82", "80", "82", "80", "82", "80", "82", "80", "82", "80", "82", "80", "82", "80", "82", "80", "82", "80", "82", "XX", "XX", "XX", "XX", "84", "86", "84", "86", "84", "86", "84", "86", "84", "86", "84", "86", "84", "86", "84", "86", "84", "86", "84", "86", "84", "86", "84", "86", "84", "86", "84", "86", "84", "86", "84", "86", "84", "86", "84", "86", "84", "86", "84", "86", "84", "86", "84", "86", "84", "86", "84", "86", "84", "86", "84", "86", "84", "86", "84", "86", "84", "86", "84", "86", "84", "86", "XX", "XX", "86", "88", "86", "88", "86", "88", "86", "88", "86", "88", "86", "88", "86", "88", "86", "88", "86", "88", "86", "88", "86", "88", "86", "88", "86", "88", "86", "88", "86", "88", "86", "88", "86", "88", "86", "88", "86", "88", "86", "88", "86", "88", "86", "88", "86", "88", "86", "88", "86", "88", "86", "88", "86", "88", "86", "88", "86", "88", "86", "88", "86", "88", "XX", "XX", "88", "90", "88", "90", "88", "90", "88", "90", "88", "90", "88", "90", "88", "90", "88", "90", "88", "90", "88", "90", "88", "90", "88", "90", "88", "90", "88", "90", "88", "90", "88", "90", "88", "90", "88", "90", "88", "90", "88", "90", "88", "90", "88", "90", "88", "90", "88", "90", "88", "90", "88", "90", "88", "90", "88", "90", "88", "90", "88", "90", "XX", "XX", "XX", "XX", "92", "94", "92", "94", "92", "94", "92", "94", "92", "94", "92", "94", "92", "94", "92", "94", "92", "94", "92", "94", "92", "94", "92", "94", "92", "94", "92", "94", "92", "94", "92", "94", "92", "94", "92", "94", "92", "94", "92", "94", "92", "94", "92", "94", "92", "94", "92", "94", "92", "94", "92", "94", "92", "94", "92", "94", "92", "94", "92", "94", "92", "94", "XX", "XX", "94", "96", "94", "96", "94", "96", "94", "96", "94", "96", "94", "96", "94", "96", "94", "96", "94", "96", "94", "96", "94", "96", "94", "96", "94", "96", "94", "96", "94", "96", "94", "96", "94", "96", "94", "96", "94", "96", "94", "96", "94", "96", "94", "96", "94", "96", "94", "96", "94", "96", "94", "96", "94", "96", "94", "96", "94", "96", "94", "96", "XX", "XX", "XX", "XX", "98", "100", "98", "100", "98", "100", "98", "100", "98", "100", "98", "100", "98", "100", "98", "100", "98", "100", "98", "100", "98", "100", "98", "100", "98", "100", "98", "100", "98", "100", "98", "100", "98", "100", "98", "100", "98", "100", "98", "100", "98", "100", "98", "100", "98", "100", "98", "100", "98", "100", "98", "100", "98", "100", "98", "100", "98", "100", "98", "100", "98", "100"] := by decide +kernel

/-- src/naive/internals.rs:const OL_TO_MDL -/
theorem src_naive_internals_rs_const_OL_TO_MDL : C01_src_naive_internals_rs_const_OL_TO_MDL =
    ["&", "u8", "MAX_OL", "as", "usize", "+", "1", "&", "0", "0", "64", "64", "64", "64", "64", "64", "64", "64", "64", "64", "64", "64", "64", "64", "64", "64", "64", "64", "64", "64", "64", "64", "64", "64", "64", "64", "64", "64", "64", "64", "64", "64", "64", "64", "64", "64", "64", "64", "64", "64", "64", "64", "64", "64", "64", "64", "64", "64", "64", "64", "64", "64", "64", "64", "64", "64", "64", "64", "64", "64", "64", "64", "66", "66", "66", "66", "66", "66", "66", "66", "66", "66", "66", "66", "66", "66", "66", "66", "66", "66", "66", "66", "66", "66", "66", "66", "66", "66", "66", "66", "66", "66", "66", "66", "66", "66", "66", "66", "66", "66", "66", "66", "66", "66", "66", "66", "66", "66", "66", "66", "66", "66", "66", "66", "66", "66", "66", "66", "66", "74", "72", "74", "72", "74", "72", "74", "72", "74", "72", "74", "72", "74", "72", "74", "72", "74", "72", "74", "72", "74", "72", "74", "72", "74", "72", "74", "72", "74", "72", "74", "72", "74", "72", "74", "72", "74", "72", "74", "72", "74", "72", "74", "72", "74", "72", "74", "72", "74", "72", "74", "72", "74", "72", "74", "72", "74", "72", "74", "72", "74", "72", "76", "74", "76", "74", "76", "74", "76", "74", "76", "74", "76", "74", "76", "74", "76", "74", "76", "74", "76", "74", "76", "74", "76", "74", "76", "74", "76", "74", "76", "74", "76", "74", "76", "74", "76", "74", "76", "74", "76", "74", "76", "74", "76", "74", "76", "74", "76", "74", "76", "74", "76", "74", "76", "74", "76", "74", "76", "74", "76", "74", "80", "78", "80", "78", "80", "78", "80", "78", "80", "78", "80", "78", "80", "78", "80", "78", "80", "78", "80", "78", "80", "78", "80", "78", "80", "78", "80", "78", "80", "78", "80", "78", "80", "78", "80", "78", "80", "78", "80", "78", "80", "78", "80", "78", "80", "78", "80", "78", "80", "78", "80", "78", "80", "78", "80", "78", "80", "78", "80", "78", "80", "78", "82", "80", "82", "80", "82", "80", "82", "80", "82", "80", "82", "80", "82", "80", "82", "80", "82", "80", "82", "80", "82", "80", "82", "80", "82", "80", "82", "80", "82", "80", "82", "80", "82", "80", "82", "80", "82", "80", "82", "80", "82", "80", "82", "80", "82", "80", "82", "80", "82", "80", "82", "80", "82", "80", "82", "80", "82", "80", "82", "80", "86", "84", "86", "84", "86", "84", "86", "84", "86", "84", "86", "84", "86", "84", "86", "84", "86", "84", "86", "84", "86", "84", "86", "84", "86", "84", "86", "84", "86", "84", "86", "84", "86", "84", "86", "84", "86", "84", "86", "84", "86", "84", "86", "84", "86", "84", "86", "84", "86", "84", "86", "84", "86", "84", "86", "84", "86", "84", "86", "84", "86", "84", "88", "86", "88", "86", "88", "86", "88", "86", "88", "86", "88", "86", "88", "86", "88", "86", "88", "86", "88", "86", "88", "86", "88", "86", "88", "86", "88", "86", "88", "86", "88", "86", "88", "86", "88", "86", "88", "86", "88", "86", "88", "86", "88", "86", "88", "86", "88", "86", "88", "86", "88", "86", "88", "86", "88", "86", "88", "86", "88", "86", "88", "86", "90", "88", "90", "88", "90", "88", "90", "88", "90", "88", "90", "88", "90", "88", "90", "88", "90", "88", "90", "88", "90", "88", "90", "88", "90", "88", "90", "88", "90", "88", "90", "88", "90", "88", "90", "88", "90", "88", "90", "88", "90", "88", "90", "88", "90", "88", "90", "88", "90", "88", "90", "88", "90", "88", "90", "88", "90", "88", "90", "88", "94", "92", "94", "92", "94", "92", "94", "92", "94", "92", "94", "92", "94", "92", "94", "92", "94", "92", "94", "92", "94", "92", "94", "92", "94", "92", "94", "92", "94", "92", "94", "92", "94", "92", "94", "92", "94", "92", "94", "92", "94", "92", "94", "92", "94", "92", "94", "92", "94", "92", "94", "92", "94", "92", "94", "92", "94", "92", "94", "92", "94", "92", "96", "94", "96", "94", "96", "94", "96", "94", "96", "94", "96", "94", "96", "94", "96", "94", "96", "94", "96", "94", "96", "94", "96", "94", "96", "94", "96", "94", "96", "94", "96", "94", "96", "94", "96", "94", "96", "94", "96", "94", "96", "94", "96", "94", "96", "94", "96", "94", "96", "94", "96", "94", "96", "94", "96", "94", "96", "94", "96", "94", "100", "98", "100", "98", "100", "98", "100", "98", "100", "98", "100", "98", "100", "98", "100", "98", "100", "98", "100", "98", "100", "98", "100", "98", "100", "98", "100", "98", "100", "98", "100", "98", "100", "98", "100", "98", "100", "98", "100", "98", "100", "98", "100", "98", "100", "98", "100", "98", "100", "98", "100", "98", "100", "98", "100", "98", "100", "98", "100", "98", "100", "98"] := by decide +kernel

/-- src/naive/internals.rs:fn from_ol -/
theorem src_naive_internals_rs_fn_from_ol : C01_src_naive_internals_rs_fn_from_ol =
    ["v1", "i32", "YearFlags(", "v2", "YearFlags", "->", "Mdf", "debug_assert!(", "v1", ">", "1", "&&", "v1", "<=", "MAX_OL", "as", "i32", "Mdf(", "v1", "as", "u32", "+", "OL_TO_MDL", "v1", "as", "usize", "as", "u32", "<<", "3", "|", "v2", "as", "u32"] := rfl

/-- src/naive/internals.rs:fn isoweek_delta -/
theorem src_naive_internals_rs_fn_isoweek_delta : C01_src_naive_internals_rs_fn_isoweek_delta =
    ["&", "self", "->", "u32", "YearFlags(", "v1", "*", "self", "v2", "v1", "&", "7", "as", "u32", "if", "v2", "<", "3", "v2", "+=", "7", "v2"] := rfl

/-- src/naive/internals.rs:fn new -/
theorem src_naive_internals_rs_fn_new : C01_src_naive_internals_rs_fn_new =
    ["v1", "u32", "v2", "u32", "YearFlags(", "v3", "YearFlags", "->", "Option", "<", "Mdf", ">", "match", "v1", "<=", "12", "&&", "v2", "<=", "31", "true", "=>", "Some(", "Mdf(", "v1", "<<", "9", "|", "v2", "<<", "4", "|", "v3", "as", "u32", "false", "=>", "None"] := rfl

/-- src/naive/internals.rs:fn nisoweeks -/
theorem src_naive_internals_rs_fn_nisoweeks : C01_src_naive_internals_rs_fn_nisoweeks =
    ["&", "self", "->", "u32", "YearFlags(", "v1", "*", "self", "52", "+", "1030", ">>", "v1", "as", "usize", "&", "1"] := rfl

/-- src/naive/internals.rs:fn ordinal_and_flags -/
theorem src_naive_internals_rs_fn_ordinal_and_flags : C01_src_naive_internals_rs_fn_ordinal_and_flags =
    ["&", "self", "->", "Option", "<", "i32", ">", "v1", "self", ">>", "3", "match", "MDL_TO_OL", "v1", "as", "usize", "XX", "=>", "None", "v2", "=>", "Some(", "self", "as", "i32", "-", "v2", "as", "i32", "<<", "3"] := rfl

/-- src/naive/isoweek.rs:fn from_yof -/
theorem src_naive_isoweek_rs_fn_from_yof : C01_src_naive_isoweek_rs_fn_from_yof =
    ["v1", "i32", "v2", "u32", "v3", "YearFlags", "->", "Self", "v4", "v2", "+", "v3", "isoweek_delta(", "/", "7", "let(", "v1", "v5", "if", "v4", "<", "1", "v6", "YearFlags", "from_year(", "v1", "-", "1", "nisoweeks(", "v1", "-", "1", "v6", "else", "v7", "v3", "nisoweeks(", "if", "v4", ">", "v7", "v1", "+", "1", "1", "else", "v1", "v4", "v8", "YearFlags", "from_year(", "v1", "IsoWeek", "v9", "v1", "<<", "10", "|", "v5", "<<", "4", "as", "i32", "|", "i32", "from(", "v8"] := rfl

/-- src/naive/isoweek.rs:type IsoWeek -/
theorem src_naive_isoweek_rs_type_IsoWeek : C01_src_naive_isoweek_rs_type_IsoWeek =
    ["v1", "i32", "§", "IsoWeek", "pub(", "from_yof(", "v1", "i32", "v2", "u32", "v3", "YearFlags", "->", "Self", "v4", "v2", "+", "v3", "isoweek_delta(", "/", "7", "let(", "v1", "v5", "if", "v4", "<", "1", "v6", "YearFlags", "from_year(", "v1", "-", "1", "nisoweeks(", "v1", "-", "1", "v6", "else", "v7", "v3", "nisoweeks(", "if", "v4", ">", "v7", "v1", "+", "1", "1", "else", "v1", "v4", "v8", "YearFlags", "from_year(", "v1", "IsoWeek", "v9", "v1", "<<", "10", "|", "v5", "<<", "4", "as", "i32", "|", "i32", "from(", "v8", "year(", "&", "self", "->", "i32", "self", "v9", ">>", "10", "week(", "&", "self", "->", "u32", "self", "v9", ">>", "4", "&", "63", "as", "u32", "week0(", "&", "self", "->", "u32", "self", "v9", ">>", "4", "&", "63", "as", "u32", "-", "1", "§", "v1", "Debug", "for", "IsoWeek", "fmt(", "&", "self", "v2", "&", "v1", "Formatter", "->", "v1", "Result", "v3", "self", "year(", "v4", "self", "week(", "if(", "0", "..=", "9999", "contains(", "&", "v3", "write!(", "v2", "\"{:04}-W{:02}\"", "v3", "v4", "else", "write!(", "v2", "\"…\"", "v3", "v4"] := rfl

/-- src/traits.rs:fn year_ce -/
theorem src_traits_rs_fn_year_ce : C01_src_traits_rs_fn_year_ce =
    ["&", "self", "->", "bool", "u32", "v1", "self", "year(", "if", "v1", "<", "1", "false", "1", "-", "v1", "as", "u32", "else", "true", "v1", "as", "u32"] := rfl

/-- callee src/naive/date/mod.rs:fn yof -/
theorem callee_src_naive_date_mod_rs_fn_yof : C01_callee_src_naive_date_mod_rs_fn_yof =
    ["&", "self", "->", "i32", "self", "v1", "get("] := rfl

/-- callee src/naive/internals.rs:fn from_year -/
theorem callee_src_naive_internals_rs_fn_from_year : C01_callee_src_naive_internals_rs_fn_from_year =
    ["v1", "i32", "->", "YearFlags", "v1", "v1", "rem_euclid(", "400", "YearFlags", "from_year_mod_400(", "v1"] := rfl

/-- callee src/naive/internals.rs:fn from_year_mod_400 -/
theorem callee_src_naive_internals_rs_fn_from_year_mod_400 : C01_callee_src_naive_internals_rs_fn_from_year_mod_400 =
    ["v1", "i32", "->", "YearFlags", "YEAR_TO_FLAGS", "v1", "as", "usize"] := rfl

/-- callee src/naive/internals.rs:fn ndays -/
theorem callee_src_naive_internals_rs_fn_ndays : C01_callee_src_naive_internals_rs_fn_ndays =
    ["&", "self", "->", "u32", "YearFlags(", "v1", "*", "self", "366", "-", "v1", ">>", "3", "as", "u32"] := rfl

/-- callee src/naive/isoweek.rs:fn week0 -/
theorem callee_src_naive_isoweek_rs_fn_week0 : C01_callee_src_naive_isoweek_rs_fn_week0 =
    ["&", "self", "->", "u32", "self", "v1", ">>", "4", "&", "63", "as", "u32", "-", "1"] := rfl

end Chrono.Pins.C01
