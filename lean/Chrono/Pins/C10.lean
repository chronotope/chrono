/-
  PINS of property C10: the decision tokens of every item the property is anchored in
  (properties.jsonl `anchors` + tools/anchor_extra.json), as they were in /repo at 770977e when the
  model was validated against the source.  Written by tools/pin_anchors.py; the right-hand sides are
  compared by the kernel with lean/Chrono/Extracted/Anchors.lean, which tools/extractors/anchors.py
  regenerates from /repo's working tree on every check.  A theorem that fails here means: anchored
  code changed; the hand-written model may no longer mirror it.
-/
import Chrono.Extracted.Anchors
namespace Chrono.Pins.C10
open Chrono.Extracted.Anchors

/-- src/datetime/mod.rs:fn format_with_items -/
theorem src_datetime_mod_rs_fn_format_with_items : C10_src_datetime_mod_rs_fn_format_with_items =
    ["<", "I", "B", ">", "&", "self", "v1", "I", "->", "DelayedFormat", "<", "I", ">", "I", "Iterator", "<", "Item", "B", ">", "+", "Clone", "B", "Borrow", "<", "Item", "<", ">>", "v2", "self", "overflowing_naive_local(", "DelayedFormat", "new_with_offset(", "Some(", "v2", "date(", "Some(", "v2", "time(", "&", "self", "v3", "v1"] := rfl

/-- src/datetime/mod.rs:fn parse_from_rfc3339 -/
theorem src_datetime_mod_rs_fn_parse_from_rfc3339 : C10_src_datetime_mod_rs_fn_parse_from_rfc3339 =
    ["v1", "&", "str", "->", "ParseResult", "<", "DateTime", "<", "FixedOffset", ">>", "v2", "Parsed", "new(", "let(", "v1", "v3", "parse_rfc3339(", "&", "v2", "v1", "?", "if", "!", "v1", "is_empty(", "return", "Err(", "TOO_LONG", "v2", "to_datetime("] := rfl

/-- src/datetime/mod.rs:fn to_rfc3339 -/
theorem src_datetime_mod_rs_fn_to_rfc3339 : C10_src_datetime_mod_rs_fn_to_rfc3339 =
    ["&", "self", "->", "String", "v1", "String", "with_capacity(", "32", "v2", "self", "overflowing_naive_local(", "v3", "self", "v3", "fix(", "write_rfc3339(", "&", "v1", "v2", "v3", "SecondsFormat", "AutoSi", "false", "expect(", "\"…\"", "v1"] := rfl

/-- src/datetime/mod.rs:fn to_rfc3339_opts -/
theorem src_datetime_mod_rs_fn_to_rfc3339_opts : C10_src_datetime_mod_rs_fn_to_rfc3339_opts =
    ["&", "self", "v1", "SecondsFormat", "v2", "bool", "->", "String", "v3", "String", "with_capacity(", "38", "v4", "self", "overflowing_naive_local(", "write_rfc3339(", "&", "v3", "v4", "self", "v5", "fix(", "v1", "v2", "expect(", "\"…\"", "v3"] := rfl

/-- src/format/formatting.rs:fn format -/
theorem src_format_formatting_rs_fn_format : C10_src_format_formatting_rs_fn_format =
    ["<", "I", "B", ">", "v1", "&", "v2", "Formatter", "v3", "Option", "<", "&", "NaiveDate", ">", "v4", "Option", "<", "&", "NaiveTime", ">", "v5", "Option", "<", "&", "String", "FixedOffset", ">", "v6", "I", "->", "v2", "Result", "I", "Iterator", "<", "Item", "B", ">", "+", "Clone", "B", "Borrow", "<", "Item", "<", ">>", "DelayedFormat", "v3", "v3", "copied(", "v4", "v4", "copied(", "v5", "v5", "cloned(", "v6", "v7", "default_locale(", "fmt(", "v1", "§", "&", "self", "v1", "&", "Write", "v2", "FixedOffset", "->", "v3", "Result", "v2", "v2", "local_minus_utc(", "if", "self", "v4", "&&", "v2", "==", "0", "v1", "write_char(", "'Z'", "?", "return", "Ok(", "let(", "v5", "v2", "if", "v2", "<", "0", "'-'", "-", "v2", "else", "'+'", "v2", "v6", "v7", "0", "v8", "0", "v9", "match", "self", "v9", "OffsetPrecision", "Hours", "=>", "v6", "v2", "/", "3600", "as", "u8", "OffsetPrecision", "Hours", "OffsetPrecision", "Minutes", "|", "OffsetPrecision", "OptionalMinutes", "=>", "v10", "v2", "+", "30", "/", "60", "v7", "v10", "%", "60", "as", "u8", "v6", "v10", "/", "60", "as", "u8", "if", "self", "v9", "==", "OffsetPrecision", "OptionalMinutes", "&&", "v7", "==", "0", "OffsetPrecision", "Hours", "else", "OffsetPrecision", "Minutes", "OffsetPrecision", "Seconds", "|", "OffsetPrecision", "OptionalSeconds", "|", "OffsetPrecision", "OptionalMinutesAndSeconds", "=>", "v10", "v2", "/", "60", "v8", "v2", "%", "60", "as", "u8", "v7", "v10", "%", "60", "as", "u8", "v6", "v10", "/", "60", "as", "u8", "if", "self", "v9", "!=", "OffsetPrecision", "Seconds", "&&", "v8", "==", "0", "if", "self", "v9", "==", "OffsetPrecision", "OptionalMinutesAndSeconds", "&&", "v7", "==", "0", "OffsetPrecision", "Hours", "else", "OffsetPrecision", "Minutes", "else", "OffsetPrecision", "Seconds", "v11", "self", "v11", "==", "Colons", "Colon", "if", "v6", "<", "10", "if", "self", "v12", "==", "Pad", "Space", "v1", "write_char(", "' '", "?", "v1", "write_char(", "v5", "?", "if", "self", "v12", "==", "Pad", "Zero", "v1", "write_char(", "'0'", "?", "v1", "write_char(", "b'0'", "+", "v6", "as", "char", "?", "else", "v1", "write_char(", "v5", "?", "write_hundreds(", "v1", "v6", "?", "if", "OffsetPrecision", "Minutes", "|", "OffsetPrecision", "Seconds", "v9", "if", "v11", "v1", "write_char(", "':'", "?", "write_hundreds(", "v1", "v7", "?", "if", "OffsetPrecision", "Seconds", "v9", "if", "v11", "v1", "write_char(", "':'", "?", "write_hundreds(", "v1", "v8", "?", "Ok("] := rfl

/-- src/format/formatting.rs:fn format_fixed -/
theorem src_format_formatting_rs_fn_format_fixed : C10_src_format_formatting_rs_fn_format_fixed =
    ["&", "self", "v1", "&", "Write", "v2", "&", "Fixed", "->", "v3", "Result", "Fixed", "*", "InternalInternal", "*", "match(", "v2", "self", "v4", "self", "v5", "self", "v6", "as_ref(", "ShortMonthName", "Some(", "v7", "v8", "v8", "=>", "v1", "write_str(", "short_months(", "self", "v9", "v7", "month0(", "as", "usize", "LongMonthName", "Some(", "v7", "v8", "v8", "=>", "v1", "write_str(", "long_months(", "self", "v9", "v7", "month0(", "as", "usize", "ShortWeekdayName", "Some(", "v7", "v8", "v8", "=>", "v1", "write_str(", "short_weekdays(", "self", "v9", "v7", "weekday(", "num_days_from_sunday(", "as", "usize", "LongWeekdayName", "Some(", "v7", "v8", "v8", "=>", "v1", "write_str(", "long_weekdays(", "self", "v9", "v7", "weekday(", "num_days_from_sunday(", "as", "usize", "LowerAmPm", "v8", "Some(", "v10", "v8", "=>", "v11", "if", "v10", "hour12(", "am_pm(", "self", "v9", "1", "else", "am_pm(", "self", "v9", "0", "for", "v12", "in", "v11", "chars(", "flat_map(", "|", "v12", "|", "v12", "to_lowercase(", "v1", "write_char(", "v12", "?", "Ok(", "UpperAmPm", "v8", "Some(", "v10", "v8", "=>", "v11", "if", "v10", "hour12(", "am_pm(", "self", "v9", "1", "else", "am_pm(", "self", "v9", "0", "v1", "write_str(", "v11", "Nanosecond", "v8", "Some(", "v10", "v8", "=>", "v13", "v10", "nanosecond(", "%", "1000000000", "if", "v13", "==", "0", "Ok(", "else", "v1", "write_str(", "decimal_point(", "self", "v9", "?", "if", "v13", "%", "1000000", "==", "0", "write!(", "v1", "\"{:03}\"", "v13", "/", "1000000", "else", "if", "v13", "%", "1000", "==", "0", "write!(", "v1", "\"{:06}\"", "v13", "/", "1000", "else", "write!(", "v1", "\"{:09}\"", "v13", "Nanosecond3", "v8", "Some(", "v10", "v8", "=>", "v1", "write_str(", "decimal_point(", "self", "v9", "?", "write!(", "v1", "\"{:03}\"", "v10", "nanosecond(", "/", "1000000", "%", "1000", "Nanosecond6", "v8", "Some(", "v10", "v8", "=>", "v1", "write_str(", "decimal_point(", "self", "v9", "?", "write!(", "v1", "\"{:06}\"", "v10", "nanosecond(", "/", "1000", "%", "1000000", "Nanosecond9", "v8", "Some(", "v10", "v8", "=>", "v1", "write_str(", "decimal_point(", "self", "v9", "?", "write!(", "v1", "\"{:09}\"", "v10", "nanosecond(", "%", "1000000000", "Internal(", "InternalFixed", "v14", "Nanosecond3NoDot", "v8", "Some(", "v10", "v8", "=>", "write!(", "v1", "\"{:03}\"", "v10", "nanosecond(", "/", "1000000", "%", "1000", "Internal(", "InternalFixed", "v14", "Nanosecond6NoDot", "v8", "Some(", "v10", "v8", "=>", "write!(", "v1", "\"{:06}\"", "v10", "nanosecond(", "/", "1000", "%", "1000000", "Internal(", "InternalFixed", "v14", "Nanosecond9NoDot", "v8", "Some(", "v10", "v8", "=>", "write!(", "v1", "\"{:09}\"", "v10", "nanosecond(", "%", "1000000000", "TimezoneName", "v8", "v8", "Some(", "v15", "v8", "=>", "write!(", "v1", "\"{}\"", "v15", "TimezoneOffset", "|", "TimezoneOffsetZ", "v8", "v8", "Some(", "v8", "v6", "=>", "v16", "OffsetFormat", "v17", "OffsetPrecision", "Minutes", "v18", "Colons", "Maybe", "v19", "*", "v2", "==", "TimezoneOffsetZ", "v20", "Pad", "Zero", "v16", "format(", "v1", "*", "v6", "TimezoneOffsetColon", "|", "TimezoneOffsetColonZ", "v8", "v8", "Some(", "v8", "v6", "=>", "v16", "OffsetFormat", "v17", "OffsetPrecision", "Minutes", "v18", "Colons", "Colon", "v19", "*", "v2", "==", "TimezoneOffsetColonZ", "v20", "Pad", "Zero", "v16", "format(", "v1", "*", "v6", "TimezoneOffsetDoubleColon", "v8", "v8", "Some(", "v8", "v6", "=>", "v16", "OffsetFormat", "v17", "OffsetPrecision", "Seconds", "v18", "Colons", "Colon", "v19", "false", "v20", "Pad", "Zero", "v16", "format(", "v1", "*", "v6", "TimezoneOffsetTripleColon", "v8", "v8", "Some(", "v8", "v6", "=>", "v16", "OffsetFormat", "v17", "OffsetPrecision", "Hours", "v18", "Colons", "None", "v19", "false", "v20", "Pad", "Zero", "v16", "format(", "v1", "*", "v6", "RFC2822", "Some(", "v7", "Some(", "v10", "Some(", "v8", "v6", "=>", "write_rfc2822(", "v1", "NaiveDateTime", "new(", "v7", "v10", "*", "v6", "RFC3339", "Some(", "v7", "Some(", "v10", "Some(", "v8", "v6", "=>", "write_rfc3339(", "v1", "NaiveDateTime", "new(", "v7", "v10", "*", "v6", "SecondsFormat", "AutoSi", "false", "v8", "=>", "Err(", "v3", "Error"] := by decide +kernel

/-- src/format/formatting.rs:fn format_item -/
theorem src_format_formatting_rs_fn_format_item : C10_src_format_formatting_rs_fn_format_item =
    ["v1", "&", "v2", "Formatter", "v3", "Option", "<", "&", "NaiveDate", ">", "v4", "Option", "<", "&", "NaiveTime", ">", "v5", "Option", "<", "&", "String", "FixedOffset", ">", "v6", "&", "Item", "<", ">", "->", "v2", "Result", "DelayedFormat", "v3", "v3", "copied(", "v4", "v4", "copied(", "v5", "v5", "cloned(", "v7", "v6", "into_iter(", "v8", "default_locale(", "fmt(", "v1"] := rfl

/-- src/format/formatting.rs:fn write_rfc3339 -/
theorem src_format_formatting_rs_fn_write_rfc3339 : C10_src_format_formatting_rs_fn_write_rfc3339 =
    ["v1", "&", "Write", "v2", "NaiveDateTime", "v3", "FixedOffset", "v4", "SecondsFormat", "v5", "bool", "->", "v6", "Result", "v7", "v2", "date(", "year(", "if(", "0", "..=", "9999", "contains(", "&", "v7", "write_hundreds(", "v1", "v7", "/", "100", "as", "u8", "?", "write_hundreds(", "v1", "v7", "%", "100", "as", "u8", "?", "else", "write!(", "v1", "\"{:+05}\"", "v7", "?", "v1", "write_char(", "'-'", "?", "write_hundreds(", "v1", "v2", "date(", "month(", "as", "u8", "?", "v1", "write_char(", "'-'", "?", "write_hundreds(", "v1", "v2", "date(", "day(", "as", "u8", "?", "v1", "write_char(", "'T'", "?", "let(", "v8", "v9", "v10", "v2", "time(", "hms(", "v11", "v2", "nanosecond(", "if", "v11", ">=", "1000000000", "v10", "+=", "1", "v11", "-=", "1000000000", "write_hundreds(", "v1", "v8", "as", "u8", "?", "v1", "write_char(", "':'", "?", "write_hundreds(", "v1", "v9", "as", "u8", "?", "v1", "write_char(", "':'", "?", "v10", "v10", "write_hundreds(", "v1", "v10", "as", "u8", "?", "match", "v4", "SecondsFormat", "Secs", "=>", "SecondsFormat", "Millis", "=>", "write!(", "v1", "\".{:03}\"", "v11", "/", "1000000", "?", "SecondsFormat", "Micros", "=>", "write!(", "v1", "\".{:06}\"", "v11", "/", "1000", "?", "SecondsFormat", "Nanos", "=>", "write!(", "v1", "\".{:09}\"", "v11", "?", "SecondsFormat", "AutoSi", "=>", "if", "v11", "==", "0", "else", "if", "v11", "%", "1000000", "==", "0", "write!(", "v1", "\".{:03}\"", "v11", "/", "1000000", "?", "else", "if", "v11", "%", "1000", "==", "0", "write!(", "v1", "\".{:06}\"", "v11", "/", "1000", "?", "else", "write!(", "v1", "\".{:09}\"", "v11", "?", "SecondsFormat", "__NonExhaustive", "=>", "unreachable!(", "OffsetFormat", "v12", "OffsetPrecision", "Minutes", "v13", "Colons", "Colon", "v14", "v5", "v15", "Pad", "Zero", "format(", "v1", "v3"] := rfl

/-- src/format/formatting.rs:type SecondsFormat -/
theorem src_format_formatting_rs_type_SecondsFormat : C10_src_format_formatting_rs_type_SecondsFormat =
    ["Secs", "Millis", "Micros", "Nanos", "AutoSi", "__NonExhaustive"] := rfl

/-- src/format/parse.rs:const MAX_RFC3339_OFFSET -/
theorem src_format_parse_rs_const_MAX_RFC3339_OFFSET : C10_src_format_parse_rs_const_MAX_RFC3339_OFFSET =
    ["i32", "23", "*", "60", "+", "59", "*", "60"] := rfl

/-- src/format/parse.rs:fn parse_rfc3339 -/
theorem src_format_parse_rs_fn_parse_rfc3339 : C10_src_format_parse_rs_fn_parse_rfc3339 =
    ["<", ">", "v1", "&", "Parsed", "v2", "&", "str", "->", "ParseResult", "<", "&", "str", ">", "v3", "!", "v4", "v5", "v6", "=>", "let(", "v7", "v8", "v5", "?", "v2", "v7", "v8", "v1", "set_year(", "try_consume!(", "v9", "number(", "v2", "4", "4", "?", "v2", "v9", "char(", "v2", "b'-'", "?", "v1", "set_month(", "try_consume!(", "v9", "number(", "v2", "2", "2", "?", "v2", "v9", "char(", "v2", "b'-'", "?", "v1", "set_day(", "try_consume!(", "v9", "number(", "v2", "2", "2", "?", "v2", "match", "v2", "as_bytes(", "first(", "Some(", "&", "b't'", "|", "&", "b'T'", "|", "&", "b' '", "=>", "&", "v2", "1", "..", "Some(", "v10", "=>", "return", "Err(", "INVALID", "None", "=>", "return", "Err(", "TOO_SHORT", "v1", "set_hour(", "try_consume!(", "v9", "number(", "v2", "2", "2", "?", "v2", "v9", "char(", "v2", "b':'", "?", "v1", "set_minute(", "try_consume!(", "v9", "number(", "v2", "2", "2", "?", "v2", "v9", "char(", "v2", "b':'", "?", "v1", "set_second(", "try_consume!(", "v9", "number(", "v2", "2", "2", "?", "if", "v2", "starts_with(", "'.'", "v11", "try_consume!(", "v9", "nanosecond(", "&", "v2", "1", "..", "v1", "set_nanosecond(", "v11", "?", "v12", "try_consume!(", "v9", "timezone_offset(", "v2", "|", "v2", "|", "v9", "char(", "v2", "b':'", "true", "false", "true", "MAX_RFC3339_OFFSET", "i32", "23", "*", "60", "+", "59", "*", "60", "if!(", "-", "MAX_RFC3339_OFFSET", "..=", "MAX_RFC3339_OFFSET", "contains(", "&", "v12", "return", "Err(", "OUT_OF_RANGE", "v1", "set_offset(", "i64", "from(", "v12", "?", "Ok(", "v2"] := rfl

/-- src/format/parsed.rs:fn to_datetime -/
theorem src_format_parsed_rs_fn_to_datetime : C10_src_format_parsed_rs_fn_to_datetime =
    ["&", "self", "->", "ParseResult", "<", "DateTime", "<", "FixedOffset", ">>", "v1", "match(", "self", "v1", "self", "v2", "Some(", "v3", "v4", "=>", "v3", "None", "Some(", "v4", "=>", "0", "None", "None", "=>", "return", "Err(", "NOT_ENOUGH", "v5", "self", "to_naive_datetime_with_offset(", "v1", "?", "v1", "FixedOffset", "east_opt(", "v1", "ok_or(", "OUT_OF_RANGE", "?", "match", "v1", "from_local_datetime(", "&", "v5", "MappedLocalTime", "None", "=>", "Err(", "IMPOSSIBLE", "MappedLocalTime", "Single(", "v6", "=>", "Ok(", "v6", "MappedLocalTime", "Ambiguous(", "..", "=>", "Err(", "NOT_ENOUGH"] := rfl

/-- src/format/scan.rs:fn char -/
theorem src_format_scan_rs_fn_char : C10_src_format_scan_rs_fn_char =
    ["v1", "&", "str", "v2", "u8", "->", "ParseResult", "<", "&", "str", ">", "match", "v1", "as_bytes(", "first(", "Some(", "&", "v3", "if", "v3", "==", "v2", "=>", "Ok(", "&", "v1", "1", "..", "Some(", "v4", "=>", "Err(", "INVALID", "None", "=>", "Err(", "TOO_SHORT"] := rfl

/-- src/format/scan.rs:fn nanosecond -/
theorem src_format_scan_rs_fn_nanosecond : C10_src_format_scan_rs_fn_nanosecond =
    ["v1", "&", "str", "->", "ParseResult", "<", "&", "str", "i64", ">", "v2", "v1", "len(", "let(", "v1", "v3", "number(", "v1", "1", "9", "?", "v4", "v2", "-", "v1", "len(", "SCALE", "i64", "10", "0", "100000000", "10000000", "1000000", "100000", "10000", "1000", "100", "10", "1", "v3", "v3", "checked_mul(", "SCALE", "v4", "ok_or(", "OUT_OF_RANGE", "?", "v1", "v1", "trim_start_matches(", "|", "v5", "char", "|", "v5", "is_ascii_digit(", "Ok(", "v1", "v3"] := rfl

/-- src/format/scan.rs:fn number -/
theorem src_format_scan_rs_fn_number : C10_src_format_scan_rs_fn_number =
    ["v1", "&", "str", "v2", "usize", "v3", "usize", "->", "ParseResult", "<", "&", "str", "i64", ">", "assert!(", "v2", "<=", "v3", "v4", "v1", "as_bytes(", "if", "v4", "len(", "<", "v2", "return", "Err(", "TOO_SHORT", "v5", "0", "for(", "v6", "v7", "in", "v4", "iter(", "take(", "v3", "cloned(", "enumerate(", "if", "!", "v7", "is_ascii_digit(", "if", "v6", "<", "v2", "return", "Err(", "INVALID", "else", "return", "Ok(", "&", "v1", "v6", "..", "v5", "v5", "match", "v5", "checked_mul(", "10", "and_then(", "|", "v5", "|", "v5", "checked_add(", "v7", "-", "b'0'", "as", "i64", "Some(", "v5", "=>", "v5", "None", "=>", "return", "Err(", "OUT_OF_RANGE", "Ok(", "&", "v1", "v8", "v9", "min(", "v3", "v4", "len(", "..", "v5"] := rfl

/-- src/format/scan.rs:fn timezone_offset -/
theorem src_format_scan_rs_fn_timezone_offset : C10_src_format_scan_rs_fn_timezone_offset =
    ["<", "F", ">", "v1", "&", "str", "v2", "F", "v3", "bool", "v4", "bool", "v5", "bool", "->", "ParseResult", "<", "&", "str", "i32", ">", "F", "FnMut(", "&", "str", "->", "ParseResult", "<", "&", "str", ">", "if", "v3", "if", "Some(", "&", "b'Z'", "|", "&", "b'z'", "v1", "as_bytes(", "first(", "return", "Ok(", "&", "v1", "1", "..", "0", "digits(", "v1", "&", "str", "->", "ParseResult", "<", "u8", "u8", ">", "v6", "v1", "as_bytes(", "if", "v6", "len(", "<", "2", "Err(", "TOO_SHORT", "else", "Ok(", "v6", "0", "v6", "1", "v7", "match", "v1", "chars(", "next(", "Some(", "'+'", "=>", "v1", "&", "v1", "'+'", "len_utf8(", "..", "false", "Some(", "'-'", "=>", "v1", "&", "v1", "'-'", "len_utf8(", "..", "true", "Some(", "'−'", "=>", "if", "!", "v5", "return", "Err(", "INVALID", "v1", "&", "v1", "'−'", "len_utf8(", "..", "true", "Some(", "v8", "=>", "return", "Err(", "INVALID", "None", "=>", "return", "Err(", "TOO_SHORT", "v9", "match", "digits(", "v1", "?", "v10", "b'0'", "..=", "b'9'", "v11", "b'0'", "..=", "b'9'", "=>", "i32", "from(", "v10", "-", "b'0'", "*", "10", "+", "v11", "-", "b'0'", "v8", "=>", "return", "Err(", "INVALID", "v1", "&", "v1", "2", "..", "v1", "consume_colon(", "v1", "?", "v12", "if", "Ok(", "v13", "digits(", "v1", "match", "v13", "v14", "b'0'", "..=", "b'5'", "v15", "b'0'", "..=", "b'9'", "=>", "i32", "from(", "v14", "-", "b'0'", "*", "10", "+", "v15", "-", "b'0'", "b'6'", "..=", "b'9'", "b'0'", "..=", "b'9'", "=>", "return", "Err(", "OUT_OF_RANGE", "v8", "=>", "return", "Err(", "INVALID", "else", "if", "v4", "0", "else", "return", "Err(", "TOO_SHORT", "v1", "match", "v1", "len(", "v16", "if", "v16", ">=", "2", "=>", "&", "v1", "2", "..", "0", "=>", "v1", "v8", "=>", "return", "Err(", "TOO_SHORT", "v17", "v9", "*", "3600", "+", "v12", "*", "60", "Ok(", "v1", "if", "v7", "-", "v17", "else", "v17"] := rfl

/-- src/offset/fixed.rs:impl Offset for FixedOffset -/
theorem src_offset_fixed_rs_impl_Offset_for_FixedOffset : C10_src_offset_fixed_rs_impl_Offset_for_FixedOffset =
    ["Offset", "for", "FixedOffset", "fix(", "&", "self", "->", "FixedOffset", "*", "self"] := rfl

/-- src/offset/utc.rs:impl Offset for Utc -/
theorem src_offset_utc_rs_impl_Offset_for_Utc : C10_src_offset_utc_rs_impl_Offset_for_Utc =
    ["Offset", "for", "Utc", "fix(", "&", "self", "->", "FixedOffset", "FixedOffset", "east_opt(", "0", "unwrap("] := rfl

/-- callee src/datetime/mod.rs:fn from_naive_utc_and_offset -/
theorem callee_src_datetime_mod_rs_fn_from_naive_utc_and_offset : C10_callee_src_datetime_mod_rs_fn_from_naive_utc_and_offset =
    ["v1", "NaiveDateTime", "v2", "Tz", "Offset", "->", "DateTime", "<", "Tz", ">", "DateTime", "v1", "v2"] := rfl

/-- callee src/datetime/mod.rs:fn overflowing_naive_local -/
theorem callee_src_datetime_mod_rs_fn_overflowing_naive_local : C10_callee_src_datetime_mod_rs_fn_overflowing_naive_local =
    ["&", "self", "->", "NaiveDateTime", "self", "v1", "overflowing_add_offset(", "self", "v2", "fix("] := rfl

/-- callee src/format/formatting.rs:fn new_with_offset -/
theorem callee_src_format_formatting_rs_fn_new_with_offset : C10_callee_src_format_formatting_rs_fn_new_with_offset =
    ["<", "Off", ">", "v1", "Option", "<", "NaiveDate", ">", "v2", "Option", "<", "NaiveTime", ">", "v3", "&", "Off", "v4", "I", "->", "DelayedFormat", "<", "I", ">", "Off", "Offset", "+", "Display", "v5", "v3", "to_string(", "v3", "fix(", "DelayedFormat", "v1", "v2", "v6", "Some(", "v5", "v4", "v7", "default_locale("] := rfl

/-- callee src/format/formatting.rs:fn write_hundreds -/
theorem callee_src_format_formatting_rs_fn_write_hundreds : C10_callee_src_format_formatting_rs_fn_write_hundreds =
    ["v1", "&", "Write", "v2", "u8", "->", "v3", "Result", "if", "v2", ">=", "100", "return", "Err(", "v3", "Error", "v4", "b'0'", "+", "v2", "/", "10", "v5", "b'0'", "+", "v2", "%", "10", "v1", "write_char(", "v4", "as", "char", "?", "v1", "write_char(", "v5", "as", "char"] := rfl

/-- callee src/format/formatting.rs:fn write_rfc2822 -/
theorem callee_src_format_formatting_rs_fn_write_rfc2822 : C10_callee_src_format_formatting_rs_fn_write_rfc2822 =
    ["v1", "&", "Write", "v2", "NaiveDateTime", "v3", "FixedOffset", "->", "v4", "Result", "v5", "v2", "year(", "if!(", "0", "..=", "9999", "contains(", "&", "v5", "return", "Err(", "v4", "Error", "v6", "default_locale(", "v1", "write_str(", "short_weekdays(", "v6", "v2", "weekday(", "num_days_from_sunday(", "as", "usize", "?", "v1", "write_str(", "\", \"", "?", "v7", "v2", "day(", "if", "v7", "<", "10", "v1", "write_char(", "b'0'", "+", "v7", "as", "u8", "as", "char", "?", "else", "write_hundreds(", "v1", "v7", "as", "u8", "?", "v1", "write_char(", "' '", "?", "v1", "write_str(", "short_months(", "v6", "v2", "month0(", "as", "usize", "?", "v1", "write_char(", "' '", "?", "write_hundreds(", "v1", "v5", "/", "100", "as", "u8", "?", "write_hundreds(", "v1", "v5", "%", "100", "as", "u8", "?", "v1", "write_char(", "' '", "?", "let(", "v8", "v9", "v10", "v2", "time(", "hms(", "write_hundreds(", "v1", "v8", "as", "u8", "?", "v1", "write_char(", "':'", "?", "write_hundreds(", "v1", "v9", "as", "u8", "?", "v1", "write_char(", "':'", "?", "v10", "v10", "+", "v2", "nanosecond(", "/", "1000000000", "write_hundreds(", "v1", "v10", "as", "u8", "?", "v1", "write_char(", "' '", "?", "OffsetFormat", "v11", "OffsetPrecision", "Minutes", "v12", "Colons", "None", "v13", "false", "v14", "Pad", "Zero", "format(", "v1", "v3"] := rfl

/-- callee src/format/parsed.rs:fn resolve_week_date -/
theorem callee_src_format_parsed_rs_fn_resolve_week_date : C10_callee_src_format_parsed_rs_fn_resolve_week_date =
    ["v1", "i32", "v2", "u32", "v3", "Weekday", "v4", "Weekday", "->", "ParseResult", "<", "NaiveDate", ">", "if", "v2", ">", "53", "return", "Err(", "OUT_OF_RANGE", "v5", "NaiveDate", "from_yo_opt(", "v1", "1", "ok_or(", "OUT_OF_RANGE", "?", "v6", "1", "+", "v4", "days_since(", "v5", "weekday(", "as", "i32", "v3", "v3", "days_since(", "v4", "as", "i32", "v7", "v6", "+", "v2", "as", "i32", "-", "1", "*", "7", "+", "v3", "if", "v7", "<=", "0", "return", "Err(", "IMPOSSIBLE", "v5", "with_ordinal(", "v7", "as", "u32", "ok_or(", "IMPOSSIBLE"] := rfl

/-- callee src/format/parsed.rs:fn resolve_year -/
theorem callee_src_format_parsed_rs_fn_resolve_year : C10_callee_src_format_parsed_rs_fn_resolve_year =
    ["v1", "Option", "<", "i32", ">", "v2", "Option", "<", "i32", ">", "v3", "Option", "<", "i32", ">", "->", "ParseResult", "<", "Option", "<", "i32", ">>", "match(", "v1", "v2", "v3", "v1", "None", "None", "=>", "Ok(", "v1", "Some(", "v1", "v2", "v3", "Some(", "0", "..=", "99", "|", "Some(", "v1", "v2", "v3", "None", "=>", "if", "v1", "<", "0", "return", "Err(", "IMPOSSIBLE", "v4", "v1", "/", "100", "v5", "v1", "%", "100", "if", "v2", "unwrap_or(", "v4", "==", "v4", "&&", "v3", "unwrap_or(", "v5", "==", "v5", "Ok(", "Some(", "v1", "else", "Err(", "IMPOSSIBLE", "None", "Some(", "v2", "Some(", "v3", "0", "..=", "99", "=>", "if", "v2", "<", "0", "return", "Err(", "IMPOSSIBLE", "v1", "v2", "checked_mul(", "100", "and_then(", "|", "v6", "|", "v6", "checked_add(", "v3", "Ok(", "Some(", "v1", "ok_or(", "OUT_OF_RANGE", "?", "None", "None", "Some(", "v3", "0", "..=", "99", "=>", "Ok(", "Some(", "v3", "+", "if", "v3", "<", "70", "2000", "else", "1900", "None", "Some(", "v7", "None", "=>", "Err(", "NOT_ENOUGH", "v7", "v7", "Some(", "v7", "=>", "Err(", "OUT_OF_RANGE"] := rfl

/-- callee src/format/parsed.rs:fn set_day -/
theorem callee_src_format_parsed_rs_fn_set_day : C10_callee_src_format_parsed_rs_fn_set_day =
    ["&", "self", "v1", "i64", "->", "ParseResult", "<", ">", "if!(", "1", "..=", "31", "contains(", "&", "v1", "return", "Err(", "OUT_OF_RANGE", "set_if_consistent(", "&", "self", "v2", "v1", "as", "u32"] := rfl

/-- callee src/format/parsed.rs:fn set_hour -/
theorem callee_src_format_parsed_rs_fn_set_hour : C10_callee_src_format_parsed_rs_fn_set_hour =
    ["&", "self", "v1", "i64", "->", "ParseResult", "<", ">", "let(", "v2", "v3", "match", "v1", "v4", "0", "..=", "11", "=>", "0", "v4", "as", "u32", "v4", "12", "..=", "23", "=>", "1", "v4", "as", "u32", "-", "12", "v5", "=>", "return", "Err(", "OUT_OF_RANGE", "set_if_consistent(", "&", "self", "v2", "v2", "?", "set_if_consistent(", "&", "self", "v3", "v3"] := rfl

/-- callee src/format/parsed.rs:fn set_if_consistent -/
theorem callee_src_format_parsed_rs_fn_set_if_consistent : C10_callee_src_format_parsed_rs_fn_set_if_consistent =
    ["<", "T", "PartialEq", ">", "v1", "&", "Option", "<", "T", ">", "v2", "T", "->", "ParseResult", "<", ">", "match", "v1", "Some(", "v1", "if", "*", "v1", "!=", "v2", "=>", "Err(", "IMPOSSIBLE", "v3", "=>", "*", "v1", "Some(", "v2", "Ok("] := rfl

/-- callee src/format/parsed.rs:fn set_minute -/
theorem callee_src_format_parsed_rs_fn_set_minute : C10_callee_src_format_parsed_rs_fn_set_minute =
    ["&", "self", "v1", "i64", "->", "ParseResult", "<", ">", "if!(", "0", "..=", "59", "contains(", "&", "v1", "return", "Err(", "OUT_OF_RANGE", "set_if_consistent(", "&", "self", "v2", "v1", "as", "u32"] := rfl

/-- callee src/format/parsed.rs:fn set_month -/
theorem callee_src_format_parsed_rs_fn_set_month : C10_callee_src_format_parsed_rs_fn_set_month =
    ["&", "self", "v1", "i64", "->", "ParseResult", "<", ">", "if!(", "1", "..=", "12", "contains(", "&", "v1", "return", "Err(", "OUT_OF_RANGE", "set_if_consistent(", "&", "self", "v2", "v1", "as", "u32"] := rfl

/-- callee src/format/parsed.rs:fn set_nanosecond -/
theorem callee_src_format_parsed_rs_fn_set_nanosecond : C10_callee_src_format_parsed_rs_fn_set_nanosecond =
    ["&", "self", "v1", "i64", "->", "ParseResult", "<", ">", "if!(", "0", "..=", "999999999", "contains(", "&", "v1", "return", "Err(", "OUT_OF_RANGE", "set_if_consistent(", "&", "self", "v2", "v1", "as", "u32"] := rfl

/-- callee src/format/parsed.rs:fn set_offset -/
theorem callee_src_format_parsed_rs_fn_set_offset : C10_callee_src_format_parsed_rs_fn_set_offset =
    ["&", "self", "v1", "i64", "->", "ParseResult", "<", ">", "set_if_consistent(", "&", "self", "v2", "i32", "try_from(", "v1", "map_err(", "|", "v3", "|", "OUT_OF_RANGE", "?"] := rfl

/-- callee src/format/parsed.rs:fn set_ordinal -/
theorem callee_src_format_parsed_rs_fn_set_ordinal : C10_callee_src_format_parsed_rs_fn_set_ordinal =
    ["&", "self", "v1", "i64", "->", "ParseResult", "<", ">", "if!(", "1", "..=", "366", "contains(", "&", "v1", "return", "Err(", "OUT_OF_RANGE", "set_if_consistent(", "&", "self", "v2", "v1", "as", "u32"] := rfl

/-- callee src/format/parsed.rs:fn set_second -/
theorem callee_src_format_parsed_rs_fn_set_second : C10_callee_src_format_parsed_rs_fn_set_second =
    ["&", "self", "v1", "i64", "->", "ParseResult", "<", ">", "if!(", "0", "..=", "60", "contains(", "&", "v1", "return", "Err(", "OUT_OF_RANGE", "set_if_consistent(", "&", "self", "v2", "v1", "as", "u32"] := rfl

/-- callee src/format/parsed.rs:fn set_year -/
theorem callee_src_format_parsed_rs_fn_set_year : C10_callee_src_format_parsed_rs_fn_set_year =
    ["&", "self", "v1", "i64", "->", "ParseResult", "<", ">", "set_if_consistent(", "&", "self", "v2", "i32", "try_from(", "v1", "map_err(", "|", "v3", "|", "OUT_OF_RANGE", "?"] := rfl

/-- callee src/format/parsed.rs:fn to_naive_date -/
theorem callee_src_format_parsed_rs_fn_to_naive_date : C10_callee_src_format_parsed_rs_fn_to_naive_date =
    ["&", "self", "->", "ParseResult", "<", "NaiveDate", ">", "resolve_year(", "v1", "Option", "<", "i32", ">", "v2", "Option", "<", "i32", ">", "v3", "Option", "<", "i32", ">", "->", "ParseResult", "<", "Option", "<", "i32", ">>", "match(", "v1", "v2", "v3", "v1", "None", "None", "=>", "Ok(", "v1", "Some(", "v1", "v2", "v3", "Some(", "0", "..=", "99", "|", "Some(", "v1", "v2", "v3", "None", "=>", "if", "v1", "<", "0", "return", "Err(", "IMPOSSIBLE", "v4", "v1", "/", "100", "v5", "v1", "%", "100", "if", "v2", "unwrap_or(", "v4", "==", "v4", "&&", "v3", "unwrap_or(", "v5", "==", "v5", "Ok(", "Some(", "v1", "else", "Err(", "IMPOSSIBLE", "None", "Some(", "v2", "Some(", "v3", "0", "..=", "99", "=>", "if", "v2", "<", "0", "return", "Err(", "IMPOSSIBLE", "v1", "v2", "checked_mul(", "100", "and_then(", "|", "v6", "|", "v6", "checked_add(", "v3", "Ok(", "Some(", "v1", "ok_or(", "OUT_OF_RANGE", "?", "None", "None", "Some(", "v3", "0", "..=", "99", "=>", "Ok(", "Some(", "v3", "+", "if", "v3", "<", "70", "2000", "else", "1900", "None", "Some(", "v7", "None", "=>", "Err(", "NOT_ENOUGH", "v7", "v7", "Some(", "v7", "=>", "Err(", "OUT_OF_RANGE", "v8", "resolve_year(", "self", "v9", "self", "v10", "self", "v11", "?", "v12", "resolve_year(", "self", "v13", "self", "v14", "self", "v15", "?", "v16", "|", "v17", "NaiveDate", "|", "v9", "v17", "year(", "let(", "v10", "v11", "if", "v9", ">=", "0", "Some(", "v9", "/", "100", "Some(", "v9", "%", "100", "else", "None", "None", "v18", "v17", "month(", "v19", "v17", "day(", "self", "v9", "unwrap_or(", "v9", "==", "v9", "&&", "self", "v10", "or(", "v10", "==", "v10", "&&", "self", "v11", "or(", "v11", "==", "v11", "&&", "self", "v18", "unwrap_or(", "v18", "==", "v18", "&&", "self", "v19", "unwrap_or(", "v19", "==", "v19", "v20", "|", "v17", "NaiveDate", "|", "v21", "v17", "iso_week(", "v13", "v21", "year(", "v22", "v21", "week(", "v23", "v17", "weekday(", "let(", "v14", "v15", "if", "v13", ">=", "0", "Some(", "v13", "/", "100", "Some(", "v13", "%", "100", "else", "None", "None", "self", "v13", "unwrap_or(", "v13", "==", "v13", "&&", "self", "v14", "or(", "v14", "==", "v14", "&&", "self", "v15", "or(", "v15", "==", "v15", "&&", "self", "v22", "unwrap_or(", "v22", "==", "v22", "&&", "self", "v23", "unwrap_or(", "v23", "==", "v23", "v24", "|", "v17", "NaiveDate", "|", "v25", "v17", "ordinal(", "v26", "v17", "weeks_from(", "Weekday", "Sun", "v27", "v17", "weeks_from(", "Weekday", "Mon", "self", "v25", "unwrap_or(", "v25", "==", "v25", "&&", "self", "v26", "map_or(", "v26", "|", "v6", "|", "v6", "as", "i32", "==", "v26", "&&", "self", "v27", "map_or(", "v27", "|", "v6", "|", "v6", "as", "i32", "==", "v27", "let(", "v28", "v29", "match(", "v8", "v12", "self", "Some(", "v9", "v7", "&", "Parsed", "v18", "Some(", "v18", "v19", "Some(", "v19", "..", "=>", "v17", "NaiveDate", "from_ymd_opt(", "v9", "v18", "v19", "ok_or(", "OUT_OF_RANGE", "?", "verify_isoweekdate(", "v17", "&&", "verify_ordinal(", "v17", "v17", "Some(", "v9", "v7", "&", "Parsed", "v25", "Some(", "v25", "..", "=>", "v17", "NaiveDate", "from_yo_opt(", "v9", "v25", "ok_or(", "OUT_OF_RANGE", "?", "verify_ymd(", "v17", "&&", "verify_isoweekdate(", "v17", "&&", "verify_ordinal(", "v17", "v17", "Some(", "v9", "v7", "&", "Parsed", "v26", "Some(", "v21", "v23", "Some(", "v23", "..", "=>", "v17", "resolve_week_date(", "v9", "v21", "v23", "Weekday", "Sun", "?", "verify_ymd(", "v17", "&&", "verify_isoweekdate(", "v17", "&&", "verify_ordinal(", "v17", "v17", "Some(", "v9", "v7", "&", "Parsed", "v27", "Some(", "v21", "v23", "Some(", "v23", "..", "=>", "v17", "resolve_week_date(", "v9", "v21", "v23", "Weekday", "Mon", "?", "verify_ymd(", "v17", "&&", "verify_isoweekdate(", "v17", "&&", "verify_ordinal(", "v17", "v17", "v7", "Some(", "v13", "&", "Parsed", "v22", "Some(", "v22", "v23", "Some(", "v23", "..", "=>", "v17", "NaiveDate", "from_isoywd_opt(", "v13", "v22", "v23", "v17", "v17", "ok_or(", "OUT_OF_RANGE", "?", "verify_ymd(", "v17", "&&", "verify_ordinal(", "v17", "v17", "v7", "v7", "v7", "=>", "return", "Err(", "NOT_ENOUGH", "if", "!", "v28", "return", "Err(", "IMPOSSIBLE", "else", "if", "Some(", "v30", "self", "v31", "if", "v30", "!=", "v29", "quarter(", "return", "Err(", "IMPOSSIBLE", "Ok(", "v29"] := by decide +kernel

/-- callee src/format/parsed.rs:fn to_naive_datetime_with_offset -/
theorem callee_src_format_parsed_rs_fn_to_naive_datetime_with_offset : C10_callee_src_format_parsed_rs_fn_to_naive_datetime_with_offset =
    ["&", "self", "v1", "i32", "->", "ParseResult", "<", "NaiveDateTime", ">", "v2", "self", "to_naive_date(", "v3", "self", "to_naive_time(", "if", "let(", "Ok(", "v2", "Ok(", "v3", "v2", "v3", "v4", "v2", "and_time(", "v3", "v5", "v4", "and_utc(", "timestamp(", "-", "i64", "from(", "v1", "if", "Some(", "v6", "self", "v5", "if", "v6", "!=", "v5", "&&", "!", "v4", "nanosecond(", ">=", "1000000000", "&&", "v6", "==", "v5", "+", "1", "return", "Err(", "IMPOSSIBLE", "Ok(", "v4", "else", "if", "Some(", "v5", "self", "v5", "ParseError", "as", "PE", "ParseErrorKind", "Impossible", "OutOfRange", "match(", "v2", "v3", "Err(", "PE(", "OutOfRange", "v7", "|", "v7", "Err(", "PE(", "OutOfRange", "=>", "return", "Err(", "OUT_OF_RANGE", "Err(", "PE(", "Impossible", "v7", "|", "v7", "Err(", "PE(", "Impossible", "=>", "return", "Err(", "IMPOSSIBLE", "v7", "v7", "=>", "v8", "v5", "checked_add(", "i64", "from(", "v1", "ok_or(", "OUT_OF_RANGE", "?", "v4", "DateTime", "from_timestamp(", "v8", "0", "ok_or(", "OUT_OF_RANGE", "?", "naive_utc(", "v9", "self", "clone(", "if", "v9", "v10", "==", "Some(", "60", "match", "v4", "second(", "59", "=>", "0", "=>", "v4", "v4", "checked_sub_signed(", "TimeDelta", "try_seconds(", "1", "unwrap(", "ok_or(", "OUT_OF_RANGE", "?", "v7", "=>", "return", "Err(", "IMPOSSIBLE", "else", "v9", "set_second(", "i64", "from(", "v4", "second(", "?", "v9", "set_year(", "i64", "from(", "v4", "year(", "?", "v9", "set_ordinal(", "i64", "from(", "v4", "ordinal(", "?", "v9", "set_hour(", "i64", "from(", "v4", "hour(", "?", "v9", "set_minute(", "i64", "from(", "v4", "minute(", "?", "v2", "v9", "to_naive_date(", "?", "v3", "v9", "to_naive_time(", "?", "Ok(", "v2", "and_time(", "v3", "else", "v2", "?", "v3", "?", "unreachable!("] := rfl

/-- callee src/format/parsed.rs:fn to_naive_time -/
theorem callee_src_format_parsed_rs_fn_to_naive_time : C10_callee_src_format_parsed_rs_fn_to_naive_time =
    ["&", "self", "->", "ParseResult", "<", "NaiveTime", ">", "v1", "match", "self", "v1", "Some(", "v2", "0", "..=", "1", "=>", "v2", "Some(", "v3", "=>", "return", "Err(", "OUT_OF_RANGE", "None", "=>", "return", "Err(", "NOT_ENOUGH", "v4", "match", "self", "v4", "Some(", "v2", "0", "..=", "11", "=>", "v2", "Some(", "v3", "=>", "return", "Err(", "OUT_OF_RANGE", "None", "=>", "return", "Err(", "NOT_ENOUGH", "v5", "v1", "*", "12", "+", "v4", "v6", "match", "self", "v6", "Some(", "v2", "0", "..=", "59", "=>", "v2", "Some(", "v3", "=>", "return", "Err(", "OUT_OF_RANGE", "None", "=>", "return", "Err(", "NOT_ENOUGH", "let(", "v7", "v8", "match", "self", "v7", "unwrap_or(", "0", "v2", "0", "..=", "59", "=>", "v2", "0", "60", "=>", "59", "1000000000", "v3", "=>", "return", "Err(", "OUT_OF_RANGE", "v8", "+=", "match", "self", "v9", "Some(", "v2", "0", "..=", "999999999", "if", "self", "v7", "is_some(", "=>", "v2", "Some(", "0", "..=", "999999999", "=>", "return", "Err(", "NOT_ENOUGH", "Some(", "v3", "=>", "return", "Err(", "OUT_OF_RANGE", "None", "=>", "0", "NaiveTime", "from_hms_nano_opt(", "v5", "v6", "v7", "v8", "ok_or(", "OUT_OF_RANGE"] := rfl

/-- callee src/format/scan.rs:fn digits -/
theorem callee_src_format_scan_rs_fn_digits : C10_callee_src_format_scan_rs_fn_digits =
    ["v1", "&", "str", "->", "ParseResult", "<", "u8", "u8", ">", "v2", "v1", "as_bytes(", "if", "v2", "len(", "<", "2", "Err(", "TOO_SHORT", "else", "Ok(", "v2", "0", "v2", "1"] := rfl

/-- callee src/naive/date/mod.rs:fn from_isoywd_opt -/
theorem callee_src_naive_date_mod_rs_fn_from_isoywd_opt : C10_callee_src_naive_date_mod_rs_fn_from_isoywd_opt =
    ["v1", "i32", "v2", "u32", "v3", "Weekday", "->", "Option", "<", "NaiveDate", ">", "v4", "YearFlags", "from_year(", "v1", "v5", "v4", "nisoweeks(", "if", "v2", "==", "0", "||", "v2", ">", "v5", "return", "None", "v6", "v2", "*", "7", "+", "v3", "as", "u32", "v7", "v4", "isoweek_delta(", "let(", "v1", "v8", "v4", "if", "v6", "<=", "v7", "v9", "try_opt!(", "v1", "checked_sub(", "1", "v10", "YearFlags", "from_year(", "v9", "v9", "v6", "+", "v10", "ndays(", "-", "v7", "v10", "else", "v8", "v6", "-", "v7", "v11", "v4", "ndays(", "if", "v8", "<=", "v11", "v1", "v8", "v4", "else", "v12", "try_opt!(", "v1", "checked_add(", "1", "v13", "YearFlags", "from_year(", "v12", "v12", "v8", "-", "v11", "v13", "NaiveDate", "from_ordinal_and_flags(", "v1", "v8", "v4"] := rfl

/-- callee src/naive/date/mod.rs:fn from_mdf -/
theorem callee_src_naive_date_mod_rs_fn_from_mdf : C10_callee_src_naive_date_mod_rs_fn_from_mdf =
    ["v1", "i32", "v2", "Mdf", "->", "Option", "<", "NaiveDate", ">", "if", "v1", "<", "MIN_YEAR", "||", "v1", ">", "MAX_YEAR", "return", "None", "Some(", "NaiveDate", "from_yof(", "v1", "<<", "13", "|", "try_opt!(", "v2", "ordinal_and_flags("] := rfl

/-- callee src/naive/date/mod.rs:fn from_ordinal_and_flags -/
theorem callee_src_naive_date_mod_rs_fn_from_ordinal_and_flags : C10_callee_src_naive_date_mod_rs_fn_from_ordinal_and_flags =
    ["v1", "i32", "v2", "u32", "v3", "YearFlags", "->", "Option", "<", "NaiveDate", ">", "if", "v1", "<", "MIN_YEAR", "||", "v1", ">", "MAX_YEAR", "return", "None", "if", "v2", "==", "0", "||", "v2", ">", "366", "return", "None", "debug_assert!(", "YearFlags", "from_year(", "v1", "==", "v3", "v4", "v1", "<<", "13", "|", "v2", "<<", "4", "as", "i32", "|", "v3", "as", "i32", "match", "v4", "&", "OL_MASK", "<=", "MAX_OL", "true", "=>", "Some(", "NaiveDate", "from_yof(", "v4", "false", "=>", "None"] := rfl

/-- callee src/naive/date/mod.rs:fn from_ymd_opt -/
theorem callee_src_naive_date_mod_rs_fn_from_ymd_opt : C10_callee_src_naive_date_mod_rs_fn_from_ymd_opt =
    ["v1", "i32", "v2", "u32", "v3", "u32", "->", "Option", "<", "NaiveDate", ">", "v4", "YearFlags", "from_year(", "v1", "if", "Some(", "v5", "Mdf", "new(", "v2", "v3", "v4", "NaiveDate", "from_mdf(", "v1", "v5", "else", "None"] := rfl

/-- callee src/naive/date/mod.rs:fn from_yo_opt -/
theorem callee_src_naive_date_mod_rs_fn_from_yo_opt : C10_callee_src_naive_date_mod_rs_fn_from_yo_opt =
    ["v1", "i32", "v2", "u32", "->", "Option", "<", "NaiveDate", ">", "v3", "YearFlags", "from_year(", "v1", "NaiveDate", "from_ordinal_and_flags(", "v1", "v2", "v3"] := rfl

/-- callee src/naive/date/mod.rs:fn weeks_from -/
theorem callee_src_naive_date_mod_rs_fn_weeks_from : C10_callee_src_naive_date_mod_rs_fn_weeks_from =
    ["&", "self", "v1", "Weekday", "->", "i32", "self", "ordinal(", "as", "i32", "-", "self", "weekday(", "days_since(", "v1", "as", "i32", "+", "6", "/", "7"] := rfl

/-- callee src/naive/datetime/mod.rs:fn and_utc -/
theorem callee_src_naive_datetime_mod_rs_fn_and_utc : C10_callee_src_naive_datetime_mod_rs_fn_and_utc =
    ["&", "self", "->", "DateTime", "<", "Utc", ">", "DateTime", "from_naive_utc_and_offset(", "*", "self", "Utc"] := rfl

/-- callee src/naive/datetime/mod.rs:fn checked_sub_offset -/
theorem callee_src_naive_datetime_mod_rs_fn_checked_sub_offset : C10_callee_src_naive_datetime_mod_rs_fn_checked_sub_offset =
    ["self", "v1", "FixedOffset", "->", "Option", "<", "NaiveDateTime", ">", "let(", "v2", "v3", "self", "v2", "overflowing_sub_offset(", "v1", "v4", "match", "v3", "-", "1", "=>", "try_opt!(", "self", "v4", "pred_opt(", "1", "=>", "try_opt!(", "self", "v4", "succ_opt(", "v5", "=>", "self", "v4", "Some(", "NaiveDateTime", "v4", "v2"] := rfl

/-- callee src/naive/internals.rs:fn from_year -/
theorem callee_src_naive_internals_rs_fn_from_year : C10_callee_src_naive_internals_rs_fn_from_year =
    ["v1", "i32", "->", "YearFlags", "v1", "v1", "rem_euclid(", "400", "YearFlags", "from_year_mod_400(", "v1"] := rfl

/-- callee src/naive/internals.rs:fn from_year_mod_400 -/
theorem callee_src_naive_internals_rs_fn_from_year_mod_400 : C10_callee_src_naive_internals_rs_fn_from_year_mod_400 =
    ["v1", "i32", "->", "YearFlags", "YEAR_TO_FLAGS", "v1", "as", "usize"] := rfl

/-- callee src/naive/internals.rs:fn isoweek_delta -/
theorem callee_src_naive_internals_rs_fn_isoweek_delta : C10_callee_src_naive_internals_rs_fn_isoweek_delta =
    ["&", "self", "->", "u32", "YearFlags(", "v1", "*", "self", "v2", "v1", "&", "7", "as", "u32", "if", "v2", "<", "3", "v2", "+=", "7", "v2"] := rfl

/-- callee src/naive/internals.rs:fn ndays -/
theorem callee_src_naive_internals_rs_fn_ndays : C10_callee_src_naive_internals_rs_fn_ndays =
    ["&", "self", "->", "u32", "YearFlags(", "v1", "*", "self", "366", "-", "v1", ">>", "3", "as", "u32"] := rfl

/-- callee src/naive/internals.rs:fn nisoweeks -/
theorem callee_src_naive_internals_rs_fn_nisoweeks : C10_callee_src_naive_internals_rs_fn_nisoweeks =
    ["&", "self", "->", "u32", "YearFlags(", "v1", "*", "self", "52", "+", "1030", ">>", "v1", "as", "usize", "&", "1"] := rfl

/-- callee src/naive/internals.rs:fn ordinal_and_flags -/
theorem callee_src_naive_internals_rs_fn_ordinal_and_flags : C10_callee_src_naive_internals_rs_fn_ordinal_and_flags =
    ["&", "self", "->", "Option", "<", "i32", ">", "v1", "self", ">>", "3", "match", "MDL_TO_OL", "v1", "as", "usize", "XX", "=>", "None", "v2", "=>", "Some(", "self", "as", "i32", "-", "v2", "as", "i32", "<<", "3"] := rfl

/-- callee src/naive/time/mod.rs:fn from_hms_nano_opt -/
theorem callee_src_naive_time_mod_rs_fn_from_hms_nano_opt : C10_callee_src_naive_time_mod_rs_fn_from_hms_nano_opt =
    ["v1", "u32", "v2", "u32", "v3", "u32", "v4", "u32", "->", "Option", "<", "NaiveTime", ">", "if(", "v1", ">=", "24", "||", "v2", ">=", "60", "||", "v3", ">=", "60", "||", "v4", ">=", "1000000000", "&&", "v3", "!=", "59", "||", "v4", ">=", "2000000000", "return", "None", "v5", "v1", "*", "3600", "+", "v2", "*", "60", "+", "v3", "Some(", "NaiveTime", "v5", "v6", "v4"] := rfl

/-- callee src/naive/time/mod.rs:fn hms -/
theorem callee_src_naive_time_mod_rs_fn_hms : C10_callee_src_naive_time_mod_rs_fn_hms =
    ["&", "self", "->", "u32", "u32", "u32", "v1", "self", "v2", "%", "60", "v3", "self", "v2", "/", "60", "v4", "v3", "%", "60", "v5", "v3", "/", "60", "v5", "v4", "v1"] := rfl

/-- callee src/offset/fixed.rs:fn east_opt -/
theorem callee_src_offset_fixed_rs_fn_east_opt : C10_callee_src_offset_fixed_rs_fn_east_opt =
    ["v1", "i32", "->", "Option", "<", "FixedOffset", ">", "if", "-", "86400", "<", "v1", "&&", "v1", "<", "86400", "Some(", "FixedOffset", "v2", "v1", "else", "None"] := rfl

/-- callee src/offset/fixed.rs:fn local_minus_utc -/
theorem callee_src_offset_fixed_rs_fn_local_minus_utc : C10_callee_src_offset_fixed_rs_fn_local_minus_utc =
    ["&", "self", "->", "i32", "self", "v1"] := rfl

/-- callee src/offset/mod.rs:fn from_local_datetime -/
theorem callee_src_offset_mod_rs_fn_from_local_datetime : C10_callee_src_offset_mod_rs_fn_from_local_datetime =
    ["&", "self", "v1", "&", "NaiveDateTime", "->", "MappedLocalTime", "<", "DateTime", "<", "Self", ">>", "self", "offset_from_local_datetime(", "v1", "and_then(", "|", "v2", "|", "v1", "checked_sub_offset(", "v2", "fix(", "map(", "|", "v3", "|", "DateTime", "from_naive_utc_and_offset(", "v3", "v2"] := rfl

/-- callee src/time_delta.rs:fn try_seconds -/
theorem callee_src_time_delta_rs_fn_try_seconds : C10_callee_src_time_delta_rs_fn_try_seconds =
    ["v1", "i64", "->", "Option", "<", "TimeDelta", ">", "TimeDelta", "new(", "v1", "0"] := rfl

/-- callee src/traits.rs:fn hour12 -/
theorem callee_src_traits_rs_fn_hour12 : C10_callee_src_traits_rs_fn_hour12 =
    ["&", "self", "->", "bool", "u32", "v1", "self", "hour(", "v2", "v1", "%", "12", "if", "v2", "==", "0", "v2", "12", "v1", ">=", "12", "v2"] := rfl

/-- callee src/weekday.rs:fn days_since -/
theorem callee_src_weekday_rs_fn_days_since : C10_callee_src_weekday_rs_fn_days_since =
    ["&", "self", "v1", "Weekday", "->", "u32", "v2", "*", "self", "as", "u32", "v3", "v1", "as", "u32", "if", "v2", "<", "v3", "7", "+", "v2", "-", "v3", "else", "v2", "-", "v3"] := rfl

/-- callee src/weekday.rs:fn num_days_from_sunday -/
theorem callee_src_weekday_rs_fn_num_days_from_sunday : C10_callee_src_weekday_rs_fn_num_days_from_sunday =
    ["&", "self", "->", "u32", "self", "days_since(", "Weekday", "Sun"] := rfl

end Chrono.Pins.C10
